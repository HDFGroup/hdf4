import H4.Props.C01
import H4.Props.C01Ext
import H4.Props.C01Fn
import H4.Props.C01FnInq
import H4.Props.C01FnW
import H4.Props.C03
import H4.Props.C03Fn
import H4.Props.C03Fn2
import H4.Props.C03Pieces
import H4.Props.C05
import H4.Props.C06
import H4.Props.C16
import H4.Props.C16Fn
import H4.Props.C13Atom
import H4.Props.C04Chunk
import H4.Props.C08
import H4.Props.C08Fn
import H4.Props.C08Fn2
import H4.Props.C08Fn3
import H4.Props.C11
import H4.Props.C09
import H4.Props.C07
import H4.Props.C07Fn
import H4.Props.C07Fld
import H4.Props.C07Fn3
import H4.Props.C04MCache
import H4.Props.C05Bits
import H4.Props.C05NBit
import H4.Props.C05Skp
import H4.Props.C09Region
import H4.Props.C09Fn
import H4.Props.C12
import H4.Props.C12Fn
import H4.Props.C12Fn2
import H4.Props.C17
import H4.Props.C20
import H4.Props.C20Fn
import H4.Props.C20Fld
import H4.Props.C15
import H4.Props.C02
import H4.Props.C18
import H4.Props.C18Fn
import H4.Props.C19
import H4.Props.C14
import H4.Props.C13Files
import H4.Props.C04Fn
import H4.Props.C05Fn
import H4.Props.C05SkpFn
import H4.Props.C05Rle
import H4.Props.C05BitsFn
import H4.Props.C05RleSess
import H4.Props.C05NBitFn
import H4.Props.C06Fn
import H4.Props.C15Fn
import H4.Props.C15Ndg
import H4.Props.C17Open
import H4.Props.C02HdrFn
import H4.Props.C15RecFn
import H4.Props.C10
import H4.Props.C10Files
import H4.Props.C14SD
