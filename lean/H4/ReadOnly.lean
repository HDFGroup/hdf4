import H4.Gen.Hdf
import H4.Gen.RO
import H4.Gen.Src
import H4.Gen.Macros
/-! # H-layer access-control model (C14: read-only access never alters a file)

Model of the permission checks and of every path to a physical write in `hdf/src/hfile.c`, `hfiledd.c`
(+ the entry checks of `hblocks.c HLcreate/HLconvert/HLIstaccess`, `hextelt.c HXcreate/HXIstaccess`,
`hcomp.c HCcreate/HCIstaccess`, `hchunks.c HMCcreate/HMCIstaccess`).

State = ONE file record (`filerec_t`, shared by all file ids of that path as in `Hopen`), the byte image of the
file it is attached to, the live file ids and access records (`accrec_t`), the external files, and the WRITE LOG.

* every primitive write of the H layer (`HP_write` after `HPseek`) goes through `hpWrite`: the request is appended
  to `log` whatever the stream mode (this is what `harness/wrap.h` records) and reaches `disk` only when the stdio
  stream was opened for update (`streamW`; an `"rb"` stream refuses the `fwrite`);
* `Cfg` carries facts that Tie A reads from the TEXT of the functions (`H4.Gen.Src`): whether `Hdeldd`,
  `Hdupdd`, `HDreuse_tagref`, `Hsetlength` test `DFACC_WRITE`, and whether the "reopen for writing" branch of `Hopen`
  records the write access it gained.  The theorems of `Props/C14.lean` are stated for every `cfg` with the checks
  present and are instantiated at `Cfg.current`; for a `cfg` without a check the refusal theorem is FALSE (witnesses there).
* DD blocks are decoded from the byte image by `Hopen` (`HTPstart`) and written back byte-exactly (`HTIupdate_dd`,
  `HTPsync`, `HTInew_dd_block`, `HPgetdiskblock`, `HIextend_file`, `Hwrite`).

NOT modelled (result `pass` = "every argument/access guard of the C function was passed; what follows is outside this
model"): the bodies of `HLcreate`, `HLconvert`, `HXcreate`, `HCcreate`, `HMCcreate` after their access check, reads and
writes THROUGH a special element (`special_func->read/write`), `DFACC_CREATE` opens, OS-level open failures,
wildcard searches starting from a previous match, duplicate-DD detection of `HTIregister_tag_ref`, the error stack.

ASSUMPTION (reduction for the upper layers, checked by engine `ro`, not proved): the V/VS/SD/GR/AN interfaces reach
the file (and external files) only through the H operations below, i.e. through `hpWrite`/`extWrite`.
-/
namespace H4.ReadOnly
open H4.Gen.Hdf H4.Gen.Macros
open H4.Gen.RO (DFACC_CURRENT DDLIST_DIRTY FILE_END_DIRTY DFREF_NONE)

abbrev Bytes := List UInt8

/-! ## configuration read from the source text (Tie A) -/

structure Cfg where
  hdelddChecks : Bool
  hdupddChecks : Bool
  hreuseChecks : Bool
  hsetlengthChecks : Bool
  reopenSetsAccess : Bool
  /-- `HLcreate` / `HLconvert` refuse a block length or a number of blocks per table that is not positive (with 0 blocks
      `HLInewlink` writes beyond its 0-element table; with a block length of 0 `HLPwrite` divides by zero) -/
  hlRefusesZero : Bool := true
deriving DecidableEq, Repr

/-- what the current source says -/
def Cfg.current : Cfg :=
  { hdelddChecks := H4.Gen.Src.HDELDD_CHECKS_ACCESS, hdupddChecks := H4.Gen.Src.HDUPDD_CHECKS_ACCESS,
    hreuseChecks := H4.Gen.Src.HDREUSE_CHECKS_ACCESS, hsetlengthChecks := H4.Gen.Src.HSETLENGTH_CHECKS_ACCESS,
    reopenSetsAccess := H4.Gen.Src.HOPEN_REOPEN_SETS_ACCESS,
    hlRefusesZero := H4.Gen.Src.HLCREATE_REFUSES_ZERO && H4.Gen.Src.HLCONVERT_REFUSES_ZERO }

/-- every mutator of the DD layer tests `DFACC_WRITE` -/
def Cfg.guarded (c : Cfg) : Bool := c.hdelddChecks && c.hdupddChecks && c.hreuseChecks && c.hsetlengthChecks

/-! ## bytes -/

def be16 (n : Nat) : Bytes := [UInt8.ofNat (n / 256 % 256), UInt8.ofNat (n % 256)]
def be32 (n : Nat) : Bytes :=
  [UInt8.ofNat (n / 16777216 % 256), UInt8.ofNat (n / 65536 % 256), UInt8.ofNat (n / 256 % 256), UInt8.ofNat (n % 256)]
/-- two's complement bit pattern of an `int32` -/
def i32 (x : Int) : Nat := (x % 4294967296).toNat
def rd8 (d : Bytes) (o : Nat) : Nat := (d.getD o 0).toNat
def rd16 (d : Bytes) (o : Nat) : Nat := rd8 d o * 256 + rd8 d (o + 1)
def rd32 (d : Bytes) (o : Nat) : Nat := rd16 d o * 65536 + rd16 d (o + 2)
def s16 (n : Nat) : Int := if n ≥ 32768 then (n : Int) - 65536 else n
def s32 (n : Nat) : Int := if n ≥ 2147483648 then (n : Int) - 4294967296 else n

/-- POSIX write at an offset: a gap beyond the end is filled with zeros -/
def writeAt (d : Bytes) (off : Nat) (bs : Bytes) : Bytes :=
  let d := if d.length < off then d ++ List.replicate (off - d.length) 0 else d
  d.take off ++ bs ++ d.drop (off + bs.length)

/-! ## data descriptors -/

/-- `dd_t` -/
structure DD where
  tag : Nat
  ref : Nat
  off : Int
  len : Int
deriving DecidableEq, Repr, Inhabited

/-- the NIL descriptor of `HTPinit`/`HTInew_dd_block` -/
def nullDD : DD := ⟨DFTAG_NULL, DFREF_NONE, INVALID_OFFSET, INVALID_LENGTH⟩

/-- `DDENCODE` -/
def DD.encode (d : DD) : Bytes := be16 d.tag ++ be16 d.ref ++ be32 (i32 d.off) ++ be32 (i32 d.len)
/-- `DDDECODE` at byte offset `o` -/
def DD.decode (b : Bytes) (o : Nat) : DD := ⟨rd16 b o, rd16 b (o + 2), s32 (rd32 b (o + 4)), s32 (rd32 b (o + 8))⟩

/-- `ddblock_t`; `ndds` = `dds.length` -/
structure Block where
  myoff : Nat
  nextoff : Nat
  dirty : Bool
  dds : List DD
deriving DecidableEq, Repr, Inhabited

def ddHdr : Nat := NDDS_SZ + OFFSET_SZ

/-- a position in the DD list: (block index, slot index) — the `dd_t *` of the C code -/
abbrev Slot := Nat × Nat

def slotDD (bl : List Block) (p : Slot) : DD := ((bl.getD p.1 default).dds.getD p.2 nullDD)

def setSlot (bl : List Block) (p : Slot) (d : DD) (mkDirty : Bool) : List Block :=
  bl.modify p.1 (fun b => { b with dds := b.dds.set p.2 d, dirty := b.dirty || mkDirty })

/-- all slots in list order -/
def allSlots (bl : List Block) : List (Slot × DD) :=
  (bl.zipIdx).flatMap (fun (b, i) => (b.dds.zipIdx).map (fun (d, j) => ((i, j), d)))

/-- the tag tree lookup shared by `HTPselect` and `HTIfind_dd` (no wildcards): the DD whose BASE tag and ref match -/
def findDD (bl : List Block) (tag ref : Nat) : Option (Slot × DD) :=
  (allSlots bl).find? (fun (_, d) => d.tag != DFTAG_NULL && BASETAG d.tag == BASETAG tag && d.ref == ref)

/-- `HTIfind_dd(..., DF_FORWARD)` from the start of the list, wildcards allowed (`Hfind` with `*find_tag = *find_ref = 0`) -/
def hfindFirst (bl : List Block) (tag ref : Nat) : Option (Slot × DD) :=
  if tag != DFTAG_WILDCARD && ref != DFREF_WILDCARD then findDD bl tag ref
  else if tag == DFTAG_WILDCARD && ref == DFREF_WILDCARD then (allSlots bl).find? (fun (_, d) => d.tag != DFTAG_NULL)
  else if tag == DFTAG_WILDCARD then (allSlots bl).find? (fun (_, d) => d.tag != DFTAG_NULL && d.ref == ref)
  else
    let sp := MKSPECIALTAG tag
    (allSlots bl).find? (fun (_, d) => (d.tag != DFTAG_NULL || tag == DFTAG_NULL) &&
      (d.tag == tag || (sp != DFTAG_NULL && d.tag == sp)))

/-! ## state -/

structure WriteRec where
  /-- 0 = the HDF file, `k+1` = external file number `k` -/
  stream : Nat
  off : Nat
  bytes : Bytes
deriving DecidableEq, Repr

/-- `filerec_t` together with the bytes of the file -/
structure File where
  disk : Bytes
  /-- `file_rec->file` was opened for update (`"rb+"`); `false` = `"rb"` -/
  streamW : Bool := false
  access : Nat := 0
  blocks : List Block := []
  cache : Bool := false
  dirty : Nat := 0
  endOff : Nat := 0
  refcount : Nat := 0
  attach : Nat := 0
  maxref : Nat := 0
  /-- `ddnull`, `ddnull_idx` -/
  ddnull : Option (Nat × Int) := none
  verMod : Bool := false
  verSet : Bool := false
  ver : Nat × Nat × Nat := (0, 0, 0)
deriving Repr

/-- `accrec_t` -/
structure Acc where
  aid : Nat
  fid : Nat
  slot : Slot
  access : Nat
  newElem : Bool
  appendable : Bool
  special : Nat
  posn : Nat
deriving DecidableEq, Repr, Inhabited

structure State where
  f : File
  /-- live file ids (FIDGROUP atoms of this record) -/
  fids : List Nat := []
  nfid : Nat := 0
  accs : List Acc := []
  naid : Nat := 0
  /-- external files: (name, content); a name that is absent does not exist -/
  exts : List (Nat × Bytes) := []
  log : List WriteRec := []
deriving Repr

/-- the file with byte image `disk` before any `Hopen` -/
def State.closed (disk : Bytes) (exts : List (Nat × Bytes) := []) : State := { f := { disk := disk }, exts := exts }

inductive Res where
  | fail
  | ok
  | id (n : Nat)
  | num (n : Int)
  | pass          -- every guard passed; the rest of the C function is not modelled
deriving DecidableEq, Repr, Inhabited

def Res.isFail : Res → Bool
  | .fail => true
  | _ => false

/-! ## physical I/O -/

/-- `HPseek(off)` + `HP_write(bytes)`: the ONE primitive write to the HDF file -/
def hpWrite (s : State) (off : Nat) (bs : Bytes) : State × Bool :=
  let s := { s with log := s.log ++ [(⟨0, off, bs⟩ : WriteRec)] }
  if s.f.streamW then ({ s with f := { s.f with disk := writeAt s.f.disk off bs } }, true) else (s, false)

/-- `HPseek(off)` + `HP_read(n)`.  The file may end inside the range: with DD caching on, space handed out by
    `HPgetdiskblock` in this session lies below `f_end_off` while the file is only extended at the next sync
    (`FILE_END_DIRTY`); such bytes are delivered as zeros (`H4.Gen.Src.HPREAD_ZERO_FILLS_RESERVED`, af826f2).  Every other
    short read is `none` (an error).  No write is issued either way. -/
def hpRead (s : State) (off n : Nat) : Option Bytes :=
  if n == 0 then some []                       -- a read of nothing succeeds wherever the stream stands
  else if off + n ≤ s.f.disk.length then some ((s.f.disk.drop off).take n)
  else if s.f.cache && s.f.dirty &&& FILE_END_DIRTY != 0 && off + n ≤ s.f.endOff then
    let got := (s.f.disk.drop off).take n
    some (got ++ List.replicate (n - got.length) 0)
  else none

/-! ## DD list in memory and on disk -/

/-- `HTPstart`: decode the chain of DD blocks; `fuel` bounds the walk (a cyclic chain makes the C loop forever) -/
def readBlocks (d : Bytes) : Nat → Nat → Option (List Block)
  | 0, _ => none
  | fuel + 1, off =>
    if off + ddHdr > d.length then none
    else
      let ndds := s16 (rd16 d off)
      if ndds ≤ 0 then none
      else
        let n := ndds.toNat
        let next := rd32 d (off + NDDS_SZ)
        if off + ddHdr + n * DD_SZ > d.length then none
        else
          let b : Block := ⟨off, next, false, (List.range n).map (fun i => DD.decode d (off + ddHdr + i * DD_SZ))⟩
          if next != 0 then (readBlocks d fuel next).map (b :: ·) else some [b]

/-- `end_off` of `HTPstart`: the largest block end / element end -/
def endOfBlocks (bl : List Block) : Nat :=
  bl.foldl (fun e b =>
    let e := max e (b.myoff + ddHdr + b.dds.length * DD_SZ)
    b.dds.foldl (fun e d => if d.off + d.len > (e : Int) then (d.off + d.len).toNat else e) e) 0

def maxRefOf (bl : List Block) : Nat := bl.foldl (fun m b => b.dds.foldl (fun m d => max m d.ref) m) 0

/-- `HTIupdate_dd` for the slot `p` (already changed in memory) -/
def updateDD (s : State) (p : Slot) : State × Bool :=
  let dd := slotDD s.f.blocks p
  let r : State × Bool :=
    if s.f.cache then
      ({ s with f := { s.f with dirty := s.f.dirty ||| DDLIST_DIRTY,
                                blocks := s.f.blocks.modify p.1 (fun b => { b with dirty := true }) } }, true)
    else
      hpWrite s ((s.f.blocks.getD p.1 default).myoff + ddHdr + p.2 * DD_SZ) dd.encode
  if !r.2 then r
  else
    let s := r.1
    if dd.off != INVALID_OFFSET && dd.len != INVALID_LENGTH && dd.off + dd.len > (s.f.endOff : Int) then
      ({ s with f := { s.f with endOff := (dd.off + dd.len).toNat } }, true)
    else (s, true)

/-- `HTPupdate(ddid, new_off, new_len)`; `-2` = leave unchanged -/
def htpUpdate (s : State) (p : Slot) (newOff newLen : Int) : State × Bool :=
  let dd := slotDD s.f.blocks p
  let dd := { dd with len := if newLen != -2 then newLen else dd.len, off := if newOff != -2 then newOff else dd.off }
  updateDD { s with f := { s.f with blocks := setSlot s.f.blocks p dd false } } p

/-- the body of one block as `HTPsync` writes it -/
def Block.encode (b : Block) : Bytes := be16 b.dds.length ++ be32 b.nextoff ++ b.dds.flatMap DD.encode

/-- `HTPsync`: write every dirty block (header, then the DD list) -/
def htpSyncFrom (s : State) : Nat → Nat → State × Bool
  | 0, _ => (s, true)
  | n + 1, i =>
    let b := s.f.blocks.getD i default
    if b.dirty then
      let r := hpWrite s b.myoff (be16 b.dds.length ++ be32 b.nextoff)
      if !r.2 then r
      else
        let r := hpWrite r.1 (b.myoff + ddHdr) (b.dds.flatMap DD.encode)
        if !r.2 then r
        else
          let s := r.1
          htpSyncFrom { s with f := { s.f with blocks := s.f.blocks.modify i (fun b => { b with dirty := false }) } } n (i + 1)
    else htpSyncFrom s n (i + 1)

def htpSync (s : State) : State × Bool :=
  if s.f.blocks.isEmpty then (s, false) else htpSyncFrom s s.f.blocks.length 0

/-- `HIextend_file`: one zero byte at `f_end_off` -/
def extendFile (s : State) : State × Bool := hpWrite s s.f.endOff [0]

/-- `HIsync` -/
def hiSync (s : State) : State × Bool :=
  if s.f.cache && s.f.dirty != 0 then
    let r := if s.f.dirty &&& DDLIST_DIRTY != 0 then htpSync s else (s, true)
    if !r.2 then r
    else
      let r := if r.1.f.dirty &&& FILE_END_DIRTY != 0 then extendFile r.1 else r
      if !r.2 then r
      else ({ r.1 with f := { r.1.f with dirty := 0 } }, true)
  else (s, true)

/-- `HPgetdiskblock(file_rec, size, moveto)`: returns the offset of the block -/
def getDiskBlock (s : State) (size : Nat) : State × Option Nat :=
  let off := s.f.endOff
  let r : State × Bool :=
    if size > 0 then
      if s.f.cache then ({ s with f := { s.f with dirty := s.f.dirty ||| FILE_END_DIRTY } }, true)
      else hpWrite s (off + size - 1) [0]
    else (s, true)
  if !r.2 then (r.1, none)
  else ({ r.1 with f := { r.1.f with endOff := r.1.f.endOff + size } }, some off)

/-- `HTInew_dd_block` -/
def newDDBlock (s : State) : State × Bool :=
  match s.f.blocks.getLast? with
  | none => (s, false)
  | some last =>
    let ndds := (s.f.blocks.headD default).dds.length
    let (s, o) := getDiskBlock s (ddHdr + ndds * DD_SZ)
    match o with
    | none => (s, false)
    | some off =>
      let nb : Block := ⟨off, 0, s.f.cache, List.replicate ndds nullDD⟩
      let s := if s.f.cache then { s with f := { s.f with dirty := s.f.dirty ||| DDLIST_DIRTY } } else s
      let r := hpWrite s off (be16 ndds ++ be32 0)
      if !r.2 then r
      else
        let r := hpWrite r.1 (off + ddHdr) ((List.replicate ndds nullDD).flatMap DD.encode)
        if !r.2 then r
        else
          let s := r.1
          let li := s.f.blocks.length - 1
          -- update the previously last block to point to the new one
          let blocks := s.f.blocks.modify li (fun b => { b with nextoff := off })
          let r : State × Bool :=
            if s.f.cache then
              ({ s with f := { s.f with dirty := s.f.dirty ||| DDLIST_DIRTY,
                                        blocks := blocks.modify li (fun b => { b with dirty := true }) } }, true)
            else
              hpWrite { s with f := { s.f with blocks := blocks } } (last.myoff + NDDS_SZ) (be32 off)
          if !r.2 then r
          else
            let s := r.1
            ({ s with f := { s.f with blocks := s.f.blocks ++ [nb], endOff := off + ddHdr + ndds * DD_SZ } }, true)

/-- the `DFTAG_NULL` search of `HTIfind_dd`: first NIL slot at or after the remembered position -/
def findNull (f : File) : Option Slot :=
  let start : Nat × Nat := match f.ddnull with
    | none => (0, 0)
    | some (b, i) => (b, if i < 0 then 0 else i.toNat + 1)
  ((allSlots f.blocks).find? (fun (p, d) => d.tag == DFTAG_NULL && (p.1 > start.1 || (p.1 == start.1 && p.2 ≥ start.2)))).map (·.1)

/-- `Hfind` from the start of the list on a file record.  `HTIfind_dd`'s "special case for quick lookup of empty DD's"
    (`look_tag == DFTAG_NULL && look_ref == DFTAG_WILDCARD`) searches from the free-slot cursor AND MOVES IT to the slot found:
    an inquiry for the NULL tag makes the next `HTPcreate` skip that free descriptor. -/
def hfind (f : File) (tag ref : Nat) : Option (Slot × DD) × Option (Nat × Int) :=
  if tag == DFTAG_NULL && ref == DFREF_WILDCARD then
    match findNull f with
    | some p => (some (p, slotDD f.blocks p), some (p.1, (p.2 : Int)))
    | none => (none, f.ddnull)
  else (hfindFirst f.blocks tag ref, f.ddnull)

/-- `HTPcreate(file_rec, tag, ref)`: the slot of the new DD -/
def htpCreate (s : State) (tag ref : Nat) : State × Option Slot :=
  if tag == DFTAG_NULL || tag == DFTAG_WILDCARD || ref == DFREF_WILDCARD then (s, none)
  else
    let r : State × Option Slot := match findNull s.f with
      | some p => ({ s with f := { s.f with ddnull := some (p.1, (p.2 : Int)) } }, some p)
      | none =>
        let r := newDDBlock s
        if r.2 then (r.1, some (r.1.f.blocks.length - 1, 0)) else (r.1, none)
    match r with
    | (s, none) => (s, none)
    | (s, some p) =>
      let s := { s with f := { s.f with blocks := setSlot s.f.blocks p ⟨tag, ref, INVALID_OFFSET, INVALID_LENGTH⟩ false } }
      let r := updateDD s p
      if r.2 then (r.1, some p) else (r.1, none)

/-- `HTPdelete` on the slot: `HTIunregister_tag_ref` sets the TAG to `DFTAG_NULL` (ref, offset and length stay), then
    `HTIupdate_dd` writes / dirties the nulled descriptor (order of fix 5bd49ce) -/
def htpDelete (s : State) (p : Slot) : State × Bool :=
  let dd := slotDD s.f.blocks p
  updateDD { s with f := { s.f with ddnull := none, blocks := setSlot s.f.blocks p { dd with tag := DFTAG_NULL } false } } p

/-! ## version record -/

def libVer : Nat × Nat × Nat := (LIBVER_MAJOR, LIBVER_MINOR, LIBVER_RELEASE)

def verLess (a b : Nat × Nat × Nat) : Bool :=
  b.1 > a.1 || (b.1 == a.1 && b.2.1 > a.2.1) || (b.1 == a.1 && b.2.1 == a.2.1 && b.2.2 > a.2.2)

/-- `HIcheckfileversion` -/
def checkFileVersion (f : File) : File :=
  let f := if verLess f.ver libVer then { f with ver := libVer, verMod := true } else f
  { f with verSet := true }

/-! ## access records -/

def badFrec (s : State) (fid : Nat) : Bool := !s.fids.contains fid || s.f.refcount == 0

def findAcc (s : State) (aid : Nat) : Option Acc := s.accs.find? (fun a => a.aid == aid)

def setAcc (s : State) (a : Acc) : State := { s with accs := s.accs.map (fun x => if x.aid == a.aid then a else x) }

def dropAcc (s : State) (aid : Nat) : State := { s with accs := s.accs.filter (fun a => a.aid != aid) }

def canWrite (f : File) : Bool := f.access &&& DFACC_WRITE != 0

/-- special code in the first two bytes of a special element (`HIget_function_table`); 0 = unknown -/
def specialCode (s : State) (dd : DD) : Nat :=
  match hpRead s dd.off.toNat 2 with
  | some b =>
    let c := rd16 b 0
    if c == SPECIAL_LINKED || c == SPECIAL_EXT || c == SPECIAL_COMP || c == SPECIAL_CHUNKED ||
       c == SPECIAL_BUFFERED || c == SPECIAL_COMPRAS then c else 0
  | none => 0

/-- `file_rec->ddnull`, `ddnull_idx` := c -/
def setCursor (s : State) (c : Option (Nat × Int)) : State := { s with f := { s.f with ddnull := c } }

/-- the DD `Hstartaccess` works on: the one `Hfind` returns, else the (tag, ref) asked for with INVALID offset/length -/
def saTarget (found : Option (Slot × DD)) (tag ref : Nat) : Nat × Nat × Int × Int :=
  match found with
  | some (_, d) => (d.tag, d.ref, d.off, d.len)
  | none => (tag, ref, INVALID_OFFSET, INVALID_LENGTH)

/-- `HTPselect(file_rec, new_tag, new_ref)` -/
def saSelect (bl : List Block) (ntag nref : Nat) : Option (Slot × DD) :=
  if ntag == DFTAG_NULL || ntag == DFTAG_WILDCARD || nref == DFREF_WILDCARD then none else findDD bl ntag nref

/-- tail of `Hstartaccess` for an ordinary element: fill in the access record, `attach++`, `maxref`, first-access version
    check, register the access id -/
def openAcc (s : State) (fid : Nat) (p : Slot) (flags : Nat) (ddnew : Bool) (nref : Nat) : State × Res :=
  let a : Acc := ⟨s.naid, fid, p, flags, ddnew, flags &&& DFACC_APPENDABLE != 0, 0, 0⟩
  let f := { s.f with attach := s.f.attach + 1, maxref := max s.f.maxref nref }
  let f := if !f.verSet then checkFileVersion f else f
  ({ s with f := f, accs := s.accs ++ [a], naid := s.naid + 1 }, .id a.aid)

/-- special element: `HIget_function_table`, then `stread` / `stwrite` (`HLIstaccess`, `HXIstaccess`, `HCIstaccess`,
    `HMCIstaccess`: "BADFREC(file_rec) || !(file_rec->access & acc_mode)") -/
def openSpecial (s : State) (fid : Nat) (p : Slot) (dd : DD) (flags : Nat) : State × Res :=
  let code := specialCode s dd
  if code == 0 then (s, .fail)
  else
    let mode := if flags &&& DFACC_WRITE == 0 then DFACC_READ else DFACC_WRITE
    if s.f.access &&& mode == 0 then (s, .fail)
    else
      let a : Acc := ⟨s.naid, fid, p, mode ||| DFACC_READ, false, flags &&& DFACC_APPENDABLE != 0, code, 0⟩
      ({ s with f := { s.f with attach := s.f.attach + 1 }, accs := s.accs ++ [a], naid := s.naid + 1 }, .id a.aid)

/-- `Hstartaccess(file_id, tag, ref, flags)` -/
def startAccess (s : State) (fid tag ref flags : Nat) : State × Res :=
  if badFrec s fid then (s, .fail)
  -- "If writing, can we write to this file?"
  else if flags &&& DFACC_WRITE != 0 && !canWrite s.f then (s, .fail)
  else
    -- "flags & DFACC_CURRENT || Hfind(...) == FAIL"; Hfind may move the free-slot cursor
    let fr := if flags &&& DFACC_CURRENT != 0 then (none, s.f.ddnull) else hfind s.f tag ref
    let s := setCursor s fr.2
    let tgt := saTarget fr.1 tag ref
    match saSelect s.f.blocks tgt.1 tgt.2.1 with
    | none =>
      -- "can't create data elements with only read access"
      if flags &&& DFACC_WRITE == 0 then (s, .fail)
      else
        match htpCreate s tgt.1 tgt.2.1 with
        | (s, none) => (s, .fail)
        | (s, some p) => openAcc s fid p flags true tgt.2.1
    | some (p, dd) =>
      if SPECIALTAG tag == 0 && SPECIALTAG dd.tag != 0 then openSpecial s fid p dd flags
      else openAcc s fid p flags (tgt.2.2.1 == INVALID_OFFSET && tgt.2.2.2 == INVALID_LENGTH) tgt.2.1

/-- `file_rec->attach--` -/
def decAttach (s : State) : State := { s with f := { s.f with attach := s.f.attach - 1 } }

/-- `Hendaccess(aid)` (the special `endaccess` functions release the record and decrement `attach` the same way) -/
def endAccess (s : State) (aid : Nat) : State × Res :=
  match findAcc s aid with
  | none => (s, .fail)
  | some a =>
    if a.special == 0 && badFrec s a.fid then (dropAcc s aid, .fail)
    else (decAttach (dropAcc s aid), .ok)

/-- `HIrefresh_new` (fix 7f7ac10): "new" is a property of the element's DD — another access record may have given the element a
    length since this one was opened; the flag of the record is corrected (and stays corrected) -/
def refreshNew (s : State) (a : Acc) : Acc :=
  let dd := slotDD s.f.blocks a.slot
  if a.newElem && a.special == 0 && !(dd.off == INVALID_OFFSET && dd.len == INVALID_LENGTH) then { a with newElem := false } else a

/-- a run of zero bytes written in pieces of at most 512 (the `zeros[512]` loop of `Hwrite`), one `HP_write` each -/
def zeroFill (s : State) (off : Nat) : Nat → Nat → State × Bool
  | 0, _ => (s, true)
  | fuel + 1, gap =>
    if gap == 0 then (s, true)
    else
      let n := min gap 512
      let r := hpWrite s off (List.replicate n 0)
      if !r.2 then r else zeroFill r.1 (off + n) fuel (gap - n)

/-- `Hsetlength(aid, length)` -/
def setLength (cfg : Cfg) (s : State) (aid : Nat) (len : Nat) : State × Res :=
  match findAcc s aid with
  | none => (s, .fail)
  | some a0 =>
    let a := refreshNew s a0
    let s := setAcc s a
    if !a.newElem then (s, .fail)
    else if cfg.hsetlengthChecks && a.access &&& DFACC_WRITE == 0 then (s, .fail)
    else if badFrec s a.fid then (s, .fail)
    else
      match getDiskBlock s len with
      | (s, none) => (s, .fail)
      | (s, some off) =>
        let r := htpUpdate s a.slot off len
        if !r.2 then (r.1, .fail)
        else (setAcc r.1 { a with newElem := false }, .ok)

/-- `HLconvert(aid, ...)`: argument and access checks only (no state change in the model) -/
def hlConvert (cfg : Cfg) (s : State) (aid : Nat) : Res :=
  match findAcc s aid with
  | none => .fail
  | some a =>
    let dd := slotDD s.f.blocks a.slot
    if badFrec s a.fid then .fail
    else if !canWrite s.f then .fail
    else if SPECIALTAG dd.tag != 0 then .fail
    -- "the data doesn't exist yet": `Hsetlength(aid, 0)` has to succeed first (it tests the access record's DFACC_WRITE)
    else if dd.off == INVALID_OFFSET && dd.len == INVALID_LENGTH && (setLength cfg s aid 0).2 == .fail then .fail
    else .pass

/-- `Hseek(aid, offset, origin)` on an ordinary element; `pass` on a special one -/
def seek (cfg : Cfg) (s : State) (aid : Nat) (offset : Int) (origin : Nat) : State × Res :=
  match findAcc s aid with
  | none => (s, .fail)
  | some a =>
    if origin != DF_START && origin != DF_CURRENT && origin != DF_END then (s, .fail)
    else if a.special != 0 then (s, .pass)
    else
      let dd := slotDD s.f.blocks a.slot
      let offset := if origin == DF_CURRENT then offset + a.posn else if origin == DF_END then offset + dd.len else offset
      if offset == (a.posn : Int) then (s, .ok)
      else if offset < 0 || (!a.appendable && offset > dd.len) then (s, .fail)
      else if a.appendable && offset ≥ dd.len && dd.len + dd.off != (s.f.endOff : Int) then
        -- not at the end of the file: promotion to a linked-block element
        if hlConvert cfg s aid == .pass then (setAcc s { a with special := SPECIAL_LINKED, appendable := false }, .pass)
        else (setAcc s { a with appendable := false }, .fail)
      else (setAcc s { a with posn := offset.toNat }, .ok)

/-- `Hread(aid, length, data)`: number of bytes, `pass` on a special element -/
def read (s : State) (aid : Nat) (len : Int) : State × Res :=
  match findAcc s aid with
  | none => (s, .fail)
  | some a0 =>
    let a := refreshNew s a0
    let s := setAcc s a
    if a.newElem then (s, .fail)
    else if a.special != 0 then (s, .pass)
    else if badFrec s a.fid then (s, .fail)
    else if len < 0 then (s, .fail)
    else
      let dd := slotDD s.f.blocks a.slot
      let len := if len == 0 || len + a.posn > dd.len then dd.len - a.posn else len
      -- "Hseek allows a position beyond the end of an appendable element: nothing to read there" (fix 21b8ab5)
      let len := if len < 0 then 0 else len
      -- `HPseek` to a negative file offset (descriptor invalidated under the record by `HDreuse_tagref`) fails
      if (a.posn : Int) + dd.off < 0 then (s, .fail) else
      match hpRead s (a.posn + dd.off).toNat len.toNat with
      | none => (s, .fail)
      | some _ => (setAcc s { a with posn := a.posn + len.toNat }, .num len)

/-- `Hwrite(aid, length, data)` -/
def write (cfg : Cfg) (s : State) (aid : Nat) (data : Bytes) : State × Res :=
  match findAcc s aid with
  | none => (s, .fail)
  | some a =>
    -- "access_rec == NULL || !(access_rec->access & DFACC_WRITE) || data == NULL"
    if a.access &&& DFACC_WRITE == 0 then (s, .fail)
    else if a.special != 0 then (s, .pass)
    else if badFrec s a.fid then (s, .fail)
    else
      let length := data.length
      let a := refreshNew s a
      let s := setAcc s a
      -- a "new" element: Hsetlength (result ignored), then appendable
      let (s, a) : State × Acc :=
        if a.newElem then
          let s' := (setLength cfg s aid length).1
          let a' := (findAcc s' aid).getD a
          let a' := { a' with appendable := true }
          (setAcc s' a', a')
        else (s, a)
      let dd := slotDD s.f.blocks a.slot
      if length == 0 || (!a.appendable && (length + a.posn : Int) > dd.len) then (s, .fail)
      else
        let grow := a.appendable && (length + a.posn : Int) > dd.len
        if grow && dd.len + dd.off != (s.f.endOff : Int) then
          if hlConvert cfg s aid == .pass then (setAcc s { a with special := SPECIAL_LINKED, appendable := false }, .pass)
          else (setAcc s { a with appendable := false }, .fail)
        else
          -- the element grows in place: a gap between its old end and the write position is zero-filled (fix 998a325)
          let r : State × Bool :=
            if grow && (a.posn : Int) > dd.len then zeroFill s (dd.off + dd.len).toNat ((a.posn : Int) - dd.len).toNat ((a.posn : Int) - dd.len).toNat
            else (s, true)
          if !r.2 then (r.1, .fail) else
          let s := r.1
          let r : State × Bool := if grow then htpUpdate s a.slot (-2) (a.posn + length) else (s, true)
          if !r.2 then (r.1, .fail)
          else
            let r := hpWrite r.1 (a.posn + dd.off).toNat data
            if !r.2 then (r.1, .fail)
            else
              let s := r.1
              let cur := (a.posn + dd.off).toNat + length
              let s := if cur > s.f.endOff then { s with f := { s.f with endOff := cur } } else s
              (setAcc s { a with posn := a.posn + length }, .num length)

/-- `Htrunc(aid, trunc_len)` -/
def trunc (s : State) (aid : Nat) (len : Int) : State × Res :=
  match findAcc s aid with
  | none => (s, .fail)
  | some a =>
    if a.access &&& DFACC_WRITE == 0 then (s, .fail)
    else if a.special != 0 then (s, .fail)      -- "Truncating a special element is not implemented" (fix 1e2fd75)
    else
      let dd := slotDD s.f.blocks a.slot
      if dd.len > len then
        let r := htpUpdate s a.slot (-2) len
        if !r.2 then (r.1, .fail)
        else (setAcc r.1 { a with posn := if (a.posn : Int) > len then len.toNat else a.posn }, .num len)
      else (s, .fail)

/-- `Hstartread(fid, tag, ref)` -/
def startRead (s : State) (fid tag ref : Nat) : State × Res := startAccess s fid (BASETAG tag) ref DFACC_READ

/-- `Hstartwrite(fid, tag, ref, length)` -/
def startWrite (cfg : Cfg) (s : State) (fid tag ref len : Nat) : State × Res :=
  let r := startAccess s fid (BASETAG tag) ref DFACC_RDWR
  match r.2 with
  | .id aid =>
    if ((findAcc r.1 aid).map (·.newElem)).getD false then
      let r2 := setLength cfg r.1 aid len
      if r2.2 == .ok then (r2.1, .id aid) else ((endAccess r2.1 aid).1, .fail)
    else (r.1, .id aid)
  | _ => (r.1, .fail)

/-- `Hgetelement(fid, tag, ref, data)`: result (`num` length / `pass` for a special element / `fail`) and the data,
    with the state after `Hstartread`/`Hread`/`Hendaccess` -/
def getElement (s : State) (fid tag ref : Nat) : State × Res × Bytes :=
  let r := startRead s fid tag ref
  match r.2 with
  | .id aid =>
    let a := (findAcc r.1 aid).getD default
    let dd := slotDD r.1.f.blocks a.slot
    let r2 := read r.1 aid 0
    ((endAccess r2.1 aid).1,
     (match r2.2 with | .num n => .num n | .pass => .pass | _ => .fail),
     (match r2.2 with | .num n => (hpRead r2.1 dd.off.toNat n.toNat).getD [] | _ => []))
  | _ => (r.1, .fail, [])

/-- `Hputelement(fid, tag, ref, data, length)` -/
def putElement (cfg : Cfg) (s : State) (fid tag ref : Nat) (data : Bytes) : State × Res :=
  let r := startWrite cfg s fid tag ref data.length
  match r.2 with
  | .id aid =>
    let r2 := write cfg r.1 aid data
    match r2.2 with
    | .num n =>
      let r3 := endAccess r2.1 aid
      (r3.1, if r3.2 == .ok then .num n else .fail)
    | .pass => ((endAccess r2.1 aid).1, .pass)
    | _ => ((endAccess r2.1 aid).1, .fail)
  | _ => (r.1, .fail)

/-- the version fields after `HIread_version` -/
def setVer (s : State) (v : Option (Nat × Nat × Nat)) : State :=
  { s with f := { s.f with ver := v.getD s.f.ver, verMod := false } }

/-- `HIread_version` (called by `Hopen` on an existing file) -/
def readVersion (s : State) (fid : Nat) : State :=
  let r := getElement s fid DFTAG_VERSION 1
  setVer r.1 (if r.2.1 == .fail then some (0, 0, 0)
              else if r.2.2.length ≥ 12 then some (rd32 r.2.2 0, rd32 r.2.2 4, rd32 r.2.2 8) else none)

/-- `HIupdate_version` -/
def updateVersion (cfg : Cfg) (s : State) (fid : Nat) : State :=
  let r := putElement cfg { s with f := { s.f with ver := libVer } } fid DFTAG_VERSION 1 (H4.Gen.RO.LIBVER_BYTES.map UInt8.ofNat)
  if r.2 == .fail then r.1 else { r.1 with f := { r.1.f with verMod := false } }

def magicOk (d : Bytes) : Bool := d.take MAGICLEN == H4.Gen.RO.HDFMAGIC_BYTES.map UInt8.ofNat

/-- the file record after the first half of `Hopen` (`none` = the open fails): either one more reference to the record that
    is already in use (reopening the stream for update when write access is asked for the first time), or a fresh record
    read from the bytes (`HIvalid_magic`, `HTPstart`) -/
def hopenRec (cfg : Cfg) (s : State) (acc : Nat) : Option State :=
  if s.f.refcount != 0 then
    -- file is already opened: "attempt to reopen the file with write permission"
    if acc &&& DFACC_WRITE != 0 && !canWrite s.f then
      let r := hiSync s
      if !r.2 then none
      else
        let f := { r.1.f with streamW := true }
        let f := if cfg.reopenSetsAccess then { f with access := f.access ||| DFACC_WRITE } else f
        some { r.1 with f := { f with refcount := f.refcount + 1 } }
    else some { s with f := { s.f with refcount := s.f.refcount + 1 } }
  else
    if !magicOk s.f.disk then none
    else
      match readBlocks s.f.disk (s.f.disk.length + 1) MAGICLEN with
      | none => none
      | some bl =>
        some { s with f := { s.f with streamW := acc &&& DFACC_WRITE != 0, access := acc ||| DFACC_READ, blocks := bl,
                                       maxref := maxRefOf bl, endOff := endOfBlocks bl, ddnull := none, refcount := 1, attach := 0,
                                       cache := H4.Gen.RO.DEFAULT_CACHE != 0, dirty := 0 } }

/-- second half of `Hopen`: `version_set = FALSE`, register the file id, `HIread_version` -/
def hopenFinish (s : State) : State × Res :=
  let fid := s.nfid
  let s := { s with f := { s.f with verSet := false }, fids := s.fids ++ [fid], nfid := s.nfid + 1 }
  (readVersion s fid, .id fid)

/-- `Hopen(path, acc_mode, ndds)` on the (existing) file of this state; `DFACC_CREATE` is outside the model -/
def hopen (cfg : Cfg) (s : State) (acc : Nat) : State × Res :=
  if acc &&& DFACC_ALL != acc || acc &&& DFACC_CREATE != 0 then (s, .fail)
  else
    match hopenRec cfg s acc with
    | none => (s, .fail)
    | some s' => hopenFinish s'

/-- `Hclose` after the version update: drop one reference; the last one flushes (`HIsync`, `HTPend` -> `HTPsync`) and
    releases the record unless access records are still attached -/
def hcloseCore (s : State) (fid : Nat) : State × Res :=
  if s.f.refcount == 1 then
    if s.f.attach > 0 then (s, .fail)
    else
      -- refcount is 0 from here on
      let r := hiSync { s with f := { s.f with refcount := 0 } }
      if !r.2 then (r.1, .fail)
      else
        -- HTPend: HTPsync, free the DD list
        let r := htpSync r.1
        if !r.2 then (r.1, .fail)
        else ({ r.1 with f := { r.1.f with blocks := [], streamW := false, access := 0 }, fids := r.1.fids.filter (· != fid) }, .ok)
  else ({ s with f := { s.f with refcount := s.f.refcount - 1 }, fids := s.fids.filter (· != fid) }, .ok)

/-- `Hclose(fid)` -/
def hclose (cfg : Cfg) (s : State) (fid : Nat) : State × Res :=
  if badFrec s fid then (s, .fail)
  else hcloseCore (if s.f.verMod then updateVersion cfg s fid else s) fid

/-- `Hsync(fid)` -/
def hsync (s : State) (fid : Nat) : State × Res :=
  if badFrec s fid then (s, .fail)
  else
    let r := hiSync s
    (r.1, if r.2 then .ok else .fail)

/-- `Hcache(fid, cache_on)` -/
def hcache (s : State) (fid : Nat) (on : Bool) : State × Res :=
  if badFrec s fid then (s, .fail)
  else
    let r := if !on && s.f.cache then hiSync s else (s, true)
    if !r.2 then (r.1, .fail)
    else ({ r.1 with f := { r.1.f with cache := on } }, .ok)

/-- `Hdeldd(fid, tag, ref)` -/
def deldd (cfg : Cfg) (s : State) (fid tag ref : Nat) : State × Res :=
  if badFrec s fid || tag == DFTAG_WILDCARD || ref == DFREF_WILDCARD then (s, .fail)
  else if cfg.hdelddChecks && !canWrite s.f then (s, .fail)
  else if tag == DFTAG_NULL then (s, .fail)
  else
    match findDD s.f.blocks tag ref with
    | none => (s, .fail)
    | some (p, _) =>
      let r := htpDelete s p
      (r.1, if r.2 then .ok else .fail)

/-- `Hdupdd(fid, tag, ref, old_tag, old_ref)` -/
def dupdd (cfg : Cfg) (s : State) (fid tag ref otag oref : Nat) : State × Res :=
  if badFrec s fid then (s, .fail)
  else if cfg.hdupddChecks && !canWrite s.f then (s, .fail)
  else if otag == DFTAG_NULL || otag == DFTAG_WILDCARD || oref == DFREF_WILDCARD then (s, .fail)
  else
    match findDD s.f.blocks otag oref with
    | none => (s, .fail)
    | some (_, od) =>
      -- HTIregister_tag_ref refuses a (base tag, ref) that is already there
      if (findDD s.f.blocks tag ref).isSome then (s, .fail)
      else
        match htpCreate s tag ref with
        | (s, none) => (s, .fail)
        | (s, some p) =>
          let r := htpUpdate s p od.off od.len
          (r.1, if r.2 then .ok else .fail)

/-- `HDreuse_tagref(fid, tag, ref)` -/
def reuse (cfg : Cfg) (s : State) (fid tag ref : Nat) : State × Res :=
  if badFrec s fid || tag == DFTAG_WILDCARD || ref == DFREF_WILDCARD then (s, .fail)
  else if cfg.hreuseChecks && !canWrite s.f then (s, .fail)
  else if tag == DFTAG_NULL then (s, .fail)
  else
    match findDD s.f.blocks tag ref with
    | none => (s, .fail)
    | some (p, _) =>
      let r := htpUpdate s p INVALID_OFFSET INVALID_LENGTH
      (r.1, if r.2 then .ok else .fail)

/-- entry checks of `HLcreate` / `HXcreate` / `HCcreate` / `HMCcreate`: arguments, then "make sure write access to file" -/
def specialCreate (s : State) (fid tag : Nat) (argsOk : Bool) : State × Res :=
  if badFrec s fid || !argsOk || SPECIALTAG tag != 0 || MKSPECIALTAG tag == DFTAG_NULL then (s, .fail)
  else if !canWrite s.f then (s, .fail)
  else (s, .pass)

/-- `Hlength(fid, tag, ref)` of an ordinary element (`pass` for a special one) -/
def hlength (s : State) (fid tag ref : Nat) : State × Res :=
  let r := startRead s fid tag ref
  match r.2 with
  | .id aid =>
    let a := (findAcc r.1 aid).getD default
    let dd := slotDD r.1.f.blocks a.slot
    ((endAccess r.1 aid).1, if a.special != 0 then .pass else .num dd.len)
  | _ => (r.1, .fail)

/-- `Hexist(fid, tag, ref)` -/
def hexist (s : State) (fid tag ref : Nat) : State × Res :=
  if badFrec s fid then (s, .fail)
  else
    let fr := hfind s.f tag ref
    (setCursor s fr.2, if fr.1.isSome then .ok else .fail)

/-- `Happendable(aid)` -/
def appendable (s : State) (aid : Nat) : State × Res :=
  match findAcc s aid with
  | none => (s, .fail)
  | some a => (setAcc s { a with appendable := true }, .ok)

/-! ## operations -/

inductive Op where
  | hopen (acc : Nat)
  | hclose (fid : Nat)
  | hcache (fid : Nat) (on : Bool)
  | hsync (fid : Nat)
  | startaccess (fid tag ref flags : Nat)
  | startread (fid tag ref : Nat)
  | startwrite (fid tag ref len : Nat)
  | setlength (aid len : Nat)
  | appendable (aid : Nat)
  | seek (aid : Nat) (off : Int) (origin : Nat)
  | read (aid : Nat) (len : Int)
  | write (aid : Nat) (data : Bytes)
  | trunc (aid : Nat) (len : Int)
  | endaccess (aid : Nat)
  | getelement (fid tag ref : Nat)
  | putelement (fid tag ref : Nat) (data : Bytes)
  | hlength (fid tag ref : Nat)
  | hexist (fid tag ref : Nat)
  | deldd (fid tag ref : Nat)
  | dupdd (fid tag ref otag oref : Nat)
  | reuse (fid tag ref : Nat)
  | hlcreate (fid tag ref : Nat) (blen nblk : Int)
  | hlconvert (aid : Nat) (blen nblk : Int)
  | hxcreate (fid tag ref : Nat) (off : Int)
  | hccreate (fid tag ref : Nat)
  | hmccreate (fid tag ref : Nat)
deriving DecidableEq, Repr, Inhabited

def step (cfg : Cfg) (s : State) : Op → State × Res
  | .hopen acc => hopen cfg s acc
  | .hclose fid => hclose cfg s fid
  | .hcache fid on => hcache s fid on
  | .hsync fid => hsync s fid
  | .startaccess fid tag ref flags => startAccess s fid tag ref flags
  | .startread fid tag ref => startRead s fid tag ref
  | .startwrite fid tag ref len => startWrite cfg s fid tag ref len
  | .setlength aid len => setLength cfg s aid len
  | .appendable aid => appendable s aid
  | .seek aid off origin => seek cfg s aid off origin
  | .read aid len => read s aid len
  | .write aid data => write cfg s aid data
  | .trunc aid len => trunc s aid len
  | .endaccess aid => endAccess s aid
  | .getelement fid tag ref => let r := getElement s fid tag ref; (r.1, r.2.1)
  | .putelement fid tag ref data => putElement cfg s fid tag ref data
  | .hlength fid tag ref => hlength s fid tag ref
  | .hexist fid tag ref => hexist s fid tag ref
  | .deldd fid tag ref => deldd cfg s fid tag ref
  | .dupdd fid tag ref otag oref => dupdd cfg s fid tag ref otag oref
  | .reuse fid tag ref => reuse cfg s fid tag ref
  | .hlcreate fid tag _ blen nblk => specialCreate s fid tag (blen ≥ 0 && nblk ≥ 0 && !(cfg.hlRefusesZero && (blen == 0 || nblk == 0)))
  | .hlconvert aid blen nblk =>
    if blen < 0 || nblk < 0 || (cfg.hlRefusesZero && (blen == 0 || nblk == 0)) then (s, .fail) else (s, hlConvert cfg s aid)
  | .hxcreate fid tag _ off => specialCreate s fid tag (off ≥ 0)
  | .hccreate fid tag ref =>
    -- an existing element is read into memory first (`malloc(data_len)` + `Hgetelement`): a descriptor without data
    -- (length INVALID_LENGTH, left by `HDreuse_tagref` or a `Hstartwrite` that never wrote) cannot be read
    match specialCreate s fid tag true, findDD s.f.blocks tag ref with
    | (s', .pass), some (_, dd) => if dd.len == INVALID_LENGTH then (s', .fail) else (s', .pass)
    | r, _ => r
  | .hmccreate fid tag _ => specialCreate s fid tag true

def run (cfg : Cfg) (s : State) : List Op → State
  | [] => s
  | op :: ops => run cfg (step cfg s op).1 ops

def results (cfg : Cfg) (s : State) : List Op → List Res
  | [] => []
  | op :: ops => (step cfg s op).2 :: results cfg (step cfg s op).1 ops

/-- the calls that would have to write data or create a stored object -/
def Op.isMutating : Op → Bool
  | .startaccess _ _ _ flags => flags &&& DFACC_WRITE != 0
  | .startwrite .. | .setlength .. | .write .. | .trunc .. | .putelement .. | .deldd .. | .dupdd .. | .reuse ..
  | .hlcreate .. | .hlconvert .. | .hxcreate .. | .hccreate .. | .hmccreate .. => true
  | _ => false

/-- an `Hopen` that asks for write access -/
def Op.opensForWrite : Op → Bool
  | .hopen acc => acc &&& DFACC_WRITE != 0
  | _ => false

end H4.ReadOnly
