import H4.Gen.Hdf
import H4.Gen.DDTie
import H4.Bitvect
/-! # Model of the descriptor (DD) directory: `hdf/src/hfiledd.c` + the `hfile.c` callers

A file is (a) the in-memory mirror: the chain of DD blocks (`ddblock_t`, each `ndds` descriptors), the `cache`/`dirty`
flags, `maxref`, the `ddnull` cursor, `f_end_off`, and the per-base-tag bit-vectors of the tag tree; and (b) the on-disk
image of the DD blocks, as *decoded records* (`DBlock`); `encodeDD`/`decodeDD`/`encodeHdr`/`decodeHdr` give the byte
layout (`DDENCODE`/`DDDECODE`, big-endian) and `H4.Lemmas.DDCodec` proves the codec round trip.
`tbbt.c`/`dynarray.c` are not modelled: the tag tree is the association list `tags : base tag ↦ bit-vector`, and the
`ref ↦ dd_t*` dynarray of a tag is the *derived* function `ddOf` (first live descriptor of that base tag and ref).

`Cfg` selects, per confirmed defect, the code AS IT IS (`false`) or the proposed minimal fix (`true`).
Core-only (the driver links this). Every function quotes the C function it follows. -/
namespace H4.DD
open H4.Gen.Hdf H4.Bitvect

/-- which of the confirmed defects are fixed in the modelled source (false = the C as it is today) -/
structure Cfg where
  /-- F3: `HTInew_dd_block` writes the NIL descriptors when caching is OFF (today: only when ON) -/
  fixF3 : Bool
  /-- F4: `HTPdelete` nulls the tag before `HTIupdate_dd` (today: after) -/
  fixF4 : Bool
  /-- F5: `HTIcount_dd` always steps over the odd slot (today: only when it matches) -/
  fixF5 : Bool
  /-- F6: `HTPcreate` raises `maxref` -/
  fixF6 : Bool
  /-- F7: `Htagnewref` tests the `int32` result against FAIL before the `uint16` cast -/
  fixF7 : Bool
  /-- F17: `HTPcreate` refuses a tag/ref that is already in the DD list before it takes a slot (commit e50dd65) -/
  fixF17 : Bool
  deriving Repr, DecidableEq

/-- the code before any of the fixes -/
def Cfg.asIs : Cfg := ⟨false, false, false, false, false, false⟩
def Cfg.fixed : Cfg := ⟨true, true, true, true, true, true⟩

/-! ## tags -/

/-- `BASETAG(t)` on a uint16 (shape checked exhaustively against the macro by Tie A, `H4.Gen.DDTie.BASETAG_SHAPE_OK`) -/
def baseTag (t : Nat) : Nat := if 16384 ≤ t ∧ t < 32768 then t - 16384 else t
/-- `SPECIALTAG(t)` -/
def isSpecial (t : Nat) : Bool := decide (16384 ≤ t ∧ t < 32768)
/-- `MKSPECIALTAG(t)`: `t | 0x4000` for library tags, `DFTAG_NULL` for user tags (≥ 0x8000) -/
def mkSpecial (t : Nat) : Nat := if t < 16384 then t + 16384 else if t < 32768 then t else DFTAG_NULL

/-- `DFTAG_FREE` -/
def DFTAG_FREE : Nat := H4.Gen.DDTie.DFTAG_FREE
/-- `static int default_cache` of hfile.c: the caching mode every `Hopen` starts in -/
def defaultCache : Bool := H4.Gen.DDTie.DEFAULT_CACHE != 0

/-! ## descriptors and blocks -/

/-- `dd_t` (without the back pointer) -/
structure DD where
  tag : Nat
  ref : Nat
  off : Int
  len : Int
  deriving Repr, DecidableEq, Inhabited

/-- the NIL descriptor `HTPinit`/`HTInew_dd_block` fill blocks with -/
def nilDD : DD := ⟨DFTAG_NULL, DFREF_WILDCARD, INVALID_OFFSET, INVALID_LENGTH⟩
/-- what 12 zero bytes (a hole in the file) decode to -/
def zeroDD : DD := ⟨0, 0, 0, 0⟩

/-- `ddblock_t` in memory -/
structure Block where
  myoff : Nat
  next : Nat
  dirty : Bool
  dds : List DD
  deriving Repr, DecidableEq, Inhabited

/-- the bytes of one DD block on disk, decoded: 6-byte header (`ndds`, `nextoffset`) and the descriptors.
    `hdr = false`: the header bytes were never written (block created with caching on, not yet flushed). -/
structure DBlock where
  myoff : Nat
  hdr : Bool
  ndds : Nat
  next : Nat
  dds : List DD
  deriving Repr, DecidableEq, Inhabited

/-- a `dd_t *`: block number in the chain and index in its `ddlist` -/
structure Pos where
  blk : Nat
  idx : Nat
  deriving Repr, DecidableEq, Inhabited

abbrev Tags := List (Nat × BV)

/-- one physical write of the library to the file (C17: the ordered write log), at the granularity the C issues them -/
inductive Wr
  /-- the 6-byte header of a DD block (`ndds`, `nextoffset`) at the block's offset -/
  | hdr (off ndds next : Nat)
  /-- the 4-byte `nextoffset` field of a block header, patched alone (at block offset + 2) -/
  | next (off next : Nat)
  /-- a whole DD list (`ndds` × 12 bytes) at block offset + 6 -/
  | dds (off : Nat) (dds : List DD)
  /-- one 12-byte descriptor at block offset + 6 + 12·idx (write-through `HTIupdate_dd`) -/
  | dd (off : Nat) (d : DD)
  /-- `len` bytes of element data -/
  | data (off len : Nat)
  /-- one byte reserving space at the end of a block (`HPgetdiskblock`, caching off) -/
  | ext (off : Nat)
  deriving Repr, DecidableEq, Inhabited

/-- first byte written -/
def Wr.off : Wr → Nat
  | .hdr o _ _ => o | .next o _ => o | .dds o _ => o | .dd o _ => o | .data o _ => o | .ext o => o

/-- `filerec_t`, DD-directory part, plus the disk image -/
structure File where
  blocks : List Block
  disk : List DBlock
  /-- `file_rec->cache` -/
  cache : Bool
  /-- `file_rec->dirty & DDLIST_DIRTY` -/
  fdirty : Bool
  maxref : Nat
  /-- `ddnull` (`none` = NULL) -/
  nullBlk : Option Nat
  /-- `ddnull_idx + 1` -/
  nullNext : Nat
  /-- `f_end_off` -/
  fEnd : Nat
  /-- the tag tree: base tag ↦ bit-vector of refs in use -/
  tags : Tags
  /-- undefined behaviour reached (F17: the dynarray of a tag was freed while still referenced) -/
  ub : Bool
  /-- the physical writes issued since the file was opened, NEWEST FIRST (`chronLog` reverses) -/
  log : List Wr := []
  deriving Repr, DecidableEq, Inhabited

/-- append one write to the log -/
def logW (w : Wr) (s : File) : File := { s with log := w :: s.log }
/-- the write log in the order the writes were issued -/
def File.chronLog (s : File) : List Wr := s.log.reverse

/-! ## byte layout (`DDENCODE`, `DDDECODE`, block header) -/

def be16 (n : Nat) : List Nat := [n / 256 % 256, n % 256]
def be32 (n : Nat) : List Nat := [n / 16777216 % 256, n / 65536 % 256, n / 256 % 256, n % 256]
/-- two's complement of an `int32` -/
def toU32 (i : Int) : Nat := (i % 4294967296).toNat
def ofU32 (n : Nat) : Int := if n < 2147483648 then (n : Int) else (n : Int) - 4294967296
def rd16 : List Nat → Nat
  | a :: b :: _ => a * 256 + b
  | _ => 0
def rd32 : List Nat → Nat
  | a :: b :: c :: d :: _ => a * 16777216 + b * 65536 + c * 256 + d
  | _ => 0
/-- `DDENCODE(p, tag, ref, offset, length)` -/
def encodeDD (d : DD) : List Nat := be16 d.tag ++ be16 d.ref ++ be32 (toU32 d.off) ++ be32 (toU32 d.len)
/-- `DDDECODE` of 12 bytes -/
def decodeDD (bs : List Nat) : DD :=
  ⟨rd16 bs, rd16 (bs.drop 2), ofU32 (rd32 (bs.drop 4)), ofU32 (rd32 (bs.drop 8))⟩
/-- `INT16ENCODE(p, ndds); INT32ENCODE(p, nextoffset)` -/
def encodeHdr (ndds next : Nat) : List Nat := be16 ndds ++ be32 next
def decodeHdr (bs : List Nat) : Nat × Nat := (rd16 bs, rd32 (bs.drop 2))
/-- bytes of a whole block as `HTPsync` writes it -/
def encodeBlock (ndds next : Nat) (dds : List DD) : List Nat := encodeHdr ndds next ++ dds.flatMap encodeDD
/-- split `n` 12-byte records -/
def decodeDDs : Nat → List Nat → List DD
  | 0, _ => []
  | n + 1, bs => decodeDD (bs.take 12) :: decodeDDs n (bs.drop 12)
/-- what `HTPstart` decodes from the bytes of a block -/
def decodeBlock (bs : List Nat) : Nat × Nat × List DD :=
  let (n, nx) := decodeHdr bs
  (n, nx, decodeDDs n (bs.drop 6))

/-! ## tag tree (association list base tag ↦ bit-vector) -/

/-- `tbbtdfind(file_rec->tag_tree, &base_tag)` -/
def tget : Tags → Nat → Option BV
  | [], _ => none
  | (k, v) :: r, t => if k = t then some v else tget r t
/-- insert or replace the node of a base tag -/
def tput : Tags → Nat → BV → Tags
  | [], t, v => [(t, v)]
  | (k, w) :: r, t, v => if k = t then (k, v) :: r else (k, w) :: tput r t v

/-- `HTIregister_tag_ref`: `none` = FAIL (`DFE_DUPDD`) -/
def register (tags : Tags) (d : DD) : Option Tags :=
  let base := baseTag d.tag
  match tget tags base with
  | none => some (tput tags base ((BV.new.set 0 true).set d.ref true))
  | some bv => if bv.get d.ref = 1 then none else some (tput tags base (bv.set d.ref true))

/-- `HTIunregister_tag_ref` (tag-tree part; the caller nulls the tag): `none` = FAIL -/
def unregister (tags : Tags) (d : DD) : Option Tags :=
  let base := baseTag d.tag
  match tget tags base with
  | none => none
  | some bv => if bv.get d.ref = 0 then none else some (tput tags base (bv.set d.ref false))

/-! ## positions -/

def getDD (blocks : List Block) (p : Pos) : DD :=
  match blocks[p.blk]? with
  | none => nilDD
  | some b => b.dds.getD p.idx nilDD

def setDD (blocks : List Block) (p : Pos) (d : DD) : List Block :=
  blocks.modify p.blk (fun b => { b with dds := b.dds.set p.idx d })

/-- all descriptors in chain order -/
def slotsOf (blocks : List Block) : List DD := blocks.flatMap (·.dds)
def File.slots (s : File) : List DD := slotsOf s.blocks
/-- the live descriptors (tag ≠ `DFTAG_NULL`) in chain order -/
def File.live (s : File) : List DD := s.slots.filter (fun d => d.tag != DFTAG_NULL)

/-! ## the scanning loops of `HTIfind_dd` -/

/-- first index of a descriptor satisfying `p` -/
def firstIdx (p : DD → Bool) : List DD → Option Nat
  | [] => none
  | d :: ds => if p d then some 0 else (firstIdx p ds).map (· + 1)
/-- last index of a descriptor satisfying `p` -/
def lastIdx (p : DD → Bool) : List DD → Option Nat
  | [] => none
  | d :: ds => match lastIdx p ds with
    | some i => some (i + 1)
    | none => if p d then some 0 else none

/-- `for (; block; block = block->next) { for (idx = 0; idx < ndds; idx++) ... }` over whole blocks `b, b+1, …` -/
def scanFwdBlocks (p : DD → Bool) : List Block → Nat → Option Pos
  | [], _ => none
  | blk :: rest, b => match firstIdx p blk.dds with
    | some i => some ⟨b, i⟩
    | none => scanFwdBlocks p rest (b + 1)

/-- forward scan starting at slot `idx` of block `b` -/
def scanFwd (p : DD → Bool) (blocks : List Block) (b idx : Nat) : Option Pos :=
  match blocks.drop b with
  | [] => none
  | blk :: rest => match firstIdx p (blk.dds.drop idx) with
    | some i => some ⟨b, i + idx⟩
    | none => scanFwdBlocks p rest (b + 1)

/-- backward over whole blocks; `rev` = blocks `cnt-1, cnt-2, …, 0` -/
def scanBwdBlocks (p : DD → Bool) : List Block → Nat → Option Pos
  | [], _ => none
  | blk :: rest, cnt => match lastIdx p blk.dds with
    | some i => some ⟨cnt - 1, i⟩
    | none => scanBwdBlocks p rest (cnt - 1)

/-- backward scan over slots `n-1 … 0` of block `b`, then blocks `b-1 … 0` -/
def scanBwd (p : DD → Bool) (blocks : List Block) (b n : Nat) : Option Pos :=
  match blocks[b]? with
  | none => none
  | some blk => match lastIdx p (blk.dds.take n) with
    | some i => some ⟨b, i⟩
    | none => scanBwdBlocks p (blocks.take b).reverse b

/-- the live descriptor of that base tag and ref, by search -/
def ddOf (blocks : List Block) (base ref : Nat) : Option Pos :=
  scanFwd (fun d => d.tag != DFTAG_NULL && baseTag d.tag == base && d.ref == ref) blocks 0 0

/-- `tbbtdfind(tag_tree, &base_tag)` then `DAget_elem(tinfo_ptr->d, ref)`, as a derived view: no node → NULL; a ref whose
    bit is clear in the tag's bit-vector has no dynarray entry (the two are always updated together) → NULL; otherwise the
    live descriptor of that base tag and ref. -/
def lookupDD (tags : Tags) (blocks : List Block) (base ref : Nat) : Option Pos :=
  match tget tags base with
  | none => none
  | some bv => if bv.get ref = 0 then none else ddOf blocks base ref

inductive Dir | fwd | bwd
  deriving Repr, DecidableEq

/-- the match predicates of the wildcard branches of `HTIfind_dd` -/
def pAny : DD → Bool := fun d => d.tag != DFTAG_NULL
def pNull : DD → Bool := fun d => d.tag == DFTAG_NULL
def pRef (lookRef : Nat) : DD → Bool := fun d => d.tag != DFTAG_NULL && d.ref == lookRef
def pTag (lookTag : Nat) : DD → Bool := fun d =>
  !(d.tag == DFTAG_NULL && lookTag != DFTAG_NULL) &&
    (d.tag == lookTag || (mkSpecial lookTag != DFTAG_NULL && d.tag == mkSpecial lookTag))
def pBwd (lookTag lookRef : Nat) : DD → Bool := fun d =>
  !(d.tag == DFTAG_NULL && lookTag != DFTAG_NULL) &&
    (((lookTag == DFTAG_WILDCARD || d.tag == lookTag) || (mkSpecial lookTag != DFTAG_NULL && d.tag == mkSpecial lookTag)) &&
     (lookRef == DFREF_WILDCARD || d.ref == lookRef))

/-- `HTIfind_dd(file_rec, look_tag, look_ref, &dd, direction)`; `pdd` = `*pdd` on entry.
    Returns the position found (`none` = FAIL) and the file record (the `ddnull` cursor moves in the NULL search). -/
def htiFindDD (s : File) (lookTag lookRef : Nat) (pdd : Option Pos) (dir : Dir) : Option Pos × File :=
  if lookTag ≠ DFTAG_WILDCARD ∧ lookRef ≠ DFTAG_WILDCARD then
    -- a specific tag/ref pair: tag tree + dynarray
    (lookupDD s.tags s.blocks (baseTag lookTag) lookRef, s)
  else match dir with
    | .fwd =>
      let b := match pdd with | none => 0 | some p => p.blk
      let idx := match pdd with | none => 0 | some p => p.idx + 1
      if lookTag = DFTAG_WILDCARD ∧ lookRef = DFREF_WILDCARD then
        (scanFwd pAny s.blocks b idx, s)
      else if lookTag = DFTAG_NULL ∧ lookRef = DFTAG_WILDCARD then
        -- quick lookup of empty DDs through the ddnull cursor (ignores *pdd)
        match scanFwd pNull s.blocks (s.nullBlk.getD 0) s.nullNext with
        | some p => (some p, { s with nullBlk := some p.blk, nullNext := p.idx + 1 })
        | none => (none, s)
      else if lookTag = DFTAG_WILDCARD then
        (scanFwd (pRef lookRef) s.blocks b idx, s)
      else
        -- ref is the wildcard (both loops, with and without a special variant, are `pTag`)
        (scanFwd (pTag lookTag) s.blocks b idx, s)
    | .bwd =>
      let b := match pdd with | none => s.blocks.length - 1 | some p => p.blk
      let n := match pdd with
        | none => (match s.blocks.getLast? with | none => 0 | some blk => blk.dds.length)
        | some p => p.idx
      (scanBwd (pBwd lookTag lookRef) s.blocks b n, s)

/-! ## `HTIupdate_dd`, `HTInew_dd_block`, `HTPsync` -/

/-- first half of `HTIupdate_dd`: caching → mark file and block dirty; not caching → write the 12 bytes of the
    descriptor through to `myoffset + 6 + idx * 12` -/
def markOrWrite (s : File) (p : Pos) : File :=
  if s.cache then
    { s with fdirty := true, blocks := s.blocks.modify p.blk (fun b => { b with dirty := true }) }
  else
    { s with disk := s.disk.modify p.blk (fun db => { db with dds := db.dds.set p.idx (getDD s.blocks p) }),
             log := Wr.dd ((match s.blocks[p.blk]? with | none => 0 | some b => b.myoff) + (NDDS_SZ + OFFSET_SZ) + p.idx * DD_SZ)
                      (getDD s.blocks p) :: s.log }

/-- second half of `HTIupdate_dd`: "check whether to incr. offset of end of file" -/
def bumpEnd (s : File) (d : DD) : File :=
  if d.off ≠ INVALID_OFFSET ∧ d.len ≠ INVALID_LENGTH ∧ d.off + d.len > (s.fEnd : Int) then
    { s with fEnd := (d.off + d.len).toNat }
  else s

/-- `HTIupdate_dd(file_rec, dd_ptr)`: note the change (caching) or write the descriptor through -/
def htiUpdateDD (s : File) (p : Pos) : File := bumpEnd (markOrWrite s p) (getDD s.blocks p)

/-- `ndds` of a new block: "snarf from first block" -/
def headNdds (s : File) : Nat := match s.blocks.head? with | none => 0 | some h => h.dds.length

/-- `HTInew_dd_block`, memory side: the new block (NIL descriptors, `dirty = cache`) is linked behind the last one,
    whose `nextoffset` is set (and which is marked dirty when caching) -/
def newBlockMem (s : File) : List Block :=
  (s.blocks.modify (s.blocks.length - 1)
      (fun b => { b with next := s.fEnd, dirty := if s.cache then true else b.dirty })) ++
    [{ myoff := s.fEnd, next := 0, dirty := s.cache, dds := List.replicate (headNdds s) nilDD }]

/-- `HTInew_dd_block`, disk side.
    Before commit fda7a17 (`fixF3 = false`): caching → the header is not written and the NIL list goes to the block start
    (`hdr = false`, overwritten by the next flush); not caching → the header is written and the previous block's
    `nextoffset` is patched on disk, but the descriptors are NOT written (F3): the hole reads back as zero bytes.
    Since that commit (`fixF3 = true`): a complete empty block (header with `next = 0`, then the NIL descriptors) is written
    at allocation time in both modes; caching only defers the patch of the previous block's `nextoffset`. -/
def newBlockDisk (cfg : Cfg) (s : File) : List DBlock :=
  if s.cache then
    s.disk ++ [{ myoff := s.fEnd, hdr := cfg.fixF3, ndds := headNdds s, next := 0, dds := List.replicate (headNdds s) nilDD }]
  else
    (s.disk.modify (s.blocks.length - 1) (fun d => { d with next := s.fEnd })) ++
      [{ myoff := s.fEnd, hdr := true, ndds := headNdds s, next := 0,
         dds := List.replicate (headNdds s) (if cfg.fixF3 then nilDD else zeroDD) }]

/-- the physical writes of `HTInew_dd_block`, in order: (caching off) the reservation byte of `HPgetdiskblock`; the header
    and the NIL list of the new block (both modes since fda7a17; before: header only when not caching, NIL list at the
    block start only when caching); (caching off) the patch of the previous block's `nextoffset` -/
def newBlockWrites (cfg : Cfg) (s : File) : List Wr :=
  let sz := (NDDS_SZ + OFFSET_SZ) + headNdds s * DD_SZ
  let nil := List.replicate (headNdds s) nilDD
  let prevOff := match s.blocks.getLast? with | none => 0 | some b => b.myoff
  (if s.cache then [] else [Wr.ext (s.fEnd + sz - 1)]) ++
  (if cfg.fixF3 then [Wr.hdr s.fEnd (headNdds s) 0, Wr.dds (s.fEnd + (NDDS_SZ + OFFSET_SZ)) nil]
   else if s.cache then [Wr.dds s.fEnd nil] else [Wr.hdr s.fEnd (headNdds s) 0]) ++
  (if s.cache then [] else [Wr.next (prevOff + NDDS_SZ) s.fEnd])

/-- `HTInew_dd_block(file_rec)`: append a block of NIL descriptors to the chain; its offset is `f_end_off`
    (`HPgetdiskblock(file_rec, NDDS_SZ + OFFSET_SZ + ndds * DD_SZ, TRUE)`) -/
def htiNewBlock (cfg : Cfg) (s : File) : File :=
  { s with fdirty := if s.cache then true else s.fdirty,
           blocks := newBlockMem s,
           disk := newBlockDisk cfg s,
           fEnd := s.fEnd + (NDDS_SZ + OFFSET_SZ) + headNdds s * DD_SZ,
           log := (newBlockWrites cfg s).reverse ++ s.log }

/-- the block loop of `HTPsync` -/
def syncBlocks : List Block → List DBlock → List Block × List DBlock
  | [], ds => ([], ds)
  | bs, [] => (bs, [])
  | b :: bs, d :: ds =>
    let (bs', ds') := syncBlocks bs ds
    if b.dirty then
      ({ b with dirty := false } :: bs', { myoff := b.myoff, hdr := true, ndds := b.dds.length, next := b.next, dds := b.dds } :: ds')
    else (b :: bs', d :: ds')

/-- the physical writes of `HTPsync`, in order: for every dirty block, head to tail, its header then its DD list -/
def syncWrites : List Block → List Wr
  | [] => []
  | b :: bs =>
    (if b.dirty then [Wr.hdr b.myoff b.dds.length b.next, Wr.dds (b.myoff + (NDDS_SZ + OFFSET_SZ)) b.dds] else []) ++
      syncWrites bs

/-- `HTPsync(file_rec)`: write every dirty block (header + all descriptors) -/
def htpSync (s : File) : File :=
  let (bs, ds) := syncBlocks s.blocks s.disk
  { s with blocks := bs, disk := ds, log := (syncWrites s.blocks).reverse ++ s.log }

/-- `HIsync(file_rec)` -/
def hiSync (s : File) : File :=
  if s.cache ∧ s.fdirty then { htpSync s with fdirty := false } else s

/-- `Hsync(file_id)` -/
def hsync (s : File) : File := hiSync s

/-- `Hcache(file_id, cache_on)` -/
def hcache (s : File) (on : Bool) : File :=
  let s := if on = false ∧ s.cache then hiSync s else s
  { s with cache := on }

/-! ## `HTPcreate`, `HTPselect`, `HTPdelete`, `HTPupdate` -/

/-- `HTPselect(file_rec, tag, ref)` -/
def htpSelect (s : File) (tag ref : Nat) : Option Pos :=
  if tag = DFTAG_NULL ∨ tag = DFTAG_WILDCARD ∨ ref = DFREF_WILDCARD then none
  else lookupDD s.tags s.blocks (baseTag tag) ref

/-- the slot `HTPcreate` takes: the first NULL slot found through the `ddnull` cursor
    (`HTIfind_dd(file_rec, DFTAG_NULL, DFTAG_WILDCARD, &dd_ptr, DF_FORWARD)`), else slot 0 of a new block -/
def allocSlot (cfg : Cfg) (s : File) : Pos × File :=
  match htiFindDD s DFTAG_NULL DFTAG_WILDCARD none .fwd with
  | (some p, s') => (p, s')
  | (none, s') => (⟨(htiNewBlock cfg s').blocks.length - 1, 0⟩, htiNewBlock cfg s')

/-- store a descriptor in memory, then `HTIupdate_dd` -/
def fillSlot (s : File) (p : Pos) (d : DD) : File :=
  htiUpdateDD { s with blocks := setDD s.blocks p d } p

/-- F6 fix: `if (ref > file_rec->maxref) file_rec->maxref = ref;` in `HTPcreate` -/
def raiseMaxref (cfg : Cfg) (s : File) (ref : Nat) : File :=
  if cfg.fixF6 ∧ ref > s.maxref then { s with maxref := ref } else s

/-- `HTPcreate(file_rec, tag, ref)`: `none` = FAIL. A registration failure (tag/ref already in the tree) happens
    AFTER the slot was filled and written, and frees the dynarray of the tag that is still in the tree: `ub`. -/
def htpCreate (cfg : Cfg) (s : File) (tag ref : Nat) : Option Pos × File :=
  if tag = DFTAG_NULL ∨ tag = DFTAG_WILDCARD ∨ ref = DFREF_WILDCARD then (none, s)
  else if cfg.fixF17 ∧ (lookupDD s.tags s.blocks (baseTag tag) ref).isSome then
    -- since e50dd65: `HTIfind_dd(file_rec, tag, ref, …) != FAIL` → DFE_DUPDD before a free DD is taken
    (none, s)
  else
    let a := allocSlot cfg s
    let s1 := fillSlot a.2 a.1 ⟨tag, ref, INVALID_OFFSET, INVALID_LENGTH⟩
    match register s1.tags ⟨tag, ref, INVALID_OFFSET, INVALID_LENGTH⟩ with
    | none => (none, { s1 with ub := true })
    | some tags => (some a.1, raiseMaxref cfg { s1 with tags := tags } ref)

/-- `HTPdelete(ddid)` for the descriptor at `p` -/
def htpDelete (cfg : Cfg) (s : File) (p : Pos) : Bool × File :=
  let s0 : File := { s with nullBlk := none, nullNext := 0 }
  let d := getDD s.blocks p
  if cfg.fixF4 then
    match unregister s0.tags d with
    | none => (false, s0)
    | some tags => (true, fillSlot { s0 with tags := tags } p { d with tag := DFTAG_NULL })
  else
    -- as is: the descriptor is written (with its old tag) BEFORE the tag is nulled
    let s1 := htiUpdateDD s0 p
    match unregister s1.tags d with
    | none => (false, s1)
    | some tags => (true, { s1 with tags := tags, blocks := setDD s1.blocks p { d with tag := DFTAG_NULL } })

/-- the descriptor `HTPupdate` stores; `-2` = leave unchanged -/
def updDD (d : DD) (newOff newLen : Int) : DD :=
  { d with len := if newLen ≠ -2 then newLen else d.len, off := if newOff ≠ -2 then newOff else d.off }

/-- `HTPupdate(ddid, new_off, new_len)` -/
def htpUpdate (s : File) (p : Pos) (newOff newLen : Int) : File :=
  fillSlot s p (updDD (getDD s.blocks p) newOff newLen)

/-! ## user level: `Hdupdd`, `Hdeldd`, `HDreuse_tagref`, `Hnumber`, `Hnewref`, `Htagnewref`, `Hfind`, `Hexist` -/

/-- `Hdupdd(file_id, tag, ref, old_tag, old_ref)` -/
def hdupdd (cfg : Cfg) (s : File) (tag ref oldTag oldRef : Nat) : Bool × File :=
  match htpSelect s oldTag oldRef with
  | none => (false, s)
  | some old =>
    match htpCreate cfg s tag ref with
    | (none, s) => (false, s)
    | (some p, s) =>
      let od := getDD s.blocks old
      (true, htpUpdate s p od.off od.len)

/-- `Hdeldd(file_id, tag, ref)` -/
def hdeldd (cfg : Cfg) (s : File) (tag ref : Nat) : Bool × File :=
  if tag = DFTAG_WILDCARD ∨ ref = DFREF_WILDCARD then (false, s)
  else match htpSelect s tag ref with
    | none => (false, s)
    | some p => htpDelete cfg s p

/-- `HDreuse_tagref(file_id, tag, ref)` -/
def hdreuse (s : File) (tag ref : Nat) : Bool × File :=
  if tag = DFTAG_WILDCARD ∨ ref = DFREF_WILDCARD then (false, s)
  else match htpSelect s tag ref with
    | none => (false, s)
    | some p => (true, htpUpdate s p INVALID_OFFSET INVALID_LENGTH)

/-- the unrolled two-at-a-time loop of `HTIcount_dd`
    (`for (; idx < ndds; idx++, dd_ptr++) { test; idx++; dd_ptr++; test; }`).
    Returns the count and whether the second test read `ddlist[ndds]`, one `dd_t` past the block. -/
def pairLoop (m : DD → Bool) : List DD → Nat × Bool
  | [] => (0, false)
  | [a] => ((if m a then 1 else 0), true)
  | a :: b :: rest =>
    let r := pairLoop m rest
    (r.1 + (if m a then 1 else 0) + (if m b then 1 else 0), r.2)

/-- one block of the `default:` / special-variant / wildcard-ref branch of `HTIcount_dd` -/
def countBlkPairs (cfg : Cfg) (m : DD → Bool) (dds : List DD) : Nat × Bool :=
  if dds.length % 2 = 1 then
    match dds with
    | [] => (0, false)
    | d0 :: rest =>
      if m d0 then let r := pairLoop m rest; (r.1 + 1, r.2)
      else if cfg.fixF5 then pairLoop m rest
      else pairLoop m dds        -- F5: idx/dd_ptr not advanced, the pair loop starts at the odd slot
  else pairLoop m dds

/-- `HTIcount_dd(file_rec, cnt_tag, DFREF_WILDCARD, &all, &real)` as called by `Hnumber`:
    (`real_cnt`, some read was past the end of a block) -/
def htiCountDD (cfg : Cfg) (s : File) (cntTag : Nat) : Nat × Bool :=
  let specialTag := mkSpecial cntTag
  if cntTag = DFTAG_WILDCARD then
    ((s.slots.filter (fun d => !(d.tag == DFTAG_NULL || d.tag == DFTAG_FREE))).length, false)
  else if cntTag = DFTAG_NULL ∨ cntTag = DFTAG_FREE then
    ((s.slots.filter (fun d => d.tag == cntTag || (specialTag != DFTAG_NULL && d.tag == specialTag))).length, false)
  else if specialTag = DFTAG_NULL then
    ((s.slots.filter (fun d => d.tag == cntTag)).length, false)
  else
    s.blocks.foldl (fun acc b =>
      let r := countBlkPairs cfg (fun d => d.tag == cntTag || d.tag == specialTag) b.dds
      (acc.1 + r.1, acc.2 || r.2)) (0, false)

/-- `Hnumber(file_id, tag)` -/
def hnumber (cfg : Cfg) (s : File) (tag : Nat) : Nat × Bool := htiCountDD cfg s tag

/-- the `for (i_ref = 1; i_ref <= MAX_REF; i_ref++)` loop of `Hnewref`; result 0 = none free -/
def refSearch (blocks : List Block) : Nat → Nat → Nat
  | 0, _ => 0
  | fuel + 1, i => if (scanFwd (pRef i) blocks 0 0).isNone then i else refSearch blocks fuel (i + 1)

/-- `Hnewref(file_id)` -/
def hnewref (s : File) : Nat × File :=
  if s.maxref < MAX_REF then (s.maxref + 1, { s with maxref := s.maxref + 1 })
  else (refSearch s.blocks MAX_REF 1, s)

/-- the value `Htagnewref` makes of the bit offset `z` returned by `bv_find_next_zero`:
    as is `(uint16)z`, 0 when `(uint16)z == (uint16)FAIL`; fixed: the `int32` is tested, 0 when `z > MAX_REF` -/
def tagnewrefValue (cfg : Cfg) (z : Nat) : Nat :=
  if cfg.fixF7 then (if z > MAX_REF then 0 else z)
  else (if z % 65536 = 65535 then 0 else z % 65536)

/-- `Htagnewref(file_id, tag)` -/
def htagnewref (cfg : Cfg) (s : File) (tag : Nat) : Nat × File :=
  match tget s.tags (baseTag tag) with
  | none => (1, s)
  | some bv =>
    (tagnewrefValue cfg bv.findNextZero.1, { s with tags := tput s.tags (baseTag tag) bv.findNextZero.2 })

/-- `Hfind(file_id, search_tag, search_ref, &find_tag, &find_ref, &off, &len, direction)`;
    `findTag findRef` are the in-values; `none` = FAIL -/
def hfind (s : File) (searchTag searchRef findTag findRef : Nat) (dir : Dir) : Option DD × File :=
  if findRef ≠ 0 ∨ findTag ≠ 0 then
    match htiFindDD s findTag findRef none dir with
    | (none, s) => (none, s)
    | (some p, s) =>
      match htiFindDD s searchTag searchRef (some p) dir with
      | (none, s) => (none, s)
      | (some q, s) => (some (getDD s.blocks q), s)
  else
    match htiFindDD s searchTag searchRef none dir with
    | (none, s) => (none, s)
    | (some q, s) => (some (getDD s.blocks q), s)

/-- `Hexist(file_id, tag, ref)` -/
def hexist (s : File) (tag ref : Nat) : Bool × File :=
  let r := hfind s tag ref 0 0 .fwd
  (r.1.isSome, r.2)

/-- iterate `Hfind` from the start, as `while (Hfind(...) == SUCCEED)` does; at most `fuel` results -/
def iterFind (s : File) (searchTag searchRef : Nat) (dir : Dir) : Nat → Nat → Nat → List DD
  | 0, _, _ => []
  | fuel + 1, ft, fr =>
    match (hfind s searchTag searchRef ft fr dir).1 with
    | none => []
    | some d => d :: iterFind s searchTag searchRef dir fuel d.tag d.ref

/-! ## `Hstartaccess` and the element-level calls that change the directory -/

inductive Acc
  | fail
  /-- the element is special and the special-element layer takes over (not modelled here) -/
  | special (p : Pos)
  | ok (p : Pos) (newElem : Bool)
  deriving Repr

/-- `Hstartaccess(file_id, tag, ref, flags)` (DD-directory part; `write` = `flags & DFACC_WRITE`) -/
def hstartaccess (cfg : Cfg) (s : File) (tag ref : Nat) (write : Bool) : Acc × File :=
  let (found, s) := hfind s tag ref 0 0 .fwd
  let newTag := match found with | some d => d.tag | none => tag
  let newRef := match found with | some d => d.ref | none => ref
  let isNew := match found with | some d => decide (d.off = INVALID_OFFSET ∧ d.len = INVALID_LENGTH) | none => true
  match htpSelect s newTag newRef with
  | none =>
    if !write then (.fail, s)
    else match htpCreate cfg s newTag newRef with
      | (none, s) => (.fail, s)
      | (some p, s) => (.ok p true, { s with maxref := if newRef > s.maxref then newRef else s.maxref })
  | some p =>
    if !isSpecial tag ∧ isSpecial (getDD s.blocks p).tag then (.special p, s)
    else (.ok p isNew, { s with maxref := if newRef > s.maxref then newRef else s.maxref })

/-- `Hsetlength(aid, length)`: `HPgetdiskblock` at the end of the file, then `HTPupdate(ddid, offset, length)` -/
def hsetlength (s : File) (p : Pos) (len : Nat) : File :=
  let off := s.fEnd
  -- HPgetdiskblock(file_rec, length, FALSE): not caching and length > 0 → one byte written at the end of the extent
  htpUpdate { s with fEnd := s.fEnd + len,
                     log := if s.cache = false ∧ 0 < len then Wr.ext (s.fEnd + len - 1) :: s.log else s.log } p off len

inductive Res
  | ok
  | fail
  | num (n : Int)
  | unsupported
  deriving Repr, DecidableEq

/-- `Hstartwrite(file_id, tag, ref, length)` then `Hendaccess` -/
def hstartwriteEnd (cfg : Cfg) (s : File) (tag ref : Nat) (len : Int) : Res × File :=
  match hstartaccess cfg s (baseTag tag) ref true with
  | (.fail, s) => (.fail, s)
  | (.special _, s) => (.unsupported, s)
  | (.ok p newElem, s) =>
    if newElem then
      if len < 0 then (.fail, s) else (.ok, hsetlength s p len.toNat)
    else (.ok, s)

/-- `Hputelement(file_id, tag, ref, data, length)` -/
def hputelement (cfg : Cfg) (s : File) (tag ref : Nat) (len : Int) : Res × File :=
  match hstartaccess cfg s (baseTag tag) ref true with
  | (.fail, s) => (.fail, s)
  | (.special _, s) => (.unsupported, s)
  | (.ok p newElem, s) =>
    if newElem ∧ len < 0 then (.fail, s)
    else
      let s := if newElem then hsetlength s p len.toNat else s
      -- Hwrite(aid, length, data): not appendable, must fit the element
      let d := getDD s.blocks p
      if len ≤ 0 ∨ len > d.len then (.fail, s) else (.num len, logW (.data d.off.toNat len.toNat) s)

/-- `Hstartaccess(…, DFACC_RDWR | DFACC_APPENDABLE)`, `Hwrite(aid, n, data)` at position 0, `Hendaccess`:
    grows an element that lies at the end of the file (`HTPupdate(ddid, -2, n)`) -/
def happend (cfg : Cfg) (s : File) (tag ref : Nat) (n : Int) : Res × File :=
  match hstartaccess cfg s tag ref true with
  | (.fail, s) => (.fail, s)
  | (.special _, s) => (.unsupported, s)
  | (.ok p newElem, s) =>
    if newElem ∧ n < 0 then (.unsupported, s)
    else
      let s := if newElem then hsetlength s p n.toNat else s
      let d := getDD s.blocks p
      if n ≤ 0 then (.fail, s)
      else if n > d.len then
        if d.len + d.off ≠ (s.fEnd : Int) then (.unsupported, s)   -- HLconvert: promoted to linked blocks
        else
          let s := htpUpdate s p (-2) n
          (.num n, s)
      else (.num n, s)

/-- `Hlength(file_id, tag, ref)` / `Hoffset`: through `Hstartread` = `Hstartaccess(BASETAG(tag), ref, DFACC_READ)`
    (which may raise `maxref`) -/
def hinquire (cfg : Cfg) (s : File) (tag ref : Nat) : Option DD × Bool × File :=
  match hstartaccess cfg s (baseTag tag) ref false with
  | (.fail, s) => (none, false, s)
  | (.special _, s) => (none, true, s)
  | (.ok p _, s) => (some (getDD s.blocks p), false, s)

/-! ## open / close -/

/-- `HTPinit(file_rec, ndds)` for a new file (after the 4 magic bytes) -/
def htpInit (ndds0 : Nat) : File :=
  let ndds := if ndds0 = 0 then DEF_NDDS else if ndds0 < MIN_NDDS then MIN_NDDS else ndds0
  { blocks := [{ myoff := MAGICLEN, next := 0, dirty := false, dds := List.replicate ndds nilDD }],
    disk := [{ myoff := MAGICLEN, hdr := true, ndds := ndds, next := 0, dds := List.replicate ndds nilDD }],
    cache := false, fdirty := false, maxref := 0, nullBlk := some 0, nullNext := 0,
    fEnd := MAGICLEN + (NDDS_SZ + OFFSET_SZ) + ndds * DD_SZ, tags := [], ub := false }

/-- `Hopen(path, DFACC_CREATE, ndds)`: `HTPinit`, `cache = default_cache`, then `HIupdate_version` puts `(DFTAG_VERSION, 1)` -/
def hopenCreate (cfg : Cfg) (ndds : Nat) : File :=
  (hputelement cfg { htpInit ndds with cache := defaultCache } DFTAG_VERSION 1 LIBVER_LEN).2

/-- the block-reading loop of `HTPstart`: follow `nextoffset` from `off`; `none` = FAIL -/
def readChain (disk : List DBlock) : Nat → Nat → Option (List Block)
  | 0, _ => none
  | fuel + 1, off =>
    match disk.find? (fun db => db.myoff == off) with
    | none => none
    | some db =>
      if !db.hdr ∨ db.ndds = 0 ∨ db.dds.length ≠ db.ndds then none
      else
        let blk : Block := { myoff := off, next := db.next, dirty := false, dds := db.dds }
        if db.next ≠ 0 then (readChain disk fuel db.next).map (blk :: ·) else some [blk]

/-- `HTIregister_tag_ref` for every non-NULL descriptor read -/
def registerAll : Tags → List DD → Option Tags
  | tags, [] => some tags
  | tags, d :: ds =>
    if d.tag = DFTAG_NULL then registerAll tags ds
    else match register tags d with
      | none => none
      | some tags => registerAll tags ds

/-- `end_off` computed by `HTPstart` -/
def endOff (blocks : List Block) : Nat :=
  blocks.foldl (fun e b =>
    let e := max e (b.myoff + (NDDS_SZ + OFFSET_SZ) + b.dds.length * DD_SZ)
    b.dds.foldl (fun e d => if d.off + d.len > (e : Int) then (d.off + d.len).toNat else e) e) 0

/-- `HTPstart(file_rec)` on the disk image: `none` = FAIL -/
def htpStart (disk : List DBlock) : Option File :=
  match readChain disk disk.length MAGICLEN with
  | none => none
  | some blocks =>
    let dds := slotsOf blocks
    match registerAll [] dds with
    | none => none
    | some tags =>
      some { blocks := blocks, disk := disk, cache := defaultCache, fdirty := false,
             maxref := dds.foldl (fun m d => if m < d.ref then d.ref else m) 0,
             nullBlk := none, nullNext := 0, fEnd := endOff blocks, tags := tags, ub := false }

/-- `Hclose(file_id)`: `HIsync`, then `HTPend` → `HTPsync` -/
def hclose (s : File) : File := htpSync (hiSync s)

/-- the disk image after everything pending has been flushed (`Hsync` with caching on; what `Hclose` leaves) -/
def syncedDisk (s : File) : List DBlock := (hclose s).disk

/-- what a reopen reads: the block chain decoded as `HTPstart` does -/
def decodeBlocks (disk : List DBlock) : Option (List Block) := readChain disk disk.length MAGICLEN

/-- `Hclose` then `Hopen(path, DFACC_RDWR, 0)` (the version element is read, not written) -/
def hreopen (cfg : Cfg) (s : File) : Option File :=
  match htpStart (hclose s).disk with
  | none => none
  | some s => some (hinquire cfg s DFTAG_VERSION 1).2.2

/-! ## op language for the history theorems -/

inductive Op
  | put (tag ref : Nat) (len : Int)
  | startwrite (tag ref : Nat) (len : Int)
  | append (tag ref : Nat) (n : Int)
  | del (tag ref : Nat)
  | dup (tag ref oldTag oldRef : Nat)
  | reuse (tag ref : Nat)
  | inquire (tag ref : Nat)
  | number (tag : Nat)
  | exist (tag ref : Nat)
  | newref
  | tagnewref (tag : Nat)
  | cache (on : Bool)
  | sync
  | reopen
  deriving Repr, DecidableEq

/-- result of one op, as the harness prints it -/
inductive Out
  | ok | fail | unsupported
  | num (n : Int)
  | dd (d : DD)
  | cnt (n : Nat) (oob : Bool)
  deriving Repr, DecidableEq

def Out.ofRes : Res → Out
  | .ok => .ok | .fail => .fail | .num n => .num n | .unsupported => .unsupported
def Out.ofBool (b : Bool) : Out := if b then .ok else .fail

/-- one API call on an open file; `none` = the file could not be reopened -/
def step (cfg : Cfg) (s : File) : Op → Out × Option File
  | .put t r l => let x := hputelement cfg s t r l; (.ofRes x.1, some x.2)
  | .startwrite t r l => let x := hstartwriteEnd cfg s t r l; (.ofRes x.1, some x.2)
  | .append t r n => let x := happend cfg s t r n; (.ofRes x.1, some x.2)
  | .del t r => let x := hdeldd cfg s t r; (.ofBool x.1, some x.2)
  | .dup t r ot or' => let x := hdupdd cfg s t r ot or'; (.ofBool x.1, some x.2)
  | .reuse t r => let x := hdreuse s t r; (.ofBool x.1, some x.2)
  | .inquire t r => let x := hinquire cfg s t r
      ((match x.1 with | some d => .dd d | none => if x.2.1 then .unsupported else .fail), some x.2.2)
  | .number t => let x := hnumber cfg s t; (.cnt x.1 x.2, some s)
  | .exist t r => let x := hexist s t r; (.ofBool x.1, some x.2)
  | .newref => let x := hnewref s; (.num x.1, some x.2)
  | .tagnewref t => let x := htagnewref cfg s t; (.num x.1, some x.2)
  | .cache on => (.ok, some (hcache s on))
  | .sync => (.ok, some (hsync s))
  | .reopen => match hreopen cfg s with
    | none => (.fail, none)
    | some s' => (.ok, some s')

/-- run a history; stops when the file cannot be reopened -/
def run (cfg : Cfg) : File → List Op → List Out × Option File
  | s, [] => ([], some s)
  | s, op :: ops =>
    match step cfg s op with
    | (o, none) => ([o], none)
    | (o, some s') => let r := run cfg s' ops; (o :: r.1, r.2)

end H4.DD
