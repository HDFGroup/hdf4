import H4.Gen.Fn.Vio3
import H4.Lemmas.UnpackMach
/-! `vunpackvs` of `hdf/src/vio.c` as translated from the C text (`H4.Gen.Fn.Vio3`, regenerated on every run), restated as a composition of phases built from
    combinators; the kernel checks the restatement against the generated text (`vunpackvs_phases`, `loop#_body`).  The cursor and the DECODE lemmas are those of
    `H4.Lemmas.VgUnpackText` with `vs` for `vg` (the two states are different types). -/
namespace H4.Lemmas.C07Fn3
open H4 H4.Gen.Fn.Vio3
open H4.C2L hiding andS orS andU orU
open H4.Lemmas.C08Fn3 (andS orS andU orU)

abbrev St := vunpackvs.St

/-- `*bb` -/
def cur (s : St) : Int := (s.buf.getD (Int.toNat (s.bb)) 0)

def rdchk (s : St) : St := vunpackvs.chk s (0 ≤ s.bb ∧ s.bb < s.buf.length)

/-- `bb++` -/
def inc (s : St) : St :=
  let e0 : Int := (s.bb + 1)
  vunpackvs.St.set_bb s (e0)

/-- `UINT16DECODE(bb, x)` (`x` read with `get`, stored with `set`; `pre` = the bounds check of `x` when it is an array cell) -/
def dec16g (s : St) (pre : St → St) (get : St → Int) (set : St → Int → St) : St :=
  have s : St := rdchk s
  have s : St := vunpackvs.chk s ((0 : Int) ≤ (andS (cur s) (255)) ∧ (0 : Int) ≤ 8 ∧ 8 < (32 : Int))
  have s : St := pre s
  have s : St := set s (((((andS (cur s) (255)) * 2 ^ Int.toNat (8))) % 65536))
  have s : St := inc s
  have s : St := rdchk s
  have s : St := pre s
  have s : St := set s ((((orS (get s) ((((andS (cur s) (255))) % 65536)))) % 65536))
  have s : St := inc s
  s

/-- `INT16DECODE(bb, x)`: `x = (int16)((*bb & 0x80) ? ~0xffff : 0) | ((int16)(*bb & 0xff) << 8); bb++; x |= (int16)(*bb & 0xff); bb++;` -/
def decS16g (s : St) (pre : St → St) (get : St → Int) (set : St → Int → St) : St :=
  have s : St := rdchk s
  have s : St := vunpackvs.chk s ((0 : Int) ≤ ((((andS (cur s) (255))) + 32768) % 65536 - 32768) ∧ (0 : Int) ≤ 8 ∧ 8 < (32 : Int))
  have s : St := pre s
  have s : St := set s (((((orS (((((if ((andS (cur s) (128)) ≠ 0) then (-(65535) - 1) else 0)) + 32768) % 65536 - 32768)) ((((((andS (cur s) (255))) + 32768) % 65536 - 32768) * 2 ^ Int.toNat (8))))) + 32768) % 65536 - 32768))
  have s : St := inc s
  have s : St := rdchk s
  have s : St := pre s
  have s : St := set s (((((orS (get s) (((((andS (cur s) (255))) + 32768) % 65536 - 32768)))) + 32768) % 65536 - 32768))
  have s : St := inc s
  s

/-- one of the two middle bytes of `INT32DECODE(bb, x)`: `x |= ((int32)(*bb & 0xff) << k); bb++` -/
def s32sh (s : St) (k : Int) (pre : St → St) (get : St → Int) (set : St → Int → St) : St :=
  have s : St := rdchk s
  have s : St := vunpackvs.chk s ((0 : Int) ≤ (andS (cur s) (255)) ∧ (0 : Int) ≤ k ∧ k < (32 : Int))
  have s : St := pre s
  have s : St := set s ((orS (get s) (((andS (cur s) (255)) * 2 ^ Int.toNat (k)))))
  have s : St := inc s
  s

/-- `INT32DECODE(bb, x)` -/
def decS32g (s : St) (pre : St → St) (get : St → Int) (set : St → Int → St) : St :=
  have s : St := rdchk s
  have s : St := vunpackvs.chk s ((0 : Int) ≤ (andU (cur s) (((255) % 4294967296))) ∧ (0 : Int) ≤ 24 ∧ 24 < (32 : Int))
  have s : St := pre s
  have s : St := set s (((((orU (((((((if ((andS (cur s) (128)) ≠ 0) then (((-(4294967295) - 1)) % 18446744073709551616) else 0)) + 2147483648) % 4294967296 - 2147483648)) % 4294967296)) (((((andU (cur s) (((255) % 4294967296))) * 2 ^ Int.toNat (24))) % 4294967296)))) + 2147483648) % 4294967296 - 2147483648))
  have s : St := inc s
  have s : St := s32sh s 16 pre get set
  have s : St := s32sh s 8 pre get set
  have s : St := rdchk s
  have s : St := pre s
  have s : St := set s ((orS (get s) ((andS (cur s) (255)))))
  have s : St := inc s
  s

def idxchk (idx : St → Int) (reg : St → List Int) (s : St) : St := vunpackvs.chk s (0 ≤ idx s ∧ idx s < (reg s).length)

def guard (s : St) (f : St → St) : St := if s.done ∨ s.gto then s else f s

/-- `HGOTO_ERROR(…, FAIL)` -/
def fail (s : St) : St :=
  have s : St := vunpackvs.St.set_ret_value s ((- 1))
  have s : St := vunpackvs.St.set_gto s (true)
  s

/-- `ret_value = SUCCEED; bb = &buf[len - 5];` -/
def phPre0 (s : St) : St :=
  have s : St := vunpackvs.St.set_ret_value s (0)
  have s : St := vunpackvs.St.set_bb s ((s.len - 5))
  s

def dec16v (s : St) : St := dec16g s (fun s => s) (·.uint16var) vunpackvs.St.set_uint16var
def decS16v (s : St) : St := decS16g s (fun s => s) (·.int16var) vunpackvs.St.set_int16var

/-- `UINT16DECODE(bb, uint16var); vs->version = (int16)uint16var;` -/
def phVer (s : St) : St :=
  have s : St := dec16v s
  have s : St := vunpackvs.St.set_vs_version s ((((s.uint16var) + 32768) % 65536 - 32768))
  s

/-- `UINT16DECODE(bb, uint16var); vs->more = (int16)uint16var; bb = &buf[0];` -/
def phMore (s : St) : St :=
  have s : St := dec16v s
  have s : St := vunpackvs.St.set_vs_more s ((((s.uint16var) + 32768) % 65536 - 32768))
  have s : St := vunpackvs.St.set_bb s (0)
  s

def phPre (s : St) : St := phMore (phVer (phPre0 s))

def phHead (s : St) : St :=
  have s : St := decS16g s (fun s => s) (·.vs_interlace) vunpackvs.St.set_vs_interlace
  have s : St := decS32g s (fun s => s) (·.vs_nvertices) vunpackvs.St.set_vs_nvertices
  have s : St := dec16g s (fun s => s) (·.vs_wlist_ivsize) vunpackvs.St.set_vs_wlist_ivsize
  have s : St := decS16v s
  have s : St := vunpackvs.St.set_vs_wlist_n s (s.int16var)
  s

def phNoFields (s : St) : St :=
  have s : St := vunpackvs.St.set_vs_wlist_bptr_null s (true)
  have s : St := vunpackvs.St.set_vs_wlist_type_null s (true)
  have s : St := vunpackvs.St.set_vs_wlist_off_null s (true)
  have s : St := vunpackvs.St.set_vs_wlist_isize_null s (true)
  have s : St := vunpackvs.St.set_vs_wlist_order_null s (true)
  have s : St := vunpackvs.St.set_vs_wlist_esize_null s (true)
  have s : St := vunpackvs.St.set_vs_wlist_name_null s (true)
  s

/-- `bptr = malloc(sizeof(uint16) * (n * 5))` and the five arrays carved out of it -/
def phAllocB (s : St) : St :=
  have s : St := vunpackvs.St.set_vs_wlist_bptr s (if ((((2 * (((s.vs_wlist_n * 5)) % 18446744073709551616))) % 18446744073709551616) > 9223372036854775807) then [] else List.replicate (Int.toNat (Int.tdiv (((2 * (((s.vs_wlist_n * 5)) % 18446744073709551616))) % 18446744073709551616) 2)) 170)
  have s : St := vunpackvs.St.set_vs_wlist_bptr_null s (decide ((((2 * (((s.vs_wlist_n * 5)) % 18446744073709551616))) % 18446744073709551616) > 9223372036854775807))
  have s : St := if (s.vs_wlist_bptr_null = true) then
      fail s
    else
      s
  have s : St := guard s fun s =>
    have s : St := vunpackvs.St.set_vs_wlist_type s (0)
    have s : St := vunpackvs.St.set_vs_wlist_type_null s (s.vs_wlist_bptr_null)
    s
  have s : St := guard s fun s =>
    have s : St := vunpackvs.St.set_vs_wlist_off s ((s.vs_wlist_type + s.vs_wlist_n))
    have s : St := vunpackvs.St.set_vs_wlist_off_null s (s.vs_wlist_bptr_null)
    s
  have s : St := guard s fun s =>
    have s : St := vunpackvs.St.set_vs_wlist_isize s ((s.vs_wlist_off + s.vs_wlist_n))
    have s : St := vunpackvs.St.set_vs_wlist_isize_null s (s.vs_wlist_bptr_null)
    s
  have s : St := guard s fun s =>
    have s : St := vunpackvs.St.set_vs_wlist_order s ((s.vs_wlist_isize + s.vs_wlist_n))
    have s : St := vunpackvs.St.set_vs_wlist_order_null s (s.vs_wlist_bptr_null)
    s
  have s : St := guard s fun s =>
    have s : St := vunpackvs.St.set_vs_wlist_esize s ((s.vs_wlist_order + s.vs_wlist_n))
    have s : St := vunpackvs.St.set_vs_wlist_esize_null s (s.vs_wlist_bptr_null)
    s
  s

/-- `for (i = 0; …)` around one of the translated loops -/
def phLoop (s : St) (loop : St → St) : St :=
  guard s fun s =>
    have s : St := vunpackvs.St.set_i s (0)
    have s : St := loop s
    s

/-- `name = malloc(sizeof(char *) * n)` -/
def phAllocN (s : St) : St :=
  guard s fun s =>
    have s : St := vunpackvs.St.set_vs_wlist_name s (if ((((8 * ((s.vs_wlist_n) % 18446744073709551616))) % 18446744073709551616) > 9223372036854775807) then [] else List.replicate (Int.toNat (Int.tdiv (((8 * ((s.vs_wlist_n) % 18446744073709551616))) % 18446744073709551616) 8)) [])
    have s : St := vunpackvs.St.set_vs_wlist_name_null s (decide ((((8 * ((s.vs_wlist_n) % 18446744073709551616))) % 18446744073709551616) > 9223372036854775807))
    have s : St := if (s.vs_wlist_name_null = true) then
        fail s
      else
        s
    s

def phFields (M D : Int → Int) (fuel : Nat) (s : St) : St :=
  have s : St := phAllocB s
  have s : St := phLoop s (vunpackvs.loop0 M D fuel)
  have s : St := phLoop s (vunpackvs.loop1 M D fuel)
  have s : St := phLoop s (vunpackvs.loop2 M D fuel)
  have s : St := phLoop s (vunpackvs.loop3 M D fuel)
  have s : St := phAllocN s
  have s : St := phLoop s (vunpackvs.loop4 M D fuel)
  s

/-- `if (n < 0) FAIL else if (n == 0) … else …` -/
def phTable (M D : Int → Int) (fuel : Nat) (s : St) : St :=
  if (s.vs_wlist_n < 0) then
      fail s
    else
      have s : St := if (s.vs_wlist_n = 0) then
          phNoFields s
        else
          phFields M D fuel s
      s

/-- `HIstrncpy(dst, (char *)bb, int16var + 1)` into an array of `*vs` -/
def cpy (s : St) (reg : St → List Int) (setreg : St → List Int → St) : St :=
  have s : St := vunpackvs.chk s ((s.int16var + 1) = 0 ∨ (0 ≤ s.bb ∧ ((((s.buf.drop (Int.toNat (s.bb))).take (Int.toNat ((s.int16var + 1) - 1))).takeWhile (· ≠ 0)).length = (Int.toNat ((s.int16var + 1) - 1)) ∨ (((s.buf.drop (Int.toNat (s.bb))).take (Int.toNat ((s.int16var + 1) - 1))).takeWhile (· ≠ 0)).length < (s.buf.drop (Int.toNat (s.bb))).length)))
  have s : St := vunpackvs.chk s ((s.int16var + 1) = 0 ∨ (0 ≤ 0 ∧ 0 + (Int.ofNat (((s.buf.drop (Int.toNat (s.bb))).take (Int.toNat ((s.int16var + 1) - 1))).takeWhile (· ≠ 0)).length + 1) ≤ (reg s).length))
  have s : St := setreg s (if (s.int16var + 1) = 0 then (reg s) else ((reg s).take (Int.toNat (0))) ++ ((s.buf.drop (Int.toNat (s.bb))).take (((s.buf.drop (Int.toNat (s.bb))).take (Int.toNat ((s.int16var + 1) - 1))).takeWhile (· ≠ 0)).length) ++ [0] ++ ((reg s).drop (Int.toNat (0 + (Int.ofNat (((s.buf.drop (Int.toNat (s.bb))).take (Int.toNat ((s.int16var + 1) - 1))).takeWhile (· ≠ 0)).length + 1)))))
  s

/-- `bb += (size_t)int16var` -/
def skip (s : St) : St := vunpackvs.St.set_bb s ((s.bb + ((s.int16var) % 18446744073709551616)))

def phStr (s : St) (reg : St → List Int) (setreg : St → List Int → St) : St :=
  have s : St := guard s decS16v
  have s : St := guard s fun s => cpy s reg setreg
  have s : St := guard s skip
  s

def phExtag (s : St) : St := guard s fun s => dec16g s (fun s => s) (·.vs_extag) vunpackvs.St.set_vs_extag
def phExref (s : St) : St := guard s fun s => dec16g s (fun s => s) (·.vs_exref) vunpackvs.St.set_vs_exref

/-- the middle copy of a trailer field: `INT16DECODE(bb, temp); if (temp != x) HGOTO_ERROR(DFE_BADVH, FAIL);` -/
def phMid (s : St) (x : St → Int) : St :=
  have s : St := guard s fun s => decS16g s (fun s => s) (·.temp) vunpackvs.St.set_temp
  have s : St := guard s fun s =>
    if (s.temp ≠ x s) then
        fail s
      else
        s
  s

/-- one shifted byte of `UINT32DECODE(bb, vs->flags)` -/
def f32sh (s : St) (k : Int) (comb : St → Int → Int) : St :=
  have s : St := rdchk s
  have s : St := vunpackvs.chk s ((0 : Int) ≤ (((andS (cur s) (255))) % 4294967296) ∧ (0 : Int) ≤ k ∧ k < (32 : Int))
  have s : St := vunpackvs.St.set_vs_flags s (comb s (((((((andS (cur s) (255))) % 4294967296) * 2 ^ Int.toNat (k))) % 4294967296)))
  have s : St := inc s
  s

/-- `UINT32DECODE(bb, vs->flags)` -/
def decFlags (s : St) : St :=
  have s : St := f32sh s 24 (fun _ v => v)
  have s : St := f32sh s 16 (fun s v => (orU (s.vs_flags) (v)))
  have s : St := f32sh s 8 (fun s v => (orU (s.vs_flags) (v)))
  have s : St := rdchk s
  have s : St := vunpackvs.St.set_vs_flags s ((orU (s.vs_flags) ((((andS (cur s) (255))) % 4294967296))))
  have s : St := inc s
  s

/-- `vs->alist = malloc(nattrs * sizeof(vs_attr_t))`: three field arrays -/
def allocAlist (s : St) : St :=
  have s : St := vunpackvs.St.set_vs_alist_findex s (if ((((((s.vs_nattrs) % 18446744073709551616) * 8)) % 18446744073709551616) > 9223372036854775807) then [] else List.replicate (Int.toNat (Int.tdiv (((((s.vs_nattrs) % 18446744073709551616) * 8)) % 18446744073709551616) 8)) 170)
  have s : St := vunpackvs.St.set_vs_alist_atag s (if ((((((s.vs_nattrs) % 18446744073709551616) * 8)) % 18446744073709551616) > 9223372036854775807) then [] else List.replicate (Int.toNat (Int.tdiv (((((s.vs_nattrs) % 18446744073709551616) * 8)) % 18446744073709551616) 8)) 170)
  have s : St := vunpackvs.St.set_vs_alist_aref s (if ((((((s.vs_nattrs) % 18446744073709551616) * 8)) % 18446744073709551616) > 9223372036854775807) then [] else List.replicate (Int.toNat (Int.tdiv (((((s.vs_nattrs) % 18446744073709551616) * 8)) % 18446744073709551616) 8)) 170)
  have s : St := vunpackvs.St.set_vs_alist_null s (decide ((((((s.vs_nattrs) % 18446744073709551616) * 8)) % 18446744073709551616) > 9223372036854775807))
  have s : St := if (s.vs_alist_null = true) then
      fail s
    else
      s
  s

def phAttrs (M D : Int → Int) (fuel : Nat) (s : St) : St :=
  have s : St := decS32g s (fun s => s) (·.vs_nattrs) vunpackvs.St.set_vs_nattrs
  have s : St := allocAlist s
  have s : St := phLoop s (vunpackvs.loop5 M D fuel)
  s

def phV4 (M D : Int → Int) (fuel : Nat) (s : St) : St :=
  guard s fun s =>
    if (s.vs_version = 4) then
        have s : St := decFlags s
        have s : St := if ((andU (s.vs_flags) (((1) % 4294967296))) ≠ 0) then
            have s : St := phAttrs M D fuel s
            s
          else
            s
        s
      else
        s

/-- `if (vs->version <= VSET_OLD_TYPES) for (…) type[i] = map_from_old_types(type[i]);` -/
def phOld (M D : Int → Int) (fuel : Nat) (s : St) : St :=
  guard s fun s =>
    if (s.vs_version ≤ 2) then
        have s : St := vunpackvs.St.set_i s (0)
        have s : St := vunpackvs.loop6 M D fuel s
        s
      else
        s

/-- the body of `if (vs->version <= 4)` -/
def phBody (M D : Int → Int) (fuel : Nat) (s : St) : St :=
  have s : St := phHead s
  have s : St := phTable M D fuel s
  have s : St := phStr s (·.vs_vsname) vunpackvs.St.set_vs_vsname
  have s : St := phStr s (·.vs_vsclass) vunpackvs.St.set_vs_vsclass
  have s : St := phExtag s
  have s : St := phExref s
  have s : St := phMid s (·.vs_version)
  have s : St := phMid s (·.vs_more)
  have s : St := phV4 M D fuel s
  have s : St := phOld M D fuel s
  have s : St := phLoop s (vunpackvs.loop7 M D fuel)
  s

/-- `done: return ret_value;` -/
def phEpi (s : St) : St :=
  if s.done then s else
    have s : St := vunpackvs.St.set_gto s (false)
    have s : St := vunpackvs.St.set_ret s (s.ret_value)
    have s : St := vunpackvs.St.set_done s (true)
    s

def run (M D : Int → Int) (fuel : Nat) (s : St) : St :=
  have s : St := phPre s
  have s : St := if (s.vs_version ≤ 4) then phBody M D fuel s else s
  phEpi s

def st0 (a : St) : St :=
  { vs_version := a.vs_version, vs_more := a.vs_more, vs_interlace := a.vs_interlace, vs_nvertices := a.vs_nvertices, vs_wlist_ivsize := a.vs_wlist_ivsize, vs_wlist_n := a.vs_wlist_n, vs_wlist_bptr_null := a.vs_wlist_bptr_null, vs_wlist_type_null := a.vs_wlist_type_null, vs_wlist_off_null := a.vs_wlist_off_null, vs_wlist_isize_null := a.vs_wlist_isize_null, vs_wlist_order_null := a.vs_wlist_order_null, vs_wlist_esize_null := a.vs_wlist_esize_null, vs_wlist_name_null := a.vs_wlist_name_null, vs_wlist_bptr := a.vs_wlist_bptr, vs_wlist_type := a.vs_wlist_type, vs_wlist_off := a.vs_wlist_off, vs_wlist_isize := a.vs_wlist_isize, vs_wlist_order := a.vs_wlist_order, vs_wlist_esize := a.vs_wlist_esize, vs_wlist_name := a.vs_wlist_name, vs_vsname := a.vs_vsname, vs_vsclass := a.vs_vsclass, vs_extag := a.vs_extag, vs_exref := a.vs_exref, vs_flags := a.vs_flags, vs_nattrs := a.vs_nattrs, vs_alist_null := a.vs_alist_null, vs_alist_findex := a.vs_alist_findex, vs_alist_atag := a.vs_alist_atag, vs_alist_aref := a.vs_alist_aref, buf := a.buf, len := a.len }

/-- named arguments: the translator orders its parameters by first use in the C text -/
def vunpackvsC (M D : Int → Int) (fuel : Nat) (a : St) : St :=
  Gen.Fn.Vio3.vunpackvs (map_from_old_types := M) (DFKNTsize := D) (fuel := fuel) (vs_version := a.vs_version) (vs_more := a.vs_more) (vs_interlace := a.vs_interlace) (vs_nvertices := a.vs_nvertices) (vs_wlist_ivsize := a.vs_wlist_ivsize) (vs_wlist_n := a.vs_wlist_n) (vs_wlist_bptr_null := a.vs_wlist_bptr_null) (vs_wlist_type_null := a.vs_wlist_type_null) (vs_wlist_off_null := a.vs_wlist_off_null) (vs_wlist_isize_null := a.vs_wlist_isize_null) (vs_wlist_order_null := a.vs_wlist_order_null) (vs_wlist_esize_null := a.vs_wlist_esize_null) (vs_wlist_name_null := a.vs_wlist_name_null) (vs_wlist_bptr := a.vs_wlist_bptr) (vs_wlist_type := a.vs_wlist_type) (vs_wlist_off := a.vs_wlist_off) (vs_wlist_isize := a.vs_wlist_isize) (vs_wlist_order := a.vs_wlist_order) (vs_wlist_esize := a.vs_wlist_esize) (vs_wlist_name := a.vs_wlist_name) (vs_vsname := a.vs_vsname) (vs_vsclass := a.vs_vsclass) (vs_extag := a.vs_extag) (vs_exref := a.vs_exref) (vs_flags := a.vs_flags) (vs_nattrs := a.vs_nattrs) (vs_alist_null := a.vs_alist_null) (vs_alist_findex := a.vs_alist_findex) (vs_alist_atag := a.vs_alist_atag) (vs_alist_aref := a.vs_alist_aref) (buf := a.buf) (len := a.len)

theorem vunpackvs_phases (M D : Int → Int) (fuel : Nat) (a : St) : vunpackvsC M D fuel a = run M D fuel (st0 a) := by
  kernel_rfl

/-- a DECODE macro `d` into the cell `reg[idx]`, behind its bounds check -/
def deca (d : St → (St → St) → (St → Int) → (St → Int → St) → St) (s : St) (idx : St → Int) (reg : St → List Int) (setreg : St → List Int → St) : St :=
  d s (idxchk idx reg) (fun s => ((reg s).getD (Int.toNat (idx s)) 0)) (fun s v => setreg s ((reg s).set (Int.toNat (idx s)) v))

theorem loop0_body (M D : Int → Int) (fuel : Nat) (s : St) : vunpackvs.loop0.body M D fuel s =
    (have s : St := deca decS16g s (fun s => (s.vs_wlist_type + s.i)) (·.vs_wlist_bptr) vunpackvs.St.set_vs_wlist_bptr
     vunpackvs.St.set_i s ((s.i + 1))) := by kernel_rfl

theorem loop1_body (M D : Int → Int) (fuel : Nat) (s : St) : vunpackvs.loop1.body M D fuel s =
    (have s : St := deca dec16g s (fun s => (s.vs_wlist_isize + s.i)) (·.vs_wlist_bptr) vunpackvs.St.set_vs_wlist_bptr
     vunpackvs.St.set_i s ((s.i + 1))) := by kernel_rfl

theorem loop2_body (M D : Int → Int) (fuel : Nat) (s : St) : vunpackvs.loop2.body M D fuel s =
    (have s : St := deca dec16g s (fun s => (s.vs_wlist_off + s.i)) (·.vs_wlist_bptr) vunpackvs.St.set_vs_wlist_bptr
     vunpackvs.St.set_i s ((s.i + 1))) := by kernel_rfl

theorem loop3_body (M D : Int → Int) (fuel : Nat) (s : St) : vunpackvs.loop3.body M D fuel s =
    (have s : St := deca dec16g s (fun s => (s.vs_wlist_order + s.i)) (·.vs_wlist_bptr) vunpackvs.St.set_vs_wlist_bptr
     vunpackvs.St.set_i s ((s.i + 1))) := by kernel_rfl

/-- `name[i] = malloc(int16var + 1)` (FAIL when refused) -/
def allocRow (s : St) : St :=
  have s : St := vunpackvs.chk s (0 ≤ s.i ∧ s.i < s.vs_wlist_name.length)
  have s : St := vunpackvs.St.set_vs_wlist_name s (s.vs_wlist_name.set (Int.toNat (s.i)) (if (((((((s.int16var + 1)) % 18446744073709551616) * 1)) % 18446744073709551616) > 9223372036854775807) then [] else List.replicate (Int.toNat (Int.tdiv ((((((s.int16var + 1)) % 18446744073709551616) * 1)) % 18446744073709551616) 1)) 170))
  have s : St := if (((((((s.int16var + 1)) % 18446744073709551616) * 1)) % 18446744073709551616) > 9223372036854775807) then
      fail s
    else
      s
  s

/-- `HIstrncpy(name[i], (char *)bb, int16var + 1)` -/
def cpyRow (s : St) : St :=
  have s : St := vunpackvs.chk s (0 ≤ s.i ∧ s.i < s.vs_wlist_name.length)
  cpy s (fun s => (s.vs_wlist_name.getD (Int.toNat (s.i)) [])) (fun s v => vunpackvs.St.set_vs_wlist_name s (s.vs_wlist_name.set (Int.toNat (s.i)) v))

theorem loop4_body (M D : Int → Int) (fuel : Nat) (s : St) : vunpackvs.loop4.body M D fuel s =
    (have s : St := decS16v s
     have s : St := allocRow s
     have s : St := guard s cpyRow
     have s : St := guard s skip
     have s : St := guard s fun s => vunpackvs.St.set_i s ((s.i + 1))
     s) := by kernel_rfl

theorem loop5_body (M D : Int → Int) (fuel : Nat) (s : St) : vunpackvs.loop5.body M D fuel s =
    (have s : St := deca decS32g s (·.i) (·.vs_alist_findex) vunpackvs.St.set_vs_alist_findex
     have s : St := deca dec16g s (·.i) (·.vs_alist_atag) vunpackvs.St.set_vs_alist_atag
     have s : St := deca dec16g s (·.i) (·.vs_alist_aref) vunpackvs.St.set_vs_alist_aref
     vunpackvs.St.set_i s ((s.i + 1))) := by kernel_rfl

theorem loop6_body (M D : Int → Int) (fuel : Nat) (s : St) : vunpackvs.loop6.body M D fuel s =
    (have s : St := idxchk (fun s => (s.vs_wlist_type + s.i)) (·.vs_wlist_bptr) s
     have s : St := vunpackvs.St.set_vs_wlist_bptr s (s.vs_wlist_bptr.set (Int.toNat ((s.vs_wlist_type + s.i))) ((M ((s.vs_wlist_bptr.getD (Int.toNat ((s.vs_wlist_type + s.i))) 0)))))
     vunpackvs.St.set_i s ((s.i + 1))) := by kernel_rfl

theorem loop7_body (M D : Int → Int) (fuel : Nat) (s : St) : vunpackvs.loop7.body M D fuel s =
    (have s : St := idxchk (fun s => (s.vs_wlist_order + s.i)) (·.vs_wlist_bptr) s
     have s : St := idxchk (fun s => (s.vs_wlist_type + s.i)) (·.vs_wlist_bptr) s
     have s : St := idxchk (fun s => (s.vs_wlist_esize + s.i)) (·.vs_wlist_bptr) s
     have s : St := vunpackvs.St.set_vs_wlist_bptr s (s.vs_wlist_bptr.set (Int.toNat ((s.vs_wlist_esize + s.i))) (((((s.vs_wlist_bptr.getD (Int.toNat ((s.vs_wlist_order + s.i))) 0) * (D ((orS ((s.vs_wlist_bptr.getD (Int.toNat ((s.vs_wlist_type + s.i))) 0)) (4096)))))) % 65536)))
     vunpackvs.St.set_i s ((s.i + 1))) := by kernel_rfl

open H4.Lemmas.C08Fn3 (be16 be32 S32 w16 Mach)

theorem chk_true (s : St) (c : Prop) [Decidable c] (h : c) : vunpackvs.chk s c = s := by
  simp [vunpackvs.chk, h]

def uL : Cursor St where
  buf := (·.buf)
  pos := (·.bb)
  ub := (·.ub)
  setBuf := fun s b => { s with buf := b }
  setPos := vunpackvs.St.set_bb
  chk := fun s c _ => vunpackvs.chk s c

theorem uLaw : uL.Lawful := (Cursor.Plain.lawfulW (setUb := fun s u => { s with ub := u }) {}).toLawful

def M : Mach St :=
  { L := uL, lawful := uLaw, oof := (·.oof), done := (·.done), gto := (·.gto), ub_set := fun _ _ => rfl, oof_set := fun _ _ => rfl,
    done_set := fun _ _ => rfl, gto_set := fun _ _ => rfl }

structure Ok (B : List Int) (s : St) (p : Nat) : Prop where
  buf : s.buf = B
  bb : s.bb = p
  ub : s.ub = false
  oof : s.oof = false
  done : s.done = false
  gto : s.gto = false

theorem Ok.g {B s p} (h : Ok B s p) : M.Ok B s p := ⟨h.buf, h.bb, h.ub, h.oof, h.done, h.gto⟩
theorem Ok.of {B s p} (h : M.Ok B s p) : Ok B s p := ⟨h.buf, h.bb, h.ub, h.oof, h.done, h.gto⟩

abbrev Frame (f : St → St) : Prop := M.Frame f

theorem Ok.frame {B s p} (h : Ok B s p) {f : St → St} (hf : Frame f) : Ok B (f s) p := Ok.of (h.g.frame hf)
theorem Ok.move {B s p} (h : Ok B s p) (q : Nat) : Ok B (vunpackvs.St.set_bb s (q : Int)) q := Ok.of (h.g.move q)

theorem dec16g_eq (s : St) (pre : St → St) (get : St → Int) (set : St → Int → St) : dec16g s pre get set = dec16uP uL ⟨get, set⟩ pre s := by
  kernel_rfl
theorem decS16g_eq (s : St) (pre : St → St) (get : St → Int) (set : St → Int → St) : decS16g s pre get set = dec16sP uL ⟨get, set⟩ pre s := by
  kernel_rfl
theorem decS32g_eq (s : St) (pre : St → St) (get : St → Int) (set : St → Int → St) : decS32g s pre get set = dec32sP uL ⟨get, set⟩ pre s := by
  kernel_rfl
theorem decFlags_eq (s : St) : decFlags s = C2L.dec32u uL ⟨(·.vs_flags), vunpackvs.St.set_vs_flags⟩ s := by kernel_rfl

theorem r16 : M.Reads dec16g 2 be16 := .u16 dec16g_eq
theorem r16s : M.Reads decS16g 2 (fun B p => w16 (be16 B p)) := .s16 decS16g_eq
theorem r32s : M.Reads decS32g 4 (fun B p => S32 (be32 B p)) := .s32 decS32g_eq

variable {d : St → (St → St) → (St → Int) → (St → Int → St) → St} {w : Nat} {val : List Int → Nat → Int}

theorem dec_ok (hd : M.Reads d w val) (get : St → Int) (set : St → Int → St) {B s p} (h : Ok B s p) (hl : p + w ≤ B.length)
    (hf : ∀ v, Frame (set · v) := by intro _; exact {}) (hT : Tgt.Lawful uL ⟨get, set⟩ := by tgt_law) :
    d s (fun s => s) get set = vunpackvs.St.set_bb (set s (val B p)) ((p + w : Nat) : Int) ∧
      Ok B (vunpackvs.St.set_bb (set s (val B p)) ((p + w : Nat) : Int)) (p + w) :=
  let ⟨q, o⟩ := M.dec_ok hd hT.on hf h.g hl trivial
  ⟨q, Ok.of o⟩

theorem deca_ok (hd : M.Reads d w val) (idx : St → Int) (reg : St → List Int) (setreg : St → List Int → St) {B s p} (h : Ok B s p)
    (hl : p + w ≤ B.length) (k : Nat) (hi : idx s = k) (hk : k < (reg s).length) (hf : ∀ l, Frame (setreg · l) := by intro _; exact {})
    (hR : uL.Reg idx reg setreg := by exact {}) :
    deca d s idx reg setreg = vunpackvs.St.set_bb (setreg s ((reg s).set k (val B p))) ((p + w : Nat) : Int) ∧
      Ok B (vunpackvs.St.set_bb (setreg s ((reg s).set k (val B p))) ((p + w : Nat) : Int)) (p + w) :=
  let ⟨q, o⟩ := M.deca_ok hd hR hf h.g hl k hi hk
  ⟨q, Ok.of o⟩

theorem dec16v_ok {B s p} (h : Ok B s p) (hl : p + 2 ≤ B.length) :
    dec16v s = (s.set_uint16var (be16 B p)).set_bb ((p + 2 : Nat) : Int) ∧
      Ok B ((s.set_uint16var (be16 B p)).set_bb ((p + 2 : Nat) : Int)) (p + 2) :=
  dec_ok r16 (·.uint16var) vunpackvs.St.set_uint16var h hl

theorem decFlags_ok {B s p} (h : Ok B s p) (hl : p + 4 ≤ B.length) :
    decFlags s = (s.set_vs_flags (be32 B p)).set_bb ((p + 4 : Nat) : Int) ∧
      Ok B ((s.set_vs_flags (be32 B p)).set_bb ((p + 4 : Nat) : Int)) (p + 4) := by
  obtain ⟨q, o⟩ := M.dec32u_ok (T := ⟨(·.vs_flags), vunpackvs.St.set_vs_flags⟩) (by tgt_law) (fun _ => {}) h.g hl
  exact ⟨(decFlags_eq s).trans q, Ok.of o⟩

theorem tInt16var : Tgt.Lawful uL ⟨(·.int16var), vunpackvs.St.set_int16var⟩ := by tgt_law
theorem tTemp : Tgt.Lawful uL ⟨(·.temp), vunpackvs.St.set_temp⟩ := by tgt_law

end H4.Lemmas.C07Fn3
