import H4.ExtElem
import H4.Lemmas.ElemDisk
/-! External elements: lookups in the model's tables, the effect of one `HXPwrite`/`HXPread` on the external files. -/
namespace H4.ExtElem
open H4.Elem

theorem elem_setElem (w : XWorld) (e e' : Nat) (x : XElem) : (w.setElem e x).elem e' = if e' = e then some x else w.elem e' :=
  find?_cons_filter _ _ _ _

theorem acc_setAcc (w : XWorld) (h h' : Nat) (a : XAcc) : (w.setAcc h a).acc h' = if h' = h then some a else w.acc h' :=
  find?_cons_filter _ _ _ _

theorem file_setFile (w : XWorld) (f g : Nat) (b : Bytes) : (w.setFile f b).file g = if g = f then b else w.file g := by
  unfold XWorld.file XWorld.setFile
  simp only [List.getD_eq_getElem?_getD, List.getElem?_set, List.length_append, List.length_replicate]
  by_cases c : g = f
  · subst c
    have : g < w.files.length + (g + 1 - w.files.length) := by omega
    simp [this]
  · have c' : ¬ (f = g) := fun e => c e.symm
    simp only [c', if_false, c]
    exact getD_append_replicate ..

@[simp] theorem file_setElem (w : XWorld) (e : Nat) (x : XElem) (g : Nat) : (w.setElem e x).file g = w.file g := rfl
@[simp] theorem file_setAcc (w : XWorld) (h : Nat) (a : XAcc) (g : Nat) : (w.setAcc h a).file g = w.file g := rfl
@[simp] theorem elem_setAcc (w : XWorld) (h : Nat) (a : XAcc) (e : Nat) : (w.setAcc h a).elem e = w.elem e := rfl
@[simp] theorem elem_setFile (w : XWorld) (f : Nat) (b : Bytes) (e : Nat) : (w.setFile f b).elem e = w.elem e := rfl
@[simp] theorem acc_setFile (w : XWorld) (f : Nat) (b : Bytes) (h : Nat) : (w.setFile f b).acc h = w.acc h := rfl
@[simp] theorem acc_setElem (w : XWorld) (e : Nat) (x : XElem) (h : Nat) : (w.setElem e x).acc h = w.acc h := rfl

theorem xwrite_effect (w : XWorld) (h : Nat) (bs : Bytes) (a : XAcc) (x : XElem) (ha : w.acc h = some a)
    (hcw : a.canWrite = true) (hx : w.elem a.elem = some x) :
    (xwrite w h bs).2 = .num bs.length ∧
    (∀ g y, rd ((xwrite w h bs).1.file g) y =
      if g = x.file ∧ x.off + a.posn ≤ y ∧ y < x.off + a.posn + bs.length then bs.getD (y - (x.off + a.posn)) 0 else rd (w.file g) y) ∧
    (∀ e, (xwrite w h bs).1.elem e = if e = a.elem then some { x with len := max x.len (a.posn + bs.length) } else w.elem e) ∧
    (∀ h', (xwrite w h bs).1.acc h' = if h' = h then some { a with posn := a.posn + bs.length } else w.acc h') := by
  have hcw' : ¬ (a.canWrite = false) := by rw [hcw]; exact fun c => by cases c
  have e : xwrite w h bs =
      (((w.setFile x.file (diskWrite (w.file x.file) (x.off + a.posn) bs)).setElem a.elem { x with len := max x.len (a.posn + bs.length) }).setAcc h
        { a with posn := a.posn + bs.length }, .num bs.length) := by
    unfold xwrite
    simp only [ha]
    rw [if_neg hcw']
    simp only [hx]
  rw [e]
  refine ⟨rfl, ?_, ?_, ?_⟩
  · intro g y
    simp only [file_setAcc, file_setElem, file_setFile]
    by_cases c : g = x.file
    · subst c
      simp only [if_true, true_and]
      exact rd_diskWrite _ _ _ _
    · simp only [c, if_false, false_and]
  · intro e'
    simp only [elem_setAcc, elem_setElem, elem_setFile]
  · intro h'
    rw [acc_setAcc]
    simp only [acc_setElem, acc_setFile]

theorem xread_effect (w : XWorld) (h : Nat) (n : Int) (bs : Bytes) (hr : (xread w h n).2 = .data bs) :
    ∃ a x, w.acc h = some a ∧ w.elem a.elem = some x ∧ 0 ≤ n ∧
      bs = (List.range (readCount x.len a.posn n.toNat)).map (fun i => rd (w.file x.file) (x.off + a.posn + i)) ∧
      (∀ g, (xread w h n).1.file g = w.file g) ∧ (∀ e, (xread w h n).1.elem e = w.elem e) ∧
      (xread w h n).1.acc h = some { a with posn := a.posn + readCount x.len a.posn n.toNat } := by
  unfold xread at hr ⊢
  cases ha : w.acc h with
  | none => rw [ha] at hr; cases hr
  | some a =>
    rw [ha] at hr
    simp only at hr ⊢
    cases hx : w.elem a.elem with
    | none => rw [hx] at hr; cases hr
    | some x =>
      rw [hx] at hr
      simp only at hr ⊢
      by_cases hn : n < 0
      · rw [if_pos hn] at hr; cases hr
      rw [if_neg hn] at hr ⊢
      have hcnt : (if (if n = 0 ∨ (a.posn : Int) + n > x.len then (x.len : Int) - a.posn else n) < 0 then (0 : Int)
            else (if n = 0 ∨ (a.posn : Int) + n > x.len then (x.len : Int) - a.posn else n)).toNat = readCount x.len a.posn n.toNat := by
        rw [Int.add_comm]
        rcases readLen_spec x.len a.posn n (by omega) with ⟨h1, h2⟩ | ⟨h1, h2, _⟩
        · rw [if_pos h1, h2]; rfl
        · rw [if_neg (by omega), h2]
      rw [hcnt] at hr ⊢
      cases hd : diskRead (w.file x.file) (x.off + a.posn) (readCount x.len a.posn n.toNat) with
      | none => rw [hd] at hr; cases hr
      | some b =>
        rw [hd] at hr
        simp only [XRes.data.injEq] at hr
        subst hr
        refine ⟨a, x, rfl, hx, by omega, ?_, fun _ => rfl, fun _ => rfl, ?_⟩
        · rw [diskRead_eq _ _ _ _ hd]
        · rw [acc_setAcc, if_pos rfl]

end H4.ExtElem
