import H4.Tools
/-! The models of `hdiff` and `hdfimport` in `H4.Tools` by themselves (C19): the distance and limit of the element test, "not comparable" on finite values, the
    count under another `-e` cap; one pass and one run of `hdfimport` whatever the flags hold when they begin (in the namespace of the C19 theorems). -/
namespace H4.Props.C19
open H4.Tools

theorem absDiff_self (t : NT) (a : Int) : absDiff t a a = 0 := by
  cases t <;> simp [absDiff]

theorem absDiff_comm (t : NT) (a b : Int) : absDiff t a b = absDiff t b a := by
  have : ((stored t a) - (stored t b)).natAbs = ((stored t b) - (stored t a)).natAbs := by omega
  unfold absDiff; rw [this]

theorem absLimit_nonneg (t : NT) (o : DiffOpts) (h : 0 ≤ o.tl8) : 0 ≤ absLimit t o := by
  cases t <;> simp [absLimit, h] <;> exact Int.tdiv_nonneg h (by decide)

theorem flagged_of_exact {α β} (d : α → α → Bool) (v : α → β) (hd : ∀ a b, d a b = false ↔ v a = v b) (a b : α) (h : v a ≠ v b) :
    d a b = true ∧ d b a = true := by
  constructor
  · cases e : d a b
    · exact absurd ((hd a b).mp e) h
    · rfl
  · cases e : d b a
    · exact absurd ((hd b a).mp e).symm h
    · rfl

theorem notComparableV_fin (t : NT) (o : DiffOpts) (a b : Int) :
    notComparableV t o (.fin a) (.fin b) = notComparable t o a b := by
  cases t <;> try rfl
  all_goals
    simp only [notComparableV, notComparable, FV.isZero, stored]
    by_cases ha : a = 0 <;> by_cases hb : b = 0 <;> simp [ha, hb]

theorem FV.sub_abs_comm (a b : FV) : (a.sub b).abs = (b.sub a).abs := by
  cases a <;> cases b <;> simp [FV.sub, FV.abs]
  omega

theorem loopV_fst_cap (t : NT) (o : DiffOpts) (m1 m2 : Nat) : ∀ (l1 l2 : List FV) (n pr1 pr2 : Nat),
    (arrayDiffLoopV t { o with maxErr := m1 } l1 l2 n pr1).1 = (arrayDiffLoopV t { o with maxErr := m2 } l1 l2 n pr2).1 := by
  intro l1
  induction l1 with
  | nil => intro l2 n pr1 pr2; simp [arrayDiffLoopV]
  | cons a as ih =>
    intro l2 n pr1 pr2
    cases l2 with
    | nil => simp [arrayDiffLoopV]
    | cons b bs =>
      have hd : differsV t { o with maxErr := m1 } a b = differsV t { o with maxErr := m2 } a b := by
        cases t <;> rfl
      simp only [arrayDiffLoopV, hd]
      split
      · split <;> split <;> exact ih bs _ _ _
      · exact ih bs _ _ _

theorem import_pass_initial (fl : ImpFlags) (f : ImpFile) : impPass fl f = impPass {} f := rfl

theorem import_run_map {β} (g : ImpRes → β) (k : ImpFile → β)
    (hgk : ∀ fl f fl' r, impPass fl f = some (fl', r) → g r = k f) (fl : ImpFlags) (fs : List ImpFile) (rs : List ImpRes)
    (h : importRun fl fs = some rs) : rs.map g = fs.map k := by
  induction fs generalizing fl rs with
  | nil => simp [importRun] at h; subst h; rfl
  | cons f rest ih =>
    rw [importRun] at h
    cases hp : impPass fl f with
    | none => simp [hp] at h
    | some p =>
      obtain ⟨fl', r⟩ := p
      simp only [hp] at h
      cases hr : importRun fl' rest with
      | none => simp [hr] at h
      | some rs' =>
        simp [hr] at h; subst h
        simp [ih fl' rs' hr, hgk fl f fl' r hp]

end H4.Props.C19
