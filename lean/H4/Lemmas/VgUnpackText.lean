import H4.Gen.Fn.Vgp3
import H4.Lemmas.UnpackMach
/-! `vunpackvg` of `hdf/src/vgp.c` as translated from the C text (`H4.Gen.Fn.Vgp3`, regenerated on every run), restated as a composition of phases built from a few
    combinators; the kernel checks the restatement against the generated text (`vunpackvg_phases`, `loop#_body`), so a change of the C text breaks it. -/
namespace H4.Lemmas.C08Fn3
open H4 H4.Gen.Fn.Vgp3 H4.C2L

abbrev St := vunpackvg.St

/-- `*bb` -/
def cur (s : St) : Int := (s.buf.getD (Int.toNat (s.bb)) 0)

def rdchk (s : St) : St := vunpackvg.chk s (0 ≤ s.bb ∧ s.bb < s.buf.length)

/-- `bb++` -/
def inc (s : St) : St :=
  let e0 : Int := (s.bb + 1)
  vunpackvg.St.set_bb s (e0)

/-- `UINT16DECODE(bb, x)`: `x = (uint16)((*bb & 0xff) << 8); bb++; x |= (uint16)(*bb & 0xff); bb++;` where `x` is read with `get`
    and stored with `set`; `pre` is the bounds check of `x` when it is an array cell -/
def dec16g (s : St) (pre : St → St) (get : St → Int) (set : St → Int → St) : St :=
  have s : St := rdchk s
  have s : St := vunpackvg.chk s ((0 : Int) ≤ (andS (cur s) (255)) ∧ (0 : Int) ≤ 8 ∧ 8 < (32 : Int))
  have s : St := pre s
  have s : St := set s (((((andS (cur s) (255)) * 2 ^ Int.toNat (8))) % 65536))
  have s : St := inc s
  have s : St := rdchk s
  have s : St := pre s
  have s : St := set s ((((orS (get s) ((((andS (cur s) (255))) % 65536)))) % 65536))
  have s : St := inc s
  s

/-- `UINT16DECODE(bb, uint16var)` -/
def dec16v (s : St) : St := dec16g s (fun s => s) (·.uint16var) vunpackvg.St.set_uint16var

/-- `UINT16DECODE(bb, reg[idx])` -/
def dec16a (s : St) (idx : St → Int) (reg : St → List Int) (setreg : St → List Int → St) : St :=
  dec16g s (fun s => vunpackvg.chk s (0 ≤ idx s ∧ idx s < (reg s).length)) (fun s => ((reg s).getD (Int.toNat (idx s)) 0))
    (fun s v => setreg s ((reg s).set (Int.toNat (idx s)) v))

/-- `ret_value = SUCCEED; bb = &buf[len - 5];` -/
def phPre0 (s : St) : St :=
  have s : St := vunpackvg.St.set_ret_value s (0)
  have s : St := vunpackvg.St.set_bb s ((s.len - 5))
  s

/-- `UINT16DECODE(bb, uint16var); vg->version = (int16)uint16var;` -/
def phVer (s : St) : St :=
  have s : St := dec16v s
  have s : St := vunpackvg.St.set_vg_version s ((((s.uint16var) + 32768) % 65536 - 32768))
  s

/-- `UINT16DECODE(bb, uint16var); vg->more = (int16)uint16var; bb = &buf[0];` -/
def phMore (s : St) : St :=
  have s : St := dec16v s
  have s : St := vunpackvg.St.set_vg_more s ((((s.uint16var) + 32768) % 65536 - 32768))
  have s : St := vunpackvg.St.set_bb s (0)
  s

def phPre (s : St) : St := phMore (phVer (phPre0 s))

def guard (s : St) (f : St → St) : St := if s.done ∨ s.gto then s else f s

/-- `UINT16DECODE(bb, vg->nvelt); vg->msize = …; vg->tag = malloc(…); vg->ref = malloc(…); if (tag == NULL || ref == NULL) HGOTO_ERROR` -/
def phA (s : St) : St :=
  have s : St := dec16g s (fun s => s) (·.vg_nvelt) vunpackvg.St.set_vg_nvelt
  have s : St := vunpackvg.St.set_vg_msize s ((if (s.vg_nvelt > ((64) % 4294967296)) then s.vg_nvelt else 64))
  have s : St := vunpackvg.St.set_vg_tag s (if ((((((s.vg_msize) % 18446744073709551616) * 2)) % 18446744073709551616) > 9223372036854775807) then [] else List.replicate (Int.toNat (Int.tdiv (((((s.vg_msize) % 18446744073709551616) * 2)) % 18446744073709551616) 2)) 170)
  have s : St := vunpackvg.St.set_vg_tag_null s (decide ((((((s.vg_msize) % 18446744073709551616) * 2)) % 18446744073709551616) > 9223372036854775807))
  have s : St := vunpackvg.St.set_vg_ref s (if ((((((s.vg_msize) % 18446744073709551616) * 2)) % 18446744073709551616) > 9223372036854775807) then [] else List.replicate (Int.toNat (Int.tdiv (((((s.vg_msize) % 18446744073709551616) * 2)) % 18446744073709551616) 2)) 170)
  have s : St := vunpackvg.St.set_vg_ref_null s (decide ((((((s.vg_msize) % 18446744073709551616) * 2)) % 18446744073709551616) > 9223372036854775807))
  have s : St := if ((s.vg_tag_null = true) ∨ (s.vg_ref_null = true)) then
      have s : St := vunpackvg.St.set_ret_value s ((- 1))
      have s : St := vunpackvg.St.set_gto s (true)
      s
    else
      s
  s

def phTags (fuel : Nat) (s : St) : St :=
  guard s fun s =>
    have s : St := vunpackvg.St.set_u s (((0) % 4294967296))
    have s : St := vunpackvg.loop0 fuel s
    s

def phRefs (fuel : Nat) (s : St) : St :=
  guard s fun s =>
    have s : St := vunpackvg.St.set_u s (((0) % 4294967296))
    have s : St := vunpackvg.loop1 fuel s
    s

/-- `if (uint16var == 0) p = NULL; else { p = malloc(uint16var + 1); HIstrncpy(p, (char *)bb, (int)uint16var + 1); bb += uint16var; }` -/
def pstr (s : St) (setnull : St → Bool → St) (reg : St → List Int) (setreg : St → List Int → St) : St :=
  if (s.uint16var = 0) then
      have s : St := setnull s (true)
      s
    else
      have s : St := setreg s (if ((((s.uint16var + 1)) % 18446744073709551616) > 9223372036854775807) then [] else List.replicate (Int.toNat (Int.tdiv (((s.uint16var + 1)) % 18446744073709551616) 1)) 170)
      have s : St := setnull s (decide ((((s.uint16var + 1)) % 18446744073709551616) > 9223372036854775807))
      have s : St := vunpackvg.chk s ((s.uint16var + 1) = 0 ∨ (0 ≤ s.bb ∧ ((((s.buf.drop (Int.toNat (s.bb))).take (Int.toNat ((s.uint16var + 1) - 1))).takeWhile (· ≠ 0)).length = (Int.toNat ((s.uint16var + 1) - 1)) ∨ (((s.buf.drop (Int.toNat (s.bb))).take (Int.toNat ((s.uint16var + 1) - 1))).takeWhile (· ≠ 0)).length < (s.buf.drop (Int.toNat (s.bb))).length)))
      have s : St := vunpackvg.chk s ((s.uint16var + 1) = 0 ∨ (0 ≤ 0 ∧ 0 + (Int.ofNat (((s.buf.drop (Int.toNat (s.bb))).take (Int.toNat ((s.uint16var + 1) - 1))).takeWhile (· ≠ 0)).length + 1) ≤ (reg s).length))
      have s : St := setreg s (if (s.uint16var + 1) = 0 then (reg s) else ((reg s).take (Int.toNat (0))) ++ ((s.buf.drop (Int.toNat (s.bb))).take (((s.buf.drop (Int.toNat (s.bb))).take (Int.toNat ((s.uint16var + 1) - 1))).takeWhile (· ≠ 0)).length) ++ [0] ++ ((reg s).drop (Int.toNat (0 + (Int.ofNat (((s.buf.drop (Int.toNat (s.bb))).take (Int.toNat ((s.uint16var + 1) - 1))).takeWhile (· ≠ 0)).length + 1)))))
      have s : St := vunpackvg.St.set_bb s ((s.bb + s.uint16var))
      s

def phLen (s : St) : St := guard s dec16v

def phName (s : St) : St := guard s fun s => pstr s vunpackvg.St.set_vg_vgname_null (·.vg_vgname) vunpackvg.St.set_vg_vgname
def phClass (s : St) : St := guard s fun s => pstr s vunpackvg.St.set_vg_vgclass_null (·.vg_vgclass) vunpackvg.St.set_vg_vgclass

def phExtag (s : St) : St := guard s fun s => dec16g s (fun s => s) (·.vg_extag) vunpackvg.St.set_vg_extag
def phExref (s : St) : St := guard s fun s => dec16g s (fun s => s) (·.vg_exref) vunpackvg.St.set_vg_exref

/-- one byte of `UINT32DECODE(bb, vg->flags)` with a shift: `flags (|)= ((uint32)(*bb & 0xff) << k); bb++` -/
def f32sh (s : St) (k : Int) (comb : St → Int → Int) : St :=
  have s : St := rdchk s
  have s : St := vunpackvg.chk s ((0 : Int) ≤ (((andS (cur s) (255))) % 4294967296) ∧ (0 : Int) ≤ k ∧ k < (32 : Int))
  have s : St := vunpackvg.St.set_vg_flags s (comb s (((((((andS (cur s) (255))) % 4294967296) * 2 ^ Int.toNat (k))) % 4294967296)))
  have s : St := inc s
  s

/-- `UINT32DECODE(bb, vg->flags)` -/
def decFlags (s : St) : St :=
  have s : St := f32sh s 24 (fun _ v => v)
  have s : St := f32sh s 16 (fun s v => (orU (s.vg_flags) (v)))
  have s : St := f32sh s 8 (fun s v => (orU (s.vg_flags) (v)))
  have s : St := rdchk s
  have s : St := vunpackvg.St.set_vg_flags s ((orU (s.vg_flags) ((((andS (cur s) (255))) % 4294967296))))
  have s : St := inc s
  s

/-- one of the two middle bytes of `INT32DECODE(bb, vg->nattrs)`: `nattrs |= ((int32)(*bb & 0xff) << k); bb++` -/
def n32sh (s : St) (k : Int) : St :=
  have s : St := rdchk s
  have s : St := vunpackvg.chk s ((0 : Int) ≤ (andS (cur s) (255)) ∧ (0 : Int) ≤ k ∧ k < (32 : Int))
  have s : St := vunpackvg.St.set_vg_nattrs s ((orS (s.vg_nattrs) (((andS (cur s) (255)) * 2 ^ Int.toNat (k)))))
  have s : St := inc s
  s

/-- `INT32DECODE(bb, vg->nattrs)` -/
def decNattrs (s : St) : St :=
  have s : St := rdchk s
  have s : St := vunpackvg.chk s ((0 : Int) ≤ (andU (cur s) (((255) % 4294967296))) ∧ (0 : Int) ≤ 24 ∧ 24 < (32 : Int))
  have s : St := vunpackvg.St.set_vg_nattrs s (((((orU (((((((if ((andS (cur s) (128)) ≠ 0) then (((-(4294967295) - 1)) % 18446744073709551616) else 0)) + 2147483648) % 4294967296 - 2147483648)) % 4294967296)) (((((andU (cur s) (((255) % 4294967296))) * 2 ^ Int.toNat (24))) % 4294967296)))) + 2147483648) % 4294967296 - 2147483648))
  have s : St := inc s
  have s : St := n32sh s 16
  have s : St := n32sh s 8
  have s : St := rdchk s
  have s : St := vunpackvg.St.set_vg_nattrs s ((orS (s.vg_nattrs) ((andS (cur s) (255)))))
  have s : St := inc s
  s

/-- `if (NULL == (vg->alist = malloc((size_t)vg->nattrs * sizeof(vg_attr_t)))) HGOTO_ERROR(DFE_NOSPACE, FAIL);` -/
def allocAlist (s : St) : St :=
  have s : St := vunpackvg.St.set_vg_alist_atag s (if ((((((s.vg_nattrs) % 18446744073709551616) * 4)) % 18446744073709551616) > 9223372036854775807) then [] else List.replicate (Int.toNat (Int.tdiv (((((s.vg_nattrs) % 18446744073709551616) * 4)) % 18446744073709551616) 4)) 170)
  have s : St := vunpackvg.St.set_vg_alist_aref s (if ((((((s.vg_nattrs) % 18446744073709551616) * 4)) % 18446744073709551616) > 9223372036854775807) then [] else List.replicate (Int.toNat (Int.tdiv (((((s.vg_nattrs) % 18446744073709551616) * 4)) % 18446744073709551616) 4)) 170)
  have s : St := vunpackvg.St.set_vg_alist_null s (decide ((((((s.vg_nattrs) % 18446744073709551616) * 4)) % 18446744073709551616) > 9223372036854775807))
  have s : St := if (s.vg_alist_null = true) then
      have s : St := vunpackvg.St.set_ret_value s ((- 1))
      have s : St := vunpackvg.St.set_gto s (true)
      s
    else
      s
  s

def phAttrs (fuel : Nat) (s : St) : St :=
  have s : St := decNattrs s
  have s : St := allocAlist s
  have s : St := guard s fun s =>
    have s : St := vunpackvg.St.set_i s (0)
    have s : St := vunpackvg.loop2 fuel s
    s
  s

/-- `if (vg->version == VSET_NEW_VERSION) { UINT32DECODE(bb, vg->flags); if (vg->flags & VG_ATTR_SET) { … } }` -/
def phV4 (fuel : Nat) (s : St) : St :=
  guard s fun s =>
    if (s.vg_version = 4) then
        have s : St := decFlags s
        have s : St := if ((andU (s.vg_flags) (((1) % 4294967296))) ≠ 0) then
            have s : St := phAttrs fuel s
            s
          else
            s
        s
      else
        s

/-- the body of `if (vg->version <= 4)` -/
def phBody (fuel : Nat) (s : St) : St :=
  phV4 fuel (phExref (phExtag (phClass (phLen (phName (phLen (phRefs fuel (phTags fuel (phA s)))))))))

/-- `done: return ret_value;` -/
def phEpi (s : St) : St :=
  if s.done then s else
    have s : St := vunpackvg.St.set_gto s (false)
    have s : St := vunpackvg.St.set_ret s (s.ret_value)
    have s : St := vunpackvg.St.set_done s (true)
    s

def st0 (version more nvelt msize : Int) (tagnull : Bool) (tag : List Int) (refnull : Bool) (ref : List Int) (nnull : Bool)
    (nstr : List Int) (cnull : Bool) (cstr : List Int) (extag exref flags nattrs : Int) (anull : Bool) (atag aref : List Int)
    (buf : List Int) (len : Int) : St :=
  { vg_version := version, vg_more := more, vg_nvelt := nvelt, vg_msize := msize, vg_tag_null := tagnull, vg_tag := tag,
    vg_ref_null := refnull, vg_ref := ref, vg_vgname_null := nnull, vg_vgname := nstr, vg_vgclass_null := cnull,
    vg_vgclass := cstr, vg_extag := extag, vg_exref := exref, vg_flags := flags, vg_nattrs := nattrs, vg_alist_null := anull,
    vg_alist_atag := atag, vg_alist_aref := aref, buf := buf, len := len }

/-- named arguments: the translator orders the parameters by first use in the C text -/
def vunpackvgC (fuel : Nat) (version more nvelt msize : Int) (tagnull : Bool) (tag : List Int) (refnull : Bool) (ref : List Int)
    (nnull : Bool) (nstr : List Int) (cnull : Bool) (cstr : List Int) (extag exref flags nattrs : Int) (anull : Bool)
    (atag aref : List Int) (buf : List Int) (len : Int) : St :=
  Gen.Fn.Vgp3.vunpackvg (fuel := fuel) (vg_version := version) (vg_more := more) (vg_nvelt := nvelt) (vg_msize := msize)
    (vg_tag_null := tagnull) (vg_tag := tag) (vg_ref_null := refnull) (vg_ref := ref) (vg_vgname_null := nnull) (vg_vgname := nstr)
    (vg_vgclass_null := cnull) (vg_vgclass := cstr) (vg_extag := extag) (vg_exref := exref) (vg_flags := flags)
    (vg_nattrs := nattrs) (vg_alist_null := anull) (vg_alist_atag := atag) (vg_alist_aref := aref) (buf := buf) (len := len)

def run (fuel : Nat) (s : St) : St :=
  have s : St := phPre s
  have s : St := if (s.vg_version ≤ 4) then phBody fuel s else s
  phEpi s

theorem vunpackvg_phases (fuel : Nat) (version more nvelt msize : Int) (tagnull : Bool) (tag : List Int) (refnull : Bool)
    (ref : List Int) (nnull : Bool) (nstr : List Int) (cnull : Bool) (cstr : List Int) (extag exref flags nattrs : Int)
    (anull : Bool) (atag aref : List Int) (buf : List Int) (len : Int) :
    vunpackvgC fuel version more nvelt msize tagnull tag refnull ref nnull nstr cnull cstr extag exref flags nattrs anull atag aref
      buf len =
    run fuel (st0 version more nvelt msize tagnull tag refnull ref nnull nstr cnull cstr extag exref flags nattrs anull atag aref
      buf len) := by
  kernel_rfl

theorem loop0_body (fuel : Nat) (s : St) : vunpackvg.loop0.body fuel s =
    (have s : St := dec16a s (·.u) (·.vg_tag) vunpackvg.St.set_vg_tag
     vunpackvg.St.set_u s ((((s.u + 1)) % 4294967296))) := by kernel_rfl

theorem loop1_body (fuel : Nat) (s : St) : vunpackvg.loop1.body fuel s =
    (have s : St := dec16a s (·.u) (·.vg_ref) vunpackvg.St.set_vg_ref
     vunpackvg.St.set_u s ((((s.u + 1)) % 4294967296))) := by kernel_rfl

theorem loop2_body (fuel : Nat) (s : St) : vunpackvg.loop2.body fuel s =
    (have s : St := dec16a s (·.i) (·.vg_alist_atag) vunpackvg.St.set_vg_alist_atag
     have s : St := dec16a s (·.i) (·.vg_alist_aref) vunpackvg.St.set_vg_alist_aref
     vunpackvg.St.set_i s ((s.i + 1))) := by kernel_rfl

theorem chk_true (s : St) (c : Prop) [Decidable c] (h : c) : vunpackvg.chk s c = s := by
  simp [vunpackvg.chk, h]

def uL : Cursor St where
  buf := (·.buf)
  pos := (·.bb)
  ub := (·.ub)
  setBuf := fun s b => { s with buf := b }
  setPos := vunpackvg.St.set_bb
  chk := fun s c _ => vunpackvg.chk s c

theorem uLaw : uL.Lawful := (Cursor.Plain.lawfulW (setUb := fun s u => { s with ub := u }) {}).toLawful

def M : Mach St :=
  { L := uL, lawful := uLaw, oof := (·.oof), done := (·.done), gto := (·.gto), ub_set := fun _ _ => rfl, oof_set := fun _ _ => rfl,
    done_set := fun _ _ => rfl, gto_set := fun _ _ => rfl }

/-- `Mach.Ok` spelt with the members of this state, which the phase lemmas name (`h.bb : s.bb = p`); `Ok.g` / `Ok.of` go between the two -/
structure Ok (B : List Int) (s : St) (p : Nat) : Prop where
  buf : s.buf = B
  bb : s.bb = p
  ub : s.ub = false
  oof : s.oof = false
  done : s.done = false
  gto : s.gto = false

theorem Ok.g {B s p} (h : Ok B s p) : M.Ok B s p := ⟨h.buf, h.bb, h.ub, h.oof, h.done, h.gto⟩
theorem Ok.of {B s p} (h : M.Ok B s p) : Ok B s p := ⟨h.buf, h.bb, h.ub, h.oof, h.done, h.gto⟩

abbrev Frame (f : St → St) : Prop := M.Frame f

theorem Ok.frame {B s p} (h : Ok B s p) {f : St → St} (hf : Frame f) : Ok B (f s) p := Ok.of (h.g.frame hf)
theorem Ok.move {B s p} (h : Ok B s p) (q : Nat) : Ok B (vunpackvg.St.set_bb s (q : Int)) q := Ok.of (h.g.move q)

theorem dec16g_eq (s : St) (pre : St → St) (get : St → Int) (set : St → Int → St) : dec16g s pre get set = dec16uP uL ⟨get, set⟩ pre s := by
  kernel_rfl

theorem decFlags_eq (s : St) : decFlags s = C2L.dec32u uL ⟨(·.vg_flags), vunpackvg.St.set_vg_flags⟩ s := by kernel_rfl

theorem decNattrs_eq (s : St) : decNattrs s = C2L.dec32s uL ⟨(·.vg_nattrs), vunpackvg.St.set_vg_nattrs⟩ s := by kernel_rfl

theorem r16 : M.Reads dec16g 2 be16 := .u16 dec16g_eq

/-- the hypotheses with a default (`hf`, `hT`, `hR`, here and below) hold by `rfl` for a generated setter and a member it does not name -/
theorem dec16_ok (get : St → Int) (set : St → Int → St) {B s p} (h : Ok B s p) (hl : p + 2 ≤ B.length)
    (hf : ∀ v, Frame (set · v) := by intro _; exact {}) (hT : Tgt.Lawful uL ⟨get, set⟩ := by tgt_law) :
    dec16g s (fun s => s) get set = vunpackvg.St.set_bb (set s (be16 B p)) ((p + 2 : Nat) : Int) ∧
      Ok B (vunpackvg.St.set_bb (set s (be16 B p)) ((p + 2 : Nat) : Int)) (p + 2) := by
  obtain ⟨q, o⟩ := M.dec_ok r16 hT.on hf h.g hl trivial
  exact ⟨q, Ok.of o⟩

theorem dec16v_ok {B s p} (h : Ok B s p) (hl : p + 2 ≤ B.length) :
    dec16v s = (s.set_uint16var (be16 B p)).set_bb ((p + 2 : Nat) : Int) ∧
      Ok B ((s.set_uint16var (be16 B p)).set_bb ((p + 2 : Nat) : Int)) (p + 2) :=
  dec16_ok (·.uint16var) vunpackvg.St.set_uint16var h hl

theorem dec16a_ok (idx : St → Int) (reg : St → List Int) (setreg : St → List Int → St) {B s p} (h : Ok B s p) (hl : p + 2 ≤ B.length)
    (k : Nat) (hi : idx s = k) (hk : k < (reg s).length) (hf : ∀ l, Frame (setreg · l) := by intro _; exact {})
    (hR : uL.Reg idx reg setreg := by exact {}) :
    dec16a s idx reg setreg = vunpackvg.St.set_bb (setreg s ((reg s).set k (be16 B p))) ((p + 2 : Nat) : Int) ∧
      Ok B (vunpackvg.St.set_bb (setreg s ((reg s).set k (be16 B p))) ((p + 2 : Nat) : Int)) (p + 2) := by
  obtain ⟨q, o⟩ := M.deca_ok r16 hR hf h.g hl k hi hk
  exact ⟨q, Ok.of o⟩

theorem decFlags_ok {B s p} (h : Ok B s p) (hl : p + 4 ≤ B.length) :
    decFlags s = (s.set_vg_flags (be32 B p)).set_bb ((p + 4 : Nat) : Int) ∧
      Ok B ((s.set_vg_flags (be32 B p)).set_bb ((p + 4 : Nat) : Int)) (p + 4) := by
  obtain ⟨q, o⟩ := M.dec32u_ok (T := ⟨(·.vg_flags), vunpackvg.St.set_vg_flags⟩) (by tgt_law) (fun _ => {}) h.g hl
  exact ⟨(decFlags_eq s).trans q, Ok.of o⟩

theorem decNattrs_ok {B s p} (h : Ok B s p) (hl : p + 4 ≤ B.length) :
    decNattrs s = (s.set_vg_nattrs (S32 (be32 B p))).set_bb ((p + 4 : Nat) : Int) ∧
      Ok B ((s.set_vg_nattrs (S32 (be32 B p))).set_bb ((p + 4 : Nat) : Int)) (p + 4) := by
  obtain ⟨q, o⟩ := M.dec32s_ok (T := ⟨(·.vg_nattrs), vunpackvg.St.set_vg_nattrs⟩) (by tgt_law) (fun _ => {}) h.g hl
  exact ⟨(decNattrs_eq s).trans q, Ok.of o⟩

end H4.Lemmas.C08Fn3
