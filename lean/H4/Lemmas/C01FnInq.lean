import H4.Lemmas.C01Fn
/-! The translated `Hinquire` (`H4.Gen.Fn.Hfile2.Hinquire`) cut at its statements (`Inq.cut`: the entry tests, one block per group of output pointers,
    the exit), with one equation per block; `outCell`, what is stored through an output pointer. -/
namespace H4.Props.C01Fn
open H4 H4.Elem H4.Gen.Fn.Hfile2 H4.Gen.Hdf H4.Lemmas.C01Fn

/-- what `Hinquire` stores through an output pointer: nothing through NULL, the value into cell 0 otherwise -/
def outCell (isNull : Bool) (reg : List Int) (v : Int) : List Int := if isNull then reg else reg.set 0 v

namespace Inq

def entry (s : Hinquire.St) : Hinquire.St :=
  have s : Hinquire.St := Hinquire.St.set_ret_value s (0)
  have s : Hinquire.St := if (s.access_rec_null = true) then
      have s : Hinquire.St := Hinquire.St.set_ret_value s ((- 1))
      have s : Hinquire.St := Hinquire.St.set_gto s (true)
      s
    else
      s
  have s : Hinquire.St := if s.done ∨ s.gto then s else
    have s : Hinquire.St := Hinquire.chk s (s.access_rec_null = false)
    have s : Hinquire.St := if (s.access_rec_special ≠ 0) then
        have s : Hinquire.St := Hinquire.chk s (False)
        have s : Hinquire.St := Hinquire.St.set_ret_value s (0)
        have s : Hinquire.St := Hinquire.St.set_gto s (true)
        s
      else
        s
    s
  s

def fileId (s : Hinquire.St) : Hinquire.St :=
  if s.done ∨ s.gto then s else
    have s : Hinquire.St := if (s.pfile_id_null = false) then
        have s : Hinquire.St := Hinquire.chk s (s.access_rec_null = false)
        have s : Hinquire.St := Hinquire.chk s (0 < s.pfile_id.length)
        have s : Hinquire.St := Hinquire.St.set_pfile_id s (s.pfile_id.set (Int.toNat (0)) (s.access_rec_file_id))
        s
      else
        s
    s

def dd (s : Hinquire.St) : Hinquire.St :=
  if s.done ∨ s.gto then s else
    have s : Hinquire.St := Hinquire.chk s (s.access_rec_null = false)
    have s : Hinquire.St := Hinquire.chk s (s.ptag_null = true ∨ s.HTPinquire_ret = (- 1) ∨ 0 < s.ptag.length)
    have s : Hinquire.St := Hinquire.chk s (s.pref_null = true ∨ s.HTPinquire_ret = (- 1) ∨ 0 < s.pref.length)
    have s : Hinquire.St := Hinquire.chk s (s.poffset_null = true ∨ s.HTPinquire_ret = (- 1) ∨ 0 < s.poffset.length)
    have s : Hinquire.St := Hinquire.chk s (s.plength_null = true ∨ s.HTPinquire_ret = (- 1) ∨ 0 < s.plength.length)
    let c : Bool := decide (s.HTPinquire_ret = (- 1))
    let e0 : List (List Int) := (s.calls ++ [[1, s.access_rec_ddid]])
    let e1 : List Int := (if (s.HTPinquire_ret ≠ (- 1)) ∧ s.ptag_null = false then s.ptag.set 0 (s.dd_tag) else s.ptag)
    let e2 : List Int := (if (s.HTPinquire_ret ≠ (- 1)) ∧ s.pref_null = false then s.pref.set 0 (s.dd_ref) else s.pref)
    let e3 : List Int := (if (s.HTPinquire_ret ≠ (- 1)) ∧ s.poffset_null = false then s.poffset.set 0 (s.dd_off) else s.poffset)
    let e4 : List Int := (if (s.HTPinquire_ret ≠ (- 1)) ∧ s.plength_null = false then s.plength.set 0 (s.dd_len) else s.plength)
    have s : Hinquire.St := Hinquire.St.set_calls s (e0)
    have s : Hinquire.St := Hinquire.St.set_ptag s (e1)
    have s : Hinquire.St := Hinquire.St.set_pref s (e2)
    have s : Hinquire.St := Hinquire.St.set_poffset s (e3)
    have s : Hinquire.St := Hinquire.St.set_plength s (e4)
    have s : Hinquire.St := if c = true then
        have s : Hinquire.St := Hinquire.St.set_ret_value s ((- 1))
        have s : Hinquire.St := Hinquire.St.set_gto s (true)
        s
      else
        s
    s

def posn (s : Hinquire.St) : Hinquire.St :=
  if s.done ∨ s.gto then s else
    have s : Hinquire.St := if (s.pposn_null = false) then
        have s : Hinquire.St := Hinquire.chk s (s.access_rec_null = false)
        have s : Hinquire.St := Hinquire.chk s (0 < s.pposn.length)
        have s : Hinquire.St := Hinquire.St.set_pposn s (s.pposn.set (Int.toNat (0)) (s.access_rec_posn))
        s
      else
        s
    s

def access (s : Hinquire.St) : Hinquire.St :=
  if s.done ∨ s.gto then s else
    have s : Hinquire.St := if (s.paccess_null = false) then
        have s : Hinquire.St := Hinquire.chk s (s.access_rec_null = false)
        have s : Hinquire.St := Hinquire.chk s (0 < s.paccess.length)
        have s : Hinquire.St := Hinquire.St.set_paccess s (s.paccess.set (Int.toNat (0)) ((((s.access_rec_access) + 32768) % 65536 - 32768)))
        s
      else
        s
    s

def special (s : Hinquire.St) : Hinquire.St :=
  if s.done ∨ s.gto then s else
    have s : Hinquire.St := if (s.pspecial_null = false) then
        have s : Hinquire.St := Hinquire.chk s (0 < s.pspecial.length)
        have s : Hinquire.St := Hinquire.St.set_pspecial s (s.pspecial.set (Int.toNat (0)) ((((0) + 32768) % 65536 - 32768)))
        s
      else
        s
    s

def exit (s : Hinquire.St) : Hinquire.St :=
  if s.done then s else
    have s : Hinquire.St := Hinquire.St.set_gto s (false)
    have s : Hinquire.St := Hinquire.St.set_ret s (s.ret_value)
    have s : Hinquire.St := Hinquire.St.set_done s (true)
    s

theorem cut (fuel : Nat) (aid spec fid inq ddid tag ref off len pos acc : Int) (nfid ntag nref nlen noff nposn nacc nspec nul : Bool)
    (pfid ptag pref plen poff pposn pacc pspec : List Int) (calls : List (List Int)) :
    Hinquire fuel aid nfid pfid ptag ntag pref nref plen nlen poff noff nposn pposn nacc pacc nspec pspec nul spec fid inq ddid calls tag ref off len pos acc =
      exit (special (access (posn (dd (fileId (entry
        { access_id := aid, pfile_id_null := nfid, pfile_id := pfid, ptag := ptag, ptag_null := ntag, pref := pref, pref_null := nref,
          plength := plen, plength_null := nlen, poffset := poff, poffset_null := noff, pposn_null := nposn, pposn := pposn,
          paccess_null := nacc, paccess := pacc, pspecial_null := nspec, pspecial := pspec, access_rec_null := nul,
          access_rec_special := spec, access_rec_file_id := fid, HTPinquire_ret := inq, access_rec_ddid := ddid, calls := calls,
          dd_tag := tag, dd_ref := ref, dd_off := off, dd_len := len, access_rec_posn := pos, access_rec_access := acc })))))) := rfl

section
variable (s : Hinquire.St) (hd : s.done = false) (hg : s.gto = false) (hn : s.access_rec_null = false)
include hd

theorem exit_eq : exit s = { s with gto := false, ret := s.ret_value, done := true } := by
  cases s; simp_all [exit]

include hg

theorem special_eq (hl : s.pspecial_null = false → 0 < s.pspecial.length) :
    special s = { s with pspecial := outCell s.pspecial_null s.pspecial 0 } := by
  cases hb : s.pspecial_null <;> cases s <;> simp_all [special, Hinquire.chk, outCell]

include hn

theorem entry_eq (hs : s.access_rec_special = 0) : entry s = { s with ret_value := 0 } := by
  cases s; simp_all [entry, Hinquire.chk]

theorem fileId_eq (hl : s.pfile_id_null = false → 0 < s.pfile_id.length) :
    fileId s = { s with pfile_id := outCell s.pfile_id_null s.pfile_id s.access_rec_file_id } := by
  cases hb : s.pfile_id_null <;> cases s <;> simp_all [fileId, Hinquire.chk, outCell]

theorem posn_eq (hl : s.pposn_null = false → 0 < s.pposn.length) :
    posn s = { s with pposn := outCell s.pposn_null s.pposn s.access_rec_posn } := by
  cases hb : s.pposn_null <;> cases s <;> simp_all [posn, Hinquire.chk, outCell]

theorem access_eq (hl : s.paccess_null = false → 0 < s.paccess.length) :
    access s = { s with paccess := outCell s.paccess_null s.paccess ((s.access_rec_access + 32768) % 65536 - 32768) } := by
  cases hb : s.paccess_null <;> cases s <;> simp_all [access, Hinquire.chk, outCell]

theorem dd_eq (hi : s.HTPinquire_ret = 0) (h2 : s.ptag_null = false → 0 < s.ptag.length) (h3 : s.pref_null = false → 0 < s.pref.length)
    (h4 : s.poffset_null = false → 0 < s.poffset.length) (h5 : s.plength_null = false → 0 < s.plength.length) :
    dd s = { s with calls := s.calls ++ [[cINQ, s.access_rec_ddid]], ptag := outCell s.ptag_null s.ptag s.dd_tag,
                    pref := outCell s.pref_null s.pref s.dd_ref, poffset := outCell s.poffset_null s.poffset s.dd_off,
                    plength := outCell s.plength_null s.plength s.dd_len } := by
  have o (b : Bool) (l : List Int) (v : Int) : (if b = false then l.set 0 v else l) = outCell b l v := by
    cases b <;> rfl
  have c (b : Bool) (l : List Int) (h : b = false → 0 < l.length) : (!b && !decide (0 < l.length)) = false := by
    cases b <;> simp_all
  cases s
  simp only at hd hg hn hi h2 h3 h4 h5
  subst hd hg hn hi
  simp [dd, Hinquire.chk, cINQ, o, c _ _ h2, c _ _ h3, c _ _ h4, c _ _ h5]
end
end Inq

end H4.Props.C01Fn
