import H4.SdPieces
import H4.Lemmas.Slab
/-! The piecewise fill loops of `hdf_xdr_NCvdata` (C03), model `H4.SdPieces`: the closed form of the pieces (`pieces_closed`: full pieces, then the
    remainder), their sum, what placing them one behind the other covers (`place_expand`), and that the fill pattern continues across pieces
    whose lengths the element size divides (`flatMap_patBytes`). -/
namespace H4.SdPieces
open H4.Slab

theorem pieceLoop_closed : ∀ (fuel buf chunk : Nat), 0 < chunk → chunk ≤ buf → buf ≤ fuel →
    pieceLoop fuel buf chunk = List.replicate (buf / chunk) chunk ++ (if buf % chunk = 0 then [] else [buf % chunk]) := by
  intro fuel
  induction fuel with
  | zero => intro buf chunk h0 h1 h2; omega
  | succ fuel ih =>
    intro buf chunk h0 h1 h2
    have hb : buf = (buf - chunk) + chunk := by omega
    have hd : buf / chunk = (buf - chunk) / chunk + 1 := by
      conv => lhs; rw [hb]
      exact Nat.add_div_right _ h0
    have hm : buf % chunk = (buf - chunk) % chunk := by
      conv => lhs; rw [hb]
      exact Nat.add_mod_right _ _
    simp only [pieceLoop]
    by_cases hz : buf - chunk = 0
    · rw [hd, hm, hz]
      simp
    · have hpos : 0 < buf - chunk := by omega
      simp only [hpos, if_true]
      by_cases hge : chunk ≤ buf - chunk
      · rw [Nat.min_eq_left hge, ih _ _ h0 hge (by omega), hd, hm, List.replicate_succ]
        simp
      · have hlt : buf - chunk < chunk := by omega
        rw [Nat.min_eq_right (by omega), ih _ _ hpos (Nat.le_refl _) (by omega), hd, hm,
          Nat.div_eq_of_lt hlt, Nat.mod_eq_of_lt hlt, Nat.div_self hpos, Nat.mod_self]
        simp [hz]

theorem pieces_closed (P n : Nat) (hP : 0 < P) (hn : 0 < n) :
    pieces P n = List.replicate (n / P) P ++ (if n % P = 0 then [] else [n % P]) := by
  unfold pieces
  by_cases h : n ≤ P
  · rw [Nat.min_eq_left h, pieceLoop_closed _ _ _ hn (Nat.le_refl _) (by omega), Nat.div_self hn, Nat.mod_self]
    by_cases he : n = P
    · subst he; simp [Nat.div_self hn]
    · have hlt : n < P := by omega
      simp [Nat.div_eq_of_lt hlt, Nat.mod_eq_of_lt hlt]; omega
  · rw [Nat.min_eq_right (by omega), pieceLoop_closed _ _ _ hP (by omega) (by omega)]

theorem pieces_sum (P n : Nat) (hP : 0 < P) (hn : 0 < n) : (pieces P n).sum = n := by
  rw [pieces_closed P n hP hn, List.sum_append, List.sum_replicate_nat]
  have := Nat.div_add_mod n P
  by_cases h : n % P = 0
  · simp only [h, if_true, List.sum_nil]; rw [Nat.mul_comm]; omega
  · simp only [h, if_false, List.sum_cons, List.sum_nil]; rw [Nat.mul_comm]; omega

theorem fillPieces_sum (P n : Nat) (hP : 0 < P) : (fillPieces P n).sum = n := by
  unfold fillPieces
  by_cases h : 0 < n
  · simp only [h, if_true]; exact pieces_sum P n hP h
  · simp only [h, if_false, List.sum_nil]; omega

theorem pieces_mem (P n : Nat) (hP : 0 < P) (hn : 0 < n) : ∀ x ∈ pieces P n, x = P ∨ (x = n % P ∧ n % P ≠ 0) := by
  intro x hx
  rw [pieces_closed P n hP hn, List.mem_append] at hx
  cases hx with
  | inl h => exact Or.inl (List.eq_of_mem_replicate h)
  | inr h =>
    by_cases hm : n % P = 0
    · simp [hm] at h
    · simp only [hm, if_false, List.mem_singleton] at h
      exact Or.inr ⟨h, hm⟩

theorem place_expand : ∀ (ls : List Nat) (pos : Nat), expandRuns (place pos ls) = List.range' pos ls.sum := by
  intro ls
  induction ls with
  | nil => intro pos; simp [place, expandRuns]
  | cons l ls ih =>
    intro pos
    have h := ih (pos + l)
    simp only [expandRuns] at h
    simp only [place, expandRuns, List.flatMap_cons, h, List.sum_cons]
    rw [List.range'_append_1]

theorem patBytes_add (pat : List UInt8) (a b : Nat) (h : pat.length ∣ a) :
    patBytes pat (a + b) = patBytes pat a ++ patBytes pat b := by
  unfold patBytes
  rw [List.range_add, List.map_append, List.map_map]
  congr 1
  apply List.map_congr_left
  intro j _
  simp only [Function.comp]
  obtain ⟨k, hk⟩ := h
  rw [hk, Nat.mul_add_mod]

theorem flatMap_patBytes (pat : List UInt8) : ∀ (ls : List Nat), (∀ x ∈ ls, pat.length ∣ x) →
    ls.flatMap (patBytes pat) = patBytes pat ls.sum := by
  intro ls
  induction ls with
  | nil => intro _; simp [patBytes]
  | cons l ls ih =>
    intro h
    rw [List.flatMap_cons, ih (fun x hx => h x (List.mem_cons_of_mem _ hx)), List.sum_cons,
      patBytes_add pat l ls.sum (h l List.mem_cons_self)]

theorem fillPieces_dvd (P n e : Nat) (hP : 0 < P) (heP : e ∣ P) (hen : e ∣ n) : ∀ x ∈ fillPieces P n, e ∣ x := by
  intro x hx
  unfold fillPieces at hx
  by_cases h : 0 < n
  · simp only [h, if_true] at hx
    cases pieces_mem P n hP h x hx with
    | inl hx => rw [hx]; exact heP
    | inr hx => rw [hx.1]; exact (Nat.dvd_mod_iff heP).mpr hen
  · simp [h] at hx

theorem place_dvd (e : Nat) : ∀ (ls : List Nat) (pos : Nat), e ∣ pos → (∀ x ∈ ls, e ∣ x) →
    ∀ r ∈ place pos ls, e ∣ r.1 ∧ e ∣ r.2 := by
  intro ls
  induction ls with
  | nil => intro pos _ _ r hr; simp [place] at hr
  | cons l ls ih =>
    intro pos hp h r hr
    simp only [place, List.mem_cons] at hr
    cases hr with
    | inl hr => subst hr; exact ⟨hp, h l List.mem_cons_self⟩
    | inr hr => exact ih (pos + l) (Nat.dvd_add hp (h l List.mem_cons_self)) (fun x hx => h x (List.mem_cons_of_mem _ hx)) r hr

theorem getD_append_lt {α} (a b : List α) (d : α) (i : Nat) (h : i < a.length) : (a ++ b).getD i d = a.getD i d := by
  simp [List.getD_eq_getElem?_getD, List.getElem?_append_left h]

theorem getD_append_ge {α} (a b : List α) (d : α) (i : Nat) (h : a.length ≤ i) : (a ++ b).getD i d = b.getD (i - a.length) d := by
  simp [List.getD_eq_getElem?_getD, List.getElem?_append_right h]

theorem patBytes_length (pat : List UInt8) (n : Nat) : (patBytes pat n).length = n := by simp [patBytes]

theorem patBytes_getD (pat : List UInt8) (n j : Nat) (hj : j < n) : (patBytes pat n).getD j 0 = pat.getD (j % pat.length) 0 := by
  simp [patBytes, List.getD_eq_getElem?_getD, hj]

end H4.SdPieces
