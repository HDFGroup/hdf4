import H4.HPWorld
/-! Lemmas for `H4.Props.C16Fn`: what the TRANSLATED `HPseek` / `HP_write` / `HP_read` (`H4.Gen.Fn.Hfile`, generated from the current
    text of `hdf/src/hfile.c`) compute, for EVERY result of every stdio call they make (`*_spec`: never undefined behaviour, the record
    fields, the requests issued), as closed-form summaries `seekOut` / `writeOut` / `readOut`; and the stdio contract `H4.HPWorld.serve`
    unfolded one request at a time. -/
namespace H4.Lemmas.C16Fn
open H4.Gen.Fn.Hfile H4.HPIO H4.HPWorld

/-- `(int32)` of a `size_t` (two's complement wrap, as every supported target does it) -/
def wrap32 (r : Int) : Int := (r + 2147483648) % 4294967296 - 2147483648

theorem wrap32_id (x : Int) (h0 : 0 ≤ x) (h1 : x < 2147483648) : wrap32 x = x := by unfold wrap32; omega

theorem wrap32_small (r b : Int) (h0 : 0 ≤ r) (h1 : r ≤ b) (hb : b < 2147483648) (hw : wrap32 r = b) : r = b :=
  (wrap32_id r h0 (by omega)).symm.trans hw

theorem consts : H4.Gen.Hpio.H4_OP_UNKNOWN = 0 ∧ H4.Gen.Hpio.H4_OP_SEEK = 1 ∧ H4.Gen.Hpio.H4_OP_WRITE = 2 ∧ H4.Gen.Hpio.H4_OP_READ = 3 ∧
    H4.Gen.Hpio.FILE_END_DIRTY = 2 ∧ H4.Gen.Hpio.SEEK_SET_ = 0 := by decide

theorem opc : opCode .unknown = 0 ∧ opCode .seek = 1 ∧ opCode .write = 2 ∧ opCode .read = 3 := by decide

theorem opCode_eq (l : LastOp) : (opCode l = 0 ↔ l = .unknown) ∧ (opCode l = 2 ↔ l = .write) ∧ (opCode l = 3 ↔ l = .read) := by
  cases l <;> decide

theorem codes : cSeek = 1 ∧ cRead = 2 ∧ cWrite = 3 ∧ cFerror = 4 := by decide

@[simp] theorem toInts_length (bs : List Byte) : (toInts bs).length = bs.length := by simp [toInts]
@[simp] theorem toBytes_toInts (bs : List Byte) : toBytes (toInts bs) = bs := by
  induction bs with
  | nil => rfl
  | cons b bs ih => simp [toBytes, toInts] at ih ⊢; exact ih

@[simp] theorem take_toInts (bs : List Byte) : List.take bs.length (toInts bs) = toInts bs := by
  rw [List.take_of_length_le]; simp
@[simp] theorem take_toInts' (bs : List Byte) : (toInts bs = List.take bs.length (toInts bs)) = True := by simp
theorem toInts_append (a b : List Byte) : toInts (a ++ b) = toInts a ++ toInts b := by simp [toInts]
theorem toInts_replicate0 (k : Nat) : toInts (List.replicate k 0) = List.replicate k 0 := by simp [toInts]

/-- what one `HPseek` does, as far as the C text can tell.  In the summaries below `last_op` is 0 UNKNOWN, 1 SEEK, 2 WRITE, 3 READ (`consts`, `opc`),
    a log record starts with 1 `fseek`, 2 `fread`, 3 `fwrite`, 4 `ferror` (`codes`), and `&&& 2` tests FILE_END_DIRTY. -/
structure SOut where
  ret : Int
  cur : Int
  last : Int
  cnt : Int
  newlog : List Int
deriving DecidableEq, Repr

def seekOut (cur last off : Int) (tape : List Int) (cnt : Int) : SOut :=
  let r := tape.getD cnt.toNat 0
  if cur ≠ off ∨ last = 0 then
    if r = 0 then ⟨0, off, 1, cnt + 1, [1, off, r]⟩ else ⟨-1, cur, last, cnt + 1, [1, off, r]⟩
  else ⟨0, cur, last, cnt, []⟩

theorem HPseek_spec (fuel : Nat) (cur last off : Int) (tape : List Int) (cnt : Int) (log : List Int) :
    let s := HPseek fuel cur last off tape cnt log
    let o := seekOut cur last off tape cnt
    s.ub = false ∧ s.oof = false ∧ s.ret = o.ret ∧ s.file_rec_f_cur_off = o.cur ∧ s.file_rec_last_op = o.last ∧
    s.io_cnt = o.cnt ∧ s.io_log = log ++ o.newlog := by
  by_cases h1 : cur ≠ off ∨ last = 0
  · by_cases h2 : tape[cnt.toNat]?.getD 0 = 0 <;> simp [seekOut, HPseek, h1, h2]
  · simp [seekOut, HPseek, h1]

theorem HPseek_ok (fuel : Nat) (a b c : Int) (t : List Int) (d : Int) (l : List Int) :
    (HPseek fuel a b c t d l).ub = false ∧ (HPseek fuel a b c t d l).oof = false :=
  have h := HPseek_spec fuel a b c t d l
  ⟨h.1, h.2.1⟩

/-- `payload`: the cells appended to `io_out` -/
structure WOut where
  ret : Int
  cur : Int
  last : Int
  cnt : Int
  newlog : List Int
  payload : List Int
deriving DecidableEq, Repr

def writeOut (last cur : Int) (buf : List Int) (bytes : Int) (tape : List Int) (cnt : Int) : WOut :=
  let sk : SOut := if last = 3 ∨ last = 0 then seekOut cur 0 cur tape cnt else ⟨0, cur, last, cnt, []⟩
  if sk.ret = -1 then ⟨-1, sk.cur, sk.last, sk.cnt, sk.newlog, []⟩ else
  let r := tape.getD sk.cnt.toNat 0
  let rec_ := sk.newlog ++ [3, bytes, r]
  if bytes = r then ⟨0, sk.cur + bytes, 2, sk.cnt + 1, rec_, buf.take bytes.toNat⟩
  else ⟨-1, sk.cur, 0, sk.cnt + 1, rec_, buf.take bytes.toNat⟩

theorem writeOut_last (last cur : Int) (buf : List Int) (bytes : Int) (tape : List Int) (cnt : Int) :
    let o := writeOut last cur buf bytes tape cnt
    o.last ≠ 0 → o.cur = cur + bytes ∧ o.newlog = (if last = 3 ∨ last = 0 then [1, cur, 0] else []) ++ [3, bytes, bytes] := by
  unfold writeOut seekOut
  by_cases h1 : last = 3 ∨ last = 0
  · by_cases h2 : tape[cnt.toNat]?.getD 0 = 0
    · simp [h1, h2]
      split <;> simp [*]
    · simp [h1, h2]
  · simp [h1]
    split <;> simp [*]

attribute [local simp] HP_write.chk HP_write.St.join

theorem HP_write_spec (fuel : Nat) (last cur : Int) (buf : List Int) (bytes : Int) (tape : List Int) (cnt : Int) (log out : List Int)
    (hb : 0 ≤ bytes) (hbi : bytes < 2147483648) (hbuf : bytes ≤ buf.length) :
    let s := HP_write fuel last cur buf bytes tape cnt log out
    let o := writeOut last cur buf bytes tape cnt
    s.ub = false ∧ s.oof = false ∧ s.ret = o.ret ∧ s.file_rec_f_cur_off = o.cur ∧ s.file_rec_last_op = o.last ∧
    s.io_cnt = o.cnt ∧ s.io_log = log ++ o.newlog ∧ s.io_out = out ++ o.payload := by
  have hm : bytes % 18446744073709551616 = bytes := by omega  -- the `(size_t)bytes` of the expanded `HI_WRITE`
  obtain ⟨k1, k2, k3, k4, k5, k6, k7⟩ := HPseek_spec fuel cur 0 cur tape cnt log
  obtain ⟨r0, hr0⟩ : ∃ r, tape[cnt.toNat]?.getD 0 = r := ⟨_, rfl⟩
  obtain ⟨r1, hr1⟩ : ∃ r, tape[(cnt + 1).toNat]?.getD 0 = r := ⟨_, rfl⟩
  by_cases h1 : last = 3 ∨ last = 0
  · simp [seekOut, hr0] at k3 k4 k5 k6 k7
    by_cases h2 : r0 = 0
    · rcases Decidable.em (bytes = r1) with rfl | h3 <;> simp [writeOut, seekOut, HP_write, *]
    · simp [writeOut, seekOut, HP_write, *]
  · rcases Decidable.em (bytes = r0) with rfl | h3 <;> simp [writeOut, HP_write, *]

theorem HP_write1_ok (fuel : Nat) (a b x : Int) (t : List Int) (d : Int) (l o : List Int) :
    (HP_write fuel a b [x] 1 t d l o).ub = false ∧ (HP_write fuel a b [x] 1 t d l o).oof = false :=
  have h := HP_write_spec fuel a b [x] 1 t d l o (by omega) (by omega) (by simp)
  ⟨h.1, h.2.1⟩

/-- the implied `fseek` included; `buf`: the caller's buffer afterwards, `pos`: the cursor in `io_in` -/
structure ROut where
  ret : Int
  cur : Int
  last : Int
  cnt : Int
  newlog : List Int
  buf : List Int
  pos : Int
deriving DecidableEq, Repr

/-- of `readTail`: the record and the buffer, no request log -/
structure TOut where
  ret : Int
  cur : Int
  last : Int
  buf : List Int
  pos : Int
deriving DecidableEq, Repr

/-- the `fread` + `ferror` part of `HP_read`: `r` = what `fread` returned (`got` is its `(int32)` cast), `e` = what `ferror` answered;
    `d`: the translator's `fread` delivers min(result, request) cells of `io_in`; `pos` is the cursor in `io_in` (`io_pos`), not the stream's -/
def readTail (cur cache dirty endoff : Int) (buf : List Int) (bytes r e : Int) (inp : List Int) (pos : Int) : TOut :=
  let got := wrap32 r
  let d := (inp.drop pos.toNat).take (min r.toNat bytes.toNat)
  let buf1 := d ++ buf.drop d.length
  if e ≠ 0 ∨ got < 0 ∨ got > bytes then ⟨-1, cur, 0, buf1, pos + d.length⟩
  else if got < bytes then
    if ¬(cache ≠ 0 ∧ Int.ofNat (dirty.toNat &&& 2) ≠ 0) ∨ bytes > endoff - cur then ⟨-1, cur, 0, buf1, pos + d.length⟩
    else ⟨0, cur + bytes, 0, buf1.take got.toNat ++ List.replicate (bytes - got).toNat 0 ++ buf1.drop bytes.toNat, pos + d.length⟩
  else ⟨0, cur + bytes, 3, buf1, pos + d.length⟩

theorem readTail_last (cur cache dirty endoff : Int) (buf : List Int) (bytes r e : Int) (inp : List Int) (pos : Int) :
    let t := readTail cur cache dirty endoff buf bytes r e inp pos
    t.last ≠ 0 → e = 0 ∧ wrap32 r = bytes ∧ t.cur = cur + bytes ∧ t.last = 3 ∧ t.ret = 0 := by
  intro t
  simp only [t, readTail]
  split
  · simp
  · split
    · split <;> simp
    · rename_i h1 h2
      simp
      omega

theorem readTail_reports (cur cache dirty endoff : Int) (buf : List Int) (bytes r e : Int) (inp : List Int) (pos : Int) :
    let t := readTail cur cache dirty endoff buf bytes r e inp pos
    (t.ret = 0 ∨ t.ret = -1) ∧ (t.ret = -1 → t.last = 0) ∧ (t.ret = 0 → e = 0 ∧ 0 ≤ wrap32 r ∧ wrap32 r ≤ bytes) ∧
    (t.last = 3 → t.ret = 0 ∧ wrap32 r = bytes) := by
  simp only [readTail]
  split
  · simp
  · have : e = 0 ∧ 0 ≤ wrap32 r ∧ wrap32 r ≤ bytes := by omega
    split
    · split <;> simp [this]
    · simp [this]
      omega

theorem readTail_clean (cur cache dirty endoff : Int) (buf : List Int) (bytes : Int) (inp : List Int) (pos : Int) (k : Nat) (D : List Int)
    (hk : (k : Int) ≤ bytes) (hb : bytes < 2147483648) (hD : (inp.drop pos.toNat).take k = D) (hlen : D.length = k) :
    readTail cur cache dirty endoff buf bytes k 0 inp pos =
      if (k : Int) < bytes then
        if ¬(cache ≠ 0 ∧ Int.ofNat (dirty.toNat &&& 2) ≠ 0) ∨ bytes > endoff - cur then ⟨-1, cur, 0, D ++ buf.drop k, pos + k⟩
        else ⟨0, cur + bytes, 0, D ++ List.replicate (bytes - k).toNat 0 ++ (D ++ buf.drop k).drop bytes.toNat, pos + k⟩
      else ⟨0, cur + bytes, 3, D ++ buf.drop k, pos + k⟩ := by
  have hg : wrap32 k = k := wrap32_id _ (by omega) (by omega)
  have hm : min (k : Int).toNat bytes.toNat = k := by omega
  have h1 : ¬((k : Int) < 0 ∨ (k : Int) > bytes) := by omega
  simp only [readTail, hg, hm, hD, hlen, h1]
  simp [List.take_left' hlen]

def readOut (last cur cache dirty endoff : Int) (buf : List Int) (bytes : Int) (tape : List Int) (cnt : Int) (inp : List Int) (pos : Int) : ROut :=
  let sk : SOut := if last = 2 ∨ last = 0 then seekOut cur 0 cur tape cnt else ⟨0, cur, last, cnt, []⟩
  if sk.ret = -1 then ⟨-1, sk.cur, sk.last, sk.cnt, sk.newlog, buf, pos⟩ else
  let r := tape.getD sk.cnt.toNat 0
  let e := tape.getD (sk.cnt + 1).toNat 0
  let t := readTail sk.cur cache dirty endoff buf bytes r e inp pos
  ⟨t.ret, t.cur, t.last, sk.cnt + 2, sk.newlog ++ [2, bytes, r, 4, 0, e], t.buf, t.pos⟩

theorem readOut_newlog (last cur cache dirty endoff : Int) (buf : List Int) (bytes : Int) (tape : List Int) (cnt : Int) (inp : List Int) (pos : Int) :
    (readOut last cur cache dirty endoff buf bytes tape cnt inp pos).newlog =
      (let sk : SOut := if last = 2 ∨ last = 0 then seekOut cur 0 cur tape cnt else ⟨0, cur, last, cnt, []⟩
       if sk.ret = -1 then sk.newlog else sk.newlog ++ [2, bytes, tape.getD sk.cnt.toNat 0, 4, 0, tape.getD (sk.cnt + 1).toNat 0]) := by
  simp only [readOut, apply_ite ROut.newlog]

theorem readOut_last (last cur cache dirty endoff : Int) (buf : List Int) (bytes : Int) (tape : List Int) (cnt : Int) (inp : List Int) (pos : Int) :
    let o := readOut last cur cache dirty endoff buf bytes tape cnt inp pos
    let r := tape.getD (if last = 2 ∨ last = 0 then cnt + 1 else cnt).toNat 0
    o.last ≠ 0 → wrap32 r = bytes ∧ o.ret = 0 ∧ o.cur = cur + bytes ∧ o.last = 3 ∧
      o.newlog = (if last = 2 ∨ last = 0 then [1, cur, 0] else []) ++ [2, bytes, r, 4, 0, 0] := by
  unfold readOut seekOut
  by_cases h1 : last = 2 ∨ last = 0
  · by_cases h2 : tape[cnt.toNat]?.getD 0 = 0
    · simp [h1, h2]
      intro h
      obtain ⟨he, h⟩ := readTail_last _ _ _ _ _ _ _ _ _ _ h
      rw [he] at h
      simp [he, h]
    · simp [h1, h2]
  · simp [h1]
    intro h
    obtain ⟨he, h⟩ := readTail_last _ _ _ _ _ _ _ _ _ _ h
    rw [he] at h
    simp [he, h]

attribute [local simp] HP_read.chk HP_read.St.join

section
variable (fuel : Nat) (last cur cache dirty endoff : Int) (buf : List Int) (bytes : Int) (tape : List Int) (cnt : Int)
  (log inp : List Int) (pos : Int)

theorem HP_read_seek_ok (h1 : last = 2 ∨ last = 0) (h2 : tape[cnt.toNat]?.getD 0 = 0) :
    HP_read fuel last cur cache dirty endoff buf bytes tape cnt log inp pos =
      HP_read fuel 1 cur cache dirty endoff buf bytes tape (cnt + 1) (log ++ [1, cur, 0]) inp pos := by
  obtain ⟨k1, k2, k3, k4, k5, k6, k7⟩ := HPseek_spec fuel cur 0 cur tape cnt log
  simp [seekOut, h2] at k3 k4 k5 k6 k7
  simp [HP_read, h1, k1, k2, k3, k4, k5, k6, k7]

theorem HP_read_noseek (h1 : ¬(last = 2 ∨ last = 0))
    (hb : 0 ≤ bytes) (hbi : bytes < 2147483648) (hbuf : bytes ≤ buf.length) (hd : 0 ≤ dirty) :
    let s := HP_read fuel last cur cache dirty endoff buf bytes tape cnt log inp pos
    let o := readOut last cur cache dirty endoff buf bytes tape cnt inp pos
    s.ub = false ∧ s.oof = false ∧ s.ret = o.ret ∧ s.file_rec_f_cur_off = o.cur ∧ s.file_rec_last_op = o.last ∧
    s.io_cnt = o.cnt ∧ s.io_log = log ++ o.newlog ∧ s.buf = o.buf ∧ s.io_pos = o.pos := by
  have hm : bytes % 18446744073709551616 = bytes := by omega
  obtain ⟨r, hr⟩ : ∃ r, tape[cnt.toNat]?.getD 0 = r := ⟨_, rfl⟩
  obtain ⟨e, he⟩ : ∃ e, tape[(cnt + 1).toNat]?.getD 0 = e := ⟨_, rfl⟩
  obtain ⟨g, hg⟩ : ∃ g, (r + 2147483648) % 4294967296 - 2147483648 = g := ⟨_, rfl⟩
  obtain ⟨d, hd'⟩ : ∃ d, (inp.drop pos.toNat).take (min r.toNat bytes.toNat) = d := ⟨_, rfl⟩
  by_cases c1 : ¬e = 0 ∨ g < 0 ∨ bytes < g
  · simp [readOut, readTail, wrap32, HP_read, or_assoc, *]
    omega
  · by_cases c2 : g < bytes
    · have hm2 : (bytes - g) % 18446744073709551616 = bytes - g := by omega
      by_cases c3 : (¬cache = 0 → dirty.toNat &&& 2 = 0) ∨ endoff - cur < bytes
      · simp [readOut, readTail, wrap32, HP_read, or_assoc, *]
        omega
      · have hgb : g + (bytes - g) = bytes := by omega
        simp [readOut, readTail, wrap32, HP_read, or_assoc, *]
        omega
    · simp [readOut, readTail, wrap32, HP_read, or_assoc, *]
      omega
end

theorem HP_read_spec (fuel : Nat) (last cur cache dirty endoff : Int) (buf : List Int) (bytes : Int) (tape : List Int) (cnt : Int)
    (log inp : List Int) (pos : Int)
    (hb : 0 ≤ bytes) (hbi : bytes < 2147483648) (hbuf : bytes ≤ buf.length) (hd : 0 ≤ dirty) :
    let s := HP_read fuel last cur cache dirty endoff buf bytes tape cnt log inp pos
    let o := readOut last cur cache dirty endoff buf bytes tape cnt inp pos
    s.ub = false ∧ s.oof = false ∧ s.ret = o.ret ∧ s.file_rec_f_cur_off = o.cur ∧ s.file_rec_last_op = o.last ∧
    s.io_cnt = o.cnt ∧ s.io_log = log ++ o.newlog ∧ s.buf = o.buf ∧ s.io_pos = o.pos := by
  by_cases h1 : last = 2 ∨ last = 0
  · by_cases h2 : tape[cnt.toNat]?.getD 0 = 0
    · have h := HP_read_noseek fuel 1 cur cache dirty endoff buf bytes tape (cnt + 1) (log ++ [1, cur, 0]) inp pos (by decide) hb hbi hbuf hd
      rw [← HP_read_seek_ok fuel last cur cache dirty endoff buf bytes tape cnt log inp pos h1 h2] at h
      simpa [readOut, seekOut, h1, h2] using h
    · obtain ⟨k1, k2, k3, k4, k5, k6, k7⟩ := HPseek_spec fuel cur 0 cur tape cnt log
      simp [seekOut, h2] at k3 k4 k5 k6 k7
      simp [readOut, seekOut, HP_read, *]
  · exact HP_read_noseek fuel last cur cache dirty endoff buf bytes tape cnt log inp pos h1 hb hbi hbuf hd

section
variable (w : Stream) (err : Bool) (a r : Int) (rest pay inp : List Int) (fs : List (Option Fault))

theorem serve_nil : serve w err [] pay inp fs = some w := by
  simp [serve]

theorem serve_seek :
    serve w err (1 :: a :: r :: rest) pay inp fs =
      match fs.headD none with
      | none => if r = 0 ∧ 0 ≤ a then serve ⟨w.data, a.toNat⟩ err rest pay inp fs.tail else none
      | some _ => if r ≠ 0 then serve w err rest pay inp fs.tail else none := by
  cases h : fs.headD none <;> rw [List.headD_eq_head?_getD] at h <;> simp [serve, codes, h]

theorem serve_write :
    serve w err (3 :: a :: r :: rest) pay inp fs =
      match fs.headD none with
      | none => if r = a ∧ 0 ≤ a ∧ a.toNat ≤ pay.length then
          serve ⟨overwrite w.data w.pos (toBytes (pay.take a.toNat)), w.pos + a.toNat⟩ err rest (pay.drop a.toNat) inp fs.tail else none
      | some f => if r ≠ a ∧ 0 ≤ a ∧ a.toNat ≤ pay.length then
          serve ⟨overwrite w.data w.pos ((toBytes (pay.take a.toNat)).take f.wrote), f.pos⟩ true rest (pay.drop a.toNat) inp fs.tail else none := by
  cases h : fs.headD none <;> rw [List.headD_eq_head?_getD] at h <;> simp [serve, codes, h]

theorem serve_read :
    serve w err (2 :: a :: r :: rest) pay inp fs =
      match fs.headD none with
      | none => let k := min a.toNat (w.data.length - w.pos)
          if r = k ∧ inp.take k = toInts ((w.data.drop w.pos).take k) then
            serve ⟨w.data, w.pos + k⟩ false rest pay (inp.drop k) fs.tail else none
      | some f => if 0 ≤ r ∧ r ≤ a then serve ⟨w.data, f.pos⟩ true rest pay (inp.drop r.toNat) fs.tail else none := by
  cases h : fs.headD none <;> rw [List.headD_eq_head?_getD] at h <;> simp [serve, codes, h]

theorem serve_ferror :
    serve w err (4 :: a :: r :: rest) pay inp fs = if decide (r ≠ 0) = err then serve w err rest pay inp fs else none := by
  simp [serve, codes]
end

section
variable {w : Stream} {err : Bool} {a r : Int} {rest pay inp : List Int} {fs : List (Option Fault)} {w' : Stream}

theorem serve_seek_ok (h : serve w err (1 :: a :: 0 :: rest) pay inp fs = some w') :
    0 ≤ a ∧ serve ⟨w.data, a.toNat⟩ err rest pay inp fs.tail = some w' := by
  rw [serve_seek] at h
  split at h <;> simp_all

theorem serve_seek_prefix {cur : Int} {need : Prop} [Decidable need] (hi : ¬need → (w.pos : Int) = cur)
    (h : serve w err ((if need then [1, cur, 0] else []) ++ rest) pay inp fs = some w') :
    ∃ (p : Nat) (fs' : List (Option Fault)), (p : Int) = cur ∧ serve ⟨w.data, p⟩ err rest pay inp fs' = some w' := by
  by_cases hn : need
  · rw [if_pos hn] at h
    obtain ⟨h0, h⟩ := serve_seek_ok h
    exact ⟨cur.toNat, _, by omega, h⟩
  · rw [if_neg hn] at h
    exact ⟨w.pos, fs, hi hn, h⟩

theorem serve_write_ok (h : serve w err [3, a, a] pay inp fs = some w') : w'.pos = w.pos + a.toNat := by
  rw [serve_write] at h
  split at h <;> simp [serve_nil] at h
  obtain ⟨-, rfl⟩ := h
  rfl

theorem serve_read_ok (h : serve w err [2, a, r, 4, 0, 0] pay inp fs = some w') : 0 ≤ r ∧ r ≤ a.toNat ∧ w'.pos = w.pos + r.toNat := by
  rw [serve_read] at h
  split at h <;> simp [serve_ferror, serve_nil] at h
  obtain ⟨⟨rfl, _⟩, rfl⟩ := h
  simp; omega

/-- a failed `fseek` does not move the stream (clause A of the contract) -/
theorem serve_seek_failed (hr : r ≠ 0) (h : serve w err [1, a, r] pay inp fs = some w') : w' = w := by
  rw [serve_seek] at h
  split at h <;> simp_all [serve_nil]
end

section
variable (d : List Byte) (p c : Nat) (l : LastOp) (hl : l = .seek ∨ l = .read)
  (n : Nat) (cache dirty endoff : Int) (buf inp : List Int) (pos r e : Int) (fs fr : Option Fault) (err : Bool) (w' : Stream)
  (hn0 : 0 < n) (hn : n < 2147483648)
  (hs : serve ⟨d, p⟩ err [cRead, (n : Int), r, cFerror, 0, e] [] (inp.drop pos.toNat) [fr] = some w')
include hl hn0 hn hs

/-- `p` (where the stream stands) and `c` (`f_cur_off`) are separate: no invariant is assumed.  `hl`: no `fseek` is due.  The last disjunct: a
    fault-free short read from a position beyond the end of the file leaves the stream there, the model says "at the end" and trusts neither. -/
theorem readTail_ok :
    let t := readTail c cache dirty endoff buf n r e inp pos
    let zok := decide (cache ≠ 0 ∧ dirty.toNat &&& H4.Gen.Hpio.FILE_END_DIRTY ≠ 0 ∧ (n : Int) ≤ endoff - c)
    let m := hpReadZ ⟨⟨d, p⟩, c, l⟩ n zok fs fr
    t.ret = (if m.2.isSome then 0 else -1) ∧ t.cur = m.1.cur ∧ t.last = opCode m.1.last ∧
      w'.data = m.1.s.data ∧ (w'.pos = m.1.s.pos ∨ (m.1.last = .unknown ∧ m.1.s.data.length < w'.pos)) ∧
      ∀ bs, m.2 = some bs → t.buf.take n = toInts bs := by
  have hl' : ¬(l = .write ∨ l = .unknown) := by rcases hl with rfl | rfl <;> simp
  cases fr with
  | some f =>
    simp [codes, serve_read, serve_ferror, serve_nil] at hs
    obtain ⟨_, he, rfl⟩ := hs
    simp [readTail, he, hpReadZ, hl', opc]
  | none =>
    simp [codes, serve_read, serve_ferror, serve_nil] at hs
    obtain ⟨⟨rfl, hin⟩, rfl, rfl⟩ := hs
    intro t zok m
    have hlen : (toInts (List.take (min n (d.length - p)) (List.drop p d))).length = min n (d.length - p) := by simp
    simp only [t, readTail_clean c cache dirty endoff buf n inp pos _ _ (by omega) (by omega) hin hlen]
    by_cases hfull : p + n ≤ d.length
    · have hk : min n (d.length - p) = n := by omega
      simp [zok, m, hk, hpReadZ, hl', hfull, opc]
    · have hk : min n (d.length - p) = d.length - p := by omega
      have htn : List.take n (List.drop p d) = List.drop p d := List.take_of_length_le (by simp; omega)
      by_cases hz : cache ≠ 0 ∧ dirty.toNat &&& H4.Gen.Hpio.FILE_END_DIRTY ≠ 0 ∧ (n : Int) ≤ endoff - c
      · have hd2 : ¬dirty.toNat &&& 2 = 0 := by simpa [consts] using hz.2.1
        have hef : ¬endoff - ↑c < (n : Int) := by omega
        have htk : List.take (d.length - p) (List.drop p d) = List.drop p d := List.take_of_length_le (by simp)
        simp [zok, m, hk, hpReadZ, hl', hfull, opc, hz, hd2, hef, htn, htk, toInts_append, toInts_replicate0, show d.length - p < n by omega]
        refine ⟨by omega, ?_⟩
        rw [← List.append_assoc, List.take_left']
        simp; omega
      · have hz' : (¬cache = 0 → dirty.toNat &&& 2 = 0) ∨ endoff - ↑c < (n : Int) := by simp [consts] at hz; omega
        simp [zok, m, hk, hpReadZ, hl', hfull, opc, hz, hz', show d.length - p < n by omega]
        omega

theorem readTail_refines :
    let t := readTail c cache dirty endoff buf n r e inp pos
    let zok := decide (cache ≠ 0 ∧ dirty.toNat &&& H4.Gen.Hpio.FILE_END_DIRTY ≠ 0 ∧ (n : Int) ≤ endoff - c)
    let m := hpReadZ ⟨⟨d, p⟩, c, l⟩ n zok fs fr
    t.ret = (if m.2.isSome then 0 else -1) ∧ t.cur = m.1.cur ∧ t.last = opCode m.1.last ∧
      w'.data = m.1.s.data ∧ (w'.pos = m.1.s.pos ∨ (m.1.last = .unknown ∧ m.1.s.data.length < w'.pos)) :=
  have h := readTail_ok d p c l hl n cache dirty endoff buf inp pos r e fs fr err w' hn0 hn hs
  ⟨h.1, h.2.1, h.2.2.1, h.2.2.2.1, h.2.2.2.2.1⟩

theorem readTail_data :
    let t := readTail c cache dirty endoff buf n r e inp pos
    let zok := decide (cache ≠ 0 ∧ dirty.toNat &&& H4.Gen.Hpio.FILE_END_DIRTY ≠ 0 ∧ (n : Int) ≤ endoff - c)
    let m := hpReadZ ⟨⟨d, p⟩, c, l⟩ n zok fs fr
    ∀ bs, m.2 = some bs → t.buf.take n = toInts bs :=
  (readTail_ok d p c l hl n cache dirty endoff buf inp pos r e fs fr err w' hn0 hn hs).2.2.2.2.2

end

end H4.Lemmas.C16Fn
