import H4.ElemSpec
/-! Pointwise facts about the physical-file primitives of `H4.Elem` (`rd`, `diskWrite`, `diskRead`), the lookup in the
    models' tables, and the read length every `Hread` variant computes. -/
namespace H4.Elem

theorem find?_filter_ne {κ α : Type} [BEq κ] [LawfulBEq κ] (l : List (κ × α)) (k k' : κ) (hne : k' ≠ k) :
    (l.filter (fun p => p.1 != k)).find? (fun p => p.1 == k') = l.find? (fun p => p.1 == k') := by
  induction l with
  | nil => rfl
  | cons x xs ih =>
    simp only [List.filter_cons]
    by_cases hx : x.1 = k
    · have h1 : (x.1 != k) = false := by simp [hx]
      have h2 : (x.1 == k') = false := by simp [hx]; exact fun e => hne e.symm
      simp only [h1, Bool.false_eq_true, if_false, List.find?_cons, h2, ih]
    · have h1 : (x.1 != k) = true := by simp [hx]
      simp only [h1, if_true, List.find?_cons, ih]

/-- the tables of the models (access records, descriptors, external elements) are association lists; an entry is
    replaced by filtering its key out and putting the new pair in front -/
theorem find?_cons_filter {κ α : Type} [BEq κ] [LawfulBEq κ] [DecidableEq κ] (l : List (κ × α)) (k k' : κ) (a : α) :
    (((k, a) :: l.filter (fun p => p.1 != k)).find? (fun p => p.1 == k')).map (·.2) =
      if k' = k then some a else (l.find? (fun p => p.1 == k')).map (·.2) := by
  by_cases e : k' = k
  · subst e; simp
  · have : (k == k') = false := by simp; exact fun c => e c.symm
    rw [if_neg e, List.find?_cons, this, find?_filter_ne _ _ _ e]

/-- the file tables of both models are padded with default entries before an index beyond their end is used -/
theorem getD_append_replicate {α} (l : List α) (n j : Nat) (d : α) :
    ((l ++ List.replicate n d)[j]?).getD d = (l[j]?).getD d := by
  by_cases hl : j < l.length
  · rw [List.getElem?_append_left hl]
  · rw [List.getElem?_append_right (by omega), List.getElem?_eq_none (by omega : l.length ≤ j)]
    simp only [List.getElem?_replicate]
    split <;> rfl

/-- the C's clamped read length (`length = 0`: to the end) is `readCount`, unless the position lies beyond the end -/
theorem readLen_spec (L p : Nat) (n : Int) (hn : 0 ≤ n) :
    ((if n = 0 ∨ n + p > L then (L : Int) - p else n) < 0 ∧ readCount L p n.toNat = 0) ∨
    (0 ≤ (if n = 0 ∨ n + p > L then (L : Int) - p else n) ∧
      (if n = 0 ∨ n + p > L then (L : Int) - p else n).toNat = readCount L p n.toNat ∧ p + readCount L p n.toNat ≤ L) := by
  unfold readCount
  by_cases hc : n = 0 ∨ n + p > L
  · have hc' : n.toNat = 0 ∨ p + n.toNat > L := by omega
    rw [if_pos hc, if_pos hc']
    by_cases hp : p ≥ L
    · rw [if_pos hp]; omega
    · rw [if_neg hp]; omega
  · have hc' : ¬ (n.toNat = 0 ∨ p + n.toNat > L) := by omega
    rw [if_neg hc, if_neg hc', if_neg (by omega)]
    omega

theorem rd_eq (d : Bytes) (i : Nat) : rd d i = d[i]?.getD 0 := by
  simp [rd, List.getD]

theorem rd_of_lt (d : Bytes) (i : Nat) (h : i < d.length) : rd d i = d[i] := by
  simp [rd_eq, h]

theorem rd_of_ge (d : Bytes) (i : Nat) (h : d.length ≤ i) : rd d i = 0 := by
  simp [rd_eq, h]

theorem zeros_length (n : Nat) : (zeros n).length = n := by simp [zeros]

theorem diskWrite_nil (d : Bytes) (off : Nat) : diskWrite d off [] = d := rfl

theorem diskWrite_length (d : Bytes) (off : Nat) (bs : Bytes) (h : bs ≠ []) :
    (diskWrite d off bs).length = max d.length (off + bs.length) := by
  cases bs with
  | nil => exact absurd rfl h
  | cons b t =>
    simp only [diskWrite, List.length_append, List.length_take, List.length_drop, zeros_length, List.length_cons]
    omega

theorem rd_diskWrite (d : Bytes) (off : Nat) (bs : Bytes) (i : Nat) :
    rd (diskWrite d off bs) i = if off ≤ i ∧ i < off + bs.length then bs.getD (i - off) 0 else rd d i := by
  cases bs with
  | nil =>
    have : ¬ (off ≤ i ∧ i < off + ([] : Bytes).length) := by simp
    rw [if_neg this]; rfl
  | cons b t =>
    simp only [diskWrite, rd_eq, List.getD_eq_getElem?_getD]
    by_cases h1 : i < off
    · have : ¬ (off ≤ i ∧ i < off + (b :: t).length) := by omega
      simp only [this, if_false]
      rw [List.append_assoc, List.getElem?_append_left (by simp [zeros_length]; omega)]
      rw [List.getElem?_take, if_pos h1, List.getElem?_append]
      by_cases h2 : i < d.length
      · simp [h2]
      · simp only [h2, if_false]
        rw [List.getElem?_eq_none (by omega : d.length ≤ i)]
        simp only [zeros, List.getElem?_replicate]
        split <;> rfl
    · by_cases h2 : i < off + (b :: t).length
      · have : off ≤ i ∧ i < off + (b :: t).length := by omega
        simp only [this, and_self, if_true]
        rw [List.append_assoc, List.getElem?_append_right (by simp [zeros_length]; omega)]
        have hl : (List.take off (d ++ zeros (off - d.length))).length = off := by simp [zeros_length]; omega
        rw [hl, List.getElem?_append_left (by omega)]
      · have : ¬ (off ≤ i ∧ i < off + (b :: t).length) := by omega
        simp only [this, if_false]
        have hl : (List.take off (d ++ zeros (off - d.length))).length = off := by simp [zeros_length]; omega
        rw [List.append_assoc, List.getElem?_append_right (by omega), hl,
          List.getElem?_append_right (by omega), List.getElem?_drop]
        congr 2
        omega

theorem diskRead_eq (d : Bytes) (off n : Nat) (bs : Bytes) (h : diskRead d off n = some bs) :
    bs = (List.range n).map (fun i => rd d (off + i)) := by
  unfold diskRead at h
  split at h
  · subst_vars; simp at h; subst h; simp
  · split at h
    · simp at h; subst h
      apply List.ext_getElem?
      intro i
      simp only [List.getElem?_take, List.getElem?_drop, List.getElem?_map]
      by_cases hi : i < n
      · have : off + i < d.length := by omega
        simp [hi, rd_eq, this]
      · simp [hi]
    · simp at h

theorem diskRead_some (d : Bytes) (off n : Nat) (h : off + n ≤ d.length) :
    diskRead d off n = some ((List.range n).map (fun i => rd d (off + i))) := by
  have : ∃ bs, diskRead d off n = some bs := by
    unfold diskRead; split
    · exact ⟨_, rfl⟩
    · first
        | exact ⟨_, rfl⟩
        | (split
           · exact ⟨_, rfl⟩
           · contradiction)
  obtain ⟨bs, hb⟩ := this
  rw [hb, diskRead_eq d off n bs hb]

theorem diskRead_length (d : Bytes) (off n : Nat) (bs : Bytes) (h : diskRead d off n = some bs) : bs.length = n := by
  rw [diskRead_eq d off n bs h]; simp

theorem hpRead_eq (f : File) (off n : Nat) (bs : Bytes) (h : f.hpRead off n = some bs) :
    bs = (List.range n).map (fun i => rd f.disk (off + i)) := by
  unfold File.hpRead at h
  cases hd : diskRead f.disk off n with
  | some b =>
    rw [hd] at h
    simp only [Option.some.injEq] at h
    rw [← h]; exact diskRead_eq _ _ _ _ hd
  | none =>
    rw [hd] at h
    simp only at h
    split at h
    · exact (Option.some.inj h).symm
    · cases h

theorem hpRead_some (f : File) (off n : Nat) (h : off + n ≤ f.disk.length) :
    f.hpRead off n = some ((List.range n).map (fun i => rd f.disk (off + i))) := by
  unfold File.hpRead
  rw [diskRead_some _ _ _ h]

theorem hpRead_length (f : File) (off n : Nat) (bs : Bytes) (h : f.hpRead off n = some bs) : bs.length = n := by
  rw [hpRead_eq f off n bs h]; simp

theorem specRead_range (g : Nat → UInt8) (L p c : Nat) (h : c = 0 ∨ p + c ≤ L) :
    specRead ((List.range L).map g) p c = (List.range c).map (fun j => g (p + j)) := by
  unfold specRead
  apply List.ext_getElem?
  intro i
  simp only [List.getElem?_take, List.getElem?_drop, List.getElem?_map]
  by_cases hi : i < c
  · simp only [hi, if_true, List.getElem?_range hi, Option.map_some]
    rw [List.getElem?_range (by omega : p + i < L)]
    rfl
  · simp only [hi, if_false]
    rw [List.getElem?_eq_none (by simp; omega : (List.range c).length ≤ i)]
    rfl

theorem readCount_fits (L p n : Nat) : readCount L p n = 0 ∨ p + readCount L p n ≤ L := by
  unfold readCount
  split
  · exact Or.inl rfl
  · right; split <;> omega

theorem specWrite_range (g g' : Nat → UInt8) (l p : Nat) (bs : Bytes)
    (htail : ∀ i, l ≤ i → i < p → g i = 0)
    (hg' : ∀ i, g' i = if p ≤ i ∧ i < p + bs.length then bs.getD (i - p) 0 else g i) :
    (List.range (max l (p + bs.length))).map g' = specWrite ((List.range l).map g) p bs := by
  unfold specWrite
  rw [List.length_map, List.length_range]
  apply List.map_congr_left
  intro i hi
  have hi : i < max l (p + bs.length) := List.mem_range.mp hi
  rw [hg']
  by_cases hin : p ≤ i ∧ i < p + bs.length
  · rw [if_pos hin, if_pos hin]
  · rw [if_neg hin, if_neg hin, List.getD_eq_getElem?_getD, List.getElem?_map]
    by_cases h : i < l
    · rw [List.getElem?_range h]; rfl
    · rw [List.getElem?_eq_none (by simp; omega)]
      exact htail i (by omega) (by omega)

theorem readCount_le (L p n : Nat) : p + readCount L p n ≤ max L p := by
  unfold readCount
  split
  · omega
  · split <;> omega

end H4.Elem
