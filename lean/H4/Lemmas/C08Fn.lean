import H4.Gen.Fn.Vgp
import H4.Lemmas.VGroupBytes
import H4.Lemmas.BigEndian
import H4.Lemmas.C2LBytes
/-! `vpackvg` of `hdf/src/vgp.c` as translated from the C text (`H4.Gen.Fn.Vgp`) writes the record of the model `H4.VGroup.vpackvgF true`.
    The generated `have` chain is restated as phases over the ENCODE macros of `H4.C2L` (`vpackvg_phases`); every phase appends its bytes to
    the run stored so far (`wr`; its one bounds check is discharged in `ph8_wr`; the two `strcpy` need room where they stand: `pstr_beh`,
    discharged in `run_at`).  A `strcpy` leaves its NUL under the cursor and the next store overwrites it: lemmas named `_beh` accept such a
    state (`H4.C2L.beh`), those named `_wr` a plain run. -/
namespace H4.Lemmas.C08Fn
open H4 H4.VGroup H4.Gen.Hdf H4.Gen.Fn.Vgp H4.C2L

abbrev St := vpackvg.St

theorem u16_length (x : Nat) : (u16 x).length = 2 := rfl
theorem u32_length (x : Nat) : (u32 x).length = 4 := rfl

theorem take_size (r : Bytes) (rest size : List Int) (hsize : 0 < size.length) :
    (bytesI r ++ rest).take ((size.set 0 (r.length : Int)).getD 0 0).toNat = bytesI r := by
  have : ((size.set 0 (r.length : Int)).getD 0 0).toNat = (bytesI r).length := by
    cases size with
    | nil => exact absurd hsize (by decide)
    | cons a t => simp
  rw [this, List.take_left' rfl]

theorem chk_true (s : St) (c : Prop) [Decidable c] (h : c) : vpackvg.chk s c = s := by
  simp [vpackvg.chk, h]

def frame (s : St) : St := { s with bb := 0, buf := [], ub := false, oof := false }

/-- An invariant in the relational style; the proofs below go through equations `.. = wr vL s bytes` and do not use it.  The cell under
    `bb` may have been clobbered by the terminating NUL of a `strcpy`. -/
structure At (F : St) (b0 : List Int) (s : St) (out : List Int) : Prop where
  bb : s.bb = (out.length : Int)
  buf : ∃ z, s.buf = out ++ z :: b0.drop (out.length + 1)
  fr : frame s = frame F
  ub : s.ub = false
  oof : s.oof = false

theorem At.bounds {F b0 s out} (h : At F b0 s out) : 0 ≤ s.bb ∧ s.bb < s.buf.length := by
  obtain ⟨z, hz⟩ := h.buf
  rw [h.bb, hz]
  simp only [List.length_append, List.length_cons]
  omega

def vL : Cursor St where
  buf := (·.buf)
  pos := (·.bb)
  ub := (·.ub)
  setBuf := vpackvg.St.set_buf
  setPos := vpackvg.St.set_bb
  chk := fun s c _ => vpackvg.chk s c

theorem vP : vL.Plain fun s u => { s with ub := u } := {}
theorem vLaw : vL.LawfulW := vP.lawfulW

/-- the check in front of `reg[i]` -/
abbrev idx (reg : St → List Int) : St → St := idxchk vL (·.i) reg
/-- `reg[i]` -/
abbrev cell (reg : St → List Int) : St → Int := cellOf (·.i) reg

/-- locals initialised; `bb = &buf[0]` -/
def ph0 (s : St) : St :=
  have s : St := vpackvg.St.set_slen s (((0) % 18446744073709551616))
  have s : St := vpackvg.St.set_temp_len s (((0) % 65536))
  have s : St := vpackvg.St.set_ret_value s (0)
  have s : St := vpackvg.St.set_bb s (0)
  s

/-- nvelt and the tags -/
def ph1 (fuel : Nat) (s : St) : St :=
  have s : St := wr16N vL id (·.vg_nvelt) (·.vg_nvelt) 255 s
  have s : St := vpackvg.St.set_i s (((0) % 4294967296))
  vpackvg.loop0 fuel s

/-- the refs -/
def ph2 (fuel : Nat) (s : St) : St :=
  have s : St := vpackvg.St.set_i s (((0) % 4294967296))
  vpackvg.loop1 fuel s

/-- `if (p != NULL) slen = strlen(p);` -/
def pstrA (s : St) (null : St → Bool) (str : St → List Int) : St :=
  if (null s = false) then
      have s : St := vpackvg.chk s (0 ≤ 0 ∧ (0 : Int) ∈ ((str s).drop (Int.toNat (0))))
      have s : St := vpackvg.St.set_slen s ((Int.ofNat (((str s).drop (Int.toNat (0))).takeWhile (· ≠ 0)).length))
      s
    else
      s

/-- `if (p != NULL) strcpy((char *)bb, p);` -/
def pstrB (s : St) (null : St → Bool) (str : St → List Int) : St := if (null s = false) then pcpy vL str s else s

/-- `if (p != NULL) slen = strlen(p); temp_len = (uint16)(slen > 0 ? slen : 0); UINT16ENCODE(bb, temp_len);
    if (p != NULL) strcpy((char *)bb, p); bb += temp_len;` -/
def pstr (s : St) (null : St → Bool) (str : St → List Int) : St :=
  have s : St := pstrA s null str
  have s : St := vpackvg.St.set_temp_len s ((((if (s.slen > ((0) % 18446744073709551616)) then s.slen else ((0) % 18446744073709551616))) % 65536))
  have s : St := wr16N vL id (·.temp_len) (·.temp_len) 255 s
  have s : St := pstrB s null str
  have s : St := vpackvg.St.set_bb s ((s.bb + s.temp_len))
  s

/-- the name -/
def ph3 (s : St) : St := pstr s (·.vg_vgname_null) (·.vg_vgname)

/-- `slen = 0;` and the class -/
def ph4 (s : St) : St :=
  have s : St := vpackvg.St.set_slen s (((0) % 18446744073709551616))
  pstr s (·.vg_vgclass_null) (·.vg_vgclass)

/-- extag, exref -/
def ph5 (s : St) : St :=
  have s : St := wr16N vL id (·.vg_extag) (·.vg_extag) 255 s
  wr16N vL id (·.vg_exref) (·.vg_exref) 255 s

/-- `if (vg->version < VSET_NEW_VERSION) vg->version = VSET_NEW_VERSION;` -/
def ph6a (s : St) : St :=
  if (s.vg_version < 4) then
      have s : St := vpackvg.St.set_vg_version s ((((4) + 32768) % 65536 - 32768))
      s
    else
      s

/-- `if (vg->flags & VG_ATTR_SET) { INT32ENCODE(bb, vg->nattrs); for (…) { … } }` -/
def ph6b (fuel : Nat) (s : St) : St :=
  if ((Int.ofNat (Int.toNat (s.vg_flags) &&& Int.toNat (((1) % 4294967296)))) ≠ 0) then
      have s : St := wr32N vL id (castU32 (·.vg_nattrs)) s
      have s : St := vpackvg.St.set_i s (((0) % 4294967296))
      have s : St := vpackvg.loop2 fuel s
      s
    else
      s

/-- the flags word, the version bump and the attribute list -/
def ph6 (fuel : Nat) (s : St) : St :=
  if ((s.vg_flags ≠ 0) ∨ (s.vg_version = 4)) then
      have s : St := ph6a s
      have s : St := wr32N vL id (·.vg_flags) s
      have s : St := vpackvg.chk s ((0 : Int) ≤ s.vg_flags ∧ (0 : Int) ≤ ((1) % 4294967296))
      have s : St := ph6b fuel s
      s
    else
      s

/-- version, more (the low byte is `(x) & 0xff` on the `int16` itself) -/
def ph7 (s : St) : St :=
  have s : St := wr16N vL id (castU32 (·.vg_version)) (·.vg_version) 255 s
  have s : St := wr16N vL id (castU32 (·.vg_more)) (·.vg_more) 255 s
  s

/-- `*size = (int32)(bb - buf) + 1; *bb = 0; return ret_value;` -/
def ph8 (s : St) : St :=
  have s : St := vpackvg.chk s (0 < s.size.length)
  have s : St := vpackvg.St.set_size s (s.size.set (Int.toNat (0)) (((s.bb - 0) + 1)))
  have s : St := vpackvg.chk s (0 ≤ s.bb ∧ s.bb < s.buf.length)
  have s : St := vpackvg.St.set_buf s (s.buf.set (Int.toNat (s.bb)) (((0) % 256)))
  have s : St := vpackvg.St.set_ret s (s.ret_value)
  s

/-- the translated function, called with NAMED arguments: the translator orders the parameters of the generated definition by
    their first use in the C text, naming them keeps every statement below independent of that order -/
def vpackvgC (fuel : Nat) (nvelt : Int) (tag ref : List Int) (nnull : Bool) (nstr : List Int) (cnull : Bool) (cstr : List Int)
    (extag exref flags version nattrs : Int) (atag aref : List Int) (more : Int) (buf size : List Int) : St :=
  Gen.Fn.Vgp.vpackvg (fuel := fuel) (vg_nvelt := nvelt) (vg_tag := tag) (vg_ref := ref) (vg_vgname_null := nnull) (vg_vgname := nstr)
    (vg_vgclass_null := cnull) (vg_vgclass := cstr) (vg_extag := extag) (vg_exref := exref) (vg_flags := flags)
    (vg_version := version) (vg_nattrs := nattrs) (vg_alist_atag := atag) (vg_alist_aref := aref) (vg_more := more)
    (buf := buf) (size := size)

/-- **the restatement is the generated definition** (checked by unfolding both sides: any change of the translated C text that
    is not a change of these phases breaks this `rfl`) -/
theorem vpackvg_phases (fuel : Nat) (vg_nvelt : Int) (vg_tag vg_ref : List Int) (vg_vgname_null : Bool) (vg_vgname : List Int)
    (vg_vgclass_null : Bool) (vg_vgclass : List Int) (vg_extag vg_exref vg_flags vg_version vg_nattrs : Int)
    (vg_alist_atag vg_alist_aref : List Int) (vg_more : Int) (buf size : List Int) :
    vpackvgC fuel vg_nvelt vg_tag vg_ref vg_vgname_null vg_vgname vg_vgclass_null vg_vgclass vg_extag vg_exref vg_flags vg_version
      vg_nattrs vg_alist_atag vg_alist_aref vg_more buf size =
    ph8 (ph7 (ph6 fuel (ph5 (ph4 (ph3 (ph2 fuel (ph1 fuel (ph0
      { vg_nvelt := vg_nvelt, vg_tag := vg_tag, vg_ref := vg_ref, vg_vgname_null := vg_vgname_null, vg_vgname := vg_vgname,
        vg_vgclass_null := vg_vgclass_null, vg_vgclass := vg_vgclass, vg_extag := vg_extag, vg_exref := vg_exref,
        vg_flags := vg_flags, vg_version := vg_version, vg_nattrs := vg_nattrs, vg_alist_atag := vg_alist_atag,
        vg_alist_aref := vg_alist_aref, vg_more := vg_more, buf := buf, size := size })))))))) := by
  kernel_rfl

theorem loop0_body (fuel : Nat) (s : St) : vpackvg.loop0.body fuel s =
    (have s : St := wr16N vL (idx (·.vg_tag)) (cell (·.vg_tag)) (cell (·.vg_tag)) 255 s; vpackvg.St.set_i s ((((s.i + 1)) % 4294967296))) := by kernel_rfl

theorem loop1_body (fuel : Nat) (s : St) : vpackvg.loop1.body fuel s =
    (have s : St := wr16N vL (idx (·.vg_ref)) (cell (·.vg_ref)) (cell (·.vg_ref)) 255 s; vpackvg.St.set_i s ((((s.i + 1)) % 4294967296))) := by kernel_rfl

theorem loop2_body (fuel : Nat) (s : St) : vpackvg.loop2.body fuel s =
    (have s : St := wr16N vL (idx (·.vg_alist_atag)) (cell (·.vg_alist_atag)) (cell (·.vg_alist_atag)) 255 s
     have s : St := wr16N vL (idx (·.vg_alist_aref)) (cell (·.vg_alist_aref)) (cell (·.vg_alist_aref)) 255 s
     vpackvg.St.set_i s ((((s.i + 1)) % 4294967296))) := by kernel_rfl

/-- what the caller passes for a name: `NULL` (`null = true`, the region is not read) or a NUL-terminated string -/
def StrArg (nm : Option Bytes) (null : Bool) (str : List Int) : Prop :=
  match nm with
  | none => null = true
  | some b => null = false ∧ ∃ pad, str = bytesI b ++ 0 :: pad

theorem consts : VSET_NEW_VERSION = 4 ∧ VG_ATTR_SET = 1 := by decide

theorem land_attr (n : Nat) : (Int.ofNat (Int.toNat (n : Int) &&& Int.toNat (((1) % 4294967296))) ≠ 0) ↔ n &&& VG_ATTR_SET ≠ 0 := by
  rw [land_one, consts.2, Nat.and_one_is_mod]; omega

/-- `vg->nattrs` is an `intn` compared through `(unsigned)`: non-negative, hence below 2^31 -/
structure AttrArg (g : VG) (nattrs : Int) (atag aref : List Int) : Prop where
  n : nattrs = (g.attrs.length : Int)
  lt : g.attrs.length < 2147483648
  atag : ∃ pad, atag = ints (g.attrs.map (·.1)) ++ pad
  aref : ∃ pad, aref = ints (g.attrs.map (·.2)) ++ pad

/-- `for (i = 0; i < bound; i++) body` where `body` stores `piece l[i]`; `i` is `unsigned`, so `i++` is taken modulo 2^32 -/
theorem loop_wr {α : Type} {loop gen : Nat → St → St} {body : St → St} {bound : St → Int} (hbf : vL.Frames bound)
    (hbi : ∀ t v, bound (vpackvg.St.set_i t v) = bound t) (hl : IsLoop loop (fun s => s.i < bound s) gen fun s => s)
    (hgen : ∀ f t, gen f t = vpackvg.St.set_i (body t) (((body t).i + 1) % 4294967296))
    (l : List α) (piece : α → List Int) (s : St) (a : List Int)
    (hstep : ∀ k (hk : k < l.length) o, body (wr vL (s.set_i k) o) = wr vL (s.set_i k) (o ++ piece l[k]))
    (fuel : Nat) (hf : l.length ≤ fuel) (hlen : l.length < 4294967296) (hn : bound s = l.length) :
    loop fuel (wr vL (s.set_i (0 % 4294967296)) a) = wr vL (s.set_i l.length) (a ++ l.flatMap piece) :=
  wr_loop (L := vL) hl l piece (fun k => s.set_i k) a
    (fun k _ => by
      rw [frames_wr (L := vL) (x := (·.i)) {}, frames_wr hbf, hbi, hn]
      exact Int.ofNat_lt)
    (fun k hk f => by
      rw [hgen, hstep k hk, frames_wr (L := vL) (x := (·.i)) {}, comm_wr (L := vL) (g := (vpackvg.St.set_i · _)) {}]
      show wr vL (s.set_i (((k : Int) + 1) % 4294967296)) _ = _
      rw [show ((k : Int) + 1) % 4294967296 = ((k + 1 : Nat) : Int) by omega])
    hf

/-- `for (i = 0; i < (unsigned)vg->nvelt; i++) UINT16ENCODE(bb, reg[i]);` for `reg` one of `vg->tag`, `vg->ref` -/
theorem loopU16_wr {loop gen : Nat → St → St} {reg : St → List Int} (hreg : vL.Frames reg) (hri : ∀ t v, reg (vpackvg.St.set_i t v) = reg t)
    (hl : IsLoop loop (fun s => s.i < s.vg_nvelt) gen fun s => s)
    (hgen : ∀ f t, gen f t = (have t : St := wr16N vL (idx reg) (cell reg) (cell reg) 255 t; vpackvg.St.set_i t ((((t.i + 1)) % 4294967296))))
    (l : List Pair) (g : Pair → Nat) (pad : List Int) (s : St) (a : List Int) (fuel : Nat) (hf : l.length ≤ fuel)
    (hlen : l.length < 4294967296) (ht : reg s = ints (l.map g) ++ pad) (hn : s.vg_nvelt = l.length) :
    loop fuel (wr vL (s.set_i (0 % 4294967296)) a) = wr vL (s.set_i l.length) (a ++ bytesI (l.flatMap fun p => u16 (g p))) := by
  rw [← flatMap_be16I]
  exact loop_wr (body := wr16N vL (idx reg) (cell reg) (cell reg) 255) (bound := (·.vg_nvelt)) {} (fun _ _ => rfl) hl hgen l
    (fun p => be16I (g p : Int)) s a (fun k hk o => H4.C2L.cell16_wr vLaw {} hreg l g pad _ o ((hri s k).trans ht) k rfl hk) fuel hf hlen hn

theorem ph1_wr (fuel : Nat) (s : St) (l : List Pair) (pad : List Int) (hf : l.length ≤ fuel) (hl : l.length < 4294967296)
    (hn : s.vg_nvelt = l.length) (ht : s.vg_tag = ints (l.map (·.1)) ++ pad) :
    ph1 fuel s = wr vL (s.set_i l.length) (bytesI (u16 l.length) ++ bytesI (l.flatMap fun p => u16 p.1)) := by
  simp only [ph1]
  rw [wr16N_id vLaw (xh := (·.vg_nvelt)) (x := (·.vg_nvelt)) {} {} s l.length hn hn (by omega) rfl, comm_wr (L := vL) (g := (vpackvg.St.set_i · _)) {}, be16I_u16]
  exact loopU16_wr (reg := (·.vg_tag)) {} (fun _ _ => rfl) (.of_eqs (fun _ => rfl) fun _ _ => rfl) loop0_body l (·.1) pad s _ fuel hf (by omega) ht hn

theorem ph2_wr (fuel : Nat) (s : St) (a : List Int) (l : List Pair) (pad : List Int) (hf : l.length ≤ fuel) (hl : l.length < 4294967296)
    (hn : s.vg_nvelt = l.length) (ht : s.vg_ref = ints (l.map (·.2)) ++ pad) :
    ph2 fuel (wr vL s a) = wr vL (s.set_i l.length) (a ++ bytesI (l.flatMap fun p => u16 p.2)) := by
  simp only [ph2]
  rw [comm_wr (L := vL) (g := (vpackvg.St.set_i · _)) {}]
  exact loopU16_wr (reg := (·.vg_ref)) {} (fun _ _ => rfl) (.of_eqs (fun _ => rfl) fun _ _ => rfl) loop1_body l (·.2) pad s _ fuel hf (by omega) ht hn

/-- `hsl`: a NULL name keeps the old `slen`, which vgp.c initialises to 0 and resets before the class (`ph4`).  `hroom`: the copy includes
    the NUL, one cell beyond the name; it lands on the first byte of the next field, the final `*bb = 0` of `ph8` supplies the last one. -/
theorem pstr_beh (s : St) (a : List Int) (z : Option Int) (null : St → Bool) (str : St → List Int) (nm : Option Bytes)
    (hnm : NameMemOK nm) (ha : StrArg nm (null s) (str s)) (hsl : s.slen = 0) (k : Nat) (hp : s.bb = k)
    (hroom : k + a.length + 2 + (nm.getD []).length + 1 ≤ s.buf.length)
    (hn : vL.Frames null := by exact {}) (hs : vL.Frames str := by exact {})
    (hn1 : ∀ t v, null (vpackvg.St.set_slen t v) = null t := by intros; rfl)
    (hn2 : ∀ t v, null (vpackvg.St.set_temp_len t v) = null t := by intros; rfl)
    (hs1 : ∀ t v, str (vpackvg.St.set_slen t v) = str t := by intros; rfl)
    (hs2 : ∀ t v, str (vpackvg.St.set_temp_len t v) = str t := by intros; rfl) :
    pstr (beh vL s a z) null str =
      beh vL ((s.set_slen ((nm.getD []).length : Nat)).set_temp_len ((nm.getD []).length : Nat)) (a ++ bytesI (packStr nm)) (nm.map fun _ => 0) := by
  obtain ⟨n, hn0⟩ : ∃ n, n = (nm.getD []).length := ⟨_, rfl⟩
  have hlen : n < 65536 := by
    rw [hn0]
    cases nm with
    | none => simp
    | some b => exact hnm.1
  have pk : packStr nm = u16 n ++ nm.getD [] := by
    simp only [packStr, hn0, Nat.mod_eq_of_lt (hn0 ▸ hlen), List.take_length]
  rw [← hn0]
  have e1 : pstrA (beh vL s a z) null str = beh vL (s.set_slen (n : Nat)) a z := by
    cases nm with
    | none =>
      have e : null (beh vL s a z) = true := (frames_beh hn s a z).trans ha
      have hF : s.set_slen ((n : Nat) : Int) = s := by
        rw [hn0]
        simp only [Option.getD_none, List.length_nil, vpackvg.St.set_slen]
        rw [show ((0 : Nat) : Int) = s.slen by rw [hsl]; rfl]
      rw [hF]
      simp only [pstrA, e, Bool.true_eq_false, if_false]
    | some b =>
      obtain ⟨hnull, pad, hstr⟩ := ha
      have e : null (beh vL s a z) = false := (frames_beh hn s a z).trans hnull
      have es : str (beh vL s a z) = bytesI b ++ 0 :: pad := (frames_beh hs s a z).trans hstr
      obtain ⟨c1, tw⟩ := cstr_strlen es (mem_bytesI_zero b hnm.2)
      simp only [pstrA, e, if_true]
      simp only [chk_true _ _ c1]
      rw [tw, bytesI_length,
        comm_beh (L := vL) (g := (vpackvg.St.set_slen · _)) {}, hn0]
      rfl
  have tl : ((if ((s.set_slen (n : Nat)).slen > ((0) % 18446744073709551616)) then (s.set_slen (n : Nat)).slen else ((0) % 18446744073709551616)) % 65536) = ((n : Nat) : Int) := by
    show ((if ((n : Nat) : Int) > ((0) % 18446744073709551616) then ((n : Nat) : Int) else ((0) % 18446744073709551616)) % 65536) = _
    split <;> omega
  obtain ⟨s2, hs2'⟩ : ∃ s2, s2 = (s.set_slen (n : Nat)).set_temp_len (n : Nat) := ⟨_, rfl⟩
  have e3 : wr16N vL id (·.temp_len) (·.temp_len) 255 (vpackvg.St.set_temp_len (pstrA (beh vL s a z) null str)
      ((if ((pstrA (beh vL s a z) null str).slen > ((0) % 18446744073709551616)) then (pstrA (beh vL s a z) null str).slen else ((0) % 18446744073709551616)) % 65536)) =
      wr vL s2 (a ++ bytesI (u16 n)) := by
    rw [e1, frames_beh (L := vL) (x := (·.slen)) {}, tl, comm_beh (L := vL) (g := (vpackvg.St.set_temp_len · _)) {}, ← hs2', ← be16I_u16]
    exact u16_beh vLaw s2 a z {} {} n (by rw [hs2']) (by rw [hs2']) (by omega)
  simp only [pstr]
  rw [e3, pstrB, frames_wr hn, hs2', hn2, hn1, ← hs2', pk, bytesI_append, ← List.append_assoc]
  cases nm with
  | none =>
    have e : null s = true := ha
    have en : n = 0 := by rw [hn0]; rfl
    rw [e, if_neg (by decide), frames_wr (L := vL) (x := (·.temp_len)) {}]
    simp only [Option.getD_none, bytesI_nil, List.append_nil, Option.map_none, beh_none]
    rw [show s2.temp_len = 0 by rw [hs2', en]; rfl, Int.add_zero]
  | some b =>
    obtain ⟨hnull, pad, hstr⟩ := ha
    have en : n = b.length := hn0
    have hst : str s2 = bytesI b ++ 0 :: pad := by rw [hs2', hs2, hs1]; exact hstr
    rw [hnull, if_pos rfl]
    simp only [Option.getD_some, Option.map_some, beh_some]
    have hq := pcpy_wr vLaw hs s2 (a ++ bytesI (u16 n)) (bytesI b) pad hst (mem_bytesI_zero b hnm.2) k (by rw [hs2']; exact hp)
      (by
        simp only [Option.getD_some] at hroom
        rw [hs2']
        simp only [List.length_append, bytesI_length, u16_length]
        exact (show k + (a.length + 2) + b.length + 1 ≤ s.buf.length by omega))
    show vL.setPos (pcpy vL str (wr vL s2 (a ++ bytesI (u16 n)))) _ = _
    rw [hq, List.append_assoc (a ++ bytesI (u16 n))]
    congr 1
    show (pcpy vL str (wr vL s2 (a ++ bytesI (u16 n)))).bb + (pcpy vL str (wr vL s2 (a ++ bytesI (u16 n)))).temp_len = _
    rw [show (pcpy vL str (wr vL s2 (a ++ bytesI (u16 n)))).bb = _ from pos_pcpy vLaw.toLawful str _,
      frames_pcpy (L := vL) (x := (·.temp_len)) {} str, frames_wr (L := vL) (x := (·.temp_len)) {}]
    show vL.pos (wr vL s2 (a ++ bytesI (u16 n))) + s2.temp_len = _
    rw [pos_wr vLaw.toLawful, show s2.temp_len = (b.length : Int) by rw [hs2', en]]
    simp only [List.length_append, bytesI_length, u16_length]
    omega

theorem ph5_beh (s : St) (a : List Int) (z : Option Int) (et er : Nat) (h1 : s.vg_extag = et) (h2 : s.vg_exref = er) :
    ph5 (beh vL s a z) = wr vL s (a ++ bytesI (u16 et) ++ bytesI (u16 er)) := by
  simp only [ph5]
  rw [u16_beh vLaw s a z {} {} et h1 h1 (by omega), be16I_u16]
  exact (u16_beh vLaw s _ none {} {} er h2 h2 (by omega)).trans (by rw [be16I_u16])

/-- `for (i = 0; i < (unsigned)vg->nattrs; i++) { UINT16ENCODE(bb, vg->alist[i].atag); UINT16ENCODE(bb, vg->alist[i].aref); }` -/
theorem loopAttrs_wr (al : List Pair) (pad1 pad2 : List Int) (s : St) (a : List Int) (fuel : Nat) (hf : al.length ≤ fuel)
    (hl : al.length < 2147483648) (ht1 : s.vg_alist_atag = ints (al.map (·.1)) ++ pad1)
    (ht2 : s.vg_alist_aref = ints (al.map (·.2)) ++ pad2) (hn : s.vg_nattrs = al.length) :
    vpackvg.loop2 fuel (wr vL (s.set_i (0 % 4294967296)) a) = wr vL (s.set_i al.length) (a ++ bytesI (packPairs al)) := by
  have := loop_wr (loop := vpackvg.loop2) (body := fun s => wr16N vL (idx (·.vg_alist_aref)) (cell (·.vg_alist_aref)) (cell (·.vg_alist_aref)) 255
      (wr16N vL (idx (·.vg_alist_atag)) (cell (·.vg_alist_atag)) (cell (·.vg_alist_atag)) 255 s)) (bound := castU32 (·.vg_nattrs)) {}
    (fun _ _ => rfl) (.of_eqs (fun _ => rfl) fun _ _ => rfl) loop2_body al (fun p => be16I (p.1 : Int) ++ be16I (p.2 : Int)) s a
    (fun k hk o => by
      show wr16N vL _ _ _ 255 (wr16N vL _ _ _ 255 (wr vL (s.set_i k) o)) = _
      rw [H4.C2L.cell16_wr vLaw (idx := (·.i)) (reg := (·.vg_alist_atag)) {} {} al (·.1) pad1 (s.set_i k) o ht1 k rfl hk,
        H4.C2L.cell16_wr vLaw (idx := (·.i)) (reg := (·.vg_alist_aref)) {} {} al (·.2) pad2 (s.set_i k) _ ht2 k rfl hk, List.append_assoc])
    fuel hf (by omega) (by rw [castU32, hn]; omega)
  rw [this, packPairs, bytesI_flatMap]
  simp only [bytesI_append, be16I_u16]

theorem ph6b_wr (fuel : Nat) (s : St) (a : List Int) (g : VG) (hfl : s.vg_flags = (g.flags : Int))
    (ha : g.flags &&& VG_ATTR_SET ≠ 0 → AttrArg g s.vg_nattrs s.vg_alist_atag s.vg_alist_aref ∧ g.attrs.length ≤ fuel) :
    ph6b fuel (wr vL s a) = wr vL (if g.flags &&& VG_ATTR_SET ≠ 0 then s.set_i g.attrs.length else s)
      (a ++ bytesI (if g.flags &&& VG_ATTR_SET ≠ 0 then u32 g.attrs.length ++ packPairs g.attrs else [])) := by
  have efl : (wr vL s a).vg_flags = (g.flags : Int) := (frames_wr (L := vL) (x := (·.vg_flags)) {} s a).trans hfl
  by_cases hc : g.flags &&& VG_ATTR_SET ≠ 0
  · obtain ⟨⟨hn, hlt, ⟨pad1, h1⟩, ⟨pad2, h2⟩⟩, hfu⟩ := ha hc
    simp only [ph6b, efl]
    rw [if_pos ((land_attr g.flags).mpr hc), if_pos hc, if_pos hc,
      show wr32N vL id (castU32 (·.vg_nattrs)) (wr vL s a) = _ from u32_beh vLaw s a none {} (by rw [castU32, hn]; omega),
      comm_wr (L := vL) (g := (vpackvg.St.set_i · _)) {}, loopAttrs_wr g.attrs pad1 pad2 s _ fuel hfu hlt h1 h2 hn,
      show castU32 (·.vg_nattrs) s = ((g.attrs.length : Nat) : Int) by rw [castU32, hn]; omega, be32I_u32, bytesI_append, List.append_assoc]
  · simp only [ph6b, efl]
    rw [if_neg (fun x => hc ((land_attr g.flags).mp x)), if_neg hc, if_neg hc, bytesI_nil, List.append_nil]

/-- `ph6` may change `vg->version` -/
def frameV (s : St) : St := { s with i := 0, vg_version := 0 }

theorem ph6_wr (fuel : Nat) (s : St) (a : List Int) (g : VG) (hfl : s.vg_flags = (g.flags : Int)) (hfl32 : g.flags < 4294967296)
    (hv : s.vg_version = toI16 g.version)
    (ha : g.flags &&& VG_ATTR_SET ≠ 0 → AttrArg g s.vg_nattrs s.vg_alist_atag s.vg_alist_aref ∧ g.attrs.length ≤ fuel) :
    ∃ s', ph6 fuel (wr vL s a) = wr vL s' (a ++ bytesI (flagsPart g)) ∧ s'.vg_version = toI16 (packVersion g) ∧ frameV s' = frameV s := by
  have efl : (wr vL s a).vg_flags = (g.flags : Int) := (frames_wr (L := vL) (x := (·.vg_flags)) {} s a).trans hfl
  have ev : (wr vL s a).vg_version = toI16 g.version := (frames_wr (L := vL) (x := (·.vg_version)) {} s a).trans hv
  have hw : hasFlagsWord true g = true ↔ (((wr vL s a).vg_flags ≠ 0) ∨ ((wr vL s a).vg_version = 4)) := by
    rw [efl, ev]
    simp only [hasFlagsWord, Bool.true_and, Bool.or_eq_true, bne_iff_ne, ne_eq, beq_iff_eq, consts.1]
    omega
  by_cases hc : ((wr vL s a).vg_flags ≠ 0) ∨ ((wr vL s a).vg_version = 4)
  · have hpv : toI16 (packVersion g) = if toI16 g.version < 4 then 4 else toI16 g.version := by
      have c4 : ((4 : Nat) : Int) = 4 := rfl
      simp only [packVersion, consts.1, c4]
      by_cases h4 : toI16 g.version < 4
      · have : g.flags ≠ 0 := by
          rcases hc with x | x
          · rw [efl] at x; omega
          · rw [ev] at x; omega
        simp only [h4, this, ne_eq, not_false_eq_true, and_self, if_true, toI16_four]
      · simp only [h4, and_false, if_false]
    have a1 : ph6a (wr vL s a) = wr vL (s.set_vg_version (toI16 (packVersion g))) a := by
      by_cases h4 : (wr vL s a).vg_version < 4
      · rw [hpv, if_pos (by rw [← ev]; exact h4)]
        simp only [ph6a, h4, if_true]
        exact comm_wr (L := vL) (g := (vpackvg.St.set_vg_version · _)) {} s a
      · rw [show s.set_vg_version (toI16 (packVersion g)) = s by rw [hpv, if_neg (by rw [← ev]; exact h4), ← hv]]
        simp only [ph6a, h4, if_false]
    obtain ⟨s1, hs1⟩ : ∃ s1, s1 = s.set_vg_version (toI16 (packVersion g)) := ⟨_, rfl⟩
    have f1 : s1.vg_flags = (g.flags : Int) := by rw [hs1]; exact hfl
    have e2 : wr32N vL id (·.vg_flags) (ph6a (wr vL s a)) = wr vL s1 (a ++ bytesI (u32 g.flags)) := by
      rw [a1, ← hs1, show wr32N vL id (·.vg_flags) (wr vL s1 a) = _ from u32_beh vLaw s1 a none {} (by rw [f1]; omega), f1, be32I_u32]
    have c : (0 : Int) ≤ (wr vL s1 (a ++ bytesI (u32 g.flags))).vg_flags ∧ (0 : Int) ≤ ((1) % 4294967296) := by
      rw [frames_wr (L := vL) (x := (·.vg_flags)) {}, f1]; exact ⟨by omega, by decide⟩
    refine ⟨if g.flags &&& VG_ATTR_SET ≠ 0 then s1.set_i g.attrs.length else s1, ?_, ?_, ?_⟩
    · simp only [ph6, hc, if_true]
      rw [e2]
      simp only [chk_true _ _ c]
      rw [ph6b_wr fuel s1 _ g f1 (by rw [hs1]; exact ha), flagsPart, if_pos (hw.mpr hc), bytesI_append, List.append_assoc]
    · split <;> rw [hs1]
    · split <;> rw [hs1] <;> rfl
  · have hw' : hasFlagsWord true g = false := by
      cases hx : hasFlagsWord true g with
      | false => rfl
      | true => exact absurd (hw.mp hx) hc
    have hf0 : g.flags = 0 := by
      have : ¬ ((wr vL s a).vg_flags ≠ 0) := fun x => hc (Or.inl x)
      rw [efl] at this; omega
    refine ⟨s, ?_, ?_, rfl⟩
    · simp only [ph6, hc, if_false, flagsPart, hw', Bool.false_eq_true, bytesI_nil, List.append_nil]
    · simp only [packVersion, hf0, ne_eq, not_true_eq_false, false_and, if_false]
      exact hv

theorem ph7_wr (s : St) (a : List Int) (pv more : Nat) (hv : s.vg_version = (pv : Int)) (hm : s.vg_more = (more : Int))
    (hpv : pv < 32768) (hmore : more < 32768) :
    ph7 (wr vL s a) = wr vL s (a ++ bytesI (u16 pv) ++ bytesI (u16 more)) := by
  simp only [ph7]
  rw [show wr16N vL id (castU32 (·.vg_version)) (·.vg_version) 255 (wr vL s a) = _ from
    u16_beh vLaw s a none (xh := castU32 (·.vg_version)) (x := (·.vg_version)) {} {} pv (by rw [castU32, hv]; omega) hv (by omega), be16I_u16]
  exact (u16_beh vLaw s _ none (xh := castU32 (·.vg_more)) (x := (·.vg_more)) {} {} more (by rw [castU32, hm]; omega) hm (by omega)).trans
    (by rw [be16I_u16])

theorem ph8_wr (s : St) (a : List Int) (hp : s.bb = 0) (hs : 0 < s.size.length) (hroom : a.length + 1 ≤ s.buf.length) :
    (ph8 (wr vL s a)).ub = s.ub ∧ (ph8 (wr vL s a)).oof = s.oof ∧ (ph8 (wr vL s a)).buf = a ++ [0] ++ s.buf.drop (a.length + 1) ∧
      (ph8 (wr vL s a)).size = s.size.set 0 ((a.length + 1 : Nat) : Int) ∧ (ph8 (wr vL s a)).vg_version = s.vg_version ∧
      (ph8 (wr vL s a)).ret = s.ret_value := by
  obtain ⟨hub, hbuf, hpos⟩ := wr_end vP s a 0 hp (by rw [Nat.zero_add]; exact Nat.le_of_succ_le hroom)
  obtain ⟨t, ht⟩ : ∃ t, t = wr vL s a := ⟨_, rfl⟩
  rw [← ht] at hub hbuf hpos ⊢
  have fr : ∀ {α} (x : St → α), vL.Frames x → x t = x s := fun x hx => by rw [ht]; exact frames_wr hx s a
  have hb : t.bb = (a.length : Int) := by rw [show t.bb = vL.pos t from rfl, hpos, Nat.zero_add]
  have hB : t.buf = storeAt s.buf 0 a := hbuf
  have c1 : 0 < t.size.length := by rw [fr (·.size) {}]; exact hs
  have c2 : 0 ≤ (vpackvg.St.set_size t (t.size.set (Int.toNat (0)) (((t.bb - 0) + 1)))).bb ∧
      (vpackvg.St.set_size t (t.size.set (Int.toNat (0)) (((t.bb - 0) + 1)))).bb <
        (vpackvg.St.set_size t (t.size.set (Int.toNat (0)) (((t.bb - 0) + 1)))).buf.length := by
    show 0 ≤ t.bb ∧ t.bb < t.buf.length
    rw [hb, hB, length_storeAt _ _ _ (by omega)]; omega
  simp only [ph8]
  simp only [chk_true t _ c1]
  simp only [chk_true _ _ c2]
  refine ⟨hub, fr (·.oof) {}, ?_, ?_, fr (·.vg_version) {}, fr (·.ret_value) {}⟩
  · show t.buf.set (Int.toNat t.bb) (0 % 256) = _
    rw [hb, hB, Int.toNat_natCast, show a.length = 0 + a.length by omega, storeAt_snoc _ _ _ _ (by omega), storeAt_zero]
    simp only [Nat.zero_add, List.length_append, List.length_cons, List.length_nil]
    rfl
  · show t.size.set (Int.toNat 0) (t.bb - 0 + 1) = _
    rw [fr (·.size) {}, hb]
    congr 1

/-- the C arguments in `S` describe the model Vgroup `g`: `nvelt`/`nattrs` are the list lengths, the member and attribute arrays
    may be longer than that, names are C strings (`StrArg`), `version` is the `int16` value of the model's 16-bit pattern -/
structure Args (g : VG) (S : St) : Prop where
  nvelt : S.vg_nvelt = (g.members.length : Int)
  tag : ∃ pad, S.vg_tag = ints (g.members.map (·.1)) ++ pad
  ref : ∃ pad, S.vg_ref = ints (g.members.map (·.2)) ++ pad
  name : StrArg g.name S.vg_vgname_null S.vg_vgname
  cls : StrArg g.cls S.vg_vgclass_null S.vg_vgclass
  extag : S.vg_extag = (g.extag : Int)
  exref : S.vg_exref = (g.exref : Int)
  flags : S.vg_flags = (g.flags : Int)
  version : S.vg_version = toI16 g.version
  more : S.vg_more = (g.more : Int)
  attrs : g.flags &&& VG_ATTR_SET ≠ 0 → AttrArg g S.vg_nattrs S.vg_alist_atag S.vg_alist_aref

theorem run_at (g : VG) (fuel : Nat) (S : St) (hA : Args g S) (hub : S.ub = false) (hoof : S.oof = false)
    (hn : g.members.length < 4294967296) (hname : NameMemOK g.name) (hcls : NameMemOK g.cls)
    (hfl : g.flags < 4294967296) (hpv : packVersion g < 32768) (hmore : g.more < 32768)
    (hfuel : g.members.length ≤ fuel) (hfuel2 : g.flags &&& VG_ATTR_SET ≠ 0 → g.attrs.length ≤ fuel)
    (hbuf : (vpackvgF true g).length ≤ S.buf.length) (hsize : 0 < S.size.length) :
    let s := ph8 (ph7 (ph6 fuel (ph5 (ph4 (ph3 (ph2 fuel (ph1 fuel (ph0 S))))))))
    s.ub = false ∧ s.oof = false ∧
      s.buf = bytesI (vpackvgF true g) ++ S.buf.drop (vpackvgF true g).length ∧
      s.size = S.size.set 0 ((vpackvgF true g).length : Int) ∧
      s.vg_version = toI16 (packVersion g) ∧ s.ret = 0 := by
  have hL := congrArg List.length (vpackvgF_split g)
  have lens := fun (f : Pair → Nat) => H4.BigEndian.length_flatMap_const g.members (fun p => u16 (f p)) 2 (fun _ => rfl)
  simp only [List.length_append, List.length_nil, lens, packStr_length _ hname, packStr_length _ hcls, u16_length,
    List.length_cons] at hL
  obtain ⟨tpad, htag⟩ := hA.tag
  obtain ⟨rpad, href⟩ := hA.ref
  obtain ⟨s0, hs0⟩ : ∃ s0, s0 = ph0 S := ⟨_, rfl⟩
  have hb0 : s0.buf = S.buf := by rw [hs0]; rfl
  obtain ⟨ln, hln⟩ : ∃ n, n = (g.name.getD []).length := ⟨_, rfl⟩
  obtain ⟨lc, hlc⟩ : ∃ n, n = (g.cls.getD []).length := ⟨_, rfl⟩
  rw [← hln, ← hlc] at hL
  intro s
  have e2 : ph2 fuel (ph1 fuel s0) = wr vL ((s0.set_i g.members.length).set_i g.members.length)
      (bytesI (u16 g.members.length) ++ bytesI (g.members.flatMap fun p => u16 p.1) ++ bytesI (g.members.flatMap fun p => u16 p.2)) := by
    rw [ph1_wr fuel s0 g.members tpad hfuel (by omega) (by rw [hs0]; exact hA.nvelt) (by rw [hs0]; exact htag)]
    exact ph2_wr fuel _ _ g.members rpad hfuel (by omega) (by rw [hs0]; exact hA.nvelt) (by rw [hs0]; exact href)
  obtain ⟨s2, hs2⟩ : ∃ s2, s2 = (s0.set_i g.members.length).set_i g.members.length := ⟨_, rfl⟩
  obtain ⟨a2, ha2⟩ : ∃ a2, a2 = bytesI (u16 g.members.length) ++ bytesI (g.members.flatMap fun p => u16 p.1) ++
      bytesI (g.members.flatMap fun p => u16 p.2) := ⟨_, rfl⟩
  have la2 : a2.length = 2 + 2 * g.members.length + 2 * g.members.length := by
    rw [ha2]; simp only [List.length_append, bytesI_length, u16_length, lens]
  rw [← hs2, ← ha2] at e2
  have e3 : ph3 (wr vL s2 a2) = beh vL ((s2.set_slen (ln : Nat)).set_temp_len (ln : Nat)) (a2 ++ bytesI (packStr g.name)) (g.name.map fun _ => 0) := by
    rw [hln]
    exact pstr_beh s2 a2 none (·.vg_vgname_null) (·.vg_vgname) g.name hname (by rw [hs2, hs0]; exact hA.name) (by rw [hs2, hs0]; rfl) 0
      (by rw [hs2, hs0]; rfl) (by rw [hs2, hs0, ← hln, la2]; show _ ≤ S.buf.length; omega)
  obtain ⟨s3, hs3⟩ : ∃ s3, s3 = ((s2.set_slen (ln : Nat)).set_temp_len (ln : Nat)).set_slen (0 % 18446744073709551616) := ⟨_, rfl⟩
  obtain ⟨a3, ha3⟩ : ∃ a3, a3 = a2 ++ bytesI (packStr g.name) := ⟨_, rfl⟩
  have la3 : a3.length = a2.length + 2 + ln := by
    rw [ha3, List.length_append, bytesI_length, packStr_length _ hname, hln]; omega
  have e4 : ph4 (beh vL ((s2.set_slen (ln : Nat)).set_temp_len (ln : Nat)) a3 (g.name.map fun _ => 0)) =
      beh vL ((s3.set_slen (lc : Nat)).set_temp_len (lc : Nat)) (a3 ++ bytesI (packStr g.cls)) (g.cls.map fun _ => 0) := by
    simp only [ph4]
    rw [comm_beh (L := vL) (g := (vpackvg.St.set_slen · _)) {}, ← hs3, hlc]
    exact pstr_beh s3 a3 _ (·.vg_vgclass_null) (·.vg_vgclass) g.cls hcls (by rw [hs3, hs2, hs0]; exact hA.cls) (by rw [hs3]; rfl) 0
      (by rw [hs3, hs2, hs0]; rfl) (by rw [hs3, hs2, hs0, ← hlc, la3, la2]; show _ ≤ S.buf.length; omega)
  obtain ⟨s4, hs4⟩ : ∃ s4, s4 = (s3.set_slen (lc : Nat)).set_temp_len (lc : Nat) := ⟨_, rfl⟩
  have e5 := ph5_beh s4 (a3 ++ bytesI (packStr g.cls)) (g.cls.map fun _ => 0) g.extag g.exref (by rw [hs4, hs3, hs2, hs0]; exact hA.extag)
    (by rw [hs4, hs3, hs2, hs0]; exact hA.exref)
  obtain ⟨s6, e6, v6, f6⟩ := ph6_wr fuel s4 (a3 ++ bytesI (packStr g.cls) ++ bytesI (u16 g.extag) ++ bytesI (u16 g.exref)) g
    (by rw [hs4, hs3, hs2, hs0]; exact hA.flags) hfl (by rw [hs4, hs3, hs2, hs0]; exact hA.version)
    (fun x => ⟨by rw [hs4, hs3, hs2, hs0]; exact hA.attrs x, hfuel2 x⟩)
  have pvI : toI16 (packVersion g) = ((packVersion g : Nat) : Int) := by rw [toI16_lt (by omega), if_pos hpv]
  have m6 : s6.vg_more = (g.more : Int) :=
    (congrArg (·.vg_more) f6 : s6.vg_more = s4.vg_more).trans (by rw [hs4, hs3, hs2, hs0]; exact hA.more)
  have e7 := ph7_wr s6 (a3 ++ bytesI (packStr g.cls) ++ bytesI (u16 g.extag) ++ bytesI (u16 g.exref) ++ bytesI (flagsPart g))
    (packVersion g) g.more (v6.trans pvI) m6 hpv hmore
  obtain ⟨a7, ha7⟩ : ∃ a7, a7 = a3 ++ bytesI (packStr g.cls) ++ bytesI (u16 g.extag) ++ bytesI (u16 g.exref) ++ bytesI (flagsPart g) ++
      bytesI (u16 (packVersion g)) ++ bytesI (u16 g.more) := ⟨_, rfl⟩
  have hrec : bytesI (vpackvgF true g) = a7 ++ [0] := by
    rw [vpackvgF_split g, ha7, ha3, ha2]; simp only [bytesI_append, List.nil_append, List.append_assoc]; rfl
  have lrec : (vpackvgF true g).length = a7.length + 1 := by
    rw [← bytesI_length, hrec, List.length_append, List.length_singleton]
  have e8 : s = ph8 (wr vL s6 a7) := by
    show ph8 (ph7 (ph6 fuel (ph5 (ph4 (ph3 (ph2 fuel (ph1 fuel (ph0 S)))))))) = _
    rw [← hs0, e2, e3, ← ha3, e4, ← hs4, e5, e6, e7, ← ha7]
  have b6 : s6.buf = S.buf := (congrArg (·.buf) f6 : s6.buf = s4.buf).trans (by rw [hs4, hs3, hs2, hb0.symm])
  have sz6 : s6.size = S.size := (congrArg (·.size) f6 : s6.size = s4.size).trans (by rw [hs4, hs3, hs2, hs0]; rfl)
  obtain ⟨r1, r2, r3, r4, r5, r6⟩ := ph8_wr s6 a7 ((congrArg (·.bb) f6 : s6.bb = s4.bb).trans (by rw [hs4, hs3, hs2, hs0]; rfl))
    (by rw [sz6]; exact hsize) (by rw [b6, ← lrec]; exact hbuf)
  rw [e8]
  refine ⟨r1.trans ?_, r2.trans ?_, ?_, ?_, r5.trans v6, r6.trans ?_⟩
  · exact (congrArg (·.ub) f6 : s6.ub = s4.ub).trans (by rw [hs4, hs3, hs2, hs0]; exact hub)
  · exact (congrArg (·.oof) f6 : s6.oof = s4.oof).trans (by rw [hs4, hs3, hs2, hs0]; exact hoof)
  · rw [r3, b6, hrec, lrec]
  · rw [r4, sz6, lrec]
  · exact (congrArg (·.ret_value) f6 : s6.ret_value = s4.ret_value).trans (by rw [hs4, hs3, hs2, hs0]; rfl)

end H4.Lemmas.C08Fn
