import H4.Atom
/-! # Lemmas for the atom model (C13): generated macros, list facts, the refinement relation `R`
between the model of `atom.c` (`H4.Atom.State`) and the finite-map specification (`H4.Atom.SState`),
and its preservation by every call. -/
namespace H4.Atom
open H4.Gen.Macros H4.Gen.Atom

theorem consts :
    GROUP_BITS = 4 ∧ GROUP_MASK = 15 ∧ ATOM_BITS = 28 ∧ ATOM_MASK = 2 ^ 28 - 1 ∧ ATOM_CACHE_SIZE = 4 ∧ MAXGROUP = 9 ∧
    ATOM_T_BITS = 32 ∧ SUCCEED = 0 ∧ FAIL = -1 ∧ BADGROUP = -1 ∧ FAIL_ATOM = 2 ^ 32 - 1 ∧ UNSIGNED_BITS = 32 ∧
    atom_id_cache_init = [2 ^ 32 - 1, 2 ^ 32 - 1, 2 ^ 32 - 1, 2 ^ 32 - 1] ∧ atom_obj_cache_init = [0, 0, 0, 0] := by
  decide

/-- the shift `sizeof(atom_t) * 8 - GROUP_BITS` as the translation spells it -/
theorem shift28 : ((4 * 8) + 4294967296 - (4 % 4294967296)) % 4294967296 = 28 := rfl

theorem MAKE_ATOM_eq (g i : Nat) : MAKE_ATOM g i = g % 16 * 2 ^ 28 + i % 2 ^ 28 := by
  simp only [MAKE_ATOM, shift28, show (268435455 : Nat) = 2 ^ 28 - 1 from rfl, show (15 : Nat) = 2 ^ 4 - 1 from rfl,
    Nat.and_two_pow_sub_one_eq_mod, Nat.shiftLeft_eq]
  rw [Nat.mul_comm, ← Nat.two_pow_add_eq_or_of_lt (Nat.mod_lt _ (by decide)), Nat.mod_mod_of_dvd g (show 2 ^ 4 ∣ 4294967296 from ⟨2 ^ 28, rfl⟩),
    Nat.mod_mod_of_dvd i (show 2 ^ 28 ∣ 4294967296 from ⟨2 ^ 4, rfl⟩), Nat.mul_comm]

theorem ATOM_TO_GROUP_eq (a : Nat) : ATOM_TO_GROUP a = a % 2 ^ 32 / 2 ^ 28 := by
  have h : a % 4294967296 / 2 ^ 28 < 2 ^ 4 := Nat.div_lt_of_lt_mul (Nat.mod_lt _ (by decide))
  simp only [ATOM_TO_GROUP, shift28, show (15 : Nat) = 2 ^ 4 - 1 from rfl, Nat.and_two_pow_sub_one_eq_mod, Nat.shiftRight_eq_div_pow]
  rw [Nat.mod_eq_of_lt h, Nat.mod_eq_of_lt (Nat.lt_trans h (by decide))]

theorem ATOM_TO_LOC_pow2 (a k : Nat) (hk : k ≤ 32) : ATOM_TO_LOC a (2 ^ k) = a % 2 ^ k := by
  have hp := Nat.two_pow_pos k
  rw [ATOM_TO_LOC, show 1 % 4294967296 = 1 from rfl, Nat.sub_add_comm hp, Nat.add_mod_right,
    Nat.mod_eq_of_lt (Nat.lt_of_lt_of_le (Nat.sub_lt hp Nat.one_pos) (Nat.pow_le_pow_right (by decide) hk)),
    Nat.and_two_pow_sub_one_eq_mod]
  exact Nat.mod_mod_of_dvd a (Nat.pow_dvd_pow 2 hk)

theorem MAKE_ATOM_lt (g i : Nat) (hg : g < 16) : MAKE_ATOM g i < 2 ^ 32 := by
  rw [MAKE_ATOM_eq]; omega

theorem group_MAKE_ATOM (g i : Nat) (hg : g < 16) : ATOM_TO_GROUP (MAKE_ATOM g i) = g := by
  rw [ATOM_TO_GROUP_eq, Nat.mod_eq_of_lt (MAKE_ATOM_lt g i hg), MAKE_ATOM_eq, Nat.mod_eq_of_lt hg, Nat.mul_comm,
    Nat.mul_add_div (by decide), Nat.div_eq_of_lt (Nat.mod_lt _ (by decide)), Nat.add_zero]

theorem MAKE_ATOM_mod (g i k : Nat) (hk : k ≤ 28) : MAKE_ATOM g i % 2 ^ k = i % 2 ^ k := by
  obtain ⟨c, hc⟩ := Nat.pow_dvd_pow 2 hk
  rw [MAKE_ATOM_eq, hc, ← Nat.mul_assoc, Nat.mul_comm _ (2 ^ k), Nat.mul_assoc, Nat.mul_add_mod, Nat.mod_mul_right_mod]

theorem loc_MAKE_ATOM (g i k : Nat) (hk : k ≤ 28) : ATOM_TO_LOC (MAKE_ATOM g i) (2 ^ k) = i % 2 ^ k := by
  rw [ATOM_TO_LOC_pow2 _ _ (by omega), MAKE_ATOM_mod g i k hk]

theorem MAKE_ATOM_inj (g i j : Nat) (hi : i < 2 ^ 28) (hj : j < 2 ^ 28) (h : MAKE_ATOM g i = MAKE_ATOM g j) : i = j := by
  have := MAKE_ATOM_mod g i 28 (Nat.le_refl _)
  rw [h, MAKE_ATOM_mod g j 28 (Nat.le_refl _), Nat.mod_eq_of_lt hi, Nat.mod_eq_of_lt hj] at this
  exact this.symm

theorem MAKE_ATOM_wrap (g i : Nat) : MAKE_ATOM g (i + 2 ^ 28) = MAKE_ATOM g i := by
  rw [MAKE_ATOM_eq, MAKE_ATOM_eq, Nat.add_mod_right]

/-- the C test `hash_size != 0 && (hash_size & (hash_size - 1)) == 0` characterises the powers of two -/
theorem pow2_of_and (n : Nat) (h0 : n ≠ 0) (h : n &&& (n - 1) = 0) : ∃ k, n = 2 ^ k := by
  induction n using Nat.strongRecOn with
  | _ n ih =>
    rcases Nat.lt_or_ge n 2 with h2 | h2
    · exact ⟨0, by omega⟩
    · have hd : (n &&& (n - 1)) / 2 = 0 := by rw [h]
      rw [Nat.and_div_two] at hd
      rcases Nat.mod_two_eq_zero_or_one n with he | ho
      · have e : (n - 1) / 2 = n / 2 - 1 := by omega
        rw [e] at hd
        obtain ⟨k, hk⟩ := ih (n / 2) (by omega) (by omega) hd
        exact ⟨k + 1, by rw [Nat.pow_succ]; omega⟩
      · have e : (n - 1) / 2 = n / 2 := by omega
        rw [e, Nat.and_self] at hd
        omega

theorem and_pred_pow2 (k : Nat) : 2 ^ k &&& (2 ^ k - 1) = 0 := by
  rw [Nat.and_two_pow_sub_one_eq_mod, Nat.mod_self]

theorem find?_filter_imp {α} (p q : α → Bool) (l : List α) (h : ∀ x ∈ l, p x = true → q x = true) :
    (l.filter q).find? p = l.find? p := by
  induction l with
  | nil => rfl
  | cons a t ih =>
    have := ih fun x hx => h x (List.mem_cons_of_mem _ hx)
    have := h a List.mem_cons_self
    cases hp : p a <;> cases hq : q a <;> simp_all

theorem filter_eraseP_imp {α} (p q : α → Bool) (l : List α) (h : ∀ x ∈ l, p x = true → q x = true) :
    (l.eraseP p).filter q = (l.filter q).eraseP p := by
  induction l with
  | nil => rfl
  | cons a t ih =>
    have := ih fun x hx => h x (List.mem_cons_of_mem _ hx)
    have := h a List.mem_cons_self
    cases hp : p a <;> cases hq : q a <;> simp_all

theorem filter_eraseP_disj {α} (p q : α → Bool) (l : List α) (h : ∀ x ∈ l, p x = true → q x = false) :
    (l.eraseP p).filter q = l.filter q := by
  induction l with
  | nil => rfl
  | cons a t ih =>
    have := ih fun x hx => h x (List.mem_cons_of_mem _ hx)
    have := h a List.mem_cons_self
    cases hp : p a <;> cases hq : q a <;> simp_all

theorem find?_eraseP_ne {α} (p r : α → Bool) (l : List α) (h : ∀ x ∈ l, r x = true → p x = false) :
    (l.eraseP p).find? r = l.find? r := by
  induction l with
  | nil => rfl
  | cons a t ih =>
    have := ih fun x hx => h x (List.mem_cons_of_mem _ hx)
    have := h a List.mem_cons_self
    cases hp : p a <;> cases hr : r a <;> simp_all

theorem find?_none_eraseP {α} (p q : α → Bool) (l : List α) (h : l.find? p = none) : (l.eraseP q).find? p = none := by
  rw [List.find?_eq_none] at h ⊢
  intro x hx
  exact h x (List.mem_of_mem_eraseP hx)

theorem find?_of_mem_nodup (l : List Info) (e : Info) (hm : e ∈ l) (hn : l.Pairwise (fun a b => a.id ≠ b.id)) :
    l.find? (fun x => x.id == e.id) = some e := by
  induction l with
  | nil => cases hm
  | cons a t ih =>
    rw [List.pairwise_cons] at hn
    rcases List.mem_cons.mp hm with rfl | hm'
    · simp
    · have : a.id ≠ e.id := hn.1 e hm'
      simp [this, ih hm' hn.2]

theorem find?_id_some (l : List Info) (atm : Nat) (e : Info) (h : l.find? (fun x => x.id == atm) = some e) : e ∈ l ∧ e.id = atm := by
  have h1 := List.find?_some h
  have h2 := List.mem_of_find?_eq_some h
  exact ⟨h2, by simpa using h1⟩

theorem not_mem_eraseP_nodup (l : List Info) (atm : Nat) (hn : l.Pairwise (fun a b => a.id ≠ b.id)) :
    ∀ e ∈ l.eraseP (fun x => x.id == atm), e.id ≠ atm := by
  induction l with
  | nil => intro e he; cases he
  | cons a t ih =>
    rw [List.pairwise_cons] at hn
    intro e he
    by_cases ha : a.id = atm
    · simp [ha] at he
      exact fun h => hn.1 e he (by rw [ha, h])
    · simp [ha] at he
      rcases he with rfl | he
      · exact ha
      · exact ih hn.2 e he

/-- chain `b` of the table holds the registrations whose id is `b` modulo `hash_size`, newest first: a walk of the chain of an id finds
    what a search of `live` finds (`chain_find`) -/
def TblRel (gp : Group) (sg : SGroup) : Prop :=
  gp.atoms = sg.live.length ∧
  ∃ k, k ≤ 28 ∧ gp.hashSize = 2 ^ k ∧ gp.atomList.length = 2 ^ k ∧
    ∀ b, b < 2 ^ k → gp.atomList.getD b [] = sg.live.filter (fun e => e.id % 2 ^ k == b)

/-- of the table something is said only while the group is initialised: `HAdestroy_group` frees it, the record stays -/
def GRel : Option Group → SGroup → Prop
  | none, sg => sg.count = 0
  | some gp, sg => gp.count = sg.count ∧ (0 < gp.count → TblRel gp sg)

/-- `bound` is what `adm` asks; by `ids` a new id differs from every live one (`fresh_ne`) -/
structure SGInv (g : Nat) (sg : SGroup) : Prop where
  dead : sg.count = 0 → sg.live = []
  bound : sg.nextid ≤ 2 ^ 28
  ids : ∀ e ∈ sg.live, ∃ i, i < sg.nextid ∧ e.id = MAKE_ATOM g i
  nodup : sg.live.Pairwise (fun a b => a.id ≠ b.id)

def SlotOk (sp : SState) (c : Info) : Prop := c = emptySlot ∨ slookup sp c.id = some c.obj

/-- `HAremove_atom` empties the FIRST slot that holds the id and stops -/
abbrev CDist (l : List Info) : Prop := l.Pairwise (fun a b => a.id = b.id → a.id = FAIL_ATOM)

/-- `out`: an id has four group bits, so lookups consult `sp` at 16 groups while `MAXGROUP` = 9 exist; the other seven stay empty for
    ever. `nx`: on both sides the id counters survive `HAdestroy_group` and `HAshutdown`. The free list is not constrained: its nodes are
    only reused. -/
structure R (s : State) (sp : SState) : Prop where
  len : s.groups.length = MAXGROUP
  grp : ∀ g, g < MAXGROUP → GRel (getG s g) (sp g)
  out : ∀ g, MAXGROUP ≤ g → (sp g).live = [] ∧ (sp g).count = 0 ∧ (sp g).nextid = 0
  nlen : s.nextIds.length = MAXGROUP
  nx : ∀ g, g < MAXGROUP → nextId s g = (sp g).nextid
  sinv : ∀ g, g < MAXGROUP → SGInv g (sp g)
  cache : ∀ c ∈ s.cache.toList, SlotOk sp c
  cdist : CDist s.cache.toList

theorem getD_replicate_nil {α} (n b : Nat) : (List.replicate n ([] : List α)).getD b [] = [] := by
  simp only [List.getD_eq_getElem?_getD, List.getElem?_replicate]
  split <;> rfl

theorem getD_set {α} (l : List α) (i j : Nat) (x d : α) (hi : i < l.length) :
    (l.set i x).getD j d = if i = j then x else l.getD j d := by
  simp only [List.getD_eq_getElem?_getD, List.getElem?_set]
  by_cases h : i = j
  · subst h; simp [hi]
  · simp [h]

theorem getG_setG (s : State) (g g' : Nat) (p : Group) (hg : g < s.groups.length) :
    getG (setG s g p) g' = if g = g' then some p else getG s g' :=
  getD_set s.groups g g' (some p) none hg

theorem setG_len (s : State) (g : Nat) (p : Group) : (setG s g p).groups.length = s.groups.length := by
  simp [setG]

theorem badGroup_false {grp : Int} (h : badGroup grp = false) : ∃ g : Nat, grp = (g : Int) ∧ g < MAXGROUP ∧ grp.toNat = g := by
  unfold badGroup at h
  have hM : MAXGROUP = 9 := rfl
  have hB : BADGROUP = -1 := rfl
  simp only [Bool.or_eq_false_iff, decide_eq_false_iff_not, hM, hB] at h
  refine ⟨grp.toNat, ?_, ?_, rfl⟩ <;> omega

theorem badGroup_nat (g : Nat) : badGroup (g : Int) = decide (MAXGROUP ≤ g) := by
  unfold badGroup
  have hM : MAXGROUP = 9 := rfl
  have hB : BADGROUP = -1 := rfl
  rw [hM, hB]
  by_cases h : 9 ≤ g
  · simp [h]; omega
  · simp [h]; omega

theorem upd_same (sp : SState) (g : Nat) (sg : SGroup) : upd sp g sg g = sg := by simp [upd]
theorem upd_other (sp : SState) (g g' : Nat) (sg : SGroup) (h : g' ≠ g) : upd sp g sg g' = sp g' := by simp [upd, h]

theorem sstep_remove (sp : SState) (atm : Nat) : sstep sp (.remove atm) =
    upd sp (ATOM_TO_GROUP atm) { sp (ATOM_TO_GROUP atm) with live := (sp (ATOM_TO_GROUP atm)).live.eraseP (fun e => e.id == atm) } := by
  simp only [sstep, slookup]
  cases hf : (sp (ATOM_TO_GROUP atm)).live.find? (fun e => e.id == atm) with
  | some => rfl
  | none =>
    rw [List.eraseP_of_forall_not fun a ha => by simpa using List.find?_eq_none.mp hf a ha]
    funext g
    by_cases hg : g = ATOM_TO_GROUP atm <;> simp [upd, hg]

theorem slookup_empty (sp : SState) (atm : Nat) (h : (sp (ATOM_TO_GROUP atm)).live = []) : slookup sp atm = none := by
  simp [slookup, h]

theorem group_FAIL_ATOM : ATOM_TO_GROUP FAIL_ATOM = 15 := by decide

theorem slotOk_empty (sp : SState) : ∀ c ∈ [emptySlot, emptySlot, emptySlot, emptySlot], SlotOk sp c :=
  fun c hc => .inl (by simpa using hc)

theorem getG_shutdown (s : State) (g : Nat) : getG (shutdown s) g = none := by
  simp only [getG, shutdown, List.getD_eq_getElem?_getD, List.getElem?_replicate]
  split <;> rfl

theorem init_R : R State.init SState.init := by
  refine ⟨by simp [State.init], ?_, ?_, by decide, ?_, ?_, ?_, ?_⟩
  · intro g hg
    have : getG State.init g = none := by
      simp [getG, State.init, List.getD_eq_getElem?_getD, hg]
    rw [this]; exact rfl
  · intro g _; exact ⟨rfl, rfl, rfl⟩
  · intro g hg
    have hM : MAXGROUP = 9 := rfl
    have : ∀ k, k < 9 → nextId State.init k = 0 := by decide
    exact this g (by omega)
  · intro g _; exact ⟨fun _ => rfl, by simp [SState.init], (by intro e he; cases he), List.Pairwise.nil⟩
  · exact (by decide : State.init.cache.toList = [emptySlot, emptySlot, emptySlot, emptySlot]) ▸ slotOk_empty _
  · decide

theorem slookup_upd (sp : SState) (g : Nat) (sg : SGroup) (atm : Nat)
    (h : ATOM_TO_GROUP atm = g → sg.live.find? (fun e => e.id == atm) = (sp g).live.find? (fun e => e.id == atm)) :
    slookup (upd sp g sg) atm = slookup sp atm := by
  unfold slookup
  by_cases hg : ATOM_TO_GROUP atm = g
  · rw [hg, upd_same, h hg]
  · rw [upd_other _ _ _ _ hg]

theorem SlotOk_upd {sp : SState} {g : Nat} {sg : SGroup} {x : Info} (hx : SlotOk sp x)
    (h : ATOM_TO_GROUP x.id = g → sg.live.find? (fun e => e.id == x.id) = (sp g).live.find? (fun e => e.id == x.id)) :
    SlotOk (upd sp g sg) x := by
  rcases hx with hx | hx
  · exact Or.inl hx
  · exact Or.inr (by rw [slookup_upd sp g sg x.id h]; exact hx)

theorem nx_same {s : State} {sp : SState} (hR : R s sp) (g : Nat) (sg : SGroup) (h : sg.nextid = (sp g).nextid) :
    ∀ g', g' < MAXGROUP → s.nextIds.getD g' 0 = (upd sp g sg g').nextid := by
  intro g' hg'
  have := hR.nx g' hg'
  unfold nextId at this
  by_cases hh : g' = g
  · subst hh; rw [upd_same, h]; exact this
  · rw [upd_other _ _ _ _ hh]; exact this

theorem R_setG {s : State} {sp : SState} (hR : R s sp) (g : Nat) (hg : g < MAXGROUP) (gp : Group) (sg : SGroup)
    (nx' : List Nat) (fl : List Info) (c : Cache)
    (hnl : nx'.length = MAXGROUP) (hnx : ∀ g', g' < MAXGROUP → nx'.getD g' 0 = (upd sp g sg g').nextid)
    (hrel : GRel (some gp) sg) (hinv : SGInv g sg)
    (hcache : ∀ x ∈ c.toList, SlotOk (upd sp g sg) x)
    (hdist : CDist c.toList) :
    R ⟨s.groups.set g (some gp), nx', fl, c⟩ (upd sp g sg) := by
  have hlen := hR.len
  refine ⟨by simp [hlen], ?_, ?_, hnl, hnx, ?_, hcache, hdist⟩
  · intro g' hg'
    have e : getG ⟨s.groups.set g (some gp), nx', fl, c⟩ g' = if g = g' then some gp else getG s g' := by
      have := getG_setG s g g' gp (by omega)
      simpa [setG, getG] using this
    rw [e]
    by_cases h : g = g'
    · subst h; simp only [if_true, upd_same]; exact hrel
    · simp only [h, if_false]; rw [upd_other _ _ _ _ (Ne.symm h)]; exact hR.grp g' hg'
  · intro g' hg'
    rw [upd_other _ _ _ _ (by omega)]; exact hR.out g' hg'
  · intro g' hg'
    by_cases h : g' = g
    · subst h; rw [upd_same]; exact hinv
    · rw [upd_other _ _ _ _ h]; exact hR.sinv g' hg'

theorem R_setG_count {s : State} {sp : SState} (hR : R s sp) (g : Nat) (hg : g < MAXGROUP) (gp : Group) (sg : SGroup)
    (hnx : sg.nextid = (sp g).nextid) (hlive : sg.live = (sp g).live) (hrel : GRel (some gp) sg) (hdead : sg.count = 0 → sg.live = []) :
    R (setG s g gp) (upd sp g sg) :=
  have hinv := hR.sinv g hg
  R_setG hR g hg gp sg _ _ _ hR.nlen (nx_same hR g sg hnx) hrel
    ⟨hdead, hnx ▸ hinv.bound, hlive ▸ hnx ▸ hinv.ids, hlive ▸ hinv.nodup⟩
    (fun x hx => SlotOk_upd (hR.cache x hx) fun _ => by rw [hlive]) hR.cdist

theorem group_cases {s sp} (hR : R s sp) {g : Nat} (hg : g < MAXGROUP) :
    ((sp g).count = 0 ∧ (sp g).live = [] ∧ (getG s g = none ∨ ∃ gp, getG s g = some gp ∧ gp.count = 0)) ∨
    ∃ gp, getG s g = some gp ∧ (gp.count == 0) = false ∧ ((sp g).count == 0) = false ∧ gp.count = (sp g).count ∧ TblRel gp (sp g) := by
  have hrel := hR.grp g hg
  have hdead := (hR.sinv g hg).dead
  cases hgg : getG s g with
  | none => rw [hgg] at hrel; exact .inl ⟨hrel, hdead hrel, .inl rfl⟩
  | some gp =>
    rw [hgg] at hrel
    by_cases hc : gp.count = 0
    · exact .inl ⟨hrel.1 ▸ hc, hdead (hrel.1 ▸ hc), .inr ⟨gp, rfl, hc⟩⟩
    · exact .inr ⟨gp, rfl, by simpa using hc, by simpa [← hrel.1] using hc, hrel.1, hrel.2 (Nat.pos_of_ne_zero hc)⟩

theorem step_init {s sp} (hR : R s sp) (grp : Int) (hs : Nat) (hok : hs ≤ 2 ^ 28) :
    R (initGroup s grp hs).1 (sstep sp (.init grp hs)) ∧ Res.status (initGroup s grp hs).2 = sres sp (.init grp hs) := by
  unfold initGroup
  simp only [sstep, sres]
  by_cases hb : badGroup grp = true
  · simp [hb]; exact hR
  · have hb' : badGroup grp = false := by simpa using hb
    by_cases h0 : hs = 0
    · simp [h0]; exact hR
    · by_cases hp : hs &&& (hs - 1) = 0
      · obtain ⟨g, rfl, hg, hgn⟩ := badGroup_false hb'
        obtain ⟨k, hk⟩ := pow2_of_and hs h0 hp
        have hk28 : k ≤ 28 := by
          rw [hk] at hok
          exact (Nat.pow_le_pow_iff_right (by decide)).mp hok
        have e0 : (hs == 0) = false := by simp [h0]
        have ep : (hs &&& (hs - 1) != 0) = false := by simp [hp]
        simp only [hb', e0, ep, hgn, Bool.or_false, if_false, Bool.false_eq_true]
        refine ⟨?_, trivial⟩
        have hrel := hR.grp g hg
        have hinv := hR.sinv g hg
        by_cases hc : (sp g).count = 0
        ·
          have hgp0 : ((getG s g).getD {}).count = 0 := by
            cases hgg : getG s g with
            | none => rfl
            | some gp => rw [hgg] at hrel; simp [hrel.1, hc]
          simp only [hgp0, hc, if_true, beq_self_eq_true]
          refine R_setG_count hR g hg _ _ rfl (hinv.dead hc).symm ⟨rfl, fun _ => ⟨rfl, k, hk28, hk, by simp [hk], ?_⟩⟩ fun _ => rfl
          intro b _
          show (List.replicate hs []).getD b [] = _
          rw [getD_replicate_nil]; rfl
        · cases hgg : getG s g with
          | none => rw [hgg] at hrel; exact absurd hrel hc
          | some gp =>
            rw [hgg] at hrel
            have hgc : gp.count ≠ 0 := by rw [hrel.1]; exact hc
            simp only [Option.getD_some, hgc, hc, if_false, beq_iff_eq]
            exact R_setG_count hR g hg _ _ rfl rfl ⟨by simp [hrel.1], fun _ => hrel.2 (by omega)⟩ (by simp)
      · simp [hb', h0, hp]; exact hR

theorem cdist_map (l : List Info) (f : Info → Info) (hf : ∀ x, f x = x ∨ f x = emptySlot) (h : CDist l) : CDist (l.map f) := by
  apply List.Pairwise.map f _ h
  intro a b hab
  rcases hf a with ha | ha <;> rcases hf b with hb | hb
  · rw [ha, hb]; exact hab
  · rw [ha, hb]; intro e; exact e
  · rw [ha]; intro _; rfl
  · rw [ha]; intro _; rfl

theorem atomGroup_beq (atm g : Nat) : (atomGroup atm == (g : Int)) = decide (ATOM_TO_GROUP atm = g) := by
  unfold atomGroup
  by_cases h : ATOM_TO_GROUP atm = g
  · simp [h]
  · simp [h]; omega

theorem dropGroup_toList (c : Cache) (grp : Int) :
    (c.dropGroup grp).toList = c.toList.map (fun x => if atomGroup x.id == grp then emptySlot else x) := rfl

theorem step_destroy {s sp} (hR : R s sp) (grp : Int) :
    R (destroyGroup s grp).1 (sstep sp (.destroy grp)) ∧ Res.status (destroyGroup s grp).2 = sres sp (.destroy grp) := by
  unfold destroyGroup
  simp only [sstep, sres]
  by_cases hb : badGroup grp = true
  · simp [hb]; exact hR
  · have hb' : badGroup grp = false := by simpa using hb
    obtain ⟨g, rfl, hg, hgn⟩ := badGroup_false hb'
    simp only [hb', hgn, Bool.false_or, if_false, Bool.false_eq_true]
    have hinv := hR.sinv g hg
    rcases group_cases hR hg with ⟨hc0, -, hget | ⟨gp, hget, hc⟩⟩ | ⟨gp, hget, e1, e2, hcnt, htbl⟩
    · simp [hget, hc0]; exact hR
    · simp [hget, hc, hc0]; exact hR
    · simp only [hget, e1, e2, if_false, Bool.false_eq_true]
      have hc : gp.count ≠ 0 := by simpa using e1
      by_cases h1 : gp.count = 1
      · have hs1 : (sp g).count = 1 := by rw [← hcnt]; exact h1
        have e3 : (gp.count - 1 == 0) = true := by simp [h1]
        have e4 : ((sp g).count == 1) = true := by simp [hs1]
        simp only [e3, e4, if_true]
        refine ⟨?_, trivial⟩
        unfold setG
        apply R_setG hR g hg
        · exact hR.nlen
        · exact nx_same hR g _ rfl
        · exact ⟨by simp [h1], fun h => by simp [h1] at h⟩
        · exact ⟨by simp, hinv.bound, by simp, List.Pairwise.nil⟩
        · intro x hx
          have hx' : x ∈ (s.cache.dropGroup (g : Int)).toList := hx
          rw [dropGroup_toList] at hx'
          obtain ⟨y, hy, rfl⟩ := List.mem_map.mp hx'
          rw [atomGroup_beq]
          by_cases hyg : ATOM_TO_GROUP y.id = g
          · simp [hyg]; exact Or.inl rfl
          · simp [hyg]
            exact SlotOk_upd (hR.cache y hy) (fun h => absurd h hyg)
        · show CDist (s.cache.dropGroup (g : Int)).toList
          rw [dropGroup_toList]
          apply cdist_map _ _ _ hR.cdist
          intro x
          by_cases h : (atomGroup x.id == (g:Int)) = true
          · right; simp only [h, if_true]
          · left; simp only [h]; rfl
      · have hs1 : (sp g).count ≠ 1 := by rw [← hcnt]; exact h1
        have e3 : (gp.count - 1 == 0) = false := by simp; omega
        have e4 : ((sp g).count == 1) = false := by simp [hs1]
        simp only [e3, e4, if_false, Bool.false_eq_true]
        exact ⟨R_setG_count hR g hg _ _ rfl rfl ⟨by simp [hcnt], fun _ => htbl⟩ (by simp; omega), trivial⟩

theorem fresh_ne {g : Nat} {sg : SGroup} (hinv : SGInv g sg) (hn : sg.nextid < 2 ^ 28) :
    ∀ e ∈ sg.live, e.id ≠ MAKE_ATOM g sg.nextid := by
  intro e he heq
  obtain ⟨i, hi, hid⟩ := hinv.ids e he
  rw [hid] at heq
  have := MAKE_ATOM_inj g i sg.nextid (by omega) hn heq
  omega

theorem register_ok_bound {s sp} (hR : R s sp) {grp : Int} {obj : Nat} (hok : opOk s (.register grp obj) = true)
    (hb : badGroup grp = false) (hc : (sp grp.toNat).count ≠ 0) : (sp grp.toNat).nextid < 2 ^ 28 := by
  obtain ⟨g, rfl, hg, hgn⟩ := badGroup_false hb
  rw [hgn] at hc ⊢
  have hrel := hR.grp g hg
  simp only [opOk, hb, hgn, if_false, Bool.false_eq_true] at hok
  cases hget : getG s g with
  | none => rw [hget] at hrel; exact absurd hrel hc
  | some gp =>
    rw [hget] at hrel hok
    have : (gp.count == 0) = false := by simpa [hrel.1] using hc
    simpa [this, hR.nx g hg, show ATOM_BITS = 28 from rfl] using hok

theorem step_register {s sp} (hR : R s sp) (grp : Int) (obj : Nat) (hok : opOk s (.register grp obj) = true) :
    R (registerAtom s grp obj).1 (sstep sp (.register grp obj)) ∧
      Res.atom (registerAtom s grp obj).2 = sres sp (.register grp obj) := by
  unfold registerAtom
  simp only [sstep, sres]
  by_cases hb : badGroup grp = true
  · simp [hb]; exact hR
  · have hb' : badGroup grp = false := by simpa using hb
    obtain ⟨g, rfl, hg, hgn⟩ := badGroup_false hb'
    simp only [hb', hgn, Bool.false_or, if_false, Bool.false_eq_true]
    have hinv := hR.sinv g hg
    rcases group_cases hR hg with ⟨hc0, -, hget | ⟨gp, hget, hc⟩⟩ | ⟨gp, hget, e1, e2, hcnt, htbl⟩
    · simp [hget, hc0]; exact hR
    · simp [hget, hc, hc0]; exact hR
    · have hsc : (sp g).count ≠ 0 := by simpa using e2
      obtain ⟨hatoms, k, hk28, hhs, hlen, hch⟩ := htbl
      have hnid : nextId (getAtomNode s) g = (sp g).nextid := hR.nx g hg
      simp only [hget, e1, e2, if_false, Bool.false_eq_true]
      rw [hnid]
      refine ⟨?_, rfl⟩
      have hn : (sp g).nextid < 2 ^ 28 := hgn ▸ register_ok_bound hR hok hb' (by rw [hgn]; exact hsc)
      have hfresh := fresh_ne hinv hn
      have hnx' : ((sp g).nextid + 1) % 2 ^ UNSIGNED_BITS = (sp g).nextid + 1 := by
        have : UNSIGNED_BITS = 32 := rfl
        simp only [this]; omega
      unfold setG getAtomNode
      apply R_setG hR g hg
      · simp [hR.nlen]
      · intro g' hg'
        rw [getD_set _ _ _ _ _ (by rw [hR.nlen]; exact hg)]
        by_cases hh : g = g'
        · subst hh; simp only [if_true, upd_same]; exact hnx'
        · simp only [hh, if_false]; rw [upd_other _ _ _ _ (Ne.symm hh)]; exact hR.nx g' hg'
      · refine ⟨hcnt, fun _ => ⟨by simp [hatoms], k, hk28, hhs, by simp [hlen], ?_⟩⟩
        · intro b hb
          have hloc : (sp g).nextid % gp.hashSize < gp.atomList.length := by
            rw [hhs, hlen]; exact Nat.mod_lt _ (Nat.two_pow_pos k)
          simp only []
          rw [getD_set _ _ _ _ _ hloc, hhs, hch _ (Nat.mod_lt _ (Nat.two_pow_pos k))]
          have hm := MAKE_ATOM_mod g (sp g).nextid k hk28
          by_cases hbl : (sp g).nextid % 2 ^ k = b
          · simp only [hbl, if_true]
            rw [List.filter_cons_of_pos (by simp [hm, hbl])]
          · simp only [hbl, if_false]
            rw [List.filter_cons_of_neg (by simp [hm, hbl]), hch b hb]
      · refine ⟨by simp [hsc], by simp; omega, ?_, ?_⟩
        · intro e he
          rcases List.mem_cons.mp he with rfl | he
          · exact ⟨(sp g).nextid, by simp, rfl⟩
          · obtain ⟨i, hi, hid⟩ := hinv.ids e he
            exact ⟨i, by simp; omega, hid⟩
        · exact List.Pairwise.cons (fun e he h => hfresh e he h.symm) hinv.nodup
      · intro x hx
        rcases hR.cache x hx with hx | hx
        · exact Or.inl hx
        · right
          rw [slookup_upd]
          · exact hx
          · intro hxg
            simp only []
            have hne : (MAKE_ATOM g (sp g).nextid == x.id) = false := by
              unfold slookup at hx
              rw [hxg] at hx
              cases hf : (sp g).live.find? (fun e => e.id == x.id) with
              | none => rw [hf] at hx; cases hx
              | some e =>
                obtain ⟨hm, hid⟩ := find?_id_some _ _ _ hf
                have := hfresh e hm
                simp; rw [← hid]; exact fun h => this h.symm
            simp only [List.find?_cons, hne]
      · exact hR.cdist

theorem xorSwap_eq (a b : Nat) : xorSwap a b = (b, a) := by
  unfold xorSwap
  have h1 : b ^^^ (a ^^^ b) = a := by
    rw [Nat.xor_comm a b, ← Nat.xor_assoc, Nat.xor_self, Nat.zero_xor]
  have h2 : (a ^^^ b) ^^^ a = b := by
    rw [Nat.xor_comm a b, Nat.xor_assoc, Nat.xor_self, Nat.xor_zero]
  simp only [h1, h2]

theorem swapSlots_eq (x y : Info) : swapSlots x y = (y, x) := by
  unfold swapSlots
  simp only [xorSwap_eq]

theorem chain_find {gp : Group} {sg : SGroup} (htbl : TblRel gp sg) (atm : Nat) :
    (gp.atomList.getD (ATOM_TO_LOC atm gp.hashSize) []).find? (fun n => n.id == atm) = sg.live.find? (fun e => e.id == atm) := by
  obtain ⟨_, k, hk28, hhs, _, hch⟩ := htbl
  rw [hhs, ATOM_TO_LOC_pow2 atm k (by omega), hch _ (Nat.mod_lt _ (Nat.two_pow_pos k))]
  apply find?_filter_imp
  intro x _ hx
  have : x.id = atm := by simpa using hx
  simp [this]

theorem badGroup_atomGroup (atm : Nat) : badGroup (atomGroup atm) = decide (MAXGROUP ≤ ATOM_TO_GROUP atm) := by
  unfold atomGroup; exact badGroup_nat _

theorem atomGroup_toNat (atm : Nat) : (atomGroup atm).toNat = ATOM_TO_GROUP atm := by
  unfold atomGroup; simp

theorem tableFind_spec {s sp} (hR : R s sp) (atm : Nat) :
    tableFind s atm = (sp (ATOM_TO_GROUP atm)).live.find? (fun e => e.id == atm) := by
  unfold tableFind
  rw [badGroup_atomGroup, atomGroup_toNat]
  by_cases hg : MAXGROUP ≤ ATOM_TO_GROUP atm
  · simp [hg, (hR.out _ hg).1]
  · simp only [hg, decide_false, if_false, Bool.false_eq_true]
    rcases group_cases hR (Nat.lt_of_not_le hg) with ⟨-, hl, hget | ⟨gp, hget, hc⟩⟩ | ⟨gp, hget, e1, -, -, htbl⟩
    · simp [hget, hl]
    · simp [hget, hc, hl]
    · simp only [hget, e1, if_false, Bool.false_eq_true]
      exact chain_find htbl atm

theorem findAtom_eq (s : State) (atm : Nat) :
    findAtom s atm = match tableFind s atm with
      | none => (s, none)
      | some n => ({ s with cache := { s.cache with c3 := ⟨atm, n.obj⟩ } }, some n) := by
  unfold findAtom tableFind
  by_cases hb : badGroup (atomGroup atm) = true
  · simp [hb]
  · simp only [hb]
    cases hgg : getG s (atomGroup atm).toNat with
    | none => simp
    | some gp =>
      by_cases hc : (gp.count == 0) = true
      · simp [hc]
      · simp only [hc]
        cases hf : (gp.atomList.getD (ATOM_TO_LOC atm gp.hashSize) []).find? (fun n => n.id == atm) <;> simp

theorem R_cache {s sp} (hR : R s sp) (c : Cache) (h1 : ∀ x ∈ c.toList, SlotOk sp x) (h2 : CDist c.toList) :
    R { s with cache := c } sp :=
  ⟨hR.len, hR.grp, hR.out, hR.nlen, hR.nx, hR.sinv, h1, h2⟩

theorem slookup_FAIL {s sp} (hR : R s sp) : slookup sp FAIL_ATOM = none := by
  apply slookup_empty
  rw [group_FAIL_ATOM]
  exact (hR.out 15 (by decide)).1

theorem slot_hit {s sp} (hR : R s sp) (x : Info) (hx : x ∈ s.cache.toList) (atm : Nat) (hid : x.id = atm) :
    x.obj = (slookup sp atm).getD NULL := by
  rcases hR.cache x hx with h | h
  · subst h
    have : atm = FAIL_ATOM := hid.symm
    rw [this, slookup_FAIL hR]; rfl
  · rw [← hid, h]; rfl

theorem R_cache_perm {s sp} (hR : R s sp) (c : Cache) (hp : c.toList.Perm s.cache.toList) : R { s with cache := c } sp :=
  R_cache hR c (fun x hx => hR.cache x (hp.mem_iff.mp hx)) (hR.cdist.perm hp.symm fun h e => e ▸ h e.symm)

theorem step_object {s sp} (hR : R s sp) (atm : Nat) :
    R (atomObject s atm).1 sp ∧ (atomObject s atm).2 = (slookup sp atm).getD NULL := by
  have hit (x : Info) (hx : x ∈ s.cache.toList) (h : (x.id == atm) = true) := slot_hit hR x hx atm (by simpa using h)
  unfold atomObject
  simp only [swapSlots_eq]
  split
  · next h => exact ⟨hR, hit _ (by simp [Cache.toList]) h⟩
  split
  · next h => exact ⟨R_cache_perm hR _ (List.Perm.swap ..), hit _ (by simp [Cache.toList]) h⟩
  split
  · next h => exact ⟨R_cache_perm hR _ ((List.Perm.swap ..).cons _), hit _ (by simp [Cache.toList]) h⟩
  split
  · next h => exact ⟨R_cache_perm hR _ (((List.Perm.swap ..).cons _).cons _), hit _ (by simp [Cache.toList]) h⟩
  · next h0 h1 h2 _ =>
    -- the slow path: a hit in the table is stored in the last slot, whose id differs from the other three
    unfold atomObjectSlow
    rw [findAtom_eq]
    have hts := tableFind_spec hR atm
    cases hf : tableFind s atm with
    | none => exact ⟨hR, by simp [slookup, ← hts, hf]⟩
    | some n =>
      have hl : slookup sp atm = some n.obj := by simp [slookup, ← hts, hf]
      have hc := hR.cache
      have hd : CDist _ := hR.cdist
      simp only [Cache.toList, List.forall_mem_cons, List.pairwise_cons] at hc hd ⊢
      refine ⟨R_cache hR _ ?_ ?_, by rw [hl]; rfl⟩
      · simp only [Cache.toList, List.forall_mem_cons]
        exact ⟨hc.1, hc.2.1, hc.2.2.1, .inr hl, nofun⟩
      · simp only [Cache.toList, CDist, List.pairwise_cons, List.forall_mem_cons]
        simp only [beq_iff_eq] at h0 h1 h2
        exact ⟨⟨hd.1.1, hd.1.2.1, fun h => absurd h h0, nofun⟩, ⟨hd.2.1.1, fun h => absurd h h1, nofun⟩,
          ⟨fun h => absurd h h2, nofun⟩, nofun, List.Pairwise.nil⟩

theorem emptySlot_id : emptySlot.id = FAIL_ATOM := rfl

/-- the cache loop of `HAremove_atom` on the list of slots: the first slot holding `atm` is emptied -/
def dropF (atm : Nat) : List Info → List Info
  | [] => []
  | x :: t => if x.id == atm then emptySlot :: t else x :: dropF atm t

theorem dropFirst_toList (c : Cache) (atm : Nat) : (c.dropFirst atm).toList = dropF atm c.toList := by
  simp only [Cache.dropFirst, apply_ite Cache.toList]
  simp only [Cache.toList, dropF, apply_ite (List.cons _)]

theorem dropF_sub (atm : Nat) (l : List Info) : ∀ x ∈ dropF atm l, x = emptySlot ∨ x ∈ l := by
  induction l with
  | nil => exact fun x hx => nomatch hx
  | cons a t ih =>
    intro x hx
    unfold dropF at hx
    split at hx
    · exact (List.mem_cons.mp hx).imp id (List.mem_cons_of_mem _)
    · rcases List.mem_cons.mp hx with rfl | hx
      · exact .inr List.mem_cons_self
      · exact (ih x hx).imp id (List.mem_cons_of_mem _)

theorem dropF_mem (l : List Info) (atm : Nat) (hd : CDist l) (hne : atm ≠ FAIL_ATOM) :
    ∀ x ∈ dropF atm l, x = emptySlot ∨ (x ∈ l ∧ x.id ≠ atm) := by
  induction l with
  | nil => exact fun x hx => nomatch hx
  | cons a t ih =>
    obtain ⟨h1, h2⟩ := List.pairwise_cons.mp hd
    intro x hx
    unfold dropF at hx
    split at hx
    · next ha =>
      refine (List.mem_cons.mp hx).imp id fun hxt => ⟨List.mem_cons_of_mem _ hxt, fun hxa => hne ?_⟩
      rw [← hxa]
      have ha : a.id = atm := by simpa using ha
      exact (ha ▸ hxa) ▸ h1 x hxt (ha.trans hxa.symm)
    · next ha =>
      rcases List.mem_cons.mp hx with rfl | hx
      · exact .inr ⟨List.mem_cons_self, by simpa using ha⟩
      · exact (ih h2 x hx).imp id fun h => ⟨List.mem_cons_of_mem _ h.1, h.2⟩

theorem dropF_dist (l : List Info) (atm : Nat) (hd : CDist l) : CDist (dropF atm l) := by
  induction l with
  | nil => exact hd
  | cons a t ih =>
    obtain ⟨h1, h2⟩ := List.pairwise_cons.mp hd
    unfold dropF
    split
    · exact List.pairwise_cons.mpr ⟨fun _ _ _ => rfl, h2⟩
    · refine List.pairwise_cons.mpr ⟨fun y hy => ?_, ih h2⟩
      rcases dropF_sub atm t y hy with rfl | hy
      · exact id
      · exact h1 y hy

theorem step_remove {s sp} (hR : R s sp) (atm : Nat) :
    R (removeAtom s atm).1 (sstep sp (.remove atm)) ∧ Res.obj (removeAtom s atm).2 = sres sp (.remove atm) := by
  unfold removeAtom
  simp only [sstep, sres]
  rw [badGroup_atomGroup, atomGroup_toNat]
  by_cases hgM : MAXGROUP ≤ ATOM_TO_GROUP atm
  · simp [hgM, slookup_empty _ _ (hR.out _ hgM).1]; exact hR
  · have hg := Nat.lt_of_not_le hgM
    have hinv := hR.sinv _ hg
    simp only [hgM, decide_false, if_false, Bool.false_eq_true]
    rcases group_cases hR hg with ⟨-, hl, hget | ⟨gp, hget, hc⟩⟩ | ⟨gp, hget, e1, -, hcnt, htbl⟩
    · simp [hget, slookup_empty _ _ hl]; exact hR
    · simp [hget, hc, slookup_empty _ _ hl]; exact hR
    · simp only [hget, e1, if_false, Bool.false_eq_true]
      have hts := chain_find htbl atm
      have hc : gp.count ≠ 0 := by simpa using e1
      obtain ⟨hatoms, k, hk28, hhs, hlen, hch⟩ := htbl
      cases hf : (gp.atomList.getD (ATOM_TO_LOC atm gp.hashSize) []).find? (fun n => n.id == atm) with
        | none =>
          have : slookup sp atm = none := by rw [slookup, ← hts, hf]; rfl
          simp [this]; exact hR
        | some n =>
          rw [hf] at hts
          have hl : slookup sp atm = some n.obj := by simp [slookup, ← hts]
          obtain ⟨hnm, hnid'⟩ := find?_id_some _ _ _ hts.symm
          simp only [hl, Option.getD_some]
          refine ⟨?_, trivial⟩
          have hne : atm ≠ FAIL_ATOM := by
            intro h; rw [h, group_FAIL_ATOM] at hg; exact absurd hg (by decide)
          have e1' := ATOM_TO_LOC_pow2 atm k (by omega)
          have e2' : atm % 2 ^ k < 2 ^ k := Nat.mod_lt _ (Nat.two_pow_pos k)
          unfold setG releaseAtomNode
          apply R_setG hR _ hg
          · exact hR.nlen
          · exact nx_same hR _ _ rfl
          · refine ⟨hcnt, fun _ => ⟨?_, k, hk28, hhs, by simp [hlen], ?_⟩⟩
            · simp only []
              rw [List.length_eraseP_of_mem hnm (by simp [hnid']), hatoms]
            · intro b hb
              have hloc : ATOM_TO_LOC atm gp.hashSize < gp.atomList.length := by
                rw [hhs, e1', hlen]; exact e2'
              simp only []
              rw [getD_set _ _ _ _ _ hloc, hhs, e1', hch _ e2']
              by_cases hbl : atm % 2 ^ k = b
              · simp only [hbl, if_true]
                rw [filter_eraseP_imp]
                intro x _ hx
                have : x.id = atm := by simpa using hx
                simp [this, hbl]
              · simp only [hbl, if_false]
                rw [filter_eraseP_disj, hch b hb]
                intro x _ hx
                have : x.id = atm := by simpa using hx
                simp [this, hbl]
          · refine ⟨fun h => absurd (hcnt ▸ h) hc, hinv.bound, ?_, ?_⟩
            · intro e he
              exact hinv.ids e (List.mem_of_mem_eraseP he)
            · exact List.Pairwise.sublist (List.eraseP_sublist) hinv.nodup
          · intro x hx
            rw [dropFirst_toList] at hx
            rcases dropF_mem _ atm hR.cdist hne x hx with hx | ⟨hx, hxne⟩
            · exact Or.inl hx
            · apply SlotOk_upd (hR.cache x hx)
              intro _
              simp only []
              apply find?_eraseP_ne
              intro y _ hy
              have : y.id = x.id := by simpa using hy
              simp [this, hxne]
          · rw [dropFirst_toList]; exact dropF_dist _ atm hR.cdist

theorem mem_table {gp : Group} {sg : SGroup} (htbl : TblRel gp sg) (e : Info) :
    e ∈ (gp.atomList.take gp.hashSize).flatten ↔ e ∈ sg.live := by
  obtain ⟨_, k, hk28, hhs, hlen, hch⟩ := htbl
  rw [List.take_of_length_le (by omega)]
  constructor
  · intro h
    obtain ⟨chain, hc, he⟩ := List.mem_flatten.mp h
    obtain ⟨b, hb, rfl⟩ := List.getElem_of_mem hc
    have := hch b (by omega)
    rw [List.getD_eq_getElem?_getD, List.getElem?_eq_getElem hb] at this
    simp only [Option.getD_some] at this
    rw [this] at he
    exact (List.mem_filter.mp he).1
  · intro h
    have hb : e.id % 2 ^ k < 2 ^ k := Nat.mod_lt _ (Nat.two_pow_pos k)
    have := hch _ hb
    have hb' : e.id % 2 ^ k < gp.atomList.length := by omega
    rw [List.getD_eq_getElem?_getD, List.getElem?_eq_getElem hb'] at this
    simp only [Option.getD_some] at this
    apply List.mem_flatten.mpr
    refine ⟨_, List.getElem_mem hb', ?_⟩
    rw [this]
    exact List.mem_filter.mpr ⟨h, by simp⟩

theorem step_search {s sp} (hR : R s sp) (grp : Int) (p : Nat → Bool) : SearchOk sp grp p (searchAtom s grp p) := by
  unfold searchAtom SearchOk
  by_cases hb : badGroup grp = true
  · simp [hb]
  · have hb' : badGroup grp = false := by simpa using hb
    obtain ⟨g, rfl, hg, hgn⟩ := badGroup_false hb'
    simp only [hb', hgn, if_false, Bool.false_eq_true]
    rcases group_cases hR hg with ⟨-, hl, hget | ⟨gp, hget, hc⟩⟩ | ⟨gp, hget, e1, -, -, htbl⟩
    · simp [hget, hl]
    · simp [hget, hc, hl]
    · simp only [hget, e1, if_false, Bool.false_eq_true]
      have hm := mem_table htbl
      cases hf : ((gp.atomList.take gp.hashSize).flatten).find? (fun n => p n.obj) with
      | none => exact .inr ⟨fun e he => by simpa using List.find?_eq_none.mp hf e ((hm e).mpr he), rfl⟩
      | some n => exact .inl ⟨n, (hm n).mp (List.mem_of_find?_eq_some hf), by simpa using List.find?_some hf, rfl⟩

theorem step_shutdown {s sp} (hR : R s sp) : R (shutdown s) (sstep sp .shutdown) := by
  simp only [sstep]
  refine ⟨by simp [shutdown], ?_, ?_, hR.nlen, ?_, ?_, ?_, ?_⟩
  · intro g _
    rw [getG_shutdown]; exact rfl
  · intro g hg; exact ⟨rfl, rfl, (hR.out g hg).2.2⟩
  · intro g hg; exact hR.nx g hg
  · intro g hg
    exact ⟨fun _ => rfl, (hR.sinv g hg).bound, (by intro e he; cases he), List.Pairwise.nil⟩
  · exact slotOk_empty _
  · show List.Pairwise _ [emptySlot, emptySlot, emptySlot, emptySlot]
    decide

theorem step_refines {s sp} (hR : R s sp) (op : Op) (hok : opOk s op = true) :
    R (step s op).1 (sstep sp op) ∧ SOk sp op (step s op).2 := by
  cases op with
  | init g h =>
    have h28 : h ≤ 2 ^ 28 := by
      have hA : ATOM_BITS = 28 := rfl
      simp only [opOk, decide_eq_true_eq, hA] at hok
      exact hok
    exact step_init hR g h h28
  | destroy g => exact step_destroy hR g
  | register g o => exact step_register hR g o hok
  | object a =>
    have := step_object hR a
    exact ⟨this.1, by simp only [SOk, sres, step]; rw [this.2]⟩
  | group a => exact ⟨hR, rfl⟩
  | remove a => exact step_remove hR a
  | search g m r => exact ⟨hR, _, rfl, step_search hR g _⟩
  | shutdown => exact ⟨step_shutdown hR, rfl⟩

theorem run_refines {s sp} (hR : R s sp) (ops : List Op) (hadm : adm s ops = true) :
    R (runS s ops) (srunS sp ops) ∧ SRun sp ops (runR s ops) := by
  induction ops generalizing s sp with
  | nil => exact ⟨hR, trivial⟩
  | cons op ops ih =>
    simp only [adm, Bool.and_eq_true] at hadm
    obtain ⟨h1, h2⟩ := step_refines hR op hadm.1
    obtain ⟨h3, h4⟩ := ih h1 hadm.2
    exact ⟨h3, h2, h4⟩

theorem runS_append (s : State) (a b : List Op) : runS s (a ++ b) = runS (runS s a) b := by
  induction a generalizing s with
  | nil => rfl
  | cons op a ih => simp [runS, ih]

theorem srunS_append (sp : SState) (a b : List Op) : srunS sp (a ++ b) = srunS (srunS sp a) b := by
  induction a generalizing sp with
  | nil => rfl
  | cons op a ih => simp [srunS, ih]

theorem adm_append (s : State) (a b : List Op) : adm s (a ++ b) = (adm s a && adm (runS s a) b) := by
  induction a generalizing s with
  | nil => simp [adm, runS]
  | cons op a ih => simp [adm, runS, ih, Bool.and_assoc]

theorem reach (ops : List Op) (h : adm State.init ops = true) :
    R (runS State.init ops) (srunS SState.init ops) := (run_refines init_R ops h).1

theorem groupCount_eq {s sp} (hR : R s sp) (g : Nat) (hg : g < MAXGROUP) : groupCount s g = (sp g).count := by
  have := hR.grp g hg
  unfold groupCount
  cases hgg : getG s g with
  | none => rw [hgg] at this; exact this.symm
  | some gp => rw [hgg] at this; exact this.1

theorem live_group {s sp} (hR : R s sp) {g : Nat} {e : Info} (he : e ∈ (sp g).live) : g < MAXGROUP := by
  rcases Nat.lt_or_ge g MAXGROUP with h | h
  · exact h
  · rw [(hR.out g h).1] at he; cases he

theorem R.dead {s sp} (hR : R s sp) (g : Nat) (h0 : (sp g).count = 0) : (sp g).live = [] := by
  rcases Nat.lt_or_ge g MAXGROUP with h | h
  · exact (hR.sinv g h).dead h0
  · exact (hR.out g h).1

/-- what one call of the specification machine does to the record of one group -/
inductive GStep (sg : SGroup) (g : Nat) (op : Op) : SGroup → Prop
  | same : GStep sg g op sg
  | count (c : Nat) : GStep sg g op { sg with count := c }
  /-- the last `HAdestroy_group` / `HAshutdown` (`c = 0`), or the first `HAinit_group` -/
  | clear (c : Nat) : c = 0 ∨ sg.count = 0 → GStep sg g op { sg with count := c, live := [] }
  | reg (grp : Int) (obj : Nat) : op = .register grp obj → grp.toNat = g → badGroup grp = false → sg.count ≠ 0 →
      GStep sg g op { sg with nextid := sg.nextid + 1, live := ⟨MAKE_ATOM g sg.nextid, obj⟩ :: sg.live }
  | rem (atm : Nat) : op = .remove atm → GStep sg g op { sg with live := sg.live.eraseP (fun e => e.id == atm) }

theorem GStep.upd {sp : SState} {g g' : Nat} {op : Op} {sg : SGroup} (h : GStep (sp g) g op sg) : GStep (sp g') g' op (upd sp g sg g') := by
  by_cases hg : g' = g
  · subst hg; rw [upd_same]; exact h
  · rw [upd_other _ _ _ _ hg]; exact .same

theorem sstep_gstep (sp : SState) (op : Op) (g : Nat) : GStep (sp g) g op (sstep sp op g) := by
  cases op with
  | init grp hs =>
    simp only [sstep]
    split
    · exact .same
    · split
      · next h => exact GStep.upd (.clear 1 (.inr (by simpa using h)))
      · exact GStep.upd (.count _)
  | destroy grp =>
    simp only [sstep]
    split
    · exact .same
    split
    · exact .same
    split
    · exact GStep.upd (.clear 0 (.inl rfl))
    · exact GStep.upd (.count _)
  | register grp obj =>
    simp only [sstep]
    split
    · exact .same
    · next hb =>
      split
      · exact .same
      · next hc => exact GStep.upd (.reg grp obj rfl rfl (by simpa using hb) (by simpa using hc))
  | remove atm => rw [sstep_remove]; exact GStep.upd (.rem atm rfl)
  | shutdown => exact .clear 0 (.inl rfl)
  | object | group | search => exact .same

theorem slive_step (sp : SState) (hdead : ∀ g, (sp g).count = 0 → (sp g).live = []) (op : Op) (e : Info) (g : Nat)
    (he : e ∈ (sp g).live) (hop : op ≠ .remove e.id) (hcnt : 0 < (sstep sp op g).count) :
    e ∈ (sstep sp op g).live := by
  have t := sstep_gstep sp op g
  generalize sstep sp op g = sg at t hcnt ⊢
  cases t with
  | same | count => exact he
  | clear c hc =>
    rcases hc with rfl | hc
    · exact absurd hcnt (Nat.lt_irrefl 0)
    · rw [hdead g hc] at he; cases he
  | reg => exact List.mem_cons_of_mem _ he
  | rem atm h => exact (List.mem_eraseP_of_neg (by simpa using fun h' : e.id = atm => hop (h' ▸ h))).mpr he

theorem keeps_live {s sp} (hR : R s sp) (ops : List Op) (hadm : adm s ops = true) (e : Info)
    (he : e ∈ (sp (ATOM_TO_GROUP e.id)).live) (hk : keeps e.id s ops = true) :
    e ∈ (srunS sp ops (ATOM_TO_GROUP e.id)).live := by
  induction ops generalizing s sp with
  | nil => exact he
  | cons op ops ih =>
    simp only [adm, Bool.and_eq_true] at hadm
    simp only [keeps, Bool.and_eq_true, decide_eq_true_eq, bne_iff_ne, ne_eq] at hk
    obtain ⟨⟨hk1, hk2⟩, hk3⟩ := hk
    have hR' := (step_refines hR op hadm.1).1
    have hg := live_group hR he
    rw [groupCount_eq hR' _ hg] at hk2
    have := slive_step sp hR.dead op e _ he hk1 hk2
    exact ih hR' hadm.2 this hk3

theorem slookup_of_mem {s sp} (hR : R s sp) (e : Info) (he : e ∈ (sp (ATOM_TO_GROUP e.id)).live) :
    slookup sp e.id = some e.obj := by
  have hg := live_group hR he
  unfold slookup
  rw [find?_of_mem_nodup _ e he (hR.sinv _ hg).nodup]; rfl

theorem mem_of_slookup {sp : SState} {atm o : Nat} (h : slookup sp atm = some o) :
    (⟨atm, o⟩ : Info) ∈ (sp (ATOM_TO_GROUP atm)).live := by
  unfold slookup at h
  cases hf : (sp (ATOM_TO_GROUP atm)).live.find? (fun e => e.id == atm) with
  | none => rw [hf] at h; cases h
  | some e =>
    rw [hf] at h
    obtain ⟨hm, hid⟩ := find?_id_some _ _ _ hf
    have : e = ⟨atm, o⟩ := by
      cases e; simp at h hid; simp [h, hid]
    rw [← this]; exact hm

theorem slookup_some_group {s sp} (hR : R s sp) {atm o} (h : slookup sp atm = some o) : ATOM_TO_GROUP atm < MAXGROUP :=
  live_group hR (mem_of_slookup h)

def SStale (sp : SState) (atm : Nat) : Prop :=
  slookup sp atm = none ∧ atm % 2 ^ 28 < (sp (ATOM_TO_GROUP atm)).nextid

theorem sstale_step {s sp} (hR : R s sp) (op : Op) (hok : opOk s op = true)
    (atm : Nat) (h : SStale sp atm) : SStale (sstep sp op) atm := by
  obtain ⟨hl, hn⟩ := h
  unfold SStale slookup at *
  have t := sstep_gstep sp op (ATOM_TO_GROUP atm)
  generalize sstep sp op (ATOM_TO_GROUP atm) = sg at t ⊢
  cases t with
  | same | count => exact ⟨hl, hn⟩
  | clear => exact ⟨rfl, hn⟩
  | reg grp obj hop hg hb hc =>
    subst hop
    have hlt := register_ok_bound hR hok hb (by rw [hg]; exact hc)
    rw [hg] at hlt
    -- the id issued now carries the counter's value, which `atm`'s index is below
    have hne : (MAKE_ATOM (ATOM_TO_GROUP atm) (sp (ATOM_TO_GROUP atm)).nextid == atm) = false := by
      simp only [beq_eq_false_iff_ne, ne_eq]
      intro heq
      have := MAKE_ATOM_mod (ATOM_TO_GROUP atm) (sp (ATOM_TO_GROUP atm)).nextid 28 (Nat.le_refl _)
      rw [heq, Nat.mod_eq_of_lt hlt] at this
      omega
    exact ⟨by simpa only [List.find?_cons, hne] using hl, Nat.lt_succ_of_lt hn⟩
  | rem a =>
    refine ⟨?_, hn⟩
    rw [find?_none_eraseP _ _ _ (Option.map_eq_none_iff.mp hl)]; rfl

theorem sstale_run {s sp} (hR : R s sp) (ops : List Op) (hadm : adm s ops = true)
    (atm : Nat) (h : SStale sp atm) : SStale (srunS sp ops) atm := by
  induction ops generalizing s sp with
  | nil => exact h
  | cons op ops ih =>
    simp only [adm, Bool.and_eq_true] at hadm
    exact ih (step_refines hR op hadm.1).1 hadm.2 (sstale_step hR op hadm.1 atm h)

theorem sstale_of_model {s sp} (hR : R s sp) (atm : Nat) (hi : issued s atm = true) (hl : isLive s atm = false) :
    SStale sp atm := by
  unfold issued at hi
  simp only [Bool.and_eq_true, decide_eq_true_eq] at hi
  obtain ⟨hg, hi⟩ := hi
  have hrel := hR.grp _ hg
  refine ⟨?_, ?_⟩
  · unfold isLive at hl
    rw [tableFind_spec hR atm] at hl
    unfold slookup
    cases hf : (sp (ATOM_TO_GROUP atm)).live.find? (fun e => e.id == atm) with
    | none => rfl
    | some x => rw [hf] at hl; simp at hl
  · have hA : ATOM_BITS = 28 := rfl
    rw [hA, hR.nx _ hg] at hi; exact hi

theorem object_of_none {s sp} (hR : R s sp) (atm : Nat) (h : slookup sp atm = none) :
    (step s (.object atm)).2 = .obj NULL ∧ (step s (.remove atm)).2 = .obj NULL := by
  have h1 := (step_object hR atm).2
  have h2 := (step_remove hR atm).2
  simp only [sres, h, Option.getD_none] at h2
  simp only [step]
  exact ⟨by rw [h1, h]; rfl, h2⟩

theorem live_issued {s sp} (hR : R s sp) {atm o : Nat} (h : slookup sp atm = some o) :
    atm % 2 ^ 28 < (sp (ATOM_TO_GROUP atm)).nextid := by
  have hg := slookup_some_group hR h
  have hinv := hR.sinv _ hg
  obtain ⟨i, hi, hid⟩ := hinv.ids _ (mem_of_slookup h)
  have := MAKE_ATOM_mod (ATOM_TO_GROUP atm) i 28 (Nat.le_refl _)
  have hb := hinv.bound
  rw [← (show atm = _ from hid)] at this
  omega

theorem slookup_remove {s sp} (hR : R s sp) (atm : Nat) : slookup (sstep sp (.remove atm)) atm = none := by
  simp only [sstep]
  cases hl : slookup sp atm with
  | none => exact hl
  | some o =>
    have hnd := not_mem_eraseP_nodup _ atm (hR.sinv _ (slookup_some_group hR hl)).nodup
    simp only [slookup, upd_same, Option.map_eq_none_iff, List.find?_eq_none]
    exact fun e he => by simpa using hnd e he

theorem sstale_rejected {s sp} (hR : R s sp) (post : List Op) (hadm : adm s post = true) (atm : Nat) (h : SStale sp atm) :
    (step (runS s post) (.object atm)).2 = .obj NULL ∧ (step (runS s post) (.remove atm)).2 = .obj NULL :=
  object_of_none (run_refines hR post hadm).1 atm (sstale_run hR post hadm atm h).1

theorem ATOM_TO_LOC_one (a : Nat) : ATOM_TO_LOC a 1 = 0 := by
  have := ATOM_TO_LOC_pow2 a 0 (by decide)
  simpa [Nat.mod_one] using this

structure Single (s : State) (g n : Nat) (top : Option Info) : Prop where
  lt : g < MAXGROUP
  glen : s.groups.length = MAXGROUP
  nlen : s.nextIds.length = MAXGROUP
  nx : nextId s g = n
  cache : s.cache = ⟨emptySlot, emptySlot, emptySlot, emptySlot⟩
  grp : ∃ gp, getG s g = some gp ∧ gp.count ≠ 0 ∧ gp.hashSize = 1 ∧ gp.atomList.length = 1 ∧ (gp.atomList.getD 0 []).head? = top

theorem Single.register {s : State} {g n : Nat} {top : Option Info} (h : Single s g n top) (hn : n + 1 < 2 ^ 32)
    (obj : Nat) : (step s (.register (g : Int) obj)).2 = .atom (MAKE_ATOM g n) ∧
      Single (step s (.register (g : Int) obj)).1 g (n + 1) (some ⟨MAKE_ATOM g n, obj⟩) := by
  obtain ⟨gp, hget, hc, hhs, hal, _⟩ := h.grp
  have hg := h.lt
  have hb : badGroup (g : Int) = false := by rw [badGroup_nat]; simpa using hg
  let gp' : Group := { gp with atomList := gp.atomList.set 0 (⟨MAKE_ATOM g n, obj⟩ :: gp.atomList.getD 0 []), atoms := gp.atoms + 1 }
  have hstep : step s (.register (g : Int) obj) =
      (setG { getAtomNode s with nextIds := s.nextIds.set g ((n + 1) % 2 ^ UNSIGNED_BITS) } g gp', .atom (MAKE_ATOM g n)) := by
    simp only [step, registerAtom, hb, if_false, Bool.false_eq_true, Int.toNat_natCast, hget, show (gp.count == 0) = false by simpa using hc]
    rw [show nextId (getAtomNode s) g = n from h.nx, show n % gp.hashSize = 0 by rw [hhs, Nat.mod_one]]
    rfl
  rw [hstep]
  refine ⟨rfl, hg, (List.length_set ..).trans h.glen, (List.length_set ..).trans h.nlen, ?_, h.cache, gp', ?_, hc, hhs,
    (List.length_set ..).trans hal, ?_⟩
  · simp only [nextId, setG]
    rw [getD_set _ _ _ _ _ (by rw [h.nlen]; exact hg), if_pos rfl, show UNSIGNED_BITS = 32 from rfl, Nat.mod_eq_of_lt hn]
  · rw [getG_setG _ _ _ _ (by show g < s.groups.length; rw [h.glen]; exact hg), if_pos rfl]
  · show ((gp.atomList.set 0 _).getD 0 []).head? = _
    rw [getD_set _ _ _ _ _ (by omega), if_pos rfl]; rfl

theorem Single.registers {g : Nat} (c k : Nat) : ∀ {s : State} {n : Nat} {top : Option Info}, Single s g n top →
    n + k < 2 ^ 32 → ∃ top', Single (runS s (List.replicate k (.register (g : Int) c))) g (n + k) top' := by
  induction k with
  | zero => exact fun h _ => ⟨_, h⟩
  | succ k ih =>
    intro s n top h hn
    obtain ⟨top', h'⟩ := ih (h.register (by omega) c).2 (by omega)
    exact ⟨top', by rwa [show n + 1 + k = n + (k + 1) by omega] at h'⟩

theorem Single.lookup {s : State} {g n : Nat} {e : Info} (h : Single s g n (some e)) (he : ATOM_TO_GROUP e.id = g) :
    (step s (.object e.id)).2 = .obj e.obj := by
  obtain ⟨gp, hget, hc, hhs, hal, htop⟩ := h.grp
  have hg := h.lt
  have hne : (FAIL_ATOM == e.id) = false := by
    simp only [beq_eq_false_iff_ne, ne_eq]
    intro hf
    rw [← hf, group_FAIL_ATOM] at he
    exact absurd (he ▸ hg) (by decide)
  have hbg : badGroup (atomGroup e.id) = false := by rw [badGroup_atomGroup, he]; simpa using hg
  obtain ⟨t, ht⟩ : ∃ t, gp.atomList.getD 0 [] = e :: t := by
    cases hl : gp.atomList.getD 0 [] with
    | nil => rw [hl] at htop; cases htop
    | cons a t => rw [hl] at htop; exact ⟨t, by rw [Option.some.inj htop]⟩
  simp only [step, atomObject, h.cache, emptySlot, hne, if_false, Bool.false_eq_true, atomObjectSlow, findAtom, hbg, atomGroup_toNat, he,
    hget, show (gp.count == 0) = false by simpa using hc, hhs, ATOM_TO_LOC_one, ht, List.find?_cons, beq_self_eq_true]

theorem Single.init {g : Nat} (hg : g < MAXGROUP) : Single (runS State.init [Op.init (g : Int) 1]) g 0 none := by
  have hb : badGroup (g : Int) = false := by rw [badGroup_nat]; simpa using hg
  have hlen : State.init.groups.length = MAXGROUP := by simp [State.init]
  have hget : getG State.init g = none := by
    simp [getG, State.init, List.getD_eq_getElem?_getD, hg]
  let gp1 : Group := { count := 1, hashSize := 1, atoms := 0, atomList := [[]] }
  have hs : runS State.init [Op.init (g : Int) 1] = setG State.init g gp1 := by
    simp only [runS, step, initGroup, hb, Int.toNat_natCast, hget]
    rfl
  rw [hs]
  exact ⟨hg, (List.length_set ..).trans hlen, (by decide : State.init.nextIds.length = MAXGROUP),
    (by decide : ∀ k, k < 9 → nextId State.init k = 0) g hg,
    (by decide : State.init.cache = ⟨emptySlot, emptySlot, emptySlot, emptySlot⟩), gp1,
    by rw [getG_setG _ _ _ _ (by rw [hlen]; exact hg), if_pos rfl], by decide, rfl, rfl, rfl⟩
end H4.Atom

namespace H4.Props.C13
open H4.Atom H4.Gen.Macros H4.Gen.Atom

theorem destroy_keeps_nextIds (s : State) (g : Int) : (destroyGroup s g).1.nextIds = s.nextIds := by
  unfold destroyGroup
  by_cases hb : badGroup g = true
  · simp only [hb, if_true]
  · simp only [hb, if_false, Bool.false_eq_true]
    cases getG s g.toNat with
    | none => rfl
    | some gp =>
      simp only []
      by_cases hc : (gp.count == 0) = true
      · simp only [hc, if_true]
      · simp only [hc, if_false, Bool.false_eq_true]
        by_cases h1 : (gp.count - 1 == 0) = true
        · simp only [h1, if_true]; rfl
        · simp only [h1, if_false, Bool.false_eq_true]; rfl

theorem isLive_of_count_zero (s : State) (id : Nat) (h : groupCount s (ATOM_TO_GROUP id) = 0) : isLive s id = false := by
  unfold isLive tableFind
  rw [atomGroup_toNat]
  unfold groupCount at h
  split
  · rfl
  · cases hget : getG s (ATOM_TO_GROUP id) with
    | none => rfl
    | some gp => rw [hget] at h; simp only [] at h; simp [h]

end H4.Props.C13
