import H4.Lemmas.ToolsParse
import H4.Gen.Fn.Repack
import H4.Gen.Fn.Repack2
import H4.Lemmas.C18FnAttr
import H4.Lemmas.C2L
/-! What the proofs about the translated `parse_comp`, `parse_chunk` and `is_reserved` (hrepack_parse.c) share: cells and characters, the string
    builtins, the index arithmetic of a scan, the object list on cells.  A C string is a region of `char` cells (`Int`s in -128..127, the way the
    translator reads a plain `char`), the model works on `List Char`; `toChar` takes the cell, seen as an `unsigned char`, for the character code. -/
attribute [c18logic] true_and and_true false_and and_false true_or or_true false_or or_false not_true_eq_false not_false_eq_true
  decide_true decide_false Bool.not_true Bool.not_false Bool.or_false Bool.or_true Bool.false_or Bool.true_or
  and_self or_self Bool.false_eq_true Bool.true_eq_false eq_self Bool.and_false Bool.and_true Bool.true_and Bool.false_and
-- an `if` is decided from its condition BEFORE its branches are visited: the dead code of a translated body is never simplified
attribute [c18logic_proc ↓] reduceIte


namespace H4.C18Fn
open H4.Tools H4.Gen.Tools

def IsChar (c : Int) : Prop := -128 ≤ c ∧ c ≤ 127

def CStr (l : List Int) : Prop := ∀ c ∈ l, IsChar c ∧ c ≠ 0

instance (l : List Int) : Decidable (CStr l) := by unfold CStr IsChar; infer_instance

def toChar (c : Int) : Char := Char.ofNat (c % 256).toNat

def toStr (l : List Int) : Str := l.map toChar

@[simp] theorem toStr_nil : toStr [] = [] := rfl
@[simp] theorem toStr_cons (c : Int) (l : List Int) : toStr (c :: l) = toChar c :: toStr l := rfl
@[simp] theorem toStr_append (a b : List Int) : toStr (a ++ b) = toStr a ++ toStr b := by simp [toStr]
@[simp] theorem toStr_length (a : List Int) : (toStr a).length = a.length := by simp [toStr]
theorem toStr_take (a : List Int) (n : Nat) : toStr (a.take n) = (toStr a).take n := by simp [toStr, List.map_take]
theorem toStr_drop (a : List Int) (n : Nat) : toStr (a.drop n) = (toStr a).drop n := by simp [toStr, List.map_drop]

theorem CStr.cons {c : Int} {l : List Int} (h : CStr (c :: l)) : (IsChar c ∧ c ≠ 0) ∧ CStr l :=
  ⟨h c (by simp), fun x hx => h x (by simp [hx])⟩

theorem CStr.append {a b : List Int} (ha : CStr a) (hb : CStr b) : CStr (a ++ b) := by
  intro c hc; rcases List.mem_append.mp hc with h | h
  · exact ha c h
  · exact hb c h

theorem CStr.left {a b : List Int} (h : CStr (a ++ b)) : CStr a := fun c hc => h c (by simp [hc])
theorem CStr.right {a b : List Int} (h : CStr (a ++ b)) : CStr b := fun c hc => h c (by simp [hc])
theorem CStr.take {a : List Int} (h : CStr a) (n : Nat) : CStr (a.take n) := fun c hc => h c (List.mem_of_mem_take hc)
theorem CStr.drop {a : List Int} (h : CStr a) (n : Nat) : CStr (a.drop n) := fun c hc => h c (List.mem_of_mem_drop hc)
theorem CStr.nil : CStr [] := by intro c hc; simp at hc
theorem CStr.single {c : Int} (h : IsChar c) (h0 : c ≠ 0) : CStr [c] := by intro x hx; simp at hx; subst hx; exact ⟨h, h0⟩
theorem CStr.chars {l : List Int} (h : CStr l) : ∀ c ∈ l, IsChar c := fun c hc => (h c hc).1
theorem CStr.snoc {l : List Int} {c : Int} (h : CStr l) (hc : IsChar c ∧ c ≠ 0) : CStr (l ++ [c]) := h.append (CStr.single hc.1 hc.2)

theorem ofNat_toNat_small : ∀ n : Fin 256, (Char.ofNat n.val).toNat = n.val := by decide +kernel

theorem toChar_toNat (c : Int) : (toChar c).toNat = (c % 256).toNat := by
  have h : (c % 256).toNat < 256 := by omega
  exact ofNat_toNat_small ⟨_, h⟩

theorem toChar_eq_iff (c : Int) (ch : Char) : toChar c = ch ↔ (c % 256).toNat = ch.toNat := by
  rw [← Char.toNat_inj, toChar_toNat]

theorem toChar_eq_ascii {c : Int} (hc : IsChar c) (ch : Char) (v : Nat) (hv : ch.toNat = v) (h7 : v < 128) : toChar c = ch ↔ c = (v : Int) := by
  rw [toChar_eq_iff, hv]; unfold IsChar at hc; omega

theorem toChar_comma {c : Int} (hc : IsChar c) : toChar c = ',' ↔ c = 44 := toChar_eq_ascii hc ',' 44 rfl (by omega)

theorem toChar_colon {c : Int} (hc : IsChar c) : toChar c = ':' ↔ c = 58 := toChar_eq_ascii hc ':' 58 rfl (by omega)

theorem toChar_isDigit (c : Int) : (toChar c).isDigit = true ↔ 48 ≤ c % 256 ∧ c % 256 ≤ 57 := by
  rw [isDigit_iff, toChar_toNat]; omega

theorem isdigitC_iff (c : Int) : ((if 48 ≤ c % 256 ∧ c % 256 ≤ 57 then 1 else 0) ≠ 0) ↔ (48 ≤ c % 256 ∧ c % 256 ≤ 57) := by
  split <;> simp [*]

theorem toChar_isDigit' {c : Int} (hc : IsChar c) : (toChar c).isDigit = true ↔ 48 ≤ c ∧ c ≤ 57 := by
  rw [toChar_isDigit]; unfold IsChar at hc; omega

theorem toChar_inj {a b : Int} : toChar a = toChar b ↔ a % 256 = b % 256 := by
  rw [toChar_eq_iff, toChar_toNat]; omega

theorem toStr_inj : ∀ {a b : List Int}, toStr a = toStr b ↔ a.map (· % 256) = b.map (· % 256) := by
  intro a
  induction a with
  | nil => intro b; cases b <;> simp
  | cons x xs ih =>
    intro b
    cases b with
    | nil => simp
    | cons y ys => simp [toChar_inj, ih]

theorem toStr_inj_char : ∀ {a b : List Int}, (∀ c ∈ a, IsChar c) → (∀ c ∈ b, IsChar c) → (toStr a = toStr b ↔ a = b) := by
  intro a
  induction a with
  | nil => intro b _ _; cases b <;> simp
  | cons x xs ih =>
    intro b ha hb
    cases b with
    | nil => simp
    | cons y ys =>
      have hx := ha x (by simp); have hy := hb y (by simp)
      simp only [toStr_cons, List.cons.injEq, toChar_inj]
      rw [ih (fun c hc => ha c (by simp [hc])) (fun c hc => hb c (by simp [hc]))]
      unfold IsChar at hx hy
      constructor <;> rintro ⟨h1, h2⟩ <;> exact ⟨by omega, h2⟩

def lit (l : List Nat) : List Int := l.map Int.ofNat

theorem toStr_lit (l : List Nat) (h : ∀ v ∈ l, v < 256) : toStr (lit l) = cstr l := by
  induction l with
  | nil => rfl
  | cons v vs ih =>
    have hv := h v (by simp)
    simp only [lit, List.map_cons, toStr_cons, cstr] at ih ⊢
    rw [ih (fun x hx => h x (by simp [hx]))]
    congr 1
    unfold toChar
    congr 1
    simp only [Int.ofNat_eq_natCast]
    omega

open H4.Gen.Fn.Repack2 in
/-- `c % 256 ≠ 0`: the cells may be of either signedness -/
theorem strcmpC2_spec (a b pa pb : List Int) (ha : ∀ c ∈ a, c % 256 ≠ 0) (hb : ∀ c ∈ b, c % 256 ≠ 0) :
    ∃ r, strcmpC (a ++ 0 :: pa) (b ++ 0 :: pb) = some r ∧ (r = 0 ↔ toStr a = toStr b) :=
  H4.C2L.strcmp_spec (fun _ _ _ _ => rfl) toChar a b pa pb ha hb fun _ _ _ _ => toChar_inj

open H4.Gen.Fn.Repack2 in
theorem strncmpC2_spec : ∀ (n : Nat) (a b pa pb : List Int), (∀ c ∈ a, c % 256 ≠ 0) → (∀ c ∈ b, c % 256 ≠ 0) →
    ∃ r, strncmpC n (a ++ 0 :: pa) (b ++ 0 :: pb) = some r ∧ (r = 0 ↔ (toStr a).take n = (toStr b).take n) := by
  intro n
  induction n with
  | zero => intro a b pa pb _ _; exact ⟨0, by simp [strncmpC], by simp⟩
  | succ n ih =>
    intro a b pa pb ha hb
    cases a with
    | nil =>
      cases b with
      | nil => exact ⟨0, by simp [strncmpC], by simp⟩
      | cons y ys =>
        have := hb y (by simp)
        refine ⟨-1, ?_, by simp⟩
        simp only [List.nil_append, List.cons_append, strncmpC]
        rw [if_pos (by omega), if_pos (by omega)]
    | cons x xs =>
      have hx := ha x (by simp)
      cases b with
      | nil =>
        refine ⟨1, ?_, by simp⟩
        simp only [List.nil_append, List.cons_append, strncmpC]
        rw [if_pos (by omega), if_neg (by omega)]
      | cons y ys =>
        have hy := hb y (by simp)
        simp only [List.cons_append, strncmpC]
        by_cases e : x % 256 = y % 256
        · rw [if_neg (by omega), if_neg (by omega)]
          obtain ⟨r, hr, hr2⟩ := ih xs ys pa pb (fun c hc => ha c (by simp [hc])) (fun c hc => hb c (by simp [hc]))
          exact ⟨r, hr, by simp [hr2, toChar_inj, e]⟩
        · rw [if_pos e]
          refine ⟨_, rfl, ?_⟩
          constructor
          · intro h; split at h <;> omega
          · intro h; simp [toChar_inj] at h; exact absurd h.1 e

theorem CStr.mod_ne {l : List Int} (h : CStr l) : ∀ c ∈ l, c % 256 ≠ 0 := by
  intro c hc; have := h c hc; unfold IsChar at this; omega

theorem lit_mod_ne (l : List Nat) (h : ∀ v ∈ l, 0 < v ∧ v < 256) : ∀ c ∈ lit l, c % 256 ≠ 0 := by
  intro c hc
  simp only [lit, List.mem_map] at hc
  obtain ⟨v, hv, rfl⟩ := hc
  have := h v hv
  simp only [Int.ofNat_eq_natCast]; omega

open H4.Gen.Fn.Repack2 in
theorem strcmp_lit (cls rest : List Int) (hc : CStr cls) (l : List Nat) (hl : ∀ v ∈ l, 0 < v ∧ v < 256) :
    ∃ r, strcmpC (cls ++ 0 :: rest) (lit l ++ [0]) = some r ∧ (r = 0 ↔ toStr cls = cstr l) := by
  obtain ⟨r, h1, h2⟩ := strcmpC2_spec cls (lit l) rest [] hc.mod_ne (lit_mod_ne l hl)
  exact ⟨r, h1, by rw [h2, toStr_lit l fun v hv => (hl v hv).2]⟩

open H4.Gen.Fn.Repack2 in
theorem strncmp_lit (n : Nat) (cls rest : List Int) (hc : CStr cls) (l : List Nat) (hl : ∀ v ∈ l, 0 < v ∧ v < 256) :
    ∃ r, strncmpC n (cls ++ 0 :: rest) (lit l ++ [0]) = some r ∧ (r = 0 ↔ (toStr cls).take n = (cstr l).take n) := by
  obtain ⟨r, h1, h2⟩ := strncmpC2_spec n cls (lit l) rest [] hc.mod_ne (lit_mod_ne l hl)
  exact ⟨r, h1, by rw [h2, toStr_lit l fun v hv => (hl v hv).2]⟩


section helpers
open H4.Gen.Fn.Repack
theorem strcmp_buf (a junk : List Int) (ha : CStr a) (l : List Int) (w : Str) (hl : ∀ c ∈ l, c % 256 ≠ 0) (hw : toStr l = w) :
    ∃ r, strcmpC (a ++ 0 :: junk) (l ++ [0]) = some r ∧ (r = 0 ↔ toStr a = w) :=
  hw ▸ H4.C2L.strcmp_spec (fun _ _ _ _ => rfl) toChar a l junk [] ha.mod_ne hl fun _ _ _ _ => toChar_inj

theorem atoiDigits_spec : ∀ (sd junk : List Int) (acc : Nat), (∀ c ∈ sd, IsChar c) →
    atoiDigits (sd ++ 0 :: junk) (acc : Int) = some ((((toStr sd).takeWhile Char.isDigit).foldl atoiStep acc : Nat) : Int) := by
  intro sd
  induction sd with
  | nil => intro junk acc _; simp [atoiDigits]
  | cons c cs ih =>
    intro junk acc h
    have hc := h c (by simp)
    by_cases hd : 48 ≤ c ∧ c ≤ 57
    · have hdig : (toChar c).isDigit = true := (toChar_isDigit' hc).mpr hd
      simp only [List.cons_append, atoiDigits, hd, toStr_cons, List.takeWhile_cons, hdig, List.foldl_cons, c18logic]
      have hv : (acc : Int) * 10 + (c - 48) = ((atoiStep acc (toChar c) : Nat) : Int) := by
        have := toChar_toNat c
        simp only [atoiStep, this, show '0'.toNat = 48 from rfl]
        omega
      rw [hv, ih junk _ (fun x hx => h x (by simp [hx]))]
    · have hdig : ¬ (toChar c).isDigit = true := fun h' => hd ((toChar_isDigit' hc).mp h')
      simp [atoiDigits, hd, hdig]

/-- cells on which `atoi` starts reading digits at once: no NUL, no white space (32, 9..13), no sign (45, 43) -/
def TokOK (sd : List Int) : Prop := ∀ c ∈ sd, IsChar c ∧ c ≠ 0 ∧ ¬ (c = 32 ∨ (9 ≤ c ∧ c ≤ 13)) ∧ c ≠ 45 ∧ c ≠ 43

/-- 9 characters: the longest token whose value is below 2^31 whatever its digits -/
theorem atoiC_spec (sd junk : List Int) (h : TokOK sd) (hl : sd.length ≤ 9) :
    atoiC (sd ++ 0 :: junk) = some ((atoi (toStr sd) : Nat) : Int) := by
  have hch : ∀ c ∈ sd, IsChar c := fun c hc => (h c hc).1
  have hlt := atoi_lt (toStr sd)
  have hpow : 10 ^ (toStr sd).length ≤ 10 ^ 9 := Nat.pow_le_pow_right (by omega) (by simpa using hl)
  have hrange : -2147483648 ≤ ((atoi (toStr sd) : Nat) : Int) ∧ ((atoi (toStr sd) : Nat) : Int) ≤ 2147483647 := by omega
  cases sd with
  | nil => simp [atoiC, atoiSkip, atoiDigits, atoi]
  | cons c cs =>
    obtain ⟨_, _, hws, h45, h43⟩ := h c (by simp)
    have hd := atoiDigits_spec (c :: cs) junk 0 hch
    have h0 : ((0 : Nat) : Int) = 0 := rfl
    rw [h0, List.cons_append, ← atoi_eq] at hd
    simp only [atoiC, List.cons_append, atoiSkip, hws, h45, h43, hd, hrange, c18logic]


theorem TokOK.cstr {sd : List Int} (h : TokOK sd) : CStr sd := fun c hc => ⟨(h c hc).1, (h c hc).2.1⟩

theorem lit_snoc (l : List Nat) (v : Nat) : lit (l ++ [v]) = lit l ++ [(v : Int)] := by simp [lit]

/-- the scan of `bs` (with `tail` behind it) stands before `rem`: index `i` and bound `len` as the translated text holds them -/
structure At (str : List Int) (len i : Int) (bs tail pre rem : List Int) : Prop where
  str : str = bs ++ tail
  len : len = bs.length
  idx : i = pre.length
  split : bs = pre ++ rem
  lt31 : bs.length < 2 ^ 31

theorem At.stop {str : List Int} {len i : Int} {bs tail pre : List Int} (h : At str len i bs tail pre []) : ¬ i < len := by
  rw [h.idx, h.len, h.split, List.append_nil]; exact Int.lt_irrefl _

/-- what the C index arithmetic comes to at cell `c`: the test of the loop, the access `str[i]`, `i + 1` as `unsigned`, the test for the last
    cell (`len - 1` as `size_t`, and as `int`), and the cursor one cell on -/
theorem At.cell {str : List Int} {len i : Int} {bs tail pre cs : List Int} {c : Int} (h : At str len i bs tail pre (c :: cs)) :
    i < len ∧ (0 ≤ i ∧ i < str.length) ∧ str.getD i.toNat 0 = c ∧ (i + 1) % 4294967296 = ((pre.length + 1 : Nat) : Int) ∧
    (i = (len - 1 % 18446744073709551616) % 18446744073709551616 ↔ cs = []) ∧ (i = len - 1 ↔ cs = []) ∧
    At str len ((pre.length + 1 : Nat) : Int) bs tail (pre ++ [c]) cs := by
  obtain ⟨rfl, rfl, rfl, rfl, h31⟩ := h
  have hl : (pre ++ c :: cs).length = pre.length + (cs.length + 1) := by simp
  have h0 : cs.length = 0 ↔ cs = [] := List.length_eq_zero_iff
  refine ⟨by omega, ⟨by omega, by rw [List.length_append]; omega⟩, by simp [List.getD_eq_getElem?_getD], by omega, ?_, ?_,
    rfl, rfl, by simp, by simp, h31⟩ <;> rw [← h0] <;> omega

/-- `'\\0'` stored into a `char` cell -/
theorem nul_cell : ((0 : Int) + 128) % 256 - 128 = 0 := by decide

theorem set_tok {tok jr : List Int} {a b : Int} (c : Int) : (tok ++ a :: b :: jr).set tok.length c = (tok ++ [c]) ++ b :: jr := by simp

theorem set_tok_nul {tok jr : List Int} {a b : Int} (c : Int) : ((tok ++ a :: b :: jr).set tok.length c).set tok.length 0 = tok ++ 0 :: b :: jr := by
  simp

theorem set_tok_nul_next {tok jr : List Int} {a b : Int} (c : Int) :
    ((tok ++ a :: b :: jr).set tok.length c).set (tok.length + 1) 0 = (tok ++ [c]) ++ 0 :: jr := by simp

theorem tokbuf (tok junk : List Int) (sz : Nat) (hl : tok.length + junk.length = sz) (hroom : tok.length + 2 ≤ sz) :
    ∃ a b jr, junk = a :: b :: jr ∧
      ((0 : Int) ≤ (tok.length : Int) ∧ (tok.length : Int) < ((tok ++ a :: b :: jr).length : Int)) ∧
      ((0 : Int) ≤ (tok.length : Int) + 1 ∧ (tok.length : Int) + 1 < ((tok ++ a :: b :: jr).length : Int)) := by
  match junk, hl with
  | [], h => simp at h; omega
  | [_], h => simp at h; omega
  | a :: b :: jr, _ => exact ⟨a, b, jr, rfl, by simp; omega, by simp; omega⟩


end helpers

section objlist

/-- `end_obj` after scanning cells from index `i` on: index of the last 58 (`':'`) seen, else the incoming value -/
def lastColonC : List Int → Nat → Int → Int
  | [], _, acc => acc
  | c :: cs, i, acc => lastColonC cs (i + 1) (if c = 58 then (i : Int) else acc)

/-- the name loop on cells: a name is emitted at every 44 (`','`) and at the last cell -/
def namesLoopC : List Int → List Int → Option (List (List Int))
  | [], _ => some []
  | c :: cs, cur =>
    if cur.length ≥ H4_MAX_NC_NAME - 1 then none
    else if c = 44 ∨ cs = [] then (namesLoopC cs []).map ((if c = 44 then cur else cur ++ [c]) :: ·)
    else namesLoopC cs (cur ++ [c])

/-- `strcpy(obj_list[n].obj, name)`: the name and its NUL at cell `n * 256` -/
def putName (blk : List Int) (n : Nat) (nm : List Int) : List Int :=
  blk.take (n * 256) ++ (nm ++ [0]) ++ blk.drop (n * 256 + (nm.length + 1))

def putNames (blk : List Int) : Nat → List (List Int) → List Int
  | _, [] => blk
  | n, nm :: r => putNames (putName blk n nm) (n + 1) r

/-- the cell arithmetic of `strcpy(obj_list[nd].obj, name)` (rows of 256 cells, `k ≤ 255` characters) as the translated text computes it -/
theorem row_cells (nd N k : Nat) (hN : nd + 1 ≤ N) (hk : k ≤ 255) :
    (0 + (nd : Int) * 256).toNat = nd * 256 ∧ (0 + (nd : Int) * 256 + ((k : Int) + 1)).toNat = nd * 256 + (k + 1) ∧
    (0 : Int) ≤ 0 + (nd : Int) * 256 ∧ 0 + (nd : Int) * 256 + ((k : Int) + 1) ≤ ((N * 256 : Nat) : Int) := by omega

theorem putName_length {blk : List Int} {n N : Nat} {nm : List Int} (h : blk.length = N * 256) (hn : n + 1 ≤ N) (h255 : nm.length ≤ 255) :
    (putName blk n nm).length = N * 256 := by
  simp only [putName, List.length_append, List.length_take, List.length_drop, List.length_cons, List.length_nil]; omega

theorem take_name (nm junk : List Int) : (nm ++ 0 :: junk).take (nm.length + 1) = nm ++ [0] := H4.C2L.cstr_take nm 0 junk

theorem takeWhile_cstr (nm junk : List Int) (h : CStr nm) : (nm ++ 0 :: junk).takeWhile (· ≠ 0) = nm :=
  H4.C2L.cstr_takeWhile (fun h0 => (h 0 h0).2 rfl) junk

def encPos : Option Nat → Int
  | none => -1
  | some k => (k : Int)

theorem lastColonC_model : ∀ (l : List Int) (i : Nat) (acc : Option Nat), (∀ c ∈ l, IsChar c) →
    lastColonC l i (encPos acc) = encPos (lastColonAux (toStr l) i acc) := by
  intro l
  induction l with
  | nil => intro i acc _; rfl
  | cons c cs ih =>
    intro i acc h
    have hc := h c (by simp)
    simp only [lastColonC, toStr_cons, lastColonAux]
    by_cases e : c = 58
    · rw [if_pos e, if_pos ((toChar_colon hc).mpr e)]
      exact ih (i + 1) (some i) (fun x hx => h x (by simp [hx]))
    · rw [if_neg e, if_neg (mt (toChar_colon hc).mp e)]
      exact ih (i + 1) acc (fun x hx => h x (by simp [hx]))

theorem lastColonC_eq (l : List Int) (h : ∀ c ∈ l, IsChar c) : lastColonC l 0 (-1) = encPos (lastColon (toStr l)) :=
  lastColonC_model l 0 none h

theorem count_model : ∀ (l : List Int), (∀ c ∈ l, IsChar c) → (toStr l).count ',' = l.count 44 := by
  intro l
  induction l with
  | nil => intro _; rfl
  | cons c cs ih =>
    intro h
    have hc := h c (by simp)
    simp only [toStr_cons, List.count_cons, ih (fun x hx => h x (by simp [hx]))]
    congr 1
    by_cases e : c = 44
    · subst e
      have : toChar 44 = ',' := by decide
      simp [this]
    · simp [e, mt (toChar_comma hc).mp e]

theorem namesLoopC_model : ∀ (l cur : List Int), (∀ c ∈ l, IsChar c) →
    (namesLoopC l cur).map (fun ns => ns.map toStr) = namesLoop (toStr l) (toStr cur) := by
  intro l
  induction l with
  | nil => intro cur _; simp [namesLoopC, namesLoop]
  | cons c cs ih =>
    intro cur h
    have hc := h c (by simp)
    have hcs : ∀ x ∈ cs, IsChar x := fun x hx => h x (by simp [hx])
    by_cases hlong : cur.length ≥ H4_MAX_NC_NAME - 1
    · have : (toStr cur).length ≥ H4_MAX_NC_NAME - 1 := by simpa using hlong
      cases cs <;> simp [namesLoopC, namesLoop, hlong]
    · have hl' : ¬ (toStr cur).length ≥ H4_MAX_NC_NAME - 1 := by simpa using hlong
      by_cases e : c = 44
      · subst e
        have he : toChar 44 = ',' := by decide
        cases cs with
        | nil => simp [namesLoopC, namesLoop, hlong, he]
        | cons y ys =>
          have := ih [] hcs
          simp only [toStr_cons, toStr_nil] at this
          simp only [namesLoopC, hlong, toStr_cons, namesLoop, hl', he, ← this, Option.map_map, c18logic]
          congr 1
      · have he := mt (toChar_comma hc).mp e
        cases cs with
        | nil => simp [namesLoopC, namesLoop, hlong, e, he]
        | cons y ys =>
          have := ih (cur ++ [c]) hcs
          simp only [toStr_cons, toStr_append, toStr_nil] at this
          simp only [namesLoopC, hlong, e, reduceCtorEq, toStr_cons, namesLoop, hl', he, ← this, c18logic]

theorem namesLoopC_names : ∀ (l cur : List Int) (names : List (List Int)), namesLoopC l cur = some names → CStr l → CStr cur →
    ∀ nm ∈ names, nm.length ≤ 255 ∧ CStr nm := by
  intro l
  induction l with
  | nil => intro cur names h _ _ nm hnm; simp [namesLoopC] at h; subst h; simp at hnm
  | cons c cs ih =>
    intro cur names h hl hcur nm hnm
    have hc := hl.cons
    rw [namesLoopC] at h
    split at h
    · simp at h
    · next hlong =>
      have hk : cur.length ≤ 254 := by simp [H4_MAX_NC_NAME] at hlong; omega
      split at h
      · cases hr : namesLoopC cs [] with
        | none => simp [hr] at h
        | some r =>
          rw [hr] at h
          simp only [Option.map_some, Option.some.injEq] at h
          subst h
          rcases List.mem_cons.mp hnm with rfl | hin
          · split
            · exact ⟨by omega, hcur⟩
            · exact ⟨by simp; omega, hcur.snoc hc.1⟩
          · exact ih [] r hr hc.2 CStr.nil nm hin
      · exact ih (cur ++ [c]) names h hc.2 (hcur.snoc hc.1) nm hnm

def cstrAt (blk : List Int) (p : Nat) : List Int := (blk.drop p).takeWhile (· ≠ 0)

theorem putName_prefix (blk : List Int) (n : Nat) (nm : List Int) (m : Nat) (hm : m ≤ n * 256) (hb : n * 256 ≤ blk.length) :
    (putName blk n nm).take m = blk.take m := by
  unfold putName
  rw [List.append_assoc, List.take_append_of_le_length (by simp; omega), List.take_take, Nat.min_eq_left hm]

theorem putName_row (blk : List Int) (n : Nat) (nm : List Int) (hnm : CStr nm) (hb : n * 256 ≤ blk.length) :
    cstrAt (putName blk n nm) (n * 256) = nm := by
  unfold putName cstrAt
  have h1 : (blk.take (n * 256)).length = n * 256 := by simp; omega
  rw [List.append_assoc, List.drop_append_of_le_length (by omega), List.drop_of_length_le (by omega), List.nil_append,
    List.append_assoc]
  exact takeWhile_cstr nm _ hnm

theorem drop_take_congr (a b : List Int) (m p q : Nat) (h : a.take m = b.take m) (hpq : p + q ≤ m) :
    (a.drop p).take q = (b.drop p).take q := by
  have ha : (a.drop p).take q = ((a.take m).drop p).take q := by
    rw [List.drop_take, List.take_take, Nat.min_eq_left (by omega)]
  have hb : (b.drop p).take q = ((b.take m).drop p).take q := by
    rw [List.drop_take, List.take_take, Nat.min_eq_left (by omega)]
  rw [ha, hb, h]

theorem putNames_length : ∀ (names : List (List Int)) (blk : List Int) (n N : Nat), blk.length = N * 256 → n + names.length ≤ N →
    (∀ nm ∈ names, nm.length ≤ 255) → (putNames blk n names).length = N * 256 := by
  intro names
  induction names with
  | nil => intro blk n N h _ _; exact h
  | cons nm r ih =>
    intro blk n N h hn hl
    have h255 := hl nm (by simp)
    simp only [List.length_cons] at hn
    have hlen1 := putName_length (nm := nm) h (by omega : n + 1 ≤ N) h255
    rw [putNames]
    exact ih (putName blk n nm) (n + 1) N hlen1 (by omega) (fun x hx => hl x (by simp [hx]))

theorem putNames_prefix : ∀ (names : List (List Int)) (blk : List Int) (n N m : Nat), blk.length = N * 256 → n + names.length ≤ N →
    (∀ nm ∈ names, nm.length ≤ 255) → m ≤ n * 256 → (putNames blk n names).take m = blk.take m := by
  intro names
  induction names with
  | nil => intro blk n N m _ _ _ _; rfl
  | cons nm r ih =>
    intro blk n N m h hn hl hm
    have h255 := hl nm (by simp)
    simp only [List.length_cons] at hn
    have hlen1 := putName_length (nm := nm) h (by omega : n + 1 ≤ N) h255
    have hm' : m ≤ (n + 1) * 256 := Nat.le_trans hm (Nat.mul_le_mul_right 256 (Nat.le_succ n))
    rw [putNames, ih (putName blk n nm) (n + 1) N m hlen1 (by omega) (fun x hx => hl x (by simp [hx])) hm']
    exact putName_prefix blk n nm m hm (by omega)

theorem putNames_rows : ∀ (names : List (List Int)) (blk : List Int) (n N : Nat), blk.length = N * 256 → n + names.length ≤ N →
    (∀ nm ∈ names, nm.length ≤ 255) →
    ∀ i (h : i < names.length), ((putNames blk n names).drop ((n + i) * 256)).take (names[i].length + 1) = names[i] ++ [0] := by
  intro names
  induction names with
  | nil => intro blk n N _ _ _ i h; simp at h
  | cons nm r ih =>
    intro blk n N hb hn hl i hi
    have h255 := hl nm (by simp)
    simp only [List.length_cons] at hn
    have hlen1 := putName_length (nm := nm) hb (by omega : n + 1 ≤ N) h255
    cases i with
    | zero =>
      simp only [Nat.add_zero, List.getElem_cons_zero]
      rw [putNames]
      have hpre := putNames_prefix r (putName blk n nm) (n + 1) N ((n + 1) * 256) hlen1 (by omega) (fun x hx => hl x (by simp [hx])) (Nat.le_refl _)
      rw [drop_take_congr _ _ ((n + 1) * 256) (n * 256) (nm.length + 1) hpre (by omega)]
      unfold putName
      have h1 : (blk.take (n * 256)).length = n * 256 := by simp; omega
      rw [List.append_assoc, List.drop_append_of_le_length (by omega), List.drop_of_length_le (by omega), List.nil_append,
        List.take_append_of_le_length (by simp), List.take_of_length_le (by simp)]
    | succ i =>
      rw [putNames]
      have := ih (putName blk n nm) (n + 1) N hlen1 (by omega) (fun x hx => hl x (by simp [hx])) i (by simpa using hi)
      simp only [List.getElem_cons_succ]
      rw [show n + (i + 1) = n + 1 + i by omega]
      exact this

theorem cstrAt_of_row (blk : List Int) (p : Nat) (nm : List Int) (hnm : CStr nm) (h : (blk.drop p).take (nm.length + 1) = nm ++ [0]) :
    cstrAt blk p = nm := by
  unfold cstrAt
  have : blk.drop p = (nm ++ [0]) ++ (blk.drop p).drop (nm.length + 1) := by
    rw [← h, List.take_append_drop]
  rw [this, List.append_assoc]
  exact takeWhile_cstr nm _ hnm


theorem badObjList_iff (bs : List Int) (hbs : CStr bs) (e : Nat) (he : e < bs.length) :
    badObjList (toStr bs) e = true ↔ (e = 0 ∨ bs.getD (e - 1) 0 = 44) := by
  unfold badObjList
  simp only [Bool.or_eq_true, decide_eq_true_eq]
  by_cases h0 : e = 0
  · simp [h0]
  · have hlt : e - 1 < bs.length := by omega
    have hg1 : (toStr bs).getD (e - 1) ' ' = toChar (bs.getD (e - 1) 0) := by
      simp [toStr, List.getD_eq_getElem?_getD, List.getElem?_map, List.getElem?_eq_getElem hlt]
    have hc : IsChar (bs.getD (e - 1) 0) := by
      have : bs.getD (e - 1) 0 ∈ bs := by
        simp [List.getD_eq_getElem?_getD, List.getElem?_eq_getElem hlt]
      exact (hbs _ this).1
    rw [hg1, toChar_comma hc]

/-- `*n_objs` is commas + 1: the value after the colon has no comma -/
theorem names_out (bs : List Int) (hbs : CStr bs) (e : Nat) (ns : List (List Int)) (hp : parseNames (toStr bs) = some (e, ns.map toStr))
    (hnl : namesLoopC (bs.take e) [] = some ns) (hv : (toStr (bs.drop (e + 1))).count ',' = 0) :
    (ns.map toStr).length = countCommas (toStr bs) + 1 ∧
    (putNames (List.replicate ((countCommas (toStr bs) + 1) * 256) 170) 0 ns).length = (countCommas (toStr bs) + 1) * 256 ∧
    ∀ i (h : i < (ns.map toStr).length),
      toStr (cstrAt (putNames (List.replicate ((countCommas (toStr bs) + 1) * 256) 170) 0 ns) (i * 256)) = (ns.map toStr)[i] := by
  have hN : ns.length = countCommas (toStr bs) + 1 := by
    simpa using parseNames_count _ _ _ hp (by rw [← toStr_drop]; exact hv)
  rw [show countCommas (toStr bs) = bs.count 44 from count_model bs hbs.chars] at hN ⊢
  have hnames := namesLoopC_names _ _ _ hnl (hbs.take e) CStr.nil
  have hroom : 0 + ns.length ≤ bs.count 44 + 1 := by omega
  have hl255 : ∀ nm ∈ ns, nm.length ≤ 255 := fun nm h => (hnames nm h).1
  refine ⟨by rw [List.length_map, hN], putNames_length ns _ 0 (bs.count 44 + 1) (by simp only [List.length_replicate]) hroom hl255, ?_⟩
  intro i hi
  have hi' : i < ns.length := by simpa using hi
  have hrow := putNames_rows ns (List.replicate ((bs.count 44 + 1) * 256) 170) 0 (bs.count 44 + 1) (by simp only [List.length_replicate]) hroom hl255 i hi'
  rw [Nat.zero_add] at hrow
  rw [cstrAt_of_row _ _ _ (hnames _ (List.getElem_mem hi')).2 hrow]
  simp

end objlist

end H4.C18Fn
