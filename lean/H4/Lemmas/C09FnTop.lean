import H4.Lemmas.C09Fn
/-! Assembly for `H4.Props.C09Fn`: the values the two `switch` statements of `GRIil_convert` store (with their `size_t` / `unsigned`
    reductions) are the model's `baseOf` / `paOf` / `laOf`, and the whole `else` branch is the model's fold of `iBody`. -/
namespace H4.Lemmas.C09Fn
open H4 H4.Interlace H4.Gen.Fn.Mfgr H4.C2L

attribute [local simp] Il.code H4.Gen.Hdf.MFGR_INTERLACE_PIXEL H4.Gen.Hdf.MFGR_INTERLACE_LINE H4.Gen.Hdf.MFGR_INTERLACE_COMPONENT

/-- What the C arithmetic needs from the sizes of one call: `dims[]` are non-negative `int32`, at least one component of at least one byte,
    the image size fits in 31 bits, and the two `(int32)` casts of the pixel increment `pixel_size = comp_size * ncomp` and of the line
    increment `(ncomp - 1) * dims[XDIM] * comp_size` are value preserving (the translator treats a conversion to `int32` as the identity:
    these two hypotheses are exactly what makes that true; for `W, H ≥ 1` they follow from the bound on the image size). -/
structure Fits (W H ncomp csz : Nat) : Prop where
  hW : W < 2147483648
  hH : H < 2147483648
  hnc : 1 ≤ ncomp
  hcs : 1 ≤ csz
  hN : W * H * ncomp * csz < 2147483648
  hpix : csz * ncomp < 2147483648
  hline : (ncomp - 1) * W * csz < 2147483648

instance (W H ncomp csz : Nat) : Decidable (Fits W H ncomp csz) :=
  decidable_of_iff (W < 2147483648 ∧ H < 2147483648 ∧ 1 ≤ ncomp ∧ 1 ≤ csz ∧ W * H * ncomp * csz < 2147483648 ∧ csz * ncomp < 2147483648 ∧
      (ncomp - 1) * W * csz < 2147483648)
    ⟨fun ⟨a, b, c, d, e, f, g⟩ => ⟨a, b, c, d, e, f, g⟩, fun ⟨a, b, c, d, e, f, g⟩ => ⟨a, b, c, d, e, f, g⟩⟩

theorem fits_of_pos {W H ncomp csz : Nat} (hW : 1 ≤ W) (hH : 1 ≤ H) (hnc : 1 ≤ ncomp) (hcs : 1 ≤ csz) (hN : W * H * ncomp * csz < 2147483648) :
    Fits W H ncomp csz := by
  have a1 : W ≤ W * H * ncomp * csz := by
    calc W = W * 1 * 1 * 1 := by simp
      _ ≤ W * H * ncomp * csz := Nat.mul_le_mul (Nat.mul_le_mul (Nat.mul_le_mul_left _ hH) hnc) hcs
  have a2 : H ≤ W * H * ncomp * csz := by
    calc H = 1 * H * 1 * 1 := by simp
      _ ≤ W * H * ncomp * csz := Nat.mul_le_mul (Nat.mul_le_mul (Nat.mul_le_mul_right _ hW) hnc) hcs
  have a3 : csz * ncomp ≤ W * H * ncomp * csz := by
    calc csz * ncomp = 1 * 1 * ncomp * csz := by rw [Nat.mul_one, Nat.one_mul]; exact Nat.mul_comm _ _
      _ ≤ W * H * ncomp * csz := Nat.mul_le_mul_right _ (Nat.mul_le_mul_right _ (Nat.mul_le_mul hW hH))
  have a4 : (ncomp - 1) * W * csz ≤ W * H * ncomp * csz := by
    calc (ncomp - 1) * W * csz = W * 1 * (ncomp - 1) * csz := by rw [Nat.mul_one, Nat.mul_comm W]
      _ ≤ W * H * ncomp * csz := Nat.mul_le_mul_right _ (Nat.mul_le_mul (Nat.mul_le_mul_left _ hH) (by omega))
  exact ⟨by omega, by omega, hnc, hcs, hN, by omega, by omega⟩

theorem dims_x (W H : Nat) : (ints [W, H]).getD 0 0 = (W : Int) := rfl
theorem dims_y (W H : Nat) : (ints [W, H]).getD 1 0 = (H : Int) := rfl

theorem pix_bounds {ncomp csz : Nat} (hn : 1 ≤ ncomp) (hc : 1 ≤ csz) (hpix : csz * ncomp < 2147483648) :
    ncomp < 2147483648 ∧ csz < 2147483648 :=
  ⟨Nat.lt_of_le_of_lt (Nat.le_mul_of_pos_left _ hc) hpix, Nat.lt_of_le_of_lt (Nat.le_mul_of_pos_right _ hn) hpix⟩

def fixOf (a b : Il) (W H ncomp csz : Nat) (nt : Int) (inOff outOff : Nat) : Fix :=
  ⟨inOff, (a.code : Nat), outOff, (b.code : Nat), ncomp, nt, csz, ((csz * ncomp : Nat) : Int), csz, ints [W, H]⟩

section
variable {W H ncomp csz : Nat} (hf : Fits W H ncomp csz) {a b : Il} {nt : Int} {inOff outOff : Nat}
include hf

theorem fits_bounds {n : Nat} (hn : n < ncomp) :
    n * csz < 2147483648 ∧ n * W < 2147483648 ∧ n * W * csz < 2147483648 ∧ n * H < 4611686018427387904 ∧ n * H * W < 2147483648 ∧
      n * H * W * csz < 2147483648 ∧ ncomp < 2147483648 ∧ csz < 2147483648 := by
  obtain ⟨hW, hH, hnc, hcs, hN, hpix, hline⟩ := hf
  have b1 : n * csz ≤ csz * ncomp := by rw [Nat.mul_comm]; exact Nat.mul_le_mul_left _ (by omega)
  have b3 : n * W * csz ≤ (ncomp - 1) * W * csz := Nat.mul_le_mul_right _ (Nat.mul_le_mul_right _ (by omega))
  have b2 : n * W ≤ n * W * csz := Nat.le_mul_of_pos_right _ hcs
  obtain ⟨b7, b8⟩ := pix_bounds hnc hcs hpix
  have b6 : n * H * W * csz ≤ W * H * ncomp * csz := by
    calc n * H * W * csz = W * H * n * csz := by ac_rfl
      _ ≤ W * H * ncomp * csz := Nat.mul_le_mul_right _ (Nat.mul_le_mul_left _ (by omega))
  have b5 : n * H * W ≤ n * H * W * csz := Nat.le_mul_of_pos_right _ hcs
  have b4 : n * H < 2147483648 * 2147483648 := Nat.mul_lt_mul'' (by omega) hH
  exact ⟨by omega, by omega, by omega, by omega, by omega, by omega, by omega, by omega⟩

theorem vBase_eq (off : Nat) (il : Il) {n : Nat} (hn : n < ncomp) :
    vBase (fixOf a b W H ncomp csz nt inOff outOff) (off : Int) il.code n = ((off + baseOf il W H csz n : Nat) : Int) := by
  obtain ⟨c1, c2, c3, c4, c5, c6, c7, c8⟩ := fits_bounds hf hn
  have hW := hf.hW
  have hH := hf.hH
  cases il with
  | pixel =>
    show (off : Int) + (((n : Int) % 18446744073709551616) * (csz : Int)) % 18446744073709551616 = _
    rw [emod64_nat n (by omega), mul_emod64 n csz (by omega)]; simp [baseOf]
  | line =>
    show (off : Int) + ((((n : Int) % 18446744073709551616) * (((ints [W, H]).getD 0 0) % 18446744073709551616)) % 18446744073709551616 * (csz : Int))
      % 18446744073709551616 = _
    rw [dims_x, emod64_nat n (by omega), emod64_nat W (by omega), mul_emod64 n W (by omega), mul_emod64 (n * W) csz (by omega)]; simp [baseOf]
  | component =>
    show (off : Int) + (((((n : Int) % 18446744073709551616) * (((ints [W, H]).getD 1 0) % 18446744073709551616)) % 18446744073709551616 *
      (((ints [W, H]).getD 0 0) % 18446744073709551616)) % 18446744073709551616 * (csz : Int)) % 18446744073709551616 = _
    rw [dims_x, dims_y, emod64_nat n (by omega), emod64_nat H (by omega), mul_emod64 n H (by omega), emod64_nat W (by omega),
      mul_emod64 (n * H) W (by omega), mul_emod64 (n * H * W) csz (by omega)]; simp [baseOf]

omit hf in
theorem vPix_eq (il : Il) : vPix (fixOf a b W H ncomp csz nt inOff outOff) il.code = ((paOf il ncomp csz : Nat) : Int) := by
  cases il <;> simp [vPix, fixOf, paOf]

theorem vLine_eq (il : Il) : vLine (fixOf a b W H ncomp csz nt inOff outOff) il.code = ((laOf il W ncomp csz : Nat) : Int) := by
  have hW := hf.hW
  have hl := hf.hline
  have hnc := hf.hnc
  have hcs := hf.hcs
  cases il with
  | pixel => simp [vLine, laOf]
  | component => simp [vLine, laOf]
  | line =>
    show ((((((ncomp : Int) - 1) % 18446744073709551616) * (((ints [W, H]).getD 0 0) % 18446744073709551616))) % 18446744073709551616 * (csz : Int))
      % 18446744073709551616 = _
    have e1 : (ncomp : Int) - 1 = ((ncomp - 1 : Nat) : Int) := by omega
    have b2 : (ncomp - 1) * W ≤ (ncomp - 1) * W * csz := Nat.le_mul_of_pos_right _ hcs
    have b7 := (pix_bounds hnc hcs hf.hpix).1
    rw [dims_x, e1, emod64_nat (ncomp - 1) (by omega), emod64_nat W (by omega), mul_emod64 (ncomp - 1) W (by omega),
      mul_emod64 ((ncomp - 1) * W) csz (by omega)]; simp [laOf]

end

theorem loopsB_mkS (fuel : Nat) (c : Fix) (icp ocp ipa opa ila ola mem : List Int) (i j k : Int) :
    loopsB fuel (mkS c icp ocp ipa opa ila ola mem i j k) = GRIil_convert.loop6 fuel (mkS c icp ocp ipa opa ila ola mem 0 j k) := rfl

theorem run_ne {W H ncomp csz : Nat} (hf : Fits W H ncomp csz) {a b : Il} (hab : a ≠ b) (nt : Int) (m : List Byte) (inOff outOff fuel : Nat)
    (hp : Placed m inOff outOff (W * H * ncomp * csz)) (hfuel : H + W + ncomp ≤ fuel) :
    let N := W * H * ncomp * csz
    let s := GRIil_convert fuel inOff (bytes m) (a.code : Nat) outOff (b.code : Nat) (ints [W, H]) ncomp nt csz
    s.ub = false ∧ s.oof = false ∧ s.ret = 0 ∧
      s.mem = bytes (splice m outOff N (convert a b W H ncomp csz (slice m inOff N) (slice m outOff N))) := by
  intro N s
  suffices h : ∃ (t : St) (j k : Int), s = finishRet (ofSt (fixOf a b W H ncomp csz nt inOff outOff) m inOff outOff N
      (cst ncomp (paOf a ncomp csz)) (cst ncomp (paOf b ncomp csz)) (cst ncomp (laOf a W ncomp csz)) (cst ncomp (laOf b W ncomp csz)) t H j k) ∧
      t.out = convert a b W H ncomp csz (slice m inOff N) (slice m outOff N) by
    obtain ⟨t, j, k, h, ht⟩ := h
    rw [h, ← ht]
    simp [finishRet, ofSt, mkS]
  show ∃ (t : St) (j k : Int), GRIil_convert fuel inOff (bytes m) (a.code : Nat) outOff (b.code : Nat) (ints [W, H]) ncomp nt csz = _ ∧ _
  obtain ⟨hncomp, hcsz⟩ := pix_bounds hf.hnc hf.hcs hf.hpix
  have hout := hp.hout
  rw [entry, if_neg (code_ne hab), elseB_eq _ _ _ _ _ _ _ _ ncomp csz hncomp hcsz hf.hpix]
  have hc : (⟨inOff, (a.code : Nat), outOff, (b.code : Nat), ncomp, nt, csz, ((csz * ncomp : Nat) : Int), csz, ints [W, H]⟩ : Fix) =
      fixOf a b W H ncomp csz nt inOff outOff := rfl
  rw [hc, swIn_eq a _ ncomp rfl (by simp [fixOf]) rfl fuel (by omega) _ _ _ _ _ _ _ _ _ _ (by simp) (by simp) (by simp),
    swOut_eq b _ ncomp rfl (by simp [fixOf]) rfl fuel (by omega) _ _ _ _ _ _ _ _ _ _ (by simp) (by simp) (by simp), loopsB_mkS]
  have hw : ∀ il : Il, il = a ∨ il = b → il = .line → (decide (a = .line) || decide (b = .line)) = true := by
    intro il h1 h2; rcases h1 with h | h <;> simp [← h, h2]
  obtain ⟨u, h6⟩ := loop6_run (c := fixOf a b W H ncomp csz nt inOff outOff) hp W H ncomp csz
    (paOf a ncomp csz) (paOf b ncomp csz) (laOf a W ncomp csz) (laOf b W ncomp csz) (decide (a = .line) || decide (b = .line)) rfl rfl rfl
    (by
      show (((a.code : Nat) : Int) = 1 ∨ ((b.code : Nat) : Int) = 1) ↔ _
      rw [code_line, code_line]; simp)
    (baseOf a W H csz) (baseOf b W H csz) (slice m outOff (W * H * ncomp * csz)) 0 0 (length_slice hout)
    (fun i' hi' j' hj' k' hk' => ⟨ptr_bound a csz _ (hw a (Or.inl rfl)) hi' hj' hk', ptr_bound b csz _ (hw b (Or.inr rfl)) hi' hj' hk'⟩)
    fuel (by omega)
  refine ⟨_, u.1, u.2, ?_, (convert_ne_eq hab ..).symm⟩
  rw [← h6]
  congr 2
  unfold ofSt
  have e3 : ∀ v : Nat, ((List.range ncomp).map fun _ => (v : Int)) = ints (cst ncomp v) := by intro v; simp [ints]
  congr 1
  · simp only [mkSt, ptrs, List.map_map]
    exact List.map_congr_left fun n hn => vBase_eq hf inOff a (List.mem_range.mp hn)
  · simp only [mkSt, ptrs, List.map_map]
    exact List.map_congr_left fun n hn => vBase_eq hf outOff b (List.mem_range.mp hn)
  · rw [vPix_eq, e3]
  · rw [vPix_eq, e3]
  · rw [vLine_eq hf, e3]
  · rw [vLine_eq hf, e3]
  · exact congrArg bytes ((storeAt_readAt_self m outOff _ hout).symm.trans (splice_eq (length_slice hout)).symm)

theorem memcpyLen_chk (s : GRIil_convert.St) (p : Prop) [Decidable p] : memcpyLen (GRIil_convert.chk s p) = memcpyLen s := rfl

theorem memcpyLen_S1 {W H ncomp csz : Nat} (hf : Fits W H ncomp csz) (inbuf outbuf il nt : Int) (mem : List Int) :
    memcpyLen (S1 inbuf outbuf il il ncomp nt csz mem (ints [W, H])) = ((W * H * ncomp * csz : Nat) : Int) := by
  obtain ⟨hncomp, hcsz⟩ := pix_bounds hf.hnc hf.hcs hf.hpix
  have hW := hf.hW
  have hH := hf.hH
  have hp := hf.hpix
  have hN := hf.hN
  have hWH : W * H < 2147483648 * 2147483648 := Nat.mul_lt_mul'' hW hH
  have e : W * H * (csz * ncomp) = W * H * ncomp * csz := by ac_rfl
  rw [S1_sizes _ _ _ _ _ _ _ hncomp hcsz hp]
  show (((((W : Int) % 18446744073709551616) * ((H : Int) % 18446744073709551616)) % 18446744073709551616) *
      ((csz * ncomp : Nat) : Int)) % 18446744073709551616 = _
  rw [emod64_nat W (by omega), emod64_nat H (by omega), mul_emod64 W H (by omega),
    mul_emod64 (W * H) (csz * ncomp) (by rw [e]; omega), e]

/-- **the `inil == outil` path** (any code, valid or not): one `memcpy` of the whole image; undefined behaviour is exactly the overlap of
    the two placements; the memory afterwards holds the input placement's bytes at the output placement -/
theorem run_same {W H ncomp csz : Nat} (hf : Fits W H ncomp csz) (il nt : Int) (m : List Byte) (inOff outOff fuel : Nat)
    (hin : inOff + W * H * ncomp * csz ≤ m.length) (hout : outOff + W * H * ncomp * csz ≤ m.length) :
    let N := W * H * ncomp * csz
    let s := GRIil_convert fuel inOff (bytes m) il outOff il (ints [W, H]) ncomp nt csz
    s.ub = !decide (outOff + N ≤ inOff ∨ inOff + N ≤ outOff ∨ N = 0) ∧ s.oof = false ∧ s.ret = 0 ∧
      s.mem = bytes (splice m outOff N (slice m inOff N)) := by
  intro N s
  have hs : s = finishRet (memcpyB (S1 inOff outOff il il ncomp nt csz (bytes m) (ints [W, H]))) := by
    show GRIil_convert fuel inOff (bytes m) il outOff il (ints [W, H]) ncomp nt csz = _
    rw [entry, if_pos rfl]
  have hl := memcpyLen_S1 hf inOff outOff il nt (bytes m)
  have hN : ((W * H * ncomp * csz : Nat) : Int) = (N : Int) := rfl
  rw [hN] at hl
  rw [hs]
  have e : memcpyB (S1 inOff outOff il il ncomp nt csz (bytes m) (ints [W, H])) =
      { S1 inOff outOff il il ncomp nt csz (bytes m) (ints [W, H]) with
        ub := memcpyUb false (bytes m).length outOff inOff N, mem := memcpyMem (bytes m) outOff inOff N } := by
    rw [← hl]; rfl
  rw [e, bytes_length]
  refine ⟨memcpyUb_nat false hout hin, rfl, rfl, ?_⟩
  show memcpyMem (bytes m) outOff inOff N = _
  rw [memcpyMem_nat _ (by rw [bytes_length]; exact hin), splice_eq (length_slice hin), bytes_storeAt, slice_eq, bytes_readAt]

theorem finish_fail (fuel : Nat) (c : Fix) (icp ocp ipa opa ila ola mem : List Int) (i j k : Int) :
    let s := finishRet (loopsB fuel (gotoFail (mkS c icp ocp ipa opa ila ola mem i j k)))
    s.ub = false ∧ s.oof = false ∧ s.ret = -1 ∧ s.mem = mem := by
  simp [finishRet, loopsB, gotoFail, mkS]

/-- **`default:` of either `switch`**: two different codes of which one is not an interlace: `FAIL`, the memory is untouched -/
theorem run_bad (inbuf outbuf inil outil nt : Int) (mem dims : List Int) (ncomp csz fuel : Nat) (hne : inil ≠ outil)
    (hbad : ¬ (inil = 0 ∨ inil = 1 ∨ inil = 2) ∨ ¬ (outil = 0 ∨ outil = 1 ∨ outil = 2))
    (hn : ncomp < 2147483648) (hc : csz < 2147483648) (hpix : csz * ncomp < 2147483648) (hd : dims.length = 2) (hfuel : ncomp ≤ fuel) :
    let s := GRIil_convert fuel inbuf mem inil outbuf outil dims ncomp nt csz
    s.ub = false ∧ s.oof = false ∧ s.ret = -1 ∧ s.mem = mem := by
  intro s
  have hs : s = GRIil_convert fuel inbuf mem inil outbuf outil dims ncomp nt csz := rfl
  rw [entry, if_neg hne, elseB_eq _ _ _ _ _ _ _ _ ncomp csz hn hc hpix] at hs
  by_cases hi : inil = 0 ∨ inil = 1 ∨ inil = 2
  · have ho : ¬ (outil = 0 ∨ outil = 1 ∨ outil = 2) := by
      rcases hbad with h | h
      · exact absurd hi h
      · exact h
    obtain ⟨a, ha⟩ : ∃ a : Il, inil = ((a.code : Nat) : Int) := by
      rcases hi with h | h | h
      · exact ⟨.pixel, by rw [h]; rfl⟩
      · exact ⟨.line, by rw [h]; rfl⟩
      · exact ⟨.component, by rw [h]; rfl⟩
    rw [swIn_eq a _ ncomp rfl hd ha fuel hfuel _ _ _ _ _ _ _ _ _ _ (by simp) (by simp) (by simp), swOut_bad _ _ _ _ _ _ _ _ _ _ _ ho] at hs
    rw [hs]
    exact finish_fail fuel _ _ _ _ _ _ _ _ _ _ _
  · rw [swIn_bad _ _ _ _ _ _ _ _ _ _ _ hi, show swOut fuel (gotoFail _) = gotoFail _ from if_pos rfl] at hs
    rw [hs]
    exact finish_fail fuel _ _ _ _ _ _ _ _ _ _ _

end H4.Lemmas.C09Fn
