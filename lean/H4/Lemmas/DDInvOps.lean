import H4.Lemmas.DDFind
/-! # The state invariant `Inv`, and one lemma per descriptor-changing operation: what `HTPcreate` leaves (`Created`), what `HTPupdate`,
`HTPdelete` and `Hsetlength` leave (`Replaced`); each gives the invariant, the slot list, and what holds while caching is on (`Mono`, `Added`) -/
namespace H4.DD
open H4.Gen.Hdf

structure Inv (cfg : Cfg) (s : File) : Prop where
  wf : WF s
  disk : DiskOK s
  maxref : cfg.fixF6 = true → ∀ d ∈ s.live, d.ref ≤ s.maxref

/-- F3 does not bite: caching is on, or the fix is in, or `HTPcreate` finds a free slot without a new block -/
def guardF3 (cfg : Cfg) (s : File) : Bool :=
  s.cache || cfg.fixF3 || (scanFwd pNull s.blocks (s.nullBlk.getD 0) s.nullNext).isSome

/-- F4 does not bite: caching is on (nothing is written before the tag is nulled), or the two calls of `HTPdelete` are in the fixed order -/
def guardF4 (cfg : Cfg) (s : File) : Bool := s.cache || cfg.fixF4

theorem Inv.of_same {cfg : Cfg} {s s' : File} (h : Inv cfg s) (hb : s'.blocks = s.blocks) (hd : s'.disk = s.disk)
    (hc : s'.cache = s.cache) (hfd : s'.fdirty = s.fdirty) (hfe : s.fEnd ≤ s'.fEnd) (ht : s'.tags = s.tags) (hu : s'.ub = s.ub)
    (hm : s.maxref ≤ s'.maxref) : Inv cfg s' :=
  ⟨WF_of_dview h.wf (by rw [hb]) ht hu, DiskOK_fEnd_ge h.disk hb hd hfe hc hfd,
    fun hf d hdl => Nat.le_trans (h.maxref hf d (by rw [live_eq] at hdl ⊢; rwa [show s'.slots = s.slots from congrArg slotsOf hb] at hdl)) hm⟩

theorem Inv.of_scal {cfg : Cfg} {s s' : File} (h : Inv cfg s) (hS : Scal s s') (hw : WF s') (hm : s.maxref ≤ s'.maxref) : Inv cfg s' :=
  ⟨hw, hS.diskOK h.disk, fun hf d hd => Nat.le_trans (h.maxref hf d (by rw [live_eq] at hd ⊢; rwa [hS.slots] at hd)) hm⟩

theorem allocSlot_cases (cfg : Cfg) (s : File) :
    (Scal s (allocSlot cfg s).2 ∧ (allocSlot cfg s).2.maxref = s.maxref) ∨
    ((scanFwd pNull s.blocks (s.nullBlk.getD 0) s.nullNext).isSome = false ∧ (allocSlot cfg s).2 = htiNewBlock cfg s) := by
  unfold allocSlot
  rw [findNull_eq]
  cases scanFwd pNull s.blocks (s.nullBlk.getD 0) s.nullNext with
  | some p => exact Or.inl ⟨{}, rfl⟩
  | none => exact Or.inr ⟨rfl, rfl⟩

/-- what a successful `HTPcreate tag ref` makes of `s` -/
structure Created (cfg : Cfg) (s : File) (tag ref : Nat) (p : Pos) (s' : File) : Prop where
  inv : Inv cfg s'
  valid : Valid s'.blocks p
  get : getDD s'.blocks p = ⟨tag, ref, -1, -1⟩
  live : s'.live.Perm (⟨tag, ref, -1, -1⟩ :: s.live)
  old : ∀ q, Valid s.blocks q → isLive (getDD s.blocks q) = true →
    Valid s'.blocks q ∧ getDD s'.blocks q = getDD s.blocks q ∧ q ≠ p
  maxref : s.maxref ≤ s'.maxref
  cache : s'.cache = s.cache
  mono : s.cache = true → Mono s s'
  added : s.cache = true → cfg.fixF3 = true → Added s → AddedAt s' p

theorem htpCreate_inv (cfg : Cfg) {s : File} (h : Inv cfg s) {tag ref : Nat} (ht : 2 ≤ tag ∧ tag < 65536)
    (hr : 1 ≤ ref ∧ ref < 65536) (hfresh : ∀ d ∈ s.live, keyOf d ≠ (baseTag tag, ref)) (hg : guardF3 cfg s = true) :
    ∃ p s', htpCreate cfg s tag ref = (some p, s') ∧ Created cfg s tag ref p s' := by
  obtain ⟨tags', s', hc, hs', hwf, hv, hget, hperm, hold⟩ := htpCreate_spec cfg h.wf ht hr hfresh
  obtain ⟨av, adead, _⟩ := allocSlot_spec cfg h.wf
  have ha : DiskOK (allocSlot cfg s).2 ∧ (allocSlot cfg s).2.maxref = s.maxref ∧ (allocSlot cfg s).2.cache = s.cache ∧
      (s.cache = true → Mono s (allocSlot cfg s).2 ∧ (cfg.fixF3 = true → Added s → Added (allocSlot cfg s).2)) := by
    rcases allocSlot_cases cfg s with ⟨hs, hm⟩ | ⟨hn, e⟩
    · exact ⟨hs.diskOK h.disk, hm, hs.cache, fun _ => ⟨hs.mono, fun _ => hs.added⟩⟩
    · rw [e]
      have hg' : s.cache = true ∨ cfg.fixF3 = true := by
        unfold guardF3 at hg; rw [hn] at hg; simpa using hg
      exact ⟨newBlock_DiskOK cfg h.disk h.wf hg', rfl, rfl,
        fun hc => ⟨newBlock_mono cfg hc, fun hf hA => added_newBlock hf h.wf h.disk hA hc⟩⟩
  generalize allocSlot cfg s = a at *
  obtain ⟨adisk, amax, acache, amono⟩ := ha
  have hfd := fillSlot_DiskOK adisk av ⟨tag, ref, -1, -1⟩
  have hmx : (fillSlot a.2 a.1 ⟨tag, ref, -1, -1⟩).maxref = s.maxref := by rw [fillSlot_eq av]; exact amax
  have hca : (fillSlot a.2 a.1 ⟨tag, ref, -1, -1⟩).cache = s.cache := by rw [fillSlot_eq av]; exact acache
  have hfm : s.cache = true → Mono a.2 (fillSlot a.2 a.1 ⟨tag, ref, -1, -1⟩) := fun hc => fillSlot_mono (acache.trans hc) av _
  have hfa : s.cache = true → Added a.2 → AddedAt (fillSlot a.2 a.1 ⟨tag, ref, -1, -1⟩) a.1 :=
    fun hc hA => added_fillSlot ⟨hA, diskSlotDead_of_mem hA av adead⟩ (acache.trans hc) av _
  generalize fillSlot a.2 a.1 ⟨tag, ref, -1, -1⟩ = F at *
  have hS : Scal F s' := by rw [hs', raiseMaxref_eq]; exact {}
  have hmax : s.maxref ≤ s'.maxref ∧ (cfg.fixF6 = true → ref ≤ s'.maxref) := by
    rw [hs', raiseMaxref_eq]; show _ ≤ (if cfg.fixF6 = true ∧ ref > F.maxref then ref else F.maxref) ∧ _
    rw [hmx]; split
    · exact ⟨by omega, fun _ => Nat.le_refl _⟩
    · rename_i hcnd
      refine ⟨Nat.le_refl _, fun hf => ?_⟩
      by_cases hlt : ref > s.maxref
      · exact absurd ⟨hf, hlt⟩ hcnd
      · show ref ≤ s.maxref; omega
  refine ⟨_, s', hc, ⟨hwf, hS.diskOK hfd, ?_⟩, hv, hget, hperm, hold, hmax.1, hS.cache.trans hca,
    fun hc => ((amono hc).1.trans (hfm hc)).trans hS.mono, fun hc hf hA => ?_⟩
  · intro hf d hd
    rcases List.mem_cons.mp ((hperm.mem_iff).mp hd) with rfl | hd0
    · exact hmax.2 hf
    · exact Nat.le_trans (h.maxref hf d hd0) hmax.1
  · exact hS.addedAt (hfa hc ((amono hc).2 hf hA))

theorem live_refs_of_split {l l' pre post : List DD} {old new : DD} (h1 : l = pre ++ old :: post)
    (h2 : l' = pre ++ new :: post) (hr : isLive new = true → isLive old = true ∧ new.ref = old.ref) :
    ∀ d ∈ liveOf l', ∃ d0 ∈ liveOf l, d.ref = d0.ref := by
  intro d hd
  rw [h2] at hd; rw [h1]
  obtain ⟨hm, hl⟩ := mem_liveOf.mp hd
  rcases List.mem_append.mp hm with hm | hm
  · exact ⟨d, mem_liveOf.mpr ⟨List.mem_append.mpr (Or.inl hm), hl⟩, rfl⟩
  · rcases List.mem_cons.mp hm with rfl | hm
    · obtain ⟨ho, hrr⟩ := hr hl
      exact ⟨old, mem_liveOf.mpr ⟨by simp, ho⟩, hrr⟩
    · exact ⟨d, mem_liveOf.mpr ⟨by simp [hm], hl⟩, rfl⟩

/-- what replacing the descriptor at `p` by `d'` makes of `s` -/
structure Replaced (cfg : Cfg) (s : File) (p : Pos) (d' : DD) (s' : File) : Prop where
  inv : Inv cfg s'
  slots : ∃ pre post, s.slots = pre ++ getDD s.blocks p :: post ∧ s'.slots = pre ++ d' :: post
  valid : ∀ q, Valid s'.blocks q ↔ Valid s.blocks q
  get : getDD s'.blocks p = d'
  other : ∀ q, q ≠ p → getDD s'.blocks q = getDD s.blocks q
  maxref : s'.maxref = s.maxref
  cache : s'.cache = s.cache
  mono : s.cache = true → Mono s s'
  added : s.cache = true → AddedAt s p → AddedAt s' p

/-- the common end of the three: `fillSlot` at a valid position, with whatever tag tree `T` goes with the new descriptor -/
theorem fillSlot_replaced (cfg : Cfg) {s : File} (h : Inv cfg s) {p : Pos} (hv : Valid s.blocks p) (d' : DD) (T : Tags)
    (hw : WFl (preUpto s.blocks p.blk p.idx ++ d' :: sufFrom s.blocks p.blk (p.idx + 1)) T)
    (hr : isLive d' = true → isLive (getDD s.blocks p) = true ∧ d'.ref = (getDD s.blocks p).ref) :
    Replaced cfg s p d' { fillSlot s p d' with tags := T } := by
  have hsp := File.slots_at hv
  have hsp' := fillSlot_slots hv d'
  have hfd := fillSlot_DiskOK h.disk hv d'
  have hmx : (fillSlot s p d').maxref = s.maxref := by rw [fillSlot_eq hv]
  have hca : (fillSlot s p d').cache = s.cache := by rw [fillSlot_eq hv]
  have hub : (fillSlot s p d').ub = s.ub := by rw [fillSlot_eq hv]
  have hlen := fillSlot_length s p d'
  have hval := fillSlot_valid s p d'
  have hgs := fillSlot_get_same hv d'
  have hgo : ∀ q, q ≠ p → getDD (fillSlot s p d').blocks q = getDD s.blocks q :=
    fun q hq => fillSlot_get_other (fun e => hq e.symm) d'
  have hmo : s.cache = true → Mono s (fillSlot s p d') := fun hc => fillSlot_mono hc hv d'
  have had : s.cache = true → AddedAt s p → AddedAt (fillSlot s p d') p := fun hc hA => added_fillSlot hA hc hv d'
  -- from here on the filled state is a variable: only the tag tree is put on top of it
  generalize fillSlot s p d' = F at *
  refine ⟨⟨⟨by show WFl F.slots T; rw [hsp']; exact hw, hub.trans h.wf.noub, hlen ▸ h.wf.ne,
      fun b hb => (hval _).mpr (h.wf.slotne b (hlen ▸ hb))⟩, DiskOK_frame hfd rfl rfl rfl rfl rfl, ?_⟩,
    ⟨_, _, hsp, hsp'⟩, hval, hgs, hgo, hmx, hca, fun hc => (hmo hc).trans (Mono.of_frame rfl (Nat.le_refl _) rfl),
    fun hc hA => (had hc hA).frame rfl rfl⟩
  intro hf d hd
  obtain ⟨d0, hd0, hrr⟩ := live_refs_of_split hsp hsp' hr d hd
  show d.ref ≤ F.maxref
  rw [hmx, hrr]; exact h.maxref hf d0 hd0

theorem htpUpdate_inv (cfg : Cfg) {s : File} (h : Inv cfg s) {p : Pos} (hv : Valid s.blocks p)
    (hl : isLive (getDD s.blocks p) = true) (off len : Int)
    (hol : okOL (updDD (getDD s.blocks p) off len)) :
    Replaced cfg s p (updDD (getDD s.blocks p) off len) (htpUpdate s p off len) := by
  have e : (fillSlot s p (updDD (getDD s.blocks p) off len)).tags = s.tags := by rw [fillSlot_eq hv]
  exact fillSlot_replaced cfg h hv _ (fillSlot s p (updDD (getDD s.blocks p) off len)).tags
    (by rw [e]; exact WFl_update (File.slots_at hv ▸ h.wf.wfl) hl rfl rfl hol) (fun _ => ⟨hl, rfl⟩)

/-- as it is, `HTPdelete` writes the descriptor before it nulls the tag; while caching is on nothing is written, and the result is the
    one of the fixed order -/
theorem htpDelete_asIs_cached {s : File} (hc : s.cache = true) {p : Pos} (hv : Valid s.blocks p) (tags' : Tags) (dead : DD)
    (ho : dead.off = (getDD s.blocks p).off) (hl : dead.len = (getDD s.blocks p).len) :
    ({ htiUpdateDD s p with tags := tags', blocks := setDD (htiUpdateDD s p).blocks p dead } : File) =
    { fillSlot s p dead with tags := tags' } := by
  rw [fillSlot_eq hv, htiUpdateDD_eq]
  simp only [hc, if_true, Bool.true_or, setDD, List.modify_modify_eq, endAfter, ho, hl]
  rw [show s.disk.modify p.blk (fun db => db) = s.disk from List.modify_id _ _]
  rfl
theorem htpDelete_eq (cfg : Cfg) {s : File} (hg : guardF4 cfg s = true) {p : Pos} (hv : Valid s.blocks p) {tags' : Tags}
    (hun : unregister s.tags (getDD s.blocks p) = some tags') :
    htpDelete cfg s p = (true, { fillSlot { s with nullBlk := none, nullNext := 0 } p { getDD s.blocks p with tag := DFTAG_NULL } with tags := tags' }) := by
  unfold htpDelete
  by_cases hf : cfg.fixF4 = true
  · simp only [hf, if_true, hun]
    rw [fillSlot_eq (s := { s with nullBlk := none, nullNext := 0, tags := tags' }) hv, fillSlot_eq (s := { s with nullBlk := none, nullNext := 0 }) hv]
  · have hc : s.cache = true := by
      unfold guardF4 at hg; rw [Bool.eq_false_iff.mpr hf] at hg; simpa using hg
    have ht : (htiUpdateDD { s with nullBlk := none, nullNext := 0 } p).tags = s.tags := by rw [htiUpdateDD_eq]
    simp only [hf, Bool.false_eq_true, if_false, ht, hun]
    exact congrArg (Prod.mk true) (htpDelete_asIs_cached (s := { s with nullBlk := none, nullNext := 0 }) hc hv tags' _ rfl rfl)

theorem htpDelete_inv (cfg : Cfg) {s : File} (h : Inv cfg s) {p : Pos} (hv : Valid s.blocks p)
    (hl : isLive (getDD s.blocks p) = true) (hg : guardF4 cfg s = true) :
    ∃ s', htpDelete cfg s p = (true, s') ∧ Replaced cfg s p { getDD s.blocks p with tag := DFTAG_NULL } s' := by
  obtain ⟨tags', hun, hw⟩ := WFl_delete (File.slots_at hv ▸ h.wf.wfl) hl
  -- the `ddnull` cursor is reset first; nothing below depends on it
  have h0 : Inv cfg { s with nullBlk := none, nullNext := 0 } :=
    h.of_same rfl rfl rfl rfl (Nat.le_refl _) rfl rfl (Nat.le_refl _)
  have r := fillSlot_replaced cfg h0 (p := p) hv { getDD s.blocks p with tag := DFTAG_NULL } tags' hw (fun hh => by simp [isLive] at hh)
  exact ⟨_, htpDelete_eq cfg hg hv hun, r.inv, r.slots, r.valid, r.get, r.other, r.maxref, r.cache,
    fun hc => (Scal.mono (s' := { s with nullBlk := none, nullNext := 0 }) {}).trans (r.mono hc), r.added⟩

theorem Inv_fEnd_raise {cfg : Cfg} {s : File} (h : Inv cfg s) (n : Nat) (L : List Wr) :
    Inv cfg { s with fEnd := s.fEnd + n, log := L } :=
  h.of_same rfl rfl rfl rfl (Nat.le_add_right _ _) rfl rfl (Nat.le_refl _)

theorem hsetlength_inv (cfg : Cfg) {s : File} (h : Inv cfg s) {p : Pos} (hv : Valid s.blocks p)
    (hl : isLive (getDD s.blocks p) = true) (n : Nat) :
    Replaced cfg s p ⟨(getDD s.blocks p).tag, (getDD s.blocks p).ref, (s.fEnd : Int), (n : Int)⟩ (hsetlength s p n) := by
  have h1 := Inv_fEnd_raise h n (if s.cache = false ∧ 0 < n then Wr.ext (s.fEnd + n - 1) :: s.log else s.log)
  have hupd : updDD (getDD s.blocks p) (s.fEnd : Int) (n : Int) = ⟨(getDD s.blocks p).tag, (getDD s.blocks p).ref, (s.fEnd : Int), (n : Int)⟩ := by
    unfold updDD
    have a : ((n : Int) ≠ -2) := by omega
    have b : ((s.fEnd : Int) ≠ -2) := by omega
    simp [a, b]
  have hol : okOL (updDD (getDD s.blocks p) (s.fEnd : Int) (n : Int)) := by
    rw [hupd]; unfold okOL; simp only
    refine ⟨⟨fun hh => by omega, fun hh => by omega⟩, by omega, by omega⟩
  have r := htpUpdate_inv cfg h1 (p := p) hv hl (s.fEnd : Int) (n : Int) hol
  rw [hupd] at r
  refine ⟨r.inv, r.slots, r.valid, r.get, r.other, r.maxref, r.cache, fun hc => ?_, r.added⟩
  have hlog : (if s.cache = false ∧ 0 < n then Wr.ext (s.fEnd + n - 1) :: s.log else s.log) = s.log := by
    rw [if_neg (by simp [hc])]
  have m1 : Mono s { s with fEnd := s.fEnd + n, log := if s.cache = false ∧ 0 < n then Wr.ext (s.fEnd + n - 1) :: s.log else s.log } :=
    Mono.of_frame rfl (by show s.fEnd ≤ s.fEnd + n; omega) hlog
  exact m1.trans (r.mono hc)

end H4.DD
