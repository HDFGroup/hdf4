import H4.Lemmas.UnpackReaders
/-! The reader `H4.VGroup.vunpackvg` inverted by positions in the record (`vunpackvg_inv`). -/
namespace H4.Lemmas.C08Fn3
open H4 H4.VGroup H4.Gen.Hdf H4.C2L
open H4.Lemmas.C08Fn (bytesI)

theorem toI16_w16 (B : List Int) (p : Nat) : toI16 (be16N B p) = w16 (be16 B p) := by
  have := be16N_lt B p
  rw [be16_eq]
  simp only [toI16, w16]
  split <;> omega

def pairsN (B : List Int) (p m : Nat) : List Pair := (List.range m).map fun t => (be16N B (p + 4 * t), be16N B (p + 4 * t + 2))

theorem pairsN_unzip (B : List Int) (p m : Nat) :
    (pairsN B p m).map (·.1) = valsN B p 4 m ∧ (pairsN B p m).map (·.2) = valsN B (p + 2) 4 m := by
  simp only [pairsN, valsN, List.map_map]
  refine ⟨rfl, List.map_congr_left fun t _ => ?_⟩
  show be16N B (p + 4 * t + 2) = be16N B (p + 2 + 4 * t)
  rw [Nat.add_right_comm]

theorem getPairs_inv (rec : Bytes) (tail : List Int) (n : Nat) :
    ReadsAt rec (getPairs n) (· + 4 * n) (fun p => pairsN (bytesI rec ++ tail) p n) := by
  have h1 : ReadsAt rec (fun b => (getU16 b).bind fun a => (getU16 a.2).bind fun c => some ((a.1, c.1), c.2)) (· + 4)
      (fun p => (be16N (bytesI rec ++ tail) p, be16N (bytesI rec ++ tail) (p + 2))) := by
    intro p x r hp e
    rw [Option.bind_eq_some_iff] at e
    obtain ⟨⟨a, r1⟩, e1, e⟩ := e
    rw [Option.bind_eq_some_iff] at e
    obtain ⟨⟨c, r2⟩, e2, e3⟩ := e
    obtain ⟨a1, rfl, rfl⟩ := (getU16_inv rec tail).run hp e1
    obtain ⟨a2, rfl, rfl⟩ := (getU16_inv rec tail).run a1 e2
    injection e3 with e3; injection e3 with e4 e5
    exact ⟨a2, e4.symm, e5.symm⟩
  have := h1.rep getPairs (fun _ => rfl) (fun n r => by
    rw [getPairs]
    rcases getU16 r with _ | ⟨x, r1⟩
    · rfl
    · show (match getU16 r1 with | none => none | some (y, r2) => match getPairs n r2 with | none => none | some (xs, r3) => some ((x, y) :: xs, r3)) =
        ((getU16 r1).bind _).bind _
      rcases getU16 r1 with _ | ⟨y, r2⟩
      · rfl
      · show (match getPairs n r2 with | none => none | some (xs, r3) => some ((x, y) :: xs, r3)) = (getPairs n r2).bind _
        rcases getPairs n r2 with _ | ⟨xs, r3⟩ <;> rfl) n
  simp only [posN_add] at this
  exact this

theorem getStr_inv (rec : Bytes) (tail : List Int) :
    ReadsAt rec getStr (fun p => p + 2 + be16N (bytesI rec ++ tail) p)
      (fun p => if be16N (bytesI rec ++ tail) p = 0 then none else some (nameAt rec (p + 2) (be16N (bytesI rec ++ tail) p))) := by
  intro p nm r hp h
  show p + 2 + be16N _ p ≤ _ ∧ nm = (if be16N _ p = 0 then none else some (nameAt rec (p + 2) (be16N _ p))) ∧ r = rec.drop (p + 2 + be16N _ p)
  rw [getStr] at h
  cases h1 : getU16 (rec.drop p) with
  | none => rw [h1] at h; exact absurd h (by simp)
  | some a =>
    obtain ⟨x, r1⟩ := a
    rw [h1] at h
    obtain ⟨a1, a2, a3⟩ := (getU16_inv rec tail).run hp h1
    subst a2 a3
    simp only [List.length_drop, List.drop_drop] at h
    by_cases h0 : be16N (bytesI rec ++ tail) p = 0
    · rw [if_pos h0] at h
      injection h with h; injection h with h2 h3
      exact ⟨by omega, by rw [if_pos h0, h2], by rw [← h3, h0]⟩
    · rw [if_neg h0, Option.ite_none_left_eq_some] at h
      obtain ⟨hl, h⟩ := h
      injection h with h; injection h with h2 h3
      exact ⟨by omega, by rw [if_neg h0, ← h2]; rfl, h3.symm⟩

def baseVG (rec : Bytes) (B : List Int) : VG :=
  { members := (valsN B 2 2 (nvN B)).zip (valsN B (2 + 2 * nvN B) 2 (nvN B)),
    name := if lN B = 0 then none else some (nameAt rec (pN B + 2) (lN B)),
    cls := if lC B = 0 then none else some (nameAt rec (pC B + 2) (lC B)),
    extag := be16N B (pE B), exref := be16N B (pE B + 2),
    version := be16N B (rec.length - 5), more := be16N B (rec.length - 3), flags := 0, attrs := [] }

/-- `B` = the record followed by anything.  A disjunction and not a structure like `C07Fn3.Accepted`: each way of accepting fixes `g` as a whole, and the property
    file substitutes it. -/
theorem vunpackvg_inv (rec : Bytes) (tail : List Int) (g : VG) (h : VGroup.vunpackvg rec = some g) (B : List Int)
    (hB : bytesI rec ++ tail = B) : 5 ≤ rec.length ∧
    ((¬ toI16 (be16N B (rec.length - 5)) ≤ 4 ∧ g = { version := be16N B (rec.length - 5), more := be16N B (rec.length - 3) }) ∨
     (toI16 (be16N B (rec.length - 5)) ≤ 4 ∧ pE B + 4 ≤ rec.length ∧
       ((toI16 (be16N B (rec.length - 5)) ≠ VSET_NEW_VERSION ∧ g = baseVG rec B) ∨
        (toI16 (be16N B (rec.length - 5)) = VSET_NEW_VERSION ∧ pE B + 8 ≤ rec.length ∧
          ((¬ be32N B (pE B + 4) &&& VG_ATTR_SET ≠ 0 ∧ g = { baseVG rec B with flags := be32N B (pE B + 4) }) ∨
           (be32N B (pE B + 4) &&& VG_ATTR_SET ≠ 0 ∧ be32N B (pE B + 8) < 2147483648 ∧
             pE B + 12 + 4 * be32N B (pE B + 8) ≤ rec.length ∧
             g = { baseVG rec B with flags := be32N B (pE B + 4), attrs := pairsN B (pE B + 12) (be32N B (pE B + 8)) })))))) := by
  rw [VGroup.vunpackvg, Option.ite_none_left_eq_some] at h
  obtain ⟨hL, h⟩ := h
  refine ⟨by omega, ?_⟩
  cases h1 : getU16 (rec.drop (rec.length - 5)) with
  | none => rw [h1] at h; exact absurd h (by simp)
  | some a =>
  obtain ⟨vb, r1⟩ := a
  rw [h1] at h
  obtain ⟨a1, a2, a3⟩ := (getU16_inv rec tail).run (Nat.sub_le _ _) h1
  subst a3
  cases h2 : getU16 (rec.drop (rec.length - 5 + 2)) with
  | none => simp only [h2] at h; exact absurd h (by simp)
  | some a =>
  obtain ⟨mb, r2⟩ := a
  simp only [h2] at h
  obtain ⟨b1, b2, _⟩ := (getU16_inv rec tail).run a1 h2
  rw [hB] at a2 b2
  have e3 : rec.length - 5 + 2 = rec.length - 3 := by omega
  rw [e3] at b2
  subst a2 b2
  by_cases hv : ¬ toI16 (be16N B (rec.length - 5)) ≤ 4
  · rw [if_neg hv] at h
    exact Or.inl ⟨hv, (Option.some.inj h).symm⟩
  replace hv := Decidable.not_not.mp hv
  rw [if_pos hv] at h
  refine Or.inr ⟨hv, ?_⟩
  have hpos : pN B = 2 + 4 * nvN B ∧ pC B = pN B + 2 + lN B ∧ pE B = pC B + 2 + lC B := ⟨rfl, rfl, rfl⟩
  cases h3 : getU16 rec with
  | none => simp only [h3] at h; exact absurd h (by simp)
  | some a =>
  obtain ⟨n, r3⟩ := a
  simp only [h3] at h
  obtain ⟨c1, c2, c3⟩ := (getU16_inv rec tail).run (Nat.zero_le _) h3
  rw [hB] at c2
  have c2' : n = nvN B := c2
  subst c3 c2'
  cases h4 : getU16s (nvN B) (rec.drop (0 + 2)) with
  | none => simp only [h4] at h; exact absurd h (by simp)
  | some a =>
  obtain ⟨tags, r4⟩ := a
  simp only [h4] at h
  obtain ⟨d1, d2, d3⟩ := (getU16s_inv rec tail _).run c1 h4
  subst d3
  cases h5 : getU16s (nvN B) (rec.drop (0 + 2 + 2 * nvN B)) with
  | none => simp only [h5] at h; exact absurd h (by simp)
  | some a =>
  obtain ⟨refs, r5⟩ := a
  simp only [h5] at h
  obtain ⟨e1, e2, e3'⟩ := (getU16s_inv rec tail _).run d1 h5
  subst e3'
  have ep : 0 + 2 + 2 * nvN B + 2 * nvN B = pN B := by omega
  rw [ep] at h e1
  cases h6 : getStr (rec.drop (pN B)) with
  | none => simp only [h6] at h; exact absurd h (by simp)
  | some a =>
  obtain ⟨name, r6⟩ := a
  simp only [h6] at h
  obtain ⟨f1, f2, f3⟩ := (getStr_inv rec tail).run e1 h6
  rw [hB] at f1 f2 f3
  subst f3
  have f1' : pC B ≤ rec.length := f1
  cases h7 : getStr (rec.drop (pC B)) with
  | none => erw [h7] at h; exact absurd h (by simp)
  | some a =>
  obtain ⟨cls, r7⟩ := a
  erw [h7] at h
  simp only at h
  obtain ⟨g1, g2, g3⟩ := (getStr_inv rec tail).run f1' h7
  rw [hB] at g1 g2 g3
  subst g3
  have g1' : pE B ≤ rec.length := g1
  cases h8 : getU16 (rec.drop (pE B)) with
  | none => erw [h8] at h; exact absurd h (by simp)
  | some a =>
  obtain ⟨et, r8⟩ := a
  erw [h8] at h
  simp only at h
  obtain ⟨i1, i2, i3⟩ := (getU16_inv rec tail).run g1' h8
  subst i3
  cases h9 : getU16 (rec.drop (pE B + 2)) with
  | none => simp only [h9] at h; exact absurd h (by simp)
  | some a =>
  obtain ⟨er, r9⟩ := a
  simp only [h9] at h
  obtain ⟨j1, j2, j3⟩ := (getU16_inv rec tail).run i1 h9
  subst j3
  rw [hB] at d2 e2 i2 j2
  refine ⟨by omega, ?_⟩
  have hbase : ∀ fl al, (⟨tags.zip refs, name, cls, et, er, be16N B (rec.length - 5), be16N B (rec.length - 3), fl, al⟩ : VG) =
      { baseVG rec B with flags := fl, attrs := al } := by
    intro fl al
    rw [d2, e2, f2, g2, i2, j2]; rfl
  have e4 : pE B + 2 + 2 = pE B + 4 := by omega
  rw [e4] at h
  by_cases hv4 : ¬ toI16 (be16N B (rec.length - 5)) = VSET_NEW_VERSION
  · rw [if_neg hv4] at h
    exact Or.inl ⟨hv4, (Option.some.inj h).symm.trans (hbase 0 [])⟩
  replace hv4 := Decidable.not_not.mp hv4
  rw [if_pos hv4] at h
  cases h10 : getU32 (rec.drop (pE B + 4)) with
  | none => simp only [h10] at h; exact absurd h (by simp)
  | some a =>
  obtain ⟨fl, r10⟩ := a
  simp only [h10] at h
  obtain ⟨k1, k2, k3⟩ := (getU32_inv rec tail).run (by omega) h10
  rw [hB] at k2
  subst k2 k3
  refine Or.inr ⟨hv4, by omega, ?_⟩
  by_cases hat : ¬ be32N B (pE B + 4) &&& VG_ATTR_SET ≠ 0
  · rw [if_neg hat] at h
    exact Or.inl ⟨hat, (Option.some.inj h).symm.trans (hbase _ [])⟩
  replace hat := Decidable.not_not.mp hat
  rw [if_pos hat] at h
  cases h11 : getU32 (rec.drop (pE B + 4 + 4)) with
  | none => simp only [h11] at h; exact absurd h (by simp)
  | some a =>
  obtain ⟨na, r11⟩ := a
  simp only [h11] at h
  obtain ⟨l1, l2, l3⟩ := (getU32_inv rec tail).run k1 h11
  have e8 : pE B + 4 + 4 = pE B + 8 := by omega
  have e12 : pE B + 8 + 4 = pE B + 12 := by omega
  rw [hB, e8] at l2
  rw [e8, e12] at l3 l1
  subst l2 l3
  rw [Option.ite_none_left_eq_some] at h
  obtain ⟨hna, h⟩ := h
  cases h12 : getPairs (be32N B (pE B + 8)) (rec.drop (pE B + 12)) with
  | none => simp only [h12] at h; exact absurd h (by simp)
  | some a =>
  obtain ⟨al, r12⟩ := a
  simp only [h12] at h
  obtain ⟨m1, m2, _⟩ := (getPairs_inv rec tail _).run l1 h12
  rw [hB] at m2
  exact Or.inr ⟨hat, by omega, m1, (Option.some.inj h).symm.trans ((hbase _ al).trans (by rw [m2]))⟩

end H4.Lemmas.C08Fn3
