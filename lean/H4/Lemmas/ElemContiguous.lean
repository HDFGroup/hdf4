import H4.Lemmas.ElemFrame
/-! Contiguous elements: `Hwrite` in place and at the end of the file, `Hread`, `Htrunc`, `Hsetlength`. -/
namespace H4.Elem
open H4.Gen.Hdf

theorem plain_write_bytes (f f' : File) (o l l' p : Nat) (bs : Bytes) (hl' : l' = max l (p + bs.length))
    (htail : ∀ i, l ≤ i → i < l' → rd f.disk (o + i) = 0)
    (hd' : ∀ x, rd f'.disk x = if o + p ≤ x ∧ x < o + p + bs.length then bs.getD (x - (o + p)) 0 else rd f.disk x) :
    f'.bytesAt o l' = specWrite (f.bytesAt o l) p bs := by
  subst hl'
  unfold File.bytesAt
  apply specWrite_range (fun i => rd f.disk (o + i)) _ l p bs (fun i h1 h2 => htail i h1 (by omega))
  intro i
  rw [hd']
  by_cases c : p ≤ i ∧ i < p + bs.length
  · rw [if_pos (by omega), if_pos c]; congr 1; omega
  · rw [if_neg (by omega), if_neg c]

theorem plain_read_bytes (f : File) (o l p n : Nat) (bs : Bytes) (hpn : p + n ≤ l)
    (h : f.hpRead (o + p) n = some bs) : bs = specRead (f.bytesAt o l) p n := by
  rw [hpRead_eq _ _ _ _ h]
  unfold File.bytesAt
  rw [specRead_range _ _ _ _ (Or.inr hpn)]
  simp only [Nat.add_assoc]

/-- the file after a plain `Hwrite`; `grow`: appendable element at the end of the file -/
def plainWriteF (f : File) (s o l p : Nat) (bs : Bytes) (grow : Bool) : File :=
  let f := if grow = true ∧ p > l then f.pwrite (o + l) (zeros (p - l)) else f
  let f := if grow then f.ddSetExt s (o, p + bs.length) else f
  let f := f.pwrite (o + p) bs
  { f with endOff := max f.endOff (o + p + bs.length) }

structure PlainWritten (f : File) (s o l p : Nat) (bs : Bytes) (f' : File) : Prop where
  wfe : WFE f'
  dd_s : f'.dd s = { f.dd s with ext := some (o, max l (p + bs.length)) }
  bytes : f'.slotBytes s = some (specWrite (f.bytesAt o l) p bs)
  others : ∀ s', f.live s' → s' ≠ s → f'.dd s' = f.dd s' ∧ f'.slotBytes s' = f.slotBytes s'
  new_live : ∀ j, f'.live j → f.live j
  links : f'.links = f.links
  present : f'.present = f.present

theorem plainWrite_core (f f1 : File) (hw : WFE f) (s o l p : Nat) (bs : Bytes)
    (hl : f.live s) (hsp : isSpecial (f.dd s).tag = false) (hut : baseTag (f.dd s).tag ≠ DFTAG_LINKED)
    (hext : (f.dd s).ext = some (o, l))
    (hcase : p + bs.length ≤ l ∨ (p + bs.length > l ∧ o + l = f.endOff))
    (hdd1 : ∀ j, f1.dd j = if j = s then { f.dd s with ext := some (o, max l (p + bs.length)) } else f.dd j)
    (hend1 : f1.endOff = max f.endOff (o + max l (p + bs.length)) ∧ (∀ x, rd f1.disk x = rd f.disk x) ∧ f1.links = f.links ∧ f1.ndds = f.ndds)
    (hpres1 : f1.present = f.present) :
    PlainWritten f s o l p bs (f1.pwrite (o + p) bs) := by
  have hle := hw.ext_le s o l hl hext
  have hfit' : o + p + bs.length ≤ f1.endOff := by rw [hend1.1]; omega
  have hrd : ∀ x, rd (f1.pwrite (o + p) bs).disk x = if o + p ≤ x ∧ x < o + p + bs.length then bs.getD (x - (o + p)) 0 else rd f.disk x := by
    intro x; rw [pwrite_rd, hend1.2.1 x]
  obtain ⟨hw', hlive⟩ := hw.toWFF.setExt (f' := f1.pwrite (o + p) bs) s o (max l (p + bs.length)) hdd1 hend1.2.2.2
    (by rw [show (f1.pwrite (o + p) bs).endOff = f1.endOff from rfl, hend1.1]; omega)
    (by rw [show (f1.pwrite (o + p) bs).endOff = f1.endOff from rfl, hend1.1]; omega)
    (by
      intro k hk
      have hk' : f1.endOff ≤ k := hk
      rw [hrd, if_neg (by omega)]
      exact hw.tail0 k (by rw [hend1.1] at hk'; omega))
    (by
      -- in place, or at the end of the file where nothing else lies
      intro j oj lj hne hj he x
      have h1 := hw.disj s j o l oj lj (fun e => hne e.symm) hl hj hext he x
      have h2 := hw.ext_le j oj lj hj he
      rcases hcase with hfit | ⟨_, heof⟩
      · rw [show max l (p + bs.length) = l by omega]; omega
      · omega)
  have hs' : (f1.pwrite (o + p) bs).dd s = { f.dd s with ext := some (o, max l (p + bs.length)) } := by
    rw [pwrite_dd, hdd1]; simp
  have hstep := hw.plain_step hw' s
    (by intro j _ hne; rw [pwrite_dd, hdd1]; simp [hne])
    (by rw [hs']; exact ⟨hsp, hut⟩)
    (fun _ => ⟨hsp, hut⟩)
    (by intro j hj hnl; exact absurd ((hlive j).mp hj) hnl)
    (by show f1.links = f.links; exact hend1.2.2.1)
    (by
      intro x hx hn
      rw [hrd]
      have hn' := hn o l hl hext
      have : ¬ (o + p ≤ x ∧ x < o + p + bs.length) := by
        rcases hcase with hfit | ⟨_, heof⟩ <;> omega
      rw [if_neg this])
  refine ⟨hstep.1, hs', ?_, ?_, fun j hj => (hlive j).mp hj, hend1.2.2.1, hpres1⟩
  · rw [slotBytes_plain _ _ (by rw [hs']; exact hsp), hs']
    simp only [Option.map_some]
    congr 1
    apply plain_write_bytes f _ o l _ p bs rfl _ hrd
    intro i hi1 hi2
    rcases hcase with hfit | ⟨_, heof⟩
    · omega
    · exact hw.tail0 _ (by omega)
  · intro s' hs'l hne
    exact ⟨by rw [pwrite_dd, hdd1]; simp [hne], hstep.2 s' hs'l hne⟩

theorem plainWrite_spec (f : File) (hw : WFE f) (s o l p : Nat) (bs : Bytes) (grow : Bool)
    (hl : f.live s) (hsp : isSpecial (f.dd s).tag = false) (hut : baseTag (f.dd s).tag ≠ DFTAG_LINKED)
    (hext : (f.dd s).ext = some (o, l))
    (hcase : (grow = false ∧ p + bs.length ≤ l) ∨ (grow = true ∧ p + bs.length > l ∧ o + l = f.endOff)) :
    PlainWritten f s o l p bs (plainWriteF f s o l p bs grow) := by
  have hs_lt := live_lt f s hl
  have hle := hw.ext_le s o l hl hext
  rcases hcase with ⟨hg, hfit⟩ | ⟨hg, hgt, heof⟩
  · subst hg
    have hm : max l (p + bs.length) = l := by omega
    have := plainWrite_core f f hw s o l p bs hl hsp hut hext (Or.inl hfit)
      (by intro j; by_cases e : j = s
          · subst e; simp only [if_true]; rw [hm, ← hext]
          · simp [e])
      ⟨by rw [hm]; omega, fun _ => rfl, rfl, rfl⟩ rfl
    unfold plainWriteF
    simp only [Bool.false_eq_true, false_and, if_false]
    rw [endOff_max_noop _ _ (by show o + p + bs.length ≤ f.endOff; omega)]
    exact this
  · subst hg
    have hm : max l (p + bs.length) = p + bs.length := by omega
    -- the gap fill: zeros written where (by `tail0`) zeros are; `growth_gap_zero` says they are zeros whatever was there
    have hg0 : ∀ g : File, g = (if p > l then f.pwrite (o + l) (zeros (p - l)) else f) →
        (∀ x, rd g.disk x = rd f.disk x) ∧ (∀ j, g.dd j = f.dd j) ∧ g.endOff = f.endOff ∧ g.links = f.links ∧
        g.ndds = f.ndds ∧ g.present = f.present ∧ g.mem.length = f.mem.length := by
      intro g hg
      by_cases c : p > l
      · rw [if_pos c] at hg
        subst hg
        refine ⟨?_, fun _ => rfl, rfl, rfl, rfl, rfl, rfl⟩
        intro x
        exact pwrite_zeros_rd f (o + l) (p - l) (fun y hy _ => hw.tail0 y (by omega)) x
      · rw [if_neg c] at hg
        subst hg
        exact ⟨fun _ => rfl, fun _ => rfl, rfl, rfl, rfl, rfl, rfl⟩
    unfold plainWriteF
    simp only [if_true, true_and]
    generalize hgd : (if p > l then f.pwrite (o + l) (zeros (p - l)) else f) = g
    obtain ⟨g1, g2, g3, g4, g5, g6, g7⟩ := hg0 g hgd.symm
    have hs_lt' : s < g.mem.length := by rw [g7]; exact hs_lt
    have := plainWrite_core f (g.ddSetExt s (o, p + bs.length)) hw s o l p bs hl hsp hut hext (Or.inr ⟨hgt, heof⟩)
      (by intro j; rw [ddSetExt_dd g s j _ hs_lt', hm, g2 s, g2 j])
      ⟨by rw [ddSetExt_endOff g s _ hs_lt', hm, g3], fun x => by rw [ddSetExt_disk]; exact g1 x,
       by rw [ddSetExt_links]; exact g4, by rw [ddSetExt_ndds]; exact g5⟩
      (by
        have : (g.ddSetExt s (o, p + bs.length)).present = g.present := by
          unfold File.ddSetExt File.updateDD; simp only [File.dd]; split <;> split <;> rfl
        rw [this]; exact g6)
    rw [endOff_max_noop _ _ (by show o + p + bs.length ≤ (g.ddSetExt s (o, p + bs.length)).endOff; rw [ddSetExt_endOff g s _ hs_lt', g3]; simp; omega)]
    exact this

/-- the gap fill of 998a325, whatever the file held there -/
theorem growth_gap_zero (f : File) (o l p : Nat) (x : Nat) (h1 : o + l ≤ x) (h2 : x < o + p) :
    rd (f.pwrite (o + l) (zeros (p - l))).disk x = 0 := by
  rw [pwrite_rd, zeros_length, if_pos ⟨h1, by omega⟩]
  unfold zeros
  simp only [List.getD_eq_getElem?_getD, List.getElem?_replicate]
  split <;> rfl

theorem bytesAt_take (f : File) (o l n : Nat) (h : n ≤ l) : (f.bytesAt o l).take n = f.bytesAt o n := by
  unfold File.bytesAt
  rw [← List.map_take, List.take_range]
  congr 2
  omega

theorem trunc_spec (f : File) (hw : WFE f) (s o l n : Nat) (hl : f.live s) (hsp : isSpecial (f.dd s).tag = false)
    (hut : baseTag (f.dd s).tag ≠ DFTAG_LINKED) (hext : (f.dd s).ext = some (o, l)) (hn : n < l) :
    let f' := f.ddSetExt s (o, n)
    ElemSet f none (f.keyOf s) (some ((f.bytesAt o l).take n)) f' s := by
  intro f'
  have hs_lt := live_lt f s hl
  have hle := hw.ext_le s o l hl hext
  have hdd : ∀ j, f'.dd j = if j = s then { f.dd s with ext := some (o, n) } else f.dd j := fun j => ddSetExt_dd f s j _ hs_lt
  have hend : f'.endOff = f.endOff := by
    show (f.ddSetExt s (o, n)).endOff = _; rw [ddSetExt_endOff f s _ hs_lt]; simp; omega
  have hdisk : f'.disk = f.disk := ddSetExt_disk f s _
  obtain ⟨hw', hlive⟩ := hw.toWFF.setExt s o n hdd (ddSetExt_ndds f s _) (by rw [hend]; exact Nat.le_refl _) (by rw [hend]; omega)
    (by intro k hk; rw [hdisk]; rw [hend] at hk; exact hw.tail0 k hk)
    (by
      intro j oj lj hne hj he x
      have := hw.disj s j o l oj lj (fun e => hne e.symm) hl hj hext he x
      omega)
  have hs' : f'.dd s = { f.dd s with ext := some (o, n) } := by rw [hdd]; simp
  have hstep := hw.plain_step hw' s (by intro j _ hne; rw [hdd]; simp [hne]) (by rw [hs']; exact ⟨hsp, hut⟩) (fun _ => ⟨hsp, hut⟩)
    (by intro j hj hnl; exact absurd ((hlive j).mp hj) hnl) (ddSetExt_links f s _) (by intro x _ _; rw [hdisk])
  refine ElemSet.setExt hstep.1 hl hs' ?_ ?_ (fun j hj => (hlive j).mp hj) (ddSetExt_present f s _)
  · rw [slotBytes_plain _ _ (by rw [hs']; exact hsp), hs']
    simp only [Option.map_some]
    rw [bytesAt_take f o l n (by omega)]
    congr 1
    apply bytesAt_congr
    intro i _; rw [hdisk]
  · intro s' hs'l hne
    exact ⟨by rw [hdd]; simp [hne], hstep.2 s' hs'l hne⟩

theorem PlainWritten.elemSet {f f' : File} {s o l p : Nat} {bs : Bytes} (P : PlainWritten f s o l p bs f') (hl : f.live s) :
    ElemSet f none (f.keyOf s) (some (specWrite (f.bytesAt o l) p bs)) f' s :=
  ElemSet.setExt P.wfe hl P.dd_s P.bytes P.others P.new_live P.present

/-- zeros because the space lies at the end of the file -/
theorem setLength_elemSet (f : File) (hE : WFE f) (s n : Nat) (hl : f.live s) (hsp : isSpecial (f.dd s).tag = false)
    (hbt : baseTag (f.dd s).tag ≠ DFTAG_LINKED) :
    ElemSet f none (f.keyOf s) (some (zeros n)) (f.setLength s n).1 s := by
  have S := setLength_spec f s n (live_lt _ _ hl) hE.tail0
  have W1 := S.wff hE.toWFF
  have hlive1 : ∀ x, (f.setLength s n).1.live x ↔ f.live x := by
    intro x; unfold File.live
    by_cases e : x = s
    · rw [e, S.dd_new]
    · rw [S.dd_keep x e]
  obtain ⟨E1, hfr1⟩ := hE.plain_step W1 s (fun x _ hne => S.dd_keep x hne)
    (by rw [S.dd_new]; exact ⟨hsp, hbt⟩) (fun _ => ⟨hsp, hbt⟩)
    (fun x hx1 hnx => absurd ((hlive1 x).mp hx1) hnx) S.links (fun y _ _ => S.rd_keep y)
  have hd1 : (f.setLength s n).1.dd s = { f.dd s with ext := some (f.endOff, n) } := by rw [S.dd_new, S.off_eq]
  refine ElemSet.setExt E1 hl hd1 ?_ (fun x hx hne => ⟨S.dd_keep x hne, hfr1 x hx hne⟩) (fun x hx => (hlive1 x).mp hx) S.present
  rw [slotBytes_plain _ _ (by rw [hd1]; exact hsp), hd1]
  simp only [Option.map_some]
  congr 1
  unfold File.bytesAt zeros
  apply List.ext_getElem?
  intro i
  simp only [List.getElem?_map, List.getElem?_replicate]
  by_cases hi : i < n
  · simp only [hi, if_true, List.getElem?_range hi, Option.map_some]
    rw [S.rd_keep, hE.tail0 _ (by omega)]
  · simp [hi]

theorem Created.elemSet {f f' : File} {i tag ref : Nat} (C : Created f f' i tag ref) (hE : WFE f) (hu : UserKey (tag, ref))
    (hfresh : ∀ j, ¬ f.hasKey j tag ref) : ElemSet f none (tag, ref) none f' i := by
  have hbase : baseTag tag = tag := userKey_base hu
  have W1 := C.wff hE.toWFF hfresh
  have hnl : ¬ f.live i := fun hl => hl C.was_free
  have hlive1 : ∀ j, f'.live j ↔ (f.live j ∨ j = i) := by
    intro j; unfold File.live
    by_cases e : j = i
    · subst e; rw [C.dd_new]; simp; exact hu.2.2.1
    · rw [C.dd_keep j e]; simp [e]
  have hni : ∀ {x}, f.live x → x ≠ i := fun hx e => hnl (e ▸ hx)
  obtain ⟨E1, hfr1⟩ := hE.plain_step W1 i (fun x _ hne => C.dd_keep x hne)
    (by rw [C.dd_new]; exact ⟨hu.1, by rw [hbase]; exact hu.2.1⟩) (fun hl => absurd hl hnl)
    (fun x hx1 hnx => ((hlive1 x).mp hx1).resolve_left hnx) C.links (fun y _ _ => C.rd_keep y)
  exact ⟨E1, (hlive1 i).mpr (Or.inr rfl), by unfold File.keyOf; rw [C.dd_new]; simp [hbase],
    by rw [slotBytes_plain _ _ (by rw [C.dd_new]; exact hu.1), C.dd_new]; rfl,
    fun x hx _ => SameShape.of_eq (C.dd_keep x (hni hx)), fun x hx _ hne _ => hfr1 x hx hne,
    fun x hx => ((hlive1 x).mp hx).elim (fun h => Or.inl ⟨h, nofun⟩) (fun h => Or.inr (Or.inl h)), C.present⟩


end H4.Elem
