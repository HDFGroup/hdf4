import H4.Lemmas.UnpackMach
/-! The layout of the packed `vgroup` and `vdata` records: the positions of the fields as functions of the buffer.  It is what the two halves of each proof share:
    the translated decoder reaches these positions (`run_*`), the model reader accepts exactly there (`vunpackvg_inv`, `vunpackvs_inv`), and the property joins the two. -/
namespace H4.Lemmas.C08Fn3

/-- `nvelt` -/
def nvN (B : List Int) : Nat := be16N B 0
/-- position of the name's length prefix -/
def pN (B : List Int) : Nat := 2 + 4 * nvN B
def lN (B : List Int) : Nat := be16N B (pN B)
/-- position of the class's length prefix -/
def pC (B : List Int) : Nat := pN B + 2 + lN B
def lC (B : List Int) : Nat := be16N B (pC B)
/-- position of `extag` -/
def pE (B : List Int) : Nat := pC B + 2 + lC B

end H4.Lemmas.C08Fn3

namespace H4.Lemmas.C07Fn3
open H4.Lemmas.C08Fn3 (be16N vals w16)

def namePos (B : List Int) (p0 : Nat) : Nat → Nat
  | 0 => p0
  | j + 1 => namePos B p0 j + 2 + be16N B (namePos B p0 j)

def nameLen (B : List Int) (p0 j : Nat) : Nat := be16N B (namePos B p0 j)

theorem namePos_mono (B : List Int) (p0 : Nat) : ∀ j k, j ≤ k → namePos B p0 j ≤ namePos B p0 k := by
  intro j k h
  induction k with
  | zero => have : j = 0 := by omega
            subst this; exact Nat.le_refl _
  | succ k ih =>
    by_cases hj : j = k + 1
    · subst hj; exact Nat.le_refl _
    · have := ih (by omega)
      simp only [namePos]; omega

/-- `nfields` -/
def nfN (B : List Int) : Nat := be16N B 8
/-- position of the first field name -/
def pNm (B : List Int) : Nat := 10 + 8 * nfN B
def typesAt (B : List Int) : List Int := (vals B 10 2 (nfN B)).map w16
def isizesAt (B : List Int) : List Int := vals B (10 + 2 * nfN B) 2 (nfN B)
def offsAt (B : List Int) : List Int := vals B (10 + 2 * nfN B + 2 * nfN B) 2 (nfN B)
def ordersAt (B : List Int) : List Int := vals B (10 + 2 * nfN B + 2 * nfN B + 2 * nfN B) 2 (nfN B)
/-- position of the `vsname` length prefix -/
def pVn (B : List Int) : Nat := namePos B (pNm B) (nfN B)
def lVn (B : List Int) : Nat := be16N B (pVn B)
/-- position of the `vsclass` length prefix -/
def pVc (B : List Int) : Nat := pVn B + 2 + lVn B
def lVc (B : List Int) : Nat := be16N B (pVc B)
/-- position of `extag` -/
def pEx (B : List Int) : Nat := pVc B + 2 + lVc B

end H4.Lemmas.C07Fn3
