import H4.Lemmas.C18Names
/-! Helper lemmas for `H4.Props.C18Fn`: `parse_comp` of `hrepack_parse.c` as translated (`H4.Gen.Fn.Repack.parse_comp`).
    The cell / character correspondence and the string builtins are in `H4.Lemmas.C18Cells`, the object-list part it shares with `parse_chunk`
    in `H4.Lemmas.C18Names` (`comp_text` is what ties this translation to it); here: the coder scanner (loops 2, 3, 4) and the assembly. -/

namespace H4.C18Fn
open H4.Tools H4.Gen.Tools

section comp
open H4.Gen.Fn.Repack

def compNames : NameVars parse_comp.St where
  get s := { obj_list := s.obj_list, i := s.i, c_ := s.c_, len := s.len, j := s.j, n := s.n, k := s.k, end_obj := s.end_obj, str := s.str, n_objs := s.n_objs, obj := s.obj, obj_list_blk := s.obj_list_blk, ub := s.ub, oof := s.oof, ret := s.ret, retnull := s.retnull, done := s.done, gto := s.gto }
  put a s := { s with obj_list := a.obj_list, i := a.i, c_ := a.c_, len := a.len, j := a.j, n := a.n, k := a.k, end_obj := a.end_obj, str := a.str, n_objs := a.n_objs, obj := a.obj, obj_list_blk := a.obj_list_blk, ub := a.ub, oof := a.oof, ret := a.ret, retnull := a.retnull, done := a.done, gto := a.gto }
  get_put _ _ := rfl
  put_get _ := rfl

theorem comp_scanStep (fuel : Nat) (a : NameSt) (s : parse_comp.St) :
    parse_comp.loop0.body fuel (compNames.put a s) = compNames.put (scanStep a) s := by
  by_cases h58 : a.str.getD a.i.toNat 0 = 58
  · simp only [parse_comp.loop0.body, parse_comp.chk, scanStep, NameSt.chk, compNames, h58, Int.reduceEq, c18logic]; rfl
  · by_cases h44 : a.str.getD a.i.toNat 0 = 44 <;>
      simp only [parse_comp.loop0.body, parse_comp.chk, scanStep, NameSt.chk, compNames, h58, h44, Int.reduceEq, c18logic] <;> rfl

theorem comp_nameStep (fuel : Nat) (a : NameSt) (s : parse_comp.St) (hd : a.done = false) (hg : a.gto = false) :
    parse_comp.loop1.body fuel (compNames.put a s) = compNames.put (nameStep a) s := by
  by_cases hk : a.k ≥ 256 - 1
  · simp only [parse_comp.loop1.body, parse_comp.chk, nameStep, NameSt.chk, compNames, hd, hg, hk, c18logic]
  by_cases hem : a.str.getD (Int.toNat a.j) 0 = 44 ∨ a.j = a.end_obj - 1
  · by_cases h44 : a.str.getD (Int.toNat a.j) 0 = 44
    · simp only [parse_comp.loop1.body, parse_comp.chk, nameStep, rowCopy, NameSt.chk, compNames, hd, hg, hk, h44, c18logic]
    · simp only [parse_comp.loop1.body, parse_comp.chk, nameStep, rowCopy, NameSt.chk, compNames, hd, hg, hk, eq_true (hem.resolve_left h44), h44, c18logic]
  · simp only [parse_comp.loop1.body, parse_comp.chk, nameStep, NameSt.chk, compNames, hd, hg, hk, hem, c18logic]



theorem comp_loop4_is : H4.C2L.IsLoop parse_comp.loop4 (fun s => (s.u < s.len) ∧ ¬(s.done ∨ s.gto)) parse_comp.loop4.body (fun s => s) :=
  .of_eqs (fun _ => rfl) (fun _ _ => rfl)

/-- the parameter digits after the blank: all of them must be digits, at most 4 fit in `stype[5]` -/
theorem comp_loop4 (bs tail : List Int) :
    ∀ (rem pre ds sj : List Int) (s : parse_comp.St) (fuel : Nat), At s.str s.len s.u bs tail pre rem → s.m = ds.length → s.stype = ds ++ sj → ds.length + sj.length = 5 →
    ds.length ≤ 4 → (∀ c ∈ rem, IsChar c ∧ c ≠ 0) → rem.length ≤ fuel → s.done = false → s.gto = false →
    ∃ u c m stype g, parse_comp.loop4 fuel s = { s with u := u, c_ := c, m := m, stype := stype, gto := g } ∧
      (if (toStr rem).all Char.isDigit = true ∧ ds.length + rem.length ≤ 4 then
         g = false ∧ m = ((ds.length + rem.length : Nat) : Int) ∧ ∃ sj', stype = (ds ++ rem) ++ sj' ∧ (ds ++ rem).length + sj'.length = 5
       else g = true) := by
  intro rem
  induction rem with
  | nil =>
    intro pre ds sj s fuel hat hm hst hsl h4 _ _ hd hg
    have := hat.stop
    refine ⟨s.u, s.c_, s.m, s.stype, s.gto, ?_, ?_⟩
    · rw [comp_loop4_is.exit (by simp [this]) _]
    · simp only [toStr_nil, List.all_nil, List.length_nil, Nat.add_zero, h4, List.append_nil, c18logic]
      exact ⟨hg, hm, sj, hst, hsl⟩
  | cons c cs ih =>
    intro pre ds sj s fuel hat hm hst hsl h4 hrem hf hd hg
    obtain ⟨fuel, rfl⟩ : ∃ f, fuel = f + 1 := ⟨fuel - 1, by simp at hf; omega⟩
    obtain ⟨hlt, h1, hget, hw, -, -, hnext⟩ := hat.cell
    obtain ⟨hstr, hl, hu, -, -⟩ := hat
    simp only [hu, Int.toNat_natCast] at h1 hget hw
    have hc := hrem c (by simp)
    have hmod : -1 ≤ c % 256 ∧ c % 256 ≤ 255 := by omega
    rw [comp_loop4_is.pass ⟨hlt, by simp [hd, hg]⟩]
    by_cases hbad : ¬ (toChar c).isDigit = true ∨ ds.length ≥ 4
    · have hbody : parse_comp.loop4.body (fuel + 1) s = { s with c_ := c, gto := true } := by
        cases s
        simp only at hstr hl hu hm hst hd hg hget h1
        subst hu hm hd hg hst hl
        have hA : ((¬((if 48 ≤ c % 256 ∧ c % 256 ≤ 57 then 1 else 0) ≠ 0)) ∨ ((ds.length : Int) ≥ 5 - 1)) := by
          rw [isdigitC_iff, ← toChar_isDigit]; exact hbad.imp id (by omega)
        simp only [parse_comp.loop4.body, parse_comp.chk, h1, hget, hmod, hA, Int.toNat_natCast, c18logic]
      rw [hbody]
      refine ⟨s.u, c, s.m, s.stype, true, by rw [comp_loop4_is.exit]; simp, ?_⟩
      rw [if_neg]
      rintro ⟨h1, h2⟩
      rcases hbad with h | h
      · simp at h1; exact h h1.1
      · simp at h2; omega
    · have hdig : (toChar c).isDigit = true := by
        by_cases h : (toChar c).isDigit = true
        · exact h
        · exact absurd (Or.inl h) hbad
      have hd3 : ds.length ≤ 3 := by
        by_cases h : ds.length ≥ 4
        · exact absurd (Or.inr h) hbad
        · omega
      obtain ⟨a, b, jr, rfl, hA2, -⟩ := tokbuf ds sj 5 hsl (by omega)
      have hbody : parse_comp.loop4.body (fuel + 1) s = { s with
          c_ := c, stype := (ds ++ [c]) ++ b :: jr, u := ((pre.length + 1 : Nat) : Int), m := (((ds ++ [c]).length : Nat) : Int) } := by
        cases s
        simp only at hstr hl hu hm hst hd hg hget h1
        subst hu hm hd hg hst hl
        have hA : ¬ ((¬((if 48 ≤ c % 256 ∧ c % 256 ≤ 57 then 1 else 0) ≠ 0)) ∨ ((ds.length : Int) ≥ 5 - 1)) := by
          rw [isdigitC_iff, ← toChar_isDigit]; exact fun h => h.elim (fun h => h hdig) (by omega)
        have hset := set_tok (tok := ds) (jr := jr) (a := a) (b := b) c
        simp only [parse_comp.loop4.body, parse_comp.chk, h1, hget, hmod, eq_false hA, hA2, hset, hw, Int.toNat_natCast, c18logic, List.length_append, List.length_singleton, Int.natCast_add, Int.cast_ofNat_Int]
        have h3b : (ds.length : Int) < (ds.length : Int) + ((a :: b :: jr).length : Int) := by simp; omega
        simp only [h3b, c18logic]
      rw [hbody]
      obtain ⟨u', c', m', st', g', hrun, hres⟩ := ih (pre ++ [c]) (ds ++ [c]) (b :: jr) { s with
          c_ := c, stype := (ds ++ [c]) ++ b :: jr, u := ((pre.length + 1 : Nat) : Int), m := (((ds ++ [c]).length : Nat) : Int) }
        fuel hnext rfl rfl (by simp at hsl ⊢; omega) (by simp; omega) (fun x hx => hrem x (by simp [hx])) (by simpa using hf) hd hg
      refine ⟨u', c', m', st', g', by rw [hrun], ?_⟩
      simp only [toStr_cons, List.all_cons, hdig, Bool.true_and, List.length_cons]
      have e1 : (ds ++ [c]).length + cs.length = ds.length + (cs.length + 1) := by simp; omega
      have e2 : (ds ++ [c]) ++ cs = ds ++ c :: cs := by simp
      rw [e1, e2] at hres
      exact hres

theorem comp_loop3_is : H4.C2L.IsLoop parse_comp.loop3 (fun s => (s.u < s.len) ∧ ¬(s.done ∨ s.gto)) parse_comp.loop3.body (fun s => s) :=
  .of_eqs (fun _ => rfl) (fun _ _ => rfl)

/-- `strcmp(smask, "NN")` / `"EC"` on the three cells of `smask` once its NUL is in place: never leaves them -/
theorem strcmp3 (x y a b : Int) (ha : a % 256 ≠ 0) (hb : b % 256 ≠ 0) : ∃ r, strcmpC [x, y, 0] [a, b, 0] = some r := by
  simp only [strcmpC]
  by_cases h1 : x % 256 = a % 256
  · rw [if_neg (by simpa using h1), if_neg (by omega)]
    by_cases h2 : y % 256 = b % 256
    · rw [if_neg (by simpa using h2), if_neg (by omega)]
      exact ⟨0, by simp⟩
    · rw [if_pos (by simpa using h2)]; exact ⟨_, rfl⟩
  · rw [if_pos (by simpa using h1)]; exact ⟨_, rfl⟩

def Digits (ds : List Int) : Prop := ∀ c ∈ ds, 48 ≤ c ∧ c ≤ 57

theorem Digits.tok {ds : List Int} (h : Digits ds) : TokOK ds := by
  intro c hc; have := h c hc; unfold IsChar; refine ⟨by omega, ?_, ?_, ?_, ?_⟩ <;> omega

/-- what the szip scanner keeps true of `m`, `l`, `stype[]`, `smask[]`, `*n_objs`: the indices stay inside the buffers, and `stype` holds
    the digits read so far - followed by a NUL once a comma was seen, so that the later `atoi(stype)` stops before any unwritten cell -/
structure SzOK (m l : Int) (stype smask nobjs : List Int) : Prop where
  stl : stype.length = 5
  sml : smask.length = 3
  m0 : 0 ≤ m
  m4 : m ≤ 4
  nol : 0 < nobjs.length
  tok : (l = -1 ∧ ∃ ds, m = (ds.length : Int) ∧ stype.take ds.length = ds ∧ Digits ds) ∨
        (0 ≤ l ∧ l ≤ 2 ∧ ∃ ds, (ds.length : Int) < m ∧ stype.take (ds.length + 1) = ds ++ [0] ∧ Digits ds)

/-- `stype[m] = '\0'; atoi(stype)` after the scanner -/
theorem SzOK.atoi {m l : Int} {stype smask nobjs : List Int} (h : SzOK m l stype smask nobjs) :
    (0 ≤ m ∧ m < (stype.length : Int)) ∧ ∃ v, atoiC (stype.set m.toNat 0) = some v := by
  have h5 := h.stl
  refine ⟨⟨h.m0, by have := h.m4; omega⟩, ?_⟩
  rcases h.tok with ⟨_, ds, hm, htk, hd⟩ | ⟨_, _, ds, hm, htk, hd⟩
  · have hmn : m.toNat = ds.length := by omega
    have hlt : ds.length < stype.length := by have := h.m4; omega
    have : stype.set m.toNat 0 = ds ++ 0 :: stype.drop (ds.length + 1) := by
      rw [hmn]
      conv => lhs; rw [← List.take_append_drop ds.length stype]
      rw [htk, List.set_append_right _ _ (by simp)]
      have hd1 : stype.drop ds.length = stype[ds.length] :: stype.drop (ds.length + 1) := List.drop_eq_getElem_cons hlt
      rw [hd1, Nat.sub_self, List.set_cons_zero]
    rw [this]
    exact ⟨_, atoiC_spec ds _ hd.tok (by have := h.m4; omega)⟩
  · have hlt : ds.length + 1 ≤ stype.length := by have := h.m4; omega
    have : stype.set m.toNat 0 = ds ++ 0 :: (stype.set m.toNat 0).drop (ds.length + 1) := by
      conv => lhs; rw [← List.take_append_drop (ds.length + 1) (stype.set m.toNat 0)]
      rw [List.take_set_of_le (by omega), htk]
      simp
    rw [this]
    exact ⟨_, atoiC_spec ds _ hd.tok (by have := h.m4; omega)⟩


theorem SzOK.digit_step {m : Int} {stype smask nobjs : List Int} (h : SzOK m (-1) stype smask nobjs) (c : Int) (hc : 48 ≤ c ∧ c ≤ 57) (hm : m < 4) :
    SzOK (m + 1) (-1) (stype.set m.toNat c) smask nobjs := by
  rcases h.tok with ⟨_, ds, hmd, htk, hd⟩ | ⟨h0, _⟩
  · refine ⟨by rw [List.length_set]; exact h.stl, h.sml, by have := h.m0; omega, by omega, h.nol, Or.inl ⟨rfl, ds ++ [c], by simp; omega, ?_, ?_⟩⟩
    · have hmn : m.toNat = ds.length := by omega
      have hlt : ds.length < stype.length := by have := h.stl; omega
      rw [hmn, List.length_append, List.length_singleton, H4.C2L.take_set_succ _ _ _ hlt, htk]
    · intro x hx; rcases List.mem_append.mp hx with h' | h'
      · exact hd x h'
      · simp at h'; subst h'; exact hc
  · omega

/-- a comma seen: `stype` is closed at `m`.  The new values of `m`, `l`, `smask`, `*n_objs` are bound by equations and bounds of their own, so that
    the lemma applies to the state a pass of the body leaves, whatever expressions stand in those fields there (the same in `SzOK.mask`) -/
theorem SzOK.comma {m l : Int} {stype smask nobjs : List Int} (h : SzOK m l stype smask nobjs) :
    ∀ m', m' = m + 1 → m < 4 → ∀ l', 0 ≤ l' → l' ≤ 2 → ∀ smask', smask'.length = 3 → ∀ nobjs', 0 < nobjs'.length →
    SzOK m' l' (stype.set m.toNat 0) smask' nobjs' := by
  intro m' hm' hm4 l' hl0 hl2 smask' hsm nobjs' hno
  subst hm'
  have hst := h.stl
  refine ⟨by rw [List.length_set]; exact hst, hsm, by have := h.m0; omega, by omega, hno, Or.inr ⟨hl0, hl2, ?_⟩⟩
  rcases h.tok with ⟨_, ds, hmd, htk, hd⟩ | ⟨_, _, ds, hmd, htk, hd⟩
  · have hmn : m.toNat = ds.length := by omega
    have hlt : ds.length < stype.length := by omega
    exact ⟨ds, by omega, by rw [hmn, H4.C2L.take_set_succ _ _ _ hlt, htk], hd⟩
  · exact ⟨ds, by omega, by rw [List.take_set_of_le (by omega), htk], hd⟩

theorem SzOK.mask {m l : Int} {stype smask nobjs : List Int} (h : SzOK m l stype smask nobjs) (hl : 0 ≤ l) :
    ∀ m', m' = m + 1 → m < 4 → ∀ l', 0 ≤ l' → l' ≤ 2 → ∀ smask', smask'.length = 3 → ∀ nobjs', 0 < nobjs'.length →
    SzOK m' l' stype smask' nobjs' := by
  intro m' hm' hm4 l' hl0 hl2 smask' hsm nobjs' hno
  subst hm'
  refine ⟨h.stl, hsm, by have := h.m0; omega, by omega, hno, Or.inr ⟨hl0, hl2, ?_⟩⟩
  rcases h.tok with ⟨h1, _⟩ | ⟨_, _, ds, hmd, htk, hd⟩
  · omega
  · exact ⟨ds, by omega, htk, hd⟩


/-- **the szip scanner never leaves `stype[5]` / `smask[3]` / the string** (its result is thrown away: SZIP is refused afterwards) -/
theorem comp_loop3 (bs rest : List Int) (hbs : CStr bs) (hlen : bs.length < 2 ^ 31) :
    ∀ (n : Nat) (s : parse_comp.St) (fuel p : Nat), s.str = bs ++ 0 :: rest → s.len = bs.length → s.u = p → bs.length + 1 - p ≤ n → n ≤ fuel →
    SzOK s.m s.l s.stype s.smask s.n_objs → s.done = false → s.gto = false →
    ∃ u c m l stype smask i nobjs sm g, parse_comp.loop3 fuel s = { s with
        u := u, c_ := c, m := m, l := l, stype := stype, smask := smask, i := i, n_objs := nobjs, comp_szip_mode := sm, gto := g } ∧
      (g = false → SzOK m l stype smask nobjs) := by
  intro n
  induction n with
  | zero =>
    intro s fuel p hstr hl hu hn _ hok hd hg
    refine ⟨s.u, s.c_, s.m, s.l, s.stype, s.smask, s.i, s.n_objs, s.comp_szip_mode, s.gto, ?_, fun _ => hok⟩
    rw [comp_loop3_is.exit]; rw [hu, hl]; simp; omega
  | succ n ih =>
    intro s fuel p hstr hl hu hn hf hok hd hg
    by_cases hpl : p < bs.length
    case neg =>
      refine ⟨s.u, s.c_, s.m, s.l, s.stype, s.smask, s.i, s.n_objs, s.comp_szip_mode, s.gto, ?_, fun _ => hok⟩
      rw [comp_loop3_is.exit]; rw [hu, hl]; simp; omega
    obtain ⟨fuel, rfl⟩ : ∃ f, fuel = f + 1 := ⟨fuel - 1, by omega⟩
    have hlt : s.u < s.len := by rw [hu, hl]; omega
    rw [comp_loop3_is.pass ⟨hlt, by simp [hd, hg]⟩]
    obtain ⟨pre, c0, post, hbs', hpre⟩ : ∃ pre c0 post, bs = pre ++ c0 :: post ∧ pre.length = p :=
      ⟨bs.take p, bs[p], bs.drop (p + 1), by rw [← List.drop_eq_getElem_cons hpl, List.take_append_drop], by simp; omega⟩
    obtain ⟨c1, tl, htl⟩ : ∃ c1 tl, post ++ 0 :: rest = c1 :: tl := by cases post <;> simp
    have hstr' : s.str = pre ++ c0 :: c1 :: tl := by rw [hstr, hbs', List.append_assoc, List.cons_append, htl]
    have hb0 : (p : Int) < s.str.length := by rw [hstr']; simp; omega
    have hb1 : (p : Int) + 1 < s.str.length := by rw [hstr']; simp; omega
    have hget0 : s.str.getD p 0 = c0 := by rw [hstr', ← hpre]; simp [List.getD_eq_getElem?_getD]
    have hget1 : s.str.getD (p + 1) 0 = c1 := by rw [hstr', ← hpre]; simp [List.getD_eq_getElem?_getD]
    have hc0 : IsChar c0 := (hbs c0 (by rw [hbs']; simp)).1
    have hc1 : IsChar c1 := by
      cases post with
      | nil => simp at htl; rw [← htl.1]; unfold IsChar; omega
      | cons y ys => simp at htl; rw [← htl.1]; exact (hbs y (by rw [hbs']; simp)).1
    have hmod0 : -1 ≤ c0 % 256 ∧ c0 % 256 ≤ 255 := by omega
    have hmod1 : -1 ≤ c1 % 256 ∧ c1 % 256 ≤ 255 := by omega
    have hp31 : p < 2 ^ 31 := by omega
    have hw1 : ((p : Int) + 1) % 4294967296 = ((p + 1 : Nat) : Int) := by omega
    have hw2 : (((p + 1 : Nat) : Int) + 1) % 4294967296 = ((p + 2 : Nat) : Int) := by omega
    have hm0 := hok.m0; have hm4 := hok.m4; have hstl := hok.stl; have hsml := hok.sml; have hnol := hok.nol
    obtain ⟨x, y, z, hxyz⟩ : ∃ x y z, s.smask = [x, y, z] := by
      match hsk : s.smask, hsml with
      | [x, y, z], _ => exact ⟨x, y, z, rfl⟩
    have h0n : ¬ ((0 : Int) = -1) := by decide
    have h03 : ¬ ((0 : Int) ≥ 3 - 1) := by decide
    have h0s : (0 : Int) ≤ 0 ∧ (0 : Int) < (([x, y, z] : List Int).length : Int) := by simp
    have h01 : (0 : Int) + 1 = 1 := rfl
    have h12 : ¬ ((1 : Int) = 2) := by decide
    have hset : ∀ v : Int, ([x, y, z] : List Int).set 0 v = [v, y, z] := fun _ => rfl
    -- one pass of the body done: either `goto out`, or the scanner moved on and its invariant holds again
    have cont : ∀ (u' : Nat) (c' m' l' : Int) (st' sk' : List Int) (i' : Int) (no' : List Int) (sm' : Int) (g' : Bool),
        parse_comp.loop3.body (fuel + 1) s = { s with
          u := (u' : Int), c_ := c', m := m', l := l', stype := st', smask := sk', i := i', n_objs := no', comp_szip_mode := sm', gto := g' } →
        (g' = false → p < u' ∧ SzOK m' l' st' sk' no') →
        ∃ u c m l stype smask i nobjs sm g, parse_comp.loop3 fuel (parse_comp.loop3.body (fuel + 1) s) = { s with
            u := u, c_ := c, m := m, l := l, stype := stype, smask := smask, i := i, n_objs := nobjs, comp_szip_mode := sm, gto := g } ∧
          (g = false → SzOK m l stype smask nobjs) := by
      intro u' c' m' l' st' sk' i' no' sm' g' hbody hprog
      rw [hbody]
      cases g' with
      | true =>
        exact ⟨u', c', m', l', st', sk', i', no', sm', true, by rw [comp_loop3_is.exit]; simp, fun h => by simp at h⟩
      | false =>
        obtain ⟨hpu, hok'⟩ := hprog rfl
        obtain ⟨u2, c2, m2, l2, st2, sk2, i2, no2, sm2, g2, hrun, hres⟩ := ih { s with
            u := (u' : Int), c_ := c', m := m', l := l', stype := st', smask := sk', i := i', n_objs := no', comp_szip_mode := sm', gto := false }
          fuel u' hstr hl rfl (by omega) (by omega) hok' hd rfl
        exact ⟨u2, c2, m2, l2, st2, sk2, i2, no2, sm2, g2, by rw [hrun], hres⟩
    have hA0 : (0 : Int) ≤ (p : Int) ∧ (p : Int) < (s.str.length : Int) := ⟨by omega, hb0⟩
    have hA1 : (0 : Int) ≤ ((p + 1 : Nat) : Int) ∧ ((p + 1 : Nat) : Int) < (s.str.length : Int) := ⟨by omega, by push_cast; exact hb1⟩
    by_cases hK : c0 = 44
    · by_cases hm5 : s.m ≥ 4
      · refine cont (p + 1) c1 s.m 0 (s.stype.set s.m.toNat 0) s.smask s.i s.n_objs s.comp_szip_mode true ?_ (fun h => by simp at h)
        have hm5' : (s.m ≥ 5 - 1) := hm5
        have hA2 : (0 : Int) ≤ s.m ∧ s.m < (s.stype.length : Int) := by omega
        simp only [parse_comp.loop3.body, parse_comp.chk, hu, hd, hg, hA0, hget0, eq_true hK, hA2, nul_cell, hw1, hA1, hget1, hmod1, eq_false h0n, eq_true hm5', Int.toNat_natCast, c18logic]
      · have hm3 : s.m < 4 := by omega
        refine cont (p + 2) c1 (s.m + 1) 1 (s.stype.set s.m.toNat 0) [c1, y, z] s.i s.n_objs s.comp_szip_mode false ?_ ?_
        · have hm5' : ¬ (s.m ≥ 5 - 1) := by omega
          have hA2 : (0 : Int) ≤ s.m ∧ s.m < (s.stype.length : Int) := by omega
          simp only [parse_comp.loop3.body, parse_comp.chk, hu, hd, hg, hl, hxyz, hA0, hget0, eq_true hK, hA2, nul_cell, hw1, hA1, hget1, hmod1, eq_false h0n, eq_false hm5', eq_false h03, h0s, h01, eq_false h12,
            Int.toNat_zero, hset, hw2, Int.toNat_natCast, c18logic]
        · intro _
          exact ⟨by omega, hok.comma _ rfl hm3 1 (by omega) (by omega) _ rfl _ hnol⟩
    ·
      by_cases hl1 : s.l = -1
      · by_cases hbad : ¬ (48 ≤ c0 % 256 ∧ c0 % 256 ≤ 57) ∨ s.m ≥ 4
        · refine cont p c0 s.m s.l s.stype s.smask s.i s.n_objs s.comp_szip_mode true ?_ (fun h => by simp at h)
          by_cases hdg : ((if 48 ≤ c0 % 256 ∧ c0 % 256 ≤ 57 then 1 else 0) ≠ 0)
          · have hm5 : (s.m ≥ 5 - 1) := hbad.elim (fun h => absurd ((isdigitC_iff c0).mp hdg) h) (by omega)
            simp only [parse_comp.loop3.body, parse_comp.chk, hu, hd, hg, hl, hl1, hA0, hget0, eq_false hK, hmod0, eq_true hdg, eq_true hm5, Int.toNat_natCast, c18logic]
          · simp only [parse_comp.loop3.body, parse_comp.chk, hu, hd, hg, hl, hl1, hA0, hget0, eq_false hK, hmod0, eq_false hdg, Int.toNat_natCast, c18logic]
        · have hdig : 48 ≤ c0 % 256 ∧ c0 % 256 ≤ 57 := by
            by_cases h : 48 ≤ c0 % 256 ∧ c0 % 256 ≤ 57
            · exact h
            · exact absurd (Or.inl h) hbad
          have hm3 : s.m < 4 := by
            by_cases h : s.m ≥ 4
            · exact absurd (Or.inr h) hbad
            · omega
          refine cont (p + 1) c0 (s.m + 1) s.l (s.stype.set s.m.toNat c0) s.smask s.i s.n_objs s.comp_szip_mode false ?_ ?_
          · have hdg := (isdigitC_iff c0).mpr hdig
            have hm5 : ¬ (s.m ≥ 5 - 1) := by omega
            have hA2 : (0 : Int) ≤ s.m ∧ s.m < (s.stype.length : Int) := by omega
            simp only [parse_comp.loop3.body, parse_comp.chk, hu, hd, hg, hl, hl1, hA0, hget0, eq_false hK, hmod0, eq_true hdg, eq_false hm5, hA2, hw1, Int.toNat_natCast, c18logic]
          · intro _
            refine ⟨by omega, ?_⟩
            have := hok
            rw [hl1] at this ⊢
            exact this.digit_step c0 (by unfold IsChar at hc0; omega) hm3
      ·
        have hl02 : 0 ≤ s.l ∧ s.l ≤ 2 := by
          rcases hok.tok with ⟨h, _⟩ | ⟨h1, h2, _⟩
          · exact absurd h hl1
          · exact ⟨h1, h2⟩
        by_cases hm5 : s.m ≥ 4
        · refine cont p c0 s.m s.l s.stype s.smask s.i s.n_objs s.comp_szip_mode true ?_ (fun h => by simp at h)
          have hm5' : (s.m ≥ 5 - 1) := by omega
          simp only [parse_comp.loop3.body, parse_comp.chk, hu, hd, hg, hl, hA0, hget0, eq_false hK, hmod0, eq_false hl1, eq_true hm5', Int.toNat_natCast, c18logic]
        · have hm3 : s.m < 4 := by omega
          by_cases hl2 : s.l = 2
          · refine cont p c0 s.m s.l s.stype s.smask s.i s.n_objs s.comp_szip_mode true ?_ (fun h => by simp at h)
            have hm5' : ¬ (s.m ≥ 5 - 1) := by omega
            have h2n : ¬ ((2 : Int) = -1) := by decide
            have h23 : ((2 : Int) ≥ 3 - 1) := by decide
            simp only [parse_comp.loop3.body, parse_comp.chk, hu, hd, hg, hl, hl2, hA0, hget0, eq_false hK, hmod0, eq_false h2n, eq_false hm5', eq_true h23, Int.toNat_natCast, c18logic]
          · by_cases hl0 : s.l = 0
            ·
              refine cont (p + 1) c0 (s.m + 1) 1 s.stype [c0, y, z] s.i s.n_objs s.comp_szip_mode false ?_ ?_
              · have hm5' : ¬ (s.m ≥ 5 - 1) := by omega
                simp only [parse_comp.loop3.body, parse_comp.chk, hu, hd, hg, hl, hl0, hxyz, hA0, hget0, eq_false hK, hmod0, eq_false h0n, eq_false hm5', eq_false h03, h0s, h01, eq_false h12,
                  Int.toNat_zero, hset, hw1, Int.toNat_natCast, c18logic]
              · intro _
                exact ⟨by omega, hok.mask hl02.1 _ rfl hm3 1 (by omega) (by omega) _ rfl _ hnol⟩
            ·
              have hl1' : s.l = 1 := by omega
              obtain ⟨r1, hr1⟩ := strcmp3 x c0 78 78 (by decide) (by decide)
              obtain ⟨r2, hr2⟩ := strcmp3 x c0 69 67 (by decide) (by decide)
              have hI : ∃ I : Int, I = (((s.len % 4294967296) - (1 % 4294967296)) % 4294967296) := ⟨_, rfl⟩
              obtain ⟨I, hI⟩ := hI
              have hbody : ∃ (sm : Int) (g : Bool) (u' : Nat) (m' : Int), parse_comp.loop3.body (fuel + 1) s = { s with
                    u := (u' : Int), c_ := c0, m := m', l := 2, stype := s.stype, smask := [x, c0, 0], i := I,
                    n_objs := s.n_objs.set 0 (s.n_objs.getD 0 0 - 1), comp_szip_mode := sm, gto := g } ∧ (g = false → u' = p + 1 ∧ m' = s.m + 1) := by
                rcases s with ⟨obj_list, i, u, c_, len, j, m, n_, k, end_obj, no_param, l, szm, info, ty, str, n_objs, obj, scomp, stype, smask, blk, ub, oof, ret, retnull, done, gto⟩
                simp only at hstr hl hu hd hg hget0 hget1 hA0 hA1 hm0 hm4 hstl hsml hnol hl1 hm5 hl1' hxyz hI
                subst hu hd hg hl hl1' hxyz
                have hm5' : ¬ (m ≥ 5 - 1) := by omega
                have h1n : ¬ ((1 : Int) = -1) := by decide
                have h13 : ¬ ((1 : Int) ≥ 3 - 1) := by decide
                have h1s : (0 : Int) ≤ 1 ∧ (1 : Int) < (([x, y, z] : List Int).length : Int) := by simp
                have h11 : (1 : Int) + 1 = 2 := rfl
                have h2s : (0 : Int) ≤ 2 ∧ (2 : Int) < (([x, c0, z] : List Int).length : Int) := by simp
                have ht1 : Int.toNat 1 = 1 := rfl
                have ht2 : Int.toNat 2 = 2 := rfl
                have hset1 : ([x, y, z] : List Int).set 1 c0 = [x, c0, z] := rfl
                have hset2 : ([x, c0, z] : List Int).set 2 0 = [x, c0, 0] := rfl
                by_cases e1 : r1 = 0
                · refine ⟨0, false, p + 1, m + 1, ?_, fun _ => ⟨rfl, rfl⟩⟩
                  simp only [parse_comp.loop3.body, parse_comp.chk, hA0, hget0, eq_false hK, hmod0, eq_false h1n, eq_false hm5', eq_false h13, h1s, h11, h2s, ht1, ht2, nul_cell,
                    hset1, hset2, hr1, e1, ← hI, hnol, Int.toNat_zero, Option.isSome_some, Option.getD_some, hw1, Int.toNat_natCast, c18logic]
                · by_cases e2 : r2 = 0
                  · refine ⟨1, false, p + 1, m + 1, ?_, fun _ => ⟨rfl, rfl⟩⟩
                    simp only [parse_comp.loop3.body, parse_comp.chk, hA0, hget0, eq_false hK, hmod0, eq_false h1n, eq_false hm5', eq_false h13, h1s, h11, h2s, ht1, ht2, nul_cell,
                      hset1, hset2, hr1, eq_false e1, hr2, e2, ← hI, hnol, Int.toNat_zero, Option.isSome_some, Option.getD_some, hw1, Int.toNat_natCast, c18logic]
                  · refine ⟨szm, true, p, m, ?_, fun h => by simp at h⟩
                    simp only [parse_comp.loop3.body, parse_comp.chk, hA0, hget0, eq_false hK, hmod0, eq_false h1n, eq_false hm5', eq_false h13, h1s, h11, h2s, ht1, ht2, nul_cell,
                      hset1, hset2, hr1, eq_false e1, hr2, eq_false e2, ← hI, hnol, Int.toNat_zero, Option.isSome_some, Option.getD_some, Int.toNat_natCast, c18logic]
              obtain ⟨sm, g, u', m', hb, hgf⟩ := hbody
              refine cont u' c0 m' 2 s.stype [x, c0, 0] I (s.n_objs.set 0 (s.n_objs.getD 0 0 - 1)) sm g hb ?_
              intro hg0
              obtain ⟨rfl, rfl⟩ := hgf hg0
              exact ⟨by omega, hok.mask hl02.1 _ rfl hm3 2 (by omega) (by omega) _ rfl _ (by rw [List.length_set]; exact hnol)⟩

/-! Loop 2, its body cut into pieces: they are copies of the generated text, `comp_body_pieces` ties them to it. -/

/-- up to the store into `scomp[]` -/
def cpPre (s : parse_comp.St) : parse_comp.St :=
  have s : parse_comp.St := parse_comp.chk s (0 ≤ s.i ∧ s.i < s.str.length)
  have s : parse_comp.St := parse_comp.St.set_c_ s ((s.str.getD (Int.toNat (s.i)) 0))
  have s : parse_comp.St := if (s.k ≥ (10 - 1)) then
      have s : parse_comp.St := parse_comp.St.set_gto s (true)
      s
    else
      s
  have s : parse_comp.St := if s.done ∨ s.gto then s else
    have s : parse_comp.St := parse_comp.chk s (0 ≤ s.k ∧ s.k < s.scomp.length)
    have s : parse_comp.St := parse_comp.St.set_scomp s (s.scomp.set (Int.toNat (s.k)) (s.c_))
    s
  s

/-- the token in `scomp[]` is closed at the blank and compared with `SZIP` -/
def cpClose (s : parse_comp.St) : parse_comp.St :=
  have s : parse_comp.St := parse_comp.chk s (0 ≤ s.k ∧ s.k < s.scomp.length)
  have s : parse_comp.St := parse_comp.St.set_scomp s (s.scomp.set (Int.toNat (s.k)) ((((0) + 128) % 256 - 128)))
  have s : parse_comp.St := parse_comp.chk s ((strcmpC s.scomp ([83, 90, 73, 80, 0] : List Int)).isSome = true)
  s

/-- the parameter scanner: the szip one after `SZIP`, the digit one otherwise -/
def cpScan (fuel : Nat) (s : parse_comp.St) : parse_comp.St :=
  if (((strcmpC s.scomp ([83, 90, 73, 80, 0] : List Int)).getD 0) = 0) then
    have s : parse_comp.St := parse_comp.St.set_l s ((- 1))
    have s : parse_comp.St := parse_comp.St.set_m s (0)
    have s : parse_comp.St := parse_comp.St.set_u s ((((s.i + ((1) % 4294967296))) % 4294967296))
    have s : parse_comp.St := parse_comp.loop3 fuel s
    s
  else
    have s : parse_comp.St := parse_comp.St.set_m s (0)
    have s : parse_comp.St := parse_comp.St.set_u s ((((s.i + ((1) % 4294967296))) % 4294967296))
    have s : parse_comp.St := parse_comp.loop4 fuel s
    s

/-- `stype[m] = 0; comp->info = atoi(stype); i += m` -/
def cpParam (s : parse_comp.St) : parse_comp.St :=
  have s : parse_comp.St := if s.done ∨ s.gto then s else
    have s : parse_comp.St := parse_comp.chk s (0 ≤ s.m ∧ s.m < s.stype.length)
    have s : parse_comp.St := parse_comp.St.set_stype s (s.stype.set (Int.toNat (s.m)) ((((0) + 128) % 256 - 128)))
    s
  have s : parse_comp.St := if s.done ∨ s.gto then s else
    have s : parse_comp.St := parse_comp.chk s ((atoiC s.stype).isSome = true)
    have s : parse_comp.St := parse_comp.St.set_comp_info s (((atoiC s.stype).getD 0))
    s
  have s : parse_comp.St := if s.done ∨ s.gto then s else
    have s : parse_comp.St := parse_comp.St.set_i s ((((s.i + ((s.m) % 4294967296))) % 4294967296))
    s
  s


/-- the last character of the string closes the token: `no_param = 1` -/
def cpLast (s : parse_comp.St) : parse_comp.St :=
  if (s.i = (((s.len - ((1) % 18446744073709551616))) % 18446744073709551616)) then
    have s : parse_comp.St := parse_comp.chk s (0 ≤ (s.k + 1) ∧ (s.k + 1) < s.scomp.length)
    have s : parse_comp.St := parse_comp.St.set_scomp s (s.scomp.set (Int.toNat ((s.k + 1))) ((((0) + 128) % 256 - 128)))
    have s : parse_comp.St := parse_comp.St.set_no_param s (1)
    s
  else
    s


theorem comp_chk_true (s : parse_comp.St) (c : Prop) [Decidable c] (h : c) : parse_comp.chk s c = s := by
  simp only [parse_comp.chk, h, c18logic]

theorem cpClose_spec (s : parse_comp.St) (sc jr : List Int) (a b : Int) (hk : s.k = sc.length)
    (hsc : s.scomp = (sc ++ [a]) ++ b :: jr) (hcsc : CStr sc) :
    ∃ r5, cpClose s = { s with scomp := sc ++ 0 :: b :: jr } ∧ strcmpC (sc ++ 0 :: b :: jr) [83, 90, 73, 80, 0] = some r5 ∧
      (r5 = 0 ↔ toStr sc = "SZIP".toList) := by
  obtain ⟨r5, h5, e5⟩ := strcmp_buf sc (b :: jr) hcsc [83, 90, 73, 80] "SZIP".toList (by decide) (by decide)
  have h5 : strcmpC (sc ++ 0 :: b :: jr) [83, 90, 73, 80, 0] = some r5 := h5
  refine ⟨r5, ?_, h5, e5⟩
  have hA2 : 0 ≤ s.k ∧ s.k < (s.scomp.length : Int) := by
    rw [hk, hsc]; exact ⟨Int.natCast_nonneg _, Int.ofNat_lt.mpr (by simp)⟩
  have hset : s.scomp.set s.k.toNat 0 = sc ++ 0 :: b :: jr := by rw [hk, hsc]; simp
  have h5' : (strcmpC (sc ++ 0 :: b :: jr) ([83, 90, 73, 80, 0] : List Int)).isSome = true := by rw [h5]; rfl
  rw [cpClose, comp_chk_true s _ hA2, nul_cell]
  show parse_comp.chk (s.set_scomp (s.scomp.set s.k.toNat 0)) _ = _
  rw [hset, comp_chk_true _ _ h5']

theorem cpScan_digits (fuel : Nat) (s : parse_comp.St) (r : Int) (h : strcmpC s.scomp [83, 90, 73, 80, 0] = some r) (hr : ¬ r = 0) :
    cpScan fuel s = parse_comp.loop4 fuel { s with m := 0, u := (s.i + 1 % 4294967296) % 4294967296 } := by
  rw [cpScan, h, Option.getD_some, if_neg hr]

theorem cpScan_szip (fuel : Nat) (s : parse_comp.St) (h : strcmpC s.scomp [83, 90, 73, 80, 0] = some 0) :
    cpScan fuel s = parse_comp.loop3 fuel { s with l := -1, m := 0, u := (s.i + 1 % 4294967296) % 4294967296 } := by
  rw [cpScan, h, Option.getD_some, if_pos rfl]

theorem cpParam_skip (s : parse_comp.St) (h : s.done = true ∨ s.gto = true) : cpParam s = s := by
  simp only [cpParam, h, if_true]

theorem cpParam_spec (s : parse_comp.St) (hd : s.done = false) (hg : s.gto = false) (hm : 0 ≤ s.m ∧ s.m < (s.stype.length : Int)) (v : Int)
    (hv : atoiC (s.stype.set s.m.toNat 0) = some v) :
    cpParam s = { s with stype := s.stype.set s.m.toNat 0, comp_info := v, i := (s.i + s.m % 4294967296) % 4294967296 } := by
  simp only [cpParam, parse_comp.chk, hd, hg, hm, nul_cell, hv, Option.isSome_some, Option.getD_some, c18logic]

/-- the end of the token: a blank and the parameter behind it, or the last character -/
def cpA (fuel : Nat) (s : parse_comp.St) : parse_comp.St :=
  if s.c_ = 32 then cpParam (cpScan fuel (cpClose s)) else cpLast s

/-- the `strcmp(scomp, …)` chain on the closed token -/
def cpB (s : parse_comp.St) : parse_comp.St :=
  have s : parse_comp.St := if s.done ∨ s.gto then s else
    have s : parse_comp.St := parse_comp.chk s ((strcmpC s.scomp ([78, 79, 78, 69, 0] : List Int)).isSome = true)
    have s : parse_comp.St := if (((strcmpC s.scomp ([78, 79, 78, 69, 0] : List Int)).getD 0) = 0) then
        have s : parse_comp.St := parse_comp.St.set_comp_type s (((0) % 4294967296))
        s
      else
        have s : parse_comp.St := parse_comp.chk s ((strcmpC s.scomp ([82, 76, 69, 0] : List Int)).isSome = true)
        have s : parse_comp.St := if (((strcmpC s.scomp ([82, 76, 69, 0] : List Int)).getD 0) = 0) then
            have s : parse_comp.St := parse_comp.St.set_comp_type s (((1) % 4294967296))
            have s : parse_comp.St := if (s.m > 0) then
                have s : parse_comp.St := parse_comp.St.set_gto s (true)
                s
              else
                s
            s
          else
            have s : parse_comp.St := parse_comp.chk s ((strcmpC s.scomp ([72, 85, 70, 70, 0] : List Int)).isSome = true)
            have s : parse_comp.St := if (((strcmpC s.scomp ([72, 85, 70, 70, 0] : List Int)).getD 0) = 0) then
                have s : parse_comp.St := parse_comp.St.set_comp_type s (((3) % 4294967296))
                have s : parse_comp.St := if (s.no_param ≠ 0) then
                    have s : parse_comp.St := parse_comp.St.set_gto s (true)
                    s
                  else
                    s
                s
              else
                have s : parse_comp.St := parse_comp.chk s ((strcmpC s.scomp ([71, 90, 73, 80, 0] : List Int)).isSome = true)
                have s : parse_comp.St := if (((strcmpC s.scomp ([71, 90, 73, 80, 0] : List Int)).getD 0) = 0) then
                    have s : parse_comp.St := parse_comp.St.set_comp_type s (((4) % 4294967296))
                    have s : parse_comp.St := if (s.no_param ≠ 0) then
                        have s : parse_comp.St := parse_comp.St.set_gto s (true)
                        s
                      else
                        s
                    s
                  else
                    have s : parse_comp.St := parse_comp.chk s ((strcmpC s.scomp ([74, 80, 69, 71, 0] : List Int)).isSome = true)
                    have s : parse_comp.St := if (((strcmpC s.scomp ([74, 80, 69, 71, 0] : List Int)).getD 0) = 0) then
                        have s : parse_comp.St := parse_comp.St.set_comp_type s (((7) % 4294967296))
                        have s : parse_comp.St := if (s.no_param ≠ 0) then
                            have s : parse_comp.St := parse_comp.St.set_gto s (true)
                            s
                          else
                            s
                        s
                      else
                        have s : parse_comp.St := parse_comp.chk s ((strcmpC s.scomp ([83, 90, 73, 80, 0] : List Int)).isSome = true)
                        have s : parse_comp.St := if (((strcmpC s.scomp ([83, 90, 73, 80, 0] : List Int)).getD 0) = 0) then
                            have s : parse_comp.St := parse_comp.St.set_gto s (true)
                            s
                          else
                            have s : parse_comp.St := parse_comp.St.set_gto s (true)
                            s
                        s
                    s
                s
            s
        s
    s
  s

def cpPost (s : parse_comp.St) : parse_comp.St :=
  have s : parse_comp.St := if s.done ∨ s.gto then s else
    have s : parse_comp.St := parse_comp.St.set_i s ((((s.i + 1)) % 4294967296))
    have s : parse_comp.St := parse_comp.St.set_k s ((s.k + 1))
    s
  s

theorem chain_cmps (tok junk : List Int) (h : CStr tok) :
    ∃ r0 r1 r2 r3 r4 r5 : Int,
      (strcmpC (tok ++ 0 :: junk) [78, 79, 78, 69, 0] = some r0 ∧ (r0 = 0 ↔ toStr tok = "NONE".toList)) ∧
      (strcmpC (tok ++ 0 :: junk) [82, 76, 69, 0] = some r1 ∧ (r1 = 0 ↔ toStr tok = "RLE".toList)) ∧
      (strcmpC (tok ++ 0 :: junk) [72, 85, 70, 70, 0] = some r2 ∧ (r2 = 0 ↔ toStr tok = "HUFF".toList)) ∧
      (strcmpC (tok ++ 0 :: junk) [71, 90, 73, 80, 0] = some r3 ∧ (r3 = 0 ↔ toStr tok = "GZIP".toList)) ∧
      (strcmpC (tok ++ 0 :: junk) [74, 80, 69, 71, 0] = some r4 ∧ (r4 = 0 ↔ toStr tok = "JPEG".toList)) ∧
      (strcmpC (tok ++ 0 :: junk) [83, 90, 73, 80, 0] = some r5 ∧ (r5 = 0 ↔ toStr tok = "SZIP".toList)) := by
  obtain ⟨r0, h0⟩ := strcmp_buf tok junk h [78, 79, 78, 69] "NONE".toList (by decide) (by decide)
  obtain ⟨r1, h1⟩ := strcmp_buf tok junk h [82, 76, 69] "RLE".toList (by decide) (by decide)
  obtain ⟨r2, h2⟩ := strcmp_buf tok junk h [72, 85, 70, 70] "HUFF".toList (by decide) (by decide)
  obtain ⟨r3, h3⟩ := strcmp_buf tok junk h [71, 90, 73, 80] "GZIP".toList (by decide) (by decide)
  obtain ⟨r4, h4⟩ := strcmp_buf tok junk h [74, 80, 69, 71] "JPEG".toList (by decide) (by decide)
  obtain ⟨r5, h5⟩ := strcmp_buf tok junk h [83, 90, 73, 80] "SZIP".toList (by decide) (by decide)
  exact ⟨r0, r1, r2, r3, r4, r5, h0, h1, h2, h3, h4, h5⟩


theorem cpB_spec (s : parse_comp.St) (tok junk : List Int) (hsc : s.scomp = tok ++ 0 :: junk) (htok : CStr tok)
    (hd : s.done = false) (hg : s.gto = false) :
    ∃ ty g, cpB s = { s with comp_type := ty, gto := g } ∧
      (match compOfName (toStr tok) s.m.toNat (decide (s.no_param ≠ 0)) s.comp_info with
       | none => g = true
       | some c => g = false ∧ ty = c.type) := by
  obtain ⟨r0, r1, r2, r3, r4, r5, ⟨h0, e0⟩, ⟨h1, e1⟩, ⟨h2, e2⟩, ⟨h3, e3⟩, ⟨h4, e4⟩, ⟨h5, e5⟩⟩ := chain_cmps tok junk htok
  rcases s with ⟨obj_list, i, u, c_, len, j, m, n_, k, end_obj, no_param, l, szm, info, ty, str, n_objs, obj, scomp, stype, smask, blk, ub, oof, ret, retnull, done, gto⟩
  simp only at hsc hd hg
  subst hsc hd hg
  have hm : (m.toNat > 0) ↔ m > 0 := by omega
  by_cases c0 : r0 = 0
  · refine ⟨0, false, ?_, ?_⟩
    · simp only [cpB, parse_comp.chk, h0, eq_true c0, Option.isSome_some, Option.getD_some, Int.reduceMod, c18logic]
    · simp [compOfName, e0.mp c0, COMP_CODE_NONE]
  have n0 := mt e0.mpr c0
  by_cases c1 : r1 = 0
  · by_cases hmp : m > 0
    · refine ⟨1, true, ?_, ?_⟩
      · simp only [cpB, parse_comp.chk, h0, eq_false c0, h1, eq_true c1, eq_true hmp, Option.isSome_some, Option.getD_some, Int.reduceMod, c18logic]
      · have : m.toNat > 0 := hm.mpr hmp
        simp [compOfName, e1.mp c1, this]
    · refine ⟨1, false, ?_, ?_⟩
      · simp only [cpB, parse_comp.chk, h0, eq_false c0, h1, eq_true c1, eq_false hmp, Option.isSome_some, Option.getD_some, Int.reduceMod, c18logic]
      · have : ¬ m.toNat > 0 := fun h => hmp (hm.mp h)
        simp [compOfName, e1.mp c1, this, COMP_CODE_RLE]
  have n1 := mt e1.mpr c1
  by_cases c2 : r2 = 0
  · by_cases hnp : no_param ≠ 0
    · refine ⟨3, true, ?_, ?_⟩
      · simp only [cpB, parse_comp.chk, h0, eq_false c0, h1, eq_false c1, h2, eq_true c2, eq_true hnp, Option.isSome_some, Option.getD_some, Int.reduceMod, c18logic]
      · simp [compOfName, e2.mp c2, hnp]
    · refine ⟨3, false, ?_, ?_⟩
      · simp only [cpB, parse_comp.chk, h0, eq_false c0, h1, eq_false c1, h2, eq_true c2, eq_false hnp, Option.isSome_some, Option.getD_some, Int.reduceMod, c18logic]
      · simp [compOfName, e2.mp c2, hnp, COMP_CODE_SKPHUFF]
  have n2 := mt e2.mpr c2
  by_cases c3 : r3 = 0
  · by_cases hnp : no_param ≠ 0
    · refine ⟨4, true, ?_, ?_⟩
      · simp only [cpB, parse_comp.chk, h0, eq_false c0, h1, eq_false c1, h2, eq_false c2, h3, eq_true c3, eq_true hnp, Option.isSome_some, Option.getD_some, Int.reduceMod, c18logic]
      · simp [compOfName, e3.mp c3, hnp]
    · refine ⟨4, false, ?_, ?_⟩
      · simp only [cpB, parse_comp.chk, h0, eq_false c0, h1, eq_false c1, h2, eq_false c2, h3, eq_true c3, eq_false hnp, Option.isSome_some, Option.getD_some, Int.reduceMod, c18logic]
      · simp [compOfName, e3.mp c3, hnp, COMP_CODE_DEFLATE]
  have n3 := mt e3.mpr c3
  by_cases c4 : r4 = 0
  · by_cases hnp : no_param ≠ 0
    · refine ⟨7, true, ?_, ?_⟩
      · simp only [cpB, parse_comp.chk, h0, eq_false c0, h1, eq_false c1, h2, eq_false c2, h3, eq_false c3, h4, eq_true c4, eq_true hnp, Option.isSome_some, Option.getD_some, Int.reduceMod, c18logic]
      · simp [compOfName, e4.mp c4, hnp]
    · refine ⟨7, false, ?_, ?_⟩
      · simp only [cpB, parse_comp.chk, h0, eq_false c0, h1, eq_false c1, h2, eq_false c2, h3, eq_false c3, h4, eq_true c4, eq_false hnp, Option.isSome_some, Option.getD_some, Int.reduceMod, c18logic]
      · simp [compOfName, e4.mp c4, hnp, COMP_CODE_JPEG]
  have n4 := mt e4.mpr c4
  refine ⟨ty, true, ?_, ?_⟩
  · by_cases c5 : r5 = 0
    · simp only [cpB, parse_comp.chk, h0, eq_false c0, h1, eq_false c1, h2, eq_false c2, h3, eq_false c3, h4, eq_false c4, h5, eq_true c5, Option.isSome_some, Option.getD_some, c18logic]
    · simp only [cpB, parse_comp.chk, h0, eq_false c0, h1, eq_false c1, h2, eq_false c2, h3, eq_false c3, h4, eq_false c4, h5, eq_false c5, Option.isSome_some, Option.getD_some, c18logic]
  · rw [compOfName, if_neg n0, if_neg n1, if_neg n2, if_neg n3, if_neg n4]


theorem cpA_last (fuel : Nat) (s : parse_comp.St) (bs : List Int) (hlen : bs.length < 2 ^ 31) (pre sc jr : List Int) (b : Int)
    (hl : s.len = bs.length) (hi : s.i = pre.length) (hlast : pre.length + 1 = bs.length) (hc32 : s.c_ ≠ 32)
    (hk : s.k = sc.length) (hsc : s.scomp = (sc ++ [s.c_]) ++ b :: jr) (hscl : s.scomp.length = 10) :
    cpA fuel s = { s with scomp := (sc ++ [s.c_]) ++ 0 :: jr, no_param := 1 } := by
  have hlm : ((bs.length : Int) - 1 % 18446744073709551616) % 18446744073709551616 = (bs.length : Int) - 1 := by omega
  have ha3 : s.i = (s.len - 1 % 18446744073709551616) % 18446744073709551616 := by rw [hl, hlm, hi]; omega
  have hA2 : 0 ≤ s.k + 1 ∧ s.k + 1 < (s.scomp.length : Int) := by
    have := hscl; rw [hsc] at this; simp at this; rw [hk, hscl]; omega
  have hset : s.scomp.set (s.k + 1).toNat 0 = (sc ++ [s.c_]) ++ 0 :: jr := by
    rw [hk, hsc, show ((sc.length : Int) + 1).toNat = sc.length + 1 from Int.toNat_natCast_add_one]; simp
  rw [cpA, if_neg hc32, cpLast, if_pos ha3, comp_chk_true _ _ hA2, nul_cell]
  show (s.set_scomp (s.scomp.set (s.k + 1).toNat 0)).set_no_param 1 = _
  rw [hset]


/-- a blank after a coder name other than SZIP: at most 4 digits may follow -/
theorem cpA_space_digits (fuel : Nat) (s : parse_comp.St) (bs rest : List Int) (hlen : bs.length < 2 ^ 31) (pre rem sc jr : List Int) (b : Int)
    (hbs : bs = pre ++ 32 :: rem) (hstr : s.str = bs ++ 0 :: rest) (hl : s.len = bs.length) (hi : s.i = pre.length) (hc : s.c_ = 32)
    (hk : s.k = sc.length) (hsc : s.scomp = (sc ++ [32]) ++ b :: jr) (hcsc : CStr sc)
    (hnsz : toStr sc ≠ "SZIP".toList) (hstl : s.stype.length = 5) (hrem : ∀ c ∈ rem, IsChar c ∧ c ≠ 0) (hf : rem.length ≤ fuel)
    (hd : s.done = false) (hg : s.gto = false) :
    ∃ u c' m stype info i' g, cpA fuel s = { s with
        scomp := sc ++ 0 :: b :: jr, m := m, u := u, c_ := c', stype := stype, comp_info := info, i := i', gto := g } ∧
      (if (toStr rem).all Char.isDigit = true ∧ rem.length ≤ 4 then
         g = false ∧ m = ((rem.length : Nat) : Int) ∧ info = ((atoi (toStr rem) : Nat) : Int) ∧ i' = ((pre.length + rem.length : Nat) : Int)
       else g = true) := by
  obtain ⟨r5, hcl, h5, e5⟩ := cpClose_spec s sc jr 32 b hk hsc hcsc
  have hp31 : pre.length + rem.length < 2 ^ 31 := by rw [hbs] at hlen; simp at hlen; omega
  have hw : (s.i + 1 % 4294967296) % 4294967296 = ((pre ++ [32]).length : Int) := by rw [hi]; simp; omega
  rw [cpA, if_pos hc, hcl, cpScan_digits _ _ r5 h5 fun h => hnsz (e5.mp h)]
  dsimp only
  obtain ⟨u', c', m', st', g', hL, hres⟩ := comp_loop4 bs (0 :: rest) rem (pre ++ [32]) [] s.stype
    { s with scomp := sc ++ 0 :: b :: jr, m := 0, u := (s.i + 1 % 4294967296) % 4294967296 } fuel
    ⟨hstr, hl, hw, by simp [hbs], hlen⟩ rfl rfl (by simpa using hstl) (by simp) hrem hf hd hg
  rw [hL]
  dsimp only
  simp only [List.length_nil, Nat.zero_add, List.nil_append] at hres
  by_cases hok : (toStr rem).all Char.isDigit = true ∧ rem.length ≤ 4
  · rw [if_pos hok] at hres
    obtain ⟨rfl, rfl, sj', rfl, hsj⟩ := hres
    obtain ⟨a1, jr1, rfl⟩ : ∃ a1 jr1, sj' = a1 :: jr1 := by
      match sj', hsj with
      | [], h => simp at h; omega
      | a1 :: jr1, _ => exact ⟨a1, jr1, rfl⟩
    have hdig : Digits rem := fun x hx => (toChar_isDigit' (hrem x hx).1).mp
      (List.all_eq_true.mp hok.1 (toChar x) (List.mem_map.mpr ⟨x, hx, rfl⟩))
    have hset2 : (rem ++ a1 :: jr1).set ((rem.length : Nat) : Int).toNat 0 = rem ++ 0 :: jr1 := by simp
    have hi' : (s.i + ((rem.length : Nat) : Int) % 4294967296) % 4294967296 = ((pre.length + rem.length : Nat) : Int) := by
      rw [hi]; omega
    refine ⟨u', c', ((rem.length : Nat) : Int), rem ++ 0 :: jr1, ((atoi (toStr rem) : Nat) : Int), ((pre.length + rem.length : Nat) : Int), false, ?_,
      by rw [if_pos hok]; exact ⟨rfl, rfl, rfl, rfl⟩⟩
    refine (cpParam_spec _ ?_ ?_ ?_ ((atoi (toStr rem) : Nat) : Int) ?_).trans ?_
    · exact hd
    · rfl
    · exact ⟨Int.natCast_nonneg _, Int.ofNat_lt.mpr (by simp)⟩
    · show atoiC ((rem ++ a1 :: jr1).set _ 0) = _
      rw [hset2]; exact atoiC_spec rem jr1 hdig.tok (Nat.le_trans hok.2 (by decide))
    · simp only [hset2, hi']
  · rw [if_neg hok] at hres
    subst hres
    exact ⟨u', c', m', st', s.comp_info, s.i, true, by rw [cpParam_skip _ (Or.inr rfl)], by rw [if_neg hok]⟩


/-- a blank after `SZIP` -/
theorem cpA_space_szip (fuel : Nat) (s : parse_comp.St) (bs rest : List Int) (hcbs : CStr bs) (hlen : bs.length < 2 ^ 31) (pre rem sc jr : List Int) (b : Int)
    (hbs : bs = pre ++ 32 :: rem) (hstr : s.str = bs ++ 0 :: rest) (hl : s.len = bs.length) (hi : s.i = pre.length) (hc : s.c_ = 32)
    (hk : s.k = sc.length) (hsc : s.scomp = (sc ++ [32]) ++ b :: jr) (hcsc : CStr sc)
    (hsz : toStr sc = "SZIP".toList) (hstl : s.stype.length = 5) (hsml : s.smask.length = 3) (hnol : 0 < s.n_objs.length) (hf : rem.length + 1 ≤ fuel)
    (hd : s.done = false) (hg : s.gto = false) :
    ∃ u c' m l stype smask i' nobjs sm info g, cpA fuel s = { s with
        scomp := sc ++ 0 :: b :: jr, l := l, m := m, u := u, c_ := c', stype := stype, smask := smask, i := i', n_objs := nobjs,
        comp_szip_mode := sm, comp_info := info, gto := g } := by
  obtain ⟨r5, hcl, h5, e5⟩ := cpClose_spec s sc jr 32 b hk hsc hcsc
  obtain rfl : r5 = 0 := e5.mpr hsz
  have hp31 : pre.length < 2 ^ 31 := by rw [hbs] at hlen; simp at hlen; omega
  have hw : (s.i + 1 % 4294967296) % 4294967296 = ((pre.length + 1 : Nat) : Int) := by rw [hi]; omega
  rw [cpA, if_pos hc, hcl, cpScan_szip _ _ h5]
  dsimp only
  obtain ⟨u', c', m', l', st', sk', i', no', sm', g', hL, hres⟩ := comp_loop3 bs rest hcbs hlen (rem.length + 1)
    { s with scomp := sc ++ 0 :: b :: jr, l := -1, m := 0, u := (s.i + 1 % 4294967296) % 4294967296 } fuel (pre.length + 1)
    hstr hl hw (by rw [hbs]; simp) hf
    ⟨hstl, hsml, Int.le_refl 0, show (0 : Int) ≤ 4 by decide, hnol, Or.inl ⟨rfl, [], rfl, rfl, fun _ h => absurd h List.not_mem_nil⟩⟩ hd hg
  rw [hL]
  dsimp only
  cases g' with
  | true => exact ⟨u', c', m', l', st', sk', i', no', sm', s.comp_info, true, by rw [cpParam_skip _ (Or.inr rfl)]⟩
  | false =>
    obtain ⟨hmb, v, hv⟩ := (hres rfl).atoi
    exact ⟨u', c', m', l', st'.set m'.toNat 0, sk', (i' + m' % 4294967296) % 4294967296, no', sm', v, false,
      cpParam_spec _ (by exact hd) (by rfl) (by exact hmb) v (by exact hv)⟩


def cpBody (fuel : Nat) (s : parse_comp.St) : parse_comp.St :=
  cpPost (if (cpPre s).done ∨ (cpPre s).gto then cpPre s else
    if ((cpPre s).c_ = 32) ∨ ((cpPre s).i = ((((cpPre s).len - ((1) % 18446744073709551616))) % 18446744073709551616)) then cpB (cpA fuel (cpPre s))
    else cpPre s)

theorem comp_body_pieces (fuel : Nat) (s : parse_comp.St) : parse_comp.loop2.body fuel s = cpBody fuel s := by
  unfold parse_comp.loop2.body
  extract_lets s1 s2 s3 s4 s5 s6 t0 t1 t2 t3 t4 t5 t6 t7 t8 t9 t10 t11 t12 t13 t14 t15 t16 t17 t18 t19 t20 t21 t22 t23 t24 t25 t26 t27 t28 t29 t30 t31 t32 t33 t34 t35 t36 t37 t38 t39 t40 t41 t42 t43 t44 t45 t46 t47 t48 t49 t50 t51 t52 t53 t54 t55 t56
  have hpre : t0 = cpPre s := rfl
  have hClose : t3 = cpClose t0 := rfl
  have hScan : t11 = cpScan fuel t3 := rfl
  have hParam : t19 = cpParam t11 := rfl
  have hLast : t23 = cpLast t0 := rfl
  have hA : t24 = cpA fuel t0 := by
    show (if t0.c_ = 32 then t19 else t23) = _
    rw [hParam, hScan, hClose, hLast]; rfl
  have hB : t51 = cpB t24 := rfl
  have hP : t56 = cpPost t53 := rfl
  have h53 : t53 = if t0.done = true ∨ t0.gto = true then t0 else t52 := rfl
  have h52 : t52 = if t0.c_ = 32 ∨ t0.i = (t0.len - 1 % 18446744073709551616) % 18446744073709551616 then t51 else t0 := rfl
  rw [hP, h53, h52, hB, hA, hpre]
  rfl

theorem comp_loop2_is : H4.C2L.IsLoop parse_comp.loop2 (fun s => (s.i < s.len) ∧ ¬(s.done ∨ s.gto)) parse_comp.loop2.body (fun s => s) :=
  .of_eqs (fun _ => rfl) (fun _ _ => rfl)

theorem cpPre_full (s : parse_comp.St) (hA0 : 0 ≤ s.i ∧ s.i < (s.str.length : Int)) (hk : s.k ≥ 10 - 1) (hd : s.done = false) (hg : s.gto = false) :
    cpPre s = { s with c_ := s.str.getD s.i.toNat 0, gto := true } := by
  simp only [cpPre, parse_comp.chk, hd, hg, hA0, eq_true hk, c18logic]

theorem cpPre_store (s : parse_comp.St) (hA0 : 0 ≤ s.i ∧ s.i < (s.str.length : Int)) (hk : ¬ (s.k ≥ 10 - 1))
    (hA2 : 0 ≤ s.k ∧ s.k < (s.scomp.length : Int)) (hd : s.done = false) (hg : s.gto = false) :
    cpPre s = { s with c_ := s.str.getD s.i.toNat 0, scomp := s.scomp.set s.k.toNat (s.str.getD s.i.toNat 0) } := by
  simp only [cpPre, parse_comp.chk, hd, hg, hA0, eq_false hk, hA2, c18logic]

theorem cpPost_skip (s : parse_comp.St) (h : s.done = true ∨ s.gto = true) : cpPost s = s := by
  simp only [cpPost, h, if_true]

theorem cpPost_step (s : parse_comp.St) (hd : s.done = false) (hg : s.gto = false) :
    cpPost s = { s with i := (s.i + 1) % 4294967296, k := s.k + 1 } := by
  simp only [cpPost, show ¬ (s.done = true ∨ s.gto = true) by simp [hd, hg], c18logic]

theorem cpB_skip (s : parse_comp.St) (h : s.done = true ∨ s.gto = true) : cpB s = s := by
  simp only [cpB, h, if_true]

/-- the token is complete and the string ends with this pass -/
theorem cp_finish (fuel : Nat) (T : parse_comp.St) (tok junk : List Int) (hsc : T.scomp = tok ++ 0 :: junk) (htok : CStr tok)
    (hd : T.done = false) (hg : T.gto = false) (hend : ¬ ((T.i + 1) % 4294967296 < T.len)) :
    ∃ ty g, parse_comp.loop2 fuel (cpPost (cpB T)) = { T with
        comp_type := ty, gto := g, i := if g = true then T.i else (T.i + 1) % 4294967296, k := if g = true then T.k else T.k + 1 } ∧
      (match compOfName (toStr tok) T.m.toNat (decide (T.no_param ≠ 0)) T.comp_info with
       | none => g = true
       | some cv => g = false ∧ ty = cv.type ∧ T.comp_info = cv.info) := by
  obtain ⟨ty, g, hB, hres⟩ := cpB_spec T tok junk hsc htok hd hg
  rw [hB]
  refine ⟨ty, g, ?_, ?_⟩
  · cases g with
    | true => rw [cpPost_skip _ (Or.inr rfl), comp_loop2_is.exit (by simp) _]; rfl
    | false => rw [cpPost_step _ (by exact hd) (by rfl), comp_loop2_is.exit (fun h => hend h.1)]; rfl
  · cases hco : compOfName (toStr tok) T.m.toNat (decide (T.no_param ≠ 0)) T.comp_info with
    | none => rw [hco] at hres; exact hres
    | some cv => rw [hco] at hres; exact ⟨hres.1, hres.2, (compOfName_some _ _ _ _ _ hco).1.symm⟩

/-- **the "get compression type" loop computes `compValue`.**  Invariant: `pre` is scanned, `scomp[10]` holds the token so far (`sc`, `k`
    characters), no parameter has been read (`m`, `no_param`, `comp->info` as at the start) -/
theorem comp_loop2 (bs rest : List Int) (hcbs : CStr bs) :
    ∀ (rem pre sc sj : List Int) (s : parse_comp.St) (fuel : Nat), At s.str s.len s.i bs (0 :: rest) pre rem → rem ≠ [] →
    s.k = sc.length → s.scomp = sc ++ sj → sc.length + sj.length = 10 → CStr sc →
    s.m = 0 → s.no_param = 0 → s.comp_info = -1 → s.stype.length = 5 → s.smask.length = 3 → 0 < s.n_objs.length →
    rem.length + 1 ≤ fuel → s.done = false → s.gto = false →
    ∃ i k c scomp m u l stype smask nobjs szm info ty np g, parse_comp.loop2 fuel s = { s with
        i := i, k := k, c_ := c, scomp := scomp, m := m, u := u, l := l, stype := stype, smask := smask, n_objs := nobjs,
        comp_szip_mode := szm, comp_info := info, comp_type := ty, no_param := np, gto := g } ∧
      (match compValue (toStr rem) (toStr sc) with
       | none => g = true
       | some cv => g = false ∧ ty = cv.type ∧ info = cv.info ∧ nobjs = s.n_objs) := by
  intro rem
  induction rem with
  | nil => intro pre sc sj s fuel _ h; exact absurd rfl h
  | cons c cs ih =>
    intro pre sc sj s fuel hat _ hk hsc hscl hcsc hm hnp hinfo hstl hsml hnol hf hd hg
    obtain ⟨fuel, rfl⟩ : ∃ f, fuel = f + 1 := ⟨fuel - 1, by omega⟩
    simp only [List.length_cons] at hf
    obtain ⟨hlt, hA0, hget, hw, hlast, -, hnext⟩ := hat.cell
    obtain ⟨hstr, hl, hi, hbs, hlen⟩ := hat
    have hc := hcbs c (by rw [hbs]; simp)
    have hccs : CStr cs := fun x hx => hcbs x (by rw [hbs]; simp [hx])
    have h32 := toChar_eq_ascii hc.1 ' ' 32 rfl (by omega)
    rw [comp_loop2_is.pass ⟨hlt, by simp [hd, hg]⟩, comp_body_pieces]
    unfold cpBody
    by_cases hk9 : sc.length ≥ SCOMP_SZ - 1
    ·
      have hk' : s.k ≥ 10 - 1 := by rw [hk]; simp [SCOMP_SZ] at hk9; omega
      rw [cpPre_full s hA0 hk' hd hg, hget, if_pos (Or.inr rfl), cpPost_skip _ (Or.inr rfl), comp_loop2_is.exit (by simp) _]
      refine ⟨s.i, s.k, c, s.scomp, s.m, s.u, s.l, s.stype, s.smask, s.n_objs, s.comp_szip_mode, s.comp_info, s.comp_type, s.no_param, true, rfl, ?_⟩
      simp only [toStr_cons]
      rw [compValue_cons, if_pos (by simpa using hk9)]
      trivial
    · have hk8 : sc.length ≤ 8 := by simp [SCOMP_SZ] at hk9; omega
      have hk' : ¬ (s.k ≥ 10 - 1) := by rw [hk]; omega
      obtain ⟨a, b, jr, rfl, hA2, -⟩ := tokbuf sc sj 10 hscl (by omega)
      rw [← hsc, ← hk] at hA2
      have hsetc : s.scomp.set s.k.toNat c = (sc ++ [c]) ++ b :: jr := by rw [hk, hsc]; exact set_tok c
      have hscl10 : ((sc ++ [c]) ++ b :: jr).length = 10 := by simp at hscl ⊢; omega
      have hmk9 : ¬ ((toStr sc).length ≥ SCOMP_SZ - 1) := by simpa using hk9
      rw [cpPre_store s hA0 hk' hA2 hd hg, hget, hsetc, if_neg (by simp [hd, hg])]
      by_cases hsp : c = 32
      ·
        subst hsp
        have hmsp : toChar 32 = ' ' := by decide
        rw [if_pos (Or.inl rfl)]
        have hmodel : compValue (toStr (32 :: cs)) (toStr sc) =
            if ((toStr cs).all Char.isDigit && decide ((toStr cs).length ≤ STYPE_SZ - 1) && decide (toStr sc ≠ "SZIP".toList)) = true then
              compOfName (toStr sc) (toStr cs).length false (atoi (toStr cs)) else none := by
          simp only [toStr_cons]
          rw [compValue_cons, if_neg hmk9, if_pos hmsp]
        rw [hmodel]
        by_cases hsz : toStr sc = "SZIP".toList
        ·
          have hcond : ¬ (((toStr cs).all Char.isDigit && decide ((toStr cs).length ≤ STYPE_SZ - 1) && decide (toStr sc ≠ "SZIP".toList)) = true) := by
            simp [hsz]
          rw [if_neg hcond]
          obtain ⟨u', c', m', l', st', sk', i', no', sm', info', g', hA⟩ := cpA_space_szip (fuel + 1)
            { s with c_ := 32, scomp := (sc ++ [32]) ++ b :: jr } bs rest hcbs hlen pre cs sc jr b hbs hstr hl hi rfl hk rfl hcsc hsz hstl hsml hnol
            (by omega) hd hg
          rw [hA]
          cases g' with
          | true =>
            rw [cpB_skip _ (Or.inr rfl), cpPost_skip _ (Or.inr rfl), comp_loop2_is.exit (by simp) _]
            exact ⟨i', s.k, c', sc ++ 0 :: b :: jr, m', u', l', st', sk', no', sm', info', s.comp_type, s.no_param, true, rfl, rfl⟩
          | false =>
            obtain ⟨ty, g, hB, hres⟩ := cpB_spec { s with
                c_ := c', scomp := sc ++ 0 :: b :: jr, l := l', m := m', u := u', stype := st', smask := sk', i := i', n_objs := no',
                comp_szip_mode := sm', comp_info := info', gto := false } sc (b :: jr) rfl hcsc hd rfl
            rw [hB]
            have hnone : compOfName (toStr sc) (Int.toNat m') (decide (s.no_param ≠ 0)) info' = none := by
              rw [hsz]; simp [compOfName]
            have hgt : g = true := by
              have := hres; rw [show (compOfName (toStr sc) (Int.toNat m') (decide (s.no_param ≠ 0)) info') = none from hnone] at this; exact this
            subst hgt
            rw [cpPost_skip _ (Or.inr rfl), comp_loop2_is.exit (by simp) _]
            exact ⟨i', s.k, c', sc ++ 0 :: b :: jr, m', u', l', st', sk', no', sm', info', ty, s.no_param, true, rfl, rfl⟩
        · obtain ⟨u', c', m', st', info', i', g', hA, hresA⟩ := cpA_space_digits (fuel + 1)
            { s with c_ := 32, scomp := (sc ++ [32]) ++ b :: jr } bs rest hlen pre cs sc jr b hbs hstr hl hi rfl hk rfl hcsc hsz hstl hccs
            (by omega) hd hg
          rw [hA]
          have hcondiff : (((toStr cs).all Char.isDigit && decide ((toStr cs).length ≤ STYPE_SZ - 1) && decide (toStr sc ≠ "SZIP".toList)) = true) ↔
              ((toStr cs).all Char.isDigit = true ∧ cs.length ≤ 4) := by
            have hsz' : ¬ toStr sc = ['S', 'Z', 'I', 'P'] := hsz
            simp [hsz', STYPE_SZ]
          by_cases hok : (toStr cs).all Char.isDigit = true ∧ cs.length ≤ 4
          · rw [if_pos hok] at hresA
            obtain ⟨rfl, rfl, rfl, rfl⟩ := hresA
            rw [if_pos (hcondiff.mpr hok)]
            have hplen : pre.length + cs.length + 1 = bs.length := by rw [hbs]; simp; omega
            obtain ⟨ty, g, hfin, hres⟩ := cp_finish fuel { s with
                c_ := c', scomp := sc ++ 0 :: b :: jr, m := ((cs.length : Nat) : Int), u := u', stype := st',
                comp_info := ((atoi (toStr cs) : Nat) : Int), i := ((pre.length + cs.length : Nat) : Int), gto := false } sc (b :: jr) rfl hcsc hd rfl
              (by show ¬ ((((pre.length + cs.length : Nat) : Int) + 1) % 4294967296 < s.len); rw [hl]; omega)
            refine ⟨_, _, _, _, _, _, _, _, _, _, _, _, _, _, _, hfin.trans rfl, ?_⟩
            rw [show compOfName (toStr sc) (toStr cs).length false (atoi (toStr cs)) =
              compOfName (toStr sc) (Int.toNat ((cs.length : Nat) : Int)) (decide (s.no_param ≠ 0)) ((atoi (toStr cs) : Nat) : Int) by rw [hnp]; simp]
            cases hco : compOfName (toStr sc) (Int.toNat ((cs.length : Nat) : Int)) (decide (s.no_param ≠ 0)) ((atoi (toStr cs) : Nat) : Int) with
            | none => rw [hco] at hres; exact hres
            | some cv => rw [hco] at hres; exact ⟨hres.1, hres.2.1, hres.2.2, rfl⟩
          · rw [if_neg hok] at hresA
            subst hresA
            rw [if_neg (fun h => hok (hcondiff.mp h))]
            rw [cpB_skip _ (Or.inr rfl), cpPost_skip _ (Or.inr rfl), comp_loop2_is.exit (by simp) _]
            exact ⟨i', s.k, c', sc ++ 0 :: b :: jr, m', u', s.l, st', s.smask, s.n_objs, s.comp_szip_mode, info', s.comp_type, s.no_param, true, rfl, rfl⟩
      · have hmsp : ¬ toChar c = ' ' := fun h => hsp (by simpa using h32.mp h)
        by_cases hcse : cs = []
        ·
          subst hcse
          have hplast : pre.length + 1 = bs.length := by rw [hbs]; simp
          rw [if_pos (Or.inr (hlast.mpr rfl))]
          rw [cpA_last (fuel + 1) _ bs hlen pre sc jr b (by exact hl) (by exact hi) hplast (by exact hsp) (by exact hk) (by rfl) (by exact hscl10)]
          obtain ⟨ty, g, hfin, hres⟩ := cp_finish fuel { s with c_ := c, scomp := (sc ++ [c]) ++ 0 :: jr, no_param := 1 } (sc ++ [c]) jr rfl
            (hcsc.snoc hc) hd hg (by show ¬ ((s.i + 1) % 4294967296 < s.len); rw [hi, hl]; omega)
          refine ⟨_, _, _, _, _, _, _, _, _, _, _, _, _, _, _, hfin.trans rfl, ?_⟩
          rw [toStr_cons, toStr_nil, compValue_cons, if_neg hmk9, if_neg hmsp,
            show compOfName (toStr sc ++ [toChar c]) 0 true (-1) =
              compOfName (toStr (sc ++ [c])) (Int.toNat s.m) (decide ((1 : Int) ≠ 0)) s.comp_info by rw [hm, hinfo]; simp]
          cases hco : compOfName (toStr (sc ++ [c])) (Int.toNat s.m) (decide ((1 : Int) ≠ 0)) s.comp_info with
          | none => rw [hco] at hres; exact hres
          | some cv => rw [hco] at hres; exact ⟨hres.1, hres.2.1, hres.2.2, rfl⟩
        ·
          rw [if_neg (by rintro (h | h); exact hsp h; exact hcse (hlast.mp h)), cpPost_step _ (by exact hd) (by exact hg)]
          obtain ⟨i', k', c', scomp', m', u', l', st', sk', no', szm', info', ty', np', g', hrun, hres⟩ := ih (pre ++ [c]) (sc ++ [c]) (b :: jr)
            { s with c_ := c, scomp := (sc ++ [c]) ++ b :: jr, i := (s.i + 1) % 4294967296, k := s.k + 1 }
            fuel (by show At s.str s.len ((s.i + 1) % 4294967296) _ _ _ _; rw [hw]; exact hnext) hcse (by show s.k + 1 = _; rw [hk]; simp) rfl
            (by simp at hscl10 ⊢; omega) (hcsc.snoc hc) hm hnp hinfo hstl hsml hnol (by omega) hd hg
          refine ⟨i', k', c', scomp', m', u', l', st', sk', no', szm', info', ty', np', g', by rw [hrun], ?_⟩
          obtain ⟨y, ys, rfl⟩ := List.exists_cons_of_ne_nil hcse
          simp only [toStr_cons]
          rw [compValue_cons, if_neg hmk9, if_neg hmsp]
          simpa using hres


/-! The straight-line code around the loops, cut into pieces: copies of the generated text, `parse_comp_split` ties them to it. -/

def pcA (str n_objs : List Int) (comp_szip_mode comp_info comp_type : Int) : parse_comp.St :=
  let s : parse_comp.St := { str := str, n_objs := n_objs, comp_szip_mode := comp_szip_mode, comp_info := comp_info, comp_type := comp_type, obj := List.replicate 256 170, scomp := List.replicate 10 170, stype := List.replicate 5 170, smask := List.replicate 3 170, obj_list_blk := [] }
  have s : parse_comp.St := parse_comp.chk s (0 ≤ 0 ∧ (0 : Int) ∈ (s.str.drop (Int.toNat (0))))
  have s : parse_comp.St := parse_comp.St.set_len s ((Int.ofNat ((s.str.drop (Int.toNat (0))).takeWhile (· ≠ 0)).length))
  have s : parse_comp.St := parse_comp.St.set_end_obj s ((- 1))
  have s : parse_comp.St := parse_comp.St.set_no_param s (0)
  have s : parse_comp.St := parse_comp.St.set_i s (((0) % 4294967296))
  have s : parse_comp.St := parse_comp.St.set_n s (0)
  s

def pcB (fuel : Nat) (s : parse_comp.St) : parse_comp.St :=
  have s : parse_comp.St := if (s.end_obj = (- 1)) then
      have s : parse_comp.St := parse_comp.St.set_retnull s (true)
      have s : parse_comp.St := parse_comp.St.set_done s (true)
      s
    else
      s
  have s : parse_comp.St := if s.done ∨ s.gto then s else
    have s : parse_comp.St := parse_comp.chk s ((s.end_obj = 0) ∨ (0 ≤ (s.end_obj - 1) ∧ (s.end_obj - 1) < s.str.length))
    have s : parse_comp.St := if ((s.end_obj = 0) ∨ ((s.str.getD (Int.toNat ((s.end_obj - 1))) 0) = 44)) then
        have s : parse_comp.St := parse_comp.St.set_retnull s (true)
        have s : parse_comp.St := parse_comp.St.set_done s (true)
        s
      else
        s
    s
  have s : parse_comp.St := if s.done ∨ s.gto then s else
    have s : parse_comp.St := parse_comp.St.set_n s ((s.n + 1))
    s
  have s : parse_comp.St := if s.done ∨ s.gto then s else
    have s : parse_comp.St := parse_comp.chk s ((0 : Int) ≤ (Int.tdiv (((((s.n) % 18446744073709551616) * 256)) % 18446744073709551616) 1))
    have s : parse_comp.St := parse_comp.St.set_obj_list_blk s (List.replicate (Int.toNat (Int.tdiv (((((s.n) % 18446744073709551616) * 256)) % 18446744073709551616) 1)) 170)
    have s : parse_comp.St := parse_comp.St.set_obj_list s (0)
    s
  have s : parse_comp.St := if s.done ∨ s.gto then s else
    have s : parse_comp.St := parse_comp.chk s (0 < s.n_objs.length)
    have s : parse_comp.St := parse_comp.St.set_n_objs s (s.n_objs.set (Int.toNat (0)) (s.n))
    s
  have s : parse_comp.St := if s.done ∨ s.gto then s else
    have s : parse_comp.St := parse_comp.St.set_j s (0)
    have s : parse_comp.St := parse_comp.St.set_k s (0)
    have s : parse_comp.St := parse_comp.St.set_n s (0)
    have s : parse_comp.St := parse_comp.loop1 fuel s
    s
  s

def pcC (fuel : Nat) (s : parse_comp.St) : parse_comp.St :=
  have s : parse_comp.St := if s.done ∨ s.gto then s else
    have s : parse_comp.St := if ((s.end_obj + 1) = s.len) then
        have s : parse_comp.St := parse_comp.St.set_gto s (true)
        s
      else
        s
    s
  have s : parse_comp.St := if s.done ∨ s.gto then s else
    have s : parse_comp.St := parse_comp.St.set_m s (0)
    s
  have s : parse_comp.St := if s.done ∨ s.gto then s else
    have s : parse_comp.St := parse_comp.St.set_i s ((((s.end_obj + 1)) % 4294967296))
    have s : parse_comp.St := parse_comp.St.set_k s (0)
    have s : parse_comp.St := parse_comp.loop2 fuel s
    s
  s

/-- the `switch (comp->type)` that checks the parameter -/
def pcD (s : parse_comp.St) : parse_comp.St :=
  have s : parse_comp.St := if s.done ∨ s.gto then s else
    let sw : Int := s.comp_type
    have s : parse_comp.St :=
      if sw = ((1) % 4294967296) then
          s
      else
        if sw = ((3) % 4294967296) then
            have s : parse_comp.St := if (s.comp_info ≤ 0) then
                have s : parse_comp.St := parse_comp.St.set_gto s (true)
                s
              else
                s
            s
        else
          if sw = ((4) % 4294967296) then
              have s : parse_comp.St := if ((s.comp_info < 0) ∨ (s.comp_info > 9)) then
                  have s : parse_comp.St := parse_comp.St.set_gto s (true)
                  s
                else
                  s
              s
          else
            if sw = ((7) % 4294967296) then
                have s : parse_comp.St := if ((s.comp_info < 0) ∨ (s.comp_info > 100)) then
                    have s : parse_comp.St := parse_comp.St.set_gto s (true)
                    s
                  else
                    s
                s
            else
              if sw = ((5) % 4294967296) then
                  have s : parse_comp.St := parse_comp.St.set_gto s (true)
                  s
              else
                  s
    s
  s

def pcE (s : parse_comp.St) : parse_comp.St :=
  have s : parse_comp.St := if s.done ∨ s.gto then s else
    have s : parse_comp.St := parse_comp.St.set_ret s (s.obj_list)
    have s : parse_comp.St := parse_comp.St.set_done s (true)
    s
  have s : parse_comp.St := if s.done then s else
    have s : parse_comp.St := parse_comp.St.set_gto s (false)
    s
  have s : parse_comp.St := if s.done ∨ s.gto then s else
    have s : parse_comp.St := parse_comp.St.set_retnull s (true)
    have s : parse_comp.St := parse_comp.St.set_done s (true)
    s
  s

theorem parse_comp_split (fuel : Nat) (str n_objs : List Int) (szm info ty : Int) :
    parse_comp fuel str n_objs szm info ty = pcE (pcD (pcC fuel (pcB fuel (parse_comp.loop0 fuel (pcA str n_objs szm info ty))))) := rfl

theorem comp_listInit (fuel : Nat) (a : NameSt) (s : parse_comp.St) (hd : a.done = false) (hg : a.gto = false) :
    pcB fuel (compNames.put a s) =
      if (listInit a).done then compNames.put (listInit a) s else parse_comp.loop1 fuel (compNames.put (listInit a) s) := by
  by_cases h1 : a.end_obj = -1
  · simp only [pcB, listInit, compNames, hd, hg, h1, c18logic]
  by_cases h2 : (a.end_obj = 0) ∨ ((a.str.getD (Int.toNat ((a.end_obj - 1))) 0) = 44) <;>
    simp only [pcB, parse_comp.chk, listInit, NameSt.chk, compNames, hd, hg, h1, h2, c18logic]

theorem comp_text : NameText compNames parse_comp.loop0 parse_comp.loop0.body parse_comp.loop1 parse_comp.loop1.body pcB
    (fun fuel s => pcD (pcC fuel s)) pcE where
  scan := ⟨.of_eqs (fun _ => rfl) (fun _ _ => rfl), fun f a s _ => comp_scanStep f a s⟩
  names := ⟨.of_eqs (fun _ => rfl) (fun _ _ => rfl), fun f a s hg =>
    comp_nameStep f a s (Bool.eq_false_iff.mpr fun h => hg.2 (.inl h)) (Bool.eq_false_iff.mpr fun h => hg.2 (.inr h))⟩
  list := comp_listInit
  skip fuel a s h := by simp only [pcC, pcD, compNames, h, if_true]
  empty fuel a s hd hg h := by simp only [pcC, pcD, compNames, hd, hg, h, c18logic]
  ret a s := by cases hd : a.done <;> cases hg : a.gto <;> simp only [pcE, nameRet, compNames, hd, hg, c18logic, Bool.false_eq_true]

theorem pcA_eq (bs rest n_objs : List Int) (szm info ty : Int) (hbs : CStr bs) :
    pcA (bs ++ 0 :: rest) n_objs szm info ty =
      compNames.put (nameInit (bs ++ 0 :: rest) bs.length n_objs) (pcA (bs ++ 0 :: rest) n_objs szm info ty) := by
  have htw := takeWhile_cstr bs rest hbs
  have hmem : (0 : Int) ∈ bs ++ 0 :: rest := by simp
  have h : compNames.get (pcA (bs ++ 0 :: rest) n_objs szm info ty) = nameInit (bs ++ 0 :: rest) bs.length n_objs := by
    simp only [pcA, compNames, nameInit, parse_comp.chk, Int.toNat_zero, List.drop_zero, htw, hmem, Int.ofNat_eq_natCast, Int.reduceMod, Int.reduceNeg, c18logic, Std.le_refl]
  exact congrArg (compNames.put · _) h

theorem pcC_value (fuel : Nat) (s : parse_comp.St) (bs rest : List Int) (e : Nat) (hstr : s.str = bs ++ 0 :: rest) (hl : s.len = bs.length)
    (he : s.end_obj = e) (hel : e + 1 < bs.length) (hscl : s.scomp.length = 10) (hnp : s.no_param = 0) (hinfo : s.comp_info = -1)
    (hstl : s.stype.length = 5) (hsml : s.smask.length = 3) (hnol : 0 < s.n_objs.length)
    (hbs : CStr bs) (hlen : bs.length < 2 ^ 31) (hf : bs.length ≤ fuel) (hd : s.done = false) (hg : s.gto = false) :
    ∃ i k c scomp m u l stype smask nobjs szm info ty np g, pcC fuel s = { s with
        i := i, k := k, c_ := c, scomp := scomp, m := m, u := u, l := l, stype := stype, smask := smask, n_objs := nobjs,
        comp_szip_mode := szm, comp_info := info, comp_type := ty, no_param := np, gto := g } ∧
      (match compValue (toStr (bs.drop (e + 1))) [] with
       | none => g = true
       | some cv => g = false ∧ ty = cv.type ∧ info = cv.info ∧ nobjs = s.n_objs) := by
  have hstep : pcC fuel s = parse_comp.loop2 fuel { s with m := 0, i := ((e + 1 : Nat) : Int), k := 0 } := by
    have h1 : ¬ (s.end_obj + 1 = s.len) := by rw [he, hl]; omega
    have hw : (s.end_obj + 1) % 4294967296 = ((e + 1 : Nat) : Int) := by rw [he]; omega
    simp only [pcC, show ¬ (s.done = true ∨ s.gto = true) by simp [hd, hg], eq_false h1, hw, c18logic]
  rw [hstep]
  have hne : bs.drop (e + 1) ≠ [] := by
    intro h; have := congrArg List.length h; simp at this; omega
  obtain ⟨i, k, c, scomp, m, u, l, stype, smask, nobjs, szm, info, ty, np, g, hrun, hres⟩ := comp_loop2 bs rest hbs (bs.drop (e + 1)) (bs.take (e + 1)) [] s.scomp
    { s with m := 0, i := ((e + 1 : Nat) : Int), k := 0 } fuel ⟨hstr, hl, by simp; omega, (List.take_append_drop _ _).symm, hlen⟩ hne
    rfl rfl (by simpa using hscl) CStr.nil rfl hnp hinfo hstl hsml hnol (by simp; omega) hd hg
  refine ⟨i, k, c, scomp, m, u, l, stype, smask, nobjs, szm, info, ty, np, g, by rw [hrun], ?_⟩
  simpa only [toStr_nil] using hres

theorem pcD_spec (s : parse_comp.St) (hty : s.comp_type = 0 ∨ s.comp_type = 1 ∨ s.comp_type = 3 ∨ s.comp_type = 4 ∨ s.comp_type = 7)
    (hd : s.done = false) (hg : s.gto = false) :
    pcD s = { s with gto := !compParamOk ⟨s.comp_type, s.comp_info⟩ } := by
  have hdg : ¬ (s.done = true ∨ s.gto = true) := by simp [hd, hg]
  have hs : s = { s with gto := false } := by rw [← hg]
  rcases hty with h | h | h | h | h
  · rw [hs]; simp [pcD, compParamOk, COMP_CODE_SKPHUFF, COMP_CODE_DEFLATE, COMP_CODE_JPEG, h, hd]
  · rw [hs]; simp [pcD, compParamOk, COMP_CODE_SKPHUFF, COMP_CODE_DEFLATE, COMP_CODE_JPEG, h, hd]
  · by_cases hi : s.comp_info ≤ 0
    · have : ¬ s.comp_info > 0 := by omega
      simp [pcD, compParamOk, COMP_CODE_SKPHUFF, h, hdg, hi, this]
    · have : s.comp_info > 0 := by omega
      rw [hs]; simp [pcD, compParamOk, COMP_CODE_SKPHUFF, h, hd, hi, this]
  · by_cases hi : s.comp_info < 0 ∨ s.comp_info > 9
    · have : ¬ (0 ≤ s.comp_info ∧ s.comp_info ≤ 9) := by omega
      simp [pcD, compParamOk, COMP_CODE_SKPHUFF, COMP_CODE_DEFLATE, h, hdg, hi, this]
    · have : (0 ≤ s.comp_info ∧ s.comp_info ≤ 9) := by omega
      rw [hs]; simp [pcD, compParamOk, COMP_CODE_SKPHUFF, COMP_CODE_DEFLATE, h, hd, hi, this]
  · by_cases hi : s.comp_info < 0 ∨ s.comp_info > 100
    · have : ¬ (0 ≤ s.comp_info ∧ s.comp_info ≤ 100) := by omega
      simp [pcD, compParamOk, COMP_CODE_SKPHUFF, COMP_CODE_DEFLATE, COMP_CODE_JPEG, h, hdg, hi, this]
    · have : (0 ≤ s.comp_info ∧ s.comp_info ≤ 100) := by omega
      rw [hs]; simp [pcD, compParamOk, COMP_CODE_SKPHUFF, COMP_CODE_DEFLATE, COMP_CODE_JPEG, h, hd, hi, this]

theorem pcD_skip (s : parse_comp.St) (h : s.done = true ∨ s.gto = true) : pcD s = s := by
  simp only [pcD, h, if_true]

/-- what `parse_comp` hands back for an accepted string (`ret = 0`: the list, at the start of its block) -/
structure CompOut (s : parse_comp.St) (n_objs0 : List Int) (n : Nat) (names : List Str) (c : Comp) : Prop where
  notnull : s.retnull = false
  ret : s.ret = 0
  nobjs : s.n_objs = n_objs0.set 0 (n : Int)
  count : names.length = n
  blk : s.obj_list_blk.length = n * 256
  rows : ∀ i (h : i < names.length), toStr (cstrAt s.obj_list_blk (i * 256)) = names[i]
  type : s.comp_type = c.type
  info : s.comp_info = c.info

/-- the run is a variable `s` bound by `hs` and substituted at the end of each case: the steps before that are far quicker to check on a variable -/
theorem parse_comp_main (fuel : Nat) (bs rest n_objs : List Int) (szm ty : Int) (hbs : CStr bs) (hlen : bs.length < 2 ^ 31) (hf : bs.length ≤ fuel)
    (hno : 0 < n_objs.length) (s : parse_comp.St)
    (hs : s = parse_comp fuel (bs ++ 0 :: rest) n_objs szm (-1) ty) :
    s.ub = false ∧ s.oof = false ∧ s.done = true ∧
    (match parseComp (toStr bs) with
     | none => s.retnull = true
     | some (n, names, c) => CompOut s n_objs n names c) := by
  rw [parse_comp_split, pcA_eq _ _ _ _ _ _ hbs] at hs
  rw [parseComp_eq]
  have href := fun hp => comp_text.refused bs rest hbs hlen fuel hf n_objs hno (pcA (bs ++ 0 :: rest) n_objs szm (-1) ty) hp _ rfl
  cases hp : parseNames (toStr bs) with
  | none => subst hs; exact href (Or.inl hp)
  | some p =>
    obtain ⟨e, names⟩ := p
    rw [Option.bind_some, ← toStr_drop]
    by_cases hemp : e + 1 = bs.length
    · rw [if_pos (by rw [List.isEmpty_iff, ← List.length_eq_zero_iff]; simp; omega)]
      subst hs
      exact href (Or.inr ⟨e, names, hp, hemp⟩)
    · obtain ⟨a', hN, hres⟩ := comp_text.spec bs rest hbs hlen fuel hf n_objs hno (pcA (bs ++ 0 :: rest) n_objs szm (-1) ty)
      rw [hN] at hs
      rw [hp] at hres
      obtain ⟨ns, rfl, o⟩ := hres
      obtain ⟨hel, -⟩ := lastColon_bound _ _ (parseNames_some hp).1
      rw [toStr_length] at hel
      rw [if_neg (by rw [List.isEmpty_iff, ← List.length_eq_zero_iff]; simp; omega)]
      obtain ⟨i', k', c', sc', m', u', l', st', sk', no', szm', info', ty', np', g', hC, hres⟩ := pcC_value fuel
        (compNames.put a' (pcA (bs ++ 0 :: rest) n_objs szm (-1) ty)) bs rest e
        o.str o.len o.end_obj (by omega) rfl rfl rfl rfl rfl
        (by show 0 < a'.n_objs.length; rw [o.n_objs, List.length_set]; exact hno) hbs hlen hf o.done o.gto
      rw [hC] at hs
      cases hcv : compValue (toStr (bs.drop (e + 1))) [] with
      | none =>
        rw [hcv] at hres
        rw [pcD_skip _ (Or.inr hres)] at hs
        subst hs
        exact comp_text.epi_refused _ (Or.inr ⟨by exact o.done, hres⟩) (by exact o.ub) (by exact o.oof)
      | some cv =>
        rw [hcv] at hres
        obtain ⟨rfl, rfl, rfl, rfl⟩ := hres
        rw [pcD_spec _ (compValue_type _ _ _ hcv) (by exact o.done) rfl] at hs
        rw [Option.bind_some]
        by_cases hpok : compParamOk cv = true
        · rw [comp_text.epi_ok _ (by exact o.done) (by show (!compParamOk ⟨cv.type, cv.info⟩) = false; rw [show compParamOk ⟨cv.type, cv.info⟩ = true from hpok]; rfl)] at hs
          rw [if_pos hpok]
          have hv : (toStr (bs.drop (e + 1))).count ',' = 0 := List.count_eq_zero.mpr (compValue_no_comma _ _ _ hcv).2
          obtain ⟨o1, o2, o3⟩ := names_out bs hbs e ns hp o.names hv
          subst hs
          exact ⟨o.ub, o.oof, rfl, o.retnull, o.obj_list, o.n_objs, o1, (congrArg List.length o.blk).trans o2,
            fun i h => (congrArg (fun b => toStr (cstrAt b (i * 256))) o.blk).trans (o3 i h), rfl, rfl⟩
        · rw [if_neg hpok]
          subst hs
          exact comp_text.epi_refused _ (Or.inr ⟨by exact o.done, by show (!compParamOk ⟨cv.type, cv.info⟩) = true; rw [show compParamOk ⟨cv.type, cv.info⟩ = false by simpa using hpok]; rfl⟩)
            (by exact o.ub) (by exact o.oof)

end comp

end H4.C18Fn
