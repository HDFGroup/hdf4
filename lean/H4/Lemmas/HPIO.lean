import H4.HPIO
/-! Two equations for the read step `hpReadZ` of the hand model `H4.HPIO`, from which `H4.Props.C16` and the theorems on the translated text
    (`H4.Props.C16Fn`) both start. -/
namespace H4.Lemmas.C16Fn
open H4.HPIO

theorem hpReadZ_false (h : HP) (n : Nat) (fs fr : Option Fault) : hpReadZ h n false fs fr = hpRead true h n fs fr := by
  unfold hpReadZ hpRead
  split <;> rename_i h1 ok _ <;> cases ok <;> simp <;> cases fr <;> simp

end H4.Lemmas.C16Fn

namespace H4.Props.C16
open H4.HPIO

theorem hpReadZ_seek_ok (h : HP) (n : Nat) (zok : Bool) (fs fr : Option Fault) (need : h.last = .write ∨ h.last = .unknown) :
    hpReadZ h n zok none fr = hpReadZ ⟨⟨h.s.data, h.cur⟩, h.cur, .seek⟩ n zok fs fr := by
  simp [hpReadZ, hpSeek, need]

end H4.Props.C16
