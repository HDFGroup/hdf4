/-! Arithmetic behind the big-endian field codecs of the models (`UINT16ENCODE` / `INT32DECODE` ... of `hdf_priv.h`): base-256 digits, two's
    complement, a field repeated `n` times, lists of pairs stored column by column (all tags, then all refs). -/
namespace H4.BigEndian

theorem digits16 {n : Nat} (h : n < 65536) : n / 256 % 256 * 256 + n % 256 = n := by omega

theorem digits32 {n : Nat} (h : n < 4294967296) :
    ((n / 16777216 % 256 * 256 + n / 65536 % 256) * 256 + n / 256 % 256) * 256 + n % 256 = n := by omega

theorem wrap_unwrap {H : Nat} {i : Int} (h1 : -(H : Int) ≤ i) (h2 : i < H) :
    (if (i % (2 * H : Nat)).toNat < H then ((i % (2 * H : Nat)).toNat : Int)
     else ((i % (2 * H : Nat)).toNat : Int) - (2 * H : Nat)) = i := by
  have e : ((i % (2 * H : Nat)).toNat : Int) = i % (2 * H : Nat) := Int.toNat_of_nonneg (Int.emod_nonneg _ (by omega))
  rw [e]
  by_cases c : 0 ≤ i
  · rw [Int.emod_eq_of_lt c (by omega), if_pos (by omega)]
  · have : i % (2 * H : Nat) = i + (2 * H : Nat) := by
      rw [← Int.add_mul_emod_self_left i (2 * H : Nat) 1, Int.mul_one]
      exact Int.emod_eq_of_lt (by omega) (by omega)
    rw [this, if_neg (by omega)]; omega

theorem unwrap_wrap {H n : Nat} (h : n < 2 * H) :
    ((if n < H then (n : Int) else (n : Int) - (2 * H : Nat)) % (2 * H : Nat)).toNat = n := by
  by_cases c : n < H
  · rw [if_pos c, Int.emod_eq_of_lt (by omega) (by omega)]; omega
  · rw [if_neg c, ← Int.add_mul_emod_self_left _ (2 * H : Nat) 1, Int.mul_one, Int.emod_eq_of_lt (by omega) (by omega)]; omega

theorem many_roundtrip {α : Type} {enc : α → List UInt8} {P : α → Prop} {decN : Nat → List UInt8 → Option (List α × List UInt8)}
    (h0 : ∀ r, decN 0 r = some ([], r))
    (hs : ∀ n a l r r', P a → decN n r = some (l, r') → decN (n + 1) (enc a ++ r) = some (a :: l, r'))
    (l : List α) (h : ∀ a ∈ l, P a) (r : List UInt8) : decN l.length (l.flatMap enc ++ r) = some (l, r) := by
  induction l with
  | nil => exact h0 r
  | cons a t ih =>
    rw [List.flatMap_cons, List.append_assoc]
    exact hs _ a t _ r (h a List.mem_cons_self) (ih fun x hx => h x (List.mem_cons_of_mem _ hx))

theorem flatMap_map {α β : Type} (l : List α) (f : α → β) (g : β → List UInt8) : l.flatMap (fun x => g (f x)) = (l.map f).flatMap g :=
  (List.flatMap_map ..).symm

theorem length_flatMap_const {α β} (l : List α) (g : α → List β) (c : Nat) (h : ∀ a, (g a).length = c) :
    (l.flatMap g).length = c * l.length := by
  induction l with
  | nil => rfl
  | cons a l ih => simp only [List.flatMap_cons, List.length_append, h, ih, List.length_cons]; rw [Nat.mul_succ]; omega

theorem zip_maps {α β : Type} (l : List (α × β)) : (l.map (·.1)).zip (l.map (·.2)) = l := by
  simp [← List.unzip_fst, ← List.unzip_snd, List.zip_unzip]

end H4.BigEndian
