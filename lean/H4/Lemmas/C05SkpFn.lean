import H4.Lemmas.C05Fn
/-! Lemmas for `H4.Props.C05SkpFn`: `HCIcskphuff_encode` and `HCIcskphuff_decode` of `hdf/src/cskphuff.c`, as TRANSLATED from the C
    text (`H4.Gen.Fn.Cskphuff`, regenerated on every run), compute the hand-written model (`H4.SkpHuff.encRunF` / `decRun`).

    Method: the body of the outer `while (length > 0)` loop is cut into the pieces the translator emits one after the other
    (`…_split`, proved by `rfl`, so any change of the generated text breaks it); each piece is executed symbolically under hypotheses that
    tie the fields of the state to the model. -/
namespace H4.Lemmas.C05SkpFn
open H4 H4.SkpHuff H4.Gen.Cskphuff H4.Gen.Fn.Cskphuff H4.C2L H4.Lemmas.C05Fn

/-- the caller's buffer `const uint8 *buf` -/
def bytes (bs : List UInt8) : List Int := bs.map fun b => (b.toNat : Int)

/-- `skphuff_info->left` (an array of `skip_size` rows `unsigned[SUCCMAX]`) holding the model's trees -/
def rowsL (ts : List Tree) : List (List Int) := ts.map fun t => arr t.left
/-- `skphuff_info->right` -/
def rowsR (ts : List Tree) : List (List Int) := ts.map fun t => arr t.right
/-- `skphuff_info->up` (rows `uint8[TWICEMAX]`) -/
def rowsU (ts : List Tree) : List (List Int) := ts.map fun t => arr t.up

/-- the cells the `Hbitwrite(aid, count, data)` calls append to region `io_out`: `count, data` per call -/
def flat : List (Nat × Nat) → List Int
  | [] => []
  | f :: fs => (f.1 : Int) :: (f.2 : Int) :: flat fs

/-- the model's trees after the coder has processed `bs` starting in lane `pos` (what `encRunF` / `decRun` thread through) -/
def runTrees (skip : Nat) : List Tree → Nat → List UInt8 → List Tree
  | ts, _, [] => ts
  | ts, pos, b :: bs => runTrees skip (ts.set pos (splay (getTree ts pos) b.toNat)) ((pos + 1) % skip) bs

theorem flat_append (a b : List (Nat × Nat)) : flat (a ++ b) = flat a ++ flat b := by
  induction a with
  | nil => rfl
  | cons f fs ih => simp [flat, ih]

@[simp] theorem bytes_length (bs : List UInt8) : (bytes bs).length = bs.length := by simp [bytes]

theorem bytes_getD (bs : List UInt8) (i : Nat) (h : i < bs.length) : (bytes bs).getD i 0 = ((bs[i].toNat : Nat) : Int) := by
  simp [bytes, List.getD, h]

theorem getTree_eq (ts : List Tree) (pos : Nat) (h : pos < ts.length) : getTree ts pos = ts[pos] := by
  simp [getTree, List.getD, h]

/-- `rowsL`, `rowsR`, `rowsU` are this at `Tree.left`, `Tree.right`, `Tree.up` -/
def rows (f : Tree → Array Nat) (ts : List Tree) : List (List Int) := ts.map fun t => arr (f t)

theorem rows_length (f : Tree → Array Nat) (ts : List Tree) : (rows f ts).length = ts.length := List.length_map _

theorem rows_getD (f : Tree → Array Nat) (ts : List Tree) (pos : Nat) (h : pos < ts.length) :
    (rows f ts).getD pos [] = arr (f (getTree ts pos)) := by
  simp [rows, List.getD, h, getTree_eq]

theorem rows_set (f : Tree → Array Nat) (ts : List Tree) (pos : Nat) (t : Tree) :
    (rows f ts).set pos (arr (f t)) = rows f (ts.set pos t) := by
  simp [rows, List.map_set]

/-- `skip_pos = p` selects existing rows of `skphuff_info->up/right/left`, and these rows hold tree `t` -/
structure Rows (p : Int) (U R L : List (List Int)) (t : Tree) : Prop where
  p0 : 0 ≤ p
  pu : p < U.length
  pr : p < R.length
  pl : p < L.length
  hU : U.getD (Int.toNat p) [] = arr t.up
  hR : R.getD (Int.toNat p) [] = arr t.right
  hL : L.getD (Int.toNat p) [] = arr t.left

theorem rows_at (ts : List Tree) (pos : Nat) (h : pos < ts.length) :
    Rows pos (rowsU ts) (rowsR ts) (rowsL ts) (getTree ts pos) := by
  have lu : (rowsU ts).length = ts.length := rows_length Tree.up ts
  have lr : (rowsR ts).length = ts.length := rows_length Tree.right ts
  have ll : (rowsL ts).length = ts.length := rows_length Tree.left ts
  exact ⟨by omega, by omega, by omega, by omega, by rw [Int.toNat_natCast]; exact rows_getD Tree.up ts pos h,
    by rw [Int.toNat_natCast]; exact rows_getD Tree.right ts pos h, by rw [Int.toNat_natCast]; exact rows_getD Tree.left ts pos h⟩

/-- `skip_pos = (skip_pos + 1) % skip_size` as the translator renders it -/
theorem tmod_succ (pos skip : Nat) : Int.tmod ((pos : Int) + 1) (skip : Int) = (((pos + 1) % skip : Nat) : Int) := by
  rw [show ((pos : Int) + 1) = ((pos + 1 : Nat) : Int) by omega]; exact tmod_nat _ _

theorem lane_step (pos k skip : Nat) : (pos + (k + 1)) % skip = ((pos + 1) % skip + k) % skip := by
  rw [Nat.mod_add_mod]; congr 1; omega

/-- `output_bits[]`, `bit_count[]`, `stack_ptr`, `bit_mask` of `HCIcskphuff_encode` as naturals -/
structure CStack where
  obs : List Nat
  bcs : List Nat
  sp : Nat
  mask : Nat

/-- the push part of the encoder loop body on the C arrays (`H4.SkpHuff.Stack.push` is the same on the model's list) -/
def apush (k : CStack) (bit : Bool) : CStack :=
  let obs1 := if bit then k.obs.set k.sp (k.obs.getD k.sp 0 ||| k.mask) else k.obs
  let bcs1 := k.bcs.set k.sp (k.bcs.getD k.sp 0 + 1)
  if k.bcs.getD k.sp 0 + 1 ≥ 32 then ⟨obs1.set (k.sp + 1) 0, bcs1.set (k.sp + 1) 0, k.sp + 1, 1⟩
  else ⟨obs1, bcs1, k.sp, (k.mask * 2) % 2 ^ 32⟩

/-- the cells `0..stack_ptr` of the two arrays are the model's stack, bottom first -/
structure SRel (k : CStack) (st : Stack) : Prop where
  lo : k.obs.length = 64
  lb : k.bcs.length = 64
  hsp : k.sp = st.below.length
  hmask : k.mask = st.mask
  ob : k.obs.take (k.sp + 1) = ((st.top :: st.below).map (·.2)).reverse
  bc : k.bcs.take (k.sp + 1) = ((st.top :: st.below).map (·.1)).reverse

theorem SRel.init (obs bcs : List Nat) (hlo : obs.length = 64) (hlb : bcs.length = 64) :
    SRel ⟨obs.set 0 0, bcs.set 0 0, 0, 1⟩ { top := (0, 0), below := [], mask := 1 } := by
  refine ⟨by simp [hlo], by simp [hlb], rfl, rfl, ?_, ?_⟩ <;> dsimp only <;> rw [take_set_succ _ _ _ (by omega)] <;> simp

theorem SRel.top {k : CStack} {st : Stack} (h : SRel k st) :
    k.obs.getD k.sp 0 = st.top.2 ∧ k.bcs.getD k.sp 0 = st.top.1 ∧ k.obs.take k.sp = (st.below.map (·.2)).reverse ∧
      k.bcs.take k.sp = (st.below.map (·.1)).reverse := by
  have h1 := take_succ_split k.obs k.sp (st.below.map (·.2)).reverse st.top.2 0 (by simpa using h.ob) (by simp [h.hsp])
  have h2 := take_succ_split k.bcs k.sp (st.below.map (·.1)).reverse st.top.1 0 (by simpa using h.bc) (by simp [h.hsp])
  exact ⟨h1.2.1, h2.2.1, h1.1, h2.1⟩

theorem apush_rel (k : CStack) (st : Stack) (bit : Bool) (h : SRel k st) (hsp : k.sp + 1 < 64) :
    SRel (apush k bit) (st.push bit) := by
  obtain ⟨obs, bcs, sp, mask⟩ := k
  obtain ⟨t2, t1, b2, b1⟩ := h.top
  obtain ⟨lo, lb, hsp', hm, ob0, -⟩ := h
  simp only at t2 t1 b2 b1 lo lb hsp' hm ob0 hsp
  have ob1 : ∀ v, (obs.set sp v).take (sp + 1) = (st.below.map (·.2)).reverse ++ [v] := by
    intro v; rw [take_set_succ _ _ _ (by omega), b2]
  have bc1 : ∀ v, (bcs.set sp v).take (sp + 1) = (st.below.map (·.1)).reverse ++ [v] := by
    intro v; rw [take_set_succ _ _ _ (by omega), b1]
  replace ob0 : obs.take (sp + 1) = (st.below.map (·.2)).reverse ++ [st.top.2] := by simpa using ob0
  unfold apush Stack.push
  simp only [t1, t2]
  by_cases hov : st.top.1 + 1 ≥ 32
  · simp only [hov, ↓reduceIte]
    refine ⟨by cases bit <;> simp [lo], by simp [lb], by simp [hsp'], rfl, ?_, ?_⟩
    · rw [take_set_succ _ _ _ (by cases bit <;> simp [lo] <;> omega)]
      cases bit
      · simp [ob0]
      · simp [ob1, hm]
    · rw [take_set_succ _ _ _ (by simp [lb]; omega), bc1]; simp
  · simp only [hov, ↓reduceIte]
    refine ⟨by cases bit <;> simp [lo], by simp [lb], hsp', by simp [hm, Nat.shiftLeft_eq], ?_, ?_⟩
    · cases bit
      · simp [ob0]
      · simp [ob1, hm]
    · simp [bc1]

theorem apush_sp (k : CStack) (bit : Bool) : (apush k bit).sp ≤ k.sp + 1 := by
  rw [apush, apply_ite CStack.sp]; split <;> simp

abbrev ESt := HCIcskphuff_encode.St

/-- first piece: `a = (unsigned)*buf + SUCCMAX; stack_ptr = 0; bit_mask = 1; output_bits[0] = 0; bit_count[0] = 0;` (generated text) -/
def encInit (s : ESt) : ESt :=
    have s : HCIcskphuff_encode.St := HCIcskphuff_encode.chk s (0 ≤ s.buf_i ∧ s.buf_i < s.buf.length)
    have s : HCIcskphuff_encode.St := HCIcskphuff_encode.St.set_a s (((((s.buf.getD (Int.toNat (s.buf_i)) 0) + (((255 + 1)) % 4294967296))) % 4294967296))
    have s : HCIcskphuff_encode.St := HCIcskphuff_encode.St.set_stack_ptr s (0)
    have s : HCIcskphuff_encode.St := HCIcskphuff_encode.St.set_bit_mask s (((1) % 4294967296))
    have s : HCIcskphuff_encode.St := HCIcskphuff_encode.chk s (0 < s.output_bits.length)
    have s : HCIcskphuff_encode.St := HCIcskphuff_encode.St.set_output_bits s (s.output_bits.set (Int.toNat (0)) (((0) % 4294967296)))
    have s : HCIcskphuff_encode.St := HCIcskphuff_encode.chk s (0 < s.bit_count.length)
    have s : HCIcskphuff_encode.St := HCIcskphuff_encode.St.set_bit_count s (s.bit_count.set (Int.toNat (0)) (((0) % 4294967296)))
    s

/-- last piece: `HCIcskphuff_splay(skphuff_info, *buf); skip_pos = (skip_pos + 1) % skip_size; buf++; length--;` (generated text) -/
def encTail (fuel : Nat) (s : ESt) : ESt :=
    have s : HCIcskphuff_encode.St := if s.done then s else
      have s : HCIcskphuff_encode.St := HCIcskphuff_encode.chk s (0 ≤ s.skphuff_info_skip_pos ∧ s.skphuff_info_skip_pos < s.skphuff_info_left.length)
      have s : HCIcskphuff_encode.St := HCIcskphuff_encode.chk s (0 ≤ s.skphuff_info_skip_pos ∧ s.skphuff_info_skip_pos < s.skphuff_info_right.length)
      have s : HCIcskphuff_encode.St := HCIcskphuff_encode.chk s (0 ≤ s.skphuff_info_skip_pos ∧ s.skphuff_info_skip_pos < s.skphuff_info_up.length)
      have s : HCIcskphuff_encode.St := HCIcskphuff_encode.chk s (0 ≤ s.buf_i ∧ s.buf_i < s.buf.length)
      let r0 : HCIcskphuff_splay.St := HCIcskphuff_splay fuel (s.skphuff_info_skip_pos) ((s.skphuff_info_left.getD (Int.toNat s.skphuff_info_skip_pos) [])) ((s.skphuff_info_right.getD (Int.toNat s.skphuff_info_skip_pos) [])) ((s.skphuff_info_up.getD (Int.toNat s.skphuff_info_skip_pos) [])) ((s.buf.getD (Int.toNat (s.buf_i)) 0))
      have s : HCIcskphuff_encode.St := HCIcskphuff_encode.St.set_skphuff_info_left s (s.skphuff_info_left.set (Int.toNat s.skphuff_info_skip_pos) r0.skphuff_info_left)
      have s : HCIcskphuff_encode.St := HCIcskphuff_encode.St.set_skphuff_info_right s (s.skphuff_info_right.set (Int.toNat s.skphuff_info_skip_pos) r0.skphuff_info_right)
      have s : HCIcskphuff_encode.St := HCIcskphuff_encode.St.set_skphuff_info_up s (s.skphuff_info_up.set (Int.toNat s.skphuff_info_skip_pos) r0.skphuff_info_up)
      have s : HCIcskphuff_encode.St := HCIcskphuff_encode.St.join s r0.ub r0.oof
      s
    have s : HCIcskphuff_encode.St := if s.done then s else
      have s : HCIcskphuff_encode.St := HCIcskphuff_encode.chk s (s.skphuff_info_skip_size ≠ 0)
      have s : HCIcskphuff_encode.St := HCIcskphuff_encode.St.set_skphuff_info_skip_pos s ((Int.tmod (s.skphuff_info_skip_pos + 1) s.skphuff_info_skip_size))
      s
    have s : HCIcskphuff_encode.St := if s.done then s else
      let e0 : Int := (s.buf_i + 1)
      have s : HCIcskphuff_encode.St := HCIcskphuff_encode.St.set_buf_i s (e0)
      s
    have s : HCIcskphuff_encode.St := if s.done then s else
      have s : HCIcskphuff_encode.St := HCIcskphuff_encode.St.set_length s ((s.length - 1))
      s
    s

/-- the body of `while (length > 0)` = first piece; the climb (`do … while (a != ROOT)`: the translator emits the body once, then
    `loop1`); the pops (`do … while (stack_ptr >= 0)`: body once, then `loop2`); last piece.  `rfl`: the generated text is literally
    this composition. -/
theorem enc_body_split (fuel : Nat) (s : ESt) : HCIcskphuff_encode.loop0.body fuel s =
    encTail fuel (HCIcskphuff_encode.loop2 fuel (HCIcskphuff_encode.loop2.body fuel
      (HCIcskphuff_encode.loop1 fuel (HCIcskphuff_encode.loop1.body fuel (encInit s))))) := by
  with_unfolding_all rfl

/-- the variables of the climb and the pops: everything else of the state is `s` -/
def eframe (s : ESt) (obs bcs : List Nat) (sp : Int) (mask a : Nat) (last : Int) : ESt :=
  { s with output_bits := ints obs, bit_count := ints bcs, stack_ptr := sp, bit_mask := mask, a := a, last_node := last }

/-- what every piece of the encoder's loop body needs: the rows at `skip_pos` hold `t`, nothing has gone wrong -/
def EBase (s : ESt) (t : Tree) : Prop :=
  Rows s.skphuff_info_skip_pos s.skphuff_info_up s.skphuff_info_right s.skphuff_info_left t ∧ s.ub = false ∧ s.oof = false ∧ s.done = false

theorem EBase.done {s : ESt} {t : Tree} (h : EBase s t) : s.done = false := h.2.2.2

theorem eframe_eframe (s : ESt) (obs bcs : List Nat) (sp : Int) (mask a : Nat) (last : Int) (obs' bcs' : List Nat) (sp' : Int) (mask' a' : Nat)
    (last' : Int) : eframe (eframe s obs bcs sp mask a last) obs' bcs' sp' mask' a' last' = eframe s obs' bcs' sp' mask' a' last' := rfl

def cframe (s : ESt) (k : CStack) (a : Nat) (last : Int) : ESt := eframe s k.obs k.bcs k.sp k.mask a last

theorem cframe_a (s : ESt) (k : CStack) (a : Nat) (last : Int) : (cframe s k a last).a = a := rfl
theorem cframe_done (s : ESt) (k : CStack) (a : Nat) (last : Int) : (cframe s k a last).done = s.done := rfl

theorem enc_init (s : ESt) (b : Nat) (i : Nat) (hi : s.buf_i = i) (hbuf : s.buf.getD i 0 = (b : Int)) (hb : b < 256) (hlen : i < s.buf.length)
    (obs bcs : List Nat) (hob : s.output_bits = ints obs) (hbc : s.bit_count = ints bcs) (hlo : obs.length = 64) (hlb : bcs.length = 64)
    (hub : s.ub = false) :
    encInit s = cframe s ⟨obs.set 0 0, bcs.set 0 0, 0, 1⟩ (b + 256) s.last_node := by
  have e1 : ((b : Int) + (255 + 1) % 4294967296) % 4294967296 = ((b + 256 : Nat) : Int) := by omega
  have e4 : (0 : Int) % 4294967296 = ((0 : Nat) : Int) := by omega
  have e5 : (1 : Int) % 4294967296 = ((1 : Nat) : Int) := by omega
  simp only [encInit, cframe, eframe, HCIcskphuff_encode.chk, hi, hob, hbc, hub, Int.toNat_natCast, hbuf, e1, e4, e5, Int.toNat_zero, ints_set]
  simp [hlo, hlb]; omega

/-- one pass through the climb's body: `last_node = a; a = up[skip_pos][a]; if (right[skip_pos][a] == last_node) output_bits[stack_ptr] |=
    bit_mask; bit_mask <<= 1; bit_count[stack_ptr]++; if (bit_count[stack_ptr] >= 32) { … }` = the push on the arrays -/
theorem enc_body1 (g : Nat) (s : ESt) (t : Tree) (hw : WF t) (hs : EBase s t) (a : Nat) (ha : a < 512) (k : CStack) (last : Int)
    (hlo : k.obs.length = 64) (hlb : k.bcs.length = 64) (hsp : k.sp + 1 < 64) (hc : k.bcs.getD k.sp 0 < 32) :
    HCIcskphuff_encode.loop1.body g (cframe s k a last) = cframe s (apush k (rd t.right (rd t.up a) == a)) (rd t.up a) a := by
  obtain ⟨obs, bcs, sp, mask⟩ := k
  obtain ⟨⟨hp0, hp1, hp2, -, hU, hR, -⟩, hub, -, -⟩ := hs
  simp only at hlo hlb hsp hc
  have szr := hw.szr
  have szu := hw.szu
  have c_lt : rd t.up a < 256 := hw.f.upLt a ha
  have e1 : (((bcs.getD sp 0 : Nat) : Int) + 1) % 4294967296 = ((bcs.getD sp 0 + 1 : Nat) : Int) := by omega
  have e2 : ((mask : Int) * 2 ^ (1:Int).toNat) % 4294967296 = ((mask * 2 % 2^32 : Nat) : Int) := by simp
  have e3 : ((sp : Int) + 1).toNat = sp + 1 := by omega
  have e4 : (0 : Int) % 4294967296 = ((0 : Nat) : Int) := by omega
  have e5 : (bcs.set sp (bcs.getD sp 0 + 1)).getD sp 0 = bcs.getD sp 0 + 1 := getD_set_self _ _ _ _ (by omega)
  have e6 : (32 : Int) % 4294967296 = ((32 : Nat) : Int) := by omega
  by_cases hbit : rd t.right (rd t.up a) = a <;> by_cases hov : bcs.getD sp 0 + 1 ≥ 32 <;>
    simp only [HCIcskphuff_encode.loop1.body, cframe, eframe, HCIcskphuff_encode.chk, apush, hU, hR, hub, arr_getD, Int.toNat_natCast, hbit, ints_getD_nat, e1, e2, e3, e4, e5, e6, ints_set,
      Int.ofNat_eq_natCast, ↓reduceIte, hov, Int.natCast_inj, ge_iff_le, Int.ofNat_le, beq_self_eq_true, beq_iff_eq] <;>
    simp [hlo, hlb, szr, szu, hp0, hp1, hp2] <;> omega

theorem eloop1_isLoop : IsLoop HCIcskphuff_encode.loop1 (fun s => s.a ≠ 0 ∧ ¬ s.done) HCIcskphuff_encode.loop1.body (fun s => s) :=
  .of_eqs (fun _ => rfl) (fun _ _ => rfl)

/-- the climb (`do … while (a != ROOT)`) computes the model's `climbF` on the arrays, never leaving `output_bits[64]` /
    `bit_count[64]`: after `j` pushes the stack holds `j` bits, `j / 32` full words; the walk from `a` to ROOT has `n` steps and
    `j + n ≤ 512` (the last hypothesis, with `j = 32 * st.below.length + st.top.1`), so `stack_ptr ≤ 16`. -/
theorem eloop1_rel (s : ESt) (t : Tree) (hw : WF t) (hs : EBase s t) : ∀ (n a : Nat), Reach (rd t.up) n a → ∀ (g f g' : Nat)
    (k : CStack) (last : Int) (st : Stack), a < 512 → a ≠ 0 → n ≤ g + 1 → n ≤ f →
    SRel k st → st.Ok → 32 * st.below.length + st.top.1 + n ≤ 512 →
    ∃ (k' : CStack) (last' : Int),
      HCIcskphuff_encode.loop1 g (HCIcskphuff_encode.loop1.body g' (cframe s k a last)) = cframe s k' 0 last' ∧
      SRel k' (climbF f t a st) ∧ (climbF f t a st).Ok ∧ k'.sp < 64 := by
  intro n
  induction n with
  | zero => intro a hr; exact absurd (reach_pos hr) (by omega)
  | succ n ih =>
    intro a hr g f g' k last st ha ha0 hg hf hrel hfull hk
    obtain ⟨f, rfl⟩ : ∃ f', f = f' + 1 := ⟨f - 1, by omega⟩
    have hsp : k.sp + 1 < 64 := by have := hrel.hsp; omega
    rw [enc_body1 g' s t hw hs a ha k last hrel.lo hrel.lb hsp (by rw [hrel.top.2.1]; exact hfull.1)]
    generalize hbit : (rd t.right (rd t.up a) == a) = bit
    have hrel' := apush_rel k st bit hrel hsp
    have hfull' := push_ok st bit hfull
    cases hr with
    | one _ hu =>
      rw [eloop1_isLoop.exit (fun c => c.1 (by simp [cframe_a, hu]))]
      refine ⟨apush k bit, a, by rw [hu], ?_, ?_, by have := apush_sp k bit; omega⟩ <;> rw [hu] at hbit
      · simpa [climbF, hu, consts, hbit] using hrel'
      · simpa [climbF, hu, consts, hbit] using hfull'
    | step _ _ hu hr =>
      have hn := reach_pos hr
      obtain ⟨g, rfl⟩ : ∃ g1, g = g1 + 1 := ⟨g - 1, by omega⟩
      rw [eloop1_isLoop.pass ⟨by simp [cframe_a]; exact hu, by simp [cframe_done, hs.done]⟩]
      have c_lt : rd t.up a < 256 := hw.f.upLt a ha
      have hk' : 32 * (st.push bit).below.length + (st.push bit).top.1 + n ≤ 512 := by
        have h1 := hfull.1
        unfold Stack.push
        simp only
        split <;> simp <;> omega
      obtain ⟨k', l', h1, h2, h3, h4⟩ := ih _ hr g f (g + 1) _ (a : Int) _ (by omega) hu (by omega) (by omega) hrel' hfull' hk'
      refine ⟨k', l', h1, ?_, ?_, h4⟩
      · simpa [climbF, hu, consts, hbit] using h2
      · simpa [climbF, hu, consts, hbit] using h3

/-! The pops: `do { if (bit_count[stack_ptr] > 0) Hbitwrite(aid, bit_count[stack_ptr], output_bits[stack_ptr]); stack_ptr--; } while (stack_ptr >= 0)` -/

/-- the cells one pop appends to `io_out`: `count, data` of word `k` unless it is empty -/
def popCell (obs bcs : List Nat) (k : Nat) : List Int :=
  if bcs.getD k 0 > 0 then [((bcs.getD k 0 : Nat) : Int), ((obs.getD k 0 : Nat) : Int)] else []

/-- what the pops of the words `k-1, …, 0` append to `io_out` -/
def popOut (obs bcs : List Nat) : Nat → List Int
  | 0 => []
  | k + 1 => popCell obs bcs k ++ popOut obs bcs k

theorem popOut_succ (obs bcs : List Nat) (k : Nat) : popOut obs bcs (k + 1) = popCell obs bcs k ++ popOut obs bcs k := rfl

def pframe (s : ESt) (sp : Int) (out : List Int) : ESt := { s with stack_ptr := sp, io_out := out }

theorem pframe_sp (s : ESt) (sp : Int) (out : List Int) : (pframe s sp out).stack_ptr = sp := rfl
theorem pframe_done (s : ESt) (sp : Int) (out : List Int) : (pframe s sp out).done = s.done := rfl
theorem cframe_eq_pframe (s : ESt) (k : CStack) (a : Nat) (last : Int) :
    cframe s k a last = pframe (eframe s k.obs k.bcs k.sp k.mask a last) k.sp s.io_out := rfl

theorem enc_body2 (g : Nat) (s : ESt) (obs bcs : List Nat) (sp : Nat) (out : List Int)
    (hob : s.output_bits = ints obs) (hbc : s.bit_count = ints bcs) (hlo : obs.length = 64) (hlb : bcs.length = 64) (hsp : sp < 64)
    (hub : s.ub = false) (hd : s.done = false) :
    HCIcskphuff_encode.loop2.body g (pframe s sp out) = pframe s ((sp : Int) - 1) (out ++ popCell obs bcs sp) := by
  have e4 : (0 : Int) % 4294967296 = ((0 : Nat) : Int) := by omega
  by_cases hc : bcs.getD sp 0 > 0 <;>
    simp only [HCIcskphuff_encode.loop2.body, pframe, popCell, HCIcskphuff_encode.chk, hob, hbc, hub, hd, Int.toNat_natCast, ints_getD_nat, e4, gt_iff_lt, Int.ofNat_lt, hc,
      ↓reduceIte, ne_eq, not_true_eq_false, decide_false, Bool.false_eq_true, List.append_nil] <;>
    simp [hlo, hlb] <;> omega

theorem eloop2_isLoop : IsLoop HCIcskphuff_encode.loop2 (fun s => s.stack_ptr ≥ 0 ∧ ¬ s.done) HCIcskphuff_encode.loop2.body (fun s => s) :=
  .of_eqs (fun _ => rfl) (fun _ _ => rfl)

theorem eloop2_rel (s : ESt) (obs bcs : List Nat) (hob : s.output_bits = ints obs) (hbc : s.bit_count = ints bcs) (hlo : obs.length = 64)
    (hlb : bcs.length = 64) (hub : s.ub = false) (hd : s.done = false) : ∀ (k g : Nat) (out : List Int), k ≤ 64 → k ≤ g →
    HCIcskphuff_encode.loop2 g (pframe s ((k : Int) - 1) out) = pframe s (-1) (out ++ popOut obs bcs k) := by
  intro k
  induction k with
  | zero =>
    intro g out _ _
    rw [eloop2_isLoop.exit (fun c => absurd c.1 (by simp [pframe_sp]))]
    simp [popOut]
  | succ k ih =>
    intro g out hk hg
    obtain ⟨g, rfl⟩ : ∃ g1, g = g1 + 1 := ⟨g - 1, by omega⟩
    have e : ((k + 1 : Nat) : Int) - 1 = (k : Int) := by omega
    rw [e, eloop2_isLoop.pass ⟨by simp [pframe_sp], by simp [pframe_done, hd]⟩, enc_body2 _ s obs bcs k out hob hbc hlo hlb (by omega) hub hd]
    rw [ih g _ (by omega) (by omega)]
    simp [popOut]

theorem popOut_eq (obs bcs : List Nat) : ∀ (l : List (Nat × Nat)), obs.take l.length = (l.map (·.2)).reverse →
    bcs.take l.length = (l.map (·.1)).reverse → popOut obs bcs l.length = flat (l.filter fun e => e.1 > 0) := by
  intro l
  induction l with
  | nil => intro _ _; rfl
  | cons e l ih =>
    intro ho hb
    obtain ⟨o1, o2, -⟩ := take_succ_split obs l.length (l.map (·.2)).reverse e.2 0 (by simpa using ho) (by simp)
    obtain ⟨b1, b2, -⟩ := take_succ_split bcs l.length (l.map (·.1)).reverse e.1 0 (by simpa using hb) (by simp)
    simp only [List.length_cons, popOut, popCell, o2, b2, ih o1 b1]
    by_cases h : e.1 > 0 <;> simp [h, flat]

theorem enc_tail (g : Nat) (hg : 255 ≤ g) (s : ESt) (t : Tree) (hw : WF t) (hs : EBase s t) (pos skip : Nat) (hpos : s.skphuff_info_skip_pos = pos)
    (hskip : s.skphuff_info_skip_size = skip) (hs1 : 1 ≤ skip)
    (b : Nat) (i : Nat) (hi : s.buf_i = i) (hbuf : s.buf.getD i 0 = (b : Int)) (hb : b < 256) (hlen : i < s.buf.length) :
    encTail g s = { s with skphuff_info_left := s.skphuff_info_left.set pos (arr (splay t b).left),
                           skphuff_info_right := s.skphuff_info_right.set pos (arr (splay t b).right),
                           skphuff_info_up := s.skphuff_info_up.set pos (arr (splay t b).up),
                           skphuff_info_skip_pos := ((pos + 1) % skip : Nat), buf_i := ((i + 1 : Nat) : Int), length := s.length - 1 } := by
  obtain ⟨⟨hp0, hp1, hp2, hp3, hU, hR, hL⟩, hub, hoof, hdone⟩ := hs
  simp only [hpos, Int.toNat_natCast] at hU hR hL hp0 hp1 hp2 hp3
  obtain ⟨h1, h2, h3, h4, h5⟩ := splay_fn t hw b hb pos g hg
  have e1 := tmod_succ pos skip
  simp only [encTail, HCIcskphuff_encode.chk, HCIcskphuff_encode.St.join, hub, hoof, hdone, hpos, hskip, hi, Int.toNat_natCast, hU, hR, hL, hbuf, h1, h2, h3, h4, h5, e1,
    Bool.false_eq_true, ↓reduceIte]
  simp [hp0, hp1, hp2, hp3]; omega

/-- loop invariant: `i` bytes of `all` are coded, the rows hold the trees `ts`, the lane is `pos`, `out` has been written -/
structure EInv (s : ESt) (skip : Nat) (ts : List Tree) (pos : Nat) (all : List UInt8) (i : Nat) (out : List Int) (off olen : Int) : Prop where
  length : s.length = ((all.length - i : Nat) : Int)
  buf : s.buf = bytes all
  buf_i : s.buf_i = (i : Int)
  hi : i ≤ all.length
  left : s.skphuff_info_left = rowsL ts
  right : s.skphuff_info_right = rowsR ts
  up : s.skphuff_info_up = rowsU ts
  pos : s.skphuff_info_skip_pos = (pos : Int)
  skip : s.skphuff_info_skip_size = (skip : Int)
  out : s.io_out = out
  ob : ∃ obs : List Nat, s.output_bits = ints obs ∧ obs.length = 64
  bc : ∃ bcs : List Nat, s.bit_count = ints bcs ∧ bcs.length = 64
  off : s.skphuff_info_offset = off
  olen : s.orig_length = olen
  ub : s.ub = false
  oof : s.oof = false
  done : s.done = false

theorem EInv.base {s skip ts pos all i out off olen} (h : EInv s skip ts pos all i out off olen) (hl : Lanes skip ts pos) :
    EBase s (getTree ts pos) :=
  ⟨by rw [h.pos, h.up, h.right, h.left]; exact rows_at ts pos (hl.len ▸ hl.lt), h.ub, h.oof, h.done⟩

/-- `511 ≤ g`: the body runs its inner loops and the call of the splay on the fuel `g` of the pass; the climb needs at most 511 in `loop1`
    (one step is made inline), the splay 255 -/
theorem enc_body (g : Nat) (hg : 511 ≤ g) (s : ESt) (skip : Nat) (ts : List Tree) (pos : Nat) (all : List UInt8) (i : Nat) (out : List Int)
    (off olen : Int) (h : EInv s skip ts pos all i out off olen) (hi : i < all.length) (hl : Lanes skip ts pos) :
    EInv (HCIcskphuff_encode.loop0.body g s) skip (ts.set pos (splay (getTree ts pos) all[i].toNat)) ((pos + 1) % skip) all (i + 1)
      (out ++ flat (encFields (getTree ts pos) all[i].toNat)) off olen := by
  have hwt := hl.tree
  have hs := h.base hl
  have hb : all[i].toNat < 256 := UInt8.toNat_lt _
  generalize hbd : all[i].toNat = b at *
  generalize htd : getTree ts pos = t at *
  obtain ⟨obs, hob, hlo⟩ := h.ob
  obtain ⟨bcs, hbc, hlb⟩ := h.bc
  have hbuf : s.buf.getD i 0 = (b : Int) := by rw [h.buf, bytes_getD _ _ hi, hbd]
  have hlen : i < s.buf.length := by rw [h.buf]; simpa using hi
  rw [enc_body_split, enc_init s b i h.buf_i hbuf hb hlen obs bcs hob hbc hlo hlb h.ub]
  obtain ⟨n, hn, hr⟩ := reach_of_WF hwt (b + 256) (by omega) (by omega)
  obtain ⟨⟨obs', bcs', sp', mask'⟩, last', h1, hrel, hfull, hsp'⟩ := eloop1_rel s t hwt hs n (b + 256) hr g TWICEMAX g _ s.last_node _
    (by omega) (by omega) (by omega) (by simp only [consts]; omega) (.init obs bcs hlo hlb) Stack.ok_init (by simp; omega)
  dsimp only at hsp'
  rw [h1]
  generalize hst : climbF TWICEMAX t (b + 256) { top := (0, 0), below := [], mask := 1 } = st at hrel hfull
  rw [cframe_eq_pframe, enc_body2 g (eframe s obs' bcs' (sp' : Int) mask' 0 last') obs' bcs' sp' s.io_out rfl rfl hrel.lo hrel.lb hsp' h.ub h.done,
    eloop2_rel (eframe s obs' bcs' (sp' : Int) mask' 0 last') obs' bcs' rfl rfl hrel.lo hrel.lb h.ub h.done sp' g _ (by omega) (by omega)]
  have hpop : popCell obs' bcs' sp' ++ popOut obs' bcs' sp' = flat (encFields t b) := by
    have := popOut_eq obs' bcs' (st.top :: st.below) (by simpa [← hrel.hsp] using hrel.ob) (by simpa [← hrel.hsp] using hrel.bc)
    simp only [List.length_cons, ← hrel.hsp, popOut_succ] at this
    rw [this, encFields, show b + SUCCMAX = b + 256 from rfl, hst]
  rw [List.append_assoc, hpop, h.out]
  rw [enc_tail g (by omega) (pframe (eframe s _ _ _ _ _ _) _ _) t hwt hs pos skip h.pos h.skip (Nat.zero_lt_of_lt hl.lt) b i h.buf_i hbuf hb hlen]
  refine ⟨?_, h.buf, rfl, by omega, ?_, ?_, ?_, rfl, h.skip, rfl, ⟨obs', rfl, hrel.lo⟩, ⟨bcs', rfl, hrel.lb⟩, h.off, h.olen, h.ub, h.oof, h.done⟩
  · show s.length - 1 = _
    rw [h.length]; omega
  · show s.skphuff_info_left.set pos _ = _
    rw [h.left]; exact rows_set Tree.left ts pos _
  · show s.skphuff_info_right.set pos _ = _
    rw [h.right]; exact rows_set Tree.right ts pos _
  · show s.skphuff_info_up.set pos _ = _
    rw [h.up]; exact rows_set Tree.up ts pos _

theorem eloop0_isLoop : IsLoop HCIcskphuff_encode.loop0 (fun s => s.length > 0 ∧ ¬ s.done) HCIcskphuff_encode.loop0.body (fun s => s) :=
  .of_eqs (fun _ => rfl) (fun _ _ => rfl)

/-- the whole loop: `k` bytes remain; fuel `k + 511` (the body gets the outer loop's remaining fuel for its inner loops and the splay call,
    and each needs at most 511) -/
theorem eloop0_rel (skip : Nat) (all : List UInt8) (off olen : Int) : ∀ (k g : Nat) (s : ESt) (ts : List Tree) (pos i : Nat) (out : List Int),
    k = all.length - i → EInv s skip ts pos all i out off olen → (k = 0 ∨ k + 511 ≤ g) → Lanes skip ts pos →
    EInv (HCIcskphuff_encode.loop0 g s) skip (runTrees skip ts pos (all.drop i)) ((pos + k) % skip) all all.length
      (out ++ flat (encRunF skip ts pos (all.drop i))) off olen := by
  intro k
  induction k with
  | zero =>
    intro g s ts pos i out hk h _ hl
    have hi := h.hi
    have e : i = all.length := by omega
    subst e
    rw [eloop0_isLoop.exit (fun c => absurd c.1 (by rw [h.length]; omega))]
    simpa [runTrees, encRunF, flat, Nat.mod_eq_of_lt hl.lt] using h
  | succ k ih =>
    intro g s ts pos i out hk h hg hl
    have hi : i < all.length := by omega
    obtain ⟨g, rfl⟩ : ∃ g1, g = g1 + 1 := ⟨g - 1, by omega⟩
    rw [eloop0_isLoop.pass ⟨by rw [h.length]; omega, by simp [h.done]⟩]
    have hb := enc_body (g + 1) (by omega) s skip ts pos all i out off olen h hi hl
    have := ih g _ _ _ _ _ (by omega) hb (by omega) (hl.next _ (UInt8.toNat_lt _))
    rw [List.drop_eq_getElem_cons hi]
    simp only [runTrees, encRunF, flat_append, ← List.append_assoc]
    rw [lane_step pos k skip]
    exact this

abbrev DSt := HCIcskphuff_decode.St

/-- a bit as `Hbitread(aid, 1, &bit)` delivers it -/
def b2i (b : Bool) : Int := if b then 1 else 0

/-- region `io_in`: one cell per bit of the stream -/
def bitsI (l : List Bool) : List Int := l.map b2i

@[simp] theorem bitsI_length (l : List Bool) : (bitsI l).length = l.length := by simp [bitsI]

theorem bitsI_getD (l : List Bool) (p : Nat) (h : p < l.length) : (bitsI l).getD p 0 = b2i l[p] := by
  simp [bitsI, List.getD, h]

/-- `Hbitread(aid, 1, &bit)` as the translator renders it: the next cell -/
theorem read1 (l : List Int) (p : Nat) (h : p < l.length) :
    (((l.drop p).take 1).foldl (fun acc b => acc * 2 + b) 0) = l.getD p 0 := by
  rw [List.drop_eq_getElem_cons h]
  simp only [List.take_succ_cons, List.take_zero, List.foldl_cons, List.foldl_nil]
  simp [List.getD, h]

/-- first piece of the body of `while (length > 0)`: `a = ROOT;` (generated text) -/
def decInit (s : DSt) : DSt :=
    have s : HCIcskphuff_decode.St := HCIcskphuff_decode.St.set_a s (((0) % 4294967296))
    s

/-- last piece: `plain = (uint8)(a - SUCCMAX); HCIcskphuff_splay(skphuff_info, plain); skip_pos = (skip_pos + 1) % skip_size; *buf++ = plain;
    length--;` (generated text) -/
def decTail (fuel : Nat) (s : DSt) : DSt :=
    have s : HCIcskphuff_decode.St := if s.done then s else
      have s : HCIcskphuff_decode.St := HCIcskphuff_decode.St.set_plain s ((((((s.a - (((255 + 1)) % 4294967296))) % 4294967296)) % 256))
      s
    have s : HCIcskphuff_decode.St := if s.done then s else
      have s : HCIcskphuff_decode.St := HCIcskphuff_decode.chk s (0 ≤ s.skphuff_info_skip_pos ∧ s.skphuff_info_skip_pos < s.skphuff_info_left.length)
      have s : HCIcskphuff_decode.St := HCIcskphuff_decode.chk s (0 ≤ s.skphuff_info_skip_pos ∧ s.skphuff_info_skip_pos < s.skphuff_info_right.length)
      have s : HCIcskphuff_decode.St := HCIcskphuff_decode.chk s (0 ≤ s.skphuff_info_skip_pos ∧ s.skphuff_info_skip_pos < s.skphuff_info_up.length)
      let r0 : HCIcskphuff_splay.St := HCIcskphuff_splay fuel (s.skphuff_info_skip_pos) ((s.skphuff_info_left.getD (Int.toNat s.skphuff_info_skip_pos) [])) ((s.skphuff_info_right.getD (Int.toNat s.skphuff_info_skip_pos) [])) ((s.skphuff_info_up.getD (Int.toNat s.skphuff_info_skip_pos) [])) (s.plain)
      have s : HCIcskphuff_decode.St := HCIcskphuff_decode.St.set_skphuff_info_left s (s.skphuff_info_left.set (Int.toNat s.skphuff_info_skip_pos) r0.skphuff_info_left)
      have s : HCIcskphuff_decode.St := HCIcskphuff_decode.St.set_skphuff_info_right s (s.skphuff_info_right.set (Int.toNat s.skphuff_info_skip_pos) r0.skphuff_info_right)
      have s : HCIcskphuff_decode.St := HCIcskphuff_decode.St.set_skphuff_info_up s (s.skphuff_info_up.set (Int.toNat s.skphuff_info_skip_pos) r0.skphuff_info_up)
      have s : HCIcskphuff_decode.St := HCIcskphuff_decode.St.join s r0.ub r0.oof
      s
    have s : HCIcskphuff_decode.St := if s.done then s else
      have s : HCIcskphuff_decode.St := HCIcskphuff_decode.chk s (s.skphuff_info_skip_size ≠ 0)
      have s : HCIcskphuff_decode.St := HCIcskphuff_decode.St.set_skphuff_info_skip_pos s ((Int.tmod (s.skphuff_info_skip_pos + 1) s.skphuff_info_skip_size))
      s
    have s : HCIcskphuff_decode.St := if s.done then s else
      have s : HCIcskphuff_decode.St := HCIcskphuff_decode.chk s (0 ≤ s.buf_i ∧ s.buf_i < s.buf.length)
      let v0 : Int := s.plain
      let ix0 : Int := s.buf_i
      let e0 : Int := (s.buf_i + 1)
      have s : HCIcskphuff_decode.St := HCIcskphuff_decode.St.set_buf s (s.buf.set (Int.toNat (ix0)) (v0))
      have s : HCIcskphuff_decode.St := HCIcskphuff_decode.St.set_buf_i s (e0)
      s
    have s : HCIcskphuff_decode.St := if s.done then s else
      have s : HCIcskphuff_decode.St := HCIcskphuff_decode.St.set_length s ((s.length - 1))
      s
    s

/-- the body of `while (length > 0)` = `a = ROOT`; the descent (`do … while (a <= SKPHUFF_MAX_CHAR)`: body once, then `loop1`); last piece -/
theorem dec_body_split (fuel : Nat) (s : DSt) : HCIcskphuff_decode.loop0.body fuel s =
    decTail fuel (HCIcskphuff_decode.loop1 fuel (HCIcskphuff_decode.loop1.body fuel (decInit s))) := by
  with_unfolding_all rfl

/-- `s` during the descent: the node `a`, the input position, the last bit read -/
def dframe (s : DSt) (a : Nat) (p : Nat) (bit : Int) : DSt := { s with a := a, io_pos := p, bit := bit }

theorem dframe_a (s : DSt) (a p : Nat) (bit : Int) : (dframe s a p bit).a = a := rfl
theorem dframe_done (s : DSt) (a p : Nat) (bit : Int) : (dframe s a p bit).done = s.done := rfl

/-- the state after a failed `Hbitread`: `HRETURN_ERROR(DFE_CDECODE, FAIL)` -/
def dfail (s : DSt) (a : Nat) (p : Nat) (bit : Int) : DSt := { s with a := a, io_pos := p, bit := bit, ret := -1, done := true }

/-- what every piece of the decoder's loop body needs: the rows at `skip_pos` hold `t`, the input is `bits`, nothing has gone wrong -/
def DBase (s : DSt) (t : Tree) (bits : List Bool) : Prop :=
  Rows s.skphuff_info_skip_pos s.skphuff_info_up s.skphuff_info_right s.skphuff_info_left t ∧ s.io_in = bitsI bits ∧
    s.ub = false ∧ s.oof = false ∧ s.done = false

theorem DBase.done {s : DSt} {t : Tree} {bits : List Bool} (h : DBase s t bits) : s.done = false := h.2.2.2.2

/-- one pass through the descent's body with a bit available: `Hbitread(aid, 1, &bit); a = (bit == 0) ? left[skip_pos][a] : right[skip_pos][a];` -/
theorem dec_body1_some (g : Nat) (s : DSt) (t : Tree) (bits : List Bool) (hw : WF t) (hs : DBase s t bits) (a : Nat) (ha : a < 256) (p : Nat)
    (hp : p < bits.length) (bit : Int) :
    HCIcskphuff_decode.loop1.body g (dframe s a p bit) =
      dframe s (if bits[p] then rd t.right a else rd t.left a) (p + 1) (b2i bits[p]) := by
  obtain ⟨⟨hp0, hp1, hp2, hp3, hU, hR, hL⟩, hio, hub, hoof, hdone⟩ := hs
  have szl := hw.szl
  have szr := hw.szr
  have e1 : ((p : Int) + 1 ≤ ((bitsI bits).length : Int)) := by simp; omega
  have e2 : (0 : Int) % 4294967296 = 0 := by omega
  have e3 : (1 : Int).toNat = 1 := rfl
  have e4 : ¬ ((1 : Int) = -1) := by decide
  have e5 : ¬ ((1 : Int) = 0) := by decide
  cases hb : bits[p] <;>
    simp only [HCIcskphuff_decode.loop1.body, dframe, HCIcskphuff_decode.chk, hio, hub, hoof, hdone, e1, e2, ↓reduceIte, Int.toNat_natCast, e3, e4, e5, decide_eq_true_eq, read1 _ _ (show p < (bitsI bits).length by simpa using hp),
      bitsI_getD _ _ hp, hb, b2i, hR, hL, arr_getD, Bool.false_eq_true] <;>
    simp [hp0, hp2, hp3, szl, szr] <;> omega

/-- … at the end of the input: `if (Hbitread(aid, 1, &bit) == FAIL) HRETURN_ERROR(DFE_CDECODE, FAIL)` -/
theorem dec_body1_none (g : Nat) (s : DSt) (t : Tree) (bits : List Bool) (hs : DBase s t bits) (a : Nat) (p : Nat)
    (hp : bits.length ≤ p) (bit : Int) :
    HCIcskphuff_decode.loop1.body g (dframe s a p bit) = dfail s a p bit := by
  obtain ⟨⟨hp0, hp1, hp2, hp3, hU, hR, hL⟩, hio, hub, hoof, hdone⟩ := hs
  have e1 : ¬ ((p : Int) + 1 ≤ ((bitsI bits).length : Int)) := by simp; omega
  simp only [HCIcskphuff_decode.loop1.body, dframe, dfail, HCIcskphuff_decode.chk, hio, e1, ↓reduceIte]
  simp

theorem dloop1_isLoop : IsLoop HCIcskphuff_decode.loop1 (fun s => s.a ≤ 255 ∧ ¬ s.done) HCIcskphuff_decode.loop1.body (fun s => s) :=
  .of_eqs (fun _ => rfl) (fun _ _ => rfl)

/-- the descent (`do … while (a <= SKPHUFF_MAX_CHAR)`) computes the model's `descend` on the bits from position `p` on: it stops at a leaf
    `sym + SUCCMAX` with the input at the model's rest, or - the input exhausted - with `ret = FAIL`.  Fuel: one pass per bit read. -/
theorem dloop1_rel (s : DSt) (t : Tree) (bits : List Bool) (hw : WF t) (hs : DBase s t bits) : ∀ (k a p g g' : Nat) (bit : Int),
    k = bits.length - p → p ≤ bits.length → a < 256 → k ≤ g →
    match descend t a (bits.drop p) with
    | some (sym, rest) => sym < 256 ∧ ∃ (q : Nat) (bit' : Int), rest = bits.drop q ∧ p < q ∧ q ≤ bits.length ∧
        HCIcskphuff_decode.loop1 g (HCIcskphuff_decode.loop1.body g' (dframe s a p bit)) = dframe s (sym + 256) q bit'
    | none => ∃ (a' : Nat) (bit' : Int),
        HCIcskphuff_decode.loop1 g (HCIcskphuff_decode.loop1.body g' (dframe s a p bit)) = dfail s a' bits.length bit' := by
  intro k
  induction k with
  | zero =>
    intro a p g g' bit hk hp ha hg
    have e : p = bits.length := by omega
    subst e
    rw [dec_body1_none g' s t bits hs a _ (by omega) bit, dloop1_isLoop.exit (fun c => c.2 rfl)]
    simp only [List.drop_length, descend]
    exact ⟨a, bit, rfl⟩
  | succ k ih =>
    intro a p g g' bit hk hp ha hg
    have hp' : p < bits.length := by omega
    rw [dec_body1_some g' s t bits hw hs a ha p hp' bit, List.drop_eq_getElem_cons hp']
    have hlt : (if bits[p] then rd t.right a else rd t.left a) < 512 := by
      split
      · exact hw.f.rightLt a ha
      · exact hw.f.leftLt a ha
    simp only [descend]
    generalize (if bits[p] then rd t.right a else rd t.left a) = a' at hlt ⊢
    by_cases hleaf : a' > 255
    · rw [if_pos (show a' > SKPHUFF_MAX_CHAR from hleaf), dloop1_isLoop.exit (fun c => absurd c.1 (by simp [dframe_a]; omega))]
      refine ⟨by simp only [consts]; omega, p + 1, b2i bits[p], rfl, by omega, by omega, ?_⟩
      rw [show a' - SUCCMAX + 256 = a' by simp only [consts]; omega]
    · obtain ⟨g, rfl⟩ : ∃ g1, g = g1 + 1 := ⟨g - 1, by omega⟩
      rw [if_neg (show ¬ a' > SKPHUFF_MAX_CHAR from hleaf), dloop1_isLoop.pass ⟨by simp [dframe_a]; omega, by simp [dframe_done, hs.done]⟩]
      have := ih a' (p + 1) g (g + 1) (b2i bits[p]) (by omega) (by omega) (by omega) (by omega)
      split at this
      · obtain ⟨h1, q, bit', h2, h3, h4, h5⟩ := this
        exact ⟨h1, q, bit', h2, by omega, h4, h5⟩
      · exact this

theorem dec_tail_fail (g : Nat) (s : DSt) (h : s.done = true) : decTail g s = s := by
  simp only [decTail, h, ↓reduceIte]

theorem dec_tail (g : Nat) (hg : 255 ≤ g) (s : DSt) (t : Tree) (bits : List Bool) (hw : WF t) (hs : DBase s t bits) (pos skip : Nat)
    (hpos : s.skphuff_info_skip_pos = pos) (hskip : s.skphuff_info_skip_size = skip) (hs1 : 1 ≤ skip)
    (sym : Nat) (hsym : sym < 256) (ha : s.a = ((sym + 256 : Nat) : Int)) (i : Nat) (hi : s.buf_i = i) (hlen : i < s.buf.length) :
    decTail g s = { s with plain := (sym : Int),
                           skphuff_info_left := s.skphuff_info_left.set pos (arr (splay t sym).left),
                           skphuff_info_right := s.skphuff_info_right.set pos (arr (splay t sym).right),
                           skphuff_info_up := s.skphuff_info_up.set pos (arr (splay t sym).up),
                           skphuff_info_skip_pos := ((pos + 1) % skip : Nat), buf := s.buf.set i (sym : Int),
                           buf_i := ((i + 1 : Nat) : Int), length := s.length - 1 } := by
  obtain ⟨⟨hp0, hp1, hp2, hp3, hU, hR, hL⟩, hio, hub, hoof, hdone⟩ := hs
  simp only [hpos, Int.toNat_natCast] at hU hR hL hp0 hp1 hp2 hp3
  obtain ⟨h1, h2, h3, h4, h5⟩ := splay_fn t hw sym hsym pos g hg
  have e1 := tmod_succ pos skip
  have e2 : ((((sym + 256 : Nat) : Int) - (255 + 1) % 4294967296) % 4294967296) % 256 = (sym : Int) := by omega
  simp only [decTail, HCIcskphuff_decode.chk, HCIcskphuff_decode.St.join, hub, hoof, hdone, hpos, hskip, hi, ha, Int.toNat_natCast, hU, hR, hL, h1, h2, h3, h4, h5, e1, e2,
    Bool.false_eq_true, ↓reduceIte]
  simp [hp0, hp1, hp2, hp3]; omega

/-- `decRun` returning the unread bits as well (`decRunR_fst`) -/
def decRunR (skip : Nat) : List Tree → Nat → List Bool → Nat → Option (List UInt8 × List Bool)
  | _, _, bits, 0 => some ([], bits)
  | ts, pos, bits, n + 1 =>
    let t := getTree ts pos
    match decSym t bits with
    | none => none
    | some (s, rest) =>
      let plain := UInt8.ofNat s
      (decRunR skip (ts.set pos (splay t plain.toNat)) ((pos + 1) % skip) rest n).map fun r => (plain :: r.1, r.2)

theorem decRunR_fst (skip : Nat) : ∀ (n : Nat) (ts : List Tree) (pos : Nat) (bits : List Bool),
    (decRunR skip ts pos bits n).map (·.1) = decRun skip ts pos bits n := by
  intro n
  induction n with
  | zero => intro ts pos bits; rfl
  | succ n ih =>
    intro ts pos bits
    simp only [decRunR, decRun]
    cases decSym (getTree ts pos) bits with
    | none => rfl
    | some r =>
      obtain ⟨s, rest⟩ := r
      simp only [← ih, Option.map_map]
      rfl

/-- loop invariant: the bytes `pre` are delivered (into the caller's buffer, initially `B`), `n` remain, the input is at bit `p` -/
structure DInv (s : DSt) (skip : Nat) (ts : List Tree) (pos : Nat) (bits : List Bool) (p n : Nat) (B : List Int) (pre : List UInt8)
    (off olen : Int) : Prop where
  length : s.length = (n : Int)
  io : s.io_in = bitsI bits
  io_pos : s.io_pos = (p : Int)
  hp : p ≤ bits.length
  buf : s.buf = bytes pre ++ B.drop pre.length
  buf_i : s.buf_i = (pre.length : Int)
  hB : pre.length + n ≤ B.length
  left : s.skphuff_info_left = rowsL ts
  right : s.skphuff_info_right = rowsR ts
  up : s.skphuff_info_up = rowsU ts
  pos : s.skphuff_info_skip_pos = (pos : Int)
  skip : s.skphuff_info_skip_size = (skip : Int)
  off : s.skphuff_info_offset = off
  olen : s.orig_length = olen
  ub : s.ub = false
  oof : s.oof = false
  done : s.done = false

theorem DInv.base {s skip ts pos bits p n B pre off olen} (h : DInv s skip ts pos bits p n B pre off olen) (hl : Lanes skip ts pos) :
    DBase s (getTree ts pos) bits :=
  ⟨by rw [h.pos, h.up, h.right, h.left]; exact rows_at ts pos (hl.len ▸ hl.lt), h.io, h.ub, h.oof, h.done⟩

/-- the loop has stopped with `HRETURN_ERROR(DFE_CDECODE, FAIL)` -/
structure Failed (s : DSt) : Prop where
  done : s.done = true
  ret : s.ret = -1
  ub : s.ub = false
  oof : s.oof = false

theorem bytes_snoc (pre : List UInt8) (B : List Int) (v : UInt8) (h : pre.length < B.length) :
    (bytes pre ++ B.drop pre.length).set pre.length (v.toNat : Int) = bytes (pre ++ [v]) ++ B.drop (pre ++ [v]).length := by
  rw [List.set_append_right _ _ (by simp)]
  simp only [bytes_length, Nat.sub_self, List.length_append, List.length_cons, List.length_nil]
  simp only [List.drop_eq_getElem_cons h, List.set_cons_zero]
  simp [bytes]

theorem dec_body (g : Nat) (s : DSt) (skip : Nat) (ts : List Tree) (pos : Nat) (bits : List Bool) (p n : Nat) (B : List Int) (pre : List UInt8)
    (off olen : Int) (h : DInv s skip ts pos bits p (n + 1) B pre off olen) (hg : 255 ≤ g) (hg2 : bits.length - p ≤ g)
    (hl : Lanes skip ts pos) :
    match decSym (getTree ts pos) (bits.drop p) with
    | some (sym, rest) => sym < 256 ∧ ∃ q, rest = bits.drop q ∧ p < q ∧
      DInv (HCIcskphuff_decode.loop0.body g s) skip (ts.set pos (splay (getTree ts pos) sym)) ((pos + 1) % skip) bits q n B
        (pre ++ [UInt8.ofNat sym]) off olen
    | none => Failed (HCIcskphuff_decode.loop0.body g s) := by
  have hwt := hl.tree
  have hs := h.base hl
  generalize htd : getTree ts pos = t at *
  have e0 : decInit s = dframe s 0 p s.bit := by
    simp only [decInit, dframe, ← h.io_pos]; rfl
  rw [dec_body_split, e0]
  have h1 := dloop1_rel s t bits hwt hs (bits.length - p) 0 p g g s.bit rfl h.hp (by omega) hg2
  rw [decSym, show ROOT = 0 from rfl]
  split at h1
  · obtain ⟨hsym, q, bit', hq1, hq2, hq3, hq4⟩ := h1
    rename_i sym rest _
    refine ⟨hsym, q, hq1, hq2, ?_⟩
    have hB := h.hB
    have hlen : pre.length < (dframe s (sym + 256) q bit').buf.length := by
      show pre.length < s.buf.length
      rw [h.buf]; simp; omega
    rw [hq4, dec_tail g hg (dframe s _ _ _) t bits hwt hs pos skip h.pos h.skip (Nat.zero_lt_of_lt hl.lt) sym hsym rfl pre.length h.buf_i hlen]
    have e8 : (sym : Int) = (((UInt8.ofNat sym).toNat : Nat) : Int) := by
      rw [UInt8.toNat_ofNat']; congr 1; exact (Nat.mod_eq_of_lt hsym).symm
    refine ⟨?_, h.io, rfl, hq3, ?_, ?_, ?_, ?_, ?_, ?_, rfl, h.skip, h.off, h.olen, h.ub, h.oof, h.done⟩
    · show s.length - 1 = _
      rw [h.length]; omega
    · show s.buf.set pre.length (sym : Int) = _
      rw [h.buf, e8, bytes_snoc _ _ _ (by omega)]
    · show ((pre.length + 1 : Nat) : Int) = _
      simp
    · simp; omega
    · show s.skphuff_info_left.set pos _ = _
      rw [h.left]; exact rows_set Tree.left ts pos _
    · show s.skphuff_info_right.set pos _ = _
      rw [h.right]; exact rows_set Tree.right ts pos _
    · show s.skphuff_info_up.set pos _ = _
      rw [h.up]; exact rows_set Tree.up ts pos _
  · obtain ⟨a', bit', hq⟩ := h1
    rw [hq, dec_tail_fail _ _ rfl]
    exact ⟨rfl, rfl, h.ub, h.oof⟩

theorem dloop0_isLoop : IsLoop HCIcskphuff_decode.loop0 (fun s => s.length > 0 ∧ ¬ s.done) HCIcskphuff_decode.loop0.body (fun s => s) :=
  .of_eqs (fun _ => rfl) (fun _ _ => rfl)

/-- the whole loop against `decRunR`: either the model delivers `out` and leaves `rest`, and so does the translated loop; or the model runs
    out of bits, and the translated loop stops with FAIL.  Fuel: one unit per byte + (for the body's inner loop and splay call) the number
    of unread bits and 255. -/
theorem dloop0_rel (skip : Nat) (bits : List Bool) (B : List Int) (off olen : Int) : ∀ (n g : Nat) (s : DSt) (ts : List Tree) (pos p : Nat)
    (pre : List UInt8), DInv s skip ts pos bits p n B pre off olen → (n = 0 ∨ n + (bits.length - p) + 254 ≤ g) → Lanes skip ts pos →
    match decRunR skip ts pos (bits.drop p) n with
    | some (out, rest) => ∃ q, rest = bits.drop q ∧
      DInv (HCIcskphuff_decode.loop0 g s) skip (runTrees skip ts pos out) ((pos + n) % skip) bits q 0 B (pre ++ out) off olen
    | none => Failed (HCIcskphuff_decode.loop0 g s) := by
  intro n
  induction n with
  | zero =>
    intro g s ts pos p pre h _ hl
    rw [dloop0_isLoop.exit (fun c => absurd c.1 (by rw [h.length]; omega))]
    exact ⟨p, rfl, by simpa [runTrees, Nat.mod_eq_of_lt hl.lt] using h⟩
  | succ n ih =>
    intro g s ts pos p pre h hg hl
    obtain ⟨g, rfl⟩ : ∃ g1, g = g1 + 1 := ⟨g - 1, by omega⟩
    rw [dloop0_isLoop.pass ⟨by rw [h.length]; omega, by simp [h.done]⟩]
    have hb := dec_body (g + 1) s skip ts pos bits p n B pre off olen h (by omega) (by omega) hl
    simp only [decRunR]
    split at hb
    · obtain ⟨hsym, q, hq1, hq2, hinv⟩ := hb
      rename_i sym rest1 hd
      rw [hd]
      have e8 : (UInt8.ofNat sym).toNat = sym := by rw [UInt8.toNat_ofNat']; exact Nat.mod_eq_of_lt hsym
      have := ih g _ _ _ q _ hinv (by have := hinv.hp; omega) (hl.next _ hsym)
      simp only [e8, hq1]
      split at this
      · obtain ⟨q2, hq3, hinv2⟩ := this
        rename_i hr2
        rw [hr2]
        refine ⟨q2, hq3, ?_⟩
        simp only [runTrees, e8, lane_step pos n skip]
        simpa using hinv2
      · rename_i hr2
        rw [hr2]
        exact this
    · rename_i hd
      rw [hd, dloop0_isLoop.exit (fun c => c.2 hb.done)]
      exact hb

theorem decRunR_length (skip : Nat) : ∀ (n : Nat) (ts : List Tree) (pos : Nat) (bits : List Bool) (out : List UInt8) (rest : List Bool),
    decRunR skip ts pos bits n = some (out, rest) → out.length = n := by
  intro n
  induction n with
  | zero => intro ts pos bits out rest h; cases h; rfl
  | succ n ih =>
    intro ts pos bits out rest h
    simp only [decRunR] at h
    split at h
    · cases h
    · obtain ⟨r, hr, he⟩ := Option.map_eq_some_iff.mp h
      cases he
      rw [List.length_cons, ih _ _ _ _ _ hr]

theorem decode_rel (skip : Nat) (ts : List Tree) (pos : Nat) (hl : Lanes skip ts pos) (bits : List Bool) (p : Nat) (hp : p ≤ bits.length) (n : Nat)
    (B : List Int) (hB : n ≤ B.length) (off : Int) (fuel : Nat) (hf : n + (bits.length - p) + 254 ≤ fuel) :
    let s := HCIcskphuff_decode fuel pos (rowsL ts) (rowsR ts) (rowsU ts) skip off n B (bitsI bits) p
    match decRunR skip ts pos (bits.drop p) n with
    | some (out, rest) => s.ub = false ∧ s.oof = false ∧ s.ret = 0 ∧ s.buf = bytes out ++ B.drop n ∧
        s.skphuff_info_left = rowsL (runTrees skip ts pos out) ∧ s.skphuff_info_right = rowsR (runTrees skip ts pos out) ∧
        s.skphuff_info_up = rowsU (runTrees skip ts pos out) ∧ s.skphuff_info_skip_pos = ((pos + n) % skip : Nat) ∧
        s.skphuff_info_offset = off + n ∧ s.io_pos = ((bits.length - rest.length : Nat) : Int)
    | none => s.ub = false ∧ s.oof = false ∧ s.ret = -1 := by
  have h0 : DInv ({ skphuff_info_skip_pos := pos, skphuff_info_left := rowsL ts, skphuff_info_right := rowsR ts, skphuff_info_up := rowsU ts, skphuff_info_skip_size := skip, skphuff_info_offset := off, length := n, buf := B, io_in := bitsI bits, io_pos := p, orig_length := n } : HCIcskphuff_decode.St) skip ts pos bits p n B [] off n :=
    ⟨rfl, rfl, rfl, hp, by simp [bytes], rfl, by simpa using hB, rfl, rfl, rfl, rfl, rfl, rfl, rfl, rfl, rfl, rfl⟩
  have h := dloop0_rel skip bits B off n n fuel _ ts pos p [] h0 (by omega) hl
  simp only [HCIcskphuff_decode, HCIcskphuff_decode.St.set_orig_length]
  generalize HCIcskphuff_decode.loop0 fuel _ = s1 at h ⊢
  split at h
  · rename_i out rest hd
    obtain ⟨q, hq, h⟩ := h
    have hl := decRunR_length skip n ts pos _ _ _ hd
    simp only [h.done, Bool.false_eq_true, ↓reduceIte]
    refine ⟨h.ub, h.oof, trivial, ?_, h.left, h.right, h.up, h.pos, by rw [h.off, h.olen], ?_⟩
    · rw [h.buf]; simp [hl]
    · have := h.hp
      rw [h.io_pos, hq]; simp; omega
  · simp only [h.done, ↓reduceIte]
    exact ⟨h.ub, h.oof, h.ret⟩

/-! The bit stream between the two functions: `Hbitwrite(count, data)` puts `count` bits of `data`, most significant first; `Hbitread(1)` takes them one by one -/

/-- the `(count, data)` cells of region `io_out` as the bit cells of region `io_in` -/
def expandPairs : List Int → List Int
  | c :: d :: rest => bitsI (H4.Bits.msbBits c.toNat d.toNat) ++ expandPairs rest
  | _ => []

theorem bitsI_append (a b : List Bool) : bitsI (a ++ b) = bitsI a ++ bitsI b := by simp [bitsI]

theorem expandPairs_flat (fs : List (Nat × Nat)) : expandPairs (flat fs) = bitsI (H4.Bits.fieldsBits fs) := by
  induction fs with
  | nil => rfl
  | cons f fs ih => simp only [flat, expandPairs, Int.toNat_natCast, ih, H4.Bits.fieldsBits_cons, bitsI_append]

theorem encodeBits_fuel (skip : Nat) (bs : List UInt8) (pad : List Bool) (fd : Nat) (h : 513 * bs.length + pad.length + 254 ≤ fd) :
    bs.length + ((encodeBits skip bs).length + pad.length) + 254 ≤ fd := by
  have := encRun_length_le skip bs _ 0 (initTrees_WF skip)
  unfold encodeBits
  omega

end H4.Lemmas.C05SkpFn
