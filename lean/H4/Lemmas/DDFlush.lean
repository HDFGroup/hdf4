import H4.Lemmas.DDInvOps
/-! # C17: every prefix of the flush (`HTPsync`) leaves a file that opens, with every old object intact -/
namespace H4.DD
open H4.Gen.Hdf

/-- effect of one logged write on the decoded disk image (only the two kinds of write `HTPsync` issues change DD blocks
    as a whole; the other kinds are not used below and leave the image as it is) -/
def applyWr (disk : List DBlock) : Wr → List DBlock
  | .hdr off n nx => disk.map (fun d => if d.myoff = off then { d with hdr := true, ndds := n, next := nx } else d)
  | .dds off l => disk.map (fun d => if d.myoff + (NDDS_SZ + OFFSET_SZ) = off then { d with dds := l } else d)
  | _ => disk

def applyWrs (disk : List DBlock) (ws : List Wr) : List DBlock := ws.foldl applyWr disk

theorem cut_old_subset {bs : List Block} {ds0 ds : List DBlock} (h : Tri bs ds0 ds) :
    ∀ x ∈ liveOf (slotsOf (cutChain ds0)), x ∈ liveOf (slotsOf (cutChain ds)) := by
  induction h with
  | nil => intro x hx; exact hx
  | @cons b d0 d bs ds0 ds hs _ ih =>
    intro x hx
    simp only [cutChain, slotsOf_cons, liveOf_append, List.mem_append] at hx ⊢
    rcases hx with hx | hx
    · left
      obtain ⟨hm, hl⟩ := mem_liveOf.mp hx
      apply mem_liveOf.mpr
      refine ⟨?_, hl⟩
      rcases hs.ddsd with e | e
      · rw [e]; exact hm
      · rw [e]
        obtain ⟨j, hj, rfl⟩ := List.getElem_of_mem hm
        have := hs.dds0 j _ (List.getElem?_eq_getElem hj) hl
        exact List.mem_of_getElem? this
    · right
      by_cases hn0 : d0.next ≠ 0
      · rw [if_pos hn0] at hx
        have hdn : d.next ≠ 0 := by
          rcases hs.nextd with h1 | h1
          · rw [h1]; exact hn0
          · rcases hs.next0 with h2 | h2
            · rw [h1, ← h2]; exact hn0
            · exact absurd h2 hn0
        rw [if_pos hdn]
        exact ih x hx
      · rw [if_neg hn0] at hx
        simp [liveOf] at hx

theorem cut_subset_mem {bs : List Block} {ds0 ds : List DBlock} (h : Tri bs ds0 ds) :
    ∀ x ∈ liveOf (slotsOf (cutChain ds)), x ∈ liveOf (slotsOf bs) := by
  induction h with
  | nil => intro x hx; exact hx
  | @cons b d0 d bs ds0 ds hs _ ih =>
    intro x hx
    simp only [cutChain, slotsOf_cons, liveOf_append, List.mem_append] at hx ⊢
    rcases hx with hx | hx
    · left
      obtain ⟨hm, hl⟩ := mem_liveOf.mp hx
      apply mem_liveOf.mpr
      refine ⟨?_, hl⟩
      rcases hs.ddsd with e | e
      · rw [e] at hm
        obtain ⟨j, hj, rfl⟩ := List.getElem_of_mem hm
        have := hs.dds0 j _ (List.getElem?_eq_getElem hj) hl
        exact List.mem_of_getElem? this
      · rw [e] at hm; exact hm
    · right
      by_cases hn : d.next ≠ 0
      · rw [if_pos hn] at hx; exact ih x hx
      · rw [if_neg hn] at hx; simp [liveOf] at hx

def OffInc : List Block → Prop
  | [] => True
  | b :: bs => (∀ c ∈ bs, b.myoff < c.myoff) ∧ OffInc bs

theorem offInc_of_chain : ∀ (bs : List Block) (off : Nat), chainFrom off bs → OffInc bs := by
  intro bs
  induction bs with
  | nil => intro _ _; trivial
  | cons b rest ih =>
    intro off h
    obtain ⟨h1, _, h3, h4⟩ := h
    exact ⟨fun c hc => by rw [h1]; exact h3 c hc, ih _ h4⟩

theorem tri_offs {bs : List Block} {ds0 ds : List DBlock} (h : Tri bs ds0 ds) : ∀ d ∈ ds, ∃ b ∈ bs, d.myoff = b.myoff := by
  induction h with
  | nil => intro d hd; cases hd
  | @cons b d0 d bs ds0 ds hs _ ih =>
    intro e he
    rcases List.mem_cons.mp he with rfl | he
    · exact ⟨b, by simp, hs.off⟩
    · obtain ⟨b', hb', hoff⟩ := ih e he
      exact ⟨b', by simp [hb'], hoff⟩

theorem tri_apply {bs : List Block} {ds0 ds : List DBlock} (h : Tri bs ds0 ds) (hinc : OffInc bs) {b : Block} (hb : b ∈ bs)
    (f : DBlock → DBlock) (hf : ∀ d0 d, SlotOK b d0 d → SlotOK b d0 (f d)) :
    Tri bs ds0 (ds.map fun d => if d.myoff = b.myoff then f d else d) := by
  induction h with
  | nil => cases hb
  | @cons b1 d0 d bs ds0 ds hs ht ih =>
    obtain ⟨hlt, hinc'⟩ := hinc
    simp only [List.map_cons]
    rcases List.mem_cons.mp hb with rfl | hb'
    · rw [map_noop ds (fun e => e.myoff = b.myoff) f (fun e he => by
        obtain ⟨b', hb', hoff⟩ := tri_offs ht e he
        have := hlt b' hb'; omega), if_pos hs.off]
      exact Tri.cons (hf _ _ hs) ht
    · rw [if_neg (by rw [hs.off]; have := hlt b hb'; omega)]
      exact Tri.cons hs (ih hinc' hb')

theorem tri_apply_hdr {bs : List Block} {ds0 ds : List DBlock} (h : Tri bs ds0 ds) (hinc : OffInc bs) {b : Block} (hb : b ∈ bs) :
    Tri bs ds0 (applyWr ds (.hdr b.myoff b.dds.length b.next)) :=
  tri_apply h hinc hb (fun d => { d with hdr := true, ndds := b.dds.length, next := b.next })
    (fun _ _ hs => ⟨hs.off0, hs.off, rfl, hs.nd0, ⟨hs.nd.2.1.symm, hs.nd.2⟩, hs.next0, Or.inr rfl, hs.dds0, hs.ddsd⟩)

theorem tri_apply_dds {bs : List Block} {ds0 ds : List DBlock} (h : Tri bs ds0 ds) (hinc : OffInc bs) {b : Block} (hb : b ∈ bs) :
    Tri bs ds0 (applyWr ds (.dds (b.myoff + (NDDS_SZ + OFFSET_SZ)) b.dds)) := by
  have := tri_apply h hinc hb (fun d => { d with dds := b.dds })
    (fun _ _ hs => ⟨hs.off0, hs.off, hs.hdr, hs.nd0, ⟨by simp only; rw [hs.nd.1, hs.nd.2.1], rfl, hs.nd.2.2⟩, hs.next0, hs.nextd, hs.dds0, Or.inr rfl⟩)
  simpa [applyWr] using this

theorem mem_syncWrites {bs : List Block} {w : Wr} (h : w ∈ syncWrites bs) :
    ∃ b ∈ bs, w = .hdr b.myoff b.dds.length b.next ∨ w = .dds (b.myoff + (NDDS_SZ + OFFSET_SZ)) b.dds := by
  induction bs with
  | nil => cases h
  | cons b rest ih =>
    unfold syncWrites at h
    rcases List.mem_append.mp h with h | h
    · split at h
      · simp at h
        rcases h with rfl | rfl
        · exact ⟨b, by simp, Or.inl rfl⟩
        · exact ⟨b, by simp, Or.inr rfl⟩
      · cases h
    · obtain ⟨b', hb', hw⟩ := ih h
      exact ⟨b', by simp [hb'], hw⟩

theorem tri_applyWrs {bs : List Block} {ds0 : List DBlock} (hinc : OffInc bs) :
    ∀ (ws : List Wr) (ds : List DBlock), (∀ w ∈ ws, w ∈ syncWrites bs) → Tri bs ds0 ds → Tri bs ds0 (applyWrs ds ws) := by
  intro ws
  induction ws with
  | nil => intro ds _ h; exact h
  | cons w ws ih =>
    intro ds hw h
    unfold applyWrs
    simp only [List.foldl_cons]
    apply ih (applyWr ds w) (fun x hx => hw x (by simp [hx]))
    obtain ⟨b, hb, hk⟩ := mem_syncWrites (hw w (by simp))
    rcases hk with rfl | rfl
    · exact tri_apply_hdr h hinc hb
    · exact tri_apply_dds h hinc hb

/-- ANY sequence of writes taken from those of `HTPsync` (cut short, reordered, partly repeated: the order in which the operating system
    carries them out is not the library's).  No step of the argument looks at the order: each write makes one block's header or DD list the one
    in memory (`Tri`). -/
theorem flush_any_safe (cfg : Cfg) {s : File} (h : Inv cfg s) (ha : Added s) (ws : List Wr)
    (hws : ∀ w ∈ ws, w ∈ syncWrites s.blocks) :
    ∃ chain, decodeBlocks s.disk = some (cutChain s.disk) ∧
      decodeBlocks (applyWrs s.disk ws) = some chain ∧
      (∀ x ∈ liveOf (slotsOf (cutChain s.disk)), x ∈ liveOf (slotsOf chain)) ∧
      (∀ x ∈ liveOf (slotsOf chain), x ∈ s.live) := by
  have hne : s.blocks ≠ [] := List.ne_nil_of_length_pos h.wf.ne
  have htri0 := tri_of_par _ _ ha.par
  have hinc := offInc_of_chain _ _ h.disk.chain
  have htri := tri_applyWrs (ds0 := s.disk) hinc ws s.disk hws htri0
  refine ⟨cutChain (applyWrs s.disk ws), ?_, ?_, cut_old_subset htri, cut_subset_mem htri⟩
  · unfold decodeBlocks
    exact readChain_tri s.disk [] s.blocks s.disk s.disk [] MAGICLEN _ (by simp) htri0 hne h.disk.chain (by simp) (by rw [ha.1]; exact Nat.le_refl _)
  · unfold decodeBlocks
    have hl := htri.length.1
    exact readChain_tri _ [] s.blocks s.disk _ [] MAGICLEN _ (by simp) htri hne h.disk.chain (by simp) (by rw [hl]; exact Nat.le_refl _)

/-- the case of a crash: a prefix of the writes in the order `HTPsync` issues them -/
theorem flush_prefix_safe (cfg : Cfg) {s : File} (h : Inv cfg s) (ha : Added s) (j : Nat) :
    ∃ old chain, decodeBlocks s.disk = some old ∧
      decodeBlocks (applyWrs s.disk ((syncWrites s.blocks).take j)) = some chain ∧
      (∀ x ∈ liveOf (slotsOf old), x ∈ liveOf (slotsOf chain)) ∧
      (∀ x ∈ liveOf (slotsOf chain), x ∈ s.live) :=
  ⟨_, flush_any_safe cfg h ha _ (fun _ hw => List.mem_of_mem_take hw)⟩

end H4.DD
