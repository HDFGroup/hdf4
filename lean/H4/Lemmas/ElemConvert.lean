import H4.Lemmas.ElemLinkedHwrite
import H4.Lemmas.ElemCoh
/-! `HLconvert`: promotion of a contiguous element to linked blocks leaves every byte string unchanged. -/
namespace H4.Elem
open H4.Gen.Hdf

theorem mkSpecial_user (t : Nat) (h : t < H4.Gen.Elem.SPECIAL_TAG_BIT) :
    mkSpecial t = t + H4.Gen.Elem.SPECIAL_TAG_BIT ∧ isSpecial (mkSpecial t) = true ∧ baseTag (mkSpecial t) = t ∧
    mkSpecial t ≠ DFTAG_NULL := by
  have h' : t < 16384 := h
  have e : mkSpecial t = t + 16384 := by
    unfold mkSpecial
    simp only [H4.Gen.Elem.EXTENDED_TAG_BIT, H4.Gen.Elem.SPECIAL_TAG_BIT]
    have h1 : t % (2 * 32768) < 32768 := by omega
    have h2 : ¬ (t / 16384 % 2 = 1) := by omega
    simp [h1, h2]
  have hs : isSpecial (t + 16384) = true := by rw [isSpecial_iff]; omega
  refine ⟨e, by rw [e]; exact hs, ?_, ?_⟩
  · rw [e]; unfold baseTag; rw [if_pos hs]; show t + 16384 - 16384 = t; omega
  · rw [e]; simp only [DFTAG_NULL]; omega

/-- the data extent moves from the element's DD (slot `s`, deleted) to a fresh `DFTAG_LINKED` DD (slot `j`):
    what `Hdupdd` + `HTPdelete` do inside `HLconvert`/`HLcreate` -/
theorem moveExt_spec (f : File) (hw : WFF f) (s j off len : Nat) (hs : f.live s) (hj : f.live j) (hne : j ≠ s)
    (hes : (f.dd s).ext = some (off, len)) (hej : (f.dd j).ext = none) :
    let f' := (f.ddSetExt j (off, len)).ddDelete s
    WFF f' ∧ (∀ x, f'.dd x = if x = s then { f.dd s with tag := DFTAG_NULL } else if x = j then { f.dd j with ext := some (off, len) } else f.dd x) ∧
    f'.disk = f.disk ∧ f'.endOff = f.endOff ∧ f'.links = f.links ∧ f'.ndds = f.ndds ∧ f'.present = f.present := by
  intro f'
  have hjl := live_lt f j hj
  have hsl := live_lt f s hs
  have hle := hw.ext_le s off len hs hes
  have hdd : ∀ x, f'.dd x = if x = s then { f.dd s with tag := DFTAG_NULL } else if x = j then { f.dd j with ext := some (off, len) } else f.dd x := by
    intro x
    show ((f.ddSetExt j (off, len)).ddDelete s).dd x = _
    rw [ddDelete_dd _ s x (by unfold File.ddSetExt; rw [updateDD_mem]; simp; exact hsl)]
    rw [ddSetExt_dd f j s _ hjl, ddSetExt_dd f j x _ hjl]
    have : ¬ (s = j) := fun e => hne e.symm
    simp only [this, if_false]
  have hend : f'.endOff = f.endOff := by
    show ((f.ddSetExt j (off, len)).ddDelete s).endOff = _
    rw [ddDelete_endOff, ddSetExt_dd f j s _ hjl]
    have : ¬ (s = j) := fun e => hne e.symm
    simp only [this, if_false, hes, ddSetExt_endOff f j _ hjl]
    rw [Nat.max_eq_left (by omega : off + len ≤ f.endOff), Nat.max_eq_left (by omega : off + len ≤ f.endOff)]
  have hdisk : f'.disk = f.disk := by
    show ((f.ddSetExt j (off, len)).ddDelete s).disk = _
    rw [ddDelete_disk, ddSetExt_disk]
  refine ⟨?_, hdd, hdisk, hend, ?_, ?_, ?_⟩
  · have hlive : ∀ x, f'.live x ↔ (f.live x ∧ x ≠ s) := by
      intro x
      unfold File.live
      rw [hdd]
      by_cases e1 : x = s
      · subst e1; simp
      · by_cases e2 : x = j
        · subst e2; simp [e1]
        · simp [e1, e2]
    have hext : ∀ x o l, f'.live x → (f'.dd x).ext = some (o, l) → (x = j ∧ o = off ∧ l = len) ∨ (x ≠ j ∧ x ≠ s ∧ (f.dd x).ext = some (o, l)) := by
      intro x o l hx he
      have hxs := ((hlive x).mp hx).2
      rw [hdd] at he
      simp only [hxs, if_false] at he
      by_cases e2 : x = j
      · subst e2; simp at he; left; exact ⟨rfl, he.1.symm, he.2.symm⟩
      · simp only [e2, if_false] at he; right; exact ⟨e2, hxs, he⟩
    refine ⟨by show f'.ndds ≥ 1; show ((f.ddSetExt j (off, len)).ddDelete s).ndds ≥ 1; rw [ddDelete_ndds, ddSetExt_ndds]; exact hw.ndds_pos, ?_, ?_, ?_, ?_⟩
    · intro x o l hx he
      rw [hend]
      rcases hext x o l hx he with ⟨_, h1, h2⟩ | ⟨_, _, h3⟩
      · omega
      · exact hw.ext_le x o l ((hlive x).mp hx).1 h3
    · intro a b oa la ob lb hab ha hb hea heb x
      rcases hext a oa la ha hea with ⟨a1, a2, a3⟩ | ⟨a1, a2, a3⟩ <;> rcases hext b ob lb hb heb with ⟨b1, b2, b3⟩ | ⟨b1, b2, b3⟩
      · omega
      · have := hw.disj s b off len ob lb (fun e => b2 e.symm) hs ((hlive b).mp hb).1 hes b3 x; omega
      · have := hw.disj a s oa la off len a2 ((hlive a).mp ha).1 hs a3 hes x; omega
      · exact hw.disj a b oa la ob lb hab ((hlive a).mp ha).1 ((hlive b).mp hb).1 a3 b3 x
    · intro k hk; rw [hdisk]; rw [hend] at hk; exact hw.tail0 k hk
    · intro a b ha hb ht hr
      have tr : ∀ x, x ≠ s → (f'.dd x).tag = (f.dd x).tag ∧ (f'.dd x).ref = (f.dd x).ref := by
        intro x hx
        rw [hdd]
        by_cases e2 : x = j
        · subst e2; simp [hx]
        · simp [hx, e2]
      have has := ((hlive a).mp ha).2
      have hbs := ((hlive b).mp hb).2
      rw [(tr a has).1, (tr b hbs).1] at ht
      rw [(tr a has).2, (tr b hbs).2] at hr
      exact hw.uniq a b ((hlive a).mp ha).1 ((hlive b).mp hb).1 ht hr
  · show ((f.ddSetExt j (off, len)).ddDelete s).links = _; rw [ddDelete_links, ddSetExt_links]
  · show ((f.ddSetExt j (off, len)).ddDelete s).ndds = _; rw [ddDelete_ndds, ddSetExt_ndds]
  · show ((f.ddSetExt j (off, len)).ddDelete s).present = _; rw [ddDelete_present, ddSetExt_present]

/-- the descriptor `HLconvert`/`HLcreate` build: one table whose first entry is the old data -/
def firstInfo (len blen nblk linkRef firstRef : Nat) : LinkInfo :=
  { length := len, firstLen := if firstRef = 0 then blen else len, blockLen := blen, numBlocks := nblk,
    tables := [(linkRef, (List.replicate nblk 0).set 0 firstRef)] }

theorem firstInfo_blockRef (len blen nblk lr fr t idx : Nat) (hn : 1 ≤ nblk) :
    (firstInfo len blen nblk lr fr).blockRef t idx = if t = 0 ∧ idx = 0 then fr else 0 := by
  unfold firstInfo LinkInfo.blockRef
  simp only [List.getD_eq_getElem?_getD]
  cases t with
  | zero =>
    simp only [List.getElem?_cons_zero, Option.getD_some, List.getElem?_set, true_and]
    by_cases h : idx = 0
    · subst h
      have : 0 < nblk := by omega
      simp [this]
    · have : ¬ (0 = idx) := fun e => h e.symm
      simp only [this, if_false, h, List.getElem?_replicate]
      split <;> rfl
  | succ k => simp

theorem firstInfo_lbyte (f : File) (len blen nblk lr fr off : Nat) (hb : 1 ≤ blen) (hn : 1 ≤ nblk) (h0 : fr = 0 → len = 0)
    (hbe : fr ≠ 0 → f.blockExt fr = some (off, len)) (i : Nat) :
    f.lbyte (firstInfo len blen nblk lr fr) i = if i < len then rd f.disk (off + i) else 0 := by
  by_cases hfr : fr = 0
  · unfold File.lbyte
    simp only
    rw [firstInfo_blockRef _ _ _ _ _ _ _ hn, hfr, ite_self, if_neg (by rw [h0 hfr]; exact Nat.not_lt_zero i)]
    rfl
  have hbe := hbe hfr
  have hli : (firstInfo len blen nblk lr fr).firstLen = len ∧ (firstInfo len blen nblk lr fr).blockLen = blen ∧
      (firstInfo len blen nblk lr fr).numBlocks = nblk := by simp [firstInfo, hfr]
  obtain ⟨t, idx, r, hidx, hr, hi⟩ := pos_block len blen nblk i hb hn
  have := lbyte_block f (firstInfo len blen nblk lr fr) (by rw [hli.2.1]; exact hb) t idx r
    (by rw [hli.2.2]; exact hidx) (by rw [hli.1, hli.2.1, hli.2.2]; exact hr)
  rw [hli.1, hli.2.1, hli.2.2, hi] at this
  rw [this, firstInfo_blockRef _ _ _ _ _ _ _ hn]
  by_cases h0 : t = 0 ∧ idx = 0
  · obtain ⟨e1, e2⟩ := h0
    subst e1 e2
    simp only [and_self, if_true, File.blockByte, hfr, if_false, hbe]
    simp only [Nat.zero_mul, Nat.add_zero, blockLenOf, blockStart, if_true, Nat.zero_add] at hr hi
    subst hi
    simp [hr]
  · rw [if_neg h0]
    simp only [File.blockByte, if_true]
    have : ¬ (i < len) := by
      intro hlt
      have h1 := startBlock_block len blen 0 i hb (by simp [blockLenOf]; exact hlt)
      have h2 := startBlock_block len blen (t * nblk + idx) r hb hr
      simp only [blockStart, if_true, Nat.zero_add] at h1
      rw [hi, h1] at h2
      simp only [Prod.mk.injEq] at h2
      have := mul_add_div_mod t nblk idx hidx
      rw [← h2.1] at this
      simp at this
      exact h0 ⟨this.1.symm, this.2.symm⟩
    rw [if_neg this]

theorem firstInfo_spec (f : File) (len blen nblk lr fr off : Nat) (hb : 1 ≤ blen) (hn : 1 ≤ nblk) (h0 : fr = 0 → len = 0)
    (hbe : fr ≠ 0 → f.blockExt fr = some (off, len)) :
    WFL f (firstInfo len blen nblk lr fr) ∧ f.linkedBytes (firstInfo len blen nblk lr fr) = f.bytesAt off len := by
  have hlb := firstInfo_lbyte f len blen nblk lr fr off hb hn h0 hbe
  have href := fun t idx => firstInfo_blockRef len blen nblk lr fr t idx hn
  refine ⟨⟨⟨hb, hn, Nat.le_refl _, ?_, ?_, ?_⟩, ?_, ?_⟩, ?_⟩
  · intro t ht
    have : t = 0 := by simp only [firstInfo, List.length_cons, List.length_nil] at ht; omega
    subst this
    simp [firstInfo]
  · intro t idx _ _ h
    rw [href] at h ⊢
    by_cases e : t = 0 ∧ idx = 0
    · rw [if_pos e] at h ⊢
      obtain ⟨rfl, rfl⟩ := e
      exact ⟨off, by rw [hbe h]; simp [firstInfo, h, blockLenOf]⟩
    · rw [if_neg e] at h; exact absurd rfl h
  · intro a b a' b' h he
    rw [href] at h he
    rw [href] at he
    by_cases e : a = 0 ∧ b = 0
    · rw [if_pos e] at h he
      by_cases e' : a' = 0 ∧ b' = 0
      · exact ⟨e.1.trans e'.1.symm, e.2.trans e'.2.symm⟩
      · rw [if_neg e'] at he; exact absurd he h
    · rw [if_neg e] at h; exact absurd rfl h
  · show len ≤ blockStart (if fr = 0 then blen else len) blen (1 * nblk)
    unfold blockStart
    rw [if_neg (by omega)]
    split
    · rename_i h; rw [h0 h]; exact Nat.zero_le _
    · exact Nat.le_add_right _ _
  · intro i hi
    have hi' : len ≤ i := hi
    rw [hlb, if_neg (by omega)]
  · unfold File.linkedBytes File.bytesAt
    apply List.map_congr_left
    intro i hi
    have hi : i < len := List.mem_range.mp hi
    rw [hlb, if_pos hi]

theorem linkHdr_length (a b c d : Nat) : (linkHdr a b c d).length = 16 := rfl

theorem writeLinkHdr_eq (f : File) (slot len blen nblk fr : Nat) :
    f.writeLinkHdr slot len blen nblk fr =
      (({ ((f.setLength slot 16).1.pwrite (f.setLength slot 16).2 (linkHdr len blen nblk (f.tagNewRef DFTAG_LINKED))) with
          endOff := max ((f.setLength slot 16).1.pwrite (f.setLength slot 16).2 (linkHdr len blen nblk (f.tagNewRef DFTAG_LINKED))).endOff
            ((f.setLength slot 16).2 + 16) } : File).newTable (f.tagNewRef DFTAG_LINKED) nblk,
       firstInfo len blen nblk (f.tagNewRef DFTAG_LINKED) fr) := rfl

/-- the element `k` of `f` (in slot `old`, if it exists) is now the linked-block element in slot `s'` of `f'`, with bytes `B` -/
structure Replaced (f : File) (old : Option Nat) (k : Nat × Nat) (B : Bytes) (f' : File) (s' : Nat) : Prop where
  wfe : WFE f'
  live' : f'.live s'
  special' : isSpecial (f'.dd s').tag = true
  key' : f'.keyOf s' = k
  bytes : f'.slotBytes s' = some B
  others : ∀ x, f.live x → old ≠ some x → f'.dd x = f.dd x ∧ f'.slotBytes x = f.slotBytes x
  new_slots : ∀ x, f'.live x → (f.live x ∧ old ≠ some x) ∨ x = s' ∨ (f'.dd x).tag = DFTAG_LINKED
  present : f'.present = f.present

theorem Replaced.elemSet {f f' : File} {old : Option Nat} {k : Nat × Nat} {B : Bytes} {s' : Nat} (R : Replaced f old k B f' s') :
    ElemSet f old k (some B) f' s' :=
  ⟨R.wfe, R.live', R.key', R.bytes, fun x hx ho => SameShape.of_eq (R.others x hx ho).1,
    fun x hx ho _ _ => (R.others x hx ho).2, R.new_slots, R.present⟩

/-- the common tail of `HLcreate` and `HLconvert`: `g` is `f` without the DD in slot `old` (if any) and, when there is data
    (`fr ≠ 0`), with its extent `(off, len)` under the unused `DFTAG_LINKED` ref `fr` in a slot that was free -/
theorem linkUp_spec (f g : File) (hw : WFE f) (hg : WFF g) (old : Option Nat) (tag ref len blen nblk fr off : Nat)
    (hsp : isSpecial tag = false) (hlt : tag < H4.Gen.Elem.SPECIAL_TAG_BIT) (hut : tag ≠ DFTAG_LINKED)
    (hb : 1 ≤ blen) (hn : 1 ≤ nblk)
    (hkeep : ∀ x, f.live x → old ≠ some x → g.dd x = f.dd x)
    (hlive : ∀ x, g.live x → (f.live x ∧ old ≠ some x) ∨ (¬ f.live x ∧ (g.dd x).tag = DFTAG_LINKED))
    (hrd : ∀ y, rd g.disk y = rd f.disk y) (hend : f.endOff ≤ g.endOff) (hlinks : g.links = f.links)
    (hpres : g.present = f.present)
    (hkey : ∀ x, f.live x → old ≠ some x → f.keyOf x ≠ (tag, ref))
    (hold : ∀ i, old = some i → baseTag (f.dd i).tag ≠ DFTAG_LINKED)
    (h0 : fr = 0 → len = 0)
    (hdata : fr ≠ 0 → ∃ j, ¬ f.live j ∧ g.dd j = { tag := DFTAG_LINKED, ref := fr, ext := some (off, len) } ∧ off + len ≤ f.endOff) :
    Replaced f old (tag, ref) (f.bytesAt off len)
      (((g.ddCreate (mkSpecial tag) ref).1.writeLinkHdr (g.ddCreate (mkSpecial tag) ref).2 len blen nblk fr).1.setLink (tag, ref)
        ((g.ddCreate (mkSpecial tag) ref).1.writeLinkHdr (g.ddCreate (mkSpecial tag) ref).2 len blen nblk fr).2)
      (g.ddCreate (mkSpecial tag) ref).2 := by
  obtain ⟨hmk1, hmk2, hmk3, hmk4⟩ := mkSpecial_user tag hlt
  have hbt : baseTag tag = tag := baseTag_not_special _ hsp
  have hglive : ∀ x, f.live x → old ≠ some x → g.live x := fun x hx ho => by unfold File.live; rw [hkeep x hx ho]; exact hx
  have fresh4 : ∀ x, ¬ g.hasKey x (mkSpecial tag) ref := by
    intro x hk
    rcases hlive x hk.1 with ⟨hxl, hxo⟩ | ⟨_, hlk⟩
    · apply hkey x hxl hxo
      have h1 := hk.2.1; have h2 := hk.2.2
      rw [hkeep x hxl hxo, hmk3] at h1; rw [hkeep x hxl hxo] at h2
      unfold File.keyOf; rw [h1, h2]
    · have h1 := hk.2.1
      rw [hlk, hmk3, baseTag_linked] at h1
      exact hut h1.symm
  have C4 := ddCreate_spec g (mkSpecial tag) ref hg.ndds_pos hg.tail0
  have W4 := C4.wff hg fresh4
  generalize g.ddCreate (mkSpecial tag) ref = c4 at C4 W4 ⊢
  obtain ⟨f4, s'⟩ := c4
  simp only at C4 W4 ⊢
  have hs'free : ¬ g.live s' := fun h => h C4.was_free
  rw [writeLinkHdr_eq]
  simp only
  have fresh5 := tagNewRef_fresh f4 DFTAG_LINKED
  generalize f4.tagNewRef DFTAG_LINKED = lr at fresh5 ⊢
  have S5 := setLength_spec f4 s' 16 C4.lt W4.tail0
  have W5 := S5.wff W4
  generalize f4.setLength s' 16 = sl at S5 W5 ⊢
  obtain ⟨f5, hoff⟩ := sl
  simp only at S5 W5 ⊢
  have hfit : hoff + (linkHdr len blen nblk lr).length ≤ f5.endOff := by rw [linkHdr_length, S5.end_eq, S5.off_eq]; exact Nat.le_refl _
  have W6 := pwrite_wff f5 W5 hoff (linkHdr len blen nblk lr) hfit
  rw [endOff_max_noop _ _ (by show hoff + 16 ≤ f5.endOff; rw [S5.end_eq, S5.off_eq]; exact Nat.le_refl _)]
  have hdd6 : ∀ x, (f5.pwrite hoff (linkHdr len blen nblk lr)).dd x =
      if x = s' then { tag := mkSpecial tag, ref := ref, ext := some (hoff, 16) } else g.dd x := by
    intro x
    rw [pwrite_dd]
    by_cases e : x = s'
    · subst e; rw [S5.dd_new, C4.dd_new]; simp
    · rw [S5.dd_keep x e, C4.dd_keep x e]; simp [e]
  have fresh6 : ∀ x, ¬ (f5.pwrite hoff (linkHdr len blen nblk lr)).hasKey x DFTAG_LINKED lr := by
    intro x hk
    apply fresh5 x
    unfold File.hasKey File.live at *
    rw [hdd6] at hk
    by_cases e : x = s'
    · subst e
      simp only [if_true] at hk
      rw [C4.dd_new]; exact hk
    · simp only [e, if_false] at hk
      rw [C4.dd_keep x e]; exact hk
  obtain ⟨E7, W7⟩ := newTable_spec _ W6 lr nblk fresh6
  generalize hf7 : (f5.pwrite hoff (linkHdr len blen nblk lr)).newTable lr nblk = f7 at E7 W7
  have hoff_ge : f.endOff ≤ hoff := by rw [S5.off_eq]; exact Nat.le_trans hend C4.end_le
  have hlive6 : ∀ x, (f5.pwrite hoff (linkHdr len blen nblk lr)).live x ↔ (g.live x ∨ x = s') := by
    intro x
    unfold File.live
    rw [hdd6]
    by_cases e : x = s'
    · subst e; simp [hmk4]
    · simp [e]
  have hdd7 : ∀ x, (g.live x ∨ x = s') → (f7.setLink (tag, ref) (firstInfo len blen nblk lr fr)).dd x =
      if x = s' then { tag := mkSpecial tag, ref := ref, ext := some (hoff, 16) } else g.dd x := by
    intro x hx
    rw [setLink_dd, E7.dd_keep x ((hlive6 x).mpr hx), hdd6]
  have hrd7 : ∀ y, y < f.endOff → rd f7.disk y = rd f.disk y := by
    intro y hy
    rw [E7.rd_keep, pwrite_rd, if_neg (by omega), S5.rd_keep, C4.rd_keep, hrd]
  have hg_dd : ∀ x, g.live x → (f7.setLink (tag, ref) (firstInfo len blen nblk lr fr)).dd x = g.dd x := by
    intro x hx
    rw [hdd7 x (Or.inl hx), if_neg (fun e : x = s' => hs'free (e ▸ hx))]
  have hold_dd : ∀ x, f.live x → old ≠ some x → (f7.setLink (tag, ref) (firstInfo len blen nblk lr fr)).dd x = f.dd x :=
    fun x hx ho => (hg_dd x (hglive x hx ho)).trans (hkeep x hx ho)
  have hs'_dd : (f7.setLink (tag, ref) (firstInfo len blen nblk lr fr)).dd s' =
      { tag := mkSpecial tag, ref := ref, ext := some (hoff, 16) } := by
    rw [hdd7 s' (Or.inr rfl), if_pos rfl]
  have W8 : WFF (f7.setLink (tag, ref) (firstInfo len blen nblk lr fr)) := W7.setLink _ _
  have hlink8 : (f7.setLink (tag, ref) (firstInfo len blen nblk lr fr)).link (tag, ref) = some (firstInfo len blen nblk lr fr) :=
    link_setLink_same _ _ _
  have hlink8_ne : ∀ k, k ≠ (tag, ref) → (f7.setLink (tag, ref) (firstInfo len blen nblk lr fr)).link k = f.link k := by
    intro k hk
    rw [link_setLink_ne _ _ _ _ hk, link_of_links E7.links]
    show f5.link k = f.link k
    rw [link_of_links S5.links, link_of_links C4.links, link_of_links hlinks]
  have hpres8 : (f7.setLink (tag, ref) (firstInfo len blen nblk lr fr)).present = f.present := by
    show f7.present = f.present
    rw [E7.present]
    show f5.present = f.present
    rw [S5.present, C4.present, hpres]
  have hlive8 : ∀ x, (f7.setLink (tag, ref) (firstInfo len blen nblk lr fr)).live x →
      (f.live x ∧ old ≠ some x) ∨ x = s' ∨ ((f7.setLink (tag, ref) (firstInfo len blen nblk lr fr)).dd x).tag = DFTAG_LINKED := by
    intro x hx
    rcases E7.new_linked x hx with h6 | h6
    · rcases (hlive6 x).mp h6 with h3 | h3
      · rcases hlive x h3 with h | ⟨_, h⟩
        · exact Or.inl h
        · right; right; rw [hg_dd x h3]; exact h
      · exact Or.inr (Or.inl h3)
    · exact Or.inr (Or.inr h6)
  have hrd8 : ∀ y, y < f.endOff → rd (f7.setLink (tag, ref) (firstInfo len blen nblk lr fr)).disk y = rd f.disk y := hrd7
  generalize f7.setLink (tag, ref) (firstInfo len blen nblk lr fr) = f8 at hg_dd hold_dd hs'_dd W8 hlink8 hlink8_ne hpres8 hlive8 hrd8 ⊢
  have hkey_s' : f8.keyOf s' = (tag, ref) := by
    unfold File.keyOf; rw [hs'_dd]; simp only; rw [hmk3]
  have hdata8 : fr ≠ 0 → ∃ j, ¬ f.live j ∧ f8.hasKey j DFTAG_LINKED fr ∧ f8.blockExt fr = some (off, len) := by
    intro hfr
    obtain ⟨j, hjf, hjd, _⟩ := hdata hfr
    have hjg : g.live j := by unfold File.live; rw [hjd]; exact (by decide : DFTAG_LINKED ≠ DFTAG_NULL)
    have hk : f8.hasKey j DFTAG_LINKED fr := by
      unfold File.hasKey File.live; rw [hg_dd j hjg, hjd]; exact ⟨(by decide : DFTAG_LINKED ≠ DFTAG_NULL), rfl, rfl⟩
    exact ⟨j, hjf, hk, blockExt_of_slot W8 hk (by rw [hg_dd j hjg, hjd])⟩
  obtain ⟨hwfl, hbytes⟩ := firstInfo_spec f8 len blen nblk lr fr off hb hn h0 (fun hfr => (hdata8 hfr).choose_spec.2.2)
  have hs'live : f8.live s' := by unfold File.live; rw [hs'_dd]; exact hmk4
  have hs'sp : isSpecial (f8.dd s').tag = true := by rw [hs'_dd]; exact hmk2
  have hs_not_blk : ∀ (li2 : LinkInfo) y, f.blockSlotOf li2 y → old ≠ some y := by
    intro li2 y ⟨t, idx, _, hk⟩ e
    exact hold y e (by rw [hk.2.1]; rfl)
  have hblk_back : ∀ (li1 : LinkInfo), WFLs f li1 → ∀ y, f8.blockSlotOf li1 y → f.blockSlotOf li1 y :=
    fun li1 hl1 y ⟨t, idx, h, hk⟩ => ⟨t, idx, h, blockSlot_back W8 (hl1.ref_ext t idx h)
      (fun j0 hk0 => hold_dd j0 hk0.1 (hs_not_blk li1 j0 ⟨t, idx, h, hk0⟩)) hk⟩
  have hblk_new : ∀ y, f8.blockSlotOf (firstInfo len blen nblk lr fr) y → ¬ f.live y := by
    intro y ⟨t, idx, h, hk⟩
    rw [firstInfo_blockRef _ _ _ _ _ _ _ hn] at h hk
    by_cases e : t = 0 ∧ idx = 0
    · rw [if_pos e] at h hk
      obtain ⟨j, hjf, hjk, _⟩ := hdata8 h
      rw [W8.uniq y j hk.1 hjk.1 (by rw [hk.2.1, hjk.2.1]) (by rw [hk.2.2, hjk.2.2])]
      exact hjf
    · rw [if_neg e] at h; exact absurd rfl h
  have hframe : ∀ x, f.live x → old ≠ some x → f8.slotBytes x = f.slotBytes x := by
    intro x hx hxo
    apply slotBytes_frame hw W8 x hx (T := fun y => old = some y)
    · intro y hy hyo; exact hold_dd y hy hyo
    · exact hlink8_ne _ (hkey x hx hxo)
    · intro y hy _; exact hrd8 y hy
    · exact hxo
    · intro _ li2 _ y hb2 e; exact hs_not_blk li2 y hb2 e
  have hspecial8 : ∀ x, f8.live x → isSpecial (f8.dd x).tag = true → (f.live x ∧ old ≠ some x ∧ f8.dd x = f.dd x) ∨ x = s' := by
    intro x hx hsx
    rcases hlive8 x hx with ⟨h1, h2⟩ | h | h
    · exact Or.inl ⟨h1, h2, hold_dd x h1 h2⟩
    · exact Or.inr h
    · rw [h, isSpecial_linked] at hsx; exact absurd hsx (by decide)
  have hold_li : ∀ x li, f.live x → old ≠ some x → f8.dd x = f.dd x → isSpecial (f.dd x).tag = true →
      f8.link (f8.keyOf x) = some li → f.link (f.keyOf x) = some li ∧ WFL f li := by
    intro x li h1 h2 h3 hsx hk
    rw [keyOf_eq h3, hlink8_ne _ (hkey x h1 h2)] at hk
    obtain ⟨li', _, _, h11, h12, _, _⟩ := hw.linked_ok x h1 hsx
    rw [hk] at h11
    cases h11
    exact ⟨hk, h12⟩
  refine ⟨⟨W8, ?_, ?_, ?_⟩, hs'live, hs'sp, hkey_s', ?_, fun x hx hxo => ⟨hold_dd x hx hxo, hframe x hx hxo⟩, hlive8, hpres8⟩
  · intro x hx hsx
    rcases hspecial8 x hx hsx with ⟨h1, h2, h3⟩ | h
    · rw [h3] at hsx
      obtain ⟨li1, ho1, hl1, hk1, hwl1, he1, h61⟩ := hw.linked_ok x h1 hsx
      refine ⟨li1, ho1, hl1, by rw [keyOf_eq h3, hlink8_ne _ (hkey x h1 h2)]; exact hk1, ?_, by rw [h3]; exact he1, h61⟩
      apply hwl1.frame W8
      · intro y ⟨t, idx, h, hk⟩
        exact hold_dd y hk.1 (hs_not_blk li1 y ⟨t, idx, h, hk⟩)
      · intro t idx o l r _ hbx _
        obtain ⟨y, hyk, hye⟩ := blockExt_slot hbx
        have := hw.ext_le y o l hyk.1 hye
        exact hrd8 (o + r) (by omega)
    · subst h
      exact ⟨_, hoff, 16, by rw [hkey_s']; exact hlink8, hwfl, by rw [hs'_dd], by omega⟩
  · intro x hx hsx
    rcases hspecial8 x hx hsx with ⟨h1, _, h3⟩ | h
    · rw [h3] at hsx ⊢; exact hw.hdr_tag x h1 hsx
    · subst h; rw [hs'_dd]; simp only; rw [hmk3]; exact hut
  · intro x1 x2 l1 l2 y hx1 hs1 hx2 hs2 hk1 hk2 hb1 hb2
    rcases hspecial8 x1 hx1 hs1 with ⟨a1, a2, a3⟩ | e1 <;> rcases hspecial8 x2 hx2 hs2 with ⟨b1, b2, b3⟩ | e2
    · rw [a3] at hs1; rw [b3] at hs2
      obtain ⟨k1, w1⟩ := hold_li x1 l1 a1 a2 a3 hs1 hk1
      obtain ⟨k2, w2⟩ := hold_li x2 l2 b1 b2 b3 hs2 hk2
      exact hw.own x1 x2 l1 l2 y a1 hs1 b1 hs2 k1 k2 (hblk_back l1 w1.toWFLs y hb1) (hblk_back l2 w2.toWFLs y hb2)
    · exfalso
      subst e2
      rw [a3] at hs1
      obtain ⟨_, w1⟩ := hold_li x1 l1 a1 a2 a3 hs1 hk1
      rw [hkey_s', hlink8] at hk2
      cases hk2
      obtain ⟨_, _, _, hk⟩ := hblk_back l1 w1.toWFLs y hb1
      exact hblk_new y hb2 hk.1
    · exfalso
      subst e1
      rw [b3] at hs2
      obtain ⟨_, w2⟩ := hold_li x2 l2 b1 b2 b3 hs2 hk2
      rw [hkey_s', hlink8] at hk1
      cases hk1
      obtain ⟨_, _, _, hk⟩ := hblk_back l2 w2.toWFLs y hb2
      exact hblk_new y hb1 hk.1
    · rw [e1, e2]
  · rw [slotBytes_special _ _ hs'sp, hkey_s', hlink8, Option.map_some, hbytes]
    congr 1
    apply bytesAt_congr
    intro i hi
    by_cases hfr : fr = 0
    · rw [h0 hfr] at hi; exact absurd hi (Nat.not_lt_zero i)
    · obtain ⟨_, _, _, hle⟩ := hdata hfr
      exact hrd8 (off + i) (by omega)

structure Converted (f : File) (s off len : Nat) (f' : File) (s' : Nat) : Prop where
  wfe : WFE f'
  live' : f'.live s'
  special' : isSpecial (f'.dd s').tag = true
  key' : f'.keyOf s' = f.keyOf s
  bytes : f'.slotBytes s' = some (f.bytesAt off len)
  others : ∀ x, f.live x → x ≠ s → f'.dd x = f.dd x ∧ f'.slotBytes x = f.slotBytes x
  new_slots : ∀ x, f'.live x → (f.live x ∧ x ≠ s) ∨ x = s' ∨ (f'.dd x).tag = DFTAG_LINKED
  present : f'.present = f.present

theorem convertTail_replaced (f : File) (hw : WFE f) (s off len blen nblk : Nat) (hs : f.live s)
    (hsp : isSpecial (f.dd s).tag = false) (hlt : (f.dd s).tag < H4.Gen.Elem.SPECIAL_TAG_BIT)
    (hut : (f.dd s).tag ≠ DFTAG_LINKED) (hes : (f.dd s).ext = some (off, len)) (hb : 1 ≤ blen) (hn : 1 ≤ nblk) :
    Replaced f (some s) (f.keyOf s) (f.bytesAt off len) (f.convertTail s (f.dd s) off len blen nblk).1
      (f.convertTail s (f.dd s) off len blen nblk).2 := by
  have hbt : baseTag (f.dd s).tag = (f.dd s).tag := baseTag_not_special _ hsp
  have fresh1 := tagNewRef_fresh f DFTAG_LINKED
  have hnr0 := tagNewRef_pos f DFTAG_LINKED
  have C1 := ddCreate_spec f DFTAG_LINKED (f.tagNewRef DFTAG_LINKED) hw.ndds_pos hw.tail0
  have W2 := C1.wff hw.toWFF fresh1
  unfold File.convertTail
  simp only
  generalize f.tagNewRef DFTAG_LINKED = nr at fresh1 hnr0 C1 W2 ⊢
  generalize f.ddCreate DFTAG_LINKED nr = c1 at C1 W2 ⊢
  obtain ⟨f2, j⟩ := c1
  simp only at C1 W2 ⊢
  have hjs : j ≠ s := fun e => hs (by rw [← e]; exact C1.was_free)
  have hd2s : f2.dd s = f.dd s := C1.dd_keep s (fun e => hjs e.symm)
  have hl2s : f2.live s := by unfold File.live; rw [hd2s]; exact hs
  have hl2j : f2.live j := by unfold File.live; rw [C1.dd_new]; exact (by decide : DFTAG_LINKED ≠ DFTAG_NULL)
  obtain ⟨W3, hdd3, hdisk3, hend3, hlinks3, _, hpres3⟩ :=
    moveExt_spec f2 W2 s j off len hl2s hl2j hjs (by rw [hd2s]; exact hes) (by rw [C1.dd_new])
  generalize (f2.ddSetExt j (off, len)).ddDelete s = f3 at W3 hdd3 hdisk3 hend3 hlinks3 hpres3 ⊢
  have hne : ∀ x, some s ≠ some x → x ≠ s := fun x h e => h (by rw [e])
  have hR := linkUp_spec f f3 hw W3 (some s) (f.dd s).tag (f.dd s).ref len blen nblk nr off hsp hlt hut hb hn
    (by
      intro x hx hxs
      have hxj : x ≠ j := fun e => hx (by rw [e]; exact C1.was_free)
      rw [hdd3, if_neg (hne x hxs), if_neg hxj, C1.dd_keep x hxj])
    (by
      intro x hx
      unfold File.live at hx
      rw [hdd3] at hx ⊢
      by_cases e1 : x = s
      · rw [if_pos e1] at hx; exact absurd rfl hx
      · rw [if_neg e1] at hx ⊢
        by_cases e2 : x = j
        · rw [if_pos e2, e2]; exact Or.inr ⟨fun h => h C1.was_free, by rw [C1.dd_new]⟩
        · rw [if_neg e2, C1.dd_keep x e2] at hx; exact Or.inl ⟨hx, fun e => e1 (Option.some.inj e).symm⟩)
    (fun y => by rw [hdisk3, C1.rd_keep]) (by rw [hend3]; exact C1.end_le) (by rw [hlinks3, C1.links]) (by rw [hpres3, C1.present])
    (fun x hx hxs e => hne x hxs (hw.keyOf_inj hx hs (e.trans (by unfold File.keyOf; rw [hbt]))))
    (fun i e => by cases e; rw [hbt]; exact hut)
    (fun e => absurd e hnr0)
    (fun _ => ⟨j, fun h => h C1.was_free, by rw [hdd3, if_neg hjs, if_pos rfl, C1.dd_new], hw.ext_le s off len hs hes⟩)
  rw [hbt]
  have hk : f.keyOf s = ((f.dd s).tag, (f.dd s).ref) := by unfold File.keyOf; rw [hbt]
  rw [hk]; exact hR

theorem convertTail_spec (f : File) (hw : WFE f) (s off len blen nblk : Nat) (hs : f.live s)
    (hsp : isSpecial (f.dd s).tag = false) (hlt : (f.dd s).tag < H4.Gen.Elem.SPECIAL_TAG_BIT)
    (hut : (f.dd s).tag ≠ DFTAG_LINKED) (hes : (f.dd s).ext = some (off, len)) (hb : 1 ≤ blen) (hn : 1 ≤ nblk) :
    Converted f s off len (f.convertTail s (f.dd s) off len blen nblk).1 (f.convertTail s (f.dd s) off len blen nblk).2 := by
  have hR := convertTail_replaced f hw s off len blen nblk hs hsp hlt hut hes hb hn
  exact ⟨hR.wfe, hR.live', hR.special', hR.key', hR.bytes,
    fun x hx hxs => hR.others x hx (fun e => hxs (Option.some.inj e).symm),
    fun x hx => (hR.new_slots x hx).imp_left fun h => ⟨h.1, fun e => h.2 (by rw [e])⟩, hR.present⟩

theorem ddCreate_mem_le (f : File) (tag ref : Nat) : f.mem.length ≤ (f.ddCreate tag ref).1.mem.length := by
  unfold File.ddCreate
  cases hf : f.findFree with
  | some i => simp only [updateDD_mem, List.length_set]; exact Nat.le_refl _
  | none => simp only [updateDD_mem, List.length_set, newDDBlock_mem, List.length_append]; omega

theorem coh_writeLinkHdr {f : File} (h : Coh f) (slot len blen nblk fr : Nat) (hs : slot < f.mem.length) :
    Coh (f.writeLinkHdr slot len blen nblk fr).1 := by
  rw [writeLinkHdr_eq]
  -- outside in: elaborated as one term, the file arguments stay open until the innermost lemma and each layer is unified blind
  apply coh_newTable
  apply coh_endOff
  apply coh_pwrite
  exact coh_setLength h slot 16 hs

theorem coh_convertTail {f : File} (h : Coh f) (slot : Nat) (d : DD) (off len blen nblk : Nat) (hs : slot < f.mem.length) :
    Coh (f.convertTail slot d off len blen nblk).1 := by
  unfold File.convertTail
  simp only
  have h1 := coh_ddCreate h DFTAG_LINKED (f.tagNewRef DFTAG_LINKED)
  have hj := ddCreate_lt f DFTAG_LINKED (f.tagNewRef DFTAG_LINKED) h.ndds_pos
  have hle := ddCreate_mem_le f DFTAG_LINKED (f.tagNewRef DFTAG_LINKED)
  have h2 := coh_ddSetExt h1 _ (off, len) hj
  have hm2 : ((f.ddCreate DFTAG_LINKED (f.tagNewRef DFTAG_LINKED)).1.ddSetExt (f.ddCreate DFTAG_LINKED (f.tagNewRef DFTAG_LINKED)).2 (off, len)).mem.length =
      (f.ddCreate DFTAG_LINKED (f.tagNewRef DFTAG_LINKED)).1.mem.length := by
    unfold File.ddSetExt; rw [updateDD_mem]; simp
  have h3 := coh_ddDelete h2 slot (by rw [hm2]; omega)
  have h4 := coh_ddCreate h3 (mkSpecial d.tag) d.ref
  have hs' := ddCreate_lt _ (mkSpecial d.tag) d.ref h3.ndds_pos
  exact coh_setLink (coh_writeLinkHdr h4 _ len blen nblk _ hs') _ _

theorem coh_convert {f : File} (h : Coh f) (slot blen nblk : Nat) (hs : slot < f.mem.length) : Coh (f.convert slot blen nblk).1 := by
  unfold File.convert
  cases (f.dd slot).ext with
  | some e => exact coh_convertTail h slot _ _ _ _ _ hs
  | none =>
    simp only
    have h1 := coh_setLength h slot 0 hs
    have : ((f.setLength slot 0).1).mem.length = f.mem.length := by
      unfold File.setLength File.ddSetExt; simp only; rw [updateDD_mem]; simp [getDiskBlock_mem]
    exact coh_convertTail h1 slot _ _ _ _ _ (by rw [this]; exact hs)

theorem convertTail_congr (f : File) (slot : Nat) (d d' : DD) (off len blen nblk : Nat) (ht : d'.tag = d.tag) (hr : d'.ref = d.ref) :
    f.convertTail slot d' off len blen nblk = f.convertTail slot d off len blen nblk := by
  unfold File.convertTail
  simp only [ht, hr]

/-- what `HLconvert` achieves, whether or not the element already had data -/
structure Promoted (f : File) (s : Nat) (f' : File) (s' : Nat) : Prop where
  wfe : WFE f'
  live' : f'.live s'
  special' : isSpecial (f'.dd s').tag = true
  key' : f'.keyOf s' = f.keyOf s
  /-- `promote_preserves`: the promoted element holds exactly the bytes it held (none → the empty string) -/
  bytes : f'.slotBytes s' = some ((f.slotBytes s).getD [])
  others : ∀ x, f.live x → x ≠ s → f'.dd x = f.dd x ∧ f'.slotBytes x = f.slotBytes x
  new_slots : ∀ x, f'.live x → (f.live x ∧ x ≠ s) ∨ x = s' ∨ (f'.dd x).tag = DFTAG_LINKED
  present : f'.present = f.present

theorem Promoted.replaced {f f' : File} {s s' : Nat} (P : Promoted f s f' s') :
    Replaced f (some s) (f.keyOf s) ((f.slotBytes s).getD []) f' s' :=
  ⟨P.wfe, P.live', P.special', P.key', P.bytes, fun x hx ho => P.others x hx (fun e => ho (by rw [e])),
    fun x hx => (P.new_slots x hx).imp_left fun c => ⟨c.1, fun e => c.2 (Option.some.inj e).symm⟩, P.present⟩

theorem convert_spec (f : File) (hw : WFE f) (s blen nblk : Nat) (hs : f.live s)
    (hsp : isSpecial (f.dd s).tag = false) (hlt : (f.dd s).tag < H4.Gen.Elem.SPECIAL_TAG_BIT)
    (hut : (f.dd s).tag ≠ DFTAG_LINKED) (hb : 1 ≤ blen) (hn : 1 ≤ nblk) :
    Promoted f s (f.convert s blen nblk).1 (f.convert s blen nblk).2 := by
  unfold File.convert
  cases hx : (f.dd s).ext with
  | some e =>
    obtain ⟨off, len⟩ := e
    simp only
    have C := convertTail_spec f hw s off len blen nblk hs hsp hlt hut hx hb hn
    refine ⟨C.wfe, C.live', C.special', C.key', ?_, C.others, C.new_slots, C.present⟩
    rw [C.bytes, slotBytes_plain _ _ hsp, hx]; rfl
  | none =>
    simp only
    have hslt := live_lt f s hs
    have S := setLength_spec f s 0 hslt hw.tail0
    have W1 := S.wff hw.toWFF
    generalize hsl : f.setLength s 0 = sl at S W1
    obtain ⟨f1, off⟩ := sl
    simp only at S W1 ⊢
    have hbt : baseTag (f.dd s).tag ≠ DFTAG_LINKED := by rw [baseTag_not_special _ hsp]; exact hut
    have hlive1 : ∀ x, f1.live x ↔ f.live x := by
      intro x; unfold File.live
      by_cases e : x = s
      · subst e; rw [S.dd_new]
      · rw [S.dd_keep x e]
    obtain ⟨E1, hfr1⟩ := hw.plain_step W1 s (fun x _ hne => S.dd_keep x hne)
      (by rw [S.dd_new]; exact ⟨hsp, hbt⟩) (fun _ => ⟨hsp, hbt⟩)
      (fun x hx1 hnx => absurd ((hlive1 x).mp hx1) hnx) S.links (fun y _ _ => S.rd_keep y)
    have hd1 : f1.dd s = { f.dd s with ext := some (off, 0) } := S.dd_new
    have hcg := convertTail_congr f1 s (f1.dd s) (f.dd s) off 0 blen nblk (by rw [hd1]) (by rw [hd1])
    rw [hcg]
    have C := convertTail_spec f1 E1 s off 0 blen nblk ((hlive1 s).mpr hs) (by rw [hd1]; exact hsp) (by rw [hd1]; exact hlt)
      (by rw [hd1]; exact hut) (by rw [hd1]) hb hn
    refine ⟨C.wfe, C.live', C.special', ?_, ?_, ?_, ?_, by rw [C.present, S.present]⟩
    · rw [C.key']; unfold File.keyOf; rw [hd1]
    · rw [C.bytes, slotBytes_plain _ _ hsp, hx]; simp [File.bytesAt]
    · intro x hxl hxs
      have h1 := C.others x ((hlive1 x).mpr hxl) hxs
      exact ⟨by rw [h1.1, S.dd_keep x hxs], by rw [h1.2]; exact hfr1 x hxl hxs⟩
    · intro x hx8
      rcases C.new_slots x hx8 with ⟨h1, h2⟩ | h | h
      · exact Or.inl ⟨(hlive1 x).mp h1, h2⟩
      · exact Or.inr (Or.inl h)
      · exact Or.inr (Or.inr h)

/-- `HLcreate` on a tag/ref that has no data -/
structure Made (f : File) (tag ref : Nat) (f' : File) (s' : Nat) : Prop where
  wfe : WFE f'
  live' : f'.live s'
  special' : isSpecial (f'.dd s').tag = true
  key' : f'.keyOf s' = (tag, ref)
  bytes : f'.slotBytes s' = some []
  others : ∀ x, f.live x → f'.dd x = f.dd x ∧ f'.slotBytes x = f.slotBytes x
  new_slots : ∀ x, f'.live x → f.live x ∨ x = s' ∨ (f'.dd x).tag = DFTAG_LINKED
  present : f'.present = f.present

/-- the file `HLcreate` builds for an element without data -/
def File.mkLinked (f : File) (tag ref blen nblk : Nat) : File × Nat :=
  let c := f.ddCreate (mkSpecial tag) ref
  let r := c.1.writeLinkHdr c.2 0 blen nblk 0
  (r.1.setLink (tag, ref) r.2, c.2)

theorem mkLinked_replaced (f : File) (hw : WFE f) (tag ref blen nblk : Nat) (hsp : isSpecial tag = false)
    (hlt : tag < H4.Gen.Elem.SPECIAL_TAG_BIT) (hut : tag ≠ DFTAG_LINKED) (hfresh : ∀ x, ¬ f.hasKey x tag ref)
    (hb : 1 ≤ blen) (hn : 1 ≤ nblk) :
    Replaced f none (tag, ref) [] (f.mkLinked tag ref blen nblk).1 (f.mkLinked tag ref blen nblk).2 :=
  linkUp_spec f f hw hw.toWFF none tag ref 0 blen nblk 0 0 hsp hlt hut hb hn (fun _ _ _ => rfl)
    (fun x hx => Or.inl ⟨hx, fun e => by cases e⟩) (fun _ => rfl) (Nat.le_refl _) rfl rfl
    (fun x hx _ e => hfresh x ⟨hx, (congrArg Prod.fst e).trans (baseTag_not_special _ hsp).symm, congrArg Prod.snd e⟩)
    (fun i e => by cases e) (fun _ => rfl) (fun h => absurd rfl h)

theorem mkLinked_spec (f : File) (hw : WFE f) (tag ref blen nblk : Nat) (hsp : isSpecial tag = false)
    (hlt : tag < H4.Gen.Elem.SPECIAL_TAG_BIT) (hut : tag ≠ DFTAG_LINKED) (hfresh : ∀ x, ¬ f.hasKey x tag ref)
    (hb : 1 ≤ blen) (hn : 1 ≤ nblk) :
    Made f tag ref (f.mkLinked tag ref blen nblk).1 (f.mkLinked tag ref blen nblk).2 := by
  have hR := mkLinked_replaced f hw tag ref blen nblk hsp hlt hut hfresh hb hn
  exact ⟨hR.wfe, hR.live', hR.special', hR.key', hR.bytes, fun x hx => hR.others x hx (fun e => by cases e),
    fun x hx => (hR.new_slots x hx).imp_left fun h => h.1, hR.present⟩

theorem coh_mkLinked {f : File} (h : Coh f) (tag ref blen nblk : Nat) : Coh (f.mkLinked tag ref blen nblk).1 := by
  unfold File.mkLinked
  simp only
  have h4 := coh_ddCreate h (mkSpecial tag) ref
  have hs' := ddCreate_lt _ (mkSpecial tag) ref h.ndds_pos
  exact coh_setLink (coh_writeLinkHdr h4 _ 0 blen nblk _ hs') _ _

end H4.Elem
