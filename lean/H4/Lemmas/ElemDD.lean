import H4.Lemmas.ElemDisk
/-! Tag arithmetic (`SPECIALTAG`, `BASETAG`, `MKSPECIALTAG`); the DD list and the allocator of `H4.Elem`: effect of each
    primitive on the parts of the state the byte-array view depends on (`mem`, `rd disk`, `endOff`, `links`), and
    preservation of `WFF`; the equations of the view's definitions (`slotBytes_plain`, `slotBytes_special`, `elem_keyOf`, ..). -/
namespace H4.Elem
open H4.Gen.Hdf

theorem isSpecial_iff (t : Nat) : isSpecial t = true ↔ (t % 65536 < 32768 ∧ t / 16384 % 2 = 1) := by
  unfold isSpecial
  simp only [H4.Gen.Elem.EXTENDED_TAG_BIT, H4.Gen.Elem.SPECIAL_TAG_BIT, Bool.and_eq_true, beq_iff_eq, Nat.reduceMul]
  simp
  intro _
  exact decide_eq_true_iff

theorem baseTag_idem (t : Nat) : baseTag (baseTag t) = baseTag t := by
  unfold baseTag
  by_cases h : isSpecial t = true
  · simp only [h, if_true]
    have h' := (isSpecial_iff t).mp h
    have : ¬ (isSpecial (t - H4.Gen.Elem.SPECIAL_TAG_BIT) = true) := by
      rw [isSpecial_iff]
      simp only [H4.Gen.Elem.SPECIAL_TAG_BIT]
      omega
    simp [this]
  · simp [h]

theorem baseTag_not_special (t : Nat) (h : isSpecial t = false) : baseTag t = t := by
  unfold baseTag; simp [h]

theorem isSpecial_baseTag (t : Nat) : isSpecial (baseTag t) = false := by
  unfold baseTag
  by_cases h : isSpecial t = true
  · simp only [h, if_true]
    have h' := (isSpecial_iff t).mp h
    have : ¬ (isSpecial (t - H4.Gen.Elem.SPECIAL_TAG_BIT) = true) := by
      rw [isSpecial_iff]
      simp only [H4.Gen.Elem.SPECIAL_TAG_BIT]
      omega
    simpa using this
  · simp only [h]; simpa using h

theorem dd_def (f : File) (i : Nat) : f.dd i = f.mem[i]?.getD nilDD := by
  simp [File.dd, List.getD_eq_getElem?_getD]

theorem dd_of_ge (f : File) (i : Nat) (h : f.mem.length ≤ i) : f.dd i = nilDD := by
  simp [dd_def, h]

theorem live_lt (f : File) (i : Nat) (h : f.live i) : i < f.mem.length := by
  by_cases hi : i < f.mem.length
  · exact hi
  · exfalso; apply h; rw [dd_of_ge f i (by omega)]; rfl

theorem nilDD_tag : nilDD.tag = DFTAG_NULL := rfl

theorem dd_set (f : File) (g : File) (i j : Nat) (d : DD) (hg : g.mem = f.mem.set i d) (hi : i < f.mem.length) :
    g.dd j = if j = i then d else f.dd j := by
  simp only [dd_def, hg, List.getElem?_set]
  by_cases h : i = j
  · subst h; simp [hi]
  · have : ¬ (j = i) := fun e => h e.symm
    simp [h, this]

theorem select_some (f : File) (tag ref i : Nat) (h : f.select tag ref = some i) : f.hasKey i tag ref := by
  unfold File.select at h
  rw [List.findIdx?_eq_some_iff_getElem] at h
  obtain ⟨hi, hp, _⟩ := h
  simp only [Bool.and_eq_true, bne_iff_ne, ne_eq, beq_iff_eq] at hp
  have : f.dd i = f.mem[i] := by simp [dd_def, hi]
  unfold File.hasKey File.live
  rw [this]
  exact ⟨hp.1.1, hp.1.2, hp.2⟩

theorem select_of_hasKey (f : File) (hu : WFF f) (tag ref i : Nat) (h : f.hasKey i tag ref) : f.select tag ref = some i := by
  have hi := live_lt f i h.1
  unfold File.select
  rw [List.findIdx?_eq_some_iff_getElem]
  have e : f.dd i = f.mem[i] := by simp [dd_def, hi]
  refine ⟨hi, ?_, ?_⟩
  · simp only [Bool.and_eq_true, bne_iff_ne, ne_eq, beq_iff_eq]
    rw [← e]
    exact ⟨⟨h.1, h.2.1⟩, h.2.2⟩
  · intro j hj hp
    simp only [Bool.and_eq_true, bne_iff_ne, ne_eq, beq_iff_eq] at hp
    have hj' : j < f.mem.length := by omega
    have ej : f.dd j = f.mem[j] := by simp [dd_def, hj']
    rw [← ej] at hp
    have := hu.uniq j i hp.1.1 h.1 (by rw [hp.1.2, h.2.1]) (by rw [hp.2, h.2.2])
    omega

theorem select_none (f : File) (tag ref : Nat) (h : f.select tag ref = none) (i : Nat) : ¬ f.hasKey i tag ref := by
  intro hk
  have hi := live_lt f i hk.1
  unfold File.select at h
  rw [List.findIdx?_eq_none_iff] at h
  have := h (f.mem[i]) (List.getElem_mem hi)
  have e : f.dd i = f.mem[i] := by simp [dd_def, hi]
  rw [← e] at this
  simp only [Bool.and_eq_false_iff, bne_eq_false_iff_eq, beq_eq_false_iff_ne, ne_eq] at this
  rcases this with (h1 | h1) | h1
  · exact hk.1 h1
  · exact h1 hk.2.1
  · exact h1 hk.2.2

theorem select_none_of (f : File) (tag ref : Nat) (h : ∀ i, ¬ f.hasKey i tag ref) : f.select tag ref = none := by
  cases hs : f.select tag ref with
  | none => rfl
  | some i => exact absurd (select_some f tag ref i hs) (h i)

theorem updateDD_mem (f : File) (i : Nat) : (f.updateDD i).mem = f.mem := by
  unfold File.updateDD; simp only [File.dd]; split <;> split <;> rfl
theorem updateDD_disk (f : File) (i : Nat) : (f.updateDD i).disk = f.disk := by
  unfold File.updateDD; simp only [File.dd]; split <;> split <;> rfl
theorem updateDD_links (f : File) (i : Nat) : (f.updateDD i).links = f.links := by
  unfold File.updateDD; simp only [File.dd]; split <;> split <;> rfl
theorem updateDD_ndds (f : File) (i : Nat) : (f.updateDD i).ndds = f.ndds := by
  unfold File.updateDD; simp only [File.dd]; split <;> split <;> rfl
theorem updateDD_present (f : File) (i : Nat) : (f.updateDD i).present = f.present := by
  unfold File.updateDD; simp only [File.dd]; split <;> split <;> rfl
theorem updateDD_cache (f : File) (i : Nat) : (f.updateDD i).cache = f.cache := by
  unfold File.updateDD; simp only [File.dd]; split <;> split <;> rfl
theorem updateDD_dd (f : File) (i j : Nat) : (f.updateDD i).dd j = f.dd j := by
  simp [File.dd, updateDD_mem]
theorem updateDD_endOff (f : File) (i : Nat) :
    (f.updateDD i).endOff = match (f.dd i).ext with | some (o, l) => max f.endOff (o + l) | none => f.endOff := by
  unfold File.updateDD
  by_cases hc : f.cache
  · simp only [hc, if_true, File.dd]; split <;> simp_all
  · simp only [hc, Bool.false_eq_true, if_false, File.dd]
    have : (f.dsk.set i (f.mem.getD i nilDD)).length = f.dsk.length := by simp
    split <;> simp_all

theorem getDiskBlock_off (f : File) (n : Nat) : (f.getDiskBlock n).2 = f.endOff := rfl
theorem getDiskBlock_mem (f : File) (n : Nat) : (f.getDiskBlock n).1.mem = f.mem := by
  unfold File.getDiskBlock; simp only; split
  · rfl
  · split <;> rfl
theorem getDiskBlock_links (f : File) (n : Nat) : (f.getDiskBlock n).1.links = f.links := by
  unfold File.getDiskBlock; simp only; split
  · rfl
  · split <;> rfl
theorem getDiskBlock_ndds (f : File) (n : Nat) : (f.getDiskBlock n).1.ndds = f.ndds := by
  unfold File.getDiskBlock; simp only; split
  · rfl
  · split <;> rfl
theorem getDiskBlock_cache (f : File) (n : Nat) : (f.getDiskBlock n).1.cache = f.cache := by
  unfold File.getDiskBlock; simp only; split
  · rfl
  · split <;> rfl
theorem getDiskBlock_present (f : File) (n : Nat) : (f.getDiskBlock n).1.present = f.present := by
  unfold File.getDiskBlock; simp only; split
  · rfl
  · split <;> rfl
theorem getDiskBlock_endOff (f : File) (n : Nat) : (f.getDiskBlock n).1.endOff = f.endOff + n := by
  unfold File.getDiskBlock; simp only
theorem getDiskBlock_dd (f : File) (n j : Nat) : (f.getDiskBlock n).1.dd j = f.dd j := by
  simp [File.dd, getDiskBlock_mem]

/-- reserving space changes no byte: the marker byte is a zero written where zeros are -/
theorem getDiskBlock_rd (f : File) (n : Nat) (ht : ∀ k, f.endOff ≤ k → rd f.disk k = 0) (x : Nat) :
    rd (f.getDiskBlock n).1.disk x = rd f.disk x := by
  unfold File.getDiskBlock; simp only
  split
  · rfl
  · split
    · rfl
    · simp only [rd_diskWrite]
      split
      · rename_i h
        have : x = f.endOff + n - 1 := by simp at h; omega
        rw [ht x (by omega)]
        simp [this]
      · rfl

theorem rd_write_zeros_tail (d : Bytes) (e off k : Nat) (ht : ∀ x, e ≤ x → rd d x = 0) (ho : e ≤ off) (x : Nat) :
    rd (diskWrite d off (zeros k)) x = rd d x := by
  rw [rd_diskWrite]
  split
  · rename_i h
    rw [ht x (by omega)]
    simp [zeros, List.getD_eq_getElem?_getD, List.getElem?_replicate]
    split <;> rfl
  · rfl

theorem newDDBlock_mem (f : File) : f.newDDBlock.mem = f.mem ++ List.replicate f.ndds nilDD := by
  unfold File.newDDBlock; simp only [getDiskBlock_mem, getDiskBlock_ndds]
theorem newDDBlock_links (f : File) : f.newDDBlock.links = f.links := by
  unfold File.newDDBlock; simp only [getDiskBlock_links]
theorem newDDBlock_ndds (f : File) : f.newDDBlock.ndds = f.ndds := by
  unfold File.newDDBlock; simp only [getDiskBlock_ndds]
theorem newDDBlock_cache (f : File) : f.newDDBlock.cache = f.cache := by
  unfold File.newDDBlock; simp only [getDiskBlock_cache]
theorem newDDBlock_present (f : File) : f.newDDBlock.present = f.present := by
  unfold File.newDDBlock; simp only [getDiskBlock_present]
theorem newDDBlock_endOff (f : File) : f.newDDBlock.endOff = f.endOff + ddBlockSize f.ndds := by
  unfold File.newDDBlock; simp only [getDiskBlock_endOff]
theorem newDDBlock_dd (f : File) (j : Nat) : f.newDDBlock.dd j = f.dd j := by
  simp only [dd_def, newDDBlock_mem, List.getElem?_append]
  split
  · rfl
  · rename_i h
    rw [List.getElem?_eq_none (by omega : f.mem.length ≤ j)]
    simp only [List.getElem?_replicate]
    split <;> rfl
theorem newDDBlock_rd (f : File) (ht : ∀ k, f.endOff ≤ k → rd f.disk k = 0) (x : Nat) :
    rd f.newDDBlock.disk x = rd f.disk x := by
  unfold File.newDDBlock
  simp only [getDiskBlock_off]
  have h1 : ∀ k, f.endOff ≤ k → rd (f.getDiskBlock (ddBlockSize f.ndds)).1.disk k = 0 := by
    intro k hk; rw [getDiskBlock_rd f _ ht]; exact ht k hk
  rw [rd_write_zeros_tail _ f.endOff _ _ h1 (Nat.le_refl _), getDiskBlock_rd f _ ht]

theorem findFree_some (f : File) (i : Nat) (h : f.findFree = some i) : i < f.mem.length ∧ (f.dd i).tag = DFTAG_NULL := by
  unfold File.findFree at h
  rw [List.findIdx?_eq_some_iff_getElem] at h
  obtain ⟨hi, hp, _⟩ := h
  refine ⟨hi, ?_⟩
  have : f.dd i = f.mem[i] := by simp [dd_def, hi]
  rw [this]
  simpa using hp

/-- everything `HTPcreate` does, as far as elements can tell -/
structure Created (f f' : File) (i tag ref : Nat) : Prop where
  lt : i < f'.mem.length
  was_free : (f.dd i).tag = DFTAG_NULL
  dd_new : f'.dd i = { tag := tag, ref := ref, ext := none }
  dd_keep : ∀ j, j ≠ i → f'.dd j = f.dd j
  rd_keep : ∀ x, rd f'.disk x = rd f.disk x
  end_le : f.endOff ≤ f'.endOff
  tail0 : ∀ k, f'.endOff ≤ k → rd f'.disk k = 0
  links : f'.links = f.links
  ndds : f'.ndds = f.ndds
  cache : f'.cache = f.cache
  present : f'.present = f.present

theorem ddCreate_spec (f : File) (tag ref : Nat) (hn : 1 ≤ f.ndds) (ht : ∀ k, f.endOff ≤ k → rd f.disk k = 0) :
    Created f (f.ddCreate tag ref).1 (f.ddCreate tag ref).2 tag ref := by
  -- the slot is taken from `g`: the file itself, or the file with one more (empty) DD block
  have key : ∀ (g : File) (i : Nat), i < g.mem.length → (f.dd i).tag = DFTAG_NULL → (∀ j, g.dd j = f.dd j) →
      (∀ x, rd g.disk x = rd f.disk x) → f.endOff ≤ g.endOff → g.links = f.links → g.ndds = f.ndds → g.cache = f.cache →
      g.present = f.present →
      Created f (({ g with mem := g.mem.set i { tag := tag, ref := ref, ext := none } } : File).updateDD i) i tag ref := by
    intro g i hi hfree gdd grd gend glinks gndds gcache gpres
    have hnew := dd_set g { g with mem := g.mem.set i { tag := tag, ref := ref, ext := none } } i i _ rfl hi
    rw [if_pos rfl] at hnew
    have hend : (({ g with mem := g.mem.set i { tag := tag, ref := ref, ext := none } } : File).updateDD i).endOff = g.endOff := by
      rw [updateDD_endOff, hnew]
    refine ⟨by rw [updateDD_mem, List.length_set]; exact hi, hfree, by rw [updateDD_dd, hnew], ?_, fun x => by rw [updateDD_disk]; exact grd x,
      by rw [hend]; exact gend, ?_, by rw [updateDD_links]; exact glinks, by rw [updateDD_ndds]; exact gndds,
      by rw [updateDD_cache]; exact gcache, by rw [updateDD_present]; exact gpres⟩
    · intro j hj; rw [updateDD_dd, dd_set g _ i j _ rfl hi, if_neg hj]; exact gdd j
    · intro k hk
      rw [hend] at hk
      rw [updateDD_disk]
      show rd g.disk k = 0
      rw [grd]; exact ht k (Nat.le_trans gend hk)
  unfold File.ddCreate
  cases hf : f.findFree with
  | some i =>
    obtain ⟨hi, hfree⟩ := findFree_some f i hf
    exact key f i hi hfree (fun _ => rfl) (fun _ => rfl) (Nat.le_refl _) rfl rfl rfl rfl
  | none =>
    exact key f.newDDBlock f.mem.length (by rw [newDDBlock_mem, List.length_append, List.length_replicate]; omega)
      (by rw [dd_of_ge f _ (Nat.le_refl _)]; rfl) (newDDBlock_dd f) (newDDBlock_rd f ht)
      (by rw [newDDBlock_endOff]; exact Nat.le_add_right _ _) (newDDBlock_links f) (newDDBlock_ndds f) (newDDBlock_cache f) (newDDBlock_present f)

theorem ddSetExt_dd (f : File) (i j : Nat) (e : Nat × Nat) (hi : i < f.mem.length) :
    (f.ddSetExt i e).dd j = if j = i then { f.dd i with ext := some e } else f.dd j := by
  unfold File.ddSetExt
  rw [updateDD_dd, dd_set f _ i j _ rfl hi]
theorem ddSetExt_disk (f : File) (i : Nat) (e : Nat × Nat) : (f.ddSetExt i e).disk = f.disk := by
  unfold File.ddSetExt; rw [updateDD_disk]
theorem ddSetExt_links (f : File) (i : Nat) (e : Nat × Nat) : (f.ddSetExt i e).links = f.links := by
  unfold File.ddSetExt; rw [updateDD_links]
theorem ddSetExt_ndds (f : File) (i : Nat) (e : Nat × Nat) : (f.ddSetExt i e).ndds = f.ndds := by
  unfold File.ddSetExt; rw [updateDD_ndds]
theorem ddSetExt_endOff (f : File) (i : Nat) (e : Nat × Nat) (hi : i < f.mem.length) :
    (f.ddSetExt i e).endOff = max f.endOff (e.1 + e.2) := by
  unfold File.ddSetExt
  rw [updateDD_endOff, dd_set f _ i i _ rfl hi]
  simp

theorem pwrite_dd (f : File) (off : Nat) (bs : Bytes) (j : Nat) : (f.pwrite off bs).dd j = f.dd j := rfl
theorem pwrite_rd (f : File) (off : Nat) (bs : Bytes) (x : Nat) :
    rd (f.pwrite off bs).disk x = if off ≤ x ∧ x < off + bs.length then bs.getD (x - off) 0 else rd f.disk x := by
  unfold File.pwrite; simp only; exact rd_diskWrite _ _ _ _

/-- what `Hsetlength` on slot `i` (a DD without data) achieves -/
structure Sized (f f' : File) (i n off : Nat) : Prop where
  off_eq : off = f.endOff
  dd_new : f'.dd i = { f.dd i with ext := some (off, n) }
  dd_keep : ∀ j, j ≠ i → f'.dd j = f.dd j
  rd_keep : ∀ x, rd f'.disk x = rd f.disk x
  end_eq : f'.endOff = f.endOff + n
  links : f'.links = f.links
  ndds : f'.ndds = f.ndds
  mem_len : f'.mem.length = f.mem.length
  present : f'.present = f.present

/-- no hypothesis on the disk: only `Sized.rd_keep` needs the zero tail -/
theorem setLength_facts (f : File) (slot n : Nat) (hs : slot < f.mem.length) :
    ((f.setLength slot n).1.dd slot).ext = some (f.endOff, n) ∧ (f.setLength slot n).1.endOff = f.endOff + n ∧
    (f.setLength slot n).1.mem.length = f.mem.length ∧ (f.setLength slot n).1.writable = f.writable := by
  unfold File.setLength
  simp only []
  have hs' : slot < (f.getDiskBlock n).1.mem.length := by rw [getDiskBlock_mem]; exact hs
  refine ⟨?_, ?_, ?_, ?_⟩
  · rw [ddSetExt_dd _ _ _ _ hs']; simp [getDiskBlock_off]
  · rw [ddSetExt_endOff _ _ _ hs', getDiskBlock_endOff]; simp [getDiskBlock_off]
  · unfold File.ddSetExt; rw [updateDD_mem]; simp [getDiskBlock_mem]
  · unfold File.ddSetExt File.updateDD File.getDiskBlock
    simp only []
    split <;> split <;> split <;> rfl

theorem setLength_spec (f : File) (i n : Nat) (hi : i < f.mem.length) (ht : ∀ k, f.endOff ≤ k → rd f.disk k = 0) :
    Sized f (f.setLength i n).1 i n (f.setLength i n).2 := by
  obtain ⟨-, he, hm, -⟩ := setLength_facts f i n hi
  refine ⟨rfl, ?_, ?_, ?_, he, ?_, ?_, hm, ?_⟩
  all_goals
    unfold File.setLength
    simp only
    have hi' : i < (f.getDiskBlock n).1.mem.length := by rw [getDiskBlock_mem]; exact hi
  · rw [ddSetExt_dd _ _ _ _ hi']; simp [getDiskBlock_dd, getDiskBlock_off]
  · intro j hj; rw [ddSetExt_dd _ _ _ _ hi']; simp [hj, getDiskBlock_dd]
  · intro x; rw [ddSetExt_disk]; exact getDiskBlock_rd f n ht x
  · rw [ddSetExt_links, getDiskBlock_links]
  · rw [ddSetExt_ndds, getDiskBlock_ndds]
  · unfold File.ddSetExt; rw [updateDD_present]; exact getDiskBlock_present f n

theorem WFF.setExt {f f' : File} (hw : WFF f) (s o n : Nat)
    (hdd : ∀ j, f'.dd j = if j = s then { f.dd s with ext := some (o, n) } else f.dd j)
    (hndds : f'.ndds = f.ndds) (hend : f.endOff ≤ f'.endOff) (hfit : o + n ≤ f'.endOff)
    (htail : ∀ k, f'.endOff ≤ k → rd f'.disk k = 0)
    (hapart : ∀ j oj lj, j ≠ s → f.live j → (f.dd j).ext = some (oj, lj) → ∀ x, ¬ (o ≤ x ∧ x < o + n ∧ oj ≤ x ∧ x < oj + lj)) :
    WFF f' ∧ ∀ j, f'.live j ↔ f.live j := by
  have htr : ∀ j, (f'.dd j).tag = (f.dd j).tag ∧ (f'.dd j).ref = (f.dd j).ref := by
    intro j; rw [hdd]; split
    · rename_i e; rw [e]; exact ⟨rfl, rfl⟩
    · exact ⟨rfl, rfl⟩
  have hl : ∀ j, f'.live j ↔ f.live j := fun j => by unfold File.live; rw [(htr j).1]
  have hext : ∀ j o' l', (f'.dd j).ext = some (o', l') → (j = s ∧ o' = o ∧ l' = n) ∨ (j ≠ s ∧ (f.dd j).ext = some (o', l')) := by
    intro j o' l' he
    rw [hdd] at he
    by_cases hj : j = s
    · rw [if_pos hj] at he
      simp only [Option.some.injEq, Prod.mk.injEq] at he
      exact Or.inl ⟨hj, he.1.symm, he.2.symm⟩
    · rw [if_neg hj] at he; exact Or.inr ⟨hj, he⟩
  refine ⟨⟨by rw [hndds]; exact hw.ndds_pos, ?_, ?_, htail, ?_⟩, hl⟩
  · intro j o' l' hj he
    rcases hext j o' l' he with ⟨_, rfl, rfl⟩ | ⟨_, he'⟩
    · exact hfit
    · exact Nat.le_trans (hw.ext_le j o' l' ((hl j).mp hj) he') hend
  · intro a b oa la ob lb hab ha hb hea heb x
    rcases hext a oa la hea with ⟨ha1, rfl, rfl⟩ | ⟨ha1, hea'⟩ <;> rcases hext b ob lb heb with ⟨hb1, rfl, rfl⟩ | ⟨hb1, heb'⟩
    · exact absurd (ha1.trans hb1.symm) hab
    · have := hapart b ob lb hb1 ((hl b).mp hb) heb' x; omega
    · have := hapart a oa la ha1 ((hl a).mp ha) hea' x; omega
    · exact hw.disj a b oa la ob lb hab ((hl a).mp ha) ((hl b).mp hb) hea' heb' x
  · intro a b ha hb htag href
    rw [(htr a).1, (htr b).1] at htag
    rw [(htr a).2, (htr b).2] at href
    exact hw.uniq a b ((hl a).mp ha) ((hl b).mp hb) htag href

/-- the new extent starts where everything else ends -/
theorem Sized.wff {f f' : File} {i n off : Nat} (h : Sized f f' i n off) (hw : WFF f) : WFF f' := by
  refine (hw.setExt i off n ?_ h.ndds (by rw [h.end_eq]; omega) (by rw [h.end_eq, h.off_eq]; omega) ?_ ?_).1
  · intro j
    split
    · rename_i e; rw [e, h.dd_new]
    · rename_i e; exact h.dd_keep j e
  · intro k hk; rw [h.rd_keep]; rw [h.end_eq] at hk; exact hw.tail0 k (by omega)
  · intro j oj lj _ hj he x
    have := hw.ext_le j oj lj hj he
    have := h.off_eq
    omega

theorem Created.wff {f f' : File} {i tag ref : Nat} (h : Created f f' i tag ref) (hw : WFF f)
    (hfresh : ∀ j, ¬ f.hasKey j tag ref) : WFF f' := by
  have hl : ∀ j, j ≠ i → (f'.live j ↔ f.live j) := by
    intro j hj; unfold File.live; rw [h.dd_keep j hj]
  have hnl : ¬ f.live i := fun hh => hh h.was_free
  refine ⟨by rw [h.ndds]; exact hw.ndds_pos, ?_, ?_, h.tail0, ?_⟩
  · intro j o l hj he
    by_cases hji : j = i
    · subst hji; rw [h.dd_new] at he; simp at he
    · rw [h.dd_keep j hji] at he
      have := hw.ext_le j o l ((hl j hji).mp hj) he
      have := h.end_le
      omega
  · intro a b oa la ob lb hab ha hb hea heb
    by_cases hai : a = i
    · subst hai; rw [h.dd_new] at hea; simp at hea
    · by_cases hbi : b = i
      · subst hbi; rw [h.dd_new] at heb; simp at heb
      · rw [h.dd_keep a hai] at hea; rw [h.dd_keep b hbi] at heb
        exact hw.disj a b oa la ob lb hab ((hl a hai).mp ha) ((hl b hbi).mp hb) hea heb
  · intro a b ha hb ht hr
    by_cases hai : a = i
    · by_cases hbi : b = i
      · omega
      · exfalso
        subst hai
        rw [h.dd_new, h.dd_keep b hbi] at ht hr
        simp only at ht hr
        exact hfresh b ⟨(hl b hbi).mp hb, ht.symm, hr.symm⟩
    · by_cases hbi : b = i
      · exfalso
        subst hbi
        rw [h.dd_new, h.dd_keep a hai] at ht hr
        simp only at ht hr
        exact hfresh a ⟨(hl a hai).mp ha, ht, hr⟩
      · rw [h.dd_keep a hai, h.dd_keep b hbi] at ht hr
        exact hw.uniq a b ((hl a hai).mp ha) ((hl b hbi).mp hb) ht hr

theorem select_keyOf (f : File) (hw : WFF f) (s : Nat) (hl : f.live s) : f.select (f.keyOf s).1 (f.keyOf s).2 = some s := by
  apply select_of_hasKey f hw
  exact ⟨hl, by simp [File.keyOf, baseTag_idem], rfl⟩

theorem elem_keyOf (f : File) (hw : WFF f) (s : Nat) (hl : f.live s) :
    f.elem (f.keyOf s).1 (f.keyOf s).2 = some (f.slotBytes s) := by
  unfold File.elem
  rw [select_keyOf f hw s hl]
  rfl

theorem elem_frame {f f' : File} (hw' : WFF f') (t r : Nat)
    (hk : ∀ j, f'.hasKey j t r ↔ f.hasKey j t r)
    (hb : ∀ j, f.hasKey j t r → f'.slotBytes j = f.slotBytes j) : f'.elem t r = f.elem t r := by
  unfold File.elem
  cases hs : f.select t r with
  | none =>
    have : f'.select t r = none := select_none_of f' t r (fun j hj => select_none f t r hs j ((hk j).mp hj))
    rw [this]; rfl
  | some j =>
    have hj := select_some f t r j hs
    rw [select_of_hasKey f' hw' t r j ((hk j).mpr hj)]
    simp only [Option.map_some]
    rw [hb j hj]

theorem hasKey_congr {f f' : File} {j t r : Nat} (ht : (f'.dd j).tag = (f.dd j).tag) (hr : (f'.dd j).ref = (f.dd j).ref) :
    f'.hasKey j t r ↔ f.hasKey j t r := by
  unfold File.hasKey File.live; rw [ht, hr]

theorem keyOf_user_ne_linked {f : File} {s : Nat} (h : UserKey (f.keyOf s)) : baseTag (f.dd s).tag ≠ DFTAG_LINKED := h.2.1

theorem keyOf_of_hasKey {f : File} {j : Nat} {k : Nat × Nat} (hu : UserKey k) (hk : f.hasKey j k.1 k.2) : f.keyOf j = k := by
  unfold File.keyOf
  rw [hk.2.1, hk.2.2, baseTag_not_special _ hu.1]

theorem userKey_base {k : Nat × Nat} (hu : UserKey k) : baseTag k.1 = k.1 := baseTag_not_special _ hu.1

theorem ddDelete_dd (f : File) (i j : Nat) (hi : i < f.mem.length) :
    (f.ddDelete i).dd j = if j = i then { f.dd i with tag := DFTAG_NULL } else f.dd j := by
  unfold File.ddDelete
  have : (f.updateDD i).mem = f.mem := updateDD_mem f i
  rw [dd_set (f.updateDD i) _ i j _ rfl (by rw [this]; exact hi)]
  simp [updateDD_dd]
theorem ddDelete_disk (f : File) (i : Nat) : (f.ddDelete i).disk = f.disk := by
  unfold File.ddDelete; simp only; exact updateDD_disk f i
theorem ddDelete_links (f : File) (i : Nat) : (f.ddDelete i).links = f.links := by
  unfold File.ddDelete; simp only; exact updateDD_links f i
theorem ddDelete_ndds (f : File) (i : Nat) : (f.ddDelete i).ndds = f.ndds := by
  unfold File.ddDelete; simp only; exact updateDD_ndds f i
theorem ddDelete_present (f : File) (i : Nat) : (f.ddDelete i).present = f.present := by
  unfold File.ddDelete; simp only; exact updateDD_present f i
theorem ddDelete_endOff (f : File) (i : Nat) :
    (f.ddDelete i).endOff = match (f.dd i).ext with | some (o, l) => max f.endOff (o + l) | none => f.endOff := by
  unfold File.ddDelete; simp only; exact updateDD_endOff f i

theorem foldl_max_ge (l : List DD) (p : DD → Bool) (m : Nat) :
    m ≤ l.foldl (fun m d => if p d then max m d.ref else m) m ∧
    ∀ d ∈ l, p d = true → d.ref ≤ l.foldl (fun m d => if p d then max m d.ref else m) m := by
  induction l generalizing m with
  | nil => simp
  | cons x xs ih =>
    simp only [List.foldl_cons, List.mem_cons]
    obtain ⟨h1, h2⟩ := ih (if p x then max m x.ref else m)
    constructor
    · have : m ≤ (if p x then max m x.ref else m) := by split <;> omega
      omega
    · intro d hd hp
      rcases hd with rfl | hd
      · rw [if_pos hp] at h1 ⊢; omega
      · exact h2 d hd hp

theorem tagNewRef_fresh (f : File) (tag : Nat) (j : Nat) : ¬ f.hasKey j tag (f.tagNewRef tag) := by
  intro hk
  have hj := live_lt f j hk.1
  have e : f.dd j = f.mem[j] := by simp [dd_def, hj]
  have := (foldl_max_ge f.mem (fun d => d.tag != DFTAG_NULL && baseTag d.tag == baseTag tag) 0).2 (f.mem[j]) (List.getElem_mem hj)
    (by rw [← e]; simp only [Bool.and_eq_true, bne_iff_ne, ne_eq, beq_iff_eq]; exact ⟨hk.1, hk.2.1⟩)
  rw [← e] at this
  have h2 := hk.2.2
  unfold File.tagNewRef at h2
  omega

theorem tagNewRef_pos (f : File) (tag : Nat) : f.tagNewRef tag ≠ 0 := by
  unfold File.tagNewRef; omega

theorem ddSetExt_present (f : File) (i : Nat) (e : Nat × Nat) : (f.ddSetExt i e).present = f.present := by
  unfold File.ddSetExt; exact updateDD_present _ i

/-- a DD that an access record opened on `d` still fits -/
def SameShape (d' d : DD) : Prop := d'.tag = d.tag ∧ d'.ref = d.ref ∧ (d'.ext = none → d.ext = none)

theorem SameShape.of_eq {d' d : DD} (h : d' = d) : SameShape d' d := h ▸ ⟨rfl, rfl, id⟩

theorem SameShape.setExt (d : DD) (e : Nat × Nat) : SameShape { d with ext := some e } d := ⟨rfl, rfl, fun c => by cases c⟩

theorem ddLen_some {d : DD} {o l : Nat} (h : d.ext = some (o, l)) : ddLen d = (l : Int) := by simp [ddLen, h]
theorem ddOff_some {d : DD} {o l : Nat} (h : d.ext = some (o, l)) : ddOff d = (o : Int) := by simp [ddOff, h]
theorem ddLen_none {d : DD} (h : d.ext = none) : ddLen d = -1 := by simp [ddLen, h, INVALID_LENGTH]
theorem ddOff_none {d : DD} (h : d.ext = none) : ddOff d = -1 := by simp [ddOff, h, INVALID_OFFSET]

theorem bytesAt_length (f : File) (o l : Nat) : (f.bytesAt o l).length = l := by simp [File.bytesAt]

theorem slotBytes_plain (f : File) (s : Nat) (h : isSpecial (f.dd s).tag = false) :
    f.slotBytes s = (f.dd s).ext.map (fun e => f.bytesAt e.1 e.2) := by
  unfold File.slotBytes; simp [h]

theorem slotBytes_special (f : File) (s : Nat) (h : isSpecial (f.dd s).tag = true) :
    f.slotBytes s = (f.link (f.keyOf s)).map f.linkedBytes := by
  unfold File.slotBytes; simp [h, File.keyOf]

theorem linkedBytes_length (f : File) (li : LinkInfo) : (f.linkedBytes li).length = li.length := by
  simp [File.linkedBytes]

theorem lenI_plain (f : File) (s : Nat) (h : isSpecial (f.dd s).tag = false) : lenI (f.slotBytes s) = ddLen (f.dd s) := by
  rw [slotBytes_plain _ _ h]
  cases hx : (f.dd s).ext with
  | none => rw [ddLen_none hx]; rfl
  | some e => rw [ddLen_some (o := e.1) (l := e.2) hx]; simp [lenI, bytesAt_length]

end H4.Elem
