import Lean.Meta.Tactic.Simp.RegisterCommand
import Lean.Meta.Tactic.Simp.BuiltinSimprocs.Core
/-! The simp set `c18logic` of the `H4.Lemmas.C18*` modules: propositional / Boolean clean-up lemmas that evaluate the conditions of a
    translated loop body once the truth values of its atoms are known (a simp attribute has to be registered in a file of its own). -/
register_simp_attr c18logic
