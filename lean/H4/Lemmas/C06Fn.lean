import H4.Gen.Fn.Dfkswap
import H4.Gen.Fn.Dfknat
import H4.Lemmas.Conv
import H4.Lemmas.C2L
import H4.Lemmas.C2LLoop
import H4.Lemmas.C06FnSimp
/-! The conversion kernels `DFKsb2b/4b/8b` (`hdf/src/dfkswap.c`) and `DFKnb1b/2b/4b/8b` (`hdf/src/dfknat.c`), as TRANSLATED from the C text
    (`H4.Gen.Fn.Dfkswap`, `H4.Gen.Fn.Dfknat`), compute the model `H4.Conv.conv`.  They are one program at seven element widths, but the
    translator gives each its own state record: the program is written over one state `Core` with the width a variable (`gbody`, `gloop`,
    `gsb`, `gnb`, `gnb1`) and proved correct there; per routine there is its `view` into `Core` and the equations `DFK*.loopK_view`,
    `DFK*_view` saying that through it the translated loops and entry function are that program.  Core only. -/
namespace H4.Lemmas.C06Fn
open H4 H4.Conv H4.C2L

/-- the C view of a byte memory: every `uint8` cell as an `Int` in `[0, 256)` -/
def bytes (m : List Byte) : List Int := m.map (fun b => (b.toNat : Int))
@[simp] theorem bytes_length (m : List Byte) : (bytes m).length = m.length := by simp [bytes]

theorem bytes_inj {a b : List Byte} (h : bytes a = bytes b) : a = b :=
  (List.map_inj_right fun _ _ h => UInt8.toNat_inj.mp (Int.ofNat_inj.mp h)).mp h

def trI (swap : Bool) (e : List Int) : List Int := if swap then e.reverse else e

theorem trI_length (swap : Bool) (e : List Int) : (trI swap e).length = e.length := by
  unfold trI; split <;> simp

/-- `a[d] = v0; a[d+1] = v1; …` -/
def setsAt (M : List Int) (d : Nat) : List Int → List Int
  | [] => M
  | v :: vs => setsAt (M.set d v) (d + 1) vs

theorem setsAt_eq : ∀ (vs : List Int) (M : List Int) (d : Nat), d + vs.length ≤ M.length → setsAt M d vs = storeAt M d vs
  | [], M, d, _ => (storeAt_nil M d).symm
  | v :: vs, M, d, h => by
    simp only [List.length_cons] at h
    rw [setsAt, setsAt_eq vs _ _ (by simp; omega), storeAt_set _ _ _ _ (by omega)]

/-- the source offsets of one element in the order the C text assigns them: `dest[0] = source[w-1]; …` when swapping -/
def offs (swap : Bool) (w : Nat) : List Nat := if swap then (List.range w).reverse else List.range w

theorem offs_lt {swap : Bool} {w o : Nat} (h : o ∈ offs swap w) : o < w := by
  unfold offs at h; split at h <;> simpa using h

theorem offs_length (swap : Bool) (w : Nat) : (offs swap w).length = w := by
  unfold offs; split <;> simp

theorem map_offs (M : List Int) (so w : Nat) (swap : Bool) (h : so + w ≤ M.length) :
    (offs swap w).map (fun o => M[so + o]?.getD 0) = trI swap (readAt M so w) := by
  have : (List.range w).map (fun o => M[so + o]?.getD 0) = readAt M so w := by
    apply List.ext_getElem
    · simp [readAt]; omega
    · intro i h1 h2
      simp at h1
      simp [readAt, List.getElem?_eq_getElem (show so + i < M.length by omega)]
  unfold offs trI
  split
  · rw [List.map_reverse, this]
  · exact this

/-- `m[d+j] = m[s+o]; m[d+j+1] = m[s+o']; …` inside one array of length `len`, every access with its bounds check; the state is
    (undefined behaviour seen so far, array) -/
def assign (len : Nat) (d s : Int) : Bool × List Int → Nat → List Nat → Bool × List Int
  | x, _, [] => x
  | (ub, M), j, o :: os =>
    assign len d s ((ub || !decide (0 ≤ s + o ∧ s + o < len)) || !decide (0 ≤ d + j ∧ d + j < len),
      M.set (d + j).toNat (M.getD (s + o).toNat 0)) (j + 1) os

theorem assign_eq {len so dO w : Nat} (h1 : so + w ≤ len) (h2 : dO + w ≤ len) (hd : w ≤ 1 ∨ Disj so w dO w) (v : Nat → Int) (ub : Bool) :
    ∀ (os : List Nat) (M : List Int) (j : Nat), (∀ o ∈ os, o < w ∧ M[so + o]?.getD 0 = v o) → j + os.length ≤ w →
      assign len dO so (ub, M) j os = (ub, setsAt M (dO + j) (os.map v)) := by
  intro os
  induction os with
  | nil => intro M j _ _; rfl
  | cons o os ih =>
    intro M j hv hj
    simp only [List.length_cons] at hj
    obtain ⟨ho, hvo⟩ := hv o (by simp)
    have c1 : (0 ≤ (so : Int) + o ∧ (so : Int) + o < len) := by omega
    have c2 : (0 ≤ (dO : Int) + j ∧ (dO : Int) + j < len) := by omega
    unfold Disj at hd
    rw [assign, toNat_natCast_add, toNat_natCast_add, List.getD_eq_getElem?_getD, hvo]
    simp only [c1, c2, and_self, decide_true, Bool.not_true, Bool.or_false]
    rw [ih _ _ _ (by omega)]
    · rfl
    · intro o' ho'
      obtain ⟨h3, h4⟩ := hv o' (by simp [ho'])
      have : 1 ≤ os.length := List.length_pos_of_mem ho'
      exact ⟨h3, by rw [List.getElem?_set_ne (by omega), h4]⟩

/-- the bounds check of `buf[j]` as the translator writes it for a literal `j` -/
def bufOK (len : Nat) : Nat → Bool
  | 0 => decide (0 < len)
  | j + 1 => decide (0 ≤ j + 1 ∧ j + 1 < len)

theorem bufOK_eq (len j : Nat) : bufOK len j = decide (j < len) := by
  cases j <;> simp [bufOK]

/-- `buf[j] = m[s+o]; buf[j+1] = m[s+o']; …` (`blen` = length of `buf`) -/
def fill (M : List Int) (blen : Nat) (s : Int) : Bool × List Int → Nat → List Nat → Bool × List Int
  | x, _, [] => x
  | (ub, B), j, o :: os =>
    fill M blen s ((ub || !decide (0 ≤ s + o ∧ s + o < M.length)) || !bufOK blen j, B.set j (M.getD (s + o).toNat 0)) (j + 1) os

theorem fill_eq (M : List Int) {so w blen : Nat} (h1 : so + w ≤ M.length) (ub : Bool) :
    ∀ (os : List Nat) (B : List Int) (j : Nat), (∀ o ∈ os, o < w) → j + os.length ≤ blen →
      fill M blen so (ub, B) j os = (ub, setsAt B j (os.map fun o => M[so + o]?.getD 0)) := by
  intro os
  induction os with
  | nil => intro B j _ _; rfl
  | cons o os ih =>
    intro B j hv hj
    simp only [List.length_cons] at hj
    have ho := hv o (by simp)
    have c1 : (0 ≤ (so : Int) + o ∧ (so : Int) + o < M.length) := by omega
    rw [fill, toNat_natCast_add, List.getD_eq_getElem?_getD]
    simp only [c1, bufOK_eq, show j < blen by omega, and_self, decide_true, Bool.not_true, Bool.or_false]
    rw [ih _ _ (fun o' ho' => hv o' (by simp [ho'])) (by omega)]
    rfl

/-- `m[d+j] = buf[j]; m[d+j+1] = buf[j+1]; …` (`n` cells; `len` = length of `m`) -/
def flush (B : List Int) (len : Nat) (d : Int) : Bool × List Int → Nat → Nat → Bool × List Int
  | x, _, 0 => x
  | (ub, M), j, n + 1 =>
    flush B len d ((ub || !bufOK B.length j) || !decide (0 ≤ d + j ∧ d + j < len), M.set (d + j).toNat (B.getD j 0)) (j + 1) n

theorem flush_eq (B : List Int) {len dO : Nat} (ub : Bool) :
    ∀ (n : Nat) (M : List Int) (j : Nat), j + n ≤ B.length → dO + j + n ≤ len →
      flush B len dO (ub, M) j n = (ub, setsAt M (dO + j) ((B.drop j).take n)) := by
  intro n
  induction n with
  | zero => intro M j _ _; rfl
  | succ n ih =>
    intro M j hj hd
    have c2 : (0 ≤ (dO : Int) + j ∧ (dO : Int) + j < len) := by omega
    rw [flush, toNat_natCast_add]
    simp only [c2, bufOK_eq, show j < B.length by omega, and_self, decide_true, Bool.not_true, Bool.or_false]
    have hjl : j < B.length := by omega
    rw [ih _ _ (by omega) (by omega), List.drop_eq_getElem_cons hjl, List.take_succ_cons, setsAt,
      List.getD_eq_getElem?_getD, List.getElem?_eq_getElem hjl, Nat.add_assoc]
    rfl

theorem setsAt_all (B vs : List Int) (h : vs.length = B.length) : setsAt B 0 vs = vs := by
  rw [setsAt_eq _ _ _ (by omega)]
  simp [storeAt, h]

/-- same-iteration source and destination elements do not overlap: what the NOT-in-place loops of the C routines need in order to
    compute the model's element step (they assign byte by byte without the temporary `buf[]`) -/
def StepDisj (esz n so ss dO ds : Nat) : Prop := ∀ i, i < n → Disj (so + i * ss) esz (dO + i * ds) esz

instance (a la b lb : Nat) : Decidable (Disj a la b lb) := by unfold Disj; infer_instance
instance (esz n so ss dO ds len : Nat) : Decidable (InBounds esz n so ss dO ds len) := by unfold InBounds; infer_instance
instance (esz n so ss dO ds : Nat) : Decidable (StepDisj esz n so ss dO ds) := by unfold StepDisj; infer_instance

theorem sd_head {esz k so ss dO ds : Nat} (h : StepDisj esz (k + 1) so ss dO ds) : Disj so esz dO esz := by
  have := h 0 (by omega); simpa using this

theorem sd_tail {esz k so ss dO ds : Nat} (h : StepDisj esz (k + 1) so ss dO ds) : StepDisj esz k (so + ss) ss (dO + ds) ds :=
  fun i hi => by rw [← succ_stride, ← succ_stride]; exact h (i + 1) (by omega)

theorem bytes_readN (m : List Byte) (off n : Nat) : bytes (readN m off n) = readAt (bytes m) off n := map_readAt _ m off n

theorem bytes_writeN (m : List Byte) (off : Nat) (bs : List Byte) : bytes (writeN m off bs) = storeAt (bytes m) off (bytes bs) :=
  map_storeAt _ m off bs

theorem bytes_tr (swap : Bool) (e : List Byte) : bytes (tr swap e) = trI swap (bytes e) := by
  cases swap <;> simp [bytes, tr, trI]

theorem bytes_step (m : List Byte) (so dO esz : Nat) (swap : Bool) :
    bytes (writeN m dO (tr swap (readN m so esz))) = storeAt (bytes m) dO (trI swap (readAt (bytes m) so esz)) := by
  rw [bytes_writeN, bytes_tr, bytes_readN]

/-- what the seven routines work on: their state records (`DFK*.St`, one type per routine) seen through `view` -/
structure Core where
  source : Int
  dest : Int
  sstride : Int
  dstride : Int
  i : Int
  num : Int
  mem : List Int
  buf : List Int
  ub : Bool
  oof : Bool
  done : Bool
  ret : Int

/-- `dest += ds; source += ss; i++` -/
def Core.next (c : Core) (ds ss : Int) : Core :=
  { c with dest := c.dest + ds, source := c.source + ss, i := (c.i + 1) % 4294967296 }

/-- one element of width `w` copied as the unrolled C bodies do it.  `direct`: `dest[j] = source[o]` byte by byte, else through the
    temporary `buf[]` -/
def copy (w : Nat) (swap direct : Bool) (c : Core) : Core :=
  if direct then
    have r := assign c.mem.length c.dest c.source (c.ub, c.mem) 0 (offs swap w)
    { c with ub := r.1, mem := r.2 }
  else
    have f := fill c.mem c.buf.length c.source (c.ub, c.buf) 0 (offs swap w)
    have g := flush f.2 c.mem.length c.dest (f.1, c.mem) 0 w
    { c with ub := g.1, mem := g.2, buf := f.2 }

/-- one pass through an unrolled loop body.  `fixed`: the cursors advance by `w` (fast path), else by the strides -/
def gbody (w : Nat) (swap direct fixed : Bool) (c : Core) : Core :=
  if fixed then (copy w swap direct c).next w w else (copy w swap direct c).next c.dstride c.sstride

theorem copy_eq {w : Nat} {swap direct : Bool} {c : Core} {so dO : Nat} (hs : c.source = so) (hd : c.dest = dO)
    (hb : direct = false → c.buf.length = w)
    (h1 : so + w ≤ c.mem.length) (h2 : dO + w ≤ c.mem.length) (hdj : direct = true → w ≤ 1 ∨ Disj so w dO w) :
    copy w swap direct c =
      { c with mem := storeAt c.mem dO (trI swap (readAt c.mem so w)), buf := if direct then c.buf else trI swap (readAt c.mem so w) } := by
  have hv := map_offs c.mem so w swap h1
  have hl : (trI swap (readAt c.mem so w)).length = w := by rw [trI_length, length_readAt _ _ _ h1]
  unfold copy
  cases direct
  · simp only [Bool.false_eq_true, if_false, hs, hd]
    rw [fill_eq c.mem h1 c.ub _ _ _ (fun o => offs_lt) (by rw [offs_length, hb rfl]; omega), hv, setsAt_all _ _ (by rw [hl, hb rfl])]
    simp only []
    rw [flush_eq _ c.ub _ _ _ (by rw [hl]; omega) (by omega), List.drop_zero, List.take_of_length_le (by omega),
      setsAt_eq _ _ _ (by rw [hl]; omega)]
    rfl
  · simp only [if_true, hs, hd]
    rw [assign_eq h1 h2 (hdj rfl) _ c.ub _ _ _ (fun o ho => ⟨offs_lt ho, rfl⟩) (by rw [offs_length]; omega), hv,
      setsAt_eq _ _ _ (by rw [hl]; omega)]
    rfl

structure Params (σs σd : Int) (bl : Nat) (c : Core) : Prop where
  sstride : c.sstride = σs
  dstride : c.dstride = σd
  buf : c.buf.length = bl

/-- `gb` performs one element step of the model at the cursors and advances them by `ss`/`ds`, without undefined behaviour.
    `direct`: it needs the source and the destination element disjoint. -/
def IsStep (gb : Core → Core) (esz : Nat) (swap direct : Bool) (ss ds : Nat) (σs σd : Int) (bl : Nat) : Prop :=
  ∀ (c : Core) (so dO : Nat), Params σs σd bl c → c.source = so → c.dest = dO → so + esz ≤ c.mem.length → dO + esz ≤ c.mem.length →
    (direct = true → Disj so esz dO esz) →
    Params σs σd bl (gb c) ∧ ∃ B, gb c =
      { c with mem := storeAt c.mem dO (trI swap (readAt c.mem so esz)), buf := B, source := ((so + ss : Nat) : Int),
               dest := ((dO + ds : Nat) : Int), i := (c.i + 1) % 4294967296 }

theorem gbody_eq {w : Nat} {swap direct fixed : Bool} {ss ds bl : Nat} (hbl : direct = false → bl = w) {c : Core} {so dO : Nat}
    (hI : Params ss ds bl c) (hs : c.source = so) (hd : c.dest = dO) (h1 : so + w ≤ c.mem.length) (h2 : dO + w ≤ c.mem.length)
    (hdj : direct = true → w ≤ 1 ∨ Disj so w dO w) :
    Params ss ds bl (gbody w swap direct fixed c) ∧ ∃ B, gbody w swap direct fixed c =
      { c with mem := storeAt c.mem dO (trI swap (readAt c.mem so w)), buf := B, source := ((so + if fixed then w else ss : Nat) : Int),
               dest := ((dO + if fixed then w else ds : Nat) : Int), i := (c.i + 1) % 4294967296 } := by
  have hl : (trI swap (readAt c.mem so w)).length = w := by rw [trI_length, length_readAt _ _ _ h1]
  unfold gbody
  rw [copy_eq hs hd (fun h => by rw [hI.buf, hbl h]) h1 h2 hdj]
  have hbl : (if direct then c.buf else trI swap (readAt c.mem so w)).length = bl := by
    cases direct
    · rw [if_neg (by simp), hl, hbl rfl]
    · exact hI.buf
  cases fixed <;> simp only [Bool.false_eq_true, if_false, if_true, Core.next, hs, hd, hI.sstride, hI.dstride, Int.natCast_add] <;>
    exact ⟨⟨rfl, rfl, hbl⟩, _, rfl⟩

theorem gbody_step (w : Nat) (swap direct fixed : Bool) (ss ds : Nat) :
    IsStep (gbody w swap direct fixed) w swap direct (if fixed then w else ss) (if fixed then w else ds) ss ds w :=
  fun _ _ _ hI hs hd h1 h2 hdj => gbody_eq (fun _ => rfl) hI hs hd h1 h2 (fun h => .inr (hdj h))

/-- a single byte needs no temporary -/
theorem byte_step (swap fixed : Bool) (ss ds bl : Nat) :
    IsStep (gbody 1 swap true fixed) 1 swap false (if fixed then 1 else ss) (if fixed then 1 else ds) ss ds bl :=
  fun _ _ _ hI hs hd h1 h2 _ => gbody_eq (by simp) hI hs hd h1 h2 (fun _ => .inl (Nat.le_refl 1))

/-- `memcpy(dest, source, n)` inside `mem` -/
def Core.memcpy (c : Core) (n : Int) : Core :=
  { c with ub := memcpyUb c.ub c.mem.length c.dest c.source n, mem := memcpyMem c.mem c.dest c.source n }

theorem memcpy_ub {c : Core} {so dO n : Nat} (hs : c.source = so) (hd : c.dest = dO) (hub : c.ub = false)
    (h1 : so + n ≤ c.mem.length) (h2 : dO + n ≤ c.mem.length) : (c.memcpy n).ub = true ↔ ¬ Disj so n dO n := by
  simp only [Core.memcpy, hs, hd, hub, memcpyUb_nat false h2 h1, Disj, Bool.false_or, Bool.not_eq_true', decide_eq_false_iff_not]
  omega

theorem memcpy_eq {c : Core} {so dO n : Nat} (hs : c.source = so) (hd : c.dest = dO)
    (h1 : so + n ≤ c.mem.length) (h2 : dO + n ≤ c.mem.length) (hdj : Disj so n dO n) :
    c.memcpy n = { c with mem := storeAt c.mem dO (trI false (readAt c.mem so n)) } := by
  have c3 : dO + n ≤ so ∨ so + n ≤ dO ∨ n = 0 := by unfold Disj at hdj; omega
  simp only [Core.memcpy, hs, hd, memcpyUb_nat c.ub h2 h1, memcpyMem_nat c.mem h1, c3, decide_true, Bool.not_true, Bool.or_false]
  rfl

/-- `memcpy(buf, source, n); memcpy(dest, buf, n)` -/
def Core.memcpyBuf (c : Core) (n : Nat) : Core :=
  have ub := ((c.ub || !decide ((0 : Int) ≤ n)) || !decide (0 ≤ 0 ∧ n ≤ c.buf.length)) ||
    !decide (0 ≤ c.source ∧ c.source + n ≤ c.mem.length)
  have B := c.buf.take 0 ++ (c.mem.drop c.source.toNat).take n ++ c.buf.drop n
  { c with ub := ((ub || !decide ((0 : Int) ≤ n)) || !decide (0 ≤ c.dest ∧ c.dest + n ≤ c.mem.length)) || !decide (0 ≤ 0 ∧ n ≤ B.length),
           buf := B, mem := c.mem.take c.dest.toNat ++ (B.drop 0).take n ++ c.mem.drop (c.dest + n).toNat }

theorem memcpyBuf_eq {c : Core} {so dO n : Nat} (hs : c.source = so) (hd : c.dest = dO) (hb : c.buf.length = n)
    (h1 : so + n ≤ c.mem.length) (h2 : dO + n ≤ c.mem.length) :
    c.memcpyBuf n = { c with mem := storeAt c.mem dO (trI false (readAt c.mem so n)), buf := readAt c.mem so n } := by
  have hl : (readAt c.mem so n).length = n := length_readAt _ _ _ h1
  have eB : c.buf.take 0 ++ (c.mem.drop so).take n ++ c.buf.drop n = readAt c.mem so n := by
    rw [List.drop_of_length_le (Nat.le_of_eq hb)]; simp [readAt]
  have c1 : (0 ≤ (so : Int) ∧ (so : Int) + n ≤ c.mem.length) := by omega
  have c2 : (0 ≤ (dO : Int) ∧ (dO : Int) + n ≤ c.mem.length) := by omega
  simp only [Core.memcpyBuf, hs, hd, Int.toNat_natCast, toNat_natCast_add, eB, hl, hb, c1, c2, Int.natCast_nonneg, Nat.le_refl, and_self, decide_true,
    Bool.not_true, Bool.or_false, List.drop_zero, List.take_of_length_le (Nat.le_of_eq hl)]
  simp only [storeAt, trI, hl, Bool.false_eq_true, if_false]

/-- `for (…; i < num_elm; i++) body` with fuel, as the translator writes every loop -/
def gloop (gb : Core → Core) : Nat → Core → Core
  | 0, c => if c.i < c.num ∧ ¬ c.done then { c with oof := true } else c
  | f + 1, c => if c.i < c.num ∧ ¬ c.done then gloop gb f (gb c) else c

theorem gloop_isLoop (gb : Core → Core) :
    IsLoop (gloop gb) (fun c => c.i < c.num ∧ ¬ c.done) (fun _ => gb) (fun c => c) :=
  .of_eqs (fun _ => rfl) (fun _ _ => rfl)

structure Good (c : Core) (X : List Int) : Prop where
  ub : c.ub = false
  oof : c.oof = false
  ret : c.ret = 0
  mem : c.mem = X

/-- **Simulation.**  A loop whose body is an element step, entered with `k` iterations to go, leaves what `conv … k` computes. -/
theorem gloop_conv {gb : Core → Core} {esz : Nat} {swap direct : Bool} {ss ds : Nat} {σs σd : Int} {bl : Nat}
    (hgb : IsStep gb esz swap direct ss ds σs σd bl) :
    ∀ (k fuel : Nat) (c : Core) (so dO i : Nat) (m : List Byte), k ≤ fuel → Params σs σd bl c →
      c.source = so → c.dest = dO → c.i = i → c.num = ((i + k : Nat) : Int) → i + k < 4294967296 →
      Good c (bytes m) → c.done = false →
      InBounds esz k so ss dO ds m.length → (direct = true → StepDisj esz k so ss dO ds) →
      Good (gloop gb fuel c) (bytes (conv esz swap k so ss dO ds m)) ∧ (gloop gb fuel c).done = false := by
  intro k
  induction k with
  | zero =>
    intro fuel c so dO i m _ _ _ _ hi hnum _ hg hdone _ _
    rw [(gloop_isLoop gb).exit (by rw [hi, hnum]; omega)]
    exact ⟨hg, hdone⟩
  | succ k ih =>
    intro fuel c so dO i m hf hinv hso hdO hi hnum hlt hg hdone hb hd
    obtain ⟨fuel, rfl⟩ : ∃ f, fuel = f + 1 := ⟨fuel - 1, by omega⟩
    obtain ⟨hub, hoof, hret, hm⟩ := hg
    have hc : c.i < c.num ∧ ¬ c.done := by rw [hi, hnum, hdone]; exact ⟨by omega, by simp⟩
    obtain ⟨hb1, hb2⟩ := inb_head hb
    have hl : c.mem.length = m.length := by rw [hm]; simp
    obtain ⟨hinv', B', hv'⟩ := hgb c so dO hinv hso hdO (by omega) (by omega) (fun h => sd_head (hd h))
    rw [(gloop_isLoop gb).pass hc]
    refine ih fuel (gb c) (so + ss) (dO + ds) (i + 1) (writeN m dO (tr swap (readN m so esz))) (by omega) hinv' ?_ ?_ ?_ ?_ (by omega) ?_ ?_
      (by rw [step_length _ _ _ _ _ hb1 hb2]; exact inb_tail hb) (fun h => sd_tail (hd h)) <;> rw [hv']
    · simp only []; rw [hi]; omega
    · simp only []; rw [hnum]; omega
    · exact ⟨hub, hoof, hret, by simp only []; rw [hm, bytes_step]⟩
    · exact hdone

/-- a translated loop is `gloop` of its body, seen through `view`.  `hL` holds by unfolding the translator's fuel recursion, whatever
    the loop; `hb` for an unrolled body by bringing both sides to the normal form of the simp set `c06_body`. -/
theorem gloop_view {σ : Type} {view : σ → Core} {loop body : Nat → σ → σ} {gb : Core → Core}
    (hL : IsLoop loop (fun s => (view s).i < (view s).num ∧ ¬ (view s).done) body (fun s => s) := by
      exact .of_eqs (fun _ => rfl) (fun _ _ => rfl))
    (h0 : ∀ s, view (loop 0 s) = gloop gb 0 (view s) := by exact fun _ => apply_ite _ _ _ _)
    (hb : ∀ f s, view (body f s) = gb (view s) := by
      intro f s; cases s; simp only [c06_body, ↓reduceIte, Nat.reduceAdd, Int.reduceToNat] <;> rfl)
    (f : Nat) (s : σ) : view (loop f s) = gloop gb f (view s) :=
  hL.map (gloop_isLoop gb) view (fun _ => Iff.rfl) (fun f s _ => hb f s) (fun _ _ => rfl) (fun s _ => h0 s) f s

open H4.Gen.Fn.Dfkswap H4.Gen.Fn.Dfknat

theorem offs_t2 : offs true 2 = [1, 0] := rfl
theorem offs_t4 : offs true 4 = [3, 2, 1, 0] := rfl
theorem offs_t8 : offs true 8 = [7, 6, 5, 4, 3, 2, 1, 0] := rfl
theorem offs_f1 : offs false 1 = [0] := rfl
theorem offs_f2 : offs false 2 = [0, 1] := rfl
theorem offs_f4 : offs false 4 = [0, 1, 2, 3] := rfl

attribute [c06_body] gbody copy Core.next assign fill flush bufOK offs_t2 offs_t4 offs_t8 offs_f1 offs_f2 offs_f4 List.length_set
  Int.cast_ofNat_Int Int.toNat_zero Int.add_zero Bool.false_eq_true

theorem DFKsb2b.chk_true (s : DFKsb2b.St) (c : Prop) [Decidable c] (h : c) : DFKsb2b.chk s c = s := by
  simp [DFKsb2b.chk, h]

def DFKsb2b.view (s : DFKsb2b.St) : Core :=
  ⟨s.source, s.dest, s.source_stride, s.dest_stride, s.i, s.num_elm, s.mem, s.buf, s.ub, s.oof, s.done, s.ret⟩

attribute [c06_body] DFKsb2b.chk DFKsb2b.view DFKsb2b.loop0.body DFKsb2b.loop1.body DFKsb2b.loop2.body DFKsb2b.loop3.body

theorem DFKsb2b.loop0_view : ∀ f s, DFKsb2b.view (DFKsb2b.loop0 f s) = gloop (gbody 2 true true true) f (DFKsb2b.view s) :=
  gloop_view

theorem DFKsb2b.loop1_view : ∀ f s, DFKsb2b.view (DFKsb2b.loop1 f s) = gloop (gbody 2 true false true) f (DFKsb2b.view s) :=
  gloop_view

theorem DFKsb2b.loop2_view : ∀ f s, DFKsb2b.view (DFKsb2b.loop2 f s) = gloop (gbody 2 true true false) f (DFKsb2b.view s) :=
  gloop_view

theorem DFKsb2b.loop3_view : ∀ f s, DFKsb2b.view (DFKsb2b.loop3 f s) = gloop (gbody 2 true false false) f (DFKsb2b.view s) :=
  gloop_view

theorem DFKsb4b.chk_true (s : DFKsb4b.St) (c : Prop) [Decidable c] (h : c) : DFKsb4b.chk s c = s := by
  simp [DFKsb4b.chk, h]

def DFKsb4b.view (s : DFKsb4b.St) : Core :=
  ⟨s.source, s.dest, s.source_stride, s.dest_stride, s.i, s.num_elm, s.mem, s.buf, s.ub, s.oof, s.done, s.ret⟩

attribute [c06_body] DFKsb4b.chk DFKsb4b.view DFKsb4b.loop0.body DFKsb4b.loop1.body DFKsb4b.loop2.body DFKsb4b.loop3.body

theorem DFKsb4b.loop0_view : ∀ f s, DFKsb4b.view (DFKsb4b.loop0 f s) = gloop (gbody 4 true true true) f (DFKsb4b.view s) :=
  gloop_view

theorem DFKsb4b.loop1_view : ∀ f s, DFKsb4b.view (DFKsb4b.loop1 f s) = gloop (gbody 4 true false true) f (DFKsb4b.view s) :=
  gloop_view

theorem DFKsb4b.loop2_view : ∀ f s, DFKsb4b.view (DFKsb4b.loop2 f s) = gloop (gbody 4 true true false) f (DFKsb4b.view s) :=
  gloop_view

theorem DFKsb4b.loop3_view : ∀ f s, DFKsb4b.view (DFKsb4b.loop3 f s) = gloop (gbody 4 true false false) f (DFKsb4b.view s) :=
  gloop_view

theorem DFKsb8b.chk_true (s : DFKsb8b.St) (c : Prop) [Decidable c] (h : c) : DFKsb8b.chk s c = s := by
  simp [DFKsb8b.chk, h]

def DFKsb8b.view (s : DFKsb8b.St) : Core :=
  ⟨s.source, s.dest, s.source_stride, s.dest_stride, s.i, s.num_elm, s.mem, s.buf, s.ub, s.oof, s.done, s.ret⟩

attribute [c06_body] DFKsb8b.chk DFKsb8b.view DFKsb8b.loop0.body DFKsb8b.loop1.body DFKsb8b.loop2.body DFKsb8b.loop3.body

theorem DFKsb8b.loop0_view : ∀ f s, DFKsb8b.view (DFKsb8b.loop0 f s) = gloop (gbody 8 true true true) f (DFKsb8b.view s) :=
  gloop_view

theorem DFKsb8b.loop1_view : ∀ f s, DFKsb8b.view (DFKsb8b.loop1 f s) = gloop (gbody 8 true false true) f (DFKsb8b.view s) :=
  gloop_view

theorem DFKsb8b.loop2_view : ∀ f s, DFKsb8b.view (DFKsb8b.loop2 f s) = gloop (gbody 8 true true false) f (DFKsb8b.view s) :=
  gloop_view

theorem DFKsb8b.loop3_view : ∀ f s, DFKsb8b.view (DFKsb8b.loop3 f s) = gloop (gbody 8 true false false) f (DFKsb8b.view s) :=
  gloop_view

theorem DFKnb2b.chk_true (s : DFKnb2b.St) (c : Prop) [Decidable c] (h : c) : DFKnb2b.chk s c = s := by
  simp [DFKnb2b.chk, h]

def DFKnb2b.view (s : DFKnb2b.St) : Core :=
  ⟨s.source, s.dest, s.source_stride, s.dest_stride, s.i, s.num_elm, s.mem, s.buf, s.ub, s.oof, s.done, s.ret⟩

attribute [c06_body] DFKnb2b.chk DFKnb2b.view DFKnb2b.loop0.body DFKnb2b.loop1.body

theorem DFKnb2b.loop0_view : ∀ f s, DFKnb2b.view (DFKnb2b.loop0 f s) = gloop (gbody 2 false true false) f (DFKnb2b.view s) :=
  gloop_view

theorem DFKnb2b.loop1_view : ∀ f s, DFKnb2b.view (DFKnb2b.loop1 f s) = gloop (gbody 2 false false false) f (DFKnb2b.view s) :=
  gloop_view

theorem DFKnb4b.chk_true (s : DFKnb4b.St) (c : Prop) [Decidable c] (h : c) : DFKnb4b.chk s c = s := by
  simp [DFKnb4b.chk, h]

def DFKnb4b.view (s : DFKnb4b.St) : Core :=
  ⟨s.source, s.dest, s.source_stride, s.dest_stride, s.i, s.num_elm, s.mem, s.buf, s.ub, s.oof, s.done, s.ret⟩

attribute [c06_body] DFKnb4b.chk DFKnb4b.view DFKnb4b.loop0.body DFKnb4b.loop1.body

theorem DFKnb4b.loop0_view : ∀ f s, DFKnb4b.view (DFKnb4b.loop0 f s) = gloop (gbody 4 false true false) f (DFKnb4b.view s) :=
  gloop_view

theorem DFKnb4b.loop1_view : ∀ f s, DFKnb4b.view (DFKnb4b.loop1 f s) = gloop (gbody 4 false false false) f (DFKnb4b.view s) :=
  gloop_view

theorem DFKnb8b.chk_true (s : DFKnb8b.St) (c : Prop) [Decidable c] (h : c) : DFKnb8b.chk s c = s := by
  simp [DFKnb8b.chk, h]

def DFKnb8b.view (s : DFKnb8b.St) : Core :=
  ⟨s.source, s.dest, s.source_stride, s.dest_stride, s.i, s.num_elm, s.mem, s.buf, s.ub, s.oof, s.done, s.ret⟩

/-- the bodies of `DFKnb8b`'s loops: `memcpy(dest, source, 8)`, in place through `buf` -/
def body8 (direct : Bool) (c : Core) : Core := (if direct then c.memcpy (8 : Nat) else c.memcpyBuf 8).next c.dstride c.sstride

attribute [c06_body] DFKnb8b.chk DFKnb8b.view DFKnb8b.loop0.body DFKnb8b.loop1.body body8 Core.memcpy Core.memcpyBuf memcpyUb memcpyMem

theorem DFKnb8b.loop0_view : ∀ f s, DFKnb8b.view (DFKnb8b.loop0 f s) = gloop (body8 true) f (DFKnb8b.view s) :=
  gloop_view (hb := fun f s => by
    cases s; simp only [c06_body, ↓reduceIte, Int.reduceMod, Nat.reduceMod, Nat.reduceEqDiff, Int.reduceEq, or_false]; rfl)

theorem DFKnb8b.loop1_view : ∀ f s, DFKnb8b.view (DFKnb8b.loop1 f s) = gloop (body8 false) f (DFKnb8b.view s) :=
  gloop_view (hb := fun f s => by
    cases s; simp only [c06_body, ↓reduceIte, Int.reduceMod, Nat.reduceMod, Int.reduceAdd, Int.reduceToNat, Nat.zero_add]; rfl)

theorem body8_step (direct : Bool) (ss ds : Nat) : IsStep (body8 direct) 8 false direct ss ds ss ds 8 := by
  intro c so dO hI hs hd h1 h2 hdj
  unfold body8
  cases direct
  · rw [if_neg (by simp), memcpyBuf_eq hs hd hI.buf h1 h2]
    exact ⟨⟨hI.sstride, hI.dstride, length_readAt _ _ _ h1⟩, readAt c.mem so 8, by simp [Core.next, hs, hd, hI.sstride, hI.dstride]⟩
  · rw [if_pos rfl, memcpy_eq hs hd h1 h2 (hdj rfl)]
    exact ⟨⟨hI.sstride, hI.dstride, hI.buf⟩, c.buf, by simp [Core.next, hs, hd, hI.sstride, hI.dstride]⟩

/-! `DFKnb1b` has no scratch buffer (its view shows the one of `start 1`), and its one loop advances the cursors BEFORE copying:
    `for (i = 1; …) { dest += …; source += …; *dest = *source; }` -/
theorem DFKnb1b.chk_true (s : DFKnb1b.St) (c : Prop) [Decidable c] (h : c) : DFKnb1b.chk s c = s := by
  simp [DFKnb1b.chk, h]

def DFKnb1b.view (s : DFKnb1b.St) : Core :=
  ⟨s.source, s.dest, s.source_stride, s.dest_stride, s.i, s.num_elm, s.mem, List.replicate 1 0, s.ub, s.oof, s.done, s.ret⟩

def body1 (c : Core) : Core := copy 1 false true (c.next c.dstride c.sstride)

attribute [c06_body] DFKnb1b.chk DFKnb1b.view DFKnb1b.loop0.body body1

theorem DFKnb1b.loop0_view : ∀ f s, DFKnb1b.view (DFKnb1b.loop0 f s) = gloop body1 f (DFKnb1b.view s) :=
  gloop_view

/-- seen one stride ahead, the loop of `DFKnb1b` is the common loop at width 1 -/
def Core.ahead (c : Core) : Core := { c with source := c.source + c.sstride, dest := c.dest + c.dstride }

theorem body1_loop : ∀ f c, (gloop body1 f c).ahead = gloop (gbody 1 false true false) f c.ahead :=
  gloop_view (hL := gloop_isLoop body1) (hb := fun _ _ => rfl)

/-- effective strides of the kernels: `0/0` selects the contiguous fast path (= stride `esz`), as in the model's `convert` -/
def effS (esz ss ds : Nat) : Nat := if ss = 0 ∧ ds = 0 then esz else ss
def effD (esz ss ds : Nat) : Nat := if ss = 0 ∧ ds = 0 then esz else ds

/-- the `DFKnb*b` routines take their `memcpy`/nothing-to-do fast path for strides `0/0` and `esz/esz` -/
def fastNb (esz ss ds : Nat) : Prop := (ss = 0 ∧ ds = 0) ∨ (ss = esz ∧ ds = esz)
instance (esz ss ds : Nat) : Decidable (fastNb esz ss ds) := by unfold fastNb; infer_instance

theorem eff_zero (esz : Nat) : effS esz 0 0 = esz ∧ effD esz 0 0 = esz := ⟨rfl, rfl⟩

theorem eff_ne {esz ss ds : Nat} (h : ¬ (ss = 0 ∧ ds = 0)) : effS esz ss ds = ss ∧ effD esz ss ds = ds := ⟨if_neg h, if_neg h⟩

theorem eff_fast {esz ss ds : Nat} (h : fastNb esz ss ds) : effS esz ss ds = esz ∧ effD esz ss ds = esz := by
  rcases h with ⟨rfl, rfl⟩ | ⟨rfl, rfl⟩
  · exact eff_zero _
  · exact ⟨ite_self _, ite_self _⟩

theorem eff_slow {esz ss ds : Nat} (h : ¬ fastNb esz ss ds) : effS esz ss ds = ss ∧ effD esz ss ds = ds :=
  eff_ne fun h0 => h (.inl h0)

theorem convert_eff (esz : Nat) (swap : Bool) (num so ss dO ds : Nat) (m : List Byte) (hn0 : num ≠ 0) :
    convert esz swap num so ss dO ds m = some (conv esz swap num so (effS esz ss ds) dO (effD esz ss ds) m) := by
  unfold convert effS effD
  by_cases h : ss = 0 ∧ ds = 0 <;> simp [hn0, h]

theorem of_good {c : Core} {esz : Nat} {swap : Bool} {num so ss dO ds : Nat} {m : List Byte} (hn0 : num ≠ 0)
    (h : Good c (bytes (conv esz swap num so (effS esz ss ds) dO (effD esz ss ds) m))) :
    c.ub = false ∧ c.oof = false ∧ c.ret = 0 ∧ some c.mem = (convert esz swap num so ss dO ds m).map bytes := by
  rw [convert_eff _ _ _ _ _ _ _ _ hn0]
  exact ⟨h.ub, h.oof, h.ret, by rw [h.mem]; rfl⟩

/-- the state a routine of element width `w` starts from (`buf[w]` is its scratch array) -/
def start (w : Nat) (so : Int) (M : List Int) (dO num ss ds : Int) : Core :=
  ⟨so, dO, ss, ds, 0, num, M, List.replicate w 0, false, false, false, 0⟩

/-- `return r` -/
def Core.fin (c : Core) (r : Int) : Core := { c with ret := r, done := true }

/-- falling off the end of the function: `return SUCCEED` unless it has returned already -/
def Core.finish (c : Core) : Core := if c.done then c else c.fin 0

/-- `body false`: in place through `buf[]`; `body true`: byte by byte -/
theorem loops_good {body : Bool → Core → Core} {esz : Nat} {swap : Bool} {ss ds σs σd : Nat}
    (hbody : ∀ direct, IsStep (body direct) esz swap direct ss ds σs σd esz) {fuel num so dO : Nat} {m : List Byte}
    (hf : num ≤ fuel) (hn : num < 4294967296) (hb : InBounds esz num so ss dO ds m.length)
    (hd : so ≠ dO → StepDisj esz num so ss dO ds) :
    Good (gloop (if (so : Int) = dO then body false else body true) fuel (start esz so (bytes m) dO num σs σd))
        (bytes (conv esz swap num so ss dO ds m)) ∧
      (gloop (if (so : Int) = dO then body false else body true) fuel (start esz so (bytes m) dO num σs σd)).done = false := by
  have key := fun direct (h : direct = true → so ≠ dO) =>
    gloop_conv (hbody direct) num fuel (start esz so (bytes m) dO num σs σd) so dO 0 m hf ⟨rfl, rfl, by simp [start]⟩ rfl rfl rfl
      (by simp [start]) (by omega) ⟨rfl, rfl, rfl, rfl⟩ rfl hb (fun hdir => hd (h hdir))
  by_cases h : so = dO
  · rw [if_pos (by omega)]; exact key false (by simp)
  · rw [if_neg (by omega)]; exact key true (fun _ => h)

theorem good_fin {c : Core} {X : List Int} (h : Good c X ∧ c.done = false) : Good (c.fin 0) X :=
  ⟨h.1.ub, h.1.oof, rfl, h.1.mem⟩

theorem good_finish {c : Core} {X : List Int} (h : Good c X ∧ c.done = false) : Good c.finish X := by
  rw [Core.finish, if_neg (by simp [h.2])]; exact good_fin h

/-- `DFKsb2b`/`4b`/`8b` (`w` = 2, 4, 8): fast path for strides 0/0, in place through `buf[]` -/
def gsb (w fuel : Nat) (so : Int) (M : List Int) (dO num ss ds : Int) : Core :=
  if num = 0 then (start w so M dO num ss ds).fin (-1)
  else if ss = 0 ∧ ds = 0 then
    (gloop (if so = dO then gbody w true false true else gbody w true true true) fuel (start w so M dO num ss ds)).fin 0
  else (gloop (if so = dO then gbody w true false false else gbody w true true false) fuel (start w so M dO num ss ds)).finish

theorem gsb_good {w fuel num so ss dO ds : Nat} {m : List Byte} {c : Core} (hc : c = gsb w fuel so (bytes m) dO num ss ds)
    (hf : num ≤ fuel) (hn0 : num ≠ 0) (hn : num < 4294967296) (hb : InBounds w num so (effS w ss ds) dO (effD w ss ds) m.length)
    (hd : so ≠ dO → StepDisj w num so (effS w ss ds) dO (effD w ss ds)) :
    Good c (bytes (conv w true num so (effS w ss ds) dO (effD w ss ds) m)) := by
  rw [hc, gsb, if_neg (by omega)]
  by_cases hfast : ss = 0 ∧ ds = 0
  · obtain ⟨rfl, rfl⟩ := hfast
    have e := eff_zero w
    rw [e.1, e.2] at hb hd ⊢
    rw [if_pos ⟨rfl, rfl⟩]
    exact good_fin (loops_good (body := (gbody w true · true)) (fun d => gbody_step w true d true 0 0) hf hn hb hd)
  · have e := eff_ne (esz := w) hfast
    rw [e.1, e.2] at hb hd ⊢
    rw [if_neg (by omega)]
    exact good_finish (loops_good (body := (gbody w true · false)) (fun d => gbody_step w true d false ss ds) hf hn hb hd)

theorem fast_good {w num so dO : Nat} {m : List Byte} {ss ds cnt : Int} (hn0 : num ≠ 0) (hb : InBounds w num so w dO w m.length)
    (hcnt : so ≠ dO → cnt = ((num * w : Nat) : Int)) (hd : so ≠ dO → Disj so (num * w) dO (num * w)) :
    Good (if (so : Int) = dO then (start w so (bytes m) dO num ss ds).fin 0 else ((start w so (bytes m) dO num ss ds).memcpy cnt).fin 0)
      (bytes (conv w false num so w dO w m)) := by
  obtain ⟨hb1, hb2⟩ := inb_total hn0 hb
  by_cases h : so = dO
  · subst h; rw [if_pos rfl, conv_id _ _ _ _ _ hb]
    exact ⟨rfl, rfl, rfl, rfl⟩
  · rw [if_neg (by omega), hcnt h, memcpy_eq rfl rfl (by simpa [start] using hb1) (by simpa [start] using hb2) (hd h),
      conv_contig w num so dO m hb1 hb2 (hd h)]
    exact ⟨rfl, rfl, rfl, (bytes_step m so dO (num * w) false).symm⟩

/-- `DFKnb2b`/`4b`/`8b` (`w` = 2, 4, 8): nothing to do, or one `memcpy` of `num_elm * w` bytes (a `uint32` product), for strides 0/0 and
    `w`/`w`; `body direct` is the body of the strided loops -/
def gnb (w : Nat) (body : Bool → Core → Core) (fuel : Nat) (so : Int) (M : List Int) (dO num ss ds : Int) : Core :=
  if num = 0 then (start w so M dO num ss ds).fin (-1)
  else if (ss = 0 ∧ ds = 0) ∨ (ss = w ∧ ds = w) then
    if so = dO then (start w so M dO num ss ds).fin 0
    else ((start w so M dO num ss ds).memcpy (num * w % 4294967296)).fin 0
  else (gloop (if so = dO then body false else body true) fuel (start w so M dO num ss ds)).finish

theorem gnb_good {w : Nat} {body : Bool → Core → Core} {fuel num so ss dO ds : Nat} {m : List Byte} {c : Core}
    (hc : c = gnb w body fuel so (bytes m) dO num ss ds) (hbody : ∀ direct ss ds, IsStep (body direct) w false direct ss ds ss ds w)
    (hf : num ≤ fuel) (hn0 : num ≠ 0) (hn : num < 4294967296) (hb : InBounds w num so (effS w ss ds) dO (effD w ss ds) m.length)
    (hd : so ≠ dO → if fastNb w ss ds then Disj so (num * w) dO (num * w) ∧ num * w < 4294967296 else StepDisj w num so ss dO ds) :
    Good c (bytes (conv w false num so (effS w ss ds) dO (effD w ss ds) m)) := by
  rw [hc, gnb, if_neg (by omega)]
  by_cases hfast : fastNb w ss ds
  · rw [(eff_fast hfast).1, (eff_fast hfast).2] at hb ⊢
    rw [if_pos (by unfold fastNb at hfast; omega)]
    have hd' := fun h => (if_pos hfast ▸ hd h :)
    exact fast_good hn0 hb (fun h => by have := (hd' h).2; omega) (fun h => (hd' h).1)
  · rw [(eff_slow hfast).1, (eff_slow hfast).2] at hb ⊢
    rw [if_neg (by unfold fastNb at hfast; omega)]
    exact good_finish (loops_good (hbody · ss ds) hf hn hb (fun h => (if_neg hfast ▸ hd h :)))

theorem gnb_fast_ub {w : Nat} {body : Bool → Core → Core} {fuel num so ss dO ds : Nat} {m : List Byte} {c : Core}
    (hc : c = gnb w body fuel so (bytes m) dO num ss ds) (hn0 : num ≠ 0) (hne : so ≠ dO) (hfast : fastNb w ss ds)
    (hb1 : so + num * w ≤ m.length) (hb2 : dO + num * w ≤ m.length) (hlt : num * w < 4294967296) :
    c.ub = true ↔ ¬ Disj so (num * w) dO (num * w) := by
  rw [hc, gnb, if_neg (by omega), if_pos (by unfold fastNb at hfast; omega), if_neg (by omega),
    show (num : Int) * w % 4294967296 = ((num * w : Nat) : Int) by omega]
  exact memcpy_ub rfl rfl rfl (by simpa [start] using hb1) (by simpa [start] using hb2)

/-- `DFKnb1b`: as `gnb` at width 1, except that `num_elm` is the byte count of the `memcpy` as it stands, and that the first byte is
    copied before the loop, which starts at `i = 1` and advances the cursors before it copies -/
def gnb1 (fuel : Nat) (so : Int) (M : List Int) (dO num ss ds : Int) : Core :=
  if num = 0 then (start 1 so M dO num ss ds).fin (-1)
  else if (ss = 0 ∧ ds = 0) ∨ (ss = 1 ∧ ds = 1) then
    if so = dO then (start 1 so M dO num ss ds).fin 0 else ((start 1 so M dO num ss ds).memcpy num).fin 0
  else (gloop body1 fuel { copy 1 false true (start 1 so M dO num ss ds) with i := 1 }).finish

theorem gnb1_good {fuel num so ss dO ds : Nat} {m : List Byte} {c : Core} (hc : c = gnb1 fuel so (bytes m) dO num ss ds)
    (hf : num ≤ fuel) (hn0 : num ≠ 0) (hn : num < 4294967296)
    (hb : InBounds 1 num so (effS 1 ss ds) dO (effD 1 ss ds) m.length) (hd : so ≠ dO → fastNb 1 ss ds → Disj so num dO num) :
    Good c (bytes (conv 1 false num so (effS 1 ss ds) dO (effD 1 ss ds) m)) := by
  rw [hc, gnb1, if_neg (by omega)]
  by_cases hfast : fastNb 1 ss ds
  · rw [(eff_fast hfast).1, (eff_fast hfast).2] at hb ⊢
    rw [if_pos (by unfold fastNb at hfast; omega)]
    exact fast_good hn0 hb (fun _ => by simp) (fun h => by simpa using hd h hfast)
  · rw [(eff_slow hfast).1, (eff_slow hfast).2] at hb ⊢
    rw [if_neg (by unfold fastNb at hfast; omega)]
    obtain ⟨k, rfl⟩ : ∃ k, num = k + 1 := ⟨num - 1, by omega⟩
    obtain ⟨hb1, hb2⟩ := inb_head hb
    rw [copy_eq (so := so) (dO := dO) rfl rfl (by simp) (by simpa [start] using hb1) (by simpa [start] using hb2)
      (fun _ => .inl (Nat.le_refl 1))]
    suffices h : Good (gloop body1 fuel _).ahead _ ∧ (gloop body1 fuel _).ahead.done = false from
      good_finish ⟨⟨h.1.ub, h.1.oof, h.1.ret, h.1.mem⟩, h.2⟩
    rw [body1_loop]
    exact gloop_conv (byte_step false false ss ds 1) k fuel _ (so + ss) (dO + ds) 1 (writeN m dO (tr false (readN m so 1))) (by omega)
      ⟨rfl, rfl, rfl⟩ (by simp [Core.ahead, start]) (by simp [Core.ahead, start]) rfl (by simp [Core.ahead, start]; omega) (by omega)
      ⟨rfl, rfl, rfl, (bytes_step m so dO 1 false).symm⟩ rfl (by rw [step_length _ _ _ _ _ hb1 hb2]; exact inb_tail hb) (by simp)

theorem gnb1_fast_ub {fuel num so ss dO ds : Nat} {m : List Byte} {c : Core} (hc : c = gnb1 fuel so (bytes m) dO num ss ds)
    (hn0 : num ≠ 0) (hne : so ≠ dO) (hfast : fastNb 1 ss ds) (hb1 : so + num ≤ m.length) (hb2 : dO + num ≤ m.length) :
    c.ub = true ↔ ¬ Disj so num dO num := by
  rw [hc, gnb1, if_neg (by omega), if_pos (by unfold fastNb at hfast; omega), if_neg (by omega)]
  exact memcpy_ub rfl rfl rfl (by simpa [start] using hb1) (by simpa [start] using hb2)

attribute [c06_entry] DFKsb2b DFKsb4b DFKsb8b DFKnb1b DFKnb2b DFKnb4b DFKnb8b gsb gnb gnb1 not_true_eq_false not_false_eq_true and_self
  Bool.false_eq_true Int.cast_ofNat_Int

theorem DFKsb2b_view (fuel : Nat) (so : Int) (M : List Int) (dO num ss ds : Int) :
    DFKsb2b.view (DFKsb2b fuel so M dO num ss ds) = gsb 2 fuel so M dO num ss ds := by
  by_cases hn : num = 0
  · simp only [c06_entry, hn, Int.reduceMod, ↓reduceIte]; rfl
  · by_cases hf : ss = 0 ∧ ds = 0 <;> by_cases hi : so = dO <;>
      simp only [c06_entry, hn, hf, hi, Int.reduceMod, Int.reduceNe, ↓reduceIte]
    · exact congrArg (Core.fin · 0) (DFKsb2b.loop1_view fuel _)
    · exact congrArg (Core.fin · 0) (DFKsb2b.loop0_view fuel _)
    · exact (apply_ite DFKsb2b.view _ _ _).trans (congrArg Core.finish (DFKsb2b.loop3_view fuel _))
    · exact (apply_ite DFKsb2b.view _ _ _).trans (congrArg Core.finish (DFKsb2b.loop2_view fuel _))

theorem DFKsb4b_view (fuel : Nat) (so : Int) (M : List Int) (dO num ss ds : Int) :
    DFKsb4b.view (DFKsb4b fuel so M dO num ss ds) = gsb 4 fuel so M dO num ss ds := by
  by_cases hn : num = 0
  · simp only [c06_entry, hn, Int.reduceMod, ↓reduceIte]; rfl
  · by_cases hf : ss = 0 ∧ ds = 0 <;> by_cases hi : so = dO <;>
      simp only [c06_entry, hn, hf, hi, Int.reduceMod, Int.reduceNe, ↓reduceIte]
    · exact congrArg (Core.fin · 0) (DFKsb4b.loop1_view fuel _)
    · exact congrArg (Core.fin · 0) (DFKsb4b.loop0_view fuel _)
    · exact (apply_ite DFKsb4b.view _ _ _).trans (congrArg Core.finish (DFKsb4b.loop3_view fuel _))
    · exact (apply_ite DFKsb4b.view _ _ _).trans (congrArg Core.finish (DFKsb4b.loop2_view fuel _))

theorem DFKsb8b_view (fuel : Nat) (so : Int) (M : List Int) (dO num ss ds : Int) :
    DFKsb8b.view (DFKsb8b fuel so M dO num ss ds) = gsb 8 fuel so M dO num ss ds := by
  by_cases hn : num = 0
  · simp only [c06_entry, hn, Int.reduceMod, ↓reduceIte]; rfl
  · by_cases hf : ss = 0 ∧ ds = 0 <;> by_cases hi : so = dO <;>
      simp only [c06_entry, hn, hf, hi, Int.reduceMod, Int.reduceNe, ↓reduceIte]
    · exact congrArg (Core.fin · 0) (DFKsb8b.loop1_view fuel _)
    · exact congrArg (Core.fin · 0) (DFKsb8b.loop0_view fuel _)
    · exact (apply_ite DFKsb8b.view _ _ _).trans (congrArg Core.finish (DFKsb8b.loop3_view fuel _))
    · exact (apply_ite DFKsb8b.view _ _ _).trans (congrArg Core.finish (DFKsb8b.loop2_view fuel _))

theorem DFKnb2b_view (fuel : Nat) (so : Int) (M : List Int) (dO num ss ds : Int) :
    DFKnb2b.view (DFKnb2b fuel so M dO num ss ds) = gnb 2 (gbody 2 false · false) fuel so M dO num ss ds := by
  by_cases hn : num = 0
  · simp only [c06_entry, hn, Int.reduceMod, ↓reduceIte]; rfl
  · by_cases hf : (ss = 0 ∧ ds = 0) ∨ (ss = 2 ∧ ds = 2) <;> by_cases hi : so = dO <;>
      simp only [c06_entry, hn, hf, hi, Int.reduceMod, Int.reduceNe, ↓reduceIte]
    · rfl
    · rfl
    · exact (apply_ite DFKnb2b.view _ _ _).trans (congrArg Core.finish (DFKnb2b.loop1_view fuel _))
    · exact (apply_ite DFKnb2b.view _ _ _).trans (congrArg Core.finish (DFKnb2b.loop0_view fuel _))

theorem DFKnb4b_view (fuel : Nat) (so : Int) (M : List Int) (dO num ss ds : Int) :
    DFKnb4b.view (DFKnb4b fuel so M dO num ss ds) = gnb 4 (gbody 4 false · false) fuel so M dO num ss ds := by
  by_cases hn : num = 0
  · simp only [c06_entry, hn, Int.reduceMod, ↓reduceIte]; rfl
  · by_cases hf : (ss = 0 ∧ ds = 0) ∨ (ss = 4 ∧ ds = 4) <;> by_cases hi : so = dO <;>
      simp only [c06_entry, hn, hf, hi, Int.reduceMod, Int.reduceNe, ↓reduceIte]
    · rfl
    · rfl
    · exact (apply_ite DFKnb4b.view _ _ _).trans (congrArg Core.finish (DFKnb4b.loop1_view fuel _))
    · exact (apply_ite DFKnb4b.view _ _ _).trans (congrArg Core.finish (DFKnb4b.loop0_view fuel _))

theorem DFKnb8b_view (fuel : Nat) (so : Int) (M : List Int) (dO num ss ds : Int) :
    DFKnb8b.view (DFKnb8b fuel so M dO num ss ds) = gnb 8 body8 fuel so M dO num ss ds := by
  by_cases hn : num = 0
  · simp only [c06_entry, hn, Int.reduceMod, ↓reduceIte]; rfl
  · by_cases hf : (ss = 0 ∧ ds = 0) ∨ (ss = 8 ∧ ds = 8) <;> by_cases hi : so = dO <;>
      simp only [c06_entry, hn, hf, hi, Int.reduceMod, Int.reduceNe, ↓reduceIte]
    · rfl
    · rfl
    · exact (apply_ite DFKnb8b.view _ _ _).trans (congrArg Core.finish (DFKnb8b.loop1_view fuel _))
    · exact (apply_ite DFKnb8b.view _ _ _).trans (congrArg Core.finish (DFKnb8b.loop0_view fuel _))

theorem DFKnb1b_view (fuel : Nat) (so : Int) (M : List Int) (dO num ss ds : Int) :
    DFKnb1b.view (DFKnb1b fuel so M dO num ss ds) = gnb1 fuel so M dO num ss ds := by
  by_cases hn : num = 0
  · simp only [c06_entry, hn, Int.reduceMod, ↓reduceIte]; rfl
  · by_cases hf : (ss = 0 ∧ ds = 0) ∨ (ss = 1 ∧ ds = 1) <;> by_cases hi : so = dO <;>
      simp only [c06_entry, hn, hf, hi, Int.reduceMod, Int.reduceNe, ↓reduceIte, start, c06_body]
    · rfl
    · rfl
    · exact (apply_ite DFKnb1b.view _ _ _).trans (congrArg Core.finish (DFKnb1b.loop0_view fuel _))
    · exact (apply_ite DFKnb1b.view _ _ _).trans (congrArg Core.finish (DFKnb1b.loop0_view fuel _))

/- The four commands below are abbreviations that nothing invokes: the names in their expansions (`loop_sim`, `Inv`, `loopK_spec`)
   would be resolved at a call site, and there is none. -/

open Lean in
/-- per routine: `f.chk_true` (a check whose condition holds leaves the state as it is), the `Core` view of the state and the loop
    invariant (the strides are the naturals `ss`, `ds`; the scratch buffer `buf[]` has the element size) -/
macro "conv_routine " f:ident esz:num : command => do
  let fn := f.getId
  let St := mkIdent (fn ++ `St)
  let chk := mkIdent (fn ++ `chk)
  let chkT := mkIdent (fn ++ `chk_true)
  let view := mkIdent (fn ++ `view)
  let inv := mkIdent (fn ++ `Inv)
  `(theorem $chkT (s : $St) (c : Prop) [Decidable c] (h : c) : $chk s c = s := by
      simp [$chk:ident, h]
    def $view (s : $St) : Core := ⟨s.source, s.dest, s.i, s.num_elm, s.mem, s.ub, s.oof, s.done, s.ret⟩
    def $inv (ss ds : Nat) (s : $St) : Prop := s.source_stride = (ss : Int) ∧ s.dest_stride = (ds : Int) ∧ s.buf.length = $esz)

open Lean in
/-- per loop with an unrolled body (`dest[j] = source[k]; …`, possibly through `buf[]`): the one-iteration equation `f.loopK_body` and the
    instance `f.loopK_spec` of `loop_sim`.
    `direct`: no temporary buffer; `fixed`: the cursors advance by the element size (fast path), else by the strides -/
macro "conv_loop " f:ident l:ident esz:num swap:ident direct:ident fixed:ident : command => do
  let fn := f.getId
  let ln := l.getId
  let St := mkIdent (fn ++ `St)
  let chkT := mkIdent (fn ++ `chk_true)
  let view := mkIdent (fn ++ `view)
  let inv := mkIdent (fn ++ `Inv)
  let loop := mkIdent (fn ++ ln)
  let body := mkIdent (fn ++ ln ++ `body)
  let bodyEq := mkIdent (fn ++ Name.mkSimple (ln.toString ++ "_body"))
  let spec := mkIdent (fn ++ Name.mkSimple (ln.toString ++ "_spec"))
  let isFixed := fixed.getId == `true
  let stS : Term ← if isFixed then `($esz) else `(ss)
  let stD : Term ← if isFixed then `($esz) else `(ds)
  `(theorem $bodyEq (fuel : Nat) (s : $St) (so dO ss ds : Nat) (hs : s.source = so) (hd : s.dest = dO)
        (hss : s.source_stride = ss) (hds : s.dest_stride = ds) (hb : s.buf.length = $esz)
        (h1 : so + $esz ≤ s.mem.length) (h2 : dO + $esz ≤ s.mem.length) (hdj : $direct = true → Disj so $esz dO $esz) :
        $body fuel s =
          { s with mem := setsAt s.mem dO (trI $swap (getsFrom s.mem so $esz)),
                   buf := if $direct = true then s.buf else setsAt s.buf 0 (trI $swap (getsFrom s.mem so $esz)),
                   dest := ((dO + $stD : Nat) : Int), source := ((so + $stS : Nat) : Int), i := (s.i + 1) % 4294967296 } := by
      have hdj' := hdj
      simp [Disj] at hdj'
      simp (disch := first | omega | (simp only [List.length_set]; omega)) only [$body:ident, $chkT:ident, hs, hd, hb, hss, hds,
        List.length_set, t0, t1, t2, t3, t4, t5, t6, t7, Int.toNat_zero, Int.toNat_one, Int.reduceToNat,
        List.getD_eq_getElem?_getD, List.getElem?_set_ne, List.getElem?_set_self]
      simp [setsAt, getsFrom, trI, hss, hds]
    theorem $spec (ss ds : Nat) (k fuel : Nat) (s : $St) (so dO i : Nat) (m : List Byte)
        (hf : k ≤ fuel) (hinv : $inv ss ds s) (hso : s.source = so) (hdO : s.dest = dO) (hi : s.i = i)
        (hnum : s.num_elm = ((i + k : Nat) : Int)) (hlt : i + k < 4294967296) (hm : s.mem = bytes m) (hdone : s.done = false)
        (hb : InBounds $esz k so $stS dO $stD m.length) (hd : $direct = true → StepDisj $esz k so $stS dO $stD) :
        $view ($loop fuel s) =
          { $view s with mem := bytes (conv $esz $swap k so $stS dO $stD m), source := ((so + k * $stS : Nat) : Int),
                         dest := ((dO + k * $stD : Nat) : Int), i := ((i + k : Nat) : Int) } := by
      refine loop_sim $loop $body $view ($inv ss ds) $esz $swap $direct _ _ ?_ ?_ ?_ k fuel s so dO i m hf hinv hso hdO hi hnum hlt hm hdone hb hd
      · intro f s h
        have h' : ¬ (s.i < s.num_elm ∧ ¬ (s.done = true)) := h
        cases f <;> simp only [$loop:ident, if_neg h']
      · intro f s h
        have h' : (s.i < s.num_elm ∧ ¬ (s.done = true)) := h
        simp only [$loop:ident, if_pos h']
      · intro f s so dO hinv hs hd h1 h2 hdj
        obtain ⟨hss, hds, hb⟩ := hinv
        rw [$bodyEq f s so dO ss ds hs hd hss hds hb h1 h2 hdj]
        refine ⟨⟨hss, hds, ?_⟩, ?_⟩
        · simp [setsAt_length, hb]
        · simp only [$view:ident]
          have h1' : so + $esz ≤ s.mem.length := h1
          have h2' : dO + $esz ≤ s.mem.length := h2
          rw [sets_gets_eq s.mem so dO $esz $swap h1' h2'])

open Lean in
/-- entry theorem of a byte-swapping routine: its four paths (fast/strided × out-of-place/in-place) are the four loops -/
macro "conv_entry_sb " f:ident esz:num : command => do
  let fn := f.getId
  let view := mkIdent (fn ++ `view)
  let run := mkIdent (Name.mkSimple (fn.toString ++ "_run"))
  let l0 := mkIdent (fn ++ `loop0_spec)
  let l1 := mkIdent (fn ++ `loop1_spec)
  let l2 := mkIdent (fn ++ `loop2_spec)
  let l3 := mkIdent (fn ++ `loop3_spec)
  let sets := #[`set_fast_processing, `set_in_place, `set_source, `set_dest, `set_ret, `set_done, `set_i].map fun n => mkIdent (fn ++ `St ++ n)
  let s0 := sets[0]!
  let s1 := sets[1]!
  let s2 := sets[2]!
  let s3 := sets[3]!
  let s4 := sets[4]!
  let s5 := sets[5]!
  let s6 := sets[6]!
  `(theorem $run (fuel num so ss dO ds : Nat) (m : List Byte) (hf : num ≤ fuel) (hn0 : num ≠ 0) (hn : num < 4294967296)
        (hb : InBounds $esz num so (effS $esz ss ds) dO (effD $esz ss ds) m.length)
        (hd : so ≠ dO → StepDisj $esz num so (effS $esz ss ds) dO (effD $esz ss ds)) :
        Good ($view ($f fuel so (bytes m) dO num ss ds)) (bytes (conv $esz true num so (effS $esz ss ds) dO (effD $esz ss ds) m)) := by
      have e1 : ¬ ((num : Int) = 0) := by omega
      by_cases hfast : ss = 0 ∧ ds = 0
      · have hss0 : ss = 0 := hfast.1
        have hds0 : ds = 0 := hfast.2
        subst hss0
        subst hds0
        simp only [effS, effD, and_self, if_true] at hb hd ⊢
        by_cases hip : so = dO
        · subst hip
          obtain ⟨k1, k2, k3, k4⟩ := good_of_view ($l1 0 0 num fuel
            { s_ := so, d := so, num_elm := num, source_stride := ((0 : Nat) : Int), dest_stride := ((0 : Nat) : Int), source := so, dest := so,
              fast_processing := 1, in_place := 1, i := 0, mem := bytes m, buf := List.replicate $esz 0 }
            so so 0 m hf ⟨rfl, rfl, by simp⟩ rfl rfl rfl (by simp) (by omega) rfl rfl hb (fun h => by simp at h)) rfl rfl rfl
          simp only [$f:ident, $s0:ident, $s1:ident, $s2:ident, $s3:ident, $s4:ident, $s5:ident, $s6:ident, Int.reduceMod, e1, if_false, if_true, and_self, ne_eq,
            not_true_eq_false, not_false_eq_true, Bool.false_eq_true, Int.reduceEq, Int.reduceNe, Good, $view:ident, Int.natCast_zero] at k1 k2 k3 k4
          simp only [$f:ident, $s0:ident, $s1:ident, $s2:ident, $s3:ident, $s4:ident, $s5:ident, $s6:ident, Int.reduceMod, e1, if_false, if_true, and_self, ne_eq,
            not_true_eq_false, not_false_eq_true, Bool.false_eq_true, Int.reduceEq, Int.reduceNe, Good, $view:ident, Int.natCast_zero, k4]
          exact ⟨k1, k2, trivial, k3⟩
        · have e2 : ¬ ((so : Int) = (dO : Int)) := by omega
          obtain ⟨k1, k2, k3, k4⟩ := good_of_view ($l0 0 0 num fuel
            { s_ := so, d := dO, num_elm := num, source_stride := ((0 : Nat) : Int), dest_stride := ((0 : Nat) : Int), source := so, dest := dO,
              fast_processing := 1, in_place := 0, i := 0, mem := bytes m, buf := List.replicate $esz 0 }
            so dO 0 m hf ⟨rfl, rfl, by simp⟩ rfl rfl rfl (by simp) (by omega) rfl rfl hb (fun _ => hd hip)) rfl rfl rfl
          simp only [$f:ident, $s0:ident, $s1:ident, $s2:ident, $s3:ident, $s4:ident, $s5:ident, $s6:ident, Int.reduceMod, e1, e2, if_false, if_true, and_self, ne_eq,
            not_true_eq_false, not_false_eq_true, Bool.false_eq_true, Int.reduceEq, Int.reduceNe, Good, $view:ident, Int.natCast_zero] at k1 k2 k3 k4
          simp only [$f:ident, $s0:ident, $s1:ident, $s2:ident, $s3:ident, $s4:ident, $s5:ident, $s6:ident, Int.reduceMod, e1, e2, if_false, if_true, and_self, ne_eq,
            not_true_eq_false, not_false_eq_true, Bool.false_eq_true, Int.reduceEq, Int.reduceNe, Good, $view:ident, Int.natCast_zero, k4]
          exact ⟨k1, k2, trivial, k3⟩
      · have e3 : ¬ ((ss : Int) = 0 ∧ (ds : Int) = 0) := by omega
        simp only [effS, effD, hfast, if_false] at hb hd ⊢
        by_cases hip : so = dO
        · subst hip
          obtain ⟨k1, k2, k3, k4⟩ := good_of_view ($l3 ss ds num fuel
            { s_ := so, d := so, num_elm := num, source_stride := ss, dest_stride := ds, source := so, dest := so,
              fast_processing := 0, in_place := 1, i := 0, mem := bytes m, buf := List.replicate $esz 0 }
            so so 0 m hf ⟨rfl, rfl, by simp⟩ rfl rfl rfl (by simp) (by omega) rfl rfl hb (fun h => by simp at h)) rfl rfl rfl
          simp only [$f:ident, $s0:ident, $s1:ident, $s2:ident, $s3:ident, $s4:ident, $s5:ident, $s6:ident, Int.reduceMod, e1, e3, if_false, if_true, and_self, ne_eq,
            not_true_eq_false, not_false_eq_true, Bool.false_eq_true, Int.reduceEq, Int.reduceNe, Good, $view:ident, Int.natCast_zero] at k1 k2 k3 k4
          simp only [$f:ident, $s0:ident, $s1:ident, $s2:ident, $s3:ident, $s4:ident, $s5:ident, $s6:ident, Int.reduceMod, e1, e3, if_false, if_true, and_self, ne_eq,
            not_true_eq_false, not_false_eq_true, Bool.false_eq_true, Int.reduceEq, Int.reduceNe, Good, $view:ident, Int.natCast_zero, k4]
          exact ⟨k1, k2, trivial, k3⟩
        · have e2 : ¬ ((so : Int) = (dO : Int)) := by omega
          obtain ⟨k1, k2, k3, k4⟩ := good_of_view ($l2 ss ds num fuel
            { s_ := so, d := dO, num_elm := num, source_stride := ss, dest_stride := ds, source := so, dest := dO,
              fast_processing := 0, in_place := 0, i := 0, mem := bytes m, buf := List.replicate $esz 0 }
            so dO 0 m hf ⟨rfl, rfl, by simp⟩ rfl rfl rfl (by simp) (by omega) rfl rfl hb (fun _ => hd hip)) rfl rfl rfl
          simp only [$f:ident, $s0:ident, $s1:ident, $s2:ident, $s3:ident, $s4:ident, $s5:ident, $s6:ident, Int.reduceMod, e1, e2, e3, if_false, if_true, and_self, ne_eq,
            not_true_eq_false, not_false_eq_true, Bool.false_eq_true, Int.reduceEq, Int.reduceNe, Good, $view:ident, Int.natCast_zero] at k1 k2 k3 k4
          simp only [$f:ident, $s0:ident, $s1:ident, $s2:ident, $s3:ident, $s4:ident, $s5:ident, $s6:ident, Int.reduceMod, e1, e2, e3, if_false, if_true, and_self, ne_eq,
            not_true_eq_false, not_false_eq_true, Bool.false_eq_true, Int.reduceEq, Int.reduceNe, Good, $view:ident, Int.natCast_zero, k4]
          exact ⟨k1, k2, trivial, k3⟩)

open Lean in
/-- entry theorem of a native-order routine with a scratch buffer (`DFKnb2b/4b/8b`): `memcpy` fast path, nothing-to-do path, two loops -/
macro "conv_entry_nb " f:ident esz:num : command => do
  let fn := f.getId
  let view := mkIdent (fn ++ `view)
  let chkT := mkIdent (fn ++ `chk_true)
  let run := mkIdent (Name.mkSimple (fn.toString ++ "_run"))
  let ubiff := mkIdent (Name.mkSimple (fn.toString ++ "_fast_ub"))
  let chk := mkIdent (fn ++ `chk)
  let l0 := mkIdent (fn ++ `loop0_spec)
  let l1 := mkIdent (fn ++ `loop1_spec)
  let set_fast_processing := mkIdent (fn ++ `St ++ `set_fast_processing)
  let set_in_place := mkIdent (fn ++ `St ++ `set_in_place)
  let set_source := mkIdent (fn ++ `St ++ `set_source)
  let set_dest := mkIdent (fn ++ `St ++ `set_dest)
  let set_ret := mkIdent (fn ++ `St ++ `set_ret)
  let set_done := mkIdent (fn ++ `St ++ `set_done)
  let set_i := mkIdent (fn ++ `St ++ `set_i)
  let set_mem := mkIdent (fn ++ `St ++ `set_mem)
  `(theorem $run (fuel num so ss dO ds : Nat) (m : List Byte) (hf : num ≤ fuel) (hn0 : num ≠ 0) (hn : num < 4294967296)
        (hb : InBounds $esz num so (effS $esz ss ds) dO (effD $esz ss ds) m.length)
        (hd : so ≠ dO → ¬ fastNb $esz ss ds → StepDisj $esz num so ss dO ds)
        (hfd : so ≠ dO → fastNb $esz ss ds → Disj so (num * $esz) dO (num * $esz) ∧ num * $esz < 4294967296) :
        Good ($view ($f fuel so (bytes m) dO num ss ds)) (bytes (conv $esz false num so (effS $esz ss ds) dO (effD $esz ss ds) m)) := by
      have e1 : ¬ ((num : Int) = 0) := by omega
      by_cases hfast : fastNb $esz ss ds
      · have hS : effS $esz ss ds = $esz := by unfold effS; unfold fastNb at hfast; split <;> omega
        have hD : effD $esz ss ds = $esz := by unfold effD; unfold fastNb at hfast; split <;> omega
        have e3 : (((ss : Int) = 0 ∧ (ds : Int) = 0) ∨ ((ss : Int) = $esz ∧ (ds : Int) = $esz)) := by unfold fastNb at hfast; omega
        rw [hS, hD] at hb ⊢
        obtain ⟨hb1, hb2⟩ := inb_total hn0 hb
        by_cases hip : so = dO
        · subst hip
          simp only [$f:ident, $set_fast_processing:ident, $set_in_place:ident, $set_source:ident, $set_dest:ident, $set_ret:ident,
            $set_done:ident, $set_i:ident, $set_mem:ident, Int.reduceMod, e1, e3, if_false, if_true, and_self, ne_eq,
            not_true_eq_false, not_false_eq_true, Bool.false_eq_true, Int.reduceEq, Int.reduceNe, Good, $view:ident, Int.natCast_zero, true_and]
          rw [conv_id _ _ _ _ _ hb]
        · have e2 : ¬ ((so : Int) = (dO : Int)) := by omega
          obtain ⟨hdj, hlt⟩ := hfd hip hfast
          unfold Disj at hdj
          have e4 : ((num : Int) * $esz % 4294967296) = ((num * $esz : Nat) : Int) := by omega
          simp only [$f:ident, $set_fast_processing:ident, $set_in_place:ident, $set_source:ident, $set_dest:ident, $set_ret:ident,
            $set_done:ident, $set_i:ident, $set_mem:ident, Int.reduceMod, e1, e2, e3, if_false, if_true, and_self, ne_eq,
            not_true_eq_false, not_false_eq_true, Bool.false_eq_true, Int.reduceEq, Int.reduceNe, Good, $view:ident, Int.natCast_zero, true_and]
          simp (disch := omega) only [e4, $chkT:ident, bytes_length]
          simp only [Int.toNat_natCast, tnn, true_and]
          rw [memcpy_bytes _ _ _ _ hb1, conv_contig $esz num so dO m hb1 hb2 hdj]
      · have hS : effS $esz ss ds = ss := by unfold effS; unfold fastNb at hfast; split <;> omega
        have hD : effD $esz ss ds = ds := by unfold effD; unfold fastNb at hfast; split <;> omega
        have e3 : ¬ (((ss : Int) = 0 ∧ (ds : Int) = 0) ∨ ((ss : Int) = $esz ∧ (ds : Int) = $esz)) := by unfold fastNb at hfast; omega
        rw [hS, hD] at hb ⊢
        by_cases hip : so = dO
        · subst hip
          obtain ⟨k1, k2, k3, k4⟩ := good_of_view ($l1 ss ds num fuel
            { s_ := so, d := so, num_elm := num, source_stride := ss, dest_stride := ds, source := so, dest := so,
              fast_processing := 0, in_place := 1, i := 0, mem := bytes m, buf := List.replicate $esz 0 }
            so so 0 m hf ⟨rfl, rfl, by simp⟩ rfl rfl rfl (by simp) (by omega) rfl rfl hb (fun h => by simp at h)) rfl rfl rfl
          simp only [$f:ident, $set_fast_processing:ident, $set_in_place:ident, $set_source:ident, $set_dest:ident, $set_ret:ident,
            $set_done:ident, $set_i:ident, $set_mem:ident, Int.reduceMod, e1, e3, if_false, if_true, and_self, ne_eq,
            not_true_eq_false, not_false_eq_true, Bool.false_eq_true, Int.reduceEq, Int.reduceNe, Good, $view:ident, Int.natCast_zero] at k1 k2 k3 k4
          simp only [$f:ident, $set_fast_processing:ident, $set_in_place:ident, $set_source:ident, $set_dest:ident, $set_ret:ident,
            $set_done:ident, $set_i:ident, $set_mem:ident, Int.reduceMod, e1, e3, if_false, if_true, and_self, ne_eq,
            not_true_eq_false, not_false_eq_true, Bool.false_eq_true, Int.reduceEq, Int.reduceNe, Good, $view:ident, Int.natCast_zero, k4]
          exact ⟨k1, k2, trivial, k3⟩
        · have e2 : ¬ ((so : Int) = (dO : Int)) := by omega
          obtain ⟨k1, k2, k3, k4⟩ := good_of_view ($l0 ss ds num fuel
            { s_ := so, d := dO, num_elm := num, source_stride := ss, dest_stride := ds, source := so, dest := dO,
              fast_processing := 0, in_place := 0, i := 0, mem := bytes m, buf := List.replicate $esz 0 }
            so dO 0 m hf ⟨rfl, rfl, by simp⟩ rfl rfl rfl (by simp) (by omega) rfl rfl hb (fun _ => hd hip hfast)) rfl rfl rfl
          simp only [$f:ident, $set_fast_processing:ident, $set_in_place:ident, $set_source:ident, $set_dest:ident, $set_ret:ident,
            $set_done:ident, $set_i:ident, $set_mem:ident, Int.reduceMod, e1, e2, e3, if_false, if_true, and_self, ne_eq,
            not_true_eq_false, not_false_eq_true, Bool.false_eq_true, Int.reduceEq, Int.reduceNe, Good, $view:ident, Int.natCast_zero] at k1 k2 k3 k4
          simp only [$f:ident, $set_fast_processing:ident, $set_in_place:ident, $set_source:ident, $set_dest:ident, $set_ret:ident,
            $set_done:ident, $set_i:ident, $set_mem:ident, Int.reduceMod, e1, e2, e3, if_false, if_true, and_self, ne_eq,
            not_true_eq_false, not_false_eq_true, Bool.false_eq_true, Int.reduceEq, Int.reduceNe, Good, $view:ident, Int.natCast_zero, k4]
          exact ⟨k1, k2, trivial, k3⟩
    theorem $ubiff (fuel num so ss dO ds : Nat) (m : List Byte) (hn0 : num ≠ 0) (hne : so ≠ dO) (hfast : fastNb $esz ss ds)
        (hb1 : so + num * $esz ≤ m.length) (hb2 : dO + num * $esz ≤ m.length) (hlt : num * $esz < 4294967296) :
        ($f fuel so (bytes m) dO num ss ds).ub = true ↔ ¬ Disj so (num * $esz) dO (num * $esz) := by
      have e1 : ¬ ((num : Int) = 0) := by omega
      have e2 : ¬ ((so : Int) = (dO : Int)) := by omega
      have e3 : (((ss : Int) = 0 ∧ (ds : Int) = 0) ∨ ((ss : Int) = $esz ∧ (ds : Int) = $esz)) := by unfold fastNb at hfast; omega
      have e4 : ((num : Int) * $esz % 4294967296) = ((num * $esz : Nat) : Int) := by omega
      simp only [$f:ident, $set_fast_processing:ident, $set_in_place:ident, $set_source:ident, $set_dest:ident, $set_ret:ident,
        $set_done:ident, $set_i:ident, $set_mem:ident, Int.reduceMod, e1, e2, e3, if_false, if_true, and_self, ne_eq,
        not_true_eq_false, not_false_eq_true, Bool.false_eq_true, Int.reduceEq, Int.reduceNe, Int.natCast_zero, true_and]
      simp (disch := omega) only [e4, $chkT:ident, bytes_length]
      simp only [$chk:ident, Disj]
      simp
      omega)


end H4.Lemmas.C06Fn
