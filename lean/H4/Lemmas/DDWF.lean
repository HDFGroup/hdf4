import H4.Lemmas.DDSlotList
/-! # The well-formed directory (`WF`), and what each modelled function of `hfiledd.c` does to the slot list, the tag tree and the
positions, as one equation per function. -/
namespace H4.DD
open H4.Gen.Hdf H4.Bitvect

/-- the chain as the invariants of the directory see it: the descriptor lists, without offsets and dirty flags -/
def dview (blocks : List Block) : List (List DD) := blocks.map (·.dds)

theorem slotsOf_dview (blocks : List Block) : slotsOf blocks = (dview blocks).flatten := by
  induction blocks with
  | nil => rfl
  | cons b bs ih => simp only [slotsOf_cons, dview, List.map_cons, List.flatten_cons] at *; rw [ih]

theorem getDD_dview (blocks : List Block) (q : Pos) :
    getDD blocks q = match (dview blocks)[q.blk]? with | none => nilDD | some dds => dds.getD q.idx nilDD := by
  simp only [getDD, dview, List.getElem?_map]
  cases blocks[q.blk]? <;> rfl

theorem valid_dview (blocks : List Block) (q : Pos) :
    Valid blocks q ↔ ∃ dds, (dview blocks)[q.blk]? = some dds ∧ q.idx < dds.length := by
  simp only [Valid, dview, List.getElem?_map]
  cases blocks[q.blk]? <;> simp

theorem dview_modify {blocks : List Block} {f : Block → Block} (hf : ∀ b, (f b).dds = b.dds) (i : Nat) :
    dview (blocks.modify i f) = dview blocks := by
  apply List.ext_getElem?
  intro j
  simp only [dview, List.getElem?_map, List.getElem?_modify]
  cases blocks[j]? with
  | none => rfl
  | some b => by_cases h : i = j <;> simp [h, hf]

theorem slotsOf_congr {a b : List Block} (h : dview a = dview b) : slotsOf a = slotsOf b := by
  rw [slotsOf_dview, slotsOf_dview, h]
theorem getDD_congr {a b : List Block} (h : dview a = dview b) (q : Pos) : getDD a q = getDD b q := by
  rw [getDD_dview, getDD_dview, h]
theorem valid_congr {a b : List Block} (h : dview a = dview b) (q : Pos) : Valid a q ↔ Valid b q := by
  rw [valid_dview, valid_dview, h]
theorem length_congr {a b : List Block} (h : dview a = dview b) : a.length = b.length := by
  have := congrArg List.length h; simpa [dview] using this

theorem dview_append (a b : List Block) : dview (a ++ b) = dview a ++ dview b := by simp [dview]

theorem getDD_append_left {a : List Block} (b : List Block) {q : Pos} (h : q.blk < a.length) :
    getDD (a ++ b) q = getDD a q := by
  simp [getDD, List.getElem?_append_left h]

theorem valid_append_left {a : List Block} (b : List Block) {q : Pos} (h : Valid a q) : Valid (a ++ b) q := by
  obtain ⟨blk, h1, h2⟩ := h
  exact ⟨blk, by rw [List.getElem?_append_left (List.getElem?_eq_some_iff.mp h1).1]; exact h1, h2⟩


/-- `slotne`: `HTInew_dd_block` takes `ndds` from the first block; `HTPstart` refuses `ndds = 0` -/
structure WF (s : File) : Prop where
  wfl : WFl s.slots s.tags
  noub : s.ub = false
  ne : 0 < s.blocks.length
  slotne : ∀ b, b < s.blocks.length → Valid s.blocks ⟨b, 0⟩

theorem WF_of_dview {s s' : File} (h : WF s) (hd : dview s'.blocks = dview s.blocks) (ht : s'.tags = s.tags)
    (hu : s'.ub = s.ub) : WF s' := by
  refine ⟨?_, by rw [hu]; exact h.noub, by rw [length_congr hd]; exact h.ne, ?_⟩
  · show WFl (slotsOf s'.blocks) s'.tags
    rw [slotsOf_congr hd, ht]; exact h.wfl
  · intro b hb
    rw [valid_congr hd]
    exact h.slotne b (by rw [← length_congr hd]; exact hb)

/-- from `s` to `s'` only `maxref`, the `ddnull` cursor, the tag tree or `ub` may differ: what a lookup does, and the
    bookkeeping around a descriptor write -/
structure Scal (s s' : File) : Prop where
  blocks : s'.blocks = s.blocks := by rfl
  disk : s'.disk = s.disk := by rfl
  cache : s'.cache = s.cache := by rfl
  fdirty : s'.fdirty = s.fdirty := by rfl
  fEnd : s'.fEnd = s.fEnd := by rfl
  log : s'.log = s.log := by rfl

theorem Scal.refl (s : File) : Scal s s := {}
theorem Scal.trans {a b c : File} (h1 : Scal a b) (h2 : Scal b c) : Scal a c :=
  ⟨h2.blocks.trans h1.blocks, h2.disk.trans h1.disk, h2.cache.trans h1.cache, h2.fdirty.trans h1.fdirty, h2.fEnd.trans h1.fEnd, h2.log.trans h1.log⟩
theorem Scal.slots {s s' : File} (h : Scal s s') : s'.slots = s.slots := congrArg slotsOf h.blocks

/-- `f_end_off` after `HTIupdate_dd` of a descriptor `d` -/
def endAfter (e : Nat) (d : DD) : Nat :=
  if d.off ≠ INVALID_OFFSET ∧ d.len ≠ INVALID_LENGTH ∧ d.off + d.len > (e : Int) then (d.off + d.len).toNat else e

theorem le_endAfter (e : Nat) (d : DD) : e ≤ endAfter e d := by
  unfold endAfter; split <;> omega

theorem bumpEnd_eq (s : File) (d : DD) : bumpEnd s d = { s with fEnd := endAfter s.fEnd d } := by
  unfold bumpEnd endAfter; split <;> rfl

theorem htiUpdateDD_eq (s : File) (p : Pos) : htiUpdateDD s p =
    { s with
      blocks := if s.cache then s.blocks.modify p.blk (fun b => { b with dirty := true }) else s.blocks
      disk := if s.cache then s.disk
              else s.disk.modify p.blk (fun db => { db with dds := db.dds.set p.idx (getDD s.blocks p) })
      fdirty := s.cache || s.fdirty
      fEnd := endAfter s.fEnd (getDD s.blocks p)
      log := if s.cache then s.log
             else Wr.dd ((match s.blocks[p.blk]? with | none => 0 | some b => b.myoff) + (NDDS_SZ + OFFSET_SZ) + p.idx * DD_SZ)
                    (getDD s.blocks p) :: s.log } := by
  unfold htiUpdateDD
  rw [bumpEnd_eq]
  unfold markOrWrite
  cases hc : s.cache <;> simp only [Bool.false_eq_true, if_false, if_true, Bool.true_or, Bool.false_or]
  cases s; rfl

/-- `HTPcreate`, `HTPupdate` and `HTPdelete` all end in this; the memory side and the disk side have the same shape -/
theorem fillSlot_eq {s : File} {p : Pos} (hv : Valid s.blocks p) (d : DD) : fillSlot s p d =
    { s with
      blocks := s.blocks.modify p.blk (fun b => { b with dds := b.dds.set p.idx d, dirty := s.cache || b.dirty })
      disk := s.disk.modify p.blk (fun db => if s.cache then db else { db with dds := db.dds.set p.idx d })
      fdirty := s.cache || s.fdirty
      fEnd := endAfter s.fEnd d
      log := if s.cache then s.log
             else Wr.dd ((match s.blocks[p.blk]? with | none => 0 | some b => b.myoff) + (NDDS_SZ + OFFSET_SZ) + p.idx * DD_SZ) d :: s.log } := by
  have hg : getDD (setDD s.blocks p d) p = d := getDD_setDD_same hv d
  have hm : (match (setDD s.blocks p d)[p.blk]? with | none => 0 | some b => b.myoff) =
      (match s.blocks[p.blk]? with | none => 0 | some b => b.myoff) := by
    simp only [setDD, List.getElem?_modify]; cases s.blocks[p.blk]? <;> simp
  unfold fillSlot
  rw [htiUpdateDD_eq]
  simp only [hg, hm]
  cases hc : s.cache
  · simp only [Bool.false_eq_true, if_false, Bool.false_or, setDD]
  · simp only [if_true, Bool.true_or, setDD, List.modify_modify_eq]
    rw [show s.disk.modify p.blk (fun db => db) = s.disk from List.modify_id _ _]
    rfl

theorem raiseMaxref_eq (cfg : Cfg) (s : File) (r : Nat) :
    raiseMaxref cfg s r = { s with maxref := if cfg.fixF6 = true ∧ r > s.maxref then r else s.maxref } := by
  unfold raiseMaxref; split <;> rfl

theorem fillSlot_dview (s : File) (p : Pos) (d : DD) : dview (fillSlot s p d).blocks = dview (setDD s.blocks p d) := by
  unfold fillSlot; rw [htiUpdateDD_eq]
  cases s.cache
  · rfl
  · exact dview_modify (f := fun b => { b with dirty := true }) (fun _ => rfl) p.blk

theorem fillSlot_valid (s : File) (p : Pos) (d : DD) (q : Pos) :
    Valid (fillSlot s p d).blocks q ↔ Valid s.blocks q := by
  rw [valid_congr (fillSlot_dview s p d), valid_setDD]
theorem fillSlot_length (s : File) (p : Pos) (d : DD) : (fillSlot s p d).blocks.length = s.blocks.length := by
  rw [length_congr (fillSlot_dview s p d), setDD_length]
theorem fillSlot_get_same {s : File} {p : Pos} (h : Valid s.blocks p) (d : DD) : getDD (fillSlot s p d).blocks p = d := by
  rw [getDD_congr (fillSlot_dview s p d), getDD_setDD_same h]
theorem fillSlot_get_other {s : File} {p q : Pos} (h : p ≠ q) (d : DD) :
    getDD (fillSlot s p d).blocks q = getDD s.blocks q := by
  rw [getDD_congr (fillSlot_dview s p d), getDD_setDD_other h]
theorem fillSlot_slots {s : File} {p : Pos} (h : Valid s.blocks p) (d : DD) :
    (fillSlot s p d).slots = preUpto s.blocks p.blk p.idx ++ d :: sufFrom s.blocks p.blk (p.idx + 1) := by
  show slotsOf _ = _
  rw [slotsOf_congr (fillSlot_dview s p d), slots_setDD h]

/-- the NULL search goes through the `ddnull` cursor, whatever `*pdd` is -/
theorem findNull_eq (s : File) (pdd : Option Pos) : htiFindDD s DFTAG_NULL DFTAG_WILDCARD pdd .fwd =
    match scanFwd pNull s.blocks (s.nullBlk.getD 0) s.nullNext with
    | some p => (some p, { s with nullBlk := some p.blk, nullNext := p.idx + 1 })
    | none => (none, s) := by
  simp [htiFindDD, DFTAG_NULL, DFTAG_WILDCARD, DFREF_WILDCARD]
  rfl

theorem pNull_iff (d : DD) : pNull d = true ↔ isLive d = false := by
  simp [pNull, isLive]

theorem newBlockMem_dview (s : File) :
    dview (newBlockMem s) = dview s.blocks ++ [List.replicate (headNdds s) nilDD] := by
  unfold newBlockMem
  rw [dview_append, dview_modify (f := fun b => { b with next := s.fEnd, dirty := if s.cache then true else b.dirty }) (fun _ => rfl)]
  rfl

theorem headNdds_pos {s : File} (h : WF s) : 0 < headNdds s := by
  obtain ⟨blk, h1, h2⟩ := h.slotne 0 h.ne
  unfold headNdds
  cases hb : s.blocks with
  | nil => have := h.ne; simp [hb] at this
  | cons b bs =>
    simp only [List.head?_cons]
    simp [hb] at h1; subst h1; exact h2

structure Allocated (s : File) (p : Pos) (s' : File) : Prop where
  valid : Valid s'.blocks p
  dead : isLive (getDD s'.blocks p) = false
  tags : s'.tags = s.tags
  ub : s'.ub = s.ub
  slots : ∃ n, s'.slots = s.slots ++ List.replicate n nilDD
  old : ∀ q, Valid s.blocks q → Valid s'.blocks q ∧ getDD s'.blocks q = getDD s.blocks q
  ne : 0 < s'.blocks.length
  slotne : ∀ b, b < s'.blocks.length → Valid s'.blocks ⟨b, 0⟩

theorem allocSlot_spec (cfg : Cfg) {s : File} (h : WF s) : Allocated s (allocSlot cfg s).1 (allocSlot cfg s).2 := by
  unfold allocSlot
  rw [findNull_eq]
  cases hs : scanFwd pNull s.blocks (s.nullBlk.getD 0) s.nullNext with
  | some p =>
    obtain ⟨hv, hp, _⟩ := scanFwd_some hs
    refine ⟨hv, (pNull_iff _).mp hp, rfl, rfl, ⟨0, by simp [File.slots]⟩, fun q hq => ⟨hq, rfl⟩, h.ne, h.slotne⟩
  | none =>
    simp only
    have hdv : dview (htiNewBlock cfg s).blocks = dview s.blocks ++ [List.replicate (headNdds s) nilDD] := newBlockMem_dview s
    have hlen : (htiNewBlock cfg s).blocks.length = s.blocks.length + 1 := by
      have := congrArg List.length hdv; simpa [dview] using this
    have hpos := headNdds_pos h
    have hvnew : Valid (htiNewBlock cfg s).blocks ⟨s.blocks.length, 0⟩ := by
      rw [valid_dview, hdv]
      refine ⟨List.replicate (headNdds s) nilDD, ?_, by simpa using hpos⟩
      have : (dview s.blocks).length = s.blocks.length := by simp [dview]
      simp [this]
    have hold : ∀ q, Valid s.blocks q → Valid (htiNewBlock cfg s).blocks q ∧ getDD (htiNewBlock cfg s).blocks q = getDD s.blocks q := by
      intro q hq
      have hlt := valid_blk_lt hq
      have hlt' : q.blk < (dview s.blocks).length := by simpa [dview] using hlt
      constructor
      · rw [valid_dview, hdv, List.getElem?_append_left hlt']
        exact (valid_dview _ _).mp hq
      · rw [getDD_dview, getDD_dview, hdv, List.getElem?_append_left hlt']
    rw [hlen]
    simp only [Nat.add_sub_cancel]
    refine ⟨hvnew, ?_, rfl, rfl, ⟨headNdds s, ?_⟩, hold, by omega, ?_⟩
    · rw [getDD_dview, hdv]
      have : (dview s.blocks).length = s.blocks.length := by simp [dview]
      simp [this, List.getD_eq_getElem?_getD, hpos, isLive, nilDD]
    · show slotsOf _ = slotsOf _ ++ _
      rw [slotsOf_dview, hdv, slotsOf_dview]; simp
    · intro b hb
      by_cases hbl : b < s.blocks.length
      · exact (hold _ (h.slotne b hbl)).1
      · have : b = s.blocks.length := by omega
        subst this; exact hvnew

theorem File.slots_at {s : File} {p : Pos} (h : Valid s.blocks p) :
    s.slots = preUpto s.blocks p.blk p.idx ++ getDD s.blocks p :: sufFrom s.blocks p.blk (p.idx + 1) := slots_split_valid h

theorem fillSlot_split {s : File} {p : Pos} (h : Valid s.blocks p) (d : DD) :
    ∃ pre post, s.slots = pre ++ getDD s.blocks p :: post ∧ (fillSlot s p d).slots = pre ++ d :: post :=
  ⟨_, _, File.slots_at h, fillSlot_slots h d⟩

theorem ddOf_pred (base ref : Nat) (d : DD) :
    (d.tag != DFTAG_NULL && baseTag d.tag == base && d.ref == ref) = true ↔ isLive d = true ∧ keyOf d = (base, ref) := by
  simp [isLive, keyOf, and_assoc]

theorem ddOf_some {blocks : List Block} {base ref : Nat} {q : Pos} (h : ddOf blocks base ref = some q) :
    Valid blocks q ∧ isLive (getDD blocks q) = true ∧ keyOf (getDD blocks q) = (base, ref) := by
  obtain ⟨hv, hp, _⟩ := scanFwd_some h
  exact ⟨hv, (ddOf_pred base ref _).mp hp⟩

theorem ddOf_none {blocks : List Block} {base ref : Nat} (h : ddOf blocks base ref = none) :
    ∀ d ∈ liveOf (slotsOf blocks), keyOf d ≠ (base, ref) := by
  have := scanFwd_none h
  rw [sufFrom_zero_zero, List.filter_eq_nil_iff] at this
  intro d hd hk
  obtain ⟨hm, hl⟩ := mem_liveOf.mp hd
  exact this d hm ((ddOf_pred base ref d).mpr ⟨hl, hk⟩)

theorem node_of_live {s : File} (h : WF s) {d : DD} (hd : d ∈ s.live) : ∃ bv, tget s.tags (baseTag d.tag) = some bv := by
  cases hg : tget s.tags (baseTag d.tag) with
  | none => exact absurd rfl (h.wfl.tags.nonode _ hg d hd)
  | some bv => exact ⟨bv, rfl⟩

theorem lookupDD_some {tags : Tags} {blocks : List Block} {base ref : Nat} {q : Pos}
    (h : lookupDD tags blocks base ref = some q) :
    Valid blocks q ∧ isLive (getDD blocks q) = true ∧ keyOf (getDD blocks q) = (base, ref) := by
  unfold lookupDD at h
  split at h
  · cases h
  · split at h
    · cases h
    · exact ddOf_some h

theorem lookupDD_none {s : File} (hw : WF s) {base ref : Nat} (h : lookupDD s.tags s.blocks base ref = none) :
    ∀ d ∈ s.live, keyOf d ≠ (base, ref) := by
  unfold lookupDD at h
  split at h
  · rename_i hg
    intro d hd hk
    exact hw.wfl.tags.nonode _ hg d hd (by simp [keyOf] at hk; exact hk.1)
  · rename_i bv hg
    split at h
    · rename_i hbit
      obtain ⟨binv, _, bspec⟩ := hw.wfl.tags.node _ _ hg
      intro d hd hk
      have hr : 1 ≤ ref := by
        have := (hw.wfl.live_ok d hd).2.1
        simp [keyOf] at hk; omega
      have := (bspec ref hr).mpr ⟨d, hd, hk⟩
      rw [(get_eq_zero binv ref).mp hbit] at this
      cases this
    · exact ddOf_none h

theorem htpSelect_some {s : File} {t r : Nat} {q : Pos} (h : htpSelect s t r = some q) :
    Valid s.blocks q ∧ isLive (getDD s.blocks q) = true ∧ keyOf (getDD s.blocks q) = (baseTag t, r) := by
  unfold htpSelect at h
  split at h
  · cases h
  · exact lookupDD_some h

theorem htpSelect_none {s : File} (hw : WF s) {t r : Nat} (ht0 : t ≠ 0) (ht1 : t ≠ 1) (hr : r ≠ 0)
    (h : htpSelect s t r = none) : ∀ d ∈ s.live, keyOf d ≠ (baseTag t, r) := by
  unfold htpSelect at h
  rw [if_neg (by simp only [DFTAG_NULL, DFTAG_WILDCARD, DFREF_WILDCARD]; omega)] at h
  exact lookupDD_none hw h

theorem htpSelect_wild {s : File} {t r : Nat} (h : t = 0 ∨ t = 1 ∨ r = 0) : htpSelect s t r = none := by
  unfold htpSelect
  rw [if_pos]
  show t = 1 ∨ t = 0 ∨ r = 0
  rcases h with h | h | h
  · exact Or.inr (Or.inl h)
  · exact Or.inl h
  · exact Or.inr (Or.inr h)

theorem getDD_mem_live {s : File} {q : Pos} (hv : Valid s.blocks q) (hl : isLive (getDD s.blocks q) = true) :
    getDD s.blocks q ∈ s.live := mem_liveOf.mpr ⟨getDD_mem_slots hv, hl⟩

theorem htpSelect_of_live {s : File} (hw : WF s) {d : DD} (hd : d ∈ s.live) {t : Nat} (ht : baseTag t = baseTag d.tag)
    (ht0 : t ≠ 0) (ht1 : t ≠ 1) : ∃ q, htpSelect s t d.ref = some q ∧ getDD s.blocks q = d := by
  have hr := (hw.wfl.live_ok d hd).2.1
  cases hsel : htpSelect s t d.ref with
  | none =>
    exact absurd (by simp [keyOf, ht]) (htpSelect_none hw ht0 ht1 (by omega) hsel d hd)
  | some q =>
    refine ⟨q, rfl, ?_⟩
    obtain ⟨hv, hl, hk⟩ := htpSelect_some hsel
    exact nodup_map_inj hw.wfl.nodup (getDD_mem_live hv hl) hd (by rw [hk]; simp [keyOf, ht])

theorem htpCreate_spec (cfg : Cfg) {s : File} (h : WF s) {tag ref : Nat} (ht : 2 ≤ tag ∧ tag < 65536) (hr : 1 ≤ ref ∧ ref < 65536)
    (hfresh : ∀ d ∈ s.live, keyOf d ≠ (baseTag tag, ref)) :
    ∃ tags' s', htpCreate cfg s tag ref = (some (allocSlot cfg s).1, s') ∧
      s' = raiseMaxref cfg { fillSlot (allocSlot cfg s).2 (allocSlot cfg s).1 ⟨tag, ref, -1, -1⟩ with tags := tags' } ref ∧
      WF s' ∧ Valid s'.blocks (allocSlot cfg s).1 ∧
      getDD s'.blocks (allocSlot cfg s).1 = ⟨tag, ref, -1, -1⟩ ∧ s'.live.Perm (⟨tag, ref, -1, -1⟩ :: s.live) ∧
      (∀ q, Valid s.blocks q → isLive (getDD s.blocks q) = true →
        Valid s'.blocks q ∧ getDD s'.blocks q = getDD s.blocks q ∧ q ≠ (allocSlot cfg s).1) := by
  obtain ⟨av, adead, atags, aub, ⟨n, aslots⟩, aold, ane, aslotne⟩ := allocSlot_spec cfg h
  generalize ha : allocSlot cfg s = a at *
  obtain ⟨p, s0⟩ := a
  simp only at av adead atags aub aslots aold ane aslotne ⊢
  have hwf0 : WFl s0.slots s0.tags := by rw [aslots, atags]; exact WFl_append_nil h.wfl n
  have hlive0 : liveOf s0.slots = s.live := by rw [aslots]; simp [liveOf_replicate_nil, live_eq]
  obtain ⟨pre, post, hsp, hsp'⟩ := fillSlot_split av ⟨tag, ref, -1, -1⟩
  rw [hsp] at hwf0 hlive0
  have hft : (fillSlot s0 p ⟨tag, ref, -1, -1⟩).tags = s0.tags := by rw [fillSlot_eq av]
  obtain ⟨tags', hreg, hwf1⟩ := WFl_insert (d' := ⟨tag, ref, -1, -1⟩) hwf0 adead ht hr
    (by intro d hd; rw [hlive0] at hd; exact hfresh d hd) (by simp [okOL])
  have hne : ¬ (tag = DFTAG_NULL ∨ tag = DFTAG_WILDCARD ∨ ref = DFREF_WILDCARD) := by
    simp only [DFTAG_NULL, DFTAG_WILDCARD, DFREF_WILDCARD]; omega
  have hnodup : ¬ (cfg.fixF17 = true ∧ (lookupDD s.tags s.blocks (baseTag tag) ref).isSome = true) := by
    intro hh
    cases hl : lookupDD s.tags s.blocks (baseTag tag) ref with
    | none => rw [hl] at hh; simp at hh
    | some q =>
      obtain ⟨hv, hlv, hk⟩ := lookupDD_some hl
      exact hfresh _ (getDD_mem_live hv hlv) hk
  have hcr : htpCreate cfg s tag ref =
      (some p, raiseMaxref cfg { fillSlot s0 p ⟨tag, ref, -1, -1⟩ with tags := tags' } ref) := by
    unfold htpCreate
    rw [if_neg hne, if_neg hnodup]
    simp only [ha, INVALID_OFFSET, INVALID_LENGTH, hft]
    rw [hreg]
  obtain ⟨s', hs'⟩ : ∃ s', s' = raiseMaxref cfg { fillSlot s0 p ⟨tag, ref, -1, -1⟩ with tags := tags' } ref := ⟨_, rfl⟩
  have hb : s'.blocks = (fillSlot s0 p ⟨tag, ref, -1, -1⟩).blocks := by rw [hs', raiseMaxref_eq]
  have htg : s'.tags = tags' := by rw [hs', raiseMaxref_eq]
  have hub : s'.ub = s0.ub := by rw [hs', raiseMaxref_eq, fillSlot_eq av]
  have hlen : s'.blocks.length = s0.blocks.length := by rw [hb, fillSlot_length]
  have hsl : s'.slots = pre ++ ⟨tag, ref, -1, -1⟩ :: post := by show slotsOf s'.blocks = _; rw [hb]; exact hsp'
  refine ⟨tags', s', by rw [hcr, hs'], hs', ⟨by rw [hsl, htg]; exact hwf1, by rw [hub, aub]; exact h.noub, by rw [hlen]; exact ane, ?_⟩,
    by rw [hb, fillSlot_valid]; exact av, by rw [hb]; exact fillSlot_get_same av _, ?_, ?_⟩
  · intro b hbl
    rw [hb, fillSlot_valid]
    exact aslotne b (hlen ▸ hbl)
  · show (liveOf s'.slots).Perm _
    rw [hsl, ← hlive0, liveOf_split_dead adead, liveOf_split_live (by simp [isLive, DFTAG_NULL]; omega)]
    exact List.perm_middle
  · intro q hq hql
    obtain ⟨hq0, hg0⟩ := aold q hq
    have hqp : q ≠ p := by
      intro e; subst e
      rw [hg0] at adead; rw [adead] at hql; cases hql
    rw [hb]
    exact ⟨(fillSlot_valid _ _ _ _).mpr hq0, by rw [fillSlot_get_other (fun e => hqp e.symm), hg0], hqp⟩

end H4.DD
