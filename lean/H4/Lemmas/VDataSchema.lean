import H4.VData
import H4.Lemmas.VData
/-! The schema functions of the model `H4.VData` in the form the C side meets them: `ntInfo` through the size table (`ntsize` = the answers
    of `DFKNTsize`), `vsfdefineTok` on `int32` arguments (`vsfdefineI_eq`: the limit tests `FdLimits`, then `usymPut`), and what a refused
    `VS.setFieldsTok` leaves.  Nothing here mentions a translated function. -/
namespace H4.Lemmas.C07Fld
open H4.VData H4.Gen.Hdf H4.Gen.Vs

/-- `DFKNTsize(t)` as the model has it: `ntInfo t` is built from the table the generator obtained by CALLING the compiled
    `DFKNTsize`; `-1` = FAIL -/
def ntsize (t : Int) : Int :=
  if t < 0 then -1 else match ntInfo t.toNat with
    | some nt => (nt.tsz : Int)
    | none => -1

theorem tables : NT_CODES = [3, 4, 5, 6, 20, 21, 22, 23, 24, 25] ∧ NT_SIZES = [1, 1, 4, 8, 1, 1, 2, 2, 4, 4] ∧ NT_NSIZES = [1, 1, 4, 8, 1, 1, 2, 2, 4, 4]
    ∧ DFNT_NATIVE = 4096 ∧ DFNT_CUSTOM = 8192 ∧ DFNT_LITEND = 16384 := by decide

theorem findIdx_none {l : List Nat} {x : Nat} (h : x ∉ l) : findIdx l x = none :=
  if_neg fun hl => h (List.idxOf_lt_length_iff.mp hl)

theorem findIdx_lt {l : List Nat} {x i : Nat} (h : findIdx l x = some i) : i < l.length := by
  unfold findIdx at h
  simp only at h
  split at h
  · cases h; assumption
  · cases h

/-- the two size tables agree on this platform, so `DFNT_NATIVE` does not change a size -/
theorem nsizes_eq : NT_NSIZES = NT_SIZES := tables.2.2.1.trans tables.2.1.symm

theorem nt_flags : DFNT_NATIVE = 4096 ∧ DFNT_CUSTOM = 8192 ∧ DFNT_LITEND = 16384 := tables.2.2.2

theorem ntInfo_some {x : Nat} {nt : NT} (h : ntInfo x = some nt) :
    x < 32768 ∧ x / 8192 % 2 = 0 ∧ ∃ i, findIdx NT_CODES (x % 4096) = some i ∧ nt.tsz = NT_SIZES.getD i 0 ∧ nt.nsz = NT_SIZES.getD i 0 := by
  unfold ntInfo at h
  simp only [nsizes_eq, nt_flags.1, nt_flags.2.1, nt_flags.2.2, beq_iff_eq, ite_self] at h
  split at h
  · cases h
  · cases hi : findIdx NT_CODES (x % 4096) with
    | none => rw [hi] at h; cases h
    | some i => rw [hi] at h; cases h; exact ⟨by omega, by omega, i, rfl, rfl, rfl⟩

theorem ntInfo_nocode {x : Nat} (h : ¬ (x < 32768 ∧ x / 8192 % 2 = 0 ∧ x % 4096 ∈ NT_CODES)) : ntInfo x = none := by
  unfold ntInfo
  simp only [nt_flags.1, nt_flags.2.1, nt_flags.2.2, beq_iff_eq]
  split
  · rfl
  · rw [findIdx_none fun hm => h ⟨by omega, by omega, hm⟩]

theorem ntsize_some {t : Int} (h0 : 0 ≤ t) {nt : NT} (h : ntInfo t.toNat = some nt) : ntsize t = nt.tsz := by
  unfold ntsize; rw [if_neg (by omega), h]

theorem ntsize_none {t : Int} (h : t < 0 ∨ ntInfo t.toNat = none) : ntsize t = -1 := by
  unfold ntsize
  rcases h with h | h
  · rw [if_pos h]
  · split
    · rfl
    · rw [h]

theorem ntsize_code {x i : Nat} (hx : x < 32768) (hc : x / 8192 % 2 = 0) (hi : findIdx NT_CODES (x % 4096) = some i) :
    ntsize x = NT_SIZES.getD i 0 := by
  unfold ntsize ntInfo
  simp only [nsizes_eq, nt_flags.1, nt_flags.2.1, nt_flags.2.2, Int.toNat_natCast, hi, ite_self]
  rw [if_neg (by omega), if_neg (by simp only [beq_iff_eq]; omega)]

theorem ntsize_range (t : Int) : ntsize t = -1 ∨ (1 ≤ ntsize t ∧ ntsize t ≤ 8 ∧ 0 ≤ t ∧ t < 32768) := by
  by_cases h0 : t < 0
  · exact .inl (ntsize_none (.inl h0))
  · cases h : ntInfo t.toNat with
    | none => exact .inl (ntsize_none (.inr h))
    | some nt =>
      obtain ⟨hlt, _, i, hi, e, _⟩ := ntInfo_some h
      have : ∀ i < 10, NT_SIZES.getD i 0 ≤ 8 := by decide
      have := this i (findIdx_lt hi)
      have := (ntInfo_valid h).1
      exact .inr (by rw [ntsize_some (by omega) h]; omega)

/-- the symbol table after an accepted `VSfdefine` -/
def usymPut (usym : List SymDef) (sd : SymDef) : List SymDef :=
  match usym.findIdx? (fun s => s.name == sd.name) with
  | some j => usym.set j sd
  | none => usym ++ [sd]

/-- the limit tests of `VSfdefine`: `order < 1 || order > MAX_ORDER`, `isize == FAIL || isize * order > MAX_FIELD_SIZE` -/
def FdLimits (t order : Int) : Prop := 1 ≤ order ∧ order ≤ 65535 ∧ ntsize t ≠ -1 ∧ ntsize t * order ≤ 65535

instance (t order : Int) : Decidable (FdLimits t order) := by unfold FdLimits; infer_instance

/-- the model `vsfdefineTok` on C's `int32` arguments (a negative type or order is refused by the C tests) -/
def vsfdefineI (usym : List SymDef) (tok : String) (t order : Int) : Option (List SymDef) :=
  if 0 ≤ t ∧ 0 ≤ order then vsfdefineTok usym tok t.toNat order.toNat else none

theorem vsfdefineI_eq (usym : List SymDef) (tok : String) (t order : Int) :
    vsfdefineI usym tok t order =
      if FdLimits t order then some (usymPut usym ⟨tok, t.toNat, (ntsize t).toNat, order.toNat⟩) else none := by
  have hr := ntsize_range t
  unfold vsfdefineI
  by_cases h0 : 0 ≤ t ∧ 0 ≤ order
  · rw [if_pos h0]
    unfold vsfdefineTok
    simp only [max_order, max_field_size]
    by_cases ho : order.toNat < 1 ∨ order.toNat > 65535
    · rw [if_pos ho, if_neg (by unfold FdLimits; omega)]
    · rw [if_neg ho]
      cases hnt : ntInfo t.toNat with
      | none =>
        have := ntsize_none (Or.inr hnt)
        simp only
        rw [if_neg (by unfold FdLimits; omega)]
      | some nt =>
        have e := ntsize_some h0.1 hnt
        simp only
        have hmul : (nt.tsz * order.toNat > 65535) ↔ ¬ (ntsize t * order ≤ 65535) := by
          rw [e]
          have : ((nt.tsz * order.toNat : Nat) : Int) = (nt.tsz : Int) * order := by push_cast; congr 1; omega
          omega
        by_cases hm : nt.tsz * order.toNat > 65535
        · rw [if_pos hm, if_neg (by intro h; exact hmul.mp hm h.2.2.2)]
        · rw [if_neg hm, if_pos (show FdLimits t order from ⟨by omega, by omega, by omega, by have := hmul.not.mp hm; omega⟩)]
          have : (ntsize t).toNat = nt.tsz := by omega
          rw [this]
          unfold usymPut
          cases usym.findIdx? (fun s => s.name == tok) <;> rfl
  · rw [if_neg h0, if_neg (by unfold FdLimits; omega)]

/-- the write list is never half-built (commit bafc8f1); a refused READ list keeps the indices found so far -/
theorem setFieldsTok_refused (v : VS) (names : List String) (h : (v.setFieldsTok names).2 = false) :
    (v.setFieldsTok names).1 = v ∨ (v.nvertices > 0 ∧ (v.setFieldsTok names).1 = { v with rlist := (buildRList v.w names).1 }) := by
  unfold VS.setFieldsTok at h ⊢
  split
  · left; rfl
  · split
    · split
      · left; rfl
      · rename_i w hw
        rw [if_neg (by assumption), if_pos (by assumption), hw] at h
        cases h
    · split
      · right; rename_i hnv; exact ⟨hnv, rfl⟩
      · left; rfl

end H4.Lemmas.C07Fld
