import H4.Lemmas.C2L
import H4.Lemmas.C2LLoop
/-! C functions that write / read a record with the `…ENCODE` / `…DECODE` macros of `hdf/src/hdf_priv.h` through a moving `uint8 *` cursor, as
    `gen/c2lean.py` translates them.  Each translated function has a state type of its own, so everything is stated over a `Cursor σ`.
    To instantiate: define the function's `Cursor`, get its laws from `Cursor.Plain.lawfulW (setUb := fun s u => { s with ub := u }) {}`,
    restate the generated `have` chain as a composition of the combinators below and close with `kernel_rfl`.
    Writers are stated with `wr L s bytes` (`wr_wr` composes, `wr_ok` discharges the check): operand a value (`pshr enc16 enc16s enc32 pbyte`),
    operand re-read in every line behind a check `pre` (`wr16 wr32`; `pre := id` for a scalar, `idxchk` / `cellOf` for `reg[i]`), the same
    without `twos_complement_bitops` (`wr16N wr32N`).  Readers are stated with `rd L T s w v` for a target `T : Tgt` (`tgt_law`;
    `Cursor.Reg.on` for `reg[i]`); `rd_ok` where there is room. -/
namespace H4.C2L

/-- `a & b` at an unsigned 32-bit type, as the translator writes it -/
def andU (a b : Int) : Int := (Int.ofNat (Int.toNat ((a) % 4294967296) &&& Int.toNat ((b) % 4294967296)))

/-- `a | b` at an unsigned 32-bit type -/
def orU (a b : Int) : Int := (Int.ofNat (Int.toNat ((a) % 4294967296) ||| Int.toNat ((b) % 4294967296)))

/-- `a & b` at `int` -/
def andS (a b : Int) : Int := (if (andU a b) ≥ 2147483648 then (andU a b) - 4294967296 else (andU a b))

/-- `a | b` at `int` -/
def orS (a b : Int) : Int := (if (orU a b) ≥ 2147483648 then (orU a b) - 4294967296 else (orU a b))

/-- conversion to `int32` (option `wrap_signed_conv`) -/
def wrapS32 (x : Int) : Int := (((x) + 2147483648) % 4294967296 - 2147483648)

/-- conversion to `int16` -/
def wrapS16 (x : Int) : Int := (((x) + 32768) % 65536 - 32768)

theorem andU_255 (a : Int) : andU a 255 = a % 256 := by
  unfold andU
  have h255 : Int.toNat ((255 : Int) % 4294967296) = 2 ^ 8 - 1 := by decide
  rw [h255, Nat.and_two_pow_sub_one_eq_mod]
  have h : (0 : Int) ≤ a % 4294967296 := Int.emod_nonneg _ (by decide)
  obtain ⟨n, hn⟩ := Int.eq_ofNat_of_zero_le h
  rw [hn]
  simp only [Int.toNat_natCast, Int.ofNat_eq_natCast]
  omega

theorem andS_255 (a : Int) : andS a 255 = a % 256 := by
  unfold andS
  rw [andU_255]
  have : ¬ (a % 256 ≥ 2147483648) := by omega
  simp only [this, if_false]

theorem orU_add (i a y : Nat) (hy : y < 2 ^ i) (hs : 2 ^ i * a + y < 4294967296) :
    orU ((2 ^ i * a : Nat) : Int) (y : Int) = ((2 ^ i * a + y : Nat) : Int) := by
  unfold orU
  have h1 : ((2 ^ i * a : Nat) : Int) % 4294967296 = ((2 ^ i * a : Nat) : Int) := by omega
  have h2 : (y : Int) % 4294967296 = (y : Int) := by omega
  rw [h1, h2]
  simp only [Int.toNat_natCast, Int.ofNat_eq_natCast]
  rw [← Nat.two_pow_add_eq_or_of_lt hy]

theorem orU_range (x y : Int) : 0 ≤ orU x y ∧ orU x y < 4294967296 := by
  have hx : Int.toNat (x % 4294967296) < 2 ^ 32 := by omega
  have hy : Int.toNat (y % 4294967296) < 2 ^ 32 := by omega
  have := Nat.or_lt_two_pow hx hy
  unfold orU
  simp only [Int.ofNat_eq_natCast]
  omega

theorem orS_eq (x y : Int) : orS x y = wrapS32 (orU x y) := by
  have h := orU_range x y
  unfold orS wrapS32
  split <;> omega

theorem orU_emod_left (x y : Int) : orU (x % 4294967296) y = orU x y := by unfold orU; rw [Int.emod_emod]

theorem orU_emod_right (x y : Int) : orU x (y % 4294967296) = orU x y := by unfold orU; rw [Int.emod_emod]

theorem orU_wrapS32 (x y : Int) : orU (wrapS32 x) y = orU x y := by
  have : wrapS32 x % 4294967296 = x % 4294967296 := by unfold wrapS32; omega
  unfold orU; rw [this]

theorem orU_disj (i a y : Nat) (x z : Int) (hx : x = ((2 ^ i * a : Nat) : Int)) (hz : z = (y : Int)) (hy : y < 2 ^ i)
    (hs : 2 ^ i * a + y < 4294967296) : orU x z = x + z := by
  rw [hx, hz, orU_add i a y hy hs]
  omega

theorem orU_zero (y : Int) : orU 0 y = y % 4294967296 := by
  have h : 0 ≤ y % 4294967296 := Int.emod_nonneg _ (by decide)
  unfold orU
  simp only [Int.zero_emod, Int.toNat_zero, Nat.zero_or, Int.ofNat_eq_natCast, Int.toNat_of_nonneg h]

theorem orU_low (x c : Int) (hx : x % 256 = 0) (hc : 0 ≤ c ∧ c < 256) : orU x c = x % 4294967296 + c := by
  rw [← orU_emod_left]
  exact orU_disj 8 (x % 4294967296 / 256).toNat c.toNat _ _ (by omega) (by omega) (by omega) (by omega)

/-- the test `x & 1` on a non-negative operand, as translated without `twos_complement_bitops` -/
theorem land_one (n : Nat) : (Int.ofNat (Int.toNat (n : Int) &&& Int.toNat (((1) % 4294967296))) ≠ 0) ↔ n % 2 = 1 := by
  have e : Int.toNat ((1 : Int) % 4294967296) = 1 := by decide
  rw [e, Int.toNat_natCast, Nat.and_one_is_mod]
  simp only [Int.ofNat_eq_natCast, ne_eq]
  omega

theorem ofNat_land_255 (Y : Int) (h : 0 ≤ Y) : (Int.ofNat (Int.toNat Y &&& Int.toNat 255)) % 256 = Y % 256 := by
  obtain ⟨n, rfl⟩ := Int.eq_ofNat_of_zero_le h
  have e : n &&& 255 = n % 256 := Nat.and_two_pow_sub_one_eq_mod n 8
  simp only [Int.toNat_natCast, Int.ofNat_eq_natCast]
  have : Int.toNat 255 = 255 := rfl
  rw [this, e]
  omega

theorem pow8 : (2 : Int) ^ (8 : Int).toNat = 256 := by decide
theorem pow16 : (2 : Int) ^ (16 : Int).toNat = 65536 := by decide
theorem pow24 : (2 : Int) ^ (24 : Int).toNat = 16777216 := by decide

theorem cell_nat (b : Int) : ∃ n : Nat, b % 256 = (n : Int) ∧ n < 256 := by
  have h := Int.emod_nonneg b (show (256 : Int) ≠ 0 by decide)
  have h2 := Int.emod_lt_of_pos b (show (0 : Int) < 256 by decide)
  exact ⟨(b % 256).toNat, by omega, by omega⟩

theorem andS_nonneg (b : Int) : 0 ≤ andS b 255 := by
  rw [andS_255]
  exact Int.emod_nonneg _ (by decide)

theorem andU_nonneg (b : Int) : 0 ≤ andU b (255 % 4294967296) := by
  rw [show (255 : Int) % 4294967296 = 255 from rfl, andU_255]
  exact Int.emod_nonneg _ (by decide)

theorem wrapS16_cell (b : Int) : wrapS16 (andS b 255) = b % 256 := by
  rw [andS_255]
  have h := Int.emod_nonneg b (show (256 : Int) ≠ 0 by decide)
  have h2 := Int.emod_lt_of_pos b (show (0 : Int) < 256 by decide)
  unfold wrapS16
  omega

theorem wrapS16_cell_nonneg (b : Int) : 0 ≤ wrapS16 (andS b 255) := by
  rw [wrapS16_cell]
  exact Int.emod_nonneg _ (by decide)

theorem or_be32 (b0 b1 b2 b3 : Int) :
    orU (orU (orU (b0 % 256 * 16777216) (b1 % 256 * 65536)) (b2 % 256 * 256)) (b3 % 256) =
      b0 % 256 * 16777216 + b1 % 256 * 65536 + b2 % 256 * 256 + b3 % 256 := by
  obtain ⟨n0, h0, l0⟩ := cell_nat b0
  obtain ⟨n1, h1, l1⟩ := cell_nat b1
  obtain ⟨n2, h2, l2⟩ := cell_nat b2
  obtain ⟨n3, h3, l3⟩ := cell_nat b3
  rw [h0, h1, h2, h3]
  clear h0 h1 h2 h3
  rw [orU_disj 24 n0 (n1 * 65536) (n0 * 16777216) (n1 * 65536) (by omega) (by omega) (by omega) (by omega),
    orU_disj 16 (n0 * 256 + n1) (n2 * 256) _ (n2 * 256) (by omega) (by omega) (by omega) (by omega),
    orU_disj 8 (n0 * 65536 + n1 * 256 + n2) n3 _ n3 (by omega) rfl (by omega) (by omega)]

theorem cell_emod (b : Int) : b % 256 % 4294967296 = b % 256 := by omega

theorem dec32u_val (b0 b1 b2 b3 : Int) :
    orU (orU (orU ((((((andS b0 255) % 4294967296) * 2 ^ Int.toNat (24))) % 4294967296))
        (((((andS b1 255) % 4294967296) * 2 ^ Int.toNat (16))) % 4294967296))
        (((((andS b2 255) % 4294967296) * 2 ^ Int.toNat (8))) % 4294967296))
        ((andS b3 255) % 4294967296) =
      (b0 % 256) * 16777216 + (b1 % 256) * 65536 + (b2 % 256) * 256 + b3 % 256 := by
  simp only [andS_255, pow8, pow16, pow24, cell_emod, orU_emod_left, orU_emod_right]
  exact or_be32 b0 b1 b2 b3

theorem dec32s_val (b0 b1 b2 b3 : Int) :
    orS (orS (orS (wrapS32 (orU ((wrapS32 (if (andS b0 128 ≠ 0) then (((-(4294967295) - 1)) % 18446744073709551616) else 0)) % 4294967296)
          (((andU b0 ((255) % 4294967296) * 2 ^ Int.toNat (24))) % 4294967296)))
        ((andS b1 255 * 2 ^ Int.toNat (16))))
        ((andS b2 255 * 2 ^ Int.toNat (8))))
        (andS b3 255) =
      wrapS32 ((b0 % 256) * 16777216 + (b1 % 256) * 65536 + (b2 % 256) * 256 + b3 % 256) := by
  have e255 : ((255 : Int) % 4294967296) = 255 := by decide
  have eW : (wrapS32 (if (andS b0 128 ≠ 0) then (((-(4294967295) - 1)) % 18446744073709551616) else 0)) % 4294967296 = 0 := by
    split <;> decide
  simp only [andS_255, e255, andU_255, pow8, pow16, pow24, eW, orS_eq, orU_wrapS32, orU_zero, orU_emod_left, orU_emod_right]
  rw [or_be32]

theorem dec16u_val (b0 b1 : Int) :
    (orS (((andS b0 255 * 2 ^ Int.toNat (8))) % 65536) ((andS b1 255) % 65536)) % 65536 = (b0 % 256) * 256 + b1 % 256 := by
  have e0 : b0 % 256 * 256 % 65536 = b0 % 256 * 256 := by omega
  have e1 : b1 % 256 % 65536 = b1 % 256 := by omega
  rw [andS_255, andS_255, pow8, e0, e1, orS_eq, orU_low _ _ (by omega) (by omega)]
  unfold wrapS32
  omega

theorem dec16s_val (b0 b1 : Int) :
    wrapS16 (orS (wrapS16 (orS (wrapS16 (if (andS b0 128 ≠ 0) then (-(65535) - 1) else 0)) ((wrapS16 (andS b0 255) * 2 ^ Int.toNat (8)))))
      (wrapS16 (andS b1 255))) = wrapS16 ((b0 % 256) * 256 + b1 % 256) := by
  have eW : (wrapS16 (if (andS b0 128 ≠ 0) then (-(65535) - 1) else 0)) = 0 := by
    split <;> decide
  have h0 := Int.emod_nonneg b0 (show (256 : Int) ≠ 0 by decide)
  have h0' := Int.emod_lt_of_pos b0 (show (0 : Int) < 256 by decide)
  have h1 := Int.emod_nonneg b1 (show (256 : Int) ≠ 0 by decide)
  have h1' := Int.emod_lt_of_pos b1 (show (0 : Int) < 256 by decide)
  simp only [eW, wrapS16_cell, pow8, orS_eq, orU_zero]
  rw [orU_low _ _ (by unfold wrapS16 wrapS32; omega) ⟨h1, h1'⟩]
  generalize b0 % 256 = c0 at *
  generalize b1 % 256 = c1 at *
  unfold wrapS16 wrapS32
  omega

/-- a C `uint8` array of a model (`List UInt8`), as the translated functions see it -/
def u8s (l : List UInt8) : List Int := l.map fun b => (b.toNat : Int)

@[simp] theorem u8s_length (l : List UInt8) : (u8s l).length = l.length := by simp [u8s]
@[simp] theorem u8s_nil : u8s [] = [] := rfl
@[simp] theorem u8s_cons (a : UInt8) (l : List UInt8) : u8s (a :: l) = (a.toNat : Int) :: u8s l := rfl

theorem u8s_append (a b : List UInt8) : u8s (a ++ b) = u8s a ++ u8s b := by simp [u8s]
theorem u8s_drop (l : List UInt8) (k : Nat) : u8s (l.drop k) = (u8s l).drop k := by simp [u8s, List.map_drop]

theorem u8_toInt (n : Nat) : ((UInt8.ofNat n).toNat : Int) = (n : Int) % 256 := by
  simp only [UInt8.toNat_ofNat']; omega

theorem u8s_getD (l : List UInt8) (k : Nat) : (u8s l).getD k 0 = (((l.getD k 0).toNat : Nat) : Int) := by
  simp only [u8s, List.getD_eq_getElem?_getD, List.getElem?_map]
  cases l[k]? <;> simp

theorem u8s_inj {a b : List UInt8} (h : u8s a = u8s b) : a = b := by
  induction a generalizing b with
  | nil => cases b <;> simp_all [u8s]
  | cons x xs ih => cases b with
    | nil => simp [u8s] at h
    | cons y ys =>
      simp only [u8s_cons, List.cons.injEq] at h
      obtain ⟨h1, h2⟩ := h
      rw [ih h2]
      have : x.toNat = y.toNat := by omega
      rw [UInt8.toNat_inj.mp this]

def be16I (x : Int) : List Int := [(x / 256) % 256, x % 256]

def be32I (x : Int) : List Int := [(x / 16777216) % 256, (x / 65536) % 256, (x / 256) % 256, x % 256]

theorem be16I_length (x : Int) : (be16I x).length = 2 := rfl

theorem be32I_length (x : Int) : (be32I x).length = 4 := rfl

theorem be16I_congr {x y : Int} (h : x % 65536 = y % 65536) : be16I x = be16I y := by
  simp only [be16I]
  congr 1; · omega
  congr 1; omega

theorem be16I_mod (x : Int) : be16I (x % 65536) = be16I x := be16I_congr (Int.emod_emod _ _)

theorem be16I_mod32 (x : Int) : be16I (x % 4294967296) = be16I x := be16I_congr (Int.emod_emod_of_dvd x ⟨65536, rfl⟩)

theorem be32I_mod (x : Int) : be32I (x % 4294967296) = be32I x := by
  simp only [be32I]
  congr 1; · omega
  congr 1; · omega
  congr 1; · omega
  congr 1; omega

/-- how a translated state holds the record buffer (`buf`, a region), the moving pointer (`pos`, an index into it) and the `ub` flag -/
structure Cursor (σ : Type) where
  buf : σ → List Int
  pos : σ → Int
  ub : σ → Bool
  setBuf : σ → List Int → σ
  setPos : σ → Int → σ
  chk : σ → (c : Prop) → [Decidable c] → σ

structure Cursor.Lawful {σ : Type} (L : Cursor σ) : Prop where
  chk_true : ∀ (s : σ) (c : Prop) [Decidable c], c → L.chk s c = s
  buf_setBuf : ∀ s b, L.buf (L.setBuf s b) = b
  pos_setBuf : ∀ s b, L.pos (L.setBuf s b) = L.pos s
  buf_setPos : ∀ s i, L.buf (L.setPos s i) = L.buf s
  pos_setPos : ∀ s i, L.pos (L.setPos s i) = i
  buf_chk : ∀ (s : σ) (c : Prop) [Decidable c], L.buf (L.chk s c) = L.buf s
  pos_chk : ∀ (s : σ) (c : Prop) [Decidable c], L.pos (L.chk s c) = L.pos s
  chk_setPos : ∀ (s : σ) (i : Int) (c : Prop) [Decidable c], L.chk (L.setPos s i) c = L.setPos (L.chk s c) i
  chk_chk : ∀ (s : σ) (c d : Prop) [Decidable c] [Decidable d], c → L.chk (L.chk s d) c = L.chk s d
  chk_and : ∀ (s : σ) (c d : Prop) [Decidable c] [Decidable d], L.chk (L.chk s c) d = L.chk s (c ∧ d)
  chk_congr : ∀ (s : σ) (c d : Prop) [Decidable c] [Decidable d], (c ↔ d) → L.chk s c = L.chk s d
  setPos_setPos : ∀ s i j, L.setPos (L.setPos s i) j = L.setPos s j

structure Cursor.LawfulW {σ : Type} (L : Cursor σ) : Prop extends L.Lawful where
  chk_setBuf : ∀ (s : σ) (b : List Int) (c : Prop) [Decidable c], L.chk (L.setBuf s b) c = L.setBuf (L.chk s c) b
  setBuf_setPos : ∀ s i b, L.setBuf (L.setPos s i) b = L.setPos (L.setBuf s b) i
  setBuf_setBuf : ∀ s a b, L.setBuf (L.setBuf s a) b = L.setBuf s b

/-- `{}` proves it when the state is a structure (every clause is `rfl`) -/
structure Cursor.Plain {σ : Type} (L : Cursor σ) (setUb : σ → Bool → σ) : Prop where
  chk_eq : ∀ (s : σ) (c : Prop) [Decidable c], L.chk s c = setUb s (L.ub s || !decide c) := by intros; rfl
  ub_setUb : ∀ s u, L.ub (setUb s u) = u := by intros; rfl
  setUb_ub : ∀ s, setUb s (L.ub s) = s := by intros; rfl
  setUb_setUb : ∀ s u v, setUb (setUb s u) v = setUb s v := by intros; rfl
  buf_setUb : ∀ s u, L.buf (setUb s u) = L.buf s := by intros; rfl
  pos_setUb : ∀ s u, L.pos (setUb s u) = L.pos s := by intros; rfl
  ub_setBuf : ∀ s b, L.ub (L.setBuf s b) = L.ub s := by intros; rfl
  ub_setPos : ∀ s i, L.ub (L.setPos s i) = L.ub s := by intros; rfl
  setUb_setBuf : ∀ s b u, setUb (L.setBuf s b) u = L.setBuf (setUb s u) b := by intros; rfl
  setUb_setPos : ∀ s i u, setUb (L.setPos s i) u = L.setPos (setUb s u) i := by intros; rfl
  buf_setBuf : ∀ s b, L.buf (L.setBuf s b) = b := by intros; rfl
  pos_setBuf : ∀ s b, L.pos (L.setBuf s b) = L.pos s := by intros; rfl
  buf_setPos : ∀ s i, L.buf (L.setPos s i) = L.buf s := by intros; rfl
  pos_setPos : ∀ s i, L.pos (L.setPos s i) = i := by intros; rfl
  setPos_setPos : ∀ s i j, L.setPos (L.setPos s i) j = L.setPos s j := by intros; rfl
  setBuf_setPos : ∀ s i b, L.setBuf (L.setPos s i) b = L.setPos (L.setBuf s b) i := by intros; rfl
  setBuf_setBuf : ∀ s a b, L.setBuf (L.setBuf s a) b = L.setBuf s b := by intros; rfl

theorem Cursor.Plain.lawfulW {σ : Type} {L : Cursor σ} {setUb : σ → Bool → σ} (h : L.Plain setUb) : L.LawfulW where
  chk_true := fun s c _ hc => by rw [h.chk_eq, decide_eq_true hc, Bool.not_true, Bool.or_false, h.setUb_ub]
  buf_setBuf := h.buf_setBuf
  pos_setBuf := h.pos_setBuf
  buf_setPos := h.buf_setPos
  pos_setPos := h.pos_setPos
  buf_chk := fun s c _ => by rw [h.chk_eq, h.buf_setUb]
  pos_chk := fun s c _ => by rw [h.chk_eq, h.pos_setUb]
  chk_setPos := fun s i c _ => by rw [h.chk_eq, h.chk_eq, h.ub_setPos, h.setUb_setPos]
  chk_chk := fun s c d _ _ hc => by
    rw [h.chk_eq (L.chk s d), decide_eq_true hc, Bool.not_true, Bool.or_false, h.setUb_ub]
  chk_and := fun s c d _ _ => by
    rw [h.chk_eq (L.chk s c), h.chk_eq s c, h.ub_setUb, h.setUb_setUb, h.chk_eq, Bool.or_assoc, Bool.decide_and, Bool.not_and]
  chk_congr := fun s c d _ _ hcd => by rw [h.chk_eq, h.chk_eq, decide_eq_decide.mpr hcd]
  setPos_setPos := h.setPos_setPos
  chk_setBuf := fun s b c _ => by rw [h.chk_eq, h.chk_eq, h.ub_setBuf, h.setUb_setBuf]
  setBuf_setPos := h.setBuf_setPos
  setBuf_setBuf := h.setBuf_setBuf

structure Cursor.Frames {σ : Type} (L : Cursor σ) {α : Sort u} (x : σ → α) : Prop where
  setBuf : ∀ t b, x (L.setBuf t b) = x t := by intros; rfl
  setPos : ∀ t i, x (L.setPos t i) = x t := by intros; rfl
  chk : ∀ (t : σ) (c : Prop) [Decidable c], x (L.chk t c) = x t := by intros; rfl

structure Cursor.Commutes {σ : Type} (L : Cursor σ) (g : σ → σ) : Prop where
  setBuf : ∀ t b, g (L.setBuf t b) = L.setBuf (g t) b := by intros; rfl
  setPos : ∀ t i, g (L.setPos t i) = L.setPos (g t) i := by intros; rfl
  chk : ∀ (t : σ) (c : Prop) [Decidable c], g (L.chk t c) = L.chk (g t) c := by intros; rfl
  buf : ∀ t, L.buf (g t) = L.buf t := by intros; rfl
  pos : ∀ t, L.pos (g t) = L.pos t := by intros; rfl

section
variable {σ : Type} (L : Cursor σ)

/-- `*p++ = v` without the check -/
def put (s : σ) (v : Int) : σ := L.setPos (L.setBuf s ((L.buf s).set (Int.toNat (L.pos s)) v)) (L.pos s + 1)

def putN (s : σ) (vs : List Int) : σ := vs.foldl (put L) s

/-- ONE check that there is room for all of `vs`, then the stores -/
def wr (s : σ) (vs : List Int) : σ := putN L (L.chk s (0 ≤ L.pos s ∧ L.pos s + vs.length ≤ (L.buf s).length)) vs

theorem putN_nil (s : σ) : putN L s [] = s := rfl

theorem putN_cons (s : σ) (v : Int) (vs : List Int) : putN L s (v :: vs) = putN L (put L s v) vs := rfl

theorem putN_append (s : σ) (a b : List Int) : putN L (putN L s a) b = putN L s (a ++ b) := by
  simp [putN, List.foldl_append]

variable {L}

theorem frame_putN {α : Sort u} (L : Cursor σ) (f : σ → α) (h1 : ∀ s b, f (L.setBuf s b) = f s) (h2 : ∀ s i, f (L.setPos s i) = f s)
    (s : σ) (vs : List Int) : f (putN L s vs) = f s := by
  induction vs generalizing s with
  | nil => rfl
  | cons v vs ih => rw [putN_cons, ih]; simp only [put, h1, h2]

theorem frames_wr {α : Sort u} {x : σ → α} (hx : L.Frames x) (s : σ) (vs : List Int) : x (wr L s vs) = x s := by
  rw [wr, frame_putN L x hx.setBuf hx.setPos, hx.chk]

theorem comm_wr {g : σ → σ} (hg : L.Commutes g) (s : σ) (vs : List Int) : g (wr L s vs) = wr L (g s) vs := by
  have h : ∀ t, g (putN L t vs) = putN L (g t) vs := by
    induction vs with
    | nil => intro t; rfl
    | cons v vs ih => intro t; rw [putN_cons, ih, putN_cons]; simp only [put, hg.setBuf, hg.setPos, hg.buf, hg.pos]
  rw [wr, h, hg.chk, wr, hg.buf, hg.pos]

section
variable (hL : L.Lawful)
include hL

theorem pos_put (s : σ) (v : Int) : L.pos (put L s v) = L.pos s + 1 := by simp [put, hL.pos_setPos]

theorem buf_put (s : σ) (v : Int) : L.buf (put L s v) = (L.buf s).set (Int.toNat (L.pos s)) v := by
  simp [put, hL.buf_setPos, hL.buf_setBuf]

theorem pos_putN (s : σ) (vs : List Int) : L.pos (putN L s vs) = L.pos s + vs.length := by
  induction vs generalizing s with
  | nil => simp [putN]
  | cons v vs ih => rw [putN_cons, ih, pos_put hL]; simp; omega

theorem length_buf_putN (s : σ) (vs : List Int) : (L.buf (putN L s vs)).length = (L.buf s).length := by
  induction vs generalizing s with
  | nil => simp [putN]
  | cons v vs ih => rw [putN_cons, ih, buf_put hL]; simp

theorem pos_wr (s : σ) (vs : List Int) : L.pos (wr L s vs) = L.pos s + vs.length := by rw [wr, pos_putN hL, hL.pos_chk]

end

section
variable (hL : L.LawfulW)
include hL

theorem chk_put (s : σ) (v : Int) (c : Prop) [Decidable c] : L.chk (put L s v) c = put L (L.chk s c) v := by
  simp only [put, hL.chk_setPos, hL.chk_setBuf, hL.buf_chk, hL.pos_chk]

theorem chk_putN (s : σ) (vs : List Int) (c : Prop) [Decidable c] : L.chk (putN L s vs) c = putN L (L.chk s c) vs := by
  induction vs generalizing s with
  | nil => rfl
  | cons v vs ih => rw [putN_cons, ih, chk_put hL, putN_cons]

theorem wr_wr (s : σ) (a b : List Int) : wr L (wr L s a) b = wr L s (a ++ b) := by
  unfold wr
  rw [chk_putN hL, pos_putN hL.toLawful, length_buf_putN hL.toLawful, hL.pos_chk, hL.buf_chk, hL.chk_and, putN_append,
    hL.chk_congr s _ (0 ≤ L.pos s ∧ L.pos s + ((a ++ b).length : Int) ≤ (L.buf s).length) (by rw [List.length_append]; omega)]

end
end

def setsFrom (l : List Int) (i : Int) : List Int → List Int
  | [] => l
  | v :: vs => setsFrom (l.set (Int.toNat i) v) (i + 1) vs

theorem setsFrom_append (l : List Int) (i : Int) (a b : List Int) :
    setsFrom l i (a ++ b) = setsFrom (setsFrom l i a) (i + a.length) b := by
  induction a generalizing l i with
  | nil => simp [setsFrom]
  | cons v a ih =>
    simp only [List.cons_append, setsFrom, ih, List.length_cons]
    congr 1
    omega

theorem setsFrom_eq (l : List Int) (k : Nat) (vs : List Int) (hb : k + vs.length ≤ l.length) :
    setsFrom l (k : Int) vs = storeAt l k vs := by
  induction vs generalizing l k with
  | nil => rw [storeAt_nil]; rfl
  | cons v vs ih =>
    rw [List.length_cons] at hb
    rw [setsFrom, Int.toNat_natCast, show ((k : Int) + 1) = ((k + 1 : Nat) : Int) from rfl, ih _ (k + 1) (by rw [List.length_set]; omega),
      storeAt_set l k v vs (by omega)]

theorem buf_putN_sets {σ : Type} {L : Cursor σ} (hL : L.Lawful) (s : σ) (vs : List Int) :
    L.buf (putN L s vs) = setsFrom (L.buf s) (L.pos s) vs := by
  induction vs generalizing s with
  | nil => rfl
  | cons v vs ih => rw [putN_cons, ih, buf_put hL, pos_put hL]; rfl

theorem wr_ok {σ : Type} {L : Cursor σ} (hL : L.Lawful) (s : σ) (vs : List Int) (k : Nat) (hp : L.pos s = k) (hb : k + vs.length ≤ (L.buf s).length) :
    wr L s vs = putN L s vs ∧ L.buf (putN L s vs) = storeAt (L.buf s) k vs ∧
      L.pos (putN L s vs) = (k + vs.length : Nat) := by
  refine ⟨by rw [wr, hL.chk_true s _ (by omega)], ?_, ?_⟩
  · rw [buf_putN_sets hL, hp, setsFrom_eq _ _ _ hb]
  · rw [pos_putN hL, hp]; omega

theorem ub_wr {σ : Type} {L : Cursor σ} {setUb : σ → Bool → σ} (hP : L.Plain setUb) (s : σ) (vs : List Int) :
    L.ub (wr L s vs) = (L.ub s || !decide (0 ≤ L.pos s ∧ L.pos s + vs.length ≤ (L.buf s).length)) := by
  rw [wr, frame_putN L L.ub hP.ub_setBuf hP.ub_setPos, hP.chk_eq, hP.ub_setUb]

/-- the end of a writer; every other member of the state is read off with `frames_wr` -/
theorem wr_end {σ : Type} {L : Cursor σ} {setUb : σ → Bool → σ} (hP : L.Plain setUb) (s : σ) (vs : List Int) (k : Nat) (hp : L.pos s = k)
    (hb : k + vs.length ≤ (L.buf s).length) :
    L.ub (wr L s vs) = L.ub s ∧ L.buf (wr L s vs) = storeAt (L.buf s) k vs ∧ L.pos (wr L s vs) = (k + vs.length : Nat) := by
  obtain ⟨e, h1, h2⟩ := wr_ok hP.lawfulW.toLawful s vs k hp hb
  refine ⟨?_, e ▸ h1, e ▸ h2⟩
  rw [ub_wr hP, decide_eq_true (by omega), Bool.not_true, Bool.or_false]

section
variable {σ : Type} {L : Cursor σ} (hL : L.LawfulW)
include hL

/-- a store over the cell behind the cursor that an earlier `strcpy` filled with its terminating NUL: `p += strlen` steps back over it -/
theorem put_back (t : σ) (z v : Int) : put L (L.setPos (put L t z) (L.pos t)) v = put L t v := by
  simp only [put, hL.buf_setPos, hL.buf_setBuf, hL.pos_setPos, hL.setPos_setPos, hL.setBuf_setPos, hL.setBuf_setBuf, List.set_set]

theorem wr_back (s : σ) (a : List Int) (z v : Int) (vs : List Int) :
    wr L (L.setPos (wr L s (a ++ [z])) (L.pos s + a.length)) (v :: vs) = wr L s (a ++ v :: vs) := by
  have key : ∀ t, L.pos t = L.pos s → putN L (L.setPos (putN L t (a ++ [z])) (L.pos s + a.length)) (v :: vs) = putN L t (a ++ v :: vs) := by
    intro t hp
    rw [← putN_append, ← putN_append, putN_cons, putN_cons, putN_nil, ← hp, ← pos_putN hL.toLawful t a, put_back hL]
    rfl
  unfold wr
  rw [hL.chk_setPos, chk_putN hL, hL.pos_setPos, hL.buf_setPos, length_buf_putN hL.toLawful, hL.buf_chk, hL.chk_and,
    hL.chk_congr s _ (0 ≤ L.pos s ∧ L.pos s + ((a ++ v :: vs).length : Int) ≤ (L.buf s).length)
      (by simp only [List.length_append, List.length_cons, List.length_nil]; omega)]
  exact key _ (hL.pos_chk ..)

end

/-- `a` stored from where the cursor of `s` is; `some z`: the cursor is behind `a` and the cell under it holds `z` -/
def beh {σ : Type} (L : Cursor σ) (s : σ) (a : List Int) : Option Int → σ
  | none => wr L s a
  | some z => L.setPos (wr L s (a ++ [z])) (L.pos s + a.length)

section
variable {σ : Type} {L : Cursor σ}

theorem beh_none (s : σ) (a : List Int) : beh L s a none = wr L s a := rfl
theorem beh_some (s : σ) (a : List Int) (z : Int) : beh L s a (some z) = L.setPos (wr L s (a ++ [z])) (L.pos s + a.length) := rfl

theorem frames_beh {α : Sort u} {x : σ → α} (hx : L.Frames x) (s : σ) (a : List Int) (z : Option Int) : x (beh L s a z) = x s := by
  cases z with
  | none => exact frames_wr hx s a
  | some z => exact (hx.setPos _ _).trans (frames_wr hx s _)

theorem comm_beh {g : σ → σ} (hg : L.Commutes g) (s : σ) (a : List Int) (z : Option Int) : g (beh L s a z) = beh L (g s) a z := by
  cases z with
  | none => exact comm_wr hg s a
  | some z => simp only [beh, hg.setPos, comm_wr hg, hg.pos]

theorem wr_beh (hL : L.LawfulW) (s : σ) (a : List Int) (z : Option Int) (v : Int) (vs : List Int) : wr L (beh L s a z) (v :: vs) = wr L s (a ++ v :: vs) := by
  cases z with
  | none => exact wr_wr hL s a _
  | some z => exact wr_back hL s a z v vs

end

/-- `st k`: the state with the counter at `k` and nothing stored -/
theorem wr_loop {σ : Type} {L : Cursor σ} {α : Type} {loop : Nat → σ → σ} {c : σ → Prop} {body : Nat → σ → σ} (h : IsLoop loop c body fun s => s)
    (l : List α) (piece : α → List Int) (st : Nat → σ) (a : List Int)
    (hc : ∀ k, k ≤ l.length → (c (wr L (st k) (a ++ (l.take k).flatMap piece)) ↔ k < l.length))
    (hb : ∀ k (hk : k < l.length) f, body f (wr L (st k) (a ++ (l.take k).flatMap piece)) =
      wr L (st (k + 1)) (a ++ (l.take k).flatMap piece ++ piece l[k]))
    {fuel : Nat} (hf : l.length ≤ fuel) : loop fuel (wr L (st 0) a) = wr L (st l.length) (a ++ l.flatMap piece) := by
  have := h.run l.length (fun k => wr L (st k) (a ++ (l.take k).flatMap piece)) (fun k hk => (hc k (by omega)).mpr hk)
    (fun hc' => Nat.lt_irrefl _ ((hc _ (Nat.le_refl _)).mp hc'))
    (fun k f hk _ => by rw [hb k hk, List.take_succ_eq_append_getElem hk, List.flatMap_append, List.flatMap_singleton, List.append_assoc]) hf
  simpa using this

/-- the check in front of `reg[i]` -/
def idxchk {σ : Type} {α : Type u} (L : Cursor σ) (idx : σ → Int) (reg : σ → List α) (s : σ) : σ := L.chk s (0 ≤ idx s ∧ idx s < (reg s).length)

/-- `reg[i]` -/
def cellOf {σ : Type} (idx : σ → Int) (reg : σ → List Int) (s : σ) : Int := (reg s).getD (Int.toNat (idx s)) 0

theorem Cursor.Frames.cellOf {σ : Type} {L : Cursor σ} {idx : σ → Int} {reg : σ → List Int} (hi : L.Frames idx) (hr : L.Frames reg) :
    L.Frames (cellOf idx reg) :=
  ⟨fun t b => by rw [C2L.cellOf, C2L.cellOf, hi.setBuf, hr.setBuf], fun t i => by rw [C2L.cellOf, C2L.cellOf, hi.setPos, hr.setPos],
    fun t c _ => by rw [C2L.cellOf, C2L.cellOf, hi.chk, hr.chk]⟩

theorem cellOf_ints {σ : Type} {α : Type u} {idx : σ → Int} {reg : σ → List Int} (s : σ) (l : List α) (g : α → Nat) (pad : List Int)
    (e : reg s = ints (l.map g) ++ pad) (k : Nat) (hi : idx s = k) (hk : k < l.length) : cellOf idx reg s = (g l[k] : Int) := by
  rw [cellOf, hi, Int.toNat_natCast, e, List.getD_eq_getElem?_getD, List.getElem?_append_left (by simpa using hk)]; simp [ints, hk]

/-! The ENCODE macros.  Operand an expression over the CURRENT state, read anew in every line as in the translated text of a loop
    body; `pre` is what the translator emits in front of every read of the operand: the index check of `reg[i]`, `id` for a scalar -/

section
variable {σ : Type} (L : Cursor σ)

def pstoreF (v : σ → Int) (s : σ) : σ :=
  have s : σ := L.chk s (0 ≤ L.pos s ∧ L.pos s < (L.buf s).length)
  have s : σ := L.setBuf s ((L.buf s).set (Int.toNat (L.pos s)) (v s))
  let e0 : Int := (L.pos s + 1)
  have s : σ := L.setPos s (e0)
  s

def pshrF (pre : σ → σ) (x : σ → Int) (k : Int) (s : σ) : σ :=
  have s : σ := pre s
  have s : σ := L.chk s ((0 : Int) ≤ x s ∧ (0 : Int) ≤ k ∧ k < (32 : Int))
  pstoreF L (fun s => andU (x s / 2 ^ Int.toNat k) (255 % 4294967296) % 256) s

def pandUF (pre : σ → σ) (x : σ → Int) (s : σ) : σ := pstoreF L (fun s => andU (x s) (255 % 4294967296) % 256) (pre s)

def pandSF (pre : σ → σ) (x : σ → Int) (s : σ) : σ := pstoreF L (fun s => andS (x s) 255 % 256) (pre s)

/-- `UINT16ENCODE(p, x)` -/
def wr16 (pre : σ → σ) (x : σ → Int) (s : σ) : σ := pandSF L pre x (pshrF L pre x 8 s)

/-- `INT32ENCODE(p, x)` / `UINT32ENCODE(p, x)`, `x` the operand after `(uint32)` -/
def wr32 (pre : σ → σ) (x : σ → Int) (s : σ) : σ := pandUF L pre x (pshrF L pre x 8 (pshrF L pre x 16 (pshrF L pre x 24 s)))

/-! the same as translated without `twos_complement_bitops` (vgp.c, vio.c): `&` carries a check that both operands are non-negative and
    no reduction modulo 2^32 -/

def pshrN (pre : σ → σ) (x : σ → Int) (k : Int) (s : σ) : σ :=
  have s : σ := pre s
  have s : σ := L.chk s ((0 : Int) ≤ x s ∧ (0 : Int) ≤ k ∧ k < (32 : Int))
  have s : σ := L.chk s ((0 : Int) ≤ (x s / 2 ^ Int.toNat (k)) ∧ (0 : Int) ≤ ((255) % 4294967296))
  pstoreF L (fun s => (((Int.ofNat (Int.toNat ((x s / 2 ^ Int.toNat (k))) &&& Int.toNat (((255) % 4294967296))))) % 256)) s

def pandN (pre : σ → σ) (x : σ → Int) (M : Int) (s : σ) : σ :=
  have s : σ := pre s
  have s : σ := L.chk s ((0 : Int) ≤ x s ∧ (0 : Int) ≤ M)
  pstoreF L (fun s => (((Int.ofNat (Int.toNat (x s) &&& Int.toNat (M)))) % 256)) s

/-- a 16-bit ENCODE macro: `xh` / `x` are the operand as written for the high / low byte, `M` the mask `0xff` as converted -/
def wr16N (pre : σ → σ) (xh x : σ → Int) (M : Int) (s : σ) : σ := pandN L pre x M (pshrN L pre xh 8 s)

def wr32N (pre : σ → σ) (x : σ → Int) (s : σ) : σ :=
  pandN L pre x ((255) % 4294967296) (pshrN L pre x 8 (pshrN L pre x 16 (pshrN L pre x 24 s)))

/-! operand a value (straight-line code that reads its operands at entry) -/

def pstore (s : σ) (v : Int) : σ := pstoreF L (fun _ => v) s

/-- `*p = (uint8)(((uint32)(x) >> k) & 0xff); p++;` (`X` is the operand after its cast; the shift carries its own check) -/
def pshr (s : σ) (X k : Int) : σ := pshrF L id (fun _ => X) k s

/-- `*p = (uint8)((uint32)(x) & 0xff); p++;` -/
def pandU (s : σ) (X : Int) : σ := pandUF L id (fun _ => X) s

/-- `*p = (uint8)((x) & 0xff); p++;` on an `int` operand -/
def pandS (s : σ) (X : Int) : σ := pandSF L id (fun _ => X) s

/-- `*p++ = (uint8)x;` (`V` is the converted value) -/
def pbyte (s : σ) (V : Int) : σ := pstore L s V

/-- `UINT16ENCODE(p, x)`: `X` = `(unsigned)(x)`, `Xl` = `x` promoted to `int` -/
def enc16 (s : σ) (X Xl : Int) : σ := pandS L (pshr L s X 8) Xl

/-- `INT16ENCODE(p, x)`: `X` = `(unsigned)(x)` -/
def enc16s (s : σ) (X : Int) : σ := pandU L (pshr L s X 8) X

/-- `INT32ENCODE(p, x)` / `UINT32ENCODE(p, x)`: `X` = `(uint32)(x)` -/
def enc32 (s : σ) (X : Int) : σ := pandU L (pshr L (pshr L (pshr L s X 24) X 16) X 8) X

variable {L}

theorem Cursor.Frames.comp {x : σ → Int} (hx : L.Frames x) (f : Int → Int) : L.Frames (fun s => f (x s)) :=
  ⟨fun t b => congrArg f (hx.setBuf t b), fun t i => congrArg f (hx.setPos t i), fun t c _ => congrArg f (hx.chk t c)⟩

variable (hL : L.LawfulW)
include hL

theorem pstoreF_wr (v : σ → Int) (hv : L.Frames v) (s : σ) : pstoreF L v s = wr L s [v s] := by
  simp only [pstoreF, wr, putN, put, List.foldl_cons, List.foldl_nil, hL.buf_chk, hL.pos_chk, hL.pos_setBuf, hv.chk]
  rw [hL.chk_congr s _ (0 ≤ L.pos s ∧ L.pos s + (([v s] : List Int).length : Int) ≤ (L.buf s).length)
    (by simp only [List.length_cons, List.length_nil]; omega)]

theorem pshrF_wr {pre : σ → σ} {x : σ → Int} (hx : L.Frames x) (k : Int) (hk : k = 8 ∨ k = 16 ∨ k = 24) (s : σ) (hpre : pre s = s)
    (hX : 0 ≤ x s) : pshrF L pre x k s = wr L s [x s / 2 ^ k.toNat % 256] := by
  rw [pshrF, hpre, hL.chk_true s _ (by omega), pstoreF_wr hL _ (hx.comp fun X => andU (X / 2 ^ Int.toNat k) (255 % 4294967296) % 256),
    show (255 : Int) % 4294967296 = 255 from rfl, andU_255, Int.emod_emod]

theorem pandUF_wr {pre : σ → σ} {x : σ → Int} (hx : L.Frames x) (s : σ) (hpre : pre s = s) : pandUF L pre x s = wr L s [x s % 256] := by
  rw [pandUF, hpre, pstoreF_wr hL _ (hx.comp fun X => andU X (255 % 4294967296) % 256), show (255 : Int) % 4294967296 = 255 from rfl,
    andU_255, Int.emod_emod]

theorem pandSF_wr {pre : σ → σ} {x : σ → Int} (hx : L.Frames x) (s : σ) (hpre : pre s = s) : pandSF L pre x s = wr L s [x s % 256] := by
  rw [pandSF, hpre, pstoreF_wr hL _ (hx.comp fun X => andS X 255 % 256), andS_255, Int.emod_emod]

/-- `G`: what makes `pre` pass, kept by the stores (for the index check of `reg[i]`: `i` is in range) -/
theorem wr16_eq {pre : σ → σ} {x : σ → Int} (hx : L.Frames x) (G : σ → Prop) (hG : ∀ t a, G t → G (wr L t a))
    (hpre : ∀ t, G t → pre t = t) (s : σ) (hg : G s) (hX : 0 ≤ x s) : wr16 L pre x s = wr L s (be16I (x s)) := by
  rw [wr16, pshrF_wr hL hx 8 (Or.inl rfl) s (hpre s hg) hX, pandSF_wr hL hx _ (hpre _ (hG s _ hg)), frames_wr hx, wr_wr hL, pow8]
  rfl

theorem wr32_eq {pre : σ → σ} {x : σ → Int} (hx : L.Frames x) (G : σ → Prop) (hG : ∀ t a, G t → G (wr L t a))
    (hpre : ∀ t, G t → pre t = t) (s : σ) (hg : G s) (hX : 0 ≤ x s) : wr32 L pre x s = wr L s (be32I (x s)) := by
  have g1 := hG s [x s / 2 ^ (24 : Int).toNat % 256] hg
  have g2 := hG _ [x s / 2 ^ (16 : Int).toNat % 256] g1
  have g3 := hG _ [x s / 2 ^ (8 : Int).toNat % 256] g2
  rw [wr32, pshrF_wr hL hx 24 (Or.inr (Or.inr rfl)) s (hpre s hg) hX,
    pshrF_wr hL hx 16 (Or.inr (Or.inl rfl)) _ (hpre _ g1) (by rw [frames_wr hx]; exact hX), frames_wr hx,
    pshrF_wr hL hx 8 (Or.inl rfl) _ (hpre _ g2) (by rw [frames_wr hx, frames_wr hx]; exact hX), frames_wr hx, frames_wr hx,
    pandUF_wr hL hx _ (hpre _ g3), frames_wr hx, frames_wr hx, frames_wr hx, wr_wr hL, wr_wr hL, wr_wr hL, pow8, pow16, pow24]
  rfl

theorem pshrN_wr {pre : σ → σ} {x : σ → Int} (hx : L.Frames x) (k : Int) (hk : k = 8 ∨ k = 16 ∨ k = 24) (s : σ) (hpre : pre s = s)
    (hX : 0 ≤ x s) : pshrN L pre x k s = wr L s [x s / 2 ^ k.toNat % 256] := by
  have h2 : (0 : Int) ≤ x s / 2 ^ Int.toNat k := Int.ediv_nonneg hX (Int.le_of_lt (Int.pow_pos (by decide)))
  rw [pshrN, hpre, hL.chk_true s _ (by omega), hL.chk_true s _ ⟨h2, by decide⟩,
    pstoreF_wr hL _ (hx.comp fun X => (((Int.ofNat (Int.toNat ((X / 2 ^ Int.toNat (k))) &&& Int.toNat (((255) % 4294967296))))) % 256)),
    show (255 : Int) % 4294967296 = 255 from rfl, ofNat_land_255 _ h2]

theorem pandN_wr {pre : σ → σ} {x : σ → Int} (hx : L.Frames x) (s : σ) (hpre : pre s = s) (hX : 0 ≤ x s) {M : Int} (hM : M = 255) :
    pandN L pre x M s = wr L s [x s % 256] := by
  subst hM
  rw [pandN, hpre, hL.chk_true s _ ⟨hX, by decide⟩, pstoreF_wr hL _ (hx.comp fun X => (((Int.ofNat (Int.toNat X &&& Int.toNat (255)))) % 256)),
    ofNat_land_255 _ hX]

theorem wr16N_eq {pre : σ → σ} {xh x : σ → Int} (hxh : L.Frames xh) (hx : L.Frames x) (G : σ → Prop) (hG : ∀ t a, G t → G (wr L t a))
    (hpre : ∀ t, G t → pre t = t) (s : σ) (hg : G s) (v : Int) (hh : xh s = v) (hl : x s = v) (hX : 0 ≤ v) {M : Int} (hM : M = 255) :
    wr16N L pre xh x M s = wr L s (be16I v) := by
  rw [wr16N, pshrN_wr hL hxh 8 (Or.inl rfl) s (hpre s hg) (hh ▸ hX),
    pandN_wr hL hx _ (hpre _ (hG s _ hg)) (by rw [frames_wr hx, hl]; exact hX) hM, frames_wr hx, wr_wr hL, pow8, hh, hl]
  rfl

theorem wr32N_eq {pre : σ → σ} {x : σ → Int} (hx : L.Frames x) (G : σ → Prop) (hG : ∀ t a, G t → G (wr L t a))
    (hpre : ∀ t, G t → pre t = t) (s : σ) (hg : G s) (hX : 0 ≤ x s) : wr32N L pre x s = wr L s (be32I (x s)) := by
  have g1 := hG s [x s / 2 ^ (24 : Int).toNat % 256] hg
  have g2 := hG _ [x s / 2 ^ (16 : Int).toNat % 256] g1
  have g3 := hG _ [x s / 2 ^ (8 : Int).toNat % 256] g2
  rw [wr32N, pshrN_wr hL hx 24 (Or.inr (Or.inr rfl)) s (hpre s hg) hX,
    pshrN_wr hL hx 16 (Or.inr (Or.inl rfl)) _ (hpre _ g1) (by rw [frames_wr hx]; exact hX), frames_wr hx,
    pshrN_wr hL hx 8 (Or.inl rfl) _ (hpre _ g2) (by rw [frames_wr hx, frames_wr hx]; exact hX), frames_wr hx, frames_wr hx,
    pandN_wr hL hx _ (hpre _ g3) (by rw [frames_wr hx, frames_wr hx, frames_wr hx]; exact hX) (by decide), frames_wr hx, frames_wr hx,
    frames_wr hx, wr_wr hL, wr_wr hL, wr_wr hL, pow8, pow16, pow24]
  rfl

theorem wr16N_id {xh x : σ → Int} (hxh : L.Frames xh) (hx : L.Frames x) (s : σ) (v : Int) (hh : xh s = v) (hl : x s = v) (hX : 0 ≤ v)
    {M : Int} (hM : M = 255) : wr16N L id xh x M s = wr L s (be16I v) :=
  wr16N_eq hL hxh hx (fun _ => True) (fun _ _ _ => trivial) (fun _ _ => rfl) s trivial v hh hl hX hM

omit hL in
theorem idxchk_wr (hL : L.Lawful) {α : Type u} {idx : σ → Int} {reg : σ → List α} (k : Nat) (t : σ)
    (h : idx t = k ∧ k < (reg t).length) : idxchk L idx reg t = t :=
  hL.chk_true t _ (by rw [h.1]; omega)

omit hL in
theorem idx_wr {α : Type u} {idx : σ → Int} {reg : σ → List α} (hi : L.Frames idx) (hr : L.Frames reg) (k : Nat) (t : σ) (o : List Int)
    (h : idx t = k ∧ k < (reg t).length) : idx (wr L t o) = k ∧ k < (reg (wr L t o)).length := by
  rw [frames_wr hi, frames_wr hr]; exact h

theorem wr16N_at {α : Type u} {idx : σ → Int} {reg : σ → List α} (hi : L.Frames idx) (hr : L.Frames reg) {xh x : σ → Int} (hxh : L.Frames xh)
    (hx : L.Frames x) (s : σ) (a : List Int) (k : Nat) (hk : idx s = k) (hlt : k < (reg s).length) (v : Int) (hh : xh s = v) (hl : x s = v)
    (hX : 0 ≤ v) {M : Int} (hM : M = 255) : wr16N L (idxchk L idx reg) xh x M (wr L s a) = wr L s (a ++ be16I v) := by
  rw [wr16N_eq hL hxh hx _ (idx_wr hi hr k) (idxchk_wr hL.toLawful k) _ (idx_wr hi hr k s a ⟨hk, hlt⟩) v ((frames_wr hxh s a).trans hh)
    ((frames_wr hx s a).trans hl) hX hM, wr_wr hL]

theorem wr32N_at {α : Type u} {idx : σ → Int} {reg : σ → List α} (hi : L.Frames idx) (hr : L.Frames reg) {x : σ → Int} (hx : L.Frames x)
    (s : σ) (a : List Int) (k : Nat) (hk : idx s = k) (hlt : k < (reg s).length) (hX : 0 ≤ x s) :
    wr32N L (idxchk L idx reg) x (wr L s a) = wr L s (a ++ be32I (x s)) := by
  rw [wr32N_eq hL hx _ (idx_wr hi hr k) (idxchk_wr hL.toLawful k) _ (idx_wr hi hr k s a ⟨hk, hlt⟩) (by rw [frames_wr hx]; exact hX),
    frames_wr hx, wr_wr hL]

theorem wr16_at {α : Type u} {idx : σ → Int} {reg : σ → List α} (hi : L.Frames idx) (hr : L.Frames reg) {x : σ → Int} (hx : L.Frames x)
    (s : σ) (a : List Int) (k : Nat) (hk : idx s = k) (hlt : k < (reg s).length) (hX : 0 ≤ x s) :
    wr16 L (idxchk L idx reg) x (wr L s a) = wr L s (a ++ be16I (x s)) := by
  rw [wr16_eq hL hx _ (idx_wr hi hr k) (idxchk_wr hL.toLawful k) _ (idx_wr hi hr k s a ⟨hk, hlt⟩) (by rw [frames_wr hx]; exact hX),
    frames_wr hx, wr_wr hL]

theorem wr32_at {α : Type u} {idx : σ → Int} {reg : σ → List α} (hi : L.Frames idx) (hr : L.Frames reg) {x : σ → Int} (hx : L.Frames x)
    (s : σ) (a : List Int) (k : Nat) (hk : idx s = k) (hlt : k < (reg s).length) (hX : 0 ≤ x s) :
    wr32 L (idxchk L idx reg) x (wr L s a) = wr L s (a ++ be32I (x s)) := by
  rw [wr32_eq hL hx _ (idx_wr hi hr k) (idxchk_wr hL.toLawful k) _ (idx_wr hi hr k s a ⟨hk, hlt⟩) (by rw [frames_wr hx]; exact hX),
    frames_wr hx, wr_wr hL]

theorem u16_beh (s : σ) (a : List Int) (z : Option Int) {xh x : σ → Int} (hxh : L.Frames xh) (hx : L.Frames x) (v : Int)
    (hh : xh s = v) (hl : x s = v) (hX : 0 ≤ v) : wr16N L id xh x 255 (beh L s a z) = wr L s (a ++ be16I v) := by
  rw [wr16N_eq hL (pre := id) hxh hx (fun _ => True) (fun _ _ _ => trivial) (fun _ _ => rfl) _ trivial v
    ((frames_beh hxh s a z).trans hh) ((frames_beh hx s a z).trans hl) hX rfl]
  exact wr_beh hL s a z _ _

theorem u32_beh (s : σ) (a : List Int) (z : Option Int) {x : σ → Int} (hx : L.Frames x) (hX : 0 ≤ x s) :
    wr32N L id x (beh L s a z) = wr L s (a ++ be32I (x s)) := by
  rw [wr32N_eq hL (pre := id) hx (fun _ => True) (fun _ _ _ => trivial) (fun _ _ => rfl) _ trivial
    (by rw [frames_beh hx]; exact hX), frames_beh hx]
  exact wr_beh hL s a z _ _

theorem pstore_wr (s : σ) (v : Int) : pstore L s v = wr L s [v] := pstoreF_wr hL (fun _ => v) ⟨fun _ _ => rfl, fun _ _ => rfl, fun _ _ _ => rfl⟩ s

theorem pshr_wr (s : σ) (X k : Int) (hX : 0 ≤ X) (hk : k = 8 ∨ k = 16 ∨ k = 24) : pshr L s X k = wr L s [X / 2 ^ k.toNat % 256] :=
  pshrF_wr hL (pre := id) (x := fun _ => X) ⟨fun _ _ => rfl, fun _ _ => rfl, fun _ _ _ => rfl⟩ k hk s rfl hX

theorem enc16_wr (s : σ) (X Xl : Int) (hX : 0 ≤ X) (hl : Xl % 256 = X % 256) : enc16 L s X Xl = wr L s (be16I X) := by
  rw [enc16, pshr_wr hL s X 8 hX (Or.inl rfl), pandS, pandSF_wr hL (x := fun _ => Xl) ⟨fun _ _ => rfl, fun _ _ => rfl, fun _ _ _ => rfl⟩ _ rfl, wr_wr hL, hl, pow8]; rfl

theorem enc16s_wr (s : σ) (X : Int) (hX : 0 ≤ X) : enc16s L s X = wr L s (be16I X) := by
  rw [enc16s, pshr_wr hL s X 8 hX (Or.inl rfl), pandU, pandUF_wr hL (x := fun _ => X) ⟨fun _ _ => rfl, fun _ _ => rfl, fun _ _ _ => rfl⟩ _ rfl, wr_wr hL, pow8]; rfl

theorem enc32_wr (s : σ) (X : Int) (hX : 0 ≤ X) : enc32 L s X = wr L s (be32I X) :=
  wr32_eq hL (pre := id) (x := fun _ => X) ⟨fun _ _ => rfl, fun _ _ => rfl, fun _ _ _ => rfl⟩ (fun _ => True) (fun _ _ _ => trivial)
    (fun _ _ => rfl) s trivial hX

theorem pbyte_wr (s : σ) (V : Int) : pbyte L s V = wr L s [V] := pstore_wr hL s V

end

section
variable {σ : Type} (L : Cursor σ)

/-- `strcpy((char *)p, str);` as translated: the cells are copied in one piece, the cursor stays -/
def pcpy (str : σ → List Int) (s : σ) : σ :=
  have s : σ := L.chk s (0 ≤ 0 ∧ (0 : Int) ∈ ((str s).drop (Int.toNat (0))))
  have s : σ := L.chk s (0 ≤ L.pos s ∧ L.pos s + (Int.ofNat (((str s).drop (Int.toNat (0))).takeWhile (· ≠ 0)).length + 1) ≤ (L.buf s).length)
  have s : σ := L.setBuf s (((L.buf s).take (Int.toNat (L.pos s))) ++ (((str s).drop (Int.toNat (0))).take (Int.toNat (Int.ofNat (((str s).drop (Int.toNat (0))).takeWhile (· ≠ 0)).length + 1))) ++ ((L.buf s).drop (Int.toNat (L.pos s + (Int.ofNat (((str s).drop (Int.toNat (0))).takeWhile (· ≠ 0)).length + 1)))))
  s

variable {L}

theorem frames_pcpy {α : Sort u} {x : σ → α} (hx : L.Frames x) (str : σ → List Int) (t : σ) : x (pcpy L str t) = x t := by
  simp only [pcpy, hx.setBuf, hx.chk]

theorem pos_pcpy (hL : L.Lawful) (str : σ → List Int) (t : σ) : L.pos (pcpy L str t) = L.pos t := by simp only [pcpy, hL.pos_setBuf, hL.pos_chk]

variable (hL : L.LawfulW)
include hL

theorem setPos_putN_cons (t : σ) (v : Int) (vs : List Int) (q : Int) :
    L.setPos (putN L t (v :: vs)) q = L.setPos (L.setBuf t (setsFrom (L.buf t) (L.pos t) (v :: vs))) q := by
  induction vs generalizing t v with
  | nil => simp only [putN_cons, putN_nil, put, setsFrom, hL.setPos_setPos]
  | cons w vs ih =>
    rw [putN_cons, ih]
    simp only [put, setsFrom, hL.buf_setPos, hL.buf_setBuf, hL.pos_setPos, hL.setBuf_setPos, hL.setBuf_setBuf, hL.setPos_setPos]

/-- the one lemma with a hypothesis on the room: the copy is in one piece, so where it does not fit it is not what the stores of `wr` do -/
theorem pcpy_wr {str : σ → List Int} (hstr : L.Frames str) (s : σ) (a b pad : List Int) (hs : str s = b ++ 0 :: pad) (h0 : (0 : Int) ∉ b)
    (k : Nat) (hp : L.pos s = k) (hroom : k + a.length + b.length + 1 ≤ (L.buf s).length) (q : Int) :
    L.setPos (pcpy L str (wr L s a)) q = L.setPos (wr L s (a ++ (b ++ [0]))) q := by
  obtain ⟨e1, hb1, hp1⟩ := wr_ok hL.toLawful s a k hp (by omega)
  obtain ⟨e2, -, -⟩ := wr_ok hL.toLawful s (a ++ (b ++ [0])) k hp
    (by simp only [List.length_append, List.length_cons, List.length_nil]; omega)
  rw [e2, ← putN_append, e1]
  obtain ⟨t, ht⟩ : ∃ t, t = putN L s a := ⟨_, rfl⟩
  rw [← ht] at hb1 hp1 ⊢
  have hst : str t = b ++ 0 :: pad := by rw [ht, frame_putN L str hstr.setBuf hstr.setPos]; exact hs
  have t0 : Int.toNat 0 = 0 := rfl
  obtain ⟨c1, tw⟩ := cstr_strlen hst h0
  have hlen : (L.buf t).length = (L.buf s).length := by rw [hb1, length_storeAt _ _ _ (by omega)]
  have c2 : 0 ≤ L.pos t ∧ L.pos t + (Int.ofNat (((str t).drop (Int.toNat (0))).takeWhile (· ≠ 0)).length + 1) ≤ (L.buf t).length := by
    rw [tw, hp1, hlen]; simp only [Int.ofNat_eq_natCast]; omega
  obtain ⟨v, vs, hv⟩ : ∃ v vs, b ++ [0] = v :: vs := by cases b <;> exact ⟨_, _, rfl⟩
  rw [hv, setPos_putN_cons hL, ← hv, hp1, setsFrom_eq _ _ _ (by rw [hlen]; simp only [List.length_append, List.length_cons, List.length_nil]; omega)]
  simp only [pcpy]
  simp only [hL.chk_true t _ c1]
  simp only [hL.chk_true t _ c2]
  rw [tw, hst, t0, List.drop_zero, hp1]
  congr 2
  have q1 : Int.toNat ((k + a.length : Nat) : Int) = k + a.length := Int.toNat_natCast _
  have q2 : Int.toNat (Int.ofNat b.length + 1) = b.length + 1 := by simp only [Int.ofNat_eq_natCast]; omega
  have q3 : Int.toNat (((k + a.length : Nat) : Int) + (Int.ofNat b.length + 1)) = k + a.length + (b ++ [0]).length := by
    simp only [Int.ofNat_eq_natCast, List.length_append, List.length_cons, List.length_nil]; omega
  rw [q1, q2, q3, cstr_take]
  rfl

/-- `strcpy(p, str); p += strlen(str);` behind `a` -/
theorem pcpy_beh {str : σ → List Int} (hstr : L.Frames str) (s : σ) (a b pad : List Int) (hs : str s = b ++ 0 :: pad) (h0 : (0 : Int) ∉ b)
    (k : Nat) (hp : L.pos s = k) (hroom : k + a.length + b.length + 1 ≤ (L.buf s).length) :
    L.setPos (pcpy L str (wr L s a)) (L.pos s + (a ++ b).length) = beh L s (a ++ b) (some 0) := by
  rw [pcpy_wr hL hstr s a b pad hs h0 k hp hroom, beh, List.append_assoc]

end

/-- the variable a DECODE macro assigns (a local or a struct member of the translated state) -/
structure Tgt (σ : Type) where
  get : σ → Int
  set : σ → Int → σ

structure Tgt.Lawful {σ : Type} (L : Cursor σ) (T : Tgt σ) : Prop where
  get_set : ∀ s v, T.get (T.set s v) = v
  set_set : ∀ s a b, T.set (T.set s a) b = T.set s b
  pos_set : ∀ s v, L.pos (T.set s v) = L.pos s
  buf_set : ∀ s v, L.buf (T.set s v) = L.buf s
  get_setPos : ∀ s i, T.get (L.setPos s i) = T.get s
  get_chk : ∀ (s : σ) (c : Prop) [Decidable c], T.get (L.chk s c) = T.get s
  setPos_set : ∀ s v i, L.setPos (T.set s v) i = T.set (L.setPos s i) v
  chk_set : ∀ (s : σ) (v : Int) (c : Prop) [Decidable c], L.chk (T.set s v) c = T.set (L.chk s c) v

/- `Tgt.Lawful` has no default values for its clauses (unlike `Plain`, `Frames`, `Commutes`, `Reg`, which `{}` proves), hence the macro -/
macro "tgt_law" : tactic => `(tactic| exact ⟨fun _ _ => rfl, fun _ _ _ => rfl, fun _ _ => rfl, fun _ _ => rfl, fun _ _ => rfl,
  fun _ _ _ => rfl, fun _ _ _ => rfl, fun _ _ _ _ => rfl⟩)

/-- the laws as far as they hold on the states `G` (a cell `reg[i]` reads back what was stored while `i` is in range) -/
structure Tgt.LawfulOn {σ : Type} (L : Cursor σ) (T : Tgt σ) (pre : σ → σ) (G : σ → Prop) : Prop where
  get_set : ∀ s v, G s → T.get (T.set s v) = v
  pre_ok : ∀ s, G s → pre s = s
  G_set : ∀ s v, G s → G (T.set s v)
  G_setPos : ∀ s i, G s → G (L.setPos s i)
  G_chk : ∀ (s : σ) (c : Prop) [Decidable c], G s → G (L.chk s c)
  set_set : ∀ s a b, T.set (T.set s a) b = T.set s b
  pos_set : ∀ s v, L.pos (T.set s v) = L.pos s
  buf_set : ∀ s v, L.buf (T.set s v) = L.buf s
  get_chk : ∀ (s : σ) (c : Prop) [Decidable c], T.get (L.chk s c) = T.get s
  setPos_set : ∀ s v i, L.setPos (T.set s v) i = T.set (L.setPos s i) v
  chk_set : ∀ (s : σ) (v : Int) (c : Prop) [Decidable c], L.chk (T.set s v) c = T.set (L.chk s c) v

theorem Tgt.Lawful.on {σ : Type} {L : Cursor σ} {T : Tgt σ} (h : T.Lawful L) : T.LawfulOn L id (fun _ => True) :=
  ⟨fun s v _ => h.get_set s v, fun _ _ => rfl, fun _ _ _ => trivial, fun _ _ _ => trivial, fun _ _ _ _ => trivial, h.set_set, h.pos_set,
    h.buf_set, h.get_chk, h.setPos_set, h.chk_set⟩

def Tgt.cell {σ : Type} (idx : σ → Int) (reg : σ → List Int) (setreg : σ → List Int → σ) : Tgt σ :=
  ⟨cellOf idx reg, fun s v => setreg s ((reg s).set (Int.toNat (idx s)) v)⟩

structure Cursor.Reg {σ : Type} (L : Cursor σ) (idx : σ → Int) (reg : σ → List Int) (setreg : σ → List Int → σ) : Prop where
  reg_set : ∀ s l, reg (setreg s l) = l := by intros; rfl
  idx_set : ∀ s l, idx (setreg s l) = idx s := by intros; rfl
  set_set : ∀ s a b, setreg (setreg s a) b = setreg s b := by intros; rfl
  pos_set : ∀ s l, L.pos (setreg s l) = L.pos s := by intros; rfl
  buf_set : ∀ s l, L.buf (setreg s l) = L.buf s := by intros; rfl
  idx_setPos : ∀ s i, idx (L.setPos s i) = idx s := by intros; rfl
  reg_setPos : ∀ s i, reg (L.setPos s i) = reg s := by intros; rfl
  idx_chk : ∀ (s : σ) (c : Prop) [Decidable c], idx (L.chk s c) = idx s := by intros; rfl
  reg_chk : ∀ (s : σ) (c : Prop) [Decidable c], reg (L.chk s c) = reg s := by intros; rfl
  setPos_set : ∀ s l i, L.setPos (setreg s l) i = setreg (L.setPos s i) l := by intros; rfl
  chk_set : ∀ (s : σ) (l : List Int) (c : Prop) [Decidable c], L.chk (setreg s l) c = setreg (L.chk s c) l := by intros; rfl

theorem Cursor.Reg.on {σ : Type} {L : Cursor σ} (hL : L.Lawful) {idx : σ → Int} {reg : σ → List Int} {setreg : σ → List Int → σ}
    (h : L.Reg idx reg setreg) (k : Nat) :
    (Tgt.cell idx reg setreg).LawfulOn L (idxchk L idx reg) (fun t => idx t = k ∧ k < (reg t).length) where
  get_set := fun s v hg => by
    simp only [Tgt.cell, cellOf, h.reg_set, h.idx_set, hg.1, Int.toNat_natCast, List.getD_eq_getElem?_getD, List.getElem?_set_self hg.2, Option.getD_some]
  pre_ok := fun s hg => hL.chk_true s _ (by rw [hg.1]; omega)
  G_set := fun s v hg => by simp only [Tgt.cell, h.reg_set, h.idx_set, List.length_set]; exact hg
  G_setPos := fun s i hg => by rw [h.idx_setPos, h.reg_setPos]; exact hg
  G_chk := fun s c _ hg => by rw [h.idx_chk, h.reg_chk]; exact hg
  set_set := fun s a b => by simp only [Tgt.cell, h.reg_set, h.idx_set, h.set_set, List.set_set]
  pos_set := fun s v => h.pos_set _ _
  buf_set := fun s v => h.buf_set _ _
  get_chk := fun s c _ => by simp only [Tgt.cell, cellOf, h.idx_chk, h.reg_chk]
  setPos_set := fun s v i => by simp only [Tgt.cell, h.setPos_set, h.idx_setPos, h.reg_setPos]
  chk_set := fun s v c _ => by simp only [Tgt.cell, h.chk_set, h.idx_chk, h.reg_chk]

section readers
variable {σ : Type} (L : Cursor σ) (T : Tgt σ)

def cellAt (buf : List Int) (p : Int) (k : Nat) : Int := (buf.getD (Int.toNat (p + k)) 0) % 256

def val16 (buf : List Int) (p : Int) : Int := cellAt buf p 0 * 256 + cellAt buf p 1

def val32 (buf : List Int) (p : Int) : Int :=
  cellAt buf p 0 * 16777216 + cellAt buf p 1 * 65536 + cellAt buf p 2 * 256 + cellAt buf p 3

/-- what every reader macro does: ONE bounds check for its `w` bytes, the cursor moved by `w`, the value stored in the target -/
def rd (s : σ) (w : Nat) (v : Int) : σ :=
  T.set (L.setPos (L.chk s (0 ≤ L.pos s ∧ L.pos s + w ≤ (L.buf s).length)) (L.pos s + w)) v

/-- one byte of a DECODE macro: bounds check, the macro's shift check `c`, `x = g x (*p)`, `p++` -/
def rbyte (c : Int → Prop) [DecidablePred c] (g : Int → Int → Int) (s : σ) : σ :=
  have s : σ := L.chk s (0 ≤ L.pos s ∧ L.pos s < (L.buf s).length)
  have s : σ := L.chk s (c ((L.buf s).getD (Int.toNat (L.pos s)) 0))
  have s : σ := T.set s (g (T.get s) ((L.buf s).getD (Int.toNat (L.pos s)) 0))
  let e0 : Int := (L.pos s + 1)
  have s : σ := L.setPos s (e0)
  s

/-- the last byte of a DECODE macro (no shift) -/
def rbyte0 (g : Int → Int → Int) (s : σ) : σ :=
  have s : σ := L.chk s (0 ≤ L.pos s ∧ L.pos s < (L.buf s).length)
  have s : σ := T.set s (g (T.get s) ((L.buf s).getD (Int.toNat (L.pos s)) 0))
  let e0 : Int := (L.pos s + 1)
  have s : σ := L.setPos s (e0)
  s

/-- `UINT16DECODE(p, x)` -/
def dec16u (s : σ) : σ :=
  have s : σ := rbyte L T (fun b => (0 : Int) ≤ andS b 255 ∧ (0 : Int) ≤ 8 ∧ 8 < (32 : Int)) (fun _ b => (((andS b 255 * 2 ^ Int.toNat (8))) % 65536)) s
  have s : σ := rbyte0 L T (fun t b => ((orS t (((andS b 255) % 65536))) % 65536)) s
  s

/-- `UINT32DECODE(p, x)` -/
def dec32u (s : σ) : σ :=
  have s : σ := rbyte L T (fun b => (0 : Int) ≤ ((andS b 255) % 4294967296) ∧ (0 : Int) ≤ 24 ∧ 24 < (32 : Int))
    (fun _ b => (((((andS b 255) % 4294967296) * 2 ^ Int.toNat (24))) % 4294967296)) s
  have s : σ := rbyte L T (fun b => (0 : Int) ≤ ((andS b 255) % 4294967296) ∧ (0 : Int) ≤ 16 ∧ 16 < (32 : Int))
    (fun t b => orU t (((((andS b 255) % 4294967296) * 2 ^ Int.toNat (16))) % 4294967296)) s
  have s : σ := rbyte L T (fun b => (0 : Int) ≤ ((andS b 255) % 4294967296) ∧ (0 : Int) ≤ 8 ∧ 8 < (32 : Int))
    (fun t b => orU t (((((andS b 255) % 4294967296) * 2 ^ Int.toNat (8))) % 4294967296)) s
  have s : σ := rbyte0 L T (fun t b => orU t ((andS b 255) % 4294967296)) s
  s

/-- `INT32DECODE(p, x)` -/
def dec32s (s : σ) : σ :=
  have s : σ := rbyte L T (fun b => (0 : Int) ≤ andU b ((255) % 4294967296) ∧ (0 : Int) ≤ 24 ∧ 24 < (32 : Int))
    (fun _ b => wrapS32 (orU ((wrapS32 (if (andS b 128 ≠ 0) then (((-(4294967295) - 1)) % 18446744073709551616) else 0)) % 4294967296) (((andU b ((255) % 4294967296) * 2 ^ Int.toNat (24))) % 4294967296))) s
  have s : σ := rbyte L T (fun b => (0 : Int) ≤ andS b 255 ∧ (0 : Int) ≤ 16 ∧ 16 < (32 : Int)) (fun t b => orS t ((andS b 255 * 2 ^ Int.toNat (16)))) s
  have s : σ := rbyte L T (fun b => (0 : Int) ≤ andS b 255 ∧ (0 : Int) ≤ 8 ∧ 8 < (32 : Int)) (fun t b => orS t ((andS b 255 * 2 ^ Int.toNat (8)))) s
  have s : σ := rbyte0 L T (fun t b => orS t (andS b 255)) s
  s

/-- `INT16DECODE(p, x)` -/
def dec16s (s : σ) : σ :=
  have s : σ := rbyte L T (fun b => (0 : Int) ≤ wrapS16 (andS b 255) ∧ (0 : Int) ≤ 8 ∧ 8 < (32 : Int))
    (fun _ b => wrapS16 (orS (wrapS16 (if (andS b 128 ≠ 0) then (-(65535) - 1) else 0)) ((wrapS16 (andS b 255) * 2 ^ Int.toNat (8))))) s
  have s : σ := rbyte0 L T (fun t b => wrapS16 (orS t (wrapS16 (andS b 255)))) s
  s

/-- `x = *p++;` -/
def dbyte (s : σ) : σ :=
  have s : σ := L.chk s (0 ≤ L.pos s ∧ L.pos s < (L.buf s).length)
  let v0 : Int := ((L.buf s).getD (Int.toNat (L.pos s)) 0)
  let e0 : Int := (L.pos s + 1)
  have s : σ := T.set s (v0)
  have s : σ := L.setPos s (e0)
  s

/-! The same macros behind a check `pre` before each access of the target (`reg[i]`).  The macros above are the case `pre = id`, written out:
    defined as that case, the kernel's check of the restatement of a translated function is several times as slow. -/

def rbyteP (pre : σ → σ) (c : Int → Prop) [DecidablePred c] (g : Int → Int → Int) (s : σ) : σ :=
  have s : σ := L.chk s (0 ≤ L.pos s ∧ L.pos s < (L.buf s).length)
  have s : σ := L.chk s (c ((L.buf s).getD (Int.toNat (L.pos s)) 0))
  have s : σ := pre s
  have s : σ := T.set s (g (T.get s) ((L.buf s).getD (Int.toNat (L.pos s)) 0))
  let e0 : Int := (L.pos s + 1)
  have s : σ := L.setPos s (e0)
  s

def rbyte0P (pre : σ → σ) (g : Int → Int → Int) (s : σ) : σ :=
  have s : σ := L.chk s (0 ≤ L.pos s ∧ L.pos s < (L.buf s).length)
  have s : σ := pre s
  have s : σ := T.set s (g (T.get s) ((L.buf s).getD (Int.toNat (L.pos s)) 0))
  let e0 : Int := (L.pos s + 1)
  have s : σ := L.setPos s (e0)
  s

/-- `UINT16DECODE(p, reg[i])` -/
def dec16uP (pre : σ → σ) (s : σ) : σ :=
  have s : σ := rbyteP L T pre (fun b => (0 : Int) ≤ andS b 255 ∧ (0 : Int) ≤ 8 ∧ 8 < (32 : Int)) (fun _ b => (((andS b 255 * 2 ^ Int.toNat (8))) % 65536)) s
  have s : σ := rbyte0P L T pre (fun t b => ((orS t (((andS b 255) % 65536))) % 65536)) s
  s

/-- `INT16DECODE(p, reg[i])` -/
def dec16sP (pre : σ → σ) (s : σ) : σ :=
  have s : σ := rbyteP L T pre (fun b => (0 : Int) ≤ wrapS16 (andS b 255) ∧ (0 : Int) ≤ 8 ∧ 8 < (32 : Int))
    (fun _ b => wrapS16 (orS (wrapS16 (if (andS b 128 ≠ 0) then (-(65535) - 1) else 0)) ((wrapS16 (andS b 255) * 2 ^ Int.toNat (8))))) s
  have s : σ := rbyte0P L T pre (fun t b => wrapS16 (orS t (wrapS16 (andS b 255)))) s
  s

/-- `INT32DECODE(p, reg[i])` -/
def dec32sP (pre : σ → σ) (s : σ) : σ :=
  have s : σ := rbyteP L T pre (fun b => (0 : Int) ≤ andU b ((255) % 4294967296) ∧ (0 : Int) ≤ 24 ∧ 24 < (32 : Int))
    (fun _ b => wrapS32 (orU ((wrapS32 (if (andS b 128 ≠ 0) then (((-(4294967295) - 1)) % 18446744073709551616) else 0)) % 4294967296) (((andU b ((255) % 4294967296) * 2 ^ Int.toNat (24))) % 4294967296))) s
  have s : σ := rbyteP L T pre (fun b => (0 : Int) ≤ andS b 255 ∧ (0 : Int) ≤ 16 ∧ 16 < (32 : Int)) (fun t b => orS t ((andS b 255 * 2 ^ Int.toNat (16)))) s
  have s : σ := rbyteP L T pre (fun b => (0 : Int) ≤ andS b 255 ∧ (0 : Int) ≤ 8 ∧ 8 < (32 : Int)) (fun t b => orS t ((andS b 255 * 2 ^ Int.toNat (8)))) s
  have s : σ := rbyte0P L T pre (fun t b => orS t (andS b 255)) s
  s

end readers

section reader_eqs
variable {σ : Type} {L : Cursor σ} {T : Tgt σ} (hL : L.Lawful)
include hL

theorem rd_ok (s : σ) (w : Nat) (v : Int) (k : Nat) (hp : L.pos s = k) (hb : k + w ≤ (L.buf s).length) :
    rd L T s w v = T.set (L.setPos s ((k + w : Nat) : Int)) v := by
  rw [rd, hL.chk_true s _ (by omega), hp]
  rfl

omit hL in
theorem pos_rd (hT : T.Lawful L) (hL : L.Lawful) (s : σ) (w : Nat) (v : Int) : L.pos (rd L T s w v) = L.pos s + w := by
  rw [rd, hT.pos_set, hL.pos_setPos]

omit hL in
theorem buf_rd (hT : T.Lawful L) (hL : L.Lawful) (s : σ) (w : Nat) (v : Int) : L.buf (rd L T s w v) = L.buf s := by
  rw [rd, hT.buf_set, hL.buf_setPos, hL.buf_chk]

omit hL in
theorem get_rd (hT : T.Lawful L) (s : σ) (w : Nat) (v : Int) : T.get (rd L T s w v) = v := hT.get_set _ _

omit hL in
theorem frames_rd {α : Sort u} {x : σ → α} (hx : L.Frames x) (hxT : ∀ t v, x (T.set t v) = x t) (s : σ) (w : Nat) (v : Int) :
    x (rd L T s w v) = x s := by
  rw [rd, hxT, hx.setPos, hx.chk]

omit hL in
theorem ub_rd {setUb : σ → Bool → σ} (hP : L.Plain setUb) (hub : ∀ t v, L.ub (T.set t v) = L.ub t) (s : σ) (w : Nat) (v : Int) :
    L.ub (rd L T s w v) = (L.ub s || !decide (0 ≤ L.pos s ∧ L.pos s + w ≤ (L.buf s).length)) := by
  rw [rd, hub, hP.ub_setPos, hP.chk_eq, hP.ub_setUb]

section on
variable {pre : σ → σ} {G : σ → Prop} (hG : T.LawfulOn L pre G)
include hG

/-- where there is room, in the order of the C text: the value is stored, then the cursor moves -/
theorem rd_eq (s : σ) (w : Nat) (v : Int) (k : Nat) (hp : L.pos s = k) (hb : k + w ≤ (L.buf s).length) :
    rd L T s w v = L.setPos (T.set s v) ((k + w : Nat) : Int) := by
  rw [rd_ok hL s w v k hp hb, hG.setPos_set]

theorem rbyteP_first (c : Int → Prop) [DecidablePred c] (hc : ∀ b, c b) (g : Int → Int → Int) (s : σ) (hg : G s) :
    rbyteP L T pre c g s = rd L T s 1 (g (T.get s) ((L.buf s).getD (Int.toNat (L.pos s)) 0)) := by
  simp only [rbyteP, hL.chk_true _ _ (hc _)]
  rw [hG.pre_ok _ (hG.G_chk _ _ hg)]
  simp only [hL.buf_chk, hL.pos_chk, hG.pos_set, hG.get_chk, hG.setPos_set]
  unfold rd
  rw [hL.chk_congr s _ (0 ≤ L.pos s ∧ L.pos s + ((1 : Nat) : Int) ≤ ↑(L.buf s).length) (by omega)]
  rfl

theorem rbyte0P_first (g : Int → Int → Int) (s : σ) (hg : G s) :
    rbyte0P L T pre g s = rd L T s 1 (g (T.get s) ((L.buf s).getD (Int.toNat (L.pos s)) 0)) := by
  simp only [rbyte0P]
  rw [hG.pre_ok _ (hG.G_chk _ _ hg)]
  simp only [hL.buf_chk, hL.pos_chk, hG.pos_set, hG.get_chk, hG.setPos_set]
  unfold rd
  rw [hL.chk_congr s _ (0 ≤ L.pos s ∧ L.pos s + ((1 : Nat) : Int) ≤ ↑(L.buf s).length) (by omega)]
  rfl

omit hL in
theorem G_rd (s : σ) (w : Nat) (v : Int) (hg : G s) : G (rd L T s w v) := hG.G_set _ _ (hG.G_setPos _ _ (hG.G_chk _ _ hg))

theorem rbyte0P_rd (g : Int → Int → Int) (s : σ) (w : Nat) (v : Int) (hg : G s) :
    rbyte0P L T pre g (rd L T s w v) = rd L T s (w + 1) (g v ((L.buf s).getD (Int.toNat (L.pos s + w)) 0)) := by
  simp only [rbyte0P]
  rw [hG.pre_ok _ (hG.G_chk _ _ (G_rd (L := L) hG s w v hg))]
  simp only [rd, hL.buf_chk, hL.buf_setPos, hL.pos_setPos, hG.pos_set, hG.buf_set, hG.get_set _ _ (hG.G_setPos _ _ (hG.G_chk _ _ hg)),
    hG.chk_set, hL.chk_setPos, hL.chk_and, hG.setPos_set, hL.setPos_setPos, hG.set_set]
  rw [hL.chk_congr s _ (0 ≤ L.pos s ∧ L.pos s + ((w + 1 : Nat) : Int) ≤ ↑(L.buf s).length) (by omega)]
  rw [show L.pos s + (w : Int) + 1 = L.pos s + ((w + 1 : Nat) : Int) by omega]

theorem rbyteP_rd (c : Int → Prop) [DecidablePred c] (hc : ∀ b, c b) (g : Int → Int → Int) (s : σ) (w : Nat) (v : Int) (hg : G s) :
    rbyteP L T pre c g (rd L T s w v) = rd L T s (w + 1) (g v ((L.buf s).getD (Int.toNat (L.pos s + w)) 0)) := by
  have e : rbyteP L T pre c g (rd L T s w v) = rbyte0P L T pre g (rd L T s w v) := by
    simp only [rbyteP, rbyte0P, hL.chk_true _ _ (hc _)]
  rw [e, rbyte0P_rd hL hG g s w v hg]

theorem dec16uP_eq (s : σ) (hg : G s) : dec16uP L T pre s = rd L T s 2 (val16 (L.buf s) (L.pos s)) := by
  unfold dec16uP
  simp only []
  rw [rbyteP_first hL hG _ (fun b => ⟨andS_nonneg b, by decide⟩) _ s hg, rbyte0P_rd hL hG _ s 1 _ hg]
  simp only [dec16u_val, val16, cellAt, show ((0 : Nat) : Int) = 0 from rfl, show ((1 : Nat) : Int) = 1 from rfl, Int.add_zero]

theorem dec16sP_eq (s : σ) (hg : G s) : dec16sP L T pre s = rd L T s 2 (wrapS16 (val16 (L.buf s) (L.pos s))) := by
  unfold dec16sP
  simp only []
  rw [rbyteP_first hL hG _ (fun b => ⟨wrapS16_cell_nonneg b, by decide⟩) _ s hg, rbyte0P_rd hL hG _ s 1 _ hg]
  simp only [dec16s_val, val16, cellAt, show ((0 : Nat) : Int) = 0 from rfl, show ((1 : Nat) : Int) = 1 from rfl, Int.add_zero]

theorem dec32sP_eq (s : σ) (hg : G s) : dec32sP L T pre s = rd L T s 4 (wrapS32 (val32 (L.buf s) (L.pos s))) := by
  unfold dec32sP
  simp only []
  rw [rbyteP_first hL hG _ (fun b => ⟨andU_nonneg b, by decide⟩) _ s hg, rbyteP_rd hL hG _ (fun b => ⟨andS_nonneg b, by decide⟩) _ s 1 _ hg,
    rbyteP_rd hL hG _ (fun b => ⟨andS_nonneg b, by decide⟩) _ s 2 _ hg, rbyte0P_rd hL hG _ s 3 _ hg]
  simp only [dec32s_val, val32, cellAt, show ((0 : Nat) : Int) = 0 from rfl, show ((1 : Nat) : Int) = 1 from rfl,
    show ((2 : Nat) : Int) = 2 from rfl, show ((3 : Nat) : Int) = 3 from rfl, Int.add_zero]

end on

variable (hT : T.Lawful L)
include hT

theorem rbyte_first (c : Int → Prop) [DecidablePred c] (hc : ∀ b, c b) (g : Int → Int → Int) (s : σ) :
    rbyte L T c g s = rd L T s 1 (g (T.get s) ((L.buf s).getD (Int.toNat (L.pos s)) 0)) :=
  rbyteP_first hL hT.on c hc g s trivial

theorem rbyte0_first (g : Int → Int → Int) (s : σ) :
    rbyte0 L T g s = rd L T s 1 (g (T.get s) ((L.buf s).getD (Int.toNat (L.pos s)) 0)) :=
  rbyte0P_first hL hT.on g s trivial

theorem rbyte0_rd (g : Int → Int → Int) (s : σ) (w : Nat) (v : Int) :
    rbyte0 L T g (rd L T s w v) = rd L T s (w + 1) (g v ((L.buf s).getD (Int.toNat (L.pos s + w)) 0)) :=
  rbyte0P_rd hL hT.on g s w v trivial

theorem rbyte_rd (c : Int → Prop) [DecidablePred c] (hc : ∀ b, c b) (g : Int → Int → Int) (s : σ) (w : Nat) (v : Int) :
    rbyte L T c g (rd L T s w v) = rd L T s (w + 1) (g v ((L.buf s).getD (Int.toNat (L.pos s + w)) 0)) :=
  rbyteP_rd hL hT.on c hc g s w v trivial

theorem dec16u_eq (s : σ) : dec16u L T s = rd L T s 2 (val16 (L.buf s) (L.pos s)) := dec16uP_eq hL hT.on s trivial

theorem dec16s_eq (s : σ) : dec16s L T s = rd L T s 2 (wrapS16 (val16 (L.buf s) (L.pos s))) := dec16sP_eq hL hT.on s trivial

theorem dec32s_eq (s : σ) : dec32s L T s = rd L T s 4 (wrapS32 (val32 (L.buf s) (L.pos s))) := dec32sP_eq hL hT.on s trivial

theorem dec32u_eq (s : σ) : dec32u L T s = rd L T s 4 (val32 (L.buf s) (L.pos s)) := by
  unfold dec32u
  simp only []
  rw [rbyte_first hL hT _ (fun b => ⟨Int.emod_nonneg _ (by decide), by decide⟩) _ s, rbyte_rd hL hT _ (fun b => ⟨Int.emod_nonneg _ (by decide), by decide⟩) _ s 1 _,
    rbyte_rd hL hT _ (fun b => ⟨Int.emod_nonneg _ (by decide), by decide⟩) _ s 2 _, rbyte0_rd hL hT _ s 3 _]
  simp only [dec32u_val, val32, cellAt, show ((0 : Nat) : Int) = 0 from rfl, show ((1 : Nat) : Int) = 1 from rfl,
    show ((2 : Nat) : Int) = 2 from rfl, show ((3 : Nat) : Int) = 3 from rfl, Int.add_zero]

/-- `x = *p++` stores the CELL (not reduced modulo 256: the cells of a `uint8` region are bytes) -/
theorem dbyte_eq (s : σ) : dbyte L T s = rd L T s 1 ((L.buf s).getD (Int.toNat (L.pos s)) 0) := by
  simp only [dbyte, hL.buf_chk, hL.pos_chk, hT.setPos_set]
  unfold rd
  rw [hL.chk_congr s _ (0 ≤ L.pos s ∧ L.pos s + ((1 : Nat) : Int) ≤ ↑(L.buf s).length) (by omega)]
  rfl

end reader_eqs

/-! ### over any cursor, for the function files that store a `uint16` array cell by cell -/

/-- `(uintn)x` / `(uint32)x` as an operand -/
def castU32 {σ : Type} (x : σ → Int) (s : σ) : Int := x s % 4294967296

theorem Cursor.Frames.castU32 {σ : Type} {L : Cursor σ} {x : σ → Int} (hx : L.Frames x) : L.Frames (castU32 x) := hx.comp (· % 4294967296)

/-- `UINT16ENCODE(p, reg[idx])` behind `a` -/
theorem cell16_wr {σ : Type} {L : Cursor σ} (hL : L.LawfulW) {idx : σ → Int} {reg : σ → List Int} (hidx : L.Frames idx) (hreg : L.Frames reg)
    {α} (l : List α) (g : α → Nat) (pad : List Int) (s : σ) (a : List Int) (e : reg s = ints (l.map g) ++ pad) (k : Nat) (hi : idx s = k)
    (hk : k < l.length) :
    wr16N L (idxchk L idx reg) (cellOf idx reg) (cellOf idx reg) 255 (wr L s a) = wr L s (a ++ be16I (g l[k] : Int)) := by
  have hc := cellOf_ints (idx := idx) (reg := reg) s l g pad e k hi hk
  have hf : L.Frames (cellOf idx reg) := .cellOf hidx hreg
  exact wr16N_at hL hidx hreg hf hf s a k hi (by rw [e]; simp [ints]; omega) _ hc hc (by omega) rfl

end H4.C2L
