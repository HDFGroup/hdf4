import H4.Lemmas.ElemWorld
import H4.Lemmas.ElemConvert
/-! One call of the model against the byte-array specification (`specStep`): what is proved of a call (`ResOK`, `StepSim`),
    the effect of a call on the view (`Eff`), and the lemmas that lift a step of one file to the world. -/
namespace H4.Elem
open H4.Gen.Hdf

def StepOK (w : World) (op : Op) : Prop :=
  WFW (step w op).1 ∧ ∃ v', specStep (abs w) op (step w op).2 = some v' ∧ v'.Eqv (abs (step w op).1)

theorem Eqv.refl (v : View) : v.Eqv v := ⟨fun _ => rfl, fun _ _ _ => rfl, fun _ => rfl⟩

/-- an outcome of `op` in `w` that a forward simulation accepts.  Stated for every view that agrees with `w`, not for `abs w` alone:
    steps chain without a congruence property of `specStep`. -/
def ResOK (w : World) (op : Op) (r : World × Res) : Prop :=
  WFW r.1 ∧ ∀ v : View, v.Eqv (abs w) → ∃ v', specStep v op r.2 = some v' ∧ v'.Eqv (abs r.1)

def StepSim (w : World) (op : Op) : Prop := ResOK w op (step w op)

theorem StepSim.stepOK {w : World} {op : Op} (s : StepSim w op) : StepOK w op := ⟨s.1, s.2 _ (Eqv.refl _)⟩

theorem ResOK.fail {w : World} (hw : WFW w) (op : Op) : ResOK w op (w, .fail) :=
  ⟨hw, fun v hv => ⟨v, by cases op <;> rfl, hv⟩⟩

theorem ResOK.of_fail {w : World} (hw : WFW w) {op : Op} {r : World × Res} (h : r = (w, .fail)) : ResOK w op r :=
  h ▸ ResOK.fail hw op

theorem abs_hnd (w : World) (h : Nat) :
    (abs w).hnd h = (w.acc h).map fun a => { file := a.file, key := (w.file a.file).keyOf a.slot, pos := a.posn } := rfl

theorem abs_elem (w : World) (fi : Nat) (k : Nat × Nat) : (abs w).elem fi k = (w.file fi).elem k.1 k.2 := rfl

theorem WFH.transfer {w w' : World} {a : Acc} (h : WFH w a)
    (ht : ((w'.file a.file).dd a.slot).tag = ((w.file a.file).dd a.slot).tag)
    (hr : ((w'.file a.file).dd a.slot).ref = ((w.file a.file).dd a.slot).ref)
    (he : ((w'.file a.file).dd a.slot).ext = none → ((w.file a.file).dd a.slot).ext = none) : WFH w' a := by
  refine ⟨?_, ?_, ?_, ?_, h.special_new, h.blk⟩
  · unfold File.live; rw [ht]; exact h.live
  · unfold File.keyOf; rw [ht, hr]; exact h.user
  · rw [ht]; exact h.special_iff
  · intro hs hx; exact h.new_of_none hs (he hx)

theorem Eqv.trans {a b c : View} (h1 : a.Eqv b) (h2 : b.Eqv c) : a.Eqv c :=
  ⟨fun fi => (h1.1 fi).trans (h2.1 fi), fun fi k hu => (h1.2.1 fi k hu).trans (h2.2.1 fi k hu), fun h => (h1.2.2 h).trans (h2.2.2 h)⟩

theorem Eqv.symm {a b : View} (h : a.Eqv b) : b.Eqv a :=
  ⟨fun fi => (h.1 fi).symm, fun fi k hu => (h.2.1 fi k hu).symm, fun x => (h.2.2 x).symm⟩

theorem setElem_same (v : View) (fi : Nat) (k : Nat × Nat) (x : Option (Option Bytes)) (h : v.elem fi k = x) :
    (v.setElem fi k x).Eqv v := by
  refine ⟨fun _ => rfl, ?_, fun _ => rfl⟩
  intro j k' _
  simp only [View.setElem]
  by_cases c : j = fi ∧ k' = k
  · simp only [c, and_self, if_true]; rw [← h]
  · simp [c]

theorem setHnd_same (v : View) (h : Nat) (y : Option HView) (e : v.hnd h = y) : (v.setHnd h y).Eqv v := by
  refine ⟨fun _ => rfl, fun _ _ _ => rfl, ?_⟩
  intro h'
  simp only [View.setHnd]
  split
  · rename_i c; rw [c, e]
  · rfl

theorem Eqv.setHnd {v v' : View} (e : v.Eqv v') (h : Nat) (y : Option HView) : (v.setHnd h y).Eqv (v'.setHnd h y) := by
  refine ⟨e.1, e.2.1, ?_⟩
  intro h'
  simp only [View.setHnd]
  split
  · rfl
  · exact e.2.2 h'

theorem Eqv.setElem {v v' : View} (e : v.Eqv v') (fi : Nat) (k : Nat × Nat) (x : Option (Option Bytes)) :
    (v.setElem fi k x).Eqv (v'.setElem fi k x) := by
  refine ⟨e.1, ?_, e.2.2⟩
  intro j k' hu
  simp only [View.setElem]
  split
  · rfl
  · exact e.2.1 j k' hu

theorem Eqv.overwrite {v v1 : View} {fi : Nat} {k : Nat × Nat} {x0 : Option (Option Bytes)} {h : Nat} {y0 : Option HView}
    (e : v1.Eqv ((v.setElem fi k x0).setHnd h y0)) (X : Option (Option Bytes)) (Y : Option HView) :
    ((v1.setElem fi k X).setHnd h Y).Eqv ((v.setElem fi k X).setHnd h Y) := by
  refine ⟨fun j => e.1 j, ?_, ?_⟩
  · intro j k' hu
    have := e.2.1 j k' hu
    simp only [View.setHnd, View.setElem] at this ⊢
    by_cases c : j = fi ∧ k' = k
    · simp [c]
    · simp only [c, if_false] at this ⊢; exact this
  · intro h'
    have := e.2.2 h'
    simp only [View.setHnd, View.setElem] at this ⊢
    by_cases c : h' = h
    · simp [c]
    · simp only [c, if_false] at this ⊢; exact this

theorem WFH.same {w : World} {a a' : Acc} (hh : WFH w a) (e1 : a'.file = a.file) (e2 : a'.slot = a.slot)
    (e4 : a'.special = a.special) (e5 : a'.newElem = a.newElem) (e6 : 1 ≤ a'.blockSize ∧ 1 ≤ a'.numBlocks) : WFH w a' := by
  refine ⟨?_, ?_, ?_, ?_, ?_, e6⟩
  · rw [e1, e2]; exact hh.live
  · rw [e1, e2]; exact hh.user
  · rw [e1, e2, e4]; exact hh.special_iff
  · rw [e1, e2, e4, e5]; exact hh.new_of_none
  · rw [e4, e5]; exact hh.special_new

theorem WFH.tag_special {w : World} {a : Acc} (hh : WFH w a) {b : Bool} (hs : a.special = b) :
    isSpecial ((w.file a.file).dd a.slot).tag = b := hh.special_iff.symm.trans hs

theorem WFH.plain_of_new {w : World} {a : Acc} (hh : WFH w a) (hn : a.newElem = true) : a.special = false := by
  cases hs : a.special with
  | false => rfl
  | true => have := hh.special_new hs; rw [hn] at this; cases this

theorem WFH.congr {w w' : World} {a : Acc} (h : WFH w a) (e : w'.file a.file = w.file a.file) : WFH w' a :=
  ⟨by rw [e]; exact h.live, by rw [e]; exact h.user, by rw [e]; exact h.special_iff, by rw [e]; exact h.new_of_none,
    h.special_new, h.blk⟩

theorem WFW.setAcc {w : World} (hw : WFW w) (h : Nat) (a' : Acc) (hH : WFH w a') : WFW (w.setAcc h a') := by
  refine ⟨hw.files, hw.coh, ?_⟩
  intro h' a'' ha''
  rw [acc_setAcc] at ha''
  have : WFH w a'' := by
    split at ha''
    · cases ha''; exact hH
    · exact hw.handles h' a'' ha''
  exact this.congr rfl

theorem abs_setAcc (w : World) (h : Nat) (a a' : Acc) (e1 : a'.file = a.file) (e2 : a'.slot = a.slot) :
    ((abs w).setHnd h (some { file := a.file, key := (w.file a.file).keyOf a.slot, pos := a'.posn })).Eqv (abs (w.setAcc h a')) := by
  refine ⟨fun _ => rfl, fun _ _ _ => rfl, ?_⟩
  intro h'
  simp only [View.setHnd, abs_hnd, acc_setAcc]
  by_cases e : h' = h
  · simp [e, file_setAcc, e1, e2]
  · simp [e, file_setAcc]

theorem abs_setAcc_same (w : World) (h : Nat) (a a' : Acc) (ha : w.acc h = some a) (e1 : a'.file = a.file) (e2 : a'.slot = a.slot)
    (e3 : a'.posn = a.posn) : (abs w).Eqv (abs (w.setAcc h a')) :=
  Eqv.trans (Eqv.symm (setHnd_same _ h _ (by rw [abs_hnd, ha, e3]; rfl))) (abs_setAcc w h a a' e1 e2)

/-- the model's text spells the key of a record `Acc.key`, the specification `File.keyOf`: the same pair -/
theorem acc_key_eq (a : Acc) (f : File) : a.key f = f.keyOf a.slot := rfl

theorem handle_elem (w : World) (hw : WFW w) (h : Nat) (a : Acc) (ha : w.acc h = some a) :
    (abs w).elem a.file ((w.file a.file).keyOf a.slot) = some ((w.file a.file).slotBytes a.slot) := by
  rw [abs_elem]
  exact elem_keyOf _ (hw.files a.file).toWFF _ (hw.handles h a ha).live

theorem Eqv.reads {v : View} {w : World} (hv : v.Eqv (abs w)) (hw : WFW w) {h : Nat} {a : Acc} (ha : w.acc h = some a) :
    v.hnd h = some { file := a.file, key := (w.file a.file).keyOf a.slot, pos := a.posn } ∧
    v.elem a.file ((w.file a.file).keyOf a.slot) = some ((w.file a.file).slotBytes a.slot) :=
  ⟨by rw [hv.2.2 h, abs_hnd, ha]; rfl, by rw [hv.2.1 _ _ (hw.handles h a ha).user]; exact handle_elem w hw h a ha⟩

/-- `Hread`/`Hwrite`/`Hsetlength` after `HIrefresh_new` (every other call as it is) -/
def stepC (w : World) : Op → World × Res
  | .read h n => hreadCore w h n
  | .write h bs => hwriteCore w h bs
  | .setlength h len => hsetlengthCore w h len
  | op => step w op

/-- `NotLast w a` on the file and slot of `a` -/
abbrev File.notLast (f : File) (s : Nat) : Prop := ddLen (f.dd s) + ddOff (f.dd s) ≠ f.endOff

abbrev Acc.promotes (a : Acc) (f : File) (n : Nat) : Prop :=
  a.appendable = true ∧ (n : Int) + a.posn > ddLen (f.dd a.slot) ∧ f.notLast a.slot

def Fresh (w : World) (h : Nat) : Prop :=
  ∀ a, w.acc h = some a → a.newElem = true → a.special = false → ((w.file a.file).dd a.slot).ext = none

theorem refresh_newElem (a : Acc) (f : File) :
    ((a.refresh f).newElem = true → a.newElem = true ∧ (a.special = false → (f.dd a.slot).ext = none)) ∧
    (a.newElem = false → (a.refresh f).newElem = false) := by
  unfold Acc.refresh
  split
  · rename_i c
    exact ⟨fun hc => absurd (show false = true from hc) (by decide), fun _ => rfl⟩
  · rename_i c
    refine ⟨fun hn => ⟨hn, fun hs => ?_⟩, id⟩
    cases hx : (f.dd a.slot).ext with
    | none => rfl
    | some e => exact absurd ⟨hn, hs, by rw [hx]; exact fun c => by cases c⟩ c

theorem Acc.refresh_eq (a : Acc) (f : File) : a.refresh f = { a with newElem := (a.refresh f).newElem } := by
  unfold Acc.refresh; split <;> rfl

theorem refresh_none (w : World) (h : Nat) (ha : w.acc h = none) : w.refresh h = w := by
  unfold World.refresh; rw [ha]

/-- `HIrefresh_new` on a well-formed world -/
structure Refreshed (w : World) (h : Nat) : Prop where
  wfw : WFW (w.refresh h)
  view : abs (w.refresh h) = abs w
  fresh : Fresh (w.refresh h) h
  others : ∀ h', h' ≠ h → (w.refresh h).acc h' = w.acc h'

theorem refresh_spec (w : World) (hw : WFW w) (h : Nat) : Refreshed w h := by
  suffices h3 : WFW (w.refresh h) ∧ abs (w.refresh h) = abs w ∧ Fresh (w.refresh h) h ∧
      ∀ h', h' ≠ h → (w.refresh h).acc h' = w.acc h' from ⟨h3.1, h3.2.1, h3.2.2.1, h3.2.2.2⟩
  have hdec : w.acc h = none ∨ ∃ a, w.acc h = some a := by cases w.acc h <;> simp
  rcases hdec with ha | ⟨a, ha⟩
  · rw [refresh_none w h ha]
    refine ⟨hw, rfl, ?_, fun _ _ => rfl⟩
    intro a ha'; rw [ha] at ha'; cases ha'
  · obtain ⟨r9, r10⟩ := refresh_newElem a (w.file a.file)
    have hh := hw.handles h a ha
    by_cases hsame : a.refresh (w.file a.file) = a
    · have e : w.refresh h = w := by unfold World.refresh; rw [ha]; simp only; rw [if_pos hsame]
      rw [e]
      refine ⟨hw, rfl, ?_, fun _ _ => rfl⟩
      intro a' ha' hn hs
      rw [ha] at ha'; cases ha'
      rw [← hsame] at hn
      exact (r9 hn).2 hs
    · have e : w.refresh h = w.setAcc h (a.refresh (w.file a.file)) := by
        unfold World.refresh; rw [ha]; simp only; rw [if_neg hsame]
      rw [e]
      refine ⟨hw.setAcc h _ ⟨?_, ?_, ?_, ?_, ?_, ?_⟩, ?_, ?_, ?_⟩
      · rw [Acc.refresh_eq]; exact hh.live
      · rw [Acc.refresh_eq]; exact hh.user
      · rw [Acc.refresh_eq]; exact hh.special_iff
      · rw [Acc.refresh_eq]
        intro hs hx
        show (a.refresh (w.file a.file)).newElem = true
        unfold Acc.refresh
        rw [if_neg (fun c => c.2.2 hx)]
        exact hh.new_of_none hs hx
      · rw [Acc.refresh_eq]; intro hs; exact r10 (hh.special_new hs)
      · rw [Acc.refresh_eq]; exact hh.blk
      · -- the view does not see the flag
        show abs (w.setAcc h (a.refresh (w.file a.file))) = abs w
        unfold abs
        congr 1
        funext h'
        rw [acc_setAcc]
        by_cases c : h' = h
        · subst c
          simp only [if_true, ha, Option.map_some, file_setAcc]
          rw [Acc.refresh_eq]
        · simp only [c, if_false, file_setAcc]
      · intro a' ha' hn hs
        rw [acc_setAcc, if_pos rfl] at ha'
        simp only [Option.some.injEq] at ha'
        subst ha'
        show ((w.file (a.refresh (w.file a.file)).file).dd (a.refresh (w.file a.file)).slot).ext = none
        rw [Acc.refresh_eq] at hs ⊢
        exact (r9 hn).2 hs
      · intro h' hne
        rw [acc_setAcc, if_neg hne]

theorem alone_refresh {w : World} (hw : WFW w) {h : Nat} (hal : Alone w h) : Alone (w.refresh h) h := by
  have hacc := refresh_acc w h
  have hoth := (refresh_spec w hw h).others
  intro a0 ha0 h' a1 ha1 ef es
  by_cases e : h' = h
  · exact e
  · cases ha : w.acc h with
    | none => rw [refresh_none w h ha] at ha0; rw [ha] at ha0; cases ha0
    | some a =>
      rw [hacc a ha] at ha0
      simp only [Option.some.injEq] at ha0
      subst ha0
      rw [Acc.refresh_eq] at ef es
      rw [hoth h' e] at ha1
      exact hal a ha h' a1 ha1 ef es

theorem stepSim_of_core (w : World) (hw : WFW w) (h : Nat) (op : Op) (hop : step w op = stepC (w.refresh h) op)
    (hc : ResOK (w.refresh h) op (stepC (w.refresh h) op)) : StepSim w op := by
  have hv := (refresh_spec w hw h).view
  unfold StepSim
  unfold ResOK at hc ⊢
  rw [hop]
  rw [hv] at hc
  exact hc

theorem WFW.update {w : World} (hw : WFW w) (fi : Nat) (hfi : fi < w.files.length) (f' : File) (hE : WFE f') (hC : Coh f')
    (h : Nat) (a' : Acc) (haf : a'.file = fi)
    (hH : f'.live a'.slot ∧ UserKey (f'.keyOf a'.slot) ∧ a'.special = isSpecial (f'.dd a'.slot).tag ∧
      (a'.special = false → (f'.dd a'.slot).ext = none → a'.newElem = true) ∧ (a'.special = true → a'.newElem = false) ∧
      (1 ≤ a'.blockSize ∧ 1 ≤ a'.numBlocks))
    (hothers : ∀ h' a'', h' ≠ h → w.acc h' = some a'' → a''.file = fi →
      (f'.dd a''.slot).tag = ((w.file fi).dd a''.slot).tag ∧ (f'.dd a''.slot).ref = ((w.file fi).dd a''.slot).ref ∧
      ((f'.dd a''.slot).ext = none → ((w.file fi).dd a''.slot).ext = none)) :
    WFW ((w.setFile fi f').setAcc h a') := by
  have hfile := file_update w fi hfi f' h a'
  refine ⟨?_, ?_, ?_⟩
  · intro j; rw [hfile]; split
    · exact hE
    · exact hw.files j
  · intro j; rw [hfile]; split
    · exact hC
    · exact hw.coh j
  · intro h' a'' ha''
    rw [acc_setAcc, acc_setFile] at ha''
    by_cases e : h' = h
    · simp only [e, if_true, Option.some.injEq] at ha''
      subst ha''
      have hf : ((w.setFile fi f').setAcc h a').file a'.file = f' := by rw [hfile, haf]; simp
      exact ⟨by rw [hf]; exact hH.1, by rw [hf]; exact hH.2.1, by rw [hf]; exact hH.2.2.1, by rw [hf]; exact hH.2.2.2.1, hH.2.2.2.2.1, hH.2.2.2.2.2⟩
    · simp only [e, if_false] at ha''
      have hold := hw.handles h' a'' ha''
      by_cases ef : a''.file = fi
      · have hf : ((w.setFile fi f').setAcc h a').file a''.file = f' := by rw [hfile, ef]; simp
        obtain ⟨h1, h2, h3⟩ := hothers h' a'' e ha'' ef
        rw [← ef] at h1 h2 h3
        exact hold.transfer (by rw [hf]; exact h1) (by rw [hf]; exact h2) (by rw [hf]; exact h3)
      · have hf : ((w.setFile fi f').setAcc h a').file a''.file = w.file a''.file := by rw [hfile]; simp [ef]
        exact hold.transfer (by rw [hf]) (by rw [hf]) (by rw [hf]; exact id)

theorem abs_update {w : World} (fi : Nat) (hfi : fi < w.files.length) (f' : File)
    (h : Nat) (a' : Acc) (haf : a'.file = fi) (k : Nat × Nat) (x : Option (Option Bytes))
    (hpres : f'.present = (w.file fi).present)
    (hk : f'.elem k.1 k.2 = x)
    (hframe : ∀ k', UserKey k' → k' ≠ k → f'.elem k'.1 k'.2 = (w.file fi).elem k'.1 k'.2)
    (hkeys : ∀ h' a'', h' ≠ h → w.acc h' = some a'' → a''.file = fi → f'.keyOf a''.slot = (w.file fi).keyOf a''.slot) :
    (((abs w).setElem fi k x).setHnd h (some { file := fi, key := f'.keyOf a'.slot, pos := a'.posn })).Eqv
      (abs ((w.setFile fi f').setAcc h a')) := by
  have hfile := file_update w fi hfi f' h a'
  refine ⟨?_, ?_, ?_⟩
  · intro j
    show (w.file j).present = (((w.setFile fi f').setAcc h a').file j).present
    rw [hfile]; split
    · rename_i e; rw [e, hpres]
    · rfl
  · intro j k' hu
    show (if j = fi ∧ k' = k then x else (w.file j).elem k'.1 k'.2) = (((w.setFile fi f').setAcc h a').file j).elem k'.1 k'.2
    rw [hfile]
    by_cases ej : j = fi
    · by_cases ek : k' = k
      · simp only [ej, ek, and_self, if_true]; exact hk.symm
      · simp only [ej, ek, and_false, if_false, if_true]
        exact (hframe k' hu ek).symm
    · simp [ej]
  · intro h'
    simp only [View.setHnd, View.setElem, abs_hnd, acc_setAcc, acc_setFile]
    by_cases e : h' = h
    · simp only [e, if_true, Option.map_some]
      rw [hfile, haf]; simp
    · simp only [e, if_false]
      cases ha : w.acc h' with
      | none => rfl
      | some a'' =>
        simp only [Option.map_some]
        rw [hfile]
        by_cases ef : a''.file = fi
        · simp only [ef, if_true]
          rw [hkeys h' a'' e ha ef]
        · simp [ef]

theorem WFW.setFile {w : World} (hw : WFW w) (fi : Nat) (hfi : fi < w.files.length) (f' : File) (hE : WFE f') (hC : Coh f')
    (hkeep : ∀ h a, w.acc h = some a → a.file = fi → f'.dd a.slot = (w.file fi).dd a.slot) : WFW (w.setFile fi f') := by
  refine ⟨?_, ?_, ?_⟩
  · intro j; rw [file_setFile w fi j f' hfi]; split
    · exact hE
    · exact hw.files j
  · intro j; rw [file_setFile w fi j f' hfi]; split
    · exact hC
    · exact hw.coh j
  · intro h a ha
    rw [acc_setFile] at ha
    have hd : ((w.setFile fi f').file a.file).dd a.slot = (w.file a.file).dd a.slot := by
      rw [file_setFile w fi _ f' hfi]; split
      · rename_i e; rw [e]; exact hkeep h a ha e
      · rfl
    exact (hw.handles h a ha).transfer (by rw [hd]) (by rw [hd]) (by rw [hd]; exact id)

theorem abs_setFile {w : World} (fi : Nat) (hfi : fi < w.files.length) (f' : File)
    (hkeep : ∀ h a, w.acc h = some a → a.file = fi → f'.dd a.slot = (w.file fi).dd a.slot)
    (hpres : f'.present = (w.file fi).present) (hel : ∀ k, UserKey k → f'.elem k.1 k.2 = (w.file fi).elem k.1 k.2) :
    (abs w).Eqv (abs (w.setFile fi f')) := by
  refine ⟨?_, ?_, ?_⟩
  · intro j
    show (w.file j).present = ((w.setFile fi f').file j).present
    rw [file_setFile w fi j f' hfi]; split
    · rename_i c; rw [c, hpres]
    · rfl
  · intro j k hu
    show (w.file j).elem k.1 k.2 = ((w.setFile fi f').file j).elem k.1 k.2
    rw [file_setFile w fi j f' hfi]; split
    · rename_i c; rw [c, hel k hu]
    · rfl
  · intro h
    simp only [abs_hnd, acc_setFile]
    cases ha : w.acc h with
    | none => rfl
    | some a =>
      simp only [Option.map_some]
      rw [file_setFile w fi _ f' hfi]; split
      · rename_i e; rw [e, keyOf_eq (hkeep h a ha e)]
      · rfl

theorem abs_setFile_elem {w : World} (fi : Nat) (hfi : fi < w.files.length) (f' : File) (k : Nat × Nat) (x : Option (Option Bytes))
    (hpres : f'.present = (w.file fi).present) (hk : f'.elem k.1 k.2 = x)
    (hframe : ∀ k', UserKey k' → k' ≠ k → f'.elem k'.1 k'.2 = (w.file fi).elem k'.1 k'.2)
    (hkeys : ∀ h a, w.acc h = some a → a.file = fi → f'.keyOf a.slot = (w.file fi).keyOf a.slot) :
    ((abs w).setElem fi k x).Eqv (abs (w.setFile fi f')) := by
  have hfile := fun j => file_setFile w fi j f' hfi
  refine ⟨?_, ?_, ?_⟩
  · intro j
    show (w.file j).present = ((w.setFile fi f').file j).present
    rw [hfile]; split
    · rename_i e; rw [e, hpres]
    · rfl
  · intro j k' hu
    show (if j = fi ∧ k' = k then x else (w.file j).elem k'.1 k'.2) = ((w.setFile fi f').file j).elem k'.1 k'.2
    rw [hfile]
    by_cases ej : j = fi
    · by_cases ek : k' = k
      · simp only [ej, ek, and_self, if_true]; exact hk.symm
      · simp only [ej, ek, and_false, if_false, if_true]
        exact (hframe k' hu ek).symm
    · simp [ej]
  · intro h
    simp only [View.setElem, abs_hnd, acc_setFile]
    cases ha : w.acc h with
    | none => rfl
    | some a =>
      simp only [Option.map_some]
      rw [hfile]; split
      · rename_i e; rw [e, hkeys h a ha e]
      · rfl

theorem WFW.delAcc {w : World} (hw : WFW w) (h : Nat) : WFW (w.delAcc h) := by
  refine ⟨hw.files, hw.coh, ?_⟩
  intro h' a ha
  rw [acc_delAcc] at ha
  split at ha
  · cases ha
  · exact (hw.handles h' a ha).congr rfl

theorem abs_delAcc (w : World) (h : Nat) : ((abs w).setHnd h none).Eqv (abs (w.delAcc h)) := by
  refine ⟨fun _ => rfl, fun _ _ _ => rfl, ?_⟩
  intro h'
  simp only [View.setHnd, abs_hnd, acc_delAcc]
  split
  · rfl
  · rfl

theorem resOK_flags {w : World} (hw : WFW w) {h : Nat} {a : Acc} (ha : w.acc h = some a) (a' : Acc) (hH : WFH w a')
    (e1 : a'.file = a.file) (e2 : a'.slot = a.slot) (e3 : a'.posn = a.posn) {op : Op} {r : Res}
    (hs : ∀ v : View, specStep v op r = some v) : ResOK w op (w.setAcc h a', r) :=
  ⟨hw.setAcc h a' hH, fun v hv => ⟨v, hs v, Eqv.trans hv (abs_setAcc_same w h a a' ha e1 e2 e3)⟩⟩

theorem resOK_posn {w : World} (hw : WFW w) {h : Nat} {a : Acc} (ha : w.acc h = some a) (p : Nat) {op : Op} {r : Res}
    (hs : ∀ v : View, v.hnd h = some { file := a.file, key := (w.file a.file).keyOf a.slot, pos := a.posn } →
      v.elem a.file ((w.file a.file).keyOf a.slot) = some ((w.file a.file).slotBytes a.slot) →
      specStep v op r = some (v.setHnd h (some { file := a.file, key := (w.file a.file).keyOf a.slot, pos := p }))) :
    ResOK w op (w.setAcc h { a with posn := p }, r) := by
  have hh := hw.handles h a ha
  refine ⟨hw.setAcc h _ (hh.same rfl rfl rfl rfl hh.blk), fun v hv => ?_⟩
  obtain ⟨hy, he⟩ := Eqv.reads hv hw ha
  exact ⟨_, hs v hy he, Eqv.trans (Eqv.setHnd hv h _) (abs_setAcc w h a _ rfl rfl)⟩

theorem resOK_stay {w : World} (hw : WFW w) {h : Nat} {a : Acc} (ha : w.acc h = some a) {op : Op} {r : Res}
    (hs : ∀ v : View, v.hnd h = some { file := a.file, key := (w.file a.file).keyOf a.slot, pos := a.posn } →
      v.elem a.file ((w.file a.file).keyOf a.slot) = some ((w.file a.file).slotBytes a.slot) →
      specStep v op r = some (v.setHnd h (some { file := a.file, key := (w.file a.file).keyOf a.slot, pos := a.posn }))) :
    ResOK w op (w, r) := by
  refine ⟨hw, fun v hv => ?_⟩
  obtain ⟨hy, he⟩ := Eqv.reads hv hw ha
  exact ⟨_, hs v hy he, Eqv.trans (setHnd_same _ h _ hy) hv⟩

/-- `w'` is a well-formed world which the byte-array view cannot tell from `w` with element `k` of file `fi` set to `x`
    and access id `h` set to `y` -/
def Eff (w w' : World) (fi : Nat) (k : Nat × Nat) (x : Option (Option Bytes)) (h : Nat) (y : Option HView) : Prop :=
  WFW w' ∧ (((abs w).setElem fi k x).setHnd h y).Eqv (abs w')

theorem Eff.trans {w w1 w2 : World} {fi : Nat} {k : Nat × Nat} {x x' : Option (Option Bytes)} {h : Nat} {y y' : Option HView}
    (e1 : Eff w w1 fi k x h y) (e2 : Eff w1 w2 fi k x' h y') : Eff w w2 fi k x' h y' :=
  ⟨e2.1, Eqv.trans (Eqv.symm (Eqv.overwrite (Eqv.symm e1.2) x' y')) e2.2⟩

theorem Eff.wfw {w w' : World} {fi : Nat} {k : Nat × Nat} {x : Option (Option Bytes)} {h : Nat} {y : Option HView}
    (e : Eff w w' fi k x h y) : WFW w' := e.1

theorem Eff.elem {w w' : World} {fi : Nat} {k : Nat × Nat} {x : Option (Option Bytes)} {h : Nat} {y : Option HView}
    (e : Eff w w' fi k x h y) (hu : UserKey k) : (abs w').elem fi k = x := by
  rw [← e.2.2.1 fi k hu]; simp [View.setHnd, View.setElem]

theorem Eff.hnd {w w' : World} {fi : Nat} {k : Nat × Nat} {x : Option (Option Bytes)} {h : Nat} {y : Option HView}
    (e : Eff w w' fi k x h y) : (abs w').hnd h = y := by
  rw [← e.2.2.2 h]; simp [View.setHnd]

theorem Eff.acc {w w' : World} {fi : Nat} {k : Nat × Nat} {x : Option (Option Bytes)} {h f0 p0 : Nat} {k0 : Nat × Nat}
    (e : Eff w w' fi k x h (some { file := f0, key := k0, pos := p0 })) {a : Acc} (ha : w'.acc h = some a) :
    a.file = f0 ∧ (w'.file a.file).keyOf a.slot = k0 ∧ a.posn = p0 := by
  have hy := e.hnd
  rw [abs_hnd, ha] at hy
  cases Option.some.inj hy
  exact ⟨rfl, rfl, rfl⟩

theorem View.eqv_sets (v : View) {fi : Nat} {k : Nat × Nat} {x : Option (Option Bytes)} {h : Nat} {y : Option HView}
    (hx : v.elem fi k = x) (hy : v.hnd h = y) : v.Eqv ((v.setElem fi k x).setHnd h y) :=
  Eqv.symm (Eqv.trans (setHnd_same _ h y hy) (setElem_same v fi k x hx))

theorem View.eqv_setHnd (v : View) {fi : Nat} {k : Nat × Nat} {x : Option (Option Bytes)} (h : Nat) (y : Option HView)
    (hx : v.elem fi k = x) : (v.setHnd h y).Eqv ((v.setElem fi k x).setHnd h y) :=
  Eqv.setHnd (Eqv.symm (setElem_same v fi k x hx)) h y

theorem View.eqv_setElem (v : View) (fi : Nat) (k : Nat × Nat) (x : Option (Option Bytes)) {h : Nat} {y : Option HView}
    (hy : v.hnd h = y) : (v.setElem fi k x).Eqv ((v.setElem fi k x).setHnd h y) :=
  Eqv.symm (setHnd_same _ h y hy)

theorem Eff.resOK {w : World} {op : Op} {r : World × Res} {fi : Nat} {k : Nat × Nat} {x : Option (Option Bytes)} {h : Nat}
    {y : Option HView} (e : Eff w r.1 fi k x h y)
    (hs : ∀ v : View, v.Eqv (abs w) → ∃ v', specStep v op r.2 = some v' ∧ v'.Eqv ((v.setElem fi k x).setHnd h y)) :
    ResOK w op r :=
  ⟨e.1, fun v hv => by
    obtain ⟨v', h1, h2⟩ := hs v hv
    exact ⟨v', h1, Eqv.trans h2 (Eqv.trans (Eqv.setHnd (Eqv.setElem hv fi k x) h y) e.2)⟩⟩

theorem default_blk : 1 ≤ HDF_APPENDABLE_BLOCK_LEN ∧ 1 ≤ HDF_APPENDABLE_BLOCK_NUM := by decide

/-- the lift from a file to the world for a call that leaves a record behind (`abs_setFile_elem` for one that does not) -/
theorem elemSet_world (w : World) (hw : WFW w) (h fi : Nat) (hfi : fi < w.files.length)
    (drop : Option Nat) (k : Nat × Nat) (c : Option Bytes) (f' : File) (s' : Nat) (R : ElemSet (w.file fi) drop k c f' s') (hC : Coh f')
    (hu : UserKey k)
    (hdrop : ∀ i, drop = some i → (w.file fi).hasKey i k.1 k.2 ∧
      ∀ h' a'', h' ≠ h → w.acc h' = some a'' → ¬ (a''.file = fi ∧ a''.slot = i))
    (a' : Acc) (haf : a'.file = fi) (hslot : a'.slot = s') (hspec : a'.special = isSpecial (f'.dd s').tag)
    (hnew : a'.special = true → a'.newElem = false) (hblk : 1 ≤ a'.blockSize ∧ 1 ≤ a'.numBlocks)
    (hnone : c = none → a'.newElem = true) :
    Eff w ((w.setFile fi f').setAcc h a') fi k (some c) h (some { file := fi, key := k, pos := a'.posn }) := by
  have hother : ∀ h' a'', h' ≠ h → w.acc h' = some a'' → a''.file = fi →
      SameShape (f'.dd a''.slot) ((w.file fi).dd a''.slot) := by
    intro h' a'' hne ha'' ef
    have hl := (hw.handles h' a'' ha'').live
    rw [ef] at hl
    exact R.shape _ hl fun e => (hdrop _ e).2 h' a'' hne ha'' ⟨ef, rfl⟩
  have hnotold : ∀ {j : Nat} {k' : Nat × Nat}, UserKey k' → k' ≠ k → (w.file fi).hasKey j k'.1 k'.2 → drop ≠ some j := by
    intro j k' hu' hne hk e
    exact hne ((keyOf_of_hasKey hu' hk).symm.trans (keyOf_of_hasKey hu (hdrop j e).1))
  refine ⟨?_, ?_⟩
  · apply hw.update fi hfi f' R.wfe hC h a' haf
    · rw [hslot]
      refine ⟨R.live', by rw [R.key']; exact hu, hspec, ?_, hnew, hblk⟩
      intro hs0 hx
      have := R.bytes
      rw [slotBytes_plain _ _ (by rw [← hspec]; exact hs0), hx] at this
      exact hnone this.symm
    · exact hother
  · have := abs_update fi hfi f' h a' haf k (some c) R.present
      (by
        have h1 := elem_keyOf f' R.wfe.toWFF s' R.live'
        rw [R.key'] at h1
        rw [h1, R.bytes])
      (by
        intro k' hu' hne
        apply elem_frame R.wfe.toWFF
        · intro j
          constructor
          · intro hk
            rcases R.new_slots j hk.1 with ⟨h1, h2⟩ | h1 | h1
            · have S := R.shape j h1 h2
              exact (hasKey_congr S.1 S.2.1).mp hk
            · exact absurd ((keyOf_of_hasKey hu' hk).symm.trans (by rw [h1]; exact R.key')) hne
            · exact absurd h1 (user_not_linked hu' hk)
          · intro hk
            have S := R.shape j hk.1 (hnotold hu' hne hk)
            exact (hasKey_congr S.1 S.2.1).mpr hk
        · intro j hk
          have hjo := hnotold hu' hne hk
          have S := R.shape j hk.1 hjo
          refine R.others j hk.1 hjo (fun e => ?_) ?_
          · have hk' : f'.hasKey j k'.1 k'.2 := (hasKey_congr S.1 S.2.1).mpr hk
            exact hne ((keyOf_of_hasKey hu' hk').symm.trans (by rw [e]; exact R.key'))
          · rw [hk.2.1, baseTag_not_special _ hu'.1]; exact hu'.2.1)
      (by
        intro h' a'' hne' ha'' ef
        have S := hother h' a'' hne' ha'' ef
        unfold File.keyOf; rw [S.1, S.2.1])
    rw [hslot, R.key'] at this
    exact this

theorem inPlace_world (w : World) (hw : WFW w) (h : Nat) (a a' : Acc) (ha : w.acc h = some a) (e1 : a'.file = a.file)
    (e2 : a'.slot = a.slot) (e4 : a'.special = a.special) (e5 : a'.special = true → a'.newElem = false)
    (e6 : 1 ≤ a'.blockSize ∧ 1 ≤ a'.numBlocks) (f' : File) (B : Bytes)
    (R : ElemSet (w.file a.file) none ((w.file a.file).keyOf a.slot) (some B) f' a.slot) (hC : Coh f') :
    Eff w ((w.setFile a.file f').setAcc h a') a.file ((w.file a.file).keyOf a.slot) (some (some B)) h
      (some { file := a.file, key := (w.file a.file).keyOf a.slot, pos := a'.posn }) := by
  have hh := hw.handles h a ha
  exact elemSet_world w hw h a.file (file_lt_of_live w a.file a.slot hh.live) none _ _ f' a.slot R hC hh.user
    (fun i e => by cases e) a' e1 e2
    (by rw [e4, (R.shape a.slot hh.live (fun e => by cases e)).1]; exact hh.special_iff) e5 e6 nofun

theorem convert_world (w : World) (hw : WFW w) (h : Nat) (a : Acc) (ha : w.acc h = some a) (hsp : a.special = false)
    (halone : Alone w h) (blen nblk : Nat) (hb : 1 ≤ blen) (hn : 1 ≤ nblk) (p' : Nat) (app ne : Bool) (hne : ne = false) :
    let f' := ((w.file a.file).convert a.slot blen nblk).1
    let s' := ((w.file a.file).convert a.slot blen nblk).2
    let a' : Acc := { a with slot := s', special := true, appendable := app, newElem := ne, posn := p' }
    let w' := (w.setFile a.file f').setAcc h a'
    Eff w w' a.file ((w.file a.file).keyOf a.slot) (some (some (((w.file a.file).slotBytes a.slot).getD []))) h
      (some { file := a.file, key := (w.file a.file).keyOf a.slot, pos := p' }) := by
  intro f' s' a' w'
  have hh := hw.handles h a ha
  have hsp' := hh.tag_special hsp
  have hfi := file_lt_of_live w a.file a.slot hh.live
  have hE := hw.files a.file
  have hbt : baseTag ((w.file a.file).dd a.slot).tag = ((w.file a.file).dd a.slot).tag := baseTag_not_special _ hsp'
  have hu := hh.user
  have hut : ((w.file a.file).dd a.slot).tag ≠ DFTAG_LINKED := by
    have := hu.2.1; unfold File.keyOf at this; simp only at this; rw [hbt] at this; exact this
  have hlt : ((w.file a.file).dd a.slot).tag < H4.Gen.Elem.SPECIAL_TAG_BIT := by
    have := hu.2.2.2.2; unfold File.keyOf at this; simp only at this; rw [hbt] at this; exact this
  have P := convert_spec (w.file a.file) hE a.slot blen nblk hh.live hsp' hlt hut hb hn
  have hC := coh_convert (hw.coh a.file) a.slot blen nblk (live_lt _ _ hh.live)
  exact elemSet_world w hw h a.file hfi _ _ _ f' s' P.replaced.elemSet hC hu
    (fun i e => by
      cases e
      exact ⟨⟨hh.live, by simp [File.keyOf, baseTag_idem], rfl⟩,
        fun h' a'' hne' ha'' c => hne' (halone a ha h' a'' ha'' c.1 c.2)⟩)
    a' rfl rfl P.special'.symm (fun _ => hne) hh.blk nofun

/-- other ids on the element keep a stale "new" flag until they are next used -/
theorem setLength_world (w : World) (hw : WFW w) (h : Nat) (a : Acc) (ha : w.acc h = some a) (hsp : a.special = false)
    (n : Nat) (app : Bool) :
    let f1 := ((w.file a.file).setLength a.slot n).1
    let a1 : Acc := { a with newElem := false, appendable := app }
    let w1 := (w.setFile a.file f1).setAcc h a1
    Eff w w1 a.file ((w.file a.file).keyOf a.slot) (some (some (zeros n))) h
      (some { file := a.file, key := (w.file a.file).keyOf a.slot, pos := a.posn }) := by
  intro f1 a1 w1
  have hh := hw.handles h a ha
  have hsp' := hh.tag_special hsp
  have hE := hw.files a.file
  have R := setLength_elemSet (w.file a.file) hE a.slot n hh.live hsp' (keyOf_user_ne_linked hh.user)
  have hC := coh_setLength (hw.coh a.file) a.slot n (live_lt _ _ hh.live)
  exact inPlace_world w hw h a a1 ha rfl rfl rfl (fun _ => rfl) hh.blk f1 _ R hC

/-- (`Htell` and `Hinquire` are proved in this module and not with the other calls: the first `simp [step ..]` / `simp [specStep ..]`
    makes Lean generate the equation lemmas of these two large definitions, and the modules of the calls, which all import
    this one, then find them instead of generating them again) -/
theorem stepSim_tell (w : World) (hw : WFW w) (h : Nat) : StepSim w (.tell h) := by
  cases ha : w.acc h with
  | none => exact ResOK.of_fail hw (by simp [step, htell, ha])
  | some a =>
    unfold StepSim
    simp only [step, htell, ha]
    exact ⟨hw, fun v hv => ⟨v, by simp [specStep, (Eqv.reads hv hw ha).1], hv⟩⟩

theorem stepSim_inquire (w : World) (hw : WFW w) (h : Nat) : StepSim w (.inquire h) := by
  unfold StepSim
  simp only [step, hinquire]
  cases ha : w.acc h with
  | none => exact ResOK.fail hw _
  | some a =>
    simp only
    have hh := hw.handles h a ha
    by_cases hsp : a.special = true
    · simp only [hsp, if_true]
      have hsp' := hh.tag_special hsp
      obtain ⟨li, ho, hl, h1, h2, _, _⟩ := (hw.files a.file).linked_ok a.slot hh.live hsp'
      rw [acc_key_eq, h1]
      refine ⟨hw, fun v hv => ⟨v, ?_, hv⟩⟩
      obtain ⟨hy, he⟩ := Eqv.reads hv hw ha
      simp only [specStep, hy, he, Option.map_some, slotBytes_special _ _ hsp', h1, lenI, linkedBytes_length]
      simp
    · have hsp0 : a.special = false := by simpa using hsp
      simp only [hsp0, Bool.false_eq_true, if_false]
      have hsp' := hh.tag_special hsp0
      refine ⟨hw, fun v hv => ⟨v, ?_, hv⟩⟩
      obtain ⟨hy, he⟩ := Eqv.reads hv hw ha
      simp only [specStep, hy, he, slotBytes_plain _ _ hsp']
      cases hext : ((w.file a.file).dd a.slot).ext with
      | none => simp [ddLen, hext, lenI, INVALID_LENGTH]
      | some e => simp [ddLen, hext, lenI, bytesAt_length]

end H4.Elem
