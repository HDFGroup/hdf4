import H4.Lemmas.ElemOps
import H4.Lemmas.ElemReopen
/-! `Hclose`, `Hopen`. -/
namespace H4.Elem
open H4.Gen.Hdf

theorem stepSim_close (w : World) (hw : WFW w) (fi : Nat) (hsafe : OpSafe w (.close fi)) : StepSim w (.close fi) := by
  unfold StepSim
  simp only [step, hclose]
  by_cases hop : (w.file fi).isOpen = false
  · rw [if_pos (by simp [hop])]; exact ResOK.fail hw _
  have hop' : (w.file fi).isOpen = true := by simpa using hop
  rw [if_neg (by simp [hop'])]
  by_cases hat : (w.file fi).attach > 0
  · rw [if_pos hat]; exact ResOK.fail hw _
  rw [if_neg hat]
  have hfi := file_lt_of_open w fi hop'
  obtain ⟨hE, hC, hel, _, _⟩ := sync_wfe (w.file fi) (hw.files fi) (hw.coh fi)
  have hE2 : WFE ({ (w.file fi).sync with isOpen := false } : File) :=
    (hE.of_same (g := { (w.file fi).sync with isOpen := false }) (fun _ => rfl) (fun _ => rfl) rfl rfl hE.ext_le hE.tail0).1
  have hC2 : Coh ({ (w.file fi).sync with isOpen := false } : File) := coh_of_fields hC rfl rfl rfl rfl rfl
  refine ⟨hw.setFile fi hfi _ hE2 hC2 (fun h a ha e => absurd e (hsafe h a ha)), fun v hv => ⟨v, rfl, Eqv.trans hv ?_⟩⟩
  apply abs_setFile fi hfi _ (fun h a ha e => absurd e (hsafe h a ha))
  · exact sync_present (w.file fi)
  · intro k _; exact hel k.1 k.2

/-- the world `step` hands to `hopen`: the file table padded up to index `fi` (a copy of the text in `H4.Elem.step`, so that
    `stepSim_open` can name it) -/
def padW (w : World) (fi : Nat) : World :=
  if fi < w.files.length then w else { w with files := w.files ++ List.replicate (fi + 1 - w.files.length) {} }

theorem padW_file (w : World) (fi j : Nat) : (padW w fi).file j = w.file j := by
  unfold padW
  split
  · rfl
  · simp only [file_def]; exact getD_append_replicate ..

theorem padW_acc (w : World) (fi h : Nat) : (padW w fi).acc h = w.acc h := by
  unfold padW; split <;> rfl

theorem padW_len (w : World) (fi : Nat) : fi < (padW w fi).files.length := by
  unfold padW
  split
  · assumption
  · simp; omega

theorem padW_ok (w : World) (hw : WFW w) (fi : Nat) : WFW (padW w fi) ∧ (abs w).Eqv (abs (padW w fi)) := by
  constructor
  · refine ⟨fun j => by rw [padW_file]; exact hw.files j, fun j => by rw [padW_file]; exact hw.coh j, ?_⟩
    intro h a ha
    rw [padW_acc] at ha
    have := hw.handles h a ha
    exact this.transfer (by rw [padW_file]) (by rw [padW_file]) (by rw [padW_file]; exact id)
  · refine ⟨fun j => by show (w.file j).present = ((padW w fi).file j).present; rw [padW_file],
      fun j k _ => by show (w.file j).elem k.1 k.2 = ((padW w fi).file j).elem k.1 k.2; rw [padW_file], ?_⟩
    intro h
    simp only [abs_hnd, padW_acc]
    cases w.acc h with
    | none => rfl
    | some a => simp only [Option.map_some, padW_file]

theorem stepSim_open (w : World) (hw : WFW w) (fi mode ndds : Nat) (hsafe : OpSafe w (.open fi mode ndds)) :
    StepSim w (.open fi mode ndds) := by
  obtain ⟨hno, hre⟩ := hsafe
  obtain ⟨hwp, hep⟩ := padW_ok w hw fi
  have hstep : step w (.open fi mode ndds) = hopen (padW w fi) fi mode ndds := rfl
  have hnop : NoHandleIn (padW w fi) fi := by intro h a ha; rw [padW_acc] at ha; exact hno h a ha
  have hfi := padW_len w fi
  have hfile : (padW w fi).file fi = w.file fi := padW_file w fi fi
  have hfail : step w (.open fi mode ndds) = (padW w fi, .fail) → StepSim w (.open fi mode ndds) := by
    intro h
    unfold StepSim ResOK
    rw [h]
    exact ⟨hwp, fun v hv => ⟨v, rfl, Eqv.trans hv hep⟩⟩
  have hcreate : step w (.open fi mode ndds) = ((padW w fi).setFile fi (File.create ndds), .ok) →
      (mode = DFACC_CREATE ∨ (w.file fi).present = false) → StepSim w (.open fi mode ndds) := by
    intro h hc
    obtain ⟨cE, cC, cP, _, cEl⟩ := create_spec ndds
    unfold StepSim ResOK
    rw [h]
    refine ⟨hwp.setFile fi hfi _ cE cC (fun h a ha e => absurd e (hnop h a ha)), fun v hv => ?_⟩
    refine ⟨?v, ?h1, ?h2⟩
    case h1 =>
      simp only [specStep]
      have : mode = DFACC_CREATE ∨ v.present fi = false := by rw [hv.1 fi]; exact hc
      rw [if_pos this]
    case h2 =>
      refine ⟨?_, ?_, ?_⟩
      · intro j
        show (if j = fi then true else v.present j) = (((padW w fi).setFile fi (File.create ndds)).file j).present
        rw [file_setFile _ fi j _ hfi]
        split
        · exact cP.symm
        · rw [padW_file]; exact hv.1 j
      · intro j k hu
        show (if j = fi then none else v.elem j k) = (((padW w fi).setFile fi (File.create ndds)).file j).elem k.1 k.2
        rw [file_setFile _ fi j _ hfi]
        split
        · exact (cEl k hu).symm
        · rw [padW_file]; exact hv.2.1 j k hu
      · intro h'
        show v.hnd h' = _
        rw [hv.2.2 h']
        simp only [abs_hnd, acc_setFile, padW_acc]
        cases ha : w.acc h' with
        | none => rfl
        | some a =>
          simp only [Option.map_some]
          rw [file_setFile_ne _ fi _ _ (hno h' a ha), padW_file]
  by_cases hop : (w.file fi).isOpen = true
  · exact hfail (by rw [hstep]; unfold hopen; simp only [hfile, hop, if_true])
  have hop0 : (w.file fi).isOpen = false := by simpa using hop
  by_cases hcr : mode = DFACC_CREATE
  · exact hcreate (by rw [hstep]; unfold hopen; simp only [hfile, hop0, Bool.false_eq_true, if_false, hcr, if_true]) (Or.inl hcr)
  by_cases hpr : (w.file fi).present = true
  · -- an existing file: `HTPstart` reads the DD list back
    obtain ⟨hclean, hz⟩ := hre hpr hcr
    have hsn := sync_noop (w.file fi) hclean
    obtain ⟨g, hg, gE, gC, gEl, gP, _⟩ := reopen_preserves (w.file fi) (hw.files fi) (hw.coh fi) (decide (mode % 4 ≥ DFACC_WRITE)) hz
    rw [hsn] at hg
    have h : step w (.open fi mode ndds) = ((padW w fi).setFile fi g, .ok) := by
      rw [hstep]; unfold hopen
      simp only [hfile, hop0, Bool.false_eq_true, if_false, hcr, hpr, Bool.not_true, hg]
    unfold StepSim ResOK
    rw [h]
    refine ⟨hwp.setFile fi hfi _ gE gC (fun h a ha e => absurd e (hnop h a ha)), fun v hv => ⟨v, ?_, Eqv.trans hv ?_⟩⟩
    · simp only [specStep]
      have : ¬ (mode = DFACC_CREATE ∨ v.present fi = false) := by
        intro c; rcases c with c | c
        · exact hcr c
        · have : (w.file fi).present = false := by rw [← c]; exact (hv.1 fi).symm
          rw [hpr] at this; exact absurd this (by decide)
      rw [if_neg this]
    · refine Eqv.trans hep ?_
      apply abs_setFile fi hfi g (fun h a ha e => absurd e (hnop h a ha))
      · rw [hfile]; exact gP
      · intro k _; rw [hfile]; exact gEl k.1 k.2
  · have hpr0 : (w.file fi).present = false := by simpa using hpr
    by_cases hwm : mode % 4 ≥ DFACC_WRITE
    · exact hcreate (by
        rw [hstep]; unfold hopen
        simp only [hfile, hop0, Bool.false_eq_true, if_false, hcr, hpr0, Bool.not_false, if_true, hwm]) (Or.inr hpr0)
    · exact hfail (by
        rw [hstep]; unfold hopen
        simp only [hfile, hop0, Bool.false_eq_true, if_false, hcr, hpr0, Bool.not_false, if_true, hwm])

end H4.Elem
