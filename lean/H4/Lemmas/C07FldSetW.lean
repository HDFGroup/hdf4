import H4.Lemmas.C07FldSetP
import Mathlib.Tactic.Set
/-! `VSsetfields`, the write-list branch: one pass of the field loop is one step of the model (`goStep_eq` of Lemmas/VData), the loop
    follows `buildWList.go` under the invariant `BInv`, the branch as a whole computes `buildWList` (`sfBuild_inner`). -/
namespace H4.Lemmas.C07Fld
open H4.Gen.Fn.Dfconv H4.Gen.Fn.Vsfld H4.VData H4.Gen.Hdf H4.Gen.Vs H4.C2L H4.VsfldEnc

theorem findIdx_map_name (usym : List SymDef) (nm : String) :
    (usym.map (·.name)).findIdx? (· == nm) = usym.findIdx? (·.name == nm) :=
  List.findIdx?_map ..

/-- `av[]` as `scanattrs` leaves it: every token followed by its NUL and by whatever the static buffer holds behind it -/
def avRows (names : List String) (pads : List (List Int)) : List (List Int) :=
  List.zipWith (fun n p => chars n ++ 0 :: p) names pads

theorem avRows_length (names : List String) (pads : List (List Int)) (h : pads.length = names.length) : (avRows names pads).length = names.length := by
  simp [avRows, h]

theorem avRows_getD (names : List String) (pads : List (List Int)) (h : pads.length = names.length) (i : Nat) (hi : i < names.length) :
    (avRows names pads).getD i [] = chars (names.getD i "") ++ 0 :: pads.getD i [] := by
  unfold avRows
  simp [List.getD_eq_getElem?_getD, hi, h ▸ hi]

/-- what `scanattrs` delivered: `ac` names in `av[]`, each followed by its NUL and by what the static buffer holds behind it -/
structure AvIn (names : List String) (pads : List (List Int)) (s : VSsetfields.St) : Prop where
  hpl : pads.length = names.length
  hnames : ∀ nm ∈ names, NameOK nm
  hav : s.av = avRows names pads
  hac : s.ac = names.length

theorem AvIn.of_eq {names : List String} {pads : List (List Int)} {r s : VSsetfields.St} (A : AvIn names pads s) (h1 : r.av = s.av)
    (h2 : r.ac = s.ac) : AvIn names pads r := ⟨A.hpl, A.hnames, h1.trans A.hav, h2.trans A.hac⟩

structure SfIn (usym : List SymDef) (names : List String) (pads : List (List Int)) (s : VSsetfields.St) : Prop extends AvIn names pads s where
  hus : ∀ sd ∈ usym, sd.Valid ∧ NameOK sd.name
  us : UsymImg usym s

theorem SfIn.of_eq {usym : List SymDef} {names : List String} {pads : List (List Int)} {r s : VSsetfields.St} (N : SfIn usym names pads s)
    (h1 : r.av = s.av) (h2 : r.ac = s.ac) (h3 : usOf r = usOf s) : SfIn usym names pads r := ⟨N.toAvIn.of_eq h1 h2, N.hus, N.us.of_eq h3⟩

structure BEnv (usym : List SymDef) (names : List String) (pads : List (List Int)) (s0 : VSsetfields.St) : Prop
    extends SfIn usym names pads s0 where
  c1 : s0.vs_wlist_type_i = 0
  c2 : s0.vs_wlist_off_i = names.length
  c3 : s0.vs_wlist_isize_i = 2 * names.length
  c4 : s0.vs_wlist_order_i = 3 * names.length
  c5 : s0.vs_wlist_esize_i = 4 * names.length

/-- invariant of the field loop: the fields `fs` (in order) are in the write list, the record size so far is `iv` -/
structure BInv (names : List String) (s0 : VSsetfields.St) (fs : List Field) (iv : Nat) (s : VSsetfields.St) : Prop where
  fr : sfFrame s = sfFrame s0
  cl : SfClean s
  hub : s.ub = false
  hoof : s.oof = false
  rv : s.ret_value = -1
  hi : s.i = fs.length
  hn : s.vs_wlist_n = fs.length
  hiv : s.vs_wlist_ivsize = iv
  hivle : iv ≤ 65535
  hbl : s.vs_wlist_bptr.length = 5 * names.length
  hnl : s.vs_wlist_name.length = names.length
  cells : ∀ j, j < fs.length → s.vs_wlist_bptr.getD j 0 = ((fs.getD j default).type : Int) ∧
    s.vs_wlist_bptr.getD (2 * names.length + j) 0 = ((fs.getD j default).isize : Int) ∧
    s.vs_wlist_bptr.getD (3 * names.length + j) 0 = ((fs.getD j default).order : Int) ∧
    s.vs_wlist_bptr.getD (4 * names.length + j) 0 = ((fs.getD j default).esize : Int)
  rows : ∀ j, j < fs.length → s.vs_wlist_name.getD j [] = cstr (fs.getD j default).name

/-- the field loop was left by `goto done` with `ret_value = FAIL`: nothing of the frame has changed -/
def BFail (s0 r : VSsetfields.St) : Prop :=
  r.gto = true ∧ r.brk = false ∧ r.cnt = false ∧ r.ret_value = -1 ∧ sfFrame r = sfFrame s0 ∧ r.ub = false ∧ r.oof = false

def BStep (names : List String) (s0 : VSsetfields.St) (fs : List Field) (o : Option (Field × Nat)) (r : VSsetfields.St) : Prop :=
  match o with
  | some (f, iv') => BInv names s0 (fs ++ [f]) iv' r
  | none => BFail s0 r

/-- the four cells of slot `fs.length` lie in four different arrays of `bptr` (`fs.length < names.length`), so storing `f` there leaves
    the cells of the fields before it alone -/
theorem binv_extend {names : List String} {s0 s : VSsetfields.St} {fs : List Field} {iv : Nat}
    (I : BInv names s0 fs iv s) (hk : fs.length < names.length) (f : Field) (iv' : Nat) (hle : iv' ≤ 65535) (r : VSsetfields.St)
    (hfr : sfFrame r = sfFrame s) (hcl : SfClean r) (hub : r.ub = s.ub) (hoof : r.oof = s.oof) (hrv : r.ret_value = s.ret_value)
    (hi : r.i = s.i + 1) (hn : r.vs_wlist_n = s.vs_wlist_n + 1) (hiv : r.vs_wlist_ivsize = iv')
    (hb : r.vs_wlist_bptr = wlPut s.vs_wlist_bptr names.length fs.length f)
    (hnm : r.vs_wlist_name = s.vs_wlist_name.set fs.length (cstr f.name)) :
    BInv names s0 (fs ++ [f]) iv' r := by
  obtain ⟨p1, p2, p3, p4, other⟩ := getD_wlPut s.vs_wlist_bptr names.length fs.length f I.hbl hk
  have old : ∀ j, j < fs.length → (fs ++ [f]).getD j default = fs.getD j default := fun j hj => by
    simp [List.getD_eq_getElem?_getD, List.getElem?_append_left hj]
  have new : (fs ++ [f]).getD fs.length default = f := by simp
  refine ⟨hfr.trans I.fr, hcl, hub.trans I.hub, hoof.trans I.hoof, hrv.trans I.rv, ?_, ?_, hiv, hle, ?_, ?_, ?_, ?_⟩
  · rw [hi, I.hi]; simp
  · rw [hn, I.hn]; simp
  · rw [hb, length_wlPut, I.hbl]
  · rw [hnm]; simp [I.hnl]
  · intro j hj
    rw [hb]
    simp only [List.length_append, List.length_singleton] at hj
    by_cases e : j = fs.length
    · subst e; rw [new]; exact ⟨p1, p2, p3, p4⟩
    · have hj' : j < fs.length := by omega
      obtain ⟨a1, a2, a3, a4⟩ := I.cells j hj'
      rw [old j hj']
      exact ⟨(other _ (by omega) (by omega) (by omega) (by omega)).trans a1, (other _ (by omega) (by omega) (by omega) (by omega)).trans a2,
        (other _ (by omega) (by omega) (by omega) (by omega)).trans a3, (other _ (by omega) (by omega) (by omega) (by omega)).trans a4⟩
  · intro j hj
    rw [hnm]
    simp only [List.length_append, List.length_singleton] at hj
    by_cases e : j = fs.length
    · subst e; rw [new, getD_set_self _ _ _ _ (by rw [I.hnl]; exact hk)]
    · have hj' : j < fs.length := by omega
      rw [old j hj', getD_set_ne _ _ _ _ _ (by omega), I.rows j hj']

theorem l1_tail (fuel : Nat) (s R : VSsetfields.St) (hR : VSsetfields.loop2 fuel ((s.set_found 0).set_j 0) = R)
    (h : R.gto = true ∨ (R.found = 1 ∧ R.cnt = false)) :
    VSsetfields.loop1.body fuel s = if R.gto = true then { R with cnt := false, brk := false } else { R with brk := false, i := R.i + 1 } := by
  simp only [VSsetfields.loop1.body, hR]
  by_cases hg : R.gto = true
  · cases R; simp only at hg; subst hg; simp only [c2l_st, ↓reduceIte]
  · obtain ⟨hf, hc⟩ := h.resolve_left hg
    cases R; simp only at hg hf hc; subst hf hc; simp only [c2l_st, hg, ↓reduceIte, Int.reduceEq, or_false]

theorem l1_tail3 (fuel : Nat) (s R R3 : VSsetfields.St) (hR : VSsetfields.loop2 fuel ((s.set_found 0).set_j 0) = R)
    (hg : R.gto = false) (hc : R.cnt = false) (hf : R.found = 0) (hR3 : VSsetfields.loop3 fuel ((R.set_brk false).set_j 0) = R3)
    (h3 : R3.gto = true ∨ R3.cnt = false) :
    VSsetfields.loop1.body fuel s = if R3.gto = true then { R3 with cnt := false, brk := false }
      else if R3.found = 0 then { R3 with brk := false, ret_value := -1, gto := true } else { R3 with brk := false, i := R3.i + 1 } := by
  simp only [VSsetfields.loop1.body, hR, c2l_st, hg, hc, hf, ↓reduceIte, or_false, hR3]
  by_cases hg3 : R3.gto = true
  · cases R3; simp only at hg3; subst hg3; simp only [c2l_st, ↓reduceIte]
  · have hc3 := h3.resolve_left hg3
    by_cases hf3 : R3.found = 0 <;> cases R3 <;> simp only at hg3 hf3 hc3 <;> subst hc3 <;>
      simp only [c2l_st, hg3, hf3, ↓reduceIte, or_false, Int.reduceNeg]
theorem l1_start {usym : List SymDef} {names : List String} {pads : List (List Int)} {s0 s : VSsetfields.St} {fs : List Field} {iv : Nat}
    (E : BEnv usym names pads s0) (I : BInv names s0 fs iv s) (hk : fs.length < names.length) :
    NameOK (names.getD fs.length "") ∧ s.av.getD (Int.toNat s.i) [] = chars (names.getD fs.length "") ++ 0 :: pads.getD fs.length [] ∧
    (0 ≤ s.i ∧ s.i < s.av.length) ∧ UsymImg usym s ∧
    (s.vs_wlist_type_i = 0 ∧ s.vs_wlist_isize_i = 2 * names.length ∧ s.vs_wlist_order_i = 3 * names.length ∧
      s.vs_wlist_esize_i = 4 * names.length) := by
  have a1 : s.av = s0.av := congrArg (·.av) I.fr
  refine ⟨E.hnames _ (by simp [hk]), ?_, ?_, E.us.of_eq (congrArg usOf I.fr :),
    (congrArg (·.vs_wlist_type_i) I.fr).trans E.c1, (congrArg (·.vs_wlist_isize_i) I.fr).trans E.c3,
    (congrArg (·.vs_wlist_order_i) I.fr).trans E.c4, (congrArg (·.vs_wlist_esize_i) I.fr).trans E.c5⟩
  · rw [a1, E.hav, I.hi]
    simpa using avRows_getD names pads E.hpl fs.length hk
  · rw [a1, E.hav, I.hi, avRows_length _ _ E.hpl]; omega

/-- `hbody`: what the pass does behind the scan, whose result is `R` -/
theorem l1_hit {names : List String} {s0 s : VSsetfields.St} {fs : List Field} {iv : Nat}
    (I : BInv names s0 fs iv s) (hk : fs.length < names.length) (fuel : Nat) (j : Int) (b : Bool) (sd : SymDef) (nt : NT) (R : VSsetfields.St)
    (hbody : R.gto = true ∨ (R.found = 1 ∧ R.cnt = false) → VSsetfields.loop1.body fuel s =
      if R.gto = true then { R with cnt := false, brk := false } else { R with brk := false, i := R.i + 1 })
    (hr : SymPass { s with found := 0, j := j, brk := b } names.length fs.length sd nt iv R) :
    BStep names s0 fs (if sd.order * sd.isize > 65535 ∨ iv + sd.order * sd.isize > 65535 then none
      else some (symField sd nt, iv + sd.order * sd.isize)) (VSsetfields.loop1.body fuel s) := by
  unfold SymPass at hr
  obtain ⟨h1, h2, h3⟩ := I.cl
  by_cases c : sd.order * sd.isize > 65535 ∨ iv + sd.order * sd.isize > 65535
  · rw [if_pos c] at hr ⊢
    obtain ⟨g1, g2, g3, g4, g5, g6⟩ := hr
    rw [hbody (.inl g1), if_pos g1]
    exact ⟨g1, rfl, rfl, g3, g4.trans I.fr, g5.trans I.hub, g6.trans I.hoof⟩
  · rw [if_neg c] at hr ⊢
    subst hr
    rw [hbody (.inr ⟨rfl, h3⟩), if_neg (by exact Bool.eq_false_iff.mp h1)]
    exact binv_extend I hk _ _ (by omega) _ rfl ⟨h1, rfl, h3⟩ rfl rfl rfl rfl
      (by show (fs.length : Int) + 1 = s.vs_wlist_n + 1; rw [I.hn]) rfl rfl rfl

theorem l1_user {usym : List SymDef} {names : List String} {pads : List (List Int)} {s0 s : VSsetfields.St} {fs : List Field} {iv : Nat}
    (E : BEnv usym names pads s0) (I : BInv names s0 fs iv s) (hk : fs.length < names.length) (fuel : Nat) (hf : usym.length ≤ fuel)
    (d : Nat) (hd : usym.findIdx? (·.name == names.getD fs.length "") = some d) :
    BStep names s0 fs (goStep usym (names.getD fs.length "") iv) (VSsetfields.loop1.body fuel s) := by
  obtain ⟨hnmok, hrow2, hi2, U, c1, c3, c4, c5⟩ := l1_start E I hk
  obtain ⟨h1, h2, h3⟩ := I.cl
  set nm := names.getD fs.length "" with hnm
  have hdlt : d < usym.length := (List.findIdx?_eq_some_iff_getElem.mp hd).1
  obtain ⟨sd, hsd⟩ : ∃ sd, usym.getD d default = sd := ⟨_, rfl⟩
  have hfind : usym.find? (·.name == nm) = some sd := by rw [find_findIdx, hd, ← hsd]; rfl
  obtain ⟨⟨ho, nt, hnt, his⟩, hname⟩ := E.hus sd (List.mem_of_find?_eq_some hfind)
  have hnd : sd.name = nm := by simpa using List.find?_some hfind
  have hscan := l2_scan usym (fun sd h => (E.hus sd h).2) nm hnmok (pads.getD fs.length []) fuel (s.set_found 0) hf ⟨h1, h2, h3⟩ hrow2 hi2 (U.of_eq rfl)
    (fun _ R => SymPass { s with found := 0, j := d, brk := s.brk } names.length fs.length sd nt iv R)
    (fun d' f' hd' => by
      obtain rfl : d = d' := Option.some.inj (hd.symm.trans hd')
      have hr := l2_hit f' ((s.set_found 0).set_j d) ⟨h1, h2, h3⟩ names.length fs.length d iv usym sd nt (pads.getD fs.length []) hi2
        (by rw [hnd]; exact hrow2) (by exact I.hn) hk (by exact c1) (by exact c3) (by exact c4) (by exact c5) I.hbl I.hnl rfl hdlt hsd
        (U.of_eq rfl) hname hnt I.hiv
      exact ⟨hr.leaves, hr⟩)
  rw [hd] at hscan
  rw [goStep_eq, hfind]
  simp only [Option.orElse_some, hnt]
  exact l1_hit I hk fuel d s.brk sd nt _ (l1_tail fuel s _ rfl) hscan

theorem l1_rstab {usym : List SymDef} {names : List String} {pads : List (List Int)} {s0 s : VSsetfields.St} {fs : List Field} {iv : Nat}
    (E : BEnv usym names pads s0) (I : BInv names s0 fs iv s) (hk : fs.length < names.length) (fuel : Nat) (hf : usym.length ≤ fuel)
    (hf9 : 9 ≤ fuel) (hd : usym.findIdx? (·.name == names.getD fs.length "") = none) :
    BStep names s0 fs (goStep usym (names.getD fs.length "") iv) (VSsetfields.loop1.body fuel s) := by
  obtain ⟨hnmok, hrow2, hi2, U, c1, c3, c4, c5⟩ := l1_start E I hk
  obtain ⟨h1, h2, h3⟩ := I.cl
  set nm := names.getD fs.length "" with hnm
  have hfind : usym.find? (·.name == nm) = none := by rw [find_findIdx, hd]; rfl
  have hscan := l2_scan usym (fun sd h => (E.hus sd h).2) nm hnmok (pads.getD fs.length []) fuel (s.set_found 0) hf ⟨h1, h2, h3⟩ hrow2 hi2 (U.of_eq rfl)
    (fun _ _ => True) (by intro d' f' hd'; rw [hd] at hd'; cases hd')
  rw [hd] at hscan
  simp only at hscan
  set s3 : VSsetfields.St := ((s.set_found 0).set_j usym.length).set_brk false with hs3
  have hcl3 : SfClean s3 := ⟨h1, rfl, h3⟩
  rw [goStep_eq, hfind]
  simp only [Option.orElse_none]
  cases hd3 : rstab.findIdx? (·.name == nm) with
  | none =>
    have hfind3 : rstab.find? (·.name == nm) = none := by rw [find_findIdx, hd3]; rfl
    rw [hfind3]
    simp only
    have hscan3 := l3_scan nm hnmok (pads.getD fs.length []) fuel s3 hf9 hcl3 hrow2 hi2 (fun _ _ => True)
      (by intro d' f' hd'; rw [hd3] at hd'; cases hd')
    rw [hd3] at hscan3
    simp only at hscan3
    rw [l1_tail3 fuel s _ _ hscan (by exact h1) (by exact h3) (by rfl) hscan3 (.inr h3), if_neg (by exact Bool.eq_false_iff.mp h1), if_pos (by rfl)]
    exact ⟨rfl, rfl, h3, rfl, I.fr, I.hub, I.hoof⟩
  | some d =>
    have hdlt : d < 9 := by
      have := (List.findIdx?_eq_some_iff_getElem.mp hd3).1
      rwa [rstab_length] at this
    obtain ⟨sd, hsd⟩ : ∃ sd, rstab.getD d default = sd := ⟨_, rfl⟩
    have hfind3 : rstab.find? (·.name == nm) = some sd := by rw [find_findIdx, hd3, ← hsd]; rfl
    obtain ⟨⟨ho, nt, hnt, his⟩, _⟩ := rstab_valid sd (List.mem_of_find?_eq_some hfind3)
    have hnd : sd.name = nm := by simpa using List.find?_some hfind3
    have hscan3 := l3_scan nm hnmok (pads.getD fs.length []) fuel s3 hf9 hcl3 hrow2 hi2
      (fun _ R => SymPass { s with found := 0, j := d, brk := false } names.length fs.length sd nt iv R)
      (fun d' f' hd' => by
        obtain rfl : d = d' := Option.some.inj (hd3.symm.trans hd')
        have hr := l3_hit f' (s3.set_j d) hcl3 names.length fs.length d iv sd nt (pads.getD fs.length []) hi2 (by rw [hnd]; exact hrow2)
          (by exact I.hn) hk (by exact c1) (by exact c3) (by exact c4) (by exact c5) I.hbl I.hnl rfl hdlt hsd hnt I.hiv
        exact ⟨hr.leaves, hr⟩)
    rw [hd3] at hscan3
    rw [hfind3]
    simp only [hnt]
    refine l1_hit I hk fuel d false sd nt _ (fun h => ?_) hscan3
    rw [l1_tail3 fuel s _ _ hscan (by exact h1) (by exact h3) (by rfl) rfl (h.imp id And.right)]
    by_cases g : (VSsetfields.loop3 fuel (s3.set_j 0)).gto = true
    · rw [if_pos g, if_pos g]
    · rw [if_neg g, if_neg g, if_neg (by rw [(h.resolve_left g).1]; decide)]

theorem l1_body {usym : List SymDef} {names : List String} {pads : List (List Int)} {s0 s : VSsetfields.St} {fs : List Field} {iv : Nat}
    (E : BEnv usym names pads s0) (I : BInv names s0 fs iv s) (hk : fs.length < names.length) (fuel : Nat) (hf : usym.length ≤ fuel)
    (hf9 : 9 ≤ fuel) : BStep names s0 fs (goStep usym (names.getD fs.length "") iv) (VSsetfields.loop1.body fuel s) := by
  cases hd : usym.findIdx? (·.name == names.getD fs.length "") with
  | none => exact l1_rstab E I hk fuel hf hf9 hd
  | some d => exact l1_user E I hk fuel hf d hd

theorem l1_loop {usym : List SymDef} {names : List String} {pads : List (List Int)} {s0 : VSsetfields.St} (E : BEnv usym names pads s0)
    (fuel : Nat) (s : VSsetfields.St) (fs : List Field) (iv : Nat) (I : BInv names s0 fs iv s) (hn : fs.length ≤ names.length)
    (hf : names.length - fs.length + usym.length + 9 ≤ fuel) :
    match buildWList.go usym (names.drop fs.length) fs.reverse iv with
    | some (fs', iv') => BInv names s0 fs' iv' (VSsetfields.loop1 fuel s) ∧ fs'.length = names.length
    | none => BFail s0 (VSsetfields.loop1 fuel s) := by
  refine (IsLoop.of_eqs (L := VSsetfields.loop1) (fun _ => rfl) (fun _ _ => rfl)).spec (ι := List Field × Nat ⊕ Unit)
    (Sum.elim (fun p => names.length - p.1.length + usym.length + 9) fun _ => 0)
    (fun i t => match i with | .inl (fs, iv) => BInv names s0 fs iv t ∧ fs.length ≤ names.length | .inr _ => BFail s0 t)
    (fun i _ r => match i with
      | .inl (fs, iv) => (match buildWList.go usym (names.drop fs.length) fs.reverse iv with
          | some (fs', iv') => BInv names s0 fs' iv' r ∧ fs'.length = names.length
          | none => BFail s0 r)
      | .inr _ => BFail s0 r)
    ?_ fuel (.inl (fs, iv)) s hf ⟨I, hn⟩
  intro i t hp
  cases i with
  | inr u => exact .inl ⟨fun hc => hc.2 (.inl hp.1), hp⟩
  | inl p =>
    obtain ⟨fs, iv⟩ := p
    obtain ⟨I, hn⟩ := hp
    have a2 : t.ac = s0.ac := congrArg (·.ac) I.fr
    obtain ⟨h1, h2, h3⟩ := I.cl
    by_cases hk : fs.length < names.length
    · refine .inr ⟨⟨by rw [I.hi, a2, E.hac]; omega, by simp [h1, h2]⟩, fun f hf => ?_⟩
      simp only [Sum.elim_inl] at hf
      have hb := l1_body E I hk f (by omega) (by omega)
      have hdrop : names.drop fs.length = names.getD fs.length "" :: names.drop (fs.length + 1) := by
        rw [List.drop_eq_getElem_cons hk]; simp [hk]
      cases hg : goStep usym (names.getD fs.length "") iv with
      | none =>
        rw [hg] at hb
        refine ⟨.inr (), ?_, hb, fun r hr => ?_⟩
        · simp only [Sum.elim_inl, Sum.elim_inr]; omega
        · simp only [hdrop, go_cons, hg]
          exact hr
      | some q =>
        obtain ⟨g, iv'⟩ := q
        rw [hg] at hb
        refine ⟨.inl (fs ++ [g], iv'), ?_, ⟨hb, by rw [List.length_append]; exact hk⟩, fun r hr => ?_⟩
        · simp only [Sum.elim_inl, List.length_append, List.length_singleton]; omega
        · simp only [List.length_append, List.length_singleton, List.reverse_append, List.reverse_singleton, List.singleton_append] at hr
          simp only [hdrop, go_cons, hg]
          exact hr
    · have hl : fs.length = names.length := by omega
      refine .inl ⟨fun hc => by have := hc.1; rw [I.hi, a2, E.hac] at this; omega, ?_⟩
      simp only [List.drop_eq_nil_of_le (Nat.le_of_eq hl.symm), buildWList.go, List.reverse_reverse]
      exact ⟨I, hl⟩

theorem st_cnt {s : VSsetfields.St} (h : s.cnt = false) : ({ s with cnt := false } : VSsetfields.St) = s := by
  cases s; subst h; rfl

/-- `for (i = 0; i < ac; i++) wlist->name[i] = NULL;` -/
theorem sf_loop0_run (fuel : Nat) (s : VSsetfields.St) (ac : Nat) (hf : ac ≤ fuel) (hac : s.ac = ac) (hcl : SfClean s)
    (hl : s.vs_wlist_name.length = ac) :
    VSsetfields.loop0 fuel (s.set_i 0) = { s with i := ac, vs_wlist_name := List.replicate ac [] } := by
  have := (IsLoop.of_eqs (L := VSsetfields.loop0) (fun _ => rfl) (fun _ _ => rfl)).run ac
    (fun k => { s with i := k, cnt := false, vs_wlist_name := List.replicate k [] ++ s.vs_wlist_name.drop k })
    (fun k hk => ⟨by show (k : Int) < s.ac; omega, by show ¬ (s.gto = true ∨ s.brk = true); simp [hcl.1, hcl.2.1]⟩)
    (fun h => by have : (ac : Int) < s.ac := h.1; omega)
    (fun k f hk _ => by
      have a : (0 : Int) ≤ k ∧ (k : Int) < ((List.replicate k ([] : List Int) ++ s.vs_wlist_name.drop k).length : Int) := by
        simp only [List.length_append, List.length_replicate, List.length_drop]; omega
      have e : (List.replicate k ([] : List Int) ++ s.vs_wlist_name.drop k).set k [] = List.replicate (k + 1) [] ++ s.vs_wlist_name.drop (k + 1) := by
        rw [List.set_append_right _ _ (by simp), List.length_replicate, Nat.sub_self, List.drop_eq_getElem_cons (by omega), List.set_cons_zero,
          List.replicate_succ']
        simp
      simp only [VSsetfields.loop0.body, c2l_st, a, e]
      rfl)
    hf
  simp only [List.replicate_zero, List.nil_append, List.drop_zero, List.drop_eq_nil_of_le (Nat.le_of_eq hl), List.append_nil] at this
  rw [← st_cnt hcl.2.2]
  exact this

/-- `for (i = 0; i < ac; i++) free(wlist->name[i]);` -/
theorem sf_loop7_run (fuel : Nat) (s : VSsetfields.St) (ac : Nat) (hf : ac ≤ fuel) (hac : s.ac = ac) (hcl : SfClean s) :
    VSsetfields.loop7 fuel (s.set_i 0) = s.set_i ac := by
  have := (IsLoop.of_eqs (L := VSsetfields.loop7) (fun _ => rfl) (fun _ _ => rfl)).run ac (fun k => { s with i := k, cnt := false })
    (fun k hk => ⟨by show (k : Int) < s.ac; omega, by show ¬ (s.gto = true ∨ s.brk = true); simp [hcl.1, hcl.2.1]⟩)
    (fun h => by have : (ac : Int) < s.ac := h.1; omega) (fun k f hk _ => rfl) hf
  rw [← st_cnt hcl.2.2]
  exact this

/-- `for (uj = 0, i = 0; i < wlist->n; i++) { wlist->off[i] = uj; uj += wlist->isize[i]; }`; `hsum`: the `uint16` `uj` does not wrap -/
theorem l4_offsets (ac : Nat) (isz : List Nat) (hlen : isz.length = ac) (hsum : isz.sum ≤ 65535) (fuel : Nat) (s : VSsetfields.St)
    (hf : ac ≤ fuel) (hn : s.vs_wlist_n = ac) (hcl : SfClean s) (c2 : s.vs_wlist_off_i = ac) (c3 : s.vs_wlist_isize_i = 2 * ac)
    (hbl : s.vs_wlist_bptr.length = 5 * ac) (hc : ∀ j, j < ac → s.vs_wlist_bptr.getD (2 * ac + j) 0 = ((isz.getD j 0 : Nat) : Int)) :
    ∃ B, VSsetfields.loop4 fuel { s with uj := 0, i := 0 } = { s with i := ac, vs_wlist_bptr := B, uj := ((pre isz ac : Nat) : Int) } ∧
      B.length = 5 * ac ∧ (∀ j, j < ac → B.getD (ac + j) 0 = ((pre isz j : Nat) : Int)) ∧
      ∀ idx, (idx < ac ∨ 2 * ac ≤ idx) → B.getD idx 0 = s.vs_wlist_bptr.getD idx 0 := by
  obtain ⟨h1, h2, h3⟩ := hcl
  obtain ⟨t, ⟨B, e, hB, hoff, hrest⟩, hL⟩ := (IsLoop.of_eqs (L := VSsetfields.loop4) (fun _ => rfl) (fun _ _ => rfl)).count
    (fun k t => ∃ B, t = { s with i := k, vs_wlist_bptr := B, uj := ((pre isz k : Nat) : Int) } ∧ B.length = 5 * ac ∧
      (∀ j, j < k → B.getD (ac + j) 0 = ((pre isz j : Nat) : Int)) ∧
      ∀ idx, (idx < ac ∨ ac + k ≤ idx) → B.getD idx 0 = s.vs_wlist_bptr.getD idx 0) ac 0
    (fun k t _ ⟨B, e, _⟩ => by subst e; show ((k : Int) < s.vs_wlist_n ∧ ¬ (s.gto = true ∨ s.brk = true)) ↔ _; simp [hn, h1, h2])
    (fun k t f hk _ ⟨B, e, hB, hoff, hrest⟩ => by
      subst e
      have hcell : (B.set (ac + k) ((pre isz k : Nat) : Int)).getD (2 * ac + k) 0 = ((isz.getD k 0 : Nat) : Int) := by
        rw [getD_set_ne _ _ _ _ _ (by omega), hrest _ (.inr (by omega))]; exact hc k hk
      have hpre : (((pre isz k : Nat) : Int) + ((isz.getD k 0 : Nat) : Int)) % 65536 = ((pre isz (k + 1) : Nat) : Int) := by
        have := pre_le_sum isz (k + 1)
        rw [pre_succ_getD isz k (by omega)] at this ⊢
        omega
      refine ⟨B.set (ac + k) ((pre isz k : Nat) : Int), ?_, by simp [hB], ?_, ?_⟩
      · have a1 : (0 : Int) ≤ s.vs_wlist_off_i + k ∧ s.vs_wlist_off_i + k < (B.length : Int) := by omega
        have a2 : (0 : Int) ≤ s.vs_wlist_isize_i + k ∧ s.vs_wlist_isize_i + k < (B.length : Int) := by omega
        have t1 : Int.toNat (s.vs_wlist_off_i + k) = ac + k := by omega
        have t2 : Int.toNat (s.vs_wlist_isize_i + k) = 2 * ac + k := by omega
        simp only [VSsetfields.loop4.body, c2l_st, a1, a2, t1, t2, hcell, hpre, h3]
        rfl
      · intro j hj
        by_cases e : j = k
        · subst e; exact getD_set_self _ _ _ _ (by omega)
        · rw [getD_set_ne _ _ _ _ _ (by omega)]; exact hoff j (by omega)
      · intro idx hidx
        rw [getD_set_ne _ _ _ _ _ (by omega)]; exact hrest idx (by omega))
    (k := 0) (fuel := fuel) (s := { s with uj := 0, i := 0 }) (Nat.zero_le _) (by omega) ⟨s.vs_wlist_bptr, rfl, hbl, fun j hj => by omega, fun _ _ => rfl⟩
  exact ⟨B, hL.trans e, hB, hoff, fun idx h => hrest idx (by omega)⟩

/-- the state behind the allocations of the write-list branch (`bptr`: `5 ac` cells, not initialised: 170) -/
@[reducible] def sfAlloc (s : VSsetfields.St) (ac : Nat) : VSsetfields.St :=
  { s with vs_wlist_ivsize := 0, vs_wlist_n := 0, vs_wlist_bptr := List.replicate (5 * ac) 170, vs_wlist_bptr_null := false,
           vs_wlist_type_i := 0, vs_wlist_off_i := ac, vs_wlist_isize_i := 2 * ac, vs_wlist_order_i := 3 * ac,
           vs_wlist_esize_i := 4 * ac, vs_wlist_name := List.replicate ac [], vs_wlist_name_null := false }

theorem sfBInit_spec (fuel : Nat) (s : VSsetfields.St) (hcl : SfClean s) (ac : Nat) (hac : s.ac = ac) (hle : ac < 2147483648) :
    sfBInit fuel s = sfAlloc s ac := by
  obtain ⟨h1, h2, h3⟩ := hcl
  have e1 : Int.tdiv ((2 * (((ac : Int) * 5) % 18446744073709551616)) % 18446744073709551616) 2 = ((5 * ac : Nat) : Int) := by
    rw [(H4.C2L.malloc_cells 2 ((ac : Int) * 5) (by omega) (by omega) (by omega)).1]; omega
  have e2 : Int.tdiv ((8 * ((ac : Int) % 18446744073709551616)) % 18446744073709551616) 8 = (ac : Int) := by
    rw [(H4.C2L.malloc_cells 8 (ac : Int) (by omega) (by omega) (by omega)).1]
  cases s
  simp only at h1 h2 h3 hac
  subst h1 h2 h3 hac
  have z1 : (0 : Int) ≤ ((5 * ac : Nat) : Int) := by omega
  have z2 : (0 : Int) ≤ (ac : Int) := by omega
  simp only [sfBInit, sfAlloc, c2l_st, ↓reduceIte, e1, e2, z1, z2]
  simp only [VSsetfields.St.mk.injEq, true_and, and_true]
  refine ⟨by omega, by omega, by omega, by omega⟩

theorem sfBNull_spec (fuel : Nat) (s : VSsetfields.St) (hcl : SfClean s) (ac : Nat) (hac : s.ac = ac) (hl : s.vs_wlist_name.length = ac)
    (hf : ac ≤ fuel) : sfBNull fuel s = { s with i := ac, vs_wlist_name := List.replicate ac [] } := by
  obtain ⟨h1, h2, h3⟩ := hcl
  simp only [sfBNull]
  rw [if_neg (by simp [h1, h2, h3]), sf_loop0_run fuel s ac hf hac ⟨h1, h2, h3⟩ hl]
  cases s; simp_all
theorem sfBFlag_spec (fuel : Nat) (s : VSsetfields.St) (hcl : SfClean s) : sfBFlag fuel s = { s with building := 1 } := by
  obtain ⟨h1, h2, h3⟩ := hcl
  simp [sfBFlag, h1, h2, h3]

theorem sfBFields_eq (fuel : Nat) (s : VSsetfields.St) (hcl : SfClean s) :
    sfBFields fuel s = VSsetfields.St.set_brk (VSsetfields.loop1 fuel { s with i := 0 }) false := by
  obtain ⟨h1, h2, h3⟩ := hcl
  simp only [sfBFields]
  rw [if_neg (by simp [h1, h2, h3])]

theorem sfBOffs_eq (fuel : Nat) (s : VSsetfields.St) (hcl : SfClean s) :
    sfBOffs fuel s = VSsetfields.St.set_brk (VSsetfields.loop4 fuel { s with uj := 0, i := 0 }) false := by
  obtain ⟨h1, h2, h3⟩ := hcl
  simp only [sfBOffs]
  rw [if_neg (by simp [h1, h2, h3])]
  rfl

theorem sfBOffs_gto (fuel : Nat) (s : VSsetfields.St) (h : s.gto = true) : sfBOffs fuel s = s := by simp [sfBOffs, h]

theorem sfBFin_gto (fuel : Nat) (s : VSsetfields.St) (h : s.gto = true) : sfBFin fuel s = s := by simp [sfBFin, h]

theorem sfBFin_ok (fuel : Nat) (s : VSsetfields.St) (hcl : SfClean s) :
    sfBFin fuel s = { s with vs_marked := 1, vs_new_h_sz := 1, building := 0, ret_value := 0, gto := true } := by
  obtain ⟨h1, h2, h3⟩ := hcl
  cases s
  simp only at h1 h2 h3
  subst h1 h2 h3
  simp [sfBFin]

/-- `sfFrame` with the rest of the write list forgotten as well -/
def sfRest (s : VSsetfields.St) : VSsetfields.St :=
  { sfFrame s with building := 0, vs_wlist_type_i := 0, vs_wlist_off_i := 0, vs_wlist_isize_i := 0, vs_wlist_order_i := 0,
                   vs_wlist_esize_i := 0, vs_marked := 0, vs_new_h_sz := 0, vs_wlist_bptr_null := false, vs_wlist_name_null := false }

theorem rest_of_frame {r s : VSsetfields.St} (h : sfFrame r = sfFrame s) : sfRest r = sfRest s := by
  unfold sfRest; rw [h]

/-- the write-list branch of `VSsetfields` (`vs->access == 'w'`, no records, no fields yet) computes `buildWList` -/
theorem sfBuild_inner (usym : List SymDef) (names : List String) (pads : List (List Int)) (fuel : Nat) (s : VSsetfields.St)
    (hcl : SfClean s) (hub : s.ub = false) (hoof : s.oof = false) (hrv : s.ret_value = -1) (N : SfIn usym names pads s)
    (hn0 : names ≠ []) (hn2 : names.length ≤ 256) (hf : names.length + usym.length + 9 ≤ fuel) :
    let r := sfBFin fuel (sfBOffs fuel (sfBFields fuel (sfBFlag fuel (sfBNull fuel (sfBInit fuel s)))))
    r.gto = true ∧ r.brk = false ∧ r.cnt = false ∧ r.ub = false ∧ r.oof = false ∧ sfRest r = sfRest s ∧
    match buildWList usym names with
    | some w => r.ret_value = 0 ∧ r.building = 0 ∧ r.vs_marked = 1 ∧ r.vs_new_h_sz = 1 ∧ WlImg w r
    | none => r.ret_value = -1 ∧ r.building = 1 ∧ r.vs_marked = s.vs_marked ∧ r.vs_new_h_sz = s.vs_new_h_sz := by
  intro r
  obtain ⟨h1, h2, h3⟩ := hcl
  have hac := N.hac
  have hus := N.hus
  have hr : r = sfBFin fuel (sfBOffs fuel (sfBFields fuel (sfBFlag fuel (sfBNull fuel (sfBInit fuel s))))) := rfl
  rw [sfBInit_spec fuel s ⟨h1, h2, h3⟩ names.length hac (by omega)] at hr
  set sI : VSsetfields.St := sfAlloc s names.length with hsI
  rw [sfBNull_spec fuel sI ⟨h1, h2, h3⟩ names.length hac (by show (List.replicate names.length ([] : List Int)).length = names.length; simp) (by omega)] at hr
  set sN : VSsetfields.St := { sI with i := names.length, vs_wlist_name := List.replicate names.length [] } with hsN
  rw [sfBFlag_spec fuel sN ⟨h1, h2, h3⟩] at hr
  set sa : VSsetfields.St := { sN with building := 1 } with hsa
  rw [sfBFields_eq fuel sa ⟨h1, h2, h3⟩] at hr
  set s0 : VSsetfields.St := { sa with i := 0 } with hs0
  have E : BEnv usym names pads s0 := ⟨N.of_eq rfl rfl rfl, rfl, rfl, rfl, rfl, rfl⟩
  have I0 : BInv names s0 [] 0 s0 := ⟨rfl, ⟨h1, h2, h3⟩, hub, hoof, hrv, rfl, rfl, rfl, by omega,
    by show (List.replicate (5 * names.length) (170 : Int)).length = 5 * names.length; simp,
    by show (List.replicate names.length ([] : List Int)).length = names.length; simp,
    fun j hj => by simp at hj, fun j hj => by simp at hj⟩
  have hloop := l1_loop E fuel s0 [] 0 I0 (Nat.zero_le _) (by simp only [List.length_nil]; omega)
  simp only [List.length_nil, List.drop_zero, List.reverse_nil] at hloop
  unfold buildWList
  cases hgo : buildWList.go usym names [] 0 with
  | none =>
    -- a name was refused: `goto done` skips the offsets and the final part
    rw [hgo] at hloop
    simp only at hloop ⊢
    obtain ⟨g1, g2, g3, g4, g5, g6, g7⟩ := hloop
    have hg : (VSsetfields.St.set_brk (VSsetfields.loop1 fuel s0) false).gto = true := g1
    rw [sfBOffs_gto _ _ hg, sfBFin_gto _ _ hg] at hr
    have hfr : sfFrame r = sfFrame s0 := by rw [hr]; exact g5
    have hrest := rest_of_frame hfr
    refine ⟨by rw [hr]; exact g1, by rw [hr], by rw [hr]; exact g3, by rw [hr]; exact g6, by rw [hr]; exact g7, hrest, ?_,
      congrArg (·.building) hfr, congrArg (·.vs_marked) hfr, congrArg (·.vs_new_h_sz) hfr⟩
    rw [hr]; exact g4
  | some p =>
    -- every name was taken: the offsets (loop 4: prefix sums of the sizes), then `marked`, `new_h_sz`, `ret_value = SUCCEED`
    obtain ⟨fs, iv⟩ := p
    rw [hgo] at hloop
    simp only at hloop ⊢
    obtain ⟨I, hlen⟩ := hloop
    set r1 := VSsetfields.loop1 fuel s0 with hr1
    clear hr1
    clear_value r1
    have b2 : r1.vs_wlist_off_i = s0.vs_wlist_off_i := congrArg (·.vs_wlist_off_i) I.fr
    have b3 : r1.vs_wlist_isize_i = s0.vs_wlist_isize_i := congrArg (·.vs_wlist_isize_i) I.fr
    obtain ⟨k1, k2, k3⟩ := I.cl
    rw [sfBOffs_eq fuel (VSsetfields.St.set_brk r1 false) ⟨k1, rfl, k3⟩] at hr
    have hsum : iv = (fs.map (·.isize)).sum ∧ iv ≤ 65535 :=
      (buildWList_go_wf usym (fun sd h => (hus sd h).1) names [] 0 (by simp) (by simp) (Nat.zero_le _) fs iv hgo).2
    obtain ⟨B, hL4, o1, o2, o3⟩ := l4_offsets names.length (fs.map (·.isize)) (by simp [hlen]) (by rw [← hsum.1]; exact hsum.2) fuel
      (VSsetfields.St.set_brk r1 false) (by omega) (by show r1.vs_wlist_n = _; rw [I.hn, hlen]) ⟨k1, rfl, k3⟩ (by show r1.vs_wlist_off_i = _; rw [b2])
      (by show r1.vs_wlist_isize_i = _; rw [b3]) (by show r1.vs_wlist_bptr.length = _; exact I.hbl)
      (fun j hj => by
        have := (I.cells j (by omega)).2.1
        show r1.vs_wlist_bptr.getD _ 0 = _
        rw [this]; simp [hlen ▸ hj])
    rw [hL4] at hr
    rw [sfBFin_ok _ _ (by exact ⟨k1, rfl, k3⟩)] at hr
    have hfields : (assignOffs fs).length = names.length := by rw [assignOffs_eq, offsFrom_length, hlen]
    have hwn : WList.n ⟨assignOffs fs, iv⟩ = names.length := hfields
    have hne : (assignOffs fs).isEmpty = false := by
      cases hf' : assignOffs fs with
      | nil => rw [hf'] at hfields; exact absurd (List.length_eq_zero_iff.mp hfields.symm) hn0
      | cons a t => rfl
    refine ⟨by rw [hr], by rw [hr], by rw [hr]; exact k3, by rw [hr]; exact I.hub, by rw [hr]; exact I.hoof, ?_,
      by rw [hr], by rw [hr], by rw [hr], by rw [hr], ?_, by rw [hr]; exact I.hiv, ?_, ?_, ?_, ?_, fun _ => ?_⟩
    · rw [hr]; show sfRest r1 = sfRest s0; exact rest_of_frame I.fr
    · rw [hr]; show r1.vs_wlist_n = _; rw [I.hn, hlen, hwn]
    · -- `bptr` against the five arrays of the model's list, array by array, cell by cell
      rw [hr]
      show B = wBptr _
      unfold wBptr
      apply five_ext B _ _ _ _ _ names.length (by simp [hfields]) (by simp [hfields]) (by simp [hfields]) (by simp [hfields]) (by simp [hfields]) o1
      intro j hj
      have hjf : j < fs.length := by omega
      have hjw : j < (assignOffs fs).length := by omega
      obtain ⟨q1, q2, q3, q4⟩ := I.cells j hjf
      have hfj : (assignOffs fs).getD j default = { fs.getD j default with off := pre (fs.map (·.isize)) j } := by
        rw [assignOffs_eq, offsFrom_getD 0 fs j hjf]; simp
      have m : ∀ (g : Field → Int), ((assignOffs fs).map g).getD j 0 = g ((assignOffs fs).getD j default) := fun g => by simp [hjw]
      simp only [m, hfj]
      refine ⟨?_, ?_, ?_, ?_, ?_⟩
      · rw [o3 j (Or.inl (by omega)), q1]
      · rw [o2 j hj]
      · rw [o3 (2 * names.length + j) (Or.inr (by omega)), q2]
      · rw [o3 (3 * names.length + j) (Or.inr (by omega)), q3]
      · rw [o3 (4 * names.length + j) (Or.inr (by omega)), q4]
    · rw [hr]
      show r1.vs_wlist_name = wNames _
      unfold wNames
      apply ext_getD _ _ [] (by rw [I.hnl]; simp [hfields])
      intro j hj
      rw [I.hnl] at hj
      have hjf : j < fs.length := by omega
      have hjw : j < (assignOffs fs).length := by omega
      rw [I.rows j hjf]
      have hfj : (assignOffs fs).getD j default = { fs.getD j default with off := pre (fs.map (·.isize)) j } := by
        rw [assignOffs_eq, offsFrom_getD 0 fs j hjf]; simp
      simp [List.getD_eq_getElem?_getD, hjw] at hfj ⊢
      rw [hfj]
    · rw [hr]; show r1.vs_wlist_bptr_null = _
      exact (congrArg (·.vs_wlist_bptr_null) I.fr).trans hne.symm
    · rw [hr]; show r1.vs_wlist_name_null = _
      exact (congrArg (·.vs_wlist_name_null) I.fr).trans hne.symm
    · rw [hr, hwn]
      exact ⟨(congrArg (·.vs_wlist_type_i) I.fr).trans E.c1, b2.trans E.c2, b3.trans E.c3, (congrArg (·.vs_wlist_order_i) I.fr).trans E.c4,
        (congrArg (·.vs_wlist_esize_i) I.fr).trans E.c5⟩

end H4.Lemmas.C07Fld
