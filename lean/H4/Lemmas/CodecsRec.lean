import H4.Codecs
import H4.Lemmas.BigEndian
/-! Helper lemmas for C15: big-endian field macros and the record readers on what the writers produce. -/
namespace H4.Codecs
open H4.BigEndian

theorem toNat_ofNat_lt (n : Nat) (h : n < 256) : (UInt8.ofNat n).toNat = n := by
  simp [UInt8.toNat_ofNat']
  omega

theorem ofNat_mod (n : Nat) : (UInt8.ofNat (n % 256)).toNat = n % 256 := toNat_ofNat_lt _ (Nat.mod_lt _ (by decide))

theorem and255 (n : Nat) : n &&& 0xff = n % 256 := Nat.and_two_pow_sub_one_eq_mod n 8

theorem shl_or (hi lo k : Nat) (h : lo < 2 ^ k) : hi <<< k ||| lo = hi * 2 ^ k + lo := by
  rw [← Nat.shiftLeft_add_eq_or_of_lt h, Nat.shiftLeft_eq]

theorem dec16_enc16 (n : Nat) (h : n < 65536) :
    dec16 (UInt8.ofNat ((n >>> 8) &&& 0xff)) (UInt8.ofNat (n &&& 0xff)) = n := by
  simp only [dec16, and255, Nat.shiftRight_eq_div_pow, ofNat_mod, Nat.reducePow]
  rw [shl_or _ _ 8 (Nat.mod_lt _ (by decide))]
  exact digits16 h

theorem dec32_bytes (a b c d : Nat) (hb : b < 256) (hc : c < 256) (hd : d < 256) :
    a <<< 24 ||| b <<< 16 ||| c <<< 8 ||| d = ((a * 256 + b) * 256 + c) * 256 + d := by
  have e1 : a <<< 24 ||| b <<< 16 = (a * 256 + b) <<< 16 := by
    rw [show a <<< 24 = (a <<< 8) <<< 16 by rw [← Nat.shiftLeft_add], ← Nat.shiftLeft_or_distrib, shl_or _ _ 8 hb]
  have e2 : (a * 256 + b) <<< 16 ||| c <<< 8 = ((a * 256 + b) * 256 + c) <<< 8 := by
    rw [show (a * 256 + b) <<< 16 = ((a * 256 + b) <<< 8) <<< 8 by rw [← Nat.shiftLeft_add], ← Nat.shiftLeft_or_distrib, shl_or _ _ 8 hc]
  rw [e1, e2, shl_or _ _ 8 hd]

theorem dec32_enc32 (n : Nat) (h : n < 4294967296) :
    dec32 (UInt8.ofNat ((n >>> 24) &&& 0xff)) (UInt8.ofNat ((n >>> 16) &&& 0xff)) (UInt8.ofNat ((n >>> 8) &&& 0xff))
      (UInt8.ofNat (n &&& 0xff)) = n := by
  have m {k : Nat} : k % 256 < 256 := Nat.mod_lt _ (by decide)
  simp only [dec32, and255, Nat.shiftRight_eq_div_pow, ofNat_mod, Nat.reducePow]
  rw [dec32_bytes _ _ _ _ m m m]
  exact digits32 h

theorem toU16_lt (i : Int) : toU16 i < 65536 := by simp only [toU16]; omega
theorem toU32_lt (i : Int) : toU32 i < 4294967296 := by simp only [toU32]; omega

theorem toS_toU16 (i : Int) (h1 : -32768 ≤ i) (h2 : i < 32768) : toS16 (toU16 i) = i := by
  rw [toS16, toU16, ← ite_not]
  simpa using wrap_unwrap (H := 32768) h1 h2

theorem toS_toU32 (i : Int) (h1 : -2147483648 ≤ i) (h2 : i < 2147483648) : toS32 (toU32 i) = i := by
  rw [toS32, toU32, ← ite_not]
  simpa using wrap_unwrap (H := 2147483648) h1 h2

theorem toU16_nat (n : Nat) (h : n < 65536) : toU16 (n : Int) = n := by simp only [toU16]; omega

theorem decI16_encI16 (i : Int) (h1 : -32768 ≤ i) (h2 : i < 32768) :
    decI16 (UInt8.ofNat ((toU16 i >>> 8) &&& 0xff)) (UInt8.ofNat (toU16 i &&& 0xff)) = i := by
  simp only [decI16]; rw [dec16_enc16 _ (toU16_lt i), toS_toU16 i h1 h2]

theorem decI32_encI32 (i : Int) (h1 : -2147483648 ≤ i) (h2 : i < 2147483648) :
    decI32 (UInt8.ofNat ((toU32 i >>> 24) &&& 0xff)) (UInt8.ofNat ((toU32 i >>> 16) &&& 0xff))
      (UInt8.ofNat ((toU32 i >>> 8) &&& 0xff)) (UInt8.ofNat (toU32 i &&& 0xff)) = i := by
  simp only [decI32]; rw [dec32_enc32 _ (toU32_lt i), toS_toU32 i h1 h2]

def I32 (i : Int) : Prop := -2147483648 ≤ i ∧ i < 2147483648
def I16 (i : Int) : Prop := -32768 ≤ i ∧ i < 32768
def U16 (n : Nat) : Prop := n < 65536
instance (i : Int) : Decidable (I32 i) := by unfold I32; infer_instance
instance (i : Int) : Decidable (I16 i) := by unfold I16; infer_instance
instance (n : Nat) : Decidable (U16 n) := by unfold U16; infer_instance

/-- the field ranges of a dimension record: int32 sizes, uint16 tags/refs, int16 component count and interlace -/
def DimRec.InRange (r : DimRec) : Prop :=
  I32 r.xdim ∧ I32 r.ydim ∧ U16 r.ntTag ∧ U16 r.ntRef ∧ I16 r.ncomps ∧ I16 r.il ∧ U16 r.compTag ∧ U16 r.compRef

theorem readI32s_enc (tail : List Byte) (dims : List Int) (h : ∀ d ∈ dims, I32 d) :
    readI32s dims.length (dims.flatMap encI32 ++ tail) = some (dims, tail) :=
  many_roundtrip (P := I32) (fun _ => rfl)
    (fun n a l r r' ha h => by
      simp only [encI32, enc32, List.cons_append, List.nil_append, readI32s, h, Option.map_some, decI32_encI32 a ha.1 ha.2])
    dims h tail

theorem readTagRefs_enc (tail : List Byte) (nts : List (Nat × Nat)) (h : ∀ t ∈ nts, U16 t.1 ∧ U16 t.2) :
    readTagRefs nts.length (nts.flatMap encTagRef ++ tail) = some (nts, tail) :=
  many_roundtrip (P := fun t => U16 t.1 ∧ U16 t.2) (fun _ => rfl)
    (fun n a l r r' ha h => by
      simp only [encTagRef, enc16, List.cons_append, List.nil_append, readTagRefs, h, Option.map_some, dec16_enc16 _ ha.1,
        dec16_enc16 _ ha.2])
    nts h tail

end H4.Codecs
