import H4.Lemmas.ElemDisk
import H4.Lemmas.ElemWalk
/-! `HLPread` against the byte-array view (`File.lbyte`). -/
namespace H4.Elem

theorem lbyte_block (f : File) (li : LinkInfo) (hblk : 1 ≤ li.blockLen) (t idx r : Nat)
    (hidx : idx < li.numBlocks) (hr : r < blockLenOf li.firstLen li.blockLen (t * li.numBlocks + idx)) :
    f.lbyte li (blockStart li.firstLen li.blockLen (t * li.numBlocks + idx) + r) = f.blockByte (li.blockRef t idx) r := by
  unfold File.lbyte
  rw [startBlock_block _ _ _ _ hblk hr]
  simp only
  obtain ⟨hd, hm⟩ := mul_add_div_mod t li.numBlocks idx hidx
  rw [hd, hm]

theorem blockByte_of_ext {f : File} {ref o l : Nat} (h0 : ref ≠ 0) (h : f.blockExt ref = some (o, l)) (r : Nat) :
    f.blockByte ref r = rd f.disk (o + r) := by
  simp only [File.blockByte, h0, if_false, h]

theorem tiles_le (first blk nb : Nat) : ∀ (l : List Piece) (a b : Nat), Tiles first blk nb a l b → a ≤ b := by
  intro l
  induction l with
  | nil => intro a b h; simp only [Tiles] at h; omega
  | cons x xs ihx => intro a b h; simp only [Tiles] at h; have := ihx _ _ h.2.2.2.2.2; omega

theorem tiles_tbl_lt (first blk nb L : Nat) (q : Piece) (p len : Nat)
    (hstart : blockStart first blk (q.tbl * nb + q.idx) + q.rel = p) (hp : p < len)
    (hcov : len ≤ blockStart first blk (L * nb)) : q.tbl < L := by
  apply Nat.lt_of_not_le
  intro h
  have h1 : L * nb ≤ q.tbl * nb + q.idx := Nat.le_trans (Nat.mul_le_mul_right nb h) (Nat.le_add_right _ _)
  have := blockStart_mono first blk _ _ h1
  omega

theorem piece_spec (f : File) (li : LinkInfo) (hw : WFL f li) (q : Piece) (p e : Nat) (rest : List Piece)
    (ht : Tiles li.firstLen li.blockLen li.numBlocks p (q :: rest) e) (he : e ≤ li.length) :
    q.tbl < li.tables.length ∧
    (List.range q.n).map (fun j => f.lbyte li (p + j)) = (List.range q.n).map (fun j => f.blockByte (li.blockRef q.tbl q.idx) (q.rel + j)) ∧
    (li.blockRef q.tbl q.idx ≠ 0 → ∃ o, f.blockExt (li.blockRef q.tbl q.idx) = some (o, q.cur) ∧
      f.readBlock (li.blockRef q.tbl q.idx) q.rel q.n = f.hpRead (o + q.rel) q.n) := by
  simp only [Tiles] at ht
  obtain ⟨hidx, hcur, hn, hfit, hstart, hrest⟩ := ht
  have hpe := tiles_le _ _ _ _ _ _ hrest
  have htb : q.tbl < li.tables.length :=
    tiles_tbl_lt li.firstLen li.blockLen li.numBlocks li.tables.length q p li.length hstart (by omega) hw.covers
  refine ⟨htb, ?_, ?_⟩
  · apply List.map_congr_left
    intro j hj
    have hj : j < q.n := List.mem_range.mp hj
    rw [← hstart, Nat.add_assoc]
    exact lbyte_block f li hw.blk_pos q.tbl q.idx (q.rel + j) hidx (by rw [← hcur]; omega)
  · intro href
    obtain ⟨o, ho⟩ := hw.block_ok q.tbl q.idx htb hidx href
    rw [← hcur] at ho
    refine ⟨o, ho, ?_⟩
    unfold File.readBlock
    rw [ho]
    simp only
    rw [if_neg (by omega), if_neg (by omega)]

theorem range_map_append (g : Nat → UInt8) (a b : Nat) :
    (List.range a).map g ++ (List.range b).map (fun j => g (a + j)) = (List.range (a + b)).map g := by
  rw [List.range_add, List.map_append, List.map_map]
  rfl

theorem readPieces_spec (f : File) (li : LinkInfo) (hw : WFL f li) :
    ∀ (ps : List Piece) (p e cnt : Nat) (acc : Bytes),
      Tiles li.firstLen li.blockLen li.numBlocks p ps e → e ≤ li.length →
      readPieces f li ps cnt acc = .fail ∨
      readPieces f li ps cnt acc = .data ((cnt + (e - p) : Nat) : Int) (acc ++ (List.range (e - p)).map (fun j => f.lbyte li (p + j))) := by
  intro ps
  induction ps with
  | nil =>
    intro p e cnt acc ht _
    simp only [Tiles] at ht
    subst ht
    right
    simp [readPieces]
  | cons q rest ih =>
    intro p e cnt acc ht he
    obtain ⟨htb, hbytes, hblock⟩ := piece_spec f li hw q p e rest ht he
    simp only [Tiles] at ht
    have hrest := ht.2.2.2.2.2
    have hpe := tiles_le _ _ _ _ _ _ hrest
    -- whatever the piece's storage, the loop goes on with the piece's bytes appended and counted
    have next : ∀ x, x = (List.range q.n).map (fun j => f.lbyte li (p + j)) →
        readPieces f li rest (cnt + q.n) (acc ++ x) = .fail ∨
        readPieces f li rest (cnt + q.n) (acc ++ x) =
          .data ((cnt + (e - p) : Nat) : Int) (acc ++ (List.range (e - p)).map (fun j => f.lbyte li (p + j))) := by
      intro x hx
      rcases ih (p + q.n) e (cnt + q.n) (acc ++ x) hrest he with h | h
      · exact Or.inl h
      · right
        rw [h, hx, show cnt + q.n + (e - (p + q.n)) = cnt + (e - p) by omega, List.append_assoc,
          show e - p = q.n + (e - (p + q.n)) by omega, ← range_map_append (fun j => f.lbyte li (p + j))]
        simp only [Nat.add_assoc]
    simp only [readPieces]
    rw [if_neg (by omega)]
    by_cases href : li.blockRef q.tbl q.idx = 0
    · simp only [href, bne_self_eq_false, Bool.false_eq_true, if_false]
      apply next
      rw [hbytes, href]
      simp [zeros, File.blockByte, List.map_const']
    · obtain ⟨o, ho, hrb⟩ := hblock href
      simp only [bne_iff_ne, ne_eq, href, not_false_eq_true, if_true, hrb]
      cases hr : f.hpRead (o + q.rel) q.n with
      | none => left; rfl
      | some bs =>
        have hbs := hpRead_eq _ _ _ _ hr
        simp only
        rw [hpRead_length _ _ _ _ hr, Nat.sub_self, List.append_assoc]
        apply next
        rw [hbytes, hbs]
        simp only [zeros, List.replicate_zero, List.append_nil, blockByte_of_ext href ho, Nat.add_assoc]

theorem readPieces_ok (f : File) (li : LinkInfo) (hw : WFL f li) (hm : Materialised f li) :
    ∀ (ps : List Piece) (p e cnt : Nat) (acc : Bytes),
      Tiles li.firstLen li.blockLen li.numBlocks p ps e → e ≤ li.length → readPieces f li ps cnt acc ≠ .fail := by
  intro ps
  induction ps with
  | nil => intro p e cnt acc _ _; simp [readPieces]
  | cons q rest ih =>
    intro p e cnt acc ht he
    obtain ⟨htb, _, hblock⟩ := piece_spec f li hw q p e rest ht he
    simp only [Tiles] at ht
    obtain ⟨hidx, _, _, hfit, _, hrest⟩ := ht
    simp only [readPieces]
    rw [if_neg (by omega)]
    by_cases href : li.blockRef q.tbl q.idx = 0
    · simp only [href, bne_self_eq_false, Bool.false_eq_true, if_false]
      exact ih _ _ _ _ hrest he
    · obtain ⟨o, ho, hrb⟩ := hblock href
      have hphys := hm q.tbl q.idx htb hidx href o _ ho
      simp only [bne_iff_ne, ne_eq, href, not_false_eq_true, if_true, hrb, hpRead_some _ _ _ (by omega : o + q.rel + q.n ≤ f.disk.length)]
      exact ih _ _ _ _ hrest he


theorem hlpRead_len (L p : Nat) (length : Int) (hl : 0 ≤ length) :
    let len0 : Int := if length = 0 then (L : Int) - p else length
    let len : Int := if (p : Int) + len0 > L then (L : Int) - p else len0
    (len ≤ 0 ∧ readCount L p length.toNat = 0) ∨ (0 < len ∧ len.toNat = readCount L p length.toNat ∧ p < L) := by
  have e : (if (p : Int) + (if length = 0 then (L : Int) - p else length) > L then (L : Int) - p
      else (if length = 0 then (L : Int) - p else length)) = if length = 0 ∨ length + p > L then (L : Int) - p else length := by
    by_cases h0 : length = 0
    · simp [h0]
    · simp only [h0, if_false, false_or]
      by_cases h1 : length + p > L
      · rw [if_pos h1, if_pos (by omega)]
      · rw [if_neg h1, if_neg (by omega)]
  simp only [e]
  rcases readLen_spec L p length hl with ⟨h1, h2⟩ | ⟨h1, h2, h3⟩
  · exact Or.inl ⟨by omega, h2⟩
  · by_cases h0 : (if length = 0 ∨ length + p > L then (L : Int) - p else length) = 0
    · exact Or.inl ⟨by omega, by rw [← h2, h0]; rfl⟩
    · exact Or.inr ⟨by omega, h2, by omega⟩

theorem hlpRead_eq (f : File) (li : LinkInfo) (hw : WFL f li) (posn : Nat) (length : Int) (hl : 0 ≤ length) :
    (readCount li.length posn length.toNat = 0 ∧ hlpRead f li posn length = .data 0 []) ∨
    (Tiles li.firstLen li.blockLen li.numBlocks posn
        (walk li.firstLen li.blockLen li.numBlocks posn (readCount li.length posn length.toNat))
        (posn + readCount li.length posn length.toNat) ∧
      posn + readCount li.length posn length.toNat ≤ li.length ∧
      hlpRead f li posn length =
        readPieces f li (walk li.firstLen li.blockLen li.numBlocks posn (readCount li.length posn length.toNat)) 0 []) := by
  unfold hlpRead
  rw [if_neg (by omega)]
  rcases hlpRead_len li.length posn length hl with ⟨h1, h2⟩ | ⟨h1, h2, h3⟩
  · left
    simp only [h1, if_true, h2, and_self]
  · right
    have hb : ¬ (li.blockLen = 0 ∨ li.numBlocks = 0) := by have := hw.blk_pos; have := hw.nb_pos; omega
    simp only [Int.not_le.mpr h1, if_false, hb, h2]
    have hs := startBlock_spec li.firstLen li.blockLen posn hw.blk_pos
    generalize startBlock li.firstLen li.blockLen posn = s at hs
    obtain ⟨b, rel, cur⟩ := s
    simp only at hs ⊢
    have hbl : b < li.tables.length * li.numBlocks := by
      apply Nat.lt_of_not_le
      intro h
      have := blockStart_mono li.firstLen li.blockLen _ _ h
      have := hw.covers
      omega
    have ht : b / li.numBlocks < li.tables.length := by
      rw [Nat.div_lt_iff_lt_mul hw.nb_pos]; exact hbl
    rw [if_neg (by omega), if_neg (by omega)]
    have hle : posn + readCount li.length posn length.toNat ≤ li.length := by
      unfold readCount; rw [if_neg (by omega)]; split <;> omega
    exact ⟨walk_tiles _ _ _ posn _ hw.blk_pos hw.nb_pos (by omega), hle, rfl⟩

/-- `HLPread` (`hblocks.c`, as repaired by 9115bb2 and 4e6d0b8) -/
theorem hlpRead_spec (f : File) (li : LinkInfo) (hw : WFL f li) (posn : Nat) (length : Int) (hl : 0 ≤ length) :
    hlpRead f li posn length = .fail ∨
    hlpRead f li posn length =
      .data (readCount li.length posn length.toNat : Nat)
        ((List.range (readCount li.length posn length.toNat)).map (fun j => f.lbyte li (posn + j))) := by
  rcases hlpRead_eq f li hw posn length hl with ⟨h0, h⟩ | ⟨htiles, hle, h⟩
  · right; rw [h, h0]; rfl
  · rw [h]
    have := readPieces_spec f li hw _ posn _ 0 [] htiles hle
    simpa only [List.nil_append, Nat.zero_add, Nat.add_sub_cancel_left] using this

theorem hlpRead_ok (f : File) (li : LinkInfo) (hw : WFL f li) (hm : Materialised f li) (posn : Nat) (length : Int)
    (hl : 0 ≤ length) : hlpRead f li posn length ≠ .fail := by
  rcases hlpRead_eq f li hw posn length hl with ⟨_, h⟩ | ⟨htiles, hle, h⟩
  · rw [h]; simp
  · rw [h]; exact readPieces_ok f li hw hm _ posn _ 0 [] htiles hle

end H4.Elem
