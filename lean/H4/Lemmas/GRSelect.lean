import H4.GRegion
import H4.Lemmas.Slab
/-! C09, regions: which pixels a request selects. The argument checks accept exactly the strided selections inside the image; the `Hseek` / `Hwrite|Hread`
    loops of the plain path visit the offsets of the selected cells (`sel`, the rank-2 instance of `Slab.scells` / `offset`) once each, in buffer order. -/
namespace H4.GRegion
open H4.Slab

/-- closed form of the pixel offsets selected by a request, in the order of the caller's buffer -/
def selOffsets (W : Nat) (r : Req) : List Nat :=
  (List.range r.cy).flatMap fun i => (List.range r.cx).map fun j => (r.sy + i * r.ty) * W + (r.sx + j * r.tx)

abbrev sel (W H : Nat) (r : Req) : List Nat := (scells r.start r.stride r.count).map (offset (shape W H))

theorem sel_eq_selOffsets (W H : Nat) (r : Req) :
    sel W H r = selOffsets W r := by
  simp only [sel, scells, Req.start, Req.stride, Req.count, shape, selOffsets, List.map_flatMap, offset, prod,
    List.map_cons, List.map_nil, Nat.mul_one, Nat.add_zero]
  apply flatMap_congr'; intro i _
  rw [← List.map_eq_flatMap]

theorem loop_runs (L : Nat → Nat → List (Nat × Nat)) (g : Nat → List (Nat × Nat)) (d : Nat) (h0 : ∀ off, L 0 off = [])
    (hs : ∀ n off, L (n + 1) off = g off ++ L n (off + d)) :
    ∀ n off, expandRuns (L n off) = (List.range n).flatMap fun i => expandRuns (g (off + i * d)) := by
  intro n
  induction n with
  | zero => intro off; simp [h0, expandRuns]
  | succ n ih =>
    intro off
    rw [hs, expandRuns_append, ih, List.range_succ_eq_map]
    simp only [List.flatMap_cons, List.flatMap_map, Nat.zero_mul, Nat.add_zero]
    congr 1
    apply flatMap_congr'; intro i _
    rw [Nat.succ_mul, Nat.add_assoc, Nat.add_comm d]

theorem pixLoop_eq (tx n off : Nat) : expandRuns (pixLoop tx n off) = (List.range n).map (fun j => off + j * tx) :=
  (loop_runs (pixLoop tx) (fun o => [(o, 1)]) tx (fun _ => rfl) (fun _ _ => rfl) n off).trans
    (by simp only [expandRuns, List.flatMap_cons, List.flatMap_nil, List.append_nil, List.range'_one]; exact List.map_eq_flatMap.symm)

theorem stridedLoop_eq (W tx ty cx n off : Nat) :
    expandRuns (stridedLoop W tx ty cx n off)
      = (List.range n).flatMap (fun i => (List.range cx).map (fun j => off + i * (W * ty) + j * tx)) :=
  (loop_runs (stridedLoop W tx ty cx) (pixLoop tx cx) (W * ty) (fun _ => rfl) (fun _ _ => rfl) n off).trans
    (flatMap_congr' fun _ _ => pixLoop_eq tx cx _)

theorem solidLoop_eq (W cx n off : Nat) :
    expandRuns (solidLoop W cx n off) = (List.range n).flatMap (fun i => (List.range cx).map (fun j => off + i * W + j)) :=
  (loop_runs (solidLoop W cx) (fun o => [(o, cx)]) W (fun _ => rfl) (fun _ _ => rfl) n off).trans
    (flatMap_congr' fun i _ => by
      simp only [expandRuns, List.flatMap_cons, List.flatMap_nil, List.append_nil]
      rw [List.range_eq_range', List.map_add_range']; simp)

/-- **Addressing.** For every image width and every request (valid or not), the `Hseek`/`Hwrite|Hread`
    transfers of the plain path – whole-image fast path, one run per line of a solid block, one transfer
    per pixel when sub-sampling – touch exactly the offsets `(sy + i·ty)·W + sx + j·tx`, `i < cy`, `j < cx`,
    once each, in the order of the caller's pixel-interlaced buffer. -/
theorem ioOffsets_eq_selOffsets (W H : Nat) (r : Req) : ioOffsets W H r = selOffsets W r := by
  unfold ioOffsets ioRuns selOffsets
  by_cases hw : r.whole W H = true
  · simp only [hw, if_true]
    simp only [Req.whole, Req.solid, Bool.and_eq_true, beq_iff_eq] at hw
    obtain ⟨⟨⟨⟨⟨htx, hty⟩, hsx⟩, hsy⟩, hcx⟩, hcy⟩ := hw
    subst hcx hcy
    rw [expandRuns_cons]
    simp only [expandRuns, List.flatMap_nil, List.append_nil, htx, hty, hsx, hsy, Nat.zero_add, Nat.mul_one]
    have := range'_block 0 r.cx r.cy
    simp only [Nat.zero_add] at this
    rw [this, Nat.mul_comm]
  · have hw' : r.whole W H = false := by simpa using hw
    simp only [hw', Bool.false_eq_true, if_false]
    by_cases hs : r.solid = true
    · simp only [hs, if_true]
      simp only [Req.solid, Bool.and_eq_true, beq_iff_eq] at hs
      rw [solidLoop_eq]
      apply flatMap_congr'; intro i _
      apply List.map_congr_left; intro j _
      simp only [imgOffset, hs.1, hs.2, Nat.mul_one]
      rw [Nat.add_mul, Nat.mul_comm W r.sy]; omega
    · have hs' : r.solid = false := by simpa using hs
      simp only [hs', Bool.false_eq_true, if_false]
      rw [stridedLoop_eq]
      apply flatMap_congr'; intro i _
      apply List.map_congr_left; intro j _
      simp only [imgOffset]
      rw [Nat.add_mul, Nat.mul_comm W r.sy, Nat.mul_comm W r.ty, ← Nat.mul_assoc]; omega

theorem ioOffsets_eq (W H : Nat) (r : Req) : ioOffsets W H r = sel W H r := by
  rw [ioOffsets_eq_selOffsets, ← sel_eq_selOffsets W H r]

theorem valid_bounds (W H : Nat) (r : Req) (hs : r.sane = true) (hi : r.inImage W H = true) :
    1 ≤ r.tx ∧ 1 ≤ r.ty ∧ 1 ≤ r.cx ∧ 1 ≤ r.cy ∧ lastCol r < W ∧ lastRow r < H := by
  simp only [Req.sane, Bool.and_eq_true, decide_eq_true_eq] at hs
  simp only [Req.inImage, Bool.not_eq_true', Bool.or_eq_false_iff, decide_eq_false_iff_not, Nat.not_le, Nat.not_lt,
    ge_iff_le, gt_iff_lt] at hi
  obtain ⟨⟨⟨h1, h2⟩, h3⟩, h4⟩ := hs
  obtain ⟨⟨⟨g1, g2⟩, g3⟩, g4⟩ := hi
  have g3' := (Nat.le_div_iff_mul_le (by omega : 0 < r.tx)).mp g3
  have g4' := (Nat.le_div_iff_mul_le (by omega : 0 < r.ty)).mp g4
  refine ⟨h1, h2, h3, h4, ?_, ?_⟩ <;> simp only [lastCol, lastRow] <;> omega

theorem valid_iff_sInRange (W H : Nat) (r : Req) :
    (r.sane = true ∧ r.inImage W H = true) ↔ sInRange (shape W H) r.start r.stride r.count := by
  constructor
  · rintro ⟨hs, hi⟩
    obtain ⟨h1, h2, h3, h4, h5, h6⟩ := valid_bounds W H r hs hi
    simp only [sInRange, shape, Req.start, Req.stride, Req.count, lastCol, lastRow] at *
    exact ⟨h2, h4, h6, h1, h3, h5, trivial⟩
  · intro h
    simp only [sInRange, shape, Req.start, Req.stride, Req.count] at h
    obtain ⟨h2, h4, h6, h1, h3, h5, _⟩ := h
    refine ⟨by simp [Req.sane, h1, h2, h3, h4], ?_⟩
    simp only [Req.inImage, Bool.not_eq_true', Bool.or_eq_false_iff, decide_eq_false_iff_not, Nat.not_le, Nat.not_lt,
      ge_iff_le, gt_iff_lt]
    have a : r.cx - 1 ≤ (W - 1 - r.sx) / r.tx := (Nat.le_div_iff_mul_le (by omega)).mpr (by omega)
    have b : r.cy - 1 ≤ (H - 1 - r.sy) / r.ty := (Nat.le_div_iff_mul_le (by omega)).mpr (by omega)
    have c : r.sx < W := by have := Nat.zero_le ((r.cx - 1) * r.tx); omega
    have d : r.sy < H := by have := Nat.zero_le ((r.cy - 1) * r.ty); omega
    exact ⟨⟨⟨c, d⟩, a⟩, b⟩

theorem scells_length : ∀ (s st c : List Nat), s.length = c.length → st.length = c.length →
    (scells s st c).length = prod c := by
  intro s
  induction s with
  | nil => intro st c h1 h2; cases c <;> simp_all [scells, prod]
  | cons s0 ss ih =>
    intro st c h1 h2
    cases c with
    | nil => simp at h1
    | cons c0 cs =>
      cases st with
      | nil => simp at h2
      | cons t0 ts =>
        simp only [scells, prod, List.length_flatMap, List.length_map]
        rw [ih ts cs (by simpa using h1) (by simpa using h2)]
        rw [List.map_const', List.length_range, List.sum_replicate_nat]

theorem prod_shape (W H : Nat) : prod (shape W H) = W * H := by simp [shape, prod, Nat.mul_comm]

theorem sel_in {W H : Nat} {r : Req} (hs : r.sane = true) (hi : r.inImage W H = true) :
    ∀ c ∈ scells r.start r.stride r.count, inB (shape W H) c :=
  scells_inB _ _ _ _ ((valid_iff_sInRange W H r).mp ⟨hs, hi⟩)

theorem sel_all_lt {α} (W H : Nat) (r : Req) (hs : r.sane = true) (hi : r.inImage W H = true) (e : List α)
    (hlen : e.length = W * H) : (sel W H r).all (· < e.length) = true := by
  rw [List.all_eq_true]; intro o ho
  rw [decide_eq_true_eq, hlen, ← prod_shape]
  exact offsets_lt (sel_in hs hi) o ho

end H4.GRegion
