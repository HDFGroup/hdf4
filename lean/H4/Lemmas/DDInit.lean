import H4.Lemmas.DDRun
/-! # A newly created file satisfies the invariant -/
namespace H4.DD
open H4.Gen.Hdf

/-- `ndds` as `HTPinit` 'reasonablizes' it -/
def normNdds (n : Nat) : Nat := if n = 0 then DEF_NDDS else if n < MIN_NDDS then MIN_NDDS else n

theorem normNdds_ge (n : Nat) : MIN_NDDS ≤ normNdds n := by
  unfold normNdds; split
  · decide
  · split
    · exact Nat.le_refl _
    · omega

theorem htpInit_eq (n : Nat) (c : Bool) : ({ htpInit n with cache := c } : File) =
    { blocks := [{ myoff := MAGICLEN, next := 0, dirty := false, dds := List.replicate (normNdds n) nilDD }],
      disk := [{ myoff := MAGICLEN, hdr := true, ndds := normNdds n, next := 0, dds := List.replicate (normNdds n) nilDD }],
      cache := c, fdirty := false, maxref := 0, nullBlk := some 0, nullNext := 0,
      fEnd := MAGICLEN + (NDDS_SZ + OFFSET_SZ) + normNdds n * DD_SZ, tags := [], ub := false } := rfl

theorem htpInit_inv (cfg : Cfg) (n : Nat) (c : Bool) : Inv cfg ({ htpInit n with cache := c } : File) := by
  rw [htpInit_eq]
  have hn : 4 ≤ normNdds n := normNdds_ge n
  have hlive : liveOf (List.replicate (normNdds n) nilDD ++ []) = [] := by simp [liveOf_replicate_nil]
  refine ⟨⟨WFl_of_no_live hlive, rfl, by simp, ?_⟩, ⟨rfl, ?_, ?_, ?_, ?_⟩, ?_⟩
  · intro b hb
    simp only [List.length_cons, List.length_nil] at hb
    have hb0 : b = 0 := by omega
    subst hb0
    exact ⟨_, rfl, by simp; omega⟩
  · intro i b d h1 h2 _
    cases i with
    | zero => simp at h1 h2; subst h1 h2; simp [mirror]
    | succ i => simp at h1
  · simp [chainFrom, MAGICLEN]
  · intro b hb
    simp at hb; subst hb
    simp only
    have : 0 < NDDS_SZ + OFFSET_SZ := by decide
    omega
  · intro b hb hd
    simp at hb; subst hb; simp at hd
  · intro _ d hd
    have hd' : d ∈ liveOf (List.replicate (normNdds n) nilDD ++ []) := by
      have : d ∈ liveOf (File.slots _) := hd
      simpa [File.slots, slotsOf] using this
    rw [hlive] at hd'; cases hd'

theorem htpInit_guardF3 (cfg : Cfg) (n : Nat) (c : Bool) : guardF3 cfg ({ htpInit n with cache := c } : File) = true := by
  rw [htpInit_eq]
  have hn : 4 ≤ normNdds n := normNdds_ge n
  unfold guardF3
  have : (scanFwd pNull [({ myoff := MAGICLEN, next := 0, dirty := false, dds := List.replicate (normNdds n) nilDD } : Block)] 0 0).isSome = true := by
    obtain ⟨m, hm⟩ : ∃ m, normNdds n = m + 1 := ⟨normNdds n - 1, by omega⟩
    rw [hm]
    simp [scanFwd, List.replicate_succ, firstIdx, pNull, nilDD]
  simp [this]

/-- `Hopen(DFACC_CREATE, ndds)`, with the version element the library puts in the new file -/
theorem hopenCreate_inv (cfg : Cfg) (n : Nat) :
    Inv cfg (hopenCreate cfg n) ∧ (hopenCreate cfg n).abs = [(DFTAG_VERSION, 1, (LIBVER_LEN : Int))] := by
  have h0 := htpInit_inv cfg n defaultCache
  have hw := write_refines cfg true h0 (t := DFTAG_VERSION) (r := 1) (l := (LIBVER_LEN : Int))
    (by decide) (by decide) (by decide) (by decide) (htpInit_guardF3 cfg n defaultCache)
  simp only [if_true] at hw
  obtain ⟨hi, _, hp⟩ := hw
  refine ⟨hi, ?_⟩
  have habs0 : ({ htpInit n with cache := defaultCache } : File).abs = [] := by
    rw [htpInit_eq]
    simp [File.abs, absl, File.slots, slotsOf, liveOf_replicate_nil]
  rw [habs0] at hp
  have : specWrite [] (baseTag DFTAG_VERSION) 1 (LIBVER_LEN : Int) true = (.num (LIBVER_LEN : Int), [(DFTAG_VERSION, 1, (LIBVER_LEN : Int))]) := by
    decide
  rw [this] at hp
  exact List.perm_singleton.mp hp

end H4.DD
