import H4.Conv
import H4.Lemmas.C2L
/-! Lemmas for the conversion model `H4.Conv`.  `readN` / `writeN` are `H4.C2L.readAt` / `storeAt` on bytes (by `rfl`), and their lemmas are those;
    `Disj`, `InBounds`, `NoClash` are what the element loop `conv` needs of a call. -/
namespace H4.Conv
open H4.C2L

def Disj (a la b lb : Nat) : Prop := a + la ≤ b ∨ b + lb ≤ a

theorem writeN_length (mem : List Byte) (off : Nat) (bs : List Byte) (h : off + bs.length ≤ mem.length) :
    (writeN mem off bs).length = mem.length := length_storeAt mem off bs h

theorem readN_length (mem : List Byte) (off n : Nat) (h : off + n ≤ mem.length) : (readN mem off n).length = n :=
  length_readAt mem off n h

theorem tr_length (swap : Bool) (e : List Byte) : (tr swap e).length = e.length := by
  unfold tr; split <;> simp

theorem readN_writeN_same (mem : List Byte) (off : Nat) (bs : List Byte) (h : off + bs.length ≤ mem.length) :
    readN (writeN mem off bs) off bs.length = bs := readAt_storeAt_same mem off bs h

theorem readN_writeN_disj (mem : List Byte) (off : Nat) (bs : List Byte) (p n : Nat)
    (h : off + bs.length ≤ mem.length) (hd : Disj off bs.length p n) :
    readN (writeN mem off bs) p n = readN mem p n := readAt_storeAt_disj mem off bs h hd.symm

def InBounds (esz n so ss dO ds len : Nat) : Prop :=
  ∀ i, i < n → so + i * ss + esz ≤ len ∧ dO + i * ds + esz ≤ len

/-- destination element `j` meets neither another destination element nor a later/earlier source element:
    holds for disjoint regions with `ds ≥ esz`, and for the in-place call (`so = dO`, equal strides ≥ `esz`) -/
def NoClash (esz n so ss dO ds : Nat) : Prop :=
  ∀ i j, i < n → j < n → i ≠ j →
    Disj (dO + j * ds) esz (so + i * ss) esz ∧ Disj (dO + j * ds) esz (dO + i * ds) esz

theorem noClash_inplace {esz n o st : Nat} (h : esz ≤ st) : NoClash esz n o st o st := by
  intro i j _ _ hij
  have key : Disj (o + j * st) esz (o + i * st) esz := by
    unfold Disj
    rcases Nat.lt_or_gt_of_ne hij with h' | h'
    · right
      have : (i + 1) * st ≤ j * st := Nat.mul_le_mul_right st h'
      rw [Nat.succ_mul] at this; omega
    · left
      have : (j + 1) * st ≤ i * st := Nat.mul_le_mul_right st h'
      rw [Nat.succ_mul] at this; omega
  exact ⟨key, key⟩

theorem succ_stride (a j s : Nat) : a + (j + 1) * s = a + s + j * s := by rw [Nat.succ_mul]; omega

theorem inb_head {esz k so ss dO ds len : Nat} (h : InBounds esz (k + 1) so ss dO ds len) : so + esz ≤ len ∧ dO + esz ≤ len := by
  simpa using h 0 (by omega)

theorem inb_tail {esz k so ss dO ds len : Nat} (h : InBounds esz (k + 1) so ss dO ds len) :
    InBounds esz k (so + ss) ss (dO + ds) ds len := fun i hi => by
  rw [← succ_stride, ← succ_stride]; exact h (i + 1) (by omega)

theorem step_length (mem : List Byte) (so dO esz : Nat) (swap : Bool) (h1 : so + esz ≤ mem.length) (h2 : dO + esz ≤ mem.length) :
    (writeN mem dO (tr swap (readN mem so esz))).length = mem.length :=
  writeN_length _ _ _ (by rw [tr_length, readN_length _ _ _ h1]; exact h2)

theorem conv_length (esz : Nat) (swap : Bool) : ∀ (n so ss dO ds : Nat) (mem : List Byte),
    InBounds esz n so ss dO ds mem.length → (conv esz swap n so ss dO ds mem).length = mem.length := by
  intro n
  induction n with
  | zero => intro so ss dO ds mem _; rfl
  | succ n ih =>
    intro so ss dO ds mem hb
    have hw := step_length mem so dO esz swap (inb_head hb).1 (inb_head hb).2
    rw [conv, ih _ _ _ _ _ (hw ▸ inb_tail hb), hw]

theorem conv_frame (esz : Nat) (swap : Bool) : ∀ (n so ss dO ds : Nat) (mem : List Byte) (p m : Nat),
    InBounds esz n so ss dO ds mem.length → (∀ j, j < n → Disj (dO + j * ds) esz p m) →
    readN (conv esz swap n so ss dO ds mem) p m = readN mem p m := by
  intro n
  induction n with
  | zero => intro so ss dO ds mem p m _ _; rfl
  | succ n ih =>
    intro so ss dO ds mem p m hb hd
    obtain ⟨h1, h2⟩ := inb_head hb
    have hl : (tr swap (readN mem so esz)).length = esz := by rw [tr_length, readN_length _ _ _ h1]
    rw [conv, ih _ _ _ _ _ _ _ (step_length mem so dO esz swap h1 h2 ▸ inb_tail hb)
      (fun j hj => succ_stride dO j ds ▸ hd (j + 1) (by omega))]
    exact readN_writeN_disj _ _ _ _ _ (by rw [hl]; exact h2) (by rw [hl]; simpa using hd 0 (by omega))

theorem conv_elem (esz : Nat) (swap : Bool) : ∀ (n so ss dO ds : Nat) (mem : List Byte),
    InBounds esz n so ss dO ds mem.length → NoClash esz n so ss dO ds →
    ∀ i, i < n → readN (conv esz swap n so ss dO ds mem) (dO + i * ds) esz = tr swap (readN mem (so + i * ss) esz) := by
  intro n
  induction n with
  | zero => intro so ss dO ds mem _ _ i hi; omega
  | succ n ih =>
    intro so ss dO ds mem hb hc i hi
    obtain ⟨h1, h2⟩ := inb_head hb
    have hl : (tr swap (readN mem so esz)).length = esz := by rw [tr_length, readN_length _ _ _ h1]
    have hb' := step_length mem so dO esz swap h1 h2 ▸ inb_tail hb
    rw [conv]
    cases i with
    | zero =>
      rw [Nat.zero_mul, Nat.zero_mul, Nat.add_zero, Nat.add_zero, conv_frame esz swap n _ _ _ _ _ dO esz hb'
        (fun j hj => by simpa [succ_stride] using (hc 0 (j + 1) (by omega) (by omega) (by omega)).2)]
      have := readN_writeN_same mem dO (tr swap (readN mem so esz)) (by rw [hl]; exact h2)
      rwa [hl] at this
    | succ k =>
      rw [succ_stride, succ_stride, ih _ _ _ _ _ hb' (fun a b ha hb2 hab => by
        simpa [succ_stride] using hc (a + 1) (b + 1) (by omega) (by omega) (by omega)) k (by omega)]
      congr 1
      exact readN_writeN_disj _ _ _ _ _ (by rw [hl]; exact h2)
        (by rw [hl]; simpa [succ_stride] using (hc (k + 1) 0 (by omega) (by omega) (by omega)).1)

theorem writeN_readN_self (m : List Byte) (o n : Nat) (h : o + n ≤ m.length) : writeN m o (readN m o n) = m :=
  storeAt_readAt_self m o n h

/-- the "nothing to do" fast path of `DFKnb*b` is the contiguous case of this -/
theorem conv_id (esz : Nat) : ∀ (n o st : Nat) (m : List Byte), InBounds esz n o st o st m.length →
    conv esz false n o st o st m = m := by
  intro n
  induction n with
  | zero => intro o st m _; simp [conv]
  | succ n ih =>
    intro o st m hb
    simp only [conv, tr, Bool.false_eq_true, if_false]
    rw [writeN_readN_self _ _ _ (inb_head hb).1]
    exact ih _ _ _ (inb_tail hb)

theorem readN_add (m : List Byte) (o a b : Nat) : readN m o (a + b) = readN m o a ++ readN m (o + a) b := readAt_add m o a b

theorem writeN_writeN_adj (m : List Byte) (d : Nat) (A B : List Byte) (h : d ≤ m.length) :
    writeN (writeN m d A) (d + A.length) B = writeN m d (A ++ B) := storeAt_storeAt m d A B h

/-- the `memcpy` fast path of `DFKnb*b` (contiguous, NON-overlapping regions): the model's element loop is one block copy -/
theorem conv_contig (esz : Nat) : ∀ (n so dO : Nat) (m : List Byte), so + n * esz ≤ m.length → dO + n * esz ≤ m.length →
    Disj so (n * esz) dO (n * esz) → conv esz false n so esz dO esz m = writeN m dO (readN m so (n * esz)) := by
  intro n
  induction n with
  | zero =>
    intro so dO m _ _ _
    simp [conv, writeN, readN]
  | succ n ih =>
    intro so dO m h1 h2 hd
    rw [Nat.succ_mul] at h1 h2 hd
    unfold Disj at hd
    have hl : (readN m so esz).length = esz := readN_length _ _ _ (by omega)
    have hw : (writeN m dO (readN m so esz)).length = m.length := writeN_length _ _ _ (by rw [hl]; omega)
    simp only [conv, tr, Bool.false_eq_true, if_false]
    rw [ih _ _ _ (by rw [hw]; omega) (by rw [hw]; omega) (by unfold Disj; omega)]
    rw [readN_writeN_disj _ _ _ _ _ (by rw [hl]; omega) (by rw [hl]; unfold Disj; omega)]
    have := writeN_writeN_adj m dO (readN m so esz) (readN m (so + esz) (n * esz)) (by omega)
    rw [hl] at this
    rw [this, ← readN_add, Nat.succ_mul, Nat.add_comm esz]

theorem inb_total {esz num so dO len : Nat} (hn0 : num ≠ 0) (h : InBounds esz num so esz dO esz len) :
    so + num * esz ≤ len ∧ dO + num * esz ≤ len := by
  obtain ⟨k, rfl⟩ : ∃ k, num = k + 1 := ⟨num - 1, by omega⟩
  have := h k (by omega)
  rw [Nat.succ_mul]; omega

theorem beValue_append (a : List Byte) (b : Byte) : beValue (a ++ [b]) = beValue a * 256 + b.toNat := by
  simp [beValue, List.foldl_append]

theorem beValue_reverse : ∀ (e : List Byte), beValue e.reverse = leValue e := by
  intro e
  induction e with
  | nil => simp [beValue, leValue]
  | cons b bs ih =>
    rw [List.reverse_cons, beValue_append, ih]
    simp [leValue]; omega

end H4.Conv
