import H4.Lemmas.DDDisk
/-! # Lookups: `Hfind` (exact lookups through the tag tree, wildcard iteration in both directions); a lookup leaves the blocks, the
disk image, the log and the end of the file as they are (`Scal`), and `Hstartaccess` is a lookup followed, for a writing access to an
absent element, by `HTPcreate` -/
namespace H4.DD
open H4.Gen.Hdf

/-- the tag-tree path of `HTIfind_dd` / `HTPselect` -/
def lookupPos (s : File) (tag ref : Nat) : Option Pos := lookupDD s.tags s.blocks (baseTag tag) ref

theorem htiFindDD_exact (s : File) {t r : Nat} (ht : t ≠ 0) (hr : r ≠ 0) (pdd : Option Pos) (dir : Dir) :
    htiFindDD s t r pdd dir = (lookupPos s t r, s) := by
  unfold htiFindDD lookupPos
  rw [if_pos ⟨by simpa [DFTAG_WILDCARD] using ht, by simpa [DFTAG_WILDCARD] using hr⟩]

theorem htpSelect_eq (s : File) (t r : Nat) :
    htpSelect s t r = if t = DFTAG_NULL ∨ t = DFTAG_WILDCARD ∨ r = DFREF_WILDCARD then none else lookupPos s t r := by
  unfold htpSelect lookupPos; rfl

/-- what a search `(st, sr)` with at least one wildcard accepts -/
def findMatch (st sr : Nat) (d : DD) : Bool :=
  isLive d && (st == 0 || d.tag == st || (mkSpecial st != DFTAG_NULL && d.tag == mkSpecial st)) && (sr == 0 || d.ref == sr)

/-- the predicate tested by the forward wildcard loops -/
def fwdPred (st sr : Nat) : DD → Bool :=
  if st = 0 ∧ sr = 0 then pAny else if st = 0 then pRef sr else pTag st

theorem fwdPred_eq {st sr : Nat} (hw : st = 0 ∨ sr = 0) (h1 : st ≠ 1) (d : DD) : fwdPred st sr d = findMatch st sr d := by
  unfold fwdPred findMatch
  by_cases h00 : st = 0 ∧ sr = 0
  · rw [if_pos h00]; simp [pAny, isLive, h00.1, h00.2]
  · rw [if_neg h00]
    by_cases hs0 : st = 0
    · rw [if_pos hs0]
      have hsr : (sr == 0) = false := by
        have : sr ≠ 0 := fun e => h00 ⟨hs0, e⟩
        simpa using this
      simp [pRef, isLive, hs0, hsr]
    · rw [if_neg hs0]
      have hsr : sr = 0 := by rcases hw with h | h; exact absurd h hs0; exact h
      have h1' : (st == DFTAG_NULL) = false := by simpa [DFTAG_NULL] using h1
      have hs0' : (st == 0) = false := by simpa using hs0
      simp [pTag, isLive, hsr, h1', hs0', bne]

theorem pBwd_eq {st sr : Nat} (h1 : st ≠ 1) (d : DD) : pBwd st sr d = findMatch st sr d := by
  have h1' : (st == DFTAG_NULL) = false := by simpa [DFTAG_NULL] using h1
  simp [pBwd, findMatch, isLive, h1', DFTAG_WILDCARD, DFREF_WILDCARD, Bool.and_assoc, Bool.or_assoc, bne]

theorem findMatch_live {st sr : Nat} {d : DD} (h : findMatch st sr d = true) : isLive d = true := by
  simp [findMatch] at h; exact h.1.1

theorem htiFindDD_fwd (s : File) {st sr : Nat} (hw : st = 0 ∨ sr = 0) (hn : st ≠ 1) (pdd : Option Pos) :
    htiFindDD s st sr pdd .fwd =
      (scanFwd (fwdPred st sr) s.blocks (match pdd with | none => 0 | some p => p.blk)
        (match pdd with | none => 0 | some p => p.idx + 1), s) := by
  have hc : ¬ (st ≠ DFTAG_WILDCARD ∧ sr ≠ DFTAG_WILDCARD) := by
    simp only [DFTAG_WILDCARD]; omega
  have hnull : ¬ (st = DFTAG_NULL ∧ sr = DFTAG_WILDCARD) := by
    simp only [DFTAG_NULL]; omega
  by_cases h00 : st = 0 ∧ sr = 0
  · have h00' : st = DFTAG_WILDCARD ∧ sr = DFREF_WILDCARD := h00
    simp only [htiFindDD, fwdPred, if_neg hc, if_pos h00', if_pos h00]
    rfl
  · have h00' : ¬ (st = DFTAG_WILDCARD ∧ sr = DFREF_WILDCARD) := h00
    by_cases hs0 : st = 0
    · have hs0' : st = DFTAG_WILDCARD := hs0
      simp only [htiFindDD, fwdPred, if_neg hc, if_neg h00', if_neg h00, if_neg hnull, if_pos hs0', if_pos hs0]
      rfl
    · have hs0' : ¬ st = DFTAG_WILDCARD := hs0
      simp only [htiFindDD, fwdPred, if_neg hc, if_neg h00', if_neg h00, if_neg hnull, if_neg hs0', if_neg hs0]
      rfl

theorem htiFindDD_bwd (s : File) {st sr : Nat} (hw : st = 0 ∨ sr = 0) (pdd : Option Pos) :
    htiFindDD s st sr pdd .bwd =
      (scanBwd (pBwd st sr) s.blocks (match pdd with | none => s.blocks.length - 1 | some p => p.blk)
        (match pdd with
          | none => (match s.blocks.getLast? with | none => 0 | some blk => blk.dds.length)
          | some p => p.idx), s) := by
  have hc : ¬ (st ≠ DFTAG_WILDCARD ∧ sr ≠ DFTAG_WILDCARD) := by
    simp only [DFTAG_WILDCARD]; omega
  simp only [htiFindDD, if_neg hc]
  rfl

theorem lookupPos_live {s : File} (hw : WF s) {q : Pos} (hv : Valid s.blocks q) (hl : isLive (getDD s.blocks q) = true) :
    ∃ q', lookupPos s (getDD s.blocks q).tag (getDD s.blocks q).ref = some q' ∧ Valid s.blocks q' ∧
      getDD s.blocks q' = getDD s.blocks q ∧
      preUpto s.blocks q'.blk q'.idx = preUpto s.blocks q.blk q.idx ∧
      sufFrom s.blocks q'.blk (q'.idx + 1) = sufFrom s.blocks q.blk (q.idx + 1) := by
  have hd := getDD_mem_live hv hl
  unfold lookupPos
  cases hdd : lookupDD s.tags s.blocks (baseTag (getDD s.blocks q).tag) (getDD s.blocks q).ref with
  | none => exact absurd rfl (lookupDD_none hw hdd _ hd)
  | some q' =>
    obtain ⟨hv', hl', hk'⟩ := lookupDD_some hdd
    have hu := split_unique hw.wfl.nodup (slots_split_valid hv') (slots_split_valid hv) hl' hl (by rw [hk']; rfl)
    exact ⟨q', rfl, hv', hu.2.1, hu.1, hu.2.2⟩

theorem hfind_start (s : File) (st sr : Nat) (dir : Dir) :
    hfind s st sr 0 0 dir =
      match htiFindDD s st sr none dir with
      | (none, s') => (none, s')
      | (some q, s') => (some (getDD s'.blocks q), s') := by
  unfold hfind
  rw [if_neg (by simp)]
  rfl

theorem lookupPos_some {s : File} {t r : Nat} {q : Pos} (h : lookupPos s t r = some q) :
    Valid s.blocks q ∧ isLive (getDD s.blocks q) = true ∧ keyOf (getDD s.blocks q) = (baseTag t, r) :=
  lookupDD_some h

theorem lookupPos_none {s : File} (hw : WF s) {t r : Nat} (h : lookupPos s t r = none) :
    ∀ d ∈ s.live, keyOf d ≠ (baseTag t, r) := lookupDD_none hw h

theorem hfind_exact (s : File) {t r : Nat} (ht : t ≠ 0) (hr : r ≠ 0) (dir : Dir) :
    hfind s t r 0 0 dir = ((lookupPos s t r).map (getDD s.blocks), s) := by
  rw [hfind_start, htiFindDD_exact s ht hr]
  cases lookupPos s t r <;> rfl

theorem hfind_continue (s : File) (st sr : Nat) {ft fr : Nat} (h : fr ≠ 0 ∨ ft ≠ 0) (dir : Dir) :
    hfind s st sr ft fr dir =
      match htiFindDD s ft fr none dir with
      | (none, s') => (none, s')
      | (some p, s') =>
        match htiFindDD s' st sr (some p) dir with
        | (none, s'') => (none, s'')
        | (some q, s'') => (some (getDD s''.blocks q), s'') := by
  unfold hfind
  rw [if_pos h]
  rfl

theorem live_nonzero {s : File} (hw : WF s) {q : Pos} (hv : Valid s.blocks q) (hl : isLive (getDD s.blocks q) = true) :
    (getDD s.blocks q).tag ≠ 0 ∧ (getDD s.blocks q).ref ≠ 0 := by
  have := hw.wfl.live_ok _ (getDD_mem_live hv hl)
  omega

theorem hfind_after {s : File} (hw : WF s) {st sr : Nat} {q : Pos} (hv : Valid s.blocks q)
    (hl : isLive (getDD s.blocks q) = true) (dir : Dir) :
    ∃ q', Valid s.blocks q' ∧ preUpto s.blocks q'.blk q'.idx = preUpto s.blocks q.blk q.idx ∧
      sufFrom s.blocks q'.blk (q'.idx + 1) = sufFrom s.blocks q.blk (q.idx + 1) ∧
      hfind s st sr (getDD s.blocks q).tag (getDD s.blocks q).ref dir =
        match htiFindDD s st sr (some q') dir with
        | (none, s'') => (none, s'')
        | (some q2, s'') => (some (getDD s''.blocks q2), s'') := by
  obtain ⟨ht, hr⟩ := live_nonzero hw hv hl
  obtain ⟨q', hq', hv', _, hpre, hsuf⟩ := lookupPos_live hw hv hl
  refine ⟨q', hv', hpre, hsuf, ?_⟩
  rw [hfind_continue s st sr (Or.inl hr), htiFindDD_exact s ht hr, hq']

theorem iterFind_succ (s : File) (st sr : Nat) (dir : Dir) (fuel ft fr : Nat) :
    iterFind s st sr dir (fuel + 1) ft fr =
      match (hfind s st sr ft fr dir).1 with
      | none => []
      | some d => d :: iterFind s st sr dir fuel d.tag d.ref := rfl

theorem filter_fwdPred {st sr : Nat} (hw : st = 0 ∨ sr = 0) (h1 : st ≠ 1) (l : List DD) :
    l.filter (fwdPred st sr) = l.filter (findMatch st sr) :=
  List.filter_congr (fun d _ => fwdPred_eq hw h1 d)

theorem filter_pBwd {st sr : Nat} (h1 : st ≠ 1) (l : List DD) :
    l.filter (pBwd st sr) = l.filter (findMatch st sr) :=
  List.filter_congr (fun d _ => pBwd_eq h1 d)

theorem iterFind_fwd_scan {s : File} (hw : WF s) {st sr : Nat} (hwild : st = 0 ∨ sr = 0) (h1 : st ≠ 1) :
    ∀ (fuel ft fr b i : Nat),
      (hfind s st sr ft fr .fwd).1 = (scanFwd (fwdPred st sr) s.blocks b i).map (getDD s.blocks) →
      (sufFrom s.blocks b i).length < fuel →
      iterFind s st sr .fwd fuel ft fr = (sufFrom s.blocks b i).filter (findMatch st sr) := by
  intro fuel
  induction fuel with
  | zero => intro _ _ _ _ _ h; omega
  | succ fuel ih =>
    intro ft fr b i hcall hlen
    rw [iterFind_succ, hcall]
    cases hs : scanFwd (fwdPred st sr) s.blocks b i with
    | none =>
      have := scanFwd_none hs
      rw [filter_fwdPred hwild h1] at this
      exact this.symm
    | some q2 =>
      obtain ⟨hv2, hp2, mid, hm, hmf⟩ := scanFwd_some hs
      have hl2 : isLive (getDD s.blocks q2) = true := findMatch_live (by rw [← fwdPred_eq hwild h1]; exact hp2)
      obtain ⟨q', _, _, hsuf, hf⟩ := hfind_after (st := st) (sr := sr) hw hv2 hl2 .fwd
      simp only [Option.map_some]
      rw [ih _ _ q'.blk (q'.idx + 1)
          (by rw [hf, htiFindDD_fwd s hwild h1]; cases scanFwd (fwdPred st sr) s.blocks q'.blk (q'.idx + 1) <;> rfl)
          (by rw [hsuf]; rw [hm] at hlen; simp at hlen; omega),
        hsuf, hm, List.filter_append, ← filter_fwdPred hwild h1 mid, hmf]
      simp [← fwdPred_eq hwild h1, hp2]

theorem iterFind_fwd {s : File} (hw : WF s) {st sr : Nat} (hwild : st = 0 ∨ sr = 0) (h1 : st ≠ 1)
    {fuel : Nat} (hf : s.slots.length < fuel) :
    iterFind s st sr .fwd fuel 0 0 = s.slots.filter (findMatch st sr) := by
  have := iterFind_fwd_scan hw hwild h1 fuel 0 0 0 0
    (by rw [hfind_start, htiFindDD_fwd s hwild h1]; cases scanFwd (fwdPred st sr) s.blocks 0 0 <;> rfl)
    (by rw [sufFrom_zero_zero]; exact hf)
  rwa [sufFrom_zero_zero] at this

theorem drop_length_sub_one' {α} {l : List α} (hne : l ≠ []) : l.drop (l.length - 1) = [l.getLast hne] := by
  have hlt : l.length - 1 < l.length := by
    cases l with
    | nil => exact absurd rfl hne
    | cons a t => simp
  rw [List.drop_eq_getElem_cons hlt, List.getLast_eq_getElem]
  have : l.length - 1 + 1 = l.length := by omega
  simp [this]

theorem preUpto_last {blocks : List Block} (hne : blocks ≠ []) :
    preUpto blocks (blocks.length - 1) (match blocks.getLast? with | none => 0 | some blk => blk.dds.length) =
      slotsOf blocks := by
  have h1 := slots_split blocks (blocks.length - 1) (match blocks.getLast? with | none => 0 | some blk => blk.dds.length)
  have hd : blocks.drop (blocks.length - 1) = [blocks.getLast hne] := drop_length_sub_one' hne
  have hl : blocks.getLast? = some (blocks.getLast hne) := List.getLast?_eq_some_getLast hne
  rw [h1]
  unfold sufFrom
  rw [hd, hl]
  simp

theorem iterFind_bwd_scan {s : File} (hw : WF s) {st sr : Nat} (hwild : st = 0 ∨ sr = 0) (h1 : st ≠ 1) :
    ∀ (fuel ft fr b i : Nat), b < s.blocks.length →
      (hfind s st sr ft fr .bwd).1 = (scanBwd (pBwd st sr) s.blocks b i).map (getDD s.blocks) →
      (preUpto s.blocks b i).length < fuel →
      iterFind s st sr .bwd fuel ft fr = ((preUpto s.blocks b i).filter (findMatch st sr)).reverse := by
  intro fuel
  induction fuel with
  | zero => intro _ _ _ _ _ _ h; omega
  | succ fuel ih =>
    intro ft fr b i hb hcall hlen
    rw [iterFind_succ, hcall]
    cases hs : scanBwd (pBwd st sr) s.blocks b i with
    | none =>
      have := scanBwd_none hb hs
      rw [filter_pBwd h1] at this
      rw [this]; rfl
    | some q2 =>
      obtain ⟨hv2, hp2, mid, hm, hmf⟩ := scanBwd_some hs
      have hl2 : isLive (getDD s.blocks q2) = true := findMatch_live (by rw [← pBwd_eq h1]; exact hp2)
      obtain ⟨q', hv', hpre, _, hf⟩ := hfind_after (st := st) (sr := sr) hw hv2 hl2 .bwd
      simp only [Option.map_some]
      rw [ih _ _ q'.blk q'.idx (valid_blk_lt hv')
          (by rw [hf, htiFindDD_bwd s hwild]; cases scanBwd (pBwd st sr) s.blocks q'.blk q'.idx <;> rfl)
          (by rw [hpre]; rw [hm] at hlen; simp at hlen; omega),
        hpre, hm, List.filter_append, List.filter_cons, ← filter_pBwd h1 mid, hmf]
      simp [← pBwd_eq h1, hp2]

theorem iterFind_bwd {s : File} (hw : WF s) {st sr : Nat} (hwild : st = 0 ∨ sr = 0) (h1 : st ≠ 1)
    {fuel : Nat} (hf : s.slots.length < fuel) :
    iterFind s st sr .bwd fuel 0 0 = (s.slots.filter (findMatch st sr)).reverse := by
  have hne : s.blocks ≠ [] := List.ne_nil_of_length_pos hw.ne
  have := iterFind_bwd_scan hw hwild h1 fuel 0 0 (s.blocks.length - 1)
    (match s.blocks.getLast? with | none => 0 | some blk => blk.dds.length) (by have := hw.ne; omega)
    (by rw [hfind_start, htiFindDD_bwd s hwild]; cases scanBwd (pBwd st sr) s.blocks _ _ <;> rfl)
    (by rw [preUpto_last hne]; exact hf)
  rwa [preUpto_last hne] at this

theorem filter_findMatch_live (st sr : Nat) (l : List DD) :
    l.filter (findMatch st sr) = (liveOf l).filter (findMatch st sr) :=
  filter_eq_filter_liveOf (fun _ h => findMatch_live h) l

theorem htiFindDD_scal (s : File) (t r : Nat) (pdd : Option Pos) (dir : Dir) : Scal s (htiFindDD s t r pdd dir).2 := by
  by_cases hex : t ≠ 0 ∧ r ≠ 0
  · rw [htiFindDD_exact s hex.1 hex.2]; exact Scal.refl _
  · have hw : t = 0 ∨ r = 0 := by omega
    cases dir with
    | bwd => rw [htiFindDD_bwd s hw]; exact Scal.refl _
    | fwd =>
      by_cases h1 : t = 1
      · have hr : r = 0 := by omega
        subst h1 hr
        have := findNull_eq s pdd
        simp only [DFTAG_NULL, DFTAG_WILDCARD] at this
        rw [this]
        cases scanFwd pNull s.blocks (s.nullBlk.getD 0) s.nullNext <;> exact {}
      · rw [htiFindDD_fwd s hw h1]; exact Scal.refl _

theorem hfind_scal (s : File) (st sr ft fr : Nat) (dir : Dir) : Scal s (hfind s st sr ft fr dir).2 := by
  unfold hfind
  split
  · have h1 := htiFindDD_scal s ft fr none dir
    generalize htiFindDD s ft fr none dir = x at *
    obtain ⟨o, s1⟩ := x
    cases o with
    | none => exact h1
    | some p =>
      simp only
      have h2 := htiFindDD_scal s1 st sr (some p) dir
      generalize htiFindDD s1 st sr (some p) dir = y at *
      obtain ⟨o2, s2⟩ := y
      cases o2 <;> exact h1.trans h2
  · have h1 := htiFindDD_scal s st sr none dir
    generalize htiFindDD s st sr none dir = x at *
    obtain ⟨o, s1⟩ := x
    cases o <;> exact h1

theorem access_tail_shape (cfg : Cfg) (s1 : File) (tag nt nr : Nat) (write isNew : Bool) :
    let r := (match htpSelect s1 nt nr with
      | none =>
        if !write then (Acc.fail, s1)
        else match htpCreate cfg s1 nt nr with
          | (none, s) => (Acc.fail, s)
          | (some p, s) => (Acc.ok p true, { s with maxref := if nr > s.maxref then nr else s.maxref })
      | some p =>
        if !isSpecial tag ∧ isSpecial (getDD s1.blocks p).tag then (Acc.special p, s1)
        else (Acc.ok p isNew, { s1 with maxref := if nr > s1.maxref then nr else s1.maxref })).2
    Scal s1 r ∨ (write = true ∧ Scal (htpCreate cfg s1 nt nr).2 r) := by
  cases htpSelect s1 nt nr with
  | none =>
    cases write with
    | false => exact Or.inl (Scal.refl _)
    | true =>
      refine Or.inr ⟨rfl, ?_⟩
      simp only [Bool.not_true, Bool.false_eq_true, if_false]
      generalize htpCreate cfg s1 nt nr = y
      obtain ⟨o, s2⟩ := y
      cases o with
      | none => exact Scal.refl _
      | some p => exact {}
  | some p =>
    left
    by_cases hsp : !isSpecial tag ∧ isSpecial (getDD s1.blocks p).tag
    · simp only [hsp, and_self, if_true]; exact Scal.refl _
    · simp only [hsp, if_false]; exact {}

theorem hstartaccess_shape (cfg : Cfg) (s : File) (t r : Nat) (write : Bool) :
    Scal s (hstartaccess cfg s t r write).2 ∨
    (write = true ∧ ∃ s1 nt nr, Scal s s1 ∧ Scal (htpCreate cfg s1 nt nr).2 (hstartaccess cfg s t r write).2) := by
  unfold hstartaccess
  have h1 := hfind_scal s t r 0 0 .fwd
  generalize hfind s t r 0 0 .fwd = x at *
  obtain ⟨found, s1⟩ := x
  cases found with
  | none =>
    rcases access_tail_shape cfg s1 t t r write true with h | ⟨hw, h⟩
    · exact Or.inl (h1.trans h)
    · exact Or.inr ⟨hw, s1, _, _, h1, h⟩
  | some d =>
    rcases access_tail_shape cfg s1 t d.tag d.ref write (decide (d.off = INVALID_OFFSET ∧ d.len = INVALID_LENGTH)) with h | ⟨hw, h⟩
    · exact Or.inl (h1.trans h)
    · exact Or.inr ⟨hw, s1, _, _, h1, h⟩

theorem hstartaccess_read_scal (cfg : Cfg) (s : File) (t r : Nat) : Scal s (hstartaccess cfg s t r false).2 := by
  rcases hstartaccess_shape cfg s t r false with h | ⟨h, _⟩
  · exact h
  · cases h

theorem hinquire_scal (cfg : Cfg) (s : File) (t r : Nat) : Scal s (hinquire cfg s t r).2.2 := by
  unfold hinquire
  have h1 := hstartaccess_read_scal cfg s (baseTag t) r
  generalize hstartaccess cfg s (baseTag t) r false = y at *
  obtain ⟨a, s1⟩ := y
  cases a <;> exact h1

end H4.DD
