import H4.Lemmas.C18Cells
import H4.Lemmas.C2LLoop
/-! `parse_comp` and `parse_chunk` (`hrepack_parse.c`) open with the same text: the scan for the last `':'`, the tests on it, `malloc`, the name
    loop.  Its variables are `NameSt`, a `NameVars σ` says where a translated state type `σ` keeps them, each piece of the text is a pure function
    on `NameSt` (`scanStep`, `listInit`, `nameStep`), and what the text computes is proved once about those; a translation enters through
    `Runs` / `NameText`: its loops and pieces act on the name variables as the pure functions do. -/
namespace H4.C18Fn
open H4.Tools H4.Gen.Tools

/-- the fields `parse_chunk.St` and `parse_comp.St` have in common -/
structure NameSt where
  obj_list : Int := 0
  i : Int := 0
  c_ : Int := 0
  len : Int := 0
  j : Int := 0
  n : Int := 0
  k : Int := 0
  end_obj : Int := 0
  str : List Int
  n_objs : List Int
  obj : List Int
  obj_list_blk : List Int
  ub : Bool := false
  oof : Bool := false
  ret : Int := 0
  retnull : Bool := false
  done : Bool := false
  gto : Bool := false

/-- the name variables when both functions reach loop 0 (170: `obj[256]` is poisoned) -/
def nameInit (str : List Int) (len : Nat) (n_objs : List Int) : NameSt :=
  { str := str, n_objs := n_objs, obj := List.replicate 256 170, obj_list_blk := [], len := len, end_obj := -1 }

def NameSt.chk (a : NameSt) (c : Prop) [Decidable c] : NameSt := { a with ub := a.ub || !decide c }

structure NameVars (σ : Type) where
  get : σ → NameSt
  put : NameSt → σ → σ
  get_put : ∀ a s, get (put a s) = a
  put_get : ∀ s, put (get s) s = s

structure Runs {σ} (L : NameVars σ) (guard : NameSt → Prop) (step : NameSt → NameSt) (loop body : Nat → σ → σ) : Prop where
  loop : H4.C2L.IsLoop loop (fun s => guard (L.get s)) body (fun s => s)
  act : ∀ f a s, guard a → body f (L.put a s) = L.put (step a) s

theorem Runs.stop {σ} {L : NameVars σ} {guard step} {loop body : Nat → σ → σ} (R : Runs L guard step loop body) (f : Nat) (a : NameSt) (s : σ)
    (h : ¬ guard a) : loop f (L.put a s) = L.put a s :=
  R.loop.exit (by rw [L.get_put]; exact h) f

theorem Runs.pass {σ} {L : NameVars σ} {guard step} {loop body : Nat → σ → σ} (R : Runs L guard step loop body) (f : Nat) (a : NameSt) (s : σ)
    (h : guard a) : loop (f + 1) (L.put a s) = loop f (L.put (step a) s) :=
  (R.loop.pass (by rw [L.get_put]; exact h) f).trans (congrArg _ (R.act _ a s h))

/-- one pass of loop 0 (`for (i = 0; i < len; i++)`: the last `':'`, the number of `','`) -/
def scanStep (a : NameSt) : NameSt :=
  let c := a.str.getD a.i.toNat 0
  { a.chk (0 ≤ a.i ∧ a.i < a.str.length) with
    c_ := c, end_obj := if c = 58 then a.i else a.end_obj, n := if c = 44 then a.n + 1 else a.n, i := (a.i + 1) % 4294967296 }

abbrev scanGuard (a : NameSt) : Prop := a.i < a.len ∧ ¬(a.done ∨ a.gto)

theorem Runs.scan {σ} {L : NameVars σ} {loop body : Nat → σ → σ} (R : Runs L scanGuard scanStep loop body) (bs tail : List Int) (s : σ) :
    ∀ (rem pre : List Int) (a : NameSt) (fuel : Nat), At a.str a.len a.i bs tail pre rem → rem.length ≤ fuel → a.done = false → a.gto = false →
    ∃ c', loop fuel (L.put a s) = L.put { a with
      i := bs.length, c_ := c', end_obj := lastColonC rem pre.length a.end_obj, n := a.n + rem.count 44 } s := by
  intro rem
  induction rem with
  | nil =>
    intro pre a fuel hat _ _ _
    refine ⟨a.c_, ?_⟩
    have hi' : (bs.length : Int) = a.i := by rw [hat.idx, hat.split, List.append_nil]
    rw [R.stop _ _ _ (fun h => hat.stop h.1)]
    simp only [lastColonC, List.count_nil, hi', Int.natCast_zero, Int.add_zero]
  | cons c cs ih =>
    intro pre a fuel hat hf hd hg
    obtain ⟨fuel, rfl⟩ : ∃ f, fuel = f + 1 := ⟨fuel - 1, by simp at hf; omega⟩
    obtain ⟨hlt, hin, hget, hw, -, -, hnext⟩ := hat.cell
    have hi := hat.idx
    simp only [hi, Int.toNat_natCast] at hin hget hw
    rw [R.pass _ _ _ ⟨hlt, by simp [hd, hg]⟩]
    obtain ⟨c', hc'⟩ := ih (pre ++ [c]) (scanStep a) fuel (by simp only [scanStep, hi, hw]; exact hnext) (by simpa using hf) hd hg
    refine ⟨c', hc'.trans (congrArg (L.put · s) ?_)⟩
    simp only [scanStep, NameSt.chk, hi, Int.toNat_natCast, hget, hin, lastColonC, List.length_append, List.length_singleton, List.count_cons, c18logic]
    by_cases h44 : c = 44 <;> simp [h44, Int.add_assoc] <;> omega

/-- `strcpy(obj_list[n].obj, obj); memset(obj, 0, sizeof(obj))` with the checks they come with -/
def rowCopy (a : NameSt) : NameSt :=
  let a : NameSt := a.chk (0 ≤ 0 ∧ (0 : Int) ∈ (a.obj.drop (Int.toNat (0))))
  let a : NameSt := a.chk (0 ≤ (a.obj_list + a.n * 256) ∧ (a.obj_list + a.n * 256) + (Int.ofNat ((a.obj.drop (Int.toNat (0))).takeWhile (· ≠ 0)).length + 1) ≤ a.obj_list_blk.length)
  let a : NameSt := { a with obj_list_blk := (a.obj_list_blk.take (Int.toNat ((a.obj_list + a.n * 256)))) ++ ((a.obj.drop (Int.toNat (0))).take (Int.toNat (Int.ofNat ((a.obj.drop (Int.toNat (0))).takeWhile (· ≠ 0)).length + 1))) ++ (a.obj_list_blk.drop (Int.toNat ((a.obj_list + a.n * 256) + (Int.ofNat ((a.obj.drop (Int.toNat (0))).takeWhile (· ≠ 0)).length + 1)))) }
  let a : NameSt := a.chk ((0 : Int) ≤ 256)
  let a : NameSt := a.chk ((0 : Nat) ≤ 0 ∧ 0 + 256 ≤ a.obj.length)
  { a with obj := (a.obj.take (Int.toNat (0))) ++ (List.replicate (Int.toNat (256)) ((0) % 256)) ++ (a.obj.drop (Int.toNat (0 + 256))) }

theorem rowCopy_spec (a : NameSt) (nm junk : List Int) (nd N : Nat) (hobj : a.obj = nm ++ 0 :: junk) (h256 : nm.length + (junk.length + 1) = 256)
    (hnm : CStr nm) (hol : a.obj_list = 0) (hn : a.n = nd) (hN : nd + 1 ≤ N) (hbl : a.obj_list_blk.length = N * 256) :
    rowCopy a = { a with obj_list_blk := putName a.obj_list_blk nd nm, obj := List.replicate 256 0 } := by
  have htw := takeWhile_cstr nm junk hnm
  have htk := take_name nm junk
  obtain ⟨hnd, hnd2, h4⟩ := row_cells nd N nm.length hN (by omega)
  rw [← hbl] at h4
  have h5 : (nm ++ 0 :: junk).length = 256 := by simp; omega
  have hdrop : (nm ++ 0 :: junk).drop 256 = [] := List.drop_eq_nil_of_le (by omega)
  have hmem : (0 : Int) ∈ nm ++ 0 :: junk := by simp
  simp only [rowCopy, NameSt.chk, hobj, hol, hn, Int.toNat_zero, List.drop_zero, htw, Int.ofNat_eq_natCast,
    Int.toNat_natCast_add_one, htk, hnd, hnd2, h4, h5, hdrop, hmem, Int.reduceToNat, List.take_zero,
    List.nil_append, List.append_nil, Int.reduceLE, Int.reduceAdd, Int.reduceMod, Std.le_refl, putName, c18logic]

/-- one pass of loop 1 (the name loop) on the name variables, with the expressions and checks of the translated body -/
def nameStep (a : NameSt) : NameSt :=
  let a : NameSt := { a.chk (0 ≤ a.j ∧ a.j < a.str.length) with c_ := a.str.getD (Int.toNat a.j) 0 }
  if a.k ≥ (256 - 1) then { a with gto := true } else
  let a : NameSt := { a.chk (0 ≤ a.k ∧ a.k < a.obj.length) with obj := a.obj.set (Int.toNat a.k) a.c_ }
  if (a.c_ = 44) ∨ (a.j = (a.end_obj - 1)) then
    let a : NameSt := if a.c_ = 44 then { a.chk (0 ≤ a.k ∧ a.k < a.obj.length) with obj := a.obj.set (Int.toNat a.k) ((((0) + 128) % 256 - 128)) }
      else { a.chk (0 ≤ (a.k + 1) ∧ (a.k + 1) < a.obj.length) with obj := a.obj.set (Int.toNat (a.k + 1)) ((((0) + 128) % 256 - 128)) }
    let a : NameSt := rowCopy a
    { a with n := a.n + 1, j := a.j + 1, k := -1 + 1 }
  else { a with j := a.j + 1, k := a.k + 1 }

abbrev nameGuard (a : NameSt) : Prop := a.j < a.end_obj ∧ ¬(a.done ∨ a.gto)

/-- **the name loop computes `namesLoopC`.**  Invariant: `pre` is scanned (`j = pre.length`), `obj[]` holds the name so far (`obj = cur ++ junk`,
    `k = cur.length`), `nd` names are written (`n = nd`) and the list has rows for the names still to come (`nd + commas + 1 ≤ N`) -/
theorem Runs.names {σ} {L : NameVars σ} {loop body : Nat → σ → σ} (R : Runs L nameGuard nameStep loop body)
    (lst tail : List Int) (N : Nat) (s : σ) :
    ∀ (rem pre cur junk : List Int) (t : NameSt) (fuel nd : Nat), At t.str t.end_obj t.j lst tail pre rem →
    t.k = cur.length → t.obj = cur ++ junk → cur.length + junk.length = 256 →
    CStr cur → CStr rem → t.n = nd → t.obj_list = 0 → t.obj_list_blk.length = N * 256 → (rem ≠ [] → nd + rem.count 44 + 1 ≤ N) →
    rem.length ≤ fuel → t.done = false → t.gto = false →
    ∃ j k c n obj blk g, loop fuel (L.put t s) = L.put { t with j := j, k := k, c_ := c, n := n, obj := obj, obj_list_blk := blk, gto := g } s ∧
      (match namesLoopC rem cur with
       | none => g = true
       | some names => g = false ∧ n = ((nd + names.length : Nat) : Int) ∧ blk = putNames t.obj_list_blk nd names) := by
  intro rem
  induction rem with
  | nil =>
    intro pre cur junk t fuel nd hat _ _ _ _ _ hn _ _ _ _ hd hg
    refine ⟨t.j, t.k, t.c_, t.n, t.obj, t.obj_list_blk, t.gto, ?_, ?_⟩
    · exact R.stop _ _ _ (fun h => hat.stop h.1)
    · simp [namesLoopC, putNames, hg, hn]
  | cons c cs ih =>
    intro pre cur junk t fuel nd hat hk hobj hjl hcur hrem hn hol hbl hroom hf hd hg
    obtain ⟨fuel, rfl⟩ : ∃ f, fuel = f + 1 := ⟨fuel - 1, by simp at hf; omega⟩
    obtain ⟨hlt, h1, hget, -, -, hlast, hnext⟩ := hat.cell
    obtain ⟨hstr, he, hj, hl, -⟩ := hat
    rw [hj, he] at hlast
    simp only [hj, Int.toNat_natCast] at h1 hget
    have hc := hrem.cons
    rw [R.pass _ _ _ ⟨hlt, by simp [hd, hg]⟩]
    by_cases hlong : cur.length ≥ H4_MAX_NC_NAME - 1
    ·
      have hbody : nameStep t = { t with c_ := c, gto := true } := by
        cases t
        simp only at hstr he hj hk hobj hn hol hbl hd hg hget h1
        subst hj hk hd hg
        have h2 : (cur.length : Int) ≥ 256 - 1 := by simp [H4_MAX_NC_NAME] at hlong; omega
        simp only [nameStep, NameSt.chk, h1, hget, h2, Int.toNat_natCast, c18logic]
      rw [hbody]
      refine ⟨t.j, t.k, c, t.n, t.obj, t.obj_list_blk, true, ?_, ?_⟩
      · exact R.stop _ _ _ (fun h => h.2 (Or.inr rfl))
      · simp [namesLoopC, hlong]
    · have hk254 : cur.length ≤ 254 := by simp [H4_MAX_NC_NAME] at hlong; omega
      obtain ⟨a, b, jr, rfl, h3, h3'⟩ := tokbuf cur junk 256 hjl (by omega)
      have h2 : ¬ ((cur.length : Int) ≥ 256 - 1) := by omega
      by_cases hem : c = 44 ∨ cs = []
      ·
        have hroom' := hroom (by simp)
        obtain ⟨blk, hblk⟩ : ∃ blk, blk = t.obj_list_blk := ⟨_, rfl⟩
        have hbody : nameStep t = { t with
            c_ := c, obj := List.replicate 256 0, obj_list_blk := putName blk nd (if c = 44 then cur else cur ++ [c]),
            n := ((nd + 1 : Nat) : Int), j := ((pre.length + 1 : Nat) : Int), k := 0 } := by
          cases t
          simp only at hstr he hj hk hobj hn hol hbl hd hg hget h1 hblk
          subst hj hk hd hg hobj hn hol he hblk
          have hem' : c = 44 ∨ (pre.length : Int) = (lst.length : Int) - 1 := by
            rcases hem with h | h
            · exact Or.inl h
            · exact Or.inr (hlast.mpr h)
          have hnN : nd + 1 ≤ N := by simp only [List.count_cons] at hroom'; omega
          by_cases h44 : c = 44
          · subst h44
            simp only [nameStep, NameSt.chk, h1, hget, h2, h3, List.length_set, Int.toNat_natCast, nul_cell, set_tok_nul, c18logic]
            rw [rowCopy_spec _ cur (b :: jr) nd N (by rfl) (by simp at hjl ⊢; omega) hcur (by rfl) (by rfl) hnN (by exact hbl)]
            simp only [Int.natCast_add, Int.cast_ofNat_Int, Int.reduceAdd]
          · have hcs : cs = [] := by rcases hem with h | h; exact absurd h h44; exact h
            have hcn : CStr (cur ++ [c]) := hcur.snoc hc.1
            have hlast : (lst.length : Int) - 1 = (pre.length : Int) := (hlast.mpr hcs).symm
            simp only [nameStep, NameSt.chk, h1, hget, h2, h3, h3', h44, hlast, List.length_set, Int.toNat_natCast, Int.toNat_natCast_add_one, nul_cell, set_tok_nul_next, c18logic]
            rw [rowCopy_spec _ (cur ++ [c]) jr nd N (by rfl) (by simp at hjl ⊢; omega) hcn (by rfl) (by rfl) hnN (by exact hbl)]
            simp only [Int.natCast_add, Int.cast_ofNat_Int, Int.reduceAdd]
        rw [hbody]
        have hnames : namesLoopC (c :: cs) cur = (namesLoopC cs []).map ((if c = 44 then cur else cur ++ [c]) :: ·) := by
          rw [namesLoopC, if_neg hlong, if_pos hem]
        obtain ⟨j', k', c', n', obj', blk', g', hrun, hres⟩ := ih (pre ++ [c]) [] (List.replicate 256 0) { t with
            c_ := c, obj := List.replicate 256 0, obj_list_blk := putName blk nd (if c = 44 then cur else cur ++ [c]),
            n := ((nd + 1 : Nat) : Int), j := ((pre.length + 1 : Nat) : Int), k := 0 }
          fuel (nd + 1) hnext rfl rfl (by simp only [List.length_nil, List.length_replicate]) CStr.nil hc.2 rfl hol
          (putName_length (by rw [hblk]; exact hbl) (by simp only [List.count_cons] at hroom'; omega)
            (by split <;> (try simp only [List.length_append, List.length_cons, List.length_nil]) <;> omega))
          (by
            intro hne
            have h44 : c = 44 := hem.resolve_right hne
            rw [h44, List.count_cons_self] at hroom'
            omega)
          (by simpa using hf) hd hg
        refine ⟨j', k', c', n', obj', blk', g', ?_, ?_⟩
        · rw [hrun]
        · rw [hnames]
          cases hnl : namesLoopC cs [] with
          | none => simpa [hnl] using hres
          | some names =>
            rw [hnl] at hres
            simp only [Option.map_some] at hres ⊢
            obtain ⟨h1, h2, h3⟩ := hres
            refine ⟨h1, by rw [h2]; simp; omega, ?_⟩
            rw [h3, putNames, hblk]
      ·
        have h44 : ¬ c = 44 := fun h => hem (Or.inl h)
        have hcs : cs ≠ [] := fun h => hem (Or.inr h)
        have hbody : nameStep t = { t with
            c_ := c, obj := (cur ++ [c]) ++ b :: jr, j := ((pre.length + 1 : Nat) : Int), k := (((cur ++ [c]).length : Nat) : Int) } := by
          cases t
          simp only at hstr he hj hk hobj hn hol hbl hd hg hget h1
          subst hj hk hd hg hobj hn hol he
          have hnl : ¬ ((pre.length : Int) = (lst.length : Int) - 1) := mt hlast.mp hcs
          have hset := set_tok (tok := cur) (jr := jr) (a := a) (b := b) c
          simp only [nameStep, NameSt.chk, h1, hget, h2, h3, h44, hnl, Int.toNat_natCast, hset, Int.natCast_add, Int.cast_ofNat_Int,
            List.length_append, List.length_singleton, c18logic]
          have h3b : (cur.length : Int) < (cur.length : Int) + ((a :: b :: jr).length : Int) := by simp; omega
          simp only [h3b, c18logic]
        rw [hbody]
        have hnames : namesLoopC (c :: cs) cur = namesLoopC cs (cur ++ [c]) := by
          rw [namesLoopC, if_neg hlong, if_neg hem]
        obtain ⟨j', k', c', n', obj', blk', g', hrun, hres⟩ := ih (pre ++ [c]) (cur ++ [c]) (b :: jr) { t with
            c_ := c, obj := (cur ++ [c]) ++ b :: jr, j := ((pre.length + 1 : Nat) : Int), k := (((cur ++ [c]).length : Nat) : Int) }
          fuel nd hnext rfl rfl (by simp at hjl ⊢; omega) (hcur.snoc hc.1) hc.2 hn hol hbl
          (by intro _; have := hroom (by simp); rw [List.count_cons_of_ne (fun h => h44 h)] at this; exact this)
          (by simpa using hf) hd hg
        refine ⟨j', k', c', n', obj', blk', g', ?_, ?_⟩
        · rw [hrun]
        · rw [hnames]; exact hres

/-- between the two loops, on the name variables: the tests on `end_obj`, `malloc` of the list, `*n_objs`, the start values of the name loop -/
def listInit (a : NameSt) : NameSt :=
  if a.end_obj = (- 1) then { a with retnull := true, done := true } else
  let a : NameSt := a.chk ((a.end_obj = 0) ∨ (0 ≤ (a.end_obj - 1) ∧ (a.end_obj - 1) < a.str.length))
  if (a.end_obj = 0) ∨ ((a.str.getD (Int.toNat ((a.end_obj - 1))) 0) = 44) then { a with retnull := true, done := true } else
  let a : NameSt := { a with n := a.n + 1 }
  let a : NameSt := a.chk ((0 : Int) ≤ (Int.tdiv (((((a.n) % 18446744073709551616) * 256)) % 18446744073709551616) 1))
  let a : NameSt := { a with obj_list_blk := List.replicate (Int.toNat (Int.tdiv (((((a.n) % 18446744073709551616) * 256)) % 18446744073709551616) 1)) 170, obj_list := 0 }
  let a : NameSt := a.chk (0 < a.n_objs.length)
  { a with n_objs := a.n_objs.set (Int.toNat (0)) (a.n), j := 0, k := 0, n := 0 }

theorem listInit_spec (a : NameSt) (bs rest : List Int) (hbs : CStr bs) (hlen : bs.length < 2 ^ 31) (hstr : a.str = bs ++ 0 :: rest)
    (he : a.end_obj = encPos (lastColon (toStr bs))) (cnt : Nat) (hn : a.n = cnt) (hcl : cnt ≤ bs.length) (hno : 0 < a.n_objs.length) :
    listInit a = if (match lastColon (toStr bs) with | none => true | some e => badObjList (toStr bs) e) = true
      then { a with retnull := true, done := true }
      else { a with n := 0, obj_list_blk := List.replicate ((cnt + 1) * 256) 170, obj_list := 0,
                    n_objs := a.n_objs.set 0 ((cnt + 1 : Nat) : Int), j := 0, k := 0 } := by
  cases hlc : lastColon (toStr bs) with
  | none => simp only [listInit, he, hlc, encPos, Int.reduceNeg, c18logic]
  | some e =>
    obtain ⟨hel, -⟩ := lastColon_bound _ _ hlc
    rw [toStr_length] at hel
    rw [hlc] at he
    have h1 : ¬ ((e : Int) = -1) := by omega
    have h2 : ((e : Int) = 0 ∨ 0 ≤ (e : Int) - 1 ∧ (e : Int) - 1 < ((bs ++ 0 :: rest).length : Int)) := by
      by_cases h0 : e = 0
      · left; omega
      · right; simp; omega
    have h3 : ((e : Int) = 0 ∨ (bs ++ 0 :: rest).getD ((e : Int) - 1).toNat 0 = 44) ↔ badObjList (toStr bs) e = true := by
      rw [badObjList_iff bs hbs e hel, show ((e : Int) - 1).toNat = e - 1 by omega]
      simp [List.getD_eq_getElem?_getD, List.getElem?_append_left (by omega : e - 1 < bs.length)]
    have hN : Int.tdiv (((((cnt : Int) + 1) % 18446744073709551616) * 256) % 18446744073709551616) 1 = (((cnt + 1) * 256 : Nat) : Int) := by
      rw [Int.tdiv_one]; omega
    have hN0 : (0 : Int) ≤ (((cnt + 1) * 256 : Nat) : Int) := by omega
    by_cases hb : badObjList (toStr bs) e = true
    · simp only [listInit, NameSt.chk, he, encPos, hstr, eq_false h1, h2, h3.mpr hb, hb, c18logic]
    · simp only [listInit, NameSt.chk, he, encPos, hstr, hn, eq_false h1, h2, eq_false (mt h3.mp hb), hb, hN, hN0, hno, Int.toNat_natCast, Int.toNat_zero,
        Int.natCast_add, Int.cast_ofNat_Int, Bool.false_eq_true, c18logic]

/-- the epilogue of both functions: `return obj_list`, or `out:` (free the list) `return NULL` -/
def nameRet (a : NameSt) : NameSt :=
  let a : NameSt := if a.done ∨ a.gto then a else { a with ret := a.obj_list, done := true }
  let a : NameSt := if a.done then a else { a with gto := false }
  if a.done ∨ a.gto then a else { a with retnull := true, done := true }

/-- a translation of the object-list text: loops 0 and 1 and the piece `list` between them (which ends in the call of loop 1) act on the name
    variables as `scanStep`, `nameStep`, `listInit`; the piece `value` behind them does nothing once the option is refused and starts with
    the test "nothing after the colon"; `epi` acts as `nameRet` -/
structure NameText {σ} (L : NameVars σ) (loop0 body0 loop1 body1 list value : Nat → σ → σ) (epi : σ → σ) : Prop where
  scan : Runs L scanGuard scanStep loop0 body0
  names : Runs L nameGuard nameStep loop1 body1
  list : ∀ fuel a s, a.done = false → a.gto = false →
    list fuel (L.put a s) = if (listInit a).done then L.put (listInit a) s else loop1 fuel (L.put (listInit a) s)
  skip : ∀ fuel a s, a.done = true ∨ a.gto = true → value fuel (L.put a s) = L.put a s
  empty : ∀ fuel a s, a.done = false → a.gto = false → a.end_obj + 1 = a.len → value fuel (L.put a s) = L.put { a with gto := true } s
  ret : ∀ a s, epi (L.put a s) = L.put (nameRet a) s

variable {σ : Type} {L : NameVars σ} {loop0 body0 loop1 body1 list value : Nat → σ → σ} {epi : σ → σ}

theorem NameText.epi_refused (T : NameText L loop0 body0 loop1 body1 list value epi) (X : σ)
    (h : ((L.get X).done = true ∧ (L.get X).retnull = true) ∨ ((L.get X).done = false ∧ (L.get X).gto = true))
    (hub : (L.get X).ub = false) (hoof : (L.get X).oof = false) :
    (L.get (epi X)).ub = false ∧ (L.get (epi X)).oof = false ∧ (L.get (epi X)).done = true ∧ (L.get (epi X)).retnull = true := by
  rw [← L.put_get X, T.ret, L.get_put]
  rcases h with ⟨hd, hr⟩ | ⟨hd, hg⟩
  · simp only [nameRet, hd, hr, hub, hoof, c18logic]
  · simp only [nameRet, hd, hg, hub, hoof, c18logic, Bool.false_eq_true]

theorem NameText.epi_ok (T : NameText L loop0 body0 loop1 body1 list value epi) (X : σ)
    (hd : (L.get X).done = false) (hg : (L.get X).gto = false) :
    epi X = L.put { L.get X with ret := (L.get X).obj_list, done := true } X := by
  have h : nameRet (L.get X) = { L.get X with ret := (L.get X).obj_list, done := true } := by
    simp only [nameRet, hd, hg, c18logic, Bool.false_eq_true]
  rw [← h, ← T.ret, L.put_get]

structure NamesOut (bs rest n_objs : List Int) (a : NameSt) (e : Nat) (ns : List (List Int)) : Prop where
  str : a.str = bs ++ 0 :: rest
  len : a.len = bs.length
  end_obj : a.end_obj = e
  ub : a.ub = false
  oof : a.oof = false
  done : a.done = false
  gto : a.gto = false
  retnull : a.retnull = false
  obj_list : a.obj_list = 0
  n_objs : a.n_objs = n_objs.set 0 ((countCommas (toStr bs) + 1 : Nat) : Int)
  names : namesLoopC (bs.take e) [] = some ns
  blk : a.obj_list_blk = putNames (List.replicate ((countCommas (toStr bs) + 1) * 256) 170) 0 ns

/-- **the object-list part**, for every translation of it: started on a NUL-terminated string, loop 0 and the piece up to the end of the name
    loop leave the name variables as the model's `parseNames` says - refused (`return NULL` taken, or `goto out` pending), or the list
    allocated with `commas + 1` rows, `*n_objs` set to that, and the names written row by row -/
theorem NameText.spec (T : NameText L loop0 body0 loop1 body1 list value epi)
    (bs rest : List Int) (hbs : CStr bs) (hlen : bs.length < 2 ^ 31) (fuel : Nat) (hf : bs.length ≤ fuel) (n_objs : List Int)
    (hno : 0 < n_objs.length) (s : σ) :
    ∃ a', list fuel (loop0 fuel (L.put (nameInit (bs ++ 0 :: rest) bs.length n_objs) s)) = L.put a' s ∧
      match parseNames (toStr bs) with
      | none => a'.ub = false ∧ a'.oof = false ∧ ((a'.done = true ∧ a'.retnull = true) ∨ (a'.done = false ∧ a'.gto = true))
      | some (e, names) => ∃ ns, names = ns.map toStr ∧ NamesOut bs rest n_objs a' e ns := by
  have hch := hbs.chars
  have hcount : countCommas (toStr bs) = bs.count 44 := count_model bs hch
  obtain ⟨a, ha⟩ : ∃ a, a = nameInit (bs ++ 0 :: rest) bs.length n_objs := ⟨_, rfl⟩
  obtain ⟨hstr, hl, he, hi, hn, hobj, hnob, hr, hd, hg, hub, hoof⟩ : a.str = bs ++ 0 :: rest ∧ a.len = bs.length ∧ a.end_obj = -1 ∧ a.i = 0 ∧ a.n = 0 ∧
      a.obj = List.replicate 256 170 ∧ a.n_objs = n_objs ∧ a.retnull = false ∧ a.done = false ∧ a.gto = false ∧ a.ub = false ∧ a.oof = false := by
    subst ha; exact ⟨rfl, rfl, rfl, rfl, rfl, rfl, rfl, rfl, rfl, rfl, rfl, rfl⟩
  rw [← ha]
  obtain ⟨c0, h0⟩ := T.scan.scan bs (0 :: rest) s bs [] a fuel ⟨hstr, hl, hi, rfl, hlen⟩ hf hd hg
  rw [he, hn, show lastColonC bs ([] : List Int).length (-1) = encPos (lastColon (toStr bs)) from lastColonC_eq bs hch, Int.zero_add] at h0
  obtain ⟨A, hA⟩ : ∃ A : NameSt, A = { a with
      i := bs.length, c_ := c0, end_obj := encPos (lastColon (toStr bs)), n := ((bs.count 44 : Nat) : Int) } := ⟨_, rfl⟩
  rw [← hA] at h0
  have hd' : A.done = false := by rw [hA]; exact hd
  have hg' : A.gto = false := by rw [hA]; exact hg
  have hub' : A.ub = false := by rw [hA]; exact hub
  have hoof' : A.oof = false := by rw [hA]; exact hoof
  have hstrA : A.str = bs ++ 0 :: rest := by rw [hA]; exact hstr
  have hstep := listInit_spec A bs rest hbs hlen hstrA (by rw [hA]) (bs.count 44) (by rw [hA]) List.count_le_length
    (by rw [hA]; exact hnob ▸ hno)
  rw [h0, T.list fuel A s hd' hg', hstep]
  cases hlc : lastColon (toStr bs) with
  | none => exact ⟨_, by rw [if_pos rfl, if_pos rfl], by rw [parseNames_none hlc]; exact ⟨hub', hoof', Or.inl ⟨rfl, rfl⟩⟩⟩
  | some e =>
    obtain ⟨hel, -⟩ := lastColon_bound _ _ hlc
    rw [toStr_length] at hel
    by_cases hb : badObjList (toStr bs) e = true
    · exact ⟨_, by rw [if_pos hb, if_pos rfl], by rw [parseNames_bad hlc hb]; exact ⟨hub', hoof', Or.inl ⟨rfl, rfl⟩⟩⟩
    · have hnm := namesLoopC_model (bs.take e) [] (fun c hc => hch c (List.mem_of_mem_take hc))
      rw [toStr_take, toStr_nil] at hnm
      have hcnt : (bs.take e).count 44 ≤ bs.count 44 := (List.take_sublist e bs).count_le 44
      obtain ⟨j, k, c, n, obj, blk, g, hrun, hres⟩ := T.names.names (bs.take e) (bs.drop e ++ 0 :: rest) (bs.count 44 + 1) s
        (bs.take e) [] [] (List.replicate 256 170) { A with
          n := 0, obj_list_blk := List.replicate ((bs.count 44 + 1) * 256) 170, obj_list := 0, n_objs := A.n_objs.set 0 ((bs.count 44 + 1 : Nat) : Int), j := 0, k := 0 }
        fuel 0 ⟨by show A.str = _; rw [hstrA, ← List.append_assoc, List.take_append_drop], by show A.end_obj = _; rw [hA, hlc]; simp [encPos]; omega, rfl, rfl,
          by simp; omega⟩ rfl (by show A.obj = _; rw [hA]; exact hobj) (by simp only [List.length_nil, List.length_replicate]) CStr.nil (hbs.take e) rfl rfl
        (by simp only [List.length_replicate]) (by intro _; omega) (by simp; omega) hd' hg'
      refine ⟨_, by rw [if_neg hb, if_neg (by simp only [hd']; exact Bool.false_ne_true), hrun], ?_⟩
      rw [parseNames_good hlc hb, ← hnm]
      cases hnl : namesLoopC (bs.take e) [] with
      | none => rw [hnl] at hres; exact ⟨hub', hoof', Or.inr ⟨hd', hres⟩⟩
      | some ns =>
        rw [hnl] at hres
        exact ⟨ns, rfl, hstrA, by rw [hA]; exact hl, by rw [hA, hlc]; rfl, hub', hoof', hd', hres.1, by rw [hA]; exact hr, rfl,
          by rw [hcount, hA]; exact congrArg (List.set · 0 _) hnob, hnl, by rw [hcount]; simpa using hres.2.2⟩

/-- a refused object list, or nothing after the colon: NULL, whatever the value scanner is -/
theorem NameText.refused (T : NameText L loop0 body0 loop1 body1 list value epi)
    (bs rest : List Int) (hbs : CStr bs) (hlen : bs.length < 2 ^ 31) (fuel : Nat) (hf : bs.length ≤ fuel) (n_objs : List Int)
    (hno : 0 < n_objs.length) (s : σ)
    (hp : parseNames (toStr bs) = none ∨ ∃ e names, parseNames (toStr bs) = some (e, names) ∧ e + 1 = bs.length) :
    ∀ r, r = L.get (epi (value fuel (list fuel (loop0 fuel (L.put (nameInit (bs ++ 0 :: rest) bs.length n_objs) s))))) →
      r.ub = false ∧ r.oof = false ∧ r.done = true ∧ r.retnull = true := by
  rintro r rfl
  obtain ⟨a', hN, hres⟩ := T.spec bs rest hbs hlen fuel hf n_objs hno s
  rw [hN]
  rcases hp with hp | ⟨e, names, hp, hemp⟩ <;> rw [hp] at hres
  · obtain ⟨hub, hoof, h⟩ := hres
    rw [T.skip _ _ _ (h.elim (fun h => Or.inl h.1) (fun h => Or.inr h.2))]
    exact T.epi_refused (L.put a' s) (by rw [L.get_put]; exact h) (by rw [L.get_put]; exact hub) (by rw [L.get_put]; exact hoof)
  · obtain ⟨ns, -, o⟩ := hres
    rw [T.empty _ _ _ o.done o.gto (by rw [o.end_obj, o.len]; omega)]
    exact T.epi_refused (L.put { a' with gto := true } s) (by rw [L.get_put]; exact Or.inr ⟨o.done, rfl⟩) (by rw [L.get_put]; exact o.ub)
      (by rw [L.get_put]; exact o.oof)

end H4.C18Fn
