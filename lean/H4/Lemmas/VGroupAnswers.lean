import H4.Lemmas.VGroupSim
namespace H4.VGroup

theorem loneOf_mem {β} (mem : β → List Pair) (t : Nat) (fl : List Nat) (vgs : List (Nat × β)) (r : Nat) :
    r ∈ loneOf mem t fl vgs ↔ r ∈ fl ∧ ∀ e ∈ vgs, (t, r) ∉ mem e.2 := by
  simp only [loneOf, List.mem_filter, Bool.not_eq_eq_eq_not, Bool.not_true, List.any_eq_false,
    List.contains_iff_mem]

theorem loneOf_sublist {β} (mem : β → List Pair) (t : Nat) (fl : List Nat) (vgs : List (Nat × β)) :
    (loneOf mem t fl vgs).Sublist fl := List.filter_sublist

/-- repeated `Vgetid`: start from `id`, stop at the first failure -/
def walk (refs : List Nat) : Nat → Int → List Nat
  | 0, _ => []
  | f + 1, id =>
    match getidIn refs id with
    | .int n => n.toNat :: walk refs f n
    | _ => []

theorem walk_succ (refs : List Nat) (f : Nat) (id : Int) :
    walk refs (f + 1) id = (match getidIn refs id with | .int n => n.toNat :: walk refs f n | _ => []) := rfl

theorem dropWhile_ne {pre post : List Nat} {a : Nat} (h : a ∉ pre) :
    (pre ++ a :: post).dropWhile (fun (r : Nat) => decide ((r : Int) ≠ (a : Int))) = a :: post := by
  induction pre with
  | nil => simp
  | cons b t ih =>
    have hb : b ≠ a := fun e => h (by simp [e])
    have ht : a ∉ t := fun e => h (by simp [e])
    simp only [List.cons_append, List.dropWhile_cons]
    have : decide ((b : Int) ≠ (a : Int)) = true := by simp; omega
    simp only [this, if_true]
    exact ih ht

theorem getidIn_mid {pre post : List Nat} {a : Nat} (h : a ∉ pre) :
    getidIn (pre ++ a :: post) (a : Int) = (match post with | [] => .fail | b :: _ => .int b) := by
  unfold getidIn
  have h1 : ¬ ((a : Int) < -1) := by omega
  have h2 : ¬ ((a : Int) = -1) := by omega
  simp only [h1, h2, if_false, dropWhile_ne h]
  cases post <;> rfl

theorem walk_from {post : List Nat} : ∀ (pre : List Nat) (a : Nat), (pre ++ a :: post).Nodup →
    walk (pre ++ a :: post) (post.length + 1) (a : Int) = post := by
  induction post with
  | nil =>
    intro pre a hn
    have ha : a ∉ pre := by
      intro hm
      have := List.nodup_append.mp hn
      exact this.2.2 a hm a (by simp) rfl
    rw [List.length_nil, walk_succ, getidIn_mid ha]
  | cons b rest ih =>
    intro pre a hn
    have ha : a ∉ pre := by
      intro hm
      have := List.nodup_append.mp hn
      exact this.2.2 a hm a (by simp) rfl
    rw [List.length_cons, walk_succ, getidIn_mid ha]
    simp only [Int.toNat_natCast]
    have e : pre ++ a :: b :: rest = (pre ++ [a]) ++ b :: rest := by simp
    rw [e] at hn ⊢
    rw [ih (pre ++ [a]) b hn]

theorem getid_walk (refs : List Nat) (h : refs.Pairwise (· < ·)) : walk refs (refs.length + 1) (-1) = refs := by
  have hnd : refs.Nodup := h.imp (fun hlt => by omega)
  cases refs with
  | nil => rfl
  | cons a post =>
    have h1 : getidIn (a :: post) (-1) = .int a := by simp [getidIn]
    rw [List.length_cons, walk_succ, h1]
    simp only [Int.toNat_natCast]
    have := walk_from (post := post) [] a (by simpa using hnd)
    simp only [List.nil_append] at this
    rw [this]

theorem withSlot_then {s : File} {slot : Nat} {k : VGroup → VGroup × Out} {f : VGroup → Out} {g : VGroup} {r : Nat}
    (h1 : alook slot s.slots = some r) (h2 : alook r s.vgs = some g) :
    (withSlot (withSlot s slot k).1 slot (fun x => (x, f x))).2 = f (k g).1 := by
  simp only [withSlot, withSlotG, h1, h2, alook_aset, if_true, Option.map_some]

theorem withSlot_ok_inv {s : File} {slot : Nat} {k : VGroup → VGroup × Out} (hk : ∀ g, (k g).2 = .ok → g.access = accW)
    (h : (withSlot s slot k).2 = .ok) : ∃ r g, alook slot s.slots = some r ∧ alook r s.vgs = some g ∧ g.access = accW := by
  simp only [withSlot, withSlotG] at h
  cases h1 : alook slot s.slots with
  | none => simp [h1] at h
  | some r =>
    cases h2 : alook r s.vgs with
    | none => simp [h1, h2] at h
    | some g =>
      simp only [h1, h2] at h
      exact ⟨r, g, rfl, h2, hk g h⟩

theorem setname_ok_inv {s : File} {slot : Nat} {n : Bytes} (h : (step s (.setname slot n)).2 = .ok) :
    ∃ r g, alook slot s.slots = some r ∧ alook r s.vgs = some g ∧ g.access = accW :=
  withSlot_ok_inv (fun g hg => by by_cases c : g.access = accW; exact c; simp [c] at hg) h

theorem setclass_ok_inv {s : File} {slot : Nat} {n : Bytes} (h : (step s (.setclass slot n)).2 = .ok) :
    ∃ r g, alook slot s.slots = some r ∧ alook r s.vgs = some g ∧ g.access = accW :=
  withSlot_ok_inv (fun g hg => by by_cases c : g.access = accW; exact c; simp [c] at hg) h

theorem grun_append (g : Graph) (a b : List Op) :
    (grun g (a ++ b)).1 = (grun (grun g a).1 b).1 ∧ (grun g (a ++ b)).2 = (grun g a).2 ++ (grun (grun g a).1 b).2 := by
  induction a generalizing g with
  | nil => exact ⟨rfl, rfl⟩
  | cons op rest ih =>
    obtain ⟨i1, i2⟩ := ih (gstep g op).1
    simp only [List.cons_append, grun, i1, i2]
    exact ⟨trivial, trivial⟩

end H4.VGroup
