import H4.Gen.Fn.Cskphuff
import H4.Lemmas.SkpHuff
import H4.Lemmas.C2L
import H4.Lemmas.C2LLoop
/-! Lemmas for `H4.Props.C05Fn`: `HCIcskphuff_splay` of `hdf/src/cskphuff.c`, as TRANSLATED from the C text
    (`H4.Gen.Fn.Cskphuff`, regenerated on every run), computes the hand-written model `H4.SkpHuff.splay`. -/
namespace H4.Lemmas.C05Fn
open H4 H4.SkpHuff H4.Gen.Cskphuff H4.Gen.Fn.Cskphuff H4.C2L

/-- a C array (`unsigned[SUCCMAX]` / `uint8[TWICEMAX]`) of the model, as the translated function sees it -/
def arr (a : Array Nat) : List Int := ints a.toList

@[simp] theorem arr_length (a : Array Nat) : (arr a).length = a.size := by simp [arr]

theorem arr_getD (a : Array Nat) (i : Nat) : (arr a).getD i 0 = ((rd a i : Nat) : Int) := by
  simp [arr, rd, Array.getD, ints, List.getD]
  by_cases h : i < a.size <;> simp [h]

theorem arr_set (a : Array Nat) (i v : Nat) : (arr a).set i (v : Int) = arr (wr a i v) := by
  simp [arr, wr, ints_set]

theorem chk_true (s : HCIcskphuff_splay.St) (c : Prop) [Decidable c] (h : c) : HCIcskphuff_splay.chk s c = s := by
  simp [HCIcskphuff_splay.chk, h]

/-- the translated state holds the tree `t` and the node `a`; the row cursors are 0 (the regions ARE the rows) -/
structure SplayRel (s : HCIcskphuff_splay.St) (t : Tree) (a : Nat) : Prop where
  hl : s.skphuff_info_left = arr t.left
  hr : s.skphuff_info_right = arr t.right
  hu : s.skphuff_info_up = arr t.up
  ha : s.a = (a : Int)
  l0 : s.lleft = 0
  r0 : s.lright = 0
  u0 : s.lup = 0
  ub : s.ub = false
  oof : s.oof = false

/-- a state of the loop body given by the variables the body touches, the rest taken from `base` -/
def st (base : HCIcskphuff_splay.St) (l r u : Array Nat) (a b c d : Int) (ub : Bool) : HCIcskphuff_splay.St :=
  { base with skphuff_info_left := arr l, skphuff_info_right := arr r, skphuff_info_up := arr u,
              a := a, b := b, c_ := c, d := d, lleft := 0, lright := 0, lup := 0, ub := ub, oof := false }

section
variable (base : HCIcskphuff_splay.St) (l r u : Array Nat) (a b c d : Int) (ub : Bool)
theorem st_ub : (st base l r u a b c d ub).ub = ub := by simp only [st]
theorem st_oof : (st base l r u a b c d ub).oof = false := by simp only [st]
theorem st_set_a (v : Int) : (st base l r u a b c d ub).set_a v = st base l r u v b c d ub := rfl
theorem st_set_b (v : Int) : (st base l r u a b c d ub).set_b v = st base l r u a v c d ub := rfl
theorem st_set_c (v : Int) : (st base l r u a b c d ub).set_c_ v = st base l r u a b v d ub := rfl
theorem st_set_d (v : Int) : (st base l r u a b c d ub).set_d v = st base l r u a b c v ub := rfl
theorem st_chk (p : Prop) (inst : Decidable p) : @HCIcskphuff_splay.chk (st base l r u a b c d ub) p inst = st base l r u a b c d (ub || !@decide p inst) :=
  rfl
end

theorem zero_add_toNat (n : Nat) : (0 + (n : Int)).toNat = n := by omega

/-- The state is taken apart into its fields, so that every setter and projection of the generated `have` chain reduces by itself.
    `h1`: `c` is the left child of `d`; `h2`: `a` is the left child of `c` (the code tests `c = left[d]`, `a = left[c]`; the case
    facts are turned round so that they rewrite towards the variable). -/
theorem body_rel (g : Nat) (s : HCIcskphuff_splay.St) (t : Tree) (a : Nat) (h : SplayRel s t a) (hw : WF t)
    (ha : a < 512) :
    SplayRel (HCIcskphuff_splay.loop0.body g s) (splayStep t a).1 (splayStep t a).2 := by
  obtain ⟨hl, hr, hu, hae, l0, r0, u0, ub, oof⟩ := h
  cases s
  simp only at hl hr hu hae l0 r0 u0 ub oof
  subst hl hr hu hae l0 r0 u0 ub oof
  have szl := hw.szl
  have szr := hw.szr
  have szu := hw.szu
  have c_lt : rd t.up a < 256 := hw.f.upLt a ha
  by_cases hc : rd t.up a = 0
  · rw [splayStep_root t a hc]
    simp only [HCIcskphuff_splay.loop0.body, HCIcskphuff_splay.chk, zero_add_toNat, arr_getD, hc, Int.natCast_zero, ne_eq,
      not_true_eq_false, ↓reduceIte]
    refine ⟨rfl, rfl, rfl, rfl, rfl, rfl, rfl, ?_, rfl⟩
    simp [szu]; omega
  · have d_lt : rd t.up (rd t.up a) < 256 := hw.f.upLt _ (by omega)
    have l_lt := hw.f.leftLt _ d_lt
    have r_lt := hw.f.rightLt _ d_lt
    simp only [splayStep, Nat.mod_eq_of_lt c_lt, Nat.mod_eq_of_lt d_lt, consts]
    generalize hcd : rd t.up a = c at *
    generalize hdd : rd t.up c = d at *
    by_cases h1 : rd t.left d = c <;>
      by_cases h2 : rd (if rd t.left d = c then t.left else wr t.left d a) c = a <;>
      simp only [h1, ↓reduceIte] at h2 <;>
      simp only [HCIcskphuff_splay.loop0.body, HCIcskphuff_splay.chk, zero_add_toNat, arr_getD, arr_set, hcd, hdd, h1, h2,
        eq_comm (a := c) (b := rd t.left d), eq_comm (a := a) (b := rd _ c), Int.natCast_eq_zero, Int.natCast_inj, hc, ne_eq,
        not_false_eq_true, ↓reduceIte] <;>
      refine ⟨rfl, rfl, rfl, rfl, rfl, rfl, rfl, ?_, rfl⟩ <;>
      simp [szl, szr, szu] <;> omega

theorem loop0_isLoop : IsLoop HCIcskphuff_splay.loop0 (fun s => s.a ≠ 0) HCIcskphuff_splay.loop0.body (fun s => s) :=
  .of_eqs (fun _ => rfl) (fun _ _ => rfl)

/-- the do-while loop of `HCIcskphuff_splay` (one pass through the body, then `loop0`) computes the model's `splayLoop`,
    whenever both have enough fuel for the `n` steps of the walk from `a` to ROOT (two steps per iteration) -/
theorem loop_rel : ∀ (n g f : Nat) (s : HCIcskphuff_splay.St) (t : Tree) (a : Nat), WF t → a < 512 → a ≠ 0 →
    Reach (rd t.up) n a → n ≤ 2 * g + 2 → n ≤ 2 * f → SplayRel s t a → ∀ g' : Nat,
    SplayRel (HCIcskphuff_splay.loop0 g (HCIcskphuff_splay.loop0.body g' s)) (splayLoop f t a) 0 := by
  intro n
  induction n using Nat.strongRecOn with
  | _ n ih =>
    intro g f s t a hw ha ha0 hr hng hnf hrel g'
    have hb := body_rel g' s t a hrel hw ha
    obtain ⟨f, rfl⟩ : ∃ f', f = f' + 1 := ⟨f - 1, by cases hr <;> omega⟩
    simp only [splayLoop]
    by_cases h0 : (splayStep t a).2 = 0
    · rw [loop0_isLoop.exit (fun c => c (by rw [hb.ha, h0]; rfl))]
      simp only [h0, consts, ne_eq, not_true_eq_false, ↓reduceIte]
      rw [h0] at hb; exact hb
    · have hc : rd t.up a ≠ 0 := by
        intro hc; rw [splayStep_root t a hc] at h0; exact h0 rfl
      have hd : rd t.up (rd t.up a) ≠ 0 := by
        intro hd
        obtain ⟨-, h2, -⟩ := splayStep_rot t a hw ha hc
        rw [h2] at h0; exact h0 hd
      obtain ⟨hn3, h2, hr'⟩ := reach_step t a n hw ha ha0 hc hd hr
      obtain ⟨g, rfl⟩ : ∃ g1, g = g1 + 1 := ⟨g - 1, by omega⟩
      obtain ⟨hw1, ha1⟩ := splayStep_WF t a hw ha ha0
      rw [loop0_isLoop.pass (by rw [hb.ha]; omega)]
      simp only [consts, ne_eq, h0, not_false_eq_true, ↓reduceIte]
      rw [← h2] at hr'
      exact ih (n - 2) (by omega) g f _ _ _ hw1 (by omega) h0 hr' (by omega) (by omega) hb (g + 1)

/-- the state of `HCIcskphuff_splay` when it enters its do-while loop: `skip_num = skip_pos`, row cursors at 0,
    `a = (unsigned)plain + SUCCMAX` -/
def entry (skip : Int) (l r u : List Int) (plain : Int) : HCIcskphuff_splay.St :=
  { skphuff_info_skip_pos := skip, skphuff_info_left := l, skphuff_info_right := r, skphuff_info_up := u,
    plain := plain, skip_num := skip, a := (plain + ((255 + 1) % 4294967296)) % 4294967296 }

/-- the translator executes the body of a do-while once inline and then enters `loop0`: same text as `loop0.body` -/
theorem splay_eq (fuel : Nat) (skip : Int) (l r u : List Int) (plain : Int) :
    HCIcskphuff_splay fuel skip l r u plain =
      HCIcskphuff_splay.loop0 fuel (HCIcskphuff_splay.loop0.body 0 (entry skip l r u plain)) := by
  unfold HCIcskphuff_splay
  extract_lets s1 s2 s3 s4 s5 s6
  have e6 : entry skip l r u plain = s6 := rfl
  rw [e6]
  unfold HCIcskphuff_splay.loop0.body
  extract_lets
  rfl

theorem entry_rel (skip : Int) (t : Tree) (plain : Nat) (hp : plain < 256) :
    SplayRel (entry skip (arr t.left) (arr t.right) (arr t.up) plain) t (plain + 256) :=
  ⟨rfl, rfl, rfl, by simp only [entry]; omega, rfl, rfl, rfl, rfl, rfl⟩

/-- fuel 255: the walk to ROOT has at most 512 steps, every iteration makes two, one is made before `loop0` is entered -/
theorem splay_fn (t : Tree) (hw : WF t) (plain : Nat) (hp : plain < 256) (skip : Int) (fuel : Nat) (hf : 255 ≤ fuel) :
    let s := HCIcskphuff_splay fuel skip (arr t.left) (arr t.right) (arr t.up) plain
    s.ub = false ∧ s.oof = false ∧ s.skphuff_info_left = arr (splay t plain).left ∧ s.skphuff_info_right = arr (splay t plain).right ∧
      s.skphuff_info_up = arr (splay t plain).up := by
  obtain ⟨n, hn, hr⟩ := reach_of_WF hw (plain + 256) (by omega) (by omega)
  have h := loop_rel n fuel TWICEMAX _ t (plain + 256) hw (by omega) (by omega) hr (by omega) (by simp only [consts]; omega)
    (entry_rel skip t plain hp) 0
  rw [← splay_eq] at h
  exact ⟨h.ub, h.oof, h.hl, h.hr, h.hu⟩

end H4.Lemmas.C05Fn
