import H4.DD
/-! # Geometry of the DD block chain: positions, prefixes/suffixes of the slot sequence, and the scanning loops of
`HTIfind_dd` expressed on the flattened slot list. -/
namespace H4.DD

def Valid (blocks : List Block) (q : Pos) : Prop := ∃ blk, blocks[q.blk]? = some blk ∧ q.idx < blk.dds.length

def preUpto (blocks : List Block) (b n : Nat) : List DD :=
  slotsOf (blocks.take b) ++ (match blocks[b]? with | none => [] | some blk => blk.dds.take n)

def sufFrom (blocks : List Block) (b idx : Nat) : List DD :=
  match blocks.drop b with
  | [] => []
  | blk :: rest => blk.dds.drop idx ++ slotsOf rest

theorem valid_blk_lt {blocks : List Block} {q : Pos} (h : Valid blocks q) : q.blk < blocks.length :=
  (List.getElem?_eq_some_iff.mp h.choose_spec.1).1

theorem map_noop {α} (l : List α) (P : α → Prop) [DecidablePred P] (f : α → α) (h : ∀ x ∈ l, ¬ P x) :
    l.map (fun x => if P x then f x else x) = l := by
  induction l with
  | nil => rfl
  | cons a t ih =>
    simp only [List.map_cons, if_neg (h a (by simp))]
    rw [ih (fun x hx => h x (by simp [hx]))]

theorem take_set_self {α} (l : List α) (i : Nat) (d : α) : List.take i (l.set i d) = List.take i l := by
  rw [List.take_set, List.set_eq_of_length_le]; simp; omega
theorem drop_set_succ {α} (l : List α) (i : Nat) (d : α) : List.drop (i + 1) (l.set i d) = List.drop (i + 1) l := by
  rw [List.drop_set]; simp

theorem list_split_at {α} (l : List α) (i : Nat) (hi : i < l.length) : l = l.take i ++ l[i] :: l.drop (i + 1) := by
  rw [List.getElem_cons_drop hi, List.take_append_drop]

@[simp] theorem slotsOf_nil : slotsOf [] = [] := rfl
@[simp] theorem slotsOf_cons (b : Block) (bs : List Block) : slotsOf (b :: bs) = b.dds ++ slotsOf bs := by
  simp [slotsOf]
theorem slotsOf_append (a b : List Block) : slotsOf (a ++ b) = slotsOf a ++ slotsOf b := by
  simp [slotsOf]

theorem preUpto_cons_succ (blk : Block) (rest : List Block) (b n : Nat) :
    preUpto (blk :: rest) (b + 1) n = blk.dds ++ preUpto rest b n := by
  simp [preUpto, List.append_assoc]

theorem sufFrom_cons_succ (blk : Block) (rest : List Block) (b n : Nat) :
    sufFrom (blk :: rest) (b + 1) n = sufFrom rest b n := by
  simp [sufFrom]

theorem sufFrom_cons_zero (blk : Block) (rest : List Block) (n : Nat) :
    sufFrom (blk :: rest) 0 n = blk.dds.drop n ++ slotsOf rest := by
  simp [sufFrom]

theorem preUpto_cons_zero (blk : Block) (rest : List Block) (n : Nat) :
    preUpto (blk :: rest) 0 n = blk.dds.take n := by
  simp [preUpto]

theorem slots_split (blocks : List Block) : ∀ (b n : Nat), slotsOf blocks = preUpto blocks b n ++ sufFrom blocks b n := by
  induction blocks with
  | nil => intro b n; simp [preUpto, sufFrom]
  | cons blk rest ih =>
    intro b n
    cases b with
    | zero => rw [preUpto_cons_zero, sufFrom_cons_zero, ← List.append_assoc, List.take_append_drop, slotsOf_cons]
    | succ b => rw [preUpto_cons_succ, sufFrom_cons_succ, slotsOf_cons, List.append_assoc, ← ih b n]

theorem sufFrom_zero_zero (blocks : List Block) : sufFrom blocks 0 0 = slotsOf blocks := by
  cases blocks <;> simp [sufFrom]

theorem getDD_cons_succ (blk : Block) (rest : List Block) (b i : Nat) :
    getDD (blk :: rest) ⟨b + 1, i⟩ = getDD rest ⟨b, i⟩ := by
  simp [getDD]

theorem valid_cons_succ (blk : Block) (rest : List Block) (b i : Nat) :
    Valid (blk :: rest) ⟨b + 1, i⟩ ↔ Valid rest ⟨b, i⟩ := by
  simp [Valid]

theorem sufFrom_valid {blocks : List Block} {q : Pos} (h : Valid blocks q) :
    sufFrom blocks q.blk q.idx = getDD blocks q :: sufFrom blocks q.blk (q.idx + 1) := by
  obtain ⟨b, i⟩ := q
  induction blocks generalizing b with
  | nil => obtain ⟨blk, h1, _⟩ := h; simp at h1
  | cons blk rest ih =>
    cases b with
    | zero =>
      obtain ⟨blk', h1, h2⟩ := h
      simp at h1; subst h1
      have h2' : i < blk.dds.length := h2
      have e := List.drop_eq_getElem_cons h2'
      simp only [sufFrom_cons_zero, getDD, List.getElem?_cons_zero]
      rw [e, List.getD_eq_getElem?_getD, List.getElem?_eq_getElem h2']; rfl
    | succ b =>
      rw [sufFrom_cons_succ, sufFrom_cons_succ, getDD_cons_succ]
      exact ih b ((valid_cons_succ _ _ _ _).mp h)

theorem slots_split_valid {blocks : List Block} {q : Pos} (h : Valid blocks q) :
    slotsOf blocks = preUpto blocks q.blk q.idx ++ getDD blocks q :: sufFrom blocks q.blk (q.idx + 1) := by
  rw [slots_split blocks q.blk q.idx, sufFrom_valid h]

theorem getDD_mem_slots {blocks : List Block} {q : Pos} (h : Valid blocks q) : getDD blocks q ∈ slotsOf blocks := by
  rw [slots_split_valid h]; simp

theorem setDD_cons_succ (blk : Block) (rest : List Block) (b i : Nat) (d : DD) :
    setDD (blk :: rest) ⟨b + 1, i⟩ d = blk :: setDD rest ⟨b, i⟩ d := by
  simp [setDD]

theorem setDD_cons_zero (blk : Block) (rest : List Block) (i : Nat) (d : DD) :
    setDD (blk :: rest) ⟨0, i⟩ d = { blk with dds := blk.dds.set i d } :: rest := by
  simp [setDD]

theorem setDD_length (blocks : List Block) (q : Pos) (d : DD) : (setDD blocks q d).length = blocks.length := by
  simp [setDD]

theorem preUpto_setDD (blocks : List Block) (q : Pos) (d : DD) :
    preUpto (setDD blocks q d) q.blk q.idx = preUpto blocks q.blk q.idx := by
  obtain ⟨b, i⟩ := q
  induction blocks generalizing b with
  | nil => simp [setDD]
  | cons blk rest ih =>
    cases b with
    | zero => simp [setDD_cons_zero, preUpto_cons_zero, take_set_self]
    | succ b => rw [setDD_cons_succ, preUpto_cons_succ, preUpto_cons_succ]; simp only; rw [ih b]

theorem sufFrom_setDD (blocks : List Block) (q : Pos) (d : DD) :
    sufFrom (setDD blocks q d) q.blk (q.idx + 1) = sufFrom blocks q.blk (q.idx + 1) := by
  obtain ⟨b, i⟩ := q
  induction blocks generalizing b with
  | nil => simp [setDD]
  | cons blk rest ih =>
    cases b with
    | zero => simp [setDD_cons_zero, sufFrom_cons_zero, drop_set_succ]
    | succ b => rw [setDD_cons_succ, sufFrom_cons_succ, sufFrom_cons_succ]; exact ih b

theorem valid_setDD {blocks : List Block} (q r : Pos) (d : DD) :
    Valid (setDD blocks q d) r ↔ Valid blocks r := by
  unfold Valid setDD
  simp only [List.getElem?_modify]
  cases h : blocks[r.blk]? with
  | none => simp
  | some blk =>
    by_cases hq : q.blk = r.blk <;> simp [hq]

theorem getDD_setDD_same {blocks : List Block} {q : Pos} (h : Valid blocks q) (d : DD) :
    getDD (setDD blocks q d) q = d := by
  obtain ⟨blk, h1, h2⟩ := h
  simp [getDD, setDD, h1, List.getD_eq_getElem?_getD, h2]

theorem getDD_setDD_other {blocks : List Block} {q r : Pos} (hne : q ≠ r) (d : DD) :
    getDD (setDD blocks q d) r = getDD blocks r := by
  simp only [getDD, setDD, List.getElem?_modify]
  cases h : blocks[r.blk]? with
  | none => simp
  | some blk =>
    by_cases hq : q.blk = r.blk
    · have : q.idx ≠ r.idx := by
        intro hi; apply hne; cases q; cases r; simp_all
      simp [hq, List.getD_eq_getElem?_getD, this]
    · simp [hq]

theorem slots_setDD {blocks : List Block} {q : Pos} (h : Valid blocks q) (d : DD) :
    slotsOf (setDD blocks q d) = preUpto blocks q.blk q.idx ++ d :: sufFrom blocks q.blk (q.idx + 1) := by
  have hv : Valid (setDD blocks q d) q := (valid_setDD q q d).mpr h
  rw [slots_split_valid hv, preUpto_setDD, sufFrom_setDD, getDD_setDD_same h]

theorem firstIdx_none {p : DD → Bool} {l : List DD} (h : firstIdx p l = none) : l.filter p = [] := by
  induction l with
  | nil => rfl
  | cons d ds ih =>
    unfold firstIdx at h
    split at h
    · cases h
    · rename_i hp
      simp only [Option.map_eq_none_iff] at h
      simp [hp, ih h]

theorem firstIdx_some {p : DD → Bool} {l : List DD} {i : Nat} (h : firstIdx p l = some i) :
    ∃ hi : i < l.length, p l[i] = true ∧ (l.take i).filter p = [] := by
  induction l generalizing i with
  | nil => cases h
  | cons d ds ih =>
    unfold firstIdx at h
    split at h
    · rename_i hp
      cases h
      exact ⟨by simp, by simpa using hp, by simp⟩
    · rename_i hp
      simp only [Option.map_eq_some_iff] at h
      obtain ⟨j, hj, rfl⟩ := h
      obtain ⟨hi, h1, h2⟩ := ih hj
      refine ⟨by simp; omega, by simpa using h1, ?_⟩
      simp [List.take_succ_cons, hp, h2]

theorem lastIdx_none {p : DD → Bool} {l : List DD} (h : lastIdx p l = none) : l.filter p = [] := by
  induction l with
  | nil => rfl
  | cons d ds ih =>
    unfold lastIdx at h
    split at h
    · cases h
    · rename_i hl
      split at h
      · cases h
      · rename_i hp
        simp [hp, ih hl]

theorem lastIdx_some {p : DD → Bool} {l : List DD} {i : Nat} (h : lastIdx p l = some i) :
    ∃ hi : i < l.length, p l[i] = true ∧ (l.drop (i + 1)).filter p = [] := by
  induction l generalizing i with
  | nil => cases h
  | cons d ds ih =>
    unfold lastIdx at h
    split at h
    · rename_i j hj
      cases h
      obtain ⟨hi, h1, h2⟩ := ih hj
      exact ⟨by simp; omega, by simpa using h1, by simpa using h2⟩
    · rename_i hl
      split at h
      · rename_i hp
        cases h
        refine ⟨by simp, by simpa using hp, ?_⟩
        simpa using lastIdx_none hl
      · cases h

theorem drop_eq_cons {α} {l : List α} {b : Nat} {x : α} {xs : List α} (h : l.drop b = x :: xs) :
    l[b]? = some x ∧ l.drop (b + 1) = xs := by
  constructor
  · have := List.getElem?_drop (xs := l) (i := b) (j := 0)
    rw [h] at this; simpa using this.symm
  · have : l.drop (b + 1) = (l.drop b).drop 1 := by rw [List.drop_drop]
    rw [this, h]; rfl

theorem sufFrom_of_drop {blocks : List Block} {b : Nat} {blk : Block} {rest : List Block}
    (h : blocks.drop b = blk :: rest) (n : Nat) : sufFrom blocks b n = blk.dds.drop n ++ slotsOf rest := by
  simp [sufFrom, h]

theorem getDD_of_getElem? {blocks : List Block} {b i : Nat} {blk : Block} (h : blocks[b]? = some blk)
    (hi : i < blk.dds.length) : getDD blocks ⟨b, i⟩ = blk.dds[i] := by
  simp [getDD, h, List.getD_eq_getElem?_getD, hi]

theorem scanFwdBlocks_none {p : DD → Bool} : ∀ (rest : List Block) (b : Nat),
    scanFwdBlocks p rest b = none → (slotsOf rest).filter p = [] := by
  intro rest
  induction rest with
  | nil => intros; rfl
  | cons blk rest ih =>
    intro b h
    unfold scanFwdBlocks at h
    split at h
    · cases h
    · rename_i hf
      simp [firstIdx_none hf, ih _ h]

theorem scanFwdBlocks_some {p : DD → Bool} {blocks : List Block} : ∀ (rest : List Block) (b : Nat) (q : Pos),
    blocks.drop b = rest → scanFwdBlocks p rest b = some q →
    Valid blocks q ∧ p (getDD blocks q) = true ∧
    ∃ mid, slotsOf rest = mid ++ getDD blocks q :: sufFrom blocks q.blk (q.idx + 1) ∧ mid.filter p = [] := by
  intro rest
  induction rest with
  | nil => intro b q _ h; cases h
  | cons blk rest ih =>
    intro b q hd h
    obtain ⟨hb, hd'⟩ := drop_eq_cons hd
    unfold scanFwdBlocks at h
    split at h
    · rename_i i hf
      cases h
      obtain ⟨hi, hp, hpre⟩ := firstIdx_some hf
      refine ⟨⟨blk, hb, hi⟩, by rw [getDD_of_getElem? hb hi]; exact hp, blk.dds.take i, ?_, hpre⟩
      rw [getDD_of_getElem? hb hi, sufFrom_of_drop hd, slotsOf_cons]
      have e := list_split_at blk.dds i hi
      calc blk.dds ++ slotsOf rest = (blk.dds.take i ++ blk.dds[i] :: blk.dds.drop (i + 1)) ++ slotsOf rest := by rw [← e]
        _ = _ := by simp only [List.append_assoc, List.cons_append]
    · rename_i hf
      obtain ⟨hv, hp, mid, hm, hmf⟩ := ih (b + 1) q hd' h
      refine ⟨hv, hp, blk.dds ++ mid, ?_, ?_⟩
      · rw [slotsOf_cons, hm]; simp
      · simp [firstIdx_none hf, hmf]

theorem scanFwd_none {p : DD → Bool} {blocks : List Block} {b idx : Nat}
    (h : scanFwd p blocks b idx = none) : (sufFrom blocks b idx).filter p = [] := by
  unfold scanFwd at h
  unfold sufFrom
  split at h
  · rename_i hd; simp [hd]
  · rename_i blk rest hd
    rw [hd]
    split at h
    · cases h
    · rename_i hf
      simp [firstIdx_none hf, scanFwdBlocks_none _ _ h]

theorem scanFwd_some {p : DD → Bool} {blocks : List Block} {b idx : Nat} {q : Pos}
    (h : scanFwd p blocks b idx = some q) :
    Valid blocks q ∧ p (getDD blocks q) = true ∧
    ∃ mid, sufFrom blocks b idx = mid ++ getDD blocks q :: sufFrom blocks q.blk (q.idx + 1) ∧ mid.filter p = [] := by
  unfold scanFwd at h
  split at h
  · cases h
  · rename_i blk rest hd
    obtain ⟨hb, hd'⟩ := drop_eq_cons hd
    split at h
    · rename_i i hf
      cases h
      obtain ⟨hi, hp, hpre⟩ := firstIdx_some hf
      have hi' : i + idx < blk.dds.length := by simp at hi; omega
      have hget : (blk.dds.drop idx)[i] = blk.dds[i + idx] := by simp [Nat.add_comm]
      refine ⟨⟨blk, hb, hi'⟩, by rw [getDD_of_getElem? hb hi', ← hget]; exact hp, (blk.dds.drop idx).take i, ?_, hpre⟩
      rw [getDD_of_getElem? hb hi', sufFrom_of_drop hd, sufFrom_of_drop hd, ← hget]
      have e := list_split_at (blk.dds.drop idx) i hi
      have e2 : (blk.dds.drop idx).drop (i + 1) = blk.dds.drop (i + idx + 1) := by
        rw [List.drop_drop]; congr 1; omega
      calc blk.dds.drop idx ++ slotsOf rest
          = ((blk.dds.drop idx).take i ++ (blk.dds.drop idx)[i] :: (blk.dds.drop idx).drop (i + 1)) ++ slotsOf rest := by rw [← e]
        _ = _ := by rw [e2]; simp only [List.append_assoc, List.cons_append]
    · rename_i hf
      obtain ⟨hv, hp, mid, hm, hmf⟩ := scanFwdBlocks_some (blocks := blocks) rest (b + 1) q hd' h
      refine ⟨hv, hp, blk.dds.drop idx ++ mid, ?_, ?_⟩
      · rw [sufFrom_of_drop hd, hm]; simp
      · simp [firstIdx_none hf, hmf]

theorem take_succ_reverse {α} {l : List α} {cnt : Nat} {x : α} {xs : List α}
    (h : (l.take (cnt + 1)).reverse = x :: xs) (hc : cnt < l.length) : l[cnt]? = some x ∧ (l.take cnt).reverse = xs := by
  rw [List.take_succ_eq_append_getElem hc, List.reverse_append] at h
  simp at h
  exact ⟨by rw [List.getElem?_eq_getElem hc, h.1], h.2⟩

theorem preUpto_of_getElem? {blocks : List Block} {b : Nat} {blk : Block} (h : blocks[b]? = some blk) (n : Nat) :
    preUpto blocks b n = slotsOf (blocks.take b) ++ blk.dds.take n := by
  simp [preUpto, h]

theorem slotsOf_take_succ {blocks : List Block} {b : Nat} {blk : Block} (h : blocks[b]? = some blk) :
    slotsOf (blocks.take (b + 1)) = slotsOf (blocks.take b) ++ blk.dds := by
  have hb : b < blocks.length := (List.getElem?_eq_some_iff.mp h).1
  rw [List.take_succ_eq_append_getElem hb, slotsOf_append]
  have : blocks[b] = blk := by rw [List.getElem?_eq_getElem hb] at h; simpa using h
  simp [this]

theorem scanBwdBlocks_none {p : DD → Bool} {blocks : List Block} : ∀ (rev : List Block) (cnt : Nat),
    cnt ≤ blocks.length → (blocks.take cnt).reverse = rev → scanBwdBlocks p rev cnt = none →
    (slotsOf (blocks.take cnt)).filter p = [] := by
  intro rev
  induction rev with
  | nil =>
    intro cnt hc hr _
    have : blocks.take cnt = [] := by simpa using hr
    rw [this]; rfl
  | cons blk rev ih =>
    intro cnt hc hr h
    cases cnt with
    | zero => simp at hr
    | succ cnt =>
      obtain ⟨hb, hr'⟩ := take_succ_reverse hr (by omega)
      unfold scanBwdBlocks at h
      split at h
      · cases h
      · rename_i hl
        simp only [Nat.add_sub_cancel] at h
        rw [slotsOf_take_succ hb]
        simp [ih cnt (by omega) hr' h, lastIdx_none hl]

theorem scanBwdBlocks_some {p : DD → Bool} {blocks : List Block} : ∀ (rev : List Block) (cnt : Nat) (q : Pos),
    cnt ≤ blocks.length → (blocks.take cnt).reverse = rev → scanBwdBlocks p rev cnt = some q →
    Valid blocks q ∧ p (getDD blocks q) = true ∧
    ∃ mid, slotsOf (blocks.take cnt) = preUpto blocks q.blk q.idx ++ getDD blocks q :: mid ∧ mid.filter p = [] := by
  intro rev
  induction rev with
  | nil => intro cnt q _ _ h; cases h
  | cons blk rev ih =>
    intro cnt q hc hr h
    cases cnt with
    | zero => simp at hr
    | succ cnt =>
      obtain ⟨hb, hr'⟩ := take_succ_reverse hr (by omega)
      unfold scanBwdBlocks at h
      simp only [Nat.add_sub_cancel] at h
      split at h
      · rename_i i hl
        cases h
        obtain ⟨hi, hp, hpost⟩ := lastIdx_some hl
        refine ⟨⟨blk, hb, hi⟩, by rw [getDD_of_getElem? hb hi]; exact hp, blk.dds.drop (i + 1), ?_, hpost⟩
        rw [getDD_of_getElem? hb hi, slotsOf_take_succ hb, preUpto_of_getElem? hb]
        have e := list_split_at blk.dds i hi
        calc slotsOf (blocks.take cnt) ++ blk.dds
            = slotsOf (blocks.take cnt) ++ (blk.dds.take i ++ blk.dds[i] :: blk.dds.drop (i + 1)) := by rw [← e]
          _ = _ := by simp only [List.append_assoc]
      · rename_i hl
        obtain ⟨hv, hp, mid, hm, hmf⟩ := ih cnt q (by omega) hr' h
        refine ⟨hv, hp, mid ++ blk.dds, ?_, ?_⟩
        · rw [slotsOf_take_succ hb, hm]; simp
        · simp [hmf, lastIdx_none hl]

theorem scanBwd_none {p : DD → Bool} {blocks : List Block} {b n : Nat} (hbl : b < blocks.length)
    (h : scanBwd p blocks b n = none) : (preUpto blocks b n).filter p = [] := by
  unfold scanBwd at h
  split at h
  · rename_i hb
    simp [List.getElem?_eq_getElem hbl] at hb
  · rename_i blk hb
    split at h
    · cases h
    · rename_i hl
      rw [preUpto_of_getElem? hb]
      simp [lastIdx_none hl, scanBwdBlocks_none _ b (by omega) rfl h]

theorem scanBwd_some {p : DD → Bool} {blocks : List Block} {b n : Nat} {q : Pos}
    (h : scanBwd p blocks b n = some q) :
    Valid blocks q ∧ p (getDD blocks q) = true ∧
    ∃ mid, preUpto blocks b n = preUpto blocks q.blk q.idx ++ getDD blocks q :: mid ∧ mid.filter p = [] := by
  unfold scanBwd at h
  split at h
  · cases h
  · rename_i blk hb
    have hbl : b < blocks.length := (List.getElem?_eq_some_iff.mp hb).1
    split at h
    · rename_i i hl
      cases h
      obtain ⟨hi, hp, hpost⟩ := lastIdx_some hl
      have hi' : i < blk.dds.length := by simp at hi; omega
      have hget : (blk.dds.take n)[i] = blk.dds[i] := by simp
      refine ⟨⟨blk, hb, hi'⟩, by rw [getDD_of_getElem? hb hi', ← hget]; exact hp, (blk.dds.take n).drop (i + 1), ?_, hpost⟩
      rw [getDD_of_getElem? hb hi', preUpto_of_getElem? hb, preUpto_of_getElem? hb, ← hget]
      have e := list_split_at (blk.dds.take n) i hi
      have e2 : (blk.dds.take n).take i = blk.dds.take i := by
        rw [List.take_take]; congr 1; simp at hi; omega
      calc slotsOf (blocks.take b) ++ blk.dds.take n
          = slotsOf (blocks.take b) ++ ((blk.dds.take n).take i ++ (blk.dds.take n)[i] :: (blk.dds.take n).drop (i + 1)) := by rw [← e]
        _ = _ := by rw [e2]; simp only [List.append_assoc]
    · rename_i hl
      obtain ⟨hv, hp, mid, hm, hmf⟩ := scanBwdBlocks_some (blocks := blocks) _ b q (by omega) rfl h
      refine ⟨hv, hp, mid ++ blk.dds.take n, ?_, ?_⟩
      · rw [preUpto_of_getElem? hb, hm]; simp
      · simp [hmf, lastIdx_none hl]

end H4.DD
