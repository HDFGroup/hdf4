import H4.Lemmas.ElemOps
/-! The calls that touch nothing but the access record: `Hread`, `Hendaccess`, `Happendable`, `HLsetblockinfo`. -/
namespace H4.Elem

theorem stepSim_endaccess (w : World) (hw : WFW w) (h : Nat) : StepSim w (.endaccess h) := by
  cases ha : w.acc h with
  | none => exact ResOK.of_fail hw (by simp [step, hendaccess, ha])
  | some a =>
    have hfi := file_lt_of_live w a.file a.slot (hw.handles h a ha).live
    unfold StepSim ResOK
    simp only [step, hendaccess, ha]
    have hw1 := hw.setFile a.file hfi { w.file a.file with attach := (w.file a.file).attach - 1 } ((hw.files a.file).attach _)
      (coh_attach (hw.coh a.file) _) (fun _ _ _ _ => rfl)
    have e1 := abs_setFile (w := w) a.file hfi { w.file a.file with attach := (w.file a.file).attach - 1 }
      (fun _ _ _ _ => rfl) rfl (fun _ _ => rfl)
    exact ⟨hw1.delAcc h, fun v hv =>
      ⟨v.setHnd h none, rfl, Eqv.trans (Eqv.setHnd (Eqv.trans hv e1) h none) (abs_delAcc _ h)⟩⟩

theorem stepC_read (w : World) (hw : WFW w) (h : Nat) (n : Int) : ResOK w (.read h n) (stepC w (.read h n)) := by
  cases ha : w.acc h with
  | none => exact ResOK.of_fail hw (by simp [stepC, hreadCore, ha])
  | some a =>
    have hh := hw.handles h a ha
    by_cases hnew : a.newElem = true
    · exact ResOK.of_fail hw (by simp [stepC, hreadCore, ha, hnew])
    have hnew0 : a.newElem = false := by simpa using hnew
    by_cases hsp : a.special = true
    · have hsp' := hh.tag_special hsp
      obtain ⟨li, ho, hl, h1, h2, _, _⟩ := (hw.files a.file).linked_ok a.slot hh.live hsp'
      have hstep : stepC w (.read h n) =
          match hlpRead (w.file a.file) li a.posn n with
          | .data c buf => (w.setAcc h { a with posn := a.posn + c.toNat }, .data c buf)
          | r => (w, r) := by
        simp only [stepC, hreadCore, ha]
        rw [if_neg hnew, if_pos hsp]
        simp only [acc_key_eq, h1]
        cases hlpRead (w.file a.file) li a.posn n <;> rfl
      by_cases hn : 0 ≤ n
      · rcases hlpRead_spec (w.file a.file) li h2 a.posn n hn with hr | hr
        · exact ResOK.of_fail hw (by rw [hstep, hr])
        · rw [hstep, hr]
          simp only
          refine resOK_posn hw ha _ fun v hy he => ?_
          simp only [specStep, hy, he, Option.map_some, slotBytes_special _ _ hsp', h1, linkedBytes_length]
          have hbuf : (List.range (readCount li.length a.posn n.toNat)).map (fun j => (w.file a.file).lbyte li (a.posn + j)) =
              specRead ((w.file a.file).linkedBytes li) a.posn (readCount li.length a.posn n.toNat) := by
            unfold File.linkedBytes; rw [specRead_range _ _ _ _ (readCount_fits _ _ _)]
          rw [hbuf]
          simp [hn]
      · exact ResOK.of_fail hw (by rw [hstep]; simp [hlpRead, (by omega : n < 0)])
    · have hsp0 : a.special = false := by simpa using hsp
      have hsp' := hh.tag_special hsp0
      have hext : ((w.file a.file).dd a.slot).ext ≠ none := by
        intro e; have := hh.new_of_none hsp0 e; rw [hnew0] at this; exact absurd this (by decide)
      cases hx : ((w.file a.file).dd a.slot).ext with
      | none => exact absurd hx hext
      | some e =>
        obtain ⟨o, l⟩ := e
        by_cases hn : n < 0
        · exact ResOK.of_fail hw (by simp [stepC, hreadCore, ha, hnew0, hsp0, hn])
        have hn0 : 0 ≤ n := by omega
        have hdl := ddLen_some hx
        have hdo : (ddOff ((w.file a.file).dd a.slot)).toNat = o := by rw [ddOff_some hx]; rfl
        have hstep : stepC w (.read h n) =
            let len : Int := if n = 0 ∨ n + a.posn > l then (l : Int) - a.posn else n
            if len < 0 then (w, .data 0 [])
            else match (w.file a.file).hpRead (o + a.posn) len.toNat with
              | none => (w, .fail)
              | some bs => (w.setAcc h { a with posn := a.posn + len.toNat }, .data len bs) := by
          simp only [stepC, hreadCore, ha]
          rw [if_neg hnew, if_neg hsp, if_neg hn]
          simp only [hdl, hdo]
          split
          · rfl
          · cases (w.file a.file).hpRead (o + a.posn) (if n = 0 ∨ n + (a.posn : Int) > l then (l : Int) - a.posn else n).toNat <;> rfl
        rcases readLen_spec l a.posn n hn0 with ⟨hlen, hrc⟩ | ⟨hlen, hrc⟩
        · -- positioned beyond the end: 0 bytes (21b8ab5)
          rw [hstep]; simp only [hlen, if_true]
          refine resOK_stay hw ha fun v hy he => ?_
          simp only [specStep, hy, he, Option.map_some, slotBytes_plain _ _ hsp', hx, bytesAt_length, hrc]
          simp [hn0, specRead]
        · have hlen' : ¬ ((if n = 0 ∨ n + (a.posn : Int) > l then (l : Int) - a.posn else n) < 0) := by omega
          cases hdr : (w.file a.file).hpRead (o + a.posn) (readCount l a.posn n.toNat) with
          | none => exact ResOK.of_fail hw (by rw [hstep]; simp only [hlen', if_false, hrc.1, hdr])
          | some bs =>
            rw [hstep]
            simp only [hlen', if_false, hrc.1, hdr]
            refine resOK_posn hw ha _ fun v hy he => ?_
            have hbs := plain_read_bytes (w.file a.file) o l a.posn _ bs hrc.2 hdr
            simp only [specStep, hy, he, Option.map_some, slotBytes_plain _ _ hsp', hx, bytesAt_length]
            rw [← hbs]
            have : (if n = 0 ∨ n + (a.posn : Int) > l then (l : Int) - a.posn else n) = (readCount l a.posn n.toNat : Nat) := by
              have := hrc.1; omega
            simp [hn0, this]

theorem stepSim_read (w : World) (hw : WFW w) (h : Nat) (n : Int) : StepSim w (.read h n) :=
  stepSim_of_core w hw h (.read h n) rfl (stepC_read (w.refresh h) (refresh_spec w hw h).wfw h n)

theorem stepSim_appendable (w : World) (hw : WFW w) (h : Nat) : StepSim w (.appendable h) := by
  unfold StepSim
  cases ha : w.acc h with
  | none => simp only [step, happendable, ha]; exact ResOK.fail hw _
  | some a =>
    simp only [step, happendable, ha]
    exact resOK_flags hw ha { a with appendable := true } ((hw.handles h a ha).same rfl rfl rfl rfl (hw.handles h a ha).blk)
      rfl rfl rfl (by intro v; rfl)

theorem stepSim_setblockinfo (w : World) (hw : WFW w) (h : Nat) (blen nblk : Int) : StepSim w (.setblockinfo h blen nblk) := by
  unfold StepSim
  cases ha : w.acc h with
  | none => simp only [step, hsetblockinfo, ha]; exact ResOK.fail hw _
  | some a =>
    simp only [step, hsetblockinfo, ha]
    by_cases hbad : (blen ≤ 0 ∧ blen ≠ -1) ∨ (nblk ≤ 0 ∧ nblk ≠ -1)
    · rw [if_pos hbad]; exact ResOK.fail hw _
    rw [if_neg hbad]
    by_cases hsp : a.special = true
    · rw [if_pos hsp]
      exact ⟨hw, fun v hv => ⟨v, rfl, hv⟩⟩
    · have hh := hw.handles h a ha
      have hblk : 1 ≤ (if blen = -1 then a.blockSize else blen.toNat) ∧ 1 ≤ (if nblk = -1 then a.numBlocks else nblk.toNat) := by
        constructor <;> split <;> first | exact hh.blk.1 | exact hh.blk.2 | omega
      rw [if_neg hsp]
      exact resOK_flags hw ha { a with blockSize := if blen = -1 then a.blockSize else blen.toNat,
                                        numBlocks := if nblk = -1 then a.numBlocks else nblk.toNat }
        (hh.same rfl rfl rfl rfl hblk) rfl rfl rfl (by intro v; rfl)

end H4.Elem
