import H4.Interlace
import H4.Lemmas.Slab
import H4.Lemmas.C2L
import Mathlib.Tactic.Ring
/-! Helper lemmas for C09 (`GRIil_convert`): mixed-radix addressing, byte-buffer `blit`/`slice` algebra,
    and the refinement of the pointer-increment loops to a fold over coordinates. -/
namespace H4.Interlace

theorem mix_lt {A B C a b c : Nat} (ha : a < A) (hb : b < B) (hc : c < C) :
    (a * B + b) * C + c < A * B * C := by
  have h := Slab.offset_lt [A, B, C] [a, b, c] ⟨ha, hb, hc, trivial⟩
  simp only [Slab.offset, Slab.prod, Nat.mul_one, Nat.add_zero] at h
  calc (a * B + b) * C + c = a * (B * C) + (b * C + c) := by ring
    _ < A * (B * C) := h
    _ = A * B * C := by ring

theorem mix_inj {B C a b c a' b' c' : Nat} (hb : b < B) (hb' : b' < B) (hc : c < C) (hc' : c' < C)
    (h : (a * B + b) * C + c = (a' * B + b') * C + c') : a = a' ∧ b = b' ∧ c = c' := by
  obtain ⟨h1, h2⟩ := Slab.radix_inj hc hc' h
  obtain ⟨h3, h4⟩ := Slab.radix_inj hb hb' h1
  exact ⟨h3, h4, h2⟩

theorem mix_dec (B C p : Nat) : (p / C / B * B + p / C % B) * C + p % C = p := by
  rw [Nat.div_add_mod' (p / C) B, Nat.div_add_mod' p C]

theorem mix_dec_lt {A B C p : Nat} (h : p < A * B * C) :
    p / C / B < A ∧ p / C % B < B ∧ p % C < C := by
  have hC : 0 < C := by
    rcases Nat.eq_zero_or_pos C with h0 | h0
    · subst h0; simp at h
    · exact h0
  have hB : 0 < B := by
    rcases Nat.eq_zero_or_pos B with h0 | h0
    · subst h0; simp at h
    · exact h0
  refine ⟨?_, Nat.mod_lt _ hB, Nat.mod_lt _ hC⟩
  rw [Nat.div_div_eq_div_mul, Nat.div_lt_iff_lt_mul (Nat.mul_pos hC hB)]
  calc p < A * B * C := h
    _ = A * (C * B) := by ring

@[simp] theorem length_blit (d : List Byte) (off : Nat) (s : List Byte) : (blit d off s).length = d.length := by
  simp only [blit, List.length_append, List.length_take, List.length_drop]; omega

theorem slice_eq (m : List Byte) (off n : Nat) : slice m off n = C2L.readAt m off n := rfl

theorem blit_eq {d : List Byte} {off : Nat} {s : List Byte} (h : off + s.length ≤ d.length) : blit d off s = C2L.storeAt d off s := by
  unfold blit C2L.storeAt
  rw [List.take_of_length_le (l := s) (by omega)]

theorem length_slice {b : List Byte} {off n : Nat} (h : off + n ≤ b.length) : (slice b off n).length = n :=
  C2L.length_readAt b off n h

theorem getElem?_slice (b : List Byte) (off n i : Nat) :
    (slice b off n)[i]? = if i < n then b[off + i]? else none :=
  C2L.getElem?_readAt b off n i

theorem slice_blit_same {d : List Byte} {off : Nat} {s : List Byte} (h : off + s.length ≤ d.length) :
    slice (blit d off s) off s.length = s := by
  rw [blit_eq h]; exact C2L.readAt_storeAt_same d off s h

theorem slice_blit_disj {d : List Byte} {off : Nat} {s : List Byte} (h : off + s.length ≤ d.length)
    {q n : Nat} (hd : q + n ≤ off ∨ off + s.length ≤ q) : slice (blit d off s) q n = slice d q n := by
  rw [blit_eq h]; exact C2L.readAt_storeAt_disj d off s h hd

theorem chunk_ext {csz N : Nat} {b b' : List Byte} (hb : b.length = csz * N) (hb' : b'.length = csz * N)
    (h : ∀ q < N, slice b (csz * q) csz = slice b' (csz * q) csz) : b = b' := by
  apply List.ext_getElem?
  intro i
  by_cases c : i < csz * N
  · have hc : 0 < csz := by
      rcases Nat.eq_zero_or_pos csz with h0 | h0
      · subst h0; simp at c
      · exact h0
    have hq : i / csz < N := by
      rw [Nat.div_lt_iff_lt_mul hc]; rw [Nat.mul_comm]; exact c
    have := congrArg (fun l => l[i % csz]?) (h (i / csz) hq)
    simp only [getElem?_slice, Nat.mod_lt _ hc, if_true, Nat.div_add_mod] at this
    exact this
  · rw [List.getElem?_eq_none (by omega), List.getElem?_eq_none (by omega)]


def move (inb : List Byte) (csz : Nat) (dst src : Coord → Nat) (o : List Byte) (p : Coord) : List Byte :=
  blit o (csz * dst p) (slice inb (csz * src p) csz)

theorem length_foldl_move (inb : List Byte) (csz : Nat) (dst src : Coord → Nat) (cs : List Coord) (o : List Byte) :
    (cs.foldl (move inb csz dst src) o).length = o.length := by
  induction cs generalizing o with
  | nil => rfl
  | cons h t ih => simp [List.foldl_cons, ih, move]

section
variable {inb : List Byte} {csz N : Nat} {dst src : Coord → Nat}

theorem elem_le {csz q N : Nat} (h : q < N) : csz * q + csz ≤ csz * N :=
  calc csz * q + csz = csz * (q + 1) := by ring
    _ ≤ csz * N := Nat.mul_le_mul_left _ h

theorem move_same {o : List Byte} {p : Coord} (ho : o.length = csz * N) (hi : inb.length = csz * N)
    (hd : dst p < N) (hs : src p < N) :
    slice (move inb csz dst src o p) (csz * dst p) csz = slice inb (csz * src p) csz := by
  have hl := length_slice (b := inb) (off := csz * src p) (n := csz) (by rw [hi]; exact elem_le hs)
  have := slice_blit_same (d := o) (off := csz * dst p) (s := slice inb (csz * src p) csz) (by rw [hl, ho]; exact elem_le hd)
  rwa [hl] at this

theorem move_other {o : List Byte} {p : Coord} {q : Nat} (ho : o.length = csz * N) (hi : inb.length = csz * N)
    (hd : dst p < N) (hs : src p < N) (hq : q ≠ dst p) :
    slice (move inb csz dst src o p) (csz * q) csz = slice o (csz * q) csz := by
  have hl := length_slice (b := inb) (off := csz * src p) (n := csz) (by rw [hi]; exact elem_le hs)
  apply slice_blit_disj (by rw [hl, ho]; exact elem_le hd)
  rw [hl]
  exact (Nat.lt_or_gt_of_ne hq).imp elem_le elem_le

theorem foldl_move_other {cs : List Coord} {o : List Byte} {q : Nat} (ho : o.length = csz * N)
    (hi : inb.length = csz * N) (hr : ∀ p ∈ cs, dst p < N ∧ src p < N) (hq : ∀ p ∈ cs, q ≠ dst p) :
    slice (cs.foldl (move inb csz dst src) o) (csz * q) csz = slice o (csz * q) csz := by
  induction cs generalizing o with
  | nil => rfl
  | cons h t ih =>
    rw [List.foldl_cons, ih (by simp [move, ho]) (fun p hp => hr p (List.mem_cons_of_mem _ hp))
      (fun p hp => hq p (List.mem_cons_of_mem _ hp))]
    exact move_other ho hi (hr h List.mem_cons_self).1 (hr h List.mem_cons_self).2 (hq h List.mem_cons_self)

/-- after all moves of `cs`, the element at `dst p` is the source element `src p`, provided that moves with the
    same destination have the same source (no Nodup needed: the last writer wins and all writers agree) -/
theorem foldl_move_mem {cs : List Coord} {o : List Byte} {p : Coord} (ho : o.length = csz * N)
    (hi : inb.length = csz * N) (hr : ∀ p ∈ cs, dst p < N ∧ src p < N)
    (hinj : ∀ p ∈ cs, ∀ p' ∈ cs, dst p = dst p' → src p = src p') (hp : p ∈ cs) :
    slice (cs.foldl (move inb csz dst src) o) (csz * dst p) csz = slice inb (csz * src p) csz := by
  induction cs generalizing o p with
  | nil => cases hp
  | cons h t ih =>
    rw [List.foldl_cons]
    have hr' : ∀ p ∈ t, dst p < N ∧ src p < N := fun p hp => hr p (List.mem_cons_of_mem _ hp)
    have ho' : (move inb csz dst src o h).length = csz * N := by simp [move, ho]
    by_cases c : ∃ p' ∈ t, dst p' = dst p
    · obtain ⟨p', hp', e⟩ := c
      have := ih (o := move inb csz dst src o h) (p := p') ho' hr'
        (fun a ha b hb => hinj a (List.mem_cons_of_mem _ ha) b (List.mem_cons_of_mem _ hb)) hp'
      rw [e] at this
      rw [this, hinj p' (List.mem_cons_of_mem _ hp') p hp e]
    · have hne : ∀ p' ∈ t, dst p ≠ dst p' := fun p' hp' e => c ⟨p', hp', e.symm⟩
      rw [foldl_move_other ho' hi hr' hne]
      rcases List.mem_cons.mp hp with e | e
      · subst e
        exact move_same ho hi (hr p List.mem_cons_self).1 (hr p List.mem_cons_self).2
      · exact absurd rfl (hne p e)
end


theorem getD_map_range {f : Nat → Nat} {n k : Nat} (h : k < n) : ((List.range n).map f).getD k 0 = f k := by
  simp [List.getD_eq_getElem?_getD, h]

theorem set_map_range (f : Nat → Nat) (n m v : Nat) :
    ((List.range n).map f).set m v = (List.range n).map (fun k => if k = m then v else f k) := by
  apply List.ext_getElem
  · simp
  · intro i h1 h2
    simp [List.getElem_set]
    split <;> rename_i c
    · simp [c]
    · have : ¬ i = m := fun e => c e.symm
      simp [this]

theorem foldl_congr_mem {α β : Type} {f g : β → α → β} {l : List α} (h : ∀ b, ∀ x ∈ l, f b x = g b x) (init : β) :
    l.foldl f init = l.foldl g init := by
  induction l generalizing init with
  | nil => rfl
  | cons a t ih =>
    rw [List.foldl_cons, List.foldl_cons, h init a List.mem_cons_self]
    exact ih (fun b x hx => h b x (List.mem_cons_of_mem _ hx)) _

/-- pointer arrays as functions of the component index -/
def mkSt (ncomp : Nat) (fin fout : Nat → Nat) (o : List Byte) : St :=
  { inp := (List.range ncomp).map fin, outp := (List.range ncomp).map fout, out := o }

/-- `kBody` and `wrapBody` at once: `u` is what the pass does to the output buffer, given the two pointers of component `k` -/
def gBody (u : List Byte → Nat → Nat → List Byte) (ipa opa : List Nat) (s : St) (k : Nat) : St :=
  { out := u s.out (s.inp.getD k 0) (s.outp.getD k 0)
    outp := s.outp.set k (s.outp.getD k 0 + opa.getD k 0)
    inp := s.inp.set k (s.inp.getD k 0 + ipa.getD k 0) }

theorem ite_bump (f : Nat → Nat) (d m k : Nat) :
    (if k = m then f m + d else if k < m then f k + d else f k) = if k < m + 1 then f k + d else f k := by
  by_cases c : k = m
  · subst c; simp
  · by_cases c2 : k < m <;> simp [c, c2] <;> omega

theorem gLoop_aux (u : List Byte → Nat → Nat → List Byte) (ncomp ia oa : Nat) (fin fout : Nat → Nat) (o : List Byte) (m : Nat)
    (hm : m ≤ ncomp) :
    (List.range m).foldl (gBody u ((List.range ncomp).map fun _ => ia) ((List.range ncomp).map fun _ => oa)) (mkSt ncomp fin fout o)
      = mkSt ncomp (fun k => if k < m then fin k + ia else fin k) (fun k => if k < m then fout k + oa else fout k)
          ((List.range m).foldl (fun o k => u o (fin k) (fout k)) o) := by
  induction m with
  | zero => simp [mkSt]
  | succ m ih =>
    rw [List.range_succ, List.foldl_append, List.foldl_append, ih (by omega)]
    simp only [List.foldl_cons, List.foldl_nil, gBody, mkSt]
    have hm' : m < ncomp := by omega
    rw [getD_map_range hm', getD_map_range hm', getD_map_range hm', getD_map_range hm', set_map_range, set_map_range]
    simp only [Nat.lt_irrefl, if_false]
    congr 1 <;> exact List.map_congr_left fun k _ => ite_bump _ _ _ _

theorem gLoop_spec (u : List Byte → Nat → Nat → List Byte) (ncomp ia oa : Nat) (fin fout : Nat → Nat) (o : List Byte) :
    (List.range ncomp).foldl (gBody u ((List.range ncomp).map fun _ => ia) ((List.range ncomp).map fun _ => oa)) (mkSt ncomp fin fout o)
      = mkSt ncomp (fun k => fin k + ia) (fun k => fout k + oa) ((List.range ncomp).foldl (fun o k => u o (fin k) (fout k)) o) := by
  rw [gLoop_aux u ncomp ia oa fin fout o ncomp (Nat.le_refl _)]
  simp only [mkSt]
  congr 1 <;> apply List.map_congr_left <;> intro k hk <;> simp [List.mem_range.mp hk]

section
variable (inb : List Byte) (ncomp csz ia oa : Nat)

theorem kLoop_spec (fin fout : Nat → Nat) (o : List Byte) :
    (List.range ncomp).foldl (kBody inb csz ((List.range ncomp).map fun _ => ia) ((List.range ncomp).map fun _ => oa))
        (mkSt ncomp fin fout o)
      = mkSt ncomp (fun k => fin k + ia) (fun k => fout k + oa)
          ((List.range ncomp).foldl (fun o k => blit o (fout k) (slice inb (fin k) csz)) o) :=
  gLoop_spec (fun o i p => blit o p (slice inb i csz)) ncomp ia oa fin fout o

theorem wrapLoop_spec (la ola : Nat) (fin fout : Nat → Nat) (o : List Byte) :
    (List.range ncomp).foldl (wrapBody ((List.range ncomp).map fun _ => la) ((List.range ncomp).map fun _ => ola))
        (mkSt ncomp fin fout o)
      = mkSt ncomp (fun k => fin k + la) (fun k => fout k + ola) o :=
  (gLoop_spec (fun o _ _ => o) ncomp la ola fin fout o).trans (by congr 1; induction List.range ncomp <;> simp_all)

theorem foldl_out_length {β : Type} {f : St → β → St} (h : ∀ s b, (f s b).out.length = s.out.length) (l : List β) (s : St) :
    (l.foldl f s).out.length = s.out.length := by
  induction l generalizing s with
  | nil => rfl
  | cons b l ih => rw [List.foldl_cons, ih, h]

theorem jBody_out_length {inb : List Byte} {ncomp csz : Nat} {ipa opa : List Nat} (s : St) (j : Nat) :
    (jBody inb ncomp csz ipa opa s j).out.length = s.out.length :=
  foldl_out_length (fun _ _ => length_blit ..) _ s

theorem iBody_out_length {inb : List Byte} {W ncomp csz : Nat} {i o : Setup} {wrap : Bool} (s : St) (n : Nat) :
    (iBody inb W ncomp csz i o wrap s n).out.length = s.out.length := by
  unfold iBody
  cases wrap
  · exact foldl_out_length jBody_out_length _ s
  · exact (foldl_out_length (f := wrapBody _ _) (fun _ _ => rfl) _ _).trans (foldl_out_length jBody_out_length _ s)
theorem jLoop_spec (fin fout : Nat → Nat) (o : List Byte) (n : Nat) :
    (List.range n).foldl (jBody inb ncomp csz ((List.range ncomp).map fun _ => ia) ((List.range ncomp).map fun _ => oa))
        (mkSt ncomp fin fout o)
      = mkSt ncomp (fun k => fin k + n * ia) (fun k => fout k + n * oa)
          ((List.range n).foldl (fun o j => (List.range ncomp).foldl
              (fun o k => blit o (fout k + j * oa) (slice inb (fin k + j * ia) csz)) o) o) := by
  induction n with
  | zero => simp [mkSt]
  | succ n ih =>
    rw [List.range_succ, List.foldl_append, List.foldl_append, ih]
    simp only [List.foldl_cons, List.foldl_nil, jBody]
    rw [kLoop_spec]
    simp only [mkSt]
    congr 1 <;> apply List.map_congr_left <;> intro k _ <;> ring

theorem iLoop_spec (W la ola : Nat) (wrap : Bool) (fin fout : Nat → Nat) (o : List Byte) (n : Nat) :
    (List.range n).foldl (iBody inb W ncomp csz
          ⟨(List.range ncomp).map fin, (List.range ncomp).map fun _ => ia, (List.range ncomp).map fun _ => la⟩
          ⟨(List.range ncomp).map fout, (List.range ncomp).map fun _ => oa, (List.range ncomp).map fun _ => ola⟩ wrap)
        (mkSt ncomp fin fout o)
      = mkSt ncomp (fun k => fin k + n * (W * ia + if wrap then la else 0)) (fun k => fout k + n * (W * oa + if wrap then ola else 0))
          ((List.range n).foldl (fun o i => (List.range W).foldl (fun o j => (List.range ncomp).foldl
              (fun o k => blit o (fout k + i * (W * oa + if wrap then ola else 0) + j * oa)
                            (slice inb (fin k + i * (W * ia + if wrap then la else 0) + j * ia) csz)) o) o) o) := by
  induction n with
  | zero => simp [mkSt]
  | succ n ih =>
    rw [List.range_succ, List.foldl_append, List.foldl_append, ih]
    simp only [List.foldl_cons, List.foldl_nil, iBody]
    rw [jLoop_spec]
    cases wrap with
    | true =>
      simp only [if_true]
      rw [wrapLoop_spec]
      simp only [mkSt]
      congr 1 <;> apply List.map_congr_left <;> intro k _ <;> ring
    | false =>
      simp only [mkSt, Bool.false_eq_true, if_false]
      congr 1 <;> apply List.map_congr_left <;> intro k _ <;> ring
end


/-- all coordinates in the order the C loops visit them (`i` = row, `j` = column, `k` = component) -/
def allCoords (W H ncomp : Nat) : List Coord :=
  (List.range H).flatMap fun i => (List.range W).flatMap fun j => (List.range ncomp).map fun k => ⟨j, i, k⟩

theorem mem_allCoords {W H ncomp : Nat} {p : Coord} : p ∈ allCoords W H ncomp ↔ p.InRange W H ncomp := by
  simp only [allCoords, List.mem_flatMap, List.mem_map, List.mem_range, Coord.InRange]
  constructor
  · rintro ⟨i, hi, j, hj, k, hk, rfl⟩; exact ⟨hj, hi, hk⟩
  · rintro ⟨hx, hy, hc⟩; exact ⟨p.y, hy, p.x, hx, p.c, hc, rfl⟩

def baseOf (il : Il) (W H csz : Nat) (k : Nat) : Nat :=
  match il with
  | .pixel => k * csz
  | .line => k * W * csz
  | .component => k * H * W * csz

def paOf (il : Il) (ncomp csz : Nat) : Nat :=
  match il with
  | .pixel => csz * ncomp
  | .line => csz
  | .component => csz

def laOf (il : Il) (W ncomp csz : Nat) : Nat :=
  match il with
  | .pixel => 0
  | .line => (ncomp - 1) * W * csz
  | .component => 0

theorem setup_eq (il : Il) (W H ncomp csz : Nat) :
    setup il W H ncomp csz = ⟨(List.range ncomp).map (baseOf il W H csz), (List.range ncomp).map fun _ => paOf il ncomp csz,
      (List.range ncomp).map fun _ => laOf il W ncomp csz⟩ := by
  cases il <;> rfl

theorem ptr_closed (il : Il) (W H ncomp csz : Nat) (wrap : Bool) (hw : il = .line → wrap = true) {i j k : Nat} (hk : k < ncomp) :
    baseOf il W H csz k + i * (W * paOf il ncomp csz + if wrap then laOf il W ncomp csz else 0) + j * paOf il ncomp csz
      = csz * ilAddr il W H ncomp ⟨j, i, k⟩ := by
  cases il with
  | pixel => simp only [baseOf, paOf, laOf, ilAddr, ite_self]; ring
  | component => simp only [baseOf, paOf, laOf, ilAddr, ite_self]; ring
  | line =>
    rw [hw rfl]
    obtain ⟨n, rfl⟩ : ∃ n, ncomp = n + 1 := ⟨ncomp - 1, by omega⟩
    simp only [baseOf, paOf, laOf, ilAddr, if_true, Nat.add_sub_cancel]; ring

theorem convert_ne_eq {a b : Il} (hab : a ≠ b) (W H ncomp csz : Nat) (inb outb : List Byte) :
    convert a b W H ncomp csz inb outb =
      ((List.range H).foldl (iBody inb W ncomp csz
          ⟨(List.range ncomp).map (baseOf a W H csz), (List.range ncomp).map fun _ => paOf a ncomp csz,
            (List.range ncomp).map fun _ => laOf a W ncomp csz⟩
          ⟨(List.range ncomp).map (baseOf b W H csz), (List.range ncomp).map fun _ => paOf b ncomp csz,
            (List.range ncomp).map fun _ => laOf b W ncomp csz⟩
          (decide (a = .line) || decide (b = .line)))
        (mkSt ncomp (baseOf a W H csz) (baseOf b W H csz) outb)).out := by
  unfold convert
  rw [if_neg hab]
  simp only [setup_eq]
  rfl

/-- **refinement**: for `inil ≠ outil` the pointer loops perform exactly the element moves
    `ilAddr a p ↦ ilAddr b p` for all coordinates in row/column/component order -/
theorem convert_eq_moves {a b : Il} (hab : a ≠ b) (W H ncomp csz : Nat) (inb outb : List Byte) :
    convert a b W H ncomp csz inb outb
      = (allCoords W H ncomp).foldl (move inb csz (ilAddr b W H ncomp) (ilAddr a W H ncomp)) outb := by
  rw [convert_ne_eq hab, iLoop_spec]
  simp only [mkSt, allCoords, List.foldl_flatMap, List.foldl_map]
  apply foldl_congr_mem; intro o i _
  apply foldl_congr_mem; intro o j _
  apply foldl_congr_mem; intro o k hk
  rw [List.mem_range] at hk
  rw [ptr_closed a W H ncomp csz _ (by intro h; simp [h]) hk, ptr_closed b W H ncomp csz _ (by intro h; simp [h]) hk]
  rfl


section
variable {W H ncomp : Nat}

theorem ilAddr_lt (il : Il) {p : Coord} (h : p.InRange W H ncomp) : ilAddr il W H ncomp p < W * H * ncomp := by
  obtain ⟨hx, hy, hc⟩ := h
  cases il with
  | pixel => calc _ < H * W * ncomp := mix_lt hy hx hc
      _ = _ := by ring
  | line => calc _ < H * ncomp * W := mix_lt hy hc hx
      _ = _ := by ring
  | component => calc _ < ncomp * H * W := mix_lt hc hy hx
      _ = _ := by ring

theorem ptr_bound (il : Il) (csz : Nat) (wrap : Bool) (hw : il = .line → wrap = true) {i j k : Nat} (hi : i < H) (hj : j < W)
    (hk : k < ncomp) :
    baseOf il W H csz k + i * (W * paOf il ncomp csz + if wrap then laOf il W ncomp csz else 0) + j * paOf il ncomp csz + csz
      ≤ W * H * ncomp * csz := by
  rw [ptr_closed il W H ncomp csz wrap hw hk, Nat.mul_comm (W * H * ncomp)]
  exact Nat.mul_le_mul_left csz (ilAddr_lt il (p := ⟨j, i, k⟩) ⟨hj, hi, hk⟩)

theorem ilAddr_inj (il : Il) {p q : Coord} (hp : p.InRange W H ncomp) (hq : q.InRange W H ncomp)
    (h : ilAddr il W H ncomp p = ilAddr il W H ncomp q) : p = q := by
  obtain ⟨hx, hy, hc⟩ := hp
  obtain ⟨hx', hy', hc'⟩ := hq
  cases p; cases q
  cases il with
  | pixel => obtain ⟨e1, e2, e3⟩ := mix_inj hx hx' hc hc' h; simp_all
  | line => obtain ⟨e1, e2, e3⟩ := mix_inj hc hc' hx hx' h; simp_all
  | component => obtain ⟨e1, e2, e3⟩ := mix_inj hy hy' hx hx' h; simp_all

theorem ilAddr_coordOf (il : Il) (a : Nat) : ilAddr il W H ncomp (coordOf il W H ncomp a) = a := by
  cases il <;> exact mix_dec _ _ _

theorem coordOf_inRange (il : Il) {a : Nat} (h : a < W * H * ncomp) : (coordOf il W H ncomp a).InRange W H ncomp := by
  cases il with
  | pixel =>
    have : a < H * W * ncomp := by calc a < _ := h
      _ = _ := by ring
    obtain ⟨h1, h2, h3⟩ := mix_dec_lt this; exact ⟨h2, h1, h3⟩
  | line =>
    have : a < H * ncomp * W := by calc a < _ := h
      _ = _ := by ring
    obtain ⟨h1, h2, h3⟩ := mix_dec_lt this; exact ⟨h3, h1, h2⟩
  | component =>
    have : a < ncomp * H * W := by calc a < _ := h
      _ = _ := by ring
    obtain ⟨h1, h2, h3⟩ := mix_dec_lt this; exact ⟨h3, h2, h1⟩
end

theorem blit_zero_full {o s : List Byte} (h : s.length = o.length) : blit o 0 s = s := by
  simp [blit, h]
  exact List.take_of_length_le (by omega)

@[simp] theorem length_convert (a b : Il) (W H ncomp csz : Nat) (inb outb : List Byte) :
    (convert a b W H ncomp csz inb outb).length = outb.length := by
  by_cases hab : a = b
  · simp [convert, hab]
  · rw [convert_eq_moves hab, length_foldl_move]

theorem convert_slice (a b : Il) {W H ncomp csz : Nat} {inb outb : List Byte}
    (hi : inb.length = csz * (W * H * ncomp)) (ho : outb.length = csz * (W * H * ncomp))
    {p : Coord} (hp : p.InRange W H ncomp) :
    slice (convert a b W H ncomp csz inb outb) (csz * ilAddr b W H ncomp p) csz
      = slice inb (csz * ilAddr a W H ncomp p) csz := by
  by_cases hab : a = b
  · subst hab
    have : inb.take (W * H * (csz * ncomp)) = inb := List.take_of_length_le (by rw [hi]; apply Nat.le_of_eq; ring)
    simp only [convert, if_true, this]
    rw [blit_zero_full (by rw [hi, ho])]
  · rw [convert_eq_moves hab]
    apply foldl_move_mem ho hi
    · intro q hq; rw [mem_allCoords] at hq; exact ⟨ilAddr_lt b hq, ilAddr_lt a hq⟩
    · intro q hq q' hq' e; rw [mem_allCoords] at hq hq'; rw [ilAddr_inj b hq hq' e]
    · exact mem_allCoords.mpr hp


/- the interlace codes as the C text compares them -/
theorem code_cases (a : Il) : (a = .pixel ∧ ((a.code : Nat) : Int) = 0) ∨ (a = .line ∧ ((a.code : Nat) : Int) = 1) ∨ (a = .component ∧ ((a.code : Nat) : Int) = 2) := by
  cases a <;> simp [Il.code, H4.Gen.Hdf.MFGR_INTERLACE_PIXEL, H4.Gen.Hdf.MFGR_INTERLACE_LINE, H4.Gen.Hdf.MFGR_INTERLACE_COMPONENT]

theorem code_ne {a b : Il} (h : a ≠ b) : ((a.code : Nat) : Int) ≠ ((b.code : Nat) : Int) := by
  rcases code_cases a with ⟨rfl, ha⟩ | ⟨rfl, ha⟩ | ⟨rfl, ha⟩ <;> rcases code_cases b with ⟨rfl, hb⟩ | ⟨rfl, hb⟩ | ⟨rfl, hb⟩ <;> simp_all

theorem code_line (a : Il) : ((a.code : Nat) : Int) = 1 ↔ a = .line := by
  rcases code_cases a with ⟨rfl, h⟩ | ⟨rfl, h⟩ | ⟨rfl, h⟩ <;> simp [h]

end H4.Interlace
