import H4.Lemmas.VarShape
import H4.Lemmas.C2LLoop
import H4.Gen.Fn.Putget2
import H4.Gen.Fn.Var
/-! C03 (and the overflow side of C20), function-level Tie A: loop lemmas for `NC_varoffset`, `NCcoordck` (mfhdf/src/putget.c) and
    `NC_var_shape` (mfhdf/src/var.c) as translated by gen/c2lean.py (`H4.Gen.Fn.Putget2`, `H4.Gen.Fn.Var`); the model's side is `H4.Lemmas.VarShape`. -/
namespace H4.Lemmas.C03Fn2
open H4.Slab H4.VarShape H4.C2L H4.Gen.Fn.Putget2 H4.Gen.Fn.Var

/- the translated code reads cells with `getD`: keep `simp` from turning them into `[i]?.getD` -/
attribute [-simp] List.getD_eq_getElem?_getD

/-- an inner `% 2^64` under `+` and `*` may be dropped; the two below are this in the other shapes the translated text has
    (the return expression for an HDF file, one step of `offset += *up * *ip`) -/
theorem ret_rec_nc (b r c x : Int) :
    (b + r * (c % 18446744073709551616) + x) % 18446744073709551616 = (b + r * c + x) % 18446744073709551616 := by
  rw [Int.add_emod, Int.add_emod b, Int.mul_emod r, Int.emod_emod c, ← Int.mul_emod, ← Int.add_emod b, ← Int.add_emod]

theorem ret_rec_hdf (d c x : Int) :
    (d * (c % 18446744073709551616) + x) % 18446744073709551616 = (d * c + x) % 18446744073709551616 := by
  simpa using ret_rec_nc 0 d c x

theorem acc_mod (a d c : Int) :
    (a + (d * (c % 18446744073709551616)) % 18446744073709551616) % 18446744073709551616 = (a + d * c) % 18446744073709551616 := by
  rw [Int.add_emod_emod]; simpa using ret_rec_nc a d c 0

theorem acc_nat (x p : Nat) : (((x % W : Nat) : Int) + ((p : Nat) : Int)) % 18446744073709551616 = ((p + x) % W : Nat) := by
  simp only [W]; omega

theorem vo_chk_true (s : NC_varoffset.St) (c : Prop) [Decidable c] (h : c) : NC_varoffset.chk s c = s := by
  cases s; simp [NC_varoffset.chk, h]

theorem vo_body (fuel : Nat) (s : NC_varoffset.St) (D C : List Nat) (j : Nat)
    (hD : s.vp_dsizes = ints D) (hC : s.coords = ints C) (hj1 : j < D.length) (hj2 : j < C.length)
    (hip : s.ip = j) (hup : s.up = j) :
    NC_varoffset.loop0.body fuel s =
      { s with offset := (s.offset + ((D.getD j 0 * C.getD j 0 : Nat) : Int)) % 18446744073709551616, ip := (j : Int) - 1, up := (j : Int) - 1 } := by
  have c1 : 0 ≤ s.up ∧ s.up < s.vp_dsizes.length := by rw [hup, hD]; simp; omega
  have c2 : 0 ≤ s.ip ∧ s.ip < s.coords.length := by rw [hip, hC]; simp; omega
  have gD : s.vp_dsizes.getD (Int.toNat s.up) 0 = ((D.getD j 0 : Nat) : Int) := by rw [hup, hD]; exact ints_getD_nat D j
  have gC : s.coords.getD (Int.toNat s.ip) 0 = ((C.getD j 0 : Nat) : Int) := by rw [hip, hC]; exact ints_getD_nat C j
  unfold NC_varoffset.loop0.body
  simp only [vo_chk_true s _ c1, vo_chk_true s _ c2, gD, gC, acc_mod, 
    NC_varoffset.St.set_up, Int.natCast_mul]
  rw [hip, hup]

/-- The loop as `NC_varoffset` enters it: cursors at the last index, `offset = 0`.  Invariant: `offset` is the dot product of the suffixes
    behind the cursor. -/
theorem vo_loop (D C : List Nat) (b n fuel : Nat) (hb : b ≤ n) (hDn : D.length = n) (hCn : C.length = n) (hf : n ≤ fuel)
    (s : NC_varoffset.St) (hD : s.vp_dsizes = ints D) (hC : s.coords = ints C) (hbd : s.boundary = b) (hdone : s.done = false)
    (hip : s.ip = (n : Int) - 1) (hup : s.up = (n : Int) - 1) (hoff : s.offset = 0) :
    NC_varoffset.loop0 fuel s =
      { s with offset := ((dot (D.drop b) (C.drop b) % W : Nat) : Int), ip := (b : Int) - 1, up := (b : Int) - 1 } := by
  have e := Nat.add_sub_cancel' hb
  refine (IsLoop.of_eqs (L := NC_varoffset.loop0) (fun _ => rfl) (fun _ _ => rfl)).spec id
    (fun k s => s.vp_dsizes = ints D ∧ s.coords = ints C ∧ s.boundary = b ∧ s.done = false ∧ b + k ≤ n ∧
      s.ip = ((b + k : Nat) : Int) - 1 ∧ s.up = ((b + k : Nat) : Int) - 1 ∧
      s.offset = ((dot (D.drop (b + k)) (C.drop (b + k)) % W : Nat) : Int))
    (fun _ s r => r = { s with offset := ((dot (D.drop b) (C.drop b) % W : Nat) : Int), ip := (b : Int) - 1, up := (b : Int) - 1 })
    ?_ fuel (n - b) s (Nat.le_trans (Nat.sub_le _ _) hf)
    ⟨hD, hC, hbd, hdone, Nat.le_of_eq e, by rw [e]; exact hip, by rw [e]; exact hup,
      by rw [e, List.drop_of_length_le (Nat.le_of_eq hDn), hoff]; rfl⟩
  rintro (_ | k) s ⟨hD, hC, hbd, hdone, h1, hip, hup, hoff⟩
  · refine Or.inl ⟨fun h => by omega, ?_⟩
    cases s; cases hip; cases hup; cases hoff; rfl
  · have hip' : s.ip = ((b + k : Nat) : Int) := by rw [hip]; omega
    have hup' : s.up = ((b + k : Nat) : Int) := by rw [hup]; omega
    refine Or.inr ⟨⟨by rw [hip', hbd]; omega, by simp [hdone]⟩, fun f _ => ⟨k, Nat.lt_succ_self k, ?_⟩⟩
    rw [vo_body f s D C (b + k) hD hC (hDn ▸ h1) (hCn ▸ h1) hip' hup']
    refine ⟨⟨hD, hC, hbd, hdone, Nat.le_of_lt h1, rfl, rfl, ?_⟩, fun r hr => hr⟩
    rw [← Nat.add_assoc] at hoff
    show (s.offset + _) % 18446744073709551616 = _
    rw [hoff, dot_drop D C (b + k) (hDn ▸ h1) (hCn ▸ h1)]
    exact acc_nat _ _

theorem W_cast : ((W : Nat) : Int) = 18446744073709551616 := by simp [W]

theorem vo_entry (S D C : List Nat) (ft begin recsize fuel : Nat) (hpos : 0 < S.length) (hD : D.length = S.length) (hC : C.length = S.length)
    (hf : S.length ≤ fuel) (hft : ft = 0 ∨ ft = 1) :
    let s := NC_varoffset fuel ft recsize S.length begin false (ints S) (ints D) (ints C)
    s.ub = false ∧ s.oof = false ∧ s.done = true ∧ s.ret = ((voRaw ft begin recsize (S.getD 0 0 == 0) D C % W : Nat) : Int) := by
  intro s
  have g0 := ints_getD_nat S 0
  have gD0 := ints_getD_nat D 0
  have gC0 := ints_getD_nat C 0
  have hne : S ≠ [] := by intro h; simp [h] at hpos
  have hDpos : 0 < D.length := by omega
  have hCpos : 0 < C.length := by omega
  have hdc : dot D C = D.getD 0 0 * C.getD 0 0 + dot (D.drop 1) (C.drop 1) := dot_drop D C 0 hDpos hCpos
  have kl := fun b hb => vo_loop D C b S.length fuel hb hD hC hf
  by_cases h0 : S.getD 0 0 = 0
  · rcases hft with rfl | rfl
    · simp [s, NC_varoffset, NC_varoffset.chk, g0, gC0, h0, hne, hpos, hC, kl 1 hpos,
        voRaw, ret_rec_nc, W_cast]
    · simp [s, NC_varoffset, NC_varoffset.chk, g0, gD0, gC0, h0, hne, hpos, hD, hC, kl 1 hpos,
        voRaw, ret_rec_hdf, W_cast, hdc]
  · rcases hft with rfl | rfl <;>
      simp [s, NC_varoffset, NC_varoffset.chk, g0, h0, hne, hpos, kl 0 (Nat.zero_le _), voRaw, W_cast]

/-- a scalar variable (`assoc->count = 0`): `vp->begin` -/
theorem vo_scalar (S D C : List Int) (ft recsize : Int) (begin fuel : Nat) (sn : Bool) :
    (NC_varoffset fuel ft recsize 0 begin sn S D C).ub = false ∧ (NC_varoffset fuel ft recsize 0 begin sn S D C).oof = false ∧
    (NC_varoffset fuel ft recsize 0 begin sn S D C).ret = ((begin % W : Nat) : Int) := by
  simp [NC_varoffset, W, Int.natCast_emod]

theorem vs_chk_true (s : NC_var_shape.St) (c : Prop) [Decidable c] (h : c) : NC_var_shape.chk s c = s := by
  cases s; simp [NC_var_shape.chk, h]

/-- dimension sizes are non-negative `int32` values -/
def Dims31 (l : List Nat) : Prop := ∀ x ∈ l, x < 2147483648
instance (l : List Nat) : Decidable (Dims31 l) := by unfold Dims31; exact inferInstance

theorem Dims31.getD {l : List Nat} (h : Dims31 l) (i : Nat) : l.getD i 0 < 2147483648 :=
  getD_of_forall_mem h (by decide) i

/-- dimension ids are `int` values -/
def Ids32 (l : List Int) : Prop := ∀ x ∈ l, -2147483648 ≤ x ∧ x < 2147483648
instance (l : List Int) : Decidable (Ids32 l) := by unfold Ids32; exact inferInstance

theorem Ids32.getD {l : List Int} (h : Ids32 l) (i : Nat) : -2147483648 ≤ l.getD i 0 ∧ l.getD i 0 < 2147483648 :=
  getD_of_forall_mem h (by decide) i

/-- the invariant part of the state of `NC_var_shape` that the first loop reads and never changes -/
structure VsFix (s : NC_var_shape.St) (ids : List Int) (dimsizes : List Nat) : Prop where
  hids : s.var_assoc_values = ids
  hcnt : s.var_assoc_count = ids.length
  hdn : s.dims_null = false
  hdc : s.dims_count = dimsizes.length
  hdv : s.dims_values.length = dimsizes.length
  hds : s.dims_values_size = ints dimsizes
  hsh : s.shape = 0
  hdone : s.done = false
  hgto : s.gto = false

theorem VsFix.pass {s : NC_var_shape.St} {ids : List Int} {dimsizes : List Nat} (fx : VsFix s ids dimsizes) (dp : Int) (blk : List Int) (op ip ii : Int) :
    VsFix { s with dp := dp, shape_blk := blk, op := op, ip := ip, ii := ii } ids dimsizes :=
  ⟨fx.hids, fx.hcnt, fx.hdn, fx.hdc, fx.hdv, fx.hds, fx.hsh, fx.hdone, fx.hgto⟩

theorem vs_body0_in (fuel : Nat) (s : NC_var_shape.St) (ids : List Int) (dimsizes : List Nat) (k : Nat) (fx : VsFix s ids dimsizes)
    (hI : Ids32 ids) (hS : Dims31 dimsizes) (hn : ids.length < 2147483648) (hk : k < ids.length) (hip : s.ip = k) (hop : s.op = k) (hii : s.ii = (ids.length : Int) - k)
    (hlen : s.shape_blk.length = ids.length)
    (h1 : 0 ≤ ids.getD k 0) (h2 : ids.getD k 0 < dimsizes.length) :
    NC_var_shape.loop0.body fuel s =
      if dimsizes.getD (ids.getD k 0).toNat 0 = 0 ∧ k ≠ 0 then
        { s with dp := ids.getD k 0, shape_blk := s.shape_blk.set k 0, ret := -1, done := true }
      else
        { s with dp := ids.getD k 0, shape_blk := s.shape_blk.set k ((dimsizes.getD (ids.getD k 0).toNat 0 : Nat) : Int),
                 op := (k : Int) + 1, ip := (k : Int) + 1, ii := (ids.length : Int) - k - 1 } := by
  have m3 : s.ii % 4294967296 = s.ii := by rw [hii]; exact Int.emod_eq_of_lt (by omega) (by omega)
  have hne : s.ii = s.var_assoc_count ↔ k = 0 := by rw [hii, fx.hcnt]; omega
  have hr := hI.getD k
  have hsz := hS.getD (ids.getD k 0).toNat
  have cI : 0 ≤ s.ip ∧ s.ip < s.var_assoc_values.length := by rw [hip, fx.hids]; omega
  have gI : s.var_assoc_values.getD (Int.toNat s.ip) 0 = ids.getD k 0 := by rw [hip, fx.hids]; simp
  have gS : s.dims_values_size.getD (Int.toNat (ids.getD k 0)) 0 = ((dimsizes.getD (ids.getD k 0).toNat 0 : Nat) : Int) := by
    rw [fx.hds]; simp [List.getD_eq_getElem?_getD]
  have m1 : (ids.getD k 0) % 4294967296 = ids.getD k 0 := Int.emod_eq_of_lt h1 (by omega)
  have m2 : ((dimsizes.getD (ids.getD k 0).toNat 0 : Nat) : Int) % 18446744073709551616 = ((dimsizes.getD (ids.getD k 0).toNat 0 : Nat) : Int) :=
    Int.emod_eq_of_lt (Int.natCast_nonneg _) (by omega)
  have n1 : ¬ (ids.getD k 0 < 0) := by omega
  have n2 : ¬ (ids.getD k 0 ≥ (dimsizes.length : Int)) := by omega
  have cO : 0 ≤ s.op ∧ s.op < s.shape_blk.length := by rw [hop, hlen]; omega
  have cD : 0 ≤ ids.getD k 0 ∧ ids.getD k 0 < s.dims_values.length := by rw [fx.hdv]; omega
  have cD2 : 0 ≤ ids.getD k 0 ∧ ids.getD k 0 < s.dims_values_size.length := by rw [fx.hds, ints_length]; omega
  have hopn : Int.toNat s.op = k := by rw [hop]; simp
  have gset (v : Int) : (s.shape_blk.set k v).getD k 0 = v := getD_set_self _ _ _ _ (by omega)
  by_cases h3 : dimsizes.getD (ids.getD k 0).toNat 0 = 0 ∧ k ≠ 0
  case' pos => rw [if_pos h3]
  case' neg => rw [if_neg h3]
  all_goals
    unfold NC_var_shape.loop0.body
    simp only [vs_chk_true s _ cI, gI, fx.hdn, fx.hdc, m1, n1, n2, ↓reduceIte, false_or, or_self,
      fx.hdone, fx.hgto, Bool.false_eq_true, NC_var_shape.St.set_dp, Int.zero_add]
  case pos => simp [NC_var_shape.chk, cD, cD2, cO, gS, hopn, gset, m3, hne, h3.1, h3.2]
  case neg =>
    have hcond : ¬ (dimsizes.getD (ids.getD k 0).toNat 0 = 0 ∧ ¬ k = 0) := h3
    simp [NC_var_shape.chk, cD, cD2, cO, gS, m2, hopn, gset, m3, hne, hcond]
    rw [hop, hip, hii]
    exact ⟨rfl, rfl, rfl⟩

theorem vs_body0_badid (fuel : Nat) (s : NC_var_shape.St) (ids : List Int) (dimsizes : List Nat) (k : Nat) (fx : VsFix s ids dimsizes)
    (hI : Ids32 ids) (hdl : dimsizes.length < 4294967296) (hk : k < ids.length) (hip : s.ip = k)
    (hbad : ids.getD k 0 < 0 ∨ (dimsizes.length : Int) ≤ ids.getD k 0) :
    NC_var_shape.loop0.body fuel s = { s with ret := -1, done := true } := by
  have hr := hI.getD k
  have cI : 0 ≤ s.ip ∧ s.ip < s.var_assoc_values.length := by rw [hip, fx.hids]; omega
  have gI : s.var_assoc_values.getD (Int.toNat s.ip) 0 = ids.getD k 0 := by rw [hip, fx.hids]; simp
  have hc : (ids.getD k 0 < 0) ∨ ((ids.getD k 0) % 4294967296 ≥ (dimsizes.length : Int)) := by
    rcases hbad with h | h
    · exact Or.inl h
    · right; omega
  unfold NC_var_shape.loop0.body
  simp only [vs_chk_true s _ cI, vs_chk_true s _ (Or.inr cI : _ ∨ _), gI, fx.hdn, fx.hdc, hc, ↓reduceIte,
    NC_var_shape.St.set_done, true_or]

theorem vs_loop0_stop (fuel : Nat) (s : NC_var_shape.St) (h : s.ii ≤ 0 ∨ s.done = true ∨ s.gto = true) : NC_var_shape.loop0 fuel s = s := by
  have : ¬ ((s.ii > 0) ∧ ¬(s.done = true ∨ s.gto = true)) := by
    rcases h with h | h | h
    · intro ⟨h1, _⟩; omega
    · simp [h]
    · simp [h]
  cases fuel <;> simp only [NC_var_shape.loop0, this, if_false]

/-- what the first loop leaves when a dimension id is refused -/
@[reducible] def Vs0Fail (s r : NC_var_shape.St) : Prop :=
  r.done = true ∧ r.ret = -1 ∧ r.ub = s.ub ∧ r.oof = s.oof ∧ r.var_len = s.var_len ∧ r.var_shape_seat = s.var_shape_seat ∧
    r.var_dsizes_seat = s.var_dsizes_seat

/-- The first loop with `m` passes to go: `acc` = the extents stored so far (`shape_blk` = `acc`, then `m` cells as `malloc` left them), the cursors
    `ip`, `op` stand behind them, and the model runs on the ids not yet read (`decide (acc.length = 0)`: this is still dimension 0, where alone the
    unlimited size is allowed).  A refused id ends the loop with `done` set: `Vs0Fail`. -/
theorem vs_loop0 (ids : List Int) (dimsizes : List Nat) (hI : Ids32 ids) (hS : Dims31 dimsizes) (hn : ids.length < 2147483648)
    (hdl : dimsizes.length < 4294967296) :
    ∀ (m fuel : Nat) (s : NC_var_shape.St) (acc : List Nat), m ≤ fuel → acc.length + m = ids.length → VsFix s ids dimsizes →
      s.ip = acc.length → s.op = acc.length → s.ii = m → s.shape_blk = ints acc ++ List.replicate m 170 →
      match shapeOf dimsizes (decide (acc.length = 0)) (ids.drop acc.length) with
      | some rest => NC_var_shape.loop0 fuel s =
          { s with dp := (ids.drop acc.length).getLastD s.dp, shape_blk := ints (acc ++ rest), op := ids.length, ip := ids.length, ii := 0 }
      | none => Vs0Fail s (NC_var_shape.loop0 fuel s) := by
  intro m
  induction m with
  | zero =>
    intro fuel s acc _ hacc fx hip hop hii hblk
    have hd : ids.drop acc.length = [] := List.drop_of_length_le (by omega)
    rw [hd]
    simp only [shapeOf]
    rw [vs_loop0_stop fuel s (Or.inl (by omega))]
    have : acc.length = ids.length := by omega
    cases s; cases hip; cases hop; cases hii; cases hblk; simp [this]
  | succ j ih =>
    intro fuel s acc hf hacc fx hip hop hii hblk
    have hk : acc.length < ids.length := by omega
    have hd : ids.drop acc.length = ids.getD acc.length 0 :: ids.drop (acc.length + 1) := by
      rw [List.drop_eq_getElem_cons hk]; simp [hk, List.getD_eq_getElem?_getD]
    have hlen : s.shape_blk.length = ids.length := by rw [hblk]; simp; omega
    have hii' : s.ii = (ids.length : Int) - acc.length := by rw [hii]; omega
    cases fuel with
    | zero => omega
    | succ fuel =>
      have hgo : (s.ii > 0) ∧ ¬(s.done = true ∨ s.gto = true) := ⟨by rw [hii]; omega, by simp [fx.hdone, fx.hgto]⟩
      have hstep : NC_var_shape.loop0 (fuel + 1) s = NC_var_shape.loop0 fuel (NC_var_shape.loop0.body (fuel + 1) s) := by
        rw [NC_var_shape.loop0, if_pos hgo]
      rw [hd, hstep]
      simp only [shapeOf]
      by_cases hbad : ids.getD acc.length 0 < 0 ∨ (dimsizes.length : Int) ≤ ids.getD acc.length 0
      · rw [if_pos hbad, vs_body0_badid (fuel + 1) s ids dimsizes acc.length fx hI hdl hk hip hbad, vs_loop0_stop _ _ (Or.inr (Or.inl rfl))]
        exact ⟨rfl, rfl, rfl, rfl, rfl, rfl, rfl⟩
      · rw [if_neg hbad]
        have h1 : 0 ≤ ids.getD acc.length 0 := by omega
        have h2 : ids.getD acc.length 0 < dimsizes.length := by omega
        by_cases hun : dimsizes.getD (ids.getD acc.length 0).toNat 0 = H4.Gen.Ncvar.NC_UNLIMITED ∧ decide (acc.length = 0) = false
        · rw [if_pos hun, vs_body0_in (fuel + 1) s ids dimsizes acc.length fx hI hS hn hk hip hop hii' hlen h1 h2,
            if_pos ⟨hun.1, by simpa using hun.2⟩, vs_loop0_stop _ _ (Or.inr (Or.inl rfl))]
          exact ⟨rfl, rfl, rfl, rfl, rfl, rfl, rfl⟩
        · rw [if_neg hun, vs_body0_in (fuel + 1) s ids dimsizes acc.length fx hI hS hn hk hip hop hii' hlen h1 h2,
            if_neg (by intro ⟨a, b⟩; exact hun ⟨a, by simpa using b⟩)]
          have key := ih fuel
            { s with dp := ids.getD acc.length 0,
                     shape_blk := s.shape_blk.set acc.length ((dimsizes.getD (ids.getD acc.length 0).toNat 0 : Nat) : Int),
                     op := (acc.length : Int) + 1, ip := (acc.length : Int) + 1, ii := (ids.length : Int) - acc.length - 1 }
            (acc ++ [dimsizes.getD (ids.getD acc.length 0).toNat 0]) (by omega) (by simp; omega)
            (fx.pass _ _ _ _ _)
            (by simp) (by simp) (by show (ids.length : Int) - acc.length - 1 = j; omega)
            (by show s.shape_blk.set acc.length _ = _; rw [hblk]; exact set_append_replicate 170 acc j _)
          have hl1 : (acc ++ [dimsizes.getD (ids.getD acc.length 0).toNat 0]).length = acc.length + 1 := by simp
          rw [hl1] at key
          have hf0 : decide (acc.length + 1 = 0) = false := by simp
          rw [hf0] at key
          cases hsh : shapeOf dimsizes false (ids.drop (acc.length + 1)) with
          | none =>
            rw [hsh] at key
            simp only [Option.map_none]
            exact key
          | some rest =>
            rw [hsh] at key
            simp only [Option.map_some]
            rw [key]
            have hg : (ids.getD acc.length 0 :: ids.drop (acc.length + 1)).getLastD s.dp = (ids.drop (acc.length + 1)).getLastD (ids.getD acc.length 0) := by
              cases ids.drop (acc.length + 1) <;> simp [List.getLastD]
            simp only [hg, List.append_assoc, List.singleton_append]

theorem vs_body1 (fuel : Nat) (s : NC_var_shape.St) (S : List Nat) (j : Nat) (L : Nat)
    (hsh : s.shape = 0) (hS : s.shape_blk = ints S) (hj : j < S.length) (hjd : j < s.dsizes_blk.length)
    (hshp : s.shp = j) (hdsp : s.dsp = j) (hL : s.var_len = (L : Int)) :
    NC_var_shape.loop1.body fuel s =
      { s with dsizes_blk := s.dsizes_blk.set j (L : Int),
               var_len := if j ≠ 0 ∨ S.getD j 0 ≠ 0 then (((L * S.getD j 0) % W : Nat) : Int) else (L : Int),
               shp := (j : Int) - 1, dsp := (j : Int) - 1 } := by
  have c1 : 0 ≤ s.dsp ∧ s.dsp < s.dsizes_blk.length := by rw [hdsp]; omega
  have hdn : Int.toNat s.dsp = j := by rw [hdsp]; simp
  have c2 : 0 ≤ s.shp ∧ s.shp < s.shape_blk.length := by rw [hshp, hS, ints_length]; omega
  have gS : s.shape_blk.getD (Int.toNat s.shp) 0 = ((S.getD j 0 : Nat) : Int) := by rw [hshp, hS]; exact ints_getD_nat S j
  have hne : (s.shp ≠ s.shape) ↔ j ≠ 0 := by rw [hshp, hsh]; omega
  unfold NC_var_shape.loop1.body
  by_cases hc : j ≠ 0 ∨ S.getD j 0 ≠ 0
  · have hc' : ¬ s.shp = s.shape ∨ ¬ S.getD j 0 = 0 := by
      rcases hc with h | h
      · exact Or.inl (hne.mpr h)
      · exact Or.inr h
    simp [NC_var_shape.chk, c1, c2, hdn, gS, hc', hc, hL]
    refine ⟨?_, ?_, ?_⟩ <;> first | exact hshp | exact hdsp | simp [W]
  · have hc' : ¬ (¬ s.shp = s.shape ∨ ¬ S.getD j 0 = 0) := by
      intro h; apply hc
      rcases h with h | h
      · exact Or.inl (hne.mp h)
      · exact Or.inr h
    simp [NC_var_shape.chk, c1, c2, hdn, gS, hc', hc, hL]
    refine ⟨?_, ?_⟩ <;> first | exact hshp | exact hdsp

/-- the first loop on the state in which `NC_var_shape` enters it (a conditional rewrite rule: `simp` discharges the hypotheses on the
    concrete state) -/
theorem vs_loop0_entry (ids : List Int) (dimsizes : List Nat) (hI : Ids32 ids) (hS : Dims31 dimsizes) (hn : ids.length < 2147483648)
    (hdl : dimsizes.length < 4294967296) (fuel : Nat) (hf : ids.length ≤ fuel) (s : NC_var_shape.St)
    (h1 : s.var_assoc_values = ids) (h2 : s.var_assoc_count = ids.length) (h3 : s.dims_null = false) (h4 : s.dims_count = dimsizes.length)
    (h5 : s.dims_values.length = dimsizes.length) (h6 : s.dims_values_size = ints dimsizes) (h7 : s.shape = 0) (h8 : s.done = false)
    (h9 : s.gto = false) (h10 : s.ip = 0) (h11 : s.op = 0) (h12 : s.ii = ids.length) (h13 : s.shape_blk = List.replicate ids.length 170) :
    match shapeOf dimsizes true ids with
    | some S => NC_var_shape.loop0 fuel s = { s with dp := ids.getLastD s.dp, shape_blk := ints S, op := ids.length, ip := ids.length, ii := 0 }
    | none => Vs0Fail s (NC_var_shape.loop0 fuel s) := by
  simpa using vs_loop0 ids dimsizes hI hS hn hdl ids.length fuel s [] hf (by simp) ⟨h1, h2, h3, h4, h5, h6, h7, h8, h9⟩ (by simpa using h10)
    (by simpa using h11) h12 (by simpa using h13)

/-- The second loop on the state in which `NC_var_shape` enters it (the last `dsizes` cell and `len` set from the last extent).  Invariant with
    the cursor at `k - 1`: `dsizes_blk` holds the stored `dsizes` from `k` on, `var_len` is `lenAt k`. -/
theorem vs_loop1 (x : Nat) (S : List Nat) (n : Nat) (hx : x < W) (hS : S.length = n) (hn1 : 1 ≤ n) (hlast : 2 ≤ n → S.getD (n - 1) 0 ≠ 0)
    (fuel : Nat) (hf : n ≤ fuel) (s : NC_var_shape.St)
    (h1 : s.shp = (n : Int) - 1 - 1) (h2 : s.dsp = (n : Int) - 1 - 1) (h3 : s.shape = 0) (h4 : s.shape_blk = ints S)
    (h5 : s.dsizes_blk = (List.replicate n (170 : Int)).set (n - 1) (x : Int))
    (h6 : s.var_len = (if (ints S).getD (n - 1) 0 = 0 then 1 else (ints S).getD (n - 1) 0) * (x : Int) % 18446744073709551616)
    (h7 : s.done = false) (h8 : s.gto = false) :
    NC_var_shape.loop1 fuel s =
      { s with dsizes_blk := ints (dsC x S), var_len := ((varLen x S % W : Nat) : Int), shp := -1, dsp := -1 } := by
  obtain ⟨m, rfl⟩ : ∃ m, n = m + 1 := ⟨n - 1, by omega⟩
  simp only [Nat.add_sub_cancel] at hlast h5 h6
  have hPn : subSize x S (m + 1) = x := hS ▸ subSize_length x S
  have g := ints_getD_nat S m
  refine (IsLoop.of_eqs (L := NC_var_shape.loop1) (fun _ => rfl) (fun _ _ => rfl)).spec id
    (fun k s => k + 1 ≤ S.length ∧ s.shp = (k : Int) - 1 ∧ s.dsp = (k : Int) - 1 ∧ s.shape = 0 ∧ s.shape_blk = ints S ∧
      s.dsizes_blk = List.replicate k 170 ++ ints ((dsC x S).drop k) ∧ s.var_len = ((lenAt x S k : Nat) : Int) ∧
      s.done = false ∧ s.gto = false)
    (fun _ s r => r = { s with dsizes_blk := ints (dsC x S), var_len := ((varLen x S % W : Nat) : Int), shp := -1, dsp := -1 })
    ?_ fuel m s (Nat.le_of_succ_le hf) ⟨Nat.le_of_eq hS.symm, by rw [h1]; omega, by rw [h2]; omega, h3, h4, ?_, ?_, h7, h8⟩
  · rintro (_ | j) s ⟨hm, hshp, hdsp, hsh, hS', hD, hL, hdone, hgto⟩
    · refine Or.inl ⟨fun h => by omega, ?_⟩
      rw [lenAt_zero] at hL
      cases s; cases hshp; cases hdsp; cases hD; cases hL; rfl
    · have hshp' : s.shp = (j : Int) := by rw [hshp]; omega
      have hdsp' : s.dsp = (j : Int) := by rw [hdsp]; omega
      refine Or.inr ⟨⟨by rw [hshp', hsh]; omega, by simp [hdone, hgto]⟩, fun f _ => ⟨j, Nat.lt_succ_self j, ?_⟩⟩
      have hLj := lenAt_succ x S j
      have hjd : j < s.dsizes_blk.length := by rw [hD]; simp; omega
      rw [vs_body1 f s S j (lenAt x S (j + 1)) hsh hS' (Nat.lt_of_succ_lt hm) hjd hshp' hdsp' hL]
      refine ⟨⟨Nat.le_of_succ_le hm, rfl, rfl, hsh, hS', ?_, ?_, hdone, hgto⟩, fun r hr => hr⟩
      · show s.dsizes_blk.set j _ = _
        rw [hD, hLj, ← dsC_getD x S j (Nat.lt_of_succ_lt hm)]
        exact set_replicate_drop 170 j (dsC x S) (by rw [dsC_length]; exact Nat.lt_of_succ_lt hm)
      · show (if j ≠ 0 ∨ S.getD j 0 ≠ 0 then _ else _) = _
        rw [hLj, ← lenAt_step x S j (Nat.lt_of_succ_lt hm)]
        split <;> rfl
  · rw [h5, drop_cons_getD (dsC x S) m (by rw [dsC_length]; omega), ← List.getD_eq_getElem?_getD, dsC_getD x S m (by omega), hPn,
      List.drop_of_length_le (by rw [dsC_length]; omega), Nat.mod_eq_of_lt hx, List.replicate_succ', List.set_append_right _ _ (by simp)]
    simp
  · rw [h6, g, ← lenAt_step x S m (by omega), hPn, Nat.mod_eq_of_lt hx]
    by_cases hz : S.getD m 0 = 0
    · have hm : m = 0 := Decidable.byContradiction fun h => hlast (by omega) hz
      subst hm
      have hx' : x < 18446744073709551616 := hx
      simp [hz]
      omega
    · simp [hz, W, Int.natCast_emod, Int.mul_comm]

theorem round_int (ft ty L : Nat) (hL : L < W) :
    (if ((ft : Nat) : Int) ≠ 1 then
      (if ((ty : Nat) : Int) = 1 ∨ ((ty : Nat) : Int) = 2 ∨ ((ty : Nat) : Int) = 3 then
        (if Int.tmod (L : Int) 4 ≠ 0 then ((L : Int) + (4 - Int.tmod (L : Int) 4) % 18446744073709551616) % 18446744073709551616 else (L : Int))
       else (L : Int))
     else (L : Int)) = ((roundLen ft ty L % W : Nat) : Int) := by
  have ht : Int.tmod (L : Int) 4 = ((L % 4 : Nat) : Int) := by have := tmod_nat L 4; simpa using this
  unfold roundLen
  simp only [H4.Gen.Ncvar.HDF_FILE, H4.Gen.Ncvar.NC_BYTE, H4.Gen.Ncvar.NC_CHAR, H4.Gen.Ncvar.NC_SHORT, W] at hL ⊢
  rw [ht]
  by_cases h1 : ft = 1
  · simp [h1]; omega
  · have h1' : ¬ ((ft : Nat) : Int) = 1 := by omega
    by_cases h2 : ty = 1 ∨ ty = 2 ∨ ty = 3
    · have h2' : ((ty : Nat) : Int) = 1 ∨ ((ty : Nat) : Int) = 2 ∨ ((ty : Nat) : Int) = 3 := by omega
      by_cases h3 : L % 4 = 0
      · have h3' : ((L % 4 : Nat) : Int) = 0 := by omega
        simp only [h1, h1', h2, h2', h3, ne_eq, not_false_eq_true, not_true_eq_false, if_true, if_false, and_false]
        omega
      · have h3' : ¬ ((L % 4 : Nat) : Int) = 0 := by omega
        simp only [h1, h1', h2, h2', h3, h3', ne_eq, not_false_eq_true, if_true, and_self]
        omega
    · have h2' : ¬ (((ty : Nat) : Int) = 1 ∨ ((ty : Nat) : Int) = 2 ∨ ((ty : Nat) : Int) = 3) := by omega
      simp only [h1, h1', h2, h2', ne_eq, not_false_eq_true, if_true, if_false, and_false, false_and]
      omega

/-- `NC_var_shape` from the label `out:` on (the generated text): the length is rounded up to a multiple of 4 for the three one- and
two-byte types of a netCDF file, and the rank is returned unless a `return -1` came before -/
def vsOut (s : NC_var_shape.St) : NC_var_shape.St :=
  have s := if s.done then s else
    have s := s.set_gto false
    have s := if s.var_cdf_file_type ≠ 1 then
        let sw := s.var_type
        have s :=
          if sw = 1 ∨ sw = 2 ∨ sw = 3 then
              have s := NC_var_shape.chk s (4 % 18446744073709551616 ≠ 0)
              have s := if Int.tmod s.var_len (4 % 18446744073709551616) ≠ 0 % 18446744073709551616 then
                  have s := NC_var_shape.chk s (4 % 18446744073709551616 ≠ 0)
                  have s := s.set_var_len ((s.var_len + (4 % 18446744073709551616 - Int.tmod s.var_len (4 % 18446744073709551616)) % 18446744073709551616) % 18446744073709551616)
                  s
                else
                  s
              s
          else
              s
        s
      else
        s
    s
  have s := if s.done ∨ s.gto then s else
    have s := s.set_ret s.var_assoc_count
    have s := s.set_done true
    s
  s

/-- the state with which `NC_var_shape` reaches `out:` (after the second loop, or by the `goto out` of a scalar variable, or with `done`
set by a `return -1`) -/
noncomputable def vsMain (fuel : Nat) (x n len0 : Int) (ids : List Int) (sn : Bool) (ft ty : Int) (dn : Bool) (dc : Int) (dv ds : List Int) :
    { t : NC_var_shape.St // NC_var_shape fuel x n len0 ids sn ft ty dn dc dv ds = vsOut t } := by
  unfold NC_var_shape
  extract_lets
  exact ⟨_, rfl⟩

theorem vs_entry (ids : List Int) (dimsizes : List Nat) (x ft ty : Nat) (len0 : Int) (dv : List Int) (fuel : Nat) (sn : Bool)
  (hI : Ids32 ids) (hS31 : Dims31 dimsizes) (hn : ids.length < 2147483648) (hdl : dimsizes.length < 4294967296) (hdv : dv.length = dimsizes.length)
  (hx : x < 2147483648) (hf : ids.length ≤ fuel) :
  let s := NC_var_shape fuel x ids.length len0 ids sn ft ty false dimsizes.length dv (ints dimsizes)
  s.ub = false ∧ s.oof = false ∧
  match shapeOf dimsizes true ids with
  | none => s.ret = -1 ∧ s.var_shape_seat = false ∧ s.var_dsizes_seat = false ∧ s.var_len = len0
  | some S => s.ret = ids.length ∧ s.var_shape_seat = !ids.isEmpty ∧ s.var_dsizes_seat = !ids.isEmpty ∧
      s.shape_blk = ints S ∧ s.dsizes_blk = ints (dsC x S) ∧ s.var_len = ((roundLen ft ty (varLen x S % W) % W : Nat) : Int) := by
  have hxm : (x : Int) % 18446744073709551616 = x := by omega
  have k0 := vs_loop0_entry ids dimsizes hI hS31 hn hdl fuel hf
  rw [(vsMain ..).2]
  generalize ht : (vsMain ..).1 = t
  -- what `NC_var_shape` has done when it reaches `out:` (or has returned -1 before)
  have hpre : t.ub = false ∧ t.oof = false ∧
      match shapeOf dimsizes true ids with
      | none => t.done = true ∧ t.ret = -1 ∧ t.var_shape_seat = false ∧ t.var_dsizes_seat = false ∧ t.var_len = len0
      | some S => t.done = false ∧ t.var_shape_seat = !ids.isEmpty ∧ t.var_dsizes_seat = !ids.isEmpty ∧ t.shape_blk = ints S ∧
          t.dsizes_blk = ints (dsC x S) ∧ t.var_len = ((varLen x S % W : Nat) : Int) ∧ t.var_cdf_file_type = ft ∧ t.var_type = ty ∧
          t.var_assoc_count = ids.length := by
    subst ht
    unfold vsMain
    extract_lets
    dsimp only [id]
    cases hsh : shapeOf dimsizes true ids with
    | none =>
      have hne : ids ≠ [] := by intro h; subst h; simp [shapeOf] at hsh
      simp only [hsh] at k0
      simp +zetaDelta [NC_var_shape.chk, hne, hxm, (malloc_cells 8 (ids.length : Int) (by omega) (by omega) (by omega)).2, k0, hdv]
    | some S =>
      by_cases hne : ids = []
      · subst hne
        have hS : S = [] := by simp [shapeOf] at hsh; exact hsh
        subst hS
        simp +zetaDelta [hxm, varLen, recProd, W, dsC, dsizes, strides]
      · have hpos : 0 < ids.length := List.length_pos_iff.mpr hne
        have hSl := shapeOf_length dimsizes ids true S hsh
        have hlast : 2 ≤ ids.length → S.getD (ids.length - 1) 0 ≠ 0 := fun h => shapeOf_pos dimsizes ids true S hsh _ (by omega) (Or.inr (by omega))
        simp only [hsh] at k0
        have k1 := vs_loop1 x S ids.length (by simp [W]; omega) hSl (by omega) hlast fuel hf
        have c1 : (1 : Int) ≤ ids.length := by omega
        have c2 : (ids.length : Int) - 1 < S.length := by omega
        have c3 : (ids.length : Int) - 1 < ids.length := by omega
        simp +zetaDelta [NC_var_shape.chk, hne, hxm, (malloc_cells 8 (ids.length : Int) (by omega) (by omega) (by omega)).2, k0, k1, hdv, c1, c2, c3]
  clear ht
  unfold vsOut
  obtain ⟨hub, hoof, hm⟩ := hpre
  cases hsh : shapeOf dimsizes true ids with
  | none =>
    rw [hsh] at hm
    show _ ∧ _ ∧ _ ∧ _ ∧ _ ∧ _
    obtain ⟨a1, a2, a3, a4, a5⟩ := hm
    simp [a1, a2, a3, a4, a5, hub, hoof]
  | some S =>
    rw [hsh] at hm
    show _ ∧ _ ∧ _ ∧ _ ∧ _ ∧ _ ∧ _ ∧ _
    obtain ⟨a1, a2, a3, a4, a5, a6, a7, a8, a9⟩ := hm
    have hr := round_int ft ty (varLen x S % W) (Nat.mod_lt _ (by simp [W]))
    generalize varLen x S % W = L at a6 hr ⊢
    rw [← hr]
    by_cases h1 : ((ft : Nat) : Int) = 1
    · simp [a1, a2, a3, a4, a5, a6, a7, a9, hub, hoof, h1]
    · by_cases h2 : ((ty : Nat) : Int) = 1 ∨ ((ty : Nat) : Int) = 2 ∨ ((ty : Nat) : Int) = 3
      · by_cases h3 : Int.tmod (L : Int) 4 = 0 <;>
          simp [NC_var_shape.chk, a1, a2, a3, a4, a5, a6, a7, a8, a9, hub, hoof, h1, h2, h3]
      · simp [a1, a2, a3, a4, a5, a6, a7, a8, a9, hub, hoof, h1, h2]

theorem ck_chk_true (s : NCcoordck.St) (c : Prop) [Decidable c] (h : c) : NCcoordck.chk s c = s := by
  cases s; simp [NCcoordck.chk, h]

theorem ck_body0 (fuel : Nat) (s : NCcoordck.St) (S : List Nat) (C : List Int) (j : Nat)
    (hS : s.vp_shape = ints S) (hC : s.coords = C) (hj1 : j < S.length) (hj2 : j < C.length) (hip : s.ip = j) (hup : s.up = j)
    (hdone : s.done = false) (hgto : s.gto = false) :
    NCcoordck.loop0.body fuel s =
      if C.getD j 0 < 0 ∨ C.getD j 0 ≥ (S.getD j 0 : Int) then { s with gto := true } else { s with ip := (j : Int) - 1, up := (j : Int) - 1 } := by
  have c1 : 0 ≤ s.ip ∧ s.ip < s.coords.length := by rw [hip, hC]; omega
  have c2 : 0 ≤ s.up ∧ s.up < s.vp_shape.length := by rw [hup, hS, ints_length]; omega
  have gC : s.coords.getD (Int.toNat s.ip) 0 = C.getD j 0 := by rw [hip, hC]; simp
  have gS : s.vp_shape.getD (Int.toNat s.up) 0 = ((S.getD j 0 : Nat) : Int) := by rw [hup, hS]; exact ints_getD_nat S j
  unfold NCcoordck.loop0.body
  by_cases h : C.getD j 0 < 0 ∨ C.getD j 0 ≥ (S.getD j 0 : Int) <;>
    simp only [ck_chk_true s _ c1, ck_chk_true s _ (Or.inr c1 : _ ∨ _), ck_chk_true s _ (Or.inr c2 : _ ∨ _), gC, gS, h, ↓reduceIte, hdone, hgto,
      Bool.false_eq_true, or_self, false_or, NCcoordck.St.set_gto, NCcoordck.St.set_up]
  rw [hip, hup]

/-- what the bounds loop leaves when a coordinate is refused: `goto bad` pending, nothing else that matters changed
    (reducible: `simp` takes the conjunction apart into one rule per field) -/
@[reducible] def Ck0Fail (s r : NCcoordck.St) : Prop :=
  r.gto = true ∧ r.done = false ∧ r.ub = s.ub ∧ r.oof = s.oof ∧ r.vp_numrecs = s.vp_numrecs ∧ r.handle_numrecs = s.handle_numrecs ∧
    r.handle_flags = s.handle_flags

/-- The bounds loop as `NCcoordck` enters it (cursors at the last index).  Invariant: the coordinates behind the cursor are inside their
    extents; the pass that meets one outside sets `gto`, and the index 0 stands for that state too. -/
theorem ck_loop0 (S : List Nat) (C : List Int) (b fuel : Nat) (hb : b ≤ S.length) (hCn : C.length = S.length) (hf : S.length ≤ fuel)
    (s : NCcoordck.St) (hS : s.vp_shape = ints S) (hC : s.coords = C) (hip : s.ip = (S.length : Int) - 1) (hup : s.up = (S.length : Int) - 1)
    (hbd : s.boundary = b) (hbn : s.boundary_null = false) (hdone : s.done = false) (hgto : s.gto = false) :
    if inExtents (S.drop b) (C.drop b) = true then NCcoordck.loop0 fuel s = { s with ip := (b : Int) - 1, up := (b : Int) - 1 }
    else Ck0Fail s (NCcoordck.loop0 fuel s) := by
  have e := Nat.add_sub_cancel' hb
  refine (IsLoop.of_eqs (L := NCcoordck.loop0) (body := fun f s => NCcoordck.loop0.body f (NCcoordck.chk s (s.boundary_null = false)))
      (fun _ => rfl) (fun _ _ => rfl)).spec id
    (fun k s => s.boundary_null = false ∧ s.done = false ∧
      ((s.vp_shape = ints S ∧ s.coords = C ∧ s.boundary = b ∧ s.gto = false ∧ b + k ≤ S.length ∧
        s.ip = ((b + k : Nat) : Int) - 1 ∧ s.up = ((b + k : Nat) : Int) - 1 ∧
        inExtents (S.drop (b + k)) (C.drop (b + k)) = true) ∨
       (k = 0 ∧ s.gto = true ∧ inExtents (S.drop b) (C.drop b) = false)))
    (fun _ s r => if inExtents (S.drop b) (C.drop b) = true then r = { s with ip := (b : Int) - 1, up := (b : Int) - 1 } else Ck0Fail s r)
    ?_ fuel (S.length - b) s (Nat.le_trans (Nat.sub_le _ _) hf)
    ⟨hbn, hdone, Or.inl ⟨hS, hC, hbd, hgto, Nat.le_of_eq e, by rw [e]; exact hip, by rw [e]; exact hup,
      by rw [e, List.drop_of_length_le (Nat.le_refl _)]; cases C.drop S.length <;> rfl⟩⟩
  rintro k s ⟨hbn, hdone, ⟨hS, hC, hbd, hgto, h1, hip, hup, hin⟩ | ⟨rfl, hgto, hin⟩⟩ <;> rw [ck_chk_true s _ hbn]
  · cases k with
    | zero =>
      refine Or.inl ⟨fun h => by omega, ?_⟩
      rw [if_pos (show inExtents (S.drop b) (C.drop b) = true from hin)]
      cases s; cases hip; cases hup; rfl
    | succ k =>
      have h2 : b + k < C.length := hCn ▸ h1
      have hip' : s.ip = ((b + k : Nat) : Int) := by rw [hip]; omega
      have hup' : s.up = ((b + k : Nat) : Int) := by rw [hup]; omega
      refine Or.inr ⟨⟨by rw [hip', hbd]; omega, by simp [hdone, hgto]⟩, fun f _ => ?_⟩
      have hb' := ck_body0 f s S C (b + k) hS hC h1 h2 hip' hup' hdone hgto
      have hd := inExtents_drop S C (b + k) h1 h2
      by_cases hc : C.getD (b + k) 0 < 0 ∨ C.getD (b + k) 0 ≥ (S.getD (b + k) 0 : Int)
      · rw [if_pos hc] at hb'
        have hf : inExtents (S.drop b) (C.drop b) = false := by
          refine inExtents_drop_false S C b k (Nat.le_of_lt h1) (Nat.le_of_lt h2) ?_
          rw [hd, show (decide (0 ≤ C.getD (b + k) 0) && decide (C.getD (b + k) 0 < (S.getD (b + k) 0 : Int))) = false by
            simpa using fun h => by omega]
          rfl
        rw [hb']
        refine ⟨0, Nat.succ_pos k, ⟨hbn, hdone, Or.inr ⟨rfl, rfl, hf⟩⟩, fun r hr => ?_⟩
        rw [if_neg (by simp [hf])] at hr ⊢
        exact hr
      · rw [if_neg hc] at hb'
        rw [hb']
        refine ⟨k, Nat.lt_succ_self k, ⟨hbn, hdone, Or.inl ⟨hS, hC, hbd, hgto, Nat.le_of_lt h1, rfl, rfl, ?_⟩⟩, fun r hr => hr⟩
        rw [hd, show inExtents (S.drop (b + k + 1)) (C.drop (b + k + 1)) = true from hin]
        simpa using ⟨by omega, by omega⟩
  · exact Or.inl ⟨fun h => h.2 (Or.inr hgto), by rw [if_neg (by simp [hin])]; exact ⟨hgto, hdone, rfl, rfl, rfl, rfl, rfl⟩⟩

theorem ck_loop0_ok (S : List Nat) (C : List Int) (b fuel : Nat) (hb : b ≤ S.length) (hC : C.length = S.length) (hf : S.length ≤ fuel)
    (hok : inExtents (S.drop b) (C.drop b) = true) (s : NCcoordck.St) (h1 : s.vp_shape = ints S) (h2 : s.coords = C) (h3 : s.ip = (S.length : Int) - 1)
    (h4 : s.up = (S.length : Int) - 1) (h5 : s.boundary = b) (h6 : s.boundary_null = false) (h7 : s.done = false) (h8 : s.gto = false) :
    NCcoordck.loop0 fuel s = { s with ip := (b : Int) - 1, up := (b : Int) - 1 } :=
  (if_pos hok).mp (ck_loop0 S C b fuel hb hC hf s h1 h2 h3 h4 h5 h6 h7 h8)

theorem ck_loop0_bad (S : List Nat) (C : List Int) (b fuel : Nat) (hb : b ≤ S.length) (hC : C.length = S.length) (hf : S.length ≤ fuel)
    (hok : ¬ inExtents (S.drop b) (C.drop b) = true) (s : NCcoordck.St) (h1 : s.vp_shape = ints S) (h2 : s.coords = C) (h3 : s.ip = (S.length : Int) - 1)
    (h4 : s.up = (S.length : Int) - 1) (h5 : s.boundary = b) (h6 : s.boundary_null = false) (h7 : s.done = false) (h8 : s.gto = false) :
    Ck0Fail s (NCcoordck.loop0 fuel s) :=
  (if_neg hok).mp (ck_loop0 S C b fuel hb hC hf s h1 h2 h3 h4 h5 h6 h7 h8)

/-- the loop that writes the fill records of an HDF file: one `vp->numrecs++` per record from `vnum` up to `c0` -/
theorem ck_loop1 (c0 vnum : Int) (fuel : Nat) (h : vnum ≤ c0) (hf : (c0 + 1).toNat ≤ fuel) (hv : 0 ≤ vnum) (s : NCcoordck.St)
    (h1 : s.unfilled = c0 - vnum) (h2 : s.write_ret ≠ -1) (h3 : s.done = false) (h4 : s.gto = false) :
    NCcoordck.loop1 fuel s = { s with unfilled := -1, vp_numrecs := s.vp_numrecs + ((c0 - vnum + 1).toNat : Int) } := by
  refine (IsLoop.of_eqs (L := NCcoordck.loop1) (fun _ => rfl) (fun _ _ => rfl)).spec id
    (fun k s => s.unfilled = (k : Int) - 1 ∧ s.write_ret ≠ -1 ∧ s.done = false ∧ s.gto = false)
    (fun k s r => r = { s with unfilled := -1, vp_numrecs := s.vp_numrecs + (k : Int) })
    ?_ fuel (c0 - vnum + 1).toNat s (show (c0 - vnum + 1).toNat ≤ fuel by omega) ⟨by omega, h2, h3, h4⟩
  rintro (_ | k) s ⟨hu, hw, hdone, hgto⟩
  · refine Or.inl ⟨fun h => by omega, ?_⟩
    cases s; cases hu; simp
  · refine Or.inr ⟨⟨by omega, by simp [hdone, hgto]⟩, fun f _ => ⟨k, Nat.lt_succ_self k, ?_⟩⟩
    have hw' : ¬ ((-1 : Int) = s.write_ret) := fun h => hw h.symm
    have hbody : NCcoordck.loop1.body f s = { s with unfilled := s.unfilled - 1, vp_numrecs := s.vp_numrecs + 1 } := by
      unfold NCcoordck.loop1.body
      simp only [hw', ↓reduceIte, hdone, hgto, Bool.false_eq_true, or_self, NCcoordck.St.set_vp_numrecs]
    rw [hbody]
    refine ⟨⟨by show s.unfilled - 1 = _; omega, hw, hdone, hgto⟩, fun r hr => ?_⟩
    rw [hr, show s.vp_numrecs + ((k + 1 : Nat) : Int) = s.vp_numrecs + 1 + (k : Int) by omega]

/-- the loop that fills the records of a netCDF file: `handle->numrecs` goes from `hnum` to `c0 + 1` in `unsigned` -/
theorem ck_loop2 (c0 : Int) (hnum fuel : Nat) (h : (hnum : Int) ≤ c0) (hf : (c0 + 1).toNat ≤ fuel) (hh : hnum < 4294967296) (s : NCcoordck.St)
    (h1 : s.unfilled = c0 - (hnum : Int)) (h2 : s.fillrec_ret ≠ 0) (h3 : s.done = false) (h4 : s.gto = false) (h5 : s.handle_numrecs = (hnum : Int)) :
    NCcoordck.loop2 fuel s = { s with unfilled := -1, handle_numrecs := (c0 + 1) % 4294967296 } := by
  have hk : (c0 - hnum + 1).toNat ≤ fuel := by omega
  have key := (IsLoop.of_eqs (L := NCcoordck.loop2) (fun _ => rfl) (fun _ _ => rfl)).spec id
    (fun k s => s.unfilled = (k : Int) - 1 ∧ s.fillrec_ret ≠ 0 ∧ s.done = false ∧ s.gto = false ∧
      (0 ≤ s.handle_numrecs ∧ s.handle_numrecs < 4294967296))
    (fun k s r => r = { s with unfilled := -1, handle_numrecs := (s.handle_numrecs + (k : Int)) % 4294967296 })
    ?_ fuel (c0 - hnum + 1).toNat s hk ⟨by omega, h2, h3, h4, by omega⟩
  · rw [key, show s.handle_numrecs + ((c0 - hnum + 1).toNat : Int) = c0 + 1 by omega]
  clear hk h1 h2 h3 h4 h5 s
  rintro (_ | k) s ⟨hu, hw, hdone, hgto, hr⟩
  · refine Or.inl ⟨fun h => by omega, ?_⟩
    rw [show (s.handle_numrecs + ((0 : Nat) : Int)) % 4294967296 = s.handle_numrecs by omega]
    cases s; cases hu; rfl
  · refine Or.inr ⟨⟨by omega, by simp [hdone, hgto]⟩, fun f _ => ⟨k, Nat.lt_succ_self k, ?_⟩⟩
    have hw' : ¬ (¬ (s.fillrec_ret ≠ 0)) := by simp [hw]
    have hbody : NCcoordck.loop2.body f s =
        { s with unfilled := s.unfilled - 1, handle_numrecs := (s.handle_numrecs + 1) % 4294967296 } := by
      unfold NCcoordck.loop2.body
      simp only [hw', ↓reduceIte, hdone, hgto, Bool.false_eq_true, or_self, NCcoordck.St.set_handle_numrecs]
    rw [hbody]
    refine ⟨⟨by show s.unfilled - 1 = _; omega, hw, hdone, hgto, Int.emod_nonneg _ (by decide), Int.emod_lt_of_pos _ (by decide)⟩,
      fun r hr' => ?_⟩
    rw [hr', show ((s.handle_numrecs + 1) % 4294967296 + (k : Int)) % 4294967296 = (s.handle_numrecs + ((k + 1 : Nat) : Int)) % 4294967296 by omega]

/-- the I/O the fill-on-extend paths of `NCcoordck` call succeeds (the assumed calls) -/
structure IoOk (aid getaid seek conv wr setpos fillrec xdrn : Int) : Prop where
  haid : aid ≠ -1 ∨ getaid ≠ -1
  hseek : seek ≠ -1
  hconv : conv ≠ -1
  hwr : wr ≠ -1
  hsetpos : setpos ≠ 0
  hfillrec : fillrec ≠ 0
  hxdrn : xdrn ≠ 0

/-- the members of the state that the caller of `NCcoordck` reads agree with the model's answer -/
def CkAgrees (s : NCcoordck.St) (o : CkOut) : Prop :=
  s.ub = false ∧ s.oof = false ∧ s.ret = (if o.ok then 1 else 0) ∧ s.vp_numrecs = o.vpNumrecs ∧
    s.handle_numrecs = (o.hNumrecs : Int) ∧ s.handle_flags = (o.flags : Int)

section
attribute [local simp] CkAgrees NCcoordck.chk

/-- `ip = coords`, the statement of `NCcoordck` that ends the search for a coordinate out of range (the generated text) -/
@[reducible] def ckIp0 (s : NCcoordck.St) : NCcoordck.St :=
  if s.done ∨ s.gto then s else
    have s := s.set_ip 0
    s

/-- Run in stages.  The prologue and the bounds loop (from the entry state `s0` to `t`, the first state of the text that is a `ckIp0 _`)
    are evaluated once: they end with `goto bad` pending, or with the entry state changed in `boundary`, `boundary_null` and `up` only,
    which nothing later reads (so ranks 1 and > 1 need not be told apart again).  The fill-on-extend blocks and the returns are
    evaluated on that state, once per path. -/
theorem ck_entry (S : List Nat) (C : List Int) (ft xop hnum F : Nat) (vnum aid len hdfsize szof ncapi getaid seek conv wr setpos fillrec xdrn : Int)
    (fan : Bool) (fuel : Nat)
    (hpos : 0 < S.length) (hC : C.length = S.length) (hh : hnum < 4294967296) (hF : F < 4294967296) (hv : 0 ≤ vnum)
    (io : IoOk aid getaid seek conv wr setpos fillrec xdrn) (hsz : 0 < hdfsize) (hsz2 : hdfsize < 2147483648)
    (hf1 : S.length ≤ fuel) (hf2 : (C.getD 0 0 + 1).toNat ≤ fuel) :
    CkAgrees (NCcoordck fuel ft xop hnum F false (ints S) S.length vnum aid len hdfsize szof C ncapi getaid fan seek conv wr setpos fillrec xdrn)
      (coordck ft (decide (xop = 0)) (decide (ncapi ≠ 0)) F vnum hnum S C) := by
  have g0 := ints_getD_nat S 0
  have hCpos : 0 < C.length := by omega
  have hS1 : S.headD 1 = S.getD 0 0 := by
    cases S with
    | nil => simp at hpos
    | cons a t => rfl
  simp only [coordck, hS1, headD_eq_getD, H4.Gen.Ncvar.NC_UNLIMITED, H4.Gen.Ncvar.HDF_FILE, H4.Gen.Ncvar.NC_NDIRTY,
    H4.Gen.Ncvar.NC_NSYNC, W32, ne_eq]
  have kok0 := ck_loop0_ok S C 0 fuel (Nat.zero_le _) hC hf1
  have kok1 := ck_loop0_ok S C 1 fuel hpos hC hf1
  have kbad0 := ck_loop0_bad S C 0 fuel (Nat.zero_le _) hC hf1
  have kbad1 := ck_loop0_bad S C 1 fuel hpos hC hf1
  simp only [List.drop_zero, List.drop_one] at kok0 kok1 kbad0 kbad1
  unfold NCcoordck
  extract_lets +onlyGivenNames s0
  -- the statements before `ip = coords`, one at a time
  repeat (extract_lets +onlyGivenNames s; fail_if_success (have : ∃ a, s = ckIp0 a := ⟨_, by with_reducible rfl⟩))
  extract_lets +onlyGivenNames t
  have hpre : (Ck0Fail s0 t ∧ (if S.getD 0 0 ≠ 0 then inExtents S C = false else C.getD 0 0 < 0 ∨ inExtents S.tail C.tail = false)) ∨
      ((∃ b bn u, t = { s0 with boundary := b, boundary_null := bn, up := u }) ∧
        (if S.getD 0 0 ≠ 0 then inExtents S C = true else ¬ C.getD 0 0 < 0 ∧ inExtents S.tail C.tail = true)) := by
    by_cases h0 : S.getD 0 0 = 0
    · by_cases hc0 : C.getD 0 0 < 0
      · left; simp +zetaDelta [Ck0Fail, g0, h0, hpos, hCpos, hc0]
      · by_cases hok1 : inExtents S.tail C.tail = true
        · right
          refine ⟨?_, by rw [if_neg (by simpa using h0)]; exact ⟨hc0, hok1⟩⟩
          by_cases hn : (S.length : Int) > 1
          · exact ⟨1, false, 0, by simp +zetaDelta [g0, h0, hpos, hCpos, hc0, hn, kok1 hok1]⟩
          · exact ⟨0, true, 0, by simp +zetaDelta [g0, h0, hpos, hCpos, hc0, hn]⟩
        · left
          have hn : (S.length : Int) > 1 := by
            by_cases h : S.length = 1
            · exact absurd (by rw [List.eq_nil_of_length_eq_zero (by simp [h] : S.tail.length = 0)]; cases C.tail <;> rfl) hok1
            · omega
          simp +zetaDelta [Ck0Fail, g0, h0, hpos, hCpos, hc0, hn, hok1, kbad1 hok1]
    · by_cases hok : inExtents S C = true
      · right
        exact ⟨⟨0, false, -1, by simp +zetaDelta [g0, h0, hpos, kok0 hok]⟩,
          by rw [if_pos h0]; exact hok⟩
      · left
        simp +zetaDelta [Ck0Fail, g0, h0, hpos, hok, kbad0 hok]
  clear_value t
  rcases hpre with ⟨⟨a1, a2, a3, a4, a5, a6, a7⟩, hb⟩ | ⟨⟨b, bn, u, e⟩, hg⟩
  · by_cases h0 : S.getD 0 0 = 0
    · rw [if_neg (by simpa using h0)] at hb
      simp [s0, a1, a2, a3, a4, a5, a6, a7, h0, hb]
    · rw [if_pos h0] at hb
      simp [s0, a1, a2, a3, a4, a5, a6, a7, h0, hb]
  · subst e
    by_cases h0 : S.getD 0 0 = 0
    · rw [if_neg (by simpa using h0)] at hg
      obtain ⟨hc0, hok1⟩ := hg
      have hrec : _ ∧ _ ∧ _ ∧ _ ∧ _ ∧ _ := ⟨g0, h0, hpos, hCpos, hc0, hok1⟩
      have hFm : Hide ((F : Int) % 4294967296 = F) := ⟨by omega⟩
      have hmax : Hide (max (C.getD 0 0 + 1) 0 = C.getD 0 0 + 1) := ⟨by omega⟩
      by_cases hft : ft = 1
      · subst hft
        by_cases hlt : C.getD 0 0 < vnum
        · have hlt' : C.getD 0 0 - vnum < 0 := by omega
          simp [s0, hrec, hlt, hlt']
        · have hlt' : ¬ (C.getD 0 0 - vnum < 0) := by omega
          have hmx : ¬ (C.getD 0 0 + 1 < vnum) := by omega
          have hlen0 : ∀ x : Int, 0 ≤ x % 18446744073709551616 := fun x => Int.emod_nonneg x (by decide)
          have hszm : Hide (¬ (hdfsize % 18446744073709551616 = 0)) := ⟨by omega⟩
          have hsz0 : Hide (¬ (hdfsize = 0)) := ⟨by omega⟩
          have haid' : Hide (¬ (aid = -1 ∧ getaid = -1)) := ⟨by have := io.haid; omega⟩
          have s1 : ¬ ((-1 : Int) = seek) := fun h => io.hseek h.symm
          have s2 : ¬ ((-1 : Int) = conv) := fun h => io.hconv h.symm
          have kl1 := ck_loop1 (C.getD 0 0) vnum fuel (by omega) hf2 hv
          by_cases hx : xop = 0
          · by_cases hnf : F &&& 256 = 0 <;> by_cases hgr : (hnum : Int) < C.getD 0 0 + 1 <;>
              (simp [s0, hrec, hlt, hlt', hx, hnf, hgr, hmx, hFm.h, hmax.h, hlen0, hszm.h, hsz0.h, haid'.h,
                io.hwr, s1, s2, kl1]) <;> omega
          · by_cases ha : ncapi = 0
            · simp [s0, hrec, hlt, hlt', hx, ha]
            · by_cases hge : (hnum : Int) ≤ C.getD 0 0
              · simp [s0, hrec, hlt, hlt', hx, ha, hge]
              · have hgr : ¬ ((hnum : Int) < C.getD 0 0 + 1) := by omega
                by_cases hnf : F &&& 256 = 0 <;>
                  (simp [s0, hrec, hlt, hlt', hx, ha, hge, hnf, hgr, hmx, hFm.h, hlen0, hszm.h, hsz0.h,
                    haid'.h, io.hwr, s1, s2, kl1]) <;> omega
      · have hft' : ¬ ((ft : Int) = 1) := by omega
        by_cases hge : (hnum : Int) ≤ C.getD 0 0
        · by_cases hx : xop = 0
          · have kl2 := ck_loop2 (C.getD 0 0) hnum fuel hge hf2 hh
            have hF64 : F ||| 64 < 4294967296 := Nat.or_lt_two_pow (n := 32) hF (by decide)
            have hFm2 : Hide (((F ||| 64 : Nat) : Int) % 4294967296 = ((F ||| 64 : Nat) : Int)) := ⟨by omega⟩
            have hb1 : (F ||| 64) &&& 256 = F &&& 256 := by rw [Nat.and_or_distrib_right]; simp
            have hb2 : (F ||| 64) &&& 16 = F &&& 16 := by rw [Nat.and_or_distrib_right]; simp
            by_cases hnf : F &&& 256 = 0 <;> by_cases hns : F &&& 16 = 0 <;>
              (simp [s0, hrec, hft, hft', hge, hx, hnf, hns, hFm.h, hFm2.h, hb1, hb2, hmax.h, io.hsetpos, io.hfillrec,
                io.hxdrn, kl2]) <;> omega
          · simp [s0, hrec, hft, hft', hge, hx]
        · simp [s0, hrec, hft, hft', hge]
    · rw [if_pos h0] at hg
      simp [s0, g0, h0, hpos, hg]

end

/-- a fixed-size variable (`shape[0] ≠ 0`) never reaches the fill-on-extend code: no hypothesis on I/O results, record counts, flags; fuel = the rank -/
theorem ck_fixed (S : List Nat) (C : List Int) (ft xop hnum F : Nat) (vnum aid len hdfsize szof ncapi getaid seek conv wr setpos fillrec xdrn : Int)
    (fan : Bool) (fuel : Nat) (hpos : 0 < S.length) (h0 : S.getD 0 0 ≠ 0) (hC : C.length = S.length) (hf1 : S.length ≤ fuel) :
    let s := NCcoordck fuel ft xop hnum F false (ints S) S.length vnum aid len hdfsize szof C ncapi getaid fan seek conv wr setpos fillrec xdrn
    s.ub = false ∧ s.oof = false ∧ (s.ret = 1 ↔ inExtents S C = true) ∧ (s.ret = 0 ∨ s.ret = 1) ∧ s.vp_numrecs = vnum ∧
      s.handle_numrecs = hnum ∧ s.handle_flags = F := by
  intro s
  have g0 := ints_getD_nat S 0
  have kok0 := ck_loop0_ok S C 0 fuel (Nat.zero_le _) hC hf1
  have kbad0 := ck_loop0_bad S C 0 fuel (Nat.zero_le _) hC hf1
  simp only [List.drop_zero] at kok0 kbad0
  by_cases hok : inExtents S C = true
  · simp [s, NCcoordck, NCcoordck.chk, g0, h0, hpos, hok, kok0 hok]
  · simp [s, NCcoordck, NCcoordck.chk, g0, h0, hpos, hok, kbad0 hok]

instance (aid getaid seek conv wr setpos fillrec xdrn : Int) : Decidable (IoOk aid getaid seek conv wr setpos fillrec xdrn) :=
  decidable_of_iff ((aid ≠ -1 ∨ getaid ≠ -1) ∧ seek ≠ -1 ∧ conv ≠ -1 ∧ wr ≠ -1 ∧ setpos ≠ 0 ∧ fillrec ≠ 0 ∧ xdrn ≠ 0)
    ⟨fun ⟨a, b, c, d, e, f, g⟩ => ⟨a, b, c, d, e, f, g⟩, fun ⟨a, b, c, d, e, f, g⟩ => ⟨a, b, c, d, e, f, g⟩⟩

instance instDecidableInB : (sh c : List Nat) → Decidable (inB sh c)
  | _ :: shs, _ :: cs => by
      unfold inB
      have := instDecidableInB shs cs
      exact inferInstance
  | [], [] => isTrue trivial
  | [], _ :: _ => isFalse (by simp [inB])
  | _ :: _, [] => isFalse (by simp [inB])

end H4.Lemmas.C03Fn2
