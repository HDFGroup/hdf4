import H4.Lemmas.VsUnpackPhases
import H4.Lemmas.VsUnpackReader
/-! The members of the state the translated `vunpackvs` leaves on an accepted record, read off through frame lemmas (`SFin_*`); the block `wlist.bptr` in closed
    form; and from this positional description back to the header the reader returns. -/
namespace H4.Lemmas.C07Fn3
open H4 H4.Gen.Fn.Vio3
open H4.Format hiding S32 S16
open H4.C2L hiding andS orS andU orU
open H4.Lemmas.C08Fn (bytesI bytesI_length)
open H4.Lemmas.C08Fn3 (Keeps be16 be32 S32 be16_eq be32N w16 vals fill orS SStr_arg takeWhile_bytesI drop_take_bytesI)

def Smid (B : List Int) (L : Nat) (s : St) : St := Sm8 B (SPre B L s)
def Stab (B : List Int) (L : Nat) (s : St) : St := STable B (SHead B (SPre B L s)) (nfN B)

structure KEpi {α} (f : St → α) : Prop where
  i : Keeps f vunpackvs.St.set_i := by intro _ _; rfl
  b : Keeps f vunpackvs.St.set_vs_wlist_bptr := by intro _ _; rfl
  g : Keeps f vunpackvs.St.set_gto := by intro _ _; rfl
  r : Keeps f vunpackvs.St.set_ret := by intro _ _; rfl
  d : Keeps f vunpackvs.St.set_done := by intro _ _; rfl

theorem SEs_proj {α} (f : St → α) (D : Int → Int) (s : St) (n : Nat) (k : KEpi f := by exact {}) : f (SEs D s n) = f s := by
  simp only [SEs]; split
  · rw [k.i]
  · rw [F7, k.i, k.b, k.i]

theorem SOld_proj {α} (f : St → α) (M : Int → Int) (s : St) (n : Nat) (k : KEpi f := by exact {}) : f (SOld M s n) = f s := by
  simp only [SOld]; split
  · split
    · rw [k.i]
    · rw [F6, k.i, k.b, k.i]
  · rfl

theorem tailV4_proj {α} (f : St → α) (M D : Int → Int) (B : List Int) (L : Nat) (s : St) (k : KEpi f := by exact {}) :
    f (SFin M D B L s) = f (SV4 B (Smid B L s) (pEx B + 8)) := by
  rw [SFin, Epi, k.d, k.r, k.g, SEs_proj f D _ _ k, SOld_proj f M _ _ k]; rfl

theorem tail_proj {α} (f : St → α) (M D : Int → Int) (B : List Int) (L : Nat) (s : St) (k : KEpi f := by exact {}) (k4 : KV4 f := by exact {}) :
    f (SFin M D B L s) = f (Smid B L s) :=
  (tailV4_proj f M D B L s k).trans (SV4_proj f B _ _ k4)

theorem mid_proj {α} (f : St → α) (B : List Int) (L : Nat) (s : St) (k : KMid f := by exact {}) : f (Smid B L s) = f (Stab B L s) :=
  Sm8_thru f B _ k

theorem Smid_version (B : List Int) (L : Nat) (s : St) : (Smid B L s).vs_version = w16 (be16 B (L - 5)) := by
  rw [mid_proj (·.vs_version), Stab, STable_version]; rfl

theorem SFin_tab {α} (f : St → α) (M D : Int → Int) (B : List Int) (L : Nat) (s : St) (k : KEpi f := by exact {}) (k4 : KV4 f := by exact {})
    (km : KMid f := by exact {}) : f (SFin M D B L s) = f (Stab B L s) :=
  (tail_proj f M D B L s k k4).trans (mid_proj f B L s km)

theorem SFin_head (M D : Int → Int) (B : List Int) (L : Nat) (s : St) :
    (SFin M D B L s).vs_version = w16 (be16 B (L - 5)) ∧ (SFin M D B L s).vs_more = w16 (be16 B (L - 3)) ∧ (SFin M D B L s).ret_value = 0 ∧
      (SFin M D B L s).vs_interlace = w16 (be16 B 0) ∧ (SFin M D B L s).vs_nvertices = S32 (be32 B 2) ∧
      (SFin M D B L s).vs_wlist_ivsize = be16 B 6 ∧ (SFin M D B L s).vs_wlist_n = (nfN B : Int) := by
  let f (t : St) := (t.vs_version, t.vs_more, t.ret_value, t.vs_interlace, t.vs_nvertices, t.vs_wlist_ivsize, t.vs_wlist_n)
  have h := (SFin_tab f M D B L s).trans (STable_keep f B _ _ (SF7_keep f B _ _))
  simp only [f, Prod.mk.injEq] at h
  exact h

theorem SFin_ivsize (M D : Int → Int) (B : List Int) (L : Nat) (s : St) : (SFin M D B L s).vs_wlist_ivsize = be16 B 6 :=
  (SFin_head M D B L s).2.2.2.2.2.1

theorem SFin_extag (M D : Int → Int) (B : List Int) (L : Nat) (s : St) : (SFin M D B L s).vs_extag = be16 B (pEx B) := by
  rw [tail_proj (·.vs_extag)]; rfl

theorem SFin_exref (M D : Int → Int) (B : List Int) (L : Nat) (s : St) : (SFin M D B L s).vs_exref = be16 B (pEx B + 2) := by
  rw [tail_proj (·.vs_exref)]; rfl

theorem SFin_vsname (M D : Int → Int) (B : List Int) (L : Nat) (s : St) :
    (SFin M D B L s).vs_vsname = cstrInto B (pVn B + 2) (lVn B) s.vs_vsname := by
  rw [tail_proj (·.vs_vsname)]
  show cstrInto B (pVn B + 2) (lVn B) (STable B (SHead B (SPre B L s)) (nfN B)).vs_vsname = _
  rw [STable_vsname]; rfl

theorem SFin_vsclass (M D : Int → Int) (B : List Int) (L : Nat) (s : St) :
    (SFin M D B L s).vs_vsclass = cstrInto B (pVc B + 2) (lVc B) s.vs_vsclass := by
  rw [tail_proj (·.vs_vsclass)]
  show cstrInto B (pVc B + 2) (lVc B) (STable B (SHead B (SPre B L s)) (nfN B)).vs_vsclass = _
  rw [STable_vsclass]; rfl

theorem Smid_keep {α} (f : St → α) (B : List Int) (L : Nat) (s : St) (hh : f (SHead B (SPre B L s)) = f s := by rfl)
    (h0 : ∀ t, f (phNoFields t) = f t := by intros; rfl) (km : KMid f := by exact {}) (kt : KTab f := by exact {}) : f (Smid B L s) = f s := by
  rw [mid_proj f B L s km, Stab, STable_keep f _ _ _ (SF7_keep f _ _ _ kt) (h0 _), hh]

theorem SFin_v3 {α} (f : St → α) (M D : Int → Int) (B : List Int) (L : Nat) (s : St) (hv : w16 (be16 B (L - 5)) ≠ 4)
    (hm : f (Smid B L s) = f s) (k : KEpi f := by exact {}) : f (SFin M D B L s) = f s := by
  rw [tailV4_proj f M D B L s k, SV4, if_neg (by rw [Smid_version]; exact hv), hm]

theorem SFin_flags4 (M D : Int → Int) (B : List Int) (L : Nat) (s : St) (hv : w16 (be16 B (L - 5)) = 4) :
    (SFin M D B L s).vs_flags = be32 B (pEx B + 8) := by
  rw [tailV4_proj (·.vs_flags), SV4, if_pos (by rw [Smid_version]; exact hv)]
  split <;> rfl

theorem SFin_noattr {α} (f : St → α) (M D : Int → Int) (B : List Int) (L : Nat) (s : St) (hv : w16 (be16 B (L - 5)) = 4)
    (hbit : ¬ be32N B (pEx B + 8) % 2 = 1) (hm : f (Smid B L s) = f s) (k : KEpi f := by exact {})
    (hbb : Keeps f vunpackvs.St.set_bb := by intro _ _; rfl) (hfl : Keeps f vunpackvs.St.set_vs_flags := by intro _ _; rfl) :
    f (SFin M D B L s) = f s := by
  rw [tailV4_proj f M D B L s k, SV4, if_pos (by rw [Smid_version]; exact hv), if_neg hbit, hbb, hfl, hm]

theorem SFin_attrs (M D : Int → Int) (B : List Int) (L : Nat) (s : St) (hv : w16 (be16 B (L - 5)) = 4) (hbit : be32N B (pEx B + 8) % 2 = 1) :
    (SFin M D B L s).vs_nattrs = (be32N B (pEx B + 8 + 4) : Int) ∧ (SFin M D B L s).vs_alist_null = false ∧
      (SFin M D B L s).vs_alist_findex = fill (List.replicate (be32N B (pEx B + 8 + 4)) 170) 0 (vals32 B (pEx B + 8 + 8) 8 (be32N B (pEx B + 8 + 4))) ∧
      (SFin M D B L s).vs_alist_atag = fill (List.replicate (be32N B (pEx B + 8 + 4)) 170) 0 (vals B (pEx B + 8 + 8 + 4) 8 (be32N B (pEx B + 8 + 4))) ∧
      (SFin M D B L s).vs_alist_aref = fill (List.replicate (be32N B (pEx B + 8 + 4)) 170) 0 (vals B (pEx B + 8 + 8 + 6) 8 (be32N B (pEx B + 8 + 4))) := by
  let f (t : St) := (t.vs_nattrs, t.vs_alist_null, t.vs_alist_findex, t.vs_alist_atag, t.vs_alist_aref)
  have h := tailV4_proj f M D B L s
  rw [SV4, if_pos (by rw [Smid_version]; exact hv), if_pos hbit] at h
  simp only [f, Prod.mk.injEq] at h
  exact h

theorem SFin_nofields (M D : Int → Int) (B : List Int) (L : Nat) (s : St) (h0 : nfN B = 0) :
    (SFin M D B L s).vs_wlist_bptr_null = true ∧ (SFin M D B L s).vs_wlist_type_null = true ∧ (SFin M D B L s).vs_wlist_off_null = true ∧
      (SFin M D B L s).vs_wlist_isize_null = true ∧ (SFin M D B L s).vs_wlist_order_null = true ∧ (SFin M D B L s).vs_wlist_esize_null = true ∧
      (SFin M D B L s).vs_wlist_name_null = true := by
  let f (t : St) := (t.vs_wlist_bptr_null, t.vs_wlist_type_null, t.vs_wlist_off_null, t.vs_wlist_isize_null, t.vs_wlist_order_null,
    t.vs_wlist_esize_null, t.vs_wlist_name_null)
  have h := SFin_tab f M D B L s
  rw [Stab, STable, if_pos h0] at h
  simp only [f, Prod.mk.injEq] at h
  exact h

theorem SFin_fields (M D : Int → Int) (B : List Int) (L : Nat) (s : St) (h0 : nfN B ≠ 0) :
    (SFin M D B L s).vs_wlist_bptr_null = false ∧ (SFin M D B L s).vs_wlist_type_null = false ∧ (SFin M D B L s).vs_wlist_off_null = false ∧
      (SFin M D B L s).vs_wlist_isize_null = false ∧ (SFin M D B L s).vs_wlist_order_null = false ∧ (SFin M D B L s).vs_wlist_esize_null = false ∧
      (SFin M D B L s).vs_wlist_name_null = false ∧
      (SFin M D B L s).vs_wlist_type = 0 ∧ (SFin M D B L s).vs_wlist_off = (nfN B : Int) ∧ (SFin M D B L s).vs_wlist_isize = ((2 * nfN B : Nat) : Int) ∧
      (SFin M D B L s).vs_wlist_order = ((3 * nfN B : Nat) : Int) ∧ (SFin M D B L s).vs_wlist_esize = ((4 * nfN B : Nat) : Int) ∧
      (SFin M D B L s).vs_wlist_name = rowsAt B (pNm B) (List.replicate (nfN B) []) (nfN B) := by
  let f (t : St) := (t.vs_wlist_bptr_null, t.vs_wlist_type_null, t.vs_wlist_off_null, t.vs_wlist_isize_null, t.vs_wlist_order_null,
    t.vs_wlist_esize_null, t.vs_wlist_name_null, t.vs_wlist_type, t.vs_wlist_off, t.vs_wlist_isize, t.vs_wlist_order, t.vs_wlist_esize, t.vs_wlist_name)
  have h := SFin_tab f M D B L s
  rw [Stab, STable, if_neg h0] at h
  simp only [f, Prod.mk.injEq] at h
  exact h

theorem fill_row (n : Nat) (Y : List Int) (hY : Y.length = n) : ∀ (bs : List (List Int)) (k : Nat), (∀ b ∈ bs, b.length = n) → k < bs.length →
    fill bs.flatten (k * n) Y = (bs.set k Y).flatten := by
  intro bs
  induction bs with
  | nil => intro k _ hk; exact absurd hk (by simp)
  | cons b bs ih =>
    intro k hb hk
    have hbl : b.length = n := hb b (by simp)
    cases k with
    | zero => simp [fill, hY, ← hbl]
    | succ k =>
      have e := ih k (fun x hx => hb x (by simp [hx])) (by simpa using hk)
      simp only [List.flatten_cons, List.set_cons_succ, ← e, fill]
      have e1 : (k + 1) * n = b.length + k * n := by rw [hbl, Nat.succ_mul]; omega
      rw [e1, List.take_append, List.drop_append]
      simp only [Nat.add_sub_cancel_left, Nat.add_assoc, List.take_of_length_le (Nat.le_add_right _ _),
        List.drop_eq_nil_of_le (Nat.le_add_right _ _), List.append_assoc, List.nil_append]

theorem getD_row (n : Nat) : ∀ (bs : List (List Int)) (k t : Nat), (∀ b ∈ bs, b.length = n) → t < n → k < bs.length →
    bs.flatten.getD (k * n + t) 0 = (bs.getD k []).getD t 0 := by
  intro bs
  induction bs with
  | nil => intro k t _ _ hk; exact absurd hk (by simp)
  | cons b bs ih =>
    intro k t hb ht hk
    have hbl : b.length = n := hb b (by simp)
    cases k with
    | zero => simp only [List.flatten_cons, Nat.zero_mul, Nat.zero_add, List.getD_eq_getElem?_getD, List.getElem?_cons_zero, Option.getD_some]
              rw [List.getElem?_append_left (by omega)]
    | succ k =>
      have e := ih k t (fun x hx => hb x (by simp [hx])) ht (by simpa using hk)
      simp only [List.flatten_cons, List.getD_eq_getElem?_getD, List.getElem?_cons_succ] at e ⊢
      rw [List.getElem?_append_right (by rw [hbl, Nat.succ_mul]; omega), ← e]
      congr 2
      rw [hbl, Nat.succ_mul]; omega

theorem gens_getD (g : Int → Int) (l : List Int) (k n : Nat) (h : k + n ≤ l.length) :
    gens (fun t => g (l.getD (k + t) 0)) n = ((l.drop k).take n).map g := by
  induction n with
  | zero => simp [gens]
  | succ n ih =>
    rw [gens_succ, ih (by omega), List.take_succ_eq_append_getElem (by simp; omega), List.map_append]
    simp [List.getD_eq_getElem?_getD, List.getElem?_eq_getElem (show k + n < l.length by omega)]

theorem block4 (n : Nat) (T I O R : List Int) (hT : T.length = n) (hI : I.length = n) (hO : O.length = n) (hR : R.length = n) :
    fill (fill (fill (fill (List.replicate (5 * n) 170) 0 T) (2 * n) I) n O) (3 * n) R = T ++ O ++ I ++ R ++ List.replicate n 170 := by
  generalize hE : List.replicate n (170 : Int) = E
  have hEl : E.length = n := by rw [← hE]; exact List.length_replicate
  have e5 : List.replicate (5 * n) (170 : Int) = [E, E, E, E, E].flatten := by
    rw [← hE]; simp [List.replicate_append_replicate]; omega
  have s1 := fill_row n T hT [E, E, E, E, E] 0 (by simp [hEl]) (by simp)
  have s2 := fill_row n I hI [T, E, E, E, E] 2 (by simp [hEl, hT]) (by simp)
  have s3 := fill_row n O hO [T, E, I, E, E] 1 (by simp [hEl, hT, hI]) (by simp)
  have s4 := fill_row n R hR [T, O, I, E, E] 3 (by simp [hEl, hT, hI, hO]) (by simp)
  rw [Nat.zero_mul] at s1
  rw [Nat.one_mul] at s3
  rw [e5, s1]
  show fill (fill (fill [T, E, E, E, E].flatten (2 * n) I) n O) (3 * n) R = _
  rw [s2]
  show fill (fill [T, E, I, E, E].flatten n O) (3 * n) R = _
  rw [s3]
  show fill [T, O, I, E, E].flatten (3 * n) R = _
  rw [s4]
  simp

theorem gens_congr (f g : Nat → Int) (n : Nat) (h : ∀ t, t < n → f t = g t) : gens f n = gens g n := by
  simp only [gens]
  apply List.map_congr_left
  intro t ht
  exact h t (by simpa using ht)

/-- `esize[t] = (uint16)(order[t] * DFKNTsize(type[t] | DFNT_NATIVE))` -/
def esizes (D : Int → Int) (T R : List Int) (n : Nat) : List Int := gens (fun t => (R.getD t 0 * D (orS (T.getD t 0) 4096)) % 65536) n

theorem block_final (M D : Int → Int) (old : Prop) [Decidable old] (n : Nat) (T I O R : List Int) (hT : T.length = n) (hI : I.length = n)
    (hO : O.length = n) (hR : R.length = n) :
    let b4 := T ++ O ++ I ++ R ++ List.replicate n 170
    let b5 := if old then fill b4 0 (gens (fun t => M (b4.getD (0 + t) 0)) n) else b4
    fill b5 (4 * n) (gens (esz D b5 0 (3 * n)) n) =
      (if old then T.map M else T) ++ O ++ I ++ R ++ esizes D (if old then T.map M else T) R n := by
  intro b4 b5
  have hEl : (List.replicate n (170 : Int)).length = n := List.length_replicate
  have hb5 : b5 = [if old then T.map M else T, O, I, R, List.replicate n 170].flatten := by
    show (if old then fill b4 0 (gens (fun t => M (b4.getD (0 + t) 0)) n) else b4) = _
    have e4 : b4 = [T, O, I, R, List.replicate n 170].flatten := by simp [b4]
    split
    · rw [gens_getD M b4 0 n (by rw [e4]; simp [hT, hO, hI, hR]),
        show (b4.drop 0).take n = T by rw [e4, List.drop_zero]; simp [hT], e4]
      have := fill_row n (T.map M) (by simp [hT]) [T, O, I, R, List.replicate n 170] 0 (by simp [hT, hO, hI, hR]) (by simp)
      rwa [Nat.zero_mul] at this
    · exact e4
  generalize hT' : (if old then T.map M else T) = T' at hb5 ⊢
  have hT'l : T'.length = n := by rw [← hT']; split <;> simp [hT]
  have hrows : ∀ b ∈ [T', O, I, R, List.replicate n 170], b.length = n := by simp [hT'l, hO, hI, hR]
  have eg : gens (esz D b5 0 (3 * n)) n = esizes D T' R n := by
    apply gens_congr
    intro t ht
    have g1 := getD_row n _ 3 t hrows ht (by simp)
    have g2 := getD_row n _ 0 t hrows ht (by simp)
    rw [Nat.zero_mul] at g2
    simp only [esz, hb5, g1, g2]
    rfl
  rw [eg, hb5, fill_row n _ (by simp [esizes]) _ 4 hrows (by simp)]
  simp

theorem SF7_bptr (B : List Int) (s : St) (n : Nat) : (SF7 B s n).vs_wlist_bptr = (SF5 B s n).vs_wlist_bptr := rfl

theorem SF5_bptr (B : List Int) (s : St) (n : Nat) : (SF5 B s n).vs_wlist_bptr =
    fill (fill (fill (fill (List.replicate (5 * n) 170) 0 ((vals B 10 2 n).map w16)) (2 * n) ((vals B (10 + 2 * n) 2 n).map idv)) n
      ((vals B (10 + 2 * n + 2 * n) 2 n).map idv)) (3 * n) ((vals B (10 + 2 * n + 2 * n + 2 * n) 2 n).map idv) := rfl

theorem SEs_bptr (D : Int → Int) (s : St) (n : Nat) (h0 : n ≠ 0) :
    (SEs D s n).vs_wlist_bptr = fill s.vs_wlist_bptr (4 * n) (gens (esz D s.vs_wlist_bptr 0 (3 * n)) n) := by
  rw [SEs, if_neg h0]; rfl

theorem SOld_bptr (M : Int → Int) (s : St) (n : Nat) (h0 : n ≠ 0) :
    (SOld M s n).vs_wlist_bptr = (if s.vs_version ≤ 2 then fill s.vs_wlist_bptr 0 (gens (fun t => M (s.vs_wlist_bptr.getD (0 + t) 0)) n) else s.vs_wlist_bptr) := by
  simp only [SOld, if_neg h0]
  split
  · rfl
  · rfl

theorem SFin_block (M D : Int → Int) (B : List Int) (L : Nat) (s : St) (h0 : nfN B ≠ 0) :
    (SFin M D B L s).vs_wlist_bptr =
      (if w16 (be16 B (L - 5)) ≤ 2 then (typesAt B).map M else typesAt B) ++ offsAt B ++ isizesAt B ++ ordersAt B ++
        esizes D (if w16 (be16 B (L - 5)) ≤ 2 then (typesAt B).map M else typesAt B) (ordersAt B) (nfN B) := by
  have hb4 : (Smid B L s).vs_wlist_bptr = typesAt B ++ offsAt B ++ isizesAt B ++ ordersAt B ++ List.replicate (nfN B) 170 := by
    rw [mid_proj (·.vs_wlist_bptr), Stab, STable, if_neg h0, SF7_bptr, SF5_bptr, map_idv, map_idv, map_idv]
    exact block4 (nfN B) (typesAt B) (isizesAt B) (offsAt B) (ordersAt B) (by simp [typesAt]) (by simp [isizesAt]) (by simp [offsAt])
      (by simp [ordersAt])
  have hv : (SV4 B (Smid B L s) (pEx B + 8)).vs_version = w16 (be16 B (L - 5)) := by
    rw [SV4_proj (·.vs_version) B _ _, Smid_version]
  have hbv : (SV4 B (Smid B L s) (pEx B + 8)).vs_wlist_bptr = (Smid B L s).vs_wlist_bptr :=
    SV4_proj (·.vs_wlist_bptr) B _ _
  have key := block_final M D (w16 (be16 B (L - 5)) ≤ 2) (nfN B) (typesAt B) (isizesAt B) (offsAt B) (ordersAt B) (by simp [typesAt]) (by simp [isizesAt])
    (by simp [offsAt]) (by simp [ordersAt])
  simp only at key
  rw [SFin, Epi, ← Smid, SEs_bptr D _ _ h0, SOld_bptr M _ _ h0, hv, hbv, hb4]
  exact key

def cstr (b : Bytes) : Bytes := b.takeWhile (· ≠ 0)

theorem cstrInto_eq (rec : Bytes) (tail : List Int) (p l : Nat) (old : List Int) (h : p + l ≤ rec.length) :
    cstrInto (bytesI rec ++ tail) p l old = bytesI (cstr ((rec.drop p).take l)) ++ 0 :: old.drop ((cstr ((rec.drop p).take l)).length + 1) := by
  simp only [cstrInto, cstr, drop_take_bytesI rec tail p l h, takeWhile_bytesI, bytesI_length]

theorem zipFields_length : ∀ (n : Nat) (T : List Int) (I O R : List Nat) (N : List Bytes), T.length = n → I.length = n → O.length = n → R.length = n →
    N.length = n → (zipFields T I O R N).length = n ∧ (zipFields T I O R N).map (·.type) = T ∧ (zipFields T I O R N).map (·.isize) = I ∧
      (zipFields T I O R N).map (·.off) = O ∧ (zipFields T I O R N).map (·.order) = R ∧ (zipFields T I O R N).map (·.name) = N := by
  intro n
  induction n with
  | zero =>
    intro T I O R N h1 h2 h3 h4 h5
    have := List.eq_nil_of_length_eq_zero h1; subst this
    have := List.eq_nil_of_length_eq_zero h2; subst this
    have := List.eq_nil_of_length_eq_zero h3; subst this
    have := List.eq_nil_of_length_eq_zero h4; subst this
    have := List.eq_nil_of_length_eq_zero h5; subst this
    simp [zipFields]
  | succ n ih =>
    intro T I O R N h1 h2 h3 h4 h5
    match T, I, O, R, N, h1, h2, h3, h4, h5 with
    | t :: T, i :: I, o :: O, r :: R, nm :: N, h1, h2, h3, h4, h5 =>
      obtain ⟨a, b, c, d, e, f⟩ := ih T I O R N (by simpa using h1) (by simpa using h2) (by simpa using h3) (by simpa using h4) (by simpa using h5)
      simp only [zipFields, List.length_cons, List.map_cons, a, b, c, d, e, f]
      exact ⟨trivial, trivial, trivial, trivial, trivial, trivial⟩

theorem namesAt_length (rec : Bytes) (B : List Int) (p0 n : Nat) : (namesAt rec B p0 n).length = n := by simp [namesAt]

theorem namesAt_getElem (rec : Bytes) (B : List Int) (p0 n t : Nat) (ht : t < n) (hend : namePos B p0 n ≤ rec.length) :
    (namesAt rec B p0 n)[t]'(by rw [namesAt_length]; exact ht) = (rec.drop (namePos B p0 t + 2)).take (nameLen B p0 t) ∧
      ((rec.drop (namePos B p0 t + 2)).take (nameLen B p0 t)).length = nameLen B p0 t := by
  have hmono := namePos_mono B p0 (t + 1) n (by omega)
  have hstep : namePos B p0 (t + 1) = namePos B p0 t + 2 + nameLen B p0 t := rfl
  constructor
  · simp [namesAt]
  · simp only [List.length_take, List.length_drop]; omega

theorem rowsAt_names (rec : Bytes) (tail : List Int) (p0 n : Nat) (hend : namePos (bytesI rec ++ tail) p0 n ≤ rec.length) :
    rowsAt (bytesI rec ++ tail) p0 (List.replicate n []) n =
      (namesAt rec (bytesI rec ++ tail) p0 n).map fun nm => bytesI (cstr nm) ++ 0 :: List.replicate (nm.length - (cstr nm).length) 170 := by
  simp only [rowsAt, List.drop_replicate, Nat.sub_self, List.replicate_zero, List.append_nil, namesAt, List.map_map]
  apply List.map_congr_left
  intro t ht
  have ht' : t < n := by simpa using ht
  have hmono := namePos_mono (bytesI rec ++ tail) p0 (t + 1) n (by omega)
  have hstep : namePos (bytesI rec ++ tail) p0 (t + 1) = namePos (bytesI rec ++ tail) p0 t + 2 + nameLen (bytesI rec ++ tail) p0 t := rfl
  simp only [Function.comp]
  rw [SStr_arg rec tail _ _ (by omega)]
  show bytesI (cstr _) ++ 0 :: List.replicate (_ - (cstr _).length) 170 = _
  congr 3
  simp only [List.length_take, List.length_drop]; omega

theorem vals32_attrs (B : List Int) (p n : Nat) : vals32 B p 8 n = (attrsAt B p n).map (·.findex) := by
  simp [vals32, attrsAt]

theorem vals_atag (B : List Int) (p n : Nat) : vals B (p + 4) 8 n = ints ((attrsAt B p n).map (·.atag)) := by
  simp only [vals, attrsAt, ints, List.map_map]
  apply List.map_congr_left
  intro t _
  simp only [Function.comp, be16_eq]
  congr 2
  omega

theorem vals_aref (B : List Int) (p n : Nat) : vals B (p + 6) 8 n = ints ((attrsAt B p n).map (·.aref)) := by
  simp only [vals, attrsAt, ints, List.map_map]
  apply List.map_congr_left
  intro t _
  simp only [Function.comp, be16_eq]
  congr 2
  omega

theorem attrsAt_length (B : List Int) (p n : Nat) : (attrsAt B p n).length = n := by simp [attrsAt]

end H4.Lemmas.C07Fn3
