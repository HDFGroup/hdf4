import H4.GRegion
/-! C09, byte layer: a buffer cut into `n`-byte pieces (`chunks`) and `DFKconvert` on it (`dfk`: every piece copied or
    byte-reversed by `H4.Conv.tr`): cutting and flattening are inverse on buffers of whole pieces, `dfk` keeps the length and is its
    own inverse. -/
namespace H4.GRegion

theorem chunksAux_fuel (n : Nat) (hn : 0 < n) : ∀ (k k' : Nat) (bs : List Byte), bs.length ≤ k → bs.length ≤ k' →
    chunksAux n k bs = chunksAux n k' bs := by
  intro k
  induction k with
  | zero =>
    intro k' bs h _
    have : bs = [] := List.eq_nil_of_length_eq_zero (by omega)
    subst this
    cases k' <;> simp [chunksAux]
  | succ k ih =>
    intro k' bs h h'
    cases bs with
    | nil => cases k' <;> simp [chunksAux]
    | cons b t =>
      cases k' with
      | zero => simp at h'
      | succ k' =>
        simp only [chunksAux, List.isEmpty_cons, Bool.false_eq_true, if_false, List.cons.injEq, true_and]
        apply ih <;> simp only [List.length_drop, List.length_cons] at * <;> omega

theorem chunks_nil (n : Nat) : chunks n [] = [] := by simp [chunks, chunksAux]

theorem chunks_cons (n : Nat) (hn : 0 < n) (b : Byte) (t : List Byte) :
    chunks n (b :: t) = (b :: t).take n :: chunks n ((b :: t).drop n) := by
  unfold chunks
  simp only [List.length_cons, chunksAux, List.isEmpty_cons, Bool.false_eq_true, if_false, List.cons.injEq, true_and]
  apply chunksAux_fuel n hn <;> simp only [List.length_drop, List.length_cons] <;> omega

theorem flatten_chunks (n : Nat) (hn : 0 < n) : ∀ (k : Nat) (bs : List Byte), bs.length ≤ k → (chunks n bs).flatten = bs := by
  intro k
  induction k with
  | zero =>
    intro bs h
    have : bs = [] := List.eq_nil_of_length_eq_zero (by omega)
    subst this; simp [chunks_nil]
  | succ k ih =>
    intro bs h
    cases bs with
    | nil => simp [chunks_nil]
    | cons b t =>
      rw [chunks_cons n hn, List.flatten_cons, ih _ (by simp only [List.length_drop, List.length_cons] at *; omega)]
      exact List.take_append_drop n (b :: t)

theorem chunks_flatten (n : Nat) (hn : 0 < n) : ∀ (L : List (List Byte)), (∀ c ∈ L, c.length = n) →
    chunks n L.flatten = L := by
  intro L
  induction L with
  | nil => intro _; simp [chunks_nil]
  | cons c L ih =>
    intro h
    have hc : c.length = n := h c (by simp)
    cases c with
    | nil => simp at hc; omega
    | cons b t =>
      simp only [List.flatten_cons, List.cons_append]
      rw [chunks_cons n hn]
      have h1 : (b :: (t ++ L.flatten)).take n = b :: t := by
        rw [← List.cons_append, List.take_append_of_le_length (by omega), List.take_of_length_le (by omega)]
      have h2 : (b :: (t ++ L.flatten)).drop n = L.flatten := by
        rw [← List.cons_append, List.drop_append_of_le_length (by omega), List.drop_of_length_le (by omega)]
        simp
      rw [h1, h2, ih (fun c hc => h c (by simp [hc]))]

theorem chunks_uniform (n : Nat) (hn : 0 < n) : ∀ (m : Nat) (bs : List Byte), bs.length = m * n →
    (chunks n bs).length = m ∧ ∀ c ∈ chunks n bs, c.length = n := by
  intro m
  induction m with
  | zero =>
    intro bs h
    have : bs = [] := List.eq_nil_of_length_eq_zero (by omega)
    subst this; simp [chunks_nil]
  | succ m ih =>
    intro bs h
    cases bs with
    | nil => simp [Nat.succ_mul] at h; omega
    | cons b t =>
      rw [chunks_cons n hn]
      have hd : ((b :: t).drop n).length = m * n := by rw [List.length_drop, h, Nat.succ_mul]; omega
      obtain ⟨i1, i2⟩ := ih _ hd
      refine ⟨by simp [i1], ?_⟩
      intro c hc
      simp only [List.mem_cons] at hc
      rcases hc with rfl | hc
      · rw [List.length_take, h, Nat.succ_mul]; omega
      · exact i2 c hc

theorem tr_length (swap : Bool) (e : List Byte) : (H4.Conv.tr swap e).length = e.length := by
  cases swap <;> simp [H4.Conv.tr]

theorem tr_tr (swap : Bool) (e : List Byte) : H4.Conv.tr swap (H4.Conv.tr swap e) = e := by
  cases swap <;> simp [H4.Conv.tr]

theorem dfk_eq (csz : Nat) (swap : Bool) (bs : List Byte) :
    dfk csz swap bs = ((chunks csz bs).map (H4.Conv.tr swap)).flatten := by
  simp [dfk, List.flatMap_def]

theorem dfk_dfk (csz : Nat) (hc : 0 < csz) (swap : Bool) (m : Nat) (bs : List Byte) (h : bs.length = m * csz) :
    dfk csz swap (dfk csz swap bs) = bs := by
  obtain ⟨_, hu⟩ := chunks_uniform csz hc m bs h
  rw [dfk_eq, dfk_eq, chunks_flatten csz hc]
  · rw [List.map_map]
    have : (H4.Conv.tr swap ∘ H4.Conv.tr swap) = id := by funext e; simp [tr_tr]
    rw [this, List.map_id, flatten_chunks csz hc _ _ (Nat.le_refl _)]
  · intro c hc'
    simp only [List.mem_map] at hc'
    obtain ⟨c0, hc0, rfl⟩ := hc'
    rw [tr_length, hu c0 hc0]

theorem dfk_length (csz : Nat) (hc : 0 < csz) (swap : Bool) (bs : List Byte) : (dfk csz swap bs).length = bs.length := by
  have := flatten_chunks csz hc _ bs (Nat.le_refl _)
  rw [dfk_eq]
  conv => rhs; rw [← this]
  simp only [List.length_flatten, List.map_map]
  congr 1
  apply List.map_congr_left; intro c _; simp [tr_length]

end H4.GRegion
