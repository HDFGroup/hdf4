import H4.VGroup
import H4.Lemmas.Format
import H4.Lemmas.VGroupBytes
import H4.Lemmas.UnpackLayout
/-! The readers `H4.VGroup.vunpackvg` and `H4.Format.vunpackvs` are inverted by positions in the record: a reader that accepts at position `p` has found its field
    inside the record and returns what the buffer `bytesI rec ++ tail` holds there (`ReadsAt`). -/
namespace H4.Lemmas.C08Fn3
open H4 H4.VGroup H4.C2L
open H4.Lemmas.C08Fn (bytesI bytesI_length bytesI_cons)

theorem b8_rec (rec : Bytes) (tail : List Int) (p : Nat) (h : p < rec.length) :
    b8 (bytesI rec ++ tail) p = ((rec[p]).toNat : Int) := by
  have e : (bytesI rec ++ tail).getD p 0 = ((rec[p]).toNat : Int) := by
    rw [List.getD_eq_getElem?_getD, List.getElem?_append_left (by simpa using h)]
    simp [bytesI, h]
  have := (rec[p]).toNat_lt
  simp only [b8, e]; omega

theorem be16N_rec (rec : Bytes) (tail : List Int) (p : Nat) (h : p + 2 ≤ rec.length) :
    be16N (bytesI rec ++ tail) p = (rec[p]'(by omega)).toNat * 256 + (rec[p + 1]'(by omega)).toNat := by
  simp only [be16N, be16, b8_rec rec tail p (by omega), b8_rec rec tail (p + 1) (by omega)]
  omega

theorem be32N_rec (rec : Bytes) (tail : List Int) (p : Nat) (h : p + 4 ≤ rec.length) :
    be32N (bytesI rec ++ tail) p = (((rec[p]'(by omega)).toNat * 256 + (rec[p + 1]'(by omega)).toNat) * 256 + (rec[p + 2]'(by omega)).toNat) * 256
      + (rec[p + 3]'(by omega)).toNat := by
  simp only [be32N, be32, b8_rec rec tail p (by omega), b8_rec rec tail (p + 1) (by omega), b8_rec rec tail (p + 2) (by omega),
    b8_rec rec tail (p + 3) (by omega)]
  omega

def ReadsAt {α : Type} (rec : Bytes) (P : Bytes → Option (α × Bytes)) (nx : Nat → Nat) (val : Nat → α) : Prop :=
  ∀ p x r, p ≤ rec.length → P (rec.drop p) = some (x, r) → nx p ≤ rec.length ∧ x = val p ∧ r = rec.drop (nx p)

theorem ReadsAt.run {α : Type} {rec : Bytes} {P : Bytes → Option (α × Bytes)} {nx : Nat → Nat} {val : Nat → α} (h : ReadsAt rec P nx val)
    {p : Nat} {x : α} {r : Bytes} (hp : p ≤ rec.length) (e : P (rec.drop p) = some (x, r)) :
    nx p ≤ rec.length ∧ x = val p ∧ r = rec.drop (nx p) := h p x r hp e

theorem ReadsAt.map {α β : Type} {rec : Bytes} {P : Bytes → Option (α × Bytes)} {nx : Nat → Nat} {val : Nat → α} (h : ReadsAt rec P nx val) (f : α → β) :
    ReadsAt rec (fun b => (P b).map fun a => (f a.1, a.2)) nx (fun p => f (val p)) := by
  intro p x r hp e
  simp only [Option.map_eq_some_iff] at e
  obtain ⟨⟨y, r'⟩, h1, h2⟩ := e
  obtain ⟨a, rfl, rfl⟩ := h p y r' hp h1
  injection h2 with h3 h4
  exact ⟨a, h3.symm, h4.symm⟩

def posN (nx : Nat → Nat) : Nat → Nat → Nat
  | 0, p => p
  | t + 1, p => posN nx t (nx p)

theorem getU16_inv (rec : Bytes) (tail : List Int) : ReadsAt rec getU16 (· + 2) (be16N (bytesI rec ++ tail)) := by
  intro p x r _ h
  by_cases hl : p + 2 ≤ rec.length
  · rw [List.drop_eq_getElem_cons (by omega), List.drop_eq_getElem_cons (show p + 1 < rec.length by omega)] at h
    injection h with h; injection h with h1 h2
    exact ⟨hl, by rw [be16N_rec rec tail p hl, ← h1], h2.symm⟩
  · have hs : (rec.drop p).length < 2 := by simp only [List.length_drop]; omega
    generalize rec.drop p = l at h hs
    match l, h, hs with
    | [], h, _ => nomatch h
    | [_], h, _ => nomatch h
    | _ :: _ :: _, _, hs => simp at hs; omega

theorem getU32_inv (rec : Bytes) (tail : List Int) : ReadsAt rec getU32 (· + 4) (be32N (bytesI rec ++ tail)) := by
  intro p x r _ h
  by_cases hl : p + 4 ≤ rec.length
  · rw [List.drop_eq_getElem_cons (by omega), List.drop_eq_getElem_cons (show p + 1 < rec.length by omega),
      List.drop_eq_getElem_cons (show p + 1 + 1 < rec.length by omega), List.drop_eq_getElem_cons (show p + 1 + 1 + 1 < rec.length by omega)] at h
    injection h with h; injection h with h1 h2
    exact ⟨hl, by rw [be32N_rec rec tail p hl, ← h1], h2.symm⟩
  · have hs : (rec.drop p).length < 4 := by simp only [List.length_drop]; omega
    generalize rec.drop p = l at h hs
    match l, h, hs with
    | [], h, _ => nomatch h
    | [_], h, _ => nomatch h
    | [_, _], h, _ => nomatch h
    | [_, _, _], h, _ => nomatch h
    | _ :: _ :: _ :: _ :: _, _, hs => simp at hs; omega

/-- `R` is any reader that unfolds like `get16s` -/
theorem ReadsAt.rep {α : Type} {rec : Bytes} {P : Bytes → Option (α × Bytes)} {nx : Nat → Nat} {val : Nat → α} (h : ReadsAt rec P nx val)
    (R : Nat → Bytes → Option (List α × Bytes)) (h0 : ∀ r, R 0 r = some ([], r))
    (hs : ∀ n r, R (n + 1) r = (P r).bind fun a => (R n a.2).bind fun b => some (a.1 :: b.1, b.2)) (n : Nat) :
    ReadsAt rec (R n) (posN nx n) (fun p => (List.range n).map fun t => val (posN nx t p)) := by
  induction n with
  | zero =>
    intro p xs r hp e
    rw [h0] at e
    injection e with e; injection e with e1 e2
    exact ⟨hp, by rw [← e1]; rfl, e2.symm⟩
  | succ n ih =>
    intro p xs r hp e
    rw [hs, Option.bind_eq_some_iff] at e
    obtain ⟨⟨x, r1⟩, e1, e⟩ := e
    rw [Option.bind_eq_some_iff] at e
    obtain ⟨⟨ys, r2⟩, e2, e3⟩ := e
    injection e3 with e3; injection e3 with e4 e5
    obtain ⟨a1, rfl, rfl⟩ := h.run hp e1
    obtain ⟨b1, rfl, rfl⟩ := ih.run a1 e2
    refine ⟨b1, ?_, e5.symm⟩
    rw [← e4]
    simp only [List.range_succ_eq_map, List.map_cons, List.map_map]
    rfl

theorem posN_add (k n : Nat) : posN (· + k) n = (· + k * n) := by
  funext p
  induction n generalizing p with
  | zero => rfl
  | succ n ih => show posN (· + k) n (p + k) = _; rw [ih, Nat.mul_succ]; omega

def valsN (B : List Int) (p st m : Nat) : List Nat := (List.range m).map fun j => be16N B (p + st * j)

theorem vals_eq (B : List Int) (p st m : Nat) : vals B p st m = ints (valsN B p st m) := by
  simp [vals, valsN, ints, be16_eq]

@[simp] theorem valsN_length (B : List Int) (p st m : Nat) : (valsN B p st m).length = m := by simp [valsN]

theorem getU16s_inv (rec : Bytes) (tail : List Int) (n : Nat) :
    ReadsAt rec (getU16s n) (· + 2 * n) (fun p => valsN (bytesI rec ++ tail) p 2 n) := by
  have := (getU16_inv rec tail).rep Format.get16s (fun _ => rfl) (fun n r => by rw [← Format.get16_eq_getU16]; rfl) n
  simp only [posN_add] at this
  exact fun p x r hp e => this p x r hp ((Format.get16s_eq_getU16s n _).trans e)

def nameAt (rec : Bytes) (p l : Nat) : Bytes := cstr ((rec.drop p).take l)

theorem map_fst_zip_eq (a b : List Nat) (h : a.length = b.length) : (a.zip b).map (·.1) = a := by
  have := List.map_fst_zip (l₁ := a) (l₂ := b) (by omega)
  simpa using this

theorem map_snd_zip_eq (a b : List Nat) (h : a.length = b.length) : (a.zip b).map (·.2) = b := by
  have := List.map_snd_zip (l₁ := a) (l₂ := b) (by omega)
  simpa using this

theorem takeWhile_bytesI (b : Bytes) : (bytesI b).takeWhile (· ≠ 0) = bytesI (b.takeWhile (· ≠ 0)) := by
  induction b with
  | nil => rfl
  | cons x xs ih =>
    by_cases hx : x = 0
    · subst hx; simp [bytesI]
    · have hx' : ((x.toNat : Int) ≠ 0) := by
        intro e; apply hx; exact UInt8.toNat_inj.mp (by simpa using e)
      simp only [bytesI_cons, List.takeWhile_cons, ne_eq, hx', hx, not_false_eq_true, decide_true, if_true, ih]

theorem drop_take_bytesI (rec : Bytes) (tail : List Int) (p l : Nat) (h : p + l ≤ rec.length) :
    ((bytesI rec ++ tail).drop p).take l = bytesI ((rec.drop p).take l) := by
  rw [List.drop_append_of_le_length (by simpa using (by omega : p ≤ rec.length)), List.take_append_of_le_length (by simp; omega)]
  simp [bytesI, List.map_drop, List.map_take]

theorem SStr_arg (rec : Bytes) (tail : List Int) (p l : Nat) (hl : p + l ≤ rec.length) :
    strAt (bytesI rec ++ tail) p l = bytesI (nameAt rec p l) ++ 0 :: List.replicate (l - (nameAt rec p l).length) 170 := by
  simp only [strAt, nameAt, cstr, drop_take_bytesI rec tail p l hl, takeWhile_bytesI, bytesI_length]

end H4.Lemmas.C08Fn3
