import H4.Lemmas.DDRefine
import H4.Lemmas.DDRefs
import H4.Lemmas.DDCount
/-! # Refinement, continued: the read-only calls, the caching switches, what `HTPstart` rebuilds from the disk image, close/reopen -/
namespace H4.DD
open H4.Gen.Hdf

theorem count_abs {s : File} (P : Nat → Bool) (hP : ∀ t, P t = true → t ≠ 1) :
    (s.slots.filter (fun d => P d.tag)).length = (s.abs.filter (fun e => P e.1)).length := by
  rw [filter_eq_filter_liveOf (p := fun d => P d.tag) (fun d hp => (isLive_iff d).mpr (hP _ hp))]
  unfold File.abs absl
  rw [List.filter_map, List.length_map]
  rfl

theorem number_refines (cfg : Cfg) (s : File) {t : Nat} (h1 : t ≠ 1) :
    eraseOut (.number t) (step cfg s (.number t)).1 = (specStep cfg s.abs (.number t)).1 := by
  simp only [step, specStep, eraseOut, hnumber]
  congr 1
  by_cases h0 : t = 0
  · subst h0
    rw [htiCountDD_wild]
    simp only [if_true]
    have := count_abs (s := s) (fun t => !(t == DFTAG_NULL || t == DFTAG_FREE)) (by
      intro t ht; simp [DFTAG_NULL] at ht; exact ht.1)
    rw [this]
    congr 1
    apply List.filter_congr
    intro e he
    obtain ⟨d, hd, rfl⟩ := abs_mem_key he
    have := (isLive_iff d).mp (mem_liveOf.mp hd).2
    simp [ent, DFTAG_NULL, this, bne]
  · rw [if_neg h0]
    rw [htiCountDD_count cfg s h0 h1]
    exact count_abs (s := s) (fun x => x == t || (mkSpecial t != DFTAG_NULL && x == mkSpecial t)) (by
      intro x hx
      simp [DFTAG_NULL] at hx
      rcases hx with hx | ⟨h2, hx⟩
      · omega
      · omega)

theorem findMatch_ent (st sr : Nat) (d : DD) : findMatch st sr d = (isLive d && entMatch st sr (ent d)) := by
  simp [findMatch, entMatch, ent, Bool.and_assoc]

theorem exist_refines (cfg : Cfg) {s : File} (h : Inv cfg s) (t r : Nat) (hg : ¬ (t = 1 ∧ r = 0)) : Refines cfg s (.exist t r) := by
  simp only [Refines, step, specStep, hexist, eraseOut]
  by_cases hex : t ≠ 0 ∧ r ≠ 0
  · rw [hfind_exact s hex.1 hex.2, if_pos hex]
    refine ⟨s, rfl, h, ?_, List.Perm.refl _⟩
    cases hq : lookupPos s t r with
    | none =>
      have hgn : specGet s.abs (baseTag t, r) = none := specGet_none (lookupPos_none h.wf hq)
      rw [hgn]; rfl
    | some q =>
      obtain ⟨hv, hl, hk⟩ := lookupPos_some hq
      have hgn : specGet s.abs (baseTag t, r) = some (ent (getDD s.blocks q)) := by
        rw [← hk]; exact specGet_some h.wf.wfl.nodup (getDD_mem_live hv hl)
      rw [hgn]; rfl
  · have hwild : t = 0 ∨ r = 0 := by omega
    have h1 : t ≠ 1 := by omega
    rw [hfind_start, htiFindDD_fwd s hwild h1, if_neg hex]
    simp only
    cases hs : scanFwd (fwdPred t r) s.blocks 0 0 with
    | none =>
      refine ⟨s, rfl, h, ?_, List.Perm.refl _⟩
      have hnone := scanFwd_none hs
      rw [sufFrom_zero_zero, filter_fwdPred hwild h1, List.filter_eq_nil_iff] at hnone
      have : s.abs.any (entMatch t r) = false := by
        rw [Bool.eq_false_iff]
        intro hany
        rw [List.any_eq_true] at hany
        obtain ⟨e, he, hm⟩ := hany
        obtain ⟨d, hd, rfl⟩ := abs_mem_key he
        obtain ⟨hmem, hl⟩ := mem_liveOf.mp hd
        exact hnone d hmem (by rw [findMatch_ent, hl, hm]; rfl)
      simp [this]
    | some q =>
      refine ⟨s, rfl, h, ?_, List.Perm.refl _⟩
      obtain ⟨hv, hp, _⟩ := scanFwd_some hs
      rw [fwdPred_eq hwild h1, findMatch_ent] at hp
      simp only [Bool.and_eq_true] at hp
      have : s.abs.any (entMatch t r) = true := by
        rw [List.any_eq_true]
        exact ⟨ent (getDD s.blocks q), List.mem_map.mpr ⟨_, getDD_mem_live hv hp.1, rfl⟩, hp.2⟩
      simp [this]

theorem newref_inv (cfg : Cfg) {s : File} (h : Inv cfg s) : Inv cfg (hnewref s).2 ∧ (hnewref s).2.slots = s.slots := by
  unfold hnewref
  split
  · exact ⟨h.of_same rfl rfl rfl rfl (Nat.le_refl _) rfl rfl (Nat.le_succ _), rfl⟩
  · exact ⟨h, rfl⟩

theorem tagnewref_inv (cfg : Cfg) {s : File} (h : Inv cfg s) (t : Nat) :
    Inv cfg (htagnewref cfg s t).2 ∧ (htagnewref cfg s t).2.slots = s.slots := by
  obtain ⟨hwf, hS, hm, _⟩ := htagnewref_spec cfg h.wf t
  exact ⟨h.of_scal hS hwf (Nat.le_of_eq hm.symm), hS.slots⟩

theorem htpSync_inv (cfg : Cfg) {s : File} (h : Inv cfg s) : Inv cfg (htpSync s) ∧ (htpSync s).slots = s.slots := by
  have hb := (htpSync_spec h.disk).1
  have hdv : dview (htpSync s).blocks = dview s.blocks := by rw [hb]; exact dview_map_clean _
  have hsl : (htpSync s).slots = s.slots := slotsOf_congr hdv
  refine ⟨⟨WF_of_dview h.wf hdv rfl rfl, htpSync_DiskOK h.disk, ?_⟩, hsl⟩
  intro hf d hd
  rw [live_eq, hsl] at hd
  exact h.maxref hf d hd

theorem hiSync_inv (cfg : Cfg) {s : File} (h : Inv cfg s) : Inv cfg (hiSync s) ∧ (hiSync s).slots = s.slots := by
  unfold hiSync
  split
  · obtain ⟨hi, hsl⟩ := htpSync_inv cfg h
    refine ⟨⟨WF_of_dview hi.wf rfl rfl rfl, ?_, hi.maxref⟩, hsl⟩
    have := hiSync_DiskOK h.disk
    unfold hiSync at this
    rename_i hc
    rw [if_pos hc] at this
    exact this
  · exact ⟨h, rfl⟩

theorem no_dirty_of_not_cached {s : File} (h : DiskOK s) (hc : s.cache = false ∨ s.fdirty = false) :
    ∀ b ∈ s.blocks, b.dirty = false := by
  intro b hb
  cases hd : b.dirty with
  | false => rfl
  | true =>
    have := h.dirtyflag b hb hd
    rcases hc with hc | hc <;> simp [hc] at this

theorem hiSync_clean {s : File} (h : DiskOK s) (hc : s.cache = true) : ∀ b ∈ (hiSync s).blocks, b.dirty = false := by
  unfold hiSync
  by_cases hf : s.fdirty = true
  · rw [if_pos ⟨hc, hf⟩]
    intro b hb
    have hbb : b ∈ (htpSync s).blocks := hb
    rw [(htpSync_spec h).1] at hbb
    obtain ⟨b0, _, rfl⟩ := List.mem_map.mp hbb
    rfl
  · rw [if_neg (by simp [hf])]
    have hf' : s.fdirty = false := Bool.eq_false_iff.mpr hf
    exact no_dirty_of_not_cached h (Or.inr hf')

theorem hcache_inv (cfg : Cfg) {s : File} (h : Inv cfg s) (on : Bool) :
    Inv cfg (hcache s on) ∧ (hcache s on).slots = s.slots := by
  unfold hcache
  by_cases hc : on = false ∧ s.cache = true
  · simp only [hc, and_self, if_true]
    obtain ⟨hi, hsl⟩ := hiSync_inv cfg h
    have hcl := hiSync_clean h.disk hc.2
    refine ⟨⟨WF_of_dview hi.wf rfl rfl rfl, ?_, hi.maxref⟩, hsl⟩
    refine ⟨hi.disk.len, hi.disk.clean, hi.disk.chain, hi.disk.bound, ?_⟩
    intro b hb hd
    have := hcl b hb
    rw [this] at hd; cases hd
  · rw [if_neg hc]
    refine ⟨⟨WF_of_dview h.wf rfl rfl rfl, ?_, h.maxref⟩, rfl⟩
    refine ⟨h.disk.len, h.disk.clean, h.disk.chain, h.disk.bound, ?_⟩
    intro b hb hd
    have := h.disk.dirtyflag b hb hd
    show on = true ∧ s.fdirty = true
    refine ⟨?_, this.2⟩
    cases on with
    | true => rfl
    | false => exact absurd ⟨rfl, this.1⟩ hc

theorem registerAll_spec_aux : ∀ (rest A : List DD) (acc : Tags), WFLive A acc →
    (∀ d ∈ liveOf rest, ((2 ≤ d.tag ∧ d.tag < 65536) ∧ (1 ≤ d.ref ∧ d.ref < 65536)) ∧ okOL d) →
    ((liveOf rest ++ A).map keyOf).Nodup →
    ∃ tags', registerAll acc rest = some tags' ∧ WFLive ((liveOf rest).reverse ++ A) tags'
  | [], _, acc, h, _, _ => ⟨acc, rfl, h⟩
  | d :: rest, A, acc, h, hok, hn => by
    by_cases hdt : d.tag = DFTAG_NULL
    · have hdead : isLive d = false := by simp [isLive, hdt]
      rw [liveOf_cons_dead hdead] at hok hn ⊢
      rw [show registerAll acc (d :: rest) = registerAll acc rest by simp [registerAll, hdt]]
      exact registerAll_spec_aux rest A acc h hok hn
    · have hlive : isLive d = true := by simp [isLive]; exact hdt
      rw [liveOf_cons_live hlive] at hok hn ⊢
      obtain ⟨hnot, hn'⟩ := List.nodup_cons.mp hn
      obtain ⟨hr, hol⟩ := hok d List.mem_cons_self
      obtain ⟨tags', hreg, hw⟩ := h.insert hr.1 hr.2 (fun hm => hnot (List.mem_map.mpr
        (let ⟨x, hx, hk⟩ := List.mem_map.mp hm; ⟨x, List.mem_append_right _ hx, hk⟩))) hol
      rw [show registerAll acc (d :: rest) = registerAll tags' rest by simp [registerAll, hdt, hreg]]
      obtain ⟨t2, h2, hw2⟩ := registerAll_spec_aux rest (d :: A) tags' hw (fun x hx => hok x (List.mem_cons_of_mem _ hx))
        ((List.perm_middle.map keyOf).nodup_iff.mpr hn)
      exact ⟨t2, h2, by rw [List.reverse_cons, List.append_assoc]; exact hw2⟩

theorem registerAll_spec {l : List DD} {tags0 : Tags} (hl : WFl l tags0) :
    ∃ tags', registerAll [] l = some tags' ∧ WFl l tags' := by
  obtain ⟨tags', hreg, hw⟩ := registerAll_spec_aux l [] []
    WFLive.nil
    (fun d hd => ⟨hl.live_ok d hd, hl.offlen d hd⟩) (by rw [List.append_nil]; exact hl.nodup)
  rw [List.append_nil] at hw
  exact ⟨tags', hreg, WFl_iff.mpr (hw.perm (List.reverse_perm _).symm)⟩

theorem foldl_le {α} (f : Nat → α → Nat) (hf : ∀ e a, e ≤ f e a) : ∀ (l : List α) (e : Nat), e ≤ l.foldl f e
  | [], _ => Nat.le_refl _
  | a :: t, e => Nat.le_trans (hf e a) (foldl_le f hf t (f e a))

theorem foldl_reaches {α} (f : Nat → α → Nat) (hf : ∀ e a, e ≤ f e a) (P : α → Nat → Prop) (hP : ∀ e a, P a (f e a))
    (hup : ∀ a e e', e ≤ e' → P a e → P a e') : ∀ (l : List α) (e : Nat), ∀ a ∈ l, P a (l.foldl f e)
  | a :: t, e, x, hx => by
    rcases List.mem_cons.mp hx with rfl | hx
    · exact hup x _ _ (foldl_le f hf t (f e x)) (hP e x)
    · exact foldl_reaches f hf P hP hup t (f e a) x hx

theorem endOff_spec (blocks : List Block) :
    (∀ b ∈ blocks, b.myoff + (NDDS_SZ + OFFSET_SZ) + b.dds.length * DD_SZ ≤ endOff blocks) ∧
    (∀ b ∈ blocks, ∀ d ∈ b.dds, d.off + d.len ≤ (endOff blocks : Int)) := by
  have hd : ∀ (e : Nat) (d : DD), e ≤ (if d.off + d.len > (e : Int) then (d.off + d.len).toNat else e) := by
    intro e d; split <;> omega
  have hb : ∀ (e : Nat) (b : Block), e ≤ b.dds.foldl (fun (e : Nat) (d : DD) => if d.off + d.len > (e : Int) then (d.off + d.len).toNat else e)
      (max e (b.myoff + (NDDS_SZ + OFFSET_SZ) + b.dds.length * DD_SZ)) :=
    fun e b => Nat.le_trans (Nat.le_max_left _ _) (foldl_le _ hd _ _)
  unfold endOff
  constructor
  · exact foldl_reaches _ hb (fun b e => b.myoff + (NDDS_SZ + OFFSET_SZ) + b.dds.length * DD_SZ ≤ e)
      (fun e b => Nat.le_trans (Nat.le_max_right _ _) (foldl_le _ hd _ _)) (fun _ _ _ h1 h2 => Nat.le_trans h2 h1) blocks 0
  · exact foldl_reaches _ hb (fun b e => ∀ d ∈ b.dds, d.off + d.len ≤ (e : Int))
      (fun e b => foldl_reaches _ hd (fun d e => d.off + d.len ≤ (e : Int)) (fun e d => by split <;> omega)
        (fun _ _ _ h1 h2 => by omega) b.dds _)
      (fun _ _ _ h1 h2 d hd' => by have := h2 d hd'; omega) blocks 0

theorem maxref_spec (l : List DD) : ∀ d ∈ l, d.ref ≤ l.foldl (fun m d => if m < d.ref then d.ref else m) 0 :=
  foldl_reaches _ (fun m d => by split <;> omega) (fun d m => d.ref ≤ m) (fun m d => by split <;> omega)
    (fun _ _ _ h1 h2 => Nat.le_trans h2 h1) l 0
theorem htpStart_spec (cfg : Cfg) {s : File} (h : Inv cfg s) :
    ∃ s', htpStart (hclose s).disk = some s' ∧ Inv cfg s' ∧ s'.slots = s.slots ∧ s'.blocks = s.blocks.map clean ∧
      s'.fEnd = endOff s'.blocks ∧ s'.cache = defaultCache ∧ s'.log = [] := by
  have hdisk := hclose_disk h.disk
  have hread : readChain (hclose s).disk (hclose s).disk.length MAGICLEN = some (s.blocks.map clean) :=
    decode_synced h.wf h.disk
  have hdv : dview (s.blocks.map clean) = dview s.blocks := dview_map_clean _
  have hsl : slotsOf (s.blocks.map clean) = s.slots := slotsOf_congr hdv
  obtain ⟨tags', hreg, hwfl⟩ := registerAll_spec h.wf.wfl
  unfold htpStart
  rw [hread]
  simp only [hsl, hreg]
  refine ⟨_, rfl, ⟨⟨?_, rfl, ?_, ?_⟩, ⟨?_, ?_, ?_, ?_, ?_⟩, ?_⟩, hsl, rfl, rfl, rfl, rfl⟩
  · show WFl (slotsOf (s.blocks.map clean)) tags'
    rw [hsl]; exact hwfl
  · show 0 < (s.blocks.map clean).length
    simpa using h.wf.ne
  · intro b hb
    show Valid (s.blocks.map clean) _
    rw [valid_congr hdv]
    exact h.wf.slotne b (by simpa using hb)
  · show (hclose s).disk.length = (s.blocks.map clean).length
    rw [hdisk]; simp
  · intro i b d h1 h2 _
    have h1' : (s.blocks.map clean)[i]? = some b := h1
    have h2' : (hclose s).disk[i]? = some d := h2
    rw [hdisk] at h2'
    simp only [List.getElem?_map] at h1' h2'
    cases hbi : s.blocks[i]? with
    | none => simp [hbi] at h1'
    | some b0 =>
      simp [hbi] at h1' h2'
      subst h1' h2'; rfl
  · show chainFrom MAGICLEN (s.blocks.map clean)
    exact (chainFrom_map_clean _ _).mpr h.disk.chain
  · intro b hb
    have := (endOff_spec (s.blocks.map clean)).1 b hb
    have hsz : 0 < NDDS_SZ + OFFSET_SZ := by decide
    show b.myoff < endOff (s.blocks.map clean)
    omega
  · intro b hb hd
    have hb' : b ∈ s.blocks.map clean := hb
    obtain ⟨b0, _, rfl⟩ := List.mem_map.mp hb'
    simp [clean] at hd
  · intro _ d hd
    have hd' : d ∈ liveOf (slotsOf (s.blocks.map clean)) := hd
    rw [hsl] at hd'
    exact maxref_spec s.slots d (mem_liveOf.mp hd').1

theorem hreopen_inv (cfg : Cfg) {s : File} (h : Inv cfg s) :
    ∃ s', hreopen cfg s = some s' ∧ Inv cfg s' ∧ s'.abs.Perm s.abs ∧ s'.blocks = s.blocks.map clean ∧
      s'.fEnd = endOff s'.blocks ∧ s'.cache = defaultCache ∧ s'.log = [] := by
  obtain ⟨s1, hst, hinv1, hsl1, hb1, hf1, hc1, hl1⟩ := htpStart_spec cfg h
  unfold hreopen
  rw [hst]
  simp only
  obtain ⟨s2, hs2, hinv2, _, hperm⟩ := inquire_refines cfg hinv1 DFTAG_VERSION 1 (by decide) (by decide)
  simp only [step, Option.some.injEq] at hs2
  have hsp : (specStep cfg s1.abs (.inquire DFTAG_VERSION 1)).2 = s1.abs := by
    simp only [specStep]; cases specGet s1.abs (baseTag DFTAG_VERSION, 1) <;> rfl
  rw [hsp, abs_of_slots hsl1, ← hs2] at hperm
  -- reading the version element changes nothing but `maxref`
  have hS := hinquire_scal cfg s1 DFTAG_VERSION 1
  exact ⟨_, rfl, by rw [hs2]; exact hinv2, hperm, hS.blocks.trans hb1, by rw [hS.fEnd, hS.blocks]; exact hf1,
    hS.cache.trans hc1, hS.log.trans hl1⟩

end H4.DD
