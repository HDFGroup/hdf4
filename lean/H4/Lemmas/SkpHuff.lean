import H4.SkpHuff
import H4.Lemmas.Bits
/-! The model of the skipping-Huffman coder (`H4.SkpHuff`): decoding undoes encoding, and the encoder's stack of 32-bit words writes
    exactly the climbed bits.  A splay tree is read through its three maps `left[.]`, `right[.]`, `up[.]` (`Maps`); a semi-rotation renames
    two nodes, which keeps the maps inverse to each other (`WFf.conj`), and the walk to ROOT (`Reach`) is what the round trip inducts on. -/
namespace H4.SkpHuff
open H4.Gen.Cskphuff H4.Bits

/-- the values of the generated constants the proofs below were written for (Tie A re-checks them) -/
theorem consts : SKPHUFF_MAX_CHAR = 255 ∧ SUCCMAX = 256 ∧ TWICEMAX = 513 ∧ ROOT = 0 := by decide

@[simp] theorem size_wr (a : Array Nat) (i v : Nat) : (wr a i v).size = a.size := by simp [wr]

theorem rd_wr (a : Array Nat) (i v j : Nat) :
    rd (wr a i v) j = if i = j ∧ i < a.size then v else rd a j := by
  unfold rd wr
  by_cases h : i = j
  · subst h
    by_cases h2 : i < a.size <;> simp [Array.getD, h2]
  · simp [Array.getD, h]
    grind

/-- well-formedness of the three node maps `L = left[.]`, `R = right[.]`, `U = up[.]` over the nodes
    `0..511` (internal nodes `0..255`): `U` is the inverse of the child-slot map, and `ROOT = 0` is reached
    from everywhere (ghost `rank`, strictly decreasing along `U` away from node 0; node 0 itself is the
    child of some node, so the `U`-graph has a cycle through 0, which is harmless: the coder stops the
    first time it reaches ROOT) -/
structure WFf (L R U : Nat → Nat) : Prop where
  upLt : ∀ x, x < 512 → U x < 256
  upChild : ∀ x, x < 512 → L (U x) = x ∨ R (U x) = x
  leftLt : ∀ j, j < 256 → L j < 512
  rightLt : ∀ j, j < 256 → R j < 512
  upLeft : ∀ j, j < 256 → U (L j) = j
  upRight : ∀ j, j < 256 → U (R j) = j
  ne : ∀ j, j < 256 → L j ≠ R j
  rank : ∃ rank : Nat → Nat, ∀ x, x < 512 → x ≠ 0 → rank (U x) < rank x

structure WF (t : Tree) : Prop where
  szl : t.left.size = 256
  szr : t.right.size = 256
  szu : t.up.size = 513
  f : WFf (rd t.left) (rd t.right) (rd t.up)

def tr (a b x : Nat) : Nat := if x = a then b else if x = b then a else x

theorem tr_tr (a b x : Nat) : tr a b (tr a b x) = x := by grind [tr]

theorem tr_lt (a b x n : Nat) (ha : a < n) (hb : b < n) (hx : x < n) : tr a b x < n := by grind [tr]

/-- renaming the nodes by an involution `σ` of `0..511` keeps child maps and parent map inverse to each other; the rank is found anew -/
theorem WFf.conj {L R U L' R' U' : Nat → Nat} (h : WFf L R U) (σ : Nat → Nat) (inv : ∀ x, σ (σ x) = x)
    (lt : ∀ x, x < 512 → σ x < 512) (hL : ∀ j, j < 256 → L' j = σ (L j)) (hR : ∀ j, j < 256 → R' j = σ (R j))
    (hU : ∀ x, x < 512 → U' x = U (σ x)) (hrank : ∃ rank : Nat → Nat, ∀ x, x < 512 → x ≠ 0 → rank (U' x) < rank x) :
    WFf L' R' U' := by
  constructor
  · intro x hx; rw [hU x hx]; exact h.upLt _ (lt x hx)
  · intro x hx
    have ux := h.upLt _ (lt x hx)
    rw [hU x hx, hL _ ux, hR _ ux]
    rcases h.upChild _ (lt x hx) with e | e
    · left; rw [e, inv]
    · right; rw [e, inv]
  · intro j hj; rw [hL j hj]; exact lt _ (h.leftLt j hj)
  · intro j hj; rw [hR j hj]; exact lt _ (h.rightLt j hj)
  · intro j hj; rw [hL j hj, hU _ (lt _ (h.leftLt j hj)), inv]; exact h.upLeft j hj
  · intro j hj; rw [hR j hj, hU _ (lt _ (h.rightLt j hj)), inv]; exact h.upRight j hj
  · intro j hj e
    rw [hL j hj, hR j hj] at e
    exact h.ne j hj (by have := congrArg σ e; rwa [inv, inv] at this)
  · exact hrank

/-- a tree read through its three maps `left[.]`, `right[.]`, `up[.]`: what well-formedness, the walks and the codes depend on -/
structure Maps where
  L : Nat → Nat
  R : Nat → Nat
  U : Nat → Nat

def Tree.maps (t : Tree) : Maps := ⟨rd t.left, rd t.right, rd t.up⟩

abbrev Maps.WF (m : Maps) : Prop := WFf m.L m.R m.U

theorem WF.of_maps {t : Tree} (szl : t.left.size = 256) (szr : t.right.size = 256) (szu : t.up.size = 513) (f : t.maps.WF) : WF t :=
  ⟨szl, szr, szu, f⟩

/-- `splayStep` on the maps: the semi-rotation around `a` (parent `c`, grand-parent `d`, uncle `b`); `a` and `b` swap slots -/
def Maps.step (m : Maps) (a : Nat) : Maps × Nat :=
  let c := m.U a
  if c = 0 then (m, 0) else
    let d := m.U c
    let b := if c = m.L d then m.R d else m.L d
    (⟨fun j => if j = c ∧ a = m.L c then b else if j = d ∧ c ≠ m.L d then a else m.L j,
      fun j => if j = c ∧ a ≠ m.L c then b else if j = d ∧ c = m.L d then a else m.R j,
      fun x => if x = b then c else if x = a then d else m.U x⟩, d)

/-- the maps are renamed by the transposition of `a` and `b`; rank: `c` moves between `d` and its new child `b` -/
theorem rot_WFf (m : Maps) (h : m.WF) (a : Nat) (ha : a < 512) (ha0 : a ≠ 0) (hc0 : m.U a ≠ 0) : (m.step a).1.WF := by
  obtain ⟨L, R, U⟩ := m
  simp only [Maps.step, if_neg hc0]
  simp only at h hc0
  generalize hc : U a = c at hc0 ⊢
  generalize hd : U c = d
  generalize hb : (if c = L d then R d else L d) = b
  obtain ⟨rank, hr⟩ := h.rank
  have c_lt : c < 256 := hc ▸ h.upLt a ha
  have d_lt : d < 256 := hd ▸ h.upLt c (by omega)
  have r1 : rank c < rank a := hc ▸ hr a ha ha0
  have r2 : rank d < rank c := hd ▸ hr c (by omega) hc0
  have cd : c ≠ d := by intro e; rw [e] at r2; omega
  have chc : L d = c ∨ R d = c := hd ▸ h.upChild c (by omega)
  have cha : L c = a ∨ R c = a := hc ▸ h.upChild a ha
  have ned := h.ne d d_lt
  have nec := h.ne c c_lt
  have uld := h.upLeft d d_lt
  have urd := h.upRight d d_lt
  have b_lt : b < 512 := by rw [← hb]; split; exact h.rightLt d d_lt; exact h.leftLt d d_lt
  have ub : U b = d := by rw [← hb]; split; exact urd; exact uld
  have hrank : ∃ rank : Nat → Nat, ∀ x, x < 512 → x ≠ 0 → rank (if x = b then c else if x = a then d else U x) < rank x := by
    refine ⟨fun x => if x = c then 2 * rank d + 1 else 2 * rank x, ?_⟩
    intro x hx hx0
    have := hr x hx hx0
    have rb : b ≠ 0 → rank d < rank b := fun h0 => ub ▸ hr b b_lt h0
    clear hr b_lt c_lt d_lt ha ha0 hc0 h cha nec uld urd
    grind
  clear hr r1 r2
  apply h.conj (tr a b) (tr_tr a b) (fun x => tr_lt a b x 512 ha b_lt) _ _ _ hrank <;> simp only [tr]
  · intro j hj
    have := h.upLeft j hj
    clear hrank b_lt c_lt d_lt ha ha0 hc0 h
    grind
  · intro j hj
    have := h.upRight j hj
    clear hrank b_lt c_lt d_lt ha ha0 hc0 h
    grind
  · intro x hx
    clear hrank b_lt c_lt d_lt ha ha0 hc0 h cha chc ned nec uld urd
    grind

theorem Maps.step_U {m : Maps} (h : m.WF) {a y : Nat} (ha : a < 512) (hne : (m.step a).1.U y ≠ m.U y) :
    y = a ∨ (y < 512 ∧ m.U y = m.U (m.U a)) := by
  by_cases hc0 : m.U a = 0
  · exact absurd (by simp only [Maps.step, if_pos hc0]) hne
  · have d_lt := h.upLt _ (Nat.lt_trans (h.upLt a ha) (by decide : 256 < 512))
    simp only [Maps.step, if_neg hc0] at hne
    by_cases hya : y = a
    · exact Or.inl hya
    · by_cases hyb : y = if m.U a = m.L (m.U (m.U a)) then m.R (m.U (m.U a)) else m.L (m.U (m.U a))
      · refine Or.inr (hyb ▸ ?_)
        split
        · exact ⟨h.rightLt _ d_lt, h.upRight _ d_lt⟩
        · exact ⟨h.leftLt _ d_lt, h.upLeft _ d_lt⟩
      · exact absurd (by rw [if_neg hyb, if_neg hya]) hne

theorem splayStep_root (t : Tree) (a : Nat) (hc : rd t.up a = 0) :
    splayStep t a = (t, 0) := by
  simp [splayStep, hc, consts]

/-- on a well-formed tree the array code does to the maps what `Maps.step` says (the `% 256` of the `uint8` variables vanish) -/
theorem splayStep_rot (t : Tree) (a : Nat) (h : WF t) (ha : a < 512) (hc0 : rd t.up a ≠ 0) :
    (splayStep t a).1.maps = (t.maps.step a).1 ∧ (splayStep t a).2 = rd t.up (rd t.up a) ∧
      (splayStep t a).1.left.size = 256 ∧ (splayStep t a).1.right.size = 256 ∧ (splayStep t a).1.up.size = 513 := by
  obtain ⟨c, hc⟩ : ∃ c, rd t.up a = c := ⟨_, rfl⟩
  obtain ⟨d, hd⟩ : ∃ d, rd t.up c = d := ⟨_, rfl⟩
  rw [hc] at hc0
  have c_lt : c < 256 := hc ▸ h.f.upLt a ha
  have d_lt : d < 256 := hd ▸ h.f.upLt c (by omega)
  have szl := h.szl
  have szr := h.szr
  have szu := h.szu
  simp only [splayStep, Tree.maps, Maps.step, hc, hd, Nat.mod_eq_of_lt c_lt, Nat.mod_eq_of_lt d_lt, consts, ne_eq, hc0, not_false_eq_true,
    ↓reduceIte, Maps.mk.injEq]
  generalize hb : (if c = rd t.left d then rd t.right d else rd t.left d) = b
  have b_lt : b < 512 := by rw [← hb]; split; exact h.f.rightLt d d_lt; exact h.f.leftLt d d_lt
  have cd : c ≠ d := by
    obtain ⟨rank, hr⟩ := h.f.rank
    have := hr c (by omega) hc0
    intro e
    rw [hd, ← e] at this
    omega
  clear hc hd h
  refine ⟨⟨funext fun j => ?_, funext fun j => ?_, funext fun x => ?_⟩, trivial, ?_, ?_, ?_⟩
  · clear szr szu
    grind [rd_wr, size_wr]
  · clear szl szu
    grind [rd_wr, size_wr]
  · simp only [rd_wr, size_wr, szu]
    grind
  · split <;> split <;> simp [szl]
  · split <;> split <;> simp [szr]
  · simp [szu]

theorem step_maps (t : Tree) (a : Nat) (h : WF t) (ha : a < 512) :
    (splayStep t a).1.maps = (t.maps.step a).1 ∧ (splayStep t a).2 = (t.maps.step a).2 := by
  by_cases hc : rd t.up a = 0
  · rw [splayStep_root t a hc]; simp only [Maps.step, Tree.maps, hc, ↓reduceIte, and_self]
  · obtain ⟨hm, h2, -⟩ := splayStep_rot t a h ha hc
    exact ⟨hm, by simp only [Maps.step, Tree.maps, hc, ↓reduceIte, h2]⟩

theorem rd_ofFn (n : Nat) (f : Nat → Nat) (i : Nat) :
    rd ((List.range n).map f).toArray i = if i < n then f i else 0 := by
  unfold rd
  by_cases h : i < n <;> simp [Array.getD, h]

theorem rd_init_left : rd Tree.init.left = fun j => if j < 256 then 2 * j else 0 :=
  funext fun j => (rd_ofFn 256 _ j).trans (by simp only [Nat.shiftLeft_eq]; split <;> omega)
theorem rd_init_right : rd Tree.init.right = fun j => if j < 256 then 2 * j + 1 else 0 :=
  funext fun j => (rd_ofFn 256 _ j).trans (by simp only [Nat.shiftLeft_eq]; split <;> omega)
theorem rd_init_up : rd Tree.init.up = fun i => if i < 513 then i / 2 % 256 else 0 :=
  funext fun i => (rd_ofFn 513 _ i).trans (by simp only [Nat.shiftRight_eq_div_pow])

theorem WF_init : WF Tree.init := by
  refine ⟨by simp [Tree.init, consts], by simp [Tree.init, consts], by simp [Tree.init, consts], ?_⟩
  rw [rd_init_left, rd_init_right, rd_init_up]
  refine ⟨?_, ?_, ?_, ?_, ?_, ?_, ?_, id, ?_⟩ <;> intro x hx <;> grind

theorem splayStep_WF (t : Tree) (a : Nat) (h : WF t) (ha : a < 512) (ha0 : a ≠ 0) :
    WF (splayStep t a).1 ∧ (splayStep t a).2 < 256 := by
  by_cases hc : rd t.up a = 0
  · rw [splayStep_root t a hc]; exact ⟨h, by omega⟩
  · obtain ⟨hm, h2, hl, hr, hu⟩ := splayStep_rot t a h ha hc
    have c_lt := h.f.upLt a ha
    exact ⟨WF.of_maps hl hr hu (hm ▸ rot_WFf t.maps h.f a ha ha0 hc), h2 ▸ h.f.upLt _ (by omega)⟩

theorem splayLoop_WF : ∀ (fuel : Nat) (t : Tree) (a : Nat), WF t → a < 512 → a ≠ 0 →
    WF (splayLoop fuel t a) := by
  intro fuel
  induction fuel with
  | zero => intro t a h _ _; exact h
  | succ n ih =>
    intro t a h ha ha0
    obtain ⟨h1, h2⟩ := splayStep_WF t a h ha ha0
    simp only [splayLoop]
    split
    · rename_i hne
      exact ih _ _ h1 (by omega) (by simpa [consts] using hne)
    · exact h1

theorem splay_WF (t : Tree) (s : Nat) (h : WF t) (hs : s < 256) : WF (splay t s) := by
  unfold splay
  apply splayLoop_WF _ _ _ h <;> simp [consts] <;> omega

/-! ### a bounded rank function, so that `TWICEMAX` steps of fuel suffice for the encoder's climb.  The ghost rank of `WFf` is not bounded (it
    doubles at every rotation, `rot_WFf`); the number of nodes of smaller rank is a rank too, and is at most 512. -/

theorem countP_lt_of_imp {α : Type} (P Q : α → Bool) :
    ∀ (l : List α) (y : α), y ∈ l → (∀ x ∈ l, P x = true → Q x = true) → P y = false → Q y = true →
      l.countP P < l.countP Q := by
  intro l
  induction l with
  | nil => intro y hy; simp at hy
  | cons z l ih =>
    intro y hy himp hP hQ
    have hmono : l.countP P ≤ l.countP Q :=
      List.countP_mono_left (fun x hx => himp x (List.mem_cons_of_mem _ hx))
    rcases List.mem_cons.mp hy with e | hyl
    · subst e
      simp [hP, hQ]; omega
    · have := ih y hyl (fun x hx => himp x (List.mem_cons_of_mem _ hx)) hP hQ
      have hz := himp z (List.mem_cons_self)
      simp only [List.countP_cons]
      by_cases hpz : P z = true
      · simp [hpz, hz hpz]; omega
      · simp [hpz]; split <;> omega

theorem bounded_rank {L R U : Nat → Nat} (h : WFf L R U) :
    ∃ m : Nat → Nat, (∀ x, m x ≤ 512) ∧ ∀ x, x < 512 → x ≠ 0 → m (U x) < m x := by
  obtain ⟨rank, hr⟩ := h.rank
  refine ⟨fun x => (List.range 512).countP (fun y => decide (rank y < rank x)), ?_, ?_⟩
  · intro x
    have := List.countP_le_length (p := fun y => decide (rank y < rank x)) (l := List.range 512)
    simpa using this
  · intro x hx hx0
    have h1 := hr x hx hx0
    have h2 := h.upLt x hx
    apply countP_lt_of_imp _ _ _ (U x)
    · simp; omega
    · intro y _ hy; simp at hy ⊢; omega
    · simp
    · simpa using h1

/-- `Reach U n a`: `n ≥ 1` steps of `U` lead from `a` to node 0 for the first time -/
inductive Reach (U : Nat → Nat) : Nat → Nat → Prop
  | one (a : Nat) : U a = 0 → Reach U 1 a
  | step (a n : Nat) : U a ≠ 0 → Reach U n (U a) → Reach U (n + 1) a

theorem reach_pos {U : Nat → Nat} {n a : Nat} (h : Reach U n a) : 1 ≤ n := by
  cases h <;> omega

theorem reach_of_rank (U : Nat → Nat) (m : Nat → Nat) (hlt : ∀ x, x < 512 → U x < 256)
    (hm : ∀ x, x < 512 → x ≠ 0 → m (U x) < m x) :
    ∀ (k a : Nat), a < 512 → a ≠ 0 → m a ≤ k → ∃ n, n ≤ k ∧ Reach U n a := by
  intro k
  induction k with
  | zero => intro a ha ha0 hk; have := hm a ha ha0; omega
  | succ k ih =>
    intro a ha ha0 hk
    by_cases hu : U a = 0
    · exact ⟨1, by omega, Reach.one a hu⟩
    · have h1 := hlt a ha
      have h2 := hm a ha ha0
      obtain ⟨n, hn, hr⟩ := ih (U a) (by omega) hu (by omega)
      exact ⟨n + 1, by omega, Reach.step a n hu hr⟩

theorem reach_of_WF {t : Tree} (hw : WF t) (a : Nat) (ha : a < 512) (ha0 : a ≠ 0) : ∃ n, n ≤ 512 ∧ Reach (rd t.up) n a := by
  obtain ⟨m, hm1, hm2⟩ := bounded_rank hw.f
  exact reach_of_rank (rd t.up) m hw.f.upLt hm2 512 a ha ha0 (hm1 a)

/-! A semi-rotation does not touch the rest of the walk to ROOT: the splay loop ends. -/

theorem reach_congr {U U' : Nat → Nat} (rank : Nat → Nat) (hlt : ∀ x, x < 512 → U x < 256)
    (hr : ∀ x, x < 512 → x ≠ 0 → rank (U x) < rank x) :
    ∀ (n x : Nat), Reach U n x → x < 512 → x ≠ 0 → (∀ y, y ≠ 0 → rank y ≤ rank x → U' y = U y) → Reach U' n x := by
  intro n x h
  induction h with
  | one a hu =>
    intro _ ha0 he
    exact Reach.one a (by rw [he a ha0 (Nat.le_refl _)]; exact hu)
  | step a n hu _ ih =>
    intro ha ha0 he
    have e := he a ha0 (Nat.le_refl _)
    have h1 := hlt a ha
    have h2 := hr a ha ha0
    apply Reach.step a n (by rw [e]; exact hu)
    rw [e]
    exact ih (by omega) hu (fun y hy hle => he y hy (by omega))

theorem reach_step (t : Tree) (a n : Nat) (hw : WF t) (ha : a < 512) (ha0 : a ≠ 0)
    (hc : rd t.up a ≠ 0) (hd : rd t.up (rd t.up a) ≠ 0) (h : Reach (rd t.up) n a) :
    3 ≤ n ∧ (splayStep t a).2 = rd t.up (rd t.up a) ∧ Reach (rd (splayStep t a).1.up) (n - 2) (rd t.up (rd t.up a)) := by
  obtain ⟨hm, h2, -⟩ := splayStep_rot t a hw ha hc
  obtain ⟨rank, hr⟩ := hw.f.rank
  have c_lt := hw.f.upLt a ha
  have d_lt := hw.f.upLt _ (show rd t.up a < 512 by omega)
  have r1 := hr a ha ha0
  have r2 := hr _ (show rd t.up a < 512 by omega) hc
  cases h with
  | one _ hu => exact absurd hu hc
  | step _ n1 _ h1 =>
    cases h1 with
    | one _ hu => exact absurd hu hd
    | step _ n2 _ h2' =>
      have := reach_pos h2'
      refine ⟨by omega, h2, ?_⟩
      rw [show n2 + 1 + 1 - 2 = n2 by omega]
      apply reach_congr rank hw.f.upLt hr n2 _ h2' (by omega) hd
      intro y hy hle
      show (splayStep t a).1.maps.U y = t.maps.U y
      rw [hm]
      by_cases hne : (t.maps.step a).1.U y = t.maps.U y
      · exact hne
      · -- the rotation touches `a` and the uncle only: both lie below `up[up[a]]` in rank
        rcases Maps.step_U hw.f ha hne with rfl | ⟨hy5, hyd⟩
        · omega
        · have := hr y hy5 hy
          rw [show rd t.up y = rd t.up (rd t.up a) from hyd] at this
          omega

/-- climbing from `a` and descending from ROOT along the collected bits leads back to `a` -/
theorem descend_climb (t : Tree) (h : WF t) : ∀ (n a : Nat), Reach (rd t.up) n a → ∀ (fuel : Nat) (acc rest : List Bool),
    a < 512 → n ≤ fuel →
      descend t 0 (climb fuel t a acc ++ rest) =
        if a > 255 then some (a - 256, acc ++ rest) else descend t a (acc ++ rest) := by
  intro n a hr
  induction hr with
  | one a hu =>
    intro fuel acc rest ha hf
    obtain ⟨f, rfl⟩ : ∃ f, fuel = f + 1 := ⟨fuel - 1, by omega⟩
    have hch := h.f.upChild a ha
    simp only [climb, hu, consts, ne_eq, not_true_eq_false, ↓reduceIte, List.cons_append, descend]
    rw [hu] at hch
    by_cases hb : rd t.right 0 = a
    · simp [hb]
    · simp [hb, hch.resolve_right hb]
  | step a n hu _ ih =>
    intro fuel acc rest ha hf
    obtain ⟨f, rfl⟩ : ∃ f, fuel = f + 1 := ⟨fuel - 1, by omega⟩
    have hp := h.f.upLt a ha
    have hch := h.f.upChild a ha
    simp only [climb, consts, ne_eq, hu, not_false_eq_true, ↓reduceIte]
    rw [ih f _ rest (by omega) (by omega), if_neg (by omega), List.cons_append, descend]
    by_cases hb : rd t.right (rd t.up a) = a
    · simp [hb, consts]
    · simp [hb, hch.resolve_right hb, consts]

theorem decSym_encSym (t : Tree) (h : WF t) (s : Nat) (hs : s < 256) (rest : List Bool) :
    decSym t (encSym t s ++ rest) = some (s, rest) := by
  obtain ⟨n, hn, hr⟩ := reach_of_WF h (s + 256) (by omega) (by omega)
  rw [decSym, encSym, show s + SUCCMAX = s + 256 from rfl, show ROOT = 0 from rfl,
    descend_climb t h n _ hr TWICEMAX [] rest (by omega) (by simp only [consts]; omega), if_pos (by omega)]
  simp

theorem climb_length (t : Tree) : ∀ (n a : Nat), Reach (rd t.up) n a → ∀ (f : Nat) (acc : List Bool), n ≤ f →
    (climb f t a acc).length = acc.length + n := by
  intro n a h
  induction h with
  | one a hu =>
    intro f acc hf
    obtain ⟨f, rfl⟩ : ∃ f', f = f' + 1 := ⟨f - 1, by omega⟩
    simp [climb, hu, consts]
  | step a n hu _ ih =>
    intro f acc hf
    obtain ⟨f, rfl⟩ : ∃ f', f = f' + 1 := ⟨f - 1, by omega⟩
    simp only [climb, consts, ne_eq, hu, not_false_eq_true, ↓reduceIte]
    rw [ih f _ (by omega)]
    simp; omega

theorem encSym_length_le (t : Tree) (hw : WF t) (s : Nat) (hs : s < 256) : (encSym t s).length ≤ 512 := by
  obtain ⟨n, hn, hr⟩ := reach_of_WF hw (s + 256) (by omega) (by omega)
  rw [encSym, show s + SUCCMAX = s + 256 from rfl, climb_length t n _ hr TWICEMAX [] (by simp only [consts]; omega)]
  simpa using hn

theorem getTree_WF (ts : List Tree) (pos : Nat) (h : ∀ t ∈ ts, WF t) : WF (getTree ts pos) := by
  unfold getTree
  by_cases hp : pos < ts.length
  · have e : ts.getD pos Tree.init = ts[pos] := by simp [List.getD, hp]
    rw [e]; exact h _ (List.getElem_mem hp)
  · have e : ts.getD pos Tree.init = Tree.init := by simp [List.getD, Nat.le_of_not_lt hp]
    rw [e]; exact WF_init

theorem set_WF (ts : List Tree) (pos : Nat) (t : Tree) (h : ∀ x ∈ ts, WF x) (ht : WF t) : ∀ x ∈ ts.set pos t, WF x := by
  intro x hx
  rcases List.mem_or_eq_of_mem_set hx with h1 | h1
  · exact h x h1
  · rw [h1]; exact ht

theorem initTrees_WF (skip : Nat) : ∀ t ∈ initTrees skip, WF t := fun t ht => by
  rw [List.eq_of_mem_replicate ht]; exact WF_init

structure Lanes (skip : Nat) (ts : List Tree) (pos : Nat) : Prop where
  wf : ∀ t ∈ ts, WF t
  len : ts.length = skip
  lt : pos < skip

theorem Lanes.tree {skip ts pos} (h : Lanes skip ts pos) : WF (getTree ts pos) := getTree_WF ts pos h.wf

theorem Lanes.next {skip ts pos} (h : Lanes skip ts pos) (b : Nat) (hb : b < 256) :
    Lanes skip (ts.set pos (splay (getTree ts pos) b)) ((pos + 1) % skip) :=
  ⟨set_WF ts pos _ h.wf (splay_WF _ _ h.tree hb), by simpa using h.len, Nat.mod_lt _ (Nat.zero_lt_of_lt h.lt)⟩

theorem lanes_induct {skip : Nat} {P : List Tree → Nat → List UInt8 → Prop} (nil : ∀ ts pos, P ts pos [])
    (cons : ∀ ts pos b bs, WF (getTree ts pos) → P (ts.set pos (splay (getTree ts pos) b.toNat)) ((pos + 1) % skip) bs → P ts pos (b :: bs)) :
    ∀ (bs : List UInt8) (ts : List Tree) (pos : Nat), (∀ t ∈ ts, WF t) → P ts pos bs
  | [], ts, pos, _ => nil ts pos
  | b :: bs, ts, pos, h => cons ts pos b bs (getTree_WF ts pos h)
      (lanes_induct nil cons bs _ _ (set_WF ts pos _ h (splay_WF _ _ (getTree_WF ts pos h) (UInt8.toNat_lt b))))

theorem decRun_encRun (skip : Nat) : ∀ (bs : List UInt8) (ts : List Tree) (pos : Nat) (pad : List Bool),
    (∀ t ∈ ts, WF t) → decRun skip ts pos (encRun skip ts pos bs ++ pad) bs.length = some bs := by
  intro bs ts pos pad h
  refine lanes_induct (skip := skip) (P := fun ts pos bs => decRun skip ts pos (encRun skip ts pos bs ++ pad) bs.length = some bs) (by simp [decRun]) ?_ bs ts pos h
  intro ts pos b bs hw ih
  simp only [encRun, List.length_cons, decRun, List.append_assoc]
  rw [decSym_encSym _ hw _ (UInt8.toNat_lt b)]
  simp only [UInt8.ofNat_toNat]
  rw [ih]; simp

theorem encRun_length_le (skip : Nat) : ∀ (bs : List UInt8) (ts : List Tree) (pos : Nat), (∀ t ∈ ts, WF t) →
    (encRun skip ts pos bs).length ≤ 512 * bs.length := by
  refine lanes_induct (skip := skip) (P := fun ts pos bs => (encRun skip ts pos bs).length ≤ 512 * bs.length) (by simp [encRun]) ?_
  intro ts pos b bs hw ih
  have h1 := encSym_length_le _ hw b.toNat (UInt8.toNat_lt b)
  simp only [encRun, List.length_append, List.length_cons]
  omega

/-- the bits the stack holds, in the order in which the pops write them -/
def Stack.bits (s : Stack) : List Bool := fieldsBits (s.top :: s.below)

/-- `bit_count[stack_ptr] < 32`, `output_bits[stack_ptr] < 2^bit_count[stack_ptr]`, `bit_mask = 1 << bit_count[stack_ptr]`; every closed
    word below holds exactly 32 bits -/
def Stack.Ok (s : Stack) : Prop := s.top.1 < 32 ∧ s.top.2 < 2 ^ s.top.1 ∧ s.mask = 2 ^ s.top.1 ∧ ∀ e ∈ s.below, e.1 = 32

theorem Stack.ok_init : Stack.Ok { top := (0, 0), below := [], mask := 1 } := ⟨by simp, by simp, rfl, by simp⟩

theorem push_ok (s : Stack) (bit : Bool) (h : s.Ok) : (s.push bit).Ok := by
  obtain ⟨h1, h2, h3, h4⟩ := h
  unfold Stack.push
  simp only []
  split
  · refine ⟨by simp, by simp, rfl, ?_⟩
    intro e he
    rcases List.mem_cons.mp he with rfl | he
    · simp only; omega
    · exact h4 e he
  · rename_i hlt
    refine ⟨by simp only []; omega, ?_, ?_, h4⟩
    · simp only [h3]
      have : 2 ^ s.top.1 < 2 ^ (s.top.1 + 1) := Nat.pow_lt_pow_right (by omega) (by omega)
      cases bit
      · simp; omega
      · simp only [if_true]; exact Nat.or_lt_two_pow (by omega) this
    · simp only [h3, Nat.shiftLeft_eq, ← Nat.pow_succ]
      apply Nat.mod_eq_of_lt
      exact Nat.pow_lt_pow_right (by omega) (by omega)

theorem push_bits (s : Stack) (bit : Bool) (h : s.Ok) : (s.push bit).bits = bit :: s.bits := by
  obtain ⟨h1, h2, h3, -⟩ := h
  unfold Stack.push Stack.bits
  simp only [h3]
  split <;> simp only [fieldsBits_cons, msbBits_push _ _ _ h2] <;> simp [msbBits]

theorem climbF_ok : ∀ (fuel : Nat) (t : Tree) (a : Nat) (s : Stack), s.Ok →
    (climbF fuel t a s).Ok ∧ (climbF fuel t a s).bits = climb fuel t a s.bits := by
  intro fuel
  induction fuel with
  | zero => intro t a s h; exact ⟨h, rfl⟩
  | succ n ih =>
    intro t a s h
    simp only [climbF, climb]
    split
    · obtain ⟨i1, i2⟩ := ih t (rd t.up a) _ (push_ok _ _ h)
      exact ⟨i1, by rw [i2, push_bits _ _ h]⟩
    · exact ⟨push_ok _ _ h, push_bits _ _ h⟩

theorem fieldsBits_encFields (t : Tree) (s : Nat) : fieldsBits (encFields t s) = encSym t s := by
  unfold encFields encSym
  simp only [fieldsBits_filter]
  have := (climbF_ok TWICEMAX t (s + SUCCMAX) _ Stack.ok_init).2
  simpa [Stack.bits, fieldsBits, msbBits] using this

theorem fieldsBits_encRunF (skip : Nat) : ∀ (bs : List UInt8) (ts : List Tree) (pos : Nat),
    fieldsBits (encRunF skip ts pos bs) = encRun skip ts pos bs := by
  intro bs
  induction bs with
  | nil => intro ts pos; rfl
  | cons b bs ih =>
    intro ts pos
    simp only [encRunF, encRun, fieldsBits_append, fieldsBits_encFields, ih]

theorem filter_pos_full (l : List (Nat × Nat)) (h : ∀ e ∈ l, e.1 = 32) : (l.filter fun e => e.1 > 0) = l := by
  apply List.filter_eq_self.mpr
  intro e he
  have := h e he
  simp [this]

theorem sum_full (l : List (Nat × Nat)) (h : ∀ e ∈ l, e.1 = 32) : (l.map (·.1)).sum = 32 * l.length := by
  induction l with
  | nil => rfl
  | cons f fs ih =>
    have hf := h f (by simp)
    have := ih (fun e he => h e (by simp [he]))
    simp only [List.map_cons, List.sum_cons, List.length_cons, this, hf]
    omega

/-- shape of the `Hbitwrite(count, data)` list of one code, for every tree (well-formed or not) and every code length: at most one
    partly filled word (1..31 bits: the top of the stack, the bits nearest the ROOT), followed by full 32-bit words only -/
theorem encFields_shape (t : Tree) (s : Nat) :
    ∃ top full : List (Nat × Nat), encFields t s = top ++ full ∧ top.length ≤ 1 ∧
      (∀ f ∈ top, 1 ≤ f.1 ∧ f.1 < 32) ∧ (∀ f ∈ full, f.1 = 32) := by
  have hfull := (climbF_ok TWICEMAX t (s + SUCCMAX) _ Stack.ok_init).1
  unfold encFields
  generalize climbF TWICEMAX t (s + SUCCMAX) { top := (0, 0), below := [], mask := 1 } = st at hfull
  obtain ⟨h1, -, -, h2⟩ := hfull
  by_cases h0 : st.top.1 > 0
  · refine ⟨[st.top], st.below, ?_, by simp, ?_, h2⟩
    · simp [h0, filter_pos_full _ h2]
    · intro f hf
      rw [List.mem_singleton.mp hf]
      omega
  · refine ⟨[], st.below, ?_, by simp, by simp, h2⟩
    simp [h0, filter_pos_full _ h2]

theorem encFields_valid (t : Tree) (s : Nat) : ∀ f ∈ encFields t s, 1 ≤ f.1 ∧ f.1 ≤ 32 := by
  obtain ⟨top, full, he, -, ht, hf⟩ := encFields_shape t s
  intro f h
  rw [he, List.mem_append] at h
  rcases h with h | h
  · have := ht f h; omega
  · have := hf f h; omega

theorem encRunF_valid (skip : Nat) : ∀ (bs : List UInt8) (ts : List Tree) (pos : Nat),
    ∀ f ∈ encRunF skip ts pos bs, 1 ≤ f.1 ∧ f.1 ≤ 32 := by
  intro bs
  induction bs with
  | nil => intro ts pos f hf; simp [encRunF] at hf
  | cons b bs ih =>
    intro ts pos f hf
    simp only [encRunF, List.mem_append] at hf
    rcases hf with hf | hf
    · exact encFields_valid _ _ f hf
    · exact ih _ _ f hf

/-- the `count`s of the `Hbitwrite` calls of one code add up to the length of the ROOT-to-leaf path -/
theorem codeBits_eq (t : Tree) (s : Nat) : codeBits t s = (encSym t s).length := by
  unfold codeBits
  rw [← length_fieldsBits, fieldsBits_encFields]

/-- a code of `n` bits takes `⌈n / 32⌉` `Hbitwrite` calls, whatever `n` is -/
theorem codeWords_eq (t : Tree) (s : Nat) : codeWords t s = (codeBits t s + 31) / 32 := by
  obtain ⟨top, full, he, hl, ht, hf⟩ := encFields_shape t s
  unfold codeWords codeBits
  rw [he]
  simp only [List.map_append, List.sum_append, List.length_append, sum_full full hf]
  match top, hl, ht with
  | [], _, _ => simp; omega
  | [f], _, ht =>
    have := ht f (by simp)
    simp only [List.map_cons, List.map_nil, List.sum_cons, List.sum_nil, List.length_cons, List.length_nil]
    omega

/-! ### the coder on maps: what the kernel evaluates for the model's test vectors.  A read of `rd (wr a i v) j` walks an array of 256 or 513
    cells; on maps it is one `if` per rotation made so far. -/

def Maps.loop : Nat → Maps → Nat → Maps
  | 0, m, _ => m
  | fuel+1, m, a => let r := m.step a; if r.2 ≠ 0 then Maps.loop fuel r.1 r.2 else r.1

def Maps.splay (m : Maps) (plain : Nat) : Maps := Maps.loop TWICEMAX m (plain + SUCCMAX)

/-- `climbF` reads the tree only through `up[.]` and `right[.]`; a tree whose maps are known in closed form
    (`H4.Props.C05.deepTree`) is climbed through them by the kernel, without walking its arrays -/
def Maps.climb (m : Maps) : Nat → Nat → Stack → Stack
  | 0, _, s => s
  | fuel+1, a, s =>
    let s := s.push (m.R (m.U a) == a)
    if m.U a ≠ ROOT then m.climb fuel (m.U a) s else s

theorem climb_maps (t : Tree) : ∀ (fuel a : Nat) (s : Stack), climbF fuel t a s = t.maps.climb fuel a s := by
  intro fuel
  induction fuel with
  | zero => intro a s; rfl
  | succ n ih => intro a s; simp only [climbF, Maps.climb, ih]; rfl

def Maps.fields (m : Maps) (plain : Nat) : List (Nat × Nat) :=
  let s := m.climb TWICEMAX (plain + SUCCMAX) { top := (0, 0), below := [], mask := 1 }
  (s.top :: s.below).filter fun e => e.1 > 0

def initMaps : Maps :=
  ⟨fun j => if j < 256 then 2 * j else 0, fun j => if j < 256 then 2 * j + 1 else 0, fun i => if i < 513 then i / 2 % 256 else 0⟩

/-- `encRunF` on maps -/
def runFM (skip : Nat) : List Maps → Nat → List UInt8 → List (Nat × Nat)
  | _, _, [] => []
  | ts, pos, b :: bs =>
    let t := ts.getD pos initMaps
    t.fields b.toNat ++ runFM skip (ts.set pos (t.splay b.toNat)) ((pos + 1) % skip) bs

theorem init_maps : Tree.init.maps = initMaps := by
  rw [Tree.maps, rd_init_left, rd_init_right, rd_init_up]; rfl

theorem loop_maps : ∀ (fuel : Nat) (t : Tree) (a : Nat), WF t → a < 512 → a ≠ 0 →
    (splayLoop fuel t a).maps = Maps.loop fuel t.maps a := by
  intro fuel
  induction fuel with
  | zero => intro t a _ _ _; rfl
  | succ n ih =>
    intro t a h ha ha0
    obtain ⟨h1, h2⟩ := splayStep_WF t a h ha ha0
    obtain ⟨e1, e2⟩ := step_maps t a h ha
    simp only [splayLoop, Maps.loop, ← e1, ← e2, show ROOT = 0 from rfl]
    split
    · rename_i hne; exact ih _ _ h1 (by omega) hne
    · rfl

theorem splay_maps (t : Tree) (s : Nat) (h : WF t) (hs : s < 256) : (splay t s).maps = t.maps.splay s :=
  loop_maps _ t _ h (by simp only [consts]; omega) (by simp [consts])

theorem fields_maps (t : Tree) (s : Nat) : encFields t s = t.maps.fields s := by
  simp only [encFields, Maps.fields, climb_maps]

theorem runFM_eq (skip : Nat) : ∀ (bs : List UInt8) (ts : List Tree) (pos : Nat), (∀ t ∈ ts, WF t) →
    encRunF skip ts pos bs = runFM skip (ts.map Tree.maps) pos bs := by
  refine lanes_induct (skip := skip) (P := fun ts pos bs => encRunF skip ts pos bs = runFM skip (ts.map Tree.maps) pos bs) (fun _ _ => rfl) ?_
  intro ts pos b bs hw ih
  have e : (ts.map Tree.maps).getD pos initMaps = (getTree ts pos).maps := by
    rw [getTree, ← init_maps]; simp [List.getD, List.getElem?_map]
  simp only [encRunF, runFM, e, fields_maps, ← splay_maps _ _ hw (UInt8.toNat_lt b), ← List.map_set]
  rw [ih]

/-- a fresh element: the trees of `HCIcskphuff_init` as maps -/
theorem encodeFields_eq (skip : Nat) (bs : List UInt8) : encodeFields skip bs = runFM skip (List.replicate skip initMaps) 0 bs := by
  rw [encodeFields, runFM_eq _ _ _ _ (initTrees_WF skip), initTrees, List.map_replicate, init_maps]

end H4.SkpHuff
