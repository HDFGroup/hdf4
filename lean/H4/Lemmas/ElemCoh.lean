import H4.Lemmas.ElemHLPwrite
/-! Coherence of the cached DD list with its on-disk image (`Coh`) through every primitive and composite step
    (cached mode). -/
namespace H4.Elem
open H4.Gen.Hdf

theorem coh_of_fields {f g : File} (h : Coh f) (h1 : g.cache = f.cache) (h2 : g.ndds = f.ndds) (h3 : g.mem = f.mem)
    (h4 : g.dsk = f.dsk) (h5 : g.blkDirty = f.blkDirty) : Coh g := by
  refine ⟨by rw [h1]; exact h.cache, by rw [h2]; exact h.ndds_pos, by rw [h3, h4]; exact h.dsk_len,
    by rw [h5, h2, h3]; exact h.dirty_len, ?_⟩
  intro i hi hc
  rw [h3] at hi
  rw [h5, h2] at hc
  have := h.dirty_ok i hi hc
  simp only [File.dd, h3, h4] at this ⊢
  exact this

theorem coh_pwrite {f : File} (h : Coh f) (off : Nat) (bs : Bytes) : Coh (f.pwrite off bs) :=
  coh_of_fields h rfl rfl rfl rfl rfl

theorem coh_endOff {f : File} (h : Coh f) (e : Nat) : Coh { f with endOff := e } :=
  coh_of_fields h rfl rfl rfl rfl rfl

theorem coh_links {f : File} (h : Coh f) (l : List ((Nat × Nat) × LinkInfo)) : Coh { f with links := l } :=
  coh_of_fields h rfl rfl rfl rfl rfl

theorem coh_setLink {f : File} (h : Coh f) (k : Nat × Nat) (li : LinkInfo) : Coh (f.setLink k li) :=
  coh_of_fields h rfl rfl rfl rfl rfl

theorem coh_attach {f : File} (h : Coh f) (n : Nat) : Coh { f with attach := n } :=
  coh_of_fields h rfl rfl rfl rfl rfl

theorem updateDD_dsk (f : File) (i : Nat) (hc : f.cache = true) : (f.updateDD i).dsk = f.dsk := by
  unfold File.updateDD; simp only [File.dd]
  split <;> rw [if_pos hc]
theorem updateDD_blkDirty (f : File) (i : Nat) (hc : f.cache = true) :
    (f.updateDD i).blkDirty = f.blkDirty.set (i / f.ndds) true := by
  unfold File.updateDD; simp only [File.dd]
  split <;> rw [if_pos hc]
theorem getDiskBlock_dsk (f : File) (n : Nat) : (f.getDiskBlock n).1.dsk = f.dsk := by
  unfold File.getDiskBlock; simp only; split
  · rfl
  · split <;> rfl
theorem getDiskBlock_blkDirty (f : File) (n : Nat) : (f.getDiskBlock n).1.blkDirty = f.blkDirty := by
  unfold File.getDiskBlock; simp only; split
  · rfl
  · split <;> rfl
theorem getDiskBlock_blkOff (f : File) (n : Nat) : (f.getDiskBlock n).1.blkOff = f.blkOff := by
  unfold File.getDiskBlock; simp only; split
  · rfl
  · split <;> rfl

theorem coh_getDiskBlock {f : File} (h : Coh f) (n : Nat) : Coh (f.getDiskBlock n).1 :=
  coh_of_fields h (getDiskBlock_cache f n) (getDiskBlock_ndds f n) (getDiskBlock_mem f n) (getDiskBlock_dsk f n)
    (getDiskBlock_blkDirty f n)

theorem coh_set_update {f : File} (h : Coh f) (i : Nat) (d : DD) (hi : i < f.mem.length) :
    Coh (({ f with mem := f.mem.set i d } : File).updateDD i) := by
  have hc := h.cache
  have key : Coh ({ f with mem := f.mem.set i d, blkDirty := f.blkDirty.set (i / f.ndds) true } : File) := by
    refine ⟨hc, h.ndds_pos, by simp [h.dsk_len], by simp [h.dirty_len], ?_⟩
    intro j hj hcl
    simp only [List.length_set] at hj
    simp only [List.getD_eq_getElem?_getD, List.getElem?_set] at hcl
    have hib : i / f.ndds < f.blkDirty.length := by
      rw [Nat.div_lt_iff_lt_mul h.ndds_pos, h.dirty_len]; exact hi
    by_cases hb : i / f.ndds = j / f.ndds
    · rw [← hb] at hcl
      simp [hib] at hcl
    · simp only [hb, if_false] at hcl
      have hne : i ≠ j := fun e => hb (by rw [e])
      have := h.dirty_ok j hj (by simpa [List.getD_eq_getElem?_getD] using hcl)
      simp only [File.dd, List.getD_eq_getElem?_getD, List.getElem?_set, hne, if_false] at this ⊢
      exact this
  exact coh_of_fields key (updateDD_cache _ i) (updateDD_ndds _ i) (updateDD_mem _ i) (updateDD_dsk _ i hc)
    (updateDD_blkDirty _ i hc)

theorem coh_ddSetExt {f : File} (h : Coh f) (i : Nat) (e : Nat × Nat) (hi : i < f.mem.length) : Coh (f.ddSetExt i e) := by
  unfold File.ddSetExt
  exact coh_set_update h i _ hi

theorem coh_setLength {f : File} (h : Coh f) (i n : Nat) (hi : i < f.mem.length) : Coh (f.setLength i n).1 := by
  unfold File.setLength
  simp only
  exact coh_ddSetExt (coh_getDiskBlock h n) i _ (by rw [getDiskBlock_mem]; exact hi)

theorem newDDBlock_dsk (f : File) (_hc : f.cache = true) : f.newDDBlock.dsk = f.dsk ++ List.replicate f.ndds nilDD := by
  unfold File.newDDBlock; simp only [getDiskBlock_dsk, getDiskBlock_ndds]
theorem newDDBlock_blkDirty (f : File) (hc : f.cache = true) :
    f.newDDBlock.blkDirty = f.blkDirty.set (f.blkOff.length - 1) true ++ [true] := by
  unfold File.newDDBlock
  simp only [getDiskBlock_blkDirty, getDiskBlock_blkOff, getDiskBlock_cache, hc, if_true]

theorem coh_newDDBlock {f : File} (h : Coh f) : Coh f.newDDBlock := by
  have hc := h.cache
  refine ⟨by rw [newDDBlock_cache]; exact hc, by rw [newDDBlock_ndds]; exact h.ndds_pos,
    by rw [newDDBlock_dsk f hc, newDDBlock_mem]; simp [h.dsk_len], ?_, ?_⟩
  · rw [newDDBlock_blkDirty f hc, newDDBlock_ndds, newDDBlock_mem]
    simp only [List.length_append, List.length_set, List.length_cons, List.length_nil, List.length_replicate]
    rw [Nat.add_mul, h.dirty_len]; omega
  · intro j hj hcl
    rw [newDDBlock_mem] at hj
    simp only [List.length_append, List.length_replicate] at hj
    rw [newDDBlock_blkDirty f hc, newDDBlock_ndds] at hcl
    by_cases hjl : j < f.mem.length
    · have hjb : j / f.ndds < f.blkDirty.length := by
        rw [Nat.div_lt_iff_lt_mul h.ndds_pos, h.dirty_len]; exact hjl
      simp only [List.getD_eq_getElem?_getD, List.getElem?_append, List.length_set, hjb, if_true, List.getElem?_set] at hcl
      have hclean : f.blkDirty.getD (j / f.ndds) false = false := by
        by_cases hb2 : f.blkOff.length - 1 = j / f.ndds
        · simp [hb2, hjb] at hcl
        · simp only [hb2, if_false] at hcl
          simpa [List.getD_eq_getElem?_getD] using hcl
      have := h.dirty_ok j hjl hclean
      have hjd : j < f.dsk.length := by rw [h.dsk_len]; exact hjl
      rw [newDDBlock_dsk f hc, newDDBlock_dd]
      simp only [List.getD_eq_getElem?_getD, List.getElem?_append, hjd, if_true] at this ⊢
      exact this
    · exfalso
      have hjb : ¬ (j / f.ndds < f.blkDirty.length) := by
        rw [Nat.div_lt_iff_lt_mul h.ndds_pos, h.dirty_len]; exact hjl
      have hjb2 : j / f.ndds - f.blkDirty.length = 0 := by
        have : j / f.ndds < f.blkDirty.length + 1 := by
          rw [Nat.div_lt_iff_lt_mul h.ndds_pos, Nat.add_mul, h.dirty_len]; omega
        omega
      simp [List.getD_eq_getElem?_getD, List.getElem?_append, hjb, hjb2] at hcl

theorem coh_ddCreate {f : File} (h : Coh f) (tag ref : Nat) : Coh (f.ddCreate tag ref).1 := by
  unfold File.ddCreate
  cases hf : f.findFree with
  | some i =>
    simp only
    exact coh_set_update h i _ (findFree_some f i hf).1
  | none =>
    simp only
    have h1 := coh_newDDBlock h
    exact coh_set_update h1 f.mem.length _ (by rw [newDDBlock_mem]; simp; exact h.ndds_pos)

theorem coh_ddDelete {f : File} (h : Coh f) (i : Nat) (hi : i < f.mem.length) : Coh (f.ddDelete i) := by
  have hc := h.cache
  have key := coh_set_update h i { f.dd i with tag := DFTAG_NULL } hi
  unfold File.ddDelete
  have e1 : (f.updateDD i).dd i = f.dd i := updateDD_dd f i i
  refine coh_of_fields key ?_ ?_ ?_ ?_ ?_
  · show (f.updateDD i).cache = _; rw [updateDD_cache, updateDD_cache]
  · show (f.updateDD i).ndds = _; rw [updateDD_ndds, updateDD_ndds]
  · show (f.updateDD i).mem.set i _ = _; rw [updateDD_mem, updateDD_mem, e1]
  · show (f.updateDD i).dsk = _; rw [updateDD_dsk f i hc, updateDD_dsk _ i (by exact hc)]
  · show (f.updateDD i).blkDirty = _; rw [updateDD_blkDirty f i hc, updateDD_blkDirty _ i (by exact hc)]


theorem ddCreate_lt (f : File) (tag ref : Nat) (hn : 1 ≤ f.ndds) : (f.ddCreate tag ref).2 < (f.ddCreate tag ref).1.mem.length := by
  unfold File.ddCreate
  cases hf : f.findFree with
  | some i => simp only [updateDD_mem, List.length_set]; exact (findFree_some f i hf).1
  | none => simp only [updateDD_mem, List.length_set, newDDBlock_mem, List.length_append, List.length_replicate]; omega

theorem coh_putNew {f : File} (h : Coh f) (tag ref len : Nat) (bs : Bytes) : Coh (f.putNew tag ref len bs).1 := by
  unfold File.putNew
  simp only
  have h1 := coh_ddCreate h tag ref
  have hlt := ddCreate_lt f tag ref h.ndds_pos
  exact coh_endOff (coh_pwrite (coh_setLength h1 _ len hlt) _ _) _

theorem coh_newTable {f : File} (h : Coh f) (ref nb : Nat) : Coh (f.newTable ref nb) := coh_putNew h _ _ _ _

theorem coh_ensureTables : ∀ (fuel : Nat) (f : File) (li : LinkInfo) (t : Nat), Coh f → Coh (ensureTables f li fuel t).1 := by
  intro fuel
  induction fuel with
  | zero => intro f li t h; exact h
  | succ fuel ih =>
    intro f li t h
    rw [ensureTables_succ]
    split
    · exact h
    · simp only
      split
      · exact coh_newTable (ih f li (t - 1) h) _ _
      · exact ih f li (t - 1) h

theorem coh_writeBlock {f : File} (h : Coh f) (li : LinkInfo) (p : Piece) (bs : Bytes) (f' : File) (li' : LinkInfo)
    (hr : writeBlock f li p bs = some (f', li')) : Coh f' := by
  unfold writeBlock at hr
  simp only at hr
  split at hr
  · split at hr
    · simp at hr
    · split at hr
      · simp at hr
      · simp only [Option.some.injEq, Prod.mk.injEq] at hr
        rw [← hr.1]; exact coh_pwrite h _ _
  · split at hr
    · simp at hr
    · simp only [Option.some.injEq, Prod.mk.injEq] at hr
      rw [← hr.1]
      have h1 := coh_ddCreate h DFTAG_LINKED (f.tagNewRef DFTAG_LINKED)
      have hlt := ddCreate_lt f DFTAG_LINKED (f.tagNewRef DFTAG_LINKED) h.ndds_pos
      exact coh_endOff (coh_pwrite (coh_setLength h1 _ p.cur hlt) _ _) _

theorem coh_writePieces : ∀ (ps : List Piece) (f : File) (li : LinkInfo) (bs : Bytes) (f' : File) (li' : LinkInfo),
    Coh f → writePieces f li ps bs = some (f', li') → Coh f' := by
  intro ps
  induction ps with
  | nil => intro f li bs f' li' h hr; simp only [writePieces, Option.some.injEq, Prod.mk.injEq] at hr; rw [← hr.1]; exact h
  | cons q rest ih =>
    intro f li bs f' li' h hr
    simp only [writePieces] at hr
    cases hp : writePiece f li q (bs.take q.n) with
    | none => rw [hp] at hr; simp at hr
    | some r =>
      obtain ⟨f1, li1⟩ := r
      rw [hp] at hr
      simp only at hr
      rw [writePiece_eq] at hp
      have h1 := coh_writeBlock (coh_ensureTables _ f li q.tbl h) _ _ _ _ _ hp
      exact ih f1 li1 _ f' li' h1 hr

theorem coh_hlpWrite {f : File} (h : Coh f) (li : LinkInfo) (hs posn : Nat) (bs : Bytes) :
    Coh (hlpWrite f li hs posn bs).1 := by
  unfold hlpWrite
  split
  · exact h
  · split
    · exact h
    · simp only
      have h1 := coh_ensureTables ((startBlock li.firstLen li.blockLen posn).1 / li.numBlocks + 1) f li
        ((startBlock li.firstLen li.blockLen posn).1 / li.numBlocks) h
      split
      · exact h1
      · rename_i f2 li2 hwp
        have h2 := coh_writePieces _ _ _ _ _ _ h1 hwp
        split
        · exact h2
        · split
          · exact h2
          · split
            · exact h2
            · exact coh_pwrite h2 _ _

end H4.Elem
