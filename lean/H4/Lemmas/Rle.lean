import H4.Rle
/-! Lemmas on the model of crle.c (`H4.Rle`): the decoder as a parser of valid packets (`decPkt`, inverse to `Pkt.ser`) and the encoder invariant (`Inv`).
    The property statements are in `H4/Props/C05.lean`. -/
namespace H4.Rle
open H4.Gen.Crle

/-- the values of the generated constants the proofs below were written for (Tie A re-checks them) -/
theorem consts : RUN_MASK = 128 ∧ COUNT_MASK = 127 ∧ RLE_BUF_SIZE = 128 ∧ RLE_MIN_RUN = 3 ∧
    RLE_MAX_RUN = 130 ∧ RLE_MIN_MIX = 1 := by decide

theorem toNat_ofNat_lt (n : Nat) (h : n < 256) : (UInt8.ofNat n).toNat = n := by
  simp [UInt8.toNat_ofNat']
  omega

theorem or128 : ∀ k < 128, 128 ||| k = 128 + k := fun _ h => (Nat.two_pow_add_eq_or_of_lt (i := 7) h 1).symm
theorem and128_hi : ∀ k < 128, (128 + k) &&& 128 = 128 := by decide
theorem and127_hi : ∀ k < 128, (128 + k) &&& 127 = k := fun k h => by
  rw [show 127 = 2 ^ 7 - 1 from rfl, Nat.and_two_pow_sub_one_eq_mod, show 2 ^ 7 = 128 from rfl, Nat.add_mod_left, Nat.mod_eq_of_lt h]
theorem and128_lo : ∀ k < 128, k &&& 128 = 0 := by decide
theorem and127_lo : ∀ k < 128, k &&& 127 = k := fun _ h => Nat.and_two_pow_sub_one_of_lt_two_pow (n := 7) h

/-- the packet at the head of a stream, as `HCIcrle_decode` reads it in state INIT, and what follows it -/
def decPkt : List Byte → Option (Pkt × List Byte)
  | [] => none
  | c :: rest =>
    if c.toNat &&& RUN_MASK ≠ 0 then
      match rest with
      | [] => none
      | v :: r => some (.run ((c.toNat &&& COUNT_MASK) + RLE_MIN_RUN) v, r)
    else
      let n := (c.toNat &&& COUNT_MASK) + RLE_MIN_MIX
      if rest.length < n then none else some (.mix (rest.take n), rest.drop n)

theorem decFuel_cons (f : Nat) (c : Byte) (rest : List Byte) :
    decFuel (f + 1) (c :: rest) = (decPkt (c :: rest)).bind fun pr => (decFuel f pr.2).map (pr.1.expand ++ ·) := by
  simp only [decFuel, decPkt]
  split
  · cases rest <;> rfl
  · split <;> rfl

theorem Pkt.ctl_run (n : Nat) (v : Byte) (h : (Pkt.run n v).Valid) :
    (UInt8.ofNat (RUN_MASK ||| (n - RLE_MIN_RUN))).toNat &&& RUN_MASK ≠ 0 ∧
      ((UInt8.ofNat (RUN_MASK ||| (n - RLE_MIN_RUN))).toNat &&& COUNT_MASK) + RLE_MIN_RUN = n := by
  obtain ⟨c1, c2, -, c4, c5, -⟩ := consts
  obtain ⟨h3, h130⟩ := h
  rw [c4] at h3; rw [c5] at h130
  have hk : n - 3 < 128 := by omega
  rw [c1, c2, c4, or128 _ hk, toNat_ofNat_lt _ (by omega), and128_hi _ hk, and127_hi _ hk]
  omega

theorem Pkt.ctl_mix (l : List Byte) (h : (Pkt.mix l).Valid) :
    (UInt8.ofNat (l.length - RLE_MIN_MIX)).toNat &&& RUN_MASK = 0 ∧
      ((UInt8.ofNat (l.length - RLE_MIN_MIX)).toNat &&& COUNT_MASK) + RLE_MIN_MIX = l.length := by
  obtain ⟨c1, c2, c3, -, -, c6⟩ := consts
  obtain ⟨h1, h128⟩ := h
  rw [c6] at h1; rw [c3] at h128
  have hk : l.length - 1 < 128 := by omega
  rw [c1, c2, c6, toNat_ofNat_lt _ (by omega), and128_lo _ hk, and127_lo _ hk]
  omega

theorem decPkt_ser (p : Pkt) (hv : p.Valid) (rest : List Byte) : decPkt (p.ser ++ rest) = some (p, rest) := by
  cases p with
  | run n v =>
    obtain ⟨h1, h2⟩ := Pkt.ctl_run n v hv
    rw [Pkt.ser, List.cons_append, List.cons_append, List.nil_append, decPkt, if_pos h1, h2]
  | mix l =>
    obtain ⟨h1, h2⟩ := Pkt.ctl_mix l hv
    simp only [Pkt.ser, List.cons_append, decPkt, h1, h2, ne_eq, not_true_eq_false, List.length_append,
      Nat.not_lt.mpr (Nat.le_add_right _ _), ↓reduceIte, List.take_left, List.drop_left]

theorem or128_and127 : ∀ n < 256, n &&& 128 ≠ 0 → 128 ||| (n &&& 127) = n := by decide +kernel
theorem and127_of_lo : ∀ n < 256, n &&& 128 = 0 → n &&& 127 = n := by decide +kernel

theorem decPkt_some {cs rest : List Byte} {p : Pkt} (h : decPkt cs = some (p, rest)) : p.Valid ∧ cs = p.ser ++ rest := by
  obtain ⟨c1, c2, c3, c4, c5, c6⟩ := consts
  cases cs with
  | nil => cases h
  | cons c r =>
    have hc := UInt8.toNat_lt c
    have h127 : c.toNat &&& 127 ≤ 127 := Nat.and_le_right
    simp only [decPkt, c1, c2, c4, c6] at h
    split at h
    · rename_i hrun
      cases r with
      | nil => cases h
      | cons v r =>
        cases h
        refine ⟨by simp only [Pkt.Valid, c4, c5]; omega, ?_⟩
        simp only [Pkt.ser, c1, c4, Nat.add_sub_cancel, or128_and127 _ hc hrun, UInt8.ofNat_toNat, List.cons_append, List.nil_append]
    · rename_i hmix
      simp only [ne_eq, Decidable.not_not] at hmix
      split at h
      · cases h
      · rename_i hlen
        cases h
        have hn : (r.take ((c.toNat &&& 127) + 1)).length = (c.toNat &&& 127) + 1 := by rw [List.length_take]; omega
        refine ⟨by simp only [Pkt.Valid, hn, c3, c6]; omega, ?_⟩
        rw [Pkt.ser, List.cons_append, hn, c6, Nat.add_sub_cancel, and127_of_lo _ hc hmix, UInt8.ofNat_toNat, List.take_append_drop]

theorem expand_ne_nil {p : Pkt} (hv : p.Valid) : p.expand ≠ [] := by
  obtain ⟨-, -, -, c4, -, c6⟩ := consts
  cases p with
  | run n v => intro h; have := congrArg List.length h; simp [Pkt.expand] at this; have := hv.1; omega
  | mix l => intro h; have := hv.1; simp [Pkt.expand] at h; subst h; simp [c6] at this

theorem decFuel_some {f : Nat} {cs out : List Byte} (h : decFuel f cs = some out) :
    (cs = [] ∧ out = []) ∨ ∃ (f' : Nat) (p : Pkt) (rest tail : List Byte), f = f' + 1 ∧ p.Valid ∧ cs = p.ser ++ rest ∧ decFuel f' rest = some tail ∧
      out = p.expand ++ tail := by
  cases cs with
  | nil => cases f <;> exact Or.inl ⟨rfl, by simpa [decFuel] using h.symm⟩
  | cons c r =>
    cases f with
    | zero => simp [decFuel] at h
    | succ f =>
      rw [decFuel_cons] at h
      obtain ⟨⟨p, rest⟩, hp, h⟩ := Option.bind_eq_some_iff.mp h
      obtain ⟨tail, ht, rfl⟩ := Option.map_eq_some_iff.mp h
      obtain ⟨hv, hs⟩ := decPkt_some hp
      exact Or.inr ⟨f, p, rest, tail, rfl, hv, hs, ht, rfl⟩

theorem decFuel_ser (ps : List Pkt) (hv : ∀ p ∈ ps, p.Valid) :
    ∀ fuel, (ser ps).length ≤ fuel → decFuel fuel (ser ps) = some (expand ps) := by
  induction ps with
  | nil => intro fuel _; cases fuel <;> rfl
  | cons p ps ih =>
    intro fuel hf
    have hvp := hv p (by simp)
    have hne : p.ser ≠ [] := by cases p <;> simp [Pkt.ser]
    simp only [ser, expand, List.flatMap_cons] at hf ⊢
    obtain ⟨c, r, hc⟩ := List.exists_cons_of_ne_nil hne
    obtain ⟨fuel, rfl⟩ : ∃ f, fuel = f + 1 := ⟨fuel - 1, by rw [hc] at hf; simp at hf; omega⟩
    have hd := decPkt_ser p hvp (ps.flatMap Pkt.ser)
    rw [hc, List.cons_append] at hd hf ⊢
    rw [decFuel_cons, hd]
    simp only [Option.bind_some]
    rw [show ps.flatMap Pkt.ser = ser ps from rfl, ih (fun q hq => hv q (by simp [hq])) fuel (by simp at hf; simp [ser]; omega)]
    rfl

theorem dec_ser (ps : List Pkt) (hv : ∀ p ∈ ps, p.Valid) : dec (ser ps) = some (expand ps) :=
  decFuel_ser ps hv _ (Nat.le_refl _)

theorem decFuel_parse : ∀ (fuel : Nat) (cs out : List Byte), decFuel fuel cs = some out →
    ∃ ps : List Pkt, (∀ p ∈ ps, p.Valid) ∧ ser ps = cs ∧ expand ps = out := by
  intro fuel
  induction fuel with
  | zero =>
    intro cs out h
    rcases decFuel_some h with ⟨rfl, rfl⟩ | ⟨f', _, _, _, hf, _⟩
    · exact ⟨[], by simp, rfl, rfl⟩
    · cases hf
  | succ f ih =>
    intro cs out h
    rcases decFuel_some h with ⟨rfl, rfl⟩ | ⟨f', p, rest, tail, hf, hv, rfl, ht, rfl⟩
    · exact ⟨[], by simp, rfl, rfl⟩
    · cases hf
      obtain ⟨ps, hvs, rfl, rfl⟩ := ih rest tail ht
      exact ⟨p :: ps, fun q hq => (List.mem_cons.mp hq).elim (· ▸ hv) (hvs q), by simp [ser], by simp [expand]⟩

theorem decFuel_nil (f : Nat) (s : List Byte) (h : decFuel f s = some []) : s = [] := by
  rcases decFuel_some h with ⟨rfl, -⟩ | ⟨_, p, _, tail, -, hv, -, -, he⟩
  · rfl
  · exact absurd (List.append_eq_nil_iff.mp he.symm).1 (expand_ne_nil hv)

theorem dec_parse (cs out : List Byte) (h : dec cs = some out) :
    ∃ ps : List Pkt, (∀ p ∈ ps, p.Valid) ∧ ser ps = cs ∧ expand ps = out := decFuel_parse _ cs out h

theorem split_last {α} (l : List α) (b : α) (h : l.getLast? = some b) : l = l.dropLast ++ [b] := by
  have hne : l ≠ [] := by intro h'; simp [h'] at h
  have := List.dropLast_concat_getLast hne
  rw [List.getLast?_eq_some_getLast hne] at h
  simp at h
  rw [h] at this
  exact this.symm

/-- bytes consumed by the encoder but not yet emitted -/
def pending (s : Enc) : List Byte :=
  match s.mode with
  | .init => []
  | .run => List.replicate s.len (s.last.getD 0)
  | .mix => s.buf

/-- encoder invariant; it records the two facts the C relies on silently: in RUN `second = last`,
    in a 1-byte MIX `second ≠ last` (so a stale `second_byte` is harmless) -/
def Inv (s : Enc) : Prop :=
  match s.mode with
  | .init => s.last = none ∧ s.second = none
  | .run => 3 ≤ s.len ∧ s.len < 130 ∧ (∃ v, s.last = some v) ∧ s.second = s.last
  | .mix => 1 ≤ s.len ∧ s.len < 128 ∧ s.buf.length = s.len ∧ s.last = s.buf.getLast? ∧
            (s.len = 1 → s.second ≠ s.last) ∧ (2 ≤ s.len → s.second = s.buf.dropLast.getLast?)

theorem step_ok (s : Enc) (b : Byte) (h : Inv s) :
    Inv (encStep s b).1 ∧ (∀ p ∈ (encStep s b).2, p.Valid) ∧
    expand (encStep s b).2 ++ pending (encStep s b).1 = pending s ++ [b] := by
  obtain ⟨c1, c2, c3, c4, c5, c6⟩ := consts
  obtain ⟨mode, buf, len, last, second⟩ := s
  cases mode with
  | init =>
    simp only [Inv] at h
    obtain ⟨h1, h2⟩ := h
    subst h1; subst h2
    simp [encStep, Inv, pending, expand]
  | run =>
    simp only [Inv] at h
    obtain ⟨h3, h130, ⟨v, hv⟩, hsec⟩ := h
    subst hv; subst hsec
    by_cases hb : b = v
    · subst hb
      by_cases hl : len + 1 ≥ 130
      · simp [encStep, c5, c4, hl, Inv, pending, expand, Pkt.expand, Pkt.Valid, List.replicate_succ']
        omega
      · simp [encStep, c5, hl, Inv, pending, expand, List.replicate_succ']
        omega
    · have hb' : ¬ (some b = some v) := by simpa using hb
      simp [encStep, c5, c4, hb, Inv, pending, expand, Pkt.expand, Pkt.Valid]
      refine ⟨?_, by omega⟩
      intro h; exact hb h.symm
  | mix =>
    simp only [Inv] at h
    obtain ⟨h1, h128, hlen, hlast, hone, htwo⟩ := h
    by_cases hc : some b = last ∧ some b = second
    · obtain ⟨hl, hs⟩ := hc
      have h2 : 2 ≤ len := by
        rcases Nat.lt_or_ge len 2 with h | h
        · have : len = 1 := by omega
          exact absurd (hs.symm.trans hl) (hone this)
        · exact h
      have hs2 := htwo h2
      have hne : buf ≠ [] := by intro h; simp [h] at hlen; omega
      have hd : buf = buf.dropLast ++ [b] := split_last buf b (by rw [← hlast, ← hl])
      have hne2 : buf.dropLast ≠ [] := by
        intro h; have := congrArg List.length h; simp at this; omega
      have hd2 : buf.dropLast = buf.dropLast.dropLast ++ [b] :=
        split_last buf.dropLast b (by rw [← hs2, ← hs])
      have htake : buf.take (len - 2) = buf.dropLast.dropLast := by
        simp [List.dropLast_eq_take, hlen, List.take_take]
        congr 1; omega
      subst hl
      subst hs
      simp only [encStep, and_self, ↓reduceIte, Inv, pending, c4]
      refine ⟨by simp, ?_, ?_⟩
      · intro p hp
        by_cases hg : len > 2
        · simp [hg] at hp; subst hp
          simp [Pkt.Valid, hlen, c6, c3]; omega
        · simp [hg] at hp
      · by_cases hg : len > 2
        · simp only [Nat.add_one_sub_one, hg, ↓reduceIte, expand, List.flatMap_cons, List.flatMap_nil, Pkt.expand,
            List.append_nil, Option.getD_some, htake]
          conv => rhs; rw [hd, hd2]
          simp [List.replicate]
        · have : len = 2 := by omega
          subst this
          have hz : buf.dropLast.dropLast = [] := by
            apply List.eq_nil_of_length_eq_zero; simp [hlen]
          simp only [Nat.add_one_sub_one, hg, ↓reduceIte, expand, List.flatMap_nil, List.nil_append, Option.getD_some]
          conv => rhs; rw [hd, hd2, hz]
          simp [List.replicate]
    · by_cases hl : len + 1 ≥ 128
      · simp [encStep, c3, c6, hc, hl, Inv, pending, expand, Pkt.expand, Pkt.Valid, hlen]
        omega
      · simp only [encStep, c3, hc, ↓reduceIte, hl, Inv, pending, expand, List.flatMap_nil,
          List.nil_append, List.not_mem_nil, false_implies, implies_true, and_true]
        refine ⟨by omega, by omega, by simp [hlen], by simp, by omega, ?_⟩
        intro _
        simp [hlast]

theorem run_ok : ∀ (bs : List Byte) (s : Enc), Inv s →
    Inv (encRun s bs).1 ∧ (∀ p ∈ (encRun s bs).2, p.Valid) ∧
    expand (encRun s bs).2 ++ pending (encRun s bs).1 = pending s ++ bs := by
  intro bs
  induction bs with
  | nil => intro s h; simp [encRun, h, expand]
  | cons b bs ih =>
    intro s h
    obtain ⟨h1, h2, h3⟩ := step_ok s b h
    obtain ⟨g1, g2, g3⟩ := ih (encStep s b).1 h1
    simp only [encRun]
    refine ⟨g1, ?_, ?_⟩
    · intro p hp
      rcases List.mem_append.mp hp with hp | hp
      · exact h2 p hp
      · exact g2 p hp
    · simp only [expand, List.flatMap_append, List.append_assoc] at *
      rw [g3, ← List.append_assoc, h3]; simp

theorem term_ok (s : Enc) (h : Inv s) :
    (∀ p ∈ encTerm s, p.Valid) ∧ expand (encTerm s) = pending s := by
  obtain ⟨c1, c2, c3, c4, c5, c6⟩ := consts
  obtain ⟨mode, buf, len, last, second⟩ := s
  cases mode <;> simp [Inv] at h <;> simp [encTerm, pending, expand, Pkt.expand, Pkt.Valid, c3, c4, c5, c6]
  · omega
  · omega

theorem init_inv : Inv {} := by simp [Inv]

def Consumed (e : Enc) (em : List Pkt) (data : List Byte) : Prop :=
  Inv e ∧ (∀ p ∈ em, p.Valid) ∧ expand em ++ pending e = data

theorem Consumed.init : Consumed {} [] [] := ⟨init_inv, by simp, rfl⟩

theorem Consumed.run {e em data} (h : Consumed e em data) (bs : List Byte) :
    Consumed (encRun e bs).1 (em ++ (encRun e bs).2) (data ++ bs) := by
  obtain ⟨h1, h2, h3⟩ := h
  obtain ⟨q1, q2, q3⟩ := run_ok bs e h1
  refine ⟨q1, fun p hp => (List.mem_append.mp hp).elim (h2 p) (q2 p), ?_⟩
  simp only [expand, List.flatMap_append, List.append_assoc] at q3 h3 ⊢
  rw [q3, ← List.append_assoc, h3]

theorem Consumed.term {e em data} (h : Consumed e em data) : dec (ser (em ++ encTerm e)) = some data := by
  obtain ⟨hinv, hval, hdata⟩ := h
  obtain ⟨t1, t2⟩ := term_ok e hinv
  rw [dec_ser _ fun p hp => (List.mem_append.mp hp).elim (hval p) (t1 p)]
  simp only [expand, List.flatMap_append] at t2 hdata ⊢
  rw [t2, hdata]

theorem encRun_append (a b : List Byte) : ∀ e : Enc,
    encRun e (a ++ b) = ((encRun (encRun e a).1 b).1, (encRun e a).2 ++ (encRun (encRun e a).1 b).2) := by
  induction a with
  | nil => intro e; simp [encRun]
  | cons x a ih => intro e; simp [encRun, ih]

end H4.Rle
