import H4.Lemmas.C05NBitFn
/-! Lemmas for `H4.Props.C05NBitFn`, decoder part: the loops of `HCIcnbit_decode` (cnbit.c) as TRANSLATED from the C text (`H4.Gen.Fn.Cnbit`)
    compute the model's `decBytes` / `decItemN` / `refillBits` / `decodeLoop` (`H4.NBit`), loop by loop from the inside.  The translated `Hbitread` sees the
    element as a list of bits (`bitsI`), the model runs the bit layer: the two meet in `H4.NBit.refillItems_bits`.  Core only. -/
namespace H4.Lemmas.C05NBitFn
open H4.NBit H4.Bits H4.BitIO H4.Gen.Cnbit H4.Gen.Fn.Cnbit H4.Gen.Hbitio
open H4.Lemmas.C05Rle (bytes bytes_length bytes_append bytes_take bytes_drop)
open H4.C2L (IsLoop storeAt storeAt_nil storeAt_set length_storeAt getElem?_storeAt map_storeAt storeAt_mid)

/-- a bit stream as the translated `Hbitread` sees it: one cell per bit, most significant first -/
def bitsI (l : List Bool) : List Int := l.map fun b => if b then 1 else 0

@[simp] theorem bitsI_length (l : List Bool) : (bitsI l).length = l.length := by simp [bitsI]
theorem bitsI_take (l : List Bool) (n : Nat) : (bitsI l).take n = bitsI (l.take n) := by simp [bitsI]
theorem bitsI_drop (l : List Bool) (n : Nat) : (bitsI l).drop n = bitsI (l.drop n) := by simp [bitsI]

theorem foldl_bitsI (l : List Bool) (a : Nat) :
    (bitsI l).foldl (fun acc b => acc * 2 + b) (a : Int) = ((l.foldl (fun a b => 2 * a + b.toNat) a : Nat) : Int) := by
  induction l generalizing a with
  | nil => rfl
  | cons b l ih =>
    simp only [bitsI, List.map_cons, List.foldl_cons] at ih ⊢
    have : (a : Int) * 2 + (if b = true then 1 else 0) = ((2 * a + b.toNat : Nat) : Int) := by cases b <;> simp <;> omega
    rw [this, ih]

theorem bitread_val (io_in : List Int) (p : Nat) (bits : List Bool) (w : Nat) (h : io_in.drop p = bitsI bits) :
    ((io_in.drop p).take w).foldl (fun acc b => acc * 2 + b) 0 = ((ofBits (bits.take w) : Nat) : Int) := by
  rw [h, bitsI_take]; exact foldl_bitsI _ 0

theorem bitread_ok_len (io_in : List Int) (p : Nat) (bits : List Bool) (w : Nat) (h : io_in.drop p = bitsI bits) (hp : p ≤ io_in.length) (hw : w ≤ bits.length) :
    (p : Int) + (w : Int) ≤ (io_in.length : Int) := by
  have := congrArg List.length h
  simp at this
  omega

theorem bitread_drop (io_in : List Int) (p : Nat) (bits : List Bool) (w : Nat) (h : io_in.drop p = bitsI bits) :
    io_in.drop (p + w) = bitsI (bits.drop w) := by
  rw [← List.drop_drop, h, bitsI_drop]

theorem dec_chk_true (s : HCIcnbit_decode.St) (c : Prop) [Decidable c] (h : c) : HCIcnbit_decode.chk s c = s := by
  simp [HCIcnbit_decode.chk, h]

/-- what the per-byte loops of `HCIcnbit_decode` need of the state: the mask entries `mis` from byte `j0` on, the mask-buffer bytes `mbs`
    at `q` in the expansion buffer, the bits to come at `p` -/
structure BytePre (mis : List MaskInfo) (mbs : List Nat) (j0 q p : Nat) (bits : List Bool) (s : HCIcnbit_decode.St) : Prop where
  j : s.j = (j0 : Int)
  mptr : s.mask_info = (j0 : Int)
  nts : s.nbit_nt_size = ((j0 + mis.length : Nat) : Int)
  j16 : j0 + mis.length ≤ 16
  lo : s.nbit_mask_info_offset.length = 16
  ll : s.nbit_mask_info_length.length = 16
  lm : s.nbit_mask_info_mask.length = 16
  tab : ∀ t, t < mis.length → s.nbit_mask_info_offset.getD (j0 + t) 0 = ((mis.getD t {}).offset : Int) ∧
    s.nbit_mask_info_length.getD (j0 + t) 0 = ((mis.getD t {}).length : Int) ∧ s.nbit_mask_info_mask.getD (j0 + t) 0 = ((mis.getD t {}).mask : Int)
  good : ∀ m ∈ mis, Shape m
  mlen : mbs.length = mis.length
  qlen : q + mis.length ≤ s.nbit_buffer.length
  buf : ∀ t, t < mis.length → s.nbit_buffer.getD (q + t) 0 = ((mbs.getD t 0 : Nat) : Int)
  pos : s.io_pos = (p : Int)
  ple : p ≤ s.io_in.length
  inp : s.io_in.drop p = bitsI bits
  enough : (widths mis).sum ≤ bits.length
  ibits : 0 ≤ s.input_bits
  ub : s.ub = false
  done : s.done = false

/-- `BytePre` survives a pass that consumed `w` bits (0 for an entry without bits) and stored `x` at the cursor -/
theorem BytePre.next {m : MaskInfo} {mis : List MaskInfo} {mb : Nat} {mbs : List Nat} {j0 q p : Nat} {bits : List Bool} {s : HCIcnbit_decode.St}
    (h : BytePre (m :: mis) (mb :: mbs) j0 q p bits s) (w : Nat) (x : Int) (hw : (widths (m :: mis)).sum = w + (widths mis).sum)
    (ib pos' sbit c1 c2 : Int) (buf' : List Int) (hb : buf' = s.nbit_buffer.set q x) (hp : pos' = (p : Int) + (w : Int)) (hib : 0 ≤ ib) :
    BytePre mis mbs (j0 + 1) (q + 1) (p + w) (bits.drop w)
      { s with input_bits := ib, io_pos := pos', nbit_buffer := buf', sign_bit := sbit, j := s.j + 1, mask_info := s.mask_info + 1,
               rbuf2 := c2, rbuf := c1 } := by
  subst hb hp
  have hen := h.enough
  have hle := bitread_ok_len s.io_in p bits w h.inp h.ple (by omega)
  have hql := h.qlen; have hj16 := h.j16; have hn := h.nts
  simp only [List.length_cons] at hql hj16 hn
  refine ⟨by rw [h.j]; rfl, by rw [h.mptr]; rfl, by rw [hn]; omega, by omega, h.lo, h.ll, h.lm, ?_, fun y hy => h.good y (List.mem_cons_of_mem _ hy),
    Nat.succ.inj h.mlen, by rw [List.length_set]; omega, ?_, rfl,
    by show p + w ≤ s.io_in.length; omega, bitread_drop s.io_in p bits w h.inp, by rw [List.length_drop]; omega, hib, h.ub, h.done⟩
  · intro t ht
    have := h.tab (t + 1) (Nat.succ_lt_succ ht)
    rw [Nat.add_assoc, Nat.add_comm 1 t]
    exact this
  · intro t ht
    have := h.buf (t + 1) (Nat.succ_lt_succ ht)
    show List.getD (List.set _ _ _) _ 0 = _
    rw [List.getD_eq_getElem?_getD, List.getElem?_set_ne (by omega), ← List.getD_eq_getElem?_getD, Nat.add_assoc, Nat.add_comm 1 t]
    exact this

theorem BytePre.head {m : MaskInfo} {mis : List MaskInfo} {mb : Nat} {mbs : List Nat} {j0 q p : Nat} {bits : List Bool} {s : HCIcnbit_decode.St}
    (h : BytePre (m :: mis) (mb :: mbs) j0 q p bits s) :
    s.nbit_mask_info_offset.getD j0 0 = (m.offset : Int) ∧ s.nbit_mask_info_length.getD j0 0 = (m.length : Int) ∧
    s.nbit_mask_info_mask.getD j0 0 = (m.mask : Int) ∧ s.nbit_buffer.getD q 0 = ((mb : Nat) : Int) ∧ (j0 : Int) < 16 ∧
    (q : Int) < (s.nbit_buffer.length : Int) ∧ (p : Int) + (m.length : Int) ≤ (s.io_in.length : Int) ∧
    ((s.io_in.drop p).take m.length).foldl (fun acc b => acc * 2 + b) 0 = ((ofBits (bits.take m.length) : Nat) : Int) := by
  obtain ⟨ho, hl, hk⟩ := h.tab 0 (by simp)
  have hb := h.buf 0 (by simp)
  have hql := h.qlen; have hj16 := h.j16; have hen := h.enough
  rw [widths_cons] at hen
  simp only [Nat.add_zero, List.getD_cons_zero, List.length_cons] at ho hl hk hb hql hj16
  refine ⟨ho, hl, hk, hb, by omega, by omega, bitread_ok_len s.io_in p bits m.length h.inp h.ple ?_, bitread_val s.io_in p bits m.length h.inp⟩
  split at hen
  · rw [List.sum_cons] at hen; omega
  · omega

/-- what the C arithmetic on a mask entry comes to: the shift count `(offset - length) + 1` and the word shifted into place, on 32 bits and as a byte -/
theorem shift_facts {m : MaskInfo} (hg : Shape m) (V : Nat) :
    ((m.offset : Int) - (m.length : Int) + 1).toNat = m.shift ∧ (0 : Int) ≤ (m.offset : Int) - (m.length : Int) + 1 ∧
    (m.offset : Int) - (m.length : Int) + 1 < 32 ∧ (V : Int) * 2 ^ m.shift % 4294967296 = (((V <<< m.shift) % 2 ^ 32 : Nat) : Int) ∧
    (V : Int) * 2 ^ m.shift % 256 = (((V <<< m.shift) % 256 : Nat) : Int) ∧
    ((m.mask &&& ((V <<< m.shift) % 256) : Nat) : Int) % 256 = ((m.mask &&& ((V <<< m.shift) % 256) : Nat) : Int) := by
  have g1 := hg.le; have g2 := hg.off; have g3 := hg.mask_lt
  refine ⟨by unfold MaskInfo.shift; omega, by omega, by omega, ?_, ?_, ?_⟩
  · rw [Int.natCast_emod, Int.natCast_shiftLeft, Int.shiftLeft_eq]; rfl
  · rw [Int.natCast_emod, Int.natCast_shiftLeft, Int.shiftLeft_eq]; rfl
  · have : m.mask &&& ((V <<< m.shift) % 256) ≤ (V <<< m.shift) % 256 := Nat.and_le_right
    have : (V <<< m.shift) % 256 < 256 := Nat.mod_lt _ (by omega)
    omega

/-! The inner loop over the bytes of one item exists twice in `HCIcnbit_decode`: with sign extension (`se`: loop 2, cursor `rbuf2`; it keeps the
    shifted word in `input_bits` and records the sign bit) and without (loop 5, cursor `rbuf`). -/

/-- the state after a pass that read the field of entry `m` from the bit stream into the byte at `q` -/
def readSt (se : Bool) (sM : Nat) (m : MaskInfo) (mb q p : Nat) (bits : List Bool) (s : HCIcnbit_decode.St) : HCIcnbit_decode.St :=
  let v : Nat := ofBits (bits.take m.length)
  let x : Nat := (v <<< m.shift) % 2 ^ 32
  { s with input_bits := if se then (x : Int) else (v : Int), io_pos := (p : Int) + (m.length : Int),
           nbit_buffer := s.nbit_buffer.set q ((decByte m mb v : Nat) : Int),
           sign_bit := if se then (if s.j = s.sign_byte then (if (sM &&& x) != 0 then 1 else 0) else s.sign_bit) else s.sign_bit,
           j := s.j + 1, mask_info := s.mask_info + 1, rbuf := if se then s.rbuf else s.rbuf + 1, rbuf2 := if se then s.rbuf2 + 1 else s.rbuf2 }

/-- the state after a pass over an entry without bits (`length = 0`) -/
def skipSt (se : Bool) (s : HCIcnbit_decode.St) : HCIcnbit_decode.St :=
  { s with j := s.j + 1, mask_info := s.mask_info + 1, rbuf := if se then s.rbuf else s.rbuf + 1, rbuf2 := if se then s.rbuf2 + 1 else s.rbuf2 }

theorem dec_body2_read {m : MaskInfo} {mis : List MaskInfo} {mb : Nat} {mbs : List Nat} {j0 q p : Nat} {bits : List Bool} {s : HCIcnbit_decode.St}
    (sM fuel : Nat) (h : BytePre (m :: mis) (mb :: mbs) j0 q p bits s) (hlen : m.length > 0) (hq : s.rbuf2 = (q : Int))
    (hsm : s.sign_mask = (sM : Int)) : HCIcnbit_decode.loop2.body fuel s = readSt true sM m mb q p bits s := by
  obtain ⟨ho, hl, hk, hb, hj16', hql', hok, hval⟩ := h.head
  unfold readSt
  generalize ofBits (List.take m.length bits) = V at hval ⊢
  obtain ⟨hsh, hsh0, hsh32, hA, hB, hC⟩ := shift_facts (h.good m (by simp)) V
  have hj := h.j; have hmi := h.mptr; have hp := h.pos; have hub := h.ub; have hdone := h.done; have hlo := h.lo; have hll := h.ll; have hlm := h.lm
  -- the sign test sits inside the `if length > 0` branch of the body, three statements before its end: the body is run once per case
  by_cases hsb : s.sign_byte = (j0 : Int)
  · simp [-List.getD_eq_getElem?_getD, HCIcnbit_decode.loop2.body, HCIcnbit_decode.chk, hj, hmi, hq, hp, hsm, hub, hdone, hsb, hj16', hql', hlen, ho, hl, hk, hb,
      hlo, hll, hlm, hok, hval, hsh, hsh0, hsh32, decByte, Int.shiftLeft_eq]
    simp only [hA, hB, hC, Int.toNat_natCast]
    exact ⟨trivial, trivial, ⟨Int.natCast_nonneg _, Int.natCast_nonneg _⟩, Int.natCast_nonneg _⟩
  · have hsb' : ¬ ((j0 : Int) = s.sign_byte) := fun h => hsb h.symm
    simp [-List.getD_eq_getElem?_getD, HCIcnbit_decode.loop2.body, HCIcnbit_decode.chk, hj, hmi, hq, hp, hsm, hub, hdone, hj16', hql', hlen, ho, hl, hk, hb,
      hlo, hll, hlm, hok, hval, hsh, hsh0, hsh32, hsb', decByte, Int.shiftLeft_eq]
    simp only [hB, hC, Int.toNat_natCast]
    exact ⟨trivial, Int.natCast_nonneg _, Int.natCast_nonneg _⟩

theorem dec_body5_read {m : MaskInfo} {mis : List MaskInfo} {mb : Nat} {mbs : List Nat} {j0 q p : Nat} {bits : List Bool} {s : HCIcnbit_decode.St}
    (sM fuel : Nat) (h : BytePre (m :: mis) (mb :: mbs) j0 q p bits s) (hlen : m.length > 0) (hq : s.rbuf = (q : Int)) :
    HCIcnbit_decode.loop5.body fuel s = readSt false sM m mb q p bits s := by
  obtain ⟨ho, hl, hk, hb, hj16', hql', hok, hval⟩ := h.head
  unfold readSt
  generalize ofBits (List.take m.length bits) = V at hval ⊢
  obtain ⟨hsh, hsh0, hsh32, _, hB, hC⟩ := shift_facts (h.good m (by simp)) V
  have hmi := h.mptr; have hp := h.pos; have hub := h.ub; have hdone := h.done; have hlo := h.lo; have hll := h.ll; have hlm := h.lm
  simp [-List.getD_eq_getElem?_getD, HCIcnbit_decode.loop5.body, HCIcnbit_decode.chk, hmi, hq, hp, hub, hdone, hj16', hql', hlen, ho, hl, hk, hb,
    hlo, hll, hlm, hok, hval, hsh, hsh0, hsh32, decByte]
  simp only [hB, hC, Int.toNat_natCast]
  exact ⟨trivial, Int.natCast_nonneg _, Int.natCast_nonneg _⟩

theorem dec_body_skip {m : MaskInfo} {mis : List MaskInfo} {mb : Nat} {mbs : List Nat} {j0 q p : Nat} {bits : List Bool} {s : HCIcnbit_decode.St}
    (fuel : Nat) (h : BytePre (m :: mis) (mb :: mbs) j0 q p bits s) (hlen : ¬ m.length > 0) :
    HCIcnbit_decode.loop2.body fuel s = skipSt true s ∧ HCIcnbit_decode.loop5.body fuel s = skipSt false s := by
  obtain ⟨_, hl, _, _, hj16', _⟩ := h.head
  have hl0 : s.nbit_mask_info_length.getD j0 0 = 0 := by rw [hl]; omega
  have hmi := h.mptr; have hll := h.ll; have hub := h.ub; have hdone := h.done
  constructor <;>
    simp [-List.getD_eq_getElem?_getD, HCIcnbit_decode.loop2.body, HCIcnbit_decode.loop5.body, skipSt, HCIcnbit_decode.chk, hmi, hj16', hl0, hll, hub, hdone]

/-- the exit case of a loop whose result is stated as an update -/
theorem dec_self (s : HCIcnbit_decode.St) {ib pos sbit j' mi' r1 r2 i' : Int} {buf : List Int} (h1 : ib = s.input_bits) (h2 : pos = s.io_pos)
    (h3 : buf = s.nbit_buffer) (h4 : sbit = s.sign_bit) (h5 : j' = s.j) (h6 : mi' = s.mask_info) (h7 : r2 = s.rbuf2) (h8 : r1 = s.rbuf) (h9 : i' = s.i) :
    s = { s with input_bits := ib, io_pos := pos, nbit_buffer := buf, sign_bit := sbit, j := j', mask_info := mi', rbuf2 := r2, rbuf := r1, i := i' } := by
  subst_vars; rfl

/-- the state after the loop over the bytes `mis` of an item, `r` what `decBytes` returns for them -/
def afterBytes (se prev : Bool) (mis : List MaskInfo) (j0 q p : Nat) (r : List Nat × Option Bool) (ib : Int) (s : HCIcnbit_decode.St) : HCIcnbit_decode.St :=
  { s with input_bits := ib, io_pos := (p : Int) + ((widths mis).sum : Nat),
           nbit_buffer := s.nbit_buffer.take q ++ r.1.map (fun (x : Nat) => (x : Int)) ++ s.nbit_buffer.drop (q + mis.length),
           sign_bit := if se then b2i (r.2.getD prev) else s.sign_bit, j := ((j0 + mis.length : Nat) : Int),
           mask_info := ((j0 + mis.length : Nat) : Int), rbuf := if se then s.rbuf else ((q + mis.length : Nat) : Int),
           rbuf2 := if se then ((q + mis.length : Nat) : Int) else s.rbuf2 }

/-- **the loop over the bytes of one item**, for either copy (`hread`, `hskip`: what its body does): the model's `decBytes` on the words cut from the
    bit stream, stored from the cursor `q` on -/
theorem byte_loop (se : Bool) {L body : Nat → HCIcnbit_decode.St → HCIcnbit_decode.St}
    (hL : IsLoop L (fun s => (s.j < s.nbit_nt_size) ∧ ¬(s.done)) body (fun s => s)) (sB sM : Nat) (prev : Bool)
    (hread : ∀ {m : MaskInfo} {mis : List MaskInfo} {mb : Nat} {mbs : List Nat} {j0 q p : Nat} {bits : List Bool} {s : HCIcnbit_decode.St} (f : Nat),
      BytePre (m :: mis) (mb :: mbs) j0 q p bits s → m.length > 0 → (if se then s.rbuf2 else s.rbuf) = (q : Int) → s.sign_mask = (sM : Int) →
      body f s = readSt se sM m mb q p bits s)
    (hskip : ∀ {m : MaskInfo} {mis : List MaskInfo} {mb : Nat} {mbs : List Nat} {j0 q p : Nat} {bits : List Bool} {s : HCIcnbit_decode.St} (f : Nat),
      BytePre (m :: mis) (mb :: mbs) j0 q p bits s → ¬ m.length > 0 → body f s = skipSt se s)
    (mis : List MaskInfo) (mbs : List Nat) (j0 q p : Nat) (bits : List Bool) (sb : Option Bool) (fuel : Nat) (s : HCIcnbit_decode.St)
    (hf : mis.length ≤ fuel) (h : BytePre mis mbs j0 q p bits s) (hq : (if se then s.rbuf2 else s.rbuf) = (q : Int))
    (hsm : s.sign_mask = (sM : Int)) (hsby : s.sign_byte = (sB : Int)) (hsbit : se = true → s.sign_bit = b2i (sb.getD prev)) :
    ∃ ib : Int, 0 ≤ ib ∧ L fuel s = afterBytes se prev mis j0 q p (decBytes sB sM j0 mis mbs (takeFields bits (widths mis)) sb) ib s := by
  refine hL.spec (fun (i : List MaskInfo × List Nat × Nat × Nat × Nat × List Bool × Option Bool) => i.1.length)
    (fun ⟨mis, mbs, j0, q, p, bits, sb⟩ s => BytePre mis mbs j0 q p bits s ∧ (if se then s.rbuf2 else s.rbuf) = (q : Int) ∧ s.sign_mask = (sM : Int) ∧
      s.sign_byte = (sB : Int) ∧ (se = true → s.sign_bit = b2i (sb.getD prev)))
    (fun ⟨mis, mbs, j0, q, p, bits, sb⟩ s r' =>
      ∃ ib : Int, 0 ≤ ib ∧ r' = afterBytes se prev mis j0 q p (decBytes sB sM j0 mis mbs (takeFields bits (widths mis)) sb) ib s)
    ?_ fuel (mis, mbs, j0, q, p, bits, sb) s hf ⟨h, hq, hsm, hsby, hsbit⟩
  clear hf h hq hsm hsby hsbit
  rintro ⟨mis, mbs, j0, q, p, bits, sb⟩ s ⟨h, hq, hsm, hsby, hsbit⟩
  dsimp only [afterBytes]
  cases mis with
  | nil =>
    refine Or.inl ⟨by rw [h.j, h.nts]; simp, s.input_bits, h.ibits, ?_⟩
    exact dec_self s rfl (by rw [h.pos]; simp [widths]) (by simp [decBytes]) (by cases se; rfl; exact (hsbit rfl).symm) (by rw [h.j]; rfl)
      (by rw [h.mptr]; rfl) (by cases se; rfl; exact hq.symm) (by cases se; exact hq.symm; rfl) rfl
  | cons m mis =>
    obtain ⟨_ | ⟨mb, mbs⟩, hm⟩ : ∃ l, l = mbs := ⟨_, rfl⟩
    · subst hm; exact absurd h.mlen (by simp)
    subst hm
    refine Or.inr ⟨by rw [h.j, h.nts, h.done]; simp; omega, fun f _ => ?_⟩
    have hb0 := h.buf 0 (by simp)
    simp only [Nat.add_zero, List.getD_cons_zero] at hb0
    have hql := h.qlen; have hj := h.j
    simp only [List.length_cons] at hql
    by_cases hlen : m.length > 0
    · have hbody := hread f h hlen hq hsm
      refine ⟨(mis, mbs, j0 + 1, q + 1, p + m.length, bits.drop m.length,
        if j0 = sB then some (sM &&& ((ofBits (bits.take m.length) <<< m.shift) % 2 ^ 32) != 0) else sb), Nat.lt_succ_self _, ?_, ?_⟩
      · rw [hbody]
        refine ⟨h.next m.length _ (by rw [widths_cons, if_pos hlen, List.sum_cons]) _ _ _ _ _ _ rfl rfl (by split <;> exact Int.natCast_nonneg _),
          by cases se <;> simp [readSt, ← hq], hsm, hsby, fun hse => ?_⟩
        subst hse
        simp only [readSt, hj, hsby, hsbit rfl, if_true]
        by_cases hjs : j0 = sB
        · subst hjs; simp [b2i]
        · have : ¬ ((j0 : Int) = (sB : Int)) := by omega
          simp [this, hjs]
      · rintro r ⟨ib, hib, hr⟩
        refine ⟨ib, hib, ?_⟩
        rw [hr, hbody]
        cases se <;>
          simp only [readSt, widths_cons, hlen, if_true, if_false, Bool.false_eq_true, takeFields, decBytes, List.sum_cons, List.map_cons, List.length_cons,
            HCIcnbit_decode.St.mk.injEq, true_and, and_true] <;>
          exact ⟨by omega, by omega, by omega, by omega, set_take_drop _ _ _ _ _ (by omega)⟩
    · have hbody := hskip f h hlen
      refine ⟨(mis, mbs, j0 + 1, q + 1, p, bits, sb), Nat.lt_succ_self _, ?_, ?_⟩
      · rw [hbody]
        exact ⟨h.next 0 (mb : Int) (by rw [widths_cons, if_neg hlen, Nat.zero_add]) _ _ s.sign_bit _ _ _ (set_eq_of_getD hb0 (by omega)).symm
          h.pos h.ibits, by cases se <;> simp [skipSt, ← hq], hsm, hsby, hsbit⟩
      · rintro r ⟨ib, hib, hr⟩
        refine ⟨ib, hib, ?_⟩
        rw [hr, hbody]
        have e := set_take_drop s.nbit_buffer q mis.length (mb : Int)
          ((decBytes sB sM (j0 + 1) mis mbs (takeFields bits (widths mis)) sb).1.map (fun (x : Nat) => (x : Int))) (by omega)
        rw [set_eq_of_getD hb0 (by omega)] at e
        cases se <;>
          simp only [skipSt, widths_cons, hlen, if_true, if_false, Bool.false_eq_true, decBytes, List.map_cons, List.length_cons,
            HCIcnbit_decode.St.mk.injEq, true_and, and_true] <;>
          exact ⟨by omega, by omega, by omega, e⟩

theorem dec_body3 (q fuel : Nat) (s : HCIcnbit_decode.St) (hq : s.rbuf2 = (q : Int)) (hql : q < s.nbit_buffer.length) (hub : s.ub = false) :
    HCIcnbit_decode.loop3.body fuel s = { s with nbit_buffer := s.nbit_buffer.set q 255, j := s.j + 1, rbuf2 := s.rbuf2 + 1 } := by
  have hql' : (q : Int) < (s.nbit_buffer.length : Int) := by omega
  simp [HCIcnbit_decode.loop3.body, HCIcnbit_decode.chk, hq, hql', hub]

theorem dec_body4 (q fuel : Nat) (s : HCIcnbit_decode.St) (hq : s.rbuf2 = (q : Int)) (hql : q < s.nbit_buffer.length) (hub : s.ub = false) :
    HCIcnbit_decode.loop4.body fuel s = { s with nbit_buffer := s.nbit_buffer.set q 0, j := s.j + 1, rbuf2 := s.rbuf2 + 1 } := by
  have hql' : (q : Int) < (s.nbit_buffer.length : Int) := by omega
  simp [HCIcnbit_decode.loop4.body, HCIcnbit_decode.chk, hq, hql', hub]

/-- `for (j = 0; j < sign_byte; j++, rbuf2++) *rbuf2 = V;` from `j = j0` on -/
theorem fill_loop {L body : Nat → HCIcnbit_decode.St → HCIcnbit_decode.St} (V : Int)
    (hL : IsLoop L (fun s => (s.j < s.sign_byte) ∧ ¬(s.done)) body (fun s => s))
    (hbody : ∀ (q f : Nat) (s : HCIcnbit_decode.St), s.rbuf2 = (q : Int) → q < s.nbit_buffer.length → s.ub = false →
      body f s = { s with nbit_buffer := s.nbit_buffer.set q V, j := s.j + 1, rbuf2 := s.rbuf2 + 1 })
    (k j0 q fuel : Nat) (s : HCIcnbit_decode.St) (hf : k ≤ fuel) (hj : s.j = (j0 : Int)) (hsb : s.sign_byte = ((j0 + k : Nat) : Int))
    (hq : s.rbuf2 = (q : Int)) (hql : q + k ≤ s.nbit_buffer.length) (hub : s.ub = false) (hdone : s.done = false) :
    L fuel s = { s with nbit_buffer := storeAt s.nbit_buffer q (List.replicate k V), j := ((j0 + k : Nat) : Int), rbuf2 := ((q + k : Nat) : Int) } := by
  refine hL.spec (fun (i : Nat × Nat × Nat) => i.1)
    (fun i s => s.j = (i.2.1 : Int) ∧ s.sign_byte = ((i.2.1 + i.1 : Nat) : Int) ∧ s.rbuf2 = (i.2.2 : Int) ∧ i.2.2 + i.1 ≤ s.nbit_buffer.length ∧
      s.ub = false ∧ s.done = false)
    (fun i s r => r = { s with nbit_buffer := storeAt s.nbit_buffer i.2.2 (List.replicate i.1 V), j := ((i.2.1 + i.1 : Nat) : Int), rbuf2 := ((i.2.2 + i.1 : Nat) : Int) })
    ?_ fuel (k, j0, q) s hf ⟨hj, hsb, hq, hql, hub, hdone⟩
  clear hf hj hsb hq hql hub hdone
  rintro ⟨k, j0, q⟩ s ⟨hj, hsb, hq, hql, hub, hdone⟩
  dsimp only at hj hsb hq hql ⊢
  cases k with
  | zero =>
    refine Or.inl ⟨by rw [hj, hsb]; simp, ?_⟩
    exact dec_self s rfl rfl (by rw [List.replicate_zero, storeAt_nil]) rfl (by rw [hj]; rfl) rfl (by rw [hq]; rfl) rfl rfl
  | succ k =>
    refine Or.inr ⟨by rw [hj, hsb, hdone]; simp; omega, fun f _ => ⟨(k, j0 + 1, q + 1), Nat.lt_succ_self k, ?_, ?_⟩⟩
    · rw [hbody q f s hq (by omega) hub]
      exact ⟨by simp only [hj]; rfl, by simp only [hsb]; omega, by simp only [hq]; rfl, by simp only [List.length_set]; omega, hub, hdone⟩
    · intro r hr
      rw [hr, hbody q f s hq (by omega) hub]
      simp only [HCIcnbit_decode.St.mk.injEq, true_and, and_true]
      exact ⟨by omega, by omega, by rw [storeAt_set _ _ _ _ (by omega), List.replicate_succ]⟩

theorem signFix_storeAt (sB : Nat) (sign : Bool) (sem : Nat) (bytes : List Nat) (h : sB < bytes.length) :
    signFix sB sign sem bytes =
      (storeAt bytes 0 (List.replicate sB (if sign then 255 else 0))).set sB (if sign then (bytes[sB] ||| sem) % 256 else bytes[sB] &&& (255 ^^^ sem)) := by
  unfold signFix
  rw [List.mapIdx_eq_iff]
  intro i
  rw [List.getElem?_set, getElem?_storeAt _ _ _ (by simp; omega)]
  simp only [List.length_replicate, Nat.zero_add, Nat.not_lt_zero, if_false, Nat.sub_zero, List.getElem?_replicate]
  by_cases h1 : i < sB
  · have : i < bytes.length := by omega
    simp [h1, Nat.ne_of_gt h1, List.getElem?_eq_getElem this]
  · by_cases h2 : i = sB
    · subst h2; simp [length_storeAt _ _ _ (show 0 + (List.replicate i (if sign then 255 else 0)).length ≤ bytes.length by simp; omega), h]
    · have : ¬ sB = i := fun e => h2 e.symm
      simp only [h1, h2, this, if_false]
      cases bytes[i]? <;> rfl

theorem set_mid {α} (pre m post : List α) (i : Nat) (x : α) (h : i < m.length) :
    (pre ++ m ++ post).set (pre.length + i) x = pre ++ m.set i x ++ post := by
  rw [List.append_assoc, List.set_append_right _ _ (Nat.le_add_right _ _), Nat.add_sub_cancel_left, List.set_append_left _ _ h, List.append_assoc]


theorem length_takeFields (bits : List Bool) (ws : List Nat) : (takeFields bits ws).length = ws.length := by
  induction ws generalizing bits with
  | nil => rfl
  | cons w ws ih => simp [takeFields, ih]

/-! the item loop body of `HCIcnbit_decode` cut into its fragments (copies of the generated text; `item_body_eq` re-checks them against it) -/

/-- `for (j = 0; j < sign_byte; j++, rbuf2++) *rbuf2 = V;  *rbuf2 = w;` where the loop `L` writes the `V`s, `w` is the new value of the sign
    byte and `ck` what C requires of its operands -/
def fixWith (L : Nat → HCIcnbit_decode.St → HCIcnbit_decode.St) (ck : HCIcnbit_decode.St → Prop) [DecidablePred ck]
    (w : HCIcnbit_decode.St → Int) (fuel : Nat) (s : HCIcnbit_decode.St) : HCIcnbit_decode.St :=
  have s : HCIcnbit_decode.St := HCIcnbit_decode.St.set_j s (0)
  have s : HCIcnbit_decode.St := L fuel s
  have s : HCIcnbit_decode.St := HCIcnbit_decode.chk s (ck s)
  have s : HCIcnbit_decode.St := HCIcnbit_decode.chk s (0 ≤ s.rbuf2 ∧ s.rbuf2 < s.nbit_buffer.length)
  HCIcnbit_decode.St.set_nbit_buffer s (s.nbit_buffer.set (Int.toNat (s.rbuf2)) (w s))

/-- `if (sign_bit != nbit_info->fill_one) { rbuf2 = rbuf; if (sign_bit == 1) { …0xff…; *rbuf2 |= (uint8)sign_ext_mask; } else
    { …0x00…; *rbuf2 &= (uint8)~sign_ext_mask; } }` -/
def signFixC (fuel : Nat) (s : HCIcnbit_decode.St) : HCIcnbit_decode.St :=
  if (s.sign_bit ≠ s.nbit_fill_one) then
    have s : HCIcnbit_decode.St := HCIcnbit_decode.St.set_rbuf2 s (s.rbuf)
    if (s.sign_bit = 1) then
      fixWith HCIcnbit_decode.loop3 (fun s => (0 : Int) ≤ (s.nbit_buffer.getD (Int.toNat (s.rbuf2)) 0) ∧ (0 : Int) ≤ ((s.sign_ext_mask) % 256))
        (fun s => ((((Int.ofNat (Int.toNat ((s.nbit_buffer.getD (Int.toNat (s.rbuf2)) 0)) ||| Int.toNat (((s.sign_ext_mask) % 256))))) % 256))) fuel s
    else
      fixWith HCIcnbit_decode.loop4 (fun s => (0 : Int) ≤ (s.nbit_buffer.getD (Int.toNat (s.rbuf2)) 0) ∧ (0 : Int) ≤ (((((-(s.sign_ext_mask) - 1)) % 4294967296)) % 256))
        (fun s => ((((Int.ofNat (Int.toNat ((s.nbit_buffer.getD (Int.toNat (s.rbuf2)) 0)) &&& Int.toNat ((((((-(s.sign_ext_mask) - 1)) % 4294967296)) % 256))))) % 256))) fuel s
  else s

/-- the sign-extending branch for one item -/
def itemSE (fuel : Nat) (s : HCIcnbit_decode.St) : HCIcnbit_decode.St :=
  have s : HCIcnbit_decode.St := HCIcnbit_decode.St.set_rbuf2 s (s.rbuf)
  have s : HCIcnbit_decode.St := HCIcnbit_decode.St.set_j s (0)
  have s : HCIcnbit_decode.St := HCIcnbit_decode.loop2 fuel s
  have s : HCIcnbit_decode.St := signFixC fuel s
  HCIcnbit_decode.St.set_rbuf s ((s.rbuf + s.nbit_nt_size))

/-- the branch without sign extension -/
def itemNS (fuel : Nat) (s : HCIcnbit_decode.St) : HCIcnbit_decode.St :=
  HCIcnbit_decode.loop5 fuel (HCIcnbit_decode.St.set_j s (0))

theorem item_body_eq (fuel : Nat) (s : HCIcnbit_decode.St) :
    HCIcnbit_decode.loop1.body fuel s =
      (have s1 : HCIcnbit_decode.St := HCIcnbit_decode.St.set_mask_info s (0)
       have s2 : HCIcnbit_decode.St := if (s1.nbit_sign_ext ≠ 0) then itemSE fuel s1 else itemNS fuel s1
       if s2.done then s2 else HCIcnbit_decode.St.set_i s2 ((s2.i + 1))) := rfl

theorem fixWith_eq {L body : Nat → HCIcnbit_decode.St → HCIcnbit_decode.St} (V : Int)
    (hL : IsLoop L (fun s => (s.j < s.sign_byte) ∧ ¬(s.done)) body (fun s => s))
    (hbody : ∀ (q f : Nat) (s : HCIcnbit_decode.St), s.rbuf2 = (q : Int) → q < s.nbit_buffer.length → s.ub = false →
      body f s = { s with nbit_buffer := s.nbit_buffer.set q V, j := s.j + 1, rbuf2 := s.rbuf2 + 1 })
    (ck : HCIcnbit_decode.St → Prop) [DecidablePred ck] (w : HCIcnbit_decode.St → Int) (q sB : Nat) (newb : Int)
    (fuel : Nat) (s : HCIcnbit_decode.St) (hf : sB ≤ fuel) (hq : s.rbuf2 = (q : Int)) (hsb : s.sign_byte = (sB : Int))
    (hlen : q + sB < s.nbit_buffer.length) (hub : s.ub = false) (hdone : s.done = false)
    (hw : ∀ s' : HCIcnbit_decode.St, s'.rbuf2 = ((q + sB : Nat) : Int) → s'.nbit_buffer.getD (q + sB) 0 = s.nbit_buffer.getD (q + sB) 0 →
      s'.sign_ext_mask = s.sign_ext_mask → ck s' ∧ w s' = newb) :
    fixWith L ck w fuel s = { s with nbit_buffer := (storeAt s.nbit_buffer q (List.replicate sB V)).set (q + sB) newb,
                                     j := (sB : Int), rbuf2 := ((q + sB : Nat) : Int) } := by
  have l3 := fill_loop V hL hbody sB 0 q fuel (HCIcnbit_decode.St.set_j s 0) hf rfl (by simp [hsb]) hq
    (by show q + sB ≤ s.nbit_buffer.length; omega) hub hdone
  have f1 : (storeAt s.nbit_buffer q (List.replicate sB V)).getD (q + sB) 0 = s.nbit_buffer.getD (q + sB) 0 :=
    H4.C2L.getD_storeAt_out _ _ _ _ _ (by simp; omega) (.inr (by simp))
  have f2 : q + sB < (storeAt s.nbit_buffer q (List.replicate sB V)).length := by rw [length_storeAt _ _ _ (by simp; omega)]; exact hlen
  unfold fixWith
  simp only [l3]
  have hc := fun s' a b c => (hw s' a b c).1
  have hwv := fun s' a b c => (hw s' a b c).2
  have hlt := Int.ofNat_lt.mpr f2
  simp only [HCIcnbit_decode.chk, hc, hwv, f1, hub, hlt, Int.toNat_natCast, Int.natCast_nonneg, Nat.zero_add, and_self, decide_true, Bool.not_true,
    Bool.or_false]

theorem b2i_ne (a b : Bool) : (b2i a ≠ b2i b) ↔ ((a != b) = true) := by cases a <;> cases b <;> simp [b2i]

theorem signFixC_eq (pre post : List Int) (bytes : List Nat) (sB sem : Nat) (sign fill : Bool) (fuel : Nat) (s : HCIcnbit_decode.St)
    (hf : sB ≤ fuel) (hsB : sB < bytes.length) (hlt : ∀ y ∈ bytes, y < 256)
    (hr : s.rbuf = (pre.length : Int)) (hsb : s.sign_byte = (sB : Int))
    (hbuf : s.nbit_buffer = pre ++ bytes.map (fun (y : Nat) => (y : Int)) ++ post)
    (hsem1 : s.sign_ext_mask % 256 = (sem : Int)) (hsem2 : (-(s.sign_ext_mask) - 1) % 4294967296 % 256 = ((255 ^^^ sem : Nat) : Int))
    (hsign : s.sign_bit = b2i sign) (hfill : s.nbit_fill_one = b2i fill) (hub : s.ub = false) (hdone : s.done = false) :
    ∃ j' rb2' : Int, signFixC fuel s =
      { s with nbit_buffer := pre ++ (if sign != fill then signFix sB sign sem bytes else bytes).map (fun (y : Nat) => (y : Int)) ++ post,
               j := j', rbuf2 := rb2' } := by
  by_cases hd : (sign != fill) = true
  · have hne : s.sign_bit ≠ s.nbit_fill_one := by rw [hsign, hfill]; exact (b2i_ne _ _).mpr hd
    have hxlt : bytes[sB] < 256 := hlt _ (List.getElem_mem _)
    have hml : sB < (bytes.map (fun (y : Nat) => (y : Int))).length := by simpa using hsB
    have hx : s.nbit_buffer.getD (pre.length + sB) 0 = (bytes[sB] : Int) := by
      rw [hbuf, List.getD_eq_getElem?_getD, List.append_assoc, List.getElem?_append_right (Nat.le_add_right _ _), Nat.add_sub_cancel_left,
        List.getElem?_append_left hml]
      simp [hsB]
    have hlen : pre.length + sB < s.nbit_buffer.length := by rw [hbuf]; simp; omega
    have key : ∀ (F : Nat) (nb : Nat), (if sign then 255 else 0) = F → (if sign then (bytes[sB] ||| sem) % 256 else bytes[sB] &&& (255 ^^^ sem)) = nb →
        (storeAt s.nbit_buffer pre.length (List.replicate sB (F : Int))).set (pre.length + sB) (nb : Int) =
          pre ++ (signFix sB sign sem bytes).map (fun (y : Nat) => (y : Int)) ++ post := by
      intro F nb hF hnb
      rw [signFix_storeAt _ _ _ _ hsB, hF, hnb, List.map_set, map_storeAt, List.map_replicate, hbuf]
      have := storeAt_mid pre (bytes.map (fun (y : Nat) => (y : Int))) post (List.replicate sB (F : Int)) 0 (by simp; omega)
      rw [Nat.add_zero] at this
      rw [this, set_mid _ _ _ _ _ (by rw [length_storeAt _ _ _ (by simp; omega)]; exact hml)]
    generalize bytes[sB] = x at hx hxlt key
    unfold signFixC
    rw [if_pos hne]
    simp only [hd, if_true]
    cases sign with
    | true =>
      have h1 : (HCIcnbit_decode.St.set_rbuf2 s s.rbuf).sign_bit = 1 := by show s.sign_bit = 1; rw [hsign]; rfl
      show ∃ j' rb2', (if (HCIcnbit_decode.St.set_rbuf2 s s.rbuf).sign_bit = 1 then _ else _) = _
      rw [if_pos h1, fixWith_eq 255 (.of_eqs (fun _ => rfl) (fun _ _ => rfl)) dec_body3 _ _ pre.length sB (((x ||| sem) % 256 : Nat) : Int) fuel (HCIcnbit_decode.St.set_rbuf2 s s.rbuf)
        hf hr hsb hlen hub hdone
        (fun s' a b c => by
          rw [show (HCIcnbit_decode.St.set_rbuf2 s s.rbuf).nbit_buffer = s.nbit_buffer from rfl, hx] at b
          simp only [a, b, c, hsem1, Int.toNat_natCast, Int.ofNat_eq_natCast, Int.natCast_nonneg, and_self, true_and, Int.natCast_emod]; rfl)]
      refine ⟨(sB : Int), ((pre.length + sB : Nat) : Int), ?_⟩
      exact congrArg (fun b => { s with nbit_buffer := b, j := (sB : Int), rbuf2 := ((pre.length + sB : Nat) : Int) }) (key 255 _ rfl rfl)
    | false =>
      have h1 : ¬ ((HCIcnbit_decode.St.set_rbuf2 s s.rbuf).sign_bit = 1) := by show ¬ (s.sign_bit = 1); rw [hsign]; decide
      show ∃ j' rb2', (if (HCIcnbit_decode.St.set_rbuf2 s s.rbuf).sign_bit = 1 then _ else _) = _
      have e : ((x &&& (255 ^^^ sem) : Nat) : Int) % 256 = ((x &&& (255 ^^^ sem) : Nat) : Int) := by
        have : x &&& (255 ^^^ sem) ≤ x := Nat.and_le_left
        omega
      rw [if_neg h1, fixWith_eq 0 (.of_eqs (fun _ => rfl) (fun _ _ => rfl)) dec_body4 _ _ pre.length sB ((x &&& (255 ^^^ sem) : Nat) : Int) fuel (HCIcnbit_decode.St.set_rbuf2 s s.rbuf)
        hf hr hsb hlen hub hdone
        (fun s' a b c => by
          rw [show (HCIcnbit_decode.St.set_rbuf2 s s.rbuf).nbit_buffer = s.nbit_buffer from rfl, hx] at b
          simp only [a, b, c, hsem2, Int.toNat_natCast, Int.ofNat_eq_natCast, Int.natCast_nonneg, and_self, e])]
      refine ⟨(sB : Int), ((pre.length + sB : Nat) : Int), ?_⟩
      exact congrArg (fun b => { s with nbit_buffer := b, j := (sB : Int), rbuf2 := ((pre.length + sB : Nat) : Int) }) (key 0 _ rfl rfl)
  · have he : ¬ (s.sign_bit ≠ s.nbit_fill_one) := by rw [hsign, hfill, b2i_ne]; exact hd
    unfold signFixC
    rw [if_neg he]
    refine ⟨s.j, s.rbuf2, ?_⟩
    simp only [hd, Bool.false_eq_true, if_false]
    cases s
    simp_all


/-- what the item loop of `HCIcnbit_decode` needs of the state -/
structure ItemPre (c : Cfg) (r p : Nat) (bits : List Bool) (prev : Bool) (sem : Nat) (s : HCIcnbit_decode.St) : Prop where
  rbuf : s.rbuf = (r : Int)
  rlen : r + c.ntSize ≤ s.nbit_buffer.length
  nts : s.nbit_nt_size = (c.ntSize : Int)
  tab : TabRel c s.nbit_mask_info_offset s.nbit_mask_info_length s.nbit_mask_info_mask
  filled : ∀ t, t < c.ntSize → s.nbit_buffer.getD (r + t) 0 = (((maskBuf c).getD t 0 : Nat) : Int)
  pos : s.io_pos = (p : Int)
  ple : p ≤ s.io_in.length
  inp : s.io_in.drop p = bitsI bits
  enough : (itemWidths c).sum ≤ bits.length
  ibits : 0 ≤ s.input_bits
  smask : s.sign_mask = ((arr32 ((c.maskOff % 8) + 1) ^^^ arr32 (c.maskOff % 8) : Nat) : Int)
  sbyte : s.sign_byte = ((c.ntSize - ((c.maskOff / 8) + 1) : Nat) : Int)
  sem1 : s.sign_ext_mask % 256 = (sem : Int)
  sem2 : (-(s.sign_ext_mask) - 1) % 4294967296 % 256 = ((255 ^^^ sem : Nat) : Int)
  sbit : s.sign_bit = b2i prev
  sext : (s.nbit_sign_ext ≠ 0) ↔ c.signExt = true
  fill : s.nbit_fill_one = b2i c.fillOne
  ub : s.ub = false
  done : s.done = false


theorem ItemPre.bytePre {c : Cfg} {r p : Nat} {bits : List Bool} {prev : Bool} {sem : Nat} {s : HCIcnbit_decode.St}
    (h : ItemPre c r p bits prev sem s) (hr : InRange c) (x : Int) :
    BytePre (maskInfos c) (maskBuf c) 0 r p bits { s with mask_info := 0, rbuf2 := x, j := 0 } := by
  have c16 := consts.2
  have hn := hr.1
  obtain ⟨ho, hl, hk, -, hget⟩ := h.tab
  refine ⟨rfl, rfl, by rw [length_maskInfos, Nat.zero_add]; exact h.nts, by rw [length_maskInfos]; omega, ho, hl, hk, ?_,
    maskInfos_shape c hr.field, by rw [length_maskBuf, length_maskInfos], by rw [length_maskInfos]; exact h.rlen,
    fun t ht => h.filled t (by rwa [length_maskInfos] at ht), h.pos, h.ple, h.inp, h.enough, h.ibits, h.ub, h.done⟩
  intro t ht
  rw [Nat.zero_add]
  exact hget t (by rwa [length_maskInfos] at ht)

/-- **one item** of the refill loop of `HCIcnbit_decode` (one pass through the body of its `for (i = 0; i < buf_items; i++)` loop, either
    branch): the model's `decItem` on the words cut from the bit stream, stored at `rbuf` -/
theorem dec_item (c : Cfg) (hr : InRange c) (r p : Nat) (bits : List Bool) (prev : Bool) (fuel : Nat) (s : HCIcnbit_decode.St)
    (hf : c.ntSize ≤ fuel) (h : ItemPre c r p bits prev c.signExtMask s) :
    let it := decItemN c (takeFields bits (itemWidths c)) prev
    ∃ (ib j' mi' rb2' : Int), 0 ≤ ib ∧ HCIcnbit_decode.loop1.body fuel s =
      { s with input_bits := ib, io_pos := (p : Int) + ((itemWidths c).sum : Nat),
               nbit_buffer := s.nbit_buffer.take r ++ it.1.map (fun (x : Nat) => (x : Int)) ++ s.nbit_buffer.drop (r + c.ntSize),
               sign_bit := b2i it.2, j := j', mask_info := mi', rbuf2 := rb2', rbuf := ((r + c.ntSize : Nat) : Int), i := s.i + 1 } := by
  intro it
  have hsB : c.signByte = c.ntSize - (c.maskOff / 8 + 1) := rfl
  have hit : it = decItemN c (takeFields bits (itemWidths c)) prev := rfl
  have hw := itemWidths_eq c
  unfold decItemN at hit
  rw [hw] at hit
  have hfl : (maskInfos c).length ≤ fuel := by rw [length_maskInfos]; exact hf
  have h1 := h.rbuf; have h3 := h.nts; have h15 := h.sbit; have h19 := h.done
  rw [item_body_eq]
  cases hse : c.signExt with
  | true =>
    simp only [hse, if_true] at hit
    have hne : (HCIcnbit_decode.St.set_mask_info s 0).nbit_sign_ext ≠ 0 := h.sext.mpr hse
    simp only [if_pos hne]
    unfold itemSE
    obtain ⟨ib, hib, l2⟩ := byte_loop true (L := HCIcnbit_decode.loop2) (.of_eqs (fun _ => rfl) (fun _ _ => rfl)) c.signByte
      c.signMask prev (fun f hb hl hq hs => dec_body2_read _ f hb hl hq hs)
      (fun f hb hl => (dec_body_skip f hb hl).1) (maskInfos c) (maskBuf c) 0 r p bits none fuel
      (HCIcnbit_decode.St.set_j (HCIcnbit_decode.St.set_rbuf2 (HCIcnbit_decode.St.set_mask_info s 0) (HCIcnbit_decode.St.set_mask_info s 0).rbuf) 0)
      hfl (h.bytePre hr s.rbuf) h1 h.smask h.sbyte (fun _ => h15)
    simp only [afterBytes, ↓reduceIte] at l2
    have hDl := decBytes_length c.signByte c.signMask (maskInfos c) (maskBuf c)
      bits 0 none (by rw [length_maskBuf, length_maskInfos])
    have hDlt := decBytes_lt c.signByte c.signMask (maskInfos c) (maskBuf c)
      (takeFields bits (widths (maskInfos c))) 0 none (maskBuf_lt c)
    rw [length_maskInfos] at hDl l2
    generalize decBytes _ _ 0 (maskInfos c) (maskBuf c) (takeFields bits (widths (maskInfos c))) none = D at hDl hDlt hit l2
    obtain ⟨bytes, sbo⟩ := D
    simp only at hDl hDlt hit l2
    simp only [l2]
    have hrl := h.rlen; have hs := hr.2.1
    have hprel : (s.nbit_buffer.take r).length = r := by rw [List.length_take]; omega
    obtain ⟨j', rb2', sf⟩ := signFixC_eq (s.nbit_buffer.take r) (s.nbit_buffer.drop (r + c.ntSize)) bytes c.signByte
      c.signExtMask (sbo.getD prev) c.fillOne fuel
      { HCIcnbit_decode.St.set_j (HCIcnbit_decode.St.set_rbuf2 (HCIcnbit_decode.St.set_mask_info s 0) (HCIcnbit_decode.St.set_mask_info s 0).rbuf) 0 with
        input_bits := ib, io_pos := (p : Int) + ((widths (maskInfos c)).sum : Nat),
        nbit_buffer := s.nbit_buffer.take r ++ bytes.map (fun (x : Nat) => (x : Int)) ++ s.nbit_buffer.drop (r + c.ntSize),
        sign_bit := b2i (sbo.getD prev), j := ((0 + c.ntSize : Nat) : Int), mask_info := ((0 + c.ntSize : Nat) : Int), rbuf2 := ((r + c.ntSize : Nat) : Int) }
      (by omega) (by omega) hDlt (by rw [hprel]; exact h1) h.sbyte rfl h.sem1 h.sem2 rfl h.fill h.ub h19
    rw [sf]
    refine ⟨ib, j', (c.ntSize : Int), rb2', hib, ?_⟩
    rw [hit]
    clear h hDlt sf l2
    cases s
    simp only at h1 h3 h19
    subst h1 h3 h19
    simp [hw]
    split <;> simp
  | false =>
    simp only [hse, Bool.false_eq_true, if_false] at hit
    have hne : ¬ ((HCIcnbit_decode.St.set_mask_info s 0).nbit_sign_ext ≠ 0) := fun hx => by have := h.sext.mp hx; rw [hse] at this; cases this
    simp only [if_neg hne]
    unfold itemNS
    obtain ⟨ib, hib, l5⟩ := byte_loop false (L := HCIcnbit_decode.loop5) (.of_eqs (fun _ => rfl) (fun _ _ => rfl)) c.signByte
      c.signMask prev (fun f hb hl hq _ => dec_body5_read _ f hb hl hq)
      (fun f hb hl => (dec_body_skip f hb hl).2) (maskInfos c) (maskBuf c) 0 r p bits none fuel
      (HCIcnbit_decode.St.set_j (HCIcnbit_decode.St.set_mask_info s 0) 0) hfl (h.bytePre hr s.rbuf2) h1 h.smask h.sbyte (fun hx => by cases hx)
    simp only [afterBytes, Bool.false_eq_true, ↓reduceIte] at l5
    rw [length_maskInfos] at l5
    simp only [l5]
    refine ⟨ib, (c.ntSize : Int), (c.ntSize : Int), s.rbuf2, hib, ?_⟩
    rw [hit]
    clear h l5
    cases s
    simp only at h1 h3 h19 h15
    subst h1 h3 h19 h15
    simp [hw]


/-- what the refill loop of `HCIcnbit_decode` (`k` items still to expand at `rbuf = r`) needs of the state -/
structure LoopPre (c : Cfg) (k r p : Nat) (bits : List Bool) (prev : Bool) (s : HCIcnbit_decode.St) : Prop where
  rbuf : s.rbuf = (r : Int)
  rlen : r + k * c.ntSize ≤ s.nbit_buffer.length
  nts : s.nbit_nt_size = (c.ntSize : Int)
  tab : TabRel c s.nbit_mask_info_offset s.nbit_mask_info_length s.nbit_mask_info_mask
  filled : ∀ t, t < k * c.ntSize → s.nbit_buffer.getD (r + t) 0 = (((maskBuf c).getD (t % c.ntSize) 0 : Nat) : Int)
  pos : s.io_pos = (p : Int)
  ple : p ≤ s.io_in.length
  inp : s.io_in.drop p = bitsI bits
  enough : k * (itemWidths c).sum ≤ bits.length
  ibits : 0 ≤ s.input_bits
  smask : s.sign_mask = ((arr32 ((c.maskOff % 8) + 1) ^^^ arr32 (c.maskOff % 8) : Nat) : Int)
  sbyte : s.sign_byte = ((c.ntSize - ((c.maskOff / 8) + 1) : Nat) : Int)
  sem1 : s.sign_ext_mask % 256 = ((255 ^^^ (arr32 (c.maskOff % 8) % 256) : Nat) : Int)
  sem2 : (-(s.sign_ext_mask) - 1) % 4294967296 % 256 = ((255 ^^^ (255 ^^^ (arr32 (c.maskOff % 8) % 256)) : Nat) : Int)
  sbit : s.sign_bit = b2i prev
  sext : (s.nbit_sign_ext ≠ 0) ↔ c.signExt = true
  fill : s.nbit_fill_one = b2i c.fillOne
  ub : s.ub = false
  done : s.done = false

theorem LoopPre.item {c : Cfg} {k r p : Nat} {bits : List Bool} {prev : Bool} {s : HCIcnbit_decode.St} (h : LoopPre c (k + 1) r p bits prev s) :
    ItemPre c r p bits prev c.signExtMask s := by
  have h2 := h.rlen; have h9 := h.enough
  rw [Nat.add_mul] at h2 h9
  refine ⟨h.rbuf, by omega, h.nts, h.tab, fun t ht => ?_, h.pos, h.ple, h.inp, by omega, h.ibits, h.smask, h.sbyte, h.sem1, h.sem2, h.sbit, h.sext, h.fill,
    h.ub, h.done⟩
  have := h.filled t (by rw [Nat.add_mul]; omega)
  rwa [Nat.mod_eq_of_lt ht] at this

/-- `LoopPre` survives an item: `it` was stored at `rbuf`, its bits consumed -/
theorem LoopPre.next {c : Cfg} {k r p : Nat} {bits : List Bool} {prev : Bool} {s : HCIcnbit_decode.St} (h : LoopPre c (k + 1) r p bits prev s)
    (it : List Nat × Bool) (hitl : it.1.length = c.ntSize) (ib j' mi' rb2' i' : Int) (hib : 0 ≤ ib) :
    LoopPre c k (r + c.ntSize) (p + (itemWidths c).sum) (bits.drop (itemWidths c).sum) it.2
      { s with input_bits := ib, io_pos := (p : Int) + ((itemWidths c).sum : Nat),
               nbit_buffer := s.nbit_buffer.take r ++ it.1.map (fun (x : Nat) => (x : Int)) ++ s.nbit_buffer.drop (r + c.ntSize),
               sign_bit := b2i it.2, j := j', mask_info := mi', rbuf2 := rb2', rbuf := ((r + c.ntSize : Nat) : Int), i := i' } := by
  have h2 := h.rlen; have h9 := h.enough
  rw [Nat.add_mul, Nat.one_mul] at h2 h9
  have hle := bitread_ok_len s.io_in p bits (itemWidths c).sum h.inp h.ple (by omega)
  have hpl : (s.nbit_buffer.take r ++ it.1.map (fun (x : Nat) => (x : Int))).length = r + c.ntSize := by
    simp only [List.length_append, List.length_take, List.length_map, hitl]; omega
  refine ⟨rfl, ?_, h.nts, h.tab, ?_, rfl, by show p + (itemWidths c).sum ≤ s.io_in.length; omega, bitread_drop s.io_in p bits _ h.inp, by rw [List.length_drop]; omega, hib,
    h.smask, h.sbyte, h.sem1, h.sem2, rfl, h.sext, h.fill, h.ub, h.done⟩
  · show _ ≤ List.length (_ ++ _)
    rw [List.length_append, hpl, List.length_drop]; omega
  · intro t ht
    have := h.filled (c.ntSize + t) (by rw [Nat.add_mul]; omega)
    rw [Nat.add_mod_left] at this
    show List.getD (_ ++ _) _ 0 = _
    rw [← this, List.getD_eq_getElem?_getD, List.getD_eq_getElem?_getD, List.getElem?_append_right (by omega), List.getElem?_drop, hpl]
    congr 2; omega

/-- **the refill loop** `for (i = 0; i < buf_items; i++)` of `HCIcnbit_decode`: `k` items, the model's `refillItems` on the bits to come -/
theorem dec_loop1 (c : Cfg) (hr : InRange c) (k i0 r p : Nat) (bits : List Bool) (prev : Bool) (fuel : Nat) (s : HCIcnbit_decode.St)
    (hf : k + c.ntSize ≤ fuel) (hi : s.i = (i0 : Int)) (hbi : s.buf_items = ((i0 + k : Nat) : Int)) (h : LoopPre c k r p bits prev s) :
    ∃ (ib j' mi' rb2' : Int), 0 ≤ ib ∧ HCIcnbit_decode.loop1 fuel s =
      { s with input_bits := ib, io_pos := (p : Int) + ((k * (itemWidths c).sum : Nat) : Int),
               nbit_buffer := s.nbit_buffer.take r ++ (refillBits c k bits prev).1.map (fun (x : Nat) => (x : Int)) ++ s.nbit_buffer.drop (r + k * c.ntSize),
               sign_bit := b2i (refillBits c k bits prev).2, j := j', mask_info := mi', rbuf2 := rb2', rbuf := ((r + k * c.ntSize : Nat) : Int),
               i := ((i0 + k : Nat) : Int) } := by
  refine IsLoop.spec (L := HCIcnbit_decode.loop1) (.of_eqs (fun _ => rfl) (fun _ _ => rfl))
    (fun (i : Nat × Nat × Nat × Nat × List Bool × Bool) => i.1 + c.ntSize)
    (fun ⟨k, i0, r, p, bits, prev⟩ s => s.i = (i0 : Int) ∧ s.buf_items = ((i0 + k : Nat) : Int) ∧ LoopPre c k r p bits prev s)
    (fun ⟨k, i0, r, p, bits, prev⟩ s r' => ∃ (ib j' mi' rb2' : Int), 0 ≤ ib ∧ r' =
      { s with input_bits := ib, io_pos := (p : Int) + ((k * (itemWidths c).sum : Nat) : Int),
               nbit_buffer := s.nbit_buffer.take r ++ (refillBits c k bits prev).1.map (fun (x : Nat) => (x : Int)) ++ s.nbit_buffer.drop (r + k * c.ntSize),
               sign_bit := b2i (refillBits c k bits prev).2, j := j', mask_info := mi', rbuf2 := rb2', rbuf := ((r + k * c.ntSize : Nat) : Int),
               i := ((i0 + k : Nat) : Int) })
    ?_ fuel (k, i0, r, p, bits, prev) s hf ⟨hi, hbi, h⟩
  clear hf hi hbi h
  rintro ⟨k, i0, r, p, bits, prev⟩ s ⟨hi, hbi, h⟩
  dsimp only
  cases k with
  | zero =>
    refine Or.inl ⟨by rw [hi, hbi]; simp, s.input_bits, s.j, s.mask_info, s.rbuf2, h.ibits, ?_⟩
    exact dec_self s rfl (by rw [h.pos]; simp) (by simp [refillBits]) (by rw [h.sbit]; rfl) rfl rfl rfl (by rw [h.rbuf]; simp) (by rw [hi]; rfl)
  | succ k =>
    refine Or.inr ⟨by rw [hi, hbi, h.done]; simp; omega, fun f hf => ?_⟩
    obtain ⟨ib, j', mi', rb2', hib, hbody⟩ := dec_item c hr r p bits prev f s (by omega) h.item
    generalize hIt : decItemN c (takeFields bits (itemWidths c)) prev = it at hbody
    have hitl : it.1.length = c.ntSize := by rw [← hIt]; exact length_decItemN c bits prev
    have hrl := h.rlen
    rw [Nat.add_mul, Nat.one_mul] at hrl
    refine ⟨(k, i0 + 1, r + c.ntSize, p + (itemWidths c).sum, bits.drop (itemWidths c).sum, it.2), by omega, ?_, ?_⟩
    · rw [hbody]
      exact ⟨by simp only [hi]; rfl, by simp only [hbi]; omega,
        h.next it hitl ib j' mi' rb2' _ hib⟩
    · rintro r' ⟨ib2, j2, mi2, rb22, hib2, hr'⟩
      refine ⟨ib2, j2, mi2, rb22, hib2, ?_⟩
      rw [hr', hbody]
      have hM : (it.1.map (fun (x : Nat) => (x : Int))).length = c.ntSize := by rw [List.length_map, hitl]
      have e := splice_take_drop s.nbit_buffer (it.1.map (fun (x : Nat) => (x : Int)))
        ((refillBits c k (bits.drop (itemWidths c).sum) it.2).1.map (fun (x : Nat) => (x : Int))) r (k * c.ntSize) (by omega)
      rw [hM] at e
      have a1 : r + c.ntSize + k * c.ntSize = r + (k + 1) * c.ntSize := by rw [Nat.add_mul]; omega
      have a2 : i0 + 1 + k = i0 + (k + 1) := by omega
      have a3 : ((p + (itemWidths c).sum : Nat) : Int) + ((k * (itemWidths c).sum : Nat) : Int) = (p : Int) + (((k + 1) * (itemWidths c).sum : Nat) : Int) := by
        rw [Nat.add_mul, Nat.one_mul]; push_cast; omega
      simp only [refillBits, hIt, List.map_append]
      rw [e]
      simp only [a1, a2, a3]

theorem getD_replicate_flatten (l : List Int) : ∀ (k t : Nat), t < k * l.length →
    (List.replicate k l).flatten.getD t 0 = l.getD (t % l.length) 0 := by
  intro k
  induction k with
  | zero => intro t h; simp at h
  | succ k ih =>
    intro t h
    rw [List.replicate_succ, List.flatten_cons]
    by_cases ht : t < l.length
    · rw [List.getD_eq_getElem?_getD, List.getElem?_append_left ht, Nat.mod_eq_of_lt ht, ← List.getD_eq_getElem?_getD]
    · have hk : t - l.length < k * l.length := by rw [Nat.add_mul, Nat.one_mul] at h; omega
      rw [List.getD_eq_getElem?_getD, List.getElem?_append_right (by omega), ← List.getD_eq_getElem?_getD, ih (t - l.length) hk]
      congr 1
      exact (Nat.mod_eq_sub_mod (by omega)).symm

/-! the body of the `while (length > 0)` loop of `HCIcnbit_decode` cut into its fragments (copies of the generated text; `refillStart` re-checks them) -/

/-- after the item loop: `buf_pos = 0; buf_len = buf_size;` -/
def refillPost (s : HCIcnbit_decode.St) : HCIcnbit_decode.St :=
  have s : HCIcnbit_decode.St := if s.done then s else
    have s : HCIcnbit_decode.St := HCIcnbit_decode.St.set_nbit_buf_pos s (0)
    s
  have s : HCIcnbit_decode.St := if s.done then s else
    have s : HCIcnbit_decode.St := HCIcnbit_decode.St.set_nbit_buf_len s (s.buf_size)
    s
  s

/-- the delivery of expanded bytes: `copy_length = …; memcpy(buf, &buffer[buf_pos], copy_length); buf += …; length -= …; buf_pos += …` -/
def copyC (s : HCIcnbit_decode.St) : HCIcnbit_decode.St :=
  have s : HCIcnbit_decode.St := if s.done then s else
    have s : HCIcnbit_decode.St := HCIcnbit_decode.St.set_copy_length s ((if (s.length > (s.nbit_buf_len - s.nbit_buf_pos)) then (s.nbit_buf_len - s.nbit_buf_pos) else s.length))
    s
  have s : HCIcnbit_decode.St := if s.done then s else
    have s : HCIcnbit_decode.St := HCIcnbit_decode.chk s ((0 : Int) ≤ ((s.copy_length) % 18446744073709551616))
    have s : HCIcnbit_decode.St := HCIcnbit_decode.chk s (0 ≤ s.buf_i ∧ s.buf_i + ((s.copy_length) % 18446744073709551616) ≤ s.buf.length)
    have s : HCIcnbit_decode.St := HCIcnbit_decode.chk s (0 ≤ s.nbit_buf_pos ∧ s.nbit_buf_pos + ((s.copy_length) % 18446744073709551616) ≤ s.nbit_buffer.length)
    have s : HCIcnbit_decode.St := HCIcnbit_decode.St.set_buf s ((s.buf.take (Int.toNat (s.buf_i))) ++ ((s.nbit_buffer.drop (Int.toNat (s.nbit_buf_pos))).take (Int.toNat (((s.copy_length) % 18446744073709551616)))) ++ (s.buf.drop (Int.toNat (s.buf_i + ((s.copy_length) % 18446744073709551616)))))
    s
  have s : HCIcnbit_decode.St := if s.done then s else
    have s : HCIcnbit_decode.St := HCIcnbit_decode.St.set_buf_i s ((s.buf_i + s.copy_length))
    s
  have s : HCIcnbit_decode.St := if s.done then s else
    have s : HCIcnbit_decode.St := HCIcnbit_decode.St.set_length s ((s.length - s.copy_length))
    s
  have s : HCIcnbit_decode.St := if s.done then s else
    have s : HCIcnbit_decode.St := HCIcnbit_decode.St.set_nbit_buf_pos s ((s.nbit_buf_pos + s.copy_length))
    s
  s

/-- the state in which the item loop of a re-fill starts (the body before `loop1`, applied to `s`), with the equation that says so -/
noncomputable def refillStart (fuel : Nat) (s : HCIcnbit_decode.St) :
    { H : HCIcnbit_decode.St // HCIcnbit_decode.loop0.body fuel s =
        copyC (if (s.nbit_buf_pos ≥ s.nbit_buf_len) then refillPost (HCIcnbit_decode.loop1 fuel H) else s) } := ⟨_, rfl⟩

theorem refillPre_eq (c : Cfg) (hn : 0 < c.ntSize) (hn16 : c.ntSize ≤ 16) (len : Nat) (hlen : 0 < len) (fuel : Nat) (s : HCIcnbit_decode.St)
    (hl : s.length = (len : Int)) (hnt : s.nbit_nt_size = (c.ntSize : Int)) (hb : s.nbit_buffer.length = 1024) (hm : s.nbit_mask_buf.length = 16)
    (hub : s.ub = false) :
    (refillStart fuel s).1 = { s with buf_size := ((refillCount c len * c.ntSize : Nat) : Int), buf_items := (refillCount c len : Int), rbuf := 0, i := 0,
                                      nbit_buffer := (List.replicate (refillCount c len) (s.nbit_mask_buf.take c.ntSize)).flatten ++
                                        s.nbit_buffer.drop (refillCount c len * c.ntSize) } := by
  obtain ⟨k1, k2⟩ := refillCount_le c hn hn16 len
  have hmin : (if (16 * 64 : Int) < (len : Int) then (16 * 64 : Int) else (len : Int)) = ((min NBIT_BUF_SIZE len : Nat) : Int) := by
    have c1 := consts.1
    rw [c1]; split <;> omega
  have htd : Int.tdiv ((min NBIT_BUF_SIZE len : Nat) : Int) (c.ntSize : Int) = ((min NBIT_BUF_SIZE len / c.ntSize : Nat) : Int) := H4.C2L.tdiv_nat _ _
  have hmax : (if ((min NBIT_BUF_SIZE len / c.ntSize : Nat) : Int) > 1 then ((min NBIT_BUF_SIZE len / c.ntSize : Nat) : Int) else 1) = ((refillCount c len : Nat) : Int) := by
    unfold refillCount; split <;> omega
  have hk1024 : refillCount c len ≤ 1024 := by
    have : refillCount c len * 1 ≤ refillCount c len * c.ntSize := Nat.mul_le_mul_left _ hn
    omega
  have hkm : ((refillCount c len : Nat) : Int) % 4294967296 = ((refillCount c len : Nat) : Int) := by omega
  have hnm : (c.ntSize : Int) % 4294967296 = (c.ntSize : Int) := by omega
  have hn0 : (c.ntSize : Int) ≠ 0 := by omega
  have hk0 : ((refillCount c len : Nat) : Int) ≠ 0 := by omega
  have hmul : ((refillCount c len : Nat) : Int) * (c.ntSize : Int) = ((refillCount c len * c.ntSize : Nat) : Int) := by push_cast; rfl
  have hle : ((refillCount c len * c.ntSize : Nat) : Int) ≤ (s.nbit_buffer.length : Int) := by omega
  have hle2 : (c.ntSize : Int) ≤ (s.nbit_mask_buf.length : Int) := by omega
  simp only [refillStart, HCIcnbit_decode.chk, hl, hnt, hub, hmin, htd, hmax, hkm, hnm, hn0, hk0, hmul]
  simp only [Int.toNat_zero, Int.toNat_natCast, Int.zero_add, List.take_zero, List.nil_append, List.drop_zero, hn0, ne_eq, not_false_eq_true,
    decide_true, Bool.not_true, Bool.or_false, Int.le_refl, true_and, or_true, false_or, Bool.false_or, hle, hle2]
  rfl


theorem length_replicate_flatten (l : List Int) (k : Nat) : (List.replicate k l).flatten.length = k * l.length := by
  induction k with
  | zero => simp
  | succ k ih => rw [List.replicate_succ, List.flatten_cons, List.length_append, ih, Nat.add_mul]; omega

theorem bytes_map_ofNat (l : List Nat) (h : ∀ y ∈ l, y < 256) : bytes (l.map UInt8.ofNat) = l.map (fun (x : Nat) => (x : Int)) := by
  induction l with
  | nil => rfl
  | cons a l ih =>
    simp only [List.map_cons, H4.Lemmas.C05Rle.bytes_cons]
    rw [ih (fun y hy => h y (by simp [hy]))]
    have : a < 256 := h a (by simp)
    have e : (UInt8.ofNat a).toNat = a := by rw [UInt8.toNat_ofNat']; omega
    rw [e]

/-- the relation kept by the `while (length > 0)` loop of `HCIcnbit_decode` between the C state and the model's decoder `d`, with `len` bytes
    still to deliver at `buf + bi` -/
structure DInv (c : Cfg) (d : Dec) (len bi : Nat) (s : HCIcnbit_decode.St) : Prop where
  length : s.length = (len : Int)
  bufi : s.buf_i = (bi : Int)
  outlen : bi + len ≤ s.buf.length
  buffer : s.nbit_buffer = bytes d.buffer
  blen : d.buffer.length = 1024
  bpos : s.nbit_buf_pos = (d.bufPos : Int)
  bl : s.nbit_buf_len = (d.bufLen : Int)
  bl1024 : d.bufLen ≤ 1024
  nts : s.nbit_nt_size = (c.ntSize : Int)
  tab : TabRel c s.nbit_mask_info_offset s.nbit_mask_info_length s.nbit_mask_info_mask
  mlen : s.nbit_mask_buf.length = 16
  mbuf : ∀ t, t < c.ntSize → s.nbit_mask_buf.getD t 0 = (((maskBuf c).getD t 0 : Nat) : Int)
  rinv : RInv d.st
  pos : ∃ p : Nat, s.io_pos = (p : Int) ∧ p ≤ s.io_in.length ∧ s.io_in.drop p = bitsI (avail d.st)
  ibits : 0 ≤ s.input_bits
  smask : s.sign_mask = ((arr32 ((c.maskOff % 8) + 1) ^^^ arr32 (c.maskOff % 8) : Nat) : Int)
  sbyte : s.sign_byte = ((c.ntSize - ((c.maskOff / 8) + 1) : Nat) : Int)
  sem1 : s.sign_ext_mask % 256 = ((255 ^^^ (arr32 (c.maskOff % 8) % 256) : Nat) : Int)
  sem2 : (-(s.sign_ext_mask) - 1) % 4294967296 % 256 = ((255 ^^^ (255 ^^^ (arr32 (c.maskOff % 8) % 256)) : Nat) : Int)
  sbit : s.sign_bit = b2i d.sign
  sext : (s.nbit_sign_ext ≠ 0) ↔ c.signExt = true
  fill : s.nbit_fill_one = b2i c.fillOne
  ub : s.ub = false
  done : s.done = false

/-- fields of the C state the loop never changes -/
structure Fixed (s s' : HCIcnbit_decode.St) : Prop where
  oof : s'.oof = s.oof := by rfl
  orig_length : s'.orig_length = s.orig_length := by rfl
  nbit_offset : s'.nbit_offset = s.nbit_offset := by rfl
  ret : s'.ret = s.ret := by rfl
  io_in : s'.io_in = s.io_in := by rfl
  nbit_mask_info_offset : s'.nbit_mask_info_offset = s.nbit_mask_info_offset := by rfl
  nbit_mask_info_length : s'.nbit_mask_info_length = s.nbit_mask_info_length := by rfl
  nbit_mask_info_mask : s'.nbit_mask_info_mask = s.nbit_mask_info_mask := by rfl
  nbit_mask_buf : s'.nbit_mask_buf = s.nbit_mask_buf := by rfl
  buf_length : s'.buf.length = s.buf.length := by rfl

theorem Fixed.refl (s : HCIcnbit_decode.St) : Fixed s s := {}
theorem Fixed.trans {a b c : HCIcnbit_decode.St} (h1 : Fixed a b) (h2 : Fixed b c) : Fixed a c :=
  ⟨h2.oof.trans h1.oof, h2.orig_length.trans h1.orig_length, h2.nbit_offset.trans h1.nbit_offset, h2.ret.trans h1.ret, h2.io_in.trans h1.io_in,
    h2.nbit_mask_info_offset.trans h1.nbit_mask_info_offset, h2.nbit_mask_info_length.trans h1.nbit_mask_info_length, h2.nbit_mask_info_mask.trans h1.nbit_mask_info_mask, h2.nbit_mask_buf.trans h1.nbit_mask_buf, h2.buf_length.trans h1.buf_length⟩

theorem refillPost_eq (s : HCIcnbit_decode.St) (h : s.done = false) : refillPost s = { s with nbit_buf_pos := 0, nbit_buf_len := s.buf_size } := by
  unfold refillPost
  simp [h]

/-- **the re-fill** of the expansion buffer (`buf_pos >= buf_len`): the model's `refillD`, provided the element holds the bits of the items -/
theorem refill_eq (c : Cfg) (hr : InRange c) (d : Dec) (len bi fuel : Nat) (s : HCIcnbit_decode.St) (h : DInv c d len bi s)
    (hlen : 0 < len) (hge : d.bufPos ≥ d.bufLen) (hbits : refillCount c len * (itemWidths c).sum ≤ (avail d.st).length)
    (hf : refillCount c len + c.ntSize ≤ fuel) :
    DInv c (refillD c d len) len bi (refillPost (HCIcnbit_decode.loop1 fuel (refillStart fuel s).1)) ∧
      Fixed s (refillPost (HCIcnbit_decode.loop1 fuel (refillStart fuel s).1)) ∧ (refillPost (HCIcnbit_decode.loop1 fuel (refillStart fuel s).1)).buf = s.buf := by
  have hn := hr.field.pos
  have hn16 : c.ntSize ≤ 16 := hr.1
  obtain ⟨k1, k2⟩ := refillCount_le c hn hn16 len
  obtain ⟨p, q1, q2, q3⟩ := h.pos
  have hbl : s.nbit_buffer.length = 1024 := by rw [h.buffer, bytes_length, h.blen]
  -- the C state and the model's decoder after the re-fill are computed aside: the statement mentions each several times
  generalize hS : refillPost (HCIcnbit_decode.loop1 fuel (refillStart fuel s).1) = s1
  generalize hD1 : refillD c d len = d1
  rw [refillPre_eq c hn hn16 len hlen fuel s h.length h.nts hbl h.mlen h.ub] at hS
  generalize hk : refillCount c len = k at *
  have htk : (s.nbit_mask_buf.take c.ntSize).length = c.ntSize := by rw [List.length_take, h.mlen]; omega
  have hfl : (List.replicate k (s.nbit_mask_buf.take c.ntSize)).flatten.length = k * c.ntSize := by rw [length_replicate_flatten, htk]
  have hple := bitread_ok_len s.io_in p (avail d.st) (k * (itemWidths c).sum) q3 q2 hbits
  have hpre : LoopPre c k 0 p (avail d.st) d.sign
      { s with buf_size := ((k * c.ntSize : Nat) : Int), buf_items := (k : Int), rbuf := 0, i := 0,
               nbit_buffer := (List.replicate k (s.nbit_mask_buf.take c.ntSize)).flatten ++ s.nbit_buffer.drop (k * c.ntSize) } := by
    refine ⟨rfl, ?_, h.nts, h.tab, ?_, q1, q2, q3, hbits, h.ibits, h.smask, h.sbyte, h.sem1, h.sem2, h.sbit, h.sext, h.fill, h.ub, h.done⟩
    · show _ ≤ List.length (_ ++ _)
      rw [List.length_append, hfl, List.length_drop, hbl]; omega
    · intro t ht
      show List.getD (_ ++ _) _ 0 = _
      rw [Nat.zero_add, List.getD_eq_getElem?_getD, List.getElem?_append_left (by rw [hfl]; exact ht), ← List.getD_eq_getElem?_getD,
        getD_replicate_flatten _ k t (by rw [htk]; exact ht), htk]
      have hlt : t % c.ntSize < c.ntSize := Nat.mod_lt _ hn
      rw [List.getD_eq_getElem?_getD, List.getElem?_take, if_pos hlt, ← List.getD_eq_getElem?_getD]
      exact h.mbuf _ hlt
  obtain ⟨ib, j', mi', rb2', hib, hloop⟩ := dec_loop1 c hr k 0 0 p (avail d.st) d.sign fuel _ hf rfl (by simp) hpre
  rw [hloop, refillPost_eq _ (by exact h.done)] at hS
  obtain ⟨st', e1, ri', a'⟩ := refillItems_bits c (itemWidths_ok c hr.field) k d.st d.sign h.rinv hbits
  have hRl := length_refillBits c k (avail d.st) d.sign
  have hRlt := refillBits_lt c k (avail d.st) d.sign
  generalize refillBits c k (avail d.st) d.sign = R at e1 hRl hRlt hS
  have hD : refillD c d len = { d with st := st', sign := R.2, buffer := R.1.map UInt8.ofNat ++ d.buffer.drop (R.1.map UInt8.ofNat).length, bufPos := 0, bufLen := k * c.ntSize } := by
    unfold refillD
    rw [if_pos hge]
    simp only [hk, e1]
  rw [hD] at hD1
  subst hS hD1
  have hbl2 : (R.1.map UInt8.ofNat ++ d.buffer.drop (R.1.map UInt8.ofNat).length).length = 1024 := by
    have := h.blen
    simp only [List.length_append, List.length_map, hRl, List.length_drop]; omega
  refine ⟨⟨h.length, h.bufi, h.outlen, ?_, hbl2, rfl, rfl, k1, h.nts, h.tab, h.mlen, h.mbuf, ri',
      ⟨p + k * (itemWidths c).sum, by show _ = ((_ : Nat) : Int); push_cast; rfl, by show p + _ ≤ s.io_in.length; omega,
        by rw [a']; exact bitread_drop s.io_in p (avail d.st) _ q3⟩,
      hib, h.smask, h.sbyte, h.sem1, h.sem2, rfl, h.sext, h.fill, h.ub, h.done⟩,
    {}, rfl⟩
  simp only [List.take_zero, List.nil_append, Nat.zero_add]
  rw [bytes_append, bytes_map_ofNat _ hRlt, List.length_map, hRl, List.drop_append_of_le_length (by rw [hfl]; exact Nat.le_refl _),
    List.drop_of_length_le (by rw [hfl]; exact Nat.le_refl _), List.nil_append]
  simp only [h.buffer, bytes_drop]

theorem copyC_eq (len bi bp bl : Nat) (s : HCIcnbit_decode.St) (hl : s.length = (len : Int)) (hbi : s.buf_i = (bi : Int)) (hbp : s.nbit_buf_pos = (bp : Int))
    (hbl : s.nbit_buf_len = (bl : Int)) (hlt : bp < bl) (hbl1024 : bl ≤ 1024) (hbuf : bl ≤ s.nbit_buffer.length) (hout : bi + len ≤ s.buf.length) (hub : s.ub = false)
    (hdone : s.done = false) :
    copyC s = { s with copy_length := ((min len (bl - bp) : Nat) : Int),
                       buf := s.buf.take bi ++ (s.nbit_buffer.drop bp).take (min len (bl - bp)) ++ s.buf.drop (bi + min len (bl - bp)),
                       buf_i := ((bi + min len (bl - bp) : Nat) : Int), length := ((len - min len (bl - bp) : Nat) : Int),
                       nbit_buf_pos := ((bp + min len (bl - bp) : Nat) : Int) } := by
  have hc : (if (len : Int) > (bl : Int) - (bp : Int) then (bl : Int) - (bp : Int) else (len : Int)) = ((min len (bl - bp) : Nat) : Int) := by
    split <;> omega
  have hcple : min len (bl - bp) ≤ bl - bp ∧ min len (bl - bp) ≤ len := ⟨Nat.min_le_right _ _, Nat.min_le_left _ _⟩
  generalize hcp : min len (bl - bp) = cp at hc hcple
  have hcm : (cp : Int) % 18446744073709551616 = (cp : Int) := by omega
  have h1 : (bi : Int) + (cp : Int) ≤ (s.buf.length : Int) := by omega
  have h2 : (bp : Int) + (cp : Int) ≤ (s.nbit_buffer.length : Int) := by omega
  have e1 : ((bi : Int) + (cp : Int)).toNat = bi + cp := by omega
  have e2 : (len : Int) - (cp : Int) = ((len - cp : Nat) : Int) := by omega
  simp only [copyC, HCIcnbit_decode.chk, hl, hbi, hbp, hbl, hub, hdone, hc, hcm, h1, h2, e1, e2, Bool.false_eq_true, ↓reduceIte, Int.toNat_natCast,
    Int.natCast_nonneg, and_self, decide_true, Bool.not_true, Bool.or_false]
  simp

/-- **the delivery step**: the model hands out `copy = min(length, buf_len - buf_pos)` bytes of its expansion buffer, the C code `memcpy`s them -/
theorem copy_step (c : Cfg) (d : Dec) (len bi : Nat) (s : HCIcnbit_decode.St) (h : DInv c d len bi s) (hlen : 0 < len) (hlt : d.bufPos < d.bufLen) :
    let copy := if len > d.bufLen - d.bufPos then d.bufLen - d.bufPos else len
    DInv c { d with bufPos := d.bufPos + copy } (len - copy) (bi + copy) (copyC s) ∧ Fixed s (copyC s) ∧
      (copyC s).buf = s.buf.take bi ++ bytes ((d.buffer.drop d.bufPos).take copy) ++ s.buf.drop (bi + copy) ∧ 1 ≤ copy ∧ copy ≤ len := by
  intro copy
  have hcopy : copy = min len (d.bufLen - d.bufPos) := by
    show (if len > d.bufLen - d.bufPos then d.bufLen - d.bufPos else len) = _
    split <;> omega
  have hc1 : 1 ≤ copy := by omega
  have hc2 : copy ≤ len := by omega
  have hbl : s.nbit_buffer.length = 1024 := by rw [h.buffer, bytes_length, h.blen]
  have hol : (s.buf.take bi ++ (s.nbit_buffer.drop d.bufPos).take copy ++ s.buf.drop (bi + copy)).length = s.buf.length := by
    have := h.outlen; have := h.bl1024
    simp only [List.length_append, List.length_take, List.length_drop]; omega
  clear_value copy
  have hout := h.outlen
  rw [copyC_eq len bi d.bufPos d.bufLen s h.length h.bufi h.bpos h.bl hlt h.bl1024 (by have := h.bl1024; omega) hout h.ub h.done, ← hcopy]
  exact ⟨⟨rfl, rfl, by rw [hol]; omega, h.buffer, h.blen, rfl, h.bl, h.bl1024, h.nts, h.tab, h.mlen, h.mbuf, h.rinv, h.pos, h.ibits, h.smask, h.sbyte, h.sem1,
      h.sem2, h.sbit, h.sext, h.fill, h.ub, h.done⟩,
    ⟨rfl, rfl, rfl, rfl, rfl, rfl, rfl, rfl, rfl, hol⟩, by simp only [h.buffer, bytes_take, bytes_drop], hc1, hc2⟩

/-- number of items one `HCIcnbit_decode(length)` call expands, from the expansion-buffer bookkeeping alone (`fuel` as in `decodeLoop`).  The `- 0` and
    `0 +` are `decodeLoop`'s `bufLen - bufPos` and `bufPos + copy` right after a re-fill (`bufPos = 0`): written as they stand there, so that the two
    recursions unfold to the same terms -/
def itemsRead (c : Cfg) : Nat → Nat → Nat → Nat → Nat
  | 0, _, _, _ => 0
  | f + 1, bp, bl, len =>
    if len = 0 then 0
    else if bp ≥ bl then
      let k := refillCount c len
      let copy := if len > k * c.ntSize - 0 then k * c.ntSize - 0 else len
      k + itemsRead c f (0 + copy) (k * c.ntSize) (len - copy)
    else
      let copy := if len > bl - bp then bl - bp else len
      itemsRead c f (bp + copy) bl (len - copy)

theorem body0_step (c : Cfg) (hr : InRange c) (d : Dec) (len bi fuel : Nat) (s : HCIcnbit_decode.St) (h : DInv c d len bi s)
    (hlen : 0 < len) (hbits : d.bufPos ≥ d.bufLen → refillCount c len * (itemWidths c).sum ≤ (avail d.st).length) (hf : 1040 ≤ fuel) :
    let d1 := refillD c d len
    let copy := if len > d1.bufLen - d1.bufPos then d1.bufLen - d1.bufPos else len
    let s' := HCIcnbit_decode.loop0.body fuel s
    DInv c { d1 with bufPos := d1.bufPos + copy } (len - copy) (bi + copy) s' ∧ Fixed s s' ∧
      s'.buf = s.buf.take bi ++ bytes ((d1.buffer.drop d1.bufPos).take copy) ++ s.buf.drop (bi + copy) ∧ 1 ≤ copy ∧ copy ≤ len ∧
      d1.fail = d.fail ∧ d1.bufLen ≤ 1024 ∧ d1.buffer.length = 1024 ∧ d1.bufPos + copy ≤ d1.bufLen ∧
      (d.bufPos ≥ d.bufLen → d1.bufPos = 0 ∧ d1.bufLen = refillCount c len * c.ntSize ∧
        avail d1.st = (avail d.st).drop (refillCount c len * (itemWidths c).sum)) ∧
      (¬ d.bufPos ≥ d.bufLen → d1 = d) := by
  have hn := hr.field.pos
  intro d1 copy s'
  have hs' : s' = copyC (if (s.nbit_buf_pos ≥ s.nbit_buf_len) then refillPost (HCIcnbit_decode.loop1 fuel (refillStart fuel s).1) else s) := (refillStart fuel s).2
  have c16 := consts.2
  have hn16 : c.ntSize ≤ 16 := by have := hr.1; omega
  obtain ⟨k1, k2⟩ := refillCount_le c hn hn16 len
  have hk : refillCount c len ≤ 1024 := by have := Nat.mul_le_mul_left (refillCount c len) hn; omega
  have hkpos : 0 < refillCount c len * c.ntSize := Nat.mul_pos (by omega) hn
  by_cases hge : d.bufPos ≥ d.bufLen
  · have hge' : s.nbit_buf_pos ≥ s.nbit_buf_len := by rw [h.bpos, h.bl]; omega
    rw [if_pos hge'] at hs'
    obtain ⟨i1, f1, b1⟩ := refill_eq c hr d len bi fuel s h hlen hge (hbits hge) (by omega)
    obtain ⟨e1, e2, e3, e4⟩ := refillD_facts c hr.field d len hge h.rinv (hbits hge)
    generalize refillPost (HCIcnbit_decode.loop1 fuel (refillStart fuel s).1) = s1 at hs' i1 f1 b1
    have hlt : d1.bufPos < d1.bufLen := by show (refillD c d len).bufPos < (refillD c d len).bufLen; rw [e2, e3]; omega
    obtain ⟨i2, f2, b2, c1, c2⟩ := copy_step c d1 len bi s1 i1 hlen hlt
    rw [hs']
    refine ⟨i2, f1.trans f2, by rw [b2, b1], c1, c2, e1, i1.bl1024, i1.blen, ?_, fun _ => ⟨e2, e3, e4⟩, fun h => absurd hge h⟩
    show d1.bufPos + (if len > d1.bufLen - d1.bufPos then d1.bufLen - d1.bufPos else len) ≤ d1.bufLen
    split <;> omega
  · have hge' : ¬ (s.nbit_buf_pos ≥ s.nbit_buf_len) := by rw [h.bpos, h.bl]; omega
    rw [if_neg hge'] at hs'
    have hd1 : d1 = d := by show refillD c d len = d; unfold refillD; rw [if_neg hge]
    have hlt : d1.bufPos < d1.bufLen := by rw [hd1]; omega
    obtain ⟨i2, f2, b2, c1, c2⟩ := copy_step c d1 len bi s (hd1 ▸ h) hlen hlt
    rw [hs']
    refine ⟨i2, f2, b2, c1, c2, by rw [hd1], by rw [hd1]; exact h.bl1024, by rw [hd1]; exact h.blen, ?_, fun h => absurd h hge, fun _ => hd1⟩
    show d1.bufPos + (if len > d1.bufLen - d1.bufPos then d1.bufLen - d1.bufPos else len) ≤ d1.bufLen
    split <;> omega

/-- **the `while (length > 0)` loop of `HCIcnbit_decode`** is the model's `decodeLoop`, as long as the element holds the bits of the items the
    call expands: the bytes delivered, the decoder state reached (related again: `DInv`), `fail` untouched.  Fuel: `len` passes, each handing its fuel
    to the refill loop: at most `NBIT_BUF_SIZE` = 1024 items plus `NBIT_MASK_SIZE` = 16 for the loops of an item -/
theorem dec_loop0 (c : Cfg) (hr : InRange c) (fm : Nat) (d : Dec) (len bi : Nat) (acc : List UInt8) (fuel : Nat)
    (s : HCIcnbit_decode.St) (hfm : len < fm) (hfuel : len + 1040 ≤ fuel) (hinv : DInv c d len bi s)
    (hbits : itemsRead c fm d.bufPos d.bufLen len * (itemWidths c).sum ≤ (avail d.st).length) :
    ∃ (d' : Dec) (nb : List UInt8), decodeLoop c fm d len acc = (d', acc ++ nb) ∧ nb.length = len ∧
      DInv c d' 0 (bi + len) (HCIcnbit_decode.loop0 fuel s) ∧ Fixed s (HCIcnbit_decode.loop0 fuel s) ∧
      (HCIcnbit_decode.loop0 fuel s).buf = s.buf.take bi ++ bytes nb ++ s.buf.drop (bi + len) ∧ d'.fail = d.fail := by
  refine IsLoop.spec (L := HCIcnbit_decode.loop0) (.of_eqs (fun _ => rfl) (fun _ _ => rfl))
    (fun (i : Nat × Dec × Nat × Nat × List UInt8) => i.2.2.1 + 1040)
    (fun ⟨fm, d, len, bi, acc⟩ s => len < fm ∧ DInv c d len bi s ∧
      itemsRead c fm d.bufPos d.bufLen len * (itemWidths c).sum ≤ (avail d.st).length)
    (fun ⟨fm, d, len, bi, acc⟩ s r => ∃ (d' : Dec) (nb : List UInt8), decodeLoop c fm d len acc = (d', acc ++ nb) ∧ nb.length = len ∧
      DInv c d' 0 (bi + len) r ∧ Fixed s r ∧ r.buf = s.buf.take bi ++ bytes nb ++ s.buf.drop (bi + len) ∧ d'.fail = d.fail)
    ?_ fuel (fm, d, len, bi, acc) s hfuel ⟨hfm, hinv, hbits⟩
  clear hfm hfuel hinv hbits
  rintro ⟨fm, d, len, bi, acc⟩ s ⟨hfm, hinv, hbits⟩
  dsimp only at hfm hinv hbits ⊢
  obtain _ | fm := fm
  · omega
  by_cases hl0 : len = 0
  · subst hl0
    exact Or.inl ⟨by rw [hinv.length]; simp, d, [], by simp [decodeLoop], rfl, hinv, Fixed.refl s, by simp, rfl⟩
  · have hlen : 0 < len := Nat.pos_of_ne_zero hl0
    refine Or.inr ⟨by rw [hinv.length, hinv.done]; simp; omega, fun f hf => ?_⟩
    rw [decodeLoop_succ, if_neg hl0]
    simp only [itemsRead, hl0, if_false] at hbits
    have hb1 : d.bufPos ≥ d.bufLen → refillCount c len * (itemWidths c).sum ≤ (avail d.st).length := by
      intro hge
      rw [if_pos hge, Nat.add_mul] at hbits
      omega
    obtain ⟨i1, f1, b1, c1, c2, e1, e2, e3, e4, e5, e6⟩ := body0_step c hr d len bi f s hinv hlen hb1 (by omega)
    generalize HCIcnbit_decode.loop0.body f s = s1 at i1 f1 b1
    generalize hd1 : refillD c d len = d1 at i1 b1 c1 c2 e1 e2 e3 e4 e5 e6 ⊢
    simp only
    generalize hcopy : (if len > d1.bufLen - d1.bufPos then d1.bufLen - d1.bufPos else len) = copy at i1 b1 c1 c2 e4 ⊢
    have hbits2 : itemsRead c fm (d1.bufPos + copy) d1.bufLen (len - copy) * (itemWidths c).sum ≤ (avail d1.st).length := by
      by_cases hge : d.bufPos ≥ d.bufLen
      · obtain ⟨p1, p2, p3⟩ := e5 hge
        rw [if_pos hge] at hbits
        rw [p1, p2] at hcopy
        rw [hcopy, Nat.add_mul] at hbits
        rw [p1, p2, p3, List.length_drop]
        omega
      · have := e6 hge
        rw [if_neg hge] at hbits
        rw [this] at hcopy ⊢
        rw [hcopy] at hbits
        exact hbits
    have hchunk : ((d1.buffer.drop d1.bufPos).take copy).length = copy := by
      rw [List.length_take, List.length_drop, e3]; omega
    have hout := hinv.outlen
    refine ⟨(fm, { d1 with bufPos := d1.bufPos + copy }, len - copy, bi + copy, acc ++ (d1.buffer.drop d1.bufPos).take copy), ?_, ?_, ?_⟩ <;>
      dsimp only
    · omega
    · exact ⟨by omega, i1, hbits2⟩
    rintro r ⟨d', nb, q1, q2, q3, q4, q5, q6⟩
    refine ⟨d', (d1.buffer.drop d1.bufPos).take copy ++ nb, by rw [q1, List.append_assoc], by rw [List.length_append, hchunk, q2]; omega,
      ?_, f1.trans q4, ?_, by rw [q6]; exact e1⟩
    · have : bi + copy + (len - copy) = bi + len := by omega
      rw [this] at q3; exact q3
    · rw [q5, b1]
      have hM : (bytes ((d1.buffer.drop d1.bufPos).take copy)).length = copy := by rw [bytes_length, hchunk]
      have e := splice_take_drop s.buf (bytes ((d1.buffer.drop d1.bufPos).take copy)) (bytes nb) bi (len - copy) (by omega)
      rw [hM] at e
      rw [e, bytes_append, show bi + copy + (len - copy) = bi + len by omega]


/-- what `HCIcnbit_decode` does after its loop -/
def decFinish (s : HCIcnbit_decode.St) : HCIcnbit_decode.St :=
  have s : HCIcnbit_decode.St := if s.done then s else
    have s : HCIcnbit_decode.St := HCIcnbit_decode.St.set_nbit_offset s ((s.nbit_offset + s.orig_length))
    s
  have s : HCIcnbit_decode.St := if s.done then s else
    have s : HCIcnbit_decode.St := HCIcnbit_decode.St.set_ret s (0)
    have s : HCIcnbit_decode.St := HCIcnbit_decode.St.set_done s (true)
    s
  s

/-- the state `HCIcnbit_decode` starts from: its arguments -/
def decEntry (mask_off nt_size bp bl : Int) (buffer mbuf : List Int) (se : Int) (lens offs masks : List Int) (fo offset length : Int)
    (buf io_in : List Int) (io_pos : Int) : HCIcnbit_decode.St :=
  { nbit_mask_off := mask_off, nbit_nt_size := nt_size, nbit_buf_pos := bp, nbit_buf_len := bl, nbit_buffer := buffer, nbit_mask_buf := mbuf,
    nbit_sign_ext := se, nbit_mask_info_length := lens, nbit_mask_info_offset := offs, nbit_mask_info_mask := masks, nbit_fill_one := fo,
    nbit_offset := offset, length := length, buf := buf, io_in := io_in, io_pos := io_pos }

/-- the state in which the loop of `HCIcnbit_decode` starts (the prelude, which sets the sign-extension constants, applied to `decEntry`), with the
    equation that says so -/
noncomputable def decStart (fuel : Nat) (mask_off nt_size bp bl : Int) (buffer mbuf : List Int) (se : Int) (lens offs masks : List Int) (fo offset length : Int)
    (buf io_in : List Int) (io_pos : Int) :
    { H : HCIcnbit_decode.St // HCIcnbit_decode fuel mask_off nt_size bp bl buffer mbuf se lens offs masks fo offset length buf io_in io_pos =
        decFinish (HCIcnbit_decode.loop0 fuel H) } := ⟨_, rfl⟩

theorem sem_consts : ∀ o : Nat, o < 8 →
    ((-((arr32 o : Nat) : Int) - 1) % 4294967296) % 256 = ((255 ^^^ (arr32 o % 256) : Nat) : Int) ∧
    (-((-((arr32 o : Nat) : Int) - 1) % 4294967296) - 1) % 4294967296 % 256 = ((255 ^^^ (255 ^^^ (arr32 o % 256)) : Nat) : Int) := by
  decide +kernel

theorem decPre_eq (c : Cfg) (hr : InRange c) (fuel : Nat) (bp bl : Int) (buffer mbuf : List Int) (se : Int) (lens offs masks : List Int) (fo offset length : Int)
    (buf io_in : List Int) (io_pos : Int) :
    (decStart fuel c.maskOff c.ntSize bp bl buffer mbuf se lens offs masks fo offset length buf io_in io_pos).1 =
      { decEntry c.maskOff c.ntSize bp bl buffer mbuf se lens offs masks fo offset length buf io_in io_pos with
        sign_bit := 0, sign_ext_mask := (-((arr32 (c.maskOff % 8) : Nat) : Int) - 1) % 4294967296, sign_byte := ((c.signByte : Nat) : Int),
        sign_mask := ((c.signMask : Nat) : Int), orig_length := length } := by
  have hsB : c.signByte = c.ntSize - (c.maskOff / 8 + 1) := rfl
  obtain ⟨r1, r2, r3, r4⟩ := hr
  have h33 : mask_arr32.length = 33 := rfl
  have hm : Int.tmod (c.maskOff : Int) 8 = ((c.maskOff % 8 : Nat) : Int) := H4.C2L.tmod_nat _ 8
  have hd : Int.tdiv (c.maskOff : Int) 8 = ((c.maskOff / 8 : Nat) : Int) := H4.C2L.tdiv_nat _ 8
  have hsb : (c.ntSize : Int) - (((c.maskOff / 8 : Nat) : Int) + 1) = ((c.signByte : Nat) : Int) := by omega
  have e1 : (((c.maskOff % 8 : Nat) : Int) + 1).toNat = c.maskOff % 8 + 1 := by omega
  simp only [decStart, decEntry, HCIcnbit_decode.chk, hm, hd, hsb, h33, e1, Int.toNat_natCast, Cfg.signMask, arr32, Int.ofNat_eq_natCast]
  simp
  omega


/-- the correspondence between the model's decoder `d` (bit id, expansion buffer, `buf_pos`, `buf_len`) and the decoder side of the
    `comp_coder_nbit_info_t` record together with the position `io_pos` in the bit stream `io_in` of the underlying element:
    the tables are the model's (`TabRel`, `mask_buf`), the buffer holds the same bytes, and the bits still to come are the model's `avail` -/
structure DecRel (c : Cfg) (d : Dec) (buf_pos buf_len : Int) (buffer mask_buf offs lens masks io_in : List Int) (io_pos : Int) : Prop where
  buffer : buffer = bytes d.buffer
  blen : d.buffer.length = NBIT_BUF_SIZE
  bpos : buf_pos = (d.bufPos : Int)
  bl : buf_len = (d.bufLen : Int)
  bl1024 : d.bufLen ≤ NBIT_BUF_SIZE
  tab : TabRel c offs lens masks
  mlen : mask_buf.length = NBIT_MASK_SIZE
  mbuf : ∀ t, t < c.ntSize → mask_buf.getD t 0 = (((maskBuf c).getD t 0 : Nat) : Int)
  rinv : RInv d.st
  pos : ∃ p : Nat, io_pos = (p : Int) ∧ p ≤ io_in.length ∧ io_in.drop p = bitsI (avail d.st)

theorem decFinish_eq (s : HCIcnbit_decode.St) (h : s.done = false) :
    decFinish s = { s with nbit_offset := s.nbit_offset + s.orig_length, ret := 0, done := true } := by
  unfold decFinish
  simp [h]

/-- `HCIcnbit_decode_refines` without its two C-side range hypotheses, which the proof does not use and `readCall_ok` cannot supply -/
theorem dec_main (c : Cfg) (hr : InRange c) (d : Dec) (n fuel : Nat) (hf : n + 1040 ≤ fuel)
    (buf_pos buf_len sign_ext offset io_pos : Int) (buffer mask_buf offs lens masks io_in out : List Int)
    (hse : (sign_ext ≠ 0) ↔ c.signExt = true) (hout : n ≤ out.length)
    (hrel : DecRel c d buf_pos buf_len buffer mask_buf offs lens masks io_in io_pos)
    (hbits : itemsRead c (n + 1) d.bufPos d.bufLen n * (itemWidths c).sum ≤ (avail d.st).length) :
    let s := HCIcnbit_decode fuel c.maskOff c.ntSize buf_pos buf_len buffer mask_buf sign_ext lens offs masks (b2i c.fillOne) offset n out io_in io_pos
    let r := decode c { d with sign := false } n
    s.ub = false ∧ s.oof = false ∧ s.ret = 0 ∧ s.buf = bytes r.2 ++ out.drop n ∧ r.2.length = n ∧ s.nbit_offset = offset + n ∧
      DecRel c r.1 s.nbit_buf_pos s.nbit_buf_len s.nbit_buffer s.nbit_mask_buf s.nbit_mask_info_offset s.nbit_mask_info_length s.nbit_mask_info_mask
        s.io_in s.io_pos ∧ r.1.fail = d.fail ∧
      s.nbit_mask_buf = mask_buf ∧ s.nbit_mask_info_offset = offs ∧ s.nbit_mask_info_length = lens ∧ s.nbit_mask_info_mask = masks ∧ s.io_in = io_in := by
  intro s r
  have hs : s = decFinish (HCIcnbit_decode.loop0 fuel _) := (decStart ..).2
  generalize hs0 : (decStart fuel c.maskOff c.ntSize buf_pos buf_len buffer mask_buf sign_ext lens offs masks (b2i c.fillOne) offset n out io_in io_pos).1 = s0 at hs
  rw [decPre_eq c hr] at hs0
  replace hs0 := hs0.symm
  obtain ⟨q1, q2⟩ := sem_consts (c.maskOff % 8) (Nat.mod_lt _ (by omega))
  have hinv : DInv c { d with sign := false } n 0 s0 := by
    subst hs0
    exact ⟨rfl, rfl, by simpa [decEntry] using hout, hrel.buffer, hrel.blen, hrel.bpos, hrel.bl, hrel.bl1024, rfl, hrel.tab, hrel.mlen, hrel.mbuf, hrel.rinv, hrel.pos,
      Int.le_refl 0, rfl, rfl, q1, q2, rfl, hse, rfl, rfl, rfl⟩
  obtain ⟨d', nb, e1, e2, e3, e4, e5, e6⟩ := dec_loop0 c hr (n + 1) { d with sign := false } n 0 [] fuel s0 (by omega) hf hinv hbits
  have hr' : r = (d', nb) := by show decode c { d with sign := false } n = _; unfold decode; rw [e1]; rfl
  generalize HCIcnbit_decode.loop0 fuel s0 = s1 at hs e3 e4 e5
  subst hs0
  rw [hs, hr', decFinish_eq s1 e3.done]
  refine ⟨e3.ub, e4.oof, rfl, ?_, e2, ?_, ⟨e3.buffer, e3.blen, e3.bpos, e3.bl, e3.bl1024, e3.tab, e3.mlen, e3.mbuf, e3.rinv, e3.pos⟩, e6, e4.nbit_mask_buf,
    e4.nbit_mask_info_offset, e4.nbit_mask_info_length, e4.nbit_mask_info_mask, e4.io_in⟩
  · show s1.buf = _
    rw [e5]; simp [decEntry]
  · show s1.nbit_offset + s1.orig_length = _
    rw [e4.nbit_offset, e4.orig_length]; rfl


theorem itemsRead_whole (c : Cfg) (hn : 0 < c.ntSize) : ∀ (f m bp bl : Nat), m * c.ntSize < f → bl ≤ bp →
    itemsRead c f bp bl (m * c.ntSize) = m := by
  intro f
  induction f with
  | zero => intro m bp bl h; omega
  | succ f ih =>
    intro m bp bl hf hb
    unfold itemsRead
    by_cases h0 : m * c.ntSize = 0
    · have : m = 0 := by
        cases m with
        | zero => rfl
        | succ m => exact absurd h0 (Nat.ne_of_gt (Nat.mul_pos (by omega) hn))
      simp [this]
    · have hm : 0 < m := by
        cases m with
        | zero => simp at h0
        | succ m => omega
      have hk := (refillCount_whole c hn m).2 hm
      have k2 := (refillCount_whole c hn m).1
      generalize refillCount c (m * c.ntSize) = k at hk k2
      have hkn : k * c.ntSize ≤ m * c.ntSize := Nat.mul_le_mul_right _ hk
      have hpos : 0 < k * c.ntSize := Nat.mul_pos (by omega) hn
      have hcopy : (if m * c.ntSize > k * c.ntSize - 0 then k * c.ntSize - 0 else m * c.ntSize) = k * c.ntSize := by split <;> omega
      have hrem : m * c.ntSize - k * c.ntSize = (m - k) * c.ntSize := by rw [Nat.sub_mul]
      simp only [h0, if_false, hb, if_true, hcopy, hrem, Nat.zero_add]
      rw [ih (m - k) (k * c.ntSize) (k * c.ntSize) (by rw [← hrem]; omega) (Nat.le_refl _)]
      omega

end H4.Lemmas.C05NBitFn
