import H4.Lemmas.DDGeom
import H4.Lemmas.Bitvect
/-! # The directory invariant on the flattened slot list, and how the three elementary changes
(fill a NULL slot, rewrite offset/length of a live slot, null a live slot) preserve it. -/
namespace H4.DD
open H4.Gen.Hdf H4.Bitvect

theorem baseTag_idem (t : Nat) : baseTag (baseTag t) = baseTag t := by
  by_cases h : 16384 ≤ t ∧ t < 32768
  · have e : baseTag t = t - 16384 := by simp [baseTag, h]
    rw [e]; unfold baseTag; rw [if_neg (by omega)]
  · have e : baseTag t = t := by simp [baseTag, h]
    rw [e, e]

theorem baseTag_mkSpecial {t : Nat} (h : mkSpecial t ≠ DFTAG_NULL) : baseTag (mkSpecial t) = baseTag t := by
  by_cases h1 : t < 16384
  · have e : mkSpecial t = t + 16384 := by simp [mkSpecial, h1]
    rw [e]; unfold baseTag
    rw [if_pos (by omega), if_neg (by omega)]; omega
  · by_cases h2 : t < 32768
    · have e : mkSpecial t = t := by simp [mkSpecial, h1, h2]
      rw [e]
    · exfalso; apply h; simp [mkSpecial, h1, h2]

theorem baseTag_lt {t : Nat} (h : t < 65536) : baseTag t < 65536 := by unfold baseTag; split <;> omega

theorem baseTag_not_special (t : Nat) : isSpecial (baseTag t) = false := by
  unfold isSpecial baseTag; split <;> simp <;> omega

theorem baseTag_of_not_special {t : Nat} (h : isSpecial t = false) : baseTag t = t := by
  unfold isSpecial at h; unfold baseTag; simp at h; split <;> omega

theorem isSpecial_mkSpecial {t : Nat} (h : t < 16384) : isSpecial (mkSpecial t) = true := by
  unfold isSpecial mkSpecial; simp [h]; omega

theorem baseTag_ge_two {t : Nat} (h : 2 ≤ baseTag t) : 2 ≤ t := by
  unfold baseTag at h; split at h <;> omega

theorem baseTag_ne_zero_iff (t : Nat) : baseTag t = 0 ↔ t = 0 ∨ t = 16384 := by
  unfold baseTag; split <;> omega

/-- what the tag tree knows a descriptor by: base tag and ref (a special variant and its base tag share one ref space) -/
def keyOf (d : DD) : Nat × Nat := (baseTag d.tag, d.ref)
def isLive (d : DD) : Bool := d.tag != DFTAG_NULL
def liveOf (l : List DD) : List DD := l.filter isLive
/-- no two live descriptors have the same key (`HTIregister_tag_ref` refuses the second: `DFE_DUPDD`) -/
def KeysNodup (l : List DD) : Prop := ((liveOf l).map keyOf).Nodup

theorem live_eq (s : File) : s.live = liveOf s.slots := rfl

theorem isLive_iff (d : DD) : isLive d = true ↔ d.tag ≠ 1 := by simp [isLive, DFTAG_NULL]

@[simp] theorem liveOf_append (a b : List DD) : liveOf (a ++ b) = liveOf a ++ liveOf b := by simp [liveOf]
theorem liveOf_cons_live {d : DD} (h : isLive d = true) (l : List DD) : liveOf (d :: l) = d :: liveOf l := by
  simp [liveOf, h]
theorem liveOf_cons_dead {d : DD} (h : isLive d = false) (l : List DD) : liveOf (d :: l) = liveOf l := by
  simp [liveOf, h]
theorem liveOf_replicate_nil (n : Nat) : liveOf (List.replicate n nilDD) = [] := by
  simp [liveOf, isLive, nilDD]

theorem mem_liveOf {d : DD} {l : List DD} : d ∈ liveOf l ↔ d ∈ l ∧ isLive d = true := by simp [liveOf]

theorem filter_eq_filter_liveOf {p : DD → Bool} (hp : ∀ d, p d = true → isLive d = true) (l : List DD) :
    l.filter p = (liveOf l).filter p := by
  unfold liveOf
  rw [List.filter_filter]
  exact List.filter_congr fun d _ => by cases h : p d <;> simp [hp d, h]

theorem nodup_map_inj {α β} {f : α → β} : ∀ {l : List α}, (l.map f).Nodup → ∀ {a b : α}, a ∈ l → b ∈ l → f a = f b → a = b := by
  intro l
  induction l with
  | nil => intro _ a b ha; cases ha
  | cons x xs ih =>
    intro hn a b ha hb hf
    simp only [List.map_cons, List.nodup_cons] at hn
    rcases List.mem_cons.mp ha with hax | hax
    · rcases List.mem_cons.mp hb with hbx | hbx
      · rw [hax, hbx]
      · exact absurd (List.mem_map.mpr ⟨b, hbx, by rw [← hf, hax]⟩) hn.1
    · rcases List.mem_cons.mp hb with hbx | hbx
      · exact absurd (List.mem_map.mpr ⟨a, hax, by rw [hf, hbx]⟩) hn.1
      · exact ih hn.2 hax hbx hf

theorem split_unique {l a b a' b' : List DD} {x x' : DD} (hn : KeysNodup l)
    (h1 : l = a ++ x :: b) (h2 : l = a' ++ x' :: b') (hx : isLive x = true) (hx' : isLive x' = true)
    (hk : keyOf x = keyOf x') : a = a' ∧ x = x' ∧ b = b' := by
  have key : ∀ (p c q : List DD) (y y' : DD), isLive y = true → isLive y' = true → keyOf y = keyOf y' →
      ¬ KeysNodup (p ++ y :: (c ++ y' :: q)) := by
    intro p c q y y' hy hy' hkk hnd
    unfold KeysNodup at hnd
    rw [liveOf_append, liveOf_cons_live hy, liveOf_append, liveOf_cons_live hy'] at hnd
    simp only [List.map_append, List.map_cons] at hnd
    have := (List.nodup_append.mp hnd).2.1
    have := (List.nodup_cons.mp this).1
    apply this
    simp [hkk]
  have e : a ++ x :: b = a' ++ x' :: b' := by rw [← h1, ← h2]
  rcases List.append_eq_append_iff.mp e with ⟨c, hc1, hc2⟩ | ⟨c, hc1, hc2⟩
  · cases c with
    | nil => simp at hc1 hc2; exact ⟨hc1.symm, hc2.1, hc2.2⟩
    | cons y c =>
      simp only [List.cons_append, List.cons.injEq] at hc2
      obtain ⟨_, hb⟩ := hc2
      exfalso
      apply key a c b' x x' hx hx' hk
      rw [← hb, ← h1]; exact hn
  · cases c with
    | nil => simp at hc1 hc2; exact ⟨hc1, hc2.1.symm, hc2.2.symm⟩
    | cons y c =>
      simp only [List.cons_append, List.cons.injEq] at hc2
      obtain ⟨_, hb⟩ := hc2
      exfalso
      apply key a' c b x' x hx' hx hk.symm
      rw [← hb, ← h2]; exact hn

theorem tget_tput (tags : Tags) (t : Nat) (v : BV) (t' : Nat) :
    tget (tput tags t v) t' = if t' = t then some v else tget tags t' := by
  induction tags with
  | nil => simp only [tput, tget]; split <;> split <;> simp_all
  | cons kv r ih =>
    obtain ⟨k, w⟩ := kv
    simp only [tput]
    split
    · rename_i hk
      simp only [tget]
      split <;> split <;> simp_all
    · rename_i hk
      simp only [tget, ih]
      split <;> split <;> simp_all

theorem register_none {tags : Tags} {d : DD} (h : tget tags (baseTag d.tag) = none) :
    register tags d = some (tput tags (baseTag d.tag) ((BV.new.set 0 true).set d.ref true)) := by
  unfold register; simp only [h]
theorem register_some {tags : Tags} {d : DD} {bv : BV} (h : tget tags (baseTag d.tag) = some bv) :
    register tags d = if bv.get d.ref = 1 then none else some (tput tags (baseTag d.tag) (bv.set d.ref true)) := by
  unfold register; simp only [h]
theorem unregister_none {tags : Tags} {d : DD} (h : tget tags (baseTag d.tag) = none) : unregister tags d = none := by
  unfold unregister; simp only [h]
theorem unregister_some {tags : Tags} {d : DD} {bv : BV} (h : tget tags (baseTag d.tag) = some bv) :
    unregister tags d = if bv.get d.ref = 0 then none else some (tput tags (baseTag d.tag) (bv.set d.ref false)) := by
  unfold unregister; simp only [h]

structure TagsOK (tags : Tags) (l : List DD) : Prop where
  node : ∀ base bv, tget tags base = some bv →
    bv.Inv ∧ bv.bit 0 = true ∧ ∀ r, 1 ≤ r → (bv.bit r = true ↔ ∃ d ∈ liveOf l, keyOf d = (base, r))
  nonode : ∀ base, tget tags base = none → ∀ d ∈ liveOf l, baseTag d.tag ≠ base

/-- offset and length of a descriptor: both "invalid" (-1) or both set; never the `-2` "leave unchanged" marker -/
def okOL (d : DD) : Prop := (d.off = -1 ↔ d.len = -1) ∧ -1 ≤ d.off ∧ -1 ≤ d.len

structure WFl (l : List DD) (tags : Tags) : Prop where
  live_ok : ∀ d ∈ liveOf l, (2 ≤ d.tag ∧ d.tag < 65536) ∧ (1 ≤ d.ref ∧ d.ref < 65536)
  nodup : KeysNodup l
  tags : TagsOK tags l
  offlen : ∀ d ∈ liveOf l, okOL d

theorem liveOf_split_dead {pre post : List DD} {old : DD} (h : isLive old = false) :
    liveOf (pre ++ old :: post) = liveOf pre ++ liveOf post := by
  rw [liveOf_append, liveOf_cons_dead h]
theorem liveOf_split_live {pre post : List DD} {d : DD} (h : isLive d = true) :
    liveOf (pre ++ d :: post) = liveOf pre ++ d :: liveOf post := by
  rw [liveOf_append, liveOf_cons_live h]

/-! `WFl l tags` mentions `l` only through `liveOf l`, and that only up to order: the three changes of the directory are
stated for a descriptor at the head of the live list and carried to a slot in the middle by a permutation. -/

structure WFLive (L : List DD) (tags : Tags) : Prop where
  live_ok : ∀ d ∈ L, (2 ≤ d.tag ∧ d.tag < 65536) ∧ (1 ≤ d.ref ∧ d.ref < 65536)
  nodup : (L.map keyOf).Nodup
  node : ∀ base bv, tget tags base = some bv →
    bv.Inv ∧ bv.bit 0 = true ∧ ∀ r, 1 ≤ r → (bv.bit r = true ↔ (base, r) ∈ L.map keyOf)
  nonode : ∀ base, tget tags base = none → ∀ d ∈ L, baseTag d.tag ≠ base
  offlen : ∀ d ∈ L, okOL d

theorem WFl_iff {l : List DD} {tags : Tags} : WFl l tags ↔ WFLive (liveOf l) tags :=
  ⟨fun h => ⟨h.live_ok, h.nodup, fun b bv hg => let ⟨a, c, e⟩ := h.tags.node b bv hg
      ⟨a, c, fun r hr => (e r hr).trans List.mem_map.symm⟩, h.tags.nonode, h.offlen⟩,
   fun h => ⟨h.live_ok, h.nodup, ⟨fun b bv hg => let ⟨a, c, e⟩ := h.node b bv hg
      ⟨a, c, fun r hr => (e r hr).trans List.mem_map⟩, h.nonode⟩, h.offlen⟩⟩

theorem WFLive.nil : WFLive [] [] :=
  ⟨fun _ h => absurd h List.not_mem_nil, List.nodup_nil, fun _ _ h => by simp [tget] at h,
   fun _ _ _ h => absurd h List.not_mem_nil, fun _ h => absurd h List.not_mem_nil⟩

theorem WFl_of_no_live {l : List DD} (h : liveOf l = []) : WFl l [] := WFl_iff.mpr (h ▸ WFLive.nil)

theorem WFLive.perm {L L' : List DD} {tags : Tags} (h : WFLive L tags) (p : L'.Perm L) : WFLive L' tags :=
  ⟨fun d hd => h.live_ok d (p.mem_iff.mp hd), (p.map keyOf).nodup_iff.mpr h.nodup,
   fun b bv hg => let ⟨a, c, e⟩ := h.node b bv hg; ⟨a, c, fun r hr => (e r hr).trans (p.map keyOf).mem_iff.symm⟩,
   fun b hg d hd => h.nonode b hg d (p.mem_iff.mp hd), fun d hd => h.offlen d (p.mem_iff.mp hd)⟩

theorem WFLive.insert {L : List DD} {d' : DD} {tags : Tags} (h : WFLive L tags)
    (htag : 2 ≤ d'.tag ∧ d'.tag < 65536) (href : 1 ≤ d'.ref ∧ d'.ref < 65536)
    (hfresh : keyOf d' ∉ L.map keyOf) (hol : okOL d') :
    ∃ tags', register tags d' = some tags' ∧ WFLive (d' :: L) tags' := by
  have href1 : 1 ≤ d'.ref := href.1
  have hreg : ∃ bv', bv'.Inv ∧ bv'.bit 0 = true ∧ register tags d' = some (tput tags (baseTag d'.tag) bv') ∧
      ∀ r, 1 ≤ r → (bv'.bit r = true ↔ r = d'.ref ∨ (baseTag d'.tag, r) ∈ L.map keyOf) := by
    cases hg : tget tags (baseTag d'.tag) with
    | none =>
      have i1 := set_inv new_inv 0 true
      have i2 := set_inv i1 d'.ref true
      refine ⟨_, i2, ?_, register_none hg, ?_⟩
      · rw [set_bit i1, set_bit new_inv]; simp
      · intro r hr
        rw [set_bit i1, set_bit new_inv, new_bit]
        constructor
        · intro hb
          by_cases hrr : r = d'.ref
          · exact Or.inl hrr
          · simp [hrr] at hb; omega
        · rintro (hrr | hm)
          · simp [hrr]
          · obtain ⟨d, hd, hk⟩ := List.mem_map.mp hm
            exact absurd (congrArg Prod.fst hk) (h.nonode _ hg d hd)
    | some bv =>
      obtain ⟨binv, b0, bspec⟩ := h.node _ _ hg
      have hnot : bv.get d'.ref ≠ 1 := fun hb => hfresh ((bspec _ href1).mp ((get_eq_one binv _).mp hb))
      refine ⟨_, set_inv binv d'.ref true, ?_, by rw [register_some hg, if_neg hnot], ?_⟩
      · rw [set_bit binv]; have : (0 : Nat) ≠ d'.ref := by omega
        simp [this, b0]
      · intro r hr
        rw [set_bit binv]
        by_cases hrr : r = d'.ref
        · simp [hrr]
        · simp only [hrr, if_false, false_or]
          exact bspec r hr
  obtain ⟨bv', binv', b0', hregeq, bspec'⟩ := hreg
  refine ⟨_, hregeq, ⟨?_, List.nodup_cons.mpr ⟨hfresh, h.nodup⟩, ?_, ?_, ?_⟩⟩
  · intro d hd
    rcases List.mem_cons.mp hd with rfl | hd
    · exact ⟨htag, href⟩
    · exact h.live_ok d hd
  · intro base bv hg
    rw [tget_tput] at hg
    split at hg
    · rename_i hb
      cases hg
      refine ⟨binv', b0', fun r hr => ?_⟩
      rw [bspec' r hr, hb, List.map_cons, List.mem_cons, keyOf, Prod.mk.injEq]
      exact or_congr_left ⟨fun e => ⟨rfl, e⟩, fun e => e.2⟩
    · rename_i hb
      obtain ⟨i1, i2, i3⟩ := h.node _ _ hg
      refine ⟨i1, i2, fun r hr => ?_⟩
      rw [i3 r hr, List.map_cons, List.mem_cons, keyOf, Prod.mk.injEq]
      exact ⟨Or.inr, fun e => e.resolve_left fun c => hb c.1⟩
  · intro base hg d hd
    rw [tget_tput] at hg
    split at hg
    · cases hg
    · rename_i hb
      rcases List.mem_cons.mp hd with rfl | hd
      · exact fun e => hb e.symm
      · exact h.nonode _ hg d hd
  · intro d hd
    rcases List.mem_cons.mp hd with rfl | hd
    · exact hol
    · exact h.offlen d hd

theorem WFLive.update {L : List DD} {old d' : DD} {tags : Tags} (h : WFLive (old :: L) tags)
    (htag : d'.tag = old.tag) (href : d'.ref = old.ref) (hol : okOL d') : WFLive (d' :: L) tags := by
  have e : (d' :: L).map keyOf = (old :: L).map keyOf := by simp [keyOf, htag, href]
  refine ⟨?_, e ▸ h.nodup, fun b bv hg => e ▸ h.node b bv hg, ?_, ?_⟩
  · intro d hd
    rcases List.mem_cons.mp hd with rfl | hd
    · rw [htag, href]; exact h.live_ok old List.mem_cons_self
    · exact h.live_ok d (List.mem_cons_of_mem _ hd)
  · intro base hg d hd
    rcases List.mem_cons.mp hd with rfl | hd
    · rw [htag]; exact h.nonode _ hg old List.mem_cons_self
    · exact h.nonode _ hg d (List.mem_cons_of_mem _ hd)
  · intro d hd
    rcases List.mem_cons.mp hd with rfl | hd
    · exact hol
    · exact h.offlen d (List.mem_cons_of_mem _ hd)

theorem WFLive.delete {L : List DD} {old : DD} {tags : Tags} (h : WFLive (old :: L) tags) :
    ∃ tags', unregister tags old = some tags' ∧ WFLive L tags' := by
  have hokold := h.live_ok old List.mem_cons_self
  obtain ⟨hnot, hnd⟩ := List.nodup_cons.mp h.nodup
  cases hg : tget tags (baseTag old.tag) with
  | none => exact absurd rfl (h.nonode _ hg old List.mem_cons_self)
  | some bv =>
    obtain ⟨binv, b0, bspec⟩ := h.node _ _ hg
    have hset : bv.get old.ref ≠ 0 := by
      intro hb
      rw [get_eq_zero binv] at hb
      have := (bspec old.ref hokold.2.1).mpr List.mem_cons_self
      rw [hb] at this; cases this
    refine ⟨_, by rw [unregister_some hg, if_neg hset], ⟨fun d hd => h.live_ok d (List.mem_cons_of_mem _ hd), hnd, ?_, ?_,
      fun d hd => h.offlen d (List.mem_cons_of_mem _ hd)⟩⟩
    · intro base bv' hg'
      rw [tget_tput] at hg'
      split at hg'
      · rename_i hb
        cases hg'
        refine ⟨set_inv binv _ _, ?_, fun r hr => ?_⟩
        · rw [set_bit binv]; have : (0 : Nat) ≠ old.ref := by omega
          simp [this, b0]
        · rw [set_bit binv]
          by_cases hrr : r = old.ref
          · simp only [hrr, if_true]
            exact ⟨fun hf => Bool.noConfusion hf, fun hm => by subst hb; exact absurd hm hnot⟩
          · simp only [hrr, if_false]
            rw [bspec r hr, hb, List.map_cons, List.mem_cons, keyOf, Prod.mk.injEq]
            exact ⟨fun e => e.resolve_left fun c => hrr c.2, Or.inr⟩
      · rename_i hb
        obtain ⟨i1, i2, i3⟩ := h.node _ _ hg'
        refine ⟨i1, i2, fun r hr => ?_⟩
        rw [i3 r hr, List.map_cons, List.mem_cons, keyOf, Prod.mk.injEq]
        exact ⟨fun e => e.resolve_left fun c => hb c.1, Or.inr⟩
    · intro base hg' d hd
      rw [tget_tput] at hg'
      split at hg'
      · cases hg'
      · exact h.nonode _ hg' d (List.mem_cons_of_mem _ hd)

theorem WFl_append_nil {l : List DD} {tags : Tags} (h : WFl l tags) (n : Nat) :
    WFl (l ++ List.replicate n nilDD) tags :=
  WFl_iff.mpr (by rw [liveOf_append, liveOf_replicate_nil, List.append_nil]; exact WFl_iff.mp h)

theorem WFl_insert {pre post : List DD} {old d' : DD} {tags : Tags} (h : WFl (pre ++ old :: post) tags)
    (hold : isLive old = false) (htag : 2 ≤ d'.tag ∧ d'.tag < 65536) (href : 1 ≤ d'.ref ∧ d'.ref < 65536)
    (hfresh : ∀ d ∈ liveOf (pre ++ old :: post), keyOf d ≠ keyOf d')
    (hol : okOL d') :
    ∃ tags', register tags d' = some tags' ∧ WFl (pre ++ d' :: post) tags' := by
  have hlive' : isLive d' = true := by rw [isLive_iff]; omega
  obtain ⟨tags', hreg, hw⟩ := (WFl_iff.mp h).insert htag href
    (fun hm => let ⟨d, hd, hk⟩ := List.mem_map.mp hm; hfresh d hd hk) hol
  rw [liveOf_split_dead hold] at hw
  exact ⟨tags', hreg, WFl_iff.mpr (by rw [liveOf_split_live hlive']; exact hw.perm List.perm_middle)⟩

theorem WFl_update {pre post : List DD} {old d' : DD} {tags : Tags} (h : WFl (pre ++ old :: post) tags)
    (hold : isLive old = true) (htag : d'.tag = old.tag) (href : d'.ref = old.ref)
    (hol : okOL d') : WFl (pre ++ d' :: post) tags := by
  have hlive' : isLive d' = true := by rw [isLive_iff] at hold ⊢; rw [htag]; exact hold
  have hw := WFl_iff.mp h
  rw [liveOf_split_live hold] at hw
  exact WFl_iff.mpr (by
    rw [liveOf_split_live hlive']
    exact ((hw.perm List.perm_middle.symm).update htag href hol).perm List.perm_middle)

theorem WFl_delete {pre post : List DD} {old : DD} {tags : Tags} (h : WFl (pre ++ old :: post) tags)
    (hold : isLive old = true) :
    ∃ tags', unregister tags old = some tags' ∧ WFl (pre ++ { old with tag := DFTAG_NULL } :: post) tags' := by
  have hw := WFl_iff.mp h
  rw [liveOf_split_live hold] at hw
  obtain ⟨tags', hun, hw'⟩ := (hw.perm List.perm_middle.symm).delete
  exact ⟨tags', hun, WFl_iff.mpr (by rw [liveOf_split_dead (by simp [isLive])]; exact hw')⟩

end H4.DD
