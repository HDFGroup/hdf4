import H4.Gen.Fn.Vio
import H4.Format
import H4.Lemmas.FormatU8s
import H4.Lemmas.C08Fn
/-! Lemmas for `H4.Props.C07Fn`: `vpackvs` of `hdf/src/vio.c` as translated from the C text (`H4.Gen.Fn.Vio`) writes the `DFTAG_VH`
    record of the model `H4.Format.vpackvs`.  The generated `have` chain is restated as a composition of phases over the writer
    combinators of `H4.C2L` (the kernel checks the restatement: `vpackvs_phases`); every phase appends its bytes to a run of stores,
    `ph (wr vsL s a) = wr vsL s (a ++ bytes)` (`beh` where a `strcpy` has left its NUL under the cursor); the length of the buffer
    enters once, at the end (`run_at`), and at the `strcpy`s. -/
namespace H4.Lemmas.C07Fn
open H4 H4.Format H4.Gen.Fn.Vio
open H4.C2L hiding enc16 enc16s enc32
open H4.Lemmas.C08Fn (bytesI bytesI_length bytesI_nil bytesI_cons bytesI_append bytesI_flatMap)

abbrev St := vpackvs.St

theorem chk_true (s : St) (c : Prop) [Decidable c] (h : c) : vpackvs.chk s c = s := by
  simp [vpackvs.chk, h]

def frame (s : St) : St := { s with bb := 0, buf := [], ub := false, oof := false, slen := 0 }

/-- the cell under `bb` may have been clobbered by the terminating NUL of a `strcpy` -/
structure At (F : St) (b0 : List Int) (s : St) (out : List Int) : Prop where
  bb : s.bb = (out.length : Int)
  buf : ∃ z, s.buf = out ++ z :: b0.drop (out.length + 1)
  fr : frame s = frame F
  ub : s.ub = false
  oof : s.oof = false

theorem At.bounds {F b0 s out} (h : At F b0 s out) : 0 ≤ s.bb ∧ s.bb < s.buf.length := by
  obtain ⟨z, hz⟩ := h.buf
  rw [h.bb, hz]
  simp only [List.length_append, List.length_cons]
  omega

def vsL : Cursor St where
  buf := (·.buf)
  pos := (·.bb)
  ub := (·.ub)
  setBuf := vpackvs.St.set_buf
  setPos := vpackvs.St.set_bb
  chk := fun s c _ => vpackvs.chk s c

theorem vsP : vsL.Plain fun s u => { s with ub := u } := {}
theorem vsLaw : vsL.LawfulW := vsP.lawfulW

/-- the check in front of `reg[i]`, and `reg[i]` -/
abbrev idx (reg : St → List Int) : St → St := idxchk vsL (·.i) reg
abbrev cell (reg : St → List Int) : St → Int := cellOf (·.i) reg
/-- `0xff` next to an `unsigned` operand -/
abbrev M32 : Int := (255) % 4294967296

/-- `ret_value = SUCCEED; bb = &buf[0];` -/
def ph0 (s : St) : St :=
  have s : St := vpackvs.St.set_ret_value s (0)
  have s : St := vpackvs.St.set_bb s (0)
  s

/-- interlace, nvertices, ivsize, nfields -/
def ph1 (s : St) : St :=
  have s : St := wr16N vsL id (castU32 (·.vs_interlace)) (castU32 (·.vs_interlace)) M32 s
  have s : St := wr32N vsL id (castU32 (·.vs_nvertices)) s
  have s : St := wr16N vsL id (·.vs_wlist_ivsize) (·.vs_wlist_ivsize) 255 s
  have s : St := wr16N vsL id (castU32 (·.vs_wlist_n)) (castU32 (·.vs_wlist_n)) M32 s
  s

/-- `slen = (int16)strlen(p);` -/
def pstrA (s : St) (str : St → List Int) : St :=
  have s : St := vpackvs.chk s (0 ≤ 0 ∧ (0 : Int) ∈ ((str s).drop (Int.toNat (0))))
  have s : St := vpackvs.St.set_slen s (((((Int.ofNat (((str s).drop (Int.toNat (0))).takeWhile (· ≠ 0)).length)) + 32768) % 65536 - 32768))
  s

/-- `INT16ENCODE(bb, slen);` as generated (in front of a `strcpy` the kernel checks the restatement of the text much faster against the text
    than against `wr16N`) -/
def pslen (s : St) : St :=
  have s : St := vpackvs.chk s ((0 : Int) ≤ ((s.slen) % 4294967296) ∧ (0 : Int) ≤ 8 ∧ 8 < (32 : Int))
  have s : St := vpackvs.chk s ((0 : Int) ≤ (((s.slen) % 4294967296) / 2 ^ Int.toNat (8)) ∧ (0 : Int) ≤ ((255) % 4294967296))
  have s : St := vpackvs.chk s (0 ≤ s.bb ∧ s.bb < s.buf.length)
  have s : St := vpackvs.St.set_buf s (s.buf.set (Int.toNat (s.bb)) ((((Int.ofNat (Int.toNat ((((s.slen) % 4294967296) / 2 ^ Int.toNat (8))) &&& Int.toNat (((255) % 4294967296))))) % 256)))
  let e0 : Int := (s.bb + 1)
  have s : St := vpackvs.St.set_bb s (e0)
  have s : St := vpackvs.chk s ((0 : Int) ≤ ((s.slen) % 4294967296) ∧ (0 : Int) ≤ ((255) % 4294967296))
  have s : St := vpackvs.chk s (0 ≤ s.bb ∧ s.bb < s.buf.length)
  have s : St := vpackvs.St.set_buf s (s.buf.set (Int.toNat (s.bb)) ((((Int.ofNat (Int.toNat (((s.slen) % 4294967296)) &&& Int.toNat (((255) % 4294967296))))) % 256)))
  let e0 : Int := (s.bb + 1)
  have s : St := vpackvs.St.set_bb s (e0)
  s

theorem pslen_eq (s : St) : pslen s = wr16N vsL id (castU32 (·.slen)) (castU32 (·.slen)) 255 s := by kernel_rfl

/-- `slen = (int16)strlen(p); INT16ENCODE(bb, slen); strcpy((char *)bb, p); bb += slen;` (`pre`: the index check of `p = name[i]`) -/
def pstr (s : St) (pre : St → St) (str : St → List Int) : St :=
  have s : St := pstrA (pre s) str
  have s : St := pslen s
  have s : St := pcpy vsL str (pre s)
  have s : St := vpackvs.St.set_bb s ((s.bb + s.slen))
  s

theorem loop0_body (fuel : Nat) (s : St) : vpackvs.loop0.body fuel s =
    (have s : St := wr16N vsL (idx (·.vs_wlist_type)) (castU32 (cell (·.vs_wlist_type))) (castU32 (cell (·.vs_wlist_type))) M32 s; vpackvs.St.set_i s ((s.i + 1))) := by kernel_rfl
theorem loop1_body (fuel : Nat) (s : St) : vpackvs.loop1.body fuel s =
    (have s : St := wr16N vsL (idx (·.vs_wlist_isize)) (cell (·.vs_wlist_isize)) (cell (·.vs_wlist_isize)) 255 s; vpackvs.St.set_i s ((s.i + 1))) := by kernel_rfl
theorem loop2_body (fuel : Nat) (s : St) : vpackvs.loop2.body fuel s =
    (have s : St := wr16N vsL (idx (·.vs_wlist_off)) (cell (·.vs_wlist_off)) (cell (·.vs_wlist_off)) 255 s; vpackvs.St.set_i s ((s.i + 1))) := by kernel_rfl
theorem loop3_body (fuel : Nat) (s : St) : vpackvs.loop3.body fuel s =
    (have s : St := wr16N vsL (idx (·.vs_wlist_order)) (cell (·.vs_wlist_order)) (cell (·.vs_wlist_order)) 255 s; vpackvs.St.set_i s ((s.i + 1))) := by kernel_rfl

/-- the current row of `vs->wlist.name` -/
def row (s : St) : List Int := s.vs_wlist_name.getD (Int.toNat (s.i)) []

theorem loop4_body (fuel : Nat) (s : St) : vpackvs.loop4.body fuel s =
    (have s : St := pstr s (idxchk vsL (·.i) (·.vs_wlist_name)) row; vpackvs.St.set_i s ((s.i + 1))) := by kernel_rfl

theorem loop5_body (fuel : Nat) (s : St) : vpackvs.loop5.body fuel s =
    (have s : St := wr32N vsL (idx (·.vs_alist_findex)) (castU32 (cell (·.vs_alist_findex))) s
     have s : St := wr16N vsL (idx (·.vs_alist_atag)) (cell (·.vs_alist_atag)) (cell (·.vs_alist_atag)) 255 s
     have s : St := wr16N vsL (idx (·.vs_alist_aref)) (cell (·.vs_alist_aref)) (cell (·.vs_alist_aref)) 255 s
     vpackvs.St.set_i s ((s.i + 1))) := by kernel_rfl

/-- the five field loops (skipped for a Vdata without fields) -/
def ph2 (fuel : Nat) (s : St) : St :=
  if (s.vs_wlist_n > 0) then
      have s : St := vpackvs.St.set_i s (0)
      have s : St := vpackvs.loop0 fuel s
      have s : St := vpackvs.St.set_i s (0)
      have s : St := vpackvs.loop1 fuel s
      have s : St := vpackvs.St.set_i s (0)
      have s : St := vpackvs.loop2 fuel s
      have s : St := vpackvs.St.set_i s (0)
      have s : St := vpackvs.loop3 fuel s
      have s : St := vpackvs.St.set_i s (0)
      have s : St := vpackvs.loop4 fuel s
      s
    else
      s

/-- vsname, vsclass -/
def ph3 (s : St) : St := pstr s id (·.vs_vsname)
def ph4 (s : St) : St := pstr s id (·.vs_vsclass)

/-- extag, exref, version, more -/
def ph5 (s : St) : St :=
  have s : St := wr16N vsL id (·.vs_extag) (·.vs_extag) 255 s
  have s : St := wr16N vsL id (·.vs_exref) (·.vs_exref) 255 s
  have s : St := wr16N vsL id (castU32 (·.vs_version)) (castU32 (·.vs_version)) M32 s
  have s : St := wr16N vsL id (castU32 (·.vs_more)) (castU32 (·.vs_more)) M32 s
  s

/-- `if (vs->flags & VS_ATTR_SET) { INT32ENCODE(bb, vs->nattrs); for (…) { … } }` -/
def ph6b (fuel : Nat) (s : St) : St :=
  if ((Int.ofNat (Int.toNat (s.vs_flags) &&& Int.toNat (((1) % 4294967296)))) ≠ 0) then
      have s : St := wr32N vsL id (castU32 (·.vs_nattrs)) s
      have s : St := vpackvs.St.set_i s (0)
      have s : St := vpackvs.loop5 fuel s
      s
    else
      s

/-- the flags word and the attribute list -/
def ph6 (fuel : Nat) (s : St) : St :=
  if (s.vs_flags ≠ ((0) % 4294967296)) then
      have s : St := wr32N vsL id (·.vs_flags) s
      have s : St := vpackvs.chk s ((0 : Int) ≤ s.vs_flags ∧ (0 : Int) ≤ ((1) % 4294967296))
      have s : St := ph6b fuel s
      s
    else
      s

/-- version, more (second copy) -/
def ph7 (s : St) : St :=
  have s : St := wr16N vsL id (castU32 (·.vs_version)) (castU32 (·.vs_version)) M32 s
  have s : St := wr16N vsL id (castU32 (·.vs_more)) (castU32 (·.vs_more)) M32 s
  s

/-- `*size = (int32)(bb - buf) + 1; *bb = 0; return ret_value;` -/
def ph8 (s : St) : St :=
  have s : St := vpackvs.chk s (0 < s.size.length)
  have s : St := vpackvs.St.set_size s (s.size.set (Int.toNat (0)) (((s.bb - 0) + 1)))
  have s : St := vpackvs.chk s (0 ≤ s.bb ∧ s.bb < s.buf.length)
  have s : St := vpackvs.St.set_buf s (s.buf.set (Int.toNat (s.bb)) (((0) % 256)))
  have s : St := vpackvs.St.set_ret s (s.ret_value)
  s

/-- the translated function, called with NAMED arguments (the translator orders the parameters of the generated definition by
    their first use in the C text) -/
def vpackvsC (fuel : Nat) (interlace nvertices ivsize n : Int) (type isize off order : List Int) (names : List (List Int))
    (vsname vsclass : List Int) (extag exref version more flags nattrs : Int) (findex atag aref buf size : List Int) : St :=
  Gen.Fn.Vio.vpackvs (fuel := fuel) (vs_interlace := interlace) (vs_nvertices := nvertices) (vs_wlist_ivsize := ivsize)
    (vs_wlist_n := n) (vs_wlist_type := type) (vs_wlist_isize := isize) (vs_wlist_off := off) (vs_wlist_order := order)
    (vs_wlist_name := names) (vs_vsname := vsname) (vs_vsclass := vsclass) (vs_extag := extag) (vs_exref := exref)
    (vs_version := version) (vs_more := more) (vs_flags := flags) (vs_nattrs := nattrs) (vs_alist_findex := findex)
    (vs_alist_atag := atag) (vs_alist_aref := aref) (buf := buf) (size := size)

theorem vpackvs_phases (fuel : Nat) (interlace nvertices ivsize n : Int) (type isize off order : List Int) (names : List (List Int))
    (vsname vsclass : List Int) (extag exref version more flags nattrs : Int) (findex atag aref buf size : List Int) :
    vpackvsC fuel interlace nvertices ivsize n type isize off order names vsname vsclass extag exref version more flags nattrs
      findex atag aref buf size =
    ph8 (ph7 (ph6 fuel (ph5 (ph4 (ph3 (ph2 fuel (ph1 (ph0
      { vs_interlace := interlace, vs_nvertices := nvertices, vs_wlist_ivsize := ivsize, vs_wlist_n := n, vs_wlist_type := type,
        vs_wlist_isize := isize, vs_wlist_off := off, vs_wlist_order := order, vs_wlist_name := names, vs_vsname := vsname,
        vs_vsclass := vsclass, vs_extag := extag, vs_exref := exref, vs_version := version, vs_more := more, vs_flags := flags,
        vs_nattrs := nattrs, vs_alist_findex := findex, vs_alist_atag := atag, vs_alist_aref := aref, buf := buf,
        size := size })))))))) := by
  kernel_rfl

theorem enc16_length (x : Nat) : (enc16 x).length = 2 := rfl
theorem enc32_length (x : Nat) : (Format.enc32 x).length = 4 := rfl
theorem encS16_length (x : Int) : (encS16 x).length = 2 := rfl
theorem encS32_length (x : Int) : (encS32 x).length = 4 := rfl

theorem flatMap_length_const {α} (l : List α) (g : α → Bytes) (c : Nat) (h : ∀ a, (g a).length = c) :
    (l.flatMap g).length = c * l.length :=
  H4.BigEndian.length_flatMap_const l g c h

theorem encodeVAttr_length (a : VAttr) : (encodeVAttr a).length = 8 := rfl

theorem be16I_enc16 (n : Nat) : be16I (n : Int) = bytesI (enc16 n) := (H4.Lemmas.C02HdrFn.u8s_enc16 n).symm
theorem be32I_enc32 (n : Nat) : be32I (n : Int) = bytesI (Format.enc32 n) := (H4.Lemmas.C02HdrFn.u8s_enc32 n).symm
theorem be16I_encS16 (v : Int) : be16I v = bytesI (encS16 v) := by
  rw [encS16, ← be16I_enc16, ofS16, Int.toNat_of_nonneg (by omega), be16I_mod]
theorem be32I_encS32 (v : Int) : be32I v = bytesI (encS32 v) := by
  rw [encS32, ← be32I_enc32, ofS32, Int.toNat_of_nonneg (by omega), be32I_mod]

/-! `(uintn)` keeps the low 32 bits of an `int`, the model the low 16 / 32: the signed macros need no bound on the operand. -/

theorem w16 (x : St → Int) (s : St) (a : List Int) (hX : 0 ≤ x s) (hx : vsL.Frames x := by exact {}) :
    wr16N vsL id x x 255 (wr vsL s a) = wr vsL s (a ++ be16I (x s)) :=
  u16_beh vsLaw s a none hx hx _ rfl rfl hX

theorem w16i (x : St → Int) (s : St) (a : List Int) (hx : vsL.Frames x := by exact {}) :
    wr16N vsL id (castU32 x) (castU32 x) M32 (wr vsL s a) = wr vsL s (a ++ be16I (x s)) := by
  have h : vsL.Frames (castU32 x) := hx.comp (· % 4294967296)
  rw [← be16I_mod32]
  exact u16_beh vsLaw s a none h h _ rfl rfl (by omega)

theorem w32 (x : St → Int) (s : St) (a : List Int) (hX : 0 ≤ x s) (hx : vsL.Frames x := by exact {}) :
    wr32N vsL id x (wr vsL s a) = wr vsL s (a ++ be32I (x s)) :=
  u32_beh vsLaw s a none hx hX

theorem w32i (x : St → Int) (s : St) (a : List Int) (hx : vsL.Frames x := by exact {}) :
    wr32N vsL id (castU32 x) (wr vsL s a) = wr vsL s (a ++ be32I (x s)) := by
  rw [← be32I_mod]
  exact u32_beh vsLaw s a none (hx.comp (· % 4294967296)) (by show 0 ≤ x s % 4294967296; omega)

theorem cell_map {reg : St → List Int} {α} (l : List α) (g : α → Int) (pad : List Int) (s : St) (e : reg s = l.map g ++ pad) (k : Nat)
    (hi : s.i = k) (hk : k < l.length) : cell reg s = g l[k] := by
  rw [cell, cellOf, hi, Int.toNat_natCast, e, List.getD_eq_getElem?_getD, List.getElem?_append_left (by simpa using hk)]
  simp [hk]

/-- what the phases need to know about the members they never change (`s`: the state in which nothing is stored yet) -/
structure Regs (v : VH) (rowpad : List Int) (s : St) : Prop where
  il : s.vs_interlace = v.interlace
  nv : s.vs_nvertices = v.nvert
  ivs : s.vs_wlist_ivsize = (v.ivsize : Int)
  n : s.vs_wlist_n = (v.fields.length : Int)
  ty : ∃ pad, s.vs_wlist_type = v.fields.map (·.type) ++ pad
  isz : ∃ pad, s.vs_wlist_isize = ints (v.fields.map (·.isize)) ++ pad
  off : ∃ pad, s.vs_wlist_off = ints (v.fields.map (·.off)) ++ pad
  ord : ∃ pad, s.vs_wlist_order = ints (v.fields.map (·.order)) ++ pad
  nm : ∃ rows, s.vs_wlist_name = v.fields.map (fun f => bytesI f.name ++ 0 :: rowpad) ++ rows
  vn : ∃ pad, s.vs_vsname = bytesI v.name ++ 0 :: pad
  vc : ∃ pad, s.vs_vsclass = bytesI v.cls ++ 0 :: pad
  et : s.vs_extag = (v.extag : Int)
  er : s.vs_exref = (v.exref : Int)
  ver : s.vs_version = v.version
  more : s.vs_more = v.more
  fl : s.vs_flags = (v.flags : Int)
  na : s.vs_nattrs = (v.attrs.length : Int)
  fi : ∃ pad, s.vs_alist_findex = v.attrs.map (·.findex) ++ pad
  atg : ∃ pad, s.vs_alist_atag = ints (v.attrs.map (·.atag)) ++ pad
  arf : ∃ pad, s.vs_alist_aref = ints (v.attrs.map (·.aref)) ++ pad

def Base (s s' : St) : Prop := ∃ i slen, s' = { s with i := i, slen := slen }

theorem Base.refl (s : St) : Base s s := ⟨s.i, s.slen, rfl⟩
theorem Base.trans {s t u : St} (h : Base s t) (g : Base t u) : Base s u := by
  obtain ⟨i, l, rfl⟩ := h; obtain ⟨j, m, rfl⟩ := g; exact ⟨j, m, rfl⟩
theorem Base.set_i (s : St) (x : Int) : Base s (s.set_i x) := ⟨x, s.slen, rfl⟩
theorem Base.regs {v rowpad s s'} (h : Base s s') (hR : Regs v rowpad s) : Regs v rowpad s' := by
  obtain ⟨i, l, rfl⟩ := h
  exact ⟨hR.il, hR.nv, hR.ivs, hR.n, hR.ty, hR.isz, hR.off, hR.ord, hR.nm, hR.vn, hR.vc, hR.et, hR.er, hR.ver, hR.more, hR.fl, hR.na, hR.fi, hR.atg, hR.arf⟩

theorem get_wr {α : Sort u} (x : St → α) {s : St} {a : List Int} (hx : vsL.Frames x := by exact {}) : x (wr vsL s a) = x s :=
  frames_wr hx s a

theorem set_i_wr (s : St) (a : List Int) (x : Int) : vpackvs.St.set_i (wr vsL s a) x = wr vsL (s.set_i x) a :=
  comm_wr (L := vsL) (g := (vpackvs.St.set_i · x)) {} s a

theorem bb_wr (s : St) (a : List Int) : (wr vsL s a).bb = s.bb + a.length := pos_wr vsLaw.toLawful s a

theorem cnt_loop {loop body : Nat → St → St} {bound : St → Int} (h : IsLoop loop (fun s => s.i < bound s) body fun s => s)
    {α : Type} (l : List α) (piece : α → List Int) (s : St) (hn : bound s = l.length)
    (hpass : ∀ k (hk : k < l.length) f A, body f (wr vsL (s.set_i k) A) = vpackvs.St.set_i (wr vsL (s.set_i k) (A ++ piece l[k])) ((k : Int) + 1))
    {fuel : Nat} (hf : l.length ≤ fuel) (a : List Int) (hb : vsL.Frames bound := by exact {})
    (hbi : ∀ k : Int, bound (s.set_i k) = bound s := by intros; rfl) :
    loop fuel (wr vsL (s.set_i 0) a) = wr vsL (s.set_i l.length) (a ++ l.flatMap piece) :=
  wr_loop (L := vsL) h l piece (fun k => s.set_i k) a
    (fun k _ => by rw [get_wr (·.i), get_wr bound hb, hbi, hn]; exact Int.ofNat_lt)
    (fun k hk f => by rw [hpass k hk, set_i_wr, ← Int.natCast_succ]) hf

theorem ph0_wr (S : St) : ph0 S = wr vsL (ph0 S) [] :=
  (chk_true _ _ ⟨Int.le_refl 0, by show (0 : Int) + 0 ≤ _; omega⟩).symm

section
variable {v : VH} {rowpad : List Int} {s : St} (hR : Regs v rowpad s)
include hR

theorem ph1_wr (a : List Int) :
    ph1 (wr vsL s a) = wr vsL s (a ++ bytesI (encS16 v.interlace) ++ bytesI (encS32 v.nvert) ++ bytesI (enc16 v.ivsize) ++
      bytesI (enc16 v.fields.length)) := by
  simp only [ph1]
  rw [w16i (·.vs_interlace) s a, w32i (·.vs_nvertices) s _,
    w16 (·.vs_wlist_ivsize) s _ (by rw [hR.ivs]; omega), w16i (·.vs_wlist_n) s _,
    hR.il, hR.nv, hR.ivs, hR.n, be16I_encS16, be32I_encS32, be16I_enc16, be16I_enc16]

theorem ph7_wr (a : List Int) : ph7 (wr vsL s a) = wr vsL s (a ++ bytesI (encS16 v.version) ++ bytesI (encS16 v.more)) := by
  simp only [ph7]
  rw [w16i (·.vs_version) s a, w16i (·.vs_more) s _, hR.ver, hR.more, be16I_encS16, be16I_encS16]

/-- `for (i = 0; i < vs->wlist.n; i++) INT16ENCODE(bb, vs->wlist.type[i]);` -/
theorem loopTypes_wr {fuel : Nat} (hf : v.fields.length ≤ fuel) (a : List Int) :
    vpackvs.loop0 fuel (wr vsL (s.set_i 0) a) = wr vsL (s.set_i v.fields.length) (a ++ bytesI (v.fields.flatMap fun f => encS16 f.type)) := by
  obtain ⟨pad, e⟩ := hR.ty
  rw [bytesI_flatMap]
  refine cnt_loop (bound := (·.vs_wlist_n)) (.of_eqs (fun _ => rfl) (fun _ _ => rfl)) v.fields _ s hR.n (fun k hk f A => ?_) hf a
  have hc := cell_map (reg := (·.vs_wlist_type)) v.fields (·.type) pad (s.set_i k) e k rfl hk
  have hu : vsL.Frames (castU32 (cell (·.vs_wlist_type))) := (Cursor.Frames.cellOf {} {}).comp (· % 4294967296)
  rw [loop0_body]
  simp only []
  rw [wr16N_at vsLaw {} {} hu hu (s.set_i k) A k rfl (by show k < s.vs_wlist_type.length; rw [e]; simp; omega) _ rfl rfl
    (by show 0 ≤ _ % 4294967296; omega) (by decide), get_wr (·.i)]
  show vpackvs.St.set_i (wr vsL _ (_ ++ be16I (cell (·.vs_wlist_type) (s.set_i k) % 4294967296))) _ = _
  rw [be16I_mod32, hc, be16I_encS16]

/-- `for (i = 0; i < vs->nattrs; i++) { INT32ENCODE(bb, alist[i].findex); UINT16ENCODE(bb, alist[i].atag); UINT16ENCODE(bb, alist[i].aref); }` -/
theorem loopAttrs_wr {fuel : Nat} (hf : v.attrs.length ≤ fuel) (a : List Int) :
    vpackvs.loop5 fuel (wr vsL (s.set_i 0) a) = wr vsL (s.set_i v.attrs.length) (a ++ bytesI (v.attrs.flatMap encodeVAttr)) := by
  obtain ⟨p1, e1⟩ := hR.fi
  obtain ⟨p2, e2⟩ := hR.atg
  obtain ⟨p3, e3⟩ := hR.arf
  rw [bytesI_flatMap]
  refine cnt_loop (bound := (·.vs_nattrs)) (.of_eqs (fun _ => rfl) (fun _ _ => rfl)) v.attrs _ s hR.na (fun k hk f A => ?_) hf a
  have hc := cell_map (reg := (·.vs_alist_findex)) v.attrs (·.findex) p1 (s.set_i k) e1 k rfl hk
  have hu : vsL.Frames (castU32 (cell (·.vs_alist_findex))) := (Cursor.Frames.cellOf {} {}).comp (· % 4294967296)
  rw [loop5_body]
  simp only []
  rw [wr32N_at vsLaw {} {} hu (s.set_i k) A k rfl (by show k < s.vs_alist_findex.length; rw [e1]; simp; omega)
      (by show 0 ≤ _ % 4294967296; omega),
    H4.C2L.cell16_wr vsLaw (idx := (·.i)) (reg := (·.vs_alist_atag)) {} {} v.attrs (·.atag) p2 (s.set_i k) _ e2 k rfl hk,
    H4.C2L.cell16_wr vsLaw (idx := (·.i)) (reg := (·.vs_alist_aref)) {} {} v.attrs (·.aref) p3 (s.set_i k) _ e3 k rfl hk, be16I_enc16, be16I_enc16, get_wr (·.i)]
  show vpackvs.St.set_i (wr vsL _ (_ ++ be32I (cell (·.vs_alist_findex) (s.set_i k) % 4294967296) ++ _ ++ _)) _ = _
  rw [be32I_mod, hc, be32I_encS32]
  simp only [encodeVAttr, bytesI_append, List.append_assoc]

end

/-- `for (i = 0; i < vs->wlist.n; i++) UINT16ENCODE(bb, reg[i]);` (isize, off, order) -/
theorem loop16_wr {loop body : Nat → St → St} {reg : St → List Int} (hreg : vsL.Frames reg)
    (h : IsLoop loop (fun s => s.i < s.vs_wlist_n) body fun s => s)
    (hbody : ∀ f s, body f s = (have s : St := wr16N vsL (idx reg) (cell reg) (cell reg) 255 s; vpackvs.St.set_i s ((s.i + 1))))
    {α : Type} (l : List α) (g : α → Nat) (pad : List Int) (s : St) (hn : s.vs_wlist_n = l.length) (e : reg s = ints (l.map g) ++ pad)
    (hri : ∀ k : Int, reg (s.set_i k) = reg s) {fuel : Nat} (hf : l.length ≤ fuel) (a : List Int) :
    loop fuel (wr vsL (s.set_i 0) a) = wr vsL (s.set_i l.length) (a ++ bytesI (l.flatMap fun x => enc16 (g x))) := by
  rw [bytesI_flatMap]
  refine cnt_loop (bound := (·.vs_wlist_n)) h l _ s hn (fun k hk f A => ?_) hf a
  rw [hbody]
  show vpackvs.St.set_i _ _ = _
  rw [H4.C2L.cell16_wr vsLaw (idx := (·.i)) {} hreg l g pad (s.set_i k) A ((hri k).trans e) k rfl hk, be16I_enc16, get_wr (·.i)]

/-- a name the record can hold: shorter than 32768 bytes (`(int16)strlen`) and, being a C string, without NUL -/
def NameOK (b : Bytes) : Prop := b.length < 32768 ∧ (0 : UInt8) ∉ b
instance (b : Bytes) : Decidable (NameOK b) := by unfold NameOK; infer_instance

/-- room is asked for here and nowhere else (`pcpy_wr`) -/
theorem pstr_beh (s : St) (a : List Int) (z : Option Int) (pre : St → St) (str : St → List Int)
    (hpre : ∀ u : St, u.i = s.i → u.vs_wlist_name = s.vs_wlist_name → pre u = u)
    (b : Bytes) (hb : NameOK b) (pad : List Int) (ha : str s = bytesI b ++ 0 :: pad) (k : Nat) (hk : s.bb = k)
    (hroom : k + a.length + (encStr16 b).length + 1 ≤ s.buf.length) (hstr : vsL.Frames str := by exact {})
    (hsl : ∀ u m, str (vpackvs.St.set_slen u m) = str u := by intros; rfl) :
    pstr (beh vsL s a z) pre str = beh vsL (s.set_slen b.length) (a ++ bytesI (encStr16 b)) (some 0) := by
  have hlen := hb.1
  have h0 := H4.Lemmas.C08Fn.mem_bytesI_zero b hb.2
  have eA : pstrA (beh vsL s a z) str = (beh vsL s a z).set_slen b.length := by
    have es : str (beh vsL s a z) = bytesI b ++ 0 :: pad := (frames_beh hstr ..).trans ha
    obtain ⟨c1, tw⟩ := cstr_strlen es h0
    simp only [pstrA]
    simp only [chk_true _ _ c1]
    rw [tw, bytesI_length, Int.ofNat_eq_natCast,
      show ((b.length : Int) + 32768) % 65536 - 32768 = b.length by omega]
  have h : vsL.Frames (castU32 (·.slen)) := (({} : vsL.Frames (·.slen))).comp (· % 4294967296)
  simp only [encStr16, List.length_append, enc16_length] at hroom
  simp only [pstr]
  rw [hpre _ (frames_beh (L := vsL) (x := (·.i)) {} ..) (frames_beh (L := vsL) (x := (·.vs_wlist_name)) {} ..), eA, pslen_eq,
    comm_beh (L := vsL) (g := (vpackvs.St.set_slen · _)) {},
    u16_beh vsLaw _ a z h h (b.length : Int) (by show (b.length : Int) % 4294967296 = _; omega) (by show (b.length : Int) % 4294967296 = _; omega)
      (by omega),
    hpre (wr vsL (s.set_slen b.length) _) (get_wr (·.i)) (get_wr (·.vs_wlist_name)), show ∀ t : St, (pcpy vsL str t).bb = t.bb from pos_pcpy vsLaw.toLawful str,
    frames_pcpy (L := vsL) (x := (·.slen)) {} str, bb_wr, get_wr (·.slen)]
  have := pcpy_beh vsLaw hstr (s.set_slen b.length) (a ++ be16I (b.length : Int)) (bytesI b) pad ((hsl s _).trans ha) h0 k hk
    (by simp only [List.length_append, be16I, List.length_cons, List.length_nil, bytesI_length]; show _ ≤ s.buf.length; omega)
  rw [encStr16, bytesI_append, ← be16I_enc16, ← List.append_assoc, ← this]
  refine congrArg (vsL.setPos _) ?_
  simp only [List.length_append, bytesI_length]
  show s.bb + _ + (b.length : Int) = s.bb + _
  omega

theorem take_flatMap_le {α β} (l : List α) (g : α → List β) (k : Nat) (hk : k < l.length) :
    ((l.take k).flatMap g).length + (g l[k]).length ≤ (l.flatMap g).length := by
  have := congrArg (fun l => (l.flatMap g).length) (List.take_append_drop (k + 1) l)
  simp only [List.flatMap_append, List.length_append, List.take_succ_eq_append_getElem hk, List.flatMap_singleton] at this
  omega

theorem Base.same {s s' : St} (h : Base s s') : s'.bb = s.bb ∧ s'.buf = s.buf ∧ s'.ub = s.ub ∧ s'.oof = s.oof ∧ s'.size = s.size ∧
    s'.ret_value = s.ret_value := by
  obtain ⟨i, l, rfl⟩ := h; exact ⟨rfl, rfl, rfl, rfl, rfl, rfl⟩

/-- the five per-field arrays of the record -/
def fieldsPart (v : VH) : Bytes :=
  v.fields.flatMap (fun f => encS16 f.type) ++ v.fields.flatMap (fun f => enc16 f.isize) ++
  v.fields.flatMap (fun f => enc16 f.off) ++ v.fields.flatMap (fun f => enc16 f.order) ++
  v.fields.flatMap (fun f => encStr16 f.name)

/-- the part of the record between the first and the second copy of version/more -/
def flagsPart (v : VH) : Bytes :=
  if v.flags ≠ 0 then
    Format.enc32 v.flags ++ (if v.flags % 2 = 1 then Format.enc32 v.attrs.length ++ v.attrs.flatMap encodeVAttr else [])
  else []

section
variable {v : VH} {rowpad : List Int} {s : St} (hR : Regs v rowpad s)
include hR

/-- `for (i = 0; i < vs->wlist.n; i++) { … name[i] … }`: every pass ends on a `strcpy`; one hypothesis on the room covers all passes -/
theorem loopNames_wr {fuel : Nat} (hnames : ∀ f ∈ v.fields, NameOK f.name) (hf : v.fields.length ≤ fuel) (a : List Int) (k0 : Nat)
    (hk0 : s.bb = k0) (hroom : k0 + a.length + (v.fields.flatMap fun f => encStr16 f.name).length + 1 ≤ s.buf.length) :
    ∃ s' z, Base s s' ∧ vpackvs.loop4 fuel (wr vsL (s.set_i 0) a) = beh vsL s' (a ++ bytesI (v.fields.flatMap fun f => encStr16 f.name)) z := by
  obtain ⟨rows, e⟩ := hR.nm
  -- the state in front of pass `k`: `k` names stored, behind the first a NUL under the cursor
  obtain ⟨bare, hbare⟩ : ∃ bare : Nat → St, ∀ k : Nat, bare k =
      { s with i := (k : Int), slen := if k = 0 then s.slen else ((v.fields.map (·.name.length)).getD (k - 1) 0 : Nat) } := ⟨_, fun _ => rfl⟩
  have hb : ∀ k, (bare k).i = k ∧ (bare k).vs_wlist_name = s.vs_wlist_name ∧ (bare k).vs_wlist_n = s.vs_wlist_n ∧ (bare k).bb = s.bb ∧
      (bare k).buf = s.buf := fun k => by rw [hbare]; exact ⟨rfl, rfl, rfl, rfl, rfl⟩
  let F : Nat → St := fun k => beh vsL (bare k) (a ++ bytesI ((v.fields.take k).flatMap fun f => encStr16 f.name)) (if k = 0 then none else some 0)
  have hi : ∀ k, (F k).i = k ∧ (F k).vs_wlist_n = s.vs_wlist_n := fun k =>
    ⟨(frames_beh (L := vsL) (x := (·.i)) {} ..).trans (hb k).1, (frames_beh (L := vsL) (x := (·.vs_wlist_n)) {} ..).trans (hb k).2.2.1⟩
  have hrun := (IsLoop.of_eqs (L := vpackvs.loop4) (fun _ => rfl) (fun _ _ => rfl)).run v.fields.length F
    (fun k hk => by show (F k).i < (F k).vs_wlist_n; rw [(hi k).1, (hi k).2, hR.n]; omega)
    (fun hc => by have : (F v.fields.length).i < (F v.fields.length).vs_wlist_n := hc; rw [(hi _).1, (hi _).2, hR.n] at this; omega)
    (fun k f hk _ => by
      obtain ⟨b1, b2, _, b4, b5⟩ := hb k
      have hl : ((v.fields.map (·.name.length)).getD k 0 : Nat) = (v.fields[k]).name.length := by simp [hk]
      have := take_flatMap_le v.fields (fun f => encStr16 f.name) k hk
      rw [loop4_body]
      show vpackvs.St.set_i (pstr (beh vsL (bare k) _ _) _ _) ((pstr (beh vsL (bare k) _ _) _ _).i + 1) = _
      rw [pstr_beh (bare k) _ _ (idxchk vsL (·.i) (·.vs_wlist_name)) row
          (fun u h1 h2 => chk_true u _ (by show 0 ≤ u.i ∧ u.i < (u.vs_wlist_name.length : Int); rw [h1, h2, b1, b2, e]; simp; omega))
          (v.fields[k]).name (hnames _ (List.getElem_mem hk)) rowpad
          (by rw [row, b1, b2, Int.toNat_natCast, e, List.getD_eq_getElem?_getD, List.getElem?_append_left (by simpa using hk)]; simp [hk])
          k0 (b4.trans hk0) (by rw [b5, List.length_append, bytesI_length]; omega),
        frames_beh (L := vsL) (x := (·.i)) {}, comm_beh (L := vsL) (g := (vpackvs.St.set_i · _)) {}]
      show beh vsL _ _ _ = beh vsL (bare (k + 1)) _ _
      rw [List.take_succ_eq_append_getElem hk, List.flatMap_append, List.flatMap_singleton, bytesI_append, List.append_assoc,
        if_neg (Nat.succ_ne_zero k), hbare, hbare, if_neg (Nat.succ_ne_zero k), Nat.add_sub_cancel, hl, Int.natCast_succ])
    hf
  have h0 : F 0 = wr vsL (s.set_i 0) a := by
    show beh vsL (bare 0) (a ++ bytesI ((v.fields.take 0).flatMap _)) (if 0 = 0 then none else some 0) = _
    rw [hbare, if_pos rfl, if_pos rfl, List.take_zero, List.flatMap_nil, bytesI_nil, List.append_nil]; rfl
  refine ⟨bare v.fields.length, if v.fields.length = 0 then none else some 0, ⟨_, _, hbare _⟩, ?_⟩
  rw [← h0, hrun]
  show beh vsL _ (a ++ bytesI ((v.fields.take v.fields.length).flatMap _)) _ = _
  rw [List.take_length]

theorem ph2_wr {fuel : Nat} (hnames : ∀ f ∈ v.fields, NameOK f.name) (hf : v.fields.length ≤ fuel) (a : List Int) (k0 : Nat) (hk0 : s.bb = k0)
    (hroom : k0 + a.length + (fieldsPart v).length + 1 ≤ s.buf.length) :
    ∃ s' z, Base s s' ∧ ph2 fuel (wr vsL s a) = beh vsL s' (a ++ bytesI (fieldsPart v)) z := by
  simp only [ph2]
  rw [get_wr (·.vs_wlist_n), hR.n]
  by_cases hc : v.fields = []
  · refine ⟨s, none, Base.refl s, ?_⟩
    rw [if_neg (by rw [hc]; simp)]
    simp only [fieldsPart, hc, List.flatMap_nil, List.append_nil, bytesI_nil, beh_none]
  · obtain ⟨p1, e1⟩ := hR.isz
    obtain ⟨p2, e2⟩ := hR.off
    obtain ⟨p3, e3⟩ := hR.ord
    simp only [fieldsPart, List.length_append] at hroom
    obtain ⟨s', z, hb, e⟩ := loopNames_wr hR hnames hf
      (a ++ bytesI (v.fields.flatMap fun f => encS16 f.type) ++ bytesI (v.fields.flatMap fun f => enc16 f.isize) ++
        bytesI (v.fields.flatMap fun f => enc16 f.off) ++ bytesI (v.fields.flatMap fun f => enc16 f.order)) k0 hk0
      (by simp only [List.length_append, bytesI_length]; omega)
    refine ⟨s', z, hb, ?_⟩
    rw [if_pos (by have := List.length_pos_iff.mpr hc; omega), set_i_wr, loopTypes_wr hR hf, set_i_wr,
      loop16_wr (loop := vpackvs.loop1) (reg := (·.vs_wlist_isize)) {} (.of_eqs (fun _ => rfl) (fun _ _ => rfl)) loop1_body v.fields (·.isize) p1 s hR.n e1
        (fun _ => rfl) hf, set_i_wr,
      loop16_wr (loop := vpackvs.loop2) (reg := (·.vs_wlist_off)) {} (.of_eqs (fun _ => rfl) (fun _ _ => rfl)) loop2_body v.fields (·.off) p2 s hR.n e2
        (fun _ => rfl) hf, set_i_wr,
      loop16_wr (loop := vpackvs.loop3) (reg := (·.vs_wlist_order)) {} (.of_eqs (fun _ => rfl) (fun _ _ => rfl)) loop3_body v.fields (·.order) p3 s hR.n e3
        (fun _ => rfl) hf, set_i_wr, e]
    simp only [fieldsPart, bytesI_append, List.append_assoc]

theorem ph3_beh (hname : NameOK v.name) (a : List Int) (z : Option Int) (k0 : Nat) (hk0 : s.bb = k0)
    (hroom : k0 + a.length + (encStr16 v.name).length + 1 ≤ s.buf.length) :
    ph3 (beh vsL s a z) = beh vsL (s.set_slen v.name.length) (a ++ bytesI (encStr16 v.name)) (some 0) := by
  obtain ⟨np, en⟩ := hR.vn
  exact pstr_beh s a z id (·.vs_vsname) (fun _ _ _ => rfl) v.name hname np en k0 hk0 hroom

theorem ph4_beh (hcls : NameOK v.cls) (a : List Int) (z : Option Int) (k0 : Nat) (hk0 : s.bb = k0)
    (hroom : k0 + a.length + (encStr16 v.cls).length + 1 ≤ s.buf.length) :
    ph4 (beh vsL s a z) = beh vsL (s.set_slen v.cls.length) (a ++ bytesI (encStr16 v.cls)) (some 0) := by
  obtain ⟨cp, ec⟩ := hR.vc
  exact pstr_beh s a z id (·.vs_vsclass) (fun _ _ _ => rfl) v.cls hcls cp ec k0 hk0 hroom

theorem ph5_beh (a : List Int) (z : Option Int) :
    ph5 (beh vsL s a z) = wr vsL s (a ++ bytesI (enc16 v.extag) ++ bytesI (enc16 v.exref) ++ bytesI (encS16 v.version) ++ bytesI (encS16 v.more)) := by
  simp only [ph5]
  rw [u16_beh vsLaw s a z (xh := (·.vs_extag)) (x := (·.vs_extag)) {} {} _ rfl rfl (by rw [hR.et]; omega),
    w16 (·.vs_exref) s _ (by rw [hR.er]; omega), w16i (·.vs_version) s _, w16i (·.vs_more) s _,
    hR.et, hR.er, hR.ver, hR.more, be16I_enc16, be16I_enc16, be16I_encS16, be16I_encS16]

theorem ph6b_wr {fuel : Nat} (ha : v.flags % 2 = 1 → v.attrs.length ≤ fuel) :
    ∃ s', Base s s' ∧ ∀ a : List Int, ph6b fuel (wr vsL s a) =
      wr vsL s' (a ++ bytesI (if v.flags % 2 = 1 then Format.enc32 v.attrs.length ++ v.attrs.flatMap encodeVAttr else [])) := by
  by_cases hc : v.flags % 2 = 1
  · refine ⟨s.set_i v.attrs.length, Base.set_i .., fun a => ?_⟩
    simp only [ph6b]
    rw [get_wr (·.vs_flags), hR.fl, if_pos ((land_one v.flags).mpr hc), if_pos hc, w32i (·.vs_nattrs) s a, set_i_wr,
      loopAttrs_wr hR (ha hc), hR.na, be32I_enc32, bytesI_append, List.append_assoc]
  · refine ⟨s, Base.refl s, fun a => ?_⟩
    simp only [ph6b]
    rw [get_wr (·.vs_flags), hR.fl, if_neg (fun x => hc ((land_one v.flags).mp x)), if_neg hc, bytesI_nil, List.append_nil]

theorem ph6_wr {fuel : Nat} (ha : v.flags % 2 = 1 → v.attrs.length ≤ fuel) :
    ∃ s', Base s s' ∧ ∀ a : List Int, ph6 fuel (wr vsL s a) = wr vsL s' (a ++ bytesI (flagsPart v)) := by
  by_cases hc : v.flags ≠ 0
  · obtain ⟨s', hb, e⟩ := ph6b_wr hR ha
    refine ⟨s', hb, fun a => ?_⟩
    simp only [ph6]
    rw [get_wr (·.vs_flags), hR.fl, flagsPart, if_pos (by show (v.flags : Int) ≠ 0; omega), if_pos hc, w32 (·.vs_flags) s a (by rw [hR.fl]; omega),
      chk_true _ _ (by rw [get_wr (·.vs_flags), hR.fl]; exact ⟨by omega, by decide⟩), hR.fl, be32I_enc32, e, bytesI_append, List.append_assoc]
  · refine ⟨s, Base.refl s, fun a => ?_⟩
    simp only [ph6]
    rw [get_wr (·.vs_flags), hR.fl, flagsPart, if_neg (by show ¬ (v.flags : Int) ≠ 0; omega), if_neg hc, bytesI_nil, List.append_nil]

end

theorem ph8_eq (t : St) (hs : 0 < t.size.length) :
    ph8 t = { wr vsL t [0] with bb := t.bb, size := t.size.set 0 (t.bb + 1), ret := t.ret_value } := by
  have hc : vpackvs.chk (vpackvs.St.set_size t (t.size.set (Int.toNat 0) (t.bb - 0 + 1))) (0 ≤ t.bb ∧ t.bb < t.buf.length) =
      vpackvs.chk (vpackvs.St.set_size t (t.size.set (Int.toNat 0) (t.bb - 0 + 1))) (0 ≤ t.bb ∧ t.bb + (([0] : List Int).length : Int) ≤ t.buf.length) :=
    vsLaw.chk_congr _ _ _ (by simp only [List.length_cons, List.length_nil]; omega)
  simp only [ph8, chk_true t _ hs]
  rw [hc]
  simp only [Int.sub_zero]
  rfl

theorem vpackvs_split (v : VH) : Format.vpackvs v =
    [] ++ encS16 v.interlace ++ encS32 v.nvert ++ enc16 v.ivsize ++ enc16 v.fields.length ++ fieldsPart v ++
      encStr16 v.name ++ encStr16 v.cls ++ enc16 v.extag ++ enc16 v.exref ++ encS16 v.version ++ encS16 v.more ++
      flagsPart v ++ encS16 v.version ++ encS16 v.more ++ [0] := by
  simp only [Format.vpackvs, fieldsPart, flagsPart, List.nil_append, List.append_assoc]

theorem run_at (v : VH) (rowpad : List Int) (fuel : Nat) (S : St) (hR : Regs v rowpad (ph0 S)) (hub : S.ub = false)
    (hoof : S.oof = false) (hnames : ∀ f ∈ v.fields, NameOK f.name) (hname : NameOK v.name) (hcls : NameOK v.cls)
    (hfuel : v.fields.length ≤ fuel) (hfuel2 : v.flags % 2 = 1 → v.attrs.length ≤ fuel)
    (hbuf : (Format.vpackvs v).length ≤ S.buf.length) (hsize : 0 < S.size.length) :
    let s := ph8 (ph7 (ph6 fuel (ph5 (ph4 (ph3 (ph2 fuel (ph1 (ph0 S))))))))
    s.ub = false ∧ s.oof = false ∧
      s.buf = bytesI (Format.vpackvs v) ++ S.buf.drop (Format.vpackvs v).length ∧
      s.size = S.size.set 0 ((Format.vpackvs v).length : Int) ∧ s.ret = 0 := by
  have hL := congrArg List.length (vpackvs_split v)
  simp only [List.length_append, List.length_nil, enc16_length, encS16_length, encS32_length, List.length_cons] at hL
  rw [hL] at hbuf
  intro s
  obtain ⟨s2, z2, b2, e2⟩ := ph2_wr hR hnames hfuel
    ([] ++ bytesI (encS16 v.interlace) ++ bytesI (encS32 v.nvert) ++ bytesI (enc16 v.ivsize) ++ bytesI (enc16 v.fields.length)) 0 rfl
    (by show _ ≤ S.buf.length; simp only [List.length_append, List.length_nil, bytesI_length, enc16_length, encS16_length, encS32_length]; omega)
  have h2 := b2.same
  have b3 : Base (ph0 S) (s2.set_slen v.name.length) := b2.trans ⟨s2.i, _, rfl⟩
  have b4 : Base (ph0 S) ((s2.set_slen v.name.length).set_slen v.cls.length) := b2.trans ⟨s2.i, _, rfl⟩
  obtain ⟨s6, b6, e6⟩ := ph6_wr (b4.regs hR) hfuel2
  have b6' := b4.trans b6
  obtain ⟨q1, q2, q3, q4, q5, q6⟩ := b6'.same
  obtain ⟨T, es⟩ : ∃ T, T = s := ⟨_, rfl⟩
  rw [← es]
  change T = ph8 (ph7 (ph6 fuel (ph5 (ph4 (ph3 (ph2 fuel (ph1 (ph0 S)))))))) at es
  rw [ph0_wr S, ph1_wr hR, e2, ph3_beh (b2.regs hR) hname _ _ 0 h2.1 ?r3, ph4_beh (b3.regs hR) hcls _ _ 0 h2.1 ?r4,
    ph5_beh (b4.regs hR), e6, ph7_wr (b6'.regs hR),
    ph8_eq _ (by rw [get_wr (·.size), q5]; exact hsize), wr_wr vsLaw] at es
  case r3 =>
    rw [h2.2.1]; show _ ≤ S.buf.length
    simp only [List.length_append, List.length_nil, bytesI_length, enc16_length, encS16_length, encS32_length]; omega
  case r4 =>
    show _ ≤ s2.buf.length; rw [h2.2.1]; show _ ≤ S.buf.length
    simp only [List.length_append, List.length_nil, bytesI_length, enc16_length, encS16_length, encS32_length]; omega
  have hsplit := congrArg bytesI (vpackvs_split v)
  simp only [bytesI_append, List.nil_append, show bytesI [0] = [0] from rfl] at hsplit
  have hX := congrArg List.length hsplit
  rw [List.length_append, bytesI_length] at hX
  simp only [List.nil_append] at es
  rw [← hsplit] at es
  obtain ⟨R, hRec⟩ : ∃ R, R = bytesI (Format.vpackvs v) := ⟨_, rfl⟩
  have hlen : R.length = (Format.vpackvs v).length := by rw [hRec, bytesI_length]
  rw [← hRec] at es ⊢
  obtain ⟨w1, w2, -⟩ := wr_end vsP s6 R 0 q1 (by show 0 + R.length ≤ s6.buf.length; rw [q2, hlen, hL, Nat.zero_add]; exact hbuf)
  rw [es]
  refine ⟨?_, ?_, ?_, ?_, ?_⟩
  · dsimp only
    exact w1.trans (q3.trans hub)
  · dsimp only
    rw [get_wr (·.oof), q4]; exact hoof
  · dsimp only
    refine w2.trans ?_
    show List.take 0 s6.buf ++ R ++ List.drop (0 + R.length) s6.buf = _
    rw [q2, hlen, Nat.zero_add]; rfl
  · dsimp only
    rw [get_wr (·.size), q5, bb_wr, q1, hX, show (ph0 S).bb = 0 from rfl, show (ph0 S).size = S.size from rfl]
    refine congrArg (S.size.set 0) ?_
    simp only [List.length_cons, List.length_nil]; omega
  · dsimp only
    rw [get_wr (·.ret_value), q6]; rfl

end H4.Lemmas.C07Fn
