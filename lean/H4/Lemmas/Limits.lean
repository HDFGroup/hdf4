import H4.Limits
/-! Helper lemmas for C20, the int32 arithmetic of allocation (what Props/C20 and C20Fn stand on): `wrap32` is the identity on
    int32 values, the fixed code keeps every sum inside the range, `WF32` is preserved by every modelled operation. -/
namespace H4.Limits
open H4.Gen.Hdf

theorem i32max_eq : I32MAX = 2147483647 := rfl
theorem maxEnd_eq : maxEnd = 2147483646 := rfl
theorem blockSize_eq (n : Nat) : blockSize n = 6 + 12 * (n : Int) := by
  simp only [blockSize, NDDS_SZ, OFFSET_SZ, DD_SZ]
  omega

theorem consts : I32MAX = 2147483647 ∧ maxEnd = 2147483646 ∧ (INVALID_OFFSET : Int) = -1 ∧ (INVALID_LENGTH : Int) = -1
    ∧ (∀ n, blockSize n = 6 + 12 * (n : Int)) :=
  ⟨i32max_eq, maxEnd_eq, rfl, rfl, blockSize_eq⟩

theorem blockSize_nonneg (n : Nat) : 0 ≤ blockSize n := by rw [blockSize_eq]; omega

theorem wrap32_id {x : Int} (h1 : -2147483648 ≤ x) (h2 : x ≤ 2147483647) : wrap32 x = x := by
  unfold wrap32; omega

theorem wrap32_range (x : Int) : -2147483648 ≤ wrap32 x ∧ wrap32 x ≤ 2147483647 := by
  unfold wrap32; omega

def DD.okUpTo (d : DD) (e : Int) : Prop := (d.off = -1 ∧ d.len = -1) ∨ (0 ≤ d.off ∧ 0 ≤ d.len ∧ d.off + d.len ≤ e)

/-- `maxEnd` leaves room for the pad byte -/
structure WF32 (s : St) : Prop where
  end_lo : 0 ≤ s.endOff
  end_hi : s.endOff ≤ maxEnd
  ndds_ok : s.ndds ≤ 32767
  dds_ok : ∀ d ∈ s.dds, d.okUpTo s.endOff
  blocks_ok : ∀ b ∈ s.blocks, 0 ≤ b ∧ b + blockSize s.ndds ≤ s.endOff

theorem DD.okUpTo_mono {d : DD} {e e' : Int} (h : d.okUpTo e) (he : e ≤ e') : d.okUpTo e' := by
  rcases h with h | ⟨a, b, c⟩
  · exact Or.inl h
  · exact Or.inr ⟨a, b, by omega⟩

theorem DD.invalid_iff (d : DD) : d.invalid = true ↔ (d.off = -1 ∧ d.len = -1) := by
  simp [DD.invalid, INVALID_OFFSET, INVALID_LENGTH]

theorem WF32.raiseEnd {s : St} (h : WF32 s) {e : Int} (h1 : s.endOff ≤ e) (h2 : e ≤ maxEnd) :
    WF32 { s with endOff := e } :=
  ⟨Int.le_trans h.end_lo h1, h2, h.ndds_ok, fun d hd => DD.okUpTo_mono (h.dds_ok d hd) h1,
   fun b hb => ⟨(h.blocks_ok b hb).1, Int.le_trans (h.blocks_ok b hb).2 h1⟩⟩

theorem WF32.snocInvalid {s : St} (h : WF32 s) (free tag ref : Nat) :
    WF32 { s with free := free, dds := s.dds ++ [{ tag, ref, off := INVALID_OFFSET, len := INVALID_LENGTH }] } := by
  refine ⟨h.end_lo, h.end_hi, h.ndds_ok, fun d hd => ?_, h.blocks_ok⟩
  rcases List.mem_append.mp hd with hd | hd
  · exact h.dds_ok d hd
  · rw [List.mem_singleton.mp hd]; exact Or.inl ⟨rfl, rfl⟩


theorem getdiskblock_eq {c : Cfg} (hA : c.fixA = true) {s : St} (h : WF32 s) (n : Int) (m : Bool) :
    getdiskblock c s n m =
      if 0 ≤ n ∧ s.endOff + n ≤ maxEnd then some (s.endOff, { s with endOff := s.endOff + n }) else none := by
  have h1 := h.end_lo; have h2 := h.end_hi
  rw [maxEnd_eq] at h2 ⊢
  unfold getdiskblock
  rw [hA, Bool.true_and, i32max_eq, wrap32_id (x := 2147483647 - s.endOff) (by omega) (by omega)]
  by_cases hfit : 0 ≤ n ∧ s.endOff + n ≤ 2147483646
  · rw [if_pos hfit, if_neg (by omega), if_neg (by simp only [decide_eq_true_eq]; omega)]
    dsimp only
    rw [wrap32_id (x := s.endOff + n) (by omega) (by omega)]
    have hseek : (decide (n > 0) && !c.cache && decide (wrap32 (s.endOff + n - 1) < 0)) = false := by
      by_cases hn : n > 0
      · rw [wrap32_id (by omega) (by omega), decide_eq_false (by omega : ¬ s.endOff + n - 1 < 0), Bool.and_false]
      · rw [decide_eq_false hn]; rfl
    rw [hseek, decide_eq_false (by omega : ¬ s.endOff < 0), Bool.and_false]
    rfl
  · rw [if_neg hfit]
    by_cases hn : n < 0
    · rw [if_pos hn]
    · rw [if_neg hn, if_pos (by simp only [decide_eq_true_eq]; omega)]

theorem getdiskblock_some {c : Cfg} (hA : c.fixA = true) {s : St} (h : WF32 s) {n : Int} {m : Bool} {off : Int} {s' : St}
    (hg : getdiskblock c s n m = some (off, s')) :
    off = s.endOff ∧ 0 ≤ n ∧ s.endOff + n ≤ maxEnd ∧ s' = { s with endOff := s.endOff + n } := by
  rw [getdiskblock_eq hA h] at hg
  split at hg
  · cases hg; exact ⟨rfl, ‹_ ∧ _›.1, ‹_ ∧ _›.2, rfl⟩
  · cases hg

theorem getdiskblock_rejected {c : Cfg} (hA : c.fixA = true) {s : St} (h : WF32 s) {n : Int} (m : Bool)
    (hbig : s.endOff + n > maxEnd) : getdiskblock c s n m = none := by
  rw [getdiskblock_eq hA h, if_neg (fun hh => Int.not_le.mpr hbig hh.2)]


theorem endRule_valid {e off len : Int} (h0 : 0 ≤ off) (h1 : 0 ≤ len) (h2 : off + len ≤ maxEnd) :
    endRule e off len = if off + len > e then off + len else e := by
  rw [maxEnd_eq] at h2
  have hw : wrap32 (off + len) = off + len := by apply wrap32_id <;> omega
  have ho : (off != (INVALID_OFFSET : Int)) = true := by simp [INVALID_OFFSET]; omega
  have hl : (len != (INVALID_LENGTH : Int)) = true := by simp [INVALID_LENGTH]; omega
  simp [endRule, hw, ho, hl]

theorem updateDD_wf {s : St} (h : WF32 s) (tag ref : Nat) {off len : Int}
    (h0 : 0 ≤ off) (h1 : 0 ≤ len) (h2 : off + len ≤ maxEnd) : WF32 (updateDD s tag ref off len) := by
  have he := endRule_valid (e := s.endOff) h0 h1 h2
  have hge : s.endOff ≤ endRule s.endOff off len :=
    he ▸ iteInduction (motive := (s.endOff ≤ ·)) (fun hc => Int.le_of_lt hc) fun _ => Int.le_refl _
  have hcov : off + len ≤ endRule s.endOff off len :=
    he ▸ iteInduction (motive := (off + len ≤ ·)) (fun _ => Int.le_refl _) fun hc => Int.not_lt.mp hc
  have hhi : endRule s.endOff off len ≤ maxEnd :=
    he ▸ iteInduction (motive := (· ≤ maxEnd)) (fun _ => h2) fun _ => h.end_hi
  refine ⟨Int.le_trans h.end_lo hge, hhi, h.ndds_ok, fun d hd => ?_, fun b hb =>
    ⟨(h.blocks_ok b hb).1, Int.le_trans (h.blocks_ok b hb).2 hge⟩⟩
  obtain ⟨d0, hd0, rfl⟩ := List.mem_map.mp hd
  exact iteInduction (motive := fun d : DD => d.okUpTo (endRule s.endOff off len))
    (fun _ => Or.inr ⟨h0, h1, hcov⟩) fun _ => DD.okUpTo_mono (h.dds_ok d0 hd0) hge

theorem updateDD_endOff_same {s : St} (tag ref : Nat) {off len : Int} (h0 : 0 ≤ off) (h1 : 0 ≤ len)
    (h2 : off + len ≤ maxEnd) (hle : off + len ≤ s.endOff) : (updateDD s tag ref off len).endOff = s.endOff := by
  simp only [updateDD, endRule_valid h0 h1 h2]
  split <;> omega


theorem newBlock_wf {c : Cfg} (hA : c.fixA = true) {s s' : St} (h : WF32 s) (hn : newBlock c s = some s') :
    WF32 s' ∧ s'.endOff = s.endOff + blockSize s.ndds ∧ s'.dds = s.dds ∧ s'.free = s.free + s.ndds ∧ s'.ndds = s.ndds
      ∧ s'.blocks = s.blocks ++ [s.endOff] := by
  unfold newBlock at hn
  split at hn
  · cases hn
  · rename_i off s1 hg
    obtain ⟨rfl, hn0, hfit, rfl⟩ := getdiskblock_some hA h hg
    cases hn
    have hend : s.endOff ≤ s.endOff + blockSize s.ndds := by omega
    have hw : wrap32 (s.endOff + blockSize s.ndds) = s.endOff + blockSize s.ndds := by
      have := h.end_lo; rw [maxEnd_eq] at hfit
      apply wrap32_id <;> omega
    rw [hw]
    refine ⟨⟨Int.le_trans h.end_lo hend, hfit, h.ndds_ok, fun d hd => DD.okUpTo_mono (h.dds_ok d hd) hend, fun b hb => ?_⟩,
      rfl, rfl, rfl, rfl, rfl⟩
    rcases List.mem_append.mp hb with hb | hb
    · exact ⟨(h.blocks_ok b hb).1, Int.le_trans (h.blocks_ok b hb).2 hend⟩
    · rw [List.mem_singleton.mp hb]; exact ⟨h.end_lo, Int.le_refl _⟩

theorem htpCreate_wf {c : Cfg} (hA : c.fixA = true) {s s' : St} (h : WF32 s) (tag ref : Nat)
    (hc : htpCreate c s tag ref = some s') :
    WF32 s' ∧ (s'.endOff = s.endOff ∨ (s.free = 0 ∧ s'.endOff = s.endOff + blockSize s.ndds))
      ∧ s'.dds = s.dds ++ [{ tag, ref, off := INVALID_OFFSET, len := INVALID_LENGTH }] := by
  unfold htpCreate at hc
  split at hc
  · rename_i hfree
    cases hnb : newBlock c s with
    | none => rw [hnb] at hc; cases hc
    | some s1 =>
      obtain ⟨hw, he, hd, _⟩ := newBlock_wf hA h hnb
      rw [hnb] at hc
      cases hc
      exact ⟨hw.snocInvalid _ tag ref, Or.inr ⟨hfree, he⟩, by dsimp only; rw [hd]⟩
  · cases hc
    exact ⟨h.snocInvalid _ tag ref, Or.inl rfl, rfl⟩

theorem setlength_wf {c : Cfg} (hA : c.fixA = true) {s : St} (h : WF32 s) (tag ref : Nat) (len : Int) :
    WF32 (setlength c s tag ref len).1 := by
  unfold setlength
  split
  · exact h
  · rename_i off s2 hg
    obtain ⟨rfl, hn0, hfit, rfl⟩ := getdiskblock_some hA h hg
    exact updateDD_wf (h.raiseEnd (by omega) hfit) tag ref h.end_lo hn0 hfit

theorem reserve_wf {c : Cfg} (hA : c.fixA = true) {s : St} (h : WF32 s) (tag ref : Nat) (len : Int) :
    WF32 (reserve c s tag ref len).1 := by
  unfold reserve
  split
  · split
    · exact h
    · rename_i s1 hc
      exact setlength_wf hA (htpCreate_wf hA h tag ref hc).1 tag ref len
  · split
    · exact setlength_wf hA h tag ref len
    · exact h


theorem findDD_mem {s : St} {tag ref : Nat} {d : DD} (h : findDD s tag ref = some d) :
    d ∈ s.dds ∧ d.tag = tag ∧ d.ref = ref := by
  unfold findDD at h
  have h2 := List.find?_some h
  simp only [Bool.and_eq_true, beq_iff_eq] at h2
  exact ⟨List.mem_of_find?_eq_some h, h2.1, h2.2⟩

/-- `Hwrite` in exact integers: the range check refuses what would end beyond `maxEnd`, no sum is reduced, the seek
    cannot fail -/
def hwriteZ (s : St) (d : DD) (appendable : Bool) (posn n : Int) : St × WRes :=
  if 0 < n ∧ d.off + posn + n > maxEnd then (s, .fail)
  else if n ≤ 0 || (!appendable && decide (n + posn > d.len)) then (s, .fail)
  else
    let grow := appendable && decide (n + posn > d.len)
    if grow && decide (d.len + d.off ≠ s.endOff) then (s, .convert)
    else
      let s1 := if grow then updateDD s d.tag d.ref d.off (posn + n) else s
      let cur := posn + d.off + n
      ({ s1 with endOff := if cur > s1.endOff then cur else s1.endOff }, .wrote n)

theorem hwrite_eq {c : Cfg} (hB : c.fixB = true) {s : St} (h : WF32 s) {d : DD} (hd : d ∈ s.dds) (hv : d.invalid = false)
    (app : Bool) {posn n : Int} (hp0 : 0 ≤ posn) (hp1 : posn ≤ 2147483647) :
    hwrite c s d app posn n = hwriteZ s d app posn n := by
  rcases h.dds_ok d hd with hh | ⟨ho, hl, hol⟩
  · rw [(DD.invalid_iff d).2 hh] at hv; cases hv
  have he := h.end_hi
  rw [maxEnd_eq] at he
  unfold hwrite hwriteZ
  rw [hB, Bool.true_and, i32max_eq, maxEnd_eq, decide_eq_true (by omega : d.off ≥ 0), Bool.and_true,
    wrap32_id (x := 2147483647 - 1 - d.off) (by omega) (by omega), wrap32_id (x := 2147483647 - 1 - d.off - posn) (by omega) (by omega)]
  by_cases hn : 0 < n
  · by_cases hbig : d.off + posn + n > 2147483646
    · rw [if_pos (⟨hn, hbig⟩ : 0 < n ∧ d.off + posn + n > 2147483646), decide_eq_true (by omega : n > 0),
        decide_eq_true (by omega : n > 2147483647 - 1 - d.off - posn), Bool.and_self, if_pos rfl]
    · rw [if_neg (fun h => hbig h.2 : ¬ (0 < n ∧ d.off + posn + n > 2147483646)),
        decide_eq_false (by omega : ¬ n > 2147483647 - 1 - d.off - posn), Bool.and_false, if_neg Bool.false_ne_true,
        wrap32_id (x := n + posn) (by omega) (by omega), wrap32_id (x := posn + n) (by omega) (by omega),
        wrap32_id (x := d.len + d.off) (by omega) (by omega), wrap32_id (x := posn + d.off) (by omega) (by omega)]
      dsimp only
      rw [wrap32_id (x := posn + d.off + n) (by omega) (by omega), if_neg (by omega : ¬ posn + d.off < 0)]
  · rw [if_neg (fun h => hn h.1 : ¬ (0 < n ∧ d.off + posn + n > 2147483646)), decide_eq_false (by omega : ¬ n > 0), Bool.false_and,
      if_neg Bool.false_ne_true, decide_eq_true (by omega : n ≤ 0), Bool.true_or, Bool.true_or, if_pos rfl, if_pos rfl]

theorem hwriteZ_fail {s : St} {d : DD} {app : Bool} {posn n : Int} (hf : (hwriteZ s d app posn n).2 = .fail) :
    (hwriteZ s d app posn n).1 = s := by
  revert hf
  unfold hwriteZ
  refine iteInduction (motive := fun r : St × WRes => r.2 = .fail → r.1 = s) (fun _ _ => rfl) fun _ => ?_
  refine iteInduction (motive := fun r : St × WRes => r.2 = .fail → r.1 = s) (fun _ _ => rfl) fun _ => ?_
  refine iteInduction (motive := fun r : St × WRes => r.2 = .fail → r.1 = s) (fun _ _ => rfl) fun _ => ?_
  exact fun h => nomatch h

theorem hwriteZ_wf {s : St} (h : WF32 s) {d : DD} (hd : d ∈ s.dds) (hv : d.invalid = false) (app : Bool) {posn n : Int}
    (hp0 : 0 ≤ posn) : WF32 (hwriteZ s d app posn n).1 := by
  rcases h.dds_ok d hd with hh | ⟨ho, hl, hol⟩
  · rw [(DD.invalid_iff d).2 hh] at hv; cases hv
  unfold hwriteZ
  refine iteInduction (motive := fun r : St × WRes => WF32 r.1) (fun _ => h) fun hfit => ?_
  refine iteInduction (motive := fun r : St × WRes => WF32 r.1) (fun _ => h) fun hbad => ?_
  refine iteInduction (motive := fun r : St × WRes => WF32 r.1) (fun _ => h) fun _ => ?_
  simp only [Bool.or_eq_true, decide_eq_true_eq, not_or] at hbad
  have hfit : d.off + (posn + n) ≤ maxEnd := by omega
  have hs1 : WF32 (if (app && decide (n + posn > d.len)) = true then updateDD s d.tag d.ref d.off (posn + n) else s) :=
    iteInduction (motive := WF32) (fun _ => updateDD_wf h d.tag d.ref ho (by omega) hfit) fun _ => h
  revert hs1
  generalize (if (app && decide (n + posn > d.len)) = true then updateDD s d.tag d.ref d.off (posn + n) else s) = s1
  intro hs1
  exact hs1.raiseEnd (iteInduction (motive := (s1.endOff ≤ ·)) (fun h => by omega) fun _ => Int.le_refl _)
    (iteInduction (motive := (· ≤ maxEnd)) (fun _ => by omega) fun _ => hs1.end_hi)

theorem hwrite_rejected {c : Cfg} (hB : c.fixB = true) {s : St} (h : WF32 s) {d : DD} (hd : d ∈ s.dds)
    (hv : d.invalid = false) (app : Bool) {posn n : Int} (hp0 : 0 ≤ posn) (hp1 : posn ≤ 2147483647)
    (hn0 : 0 < n) (hbig : d.off + posn + n > maxEnd) : hwrite c s d app posn n = (s, .fail) := by
  rw [hwrite_eq hB h hd hv app hp0 hp1]
  exact if_pos ⟨hn0, hbig⟩

theorem hseek_some {s : St} {d : DD} {app : Bool} {pos p : Int} (h : hseek s d app pos = some (some p)) :
    p = pos ∧ 0 ≤ pos := by
  revert h
  unfold hseek
  refine iteInduction (motive := fun r => r = some (some p) → p = pos ∧ 0 ≤ pos)
    (fun h0 h => by cases h; exact ⟨h0.symm, Int.le_of_eq h0.symm⟩) fun _ => ?_
  refine iteInduction (motive := fun r => r = some (some p) → p = pos ∧ 0 ≤ pos) (fun _ h => nomatch h) fun hneg => ?_
  refine iteInduction (motive := fun r => r = some (some p) → p = pos ∧ 0 ≤ pos) (fun _ h => nomatch h) fun _ h => ?_
  cases h
  simp only [Bool.or_eq_true, decide_eq_true_eq, not_or] at hneg
  exact ⟨rfl, Int.not_lt.mp hneg.1⟩

/-- `append` is `access true` and `write` is `access false`, by unfolding: they differ in the `appendable` flag only -/
def access (app : Bool) (c : Cfg) (s : St) (tag ref : Nat) (pos n : Int) : St × WRes :=
  match findDD s tag ref with
  | none => (s, .convert)
  | some d =>
    if d.invalid then (s, .convert) else
    match hseek s d app pos with
    | none => (s, .convert)
    | some none => (s, .fail)
    | some (some p) => hwrite c s d app p n

theorem access_cases (app : Bool) (c : Cfg) (s : St) (tag ref : Nat) (pos n : Int) :
    access app c s tag ref pos n = (s, .convert) ∨ access app c s tag ref pos n = (s, .fail) ∨
    ∃ d ∈ s.dds, d.invalid = false ∧ 0 ≤ pos ∧ access app c s tag ref pos n = hwrite c s d app pos n := by
  unfold access
  split
  · exact .inl rfl
  · rename_i d hf
    split
    · exact .inl rfl
    · rename_i hv
      split
      · exact .inl rfl
      · exact .inr (.inl rfl)
      · rename_i p hs
        obtain ⟨rfl, hp0⟩ := hseek_some hs
        exact .inr (.inr ⟨d, (findDD_mem hf).1, Bool.eq_false_iff.mpr hv, hp0, rfl⟩)

theorem access_wf {c : Cfg} (hB : c.fixB = true) {s : St} (h : WF32 s) (app : Bool) (tag ref : Nat) {pos : Int} (n : Int)
    (hp : pos ≤ 2147483647) : WF32 (access app c s tag ref pos n).1 := by
  rcases access_cases app c s tag ref pos n with e | e | ⟨d, hd, hv, hp0, e⟩ <;> rw [e]
  · exact h
  · exact h
  · rw [hwrite_eq hB h hd hv app hp0 hp]
    exact hwriteZ_wf h hd hv app hp0


theorem llWrite_eq (l : LL) (h : 0 ≤ l.posn ∧ l.posn ≤ 2147483647) (n : Int) :
    llWrite true l n = if 0 < n ∧ l.posn + n ≤ 2147483647 then
      some { len := if n + l.posn > l.len then n + l.posn else l.len, posn := l.posn + n } else none := by
  unfold llWrite
  rw [Bool.true_and, i32max_eq, wrap32_id (x := 2147483647 - l.posn) (by omega) (by omega)]
  by_cases hfit : 0 < n ∧ l.posn + n ≤ 2147483647
  · rw [if_pos hfit, if_neg (by omega), if_neg (by simp only [decide_eq_true_eq]; omega),
      wrap32_id (x := n + l.posn) (by omega) (by omega), wrap32_id (x := l.posn + n) (by omega) (by omega)]
  · rw [if_neg hfit]
    by_cases hn : n ≤ 0
    · rw [if_pos hn]
    · rw [if_neg hn, if_pos (by simp only [decide_eq_true_eq]; omega)]


/-- running maximum as `HTPstart` computes it -/
def fmax {α : Type} (f : α → Int) (l : List α) (e : Int) : Int := l.foldl (fun e x => if f x > e then f x else e) e

theorem fmax_ge_init {α : Type} (f : α → Int) (l : List α) (e : Int) : e ≤ fmax f l e := by
  induction l generalizing e with
  | nil => simp [fmax]
  | cons x xs ih =>
    simp only [fmax, List.foldl_cons] at ih ⊢
    split
    · exact Int.le_trans (by omega) (ih _)
    · exact ih _

theorem fmax_ge_mem {α : Type} (f : α → Int) (l : List α) (e : Int) {x : α} (hx : x ∈ l) : f x ≤ fmax f l e := by
  induction l generalizing e with
  | nil => cases hx
  | cons y ys ih =>
    simp only [fmax, List.foldl_cons]
    rcases List.mem_cons.mp hx with rfl | hx
    · split
      · exact fmax_ge_init f ys _
      · exact Int.le_trans (by omega) (fmax_ge_init f ys _)
    · exact ih _ hx

theorem fmax_le {α : Type} (f : α → Int) (l : List α) (e B : Int) (he : e ≤ B) (hl : ∀ x ∈ l, f x ≤ B) : fmax f l e ≤ B := by
  induction l generalizing e with
  | nil => simpa [fmax]
  | cons y ys ih =>
    simp only [fmax, List.foldl_cons]
    have hy := hl y (List.mem_cons_self ..)
    have hys : ∀ x ∈ ys, f x ≤ B := fun x hx => hl x (List.mem_cons_of_mem _ hx)
    split
    · exact ih _ hy hys
    · exact ih _ he hys

theorem reopenEnd_eq (s : St) :
    reopenEnd s = fmax (fun d : DD => wrap32 (d.off + d.len)) s.dds (fmax (fun b : Int => wrap32 (b + blockSize s.ndds)) s.blocks 0) := rfl

theorem WF32.block_end {s : St} (h : WF32 s) {b : Int} (hb : b ∈ s.blocks) :
    wrap32 (b + blockSize s.ndds) = b + blockSize s.ndds := by
  have := h.blocks_ok b hb; have := blockSize_nonneg s.ndds; have := h.end_hi
  rw [maxEnd_eq] at *
  apply wrap32_id <;> omega

theorem WF32.dd_end {s : St} (h : WF32 s) {d : DD} (hd : d ∈ s.dds) :
    wrap32 (d.off + d.len) = d.off + d.len ∧ d.off + d.len ≤ s.endOff := by
  have := h.end_lo; have := h.end_hi
  rw [maxEnd_eq] at *
  rcases h.dds_ok d hd with ⟨a, b⟩ | ⟨a, b, c⟩
  · rw [a, b]; exact ⟨rfl, by omega⟩
  · exact ⟨by apply wrap32_id <;> omega, c⟩

/-- the recomputed end of file does not exceed the end of file.  That it IS the end of file (nothing allocated is
    forgotten) is NOT claimed: a refused `Hsetlength` leaves no hole, but `≤` is all the invariant gives -/
theorem reopenEnd_le_end {s : St} (h : WF32 s) : reopenEnd s ≤ s.endOff := by
  rw [reopenEnd_eq]
  refine fmax_le _ _ _ _ (fmax_le _ _ _ _ h.end_lo fun b hb => ?_) fun d hd => ?_
  · rw [h.block_end hb]; exact (h.blocks_ok b hb).2
  · rw [(h.dd_end hd).1]; exact (h.dd_end hd).2

theorem reopen_wf {c : Cfg} {s : St} (h : WF32 s) : WF32 (reopen c s).1 := by
  unfold reopen
  split
  · refine ⟨?_, Int.le_trans (reopenEnd_le_end h) h.end_hi, h.ndds_ok, fun d hd => ?_, fun b hb => ⟨(h.blocks_ok b hb).1, ?_⟩⟩ <;>
      dsimp only <;> rw [reopenEnd_eq]
    · exact Int.le_trans (fmax_ge_init _ _ _) (fmax_ge_init _ _ _)
    · rcases h.dds_ok d hd with hi | ⟨a, b, _⟩
      · exact Or.inl hi
      · refine Or.inr ⟨a, b, ?_⟩
        have := fmax_ge_mem (fun d : DD => wrap32 (d.off + d.len)) s.dds
          (fmax (fun b : Int => wrap32 (b + blockSize s.ndds)) s.blocks 0) hd
        rwa [(h.dd_end hd).1] at this
    · have := fmax_ge_mem (fun b : Int => wrap32 (b + blockSize s.ndds)) s.blocks 0 hb
      rw [h.block_end hb] at this
      exact Int.le_trans this (fmax_ge_init _ _ _)
  · exact h

theorem reopenEnd_le {c : Cfg} {s : St} (h : WF32 s) : (reopen c s).1.endOff ≤ s.endOff := by
  unfold reopen
  split
  · exact reopenEnd_le_end h
  · exact Int.le_refl _

end H4.Limits

namespace H4.Props.C20Fn
open H4.Limits

/-- the bound of the range test of c61e7e0 as the C20 model forms it -/
theorem wrap_room (posn o : Nat) (hposn : (posn : Int) ≤ 2147483647) (ho : (o : Int) ≤ 2147483647) :
    wrap32 (wrap32 ((I32MAX - 1) - (o : Int)) - posn) = 2147483646 - o - posn := by
  rw [wrap32_id (x := (I32MAX - 1) - (o : Int)) (by simp [I32MAX, H4.Gen.Limits.INT32_MAX]; omega) (by simp [I32MAX, H4.Gen.Limits.INT32_MAX]; omega)]
  rw [wrap32_id (by simp [I32MAX, H4.Gen.Limits.INT32_MAX]; omega) (by simp [I32MAX, H4.Gen.Limits.INT32_MAX]; omega)]
  simp [I32MAX, H4.Gen.Limits.INT32_MAX]

theorem wrap_facts (k posn o l : Nat) (hext : (o : Int) + l ≤ 2147483647) (hs1 : (posn : Int) + o + k ≤ 2147483646) :
    wrap32 ((l : Int) + o) = (l : Int) + o ∧ wrap32 ((posn : Int) + k) = (posn : Int) + k ∧
    wrap32 ((posn : Int) + o) = (posn : Int) + o ∧ wrap32 ((posn : Int) + o + k) = (posn : Int) + o + k ∧
    wrap32 ((k : Int) + posn) = (k : Int) + posn :=
  ⟨wrap32_id (by omega) (by omega), wrap32_id (by omega) (by omega), wrap32_id (by omega) (by omega), wrap32_id (by omega) (by omega),
   wrap32_id (by omega) (by omega)⟩

end H4.Props.C20Fn
