import H4.Lemmas.Slab
import H4.Lemmas.C2L
/-! What `NCvcmaxcontig`'s answer is for `NCvario` (C03), on the model alone: `inRange` index by index; `full` on suffixes; `cut`, the index at
    which `runs` stops enumerating, is the first index behind which every dimension is taken whole; the scan `maxContigScan` finds it for an
    in-range request on a fixed-size variable (`scan_eq_cut`), and `runs` is `runsAt` of it (`runs_eq_runsAt_cut`). -/
namespace H4.Slab
open H4.C2L

theorem inRange_length (sh s e : List Nat) (hr : inRange sh s e) : s.length = sh.length ∧ e.length = sh.length := by
  induction sh, s, e using inRange.induct with
  | case1 _ _ _ _ _ _ ih => have := ih hr.2; simp; omega
  | case2 => simp
  | case3 => simp [inRange] at hr

theorem inRange_getD (sh s e : List Nat) (hr : inRange sh s e) (j : Nat) (hj : j < sh.length) : s.getD j 0 + e.getD j 0 ≤ sh.getD j 0 := by
  induction sh, s, e using inRange.induct generalizing j with
  | case1 _ _ _ _ _ _ ih =>
    cases j with
    | zero => simpa using hr.1
    | succ j => simpa using ih hr.2 j (by simpa using hj)
  | case2 => simp at hj
  | case3 => simp [inRange] at hr

theorem full_drop_step (sh s e : List Nat) (hr : inRange sh s e) (j : Nat) (hj : j < sh.length) :
    full (sh.drop j) (s.drop j) (e.drop j) =
      (s.getD j 0 == 0 && e.getD j 0 == sh.getD j 0 && full (sh.drop (j + 1)) (s.drop (j + 1)) (e.drop (j + 1))) := by
  obtain ⟨h2, h3⟩ := inRange_length sh s e hr
  rw [drop_cons_getD sh j hj, drop_cons_getD s j (by omega), drop_cons_getD e j (by omega)]
  simp only [full, List.getD_eq_getElem?_getD]

theorem full_drop : ∀ (sh s e : List Nat) (k : Nat), full sh s e = true → full (sh.drop k) (s.drop k) (e.drop k) = true
  | _, _, _, 0, h => by simpa using h
  | [], _, _, _ + 1, _ => by simp [full]
  | _ :: _, [], _, _ + 1, _ => by simp [full]
  | _ :: _, _ :: _, [], _ + 1, _ => by simp [full]
  | _ :: xs, _ :: ys, _ :: zs, k + 1, h => by
    simp only [full, Bool.and_eq_true] at h
    simpa using full_drop xs ys zs k h.2

theorem full_drop_getD (sh s e : List Nat) (hr : inRange sh s e) (m : Nat) (hf : full (sh.drop m) (s.drop m) (e.drop m) = true) (i : Nat)
    (hmi : m ≤ i) (hi : i < sh.length) : s.getD i 0 = 0 ∧ e.getD i 0 = sh.getD i 0 := by
  obtain ⟨d, rfl⟩ := Nat.exists_eq_add_of_le hmi
  induction d generalizing m with
  | zero =>
    rw [full_drop_step sh s e hr m hi] at hf
    simp only [Bool.and_eq_true, beq_iff_eq] at hf
    exact ⟨hf.1.1, hf.1.2⟩
  | succ d ih =>
    rw [full_drop_step sh s e hr m (by omega)] at hf
    simp only [Bool.and_eq_true, beq_iff_eq] at hf
    have := ih (m + 1) hf.2 (by omega) (by omega)
    rwa [show m + 1 + d = m + (d + 1) by omega] at this

theorem cut_zero (sh s e : List Nat) (h : full sh s e = true) : cut sh s e = 0 := by
  unfold cut
  split
  · simp_all [full]
  · rfl

theorem cut_eq (sh s e : List Nat) (hr : inRange sh s e) (j : Nat) (hj : j < sh.length)
    (hf : full (sh.drop (j + 1)) (s.drop (j + 1)) (e.drop (j + 1)) = true) (hn : full (sh.drop j) (s.drop j) (e.drop j) = false) :
    cut sh s e = j := by
  induction sh, s, e using inRange.induct generalizing j with
  | case1 x xs y ys z zs ih =>
    cases j with
    | zero => simp only [List.drop_succ_cons, List.drop_zero] at hf; simp [cut, hf]
    | succ j =>
      simp only [List.drop_succ_cons] at hf hn
      have hnf : full xs ys zs = false := by
        cases hx : full xs ys zs with
        | false => rfl
        | true => rw [full_drop xs ys zs j hx] at hn; exact absurd hn (by simp)
      simp [cut, hnf, ih hr.2 j (by simpa using hj) hf hn]
  | case2 => simp at hj
  | case3 => simp [inRange] at hr

theorem cut_lt (sh s e : List Nat) (hr : inRange sh s e) (hne : sh ≠ []) : cut sh s e < sh.length := by
  induction sh, s, e using inRange.induct with
  | case1 x xs y ys z zs ih =>
    simp only [cut]
    split
    · simp
    · rename_i hnf
      have := ih hr.2 (by intro hx; subst hx; simp [full] at hnf)
      simp; omega
  | case2 => exact absurd rfl hne
  | case3 => simp [inRange] at hr

theorem cut_full (sh s e : List Nat) (hr : inRange sh s e) :
    full (sh.drop (cut sh s e + 1)) (s.drop (cut sh s e + 1)) (e.drop (cut sh s e + 1)) = true ∧
    (0 < cut sh s e → full (sh.drop (cut sh s e)) (s.drop (cut sh s e)) (e.drop (cut sh s e)) = false) := by
  induction sh, s, e using inRange.induct with
  | case1 x xs y ys z zs ih =>
    simp only [cut]
    split
    · rename_i hf; simp [hf]
    · rename_i hnf
      obtain ⟨i1, i2⟩ := ih hr.2
      refine ⟨by simpa using i1, fun _ => ?_⟩
      simp only [List.drop_succ_cons]
      by_cases hc : 0 < cut xs ys zs
      · exact i2 hc
      · have : cut xs ys zs = 0 := by omega
        rw [this]; simpa using hnf
  | case2 => simp [cut, full]
  | case3 => simp [inRange] at hr

theorem scan_eq_cut (sh s e : List Nat) (hr : inRange sh s e) :
    ∀ m, m ≤ sh.length → full (sh.drop m) (s.drop m) (e.drop m) = true →
      maxContigScan sh s e 0 m = some (cut sh s e) := by
  intro m
  induction m with
  | zero => intro _ hf; simp only [List.drop_zero] at hf; simp [maxContigScan, cut_zero sh s e hf]
  | succ j ih =>
    intro hm hf
    have hin := inRange_getD sh s e hr j (by omega)
    have hstep := full_drop_step sh s e hr j (by omega)
    simp only [maxContigScan, Nat.not_lt_zero, if_false]
    rw [if_neg (by omega)]
    by_cases c : e.getD j 0 < sh.getD j 0
    · rw [if_pos c]
      have hne : (e.getD j 0 == sh.getD j 0) = false := by simp only [beq_eq_false_iff_ne, ne_eq]; omega
      rw [hne] at hstep
      simp only [Bool.and_false, Bool.false_and] at hstep
      rw [cut_eq sh s e hr j (by omega) hf hstep]
    · rw [if_neg c]
      have h1 : (e.getD j 0 == sh.getD j 0) = true := by simp only [beq_iff_eq]; omega
      have h0 : (s.getD j 0 == 0) = true := by simp only [beq_iff_eq]; omega
      rw [h1, h0, hf] at hstep
      exact ih (by omega) hstep

theorem full_prod (sh s e : List Nat) (hr : inRange sh s e) (hf : full sh s e = true) : prod e = prod sh ∧ offset sh s = 0 := by
  induction sh, s, e using inRange.induct with
  | case1 _ _ _ _ _ _ ih =>
    simp only [full, Bool.and_eq_true, beq_iff_eq] at hf
    obtain ⟨i1, i2⟩ := ih hr.2 hf.2
    simp [prod, offset, hf.1.1, hf.1.2, i1, i2]
  | case2 => simp [offset]
  | case3 => simp [inRange] at hr

theorem runs_eq_runsAt_cut (sh s e : List Nat) (hr : inRange sh s e) (base : Nat) : runs sh s e base = runsAt (cut sh s e) sh s e base := by
  induction sh, s, e using inRange.induct generalizing base with
  | case1 x xs y ys z zs ih =>
    simp only [runs, cut]
    split
    · rename_i hf
      obtain ⟨i1, i2⟩ := full_prod xs ys zs hr.2 hf
      simp [runsAt, offset, i1, i2]
    · simp only [runsAt]
      congr 1; funext i
      exact ih hr.2 _
  | case2 => simp [runs, cut, runsAt]
  | case3 => simp [inRange] at hr

theorem maxContig_eq (recsize len : Nat) (shape origin edges : List Nat) (hne : shape ≠ []) :
    maxContig recsize len shape origin edges =
      if shape.getD 0 0 = 0 ∧ shape.length = 1 ∧ recsize ≤ len then some 0
      else maxContigScan shape origin edges (if shape.getD 0 0 = 0 then 1 else 0) shape.length := by
  cases shape with
  | nil => exact absurd rfl hne
  | cons x xs => by_cases hx : x = 0 <;> simp [maxContig, hx]

theorem scan_none (shape origin edges : List Nat) (b j : Nat) (hbj : b ≤ j)
    (hsuf : ∀ i, j < i → i < shape.length → origin.getD i 0 + edges.getD i 0 ≤ shape.getD i 0 ∧ shape.getD i 0 ≤ edges.getD i 0)
    (hbad : shape.getD j 0 - origin.getD j 0 < edges.getD j 0) :
    ∀ m, j < m → m ≤ shape.length → maxContigScan shape origin edges b m = none := by
  intro m
  induction m with
  | zero => intro h; omega
  | succ i ih =>
    intro h1 h2
    simp only [maxContigScan]
    rw [if_neg (by omega)]
    by_cases hij : i = j
    · subst hij; rw [if_pos hbad]
    · obtain ⟨a1, a2⟩ := hsuf i (by omega) (by omega)
      rw [if_neg (by omega), if_neg (by omega)]
      exact ih (by omega) (by omega)

theorem scan_ge (shape origin edges : List Nat) (b : Nat) : ∀ m k, maxContigScan shape origin edges b m = some k → b ≤ k := by
  intro m
  induction m with
  | zero => intro k h; simp only [maxContigScan, Option.some.injEq] at h; omega
  | succ i ih =>
    intro k h
    simp only [maxContigScan] at h
    split at h
    · simp only [Option.some.injEq] at h; omega
    · split at h
      · exact absurd h (by simp)
      · split at h
        · simp only [Option.some.injEq] at h; omega
        · exact ih k h

end H4.Slab
