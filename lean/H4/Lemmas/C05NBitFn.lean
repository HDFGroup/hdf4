import H4.Gen.Fn.Cnbit
import H4.Lemmas.NBit
import H4.Lemmas.C2L
import H4.Lemmas.C2LLoop
import H4.Lemmas.C05Rle
/-! Lemmas for `H4.Props.C05NBitFn`: `HCIcnbit_init` and `HCIcnbit_encode` of `hdf/src/cnbit.c`, as TRANSLATED from the C text (`H4.Gen.Fn.Cnbit`,
    regenerated on every run), compute the hand-written model `H4.NBit` (`maskInfos` / `maskBuf`, `encode`); what the record and the model share
    (`InRange`, `TabRel`).  The decoder is in `C05NBitFnDec`.  Core only. -/
namespace H4.Lemmas.C05NBitFn
open H4.NBit H4.Gen.Cnbit H4.Gen.Fn.Cnbit
open H4.Lemmas.C05Rle (bytes bytes_length bytes_getD)
open H4.C2L (IsLoop)

theorem set_take_drop {α} (l : List α) (q n : Nat) (x : α) (mid : List α) (h : q < l.length) :
    (l.set q x).take (q + 1) ++ mid ++ (l.set q x).drop (q + 1 + n) = l.take q ++ x :: mid ++ l.drop (q + (n + 1)) := by
  rw [H4.C2L.take_set_succ _ _ _ h, List.drop_set_of_lt (by omega), Nat.add_assoc, Nat.add_comm 1 n]
  simp only [List.append_assoc, List.cons_append, List.nil_append]

theorem splice_take_drop {α} (l M X : List α) (r k : Nat) (hr : r ≤ l.length) :
    (l.take r ++ M ++ l.drop (r + M.length)).take (r + M.length) ++ X ++ (l.take r ++ M ++ l.drop (r + M.length)).drop (r + M.length + k) =
      l.take r ++ (M ++ X) ++ l.drop (r + M.length + k) := by
  have hl : (l.take r ++ M).length = r + M.length := by rw [List.length_append, List.length_take, Nat.min_eq_left hr]
  rw [List.take_append_of_le_length (by omega), List.take_of_length_le (by omega), ← List.drop_drop, List.drop_left' hl, List.drop_drop]
  simp only [List.append_assoc]

theorem consts : NBIT_BUF_SIZE = 1024 ∧ NBIT_MASK_SIZE = 16 := ⟨rfl, rfl⟩


/-- the parameter range the C code is written for: `1 ≤ mask_len ≤ mask_off + 1 ≤ 8·nt_size` (`nt_size` itself is bounded by the arrays:
    `NBIT_MASK_SIZE`) -/
def InRange (c : Cfg) : Prop := c.ntSize ≤ NBIT_MASK_SIZE ∧ c.maskOff < 8 * c.ntSize ∧ 1 ≤ c.maskLen ∧ c.maskLen ≤ c.maskOff + 1
instance (c : Cfg) : Decidable (InRange c) := by unfold InRange; infer_instance

theorem InRange.field {c : Cfg} (h : InRange c) : c.Field := h.2

theorem inRange_of_valid {c : Cfg} (h : c.Valid) : InRange c := by
  refine ⟨?_, h.field⟩
  have := consts.2
  rcases h.1 with h | h | h | h <;> omega

def mi (c : Cfg) (j : Nat) : MaskInfo := (maskInfos c).getD j {}

theorem mi_shape (c : Cfg) (hc : c.Field) (j : Nat) : Shape (mi c j) := shape_getD c hc j

/-- the C arrays `mask_info[].offset/.length/.mask` hold the model's table in their first `nt_size` cells -/
def TabRel (c : Cfg) (offs lens masks : List Int) : Prop :=
  offs.length = NBIT_MASK_SIZE ∧ lens.length = NBIT_MASK_SIZE ∧ masks.length = NBIT_MASK_SIZE ∧ c.ntSize ≤ NBIT_MASK_SIZE ∧
  ∀ j, j < c.ntSize → offs.getD j 0 = ((mi c j).offset : Int) ∧ lens.getD j 0 = ((mi c j).length : Int) ∧ masks.getD j 0 = ((mi c j).mask : Int)



/-- the `Hbitwrite(aid, count, data)` calls as the translated code records them: two cells per call -/
def pairs (fs : List (Nat × Nat)) : List Int := fs.flatMap fun f => [(f.1 : Int), (f.2 : Int)]

@[simp] theorem pairs_nil : pairs [] = [] := rfl
theorem pairs_append (a b : List (Nat × Nat)) : pairs (a ++ b) = pairs a ++ pairs b := by simp [pairs]

theorem and_shift_lt (x m k : Nat) (hx : x < 256) : ((x &&& m) >>> k : Nat) < 4294967296 := by
  have h1 : x &&& m ≤ x := Nat.and_le_left
  have h2 : (x &&& m) >>> k ≤ x &&& m := by rw [Nat.shiftRight_eq_div_pow]; exact Nat.div_le_self _ _
  omega

theorem enc_body (c : Cfg) (x : UInt8) (pos : Nat) (fuel : Nat) (s : HCIcnbit_encode.St)
    (htab : TabRel c s.nbit_mask_info_offset s.nbit_mask_info_length s.nbit_mask_info_mask) (hgood : Shape (mi c pos))
    (hn : s.nbit_nt_size = (c.ntSize : Int)) (hpos : pos < c.ntSize) (hp : s.nbit_nt_pos = (pos : Int)) (hm : s.mask_info = (pos : Int))
    (hi : 0 ≤ s.buf_i ∧ s.buf_i < s.buf.length) (hb : s.buf.getD s.buf_i.toNat 0 = (x.toNat : Int)) (hub : s.ub = false) :
    let s' := HCIcnbit_encode.loop0.body fuel s
    let pos' := if pos + 1 ≥ c.ntSize then 0 else pos + 1
    s'.ub = false ∧ s'.oof = s.oof ∧ s'.buf = s.buf ∧ s'.buf_i = s.buf_i + 1 ∧ s'.length = s.length - 1 ∧
      s'.io_out = s.io_out ++ pairs (encByte (mi c pos) x) ∧ s'.nbit_nt_pos = (pos' : Int) ∧ s'.mask_info = (pos' : Int) ∧
      s'.nbit_nt_size = s.nbit_nt_size ∧ s'.nbit_offset = s.nbit_offset ∧ s'.orig_length = s.orig_length ∧ s'.ret = s.ret ∧
      s'.nbit_mask_info_offset = s.nbit_mask_info_offset ∧ s'.nbit_mask_info_length = s.nbit_mask_info_length ∧
      s'.nbit_mask_info_mask = s.nbit_mask_info_mask := by
  obtain ⟨ho, hl, hk, hle, hget⟩ := htab
  obtain ⟨g1, g2, g3⟩ := hget pos hpos
  have q1 := hgood.le; have q2 := hgood.off; have q3 := hgood.mask_lt
  have c16 := consts.2
  have hx := UInt8.toNat_lt x
  have hsh : (((mi c pos).offset : Int) - ((mi c pos).length : Int) + 1).toNat = (mi c pos).shift := by unfold MaskInfo.shift; omega
  have hand : (x.toNat &&& (mi c pos).mask) >>> (mi c pos).shift < 4294967296 := and_shift_lt _ _ _ hx
  have hdiv : ((x.toNat &&& (mi c pos).mask : Nat) : Int) / 2 ^ (mi c pos).shift = (((x.toNat &&& (mi c pos).mask) >>> (mi c pos).shift : Nat) : Int) := by
    rw [Nat.shiftRight_eq_div_pow]; norm_cast
  have hdiv2 : ((x.toNat &&& (mi c pos).mask : Nat) : Int) >>> (mi c pos).shift = (((x.toNat &&& (mi c pos).mask) >>> (mi c pos).shift : Nat) : Int) := by
    rw [Int.shiftRight_eq_div_pow, Nat.shiftRight_eq_div_pow]; norm_cast
  have hw' : (pos : Int) + 1 ≥ (c.ntSize : Int) ↔ pos + 1 ≥ c.ntSize := by omega
  by_cases hlen : (mi c pos).length > 0
  · (by_cases hw : pos + 1 ≥ c.ntSize <;>
      simp [-List.getD_eq_getElem?_getD, HCIcnbit_encode.loop0.body, HCIcnbit_encode.chk, hn, hp, hm, hub, hi.1, hi.2, hb, g1, g2, g3, ho, hl, hk, c16,
        hlen, hw, hw', encByte, pairs, hsh]) <;>
    · refine ⟨by omega, ?_⟩
      rw [hdiv, hdiv2]
      generalize (x.toNat &&& (mi c pos).mask) >>> (mi c pos).shift = v at hand ⊢
      omega
  · by_cases hw : pos + 1 ≥ c.ntSize <;>
      simp [-List.getD_eq_getElem?_getD, HCIcnbit_encode.loop0.body, HCIcnbit_encode.chk, hn, hp, hm, hub, g2, hl, c16,
        hlen, hw, hw', encByte, pairs] <;> omega


/-- what the loop of `HCIcnbit_encode` has done to the state `s` when it has consumed the bytes `xs` from position `pos` of a value -/
structure EncPost (c : Cfg) (xs : List UInt8) (pos : Nat) (s s' : HCIcnbit_encode.St) : Prop where
  ub : s'.ub = false
  oof : s'.oof = false
  io_out : s'.io_out = s.io_out ++ pairs (encode c pos xs).1
  nt_pos : s'.nbit_nt_pos = ((encode c pos xs).2 : Int)
  offset : s'.nbit_offset = s.nbit_offset
  orig_length : s'.orig_length = s.orig_length
  ret : s'.ret = s.ret
  nt_size : s'.nbit_nt_size = s.nbit_nt_size
  offs : s'.nbit_mask_info_offset = s.nbit_mask_info_offset
  lens : s'.nbit_mask_info_length = s.nbit_mask_info_length
  masks : s'.nbit_mask_info_mask = s.nbit_mask_info_mask

/-- what the loop of `HCIcnbit_encode` needs of the state with the bytes `xs` still to come behind `pre`, at position `pos` of a value -/
structure EncPre (c : Cfg) (xs pre : List UInt8) (pos : Nat) (s : HCIcnbit_encode.St) : Prop where
  tab : TabRel c s.nbit_mask_info_offset s.nbit_mask_info_length s.nbit_mask_info_mask
  nt_size : s.nbit_nt_size = (c.ntSize : Int) := by rfl
  pos_lt : pos < c.ntSize
  nt_pos : s.nbit_nt_pos = (pos : Int) := by rfl
  mask_info : s.mask_info = (pos : Int) := by rfl
  buf : s.buf = bytes (pre ++ xs) := by rfl
  buf_i : s.buf_i = (pre.length : Int) := by rfl
  length : s.length = (xs.length : Int) := by rfl
  ub : s.ub = false := by rfl
  oof : s.oof = false := by rfl

theorem enc_loop (c : Cfg) (hgood : ∀ j, Shape (mi c j)) : ∀ (fuel : Nat) (i : List UInt8 × List UInt8 × Nat) (s : HCIcnbit_encode.St),
    i.1.length ≤ fuel → EncPre c i.1 i.2.1 i.2.2 s → EncPost c i.1 i.2.2 s (HCIcnbit_encode.loop0 fuel s) := by
  refine IsLoop.spec (L := HCIcnbit_encode.loop0) (.of_eqs (fun _ => rfl) (fun _ _ => rfl)) (fun (i : List UInt8 × List UInt8 × Nat) => i.1.length)
    (fun i => EncPre c i.1 i.2.1 i.2.2) (fun i => EncPost c i.1 i.2.2) ?_
  rintro ⟨xs, pre, pos⟩ s ⟨htab, hn, hpos, hp, hm, hbuf, hi, hl, hub, hoof⟩
  dsimp only at hbuf hi hl ⊢
  cases xs with
  | nil =>
    refine Or.inl ⟨by rw [hl]; simp, ?_⟩
    exact ⟨hub, hoof, by simp only [encode, pairs_nil, List.append_nil], hp, rfl, rfl, rfl, rfl, rfl, rfl, rfl⟩
  | cons x xs =>
    refine Or.inr ⟨by rw [hl]; simp only [List.length_cons]; omega, fun f _ => ?_⟩
    have hidx : 0 ≤ s.buf_i ∧ s.buf_i < s.buf.length := by
      rw [hi, hbuf, bytes_length]; simp only [List.length_append, List.length_cons]; omega
    have hb : s.buf.getD s.buf_i.toNat 0 = (x.toNat : Int) := by
      rw [hi, hbuf, Int.toNat_natCast, bytes_getD _ _ (by simp)]; simp
    obtain ⟨b1, b2, b3, b4, b5, b6, b7, b8, b9, b10, b11, b12, b13, b14, b15⟩ := enc_body c x pos f s htab (hgood pos) hn hpos hp hm hidx hb hub
    generalize HCIcnbit_encode.loop0.body f s = s1 at *
    refine ⟨(xs, pre ++ [x], if pos + 1 ≥ c.ntSize then 0 else pos + 1), Nat.lt_succ_self _, ?_, ?_⟩ <;> dsimp only
    · exact ⟨by rw [b13, b14, b15]; exact htab, by rw [b9, hn], by split <;> omega, b7, b8, by rw [b3, hbuf]; simp, by rw [b4, hi]; simp,
        by rw [b5, hl]; simp, b1, by rw [b2, hoof]⟩
    rintro r ⟨r1, r2, r3, r4, r5, r6, r7, r8, r9, r10, r11⟩
    refine ⟨r1, r2, ?_, ?_, by rw [r5, b10], by rw [r6, b11], by rw [r7, b12], by rw [r8, b9], by rw [r9, b13], by rw [r10, b14], by rw [r11, b15]⟩
    · rw [r3, b6, List.append_assoc, ← pairs_append]; simp only [encode, mi]
    · rw [r4]; simp only [encode]


/-- the state of `HCIcnbit_init` when its first loop is entered (`Hbitseek` succeeded) -/
def initStart (fill n moff mlen : Int) (mbuf offs lens masks : List Int) (seek : Int) : HCIcnbit_init.St :=
  { nbit_buf_pos := 16 * 64, nbit_buf_len := 0, nbit_nt_pos := 0, nbit_offset := 0,
    nbit_mask_buf := List.replicate (n % 18446744073709551616).toNat ((if fill = 1 then 255 else 0) % 256) ++ mbuf.drop (n % 18446744073709551616).toNat,
    nbit_fill_one := fill, nbit_nt_size := n, nbit_mask_off := moff, nbit_mask_len := mlen,
    nbit_mask_info_offset := List.replicate offs.length 0, nbit_mask_info_length := List.replicate lens.length 0,
    nbit_mask_info_mask := List.replicate masks.length 0, bitseek_ret := seek,
    bits := n * 8, mask_top := moff, mask_bot := moff - (mlen - 1), top_bit := n * 8 - 1, bot_bit := n * 8 - 8, i := 0,
    ub := !decide (0 ≤ n % 18446744073709551616) || !decide (n % 18446744073709551616 ≤ mbuf.length) }

/-! what `HCIcnbit_init` does after its first loop, in three pieces -/
def tailA (s : HCIcnbit_init.St) : HCIcnbit_init.St := { s with brk := false }
def tailB (fuel : Nat) (s : HCIcnbit_init.St) : HCIcnbit_init.St :=
  if s.done ∨ s.brk ∨ s.cnt then s else
    if s.nbit_fill_one = 1 then { HCIcnbit_init.loop1 fuel { s with i := 0 } with brk := false } else s
def tailC (s : HCIcnbit_init.St) : HCIcnbit_init.St := if s.done ∨ s.brk ∨ s.cnt then s else { s with ret := 0, done := true }
def initTail (fuel : Nat) (s : HCIcnbit_init.St) : HCIcnbit_init.St := tailC (tailB fuel (tailA s))

theorem init_unfold (fuel : Nat) (bp bl np off : Int) (mbuf : List Int) (fill n moff mlen : Int) (offs lens masks : List Int) (seek : Int)
    (hseek : seek ≠ -1) :
    HCIcnbit_init fuel bp bl np off mbuf fill n moff mlen offs lens masks seek =
      initTail fuel (HCIcnbit_init.loop0 fuel (initStart fill n moff mlen mbuf offs lens masks seek)) := by
  unfold HCIcnbit_init initTail tailC tailB tailA initStart
  simp [hseek, HCIcnbit_init.chk]

theorem set_eq_of_getD {l : List Int} {i : Nat} {x : Int} (h : l.getD i 0 = x) (hi : i < l.length) : l.set i x = l := by
  rw [List.getD_eq_getElem?_getD, List.getElem?_eq_getElem hi] at h
  rw [← h]; exact List.set_getElem_self hi

theorem init_body (a b k i0 fuel : Nat) (s : HCIcnbit_init.St) (hab : b ≤ a) (hbk : b ≤ 8 * k + 8) (hi0 : i0 < 16)
    (hi : s.i = (i0 : Int)) (htop : s.top_bit = 8 * (k : Int) + 7) (hbot : s.bot_bit = 8 * (k : Int))
    (hmt : s.mask_top = (a : Int)) (hmb : s.mask_bot = (b : Int))
    (hlo : s.nbit_mask_info_offset.length = 16) (hll : s.nbit_mask_info_length.length = 16) (hlm : s.nbit_mask_info_mask.length = 16)
    (hzo : s.nbit_mask_info_offset.getD i0 0 = 0) (hzl : s.nbit_mask_info_length.getD i0 0 = 0) (hzm : s.nbit_mask_info_mask.getD i0 0 = 0)
    (hub : s.ub = false) (hdone : s.done = false) (hbrk : s.brk = false) (hcnt : s.cnt = false) :
    let s' := HCIcnbit_init.loop0.body fuel s
    let m := (maskStep a b (8 * k + 7) (8 * k)).1
    let br := (maskStep a b (8 * k + 7) (8 * k)).2
    s' = { s with nbit_mask_info_offset := s.nbit_mask_info_offset.set i0 (m.offset : Int),
                  nbit_mask_info_length := s.nbit_mask_info_length.set i0 (m.length : Int),
                  nbit_mask_info_mask := s.nbit_mask_info_mask.set i0 (m.mask : Int),
                  brk := br, i := if br then s.i else s.i + 1, top_bit := if br then s.top_bit else s.top_bit - 8,
                  bot_bit := if br then s.bot_bit else s.bot_bit - 8 } := by
  obtain ⟨bits, top_bit, bot_bit, mask_top, mask_bot, i, seek, buf_pos, buf_len, nt_pos, offset, fill, nt_size, moff, mlen, mbuf, offs, lens, masks,
    ub, oof, ret, done, brk, cnt⟩ := s
  simp only at hi htop hbot hmt hmb hlo hll hlm hzo hzl hzm hub hdone hbrk hcnt
  subst hi htop hbot hmt hmb hub hdone hbrk hcnt
  have h9 : mask_arr8.length = 9 := rfl
  have hi0' : (i0 : Int) < 16 := by omega
  unfold maskStep
  by_cases h1 : a ≥ 8 * k + 7
  · have h1' : 8 * (k : Int) + 7 ≤ (a : Int) := by omega
    by_cases h2 : b ≤ 8 * k
    · have h2' : (b : Int) ≤ 8 * (k : Int) := by omega
      simp [-List.getD_eq_getElem?_getD, HCIcnbit_init.loop0.body, HCIcnbit_init.chk, h1, h1', h2, h2', hlo, hll, hlm, hi0', h9, arr8]
    · have h2' : ¬ ((b : Int) ≤ 8 * (k : Int)) := by omega
      have e : (8 * (k : Int) + 7 - (b : Int) + 1) = ((8 * k + 7 + 1 - b : Nat) : Int) := by omega
      have e8 : (8 : Int) - ((8 * k + 7 + 1 - b : Nat) : Int) = ((8 - (8 * k + 7 + 1 - b) : Nat) : Int) := by omega
      simp [-List.getD_eq_getElem?_getD, HCIcnbit_init.loop0.body, HCIcnbit_init.chk, h1, h1', h2, h2', hlo, hll, hlm, hi0', h9, arr8, e, e8, Int.shiftLeft_eq]
      omega
  · have h1' : ¬ (8 * (k : Int) + 7 ≤ (a : Int)) := by omega
    by_cases h3 : a ≥ 8 * k
    · have h3' : 8 * (k : Int) ≤ (a : Int) := by omega
      have ea : (a : Int) - 8 * (k : Int) = ((a - 8 * k : Nat) : Int) := by omega
      by_cases h4 : b < 8 * k
      · have h4' : (b : Int) < 8 * (k : Int) := by omega
        simp [-List.getD_eq_getElem?_getD, HCIcnbit_init.loop0.body, HCIcnbit_init.chk, h1, h1', h3, h3', h4, h4', hlo, hll, hlm, hi0', h9, arr8, ea]
        omega
      · have h4' : ¬ ((b : Int) < 8 * (k : Int)) := by omega
        have eb : (a : Int) - (b : Int) + 1 = ((a - b + 1 : Nat) : Int) := by omega
        have ec : (b : Int) - 8 * (k : Int) = ((b - 8 * k : Nat) : Int) := by omega
        simp [-List.getD_eq_getElem?_getD, HCIcnbit_init.loop0.body, HCIcnbit_init.chk, h1, h1', h3, h3', h4, h4', hlo, hll, hlm, hi0', h9, arr8, ea, eb, ec,
          Int.shiftLeft_eq]
        omega
    · have h3' : ¬ (8 * (k : Int) ≤ (a : Int)) := by omega
      simp [-List.getD_eq_getElem?_getD, HCIcnbit_init.loop0.body, h1, h1', h3, h3', 
        set_eq_of_getD hzo (by omega), set_eq_of_getD hzl (by omega), set_eq_of_getD hzm (by omega)]

/-- fields the loops of `HCIcnbit_init` do not touch -/
structure Keep (s s' : HCIcnbit_init.St) : Prop where
  ub : s'.ub = s.ub := by rfl
  oof : s'.oof = s.oof := by rfl
  done : s'.done = s.done := by rfl
  cnt : s'.cnt = s.cnt := by rfl
  ret : s'.ret = s.ret := by rfl
  nbit_buf_pos : s'.nbit_buf_pos = s.nbit_buf_pos := by rfl
  nbit_buf_len : s'.nbit_buf_len = s.nbit_buf_len := by rfl
  nbit_nt_pos : s'.nbit_nt_pos = s.nbit_nt_pos := by rfl
  nbit_offset : s'.nbit_offset = s.nbit_offset := by rfl
  nbit_fill_one : s'.nbit_fill_one = s.nbit_fill_one := by rfl
  nbit_nt_size : s'.nbit_nt_size = s.nbit_nt_size := by rfl
  mask_top : s'.mask_top = s.mask_top := by rfl
  mask_bot : s'.mask_bot = s.mask_bot := by rfl

theorem Keep.refl (s : HCIcnbit_init.St) : Keep s s := {}
theorem Keep.trans {a b c : HCIcnbit_init.St} (h1 : Keep a b) (h2 : Keep b c) : Keep a c :=
  ⟨h2.ub.trans h1.ub, h2.oof.trans h1.oof, h2.done.trans h1.done, h2.cnt.trans h1.cnt, h2.ret.trans h1.ret,
    h2.nbit_buf_pos.trans h1.nbit_buf_pos, h2.nbit_buf_len.trans h1.nbit_buf_len, h2.nbit_nt_pos.trans h1.nbit_nt_pos, h2.nbit_offset.trans h1.nbit_offset, h2.nbit_fill_one.trans h1.nbit_fill_one,
    h2.nbit_nt_size.trans h1.nbit_nt_size, h2.mask_top.trans h1.mask_top, h2.mask_bot.trans h1.mask_bot⟩

theorem zeros_split {l : List Int} (i k : Nat) (hz : ∀ j, i ≤ j → l.getD j 0 = 0) (hl : i + k ≤ l.length) :
    l = l.take i ++ List.replicate k 0 ++ l.drop (i + k) := by
  apply List.ext_getElem?
  intro j
  by_cases h1 : j < i
  · rw [List.append_assoc, List.getElem?_append_left (by simp; omega), List.getElem?_take]; simp [h1]
  · by_cases h2 : j < i + k
    · rw [List.append_assoc, List.getElem?_append_right (by simp; omega), List.getElem?_append_left (by simp; omega)]
      have := hz j (by omega)
      have hj : j < l.length := by omega
      simp [hj] at this
      simp [List.getElem?_replicate, hj, this]; omega
    · rw [List.getElem?_append_right (by simp; omega), List.getElem?_drop]
      simp only [List.length_append, List.length_take, List.length_replicate]
      congr 1; omega

/-- what the first loop of `HCIcnbit_init` needs of the state with `k` bytes left from cell `i0` on; `dn` = the `break` has happened
    (then the loop variables no longer matter) -/
structure InitPre (a b k i0 : Nat) (dn : Bool) (s : HCIcnbit_init.St) : Prop where
  brk : s.brk = dn
  ik : i0 + k ≤ 16
  run : dn = false → b ≤ 8 * k ∧ s.i = (i0 : Int) ∧ s.nbit_nt_size = ((i0 + k : Nat) : Int) ∧ s.top_bit = 8 * (k : Int) - 1 ∧
    s.bot_bit = 8 * (k : Int) - 8
  mt : s.mask_top = (a : Int)
  mb : s.mask_bot = (b : Int)
  lo : s.nbit_mask_info_offset.length = 16
  ll : s.nbit_mask_info_length.length = 16
  lm : s.nbit_mask_info_mask.length = 16
  zo : ∀ j, i0 ≤ j → s.nbit_mask_info_offset.getD j 0 = 0
  zl : ∀ j, i0 ≤ j → s.nbit_mask_info_length.getD j 0 = 0
  zm : ∀ j, i0 ≤ j → s.nbit_mask_info_mask.getD j 0 = 0
  ub : s.ub = false
  done : s.done = false
  cnt : s.cnt = false

theorem tab_done {l : List Int} {i0 k : Nat} (f : MaskInfo → Int) (hf : f {} = 0) (hz : ∀ j, i0 ≤ j → l.getD j 0 = 0) (hl : i0 + k ≤ l.length) :
    l = l.take i0 ++ (List.replicate k ({} : MaskInfo)).map f ++ l.drop (i0 + k) := by
  rw [List.map_replicate, hf]; exact zeros_split i0 k hz hl

theorem init_loop0 (a b : Nat) (hab : b ≤ a) (k i0 fuel : Nat) (dn : Bool) (s : HCIcnbit_init.St) (hf : k ≤ fuel) (h : InitPre a b k i0 dn s) :
    let s' := HCIcnbit_init.loop0 fuel s
    let ml := maskLoop a b k (8 * k - 1) (8 * k - 8) dn
    Keep s s' ∧ s'.nbit_mask_buf = s.nbit_mask_buf ∧
      s'.nbit_mask_info_offset = s.nbit_mask_info_offset.take i0 ++ ml.map (fun m => (m.offset : Int)) ++ s.nbit_mask_info_offset.drop (i0 + k) ∧
      s'.nbit_mask_info_length = s.nbit_mask_info_length.take i0 ++ ml.map (fun m => (m.length : Int)) ++ s.nbit_mask_info_length.drop (i0 + k) ∧
      s'.nbit_mask_info_mask = s.nbit_mask_info_mask.take i0 ++ ml.map (fun m => (m.mask : Int)) ++ s.nbit_mask_info_mask.drop (i0 + k) := by
  refine IsLoop.spec (L := HCIcnbit_init.loop0) (.of_eqs (fun _ => rfl) (fun _ _ => rfl)) (fun (i : Nat × Nat × Bool) => i.1)
    (fun ⟨k, i0, dn⟩ s => InitPre a b k i0 dn s)
    (fun ⟨k, i0, dn⟩ s s' =>
      let ml := maskLoop a b k (8 * k - 1) (8 * k - 8) dn
      Keep s s' ∧ s'.nbit_mask_buf = s.nbit_mask_buf ∧
        s'.nbit_mask_info_offset = s.nbit_mask_info_offset.take i0 ++ ml.map (fun m => (m.offset : Int)) ++ s.nbit_mask_info_offset.drop (i0 + k) ∧
        s'.nbit_mask_info_length = s.nbit_mask_info_length.take i0 ++ ml.map (fun m => (m.length : Int)) ++ s.nbit_mask_info_length.drop (i0 + k) ∧
        s'.nbit_mask_info_mask = s.nbit_mask_info_mask.take i0 ++ ml.map (fun m => (m.mask : Int)) ++ s.nbit_mask_info_mask.drop (i0 + k))
    ?_ fuel (k, i0, dn) s hf h
  clear hf h
  rintro ⟨k, i0, dn⟩ s h
  dsimp only
  have hik := h.ik
  cases dn with
  | true =>
    refine Or.inl ⟨by rw [h.brk]; simp, Keep.refl s, rfl, ?_⟩
    rw [maskLoop_done]
    exact ⟨tab_done _ rfl h.zo (by rw [h.lo]; exact hik), tab_done _ rfl h.zl (by rw [h.ll]; exact hik), tab_done _ rfl h.zm (by rw [h.lm]; exact hik)⟩
  | false =>
    obtain ⟨hbk, hi, hn, htop, hbot⟩ := h.run rfl
    cases k with
    | zero =>
      refine Or.inl ⟨by rw [hi, hn]; simp, Keep.refl s, rfl, ?_⟩
      simp [maskLoop]
    | succ k =>
      refine Or.inr ⟨by rw [hi, hn, h.done, h.brk]; simp; omega, fun f _ => ?_⟩
      have hbody := init_body a b k i0 f s hab (by omega) (by omega) hi (by rw [htop]; push_cast; omega) (by rw [hbot]; push_cast; omega)
        h.mt h.mb h.lo h.ll h.lm (h.zo i0 (Nat.le_refl _)) (h.zl i0 (Nat.le_refl _)) (h.zm i0 (Nat.le_refl _)) h.ub h.done h.brk h.cnt
      simp only at hbody
      have e1 : 8 * (k + 1) - 1 = 8 * k + 7 := by omega
      have e2 : 8 * (k + 1) - 8 = 8 * k := by omega
      have e3 : 8 * k + 7 - 8 = 8 * k - 1 := by omega
      simp only [maskLoop, e1, e2, e3, Bool.false_eq_true, if_false]
      generalize hm : maskStep a b (8 * k + 7) (8 * k) = mbr at hbody
      obtain ⟨m, br⟩ := mbr
      simp only at hbody ⊢
      refine ⟨(k, i0 + 1, br), Nat.lt_succ_self k, ?_, ?_⟩ <;> dsimp only
      · rw [hbody]
        refine ⟨rfl, by omega, ?_, h.mt, h.mb, by simp only [List.length_set]; exact h.lo, by simp only [List.length_set]; exact h.ll,
          by simp only [List.length_set]; exact h.lm, fun j hj => by rw [H4.C2L.getD_set_ne _ _ _ _ _ (by omega)]; exact h.zo j (by omega),
          fun j hj => by rw [H4.C2L.getD_set_ne _ _ _ _ _ (by omega)]; exact h.zl j (by omega),
          fun j hj => by rw [H4.C2L.getD_set_ne _ _ _ _ _ (by omega)]; exact h.zm j (by omega), h.ub, h.done, h.cnt⟩
        intro hbr
        subst hbr
        simp only [Bool.false_eq_true, if_false, hi, hn, htop, hbot]
        exact ⟨maskStep_nobreak a b k hab (by rw [hm]), rfl, by omega, by omega, by omega⟩
      · rintro r ⟨q1, q2, q3, q4, q5⟩
        have hk1 : Keep s (HCIcnbit_init.loop0.body f s) := by rw [hbody]; exact {}
        refine ⟨hk1.trans q1, by rw [q2, hbody], ?_, ?_, ?_⟩
        · rw [q3, hbody]; exact set_take_drop _ _ _ _ _ (by rw [h.lo]; omega)
        · rw [q4, hbody]; exact set_take_drop _ _ _ _ _ (by rw [h.ll]; omega)
        · rw [q5, hbody]; exact set_take_drop _ _ _ _ _ (by rw [h.lm]; omega)

/-- `mask_buf[i] &= ~mask` on `int` operands (two's complement), stored back into a `uint8`, for `mask_buf[i] = 0xff` -/
theorem andnot_byte : ∀ m : Nat, m < 256 →
    (if (Int.ofNat (Int.toNat (((255 : Int)) % 4294967296) &&& Int.toNat (((-((m : Int)) - 1)) % 4294967296))) ≥ 2147483648
      then (Int.ofNat (Int.toNat (((255 : Int)) % 4294967296) &&& Int.toNat (((-((m : Int)) - 1)) % 4294967296))) - 4294967296
      else (Int.ofNat (Int.toNat (((255 : Int)) % 4294967296) &&& Int.toNat (((-((m : Int)) - 1)) % 4294967296)))) % 256 =
    ((255 &&& (255 ^^^ (m % 256)) : Nat) : Int) := by decide +kernel

theorem init_body1 (m i0 fuel : Nat) (s : HCIcnbit_init.St) (hm : m < 256) (hi0 : i0 < 16) (hi : s.i = (i0 : Int))
    (hlm : s.nbit_mask_info_mask.length = 16) (hlb : s.nbit_mask_buf.length = 16)
    (hmask : s.nbit_mask_info_mask.getD i0 0 = (m : Int)) (hbuf : s.nbit_mask_buf.getD i0 0 = 255) (hub : s.ub = false) :
    HCIcnbit_init.loop1.body fuel s =
      { s with nbit_mask_buf := s.nbit_mask_buf.set i0 ((255 &&& (255 ^^^ (m % 256)) : Nat) : Int), cnt := false, i := s.i + 1 } := by
  have hi0' : (i0 : Int) < 16 := by omega
  have := andnot_byte m hm
  simp only [HCIcnbit_init.loop1.body, HCIcnbit_init.chk, hi, hub,
    Int.toNat_natCast, hmask, hbuf, this, hlm, hlb]
  simp [hi0']

theorem init_loop1 (ms : List Nat) (i0 fuel : Nat) (s : HCIcnbit_init.St) (hf : ms.length ≤ fuel) (hik : i0 + ms.length ≤ 16)
    (hms : ∀ m ∈ ms, m < 256) (hi : s.i = (i0 : Int)) (hn : s.nbit_nt_size = ((i0 + ms.length : Nat) : Int))
    (hlm : s.nbit_mask_info_mask.length = 16) (hlb : s.nbit_mask_buf.length = 16)
    (hmask : ∀ j, j < ms.length → s.nbit_mask_info_mask.getD (i0 + j) 0 = ((ms.getD j 0 : Nat) : Int))
    (hbuf : ∀ j, j < ms.length → s.nbit_mask_buf.getD (i0 + j) 0 = 255) (hub : s.ub = false) (hdone : s.done = false) (hbrk : s.brk = false)
    (hcnt : s.cnt = false) :
    HCIcnbit_init.loop1 fuel s =
      { s with nbit_mask_buf := s.nbit_mask_buf.take i0 ++ ms.map (fun m => ((255 &&& (255 ^^^ (m % 256)) : Nat) : Int)) ++
                 s.nbit_mask_buf.drop (i0 + ms.length), i := ((i0 + ms.length : Nat) : Int) } := by
  refine IsLoop.spec (L := HCIcnbit_init.loop1) (.of_eqs (fun _ => rfl) (fun _ _ => rfl)) (fun (i : List Nat × Nat) => i.1.length)
    (fun ⟨ms, i0⟩ s => i0 + ms.length ≤ 16 ∧ (∀ m ∈ ms, m < 256) ∧ s.i = (i0 : Int) ∧ s.nbit_nt_size = ((i0 + ms.length : Nat) : Int) ∧
      s.nbit_mask_info_mask.length = 16 ∧ s.nbit_mask_buf.length = 16 ∧
      (∀ j, j < ms.length → s.nbit_mask_info_mask.getD (i0 + j) 0 = ((ms.getD j 0 : Nat) : Int)) ∧
      (∀ j, j < ms.length → s.nbit_mask_buf.getD (i0 + j) 0 = 255) ∧ s.ub = false ∧ s.done = false ∧ s.brk = false ∧ s.cnt = false)
    (fun ⟨ms, i0⟩ s r => r =
      { s with nbit_mask_buf := s.nbit_mask_buf.take i0 ++ ms.map (fun m => ((255 &&& (255 ^^^ (m % 256)) : Nat) : Int)) ++
                 s.nbit_mask_buf.drop (i0 + ms.length), i := ((i0 + ms.length : Nat) : Int) })
    ?_ fuel (ms, i0) s hf ⟨hik, hms, hi, hn, hlm, hlb, hmask, hbuf, hub, hdone, hbrk, hcnt⟩
  clear hf hik hms hi hn hlm hlb hmask hbuf hub hdone hbrk hcnt
  rintro ⟨ms, i0⟩ s ⟨hik, hms, hi, hn, hlm, hlb, hmask, hbuf, hub, hdone, hbrk, hcnt⟩
  dsimp only at hik hms hi hn hmask hbuf ⊢
  cases ms with
  | nil =>
    refine Or.inl ⟨by rw [hi, hn]; simp, ?_⟩
    have e1 : s.nbit_mask_buf.take i0 ++ List.map (fun m => ((255 &&& (255 ^^^ (m % 256)) : Nat) : Int)) [] ++ s.nbit_mask_buf.drop (i0 + ([] : List Nat).length) =
        s.nbit_mask_buf := by simp
    have e2 : ((i0 + ([] : List Nat).length : Nat) : Int) = s.i := by rw [hi]; rfl
    rw [e1, e2]
  | cons m ms =>
    simp only [List.length_cons] at hik hn hmask hbuf
    refine Or.inr ⟨by rw [hi, hn, hdone, hbrk]; simp; omega, fun f _ => ⟨(ms, i0 + 1), Nat.lt_succ_self _, ?_, ?_⟩⟩ <;> dsimp only
    · rw [init_body1 m i0 f s (hms m (by simp)) (by omega) hi hlm hlb (by simpa using hmask 0 (by omega)) (by simpa using hbuf 0 (by omega)) hub]
      refine ⟨by omega, fun y hy => hms y (by simp [hy]), by simp only [hi]; rfl, by simp only [hn]; omega, hlm, by simp only [List.length_set]; exact hlb,
        fun j hj => by simpa [Nat.add_assoc, Nat.add_comm 1 j] using hmask (j + 1) (by omega), fun j hj => ?_, hub, hdone, hbrk, rfl⟩
      show List.getD (List.set _ _ _) _ 0 = 255
      rw [H4.C2L.getD_set_ne _ _ _ _ _ (by omega)]
      simpa [Nat.add_assoc, Nat.add_comm 1 j] using hbuf (j + 1) (by omega)
    · intro r hr
      rw [hr, init_body1 m i0 f s (hms m (by simp)) (by omega) hi hlm hlb (by simpa using hmask 0 (by omega)) (by simpa using hbuf 0 (by omega)) hub]
      simp only [hcnt, List.map_cons, List.length_cons, HCIcnbit_init.St.mk.injEq, true_and, and_true]
      exact ⟨by omega, set_take_drop _ _ _ _ _ (by omega)⟩

/-- C truth value of a model flag -/
def b2i (b : Bool) : Int := if b then 1 else 0


theorem length_maskInfos' (c : Cfg) : (maskInfos c).length = c.ntSize := length_maskInfos c

theorem getD_replicate_zero (n j : Nat) : (List.replicate n (0 : Int)).getD j 0 = 0 := by
  rw [List.getD_eq_getElem?_getD, List.getElem?_replicate]; split <;> rfl

theorem initStart_spec (c : Cfg) (hr : InRange c) (mbuf offs lens masks : List Int) (hmb : mbuf.length = 16) (ho : offs.length = 16)
    (hl : lens.length = 16) (hm : masks.length = 16) (seek : Int) :
    let s0 := initStart (b2i c.fillOne) c.ntSize c.maskOff c.maskLen mbuf offs lens masks seek
    InitPre c.maskOff (c.maskOff + 1 - c.maskLen) c.ntSize 0 false s0 ∧ s0.nbit_buf_pos = 1024 ∧ s0.nbit_buf_len = 0 ∧ s0.nbit_nt_pos = 0 ∧
      s0.nbit_offset = 0 ∧ s0.oof = false ∧ s0.nbit_fill_one = b2i c.fillOne ∧
      s0.nbit_mask_buf = List.replicate c.ntSize (if c.fillOne then 255 else 0) ++ mbuf.drop c.ntSize ∧
      s0.nbit_mask_info_offset = List.replicate 16 0 ∧ s0.nbit_mask_info_length = List.replicate 16 0 ∧
      s0.nbit_mask_info_mask = List.replicate 16 0 := by
  obtain ⟨r1, r2, r3, r4⟩ := hr
  have c16 := consts.2
  have hmod : (c.ntSize : Int) % 18446744073709551616 = (c.ntSize : Int) := by omega
  refine ⟨⟨rfl, by omega, fun _ => ⟨by omega, rfl, by rw [Nat.zero_add]; rfl, by simp only [initStart]; omega, by simp only [initStart]; omega⟩,
    rfl, by simp only [initStart]; omega, by simp only [initStart, List.length_replicate, ho], by simp only [initStart, List.length_replicate, hl],
    by simp only [initStart, List.length_replicate, hm], fun j _ => getD_replicate_zero _ j, fun j _ => getD_replicate_zero _ j,
    fun j _ => getD_replicate_zero _ j, by simp [initStart, hmod, hmb]; omega, rfl, rfl⟩, rfl, rfl, rfl, rfl, rfl, rfl, ?_,
    by simp only [initStart, ho], by simp only [initStart, hl], by simp only [initStart, hm]⟩
  simp only [initStart, hmod, Int.toNat_natCast, b2i]; cases c.fillOne <;> simp

theorem init_main (c : Cfg) (hr : InRange c) (fuel : Nat) (hf : c.ntSize ≤ fuel) (bp bl np off : Int) (mbuf offs lens masks : List Int)
    (hmb : mbuf.length = 16) (ho : offs.length = 16) (hl : lens.length = 16) (hm : masks.length = 16) (seek : Int) (hseek : seek ≠ -1) :
    let s := HCIcnbit_init fuel bp bl np off mbuf (b2i c.fillOne) c.ntSize c.maskOff c.maskLen offs lens masks seek
    s.ub = false ∧ s.oof = false ∧ s.ret = 0 ∧ s.nbit_buf_pos = 1024 ∧ s.nbit_buf_len = 0 ∧ s.nbit_nt_pos = 0 ∧ s.nbit_offset = 0 ∧
      s.nbit_mask_info_offset = (maskInfos c).map (fun m => (m.offset : Int)) ++ List.replicate (16 - c.ntSize) 0 ∧
      s.nbit_mask_info_length = (maskInfos c).map (fun m => (m.length : Int)) ++ List.replicate (16 - c.ntSize) 0 ∧
      s.nbit_mask_info_mask = (maskInfos c).map (fun m => (m.mask : Int)) ++ List.replicate (16 - c.ntSize) 0 ∧
      s.nbit_mask_buf = (maskBuf c).map (fun (x : Nat) => (x : Int)) ++ mbuf.drop c.ntSize := by
  intro s
  have hs : s = initTail fuel (HCIcnbit_init.loop0 fuel (initStart (b2i c.fillOne) c.ntSize c.maskOff c.maskLen mbuf offs lens masks seek)) :=
    init_unfold fuel bp bl np off mbuf _ _ _ _ offs lens masks seek hseek
  obtain ⟨hpre, g_bp, g_bl, g_np, g_off, g_oof, g_fill, g_mbuf, g_o, g_l, g_m⟩ := initStart_spec c hr mbuf offs lens masks hmb ho hl hm seek
  obtain ⟨r1, r2, r3, r4⟩ := hr
  have c16 := consts.2
  rw [c16] at r1
  generalize initStart (b2i c.fillOne) c.ntSize c.maskOff c.maskLen mbuf offs lens masks seek = s0 at hs hpre g_bp g_bl g_np g_off g_oof g_fill g_mbuf g_o g_l g_m
  have key := init_loop0 c.maskOff (c.maskOff + 1 - c.maskLen) (by omega) c.ntSize 0 fuel false s0 hf hpre
  simp only at key
  have hml : maskLoop c.maskOff (c.maskOff + 1 - c.maskLen) c.ntSize (8 * c.ntSize - 1) (8 * c.ntSize - 8) false = maskInfos c := by
    unfold maskInfos; rw [Nat.mul_comm c.ntSize 8]
  rw [hml, g_o, g_l, g_m] at key
  simp only [List.take_zero, List.nil_append, List.drop_replicate, Nat.zero_add] at key
  generalize HCIcnbit_init.loop0 fuel s0 = s1 at key hs
  obtain ⟨⟨k1, k2, k3, k4, k5, k6, k7, k8, k9, k10, k11, k12, k13⟩, kb, ko, kl, km⟩ := key
  have f_n := (hpre.run rfl).2.2.1
  rw [hpre.ub] at k1; rw [g_oof] at k2; rw [hpre.done] at k3; rw [hpre.cnt] at k4; rw [g_bp] at k6; rw [g_bl] at k7; rw [g_np] at k8; rw [g_off] at k9
  rw [g_fill] at k10; rw [g_mbuf] at kb
  unfold initTail at hs
  have a_done : (tailA s1).done = false := k3
  have a_brk : (tailA s1).brk = false := rfl
  have a_cnt : (tailA s1).cnt = false := k4
  have hguard : ¬ ((tailA s1).done ∨ (tailA s1).brk ∨ (tailA s1).cnt) := by rw [a_done, a_brk, a_cnt]; simp
  cases hfill : c.fillOne with
  | false =>
    rw [hfill] at k10 kb
    have hne : ¬ ((tailA s1).nbit_fill_one = 1) := by show ¬ (s1.nbit_fill_one = 1); rw [k10]; decide
    have hB : tailB fuel (tailA s1) = tailA s1 := by unfold tailB; rw [if_neg hguard, if_neg hne]
    have hC : tailC (tailA s1) = { tailA s1 with ret := 0, done := true } := by unfold tailC; rw [if_neg hguard]
    rw [hB, hC] at hs
    rw [hs]
    refine ⟨k1, k2, rfl, k6, k7, k8, k9, ko, kl, km, ?_⟩
    show s1.nbit_mask_buf = _
    rw [kb]; unfold maskBuf
    simp only [hfill, Bool.false_eq_true, if_false, List.map_map]
    rw [← length_maskInfos c, ← List.map_const']; rfl
  | true =>
    rw [hfill] at k10 kb
    have he : (tailA s1).nbit_fill_one = 1 := by show s1.nbit_fill_one = 1; rw [k10]; rfl
    have hB : tailB fuel (tailA s1) = { HCIcnbit_init.loop1 fuel { tailA s1 with i := 0 } with brk := false } := by
      unfold tailB; rw [if_neg hguard, if_pos he]
    have hgood := maskInfos_shape c ⟨r2, r3, r4⟩
    have key1 := init_loop1 ((maskInfos c).map (·.mask)) 0 fuel { tailA s1 with i := 0 } (by simpa [length_maskInfos] using hf)
      (by simp [length_maskInfos]; omega) (by intro m hm; obtain ⟨x, hx, rfl⟩ := List.mem_map.mp hm; exact (hgood x hx).mask_lt) rfl
      (by show s1.nbit_nt_size = _; simp [length_maskInfos, k11, f_n]) (by show s1.nbit_mask_info_mask.length = 16; simp [km, length_maskInfos]; omega)
      (by show s1.nbit_mask_buf.length = 16; simp [kb, hmb]; omega)
      (by
        intro j hj
        simp only [List.length_map, length_maskInfos] at hj
        show s1.nbit_mask_info_mask.getD (0 + j) 0 = _
        simp only [km, Nat.zero_add]
        rw [List.getD_eq_getElem?_getD, List.getElem?_append_left (by simp [length_maskInfos]; exact hj)]
        simp [List.getD_eq_getElem?_getD, List.getElem?_map]
        cases (maskInfos c)[j]? <;> simp)
      (by
        intro j hj
        simp only [List.length_map, length_maskInfos] at hj
        show s1.nbit_mask_buf.getD (0 + j) 0 = _
        simp only [kb, Nat.zero_add]
        rw [List.getD_eq_getElem?_getD, List.getElem?_append_left (by simp; exact hj)]
        simp [hj])
      k1 k3 rfl k4
    rw [key1] at hB
    rw [hB] at hs
    simp only [tailC, tailA, k3, k4, Bool.false_eq_true, or_self, if_false] at hs
    rw [hs]
    refine ⟨k1, k2, rfl, k6, k7, k8, k9, ko, kl, km, ?_⟩
    show List.take 0 s1.nbit_mask_buf ++ _ ++ List.drop (0 + _) s1.nbit_mask_buf = _
    rw [kb]
    unfold maskBuf
    simp [hfill, length_maskInfos, List.map_map]

theorem tabRel_of_init (c : Cfg) (hn : c.ntSize ≤ 16) :
    TabRel c ((maskInfos c).map (fun m => (m.offset : Int)) ++ List.replicate (16 - c.ntSize) 0)
      ((maskInfos c).map (fun m => (m.length : Int)) ++ List.replicate (16 - c.ntSize) 0)
      ((maskInfos c).map (fun m => (m.mask : Int)) ++ List.replicate (16 - c.ntSize) 0) := by
  have c16 := consts.2
  refine ⟨by simp [length_maskInfos, c16]; omega, by simp [length_maskInfos, c16]; omega, by simp [length_maskInfos, c16]; omega, by omega, ?_⟩
  intro j hj
  have hlt : j < (maskInfos c).length := by rw [length_maskInfos]; exact hj
  have hmi : mi c j = (maskInfos c)[j] := by simp [mi, List.getD, hlt]
  refine ⟨?_, ?_, ?_⟩ <;>
  · rw [List.getD_eq_getElem?_getD, List.getElem?_append_left (by simp; exact hlt), hmi]
    simp [hlt]

end H4.Lemmas.C05NBitFn
