import H4.Lemmas.C01Fn
import H4.Lemmas.Limits
/-! What the models compute on an ordinary record, in the closed forms the function-level proofs walk: the seek of `H4.ElemFn` as one chain of
    tests (`hseekI_plain`), a plain write of `H4.Elem` as the record `plainOut` and the rows `plainCalls` (`plain_eval`), and the C20 allocation
    model `Limits.hwrite head` on the same three cases (`limits_hwrite_pos`).  Nothing here mentions the translated text. -/
namespace H4.Lemmas.C01Fn
open H4.Elem H4.Gen.Hdf

-- the test inside the promotion case is `H4.Props.C01Fn.convRefused a f`, with `d` for `f.dd a.slot`
theorem hseekI_plain (w : World) (h : Nat) (a : Acc) (hw : w.acc h = some a) (hs : a.special = false) (offset : Int) (origin : Nat)
    (ho : origin ≤ 2) (f : File) (hf : w.file a.file = f) (d : DD) (hd : f.dd a.slot = d) (off : Int) (hso : seekOff a d offset origin = off) :
    hseekI w h offset origin =
      if ¬ fits32 off then (w, .fail)
      else if off = a.posn then (w, .ok)
      else if off < 0 ∨ (a.appendable = false ∧ off > ddLen d) then (w, .fail)
      else if a.appendable = true ∧ off ≥ ddLen d ∧ ddLen d + ddOff d ≠ f.endOff then
        if f.writable = false ∨ (d.ext = none ∧ a.canWrite = false) then (w.setAcc h { a with appendable := false }, .fail)
        else ((w.setFile a.file (f.convert a.slot a.blockSize a.numBlocks).1).setAcc h
               { a with slot := (f.convert a.slot a.blockSize a.numBlocks).2, special := true, appendable := false,
                        newElem := false, posn := off.toNat }, .ok)
      else (w.setAcc h { a with posn := off.toNat }, .ok) := by
  have hon : ¬ ((origin : Int) < 0) := by omega
  have h3 : ¬ (origin ≠ DF_START ∧ origin ≠ DF_CURRENT ∧ origin ≠ DF_END) := by
    obtain ⟨c0, c1, c2, -, -, -⟩ := consts
    rw [c0, c1, c2]; omega
  have hso' : offset + (if origin = DF_CURRENT then (a.posn : Int) else 0) + (if origin = DF_END then ddLen d else 0) = off := hso
  unfold hseekI hseek
  simp only [hw, hs, hf, hd, Int.toNat_natCast, hso, hso', if_neg hon, if_neg h3, ho, true_and, Bool.false_eq_true, if_false]

/-- the `HP_write(file_rec, zeros, n)` rows (code 5 = `cWRITE`) of the zero-fill loop of `Hwrite` for a gap of `g` bytes: full 512-byte pieces,
    then the rest -/
def zrows (g : Nat) : List (List Int) :=
  List.replicate (g / 512) [5, 512] ++ (if g % 512 = 0 then [] else [[5, ((g % 512 : Nat) : Int)]])

theorem zrows_zero : zrows 0 = [] := by simp [zrows]

theorem zrows_small (g : Nat) (h0 : 0 < g) (h : g ≤ 512) : zrows g = [[5, (g : Int)]] := by
  unfold zrows
  by_cases e : g = 512
  · subst e; simp
  · have h1 : g / 512 = 0 := by omega
    have h2 : g % 512 = g := by omega
    simp [h1, h2]; omega

theorem zrows_big (g : Nat) (h : 512 < g) : zrows g = [5, 512] :: zrows (g - 512) := by
  unfold zrows
  have h1 : g / 512 = (g - 512) / 512 + 1 := by omega
  have h2 : g % 512 = (g - 512) % 512 := by omega
  rw [h1, h2, List.replicate_succ]; rfl

def accView (w : World) (h : Nat) : Option (Int × Int × Int) :=
  (w.acc h).map fun a => ((a.posn : Int), b2i a.appendable, b2i a.newElem)

/-- calls of the layer below that `Hwrite` makes on an element `(o, l)`: none when the write is refused; `HLconvert` (+ the write on the converted
    element) on the promotion path; else the zero fill of a gap, the new length, `HPseek(posn + o)`, `HP_write(n)` -/
def plainCalls (aid ddid conv : Int) (a : Acc) (app : Bool) (o l e n : Nat) : List (List Int) :=
  if n = 0 ∨ (app = false ∧ n + a.posn > l) then []
  else if app = true ∧ n + a.posn > l ∧ l + o ≠ e then
    [[cCONV, aid, a.blockSize, a.numBlocks]] ++ (if conv = -1 then [] else [[cREWRITE, aid, n]])
  else
    (if app = true ∧ n + a.posn > l ∧ a.posn > l then [[cSEEK, ((o + l : Nat) : Int)]] ++ zrows (a.posn - l) else []) ++
    (if app = true ∧ n + a.posn > l then [[cUPD, ddid, -2, ((a.posn + n : Nat) : Int)]] else []) ++
    [[cSEEK, ((a.posn + o : Nat) : Int)], [cWRITE, (n : Int)]]

/-- calls of the layer below that `Hwrite` makes after `HIrefresh_new` on a record with write access: for a new element `Hsetlength`
    (its own `HIrefresh_new`, `HPgetdiskblock(length, FALSE)`, `HTPupdate(ddid, end of file, length)`), then `HTPinquire` and `plainCalls` -/
def writeCalls (aid ddid conv : Int) (a : Acc) (f : File) (n : Nat) : List (List Int) :=
  match (f.dd a.slot).ext with
  | none => [[cINQ, ddid], [cBLOCK, (n : Int), 0], [cUPD, ddid, (f.endOff : Int), (n : Int)], [cINQ, ddid]] ++
            plainCalls aid ddid conv a true f.endOff n (f.endOff + n) n
  | some (o, l) => [[cINQ, ddid]] ++ plainCalls aid ddid conv a a.appendable o l f.endOff n

/-- what `Hwrite` leaves behind (`access_rec->posn`, `->appendable`, the length in the descriptor, `file_rec->f_end_off`) -/
@[ext] structure PlainOut where
  ret : Int
  posn : Int
  app : Int
  len : Int
  endOff : Int

/-- a write of `n` bytes at `posn` on an ordinary element `(o, l)` in a file that ends at `e`, when the layer below succeeds; cases as in `plainCalls` -/
def plainOut (conv rew : Int) (posn : Nat) (app : Bool) (o l e n : Nat) : PlainOut :=
  if n = 0 ∨ (app = false ∧ n + posn > l) then ⟨-1, posn, b2i app, l, e⟩
  else if app = true ∧ n + posn > l ∧ l + o ≠ e then ⟨if conv = -1 then -1 else rew, posn, if conv = -1 then 0 else b2i app, l, e⟩
  else ⟨n, (posn + n : Nat), b2i app, if app = true ∧ n + posn > l then (posn + n : Nat) else l, (max e (o + posn + n) : Nat)⟩

/-- `plainCalls` over the `int32` block geometry of the C record instead of an `Acc` (`plainCalls aid ddid conv a` is
    `plainRows aid ddid conv a.blockSize a.numBlocks a.posn` by `rfl`): `Hwrite_refines_limits` runs the text on a geometry that is no `Acc`'s -/
def plainRows (aid ddid conv bsz nb : Int) (posn : Nat) (app : Bool) (o l e n : Nat) : List (List Int) :=
  if n = 0 ∨ (app = false ∧ n + posn > l) then []
  else if app = true ∧ n + posn > l ∧ l + o ≠ e then
    [[cCONV, aid, bsz, nb]] ++ (if conv = -1 then [] else [[cREWRITE, aid, n]])
  else
    (if app = true ∧ n + posn > l ∧ posn > l then [[cSEEK, ((o + l : Nat) : Int)]] ++ zrows (posn - l) else []) ++
    (if app = true ∧ n + posn > l then [[cUPD, ddid, -2, ((posn + n : Nat) : Int)]] else []) ++
    [[cSEEK, ((posn + o : Nat) : Int)], [cWRITE, (n : Int)]]

theorem hwrite_old (w : World) (h : Nat) (a : Acc) (hw : w.acc h = some a) (hs : a.special = false) (hcw : a.canWrite = true)
    (bs : Bytes) (o l : Nat) (he : ((w.file a.file).dd a.slot).ext = some (o, l)) :
    hwrite w h bs = hwritePlain (w.refresh h) h { a with newElem := false } (w.file a.file) bs := by
  unfold hwrite hwriteCore
  rw [hw, refresh_acc w h a hw]
  cases hn : a.newElem <;> simp [hcw, hs, Acc.refresh, he, hn, refresh_file]
  · congr 1
    cases a; simp_all

theorem hwrite_new (w : World) (h : Nat) (a : Acc) (hw : w.acc h = some a) (hs : a.special = false) (hcw : a.canWrite = true)
    (bs : Bytes) (hn : a.newElem = true) (he : ((w.file a.file).dd a.slot).ext = none) :
    hwrite w h bs = hwritePlain (w.refresh h) h { a with newElem := false, appendable := true }
      ((w.file a.file).setLength a.slot bs.length).1 bs := by
  unfold hwrite hwriteCore
  rw [hw, refresh_acc w h a hw]
  simp [hcw, hs, Acc.refresh, he, hn, refresh_file]

/-- **the model's `hwritePlain` computes `plainOut`**; where the element is converted and rewritten (the `cREWRITE` row of `plainCalls`) the
    result is that of the write on the converted element, `rew`, and nothing is said about the record -/
theorem plain_eval (w : World) (h : Nat) (a : Acc) (f : File) (bs : Bytes) (o l : Nat) (he : (f.dd a.slot).ext = some (o, l))
    (hfi : a.file < w.files.length) (hsl : a.slot < f.mem.length) (aid ddid conv rew : Int) (hconv : conv = -1 ↔ f.writable = false)
    (hrew : rew = resCode (hwritePlain w h a f bs).2) :
    resCode (hwritePlain w h a f bs).2 = (plainOut conv rew a.posn a.appendable o l f.endOff bs.length).ret ∧
    ((∃ c ∈ plainCalls aid ddid conv a a.appendable o l f.endOff bs.length, c.head? = some cREWRITE) ∨
     (accView (hwritePlain w h a f bs).1 h = some ((plainOut conv rew a.posn a.appendable o l f.endOff bs.length).posn,
        (plainOut conv rew a.posn a.appendable o l f.endOff bs.length).app, b2i a.newElem) ∧
      ddView ((hwritePlain w h a f bs).1.file a.file) a.slot = ((o : Int), (plainOut conv rew a.posn a.appendable o l f.endOff bs.length).len,
        (plainOut conv rew a.posn a.appendable o l f.endOff bs.length).endOff))) := by
  have hl : ddLen (f.dd a.slot) = l := ddLen_some he
  have ho : ddOff (f.dd a.slot) = o := ddOff_some he
  have stay : ∀ a' : Acc, ((w.setFile a.file f).setAcc h a').acc h = some a' ∧ ((w.setFile a.file f).setAcc h a').file a.file = f :=
    fun a' => ⟨by simp [acc_setAcc], by rw [file_setAcc, file_setFile_same _ _ _ hfi]⟩
  have c0 : ((bs.length : Int) ≤ 0) = (bs.length = 0) := propext (by omega)
  have c1 : ∀ x : Nat, ((bs.length : Int) + a.posn > x) = (bs.length + a.posn > x) := fun x => propext (by omega)
  have c2 : ((l : Int) + o ≠ f.endOff) = (l + o ≠ f.endOff) := propext (by omega)
  have c3 : ((a.posn : Int) > l) = (a.posn > l) := propext (by omega)
  generalize hv : hwritePlain w h a f bs = r at hrew ⊢
  unfold hwritePlain at hv
  simp only [hl, ho, c0, c1, c2, c3, Int.toNat_natCast] at hv
  by_cases hr : bs.length = 0 ∨ (a.appendable = false ∧ bs.length + a.posn > l)
  · rw [if_pos hr] at hv; subst hv
    simp only [plainOut, if_pos hr, accView, ddView, (stay a).1, (stay a).2, hl, ho, resCode, Option.map_some]
    exact ⟨trivial, .inr ⟨trivial, trivial⟩⟩
  · rw [if_neg hr] at hv
    by_cases hp : a.appendable = true ∧ bs.length + a.posn > l ∧ l + o ≠ f.endOff
    · rw [if_pos hp] at hv
      by_cases hcv : conv = -1
      · rw [if_pos (hconv.mp hcv)] at hv; subst hv
        simp only [plainOut, if_neg hr, if_pos hp, if_pos hcv, accView, ddView, (stay _).1, (stay _).2, hl, ho, resCode, Option.map_some, b2i]
        exact ⟨trivial, .inr ⟨rfl, trivial⟩⟩
      · simp only [plainOut, plainCalls, if_neg hr, if_pos hp, if_neg hcv]
        exact ⟨hrew.symm, .inl ⟨[cREWRITE, aid, bs.length], by simp, rfl⟩⟩
    · rw [if_neg hp] at hv; clear hrew; subst hv
      simp only [plainOut, if_neg hr, if_neg hp]
      refine ⟨rfl, .inr ⟨by simp [accView, acc_setAcc], ?_⟩⟩
      have e3 : ∀ (g : File) (x : Nat), ({ g with endOff := x } : File).dd a.slot = g.dd a.slot := fun _ _ => rfl
      by_cases hgrow : a.appendable = true ∧ bs.length + a.posn > l
      · simp only [file_setAcc, file_setFile_same _ _ _ hfi, hgrow.1, hgrow.2, true_and, and_self, if_true, ddView]
        -- with or without the zero fill of the gap: the new extent, the bytes, the end of file
        have key : ∀ g0 : File, g0.mem = f.mem → g0.endOff = f.endOff →
            ddView { ((g0.ddSetExt a.slot (o, a.posn + bs.length)).pwrite (o + a.posn) bs) with
                     endOff := max ((g0.ddSetExt a.slot (o, a.posn + bs.length)).pwrite (o + a.posn) bs).endOff (o + a.posn + bs.length) } a.slot =
              ((o : Int), ((a.posn + bs.length : Nat) : Int), ((max f.endOff (o + a.posn + bs.length) : Nat) : Int)) := by
          intro g0 hm hE
          have hs0 : a.slot < g0.mem.length := by rw [hm]; exact hsl
          have e1 : (g0.ddSetExt a.slot (o, a.posn + bs.length)).endOff = max f.endOff (o + (a.posn + bs.length)) := by
            rw [ddSetExt_endOff _ _ _ hs0, hE]
          have e2 : ((g0.ddSetExt a.slot (o, a.posn + bs.length)).dd a.slot).ext = some (o, a.posn + bs.length) := by
            rw [ddSetExt_dd _ _ _ _ hs0]; simp
          simp only [ddView]
          rw [e3, pwrite_dd]
          have e4 : ((g0.ddSetExt a.slot (o, a.posn + bs.length)).pwrite (o + a.posn) bs).endOff = (g0.ddSetExt a.slot (o, a.posn + bs.length)).endOff := rfl
          simp only [ddOff, ddLen, e2, e4, e1]
          refine Prod.ext rfl (Prod.ext rfl ?_)
          simp only []
          omega
        by_cases hgap : a.posn > l
        · rw [if_pos hgap]
          exact key (f.pwrite (o + l) (zeros (a.posn - l))) rfl rfl
        · rw [if_neg hgap]
          exact key f rfl rfl
      · have hg3 : ¬ (a.appendable = true ∧ bs.length + a.posn > l ∧ a.posn > l) := fun hx => hgrow ⟨hx.1, hx.2.1⟩
        simp only [file_setAcc, file_setFile_same _ _ _ hfi, hg3, if_false, hgrow]
        unfold ddView
        rw [e3, pwrite_dd]
        have e4 : (f.pwrite (o + a.posn) bs).endOff = f.endOff := rfl
        simp only [ddOff, ddLen, he, e4]

end H4.Lemmas.C01Fn

namespace H4.Props.C20Fn
open H4 H4.Elem H4.Gen.Hdf H4.Lemmas.C01Fn H4.Limits

/-- **the C20 allocation model computes `plainOut`** on an element `(o, l)` of a file that ends at `e`, for a length `k > 0` that passes the range
    test: the same three cases, and the same end of file. -/
theorem limits_hwrite_pos (st : Limits.St) (d : Limits.DD) (app : Bool) (posn o l k e : Nat) (hdo : d.off = o) (hdl : d.len = l)
    (he : st.endOff = e) (hposn : (posn : Int) ≤ 2147483647) (hext : (o : Int) + l ≤ 2147483647) (hk : 0 < k)
    (hs1 : (posn : Int) + o + k ≤ 2147483646) :
    (Limits.hwrite head st d app posn k).2 =
      (if k = 0 ∨ (app = false ∧ k + posn > l) then .fail else if app = true ∧ k + posn > l ∧ l + o ≠ e then .convert else .wrote k) ∧
    (Limits.hwrite head st d app posn k).1.endOff = (plainOut 0 0 posn app o l e k).endOff := by
  have w1 := wrap_room posn o hposn (by omega)
  obtain ⟨w3, w4, w5, w6, w7⟩ := wrap_facts k posn o l hext hs1
  have hwe : wrap32 ((o : Int) + ((posn : Int) + k)) = (o : Int) + ((posn : Int) + k) := by
    rw [show (o : Int) + ((posn : Int) + k) = (posn : Int) + o + k by omega]; exact w6
  unfold Limits.hwrite
  simp only [head, hdo, hdl, w1, w7, w3, w4, w5, w6]
  clear w1 w3 w4 w5 w6 w7
  have h1 : ¬ ((k : Int) > 2147483646 - o - posn) := by omega
  have h2 : ¬ ((k : Int) ≤ 0) := by omega
  have h2' : ¬ (k = 0) := by omega
  have h3 : ¬ ((posn : Int) + o < 0) := by omega
  have hI : ((k : Int) + posn > l) = (k + posn > l) := propext ⟨fun h => by omega, fun h => by omega⟩
  have hE : ((l : Int) + o = e) = (l + o = e) := propext ⟨fun h => by omega, fun h => by omega⟩
  cases app <;> by_cases hb : k + posn > l <;> simp [plainOut, he, hI, hE, h1, h2', h3, hb]
  · split <;> omega
  · by_cases he2 : l + o = e
    · have hEo : st.endOff < (o : Int) + ((posn : Int) + k) := by omega
      have g1 : ¬ ((o : Int) = -1) := by omega
      have g2 : ¬ ((posn : Int) + k = -1) := by omega
      simp [he2, updateDD, endRule, hwe, INVALID_OFFSET, INVALID_LENGTH, g1, g2, hEo]
      omega
    · simp [he2, he]
  · split <;> omega

end H4.Props.C20Fn
