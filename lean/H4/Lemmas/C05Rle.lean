import H4.Gen.Fn.Crle
import H4.Lemmas.Rle
import H4.Lemmas.C2L
import H4.Lemmas.C2LLoop
/-! Lemmas for `H4.Props.C05Rle`: `HCIcrle_encode`, `HCIcrle_term`, `HCIcrle_decode` of `hdf/src/crle.c`, as TRANSLATED from the C text
    (`H4.Gen.Fn.Crle`, regenerated on every run), compute the hand-written model `H4.Rle` (`encStep`/`encRun`/`encTerm`, `decFuel`). -/
namespace H4.Lemmas.C05Rle
open H4 H4.Rle H4.Gen.Crle H4.Gen.Fn.Crle H4.C2L

/-- a C `uint8` array / the bytes of the underlying element, as the translated functions see them -/
def bytes (l : List Byte) : List Int := l.map fun b => (b.toNat : Int)

@[simp] theorem bytes_length (l : List Byte) : (bytes l).length = l.length := by simp [bytes]
@[simp] theorem bytes_nil : bytes [] = [] := rfl
@[simp] theorem bytes_cons (a : Byte) (l : List Byte) : bytes (a :: l) = (a.toNat : Int) :: bytes l := rfl
theorem bytes_append (a b : List Byte) : bytes (a ++ b) = bytes a ++ bytes b := by simp [bytes]
theorem bytes_take (l : List Byte) (n : Nat) : bytes (l.take n) = (bytes l).take n := by simp [bytes]
theorem bytes_drop (l : List Byte) (n : Nat) : bytes (l.drop n) = (bytes l).drop n := by simp [bytes]
theorem bytes_replicate (n : Nat) (v : Byte) : bytes (List.replicate n v) = List.replicate n (v.toNat : Int) := by simp [bytes]

theorem bytes_getD (l : List Byte) (i : Nat) (h : i < l.length) : (bytes l).getD i 0 = ((l[i]).toNat : Int) := by
  simp [bytes, h]

theorem bytes_inj {a b : List Byte} (h : bytes a = bytes b) : a = b := by
  induction a generalizing b with
  | nil => cases b <;> simp_all [bytes]
  | cons x xs ih => cases b with
    | nil => simp [bytes] at h
    | cons y ys =>
      simp only [bytes_cons, List.cons.injEq] at h
      obtain ⟨h1, h2⟩ := h
      have : x = y := UInt8.toNat_inj.mp (by omega)
      rw [ih h2, this]

theorem byte_lt (b : Byte) : (b.toNat : Int) < 256 := by have := UInt8.toNat_lt b; omega

/-- `(unsigned)RLE_NIL`, the "no byte" value of `last_byte` / `second_byte` -/
def nil32 : Int := RLE_NIL % 4294967296

/-- `last_byte` / `second_byte` (C `unsigned`) of the model's `Option Byte` -/
def optB : Option Byte → Int
  | none => nil32
  | some b => (b.toNat : Int)

theorem optB_eq_byte (o : Option Byte) (b : Byte) : ((b.toNat : Int) = optB o) ↔ some b = o := by
  cases o with
  | none => have := UInt8.toNat_lt b; simp [optB, nil32, RLE_NIL]; omega
  | some v =>
    simp only [optB, Option.some.injEq]
    constructor
    · intro h; exact UInt8.toNat_inj.mp (by omega)
    · intro h; rw [h]

@[simp] theorem optB_some (b : Byte) : optB (some b) = (b.toNat : Int) := rfl
@[simp] theorem optB_none : optB none = nil32 := rfl

/-- the correspondence between the model's encoder state and the `comp_coder_rle_info_t` record of the C code
    (`st` = `rle_state`, `len` = `buf_length`, `pos` = `buf_pos`, `last`/`second` = `last_byte`/`second_byte`, `buffer`),
    together with the ranges the C code relies on in each state -/
def EncRel (e : Enc) (st len pos last second : Int) (buffer : List Int) : Prop :=
  buffer.length = RLE_BUF_SIZE ∧ last = optB e.last ∧ second = optB e.second ∧
  match e.mode with
  | .init => st = 0
  | .run => st = 1 ∧ len = (e.len : Int) ∧ RLE_MIN_RUN ≤ e.len ∧ e.len < RLE_MAX_RUN ∧ e.last.isSome
  | .mix => st = 2 ∧ len = (e.len : Int) ∧ pos = (e.len : Int) ∧ RLE_MIN_MIX ≤ e.len ∧ e.len < RLE_BUF_SIZE ∧
            e.buf.length = e.len ∧ buffer.take e.len = bytes e.buf

theorem EncRel.st_eq_zero {e : Enc} {st len pos last second : Int} {buffer : List Int} (h : EncRel e st len pos last second buffer) :
    st = 0 ↔ e.mode = .init := by
  obtain ⟨-, -, -, hm⟩ := h
  cases he : e.mode <;> simp only [he] at hm <;> simp [hm]

theorem enc_chk_true (s : HCIcrle_encode.St) (c : Prop) [Decidable c] (h : c) : HCIcrle_encode.chk s c = s := by
  simp [HCIcrle_encode.chk, h]

theorem ctl_mix (n : Nat) : (n : Int) % 256 % 256 = ((UInt8.ofNat n).toNat : Int) := by
  rw [UInt8.toNat_ofNat', Int.emod_emod, Int.natCast_emod]; rfl

theorem ctl_run (n : Nat) : ((128 ||| n : Nat) : Int) % 256 % 256 = ((UInt8.ofNat (128 ||| n)).toNat : Int) := ctl_mix _

theorem byte_mod (b : Byte) : (b.toNat : Int) % 256 % 256 = (b.toNat : Int) := by
  rw [Int.emod_emod, Int.emod_eq_of_lt (Int.natCast_nonneg _) (byte_lt b)]

theorem putc_ok (x : Int) : decide (x % 256 % 256 = -1) = false := by
  simp only [decide_eq_false_iff_not]; omega

theorem putc_ok' (x : Int) : (x % 256 = -1) = False := by
  simp only [eq_iff_iff, iff_false]; omega

theorem dec_false (p : Prop) [Decidable p] (h : ¬ p) : decide p = false := decide_eq_false h

theorem not_neg_one {x : Int} (h : 0 ≤ x) : ¬ x = -1 := by omega

theorem nil32_eq : nil32 = 4294967295 := rfl

/-- the two bytes of a run packet, in the form in which `HCIcrle_encode` / `HCIcrle_term` compute them:
    `c = RUN_MASK | (buf_length - RLE_MIN_RUN)`, then `HDputc(c)`, `HDputc(last_byte)` -/
theorem bytes_ser_run (n : Nat) (v : Byte) :
    bytes (Pkt.ser (.run n v)) = [Int.ofNat (Int.toNat 128 ||| Int.toNat ((n : Int) - 3)) % 256 % 256, (v.toNat : Int) % 256 % 256] := by
  rw [show ((n : Int) - 3).toNat = n - 3 from Int.toNat_sub n 3, byte_mod]
  exact congrArg (· :: _) (ctl_mix _).symm

/-- a literal packet in the form the C code writes it: `HDputc(m)` with `m` = count - `RLE_MIN_MIX` however the C text spells it,
    then `Hwrite` of the bytes -/
theorem bytes_ser_mix (l : List Byte) (m : Int) (h : (l.length : Int) = m + 1) (h0 : 0 ≤ m) :
    bytes (Pkt.ser (.mix l)) = m % 256 % 256 :: bytes l := by
  rw [show m = ((l.length - 1 : Nat) : Int) by omega, ctl_mix]; rfl

/-- `-List.getD_eq_getElem?_getD` keeps the reads in `getD` form, in which `hb` and the hypotheses of `EncRel` are stated -/
theorem enc_body (e : Enc) (b : Byte) (fuel : Nat) (s : HCIcrle_encode.St) (hub : s.ub = false) (hdone : s.done = false)
    (hi : 0 ≤ s.buf_i ∧ s.buf_i < s.buf.length) (hb : s.buf.getD s.buf_i.toNat 0 = (b.toNat : Int))
    (hrel : EncRel e s.rle_rle_state s.rle_buf_length s.rle_buf_pos s.rle_last_byte s.rle_second_byte s.rle_buffer) :
    let s' := HCIcrle_encode.loop0.body fuel s
    s'.ub = false ∧ s'.done = false ∧ s'.oof = s.oof ∧ s'.buf = s.buf ∧ s'.buf_i = s.buf_i + 1 ∧ s'.length = s.length - 1 ∧
      s'.io_out = s.io_out ++ bytes (ser (encStep e b).2) ∧
      EncRel (encStep e b).1 s'.rle_rle_state s'.rle_buf_length s'.rle_buf_pos s'.rle_last_byte s'.rle_second_byte s'.rle_buffer ∧
      s'.rle_offset = s.rle_offset ∧ s'.orig_length = s.orig_length ∧ s'.rle_encoding = s.rle_encoding ∧ s'.ret = s.ret := by
  obtain ⟨c1, c2, c3, c4, c5, c6⟩ := consts
  obtain ⟨length, buf_i, orig_length, c_, rle_encoding, st, last, len, pos, second, offset, buf, buffer, io_out, ub, oof, ret, done⟩ := s
  obtain ⟨mode, ebuf, elen, elast, esecond⟩ := e
  simp only at hub hdone hi hb hrel
  subst hub hdone
  obtain ⟨hbl, hlast, hsecond, hm⟩ := hrel
  simp only at hbl hlast hsecond hm
  rw [c3] at hbl
  have hset : ∀ k < 128, (buffer.set k (b.toNat : Int)).getD k 0 = b.toNat ∧
      (buffer.set k (b.toNat : Int)).take (k + 1) = buffer.take k ++ [(b.toNat : Int)] :=
    fun k hk => ⟨C2L.getD_set_self _ _ _ _ (hbl ▸ hk), C2L.take_set_succ _ _ _ (hbl ▸ hk)⟩
  cases mode with
  | init =>
    simp only at hm
    subst hm
    simp [-List.getD_eq_getElem?_getD, HCIcrle_encode.loop0.body, HCIcrle_encode.chk, hi.1, hi.2, hbl, hb, encStep, EncRel, ser, c3, c6, hlast, hsecond, optB]
    exact hset 0 (by decide)
  | run =>
    simp only at hm
    obtain ⟨hst, hlen, h3, h130, hsome⟩ := hm
    rw [c4] at h3; rw [c5] at h130
    obtain ⟨v, rfl⟩ := Option.isSome_iff_exists.mp hsome
    subst hst hlen hlast
    by_cases hbv : b = v
    · subst hbv
      by_cases hmax : elen + 1 ≥ 130
      · have hmaxi : (130 : Int) ≤ (elen : Int) + 1 := Int.ofNat_le.mpr hmax
        have h3i : (3 : Int) ≤ (elen : Int) + 1 := Int.ofNat_le.mpr (Nat.le_succ_of_le h3)
        simp [-List.getD_eq_getElem?_getD, HCIcrle_encode.loop0.body, HCIcrle_encode.chk, putc_ok', hi.1, hi.2, hbl, hb, encStep, EncRel, ser, bytes_ser_run, c3, c5, hsecond, optB, hmax, hmaxi, h3i, nil32_eq]
      · have hmaxi : ¬ ((130 : Int) ≤ (elen : Int) + 1) := mt Int.ofNat_le.mp hmax
        simp [-List.getD_eq_getElem?_getD, HCIcrle_encode.loop0.body, HCIcrle_encode.chk, hi.1, hi.2, hbl, hb, encStep, EncRel, ser, c3, c4, c5, hsecond, optB, hmax, hmaxi]
        exact ⟨Nat.le_of_succ_le h3, Nat.not_le.mp hmax⟩
    · have hne : ¬ ((b.toNat : Int) = (v.toNat : Int)) := fun h => hbv (UInt8.toNat_inj.mp (Int.ofNat_inj.mp h))
      have h3i : (3 : Int) ≤ (elen : Int) := Int.ofNat_le.mpr h3
      simp [-List.getD_eq_getElem?_getD, HCIcrle_encode.loop0.body, HCIcrle_encode.chk, putc_ok', hi.1, hi.2, hbl, hb, encStep, EncRel, ser, bytes_ser_run, c3, c6, hsecond, optB, hne, hbv, h3i]
      exact hset 0 (by decide)
  | mix =>
    simp only at hm
    obtain ⟨hst, hlen, hpos, h1, h128, hbuflen, hbuf⟩ := hm
    rw [c6] at h1; rw [c3] at h128
    subst hst hlen hpos
    have hl128i : (elen : Int) < 128 := Int.ofNat_lt.mpr h128
    have hgetset := (hset elen h128).1
    have htakeset : (buffer.set elen (b.toNat : Int)).take (elen + 1) = bytes (ebuf ++ [b]) := by
      rw [(hset elen h128).2, hbuf, bytes_append]; rfl
    by_cases hc : some b = elast ∧ some b = esecond
    · obtain ⟨rfl, rfl⟩ := hc
      subst hlast hsecond
      by_cases hg : elen > 2
      · have hgi : (2 : Int) < (elen : Int) := Int.ofNat_lt.mpr hg
        have hf2 : (2 : Int) ≤ (elen : Int) := Int.le_of_lt hgi
        have hf0 : (0 : Int) ≤ (elen : Int) - 2 := Int.sub_nonneg_of_le hf2
        have hf3 : (elen : Int) - 2 ≤ 128 := Int.le_trans (Int.sub_le_self _ (by decide)) (Int.le_of_lt hl128i)
        simp [-List.getD_eq_getElem?_getD, HCIcrle_encode.loop0.body, HCIcrle_encode.chk, putc_ok', hi.1, hi.2, hbl, hb, encStep, EncRel, ser,
          bytes_ser_mix (ebuf.take (elen - 2)) ((elen : Int) - 1 - 2) (by rw [List.length_take, hbuflen]; omega) (by omega),
          c3, c4, c5, hg, hgi, hf2, not_neg_one hf0, hf3]
        rw [show ((elen : Int) - 2).toNat = elen - 2 from Int.toNat_sub elen 2, bytes_take, ← hbuf, List.take_take, Nat.min_eq_left (Nat.sub_le _ _)]
      · have hgi : ¬ (2 : Int) < (elen : Int) := mt Int.ofNat_lt.mp hg
        simp [-List.getD_eq_getElem?_getD, HCIcrle_encode.loop0.body, HCIcrle_encode.chk, hi.1, hi.2, hbl, hb, encStep, EncRel, ser, c3, c4, c5, hg, hgi]
    · have hc' : ¬ ((b.toNat : Int) = last ∧ (b.toNat : Int) = second) := by
        rw [hlast, hsecond, optB_eq_byte, optB_eq_byte]; exact hc
      by_cases hfull : elen + 1 ≥ 128
      · have hfi : (128 : Int) ≤ (elen : Int) + 1 := Int.ofNat_le.mpr hfull
        have hf0 : (0 : Int) ≤ (elen : Int) + 1 := Int.natCast_nonneg (elen + 1)
        have hf3 : (elen : Int) + 1 ≤ 128 := Int.ofNat_le.mpr h128
        simp [-List.getD_eq_getElem?_getD, HCIcrle_encode.loop0.body, HCIcrle_encode.chk, putc_ok', hi.1, hi.2, hbl, hb, encStep, EncRel, ser,
          bytes_ser_mix (ebuf ++ [b]) (elen : Int) (by simp [hbuflen]) (Int.natCast_nonneg _),
          c3, hc, hc', hfull, hfi, hf0, not_neg_one hf0, hf3, hl128i, nil32_eq, htakeset]
      · have hfi : ¬ (128 : Int) ≤ (elen : Int) + 1 := mt Int.ofNat_le.mp hfull
        simp [-List.getD_eq_getElem?_getD, HCIcrle_encode.loop0.body, HCIcrle_encode.chk, hi.1, hi.2, hbl, hb, encStep, EncRel, ser, c3, c6, hc, hc', hfull, hfi, hl128i]
        exact ⟨hgetset, hlast, Nat.not_le.mp hfull, hbuflen, htakeset⟩
theorem enc_isLoop : H4.C2L.IsLoop HCIcrle_encode.loop0 (fun s => s.length > 0 ∧ ¬ s.done) HCIcrle_encode.loop0.body (fun s => s) :=
  .of_eqs (fun _ => rfl) (fun _ _ => rfl)

theorem enc_loop (all : List Byte) : ∀ (rest : List Byte) (e : Enc) (fuel : Nat) (s : HCIcrle_encode.St) (k : Nat),
    rest.length ≤ fuel → all.drop k = rest → s.buf = bytes all → s.buf_i = (k : Int) → s.length = (rest.length : Int) →
    s.ub = false → s.done = false → s.oof = false →
    EncRel e s.rle_rle_state s.rle_buf_length s.rle_buf_pos s.rle_last_byte s.rle_second_byte s.rle_buffer →
    let s' := HCIcrle_encode.loop0 fuel s
    s'.ub = false ∧ s'.oof = false ∧ s'.done = false ∧ s'.io_out = s.io_out ++ bytes (ser (encRun e rest).2) ∧
      EncRel (encRun e rest).1 s'.rle_rle_state s'.rle_buf_length s'.rle_buf_pos s'.rle_last_byte s'.rle_second_byte s'.rle_buffer ∧
      s'.rle_offset = s.rle_offset ∧ s'.orig_length = s.orig_length ∧ s'.rle_encoding = s.rle_encoding ∧ s'.ret = s.ret := by
  intro rest
  induction rest with
  | nil =>
    intro e fuel s k _ _ _ _ hlen hub hdone hoof hrel
    have h0 : ¬ (s.length > 0 ∧ ¬ (s.done = true)) := by simp at hlen; omega
    have hl : HCIcrle_encode.loop0 fuel s = s := enc_isLoop.exit h0 fuel
    intro s'
    have hs' : s' = s := hl
    rw [hs']
    simp [hub, hdone, hoof, encRun, ser, hrel]
  | cons b rest ih =>
    intro e fuel s k hf hdrop hbuf hi hlen hub hdone hoof hrel
    obtain ⟨fuel, rfl⟩ : ∃ f, fuel = f + 1 := ⟨fuel - 1, by simp at hf; omega⟩
    obtain ⟨hk, hbk, hrest⟩ := drop_cons_inv all k b rest hdrop
    have hc : s.length > 0 ∧ ¬ (s.done = true) := by simp [hlen, hdone]
    have hbody := enc_body e b (fuel + 1) s hub hdone (by rw [hi, hbuf]; simp; exact hk)
      (by rw [hi, hbuf, Int.toNat_natCast, bytes_getD all k hk, hbk]) hrel
    obtain ⟨b1, b2, b3, b4, b5, b6, b7, b8, b9, b10, b11, b12⟩ := hbody
    have hnext := ih (encStep e b).1 fuel (HCIcrle_encode.loop0.body (fuel + 1) s) (k + 1) (by simp at hf; omega) hrest
      (by rw [b4, hbuf]) (by rw [b5, hi]; simp) (by rw [b6, hlen]; simp) b1 b2 (by rw [b3, hoof]) b8
    obtain ⟨n1, n2, n3, n4, n5, n6, n7, n8, n9⟩ := hnext
    rw [enc_isLoop.pass hc]
    refine ⟨n1, n2, n3, ?_, ?_, by rw [n6, b9], by rw [n7, b10], by rw [n8, b11], by rw [n9, b12]⟩
    · rw [n4, b7, List.append_assoc, ← bytes_append]
      simp [encRun, ser]
    · simpa [encRun] using n5

/-- the state in which `HCIcrle_encode` enters its loop -/
def encStart (encoding st : Int) (buffer : List Int) (last len pos second offset length : Int) (buf io_out : List Int) : HCIcrle_encode.St :=
  { rle_encoding := if length > 0 then 1 else encoding, rle_rle_state := st, rle_buffer := buffer, rle_last_byte := last,
    rle_buf_length := len, rle_buf_pos := pos, rle_second_byte := second, rle_offset := offset, length := length, buf := buf,
    io_out := io_out, orig_length := length }

/-- what `HCIcrle_encode` does after its loop: `offset += length; return SUCCEED` -/
def encFinish (s : HCIcrle_encode.St) : HCIcrle_encode.St :=
  if s.done then s else { s with rle_offset := s.rle_offset + s.orig_length, ret := 0, done := true }

theorem encFinish_of_not_done {s : HCIcrle_encode.St} (h : s.done = false) :
    encFinish s = { s with rle_offset := s.rle_offset + s.orig_length, ret := 0, done := true } := by
  simp only [encFinish, h, Bool.false_eq_true, if_false]

theorem enc_unfold (fuel : Nat) (encoding st : Int) (buffer : List Int) (last len pos second offset length : Int) (buf io_out : List Int) :
    HCIcrle_encode fuel encoding st buffer last len pos second offset length buf io_out =
      encFinish (HCIcrle_encode.loop0 fuel (encStart encoding st buffer last len pos second offset length buf io_out)) := by
  unfold HCIcrle_encode encFinish encStart
  by_cases h : length > 0
  · simp [h]
    split <;> simp_all
  · simp [h]
    split <;> simp_all

theorem mod32 {n : Nat} (h : n < 2 ^ 31) : (n : Int) % 4294967296 = n := emod32_nat n (by omega)

theorem dec_body_run (fuel : Nat) (s : HCIcrle_decode.St) (n L i : Nat) (hst : s.rle_rle_state = 1) (hub : s.ub = false)
    (hdone : s.done = false) (hn : s.length = (n : Int)) (hL : s.rle_buf_length = (L : Int)) (hi : s.buf_i = (i : Int))
    (hn0 : 0 < n) (hroom : i + n ≤ s.buf.length) (hn32 : n < 2 ^ 31) (hL32 : L < 2 ^ 31) :
    HCIcrle_decode.loop0.body fuel s =
      { s with dec_len := (min n L : Nat), rle_buf_length := ((L - min n L : Nat) : Int), rle_rle_state := if L ≤ n then 0 else 1,
               length := ((n - min n L : Nat) : Int), buf_i := ((i + min n L : Nat) : Int),
               buf := s.buf.take i ++ List.replicate (min n L) (s.rle_last_byte % 256) ++ s.buf.drop (i + min n L) } := by
  obtain ⟨length, buf_i, orig_length, dec_len, c_, st, io_pos, len, last, pos, offset, io_in, buffer, buf, ub, oof, ret, done⟩ := s
  simp only at hst hub hdone hn hL hi hroom
  subst hst hub hdone hn hL hi
  have hto : ∀ d : Nat, ((i : Int) + (d : Int)).toNat = i + d := fun d => Int.toNat_natCast (i + d)
  rcases Nat.lt_trichotomy L n with h | h | h
  · have hle : L ≤ n := Nat.le_of_lt h
    have hr' : (i : Int) + L ≤ buf.length := Int.ofNat_le.mpr (Nat.le_trans (Nat.add_le_add_left hle i) hroom)
    simp [HCIcrle_decode.loop0.body, HCIcrle_decode.chk, Int.ofNat_lt.mpr h, Nat.min_eq_right hle, mod32 hL32, hr', hle, hto, Int.natCast_sub hle]
  · subst h
    have hr : (i : Int) + L ≤ buf.length := Int.ofNat_le.mpr hroom
    simp [HCIcrle_decode.loop0.body, HCIcrle_decode.chk, mod32 hL32, hr, hto]
  · have hle : n ≤ L := Nat.le_of_lt h
    have hr : (i : Int) + n ≤ buf.length := Int.ofNat_le.mpr hroom
    have h1 : ¬ ((L : Int) < (n : Int)) := mt Int.ofNat_lt.mp (Nat.not_lt.mpr hle)
    have h2 : ¬ ((L : Int) ≤ (n : Int)) := mt Int.ofNat_le.mp (Nat.not_le.mpr h)
    have h3 : ¬ ((L : Int) - (n : Int) ≤ 0) := fun h' => h2 (Int.le_of_sub_nonpos h')
    simp [HCIcrle_decode.loop0.body, HCIcrle_decode.chk, h1, h3, Nat.min_eq_left hle, mod32 hn32, hr, Nat.not_le.mpr h, hto, Int.natCast_sub hle]

/-- the loading half of the loop body in state INIT on a run packet `c v` (`c & RUN_MASK`): the body continues as from state RUN -/
theorem dec_body_load_run (fuel : Nat) (s : HCIcrle_decode.St) (k c v : Nat) (hst : s.rle_rle_state = 0) (hub : s.ub = false)
    (hdone : s.done = false) (hk : s.io_pos = (k : Int)) (hk1 : k + 1 < s.io_in.length) (hc : s.io_in.getD k 0 = (c : Int))
    (hv : s.io_in.getD (k + 1) 0 = (v : Int)) (hv8 : v < 256) (hrun : c &&& 128 ≠ 0) :
    HCIcrle_decode.loop0.body fuel s =
      HCIcrle_decode.loop0.body fuel { s with io_pos := (k : Int) + 1 + 1, c_ := (c : Int), rle_rle_state := 1,
                                              rle_buf_length := ((c &&& 127 : Nat) : Int) + 3, rle_last_byte := (v : Int) } := by
  obtain ⟨length, buf_i, orig_length, dec_len, c_, st, io_pos, len, last, pos, offset, io_in, buffer, buf, ub, oof, ret, done⟩ := s
  simp only at hst hub hdone hk hk1 hc hv
  subst hst hub hdone hk
  have g1 : (k : Int) < io_in.length := Int.ofNat_lt.mpr (Nat.lt_of_succ_lt hk1)
  have g2 : (k : Int) + 1 < io_in.length := Int.ofNat_lt.mpr hk1
  have g5 : ¬ ((v : Int) = 4294967295) := fun h => absurd (Int.ofNat_inj.mp h ▸ hv8) (by decide)
  simp [-List.getD_eq_getElem?_getD, HCIcrle_decode.loop0.body, HCIcrle_decode.chk, g1, g2, not_neg_one (Int.natCast_nonneg c),
    mod32 (Nat.lt_trans hv8 (by decide)), g5, hc, hv, hrun]

theorem dec_body_mix (fuel : Nat) (s : HCIcrle_decode.St) (n L i P : Nat) (hst : s.rle_rle_state = 2) (hub : s.ub = false)
    (hdone : s.done = false) (hn : s.length = (n : Int)) (hL : s.rle_buf_length = (L : Int)) (hi : s.buf_i = (i : Int))
    (hP : s.rle_buf_pos = (P : Int)) (hn0 : 0 < n) (hroom : i + n ≤ s.buf.length) (hPL : P + L ≤ s.rle_buffer.length)
    (hn32 : n < 2 ^ 31) (hL32 : L < 2 ^ 31) :
    HCIcrle_decode.loop0.body fuel s =
      { s with dec_len := (min n L : Nat), rle_buf_length := ((L - min n L : Nat) : Int), rle_rle_state := if L ≤ n then 0 else 2,
               length := ((n - min n L : Nat) : Int), buf_i := ((i + min n L : Nat) : Int), rle_buf_pos := ((P + min n L : Nat) : Int),
               buf := s.buf.take i ++ (s.rle_buffer.drop P).take (min n L) ++ s.buf.drop (i + min n L) } := by
  obtain ⟨length, buf_i, orig_length, dec_len, c_, st, io_pos, len, last, pos, offset, io_in, buffer, buf, ub, oof, ret, done⟩ := s
  simp only at hst hub hdone hn hL hi hP hroom hPL
  subst hst hub hdone hn hL hi hP
  have hto : ∀ d : Nat, ((i : Int) + (d : Int)).toNat = i + d := fun d => Int.toNat_natCast (i + d)
  have hp : (P : Int) + L ≤ buffer.length := Int.ofNat_le.mpr hPL
  rcases Nat.lt_trichotomy L n with h | h | h
  · have hle : L ≤ n := Nat.le_of_lt h
    have hr' : (i : Int) + L ≤ buf.length := Int.ofNat_le.mpr (Nat.le_trans (Nat.add_le_add_left hle i) hroom)
    simp [HCIcrle_decode.loop0.body, HCIcrle_decode.chk, Int.ofNat_lt.mpr h, Nat.min_eq_right hle, mod32 hL32, hr', hp, hle, hto, Int.natCast_sub hle]
  · subst h
    have hr : (i : Int) + L ≤ buf.length := Int.ofNat_le.mpr hroom
    simp [HCIcrle_decode.loop0.body, HCIcrle_decode.chk, mod32 hL32, hr, hp, hto]
  · have hle : n ≤ L := Nat.le_of_lt h
    have hr : (i : Int) + n ≤ buf.length := Int.ofNat_le.mpr hroom
    have hp' : (P : Int) + n ≤ buffer.length := Int.ofNat_le.mpr (Nat.le_trans (Nat.add_le_add_left hle P) hPL)
    have h1 : ¬ ((L : Int) < (n : Int)) := mt Int.ofNat_lt.mp (Nat.not_lt.mpr hle)
    have h2 : ¬ ((L : Int) ≤ (n : Int)) := mt Int.ofNat_le.mp (Nat.not_le.mpr h)
    have h3 : ¬ ((L : Int) - (n : Int) ≤ 0) := fun h' => h2 (Int.le_of_sub_nonpos h')
    simp [HCIcrle_decode.loop0.body, HCIcrle_decode.chk, h1, h3, Nat.min_eq_left hle, mod32 hn32, hr, hp', Nat.not_le.mpr h, hto, Int.natCast_sub hle]

/-- the loading half of the loop body in state INIT on a mix packet `c b₁ … b_L` (`!(c & RUN_MASK)`, `L = (c & COUNT_MASK) + 1`): `Hread`
    fills `buffer[0 .. L)`; the body continues as from state MIX with `buf_pos = 0` -/
theorem dec_body_load_mix (fuel : Nat) (s : HCIcrle_decode.St) (k c : Nat) (hst : s.rle_rle_state = 0) (hub : s.ub = false)
    (hdone : s.done = false) (hk : s.io_pos = (k : Int)) (hc : s.io_in.getD k 0 = (c : Int)) (hmix : c &&& 128 = 0)
    (hk1 : k + 1 + ((c &&& 127) + 1) ≤ s.io_in.length) (hbl : (c &&& 127) + 1 ≤ s.rle_buffer.length) :
    HCIcrle_decode.loop0.body fuel s =
      HCIcrle_decode.loop0.body fuel { s with io_pos := (k : Int) + 1 + (((c &&& 127 : Nat) : Int) + 1), c_ := (c : Int), rle_rle_state := 2,
                                              rle_buf_length := ((c &&& 127 : Nat) : Int) + 1, rle_buf_pos := 0,
                                              rle_buffer := (s.io_in.drop (k + 1)).take ((c &&& 127) + 1) ++ s.rle_buffer.drop ((c &&& 127) + 1) } := by
  obtain ⟨length, buf_i, orig_length, dec_len, c_, st, io_pos, len, last, pos, offset, io_in, buffer, buf, ub, oof, ret, done⟩ := s
  simp only at hst hub hdone hk hk1 hc hbl
  subst hst hub hdone hk
  have g1 : (k : Int) < io_in.length := Int.ofNat_lt.mpr (Nat.lt_of_lt_of_le (Nat.lt_succ_self k) (Nat.le_trans (Nat.le_add_right _ _) hk1))
  have g2 : (k : Int) + 1 + (((c &&& 127 : Nat) : Int) + 1) ≤ io_in.length := Int.ofNat_le.mpr hk1
  have g4 : ((c &&& 127 : Nat) : Int) + 1 ≤ buffer.length := Int.ofNat_le.mpr hbl
  have g6 : (0 : Int) ≤ ((c &&& 127 : Nat) : Int) + 1 := Int.natCast_nonneg ((c &&& 127) + 1)
  simp [-List.getD_eq_getElem?_getD, HCIcrle_decode.loop0.body, HCIcrle_decode.chk, g1, g2, not_neg_one (Int.natCast_nonneg c), g4,
    not_neg_one g6, g6, hc, hmix]

theorem dec_body_end (fuel : Nat) (s : HCIcrle_decode.St) (hst : s.rle_rle_state = 0) (hdone : s.done = false)
    (hk : s.io_in.length ≤ s.io_pos) :
    HCIcrle_decode.loop0.body fuel s = { s with c_ := -1, ret := -1, done := true } := by
  obtain ⟨length, buf_i, orig_length, dec_len, c_, st, io_pos, len, last, pos, offset, io_in, buffer, buf, ub, oof, ret, done⟩ := s
  simp only at hst hdone hk
  subst hst hdone
  have g1 : ¬ (io_pos < io_in.length) := by omega
  simp [HCIcrle_decode.loop0.body, g1]

/-- the record holds a partly delivered packet: in state RUN `len` more copies of `last`, in state MIX the `len` bytes of `buffer` from
    `pos`; `rem` = those bytes followed by `tail` (what the rest of the input decodes to) -/
def Loaded (rem tail : List Byte) (st len last pos : Int) (buffer : List Int) : Prop :=
  (st = 1 ∧ ∃ (L : Nat) (v : Byte), 0 < L ∧ L < 2 ^ 31 ∧ len = (L : Int) ∧ last = (v.toNat : Int) ∧ rem = List.replicate L v ++ tail) ∨
  (st = 2 ∧ ∃ (L P : Nat) (l : List Byte), 0 < L ∧ len = (L : Int) ∧ pos = (P : Int) ∧ P + L ≤ RLE_BUF_SIZE ∧
      (buffer.drop P).take L = bytes l ∧ rem = l ++ tail)

/-- reading the compressed stream `cs`, the record (`st` = `rle_state`, `len` = `buf_length`, `last` = `last_byte`, `pos` = `buf_pos`, `buffer`) and the
    position `io_pos` in the element are such that the bytes still to be delivered are `rem`: the rest of a pending packet, then what the model's
    decoder makes of `cs` from `io_pos` on.  Mind the order: `last pos` here, `pos last` in `EncRel`. -/
def DecRel (cs rem : List Byte) (st len last pos : Int) (buffer : List Int) (io_pos : Int) : Prop :=
  buffer.length = RLE_BUF_SIZE ∧ ∃ (k f : Nat) (tail : List Byte), io_pos = (k : Int) ∧ k ≤ cs.length ∧ decFuel f (cs.drop k) = some tail ∧
    ((st = 0 ∧ rem = tail) ∨ Loaded rem tail st len last pos buffer)

/-- one pass of the decoder's loop with `n` bytes wanted at `buf + i` (`buf = A ++ B`, `|A| = i`): it delivers `d ≥ 1` of them, the first `d`
    bytes of `rem`, touches nothing else and leaves a record related to the rest of `rem` -/
def StepOK (cs rem : List Byte) (A B : List Int) (n i : Nat) (s s' : HCIcrle_decode.St) : Prop :=
  ∃ d : Nat, 0 < d ∧ d ≤ n ∧ d ≤ rem.length ∧ s'.ub = false ∧ s'.done = false ∧ s'.oof = s.oof ∧ s'.length = ((n - d : Nat) : Int) ∧
    s'.buf_i = ((i + d : Nat) : Int) ∧ s'.buf = A ++ bytes (rem.take d) ++ B.drop d ∧ s'.io_in = s.io_in ∧ s'.rle_offset = s.rle_offset ∧
    s'.orig_length = s.orig_length ∧ s'.ret = s.ret ∧
    DecRel cs (rem.drop d) s'.rle_rle_state s'.rle_buf_length s'.rle_last_byte s'.rle_buf_pos s'.rle_buffer s'.io_pos

theorem dec_step_loaded (cs rem tail : List Byte) (A B : List Int) (n i k f : Nat) (fuel : Nat) (s : HCIcrle_decode.St)
    (hub : s.ub = false) (hdone : s.done = false) (hn : s.length = (n : Int)) (hn0 : 0 < n) (hn32 : n < 2 ^ 31) (hi : s.buf_i = (i : Int))
    (hbuf : s.buf = A ++ B) (hA : A.length = i) (hB : n ≤ B.length) (hk : s.io_pos = (k : Int)) (hkle : k ≤ cs.length)
    (hdec : decFuel f (cs.drop k) = some tail) (hbl : s.rle_buffer.length = RLE_BUF_SIZE)
    (hld : Loaded rem tail s.rle_rle_state s.rle_buf_length s.rle_last_byte s.rle_buf_pos s.rle_buffer) :
    StepOK cs rem A B n i s (HCIcrle_decode.loop0.body fuel s) := by
  have c3 : RLE_BUF_SIZE = 128 := rfl
  have hroom : i + n ≤ s.buf.length := by rw [hbuf, List.length_append, hA]; exact Nat.add_le_add_left hB i
  have hd0 : ∀ {L}, 0 < L → 0 < min n L := fun h => Nat.lt_min.mpr ⟨hn0, h⟩
  rcases hld with ⟨hst, L, v, hL0, hL32, hL, hlast, hrem⟩ | ⟨hst, L, P, l, hL0, hL, hP, hPL, hl, hrem⟩
  · rw [dec_body_run fuel s n L i hst hub hdone hn hL hi hn0 hroom hn32 hL32]
    have hdL : min n L ≤ L := Nat.min_le_right n L
    have hv : s.rle_last_byte % 256 = (v.toNat : Int) := by
      rw [hlast]; exact Int.emod_eq_of_lt (Int.natCast_nonneg _) (byte_lt v)
    refine ⟨min n L, hd0 hL0, Nat.min_le_left n L, ?_, hub, hdone, rfl, rfl, rfl, ?_, rfl, rfl, rfl, rfl, hbl, k, f, tail, hk, hkle, hdec, ?_⟩
    · rw [hrem, List.length_append, List.length_replicate]; exact Nat.le_trans hdL (Nat.le_add_right _ _)
    · show s.buf.take i ++ List.replicate (min n L) (s.rle_last_byte % 256) ++ s.buf.drop (i + min n L) = _
      rw [hbuf, take_app A B i hA, drop_app A B i _ hA, hv, hrem, List.take_append_of_le_length (by rw [List.length_replicate]; exact hdL),
        List.take_replicate, bytes_replicate, Nat.min_eq_left hdL]
    · by_cases hle : L ≤ n
      · exact Or.inl ⟨if_pos hle, by rw [hrem, Nat.min_eq_right hle, List.drop_left' List.length_replicate]⟩
      · have hlt : n < L := Nat.lt_of_not_le hle
        refine Or.inr (Or.inl ⟨if_neg hle, L - min n L, v, ?_, Nat.lt_of_le_of_lt (Nat.sub_le _ _) hL32, rfl, hlast, ?_⟩)
        · rw [Nat.min_eq_left (Nat.le_of_lt hlt)]; exact Nat.sub_pos_of_lt hlt
        · rw [hrem, List.drop_append_of_le_length (by rw [List.length_replicate]; exact hdL), List.drop_replicate]
  · rw [c3] at hPL
    have hdL : min n L ≤ L := Nat.min_le_right n L
    have hl_len : l.length = L := by
      have := congrArg List.length hl
      rw [bytes_length, List.length_take, List.length_drop, hbl, c3, Nat.min_eq_left (Nat.le_sub_of_add_le' hPL)] at this
      exact this.symm
    rw [dec_body_mix fuel s n L i P hst hub hdone hn hL hi hP hn0 hroom (by rw [hbl, c3]; exact hPL) hn32
      (Nat.lt_of_le_of_lt (Nat.le_trans (Nat.le_add_left L P) hPL) (by decide))]
    refine ⟨min n L, hd0 hL0, Nat.min_le_left n L, ?_, hub, hdone, rfl, rfl, rfl, ?_, rfl, rfl, rfl, rfl, hbl, k, f, tail, hk, hkle, hdec, ?_⟩
    · rw [hrem, List.length_append, hl_len]; exact Nat.le_trans hdL (Nat.le_add_right _ _)
    · show s.buf.take i ++ (s.rle_buffer.drop P).take (min n L) ++ s.buf.drop (i + min n L) = _
      rw [hbuf, take_app A B i hA, drop_app A B i _ hA, hrem, List.take_append_of_le_length (by rw [hl_len]; exact hdL), bytes_take, ← hl,
        List.take_take, Nat.min_eq_left hdL]
    · by_cases hle : L ≤ n
      · exact Or.inl ⟨if_pos hle, by rw [hrem, Nat.min_eq_right hle, List.drop_left' hl_len]⟩
      · have hlt : n < L := Nat.lt_of_not_le hle
        have hm : min n L = n := Nat.min_eq_left (Nat.le_of_lt hlt)
        refine Or.inr (Or.inr ⟨if_neg hle, L - min n L, P + min n L, l.drop (min n L), ?_, rfl, rfl, ?_, ?_, ?_⟩)
        · rw [hm]; exact Nat.sub_pos_of_lt hlt
        · rw [c3, Nat.add_assoc, Nat.add_sub_cancel' hdL]; exact hPL
        · show (s.rle_buffer.drop (P + min n L)).take (L - min n L) = _
          rw [bytes_drop, ← hl, List.drop_take, List.drop_drop]
        · rw [hrem, List.drop_append_of_le_length (by rw [hl_len]; exact hdL)]

theorem dec_step (cs rem : List Byte) (A B : List Int) (n i : Nat) (fuel : Nat) (s : HCIcrle_decode.St)
    (hub : s.ub = false) (hdone : s.done = false) (hn : s.length = (n : Int)) (hn0 : 0 < n) (hn32 : n < 2 ^ 31) (hi : s.buf_i = (i : Int))
    (hbuf : s.buf = A ++ B) (hA : A.length = i) (hB : n ≤ B.length) (hio : s.io_in = bytes cs)
    (hrel : DecRel cs rem s.rle_rle_state s.rle_buf_length s.rle_last_byte s.rle_buf_pos s.rle_buffer s.io_pos) (hrem : rem ≠ []) :
    StepOK cs rem A B n i s (HCIcrle_decode.loop0.body fuel s) := by
  obtain ⟨c1, c2, c3, c4, c5, c6⟩ := consts
  obtain ⟨hbl, k, f, tail, hk, hkle, hdec, hcase⟩ := hrel
  rcases hcase with ⟨hst, rfl⟩ | hld
  · rcases decFuel_some hdec with ⟨-, rfl⟩ | ⟨f, p, rest, t', -, hv, hcs, hdec', rfl⟩
    · exact absurd rfl hrem
    · cases p with
      | run n' v =>
        obtain ⟨hrun, hcnt⟩ := Pkt.ctl_run n' v hv
        change cs.drop k = UInt8.ofNat (RUN_MASK ||| (n' - RLE_MIN_RUN)) :: v :: rest at hcs
        generalize UInt8.ofNat (RUN_MASK ||| (n' - RLE_MIN_RUN)) = c at hrun hcnt hcs
        rw [c1] at hrun; rw [c2, c4] at hcnt
        obtain ⟨hk', hck, hrest⟩ := drop_cons_inv cs k c (v :: rest) hcs
        obtain ⟨hk1', hvk, hr⟩ := drop_cons_inv cs (k + 1) v rest hrest
        rw [dec_body_load_run fuel s k c.toNat v.toNat hst hub hdone hk (by rw [hio, bytes_length]; exact hk1')
          (by rw [hio, bytes_getD cs k hk', hck]) (by rw [hio, bytes_getD cs (k + 1) hk1', hvk]) (UInt8.toNat_lt v) hrun]
        exact dec_step_loaded cs _ t' A B n i (k + 2) f fuel _ hub hdone hn hn0 hn32 hi hbuf hA hB
          (rfl : ((k : Int) + 1 + 1) = ((k + 2 : Nat) : Int)) hk1' (by rw [hr]; exact hdec') hbl
          (Or.inl ⟨rfl, n', v, by omega, by have := hv.2; rw [c5] at this; omega, by simp only; omega, rfl, rfl⟩)
      | mix l =>
        obtain ⟨hmix, hcnt⟩ := Pkt.ctl_mix l hv
        change cs.drop k = UInt8.ofNat (l.length - RLE_MIN_MIX) :: (l ++ rest) at hcs
        generalize UInt8.ofNat (l.length - RLE_MIN_MIX) = c at hmix hcnt hcs
        rw [c1] at hmix; rw [c2, c6] at hcnt
        obtain ⟨hk', hck, hrest⟩ := drop_cons_inv cs k c (l ++ rest) hcs
        have hfit : k + 1 + ((c.toNat &&& 127) + 1) ≤ cs.length := by
          have := congrArg List.length hrest
          rw [List.length_drop, List.length_append] at this; omega
        have h127 := Nat.and_le_right (n := c.toNat) (m := 127)
        rw [dec_body_load_mix fuel s k c.toNat hst hub hdone hk (by rw [hio, bytes_getD cs k hk', hck]) hmix
          (by rw [hio, bytes_length]; exact hfit) (by rw [hbl, c3]; exact Nat.succ_le_succ h127)]
        have hl : (s.io_in.drop (k + 1)).take ((c.toNat &&& 127) + 1) = bytes l := by
          rw [hio, ← bytes_drop, hrest, hcnt, bytes_append, List.take_left' (bytes_length l)]
        refine dec_step_loaded cs _ t' A B n i (k + 1 + ((c.toNat &&& 127) + 1)) f fuel _ hub hdone hn hn0 hn32 hi hbuf hA hB
          (rfl : ((k : Int) + 1 + (((c.toNat &&& 127 : Nat) : Int) + 1)) = ((k + 1 + ((c.toNat &&& 127) + 1) : Nat) : Int))
          hfit (by rw [← List.drop_drop, hrest, hcnt, List.drop_left]; exact hdec') ?_
          (Or.inr ⟨rfl, l.length, 0, l, by omega, by simp only; omega, rfl, by rw [c3]; omega, ?_, rfl⟩)
        · show (List.take _ (List.drop _ s.io_in) ++ _).length = RLE_BUF_SIZE
          rw [List.length_append, hl, bytes_length, List.length_drop, hbl, c3]; omega
        · show ((List.take _ (List.drop _ s.io_in) ++ _).drop 0).take l.length = _
          rw [List.drop_zero, hl, List.take_left' (bytes_length l)]
  · exact dec_step_loaded cs rem tail A B n i k f fuel s hub hdone hn hn0 hn32 hi hbuf hA hB hk hkle hdec hbl hld

theorem decRel_nil (cs : List Byte) (st len last pos : Int) (buffer : List Int) (io_pos : Int)
    (h : DecRel cs [] st len last pos buffer io_pos) : st = 0 ∧ io_pos = (cs.length : Int) := by
  obtain ⟨hb, k, f, tail, hk, hkle, hdec, hc⟩ := h
  rcases hc with ⟨hst, ht⟩ | ⟨_, L, v, hL0, _, _, _, hrem⟩ | ⟨_, L, P, l, hL0, _, _, hPL, hl, hrem⟩
  · subst ht
    exact ⟨hst, by rw [hk, Nat.le_antisymm hkle (List.drop_eq_nil_iff.mp (decFuel_nil f _ hdec))]⟩
  · have := congrArg List.length hrem
    simp at this; omega
  · have h1 := congrArg List.length hrem
    have h2 := congrArg List.length hl
    have c3 : RLE_BUF_SIZE = 128 := rfl
    rw [c3] at hPL hb
    simp at h1 h2
    omega

theorem dec_step_end (cs : List Byte) (fuel : Nat) (s : HCIcrle_decode.St) (hdone : s.done = false) (hio : s.io_in = bytes cs)
    (hrel : DecRel cs [] s.rle_rle_state s.rle_buf_length s.rle_last_byte s.rle_buf_pos s.rle_buffer s.io_pos) :
    HCIcrle_decode.loop0.body fuel s = { s with c_ := -1, ret := -1, done := true } := by
  obtain ⟨hst, hpos⟩ := decRel_nil cs _ _ _ _ _ _ hrel
  exact dec_body_end fuel s hst hdone (by rw [hio, bytes_length, hpos]; exact Int.le_refl _)

theorem dec_isLoop : H4.C2L.IsLoop HCIcrle_decode.loop0 (fun s => s.length > 0 ∧ ¬ s.done) HCIcrle_decode.loop0.body (fun s => s) :=
  .of_eqs (fun _ => rfl) (fun _ _ => rfl)

theorem dec_loop (cs : List Byte) : ∀ (fuel n : Nat) (s : HCIcrle_decode.St) (rem : List Byte) (A B : List Int) (i : Nat),
    n ≤ fuel → s.ub = false → s.done = false → s.oof = false → s.length = (n : Int) → n < 2 ^ 31 → s.buf_i = (i : Int) →
    s.buf = A ++ B → A.length = i → n ≤ B.length → s.io_in = bytes cs →
    DecRel cs rem s.rle_rle_state s.rle_buf_length s.rle_last_byte s.rle_buf_pos s.rle_buffer s.io_pos →
    let s' := HCIcrle_decode.loop0 fuel s
    s'.ub = false ∧ s'.oof = false ∧ s'.rle_offset = s.rle_offset ∧ s'.orig_length = s.orig_length ∧ s'.io_in = s.io_in ∧
      (n ≤ rem.length → s'.done = false ∧ s'.ret = s.ret ∧ s'.buf = A ++ bytes (rem.take n) ++ B.drop n ∧
        DecRel cs (rem.drop n) s'.rle_rle_state s'.rle_buf_length s'.rle_last_byte s'.rle_buf_pos s'.rle_buffer s'.io_pos) ∧
      (rem.length < n → s'.done = true ∧ s'.ret = -1 ∧ s'.buf = A ++ bytes rem ++ B.drop rem.length) := by
  intro fuel n
  induction n using Nat.strongRecOn generalizing fuel with
  | _ n ih =>
    intro s rem A B i hf hub hdone hoof hn hn32 hi hbuf hA hB hio hrel
    by_cases hn0 : n = 0
    · subst hn0
      rw [dec_isLoop.exit (by rw [hn]; simp)]
      exact ⟨hub, hoof, rfl, rfl, rfl, fun _ => ⟨hdone, rfl, by simp [hbuf], by simpa using hrel⟩, fun h => absurd h (Nat.not_lt_zero _)⟩
    · have hnpos : 0 < n := Nat.pos_of_ne_zero hn0
      obtain ⟨fuel, rfl⟩ : ∃ f, fuel = f + 1 := ⟨fuel - 1, by omega⟩
      have hc : s.length > 0 ∧ ¬ (s.done = true) := ⟨by rw [hn]; exact Int.ofNat_lt.mpr hnpos, by rw [hdone]; exact Bool.false_ne_true⟩
      rw [dec_isLoop.pass hc]
      by_cases hrem : rem = []
      · subst hrem
        rw [dec_step_end cs (fuel + 1) s hdone hio hrel, dec_isLoop.exit (by simp)]
        exact ⟨hub, hoof, rfl, rfl, rfl, fun h => absurd (Nat.le_zero.mp h) hn0, fun _ => ⟨rfl, rfl, by simp [hbuf]⟩⟩
      · obtain ⟨d, hd0, hdn, hdr, g1, g2, g3, g4, g5, g6, g7, g8, g9, g10, g11⟩ :=
          dec_step cs rem A B n i (fuel + 1) s hub hdone hn hnpos hn32 hi hbuf hA hB hio hrel hrem
        have hnext := ih (n - d) (Nat.sub_lt hnpos hd0) fuel (HCIcrle_decode.loop0.body (fuel + 1) s) (rem.drop d) (A ++ bytes (rem.take d))
          (B.drop d) (i + d) (Nat.le_of_lt_succ (Nat.lt_of_lt_of_le (Nat.sub_lt hnpos hd0) hf)) g1 g2 (by rw [g3, hoof]) g4
          (Nat.lt_of_le_of_lt (Nat.sub_le _ _) hn32) g5 (by rw [g6, List.append_assoc])
          (by rw [List.length_append, bytes_length, List.length_take, hA, Nat.min_eq_left hdr])
          (by rw [List.length_drop]; exact Nat.sub_le_sub_right hB d) (by rw [g7, hio]) g11
        obtain ⟨n1, n2, n3, n4, n5, n6, n7⟩ := hnext
        refine ⟨n1, n2, by rw [n3, g8], by rw [n4, g9], by rw [n5, g7], ?_, ?_⟩
        · intro hle
          obtain ⟨m1, m2, m3, m4⟩ := n6 (by rw [List.length_drop]; exact Nat.sub_le_sub_right hle d)
          rw [List.drop_drop, Nat.add_sub_cancel' hdn] at m3 m4
          refine ⟨m1, by rw [m2, g10], ?_, m4⟩
          rw [m3, List.append_assoc, List.append_assoc, ← List.append_assoc (bytes _), ← bytes_append, ← List.take_add,
            Nat.add_sub_cancel' hdn, List.append_assoc]
        · intro hlt
          obtain ⟨m1, m2, m3⟩ := n7 (by rw [List.length_drop]; exact Nat.sub_lt_sub_right hdr hlt)
          refine ⟨m1, m2, ?_⟩
          rw [m3, List.drop_drop, List.append_assoc, List.append_assoc, ← List.append_assoc (bytes _), ← bytes_append, List.take_append_drop,
            List.append_assoc, List.length_drop, Nat.add_sub_cancel' hdr]

/-- the state in which `HCIcrle_decode` enters its loop -/
def decStart (st len last : Int) (buffer : List Int) (pos offset length : Int) (buf io_in : List Int) (io_pos : Int) : HCIcrle_decode.St :=
  { rle_rle_state := st, rle_buf_length := len, rle_last_byte := last, rle_buffer := buffer, rle_buf_pos := pos, rle_offset := offset,
    length := length, buf := buf, io_in := io_in, io_pos := io_pos, orig_length := length }

/-- what `HCIcrle_decode` does after its loop: `offset += length; return SUCCEED` unless it has failed -/
def decFinish (s : HCIcrle_decode.St) : HCIcrle_decode.St :=
  if s.done then s else { s with rle_offset := s.rle_offset + s.orig_length, ret := 0, done := true }

theorem decFinish_of_not_done {s : HCIcrle_decode.St} (h : s.done = false) :
    decFinish s = { s with rle_offset := s.rle_offset + s.orig_length, ret := 0, done := true } := by
  simp only [decFinish, h, Bool.false_eq_true, if_false]

theorem decFinish_of_done {s : HCIcrle_decode.St} (h : s.done = true) : decFinish s = s := by simp only [decFinish, h, if_true]

theorem dec_unfold (fuel : Nat) (st len last : Int) (buffer : List Int) (pos offset length : Int) (buf io_in : List Int) (io_pos : Int) :
    HCIcrle_decode fuel st len last buffer pos offset length buf io_in io_pos =
      decFinish (HCIcrle_decode.loop0 fuel (decStart st len last buffer pos offset length buf io_in io_pos)) := by
  unfold HCIcrle_decode decFinish decStart
  simp only [HCIcrle_decode.St.set_orig_length, HCIcrle_decode.St.set_rle_offset, HCIcrle_decode.St.set_done]
  split <;> simp_all

theorem decRel_init (cs out : List Byte) (h : dec cs = some out) (len last pos : Int) (buffer : List Int) (hb : buffer.length = RLE_BUF_SIZE) :
    DecRel cs out 0 len last pos buffer 0 :=
  ⟨hb, 0, cs.length, out, rfl, Nat.zero_le _, by simpa [dec] using h, Or.inl ⟨rfl, rfl⟩⟩

end H4.Lemmas.C05Rle
