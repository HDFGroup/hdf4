import H4.Gen.Fn.Bitvect2
import H4.Lemmas.Bitvect
import H4.Lemmas.C2L
import H4.Lemmas.C2LLoop
/-! Lemmas for `H4.Props.C12Fn`: `bv_get`, `bv_set`, `bv_find_next_zero` of `hdf/src/bitvect.c`, as TRANSLATED from the C text
    (`H4.Gen.Fn.Bitvect2`, regenerated on every run), compute the hand-written model `H4.Bitvect` (`BV.get`, `BV.set`, `BV.findNextZero`).
    Each branch combination of a translated function is evaluated by one `simp only`; the left sides of `and_s32`, `or_s32` are what that
    `simp only` has made of the translator's `x & y`, `x | y` by the time it meets them. -/
namespace H4.Lemmas.C12Fn
open H4 H4.Bitvect H4.Gen.Bitvect H4.Gen.Fn.Bitvect2 H4.C2L

/-- the C state `(bits_used, array_size, last_zero, buffer)` of a `bv_struct` represents the model vector `m` -/
structure _root_.H4.Props.C12Fn.BVRel (m : BV) (bits_used array_size last_zero : Int) (buffer : List Int) : Prop where
  shape : Shape m
  bu : bits_used = m.bitsUsed
  as : array_size = m.arraySize
  lz : last_zero = m.lastZero
  buf : buffer = ints m.buf

open H4.Props.C12Fn (BVRel)

/-- a run that ends without undefined behaviour (`A`), with fuel left (`B`) and the right return value (`C`) leaves the model vector `m`
    when the four members are `m`'s; `Shape m` comes from the model -/
theorem BVRel.of_out {m : BV} (hS : Shape m) {A B C : Prop} {bu as lz : Int} {buf : List Int}
    (h : A ∧ B ∧ C ∧ bu = m.bitsUsed ∧ as = m.arraySize ∧ lz = m.lastZero ∧ buf = ints m.buf) : A ∧ B ∧ C ∧ BVRel m bu as lz buf :=
  ⟨h.1, h.2.1, h.2.2.1, hS, h.2.2.2.1, h.2.2.2.2.1, h.2.2.2.2.2.1, h.2.2.2.2.2.2⟩

/-- `x & C` at 32 bits (two's complement) for a byte `x` -/
theorem and_s32 (x C : Nat) (hx : x < 256) :
    (if 2147483648 ≤ Int.ofNat (((x : Int) % 4294967296).toNat &&& C) then Int.ofNat (((x : Int) % 4294967296).toNat &&& C) - 4294967296
     else Int.ofNat (((x : Int) % 4294967296).toNat &&& C)) = ((x &&& C : Nat) : Int) := by
  have h1 : ((x : Int) % 4294967296).toNat = x := by omega
  have h4 : x &&& C ≤ x := Nat.and_le_left
  rw [h1, if_neg (by simp only [Int.ofNat_eq_natCast]; omega)]; rfl

/-- `x | C` at 32 bits for two bytes, stored into a `uint8` cell -/
theorem or_s32 (x C : Nat) (hx : x < 256) (hC : C < 256) :
    (if 2147483648 ≤ Int.ofNat (((x : Int) % 4294967296).toNat ||| C) then Int.ofNat (((x : Int) % 4294967296).toNat ||| C) - 4294967296
     else Int.ofNat (((x : Int) % 4294967296).toNat ||| C)) % 256 = ((x ||| C : Nat) : Int) := by
  have h1 : ((x : Int) % 4294967296).toNat = x := by omega
  have h4 : x ||| C < 2 ^ 8 := Nat.or_lt_two_pow hx hC
  rw [h1, if_neg (by simp only [Int.ofNat_eq_natCast]; omega)]
  simp only [Int.ofNat_eq_natCast]; omega

theorem and_byte (x C : Nat) (hx : x < 256) : ((x &&& C : Nat) : Int) % 256 = ((x &&& C : Nat) : Int) := by
  have : x &&& C ≤ x := Nat.and_le_left
  omega

theorem bitValue_lt {k : Nat} (hk : k < 8) : bitValue k < 256 := by
  rw [bitValue_eq hk]; exact Nat.pow_lt_pow_right (by omega) hk

theorem value_u32 {k : Nat} (hk : k < 8) : (Int.ofNat (bv_bit_value.getD k 0) % 4294967296).toNat = bitValue k := by
  have := bitValue_lt hk
  show ((((bitValue k : Nat) : Int)) % 4294967296).toNat = _
  omega

/-- `~bv_bit_value[k]` at 32 bits -/
theorem not_value_u32 {k : Nat} (hk : k < 8) : ((-Int.ofNat (bv_bit_value.getD k 0) - 1) % 4294967296).toNat = 4294967295 - bitValue k := by
  have := bitValue_lt hk
  show ((-((bitValue k : Nat) : Int) - 1) % 4294967296).toNat = _
  omega

theorem and_not_value {x k : Nat} (hx : x < 256) (hk : k < 8) : x &&& (4294967295 - bitValue k) = x &&& (255 - bitValue k) := by
  have h1 : x &&& (4294967295 - bitValue k) ≤ x := Nat.and_le_left
  have h2 := bitValue_lt hk
  rw [← Nat.mod_eq_of_lt (Nat.lt_of_le_of_lt h1 hx), show 256 = 2 ^ 8 from rfl, Nat.and_mod_two_pow, Nat.mod_eq_of_lt hx,
    show (4294967295 - bitValue k) % 2 ^ 8 = 255 - bitValue k by omega]

theorem mask_u32 {k : Nat} (hk : k ≤ 8) : (Int.ofNat (bv_bit_mask.getD k 0) % 4294967296).toNat = bitMask k := by
  have : bitMask k < 256 := by
    rw [bitMask_eq hk]
    have : 2 ^ k ≤ 2 ^ 8 := Nat.pow_le_pow_right (by omega) hk
    omega
  show ((((bitMask k : Nat) : Int)) % 4294967296).toNat = _
  omega

theorem getD_append_zeros_lt {l : List Nat} (h : ∀ x ∈ l, x < 256) (k i : Nat) : (l ++ List.replicate k 0).getD i 0 < 256 := by
  rw [getD_append_zeros]; exact getD_lt_256 h i

theorem set_run (fuel : Nat) (m : BV) (hs : Shape m) (n : Nat) (hn : n < 2147483647) (v : Int) :
    let s := bv_set fuel false m.bitsUsed m.arraySize (ints m.buf) m.lastZero n v
    s.ub = false ∧ s.oof = false ∧ s.ret = 0 ∧
      BVRel (m.set n (decide (v ≠ 0))) s.b_bits_used s.b_array_size s.b_last_zero s.b_buffer := by
  dsimp only
  refine BVRel.of_out (set_shape hs _ _) ?_
  have hn0 : ¬ (n : Int) < 0 := by omega
  have hq : Int.tdiv (n : Int) 8 = ((n / 8 : Nat) : Int) := tdiv_nat n 8
  have hr : Int.tmod (n : Int) 8 = ((n % 8 : Nat) : Int) := tmod_nat n 8
  have hnc : ¬ n / 8 < m.arraySize →
      Int.tdiv (((n / 8 : Nat) : Int) + 1 - m.arraySize) 64 + 1 = (((n / 8 + 1 - m.arraySize) / 64 + 1 : Nat) : Int) := by
    intro h
    have : ((n / 8 : Nat) : Int) + 1 - m.arraySize = ((n / 8 + 1 - m.arraySize : Nat) : Int) := by omega
    rw [this, show (64 : Int) = ((64 : Nat) : Int) from rfl, tdiv_nat]; omega
  have he1 : ¬ n / 8 < m.arraySize → ((m.arraySize : Int) + (((n / 8 + 1 - m.arraySize) / 64 + 1 : Nat) : Int) * 64) % 18446744073709551616 =
      ((m.arraySize + ((n / 8 + 1 - m.arraySize) / 64 + 1) * 64 : Nat) : Int) := by intro h; omega
  have he2 : (((n / 8 + 1 - m.arraySize) / 64 + 1 : Nat) : Int) * 64 % 18446744073709551616 =
      ((((n / 8 + 1 - m.arraySize) / 64 + 1) * 64 : Nat) : Int) := by omega
  have he3 : (m.arraySize : Int) + ((((n / 8 + 1 - m.arraySize) / 64 + 1) * 64 : Nat) : Int) =
      ((m.arraySize + ((n / 8 + 1 - m.arraySize) / 64 + 1) * 64 : Nat) : Int) := by omega
  have hlen := hs.len
  have hk : n % 8 < 8 := Nat.mod_lt _ (by omega)
  have hx1 := getD_lt_256 hs.bytes (n / 8)
  have hx2 := getD_append_zeros_lt hs.bytes (((n / 8 + 1 - m.arraySize) / 64 + 1) * 64) (n / 8)
  have hused := hs.used
  have hbl : bv_bit_value.length = 8 := rfl
  have hn1 : (n : Int) + 1 = ((n + 1 : Nat) : Int) := rfl
  -- bit `n` is in use / beyond `bits_used` but inside the buffer / beyond the buffer (`realloc` by whole chunks)
  have hg : (¬ m.bitsUsed ≤ n ∧ n / 8 < m.arraySize) ∨ (m.bitsUsed ≤ n ∧ n / 8 < m.arraySize) ∨
      (m.bitsUsed ≤ n ∧ ¬ n / 8 < m.arraySize) := by omega
  rcases hg with ⟨h1, h2⟩ | ⟨h1, h2⟩ | ⟨h1, h2⟩ <;> by_cases hv : v = 0
  -- `if (base_elem < b->last_zero) b->last_zero = base_elem` is left an `if` between two states: `apply_ite` reads the fields through it
  all_goals
    simp only [bv_set, he1, he2, he3, Int.toNat_natCast, ints_length, hlen, realloc_memset _ _ _ (ints_length m.buf ▸ hlen),
      ints_append_zeros, ints_getD_nat, value_u32 hk, not_value_u32 hk, and_s32 _ _ hx1, and_s32 _ _ hx2, and_byte _ _ hx1, and_byte _ _ hx2, and_not_value hx1 hk, and_not_value hx2 hk,
      or_s32 _ _ hx1 (bitValue_lt hk), or_s32 _ _ hx2 (bitValue_lt hk), ints_set_clr, ints_set_or, Int.ofNat_le, Int.ofNat_lt, hv, h1, h2,
      apply_ite bv_set.St.done, apply_ite bv_set.St.ub, apply_ite bv_set.St.oof, apply_ite bv_set.St.b_bits_used, apply_ite bv_set.St.b_array_size,
      apply_ite bv_set.St.b_last_zero, apply_ite bv_set.St.b_buffer, apply_ite (Nat.cast (R := Int)), ite_self,
      bv_set.chk,
      hn0, hq, hr, hnc, hbl, hk, hn1, Int.natCast_nonneg, Nat.reduceEqDiff, and_true, true_and, and_self, Bool.or_self, Bool.false_eq_true, or_false, ↓reduceIte,
      ge_iff_le, Bool.or_false, Bool.false_or, ne_eq, not_false_eq_true, not_true_eq_false, decide_true, decide_false, Bool.not_true, Int.reduceMod,
      set_false_def, set_true_def, grow_def]
  -- left are the two cases with growth: the `memset` and the store lie inside the enlarged buffer, and the new `array_size`
  all_goals exact ⟨by simp [hlen]; omega, by omega⟩

/-- `bv_get` reads `bits_used` and the buffer only -/
theorem get_run (fuel : Nat) (m : BV) (hs : Shape m) (n : Nat) :
    let s := bv_get fuel false false m.bitsUsed (ints m.buf) n
    s.ub = false ∧ s.oof = false ∧ s.ret = m.get n ∧ s.b_bits_used = m.bitsUsed ∧ s.b_buffer = ints m.buf := by
  obtain ⟨hlen, hused, hbytes, hlzle⟩ := hs
  have hn0 : ¬ (n : Int) < 0 := by omega
  have hq : Int.tdiv (n : Int) 8 = ((n / 8 : Nat) : Int) := tdiv_nat n 8
  have hr : Int.tmod (n : Int) 8 = ((n % 8 : Nat) : Int) := tmod_nat n 8
  have c1 : ((m.bitsUsed : Int) ≤ n) = (m.bitsUsed ≤ n) := propext Int.ofNat_le
  have hx := getD_lt_256 hbytes (n / 8)
  have hk : n % 8 < 8 := Nat.mod_lt _ (by omega)
  have hbl : bv_bit_value.length = 8 := rfl
  unfold BV.get
  by_cases h1 : m.bitsUsed ≤ n
  all_goals
    simp only [bv_get, hn0, hq, hr, c1, h1, Int.toNat_natCast, ints_getD_nat, ints_length, hlen, value_u32 hk, and_s32 _ _ hx,
      bv_get.chk,
      Bool.false_eq_true, or_false, ↓reduceIte, and_true, true_and, 
      ge_iff_le, Bool.false_or, ne_eq, 
      consts.1]
  · rfl
  · refine ⟨?_, ?_⟩
    · simp [hbl]; omega
    · rw [Nat.shiftRight_eq_div_pow]
      simp

theorem fz_chk_true (s : bv_find_next_zero.St) (c : Prop) [Decidable c] (h : c) : bv_find_next_zero.chk s c = s := by
  simp [bv_find_next_zero.chk, h]

theorem skipFull_drop (buf : List Nat) (i by_ : Nat) :
    skipFull (buf.drop i) i by_ = if i < by_ ∧ buf.getD i 0 = 255 ∧ i < buf.length then skipFull (buf.drop (i + 1)) (i + 1) by_ else i := by
  by_cases hl : i < buf.length
  · rw [drop_cons_getD buf i hl, skipFull]
    simp only [List.getD_eq_getElem?_getD, hl, and_true]
  · rw [List.drop_of_length_le (by omega), skipFull]
    simp [hl]

/-- the loop test reads `*tmp_buf`: its bounds check comes first in every round, also in the one that leaves the loop -/
def fzChk (s : bv_find_next_zero.St) : bv_find_next_zero.St :=
  bv_find_next_zero.chk s (¬(s.i < s.bytes_used) ∨ (0 ≤ s.tmp_buf ∧ s.tmp_buf < s.b_buffer.length))

theorem isLoop0 : IsLoop bv_find_next_zero.loop0
    (fun s => ((s.i < s.bytes_used) ∧ ((s.b_buffer.getD (Int.toNat (s.tmp_buf)) 0) = 255)) ∧ ¬(s.done = true))
    (fun f s => bv_find_next_zero.loop0.body f (fzChk s)) fzChk :=
  .of_eqs (stuck := fun s => { fzChk s with oof := true }) (fun _ => rfl) (fun _ _ => rfl)

/-- the `while (i < bytes_used && *tmp_buf == 255) { i++; tmp_buf++; }` loop is the model's `skipFull` -/
theorem loop0_run (buf : List Nat) (by_ : Nat) (hby : by_ ≤ buf.length) :
    ∀ (fuel : Nat) (s : bv_find_next_zero.St), 0 ≤ s.i → s.tmp_buf = s.i → s.bytes_used = (by_ : Int) → s.b_buffer = ints buf →
      s.done = false → by_ - s.i.toNat ≤ fuel →
      bv_find_next_zero.loop0 fuel s =
        { s with i := ((skipFull (buf.drop s.i.toNat) s.i.toNat by_ : Nat) : Int),
                 tmp_buf := ((skipFull (buf.drop s.i.toNat) s.i.toNat by_ : Nat) : Int) } := by
  intro fuel s h0 ht hb hbuf hd hf
  obtain ⟨i, hi⟩ := Int.eq_ofNat_of_zero_le h0
  have hit : s.i.toNat = i := by omega
  rw [hit] at hf ⊢
  have hc : ¬(s.i < s.bytes_used) ∨ (0 ≤ s.tmp_buf ∧ s.tmp_buf < s.b_buffer.length) := by
    rw [ht, hb, hbuf, hi, ints_length]; omega
  -- the exit holds whatever the fuel; only a pass needs one unit of it and the statement at the fuel that is left
  by_cases hcond : i < by_ ∧ buf.getD i 0 = 255
  · have hcond' : ((s.i < s.bytes_used) ∧ ((s.b_buffer.getD (Int.toNat (s.tmp_buf)) 0) = 255)) ∧ ¬(s.done = true) := by
      rw [ht, hb, hbuf, hi, hd, Int.toNat_natCast, ints_getD_nat, hcond.2]; simp; omega
    match fuel, hf with
    | 0, hf => omega
    | f + 1, hf =>
      rw [isLoop0.pass hcond', fzChk, fz_chk_true _ _ hc]
      rw [loop0_run buf by_ hby f _ (by simp [bv_find_next_zero.loop0.body]; omega) (by simp [bv_find_next_zero.loop0.body, ht])
        (by simpa [bv_find_next_zero.loop0.body] using hb) (by simpa [bv_find_next_zero.loop0.body] using hbuf)
        (by simpa [bv_find_next_zero.loop0.body] using hd) (by simp [bv_find_next_zero.loop0.body, hi]; omega)]
      have : (bv_find_next_zero.loop0.body (f + 1) s).i.toNat = i + 1 := by simp [bv_find_next_zero.loop0.body, hi]
      rw [this, skipFull_drop buf i, if_pos ⟨hcond.1, hcond.2, by omega⟩]
      simp [bv_find_next_zero.loop0.body]
  · have hcond' : ¬ (((s.i < s.bytes_used) ∧ ((s.b_buffer.getD (Int.toNat (s.tmp_buf)) 0) = 255)) ∧ ¬(s.done = true)) := by
      rw [ht, hb, hbuf, hi, Int.toNat_natCast, ints_getD_nat]
      intro ⟨⟨h1, h2⟩, _⟩
      exact hcond ⟨by omega, by omega⟩
    rw [isLoop0.exit hcond', fzChk, fz_chk_true _ _ hc, skipFull_drop buf i, if_neg (fun h => hcond ⟨h.1, h.2.1⟩)]
    cases s; cases ht; cases hi; rfl

theorem fz_run (fuel : Nat) (m : BV) (hs : Shape m) (hf : m.bitsUsed / 8 ≤ fuel) (hbu : m.bitsUsed < 2147483647) :
    let s := bv_find_next_zero fuel false false m.bitsUsed m.lastZero (ints m.buf) m.arraySize
    s.ub = false ∧ s.oof = false ∧ s.ret = m.findNextZero.1 ∧
      BVRel m.findNextZero.2 s.b_bits_used s.b_array_size s.b_last_zero s.b_buffer := by
  dsimp only
  refine BVRel.of_out (findNextZero_shape hs) ?_
  obtain ⟨k1, k2, k3, _, k4, k5, k6, k7⟩ := set_run fuel m hs m.bitsUsed hbu 0
  obtain ⟨hlen, hused, hbytes, hlzle⟩ := hs
  have hby : m.bitsUsed / 8 ≤ m.buf.length := by omega
  obtain ⟨s1, s2, s3, s4, s5⟩ := skipFull_spec (m.buf.drop m.lastZero) m.lastZero (m.bitsUsed / 8)
  rw [findNextZero_def]
  unfold BV.firstNonFull
  generalize hj : skipFull (m.buf.drop m.lastZero) m.lastZero (m.bitsUsed / 8) = j at *
  have hjle : j ≤ m.bitsUsed / 8 := s5 hlzle
  have hlz0 : (m.lastZero : Int) ≥ 0 := by omega
  have hq : Int.tdiv (m.bitsUsed : Int) 8 = ((m.bitsUsed / 8 : Nat) : Int) := tdiv_nat _ 8
  have c1 : ((j : Int) < ((m.bitsUsed / 8 : Nat) : Int)) = (j < m.bitsUsed / 8) := propext Int.ofNat_lt
  have c2 : (((m.bitsUsed / 8 : Nat) : Int) * 8 < (m.bitsUsed : Int)) = (m.bitsUsed / 8 * 8 < m.bitsUsed) := propext (by omega)
  have c3 : (m.bitsUsed : Int) - ((m.bitsUsed / 8 : Nat) : Int) * 8 = ((m.bitsUsed - m.bitsUsed / 8 * 8 : Nat) : Int) := by omega
  have hx := getD_lt_256 hbytes j
  have c4 : ((((m.buf.getD j 0 &&& bitMask (m.bitsUsed - m.bitsUsed / 8 * 8) : Nat) : Int)) = 255) =
      (m.buf.getD j 0 &&& bitMask (m.bitsUsed - m.bitsUsed / 8 * 8) = 255) := propext (by omega)
  have hf' : m.bitsUsed / 8 - m.lastZero ≤ fuel := by omega
  have hbl : bv_first_zero.length = 256 := by decide +kernel
  have hne : ((0 : Int) = -1) = False := by decide
  have h255 : ((255 : Nat) : Int) = 255 := rfl
  have hml : bv_bit_mask.length = 9 := rfl
  have hsl : m.buf.getD j 0 &&& bitMask (m.bitsUsed - m.bitsUsed / 8 * 8) < 256 := Nat.lt_of_le_of_lt Nat.and_le_left hx
  have hn9 : ((m.bitsUsed - m.bitsUsed / 8 * 8 : Nat) : Int) < 9 := by omega
  have hxi : ((m.buf.getD j 0 : Nat) : Int) < 256 := by omega
  have hsli : ((m.buf.getD j 0 &&& bitMask (m.bitsUsed - m.bitsUsed / 8 * 8) : Nat) : Int) < 256 := by omega
  have hja1 : j < m.bitsUsed / 8 → j < m.arraySize := by omega
  have hja2 : m.bitsUsed / 8 * 8 < m.bitsUsed → j < m.arraySize := by omega
  -- four ways through (`h2`, `h3` matter only where `h1` fails): byte `j` is a whole byte in use, so it has a clear bit; else the last
  -- byte is partly used and its bits in use are all set (`h3`) / are not; or every byte in use is whole.  The context is the simp set.
  by_cases h1 : j < m.bitsUsed / 8
  rotate_left
  by_cases h2 : m.bitsUsed / 8 * 8 < m.bitsUsed
  by_cases h3 : m.buf.getD j 0 &&& bitMask (m.bitsUsed - m.bitsUsed / 8 * 8) = 255
  all_goals
    simp only [*, bv_find_next_zero, loop0_run m.buf (m.bitsUsed / 8) hby, Int.toNat_natCast, Int.natCast_nonneg,
      mask_u32 (k := m.bitsUsed - m.bitsUsed / 8 * 8) (by omega), and_s32 _ _ hx, and_byte _ _ hx, ints_getD_nat, ints_length,
      bv_find_next_zero.chk, bv_find_next_zero.St.join, Bool.false_eq_true, or_false, ↓reduceIte, and_true, and_false, true_and, false_and,
      ge_iff_le, Bool.or_false, ne_eq, not_false_eq_true, not_true_eq_false, decide_true, decide_false, Bool.not_true, Int.reduceMod,
      Nat.reduceEqDiff, Int.ofNat_lt, firstZero, Int.natCast_add, Int.natCast_mul, Int.cast_ofNat_Int, and_self]
  all_goals rfl

end H4.Lemmas.C12Fn
