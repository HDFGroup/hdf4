import H4.VData
import Mathlib.Tactic.Ring
/-! Vdata record transfer (C07): the loops of `VSread`/`VSwrite` as lists of byte moves (`applyMoves`; `applyVals` for `VSfpack`),
    record layouts (prefix sums, injectivity), the transfer specification of all interlace cases; then the write list of `VSsetfields` (one step of its loop is `goStep`) and the field programs of `VSfpack`.
    What a transfer does to its destination is said as a patch (`Patched`): these cells get these bytes, every other cell
    stays; patches compose (`append`) and determine the result (`unique`), which is all the chunk loops need. -/
namespace H4.VData
open H4.Gen.Hdf H4.Gen.Vs

theorem getB_eq (b : Buf) (i : Nat) : getB b i = b[i]?.getD 0 := by
  simp [getB]

theorem getB_set (d : Buf) (i p : Nat) (v : Byte) :
    getB (d.setIfInBounds i v) p = if p = i ∧ i < d.size then v else getB d p := by
  simp only [getB_eq, Array.getElem?_setIfInBounds]
  by_cases h : i = p
  · subst h
    by_cases h2 : i < d.size
    · simp [h2]
    · simp [h2]
  · have : ¬ p = i := fun e => h e.symm
    simp [h, this]

theorem getB_extract {store : Buf} {s len x : Nat} (h : s + len ≤ store.size) (hx : x < len) :
    getB (store.extract s (s + len)) x = getB store (s + x) := by
  simp only [getB_eq, Array.getElem?_extract]
  have : x < min (s + len) store.size - s := by omega
  simp [this]

theorem buf_ext {a b : Buf} (hs : a.size = b.size) (h : ∀ p < a.size, getB a p = getB b p) : a = b := by
  apply Array.ext hs
  intro i h1 h2
  have := h i h1
  simp only [getB_eq, Array.getElem?_eq_getElem h1, Array.getElem?_eq_getElem h2, Option.getD_some] at this
  exact this

/-- sizes are stated apart: `Hwrite` extends its buffer -/
structure Patched {ι : Type} (b b' : Buf) (P : ι → Prop) (D : ι → Nat) (V : ι → Byte) : Prop where
  hit : ∀ c, P c → getB b' (D c) = V c
  miss : ∀ p, (∀ c, P c → D c ≠ p) → getB b' p = getB b p

section
variable {ι ι' : Type} {b b' b1 b2 : Buf} {P P1 P2 : ι → Prop} {D : ι → Nat} {V : ι → Byte}

theorem Patched.unique (h1 : Patched b b1 P D V) (h2 : Patched b b2 P D V) (hs : b1.size = b2.size) : b1 = b2 := by
  refine buf_ext hs fun p _ => ?_
  by_cases hp : ∃ c, P c ∧ D c = p
  · obtain ⟨c, hc, rfl⟩ := hp
    rw [h1.hit c hc, h2.hit c hc]
  · have hne : ∀ c, P c → D c ≠ p := fun c hc e => hp ⟨c, hc, e⟩
    rw [h1.miss p hne, h2.miss p hne]

theorem Patched.none (h : ∀ c, ¬ P c) : Patched b b P D V := ⟨fun c hc => absurd hc (h c), fun _ _ => rfl⟩

theorem Patched.self (h : ∀ c, P c → getB b (D c) = V c) : Patched b b P D V := ⟨h, fun _ _ => rfl⟩

theorem Patched.append (h1 : Patched b b1 P1 D V) (h2 : Patched b1 b2 P2 D V)
    (hd : ∀ c c', P1 c → P2 c' → D c' ≠ D c) (hP : ∀ c, P c ↔ P1 c ∨ P2 c) : Patched b b2 P D V where
  hit c hc := by
    rcases (hP c).mp hc with h | h
    · rw [h2.miss _ (fun c' hc' => hd c c' h hc'), h1.hit c h]
    · exact h2.hit c h
  miss p hp := by
    rw [h2.miss p (fun c hc => hp c ((hP c).mpr (Or.inr hc))), h1.miss p (fun c hc => hp c ((hP c).mpr (Or.inl hc)))]

theorem Patched.reindex (h : Patched b b' P D V) {P' : ι' → Prop} {D' : ι' → Nat} {V' : ι' → Byte} (f : ι' → ι)
    (hf : ∀ c', P' c' → P (f c') ∧ D' c' = D (f c') ∧ V' c' = V (f c')) (hs : ∀ c, P c → ∃ c', P' c' ∧ D' c' = D c) :
    Patched b b' P' D' V' where
  hit c' hc' := by
    obtain ⟨h1, h2, h3⟩ := hf c' hc'
    rw [h2, h3]; exact h.hit _ h1
  miss p hp := h.miss p fun c hc e => by
    obtain ⟨c', hc', e'⟩ := hs c hc
    exact hp c' hc' (e'.trans e)

theorem Patched.miss_range (h : Patched b b' P D V) {lo hi : Nat} (hD : ∀ c, P c → lo ≤ D c ∧ D c < hi) {p : Nat}
    (hp : p < lo ∨ hi ≤ p) : getB b' p = getB b p :=
  h.miss p fun c hc e => by have := hD c hc; omega

theorem Patched.congr (h : Patched b b' P D V) {D' : ι → Nat} {V' : ι → Byte} (hD : ∀ c, P c → D' c = D c)
    (hV : ∀ c, P c → V' c = V c) : Patched b b' P D' V' :=
  h.reindex id (fun c hc => ⟨hc, hD c hc, hV c hc⟩) (fun c hc => ⟨c, hc, hD c hc⟩)
end

def applyVals (vs : List (Nat × Byte)) (dst : Buf) : Buf := vs.foldl (fun d m => d.setIfInBounds m.1 m.2) dst

@[simp] theorem size_applyVals (vs : List (Nat × Byte)) (dst : Buf) : (applyVals vs dst).size = dst.size := by
  induction vs generalizing dst with
  | nil => rfl
  | cons m t ih => simp [applyVals, List.foldl_cons] at ih ⊢; rw [ih]; simp

theorem applyVals_append (a b : List (Nat × Byte)) (dst : Buf) : applyVals (a ++ b) dst = applyVals b (applyVals a dst) := by
  simp [applyVals, List.foldl_append]

theorem foldl_applyVals {α : Type} (g : α → List (Nat × Byte)) (xs : List α) (dst : Buf) :
    xs.foldl (fun d x => applyVals (g x) d) dst = applyVals (xs.flatMap g) dst := by
  induction xs generalizing dst with
  | nil => rfl
  | cons x t ih => rw [List.foldl_cons, ih, List.flatMap_cons, applyVals_append]

theorem applyVals_notin {vs : List (Nat × Byte)} {dst : Buf} {p : Nat} (h : ∀ m ∈ vs, m.1 ≠ p) :
    getB (applyVals vs dst) p = getB dst p := by
  induction vs generalizing dst with
  | nil => rfl
  | cons m t ih =>
    simp only [applyVals, List.foldl_cons] at ih ⊢
    rw [ih (fun m' hm' => h m' (List.mem_cons_of_mem _ hm')), getB_set]
    have := h m List.mem_cons_self
    rw [if_neg (fun e => this e.1.symm)]

theorem applyVals_mem {vs : List (Nat × Byte)} {dst : Buf} {m : Nat × Byte} (hm : m ∈ vs) (hb : m.1 < dst.size)
    (hag : ∀ m' ∈ vs, m'.1 = m.1 → m'.2 = m.2) : getB (applyVals vs dst) m.1 = m.2 := by
  induction vs generalizing dst m with
  | nil => cases hm
  | cons h t ih =>
    simp only [applyVals, List.foldl_cons] at ih ⊢
    by_cases c : ∃ m' ∈ t, m'.1 = m.1
    · obtain ⟨m', hm', e⟩ := c
      have := ih (dst := dst.setIfInBounds h.1 h.2) (m := m') hm' (by simp; omega)
        (fun a ha ea => by rw [hag a (List.mem_cons_of_mem _ ha) (ea.trans e), hag m' (List.mem_cons_of_mem _ hm') e])
      rw [e] at this
      rw [this, hag m' (List.mem_cons_of_mem _ hm') e]
    · have hne : ∀ m' ∈ t, m'.1 ≠ m.1 := fun m' hm' e => c ⟨m', hm', e⟩
      have := applyVals_notin (dst := dst.setIfInBounds h.1 h.2) hne
      simp only [applyVals] at this
      rw [this, getB_set]
      rcases List.mem_cons.mp hm with e | e
      · subst e; simp [hb]
      · exact absurd rfl (hne m e)

theorem patched_vals {ι : Type} {dst : Buf} {vs : List (Nat × Byte)} (P : ι → Prop) (D : ι → Nat) (V : ι → Byte)
    (hmem : ∀ m, m ∈ vs ↔ ∃ c, P c ∧ m = (D c, V c))
    (hinj : ∀ c c', P c → P c' → D c = D c' → V c = V c')
    (hb : ∀ c, P c → D c < dst.size) : Patched dst (applyVals vs dst) P D V where
  hit c hc := by
    have hm : (D c, V c) ∈ vs := (hmem _).mpr ⟨c, hc, rfl⟩
    exact applyVals_mem (dst := dst) hm (hb c hc) (by
      intro m' hm' e
      obtain ⟨c', hc', rfl⟩ := (hmem _).mp hm'
      exact hinj c' c hc' hc e)
  miss p hp := by
    apply applyVals_notin
    intro m hm e
    obtain ⟨c, hc, rfl⟩ := (hmem _).mp hm
    exact hp c hc e

def applyMoves (src : Buf) (ms : List (Nat × Nat)) (dst : Buf) : Buf :=
  ms.foldl (fun d m => d.setIfInBounds m.1 (getB src m.2)) dst

theorem applyMoves_eq_vals (src : Buf) (ms : List (Nat × Nat)) (dst : Buf) :
    applyMoves src ms dst = applyVals (ms.map fun m => (m.1, getB src m.2)) dst := by
  simp [applyMoves, applyVals, List.foldl_map]

@[simp] theorem size_applyMoves (src : Buf) (ms : List (Nat × Nat)) (dst : Buf) :
    (applyMoves src ms dst).size = dst.size := by
  rw [applyMoves_eq_vals, size_applyVals]

theorem applyMoves_append (src : Buf) (a b : List (Nat × Nat)) (dst : Buf) :
    applyMoves src (a ++ b) dst = applyMoves src b (applyMoves src a dst) := by
  simp [applyMoves, List.foldl_append]

theorem patched_moves {ι : Type} {src dst : Buf} {ms : List (Nat × Nat)} (P : ι → Prop) (D S : ι → Nat)
    (hmem : ∀ m, m ∈ ms ↔ ∃ c, P c ∧ m = (D c, S c))
    (hinj : ∀ c c', P c → P c' → D c = D c' → S c = S c')
    (hb : ∀ c, P c → D c < dst.size) : Patched dst (applyMoves src ms dst) P D fun c => getB src (S c) := by
  rw [applyMoves_eq_vals]
  refine patched_vals P D (fun c => getB src (S c)) (fun m => ?_) (fun c c' hc hc' e => by rw [hinj c c' hc hc' e]) hb
  simp only [List.mem_map]
  constructor
  · rintro ⟨m', hm', rfl⟩
    obtain ⟨c, hc, rfl⟩ := (hmem m').mp hm'
    exact ⟨c, hc, rfl⟩
  · rintro ⟨c, hc, rfl⟩
    exact ⟨(D c, S c), (hmem _).mpr ⟨c, hc, rfl⟩, rfl⟩

/-- `swap`: the kernels `DFKsb*b`, which mirror the bytes inside an element -/
def mir (swap : Bool) (t b : Nat) : Nat := if swap then t - 1 - b else b

theorem mir_lt {swap : Bool} {t b : Nat} (h : b < t) : mir swap t b < t := by
  unfold mir; split <;> omega

theorem mir_mir {swap : Bool} {t b : Nat} (h : b < t) : mir swap t (mir swap t b) = b := by
  unfold mir; cases swap <;> simp <;> omega

def elemMoves (tsz : Nat) (swap : Bool) (s d : Nat) : List (Nat × Nat) :=
  (List.range tsz).map fun b => (d + b, s + mir swap tsz b)

theorem copyElem_eq (tsz : Nat) (swap : Bool) (src : Buf) (s : Nat) (dst : Buf) (d : Nat) :
    copyElem tsz swap src s dst d = applyMoves src (elemMoves tsz swap s d) dst := by
  simp [copyElem, applyMoves, elemMoves, List.foldl_map, mir]

theorem foldl_applyMoves {α : Type} (src : Buf) (g : α → List (Nat × Nat)) (xs : List α) (dst : Buf) :
    xs.foldl (fun d x => applyMoves src (g x) d) dst = applyMoves src (xs.flatMap g) dst := by
  induction xs generalizing dst with
  | nil => rfl
  | cons x t ih => rw [List.foldl_cons, ih, List.flatMap_cons, applyMoves_append]

/-- effective strides of `DFKconvert`: `(0,0)` means contiguous -/
def effS (tsz ss ds : Nat) : Nat := if ss = 0 ∧ ds = 0 then tsz else ss
def effD (tsz ss ds : Nat) : Nat := if ss = 0 ∧ ds = 0 then tsz else ds

def convMoves (tsz : Nat) (swap : Bool) (s d n ss ds : Nat) : List (Nat × Nat) :=
  (List.range n).flatMap fun i => elemMoves tsz swap (s + i * effS tsz ss ds) (d + i * effD tsz ss ds)

theorem dfkConvert_eq (tsz : Nat) (swap : Bool) (src : Buf) (s : Nat) (dst : Buf) (d n ss ds : Nat) :
    dfkConvert tsz swap src s dst d n ss ds = applyMoves src (convMoves tsz swap s d n ss ds) dst := by
  simp only [dfkConvert, copyElem_eq, convMoves, effS, effD]
  exact foldl_applyMoves src _ _ _

def idxMoves (f : Field) (s d n ss ds sadv dadv : Nat) : List (Nat × Nat) :=
  (List.range f.order).flatMap fun idx => convMoves f.tsz f.swap (s + idx * sadv) (d + idx * dadv) n ss ds

theorem ptrFold_eq (src : Buf) (g : Nat → Nat → List (Nat × Nat)) (a c : Nat) (k : Nat) (dst : Buf) (s d : Nat) :
    (List.range k).foldl (fun (st : Buf × Nat × Nat) _ => (applyMoves src (g st.2.1 st.2.2) st.1, st.2.1 + a, st.2.2 + c)) (dst, s, d)
      = (applyMoves src ((List.range k).flatMap fun idx => g (s + idx * a) (d + idx * c)) dst, s + k * a, d + k * c) := by
  induction k with
  | zero => simp [applyMoves]
  | succ k ih =>
    rw [List.range_succ, List.foldl_append, ih]
    simp only [List.foldl_cons, List.foldl_nil, List.flatMap_append, List.flatMap_cons, List.flatMap_nil, List.append_nil,
      applyMoves_append]
    congr 2 <;> ring

theorem indexLoop_eq (f : Field) (src dst : Buf) (s d n ss ds sadv dadv : Nat) :
    indexLoop f src dst s d n ss ds sadv dadv
      = (applyMoves src (idxMoves f s d n ss ds sadv dadv) dst, s + f.order * sadv, d + f.order * dadv) := by
  simp only [indexLoop, dfkConvert_eq]
  exact ptrFold_eq src (fun s d => convMoves f.tsz f.swap s d n ss ds) sadv dadv f.order dst s d

theorem mem_idxMoves {f : Field} {s d n ss ds sadv dadv : Nat} {m : Nat × Nat} :
    m ∈ idxMoves f s d n ss ds sadv dadv ↔
      ∃ idx < f.order, ∃ i < n, ∃ b < f.tsz,
        (d + idx * dadv + i * effD f.tsz ss ds + b, s + idx * sadv + i * effS f.tsz ss ds + mir f.swap f.tsz b) = m := by
  simp only [idxMoves, convMoves, elemMoves, List.mem_flatMap, List.mem_map, List.mem_range]

def fieldMoves {α : Type} (mv : α → Nat → List (Nat × Nat)) (h : α → Nat) : List α → Nat → List (Nat × Nat)
  | [], _ => []
  | x :: xs, o => mv x o ++ fieldMoves mv h xs (o + h x)

theorem fieldFold_eq {α : Type} (src : Buf) (mv : α → Nat → List (Nat × Nat)) (h : α → Nat) (xs : List α) (o : Nat) (dst : Buf) :
    xs.foldl (fun (st : Buf × Nat) x => (applyMoves src (mv x st.2) st.1, st.2 + h x)) (dst, o)
      = (applyMoves src (fieldMoves mv h xs o) dst, o + (xs.map h).sum) := by
  induction xs generalizing o dst with
  | nil => simp [fieldMoves, applyMoves]
  | cons x t ih =>
    rw [List.foldl_cons, ih]
    simp only [fieldMoves, applyMoves_append, List.map_cons, List.sum_cons]
    congr 1; ring

def pre (szs : List Nat) (j : Nat) : Nat := (szs.take j).sum

theorem mem_fieldMoves {α : Type} {mv : α → Nat → List (Nat × Nat)} {h : α → Nat} {xs : List α} {o : Nat} {m : Nat × Nat} :
    m ∈ fieldMoves mv h xs o ↔ ∃ j, ∃ hj : j < xs.length, m ∈ mv xs[j] (o + pre (xs.map h) j) := by
  induction xs generalizing o with
  | nil => simp [fieldMoves]
  | cons x t ih =>
    simp only [fieldMoves, List.mem_append, ih]
    constructor
    · rintro (hm | ⟨j, hj, hm⟩)
      · exact ⟨0, by simp, by simpa [pre] using hm⟩
      · exact ⟨j + 1, by simp; omega, by simpa [pre, Nat.add_assoc] using hm⟩
    · rintro ⟨_ | j, hj, hm⟩
      · left; simpa [pre] using hm
      · right; exact ⟨j, by simpa using hj, by simpa [pre, Nat.add_assoc] using hm⟩


theorem pre_succ {szs : List Nat} {j : Nat} (h : j < szs.length) : pre szs (j + 1) = pre szs j + szs[j] := by
  induction szs generalizing j with
  | nil => simp at h
  | cons a t ih =>
    cases j with
    | zero => simp [pre]
    | succ j =>
      simp only [pre, List.take_succ_cons, List.sum_cons, List.getElem_cons_succ] at ih ⊢
      rw [ih (by simpa using h)]; omega

theorem pre_succ_getD (szs : List Nat) (j : Nat) (h : j < szs.length) : pre szs (j + 1) = pre szs j + szs.getD j 0 := by
  rw [pre_succ h]; simp [h]

theorem pre_ge_length {szs : List Nat} {j : Nat} (h : szs.length ≤ j) : pre szs j = szs.sum := by
  simp [pre, List.take_of_length_le h]

theorem pre_mono (szs : List Nat) {j j' : Nat} (h : j ≤ j') : pre szs j ≤ pre szs j' := by
  obtain ⟨d, rfl⟩ := Nat.exists_eq_add_of_le h
  simp only [pre, List.take_add, List.sum_append]; omega

theorem pre_le_sum (szs : List Nat) (j : Nat) : pre szs j ≤ szs.sum := by
  rw [← pre_ge_length (Nat.le_max_left szs.length j)]
  exact pre_mono szs (Nat.le_max_right _ _)

theorem pre_add_le {szs : List Nat} {j j' : Nat} (hj' : j < j') (h : j < szs.length) : pre szs j + szs[j] ≤ pre szs j' := by
  rw [← pre_succ h]; exact pre_mono szs hj'

theorem pre_add_le_sum {szs : List Nat} {j : Nat} (h : j < szs.length) : pre szs j + szs[j] ≤ szs.sum := by
  rw [← pre_succ h]; exact pre_le_sum _ _

theorem interval_inj {szs : List Nat} {j j' e e' : Nat} (hj : j < szs.length) (hj' : j' < szs.length)
    (he : e < szs[j]) (he' : e' < szs[j']) (h : pre szs j + e = pre szs j' + e') : j = j' ∧ e = e' := by
  rcases Nat.lt_trichotomy j j' with c | c | c
  · have := pre_add_le c hj; omega
  · subst c; exact ⟨rfl, by omega⟩
  · have := pre_add_le c hj'; omega

theorem pre_cover (szs : List Nat) {y : Nat} (hy : y < szs.sum) : ∃ j, ∃ hj : j < szs.length, ∃ e < szs[j], y = pre szs j + e := by
  induction szs generalizing y with
  | nil => simp at hy
  | cons a t ih =>
    by_cases c : y < a
    · exact ⟨0, by simp, y, by simpa using c, by simp [pre]⟩
    · obtain ⟨j, hj, e, he, h⟩ := ih (y := y - a) (by simp at hy; omega)
      refine ⟨j + 1, by simp; omega, e, by simpa using he, ?_⟩
      simp only [pre, List.take_succ_cons, List.sum_cons] at h ⊢
      omega

/-- address of byte 0 of field `j` of record `r` in a buffer holding `n` records of fields with sizes `szs`:
    record-major (`FULL_INTERLACE`) or field-major (`NO_INTERLACE`) -/
def layoutAddr (full : Bool) (szs : List Nat) (n r j : Nat) : Nat :=
  if full then r * szs.sum + pre szs j else pre szs j * n + r * szs.getD j 0

theorem getD_getElem {α : Type} {xs : List α} {j : Nat} (h : j < xs.length) (d : α) : xs.getD j d = xs[j] := by
  simp [List.getD_eq_getElem?_getD, h]

theorem mul_add_lt {r n sz e : Nat} (hr : r < n) (he : e < sz) : r * sz + e < n * sz := by
  calc r * sz + e < r * sz + sz := by omega
    _ = (r + 1) * sz := by ring
    _ ≤ n * sz := Nat.mul_le_mul_right _ hr

theorem div_mod_unique {C m c m' c' : Nat} (hc : c < C) (hc' : c' < C) (h : m * C + c = m' * C + c') :
    m = m' ∧ c = c' := by
  have hC : 0 < C := by omega
  have e1 : (m * C + c) / C = m := by
    rw [Nat.add_comm, Nat.add_mul_div_right _ _ hC, Nat.div_eq_of_lt hc]; simp
  have e2 : (m' * C + c') / C = m' := by
    rw [Nat.add_comm, Nat.add_mul_div_right _ _ hC, Nat.div_eq_of_lt hc']; simp
  have hm : m = m' := by rw [← e1, ← e2, h]
  subst hm
  exact ⟨rfl, by omega⟩

theorem layoutAddr_inj {full : Bool} {szs : List Nat} {n r j e r' j' e' : Nat}
    (hj : j < szs.length) (hj' : j' < szs.length) (he : e < szs[j]) (he' : e' < szs[j'])
    (hr : r < n) (hr' : r' < n)
    (h : layoutAddr full szs n r j + e = layoutAddr full szs n r' j' + e') : r = r' ∧ j = j' ∧ e = e' := by
  cases full with
  | true =>
    simp only [layoutAddr, if_true] at h
    have b1 := pre_add_le_sum hj
    have b2 := pre_add_le_sum hj'
    obtain ⟨h1, h2⟩ := div_mod_unique (C := szs.sum) (m := r) (m' := r') (c := pre szs j + e) (c' := pre szs j' + e')
      (by omega) (by omega) (by omega)
    obtain ⟨h3, h4⟩ := interval_inj hj hj' he he' h2
    exact ⟨h1, h3, h4⟩
  | false =>
    simp only [layoutAddr, Bool.false_eq_true, if_false, getD_getElem hj 0, getD_getElem hj' 0] at h
    have u1 := mul_add_lt hr he
    have u2 := mul_add_lt hr' he'
    rw [Nat.mul_comm n] at u1 u2
    have key : j = j' := by
      rcases Nat.lt_trichotomy j j' with c | c | c
      · have := Nat.mul_le_mul_right n (pre_add_le c hj)
        rw [Nat.add_mul] at this; omega
      · exact c
      · have := Nat.mul_le_mul_right n (pre_add_le c hj')
        rw [Nat.add_mul] at this; omega
    subst key
    obtain ⟨h1, h2⟩ := div_mod_unique (C := szs[j]) (m := r) (m' := r') he he' (by omega)
    exact ⟨h1, rfl, h2⟩

theorem layoutAddr_lt {full : Bool} {szs : List Nat} {n r j e : Nat} (hj : j < szs.length) (he : e < szs[j]) (hr : r < n) :
    layoutAddr full szs n r j + e < n * szs.sum := by
  cases full with
  | true =>
    simp only [layoutAddr, if_true]
    have b1 := pre_add_le_sum hj
    have := mul_add_lt (sz := szs.sum) (e := pre szs j + e) hr (by omega)
    omega
  | false =>
    simp only [layoutAddr, Bool.false_eq_true, if_false, getD_getElem hj 0]
    have u1 := mul_add_lt hr he
    have := Nat.mul_le_mul_right n (pre_add_le_sum hj)
    rw [Nat.add_mul] at this
    calc pre szs j * n + r * szs[j] + e < pre szs j * n + n * szs[j] := by omega
      _ = pre szs j * n + szs[j] * n := by ring
      _ ≤ szs.sum * n := this
      _ = n * szs.sum := by ring


theorem cover_no (szs : List Nat) (n : Nat) {x : Nat} (hx : x < szs.sum * n) :
    ∃ r < n, ∃ j, ∃ hj : j < szs.length, ∃ e < szs[j], x = pre szs j * n + r * szs[j] + e := by
  induction szs generalizing x with
  | nil => simp at hx
  | cons a t ih =>
    by_cases c : x < a * n
    · have ha : 0 < a := Nat.pos_of_ne_zero fun h => by rw [h, Nat.zero_mul] at c; exact Nat.not_lt_zero _ c
      refine ⟨x / a, by rw [Nat.div_lt_iff_lt_mul ha, Nat.mul_comm]; exact c, 0, by simp, x % a, Nat.mod_lt _ ha, ?_⟩
      have := Nat.div_add_mod x a
      simp only [pre, List.take_zero, List.sum_nil, Nat.zero_mul, Nat.zero_add, List.getElem_cons_zero]
      rw [Nat.mul_comm]; exact this.symm
    · obtain ⟨r, hr, j, hj, e, he, h⟩ := ih (x := x - a * n) (by simp only [List.sum_cons, Nat.add_mul] at hx; omega)
      refine ⟨r, hr, j + 1, by simp; omega, e, by simpa using he, ?_⟩
      simp only [pre, List.take_succ_cons, List.sum_cons, List.getElem_cons_succ, Nat.add_mul] at h ⊢
      omega

theorem layoutAddr_cover (full : Bool) (szs : List Nat) {n x : Nat} (hx : x < n * szs.sum) :
    ∃ r < n, ∃ j, ∃ hj : j < szs.length, ∃ e < szs[j], x = layoutAddr full szs n r j + e := by
  cases full with
  | true =>
    have hs : 0 < szs.sum := Nat.pos_of_ne_zero fun h => by rw [h] at hx; exact Nat.not_lt_zero _ hx
    obtain ⟨j, hj, e, he, h⟩ := pre_cover szs (Nat.mod_lt x hs)
    refine ⟨x / szs.sum, by rw [Nat.div_lt_iff_lt_mul hs]; exact hx, j, hj, e, he, ?_⟩
    have := Nat.div_add_mod x szs.sum
    simp only [layoutAddr, if_true]
    rw [Nat.mul_comm] at this; omega
  | false =>
    obtain ⟨r, hr, j, hj, e, he, h⟩ := cover_no szs n (by rw [Nat.mul_comm]; exact hx)
    exact ⟨r, hr, j, hj, e, he, by simp only [layoutAddr, Bool.false_eq_true, if_false, getD_getElem hj 0]; exact h⟩


/-- parameters of one of the eight field loops of `VSread`/`VSwrite` -/
structure LoopPar (α : Type) where
  F : α → Field                 -- the field handled in this iteration
  SB : α → Nat → Nat            -- source pointer at the start of the `index` loop, given the accumulated offset
  DB : α → Nat → Nat            -- destination pointer
  ss : α → Nat                  -- source stride
  ds : α → Nat                  -- destination stride
  sadv : α → Nat                -- source bump per `index`
  dadv : α → Nat                -- destination bump per `index`
  h : α → Nat                   -- increment of the accumulated offset after the field

def LoopPar.mv {α : Type} (L : LoopPar α) (n : Nat) (x : α) (o : Nat) : List (Nat × Nat) :=
  idxMoves (L.F x) (L.SB x o) (L.DB x o) n (L.ss x) (L.ds x) (L.sadv x) (L.dadv x)

def LoopPar.moves {α : Type} (L : LoopPar α) (n : Nat) (xs : List α) : List (Nat × Nat) := fieldMoves (L.mv n) L.h xs 0

/-- coordinates of one byte move: position `jj` in the field list, `idx < order`, record `i < n`, byte `b < tsz` -/
structure Co where
  jj : Nat
  idx : Nat
  i : Nat
  b : Nat

/-- coordinates of one byte of a field value: record `r`, position `j` in the field list, byte `e` of the value -/
structure FB where
  r : Nat
  j : Nat
  e : Nat

structure FB.In (a b m : Nat) (esz : Nat → Nat) (c : FB) : Prop where
  lo : a ≤ c.r
  hi : c.r < b
  j : c.j < m
  e : c.e < esz c.j

theorem FB.In.iff {a b m : Nat} {esz : Nat → Nat} {c : FB} : FB.In a b m esz c ↔ a ≤ c.r ∧ c.r < b ∧ c.j < m ∧ c.e < esz c.j :=
  ⟨fun h => ⟨h.lo, h.hi, h.j, h.e⟩, fun ⟨h1, h2, h3, h4⟩ => ⟨h1, h2, h3, h4⟩⟩

section
variable {α : Type} [Inhabited α] (L : LoopPar α) (n : Nat) (xs : List α)

def LoopPar.P (c : Co) : Prop :=
  c.jj < xs.length ∧ c.idx < (L.F (xs.getD c.jj default)).order ∧ c.i < n ∧ c.b < (L.F (xs.getD c.jj default)).tsz

def LoopPar.D (c : Co) : Nat :=
  let x := xs.getD c.jj default
  L.DB x (pre (xs.map L.h) c.jj) + c.idx * L.dadv x + c.i * effD (L.F x).tsz (L.ss x) (L.ds x) + c.b

def LoopPar.S (c : Co) : Nat :=
  let x := xs.getD c.jj default
  L.SB x (pre (xs.map L.h) c.jj) + c.idx * L.sadv x + c.i * effS (L.F x).tsz (L.ss x) (L.ds x) + mir (L.F x).swap (L.F x).tsz c.b

theorem LoopPar.mem_moves {m : Nat × Nat} :
    m ∈ L.moves n xs ↔ ∃ c, L.P n xs c ∧ m = (L.D xs c, L.S xs c) := by
  rw [LoopPar.moves, mem_fieldMoves]
  constructor
  · rintro ⟨j, hj, hm⟩
    obtain ⟨idx, hidx, i, hi, b, hb, rfl⟩ := mem_idxMoves.mp hm
    have e := getD_getElem hj (default : α)
    exact ⟨⟨j, idx, i, b⟩, ⟨hj, by rwa [e], hi, by rwa [e]⟩, by simp only [LoopPar.D, LoopPar.S, e, Nat.zero_add]⟩
  · rintro ⟨⟨j, idx, i, b⟩, ⟨hj, hidx, hi, hb⟩, rfl⟩
    have e := getD_getElem hj (default : α)
    exact ⟨j, hj, mem_idxMoves.mpr ⟨idx, by rwa [← e], i, hi, b, by rwa [← e],
      by simp only [LoopPar.D, LoopPar.S, e, Nat.zero_add]⟩⟩
end

/-- a write-list entry as produced by `VSfdefine`/`VSsetfields` on a platform where file and memory element sizes agree -/
def Field.WF (f : Field) : Prop := 1 ≤ f.order ∧ 1 ≤ f.tsz ∧ f.isize = f.order * f.tsz ∧ f.esize = f.order * f.tsz

def isizes (w : WList) : List Nat := w.fields.map (·.isize)
def esizes (w : WList) : List Nat := w.fields.map (·.esize)

def WList.WF (w : WList) : Prop :=
  (∀ f ∈ w.fields, f.WF) ∧ (∀ j, j < w.n → (w.field j).off = pre (isizes w) j) ∧ w.ivsize = (isizes w).sum

def selSizes (w : WList) (items : List Nat) : List Nat := items.map fun i => (w.field i).esize

theorem field_mem {w : WList} {i : Nat} (h : i < w.n) : w.field i ∈ w.fields := by
  unfold WList.field; rw [getD_getElem h]; exact List.getElem_mem h

theorem WList.WF.field {w : WList} (hw : w.WF) {i : Nat} (h : i < w.n) : (w.field i).WF := hw.1 _ (field_mem h)

theorem Field.WF.ediv {f : Field} (h : f.WF) : f.esize / f.order = f.tsz := by
  rw [h.2.2.2]; exact Nat.mul_div_cancel_left _ h.1
theorem Field.WF.idiv {f : Field} (h : f.WF) : f.isize / f.order = f.tsz := by
  rw [h.2.2.1]; exact Nat.mul_div_cancel_left _ h.1
theorem Field.WF.ie {f : Field} (h : f.WF) : f.isize = f.esize := by rw [h.2.2.1, h.2.2.2]
theorem Field.WF.esize_pos {f : Field} (h : f.WF) : 0 < f.esize := by
  rw [h.2.2.2]; exact Nat.mul_pos h.1 h.2.1

theorem elem_lt {f : Field} (h : f.WF) {idx b : Nat} (hi : idx < f.order) (hb : b < f.tsz) : idx * f.tsz + b < f.esize := by
  rw [h.2.2.2]; exact mul_add_lt hi hb

theorem foldl_add_eq_sum {α : Type} (g : α → Nat) (xs : List α) (a : Nat) :
    xs.foldl (fun a x => a + g x) a = a + (xs.map g).sum := by
  induction xs generalizing a with
  | nil => simp
  | cons x t ih => rw [List.foldl_cons, ih]; simp [Nat.add_assoc]

theorem uvsizeOf_eq (w : WList) (items : List Nat) : uvsizeOf w items = (selSizes w items).sum := by
  simp [uvsizeOf, selSizes, foldl_add_eq_sum]

theorem intSizeOf_eq (w : WList) : intSizeOf w = (esizes w).sum := by
  simp [intSizeOf, esizes, foldl_add_eq_sum]

theorem isizes_length (w : WList) : (isizes w).length = w.n := by simp [isizes, WList.n]
theorem esizes_length (w : WList) : (esizes w).length = w.n := by simp [esizes, WList.n]

theorem isizes_getElem {w : WList} {i : Nat} (h : i < w.n) : (isizes w)[i]'(by rw [isizes_length]; exact h) = (w.field i).isize := by
  unfold WList.field; rw [getD_getElem h]; simp only [isizes, List.getElem_map]; rfl

theorem esizes_getElem {w : WList} {i : Nat} (h : i < w.n) : (esizes w)[i]'(by rw [esizes_length]; exact h) = (w.field i).esize := by
  unfold WList.field; rw [getD_getElem h]; simp only [esizes, List.getElem_map]; rfl

theorem off_add_le_ivsize {w : WList} (hw : w.WF) {i : Nat} (h : i < w.n) : (w.field i).off + (w.field i).isize ≤ w.ivsize := by
  rw [hw.2.1 i h, hw.2.2, ← isizes_getElem h]
  exact pre_add_le_sum _

theorem sum_pos_of_mem {l : List Nat} {x : Nat} (h : x ∈ l) (hx : 0 < x) : 0 < l.sum := by
  induction l with
  | nil => cases h
  | cons a t ih =>
    rcases List.mem_cons.mp h with e | e
    · subst e; simp; omega
    · have := ih e; simp; omega

theorem ivsize_pos {w : WList} (hw : w.WF) (h : 0 < w.n) : 0 < w.ivsize := by
  have := off_add_le_ivsize hw h
  have := (hw.field h).ie ▸ (hw.field h).esize_pos
  omega

def fileAddr (vfull : Bool) (w : WList) (n r i : Nat) : Nat := layoutAddr vfull (isizes w) n r i

theorem fileAddr_full {w : WList} (hw : w.WF) {i : Nat} (h : i < w.n) (n r : Nat) :
    fileAddr true w n r i = r * w.ivsize + (w.field i).off := by
  simp [fileAddr, layoutAddr, hw.2.1 i h, hw.2.2]

theorem fileAddr_no {w : WList} (hw : w.WF) {i : Nat} (h : i < w.n) (n r : Nat) :
    fileAddr false w n r i = (w.field i).off * n + r * (w.field i).isize := by
  have h' : i < (isizes w).length := by rw [isizes_length]; exact h
  simp only [fileAddr, layoutAddr, Bool.false_eq_true, if_false]
  rw [getD_getElem h' 0, isizes_getElem h, hw.2.1 i h]


theorem field_getD (w : WList) (j : Nat) : w.fields.getD j default = w.field j := rfl

theorem isizes_eq_esizes {w : WList} (hw : w.WF) : isizes w = esizes w := by
  simp only [isizes, esizes]
  exact List.map_congr_left fun f hf => (hw.1 f hf).ie

theorem fileAddr_lt {w : WList} (hw : w.WF) {vfull : Bool} {n r i e : Nat} (hi : i < w.n) (hr : r < n) (he : e < (w.field i).isize) :
    fileAddr vfull w n r i + e < w.ivsize * n := by
  have hi' : i < (isizes w).length := by rw [isizes_length]; exact hi
  have := layoutAddr_lt (full := vfull) (szs := isizes w) (n := n) (r := r) (j := i) (e := e) hi' (by rw [isizes_getElem hi]; exact he) hr
  rw [hw.2.2, Nat.mul_comm]; exact this

theorem single_field {w : WList} (hw : w.WF) (h1 : w.n = 1) : (w.field 0).off = 0 ∧ w.ivsize = (w.field 0).isize := by
  refine ⟨by simpa [pre] using hw.2.1 0 (by omega), ?_⟩
  have hl : w.fields.length = 1 := h1
  have : isizes w = [(w.field 0).isize] := by
    simp only [isizes, WList.field]
    match hf : w.fields, hl with
    | [x], _ => simp
  rw [hw.2.2, this]; simp

theorem file_cover {w : WList} (hw : w.WF) (vfull : Bool) {n x : Nat} (hx : x < w.ivsize * n) :
    ∃ r < n, ∃ j < w.n, ∃ e < (w.field j).esize, x = fileAddr vfull w n r j + e := by
  obtain ⟨r, hr, j, hj, e, he, h⟩ := layoutAddr_cover vfull (isizes w) (n := n) (x := x) (by rw [← hw.2.2, Nat.mul_comm]; exact hx)
  have hj' : j < w.n := by rw [← isizes_length]; exact hj
  exact ⟨r, hr, j, hj', e, by rw [← (hw.field hj').ie, ← isizes_getElem hj']; exact he, h⟩

/-- position, inside the stored (file) representation of a field value, of the byte that becomes byte `e` of its memory
    representation: same element, mirrored inside the element for byte-swapping kernels -/
def mirE (f : Field) (e : Nat) : Nat := e / f.tsz * f.tsz + mir f.swap f.tsz (e % f.tsz)

theorem elem_split {f : Field} (wf : f.WF) {e : Nat} (he : e < f.esize) :
    e / f.tsz < f.order ∧ e % f.tsz < f.tsz ∧ e / f.tsz * f.tsz + e % f.tsz = e := by
  have ht := wf.2.1
  refine ⟨?_, Nat.mod_lt _ ht, by rw [Nat.mul_comm]; exact Nat.div_add_mod e f.tsz⟩
  rw [Nat.div_lt_iff_lt_mul ht, ← wf.2.2.2]; exact he

theorem mirE_lt {f : Field} (wf : f.WF) {e : Nat} (he : e < f.esize) : mirE f e < f.esize := by
  obtain ⟨h1, h2, _⟩ := elem_split wf he
  rw [wf.2.2.2]; exact mul_add_lt h1 (mir_lt h2)

theorem mirE_mirE {f : Field} (wf : f.WF) {e : Nat} (he : e < f.esize) : mirE f (mirE f e) = e := by
  obtain ⟨h1, h2, h3⟩ := elem_split wf he
  have ht := wf.2.1
  have hm := mir_lt (swap := f.swap) h2
  have d : (e / f.tsz * f.tsz + mir f.swap f.tsz (e % f.tsz)) / f.tsz = e / f.tsz := by
    rw [Nat.add_comm, Nat.add_mul_div_right _ _ ht, Nat.div_eq_of_lt hm]; simp
  have m : (e / f.tsz * f.tsz + mir f.swap f.tsz (e % f.tsz)) % f.tsz = mir f.swap f.tsz (e % f.tsz) := by
    rw [Nat.add_comm, Nat.add_mul_mod_self_right, Nat.mod_eq_of_lt hm]
  unfold mirE
  rw [d, m, mir_mir h2, h3]

theorem mirE_noswap {f : Field} (wf : f.WF) (hs : f.swap = false) {e : Nat} (he : e < f.esize) : mirE f e = e := by
  obtain ⟨_, _, h3⟩ := elem_split wf he
  simp only [mirE, mir, hs, Bool.false_eq_true, if_false]; exact h3

section
variable {α : Type} [Inhabited α] (L : LoopPar α) (xs : List α)

def LoopPar.szs : List Nat := xs.map fun x => (L.F x).esize

omit [Inhabited α] in
theorem LoopPar.fold_eq (n : Nat) (src dst : Buf) :
    (xs.foldl (fun (st : Buf × Nat) x => (applyMoves src (L.mv n x st.2) st.1, st.2 + L.h x)) (dst, 0)).1
      = applyMoves src (L.moves n xs) dst := by
  rw [fieldFold_eq]; rfl

/-- `SA i jj`: where the source keeps field `jj` of record `i` -/
theorem layout_dst_spec (hWF : ∀ x ∈ xs, (L.F x).WF) (full : Bool) {N r0 n : Nat} (hN : r0 + n ≤ N) (src dst : Buf)
    {ms : List (Nat × Nat)} (hms : ∀ m, m ∈ ms ↔ m ∈ L.moves n xs)
    (hsize : N * (L.szs xs).sum ≤ dst.size) (SA : Nat → Nat → Nat)
    (hD : ∀ c, L.P n xs c → L.D xs c =
      layoutAddr full (L.szs xs) N (r0 + c.i) c.jj + (c.idx * (L.F (xs.getD c.jj default)).tsz + c.b))
    (hS : ∀ c, L.P n xs c → L.S xs c = SA c.i c.jj + (c.idx * (L.F (xs.getD c.jj default)).tsz +
      mir (L.F (xs.getD c.jj default)).swap (L.F (xs.getD c.jj default)).tsz c.b)) :
    Patched dst (applyMoves src ms dst)
      (FB.In 0 n xs.length fun j => (L.F (xs.getD j default)).esize)
      (fun c => layoutAddr full (L.szs xs) N (r0 + c.r) c.j + c.e)
      (fun c => getB src (SA c.r c.j + mirE (L.F (xs.getD c.j default)) c.e)) := by
  have hlen : (L.szs xs).length = xs.length := by simp [LoopPar.szs]
  have hjl : ∀ c, L.P n xs c → c.jj < (L.szs xs).length := fun c hc => by rw [hlen]; exact hc.1
  have hrN : ∀ c, L.P n xs c → r0 + c.i < N := fun c hc => by have := hc.2.2.1; omega
  have hwf : ∀ {j}, j < xs.length → (L.F (xs.getD j default)).WF := fun hj => by
    rw [getD_getElem hj]; exact hWF _ (List.getElem_mem hj)
  have hsz : ∀ {j} (hj : j < xs.length), (L.szs xs)[j]'(by rw [hlen]; exact hj) = (L.F (xs.getD j default)).esize := fun hj => by
    simp only [LoopPar.szs, List.getElem_map, getD_getElem hj]
  have he : ∀ c (hc : L.P n xs c), c.idx * (L.F (xs.getD c.jj default)).tsz + c.b < (L.szs xs)[c.jj]'(hjl c hc) := by
    intro c hc
    rw [hsz hc.1]; exact elem_lt (hwf hc.1) hc.2.1 hc.2.2.2
  have key := patched_moves (src := src) (dst := dst) (ms := ms) (L.P n xs) (L.D xs) (L.S xs)
    (fun m => (hms m).trans (L.mem_moves n xs))
    (by
      intro c c' hc hc' e
      rw [hD c hc, hD c' hc'] at e
      obtain ⟨e1, e2, e3⟩ := layoutAddr_inj (hjl c hc) (hjl c' hc') (he c hc) (he c' hc') (hrN c hc) (hrN c' hc') e
      have ei : c.i = c'.i := by omega
      obtain ⟨j, idx, i, b⟩ := c
      obtain ⟨j', idx', i', b'⟩ := c'
      simp only at e2 e3 ei hc hc'
      subst e2; subst ei
      obtain ⟨e4, e5⟩ := div_mod_unique hc.2.2.2 hc'.2.2.2 e3
      subst e4; subst e5; rfl)
    (by
      intro c hc
      rw [hD c hc]
      have := layoutAddr_lt (full := full) (hjl c hc) (he c hc) (hrN c hc)
      omega)
  -- byte `e` of a value is byte `e % tsz` of its element `e / tsz`
  refine key.reindex (fun c => ⟨c.j, c.e / (L.F (xs.getD c.j default)).tsz, c.r, c.e % (L.F (xs.getD c.j default)).tsz⟩) ?_ ?_
  · rintro ⟨i, jj, e⟩ ⟨_, hi, hj, he'⟩
    obtain ⟨q1, q2, q3⟩ := elem_split (hwf hj) he'
    have hc : L.P n xs ⟨jj, e / (L.F (xs.getD jj default)).tsz, i, e % (L.F (xs.getD jj default)).tsz⟩ := ⟨hj, q1, hi, q2⟩
    exact ⟨hc, by rw [hD _ hc]; simp only [q3], by rw [hS _ hc]; rfl⟩
  · intro c hc
    exact ⟨⟨c.i, c.jj, c.idx * (L.F (xs.getD c.jj default)).tsz + c.b⟩, ⟨Nat.zero_le _, hc.2.2.1, hc.1, by rw [← hsz hc.1]; exact he c hc⟩, (hD c hc).symm⟩
end

theorem effD_of_ne {tsz ss ds : Nat} (h : ss ≠ 0) : effD tsz ss ds = ds := by simp [effD, h]
theorem effS_of_ne {tsz ss ds : Nat} (h : ss ≠ 0) : effS tsz ss ds = ss := by simp [effS, h]

theorem pre_map_mul {α : Type} (g : α → Nat) (n : Nat) (xs : List α) (j : Nat) :
    pre (xs.map fun x => g x * n) j = pre (xs.map g) j * n := by
  induction xs generalizing j with
  | nil => simp [pre]
  | cons x t ih =>
    cases j with
    | zero => simp [pre]
    | succ j =>
      simp only [pre, List.map_cons, List.take_succ_cons, List.sum_cons] at ih ⊢
      rw [ih j]; ring

theorem pre_congr {α : Type} {g g' : α → Nat} {xs : List α} (h : ∀ x ∈ xs, g x = g' x) (j : Nat) :
    pre (xs.map g) j = pre (xs.map g') j := by
  rw [List.map_congr_left h]

/-- the running pointer of a NO_INTERLACE caller buffer is `nelt ·` (prefix sum of the field sizes) -/
theorem pre_running {α : Type} {F : α → Field} {xs : List α} (hWF : ∀ x ∈ xs, (F x).WF) {nelt : Nat} (hn : 1 ≤ nelt) (jj : Nat) :
    pre (xs.map fun x => (F x).order * ((F x).esize / (F x).order) + (nelt - 1) * (F x).esize) jj
      = pre (xs.map fun x => (F x).esize) jj * nelt := by
  rw [← pre_map_mul]
  apply pre_congr
  intro x hx
  have wf := hWF x hx
  rw [wf.ediv, ← wf.2.2.2]
  obtain ⟨m, rfl⟩ : ∃ m, nelt = m + 1 := ⟨nelt - 1, by omega⟩
  simp only [Nat.add_sub_cancel]; ring

theorem userPtr_eq (ufull : Bool) (szs : List Nat) {N r0 n i jj c0 o sz : Nat} (hj : jj < szs.length)
    (hu : ufull = false → r0 = 0 ∧ N = n) (hc0 : c0 = r0 * szs.sum)
    (ho : o = if ufull then pre szs jj else pre szs jj * n) (hsz : sz = szs[jj]) (x b : Nat) :
    (if ufull then c0 + o else o) + x + i * (if ufull then szs.sum else sz) + b = layoutAddr ufull szs N (r0 + i) jj + (x + b) := by
  subst hc0 ho hsz
  cases ufull with
  | true => simp only [layoutAddr, if_true, Nat.add_mul]; omega
  | false =>
    obtain ⟨rfl, rfl⟩ := hu rfl
    simp only [layoutAddr, Bool.false_eq_true, if_false, getD_getElem hj 0, Nat.zero_add]; omega

theorem filePtr_eq {w : WList} (hw : w.WF) {i : Nat} (hi : i < w.n) (vfull : Bool) (n r x b : Nat) :
    (if vfull then (w.field i).off else (w.field i).off * n) + x + r * (if vfull then w.ivsize else (w.field i).isize) + b
      = fileAddr vfull w n r i + (x + b) := by
  cases vfull with
  | true => simp only [fileAddr_full hw hi, if_true]; omega
  | false => simp only [fileAddr_no hw hi, Bool.false_eq_true, if_false]; omega

/-- the field loop of `VSread`, cases A (`false true`), B (`false false`), C (`true true`), D (`true false`) -/
def LR (ufull vfull : Bool) (w : WList) (c0 nelt hsize uvsize : Nat) : LoopPar Nat where
  F := w.field
  SB i _ := if vfull then (w.field i).off else (w.field i).off * nelt
  ss i := if vfull then hsize else (w.field i).isize
  DB _ o := if ufull then c0 + o else o
  ds i := if ufull then uvsize else (w.field i).esize
  sadv i := (w.field i).isize / (w.field i).order
  dadv i := (w.field i).esize / (w.field i).order
  h i := if ufull then (if vfull then (w.field i).esize else (w.field i).isize)
    else (w.field i).order * ((w.field i).esize / (w.field i).order) + (nelt - 1) * (w.field i).esize

theorem readC_eq (w : WList) (items : List Nat) (vt buf : Buf) (src chunk hsize uvsize : Nat) :
    readC w items vt buf src chunk hsize uvsize = applyMoves vt ((LR true true w src chunk hsize uvsize).moves chunk items) buf := by
  simp only [readC, indexLoop_eq]
  exact (LR true true w src chunk hsize uvsize).fold_eq items chunk vt buf

theorem readA_eq (w : WList) (items : List Nat) (vt buf : Buf) (nelt hsize c0 uvsize : Nat) :
    readA w items vt buf nelt hsize = applyMoves vt ((LR false true w c0 nelt hsize uvsize).moves nelt items) buf := by
  simp only [readA, indexLoop_eq, Nat.add_assoc]
  exact (LR false true w c0 nelt hsize uvsize).fold_eq items nelt vt buf

theorem readB_eq (w : WList) (items : List Nat) (vt buf : Buf) (nelt hsize c0 uvsize : Nat) :
    readB w items vt buf nelt = applyMoves vt ((LR false false w c0 nelt hsize uvsize).moves nelt items) buf := by
  simp only [readB, indexLoop_eq, Nat.add_assoc]
  exact (LR false false w c0 nelt hsize uvsize).fold_eq items nelt vt buf

theorem readD_eq (w : WList) (items : List Nat) (vt buf : Buf) (nelt hsize uvsize : Nat) :
    readD w items vt buf nelt uvsize = applyMoves vt ((LR true false w 0 nelt hsize uvsize).moves nelt items) buf := by
  simp only [readD, indexLoop_eq]
  rw [← (LR true false w 0 nelt hsize uvsize).fold_eq items nelt vt buf]
  simp only [LR, LoopPar.mv, Nat.zero_add, if_true, Bool.false_eq_true, if_false]

/-- the field loop of `VSwrite`, cases A (`false true`), B (`false false`), C/E (`true true`), D (`true false`) -/
def LW (ufull vfull : Bool) (c0 nelt int_size hdf_size : Nat) : LoopPar Field where
  F := id
  SB _ o := if ufull then c0 + o else o
  ss f := if ufull then int_size else f.esize
  DB f _ := if vfull then f.off else f.off * nelt
  ds f := if vfull then hdf_size else f.isize
  sadv f := f.esize / f.order
  dadv f := f.isize / f.order
  h f := if ufull then f.esize else f.order * (f.esize / f.order) + (nelt - 1) * f.esize

theorem writeC_eq (w : WList) (buf vt : Buf) (src chunk int_size hdf_size : Nat) :
    writeC w buf vt src chunk int_size hdf_size = applyMoves buf ((LW true true src chunk int_size hdf_size).moves chunk w.fields) vt := by
  simp only [writeC, indexLoop_eq]
  exact (LW true true src chunk int_size hdf_size).fold_eq w.fields chunk buf vt

theorem writeA_eq (w : WList) (buf vt : Buf) (nelt hdf_size c0 int_size : Nat) :
    writeA w buf vt nelt hdf_size = applyMoves buf ((LW false true c0 nelt int_size hdf_size).moves nelt w.fields) vt := by
  simp only [writeA, indexLoop_eq, Nat.add_assoc]
  exact (LW false true c0 nelt int_size hdf_size).fold_eq w.fields nelt buf vt

theorem writeB_eq (w : WList) (buf vt : Buf) (nelt c0 int_size hdf_size : Nat) :
    writeB w buf vt nelt = applyMoves buf ((LW false false c0 nelt int_size hdf_size).moves nelt w.fields) vt := by
  simp only [writeB, indexLoop_eq, Nat.add_assoc]
  exact (LW false false c0 nelt int_size hdf_size).fold_eq w.fields nelt buf vt

theorem writeD_eq (w : WList) (buf vt : Buf) (nelt int_size hdf_size : Nat) :
    writeD w buf vt nelt int_size = applyMoves buf ((LW true false 0 nelt int_size hdf_size).moves nelt w.fields) vt := by
  simp only [writeD, indexLoop_eq]
  rw [← (LW true false 0 nelt int_size hdf_size).fold_eq w.fields nelt buf vt]
  simp only [LW, LoopPar.mv, Nat.zero_add, if_true, Bool.false_eq_true, if_false, id]

theorem selSizes_getElem {w : WList} {items : List Nat} {jj : Nat} (hj : jj < items.length) :
    (selSizes w items)[jj]'(by simpa [selSizes] using hj) = (w.field items[jj]).esize := by
  simp [selSizes]

abbrev selP (w : WList) (items : List Nat) (lo hi : Nat) : FB → Prop :=
  FB.In lo hi items.length fun j => (w.field (items.getD j default)).esize

abbrev recP (w : WList) (lo hi : Nat) : FB → Prop := FB.In lo hi w.n fun j => (w.field j).esize

/-- **One multi-field transfer of `VSread`**, any of the four interlace combinations.  `hu`: a NO_INTERLACE caller buffer is filled in one
    transfer (only cases C/E, both FULL_INTERLACE, go chunk by chunk with `r0 > 0`).  Stated for any program with the moves of the loop, in
    any order. -/
theorem read_spec {w : WList} (hw : w.WF) {items : List Nat} (hit : ∀ i ∈ items, i < w.n) (hn : 0 < w.n) (ufull vfull : Bool)
    {N r0 n : Nat} (hN : r0 + n ≤ N) (hn1 : 1 ≤ n) (hu : ufull = false → r0 = 0 ∧ N = n) (vt buf : Buf)
    (hsz : N * (selSizes w items).sum ≤ buf.size) {c0 : Nat} (hc0 : c0 = r0 * (selSizes w items).sum) {ms : List (Nat × Nat)}
    (hms : ∀ m, m ∈ ms ↔ m ∈ (LR ufull vfull w c0 n w.ivsize (selSizes w items).sum).moves n items) :
    Patched buf (applyMoves vt ms buf) (selP w items 0 n)
      (fun c => layoutAddr ufull (selSizes w items) N (r0 + c.r) c.j + c.e)
      (fun c => getB vt (fileAddr vfull w n c.r (items.getD c.j default) + mirE (w.field (items.getD c.j default)) c.e)) := by
  have hiv := ivsize_pos hw hn
  have hWF : ∀ x ∈ items, (w.field x).WF := fun x hx => hw.field (hit x hx)
  have hss : ∀ i ∈ items, (if vfull = true then w.ivsize else (w.field i).isize) ≠ 0 := by
    intro i hi
    split
    · exact Nat.pos_iff_ne_zero.mp hiv
    · rw [(hWF i hi).ie]; exact Nat.pos_iff_ne_zero.mp (hWF i hi).esize_pos
  have key := layout_dst_spec _ items hWF ufull hN vt buf hms hsz (fun r jj => fileAddr vfull w n r (items.getD jj default))
    (by
      intro c hc
      have hx : items.getD c.jj default ∈ items := by rw [getD_getElem hc.1]; exact List.getElem_mem _
      have hpre : pre (items.map (LR ufull vfull w c0 n w.ivsize (selSizes w items).sum).h) c.jj
          = if ufull then pre (selSizes w items) c.jj else pre (selSizes w items) c.jj * n := by
        cases ufull with
        | false => exact pre_running hWF hn1 _
        | true => cases vfull with
          | true => rfl
          | false => exact pre_congr (fun i hi => (hWF i hi).ie) _
      simp only [LoopPar.D, LR, (hWF _ hx).ediv, effD_of_ne (hss _ hx)]
      exact userPtr_eq ufull (selSizes w items) (by simpa [selSizes] using hc.1) hu hc0 hpre
        (by simp only [selSizes, List.getElem_map, getD_getElem hc.1]) _ _)
    (by
      intro c hc
      have hx : items.getD c.jj default ∈ items := by rw [getD_getElem hc.1]; exact List.getElem_mem _
      simp only [LoopPar.S, LR, (hWF _ hx).idiv, effS_of_ne (hss _ hx)]
      exact filePtr_eq hw (hit _ hx) vfull n c.i _ _)
  exact key

/-- **One transfer of `VSwrite`** into `Vtbuf`, any of the four interlace combinations (`true true` also serves the single-field case E) -/
theorem write_spec {w : WList} (hw : w.WF) (hn : 0 < w.n) (ufull vfull : Bool) {N r0 n : Nat} (hn1 : 1 ≤ n)
    (hu : ufull = false → r0 = 0 ∧ N = n) (buf vt : Buf) (hsz : w.ivsize * n ≤ vt.size) {c0 : Nat} (hc0 : c0 = r0 * (esizes w).sum) :
    Patched vt (applyMoves buf ((LW ufull vfull c0 n (esizes w).sum w.ivsize).moves n w.fields) vt) (recP w 0 n)
      (fun c => fileAddr vfull w n c.r c.j + c.e)
      (fun c => getB buf (layoutAddr ufull (esizes w) N (r0 + c.r) c.j + mirE (w.field c.j) c.e)) := by
  have hpos : 0 < (esizes w).sum := by rw [← isizes_eq_esizes hw, ← hw.2.2]; exact ivsize_pos hw hn
  have hss : ∀ f ∈ w.fields, (if ufull = true then (esizes w).sum else f.esize) ≠ 0 := by
    intro f hf
    split
    · exact Nat.pos_iff_ne_zero.mp hpos
    · exact Nat.pos_iff_ne_zero.mp (hw.1 f hf).esize_pos
  have hszs : LoopPar.szs (LW ufull vfull c0 n (esizes w).sum w.ivsize) w.fields = isizes w :=
    (isizes_eq_esizes hw).symm
  have key := layout_dst_spec (LW ufull vfull c0 n (esizes w).sum w.ivsize) w.fields (fun f hf => hw.1 f hf)
    vfull (N := n) (r0 := 0) (n := n) (by omega) buf vt (fun _ => Iff.rfl)
    (by rw [hszs, ← hw.2.2, Nat.mul_comm]; exact hsz) (fun r j => layoutAddr ufull (esizes w) N (r0 + r) j)
    (by
      intro c hc
      have hx : w.field c.jj ∈ w.fields := field_mem hc.1
      rw [hszs]
      simp only [LoopPar.D, LW, id, field_getD, (hw.1 _ hx).idiv, effD_of_ne (hss _ hx), Nat.zero_add]
      exact filePtr_eq hw hc.1 vfull n c.i _ _)
    (by
      intro c hc
      have hx : w.field c.jj ∈ w.fields := field_mem hc.1
      have hpre : pre (w.fields.map (LW ufull vfull c0 n (esizes w).sum w.ivsize).h) c.jj
          = if ufull then pre (esizes w) c.jj else pre (esizes w) c.jj * n := by
        cases ufull with
        | false => exact pre_running (F := id) hw.1 hn1 _
        | true => rfl
      simp only [LoopPar.S, LW, id, field_getD, (hw.1 _ hx).ediv, effS_of_ne (hss _ hx)]
      exact userPtr_eq ufull (esizes w) (by rw [esizes_length]; exact hc.1) hu hc0 hpre (esizes_getElem hc.1).symm _ _)
  simp only [hszs, Nat.zero_add] at key
  exact key

/-- a valid read list; `one`: with a single field case E converts without looking at the list, which is then `[0]` -/
structure ReadList (w : WList) (items : List Nat) : Prop where
  lt : ∀ i ∈ items, i < w.n
  pos : 0 < w.n
  one : w.n = 1 → items = [0]

/-- case E (single-field vdata: one contiguous `DFKconvert` of `order · chunk` elements) moves the same bytes as case C,
    element by element instead of record by record -/
theorem readE_moves {w : WList} (hw : w.WF) (h1 : w.n = 1) (c0 chunk : Nat) (m : Nat × Nat) :
    m ∈ convMoves (w.field 0).tsz (w.field 0).swap 0 c0 ((w.field 0).order * chunk) 0 0 ↔
    m ∈ (LR true true w c0 chunk w.ivsize (selSizes w [0]).sum).moves chunk [0] := by
  have wf := hw.field (show 0 < w.n by omega)
  obtain ⟨hoff, hiv⟩ := single_field hw h1
  have hsum : (selSizes w [0]).sum = (w.field 0).esize := by simp [selSizes]
  have hpos : (w.field 0).isize ≠ 0 := by rw [wf.ie]; exact Nat.pos_iff_ne_zero.mp wf.esize_pos
  have hmul : ∀ q r, (q * (w.field 0).order + r) * (w.field 0).tsz = r * (w.field 0).tsz + q * ((w.field 0).order * (w.field 0).tsz) := by
    intro q r; ring
  rw [show (LR true true w c0 chunk w.ivsize (selSizes w [0]).sum).moves chunk [0]
        = idxMoves (w.field 0) 0 c0 chunk (w.field 0).isize (w.field 0).esize (w.field 0).tsz (w.field 0).tsz by
      simp only [LoopPar.moves, fieldMoves, List.append_nil, LoopPar.mv, LR, if_true, hoff, hiv, hsum, wf.ediv, wf.idiv, Nat.add_zero],
    mem_idxMoves, effD_of_ne hpos, effS_of_ne hpos, wf.2.2.1, wf.2.2.2]
  simp only [convMoves, elemMoves, effS, effD, List.mem_flatMap, List.mem_map, List.mem_range, and_self, if_true, Nat.zero_add]
  constructor
  · rintro ⟨i', hi', b, hb, rfl⟩
    have hq : i' / (w.field 0).order < chunk := by rw [Nat.div_lt_iff_lt_mul wf.1, Nat.mul_comm]; exact hi'
    have hi := hmul (i' / (w.field 0).order) (i' % (w.field 0).order)
    rw [Nat.mul_comm (i' / (w.field 0).order) (w.field 0).order, Nat.div_add_mod] at hi
    refine ⟨i' % (w.field 0).order, Nat.mod_lt _ wf.1, i' / (w.field 0).order, hq, b, hb, ?_⟩
    rw [hi]; simp only [Nat.add_assoc]
  · rintro ⟨idx, hidx, i, hi, b, hb, rfl⟩
    refine ⟨i * (w.field 0).order + idx, by rw [Nat.mul_comm (w.field 0).order]; exact mul_add_lt hi hidx, b, hb, ?_⟩
    rw [hmul]; simp only [Nat.add_assoc]

def readStep (w : WList) (items : List Nat) (vt buf : Buf) (src chunk hsize uvsize : Nat) : Buf :=
  if w.n = 1 then dfkConvert (w.field 0).tsz (w.field 0).swap vt 0 buf src ((w.field 0).order * chunk) 0 0
  else readC w items vt buf src chunk hsize uvsize

def selD (ufull : Bool) (w : WList) (items : List Nat) (N : Nat) (c : FB) : Nat := layoutAddr ufull (selSizes w items) N c.r c.j + c.e

def selV (vfull : Bool) (w : WList) (items : List Nat) (N : Nat) (store : Buf) (pos : Nat) (c : FB) : Byte :=
  getB store (pos + (fileAddr vfull w N c.r (items.getD c.j default) + mirE (w.field (items.getD c.j default)) c.e))

theorem selP_lt {w : WList} {items : List Nat} {lo hi : Nat} {c : FB} (h : selP w items lo hi c) :
    ∃ hj : c.j < (selSizes w items).length, c.e < (selSizes w items)[c.j] := by
  have h4 := h.e
  rw [getD_getElem h.j, ← selSizes_getElem h.j] at h4
  exact ⟨by simpa [selSizes] using h.j, h4⟩

theorem selD_inj {w : WList} {items : List Nat} {N lo hi lo' hi' : Nat} {c c' : FB} (hN : hi ≤ N) (hN' : hi' ≤ N)
    (hc : selP w items lo hi c) (hc' : selP w items lo' hi' c') (h : selD true w items N c = selD true w items N c') : c.r = c'.r := by
  obtain ⟨hj, he⟩ := selP_lt hc
  obtain ⟨hj', he'⟩ := selP_lt hc'
  exact (layoutAddr_inj (full := true) (n := N) hj hj' he he' (Nat.lt_of_lt_of_le hc.hi hN) (Nat.lt_of_lt_of_le hc'.hi hN') h).1

theorem readStep_spec {w : WList} (hw : w.WF) {items : List Nat} (hl : ReadList w items) (store buf : Buf) {N pos0 done c : Nat} (hN : done + c ≤ N) (hc : 1 ≤ c)
    (hst : pos0 + w.ivsize * done + w.ivsize * c ≤ store.size) (hsz : N * (selSizes w items).sum ≤ buf.size) :
    ∃ buf', readStep w items (store.extract (pos0 + w.ivsize * done) (pos0 + w.ivsize * done + w.ivsize * c)) buf
        (done * (selSizes w items).sum) c w.ivsize (selSizes w items).sum = buf' ∧
      buf'.size = buf.size ∧ Patched buf buf' (selP w items done (done + c)) (selD true w items N) (selV true w items N store pos0) := by
  obtain ⟨ms, hb, hms⟩ : ∃ ms, readStep w items (store.extract (pos0 + w.ivsize * done) (pos0 + w.ivsize * done + w.ivsize * c)) buf
        (done * (selSizes w items).sum) c w.ivsize (selSizes w items).sum
      = applyMoves (store.extract (pos0 + w.ivsize * done) (pos0 + w.ivsize * done + w.ivsize * c)) ms buf ∧
      ∀ m, m ∈ ms ↔ m ∈ (LR true true w (done * (selSizes w items).sum) c w.ivsize (selSizes w items).sum).moves c items := by
    by_cases h1 : w.n = 1
    · obtain rfl := hl.one h1
      exact ⟨_, by simp only [readStep, h1, if_true, dfkConvert_eq], readE_moves hw h1 _ _⟩
    · exact ⟨_, by simp only [readStep, h1, if_false, readC_eq], fun _ => Iff.rfl⟩
  refine ⟨_, hb, size_applyMoves .., (read_spec hw hl.lt hl.pos true true hN hc (fun h => by cases h) _ buf hsz rfl hms).reindex
    (fun c' => ⟨c'.r - done, c'.j, c'.e⟩) ?_ ?_⟩
  · rintro ⟨r, jj, e⟩ ⟨hr1, hr2, hj, he⟩
    dsimp only at hr1 hr2 hj he ⊢
    obtain ⟨k, rfl⟩ : ∃ k, r = done + k := ⟨r - done, by omega⟩
    have hk : k < c := Nat.lt_of_add_lt_add_left hr2
    have hi := hl.lt (items.getD jj default) (by rw [getD_getElem hj]; exact List.getElem_mem hj)
    have wf := hw.field hi
    simp only [Nat.add_sub_cancel_left, selV]
    refine ⟨⟨Nat.zero_le _, hk, hj, he⟩, rfl, ?_⟩
    rw [getB_extract hst (fileAddr_lt hw hi hk (by rw [wf.ie]; exact mirE_lt wf he)), fileAddr_full hw hi, fileAddr_full hw hi]
    congr 1; ring
  · rintro ⟨r, jj, e⟩ ⟨_, hr, hj, he⟩
    exact ⟨⟨done + r, jj, e⟩, ⟨Nat.le_add_right _ _, Nat.add_lt_add_left hr _, hj, he⟩, rfl⟩

theorem readCELoop_step {w : WList} {items : List Nat} {store : Buf} {hsize uvsize nelt fuel chunk done pos src c : Nat} {buf : Buf}
    (hlt : done < nelt) (hc : (if nelt - done < chunk then nelt - done else chunk) = c) (hb : pos + hsize * c ≤ store.size) :
    readCELoop w items store hsize uvsize nelt (fuel + 1) chunk done pos src buf =
      readCELoop w items store hsize uvsize nelt fuel c (done + c) (pos + hsize * c) (src + c * uvsize)
        (readStep w items (store.extract pos (pos + hsize * c)) buf src c hsize uvsize) := by
  subst hc
  rw [readCELoop, if_pos hlt]
  simp only []
  rw [if_neg (Nat.not_lt.mpr hb)]
  rfl

/-- the two `while (done < nelt)` loops of cases C/E: the fuel pays one unit per round (each takes at least one record) and one for the
    last test -/
theorem chunk_induct {N : Nat} {motive : Nat → Nat → Nat → Prop}
    (last : ∀ fuel chunk, motive (fuel + 1) chunk N)
    (step : ∀ fuel chunk done c, done < N → (if N - done < chunk then N - done else chunk) = c → 1 ≤ c → done + c ≤ N →
      motive fuel c (done + c) → motive (fuel + 1) chunk done) :
    ∀ fuel chunk done, 1 ≤ chunk → done ≤ N → N - done + 1 ≤ fuel → motive fuel chunk done := by
  intro fuel
  induction fuel with
  | zero => intro chunk done _ _ hf; omega
  | succ fuel ih =>
    intro chunk done hc hd hf
    by_cases hlt : done < N
    · obtain ⟨c, hcdef⟩ : ∃ c, (if N - done < chunk then N - done else chunk) = c := ⟨_, rfl⟩
      have hc1 : 1 ≤ c := by rw [← hcdef]; split <;> omega
      have hc2 : done + c ≤ N := by rw [← hcdef]; split <;> omega
      exact step fuel chunk done c hlt hcdef hc1 hc2 (ih c (done + c) hc1 hc2 (by omega))
    · obtain rfl : done = N := by omega
      exact last fuel chunk

theorem readCELoop_spec {w : WList} (hw : w.WF) {items : List Nat} (hl : ReadList w items) (store : Buf) (N pos0 : Nat) (hst : pos0 + w.ivsize * N ≤ store.size) :
    ∀ (fuel chunk done : Nat), 1 ≤ chunk → done ≤ N → N - done + 1 ≤ fuel → ∀ (buf : Buf), N * (selSizes w items).sum ≤ buf.size →
    ∃ buf', readCELoop w items store w.ivsize (selSizes w items).sum N fuel chunk done (pos0 + w.ivsize * done)
        (done * (selSizes w items).sum) buf = some (buf', pos0 + w.ivsize * N) ∧
      buf'.size = buf.size ∧ Patched buf buf' (selP w items done N) (selD true w items N) (selV true w items N store pos0) := by
  refine chunk_induct (fun fuel chunk buf _ => ?_) (fun fuel chunk done c hlt hcdef hc1 hc2 ih buf hsz => ?_)
  · rw [readCELoop, if_neg (Nat.lt_irrefl N)]
    exact ⟨buf, rfl, rfl, Patched.none fun a ha => Nat.lt_irrefl _ (Nat.lt_of_le_of_lt ha.lo ha.hi)⟩
  · have hbytes : pos0 + w.ivsize * done + w.ivsize * c ≤ store.size := by
      have := Nat.mul_le_mul_left w.ivsize hc2
      rw [Nat.mul_add] at this; omega
    obtain ⟨buf1, hb, t1, t2⟩ := readStep_spec hw hl store buf hc2 hc1 hbytes hsz
    rw [readCELoop_step hlt hcdef hbytes, hb,
      show pos0 + w.ivsize * done + w.ivsize * c = pos0 + w.ivsize * (done + c) by rw [Nat.mul_add, Nat.add_assoc], ← Nat.add_mul]
    obtain ⟨buf', r1, r2, r3⟩ := ih buf1 (by rw [t1]; exact hsz)
    -- the rest of the loop leaves the records of this round alone
    refine ⟨buf', r1, r2.trans t1, t2.append r3 (fun a a' ha ha' e => ?_) (fun a => ?_)⟩
    · have := selD_inj hc2 (Nat.le_refl N) ha ha' e.symm
      have := ha.hi; have := ha'.lo; omega
    · simp only [FB.In.iff]; omega

theorem readCELoop_run {w : WList} (hw : w.WF) {items : List Nat} (hl : ReadList w items) (store : Buf) (N pos0 : Nat) (hst : pos0 + w.ivsize * N ≤ store.size) {chunk : Nat} (hc : 1 ≤ chunk)
    (buf : Buf) (hsz : N * (selSizes w items).sum ≤ buf.size) :
    ∃ buf', readCELoop w items store w.ivsize (selSizes w items).sum N (N + 1) chunk 0 pos0 0 buf = some (buf', pos0 + w.ivsize * N) ∧
      buf'.size = buf.size ∧ Patched buf buf' (selP w items 0 N) (selD true w items N) (selV true w items N store pos0) := by
  have := readCELoop_spec hw hl store N pos0 hst (N + 1) chunk 0 hc (Nat.zero_le _) (Nat.le_refl _) buf hsz
  simpa only [Nat.mul_zero, Nat.add_zero, Nat.zero_mul] using this

theorem consts : FULL_INTERLACE = 0 ∧ NO_INTERLACE = 1 := by decide

theorem layoutAddr_CE {szs : List Nat} {x j : Nat} (h : (szs.length = 1 ∧ j = 0) ∨ x = FULL_INTERLACE) (n r : Nat) :
    layoutAddr (decide (x = FULL_INTERLACE)) szs n r j = layoutAddr true szs n r j := by
  by_cases c : x = FULL_INTERLACE
  · simp only [c, decide_true]
  · obtain ⟨hl, rfl⟩ := h.resolve_right c
    match szs, hl with
    | [y], _ => simp [layoutAddr, pre]

theorem chunkInit_pos (total hsize nelt vtb : Nat) (h : 1 ≤ nelt) : 1 ≤ (chunkInit total hsize nelt vtb).1 := by
  unfold chunkInit; split <;> simp <;> omega

theorem readABD_eq {il vil : Nat} (hil : il = FULL_INTERLACE ∨ il = NO_INTERLACE) (hvil : vil = FULL_INTERLACE ∨ vil = NO_INTERLACE)
    (hCE : ¬ (il = FULL_INTERLACE ∧ vil = FULL_INTERLACE)) (w : WList) (items : List Nat) (vt buf : Buf) (nelt uv : Nat) :
    (if il = NO_INTERLACE ∧ vil = FULL_INTERLACE then readA w items vt buf nelt w.ivsize
      else if il = NO_INTERLACE ∧ vil = NO_INTERLACE then readB w items vt buf nelt
      else if il = FULL_INTERLACE ∧ vil = NO_INTERLACE then readD w items vt buf nelt uv
      else buf)
    = applyMoves vt ((LR (decide (il = FULL_INTERLACE)) (decide (vil = FULL_INTERLACE)) w 0 nelt w.ivsize uv).moves nelt items) buf := by
  rcases hil with rfl | rfl <;> rcases hvil with rfl | rfl
  · exact absurd ⟨rfl, rfl⟩ hCE
  · exact readD_eq w items vt buf nelt w.ivsize uv
  · exact readA_eq w items vt buf nelt w.ivsize 0 uv
  · exact readB_eq w items vt buf nelt w.ivsize 0 uv

/-- **VSread, all cases.** For a well-formed write list, a valid read list (`[0]` when the vdata has one field), both
    vdata interlaces and both buffer interlaces: the call succeeds when the data element holds `nelt` records from the
    current position, advances the position by `nelt` records, and puts byte `e` of selected field `jj` of record `r` at its
    place in the requested buffer layout, taken from the stored layout of the batch (with the per-element byte reversal of
    the field's conversion kernel, `mirE`). No other byte of the buffer changes. -/
theorem vsreadCore_spec {w : WList} (hw : w.WF) {items : List Nat} (hl : ReadList w items) {vil il : Nat} (hvil : vil = FULL_INTERLACE ∨ vil = NO_INTERLACE)
    (hil : il = FULL_INTERLACE ∨ il = NO_INTERLACE) (store : Buf) (pos vtb : Nat) (buf : Buf) {nelt : Nat} (hnelt : 1 ≤ nelt)
    (hst : pos + w.ivsize * nelt ≤ store.size) (hsz : nelt * (selSizes w items).sum ≤ buf.size) :
    ∃ buf' vtb', vsreadCore w vil items store pos vtb buf nelt il = (vtb', some (buf', pos + w.ivsize * nelt)) ∧
      buf'.size = buf.size ∧
      Patched buf buf' (selP w items 0 nelt) (selD (decide (il = FULL_INTERLACE)) w items nelt)
        (selV (decide (vil = FULL_INTERLACE)) w items nelt store pos) := by
  have hidx : ∀ {c : FB}, selP w items 0 nelt c → items.getD c.j default < w.n := fun hc =>
    hl.lt _ (by rw [getD_getElem hc.j]; exact List.getElem_mem _)
  have hn := hl.pos
  unfold vsreadCore
  rw [if_neg (by omega), if_neg (by omega)]
  simp only [uvsizeOf_eq]
  by_cases hCE : w.n = 1 ∨ (il = FULL_INTERLACE ∧ vil = FULL_INTERLACE)
  · rw [if_pos hCE]
    obtain ⟨buf', r1, r2, r3⟩ := readCELoop_run hw hl store nelt pos hst
      (chunkInit_pos (w.ivsize * nelt) w.ivsize _ vtb hnelt) buf hsz
    -- with one field, or both interlaces FULL, the two layouts are the record-major ones
    refine ⟨buf', _, by rw [r1], r2, r3.congr (fun c hc => ?_) (fun c hc => ?_)⟩
    · have hj := hc.j
      simp only [selD]
      rw [layoutAddr_CE (hCE.imp (fun h1 => by rw [hl.one h1] at hj ⊢; exact ⟨rfl, by simpa using hj⟩) (·.1))]
    · simp only [selV]
      rw [show fileAddr (decide (vil = FULL_INTERLACE)) w nelt c.r (items.getD c.j default) = fileAddr true w nelt c.r (items.getD c.j default) from
        layoutAddr_CE (hCE.imp (fun h1 => ⟨(isizes_length w).trans h1, by have := hidx hc; omega⟩) (·.2)) _ _]
  · rw [if_neg hCE, Nat.mul_comm nelt]
    rw [if_neg (Nat.not_lt.mpr hst), readABD_eq hil hvil (fun h => hCE (Or.inr h))]
    refine ⟨_, _, rfl, size_applyMoves .., (read_spec hw hl.lt hl.pos (decide (il = FULL_INTERLACE)) (decide (vil = FULL_INTERLACE)) (N := nelt) (r0 := 0)
      (Nat.le_of_eq (Nat.zero_add _)) hnelt (fun _ => ⟨rfl, rfl⟩) (store.extract pos (pos + w.ivsize * nelt)) buf hsz (Nat.zero_mul _).symm
      (fun _ => Iff.rfl)).congr (fun c _ => by simp only [selD, Nat.zero_add]) (fun c hc => ?_)⟩
    have wf := hw.field (hidx hc)
    simp only [selV]
    rw [getB_extract hst (fileAddr_lt hw (hidx hc) hc.hi (by rw [wf.ie]; exact mirE_lt wf hc.e))]

theorem hwrite_spec (store : Buf) (pos : Nat) (vt : Buf) (bytes : Nat) :
    (hwrite store pos vt bytes).size = max store.size (pos + bytes) ∧
    (∀ x < bytes, getB (hwrite store pos vt bytes) (pos + x) = getB vt x) ∧
    (∀ p, p < pos ∨ pos + bytes ≤ p → getB (hwrite store pos vt bytes) p = getB store p) := by
  set st := if store.size < pos + bytes then store ++ Array.replicate (pos + bytes - store.size) (0 : Byte) else store with hst
  have hsz : st.size = max store.size (pos + bytes) := by
    rw [hst]; split
    · simp; omega
    · omega
  have hpad : ∀ p, getB st p = getB store p := by
    intro p
    rw [hst]; split
    · simp only [getB_eq, Array.getElem?_append]
      by_cases c : p < store.size
      · simp [c]
      · simp only [c, if_false]
        rw [Array.getElem?_eq_none (by omega : store.size ≤ p)]
        by_cases c2 : p - store.size < pos + bytes - store.size <;> simp [c2]
    · rfl
  have hw : hwrite store pos vt bytes = applyMoves vt ((List.range bytes).map fun i => (pos + i, i)) st := by
    simp only [hwrite, applyMoves, List.foldl_map]
    rfl
  obtain ⟨s1, s2⟩ := patched_moves (src := vt) (dst := st) (ms := (List.range bytes).map fun i => (pos + i, i))
    (fun x : Nat => x < bytes) (fun x => pos + x) (fun x => x)
    (by intro m; simp only [List.mem_map, List.mem_range]
        constructor
        · rintro ⟨i, hi, rfl⟩; exact ⟨i, hi, rfl⟩
        · rintro ⟨i, hi, rfl⟩; exact ⟨i, hi, rfl⟩)
    (by intro c c' _ _ e; omega)
    (by intro c hc; rw [hsz]; omega)
  refine ⟨by rw [hw]; simp [hsz], ?_, ?_⟩
  · intro x hx; rw [hw]; exact s1 x hx
  · intro p hp; rw [hw, s2 p (by intro c hc; omega), hpad]

def recD (vfull : Bool) (w : WList) (N pos : Nat) (c : FB) : Nat := pos + (fileAddr vfull w N c.r c.j + c.e)

def recV (ufull : Bool) (w : WList) (N : Nat) (buf : Buf) (c : FB) : Byte :=
  getB buf (layoutAddr ufull (esizes w) N c.r c.j + mirE (w.field c.j) c.e)

theorem recD_range {w : WList} (hw : w.WF) {vfull : Bool} {N pos lo hi : Nat} {c : FB} (hc : recP w lo hi c) (hN : hi ≤ N) :
    pos ≤ recD vfull w N pos c ∧ recD vfull w N pos c < pos + w.ivsize * N := by
  have := fileAddr_lt hw (vfull := vfull) (n := N) hc.j (Nat.lt_of_lt_of_le hc.hi hN) (by rw [(hw.field hc.j).ie]; exact hc.e)
  simp only [recD]; omega

theorem recD_inj {w : WList} (hw : w.WF) {N pos lo hi lo' hi' : Nat} {c c' : FB} (hN : hi ≤ N) (hN' : hi' ≤ N)
    (hc : recP w lo hi c) (hc' : recP w lo' hi' c') (h : recD true w N pos c = recD true w N pos c') : c.r = c'.r := by
  have hi := fun {lo hi} {c : FB} (hc : recP w lo hi c) => isizes_getElem hc.j
  exact (layoutAddr_inj (full := true) (n := N) (by rw [isizes_length]; exact hc.j) (by rw [isizes_length]; exact hc'.j)
    (by rw [hi hc, (hw.field hc.j).ie]; exact hc.e) (by rw [hi hc', (hw.field hc'.j).ie]; exact hc'.e)
    (Nat.lt_of_lt_of_le hc.hi hN) (Nat.lt_of_lt_of_le hc'.hi hN') (Nat.add_left_cancel h)).1

/-- the records fill the `ivsize · n` bytes written (`file_cover`), so nothing of what `Vtbuf` held before reaches the element -/
theorem hwrite_patched {w : WList} (hw : w.WF) (vfull : Bool) {n : Nat} (pos : Nat) (store : Buf) {vt0 vt : Buf} {V : FB → Byte}
    (t : Patched vt0 vt (recP w 0 n) (fun c => fileAddr vfull w n c.r c.j + c.e) V) :
    Patched store (hwrite store pos vt (w.ivsize * n)) (recP w 0 n) (recD vfull w n pos) V := by
  obtain ⟨_, h2, h3⟩ := hwrite_spec store pos vt (w.ivsize * n)
  refine ⟨fun c hc => ?_, fun p hp => h3 p ?_⟩
  · have := recD_range hw (vfull := vfull) (pos := 0) hc (Nat.le_refl n)
    simp only [recD, Nat.zero_add] at this ⊢
    rw [h2 _ this.2, t.hit c hc]
  · refine Decidable.by_contra fun h => ?_
    obtain ⟨r, hr, j, hj, e, he, hx⟩ := file_cover hw vfull (n := n) (x := p - pos) (by omega)
    exact hp ⟨r, j, e⟩ ⟨Nat.zero_le _, hr, hj, he⟩ (by simp only [recD]; omega)

theorem writeStep_spec {w : WList} (hw : w.WF) (hn : 0 < w.n) (buf vt store : Buf) {N pos0 done c : Nat} (hc : 1 ≤ c)
    (hvs : w.ivsize * c ≤ vt.size) :
    (writeC w buf vt (done * (esizes w).sum) c (esizes w).sum w.ivsize).size = vt.size ∧
    Patched store (hwrite store (pos0 + w.ivsize * done) (writeC w buf vt (done * (esizes w).sum) c (esizes w).sum w.ivsize) (w.ivsize * c))
      (recP w done (done + c)) (recD true w N pos0) (recV true w N buf) := by
  have t2 := write_spec hw hn true true (N := N) (r0 := done) hc (fun h => by cases h) buf vt hvs rfl
  rw [writeC_eq]
  refine ⟨size_applyMoves .., (hwrite_patched hw true (pos0 + w.ivsize * done) store t2).reindex (fun a => ⟨a.r - done, a.j, a.e⟩) ?_ ?_⟩
  · rintro ⟨r, j, e⟩ ⟨hr1, hr2, hj, he⟩
    dsimp only at hr1 hr2 hj he ⊢
    obtain ⟨k, rfl⟩ : ∃ k, r = done + k := ⟨r - done, by omega⟩
    refine ⟨⟨Nat.zero_le _, by simp only [Nat.add_sub_cancel_left]; exact Nat.lt_of_add_lt_add_left hr2, hj, he⟩, ?_, ?_⟩
    · simp only [Nat.add_sub_cancel_left, recD, fileAddr_full hw hj]; ring
    · simp only [Nat.add_sub_cancel_left, recV]
  · rintro ⟨r, j, e⟩ ⟨_, hr, hj, he⟩
    refine ⟨⟨done + r, j, e⟩, ⟨Nat.le_add_right _ _, Nat.add_lt_add_left hr _, hj, he⟩, ?_⟩
    simp only [recD, fileAddr_full hw hj]; ring

theorem writeCELoop_step {w : WList} {buf : Buf} {int_size hdf_size nelt fuel chunk done pos src c : Nat} {vt store : Buf}
    (hlt : done < nelt) (hc : (if nelt - done < chunk then nelt - done else chunk) = c) :
    writeCELoop w buf int_size hdf_size nelt (fuel + 1) chunk done pos src vt store =
      writeCELoop w buf int_size hdf_size nelt fuel c (done + c) (pos + hdf_size * c) (src + c * int_size)
        (writeC w buf vt src c int_size hdf_size) (hwrite store pos (writeC w buf vt src c int_size hdf_size) (hdf_size * c)) := by
  subst hc
  rw [writeCELoop, if_pos hlt]

theorem writeCELoop_spec {w : WList} (hw : w.WF) (hn : 0 < w.n) (buf : Buf) (N pos0 : Nat) :
    ∀ (fuel chunk done : Nat), 1 ≤ chunk → done ≤ N → N - done + 1 ≤ fuel → ∀ (vt store : Buf),
      w.ivsize * min chunk (N - done) ≤ vt.size →
    let res := writeCELoop w buf (esizes w).sum w.ivsize N fuel chunk done (pos0 + w.ivsize * done) (done * (esizes w).sum) vt store
    res.2 = pos0 + w.ivsize * N ∧
    res.1.size = (if done < N then max store.size (pos0 + w.ivsize * N) else store.size) ∧
    Patched store res.1 (recP w done N) (recD true w N pos0) (recV true w N buf) := by
  refine chunk_induct (fun fuel chunk vt store _ => ?_) (fun fuel chunk done c hlt hcdef hc1 hc2 ih vt store hvs => ?_)
  · rw [writeCELoop, if_neg (Nat.lt_irrefl N), if_neg (Nat.lt_irrefl N)]
    exact ⟨rfl, rfl, Patched.none fun a ha => Nat.lt_irrefl _ (Nat.lt_of_le_of_lt ha.lo ha.hi)⟩
  · have hmin : min chunk (N - done) = c := by rw [← hcdef]; split <;> omega
    rw [hmin] at hvs
    rw [writeCELoop_step hlt hcdef]
    obtain ⟨t1, h2⟩ := writeStep_spec hw hn buf vt store (N := N) (pos0 := pos0) hc1 hvs
    generalize writeC w buf vt (done * (esizes w).sum) c (esizes w).sum w.ivsize = vt' at t1 h2 ⊢
    have h1 := (hwrite_spec store (pos0 + w.ivsize * done) vt' (w.ivsize * c)).1
    generalize hwrite store (pos0 + w.ivsize * done) vt' (w.ivsize * c) = store1 at h1 h2 ⊢
    have e1 : pos0 + w.ivsize * done + w.ivsize * c = pos0 + w.ivsize * (done + c) := by rw [Nat.mul_add, Nat.add_assoc]
    rw [e1] at h1 ⊢
    rw [← Nat.add_mul]
    obtain ⟨r1, r2, r3⟩ := ih vt' store1
      (by rw [t1]; exact Nat.le_trans (Nat.mul_le_mul_left _ (Nat.min_le_left _ _)) hvs)
    have hmono : w.ivsize * (done + c) ≤ w.ivsize * N := Nat.mul_le_mul_left _ hc2
    refine ⟨r1, ?_, h2.append r3 (fun a a' ha ha' e => ?_) (fun a => ?_)⟩
    · rw [r2, if_pos hlt, h1]
      by_cases hl2 : done + c < N
      · rw [if_pos hl2, Nat.max_assoc, Nat.max_eq_right (Nat.add_le_add_left hmono pos0)]
      · rw [if_neg hl2, show done + c = N by omega]
    · have := recD_inj hw hc2 (Nat.le_refl N) ha ha' e.symm
      have := ha.hi; have := ha'.lo; omega
    · simp only [FB.In.iff]; omega

theorem writeCELoop_run {w : WList} (hw : w.WF) (hn : 0 < w.n) (buf : Buf) {N : Nat} (hN : 1 ≤ N) (pos0 : Nat) {chunk : Nat}
    (hc : 1 ≤ chunk) (vt store : Buf) (hvs : w.ivsize * min chunk N ≤ vt.size) :
    let res := writeCELoop w buf (esizes w).sum w.ivsize N (N + 1) chunk 0 pos0 0 vt store
    res.2 = pos0 + w.ivsize * N ∧ res.1.size = max store.size (pos0 + w.ivsize * N) ∧
    Patched store res.1 (recP w 0 N) (recD true w N pos0) (recV true w N buf) := by
  have := writeCELoop_spec hw hn buf N pos0 (N + 1) chunk 0 hc (Nat.zero_le _) (Nat.le_refl _) vt store hvs
  simpa only [Nat.mul_zero, Nat.add_zero, Nat.zero_mul, if_pos (show 0 < N from hN)] using this

theorem writeABD_eq {il vil : Nat} (hil : il = FULL_INTERLACE ∨ il = NO_INTERLACE) (hvil : vil = FULL_INTERLACE ∨ vil = NO_INTERLACE)
    (hCE : ¬ (il = FULL_INTERLACE ∧ vil = FULL_INTERLACE)) (w : WList) (buf vt : Buf) (nelt is : Nat) :
    (if il = NO_INTERLACE ∧ vil = FULL_INTERLACE then writeA w buf vt nelt w.ivsize
      else if il = NO_INTERLACE ∧ vil = NO_INTERLACE then writeB w buf vt nelt
      else if il = FULL_INTERLACE ∧ vil = NO_INTERLACE then writeD w buf vt nelt is
      else vt)
    = applyMoves buf ((LW (decide (il = FULL_INTERLACE)) (decide (vil = FULL_INTERLACE)) 0 nelt is w.ivsize).moves nelt w.fields) vt := by
  rcases hil with rfl | rfl <;> rcases hvil with rfl | rfl
  · exact absurd ⟨rfl, rfl⟩ hCE
  · exact writeD_eq w buf vt nelt is w.ivsize
  · exact writeA_eq w buf vt nelt w.ivsize 0 is
  · exact writeB_eq w buf vt nelt 0 is w.ivsize

/-- **VSwrite, all cases.** The call succeeds, advances the position by `nelt` records, extends the data element if
    needed, stores byte `e` of field `j` of record `r` of the caller's buffer (laid out in the requested buffer interlace,
    byte-reversed per element for swapping kernels: `mirE`) at its place in the stored layout of the batch, and changes no
    byte of the data element outside the batch. -/
theorem vswriteCore_spec {w : WList} (hw : w.WF) (hn : 0 < w.n) {vil il : Nat}
    (hvil : vil = FULL_INTERLACE ∨ vil = NO_INTERLACE) (hil : il = FULL_INTERLACE ∨ il = NO_INTERLACE)
    (store : Buf) (pos vtb : Nat) (buf : Buf) {nelt : Nat} (hnelt : 1 ≤ nelt) :
    ∃ store' vtb', vswriteCore w vil store pos vtb buf nelt il = some (store', pos + w.ivsize * nelt, vtb') ∧
      store'.size = max store.size (pos + w.ivsize * nelt) ∧
      Patched store store' (recP w 0 nelt) (recD (decide (vil = FULL_INTERLACE)) w nelt pos) (recV (decide (il = FULL_INTERLACE)) w nelt buf) := by
  unfold vswriteCore
  rw [if_neg (by omega), if_neg (by omega), if_neg (by omega)]
  simp only [intSizeOf_eq]
  by_cases hCE : w.n = 1 ∨ (il = FULL_INTERLACE ∧ vil = FULL_INTERLACE)
  · rw [if_pos hCE]
    obtain ⟨r1, r2, r4⟩ := writeCELoop_run hw hn buf hnelt pos (chunkInit_pos (w.ivsize * nelt) w.ivsize _ vtb hnelt)
      (Array.replicate (w.ivsize * min (chunkInit (w.ivsize * nelt) w.ivsize nelt vtb).1 nelt) 0) store (by simp)
    refine ⟨_, _, by rw [← r1], r2, r4.congr (fun c hc => ?_) (fun c hc => ?_)⟩ <;> have hj := hc.j
    · simp only [recD]
      rw [show fileAddr (decide (vil = FULL_INTERLACE)) w nelt c.r c.j = fileAddr true w nelt c.r c.j from
        layoutAddr_CE (hCE.imp (fun h1 => ⟨(isizes_length w).trans h1, by omega⟩) (·.2)) _ _]
    · simp only [recV]
      rw [layoutAddr_CE (hCE.imp (fun h1 => ⟨(esizes_length w).trans h1, by omega⟩) (·.1))]
  · rw [if_neg hCE, writeABD_eq hil hvil (fun h => hCE (Or.inr h))]
    have t2 := write_spec hw hn (decide (il = FULL_INTERLACE)) (decide (vil = FULL_INTERLACE)) (N := nelt) (r0 := 0) hnelt
      (fun _ => ⟨rfl, rfl⟩) buf (Array.replicate (w.ivsize * nelt) 0) (by simp) (Nat.zero_mul _).symm
    exact ⟨_, _, rfl, (hwrite_spec ..).1, (hwrite_patched hw _ pos store t2).congr (fun _ _ => rfl)
      (fun c _ => by simp only [recV, Nat.zero_add])⟩

/-- **The `VDATA_BUFFER_MAX` chunk loop of VSwrite does not affect the result**: any two chunk sizes (hence any value of
    the static `Vtbufsize`, any buffer limit) give the same data element and position. -/
theorem chunked_write_eq {w : WList} (hw : w.WF) (hn : 0 < w.n) (buf : Buf) (N pos0 : Nat) (store vt1 vt2 : Buf)
    {c1 c2 : Nat} (h1 : 1 ≤ c1) (h2 : 1 ≤ c2) (hv1 : w.ivsize * min c1 N ≤ vt1.size) (hv2 : w.ivsize * min c2 N ≤ vt2.size)
    (hN : 1 ≤ N) :
    writeCELoop w buf (esizes w).sum w.ivsize N (N + 1) c1 0 pos0 0 vt1 store
      = writeCELoop w buf (esizes w).sum w.ivsize N (N + 1) c2 0 pos0 0 vt2 store := by
  obtain ⟨a1, a3, a4⟩ := writeCELoop_run hw hn buf hN pos0 h1 vt1 store hv1
  obtain ⟨b1, b3, b4⟩ := writeCELoop_run hw hn buf hN pos0 h2 vt2 store hv2
  exact Prod.ext (a4.unique b4 (a3.trans b3.symm)) (a1.trans b1.symm)

/-- **The chunk loop of VSread does not affect the result.** -/
theorem chunked_read_eq {w : WList} (hw : w.WF) {items : List Nat} (hl : ReadList w items) (store buf : Buf) (N pos0 : Nat) (hst : pos0 + w.ivsize * N ≤ store.size)
    (hsz : N * (selSizes w items).sum ≤ buf.size) {c1 c2 : Nat} (h1 : 1 ≤ c1) (h2 : 1 ≤ c2) :
    readCELoop w items store w.ivsize (selSizes w items).sum N (N + 1) c1 0 pos0 0 buf
      = readCELoop w items store w.ivsize (selSizes w items).sum N (N + 1) c2 0 pos0 0 buf := by
  obtain ⟨x1, a1, a2, a3⟩ := readCELoop_run hw hl store N pos0 hst h1 buf hsz
  obtain ⟨x2, b1, b2, b3⟩ := readCELoop_run hw hl store N pos0 hst h2 buf hsz
  rw [a1, b1, a3.unique b3 (a2.trans b2.symm)]


/-- **Write then read, either vdata interlace.** A batch of `n` records is written at byte `pos`; later `n'` records are read
    at byte `pos'` from a data element that still holds the batch.  Whenever the read fetches each selected field of its `r`-th
    record from where the write stored that field of its record `d + r` (`haddr`: always so for a FULL_INTERLACE vdata, for a
    NO_INTERLACE vdata see `H4.Props.C07.vs_no_read_correct_iff`), the read buffer holds the written field values, in memory
    representation: the byte reversal of the swapping kernels cancels. -/
theorem vswrite_vsread_at {w : WList} (hw : w.WF) {sel : List Nat} (hl : ReadList w sel) {vil wil ril : Nat} (hvil : vil = FULL_INTERLACE ∨ vil = NO_INTERLACE)
    (hwil : wil = FULL_INTERLACE ∨ wil = NO_INTERLACE) (hril : ril = FULL_INTERLACE ∨ ril = NO_INTERLACE)
    (store : Buf) (vtb pos pos' : Nat) {n n' d : Nat} (wbuf rbuf : Buf) (hn1 : 1 ≤ n) (hn' : 1 ≤ n') (hd : d + n' ≤ n)
    (hrsz : n' * (selSizes w sel).sum ≤ rbuf.size)
    (haddr : ∀ r < n', ∀ i ∈ sel, pos' + fileAddr (decide (vil = FULL_INTERLACE)) w n' r i
      = pos + fileAddr (decide (vil = FULL_INTERLACE)) w n (d + r) i) :
    ∃ store' vtb', vswriteCore w vil store pos vtb wbuf n wil = some (store', pos + w.ivsize * n, vtb') ∧
      store'.size = max store.size (pos + w.ivsize * n) ∧
      ∀ (store2 : Buf) (vtb2 : Nat), pos' + w.ivsize * n' ≤ store2.size →
        (∀ p, pos ≤ p → p < pos + w.ivsize * n → getB store2 p = getB store' p) →
      ∃ rbuf' vtb'', vsreadCore w vil sel store2 pos' vtb2 rbuf n' ril = (vtb'', some (rbuf', pos' + w.ivsize * n')) ∧
        rbuf'.size = rbuf.size ∧
        ∀ r < n', ∀ jj, ∀ hj : jj < sel.length, ∀ e < (w.field sel[jj]).esize,
          getB rbuf' (layoutAddr (decide (ril = FULL_INTERLACE)) (selSizes w sel) n' r jj + e)
            = getB wbuf (layoutAddr (decide (wil = FULL_INTERLACE)) (esizes w) n (d + r) sel[jj] + e) := by
  obtain ⟨store', vtb', w1, w2, w3⟩ := vswriteCore_spec hw hl.pos hvil hwil store pos vtb wbuf hn1
  refine ⟨store', vtb', w1, w2, fun store2 vtb2 hs2 hag => ?_⟩
  obtain ⟨rbuf', vtb'', r1, r2, r3⟩ := vsreadCore_spec hw hl hvil hril store2 pos' vtb2 rbuf hn' hs2 hrsz
  refine ⟨rbuf', vtb'', r1, r2, fun r hr jj hj e he => ?_⟩
  have hi := hl.lt _ (List.getElem_mem hj)
  have wf := hw.field hi
  have hlt := fileAddr_lt hw (vfull := decide (vil = FULL_INTERLACE)) (n := n) (r := d + r) hi (by omega)
    (by rw [wf.ie]; exact mirE_lt wf he)
  have hw3 := w3.hit ⟨d + r, sel[jj], mirE (w.field sel[jj]) e⟩ ⟨Nat.zero_le _, (by omega : d + r < n), hi, mirE_lt wf he⟩
  have hr3 := r3.hit ⟨r, jj, e⟩ ⟨Nat.zero_le _, hr, hj, by rw [getD_getElem hj]; exact he⟩
  simp only [recD, recV, mirE_mirE wf he] at hw3
  simp only [selD, selV, getD_getElem hj] at hr3
  rw [hr3, ← Nat.add_assoc, haddr r hr _ (List.getElem_mem hj), Nat.add_assoc, hag _ (by omega) (by omega), hw3]

def offsFrom : Nat → List Field → List Field
  | _, [] => []
  | o, f :: t => { f with off := o } :: offsFrom (o + f.isize) t

theorem assignOffs_aux (fs acc : List Field) (o : Nat) :
    (fs.foldl (fun (p : List Field × Nat) f => ({ f with off := p.2 } :: p.1, p.2 + f.isize)) (acc, o)).1.reverse
      = acc.reverse ++ offsFrom o fs := by
  induction fs generalizing acc o with
  | nil => simp [offsFrom]
  | cons f t ih => rw [List.foldl_cons, ih]; simp [offsFrom]

theorem assignOffs_eq (fs : List Field) : assignOffs fs = offsFrom 0 fs := by
  simp [assignOffs, assignOffs_aux]

theorem offsFrom_isizes (o : Nat) (fs : List Field) : (offsFrom o fs).map (·.isize) = fs.map (·.isize) := by
  induction fs generalizing o with
  | nil => rfl
  | cons f t ih => simp [offsFrom, ih]

theorem offsFrom_length (o : Nat) (fs : List Field) : (offsFrom o fs).length = fs.length := by
  induction fs generalizing o with
  | nil => rfl
  | cons f t ih => simp [offsFrom, ih]

theorem offsFrom_wf (o : Nat) (fs : List Field) (h : ∀ f ∈ fs, f.WF) : ∀ f ∈ offsFrom o fs, f.WF := by
  induction fs generalizing o with
  | nil => simp [offsFrom]
  | cons f t ih =>
    intro g hg
    simp only [offsFrom, List.mem_cons] at hg
    rcases hg with rfl | hg
    · exact h f List.mem_cons_self
    · exact ih _ (fun x hx => h x (List.mem_cons_of_mem _ hx)) g hg

theorem offsFrom_getD (o : Nat) (fs : List Field) (j : Nat) (hj : j < fs.length) :
    (offsFrom o fs).getD j default = { fs.getD j default with off := o + pre (fs.map (·.isize)) j } := by
  induction fs generalizing o j with
  | nil => simp at hj
  | cons f t ih =>
    cases j with
    | zero => simp [offsFrom, pre]
    | succ j =>
      simp only [offsFrom, List.getD_cons_succ]
      rw [ih _ _ (by simpa using hj)]
      simp only [pre, List.map_cons, List.take_succ_cons, List.sum_cons]
      congr 1; omega

theorem offsFrom_off (o : Nat) (fs : List Field) (j : Nat) (hj : j < fs.length) :
    ((offsFrom o fs).getD j default).off = o + pre (fs.map (·.isize)) j :=
  congrArg (·.off) (offsFrom_getD o fs j hj)

theorem nt_tables : ∀ i < 10, NT_SIZES.getD i 0 = NT_NSIZES.getD i 0 ∧ 1 ≤ NT_SIZES.getD i 0 := by decide

theorem ntInfo_valid {t : Nat} {nt : NT} (h : ntInfo t = some nt) : 1 ≤ nt.tsz ∧ nt.nsz = nt.tsz := by
  unfold ntInfo at h
  simp only at h
  split at h
  · cases h
  · split at h
    · cases h
    · rename_i i hi
      have hlt : i < 10 := by
        unfold findIdx at hi
        simp only at hi
        split at hi
        · cases hi; rename_i hl; simpa [NT_CODES] using hl
        · cases hi
      obtain ⟨e1, e2⟩ := nt_tables i hlt
      cases h
      simp only
      split
      · exact ⟨by rw [← e1]; exact e2, rfl⟩
      · exact ⟨e2, e1.symm⟩

/-- a user symbol as left behind by a successful `VSfdefine` -/
def SymDef.Valid (sd : SymDef) : Prop := 1 ≤ sd.order ∧ ∃ nt, ntInfo sd.type = some nt ∧ sd.isize = nt.tsz

/-- the reserved symbols are valid symbols of 4 bytes (checked on the generated table) -/
theorem rstab_valid : ∀ sd ∈ rstab, sd.Valid ∧ sd.order * sd.isize < 65536 := by
  have h : ∀ sd ∈ rstab, (1 ≤ sd.order ∧ (match ntInfo sd.type with | some nt => decide (sd.isize = nt.tsz) | none => false) = true)
      ∧ sd.order * sd.isize < 65536 := by decide
  intro sd hsd
  obtain ⟨⟨h1, h2⟩, h3⟩ := h sd hsd
  refine ⟨⟨h1, ?_⟩, h3⟩
  cases hnt : ntInfo sd.type with
  | none => rw [hnt] at h2; cases h2
  | some nt => rw [hnt] at h2; exact ⟨nt, rfl, by simpa using h2⟩

theorem max_order : MAX_ORDER = 65535 := by decide
theorem max_field_size : MAX_FIELD_SIZE = 65535 := by decide
theorem vsfieldmax : VSFIELDMAX = 256 := by decide


/-- one step of `buildWList.go` -/
def goStep (usym : List SymDef) (nm : String) (iv : Nat) : Option (Field × Nat) :=
  match usym.find? (·.name == nm) with
  | some sd =>
    match ntInfo sd.type with
    | none => none
    | some nt =>
      if sd.order * sd.isize > MAX_FIELD_SIZE then none else
      if iv + sd.order * sd.isize > MAX_FIELD_SIZE then none else
      some ({ name := sd.name, type := sd.type, tsz := nt.tsz, swap := nt.swap, order := sd.order,
              isize := sd.order * sd.isize, esize := sd.order * nt.nsz % 65536, off := 0 }, iv + sd.order * sd.isize)
  | none =>
    match rstab.find? (·.name == nm) with
    | none => none
    | some sd =>
      match ntInfo sd.type with
      | none => none
      | some nt =>
        if iv + sd.order * sd.isize % 65536 > MAX_FIELD_SIZE then none else
        some ({ name := sd.name, type := sd.type, tsz := nt.tsz, swap := nt.swap, order := sd.order,
                isize := sd.order * sd.isize % 65536, esize := sd.order * nt.nsz % 65536, off := 0 }, iv + sd.order * sd.isize % 65536)

theorem go_cons (usym : List SymDef) (nm : String) (rest : List String) (acc : List Field) (iv : Nat) :
    buildWList.go usym (nm :: rest) acc iv =
      match goStep usym nm iv with
      | none => none
      | some (f, iv') => buildWList.go usym rest (f :: acc) iv' := by
  simp only [buildWList.go, goStep]
  cases h1 : usym.find? (·.name == nm) with
  | some sd =>
    simp only
    cases h2 : ntInfo sd.type with
    | none => rfl
    | some nt =>
      simp only
      by_cases c1 : sd.order * sd.isize > MAX_FIELD_SIZE
      · simp only [if_pos c1]
      · simp only [if_neg c1]
        by_cases c2 : iv + sd.order * sd.isize > MAX_FIELD_SIZE
        · simp only [if_pos c2]
        · simp only [if_neg c2]
  | none =>
    simp only
    cases h3 : rstab.find? (·.name == nm) with
    | none => rfl
    | some sd =>
      simp only
      cases h2 : ntInfo sd.type with
      | none => rfl
      | some nt =>
        simp only
        by_cases c2 : iv + sd.order * sd.isize % 65536 > MAX_FIELD_SIZE
        · simp only [if_pos c2]
        · simp only [if_neg c2]

/-- the offset is assigned later -/
def symField (sd : SymDef) (nt : NT) : Field :=
  { name := sd.name, type := sd.type, tsz := nt.tsz, swap := nt.swap, order := sd.order, isize := sd.order * sd.isize,
    esize := sd.order * nt.nsz % 65536, off := 0 }

/-- The user symbols and the reserved ones go the same way: a reserved symbol has less than 65536 bytes (`rstab_valid`), so the `uint16`
    conversion of its size does nothing and the single-field test cannot fail. -/
theorem goStep_eq (usym : List SymDef) (nm : String) (iv : Nat) :
    goStep usym nm iv =
      match (usym.find? (·.name == nm)).orElse fun _ => rstab.find? (·.name == nm) with
      | none => none
      | some sd =>
        match ntInfo sd.type with
        | none => none
        | some nt =>
          if sd.order * sd.isize > 65535 ∨ iv + sd.order * sd.isize > 65535 then none
          else some (symField sd nt, iv + sd.order * sd.isize) := by
  unfold goStep
  cases h1 : usym.find? (·.name == nm) with
  | some sd =>
    simp only [Option.orElse_some, max_field_size]
    cases ntInfo sd.type with
    | none => rfl
    | some nt =>
      by_cases c1 : sd.order * sd.isize > 65535
      · simp only [if_pos c1, if_pos (Or.inl c1 : _ ∨ iv + sd.order * sd.isize > 65535)]
      · by_cases c2 : iv + sd.order * sd.isize > 65535
        · simp only [if_neg c1, if_pos c2, if_pos (Or.inr c2 : sd.order * sd.isize > 65535 ∨ _)]
        · simp only [if_neg c1, if_neg c2, if_neg (not_or.mpr ⟨c1, c2⟩)]; rfl
  | none =>
    simp only [Option.orElse_none, max_field_size]
    cases h3 : rstab.find? (·.name == nm) with
    | none => rfl
    | some sd =>
      have hm : sd.order * sd.isize % 65536 = sd.order * sd.isize :=
        Nat.mod_eq_of_lt (rstab_valid sd (List.mem_of_find?_eq_some h3)).2
      simp only [hm]
      cases ntInfo sd.type with
      | none => rfl
      | some nt =>
        by_cases c2 : iv + sd.order * sd.isize > 65535
        · simp only [if_pos c2, if_pos (Or.inr c2 : sd.order * sd.isize > 65535 ∨ _)]
        · have c1 : ¬ sd.order * sd.isize > 65535 := by omega
          simp only [if_neg c2, if_neg (not_or.mpr ⟨c1, c2⟩), symField]

theorem symField_wf {sd : SymDef} {nt : NT} (hv : sd.Valid) (hnt : ntInfo sd.type = some nt) (hle : ¬ sd.order * sd.isize > 65535) :
    (symField sd nt).WF := by
  obtain ⟨ho, nt', hnt', his⟩ := hv
  rw [hnt] at hnt'; cases hnt'
  obtain ⟨ht1, ht2⟩ := ntInfo_valid hnt
  refine ⟨ho, ht1, by simp only [symField, his], ?_⟩
  show sd.order * nt.nsz % 65536 = sd.order * nt.tsz
  rw [ht2, ← his]; exact Nat.mod_eq_of_lt (by omega)

theorem find_valid (usym : List SymDef) (hus : ∀ sd ∈ usym, sd.Valid) (nm : String) (sd : SymDef)
    (h : ((usym.find? (·.name == nm)).orElse fun _ => rstab.find? (·.name == nm)) = some sd) : sd.Valid := by
  cases h1 : usym.find? (·.name == nm) with
  | some x => rw [h1] at h; cases h; exact hus _ (List.mem_of_find?_eq_some h1)
  | none => rw [h1, Option.orElse_none] at h; exact (rstab_valid sd (List.mem_of_find?_eq_some h)).1

theorem buildWList_go_wf (usym : List SymDef) (hus : ∀ sd ∈ usym, sd.Valid) :
    ∀ (names : List String) (acc : List Field) (iv : Nat), (∀ f ∈ acc, f.WF) → iv = (acc.map (·.isize)).sum → iv ≤ MAX_FIELD_SIZE →
    ∀ fs iv', buildWList.go usym names acc iv = some (fs, iv') →
      (∀ f ∈ fs, f.WF) ∧ iv' = (fs.map (·.isize)).sum ∧ iv' ≤ MAX_FIELD_SIZE := by
  intro names
  induction names with
  | nil =>
    intro acc iv hacc hiv hle fs iv' h
    simp only [buildWList.go] at h
    cases h
    exact ⟨fun x hx => hacc x (List.mem_reverse.mp hx), by simp only [List.map_reverse, List.sum_reverse, hiv], hle⟩
  | cons nm rest ih =>
    intro acc iv hacc hiv _ fs iv' h
    rw [go_cons, goStep_eq] at h
    cases hf : ((usym.find? (·.name == nm)).orElse fun _ => rstab.find? (·.name == nm)) with
    | none => rw [hf] at h; cases h
    | some sd =>
      rw [hf] at h
      have hv := find_valid usym hus nm sd hf
      obtain ⟨nt, hnt⟩ : ∃ nt, ntInfo sd.type = some nt := ⟨_, hv.2.choose_spec.1⟩
      simp only [hnt] at h
      by_cases c : sd.order * sd.isize > 65535 ∨ iv + sd.order * sd.isize > 65535
      · rw [if_pos c] at h; cases h
      · rw [if_neg c] at h
        have c' := not_or.mp c
        exact ih _ _ (List.forall_mem_cons.mpr ⟨symField_wf hv hnt c'.1, hacc⟩)
          (by simp only [List.map_cons, List.sum_cons, hiv, symField]; omega) (by rw [max_field_size]; omega) fs iv' h

theorem go_length (usym : List SymDef) : ∀ (names : List String) (acc : List Field) (iv : Nat) (fs : List Field) (iv' : Nat),
    buildWList.go usym names acc iv = some (fs, iv') → fs.length = acc.length + names.length := by
  intro names
  induction names with
  | nil => intro acc iv fs iv' h; simp only [buildWList.go] at h; cases h; simp
  | cons nm rest ih =>
    intro acc iv fs iv' h
    rw [go_cons] at h
    cases hg : goStep usym nm iv with
    | none => rw [hg] at h; cases h
    | some p =>
      obtain ⟨f, iv2⟩ := p
      rw [hg] at h
      have := ih (f :: acc) iv2 fs iv' h
      simp at this ⊢; omega

theorem buildWList_length {usym : List SymDef} {names : List String} {w : WList} (h : buildWList usym names = some w) :
    w.fields.length = names.length := by
  unfold buildWList at h
  split at h
  · cases h
  · rename_i fs iv hgo
    cases h
    have := go_length usym names [] 0 fs iv hgo
    simp [assignOffs_eq, offsFrom_length, this]


/-- **Schema consistency.** The write list built by `VSsetfields` from symbols defined by `VSfdefine` is well-formed:
    every field has `isize = esize = order · DFKNTsize(type)`, `off` is the running sum of the `isize`s in field-list
    order, and `ivsize` (the record size reported by `VSsizeof`/`VSinquire`, and the stride of `VSseek`) is their total. -/
theorem vssetfields_wf (usym : List SymDef) (hus : ∀ sd ∈ usym, sd.Valid) (names : List String) (w : WList)
    (h : buildWList usym names = some w) : w.WF ∧ w.ivsize ≤ MAX_FIELD_SIZE := by
  unfold buildWList at h
  split at h
  · cases h
  · rename_i fs iv hgo
    cases h
    obtain ⟨g1, g2, g3⟩ := buildWList_go_wf usym hus names [] 0 (by simp) (by simp) (Nat.zero_le _) fs iv hgo
    refine ⟨⟨?_, ?_, ?_⟩, g3⟩
    · simp only [assignOffs_eq]; exact offsFrom_wf 0 fs g1
    · intro j hj
      simp only [WList.n, assignOffs_eq, offsFrom_length] at hj
      simp only [WList.field, isizes, assignOffs_eq, offsFrom_isizes]
      rw [offsFrom_off 0 fs j hj]; omega
    · simp only [isizes, assignOffs_eq, offsFrom_isizes]; exact g2

theorem vsfdefine_valid (usym : List SymDef) (hus : ∀ sd ∈ usym, sd.Valid) (name : String) (t order : Nat) (usym' : List SymDef)
    (h : vsfdefine usym name t order = some usym') : ∀ sd ∈ usym', sd.Valid := by
  unfold vsfdefine vsfdefineTok at h
  split at h; · cases h
  split at h; · cases h
  rename_i c1
  split at h; · cases h
  rename_i nt hnt
  split at h; · cases h
  have hnew : SymDef.Valid { name := name, type := t, isize := nt.tsz, order := order } :=
    ⟨by show 1 ≤ order; omega, nt, hnt, rfl⟩
  split at h <;> cases h <;> intro sd hsd
  · rcases List.mem_or_eq_of_mem_set hsd with h1 | h1
    · exact hus sd h1
    · rw [h1]; exact hnew
  · rcases List.mem_append.mp hsd with h1 | h1
    · exact hus sd h1
    · simp at h1; rw [h1]; exact hnew


/-- an entry of the (un)pack program: `((fmsize, foff), field buffer)` -/
abbrev PEnt := (Nat × Nat) × Buf

def packVals (L : List PEnt) (recSize nrec : Nat) : List (Nat × Byte) :=
  (List.range nrec).flatMap fun i => L.flatMap fun e => (List.range e.1.1).map fun x => (i * recSize + e.1.2 + x, getB e.2 (i * e.1.1 + x))

theorem copyBytes_eq_vals (src : Buf) (s : Nat) (dst : Buf) (d n : Nat) :
    copyBytes src s dst d n = applyVals ((List.range n).map fun x => (d + x, getB src (s + x))) dst := by
  simp [copyBytes, copyElem, applyVals, List.foldl_map]

theorem fpackPack_eq (sel : List (Nat × Nat)) (recSize nrec : Nat) (buf : Buf) (fbufs : List Buf) :
    fpackPack sel recSize nrec buf fbufs = applyVals (packVals (sel.zip fbufs) recSize nrec) buf := by
  simp only [fpackPack, copyBytes_eq_vals, packVals]
  rw [← foldl_applyVals]
  congr 1
  funext d i
  exact foldl_applyVals _ _ _

/-- the byte intervals of the packed fields inside a buffer record do not overlap (entries may repeat verbatim) and lie inside the record -/
def PDisj (L : List PEnt) (recSize : Nat) : Prop :=
  (∀ e ∈ L, e.1.2 + e.1.1 ≤ recSize) ∧
  (∀ e ∈ L, ∀ e' ∈ L, ∀ x < e.1.1, ∀ x' < e'.1.1, e.1.2 + x = e'.1.2 + x' → e = e')

theorem fpackPack_spec {L : List PEnt} {recSize nrec : Nat} (hd : PDisj L recSize) (buf : Buf) (hsz : nrec * recSize ≤ buf.size) :
    Patched buf (applyVals (packVals L recSize nrec) buf)
      (fun c : Nat × PEnt × Nat => c.1 < nrec ∧ c.2.1 ∈ L ∧ c.2.2 < c.2.1.1.1)
      (fun c => c.1 * recSize + c.2.1.1.2 + c.2.2) (fun c => getB c.2.1.2 (c.1 * c.2.1.1.1 + c.2.2)) := by
  refine patched_vals _ _ _ (fun m => ?_) ?_ ?_
  · simp only [packVals, List.mem_flatMap, List.mem_map, List.mem_range]
    constructor
    · rintro ⟨i, hi, e, he, x, hx, rfl⟩; exact ⟨(i, e, x), ⟨hi, he, hx⟩, rfl⟩
    · rintro ⟨⟨i, e, x⟩, ⟨hi, he, hx⟩, rfl⟩; exact ⟨i, hi, e, he, x, hx, rfl⟩
  · rintro ⟨i, e, x⟩ ⟨i', e', x'⟩ ⟨_, he, hx⟩ ⟨_, he', hx'⟩ h
    simp only at he he' hx hx' h ⊢
    have b1 := hd.1 e he
    have b2 := hd.1 e' he'
    obtain ⟨q1, q2⟩ := div_mod_unique (C := recSize) (m := i) (m' := i') (c := e.1.2 + x) (c' := e'.1.2 + x') (by omega) (by omega) (by omega)
    have := hd.2 e he e' he' x hx x' hx' q2
    subst this; subst q1
    have : x = x' := by omega
    subst this; rfl
  · rintro ⟨i, e, x⟩ ⟨hi, he, hx⟩
    simp only at hi he hx ⊢
    have b1 := hd.1 e he
    have := mul_add_lt (sz := recSize) (e := e.1.2 + x) hi (by omega)
    omega

def unpackOne (buf : Buf) (recSize nrec : Nat) (e : PEnt) : Buf :=
  (List.range nrec).foldl (fun fb i => copyBytes buf (i * recSize + e.1.2) fb (i * e.1.1) e.1.1) e.2

theorem fpackUnpack_eq (sel : List (Nat × Nat)) (recSize nrec : Nat) (buf : Buf) (fbufs : List Buf) :
    fpackUnpack sel recSize nrec buf fbufs = (sel.zip fbufs).map (unpackOne buf recSize nrec) := rfl

theorem unpackOne_spec (buf : Buf) (recSize nrec : Nat) (e : PEnt) (hsz : nrec * e.1.1 ≤ e.2.size) :
    Patched e.2 (unpackOne buf recSize nrec e) (fun c : Nat × Nat => c.1 < nrec ∧ c.2 < e.1.1) (fun c => c.1 * e.1.1 + c.2)
      (fun c => getB buf (c.1 * recSize + e.1.2 + c.2)) := by
  have heq : unpackOne buf recSize nrec e = applyVals ((List.range nrec).flatMap fun i =>
      (List.range e.1.1).map fun x => (i * e.1.1 + x, getB buf (i * recSize + e.1.2 + x))) e.2 := by
    simp only [unpackOne, copyBytes_eq_vals]
    exact foldl_applyVals _ _ _
  rw [heq]
  refine patched_vals _ _ _ (fun m => ?_) ?_ ?_
  · simp only [List.mem_flatMap, List.mem_map, List.mem_range]
    constructor
    · rintro ⟨i, hi, x, hx, rfl⟩; exact ⟨(i, x), ⟨hi, hx⟩, rfl⟩
    · rintro ⟨⟨i, x⟩, ⟨hi, hx⟩, rfl⟩; exact ⟨i, hi, x, hx, rfl⟩
  · rintro ⟨i, x⟩ ⟨i', x'⟩ ⟨_, hx⟩ ⟨_, hx'⟩ h
    simp only at hx hx' h ⊢
    obtain ⟨q1, q2⟩ := div_mod_unique hx hx' h
    subst q1; subst q2; rfl
  · rintro ⟨i, x⟩ ⟨hi, hx⟩
    have := mul_add_lt (sz := e.1.1) hi hx
    simp only at this ⊢; omega


def SelDisj (sel : List (Nat × Nat)) (recSize : Nat) : Prop :=
  (∀ s ∈ sel, s.2 + s.1 ≤ recSize) ∧
  (∀ j j', ∀ hj : j < sel.length, ∀ hj' : j' < sel.length, ∀ x < sel[j].1, ∀ x' < sel[j'].1,
    sel[j].2 + x = sel[j'].2 + x' → j = j')

theorem pdisj_zip {sel : List (Nat × Nat)} {recSize : Nat} (h : SelDisj sel recSize) (fbufs : List Buf) :
    PDisj (sel.zip fbufs) recSize := by
  constructor
  · intro e he
    exact h.1 e.1 (List.of_mem_zip he).1
  · intro e he e' he' x hx x' hx' heq
    obtain ⟨j, hj, rfl⟩ := List.getElem_of_mem he
    obtain ⟨j', hj', rfl⟩ := List.getElem_of_mem he'
    simp only [List.getElem_zip] at hx hx' heq ⊢
    have hl : j < sel.length := by simp at hj; omega
    have hl' : j' < sel.length := by simp at hj'; omega
    have := h.2 j j' hl hl' x hx x' hx' heq
    subst this; rfl

/-- prefix-sum offsets (the `blist.offs` of `VSfpack`, i.e. the case `fields = NULL`) are disjoint -/
theorem seldisj_prefix (szs : List Nat) :
    SelDisj ((List.range szs.length).map fun j => (szs.getD j 0, pre szs j)) szs.sum := by
  constructor
  · intro s hs
    simp only [List.mem_map, List.mem_range] at hs
    obtain ⟨j, hj, rfl⟩ := hs
    simp only [getD_getElem hj 0]
    exact pre_add_le_sum hj
  · intro j j' hj hj' x hx x' hx' heq
    simp only [List.length_map, List.length_range] at hj hj'
    simp only [List.getElem_map, List.getElem_range, getD_getElem hj 0, getD_getElem hj' 0] at hx hx' heq
    exact (interval_inj hj hj' hx hx' heq).1

end H4.VData
