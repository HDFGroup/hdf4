import H4.Lemmas.VGroupOps
/-! One lemma per operation: outputs agree, abstraction commutes, the invariant is kept (`SimGoal`); where the operation is not
    a plain `withSlot`, also that the reference model keeps `GraphInv` (`StepOK`), from the same closed form of `gstep`. -/
namespace H4.VGroup
open H4.Gen.Hdf

def SimGoal (s : File) (op : Op) : Prop :=
  (step s op).1.abs = (gstep s.abs op).1 ∧ (step s op).2 = (gstep s.abs op).2 ∧ Inv (step s op).1

def StepOK (s : File) (op : Op) : Prop := SimGoal s op ∧ GraphInv (gstep s.abs op).1

theorem stepOK_congr {s : File} {op : Op} {x : File × Out} {y : Graph × Out} (e1 : step s op = x) (e2 : gstep s.abs op = y)
    (h : x.1.abs = y.1 ∧ x.2 = y.2 ∧ Inv x.1) (hG : GraphInv y.1) : StepOK s op :=
  ⟨by unfold SimGoal; rw [e1, e2]; exact h, by rw [e2]; exact hG⟩

theorem stepOK_of_eq {s s' : File} {op : Op} {g' : Graph} {o : Out} (e1 : step s op = (s', o)) (e2 : gstep s.abs op = (g', o))
    (ha : s'.abs = g') (hI : Inv s') (hG : GraphInv g') : StepOK s op :=
  stepOK_congr e1 e2 ⟨ha, rfl, hI⟩ hG

theorem abs_lookup {s : File} {r : Nat} {g : VGroup} (h : alook r s.vgs = some g) : alook r s.abs.vgs = some g.abs := by
  rw [abs_alook, h]; rfl

theorem slot_attached {s : File} (hG : GraphInv s.abs) {slot r : Nat} {g : VGroup}
    (h1 : alook slot s.slots = some r) (h2 : alook r s.vgs = some g) : 0 < g.nattach :=
  nattach_pos_of_slot (s := s.abs) hG (n := g.abs) h1 (abs_lookup h2)

theorem sim_query {s : File} {slot : Nat} (hI : Inv s) (f : VGroup → Out) (f' : Node → Out)
    (hf : ∀ r g, alook slot s.slots = some r → alook r s.vgs = some g → f g = f' g.abs) :
    (withSlot s slot fun g => (g, f g)).1.abs = (gwithSlot s.abs slot fun n => (n, f' n)).1 ∧
    (withSlot s slot fun g => (g, f g)).2 = (gwithSlot s.abs slot fun n => (n, f' n)).2 ∧
    Inv (withSlot s slot fun g => (g, f g)).1 := by
  have h := sim_withSlot (s := s) (slot := slot) (k := fun g => (g, f g)) (k' := fun n => (n, f' n))
    (fun r g h1 h2 => by simp only [hf r g h1 h2])
  exact ⟨h.1, h.2, inv_withSlot hI (fun _ _ _ _ => Or.inl rfl)⟩

theorem sim_ntagrefs (s : File) (slot : Nat) (hI : Inv s) : SimGoal s (.ntagrefs slot) := by
  refine sim_query hI _ _ fun r g _ h2 => ?_
  have := (hI.entry h2).1.memOK
  simp only [VGroup.abs, vntagrefs_length this]

theorem sim_inq (s : File) (slot t r : Nat) (hI : Inv s) : SimGoal s (.inq slot t r) := by
  refine sim_query hI _ _ fun _ g _ _ => ?_
  simp only [VGroup.abs]
  by_cases h : (t % 65536, r % 65536) ∈ g.mem.members
  · simp [h, (vinqtagref_mem _ _ _).mpr h]
  · have : vinqtagref g.mem (t % 65536) (r % 65536) = false := by
      cases hh : vinqtagref g.mem (t % 65536) (r % 65536) with
      | false => rfl
      | true => exact absurd ((vinqtagref_mem _ _ _).mp hh) h
    simp [h, this]

theorem sim_gettagrefs (s : File) (slot n : Nat) (hI : Inv s) : SimGoal s (.gettagrefs slot n) := by
  refine sim_query hI _ _ fun _ g _ _ => ?_
  simp only [VGroup.abs, vgettagrefs_take]

theorem sim_gettagref (s : File) (slot : Nat) (i : Int) (hI : Inv s) : SimGoal s (.gettagref slot i) := by
  refine sim_query hI _ _ fun r g _ h2 => ?_
  have hok := (hI.entry h2).1.memOK
  simp only [VGroup.abs]
  by_cases h : i < 0
  · simp [h, vgettagref_neg _ _ h]
  · have : i = ((i.toNat : Nat) : Int) := by omega
    simp only [h, if_false]
    generalize i.toNat = j at this
    subst this
    rw [vgettagref_get hok]
    cases g.mem.members[j]? <;> rfl

theorem sim_nrefs (s : File) (slot t : Nat) (hI : Inv s) : SimGoal s (.nrefs slot t) := by
  refine sim_query hI _ _ fun _ g _ _ => ?_
  rfl

theorem sim_getname (s : File) (slot : Nat) (hI : Inv s) : SimGoal s (.getname slot) :=
  sim_query hI _ _ (fun _ _ _ _ => rfl)
theorem sim_getclass (s : File) (slot : Nat) (hI : Inv s) : SimGoal s (.getclass slot) :=
  sim_query hI _ _ (fun _ _ _ _ => rfl)
theorem sim_getnamelen (s : File) (slot : Nat) (hI : Inv s) : SimGoal s (.getnamelen slot) :=
  sim_query hI _ _ (fun _ _ _ _ => rfl)
theorem sim_getclasslen (s : File) (slot : Nat) (hI : Inv s) : SimGoal s (.getclasslen slot) :=
  sim_query hI _ _ (fun _ _ _ _ => rfl)

theorem sim_getnext (s : File) (slot : Nat) (id : Int) (hI : Inv s) : SimGoal s (.getnext slot id) := by
  refine sim_query hI _ _ fun _ g _ _ => ?_
  simp only [VGroup.abs, getnextOf, vgetnext]
  rfl

theorem sim_mut {s : File} {slot : Nat} (hI : Inv s) (hG : GraphInv s.abs)
    (k : VGroup → VGroup × Out) (k' : Node → Node × Out)
    (hk : ∀ r g, alook slot s.slots = some r → alook r s.vgs = some g → GInv g → 0 < g.nattach →
      ((k g).1.abs, (k g).2) = k' g.abs ∧ ((k g).1 = g ∨ (GInv (k g).1 ∧ (k g).1.marked = true))) :
    (withSlot s slot k).1.abs = (gwithSlot s.abs slot k').1 ∧
    (withSlot s slot k).2 = (gwithSlot s.abs slot k').2 ∧ Inv (withSlot s slot k).1 := by
  have h := sim_withSlot (s := s) (slot := slot) (k := k) (k' := k')
    (fun r g h1 h2 => (hk r g h1 h2 (hI.entry h2).1 (slot_attached hG h1 h2)).1)
  exact ⟨h.1, h.2, inv_withSlot hI (fun r g h1 h2 => (hk r g h1 h2 (hI.entry h2).1 (slot_attached hG h1 h2)).2)⟩

theorem sim_setname (s : File) (slot : Nat) (n : Bytes) (hI : Inv s) (hG : GraphInv s.abs)
    (ha : admissible s.abs (.setname slot n) = true) : SimGoal s (.setname slot n) := by
  simp only [admissible, decide_eq_true_eq] at ha
  refine sim_mut hI hG _ _ fun r g _ _ hg hn => ?_
  by_cases hacc : g.access = accW
  · refine ⟨?_, Or.inr ⟨?_, ?_⟩⟩
    · simp [VGroup.abs, hacc]
    · simpa [hacc] using ginv_name hg n ha hn
    · simp [hacc]
  · refine ⟨?_, Or.inl ?_⟩ <;> simp [VGroup.abs, hacc]

theorem sim_setclass (s : File) (slot : Nat) (n : Bytes) (hI : Inv s) (hG : GraphInv s.abs)
    (ha : admissible s.abs (.setclass slot n) = true) : SimGoal s (.setclass slot n) := by
  simp only [admissible, decide_eq_true_eq] at ha
  refine sim_mut hI hG _ _ fun r g _ _ hg hn => ?_
  by_cases hacc : g.access = accW
  · refine ⟨?_, Or.inr ⟨?_, ?_⟩⟩
    · simp [VGroup.abs, hacc]
    · simpa [hacc] using ginv_cls hg n ha hn
    · simp [hacc]
  · refine ⟨?_, Or.inl ?_⟩ <;> simp [VGroup.abs, hacc]

theorem insert_ginv {g : VGroup} (hg : GInv g) (hn : 0 < g.nattach) {t r : Nat} (ht : t < 65536) (hr : r < 65536) {m : Mem}
    (a : m.members = g.mem.members ++ [(t, r)]) (c : m.OK) : GInv { g with mem := m, marked := true } := by
  refine ginv_mem hg c ?_ hn
  intro q hq
  rw [a] at hq
  rcases List.mem_append.mp hq with hq | hq
  · exact hg.2.1.2.1 q hq
  · simp only [List.mem_singleton] at hq; subst hq; exact ⟨ht, hr⟩

/-- the three member insertions through a handle (`Vaddtagref`; `Vinsert` of a Vgroup or Vdata, which refuses duplicates):
    write access, duplicate test if `dup`, then `vinsertpair`; `f` makes the answer from the new member count -/
theorem vinsert_mut {g : VGroup} (hg : GInv g) (hn : 0 < g.nattach) (t r : Nat) (ht : t < 65536) (hr : r < 65536) (dup : Bool)
    (f f' : Nat → Int) (hf : ∀ n, f (n + 1) = f' n) :
    let k : VGroup → VGroup × Out := fun g =>
      if g.access ≠ accW then (g, .fail)
      else if dup && g.mem.members.contains (t, r) then (g, .fail)
      else
        match vinsertpair g.mem t r with
        | none => (g, .fail)
        | some p => ({ g with mem := p.1, marked := true }, .int (f p.2))
    let k' : Node → Node × Out := fun g =>
      if g.access ≠ accW then (g, .fail)
      else if dup && g.members.contains (t, r) then (g, .fail)
      else if g.members.length = MAX_REF then (g, .fail)
      else ({ g with members := g.members ++ [(t, r)] }, .int (f' g.members.length))
    ((k g).1.abs, (k g).2) = k' g.abs ∧ ((k g).1 = g ∨ (GInv (k g).1 ∧ (k g).1.marked = true)) := by
  intro k k'
  by_cases hacc : g.access = accW
  · by_cases hd : dup = true ∧ (t, r) ∈ g.mem.members
    · refine ⟨?_, Or.inl ?_⟩ <;> simp [k, k', VGroup.abs, hacc, hd]
    · have hs := vinsertpair_spec hg.1 t r
      cases e : vinsertpair g.mem t r with
      | none =>
        rw [e] at hs
        refine ⟨?_, Or.inl ?_⟩ <;> simp [k, k', VGroup.abs, hacc, hd, e, hs]
      | some p =>
        rw [e] at hs
        obtain ⟨hl, a, b, c⟩ := hs
        refine ⟨?_, Or.inr ⟨?_, ?_⟩⟩
        · simp [k, k', VGroup.abs, hacc, hd, e, a, b, hl, hf]
        · simpa [k, hacc, hd, e] using insert_ginv hg hn ht hr a c
        · simp [k, hacc, hd, e]
  · refine ⟨?_, Or.inl ?_⟩ <;> simp [k, k', VGroup.abs, hacc]

theorem sim_addtagref (s : File) (slot t r : Nat) (hI : Inv s) (hG : GraphInv s.abs) : SimGoal s (.addtagref slot t r) :=
  sim_mut hI hG _ _ fun _ _ _ _ hg hn =>
    vinsert_mut hg hn (t % 65536) (r % 65536) (Nat.mod_lt _ (by omega)) (Nat.mod_lt _ (by omega)) false (fun n => n) (fun n => n + 1)
      (fun _ => rfl)

theorem sim_insertvg (s : File) (slot slot2 : Nat) (hI : Inv s) (hG : GraphInv s.abs) : StepOK s (.insertvg slot slot2) := by
  have hs : s.abs.slots = s.slots := rfl
  cases h0 : alook slot2 s.slots with
  | none => exact stepOK_of_eq (s' := s) (o := .fail) (by simp only [step, h0]) (by simp only [gstep, hs, h0]) rfl hI hG
  | some r2 =>
    exact stepOK_congr (by rw [step, h0]) (by rw [gstep, hs, h0]) (sim_mut hI hG _ _ fun _ _ _ _ hg hn =>
      vinsert_mut hg hn DFTAG_VG (r2 % 65536) (by decide) (Nat.mod_lt _ (by omega)) true (fun n => n - 1) (fun n => n) (fun n => by omega))
      (ginv_withSlot_nattach hG fun n => by split; rfl; split; rfl; split <;> rfl)

theorem sim_insertvs (s : File) (slot vsref : Nat) (hI : Inv s) (hG : GraphInv s.abs) : StepOK s (.insertvs slot vsref) := by
  by_cases h0 : s.vds.contains vsref = true
  · exact stepOK_congr (if_neg (not_not_intro h0)) (if_neg (not_not_intro h0)) (sim_mut hI hG _ _ fun _ _ _ _ hg hn =>
      vinsert_mut hg hn DFTAG_VH (vsref % 65536) (by decide) (Nat.mod_lt _ (by omega)) true (fun n => n - 1) (fun n => n) (fun n => by omega))
      (ginv_withSlot_nattach hG fun n => by split; rfl; split; rfl; split <;> rfl)
  · exact stepOK_of_eq (if_pos h0) (if_pos h0) rfl hI hG

theorem sim_deltagref (s : File) (slot t r : Nat) (hI : Inv s) (hG : GraphInv s.abs) : SimGoal s (.deltagref slot t r) := by
  refine sim_mut hI hG _ _ fun r0 g _ _ hg hn => ?_
  by_cases hacc : g.access = accW
  · have hd := vdeletetagref_erase hg.1 (t % 65536) (r % 65536)
    cases hv : vdeletetagref g.mem (t % 65536) (r % 65536) with
    | none =>
      rw [hv] at hd
      refine ⟨?_, Or.inl ?_⟩ <;> simp [VGroup.abs, hacc, hd]
    | some m =>
      rw [hv] at hd
      obtain ⟨d1, d2, d3⟩ := hd
      refine ⟨?_, Or.inr ⟨?_, ?_⟩⟩
      · simp [VGroup.abs, hacc, d1, d2]
      · simp only [hacc, ne_eq, not_true_eq_false, if_false]
        refine ginv_mem hg d3 ?_ hn
        intro p hp
        rw [d2] at hp
        exact hg.2.1.2.1 p (List.mem_of_mem_erase hp)
      · simp [hacc]
  · refine ⟨?_, Or.inl ?_⟩ <;> simp [VGroup.abs, hacc]

theorem abs_fresh : ({} : VGroup).abs = ({} : Node) := by
  simp [VGroup.abs, Mem.fresh_members]

theorem abs_isSome (s : File) (r : Nat) : (alook r s.abs.vgs).isSome = (alook r s.vgs).isSome := by
  rw [abs_alook]; simp

theorem sim_new (s : File) (slot ref : Nat) (hI : Inv s) (hG : GraphInv s.abs) : StepOK s (.new slot ref) := by
  have hc' : (ref = 0 ∨ ref ≥ 65536 ∨ (alook ref s.abs.vgs).isSome = true ∨ (alook slot s.abs.slots).isSome = true) ↔
      (ref = 0 ∨ ref ≥ 65536 ∨ (alook ref s.vgs).isSome = true ∨ (alook slot s.slots).isSome = true) := by
    rw [abs_isSome]; rfl
  by_cases hc : ref = 0 ∨ ref ≥ 65536 ∨ (alook ref s.vgs).isSome = true ∨ (alook slot s.slots).isSome = true
  · exact stepOK_of_eq (if_pos hc) (if_pos (hc'.mpr hc)) rfl hI hG
  · refine stepOK_of_eq (if_neg hc) (if_neg (mt hc'.mp hc)) ?_ ?_ fun r => ?_
    · simp only [File.abs, ains_map, abs_fresh]
    · refine inv_update hI (ksorted_ains hI.sorted_vgs) hI.sorted_disk fun k => ?_
      simp only [alook_ains]
      by_cases e : k = ref
      · simp only [e, if_true]; exact Or.inr ⟨ginv_fresh, fun hm => absurd hm (by decide)⟩
      · simp only [e, if_false]; exact Or.inl ⟨trivial, trivial⟩
    · -- a new node without attachments... and its first handle
      simp only [cnt_cons, alook_ains]
      have hn : alook ref s.abs.vgs = none := by
        cases h : alook ref s.abs.vgs with
        | none => rfl
        | some n => exact absurd (Or.inr (Or.inr (Or.inl (by simp [h])))) (mt hc'.mp hc)
      by_cases e : r = ref
      · subst e
        have := hG r; simp only [hn] at this
        simp [this]
      · have e' : ¬ ref = r := fun x => e x.symm
        simpa [e, e'] using hG r

theorem sim_attach (s : File) (slot ref : Nat) (w : Bool) (hI : Inv s) (hG : GraphInv s.abs) : StepOK s (.attach slot ref w) := by
  by_cases hc : (alook slot s.slots).isSome = true
  · exact stepOK_of_eq (if_pos hc) (if_pos hc) rfl hI hG
  · cases h2 : alook ref s.vgs with
    | none =>
      exact stepOK_of_eq (s' := s) (o := .fail) (by simp only [step, hc, if_false, Bool.false_eq_true, h2])
        (by simp only [gstep, show s.abs.slots = s.slots from rfl, hc, if_false, Bool.false_eq_true, abs_alook, h2, Option.map_none]) rfl hI hG
    | some g =>
      have e1 : step s (.attach slot ref w) =
          ({ s with vgs := aset ref (attachG g w) s.vgs, slots := (slot, ref) :: s.slots }, .int ref) := by
        simp only [step, hc, if_false, Bool.false_eq_true, h2, attachG]
      have e2 : gstep s.abs (.attach slot ref w) =
          ({ s.abs with vgs := aset ref (attachN g.abs w) s.abs.vgs, slots := (slot, ref) :: s.abs.slots }, .int ref) := by
        simp only [gstep, show s.abs.slots = s.slots from rfl, hc, if_false, Bool.false_eq_true, abs_alook, h2, Option.map_some, attachN]
      refine stepOK_of_eq e1 e2 (by simp only [File.abs, aset_map, attach_abs])
        (inv_aset hI h2 hI.sorted_disk (fun _ _ => rfl) (attachG_row w (hI.entry h2))) (ginv_aset hG (abs_lookup h2) fun r => ?_)
      -- one more handle of `ref`, one more attachment (the first one when there was none)
      rw [cnt_cons, Nat.add_comm (if ref = r then 1 else 0)]
      simp only [eq_comm (a := ref)]
      by_cases e : r = ref
      · simp only [e, if_true]; unfold attachN; split <;> dsimp only <;> omega
      · simp only [e, if_false]

theorem sim_detach (s : File) (slot : Nat) (hI : Inv s) (hG : GraphInv s.abs) : StepOK s (.detach slot) := by
  have hs : s.abs.slots = s.slots := rfl
  cases h1 : alook slot s.slots with
  | none => exact stepOK_of_eq (s' := s) (o := .fail) (by simp only [step, h1]) (by simp only [gstep, hs, h1]) rfl hI hG
  | some r =>
    cases h2 : alook r s.vgs with
    | none =>
      exact stepOK_of_eq (s' := s) (o := .bad) (by simp only [step, h1, h2])
        (by simp only [gstep, hs, h1, abs_alook, h2, Option.map_none]) rfl hI hG
    | some g =>
      have e1 : step s (.detach slot) =
          ({ s with vgs := aset r { (flushVG s.fixed3 s.disk r g).2 with nattach := (flushVG s.fixed3 s.disk r g).2.nattach - 1 } s.vgs,
                    disk := (flushVG s.fixed3 s.disk r g).1, slots := adel1 slot s.slots }, .ok) := by
        simp only [step, h1, h2]
      have e2 : gstep s.abs (.detach slot) =
          ({ s.abs with vgs := aset r { g.abs with nattach := g.abs.nattach - 1 } s.abs.vgs, slots := adel1 slot s.abs.slots }, .ok) := by
        simp only [gstep, hs, h1, abs_alook, h2, Option.map_some]
      obtain ⟨⟨gm, gw, gk⟩, gd⟩ := hI.entry h2
      obtain ⟨hf, tv⟩ := flushVG_ginv (fx := s.fixed3) (d := s.disk) (r := r) (g := g) ⟨gm, gw, gk⟩
      refine stepOK_of_eq e1 e2 ?_ (inv_aset hI h2 (flush_sorted r g hI.sorted_disk)
        (fun k e => by rw [flush_disk _ _ _ _ gw, if_neg (fun h => e h.2)]) ⟨⟨hf.1, hf.2.1, ?_⟩, fun _ => ?_⟩)
        (ginv_aset hG (abs_lookup h2) fun r' => ?_)
      · simp only [File.abs, aset_map]
        rw [← flush_abs s.fixed3 s.disk r g]; rfl
      · intro hx; simp only [flush_marked] at hx; exact absurd hx (by decide)
      · rw [show ({ (flushVG s.fixed3 s.disk r g).2 with nattach := (flushVG s.fixed3 s.disk r g).2.nattach - 1 } : VGroup).toVG = g.toVG from tv,
          flush_disk _ _ _ _ gw]
        by_cases hm : g.marked = true
        · simp [hm]
        · rw [if_neg (fun h => hm h.1)]
          exact gd (by simpa using hm)
      · -- one handle of `r` goes, and one attachment
        have c := cnt_adel1 (show alook slot s.abs.slots = some r from h1) r'
        have h0 := hG r
        simp only [abs_lookup h2] at h0
        dsimp only
        by_cases e : r' = r
        · subst e; simp only [if_true] at c ⊢; omega
        · simp only [e, if_false] at c ⊢; omega

theorem sim_setattr (s : File) (slot vsref : Nat) (hI : Inv s) (hG : GraphInv s.abs)
    (ha : admissible s.abs (.setattr slot vsref) = true) : StepOK s (.setattr slot vsref) := by
  have hs : s.abs.slots = s.slots := rfl
  have hv : s.abs.vds = s.vds := rfl
  cases h1 : alook slot s.slots with
  | none => exact stepOK_of_eq (s' := s) (o := .fail) (by simp only [step, h1]) (by simp only [gstep, hs, h1]) rfl hI hG
  | some r =>
    cases h2 : alook r s.vgs with
    | none =>
      exact stepOK_of_eq (s' := s) (o := .bad) (by simp only [step, h1, h2])
        (by simp only [gstep, hs, h1, abs_alook, h2, Option.map_none]) rfl hI hG
    | some g =>
      have hl : g.attrs.length < 2147483647 := by
        have h1' : alook slot s.abs.slots = some r := h1
        simp only [admissible, h1', abs_lookup h2, decide_eq_true_eq, VGroup.abs] at ha
        exact ha
      have h2' : alook r s.abs.vgs = some g.abs := abs_lookup h2
      -- both sides run the same three tests on the same data
      have e1 : step s (.setattr slot vsref) =
          if g.access ≠ accW then (s, .fail)
          else if (g.attrs.any fun a => ! s.vds.contains a.2) = true then (s, .fail)
          else if vsref = 0 ∨ vsref ≥ 65536 ∨ s.vds.contains vsref = true then (s, .bad)
          else ({ s with vgs := aset r (setattrG g vsref) s.vgs, vds := nins vsref s.vds }, .ok) := by
        simp only [step, h1, h2]; rfl
      have e2 : gstep s.abs (.setattr slot vsref) =
          if g.access ≠ accW then (s.abs, .fail)
          else if (g.attrs.any fun a => ! s.vds.contains a.2) = true then (s.abs, .fail)
          else if vsref = 0 ∨ vsref ≥ 65536 ∨ s.vds.contains vsref = true then (s.abs, .bad)
          else ({ s.abs with vgs := aset r (setattrN g.abs vsref) s.abs.vgs, vds := nins vsref s.abs.vds }, .ok) := by
        simp only [gstep, hs, hv, h1, h2']; rfl
      by_cases c1 : g.access ≠ accW
      · exact stepOK_of_eq (e1.trans (if_pos c1)) (e2.trans (if_pos c1)) rfl hI hG
      rw [if_neg c1] at e1 e2
      by_cases c2 : (g.attrs.any fun a => ! s.vds.contains a.2) = true
      · exact stepOK_of_eq (e1.trans (if_pos c2)) (e2.trans (if_pos c2)) rfl hI hG
      rw [if_neg c2] at e1 e2
      by_cases c3 : vsref = 0 ∨ vsref ≥ 65536 ∨ s.vds.contains vsref = true
      · exact stepOK_of_eq (e1.trans (if_pos c3)) (e2.trans (if_pos c3)) rfl hI hG
      refine stepOK_of_eq (e1.trans (if_neg c3)) (e2.trans (if_neg c3)) (by simp only [File.abs, aset_map]; rfl) (inv_aset hI h2 hI.sorted_disk (fun _ _ => rfl) ?_)
        (ginv_aset (n' := setattrN g.abs vsref) hG h2' fun _ => rfl)
      exact ⟨ginv_attr (hI.entry h2).1 vsref (by omega) hl (slot_attached hG h1 h2), fun hm => by simp [setattrG] at hm⟩

theorem sim_vdelete (s : File) (ref : Nat) (hI : Inv s) (hG : GraphInv s.abs)
    (ha : admissible s.abs (.vdelete ref) = true) : StepOK s (.vdelete ref) := by
  cases h2 : alook ref s.vgs with
  | none =>
    exact stepOK_of_eq (s' := s) (o := .fail) (by simp only [step, h2]) (by simp only [gstep, abs_alook, h2, Option.map_none]) rfl hI hG
  | some g =>
    obtain ⟨⟨gm, gw, gk⟩, gd⟩ := hI.entry h2
    have hn : g.nattach = 0 := by
      simp only [admissible, abs_lookup h2, decide_eq_true_eq, VGroup.abs] at ha
      exact ha
    have hm := GInv.unmarked ⟨gm, gw, gk⟩ (by omega)
    have hd : (alook ref s.disk).isSome = true := by rw [gd hm]; rfl
    have e1 : step s (.vdelete ref) = ({ s with vgs := adel ref s.vgs, disk := adel ref s.disk }, .ok) := by
      simp only [step, h2, hd, if_true]
    have e2 : gstep s.abs (.vdelete ref) = ({ s.abs with vgs := adel ref s.abs.vgs }, .ok) := by
      simp only [gstep, abs_alook, h2, Option.map_some]
    refine stepOK_of_eq e1 e2 (by simp only [File.abs, adel_map])
      (inv_update hI (ksorted_adel hI.sorted_vgs) (ksorted_adel hI.sorted_disk) fun k => ?_) fun r => ?_
    · simp only [alook_adel]
      by_cases e : k = ref
      · simp only [e, if_true]; exact Or.inr trivial
      · simp only [e, if_false]; exact Or.inl ⟨trivial, trivial⟩
    · -- the node goes with no handle on it
      have := hG r
      simp only [alook_adel]
      by_cases e : r = ref
      · subst e; simp only [abs_lookup h2, VGroup.abs, hn] at this; simp [this]
      · simpa [e] using this

theorem sim_vsdelete (s : File) (ref : Nat) (hI : Inv s) (hG : GraphInv s.abs) : StepOK s (.vsdelete ref) := by
  by_cases c : s.vds.contains ref = true
  · exact stepOK_of_eq (if_pos c) (if_pos c) rfl hI hG
  · exact stepOK_of_eq (if_neg c) (if_neg c) rfl hI hG

theorem sim_vsnew (s : File) (ref : Nat) (hI : Inv s) (hG : GraphInv s.abs) : StepOK s (.vsnew ref) := by
  by_cases c : ref = 0 ∨ ref ≥ 65536 ∨ s.vds.contains ref = true
  · exact stepOK_of_eq (if_pos c) (if_pos c) rfl hI hG
  · exact stepOK_of_eq (if_neg c) (if_neg c) rfl hI hG

theorem sim_getid (s : File) (id : Int) (hI : Inv s) (hG : GraphInv s.abs) : StepOK s (.getid id) :=
  stepOK_of_eq (s' := s) rfl (by simp only [gstep, File.abs, akeys_map]) rfl hI hG

theorem sim_vsgetid (s : File) (id : Int) (hI : Inv s) (hG : GraphInv s.abs) : StepOK s (.vsgetid id) :=
  stepOK_of_eq (s' := s) rfl rfl rfl hI hG

theorem sim_find (s : File) (n : Bytes) (hI : Inv s) (hG : GraphInv s.abs) : StepOK s (.find n) :=
  stepOK_of_eq (s' := s) rfl (congrArg (Prod.mk s.abs) (findBy_map VGroup.abs (·.name) (·.name) (fun _ => rfl) n s.vgs)) rfl hI hG

theorem sim_findclass (s : File) (n : Bytes) (hI : Inv s) (hG : GraphInv s.abs) : StepOK s (.findclass n) :=
  stepOK_of_eq (s' := s) rfl (congrArg (Prod.mk s.abs) (findBy_map VGroup.abs (·.cls) (·.cls) (fun _ => rfl) n s.vgs)) rfl hI hG

theorem inv_touch {s : File} (hI : Inv s) :
    Inv { s with vgs := (touchAll s.fixed3 s.disk s.vgs).2, disk := (touchAll s.fixed3 s.disk s.vgs).1 } := by
  have hall : ∀ e ∈ s.vgs, e.2.toVG.WFmem := fun e he => (hI.entry (alook_of_mem_sorted hI.sorted_vgs he)).1.wf
  refine inv_update hI (by rw [touchAll_snd]; exact ksorted_map touchG hI.sorted_vgs) (touchAll_sorted _ hI.sorted_disk) fun k => Or.inr ?_
  have hr := hI.row k
  simp only [touchAll_snd, alook_map, touchAll_disk _ _ hI.sorted_vgs hall]
  cases h2 : alook k s.vgs with
  | none => rw [h2] at hr; exact hr
  | some g =>
    rw [h2] at hr
    obtain ⟨a, b⟩ := touchG_ginv hr.1
    refine ⟨a, fun _ => ?_⟩
    rw [b]
    by_cases c : g.nattach > 0 ∧ g.marked = true
    · simp only [c, and_self, if_true]
    · simp only [c, if_false]
      exact hr.2 (Bool.eq_false_iff.mpr fun hh => c ⟨hr.1.2.2 hh, hh⟩)

theorem touch_abs (s : File) :
    File.abs { s with vgs := (touchAll s.fixed3 s.disk s.vgs).2, disk := (touchAll s.fixed3 s.disk s.vgs).1 }
      = { s.abs with vgs := s.abs.vgs.map (fun e => (e.1, e.2.touched)) } := by
  simp only [File.abs, touchAll_snd, List.map_map, Function.comp_def, touchG_abs]

theorem sim_vlone (s : File) (hI : Inv s) (hG : GraphInv s.abs) : StepOK s .vlone :=
  stepOK_of_eq rfl (by
      simp only [gstep, File.abs, akeys_map]
      rw [loneOf_map VGroup.abs (·.mem.members) (·.members) (fun _ => rfl)])
    (touch_abs s) (inv_touch hI) (ginv_touch hG)

theorem sim_vslone (s : File) (hI : Inv s) (hG : GraphInv s.abs) : StepOK s .vslone :=
  stepOK_of_eq rfl (by
      simp only [gstep, File.abs]
      rw [loneOf_map VGroup.abs (·.mem.members) (·.members) (fun _ => rfl)])
    (touch_abs s) (inv_touch hI) (ginv_touch hG)

theorem sim_reopen (s : File) (hI : Inv s) (ha : admissible s.abs .reopen = true) : StepOK s .reopen := by
  have hdet : ∀ r g, alook r s.vgs = some g → g.nattach = 0 := by
    intro r g h2
    simp only [admissible, File.abs, List.all_map, List.all_eq_true, Function.comp_def, decide_eq_true_eq] at ha
    exact ha (r, g) (mem_of_alook h2)
  have hunm : ∀ r g, alook r s.vgs = some g → g.marked = false := by
    intro r g h2
    exact GInv.unmarked (hI.entry h2).1 (by have := hdet r g h2; omega)
  have hdisk : s.disk = s.vgs.map (fun e => (e.1, vpackvg e.2.toVG)) := by
    apply ksorted_ext hI.sorted_disk (ksorted_map (fun g : VGroup => vpackvg g.toVG) hI.sorted_vgs)
    intro k
    rw [alook_map (fun g : VGroup => vpackvg g.toVG)]
    have hr := hI.row k
    cases h2 : alook k s.vgs with
    | some g => rw [h2] at hr; rw [hr.2 (hunm k g h2)]; rfl
    | none => rw [h2] at hr; exact hr
  have hall : ∀ e ∈ s.vgs, GInv e.2 := fun e he => (hI.entry (alook_of_mem_sorted hI.sorted_vgs he)).1
  have hload := loadAll_pack s.vgs hall
  rw [← hdisk] at hload
  have e1 : step s .reopen = ({ s with vgs := s.vgs.map (fun e => (e.1, VGroup.ofVG e.2.toVG.norm)), slots := [] }, .ok) := by
    simp only [step, hload]
  refine stepOK_of_eq e1 rfl ?_
    (inv_update hI (ksorted_map (fun g : VGroup => VGroup.ofVG g.toVG.norm) hI.sorted_vgs) hI.sorted_disk fun k => Or.inr ?_) fun r => ?_
  · simp only [File.abs, List.map_map, Function.comp_def]
    congr 1
    apply List.map_congr_left
    intro e he
    rw [ofVG_abs]
  · have hr := hI.row k
    simp only [alook_map (fun g : VGroup => VGroup.ofVG g.toVG.norm)]
    cases h2 : alook k s.vgs with
    | none => rw [h2] at hr; exact hr
    | some g =>
      rw [h2] at hr
      refine ⟨ofVG_ginv (VG.norm_wfmem hr.1.2.1), fun _ => ?_⟩
      rw [ofVG_toVG, vpackvg_norm]
      exact hr.2 (hunm k g h2)
  · -- no handle is left, and no attachment
    simp only [cnt, List.filter_nil, List.length_nil, alook_map]
    cases alook r s.abs.vgs <;> rfl

end H4.VGroup
