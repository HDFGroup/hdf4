import Lean.Meta.Tactic.Simp.RegisterCommand
/-! The simp set `c2l_st`: `chk` and `join` of the states of the translated `VSfdefine` / `VSsetfields` and Boolean clean-up lemmas;
    `simp only [f, c2l_st, ↓reduceIte, facts]` runs the translated text `f` on a state given by its fields. -/
register_simp_attr c2l_st
