import H4.Lemmas.ElemContiguous
/-! File-level lemmas for `Hwrite` on a linked-block element (`HLPwrite` + the shared descriptor update) and for dropping
    the DD of a user element (`delete_user`). -/
namespace H4.Elem
open H4.Gen.Hdf

theorem link_setLink (f : File) (k k' : Nat × Nat) (li : LinkInfo) : (f.setLink k li).link k' = if k' = k then some li else f.link k' :=
  find?_cons_filter _ _ _ _

theorem link_setLink_same (f : File) (k : Nat × Nat) (li : LinkInfo) : (f.setLink k li).link k = some li := by
  rw [link_setLink, if_pos rfl]

theorem link_setLink_ne (f : File) (k k' : Nat × Nat) (li : LinkInfo) (h : k' ≠ k) : (f.setLink k li).link k' = f.link k' := by
  rw [link_setLink, if_neg h]

theorem setLink_dd (f : File) (k : Nat × Nat) (li : LinkInfo) (j : Nat) : (f.setLink k li).dd j = f.dd j := rfl
theorem setLink_blockExt (f : File) (k : Nat × Nat) (li : LinkInfo) (r : Nat) : (f.setLink k li).blockExt r = f.blockExt r := rfl
theorem setLink_lbyte (f : File) (k : Nat × Nat) (li li2 : LinkInfo) (i : Nat) : (f.setLink k li).lbyte li2 i = f.lbyte li2 i := rfl
theorem setLink_linkedBytes (f : File) (k : Nat × Nat) (li li2 : LinkInfo) : (f.setLink k li).linkedBytes li2 = f.linkedBytes li2 := rfl
theorem setLink_bytesAt (f : File) (k : Nat × Nat) (li : LinkInfo) (o l : Nat) : (f.setLink k li).bytesAt o l = f.bytesAt o l := rfl
theorem setLink_hasKey (f : File) (k : Nat × Nat) (li : LinkInfo) (j t r : Nat) : (f.setLink k li).hasKey j t r ↔ f.hasKey j t r := Iff.rfl
theorem setLink_live (f : File) (k : Nat × Nat) (li : LinkInfo) (j : Nat) : (f.setLink k li).live j ↔ f.live j := Iff.rfl
theorem setLink_keyOf (f : File) (k : Nat × Nat) (li : LinkInfo) (j : Nat) : (f.setLink k li).keyOf j = f.keyOf j := rfl
theorem setLink_blockSlotOf (f : File) (k : Nat × Nat) (li li2 : LinkInfo) (j : Nat) :
    (f.setLink k li).blockSlotOf li2 j ↔ f.blockSlotOf li2 j := Iff.rfl

theorem WFF.setLink {f : File} (h : WFF f) (k : Nat × Nat) (li : LinkInfo) : WFF (f.setLink k li) :=
  ⟨h.ndds_pos, h.ext_le, h.disj, h.tail0, h.uniq⟩

theorem WFL.setLink {f : File} {li2 : LinkInfo} (h : WFL f li2) (k : Nat × Nat) (li : LinkInfo) : WFL (f.setLink k li) li2 :=
  ⟨⟨h.blk_pos, h.nb_pos, h.tables_ne, h.table_len, h.block_ok, h.inj⟩, h.covers, h.zero_beyond⟩

theorem linkedBytes_written {f f' : File} {li li' : LinkInfo} {hs posn : Nat} {bs : Bytes} (hl : WFL f li)
    (W : Written f li hs posn bs f' li') : f'.linkedBytes li' = specWrite (f.linkedBytes li) posn bs := by
  unfold specWrite File.linkedBytes
  simp only [List.length_map, List.length_range]
  rw [W.len]
  apply List.map_congr_left
  intro i _
  rw [W.bytes i]
  by_cases hin : posn ≤ i ∧ i < posn + bs.length
  · rw [if_pos hin, if_pos hin]
  · rw [if_neg hin, if_neg hin]
    simp only [List.getD_eq_getElem?_getD, List.getElem?_map]
    by_cases hi : i < li.length
    · simp [List.getElem?_range hi]
    · rw [List.getElem?_eq_none (by simp; omega : (List.range li.length).length ≤ i)]
      simp only [Option.map_none, Option.getD_none]
      exact hl.zero_beyond i (by omega)

theorem isSpecial_linked : isSpecial DFTAG_LINKED = false := by decide
theorem baseTag_linked : baseTag DFTAG_LINKED = DFTAG_LINKED := by decide

theorem linkedWrite_wfe (f : File) (hw : WFE f) (s : Nat) (hl : f.live s) (hsp : isSpecial (f.dd s).tag = true)
    (li : LinkInfo) (ho hlen : Nat) (hlink : f.link (f.keyOf s) = some li) (hwl : WFL f li)
    (hext : (f.dd s).ext = some (ho, hlen)) (h6 : 6 ≤ hlen) (posn : Nat) (bs : Bytes) (f' : File) (li' : LinkInfo)
    (W : Written f li s posn bs f' li') :
    WFE (f'.setLink (f.keyOf s) li') ∧
    ∀ s', f.live s' → s' ≠ s → baseTag (f.dd s').tag ≠ DFTAG_LINKED →
      (f'.setLink (f.keyOf s) li').slotBytes s' = f.slotBytes s' := by
  have hw'' : WFF (f'.setLink (f.keyOf s) li') := W.wff.setLink _ _
  have hdd : ∀ j, f.live j → (f'.setLink (f.keyOf s) li').dd j = f.dd j := fun j hj => W.dd_keep j hj
  have hold : ∀ s1, (f'.setLink (f.keyOf s) li').live s1 → isSpecial ((f'.setLink (f.keyOf s) li').dd s1).tag = true →
      f.live s1 ∧ (f'.setLink (f.keyOf s) li').dd s1 = f.dd s1 := by
    intro s1 h1 hs1
    rcases W.new_slots s1 h1 with h2 | h2
    · exact ⟨h2, hdd s1 h2⟩
    · exfalso
      have : (f'.dd s1).tag = DFTAG_LINKED := h2
      rw [setLink_dd, this, isSpecial_linked] at hs1
      exact absurd hs1 (by decide)
  have hkey_ne : ∀ s1, f.live s1 → s1 ≠ s → f.keyOf s1 ≠ f.keyOf s := fun s1 h1 hne e => hne (hw.keyOf_inj h1 hl e)
  have hs_ne_blk : ∀ (li2 : LinkInfo) j, f.blockSlotOf li2 j → j ≠ s := by
    intro li2 j ⟨t, idx, _, hk⟩ e
    subst e
    have := hw.hdr_tag j hl hsp
    rw [hk.2.1, baseTag_linked] at this
    exact this rfl
  have hframe : ∀ s1, f.live s1 → s1 ≠ s → baseTag (f.dd s1).tag ≠ DFTAG_LINKED →
      (f'.setLink (f.keyOf s) li').slotBytes s1 = f.slotBytes s1 := by
    intro s1 h1 hne hut
    apply slotBytes_frame hw hw'' s1 h1 (T := fun j => j = s ∨ f.blockSlotOf li j)
    · intro j hj _; exact hdd j hj
    · rw [link_setLink_ne _ _ _ _ (hkey_ne s1 h1 hne), link_of_links W.links]
    · intro x hx hn
      show rd f'.disk x = rd f.disk x
      apply W.frame x ho hlen hx hext
      · intro t idx o l h0 hb
        obtain ⟨j, hjk, hje⟩ := blockExt_slot hb
        exact hn j o l (Or.inr ⟨t, idx, h0, hjk⟩) hjk.1 hje
      · exact hn s ho hlen (Or.inl rfl) hl hext
    · intro hT
      rcases hT with e | ⟨t, idx, _, hk⟩
      · exact hne e
      · have := hk.2.1; rw [baseTag_linked] at this; exact hut this
    · intro hs1 li2 hl2 j hb hT
      rcases hT with e | hb2
      · exact hs_ne_blk li2 j hb e
      · exact hne (hw.own s1 s li2 li j h1 hs1 hl hsp hl2 hlink hb hb2)
  refine ⟨⟨hw'', ?_, ?_, ?_⟩, hframe⟩
  · intro s1 h1 hs1
    obtain ⟨h1f, hd1⟩ := hold s1 h1 hs1
    rw [hd1] at hs1
    by_cases e : s1 = s
    · subst e
      refine ⟨li', ho, hlen, ?_, W.wfl.setLink _ _, by rw [hd1]; exact hext, h6⟩
      rw [keyOf_eq hd1]; exact link_setLink_same _ _ _
    · obtain ⟨li1, ho1, hl1, hk1, hwl1, he1, h61⟩ := hw.linked_ok s1 h1f hs1
      refine ⟨li1, ho1, hl1, ?_, ?_, by rw [hd1]; exact he1, h61⟩
      · rw [keyOf_eq hd1, link_setLink_ne _ _ _ _ (hkey_ne s1 h1f e), link_of_links W.links]; exact hk1
      · apply WFL.setLink
        apply hwl1.frame W.wff (fun j ⟨t, idx, h0, hk⟩ => W.dd_keep j hk.1)
        intro t idx o l r h0 hb hr
        obtain ⟨j, hjk, hje⟩ := blockExt_slot hb
        have hle := hw.ext_le j o l hjk.1 hje
        apply W.frame (o + r) ho hlen (by omega) hext
        · intro t2 idx2 o2 l2 h02 hb2
          obtain ⟨j2, hjk2, hje2⟩ := blockExt_slot hb2
          have hne : j ≠ j2 := by
            intro e2
            subst e2
            exact e (hw.own s1 s li1 li j h1f hs1 hl hsp hk1 hlink ⟨t, idx, h0, hjk⟩ ⟨t2, idx2, h02, hjk2⟩)
          have := hw.disj j j2 o l o2 l2 hne hjk.1 hjk2.1 hje hje2 (o + r)
          omega
        · have hne : j ≠ s := hs_ne_blk li1 j ⟨t, idx, h0, hjk⟩
          have := hw.disj j s o l ho hlen hne hjk.1 hl hje hext (o + r)
          omega
  · intro s1 h1 hs1
    obtain ⟨h1f, hd1⟩ := hold s1 h1 hs1
    rw [hd1] at hs1 ⊢
    exact hw.hdr_tag s1 h1f hs1
  · intro s1 s2 l1 l2 j h1 hs1 h2 hs2 hk1 hk2 hb1 hb2
    obtain ⟨h1f, hd1⟩ := hold s1 h1 hs1
    obtain ⟨h2f, hd2⟩ := hold s2 h2 hs2
    rw [hd1] at hs1; rw [hd2] at hs2
    rw [keyOf_eq hd1] at hk1; rw [keyOf_eq hd2] at hk2
    rw [setLink_blockSlotOf] at hb1 hb2
    -- block slots of an element other than `s` are the ones it had in `f`
    have hback : ∀ s3 l3, f.live s3 → isSpecial (f.dd s3).tag = true → s3 ≠ s →
        (f'.setLink (f.keyOf s) li').link (f.keyOf s3) = some l3 → f'.blockSlotOf l3 j →
        f.link (f.keyOf s3) = some l3 ∧ f.blockSlotOf l3 j := by
      intro s3 l3 h3 hs3 hne hk3 hb3
      rw [link_setLink_ne _ _ _ _ (hkey_ne s3 h3 hne), link_of_links W.links] at hk3
      obtain ⟨l3', _, _, hk3', hwl3, _, _⟩ := hw.linked_ok s3 h3 hs3
      rw [hk3] at hk3'; simp only [Option.some.injEq] at hk3'; subst hk3'
      obtain ⟨t, idx, h0, hk⟩ := hb3
      exact ⟨hk3, t, idx, h0, blockSlot_back W.wff (hwl3.toWFLs.ref_ext t idx h0) (fun j0 hj0 => W.dd_keep j0 hj0.1) hk⟩
    -- block slots of `s` itself: old ones as in `f`, new ones on DDs that did not exist in `f`
    have hself : ∀ l3, (f'.setLink (f.keyOf s) li').link (f.keyOf s) = some l3 → f'.blockSlotOf l3 j →
        f.blockSlotOf li j ∨ ¬ f.live j := by
      intro l3 hk3 hb3
      rw [link_setLink_same] at hk3
      simp only [Option.some.injEq] at hk3; subst hk3
      obtain ⟨t, idx, h0, hk⟩ := hb3
      by_cases hold0 : li.blockRef t idx = 0
      · right
        intro hjl
        have hkf : f.hasKey j DFTAG_LINKED (li'.blockRef t idx) := by
          unfold File.hasKey File.live at *
          rw [← W.dd_keep j hjl]; exact hk
        exact W.new_fresh t idx hold0 h0 j hkf
      · left
        rw [W.refs_keep t idx hold0] at hk
        exact ⟨t, idx, hold0, blockSlot_back W.wff (hwl.toWFLs.ref_ext t idx hold0) (fun j0 hj0 => W.dd_keep j0 hj0.1) hk⟩
    by_cases e1 : s1 = s
    · by_cases e2 : s2 = s
      · rw [e1, e2]
      · exfalso
        subst e1
        obtain ⟨hk2', hb2'⟩ := hback s2 l2 h2f hs2 e2 hk2 hb2
        rcases hself l1 hk1 hb1 with hb1' | hnl
        · exact e2 (hw.own s2 s1 l2 li j h2f hs2 hl hsp hk2' hlink hb2' hb1')
        · obtain ⟨_, _, _, hk⟩ := hb2'
          exact hnl hk.1
    · by_cases e2 : s2 = s
      · exfalso
        subst e2
        obtain ⟨hk1', hb1'⟩ := hback s1 l1 h1f hs1 e1 hk1 hb1
        rcases hself l2 hk2 hb2 with hb2' | hnl
        · exact e1 (hw.own s1 s2 l1 li j h1f hs1 hl hsp hk1' hlink hb1' hb2')
        · obtain ⟨_, _, _, hk⟩ := hb1'
          exact hnl hk.1
      · obtain ⟨hk1', hb1'⟩ := hback s1 l1 h1f hs1 e1 hk1 hb1
        obtain ⟨hk2', hb2'⟩ := hback s2 l2 h2f hs2 e2 hk2 hb2
        exact hw.own s1 s2 l1 l2 j h1f hs1 h2f hs2 hk1' hk2' hb1' hb2'

theorem user_not_linked {f : File} {j : Nat} {k : Nat × Nat} (hu : UserKey k) (hk : f.hasKey j k.1 k.2) :
    (f.dd j).tag ≠ DFTAG_LINKED := by
  intro e
  have := hk.2.1
  rw [e, baseTag_linked, baseTag_not_special _ hu.1] at this
  exact hu.2.1 this.symm

theorem linkedWrite_elemSet (f : File) (hw : WFE f) (s : Nat) (hl : f.live s) (hsp : isSpecial (f.dd s).tag = true)
    (li : LinkInfo) (ho hlen : Nat) (hlink : f.link (f.keyOf s) = some li) (hwl : WFL f li)
    (hext : (f.dd s).ext = some (ho, hlen)) (h6 : 6 ≤ hlen) (posn : Nat) (bs : Bytes) (f' : File) (li' : LinkInfo)
    (W : Written f li s posn bs f' li') :
    ElemSet f none (f.keyOf s) (some (specWrite (f.linkedBytes li) posn bs)) (f'.setLink (f.keyOf s) li') s := by
  obtain ⟨hE', hfr⟩ := linkedWrite_wfe f hw s hl hsp li ho hlen hlink hwl hext h6 posn bs f' li' W
  have hdd : ∀ j, f.live j → (f'.setLink (f.keyOf s) li').dd j = f.dd j := fun j hj => W.dd_keep j hj
  refine ⟨hE', by unfold File.live; rw [hdd s hl]; exact hl, keyOf_eq (hdd s hl), ?_,
    fun x hx _ => SameShape.of_eq (hdd x hx), fun x hx _ hne hb => hfr x hx hne hb,
    fun x hx => (W.new_slots x hx).imp (fun c => ⟨c, fun c' => by cases c'⟩) Or.inr, W.present⟩
  rw [slotBytes_special _ _ (by rw [hdd s hl]; exact hsp), keyOf_eq (hdd s hl), link_setLink_same]
  simp only [Option.map_some, setLink_linkedBytes]
  rw [linkedBytes_written hwl W]

end H4.Elem
