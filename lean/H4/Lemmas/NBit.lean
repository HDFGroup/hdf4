import H4.Lemmas.BitIO
import H4.NBit
/-! Lemmas about the model `H4.NBit` of the n-bit coder.  The one idea: an entry of the mask table is the bit field cut to its byte (`Sel`), so every bit
    the decoder rebuilds from what the encoder wrote can be read off the table (`decItem_bit`, `decItem_projection`).  The last part restates the decoder
    as a function of the bits still to come, on `Nat` bytes (`decItemN`, `refillBits`, `refillItems_bits`): the form the translated C text is compared with. -/
namespace H4.NBit
open H4.Bits H4.BitIO

theorem arr8_eq : ∀ l, l ≤ 8 → arr8 l = 2 ^ l - 1 := by decide

theorem pow_mask_lt (l s : Nat) (h : l + s ≤ 8) : (2 ^ l - 1) * 2 ^ s < 256 := by
  have h1 : 2 ^ l * 2 ^ s ≤ 2 ^ 8 := by rw [← Nat.pow_add]; exact Nat.pow_le_pow_right (by omega) h
  have h2 : 0 < 2 ^ l := Nat.pow_pos (by omega)
  have h3 : 0 < 2 ^ s := Nat.pow_pos (by omega)
  have : (2 ^ l - 1) * 2 ^ s < 2 ^ l * 2 ^ s := Nat.mul_lt_mul_of_pos_right (by omega) h3
  omega

theorem arr8_shift (l s : Nat) (h : l + s ≤ 8) : (arr8 l <<< s) % 256 = (2 ^ l - 1) * 2 ^ s := by
  rw [arr8_eq l (by omega), Nat.shiftLeft_eq, Nat.mod_eq_of_lt (pow_mask_lt l s h)]

/-- the loop of `HCIcnbit_init` has not hit its `break` in the bytes above bit `8k`: the field `[b, a]` reaches below bit `8k`,
    or ends exactly there after a fully covered byte -/
def Open (a b k : Nat) : Prop := b < 8 * k ∨ (b = 8 * k ∧ 8 * k + 7 ≤ a)
instance (a b k : Nat) : Decidable (Open a b k) := by unfold Open; infer_instance

/-- shape of every `mask_info` entry, the empty one included: `length` consecutive ones from bit `offset` of the byte downwards -/
structure Shape (mi : MaskInfo) : Prop where
  le : mi.length ≤ mi.offset + 1
  off : mi.offset ≤ 7
  mask : mi.mask = (2 ^ mi.length - 1) * 2 ^ mi.shift

theorem Shape.span {mi : MaskInfo} (h : Shape mi) : mi.length + mi.shift ≤ 8 := by have := h.le; have := h.off; unfold MaskInfo.shift; omega

theorem Shape.mask_lt {mi : MaskInfo} (h : Shape mi) : mi.mask < 256 := by rw [h.mask]; exact pow_mask_lt _ _ h.span

theorem Shape.empty : Shape {} := ⟨by simp, by simp, by simp [MaskInfo.shift]⟩

theorem mask_testBit {mi : MaskInfo} (h : Shape mi) (k : Nat) :
    mi.mask.testBit k = (decide (mi.shift ≤ k) && decide (k - mi.shift < mi.length)) := by
  rw [h.mask, Nat.testBit_mul_two_pow, Nat.testBit_two_pow_sub_one]

/-- the word `Hbitread` returns for the field written for byte `x` (`bit_roundtrip`: the low `length` bits of what was written) -/
def encVal (mi : MaskInfo) (x : UInt8) : Nat := ((x.toNat &&& mi.mask) >>> mi.shift) % 2 ^ mi.length

theorem encVal_shift_testBit {mi : MaskInfo} (h : Shape mi) (x : UInt8) (k : Nat) :
    (encVal mi x <<< mi.shift).testBit k = (mi.mask.testBit k && x.toNat.testBit k) := by
  unfold encVal
  simp only [Nat.testBit_mod_two_pow, Nat.testBit_and, Nat.testBit_shiftLeft, Nat.testBit_shiftRight, mask_testBit h]
  by_cases h1 : mi.shift ≤ k
  · have : mi.shift + (k - mi.shift) = k := by omega
    by_cases h2 : k - mi.shift < mi.length <;> simp [h1, h2, this]
  · simp [h1]

/-- the words read back for one item whose bytes are `xs` -/
def itemVals : List MaskInfo → List UInt8 → List Nat
  | mi :: mis, x :: xs => (if mi.length > 0 then [encVal mi x] else []) ++ itemVals mis xs
  | _, _ => []

/-- byte rebuilt by the decoder for byte `x` (before sign extension) -/
def outByte (mi : MaskInfo) (mb : Nat) (x : UInt8) : Nat := if mi.length > 0 then decByte mi mb (encVal mi x) else mb

def outBytes : List MaskInfo → List Nat → List UInt8 → List Nat
  | mi :: mis, mb :: mbs, x :: xs => outByte mi mb x :: outBytes mis mbs xs
  | _, _, _ => []

/-- sign bit seen by the decoder in byte `signByte` -/
def signOf (signByte signMask : Nat) : Nat → List MaskInfo → List UInt8 → Option Bool → Option Bool
  | j, mi :: mis, x :: xs, sb =>
    signOf signByte signMask (j + 1) mis xs
      (if mi.length > 0 ∧ j = signByte then some (signMask &&& ((encVal mi x <<< mi.shift) % 2 ^ 32) != 0) else sb)
  | _, _, _, sb => sb

theorem decBytes_spec (sB sM : Nat) : ∀ (mis : List MaskInfo) (mbs : List Nat) (xs : List UInt8) (j : Nat) (sb : Option Bool)
    (restv : List Nat), mis.length = xs.length → mbs.length = xs.length →
    decBytes sB sM j mis mbs (itemVals mis xs ++ restv) sb = (outBytes mis mbs xs, signOf sB sM j mis xs sb) := by
  intro mis
  induction mis with
  | nil =>
    intro mbs xs j sb restv h1 h2
    cases xs with
    | nil => cases mbs <;> simp [decBytes, outBytes, signOf]
    | cons x xs => simp at h1
  | cons mi mis ih =>
    intro mbs xs j sb restv h1 h2
    cases xs with
    | nil => simp at h1
    | cons x xs =>
      cases mbs with
      | nil => simp at h2
      | cons mb mbs =>
        simp only [List.length_cons, Nat.add_right_cancel_iff] at h1 h2
        by_cases hl : mi.length > 0
        · simp only [itemVals, hl, if_true, List.cons_append, List.nil_append, decBytes, outBytes, outByte, signOf, true_and]
          rw [ih mbs xs (j + 1) _ restv h1 h2]
        · simp only [itemVals, hl, if_false, List.nil_append, decBytes, outBytes, outByte, signOf, false_and]
          rw [ih mbs xs (j + 1) _ restv h1 h2]

theorem getElem?_msbBits (w n i : Nat) : (msbBits w n)[i]? = if i < w then some (n.testBit (w - 1 - i)) else none := by
  induction w generalizing i with
  | zero => simp [msbBits]
  | succ w ih =>
    cases i with
    | zero => simp [msbBits]
    | succ i =>
      simp only [msbBits, List.getElem?_cons_succ, ih]
      have e : w + 1 - 1 - (i + 1) = w - 1 - i := by omega
      rw [e]
      by_cases h : i < w <;> simp [h]

theorem getElem?_bytesBits (l : List UInt8) (idx : Nat) :
    (bytesBits l)[idx]? = (l[idx / 8]?).map fun b => b.toNat.testBit (7 - idx % 8) := by
  induction l generalizing idx with
  | nil => simp
  | cons b l ih =>
    rw [bytesBits_cons]
    by_cases h : idx < 8
    · rw [List.getElem?_append_left (by simp; exact h), getElem?_msbBits]
      have h1 : idx / 8 = 0 := by omega
      have h2 : idx % 8 = idx := by omega
      simp [h, h1, h2]
    · rw [List.getElem?_append_right (by simp; omega), length_msbBits, ih]
      have h1 : idx / 8 = (idx - 8) / 8 + 1 := by omega
      have h2 : (idx - 8) % 8 = idx % 8 := by omega
      rw [h1, h2]; simp

theorem getElem?_outBytes : ∀ (mis : List MaskInfo) (mbs : List Nat) (xs : List UInt8) (i : Nat),
    (outBytes mis mbs xs)[i]? =
      match mis[i]?, mbs[i]?, xs[i]? with
      | some mi, some mb, some x => some (outByte mi mb x)
      | _, _, _ => none := by
  intro mis
  induction mis with
  | nil => intro mbs xs i; simp [outBytes]
  | cons mi mis ih =>
    intro mbs xs i
    cases mbs with
    | nil => simp [outBytes]
    | cons mb mbs =>
      cases xs with
      | nil => simp [outBytes]
      | cons x xs =>
        cases i with
        | zero => simp [outBytes]
        | succ i => simp only [outBytes, List.getElem?_cons_succ, ih]

theorem signOf_gt (sB sM : Nat) : ∀ (mis : List MaskInfo) (xs : List UInt8) (j : Nat) (sb : Option Bool), j > sB → signOf sB sM j mis xs sb = sb := by
  intro mis
  induction mis with
  | nil => intro xs j sb _; simp [signOf]
  | cons m mis ih =>
    intro xs j sb hj
    cases xs with
    | nil => simp [signOf]
    | cons x xs =>
      simp only [signOf]
      have : ¬ (m.length > 0 ∧ j = sB) := by omega
      rw [if_neg this, ih xs (j + 1) sb (by omega)]

theorem signOf_spec (sB sM : Nat) : ∀ (mis : List MaskInfo) (xs : List UInt8) (j : Nat) (sb : Option Bool) (mi : MaskInfo) (x : UInt8),
    j ≤ sB → mis[sB - j]? = some mi → xs[sB - j]? = some x → mi.length > 0 →
    signOf sB sM j mis xs sb = some (sM &&& ((encVal mi x <<< mi.shift) % 2 ^ 32) != 0) := by
  intro mis
  induction mis with
  | nil => intro xs j sb mi x _ h; simp at h
  | cons m mis ih =>
    intro xs j sb mi x hj h1 h2 hl
    cases xs with
    | nil => simp at h2
    | cons y ys =>
      simp only [signOf]
      by_cases hjs : j = sB
      · subst hjs
        simp only [Nat.sub_self, List.getElem?_cons_zero, Option.some.injEq] at h1 h2
        subst h1 h2
        simp only [hl, and_self, if_true]
        exact signOf_gt j sM mis ys (j + 1) _ (by omega)
      · have hlt : j < sB := by omega
        have hne : ¬ (m.length > 0 ∧ j = sB) := by omega
        rw [if_neg hne]
        have e : sB - j = (sB - (j + 1)) + 1 := by omega
        rw [e, List.getElem?_cons_succ] at h1 h2
        exact ih ys (j + 1) sb mi x (by omega) h1 h2 hl

/-- configurations covered by the theorems: the sizes `DFKNTsize` can return, and the documented parameter range
    `0 ≤ bit_len-1 ≤ start_bit < 8·nt_size` -/
def Cfg.Valid (c : Cfg) : Prop :=
  (c.ntSize = 1 ∨ c.ntSize = 2 ∨ c.ntSize = 4 ∨ c.ntSize = 8) ∧ c.maskOff < 8 * c.ntSize ∧ 1 ≤ c.maskLen ∧ c.maskLen ≤ c.maskOff + 1
instance (c : Cfg) : Decidable c.Valid := by unfold Cfg.Valid; infer_instance

/-- the bit field lies inside the value (`nt_size` is then at least 1): all that the theorems about the coder need of a configuration -/
def Cfg.Field (c : Cfg) : Prop := c.maskOff < 8 * c.ntSize ∧ 1 ≤ c.maskLen ∧ c.maskLen ≤ c.maskOff + 1

theorem Cfg.Valid.field {c : Cfg} (h : c.Valid) : c.Field := h.2

theorem Cfg.Field.pos {c : Cfg} (h : c.Field) : 0 < c.ntSize := by have := h.1; omega

theorem length_maskLoop (a b : Nat) : ∀ (n t o : Nat) (d : Bool), (maskLoop a b n t o d).length = n := by
  intro n
  induction n with
  | zero => intros; rfl
  | succ n ih =>
    intro t o d
    unfold maskLoop
    split
    · simp [ih]
    · simp [ih]

theorem length_maskInfos (c : Cfg) : (maskInfos c).length = c.ntSize := length_maskLoop _ _ _ _ _ _

/-- `mi` describes the part of the field `[b, a]` that lies in the byte holding bits `bot+7 .. bot`: its mask is the run of ones on the bit
    positions `shift .. offset` of the byte (empty when `length = 0`), and that run is the field cut to the byte -/
structure Sel (a b bot : Nat) (mi : MaskInfo) : Prop extends Shape mi where
  run : ∀ k, k < 8 → ((mi.shift ≤ k ∧ k ≤ mi.offset) ↔ (b ≤ bot + k ∧ bot + k ≤ a))

theorem Sel.testBit {a b bot : Nat} {mi : MaskInfo} (h : Sel a b bot mi) {k : Nat} (hk : k < 8) :
    mi.mask.testBit k = decide (b ≤ bot + k ∧ bot + k ≤ a) := by
  rw [mask_testBit h.toShape, ← Bool.decide_and, decide_eq_decide, ← h.run k hk]
  have := h.le
  unfold MaskInfo.shift
  omega

theorem Sel.length_pos {a b bot : Nat} {mi : MaskInfo} (h : Sel a b bot mi) (k : Nat) (hk : k < 8) (h1 : b ≤ bot + k) (h2 : bot + k ≤ a) :
    mi.length > 0 := by
  have := (h.run k hk).mpr ⟨h1, h2⟩
  unfold MaskInfo.shift at this
  omega

theorem maskStep_sel (a b k : Nat) (hab : b ≤ a) (h : Open a b (k + 1)) :
    Sel a b (8 * k) (maskStep a b (8 * k + 7) (8 * k)).1 ∧ (maskStep a b (8 * k + 7) (8 * k)).2 = !decide (Open a b k) := by
  have h : b < 8 * (k + 1) ∨ (b = 8 * (k + 1) ∧ 8 * (k + 1) + 7 ≤ a) := h
  unfold maskStep
  by_cases h1 : a ≥ 8 * k + 7
  · rw [if_pos h1]
    by_cases h2 : b ≤ 8 * k
    · have e5 : Open a b k := by unfold Open; omega
      rw [if_pos h2]
      exact ⟨⟨⟨by simp, by simp, by rw [arr8_eq 8 (Nat.le_refl _)]; rfl⟩, fun k hk => by simp [MaskInfo.shift]; omega⟩, by simp [e5]⟩
    · have e5 : ¬ Open a b k := by unfold Open; omega
      rw [if_neg h2]
      refine ⟨⟨⟨by simp only; omega, by simp, ?_⟩, fun j hj => by simp only [MaskInfo.shift]; omega⟩, by simp [e5]⟩
      simp only [MaskInfo.shift]
      rw [show 7 + 1 - (8 * k + 7 + 1 - b) = 8 - (8 * k + 7 + 1 - b) by omega, arr8_shift _ _ (by omega)]
  · rw [if_neg h1]
    by_cases h3 : a ≥ 8 * k
    · rw [if_pos h3]
      by_cases h4 : b < 8 * k
      · have e5 : Open a b k := by unfold Open; omega
        rw [if_pos h4]
        refine ⟨⟨⟨by simp, by simp only; omega, ?_⟩, fun j hj => by simp only [MaskInfo.shift]; omega⟩, by simp [e5]⟩
        simp only [MaskInfo.shift]
        rw [arr8_eq _ (by omega), show a - 8 * k + 1 - (a - 8 * k + 1) = 0 by omega]; simp
      · have e5 : ¬ Open a b k := by unfold Open; omega
        rw [if_neg h4]
        refine ⟨⟨⟨by simp only; omega, by simp only; omega, ?_⟩, fun j hj => by simp only [MaskInfo.shift]; omega⟩, by simp [e5]⟩
        simp only [MaskInfo.shift]
        rw [show a - 8 * k + 1 - (a - b + 1) = b - 8 * k by omega, arr8_shift _ _ (by omega)]
    · have e5 : Open a b k := by unfold Open; omega
      rw [if_neg h3]
      exact ⟨⟨⟨by simp, by simp, by simp [MaskInfo.shift]⟩, fun j hj => by simp [MaskInfo.shift]; omega⟩, by simp [e5]⟩

theorem _root_.H4.Lemmas.C05NBitFn.maskLoop_done (a b : Nat) : ∀ (k t o : Nat), maskLoop a b k t o true = List.replicate k {} := by
  intro k
  induction k with
  | zero => intros; rfl
  | succ k ih => intro t o; simp [maskLoop, ih, List.replicate_succ]

theorem _root_.H4.Lemmas.C05NBitFn.maskStep_nobreak (a b k : Nat) (hab : b ≤ a) (h : (maskStep a b (8 * k + 7) (8 * k)).2 = false) : b ≤ 8 * k := by
  unfold maskStep at h
  split at h
  · split at h
    · omega
    · simp at h
  · split at h
    · split at h
      · omega
      · simp at h
    · omega

theorem sel_empty (a b bot : Nat) (h : a < bot ∨ bot + 7 < b) : Sel a b bot {} :=
  ⟨.empty, fun j hj => by simp [MaskInfo.shift]; omega⟩

/-- entry `i` of a loop over `k` bytes belongs to byte `k-1-i` counted from the least significant one (file order: most significant first) -/
theorem maskLoop_sel (a b : Nat) (hab : b ≤ a) : ∀ (k i : Nat) (mi : MaskInfo),
    (maskLoop a b k (8 * k - 1) (8 * k - 8) (!decide (Open a b k)))[i]? = some mi → Sel a b (8 * (k - 1 - i)) mi := by
  intro k
  induction k with
  | zero => intro i mi h; simp [maskLoop] at h
  | succ k ih =>
    intro i mi hmi
    rw [maskLoop, show 8 * (k + 1) - 1 = 8 * k + 7 by omega, show 8 * (k + 1) - 8 = 8 * k by omega,
      show 8 * k + 7 - 8 = 8 * k - 1 by omega] at hmi
    by_cases h : Open a b (k + 1)
    · obtain ⟨s1, s2⟩ := maskStep_sel a b k hab h
      simp only [h, decide_true, Bool.not_true, Bool.false_eq_true, if_false, s2] at hmi
      cases i with
      | zero => simp only [List.getElem?_cons_zero, Option.some.injEq] at hmi; subst hmi; simpa using s1
      | succ i =>
        rw [List.getElem?_cons_succ] at hmi
        have := ih i mi hmi
        rwa [show k + 1 - 1 - (i + 1) = k - 1 - i by omega]
    · have h2 : ¬ Open a b k := by unfold Open at h ⊢; omega
      simp only [h, decide_false, Bool.not_false, if_true] at hmi
      simp only [h2, decide_false, Bool.not_false] at ih
      cases i with
      | zero =>
        simp only [List.getElem?_cons_zero, Option.some.injEq] at hmi; subst hmi
        exact sel_empty _ _ _ (by unfold Open at h; omega)
      | succ i =>
        rw [List.getElem?_cons_succ] at hmi
        have := ih i mi hmi
        rwa [show k + 1 - 1 - (i + 1) = k - 1 - i by omega]

/-- the table `HCIcnbit_init` builds: entry `i` is the field `[mask_off - mask_len + 1, mask_off]` cut to byte `i` of the value -/
theorem maskInfos_sel (c : Cfg) (hc : c.Field) (i : Nat) (mi : MaskInfo)
    (h : (maskInfos c)[i]? = some mi) : Sel c.maskOff (c.maskOff + 1 - c.maskLen) (8 * (c.ntSize - 1 - i)) mi := by
  obtain ⟨hs, hl1, _⟩ := hc
  have ho : Open c.maskOff (c.maskOff + 1 - c.maskLen) c.ntSize := Or.inl (by omega)
  refine maskLoop_sel c.maskOff _ (by omega) c.ntSize i mi ?_
  rwa [decide_eq_true ho, Nat.mul_comm 8]

@[simp] theorem itemVals_nil_right (mis : List MaskInfo) : itemVals mis [] = [] := by cases mis <;> rfl

/-- widths of the `Hbitread` calls made for the mask entries `mis` -/
def widths (mis : List MaskInfo) : List Nat := mis.filterMap fun mi => if mi.length > 0 then some mi.length else none

theorem itemWidths_eq (c : Cfg) : itemWidths c = widths (maskInfos c) := rfl

theorem widths_cons (m : MaskInfo) (mis : List MaskInfo) :
    widths (m :: mis) = if m.length > 0 then m.length :: widths mis else widths mis := by
  by_cases h : m.length > 0 <;> simp [widths, h]

theorem encode_vals (c : Cfg) : ∀ (xs : List UInt8) (pos : Nat), pos + xs.length ≤ c.ntSize →
    ((encode c pos xs).1.map fun f => f.2 % 2 ^ f.1) = itemVals ((maskInfos c).drop pos) xs ∧
    ((encode c pos xs).1.map Prod.fst) = widths ((maskInfos c).drop pos |>.take xs.length) := by
  unfold widths
  intro xs
  induction xs with
  | nil => intro pos _; simp [encode]
  | cons x xs ih =>
    intro pos h
    simp only [List.length_cons] at h
    have hlt : pos < (maskInfos c).length := by rw [length_maskInfos]; omega
    have hd : (maskInfos c).drop pos = (maskInfos c)[pos] :: (maskInfos c).drop (pos + 1) := List.drop_eq_getElem_cons hlt
    have hg : (maskInfos c).getD pos {} = (maskInfos c)[pos] := by simp [List.getD, hlt]
    simp only [encode, hg]
    rw [hd]
    by_cases hxs : xs = []
    · subst hxs
      simp only [encode, List.append_nil, itemVals, List.length_cons, List.length_nil, List.take_succ_cons, List.take_zero]
      unfold encByte encVal
      by_cases hl : (maskInfos c)[pos].length > 0 <;> simp [hl]
    · have hpos' : ¬ (pos + 1 ≥ c.ntSize) := by
        cases xs with
        | nil => exact absurd rfl hxs
        | cons y ys => simp only [List.length_cons] at h; omega
      rw [if_neg hpos']
      obtain ⟨i1, i2⟩ := ih (pos + 1) (by omega)
      simp only [List.map_append, i1, i2, itemVals, List.length_cons, List.take_succ_cons, List.filterMap_cons]
      unfold encByte encVal
      by_cases hl : (maskInfos c)[pos].length > 0 <;> simp [hl]


theorem two_pow_and_ne_zero (o y : Nat) : ((2 ^ o &&& y) != 0) = y.testBit o := by
  by_cases h : y.testBit o
  · rw [h]
    simp only [bne_iff_ne, ne_eq]
    intro h0
    have := congrArg (fun z => z.testBit o) h0
    simp [Nat.testBit_and, h] at this
  · simp only [Bool.not_eq_true] at h
    rw [h]
    have : 2 ^ o &&& y = 0 := by
      apply Nat.eq_of_testBit_eq
      intro i
      simp only [Nat.testBit_and, Nat.testBit_two_pow, Nat.zero_testBit]
      by_cases hi : o = i
      · subst hi; simp [h]
      · simp [hi]
    simp [this]

theorem arr32_sign : ∀ o, o < 8 → arr32 (o + 1) ^^^ arr32 o = 2 ^ o := by decide
theorem arr32_low : ∀ o, o < 8 → arr32 o % 256 = 2 ^ o - 1 := by decide

theorem testBit_255 {k : Nat} (hk : k < 8) : Nat.testBit 255 k = true := by
  rw [show (255 : Nat) = 2 ^ 8 - 1 from rfl, Nat.testBit_two_pow_sub_one]; simp [hk]

theorem testBit_mod_256 (m : Nat) {k : Nat} (hk : k < 8) : (m % 256).testBit k = m.testBit k := by
  rw [show (256 : Nat) = 2 ^ 8 from rfl, Nat.testBit_mod_two_pow]; simp [hk]

theorem maskBuf_testBit (fill : Bool) (m k : Nat) (hk : k < 8) :
    (if fill then 255 &&& (255 ^^^ (m % 256)) else 0).testBit k = (fill && !m.testBit k) := by
  cases fill <;> simp [testBit_255 hk, testBit_mod_256 m hk]

theorem outByte_testBit {mi : MaskInfo} (h : Shape mi) (fill : Bool) (x : UInt8) (k : Nat) (hk : k < 8) :
    (outByte mi (if fill then 255 &&& (255 ^^^ (mi.mask % 256)) else 0) x).testBit k =
      (if mi.mask.testBit k then x.toNat.testBit k else fill) := by
  unfold outByte
  by_cases hl : mi.length > 0
  · rw [if_pos hl]
    unfold decByte
    rw [testBit_mod_256 _ hk, Nat.testBit_or, Nat.testBit_and, testBit_mod_256 _ hk, encVal_shift_testBit h, maskBuf_testBit fill _ k hk]
    cases fill <;> cases mi.mask.testBit k <;> simp
  · rw [if_neg hl, maskBuf_testBit fill _ k hk]
    have : mi.mask.testBit k = false := by
      rw [mask_testBit h]; simp; omega
    simp [this]


/-- the `sign_byte`, `sign_mask`, `(uint8)sign_ext_mask` that `HCIcnbit_decode` computes before its loop -/
abbrev Cfg.signByte (c : Cfg) : Nat := c.ntSize - ((c.maskOff / 8) + 1)
abbrev Cfg.signMask (c : Cfg) : Nat := arr32 ((c.maskOff % 8) + 1) ^^^ arr32 (c.maskOff % 8)
abbrev Cfg.signExtMask (c : Cfg) : Nat := 255 ^^^ (arr32 (c.maskOff % 8) % 256)

/-- the bit the specification puts at position `p = 8·(n-1-i)+k` (bit `k` of byte `i`) of the projected value -/
def specBit (c : Cfg) (v : List UInt8) (i k : Nat) : Bool :=
  let p := 8 * (c.ntSize - 1 - i) + k
  let sign := ((v.getD (c.ntSize - 1 - c.maskOff / 8) 0).toNat).testBit (c.maskOff % 8)
  let top := if c.signExt then sign else c.fillOne
  if c.maskOff < p then top
  else if c.maskOff + 1 - c.maskLen ≤ p then ((v.getD i 0).toNat).testBit k
  else c.fillOne

theorem signByte_testBit (sign : Bool) (o b k : Nat) (ho : o < 8) (hk : k < 8) :
    (if sign then (b ||| (255 ^^^ (arr32 o % 256))) % 256 else b &&& (255 ^^^ (255 ^^^ (arr32 o % 256)))).testBit k =
      if o ≤ k then sign else b.testBit k := by
  have hsem : (255 ^^^ (arr32 o % 256)).testBit k = decide (o ≤ k) := by
    rw [arr32_low _ ho, Nat.testBit_xor, testBit_255 hk, Nat.testBit_two_pow_sub_one]
    by_cases h : k < o <;> simp [h] <;> omega
  by_cases h : o ≤ k <;> cases sign <;>
    simp [Nat.testBit_and, Nat.testBit_or, Nat.testBit_xor, testBit_mod_256 _ hk, testBit_255 hk, hsem, h]

theorem signExt_testBit (sign : Bool) (n start i k b : Nat) (hs : start < 8 * n) (hi : i < n) (hk : k < 8) :
    (if i < n - (start / 8 + 1) then (if sign then 255 else 0)
      else if i = n - (start / 8 + 1) then
        (if sign then (b ||| (255 ^^^ (arr32 (start % 8) % 256))) % 256 else b &&& (255 ^^^ (255 ^^^ (arr32 (start % 8) % 256))))
      else b).testBit k =
      if start ≤ 8 * (n - 1 - i) + k then sign else b.testBit k := by
  by_cases h1 : i < n - (start / 8 + 1)
  · have hp : start ≤ 8 * (n - 1 - i) + k := by omega
    rw [if_pos h1, if_pos hp]
    cases sign <;> simp [testBit_255 hk]
  · rw [if_neg h1]
    by_cases h2 : i = n - (start / 8 + 1)
    · rw [if_pos h2, signByte_testBit sign _ b k (Nat.mod_lt _ (by omega)) hk]
      have hp : start % 8 ≤ k ↔ start ≤ 8 * (n - 1 - i) + k := by omega
      simp only [hp]
    · have hp : ¬ start ≤ 8 * (n - 1 - i) + k := by omega
      rw [if_neg h2, if_neg hp]

/-- every bit of the rebuilt value; three cases by the position `p = 8·(n-1-i)+k`: above `mask_off`, in the field, below -/
theorem decItem_bit (c : Cfg) (hc : c.Field)
    (v : List UInt8) (hlen : v.length = c.ntSize) (prev : Bool) (i k : Nat) (hi : i < c.ntSize) (hk : k < 8) :
    ((decItem c (itemVals (maskInfos c) v) prev).1[i]?).map (fun b => b.toNat.testBit k) = some (specBit c v i k) := by
  have hsel : ∀ j, j < c.ntSize → ∃ m, (maskInfos c)[j]? = some m ∧ Sel c.maskOff (c.maskOff + 1 - c.maskLen) (8 * (c.ntSize - 1 - j)) m := by
    intro j hj
    have hj' : j < (maskInfos c).length := by rw [length_maskInfos]; exact hj
    exact ⟨_, List.getElem?_eq_getElem hj', maskInfos_sel c hc j _ (List.getElem?_eq_getElem hj')⟩
  obtain ⟨hs, hl1, _⟩ := hc
  generalize hB : c.maskOff + 1 - c.maskLen = lo at *
  have hab : lo ≤ c.maskOff := by omega
  have hsB : c.ntSize - (c.maskOff / 8 + 1) < c.ntSize := by omega
  have ho : c.maskOff % 8 < 8 := Nat.mod_lt _ (by omega)
  have hpos : 8 * (c.ntSize - 1 - (c.ntSize - (c.maskOff / 8 + 1))) + c.maskOff % 8 = c.maskOff := by omega
  obtain ⟨ms, hms, sels⟩ := hsel _ hsB
  obtain ⟨mi, hmi, seli⟩ := hsel i hi
  obtain ⟨xs, hxs⟩ : ∃ x, v[c.ntSize - (c.maskOff / 8 + 1)]? = some x := ⟨_, List.getElem?_eq_getElem (by omega)⟩
  have hsign : signOf (c.ntSize - (c.maskOff / 8 + 1)) (arr32 (c.maskOff % 8 + 1) ^^^ arr32 (c.maskOff % 8)) 0 (maskInfos c) v none =
      some (xs.toNat.testBit (c.maskOff % 8)) := by
    rw [signOf_spec _ _ _ v 0 none ms xs (by omega) (by simpa using hms) (by simpa using hxs)
        (sels.length_pos _ ho (by omega) (by omega)),
      arr32_sign _ ho, two_pow_and_ne_zero, Nat.testBit_mod_two_pow, encVal_shift_testBit sels.toShape, sels.testBit ho]
    simp [hpos, show c.maskOff % 8 < 32 by omega]; omega
  have hbytes := decBytes_spec (c.ntSize - (c.maskOff / 8 + 1)) (arr32 (c.maskOff % 8 + 1) ^^^ arr32 (c.maskOff % 8)) (maskInfos c)
    (maskBuf c) v 0 none [] (by rw [length_maskInfos, hlen]) (by simp [maskBuf, length_maskInfos, hlen])
  rw [List.append_nil] at hbytes
  obtain ⟨xi, hxi⟩ : ∃ x, v[i]? = some x := ⟨_, List.getElem?_eq_getElem (by omega)⟩
  have hout : (outBytes (maskInfos c) (maskBuf c) v)[i]? =
      some (outByte mi (if c.fillOne then 255 &&& (255 ^^^ (mi.mask % 256)) else 0) xi) := by
    rw [getElem?_outBytes, hmi, hxi]; unfold maskBuf; rw [List.getElem?_map, hmi]; rfl
  have hbit := outByte_testBit seli.toShape c.fillOne xi k hk
  rw [seli.testBit hk] at hbit
  generalize outByte _ _ xi = B at hout hbit
  have hvi : v.getD i 0 = xi := by simp [List.getD, hxi]
  have hvs : v.getD (c.ntSize - 1 - c.maskOff / 8) 0 = xs := by rw [show c.ntSize - 1 - c.maskOff / 8 = c.ntSize - (c.maskOff / 8 + 1) by omega]; simp [List.getD, hxs]
  have hxx : 8 * (c.ntSize - 1 - i) + k = c.maskOff → xi.toNat.testBit k = xs.toNat.testBit (c.maskOff % 8) := by
    intro h
    obtain ⟨rfl, rfl⟩ : i = c.ntSize - (c.maskOff / 8 + 1) ∧ k = c.maskOff % 8 := by omega
    rw [hxs] at hxi; rw [Option.some.inj hxi]
  unfold decItem specBit
  simp only [hB, hbytes, hsign, Option.getD_some, hvi, hvs]
  generalize xs.toNat.testBit (c.maskOff % 8) = sign at hxx
  generalize xi.toNat.testBit k = X at hxx hbit
  generalize hp : 8 * (c.ntSize - 1 - i) + k = p at hxx hbit
  have hfin : ∀ top : Bool, (c.maskOff < p → top = c.fillOne) →
      B.testBit k = if c.maskOff < p then top else if lo ≤ p then X else c.fillOne := by
    intro top ht
    rw [hbit]
    by_cases h1 : c.maskOff < p
    · simp [h1, ht h1, show ¬ p ≤ c.maskOff by omega]
    · simp [h1, show p ≤ c.maskOff by omega]
  by_cases hse : c.signExt
  · simp only [hse, if_true]
    by_cases hne : (sign != c.fillOne) = true
    · simp only [hne, if_true, List.getElem?_map, List.getElem?_mapIdx, hout, Option.map_some, toNat_ofNat_byte, testBit_mod_256 _ hk]
      rw [signExt_testBit sign c.ntSize c.maskOff i k B hs hi hk, hp, hbit]
      by_cases h1 : c.maskOff < p
      · simp [h1, show c.maskOff ≤ p by omega]
      · by_cases h2 : p = c.maskOff
        · simp [h2, hxx h2, hab]
        · simp [h1, show ¬ c.maskOff ≤ p by omega, show p ≤ c.maskOff by omega]
    · have hsf : sign = c.fillOne := by simpa using hne
      simp only [hne, Bool.false_eq_true, if_false, List.getElem?_map, hout, Option.map_some, toNat_ofNat_byte, testBit_mod_256 _ hk]
      rw [hfin sign (fun _ => hsf)]
  · simp only [hse, Bool.false_eq_true, if_false, List.getElem?_map, hout, Option.map_some, toNat_ofNat_byte, testBit_mod_256 _ hk]
    rw [hfin c.fillOne (fun _ => rfl)]


theorem length_outBytes : ∀ (mis : List MaskInfo) (mbs : List Nat) (xs : List UInt8), mis.length = xs.length → mbs.length = xs.length →
    (outBytes mis mbs xs).length = xs.length := by
  intro mis
  induction mis with
  | nil => intro mbs xs h1 _; cases xs <;> simp_all [outBytes]
  | cons mi mis ih =>
    intro mbs xs h1 h2
    cases xs with
    | nil => simp at h1
    | cons x xs =>
      cases mbs with
      | nil => simp at h2
      | cons mb mbs => simp only [outBytes, List.length_cons]; rw [ih mbs xs (by simpa using h1) (by simpa using h2)]

theorem length_decItem (c : Cfg) (v : List UInt8) (hlen : v.length = c.ntSize) (prev : Bool) :
    (decItem c (itemVals (maskInfos c) v) prev).1.length = c.ntSize := by
  have hbytes := decBytes_spec c.signByte c.signMask (maskInfos c)
    (maskBuf c) v 0 none [] (by rw [length_maskInfos, hlen]) (by simp [maskBuf, length_maskInfos, hlen])
  rw [List.append_nil] at hbytes
  have hl := length_outBytes (maskInfos c) (maskBuf c) v (by rw [length_maskInfos, hlen]) (by simp [maskBuf, length_maskInfos, hlen])
  unfold decItem
  simp only [hbytes]
  split
  · split <;> simp [hl, hlen]
  · simp [hl, hlen]

theorem getElem?_rep_mid_rep {α} (hi len rest : Nat) (top fill : α) (bits : List α) (h : hi + len ≤ bits.length) (idx : Nat) :
    (List.replicate hi top ++ (bits.drop hi).take len ++ List.replicate rest fill)[idx]? =
      if idx < hi then some top else if idx < hi + len then bits[idx]? else if idx < hi + len + rest then some fill else none := by
  have hl : ((bits.drop hi).take len).length = len := by rw [List.length_take, List.length_drop]; omega
  by_cases h1 : idx < hi
  · rw [if_pos h1, List.append_assoc, List.getElem?_append_left (by simpa using h1)]; simp [h1]
  · rw [if_neg h1, List.append_assoc, List.getElem?_append_right (by simpa using Nat.le_of_not_lt h1), List.length_replicate]
    by_cases h2 : idx < hi + len
    · rw [if_pos h2, List.getElem?_append_left (by rw [hl]; omega), List.getElem?_take, if_pos (by omega), List.getElem?_drop]
      congr 1; omega
    · rw [if_neg h2, List.getElem?_append_right (by rw [hl]; omega), hl, List.getElem?_replicate]
      by_cases h3 : idx < hi + len + rest
      · rw [if_pos h3, if_pos (by omega)]
      · rw [if_neg h3, if_neg (by omega)]

/-- `nbit_projection`, item level: the bytes the decoder rebuilds from the words read back for value `v` are the documented
    projection of `v` -/
theorem decItem_projection (c : Cfg) (hc : c.Field)
    (v : List UInt8) (hlen : v.length = c.ntSize) (prev : Bool) :
    bytesBits (decItem c (itemVals (maskInfos c) v) prev).1 = projectBits c (bytesBits v) := by
  obtain ⟨hs, hl1, hl⟩ := hc
  apply List.ext_getElem?
  intro idx
  have hL : (bytesBits v).length = 8 * c.ntSize := by rw [length_bytesBits, hlen]
  unfold projectBits
  rw [getElem?_rep_mid_rep _ _ _ _ _ _ (by rw [hL]; omega), getElem?_bytesBits, hL]
  by_cases hi : idx / 8 < c.ntSize
  · have hidx : idx < 8 * c.ntSize := by omega
    have hbit : ∀ j, j < 8 * c.ntSize → (bytesBits v)[j]? = some ((v.getD (j / 8) 0).toNat.testBit (7 - j % 8)) := by
      intro j hj
      rw [getElem?_bytesBits]
      have : j / 8 < v.length := by omega
      simp [List.getD, List.getElem?_eq_getElem this]
    have hhead : (List.take c.maskLen (List.drop (8 * c.ntSize - 1 - c.maskOff) (bytesBits v))).headD false =
        ((v.getD (c.ntSize - 1 - c.maskOff / 8) 0).toNat).testBit (c.maskOff % 8) := by
      rw [List.headD_eq_head?_getD, List.head?_eq_getElem?, List.getElem?_take, if_pos (by omega), List.getElem?_drop, Nat.add_zero,
        hbit _ (by omega), show (8 * c.ntSize - 1 - c.maskOff) / 8 = c.ntSize - 1 - c.maskOff / 8 by omega,
        show 7 - (8 * c.ntSize - 1 - c.maskOff) % 8 = c.maskOff % 8 by omega]
      rfl
    rw [decItem_bit c ⟨hs, hl1, hl⟩ v hlen prev (idx / 8) (7 - idx % 8) hi (by omega), hhead]
    unfold specBit
    simp only
    rw [show 8 * (c.ntSize - 1 - idx / 8) + (7 - idx % 8) = 8 * c.ntSize - 1 - idx by omega]
    by_cases h1 : idx < 8 * c.ntSize - 1 - c.maskOff
    · rw [if_pos h1, if_pos (by omega)]
    · rw [if_neg h1, if_neg (by omega)]
      by_cases h2 : idx < 8 * c.ntSize - 1 - c.maskOff + c.maskLen
      · rw [if_pos h2, if_pos (by omega), hbit idx hidx]
      · rw [if_neg h2, if_neg (by omega), if_pos (by omega)]
  · have hnone : (decItem c (itemVals (maskInfos c) v) prev).1[idx / 8]? = none := by
      rw [List.getElem?_eq_none]; rw [length_decItem c v hlen prev]; omega
    rw [hnone, Option.map_none, if_neg (by omega), if_neg (by omega), if_neg (by omega)]

theorem bitsBytes_bytesBits (l : List UInt8) : bitsBytes l.length (bytesBits l) = l := by
  induction l with
  | nil => rfl
  | cons b l ih =>
    simp only [List.length_cons, bitsBytes, bytesBits_cons]
    rw [List.take_append_of_le_length (by simp), List.take_of_length_le (by simp),
      List.drop_append_of_le_length (by simp), List.drop_of_length_le (by simp), List.nil_append, ih, ofBits_msbBits]
    have : b.toNat % 2 ^ 8 = b.toNat := Nat.mod_eq_of_lt (UInt8.toNat_lt b)
    rw [this]; simp

theorem encode_append (c : Cfg) : ∀ (xs ys : List UInt8) (pos : Nat),
    encode c pos (xs ++ ys) = ((encode c pos xs).1 ++ (encode c (encode c pos xs).2 ys).1, (encode c (encode c pos xs).2 ys).2) := by
  intro xs
  induction xs with
  | nil => intro ys pos; simp [encode]
  | cons x xs ih =>
    intro ys pos
    simp only [List.cons_append, encode, ih, List.append_assoc]

theorem encByte_valid {mi : MaskInfo} (h : Shape mi) (x : UInt8) : ∀ f ∈ encByte mi x, 1 ≤ f.1 ∧ f.1 ≤ 32 := by
  intro f hf
  unfold encByte at hf
  split at hf
  · simp at hf; subst hf; have := h.span; simp only; omega
  · simp at hf

theorem getD_mem_or {α} (l : List α) (j : Nat) (d : α) : l.getD j d ∈ l ∨ l.getD j d = d := by
  by_cases hj : j < l.length
  · left; simp [List.getD, hj]
  · right; simp [List.getD, List.getElem?_eq_none (Nat.le_of_not_lt hj)]

theorem maskInfos_shape (c : Cfg) (hc : c.Field) : ∀ mi ∈ maskInfos c, Shape mi := by
  intro mi hmi
  obtain ⟨i, hi⟩ := List.getElem?_of_mem hmi
  exact (maskInfos_sel c hc i mi hi).toShape

theorem shape_getD (c : Cfg) (hc : c.Field) (j : Nat) : Shape ((maskInfos c).getD j {}) := by
  rcases getD_mem_or (maskInfos c) j {} with h | h
  · exact maskInfos_shape c hc _ h
  · rw [h]; exact .empty

theorem encode_pos (c : Cfg) : ∀ (xs : List UInt8) (pos : Nat), pos < c.ntSize →
    (encode c pos xs).2 = (pos + xs.length) % c.ntSize := by
  intro xs
  induction xs with
  | nil => intro pos hp; simp [encode, Nat.mod_eq_of_lt hp]
  | cons x xs ih =>
    intro pos hp
    simp only [encode, List.length_cons]
    by_cases h : pos + 1 ≥ c.ntSize
    · have : pos + 1 = c.ntSize := by omega
      rw [if_pos h, ih 0 (by omega)]
      have e : pos + (xs.length + 1) = xs.length + c.ntSize := by omega
      rw [e, Nat.add_mod_right]; simp
    · rw [if_neg h, ih (pos + 1) (by omega)]
      congr 1; omega

theorem encode_values (c : Cfg) (hn : 0 < c.ntSize) : ∀ (vs : List (List UInt8)), (∀ v ∈ vs, v.length = c.ntSize) →
    (encode c 0 vs.flatten).1 = (vs.map fun v => (encode c 0 v).1).flatten ∧ (encode c 0 vs.flatten).2 = 0 := by
  intro vs
  induction vs with
  | nil => intro _; simp [encode]
  | cons v vs ih =>
    intro h
    have hv := h v (by simp)
    obtain ⟨i1, i2⟩ := ih (fun w hw => h w (by simp [hw]))
    have hp : (encode c 0 v).2 = 0 := by rw [encode_pos c v 0 hn, hv]; simp
    simp only [List.flatten_cons, List.map_cons]
    rw [encode_append, hp]
    exact ⟨by rw [i1], i2⟩

theorem length_bitsBytes (n : Nat) (l : List Bool) : (bitsBytes n l).length = n := by
  induction n generalizing l with
  | zero => rfl
  | succ n ih => simp [bitsBytes, ih]

theorem length_projects (c : Cfg) (vs : List (List UInt8)) (h : ∀ v ∈ vs, v.length = c.ntSize) :
    ((vs.map (project c)).flatten).length = vs.length * c.ntSize := by
  induction vs with
  | nil => simp
  | cons v vs ih =>
    simp only [List.map_cons, List.flatten_cons, List.length_append, List.length_cons]
    rw [ih (fun w hw => h w (by simp [hw]))]
    unfold project
    rw [length_bitsBytes, h v (by simp), Nat.add_mul]; omega

def valueFields (c : Cfg) (vs : List (List UInt8)) : List (Nat × Nat) := (vs.map fun v => (encode c 0 v).1).flatten

theorem valueFields_nil (c : Cfg) : valueFields c [] = [] := rfl

theorem valueFields_cons (c : Cfg) (v : List UInt8) (vs : List (List UInt8)) : valueFields c (v :: vs) = (encode c 0 v).1 ++ valueFields c vs := rfl

theorem valueFields_append (c : Cfg) (a b : List (List UInt8)) : valueFields c (a ++ b) = valueFields c a ++ valueFields c b := by
  simp [valueFields]


/-- the sign extension of `decItem` on the bytes of one item (the model's `mapIdx`) -/
def signFix (sB : Nat) (sign : Bool) (sem : Nat) (bytes : List Nat) : List Nat :=
  bytes.mapIdx fun j b =>
    if j < sB then (if sign then 255 else 0)
    else if j = sB then (if sign then (b ||| sem) % 256 else b &&& (255 ^^^ sem))
    else b

theorem decBytes_length (sB sM : Nat) : ∀ (mis : List MaskInfo) (mbs : List Nat) (bits : List Bool) (j : Nat) (sb : Option Bool),
    mbs.length = mis.length → (decBytes sB sM j mis mbs (takeFields bits (widths mis)) sb).1.length = mis.length := by
  intro mis
  induction mis with
  | nil => intro mbs bits j sb _; simp [decBytes]
  | cons m mis ih =>
    intro mbs bits j sb h
    cases mbs with
    | nil => simp at h
    | cons mb mbs =>
      simp only [List.length_cons, Nat.add_right_cancel_iff] at h
      by_cases hl : m.length > 0
      · have hw : widths (m :: mis) = m.length :: widths mis := by rw [widths_cons, if_pos hl]
        simp only [hw, takeFields, decBytes, hl, if_true, List.length_cons]
        rw [ih mbs _ _ _ h]
      · have hw : widths (m :: mis) = widths mis := by rw [widths_cons, if_neg hl]
        simp only [hw, decBytes, hl, if_false, List.length_cons]
        rw [ih mbs _ _ _ h]

theorem decByte_lt (m : MaskInfo) (mb v : Nat) : decByte m mb v < 256 := Nat.mod_lt _ (by omega)

theorem decBytes_lt (sB sM : Nat) : ∀ (mis : List MaskInfo) (mbs : List Nat) (vals : List Nat) (j : Nat) (sb : Option Bool),
    (∀ x ∈ mbs, x < 256) → ∀ y ∈ (decBytes sB sM j mis mbs vals sb).1, y < 256 := by
  intro mis
  induction mis with
  | nil => intro mbs vals j sb _ y hy; simp [decBytes] at hy
  | cons m mis ih =>
    intro mbs vals j sb h y hy
    cases mbs with
    | nil => simp [decBytes] at hy
    | cons mb mbs =>
      by_cases hl : m.length > 0
      · cases vals with
        | nil => simp [decBytes, hl] at hy
        | cons v vs =>
          simp only [decBytes, hl, if_true, List.mem_cons] at hy
          rcases hy with hy | hy
          · subst hy; exact decByte_lt _ _ _
          · exact ih mbs vs _ _ (fun x hx => h x (by simp [hx])) y hy
      · simp only [decBytes, hl, if_false, List.mem_cons] at hy
        rcases hy with hy | hy
        · subst hy; exact h _ (by simp)
        · exact ih mbs vals _ _ (fun x hx => h x (by simp [hx])) y hy

theorem maskBuf_lt (c : Cfg) : ∀ x ∈ maskBuf c, x < 256 := by
  intro x hx
  unfold maskBuf at hx
  obtain ⟨m, _, rfl⟩ := List.mem_map.mp hx
  split
  · have : 255 &&& (255 ^^^ (m.mask % 256)) ≤ 255 := Nat.and_le_left
    omega
  · omega

theorem length_maskBuf (c : Cfg) : (maskBuf c).length = c.ntSize := by simp [maskBuf, length_maskInfos]

open H4.Gen.Hbitio in
theorem _root_.H4.Lemmas.C05NBitFn.avail_startRead (e : List UInt8) : avail (startRead e) = bytesBits e := by
  have hB : BITBUF_SIZE = 4096 := rfl
  unfold startRead
  by_cases hpos : e.length > 0
  · have hnn : ¬ (min (e.length - 0) BITBUF_SIZE = 0 ∨ min (e.length - 0) BITBUF_SIZE + 0 > e.length) := by omega
    simp only [hpos, if_true, hRead, Bool.false_eq_true, if_false, hnn, List.drop_zero, St.load, St.setPtr, St.buf,
      List.reverse_nil, List.nil_append, List.take_zero, List.drop_zero]
    generalize hn : min (e.length - 0) BITBUF_SIZE = n
    have hl : (List.take n e).length = n := by rw [List.length_take]; omega
    simp only [avail, rest, window, msbBits, List.nil_append, hl, Nat.zero_add, Nat.sub_zero]
    rw [List.take_append_of_le_length (by omega), List.take_of_length_le (by omega), List.take_append_drop]
  · have he : e = [] := List.eq_nil_of_length_eq_zero (by omega)
    subst he
    simp only [List.length_nil, Nat.lt_irrefl, gt_iff_lt, if_false, St.setPtr, St.buf, List.reverse_nil, List.nil_append]
    simp only [avail, rest, window, msbBits, Nat.sub_self, List.take_zero, List.drop_nil, bytesBits_nil, List.append_nil]

/-- `decItem` before the conversion to bytes -/
def decItemN (c : Cfg) (vals : List Nat) (prev : Bool) : List Nat × Bool :=
  let sem := c.signExtMask
  let sB := c.signByte
  let sM := c.signMask
  let r := decBytes sB sM 0 (maskInfos c) (maskBuf c) vals none
  let sign := r.2.getD prev
  if c.signExt then
    if sign != c.fillOne then (signFix sB sign sem r.1, sign) else (r.1, sign)
  else (r.1, prev)

theorem decItem_eq (c : Cfg) (vals : List Nat) (prev : Bool) :
    decItem c vals prev = ((decItemN c vals prev).1.map UInt8.ofNat, (decItemN c vals prev).2) := by
  unfold decItem decItemN signFix
  cases c.signExt
  · rfl
  · dsimp only
    rw [if_pos rfl, if_pos rfl]
    split <;> rfl


theorem length_decItemN (c : Cfg) (bits : List Bool) (prev : Bool) : (decItemN c (takeFields bits (itemWidths c)) prev).1.length = c.ntSize := by
  have h := decBytes_length c.signByte c.signMask (maskInfos c) (maskBuf c) bits 0 none
    (by rw [length_maskBuf, length_maskInfos])
  rw [length_maskInfos] at h
  have hw := itemWidths_eq c
  unfold decItemN
  simp only [hw]
  split
  · split
    · simp only [signFix, List.length_mapIdx]; exact h
    · exact h
  · exact h

theorem decItemN_lt (c : Cfg) (vals : List Nat) (prev : Bool) : ∀ y ∈ (decItemN c vals prev).1, y < 256 := by
  have h := decBytes_lt c.signByte c.signMask (maskInfos c) (maskBuf c) vals 0 none
    (maskBuf_lt c)
  intro y hy
  unfold decItemN at hy
  simp only at hy
  split at hy
  · split at hy
    · unfold signFix at hy
      obtain ⟨i, hi, rfl⟩ := List.mem_mapIdx.mp hy
      split
      · split <;> omega
      · split
        · split
          · exact Nat.mod_lt _ (by omega)
          · have := h _ (List.getElem_mem hi)
            have h2 : (decBytes c.signByte c.signMask 0 (maskInfos c) (maskBuf c) vals none).fst[i] &&&
                (255 ^^^ (c.signExtMask)) ≤ _ := Nat.and_le_left
            omega
        · exact h _ (List.getElem_mem hi)
    · exact h y hy
  · exact h y hy

/-- `k` items expanded from a bit stream (the model's `refillItems` on the bits still to be delivered) -/
def refillBits (c : Cfg) : Nat → List Bool → Bool → List Nat × Bool
  | 0, _, sg => ([], sg)
  | k + 1, bits, sg =>
    let it := decItemN c (takeFields bits (itemWidths c)) sg
    let r := refillBits c k (bits.drop (itemWidths c).sum) it.2
    (it.1 ++ r.1, r.2)

theorem length_refillBits (c : Cfg) : ∀ (k : Nat) (bits : List Bool) (sg : Bool), (refillBits c k bits sg).1.length = k * c.ntSize := by
  intro k
  induction k with
  | zero => intros; simp [refillBits]
  | succ k ih => intro bits sg; simp only [refillBits, List.length_append, length_decItemN, ih]; rw [Nat.add_mul]; omega

theorem refillBits_lt (c : Cfg) : ∀ (k : Nat) (bits : List Bool) (sg : Bool), ∀ y ∈ (refillBits c k bits sg).1, y < 256 := by
  intro k
  induction k with
  | zero => intro bits sg y hy; simp [refillBits] at hy
  | succ k ih =>
    intro bits sg y hy
    simp only [refillBits, List.mem_append] at hy
    rcases hy with hy | hy
    · exact decItemN_lt c _ _ y hy
    · exact ih _ _ y hy

theorem itemWidths_ok (c : Cfg) (hc : c.Field) : ∀ w ∈ itemWidths c, 1 ≤ w ∧ w ≤ 32 := by
  intro w hw
  unfold itemWidths at hw
  obtain ⟨m, hm, hw⟩ := List.mem_filterMap.mp hw
  obtain ⟨i, hi⟩ := List.getElem?_of_mem hm
  have hg := maskInfos_sel c hc i m hi
  split at hw
  · cases hw; have := hg.le; have := hg.off; omega
  · cases hw

theorem refillItems_bits (c : Cfg) (hw : ∀ w ∈ itemWidths c, 1 ≤ w ∧ w ≤ 32) : ∀ (k : Nat) (st : H4.BitIO.St) (sg : Bool), RInv st →
    k * (itemWidths c).sum ≤ (avail st).length →
    ∃ st', refillItems c k st sg = some ((refillBits c k (avail st) sg).1.map UInt8.ofNat, st', (refillBits c k (avail st) sg).2) ∧ RInv st' ∧
      avail st' = (avail st).drop (k * (itemWidths c).sum) := by
  intro k
  induction k with
  | zero => intro st sg hr _; exact ⟨st, by simp [refillItems, refillBits], hr, by simp⟩
  | succ k ih =>
    intro st sg hr hlen
    rw [Nat.add_mul, Nat.one_mul] at hlen
    obtain ⟨st1, e1, r1, a1⟩ := readFieldsS_ok (itemWidths c) st hr hw (by omega)
    obtain ⟨st2, e2, r2, a2⟩ := ih st1 (decItemN c (takeFields (avail st) (itemWidths c)) sg).2 r1 (by rw [a1]; simp; omega)
    refine ⟨st2, ?_, r2, ?_⟩
    · simp only [refillItems, e1, decItem_eq, e2, a1, refillBits, List.map_append]
    · rw [a2, a1, List.drop_drop, Nat.add_mul, Nat.one_mul, Nat.add_comm]


end H4.NBit

namespace H4.Lemmas.C05NBitFn
open H4.NBit H4.Gen.Cnbit

/-- number of items a re-fill for a request of `len` bytes expands -/
def refillCount (c : Cfg) (len : Nat) : Nat := max (min NBIT_BUF_SIZE len / c.ntSize) 1

theorem refillCount_le (c : Cfg) (hn : 0 < c.ntSize) (hn16 : c.ntSize ≤ 16) (len : Nat) : refillCount c len * c.ntSize ≤ 1024 ∧ 1 ≤ refillCount c len := by
  unfold refillCount
  have c1 : NBIT_BUF_SIZE = 1024 := rfl
  rw [c1]
  have h1 : min 1024 len / c.ntSize * c.ntSize ≤ min 1024 len := Nat.div_mul_le_self _ _
  generalize min 1024 len / c.ntSize = q at h1
  by_cases h : q ≥ 1
  · rw [Nat.max_eq_left h]; exact ⟨by omega, h⟩
  · have : q = 0 := by omega
    subst this; simp; omega


theorem refillCount_whole (c : Cfg) (hn : 0 < c.ntSize) (m : Nat) : 1 ≤ refillCount c (m * c.ntSize) ∧ (0 < m → refillCount c (m * c.ntSize) ≤ m) := by
  have h1 : min NBIT_BUF_SIZE (m * c.ntSize) / c.ntSize ≤ m * c.ntSize / c.ntSize := Nat.div_le_div_right (Nat.min_le_right _ _)
  rw [Nat.mul_div_cancel _ hn] at h1
  unfold refillCount
  omega

end H4.Lemmas.C05NBitFn

namespace H4.NBit

/-- the re-fill step of the model's `decodeLoop` -/
def refillD (c : Cfg) (d : Dec) (length : Nat) : Dec :=
  if d.bufPos ≥ d.bufLen then
    let bufItems := H4.Lemmas.C05NBitFn.refillCount c length
    match refillItems c bufItems d.st d.sign with
    | none => { d with fail := true, bufPos := 0, bufLen := bufItems * c.ntSize }
    | some (items, st, sg) =>
      { d with st := st, sign := sg, buffer := items ++ d.buffer.drop items.length, bufPos := 0, bufLen := bufItems * c.ntSize }
  else d

open H4.BitIO in
theorem refillD_facts (c : Cfg) (hc : c.Field) (d : Dec) (len : Nat) (hge : d.bufPos ≥ d.bufLen) (hri : RInv d.st)
    (hbits : H4.Lemmas.C05NBitFn.refillCount c len * (itemWidths c).sum ≤ (avail d.st).length) :
    (refillD c d len).fail = d.fail ∧ (refillD c d len).bufPos = 0 ∧
      (refillD c d len).bufLen = H4.Lemmas.C05NBitFn.refillCount c len * c.ntSize ∧
      avail (refillD c d len).st = (avail d.st).drop (H4.Lemmas.C05NBitFn.refillCount c len * (itemWidths c).sum) := by
  obtain ⟨st', e1, -, a'⟩ := refillItems_bits c (itemWidths_ok c hc) _ d.st d.sign hri hbits
  unfold refillD
  rw [if_pos hge]
  simp only [e1, true_and]
  exact a'

theorem decodeLoop_succ (c : Cfg) (fuel : Nat) (d : Dec) (length : Nat) (acc : List UInt8) :
    decodeLoop c (fuel + 1) d length acc =
      if length = 0 then (d, acc)
      else
        let d1 := refillD c d length
        let copy := if length > d1.bufLen - d1.bufPos then d1.bufLen - d1.bufPos else length
        decodeLoop c fuel { d1 with bufPos := d1.bufPos + copy } (length - copy) (acc ++ (d1.buffer.drop d1.bufPos).take copy) := rfl


end H4.NBit
