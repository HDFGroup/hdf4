import H4.Lemmas.ElemHLPwrite
/-! Frame: an operation that only changes bytes inside extents of "target-owned" slots leaves every other element alone;
    the attach counter is seen by nothing. `ElemSet` is the form in which a step on one file hands its effect to the world. -/
namespace H4.Elem
open H4.Gen.Hdf

theorem bytesAt_congr (f f' : File) (o l : Nat) (h : ∀ i, i < l → rd f'.disk (o + i) = rd f.disk (o + i)) :
    f'.bytesAt o l = f.bytesAt o l := by
  unfold File.bytesAt
  apply List.map_congr_left
  intro i hi
  exact h i (List.mem_range.mp hi)

theorem linkedBytes_congr {f f' : File} {li : LinkInfo} (hl : WFLs f li)
    (hbe : ∀ ref x, f.blockExt ref = some x → f'.blockExt ref = some x)
    (hrd : ∀ t idx o l r, li.blockRef t idx ≠ 0 → f.blockExt (li.blockRef t idx) = some (o, l) → r < l →
      rd f'.disk (o + r) = rd f.disk (o + r)) :
    f'.linkedBytes li = f.linkedBytes li := by
  unfold File.linkedBytes
  apply List.map_congr_left
  intro i _
  exact lbyte_congr hl rfl rfl rfl (fun _ _ => rfl) (fun _ _ x _ hx => hbe _ x hx) hrd i

theorem blockExt_keep2 {f f' : File} (hw' : WFF f') {ref : Nat} {x : Nat × Nat} (h : f.blockExt ref = some x)
    (hk : ∀ j, f.hasKey j DFTAG_LINKED ref → f'.dd j = f.dd j) : f'.blockExt ref = some x := by
  obtain ⟨j, hjk, hje⟩ := blockExt_slot h
  have hd := hk j hjk
  have : f'.hasKey j DFTAG_LINKED ref := by unfold File.hasKey File.live at *; rw [hd]; exact hjk
  exact blockExt_of_slot hw' this (by rw [hd]; exact hje)

theorem blockSlot_back {f f' : File} (hw' : WFF f') {li : LinkInfo} {j t idx : Nat}
    (hex : ∃ x, f.blockExt (li.blockRef t idx) = some x)
    (hdd : ∀ j0, f.hasKey j0 DFTAG_LINKED (li.blockRef t idx) → f'.dd j0 = f.dd j0)
    (hk : f'.hasKey j DFTAG_LINKED (li.blockRef t idx)) : f.hasKey j DFTAG_LINKED (li.blockRef t idx) := by
  obtain ⟨x, hx⟩ := hex
  obtain ⟨j0, hk0, _⟩ := blockExt_slot hx
  have hd := hdd j0 hk0
  have hk0' : f'.hasKey j0 DFTAG_LINKED (li.blockRef t idx) := by unfold File.hasKey File.live at *; rw [hd]; exact hk0
  rw [hw'.uniq j j0 hk.1 hk0'.1 (by rw [hk.2.1, hk0'.2.1]) (by rw [hk.2.2, hk0'.2.2])]
  exact hk0

theorem WFF.keyOf_inj {f : File} (hw : WFF f) {x s : Nat} (hx : f.live x) (hs : f.live s) (e : f.keyOf x = f.keyOf s) : x = s := by
  unfold File.keyOf at e
  simp only [Prod.mk.injEq] at e
  exact hw.uniq x s hx hs e.1 e.2

theorem slotBytes_frame {f f' : File} (hw : WFE f) (hw' : WFF f') (s' : Nat) (hs' : f.live s')
    (T : Nat → Prop)
    (hdd : ∀ j, f.live j → ¬ T j → f'.dd j = f.dd j)
    (hlink : f'.link (f.keyOf s') = f.link (f.keyOf s'))
    (hrd : ∀ x, x < f.endOff →
      (∀ j o l, T j → f.live j → (f.dd j).ext = some (o, l) → ¬ (o ≤ x ∧ x < o + l)) → rd f'.disk x = rd f.disk x)
    (hT : ¬ T s')
    (hTb : isSpecial (f.dd s').tag = true → ∀ li, f.link (f.keyOf s') = some li → ∀ j, f.blockSlotOf li j → ¬ T j) :
    f'.slotBytes s' = f.slotBytes s' := by
  unfold File.slotBytes
  simp only
  rw [hdd s' hs' hT]
  by_cases hsp : isSpecial (f.dd s').tag = true
  · simp only [hsp, if_true]
    have hk : (baseTag (f.dd s').tag, (f.dd s').ref) = f.keyOf s' := rfl
    rw [hk, hlink]
    cases hli : f.link (f.keyOf s') with
    | none => rfl
    | some li =>
      simp only [Option.map_some]
      congr 1
      obtain ⟨li', ho, hl, h1, h2, _, _⟩ := hw.linked_ok s' hs' hsp
      rw [hli] at h1
      simp only [Option.some.injEq] at h1
      subst h1
      have hbe : ∀ t idx x, li.blockRef t idx ≠ 0 → f.blockExt (li.blockRef t idx) = some x →
          f'.blockExt (li.blockRef t idx) = some x := by
        intro t idx x h0 hx
        exact blockExt_keep2 hw' hx (fun j hj => hdd j hj.1 (hTb hsp li hli j ⟨t, idx, h0, hj⟩))
      unfold File.linkedBytes
      apply List.map_congr_left
      intro i _
      apply lbyte_congr h2.toWFLs rfl rfl rfl (fun _ _ => rfl) hbe
      intro t idx o l r h0 hx hr
      obtain ⟨j, hjk, hje⟩ := blockExt_slot hx
      have hnT : ¬ T j := hTb hsp li hli j ⟨t, idx, h0, hjk⟩
      have hle := hw.ext_le j o l hjk.1 hje
      apply hrd (o + r) (by omega)
      intro j2 o2 l2 hT2 hl2 he2
      have hne : j ≠ j2 := fun e => hnT (e ▸ hT2)
      have := hw.disj j j2 o l o2 l2 hne hjk.1 hl2 hje he2 (o + r)
      omega
  · have hsp' : isSpecial (f.dd s').tag = false := by simpa using hsp
    simp only [hsp', Bool.false_eq_true, if_false]
    cases he : (f.dd s').ext with
    | none => rfl
    | some e =>
      obtain ⟨o, l⟩ := e
      simp only [Option.map_some]
      congr 1
      apply bytesAt_congr
      intro i hi
      have hle := hw.ext_le s' o l hs' he
      apply hrd (o + i) (by omega)
      intro j2 o2 l2 hT2 hl2 he2
      have hne : s' ≠ j2 := fun e => hT (e ▸ hT2)
      have := hw.disj s' j2 o l o2 l2 hne hs' hl2 he he2 (o + i)
      omega

theorem WFL.frame {f f' : File} {li : LinkInfo} (h : WFL f li) (hw' : WFF f')
    (hk : ∀ j, f.blockSlotOf li j → f'.dd j = f.dd j)
    (hrd : ∀ t idx o l r, li.blockRef t idx ≠ 0 → f.blockExt (li.blockRef t idx) = some (o, l) → r < l →
      rd f'.disk (o + r) = rd f.disk (o + r)) : WFL f' li := by
  have hbe : ∀ t idx x, li.blockRef t idx ≠ 0 → f.blockExt (li.blockRef t idx) = some x → f'.blockExt (li.blockRef t idx) = some x := by
    intro t idx x h0 hx
    exact blockExt_keep2 hw' hx (fun j hj => hk j ⟨t, idx, h0, hj⟩)
  refine ⟨⟨h.blk_pos, h.nb_pos, h.tables_ne, h.table_len, ?_, h.inj⟩, h.covers, ?_⟩
  · intro t idx ht hidx h0
    obtain ⟨o, ho⟩ := h.block_ok t idx ht hidx h0
    exact ⟨o, hbe t idx _ h0 ho⟩
  · intro i hi
    rw [← h.zero_beyond i hi]
    exact lbyte_congr h.toWFLs rfl rfl rfl (fun _ _ => rfl) hbe hrd i

theorem keyOf_eq {f f' : File} {s : Nat} (h : f'.dd s = f.dd s) : f'.keyOf s = f.keyOf s := by
  unfold File.keyOf; rw [h]

theorem link_of_links {f f' : File} (h : f'.links = f.links) (k : Nat × Nat) : f'.link k = f.link k := by
  unfold File.link; rw [h]

theorem WFE.frame {f f' : File} (hw : WFE f) (hw' : WFF f') (hlinks : f'.links = f.links)
    (hold : ∀ s, f'.live s → isSpecial (f'.dd s).tag = true → f.live s ∧ f'.dd s = f.dd s)
    (hblk : ∀ li j, f.blockSlotOf li j → f'.dd j = f.dd j)
    (hrd : ∀ (li : LinkInfo) t idx o l r, li.blockRef t idx ≠ 0 → f.blockExt (li.blockRef t idx) = some (o, l) → r < l →
      rd f'.disk (o + r) = rd f.disk (o + r)) : WFE f' := by
  have hbs : ∀ li j, WFL f li → f'.blockSlotOf li j → f.blockSlotOf li j := fun li j hl ⟨t, idx, h0, hk⟩ =>
    ⟨t, idx, h0, blockSlot_back hw' (hl.toWFLs.ref_ext t idx h0) (fun j0 hj0 => hblk li j0 ⟨t, idx, h0, hj0⟩) hk⟩
  refine ⟨hw', ?_, ?_, ?_⟩
  · intro s hl hsp
    obtain ⟨hl0, hd⟩ := hold s hl hsp
    rw [hd] at hsp
    obtain ⟨li, ho, hlen, h1, h2, h3, h4⟩ := hw.linked_ok s hl0 hsp
    exact ⟨li, ho, hlen, by rw [keyOf_eq hd, link_of_links hlinks]; exact h1, h2.frame hw' (hblk li) (hrd li), by rw [hd]; exact h3, h4⟩
  · intro s hl hsp
    obtain ⟨hl0, hd⟩ := hold s hl hsp
    rw [hd] at hsp ⊢
    exact hw.hdr_tag s hl0 hsp
  · intro s1 s2 li1 li2 j hl1 hsp1 hl2 hsp2 hk1 hk2 hb1 hb2
    obtain ⟨hl1', hd1⟩ := hold s1 hl1 hsp1
    obtain ⟨hl2', hd2⟩ := hold s2 hl2 hsp2
    rw [hd1] at hsp1; rw [hd2] at hsp2
    rw [keyOf_eq hd1, link_of_links hlinks] at hk1
    rw [keyOf_eq hd2, link_of_links hlinks] at hk2
    obtain ⟨li1', _, _, h11, h12, _, _⟩ := hw.linked_ok s1 hl1' hsp1
    obtain ⟨li2', _, _, h21, h22, _, _⟩ := hw.linked_ok s2 hl2' hsp2
    rw [hk1] at h11; rw [hk2] at h21
    simp only [Option.some.injEq] at h11 h21
    subst h11 h21
    exact hw.own s1 s2 li1 li2 j hl1' hsp1 hl2' hsp2 hk1 hk2 (hbs li1 j h12 hb1) (hbs li2 j h22 hb2)

theorem WFE.plain_step {f f' : File} (hw : WFE f) (hw' : WFF f') (s : Nat)
    (hdd : ∀ j, f.live j → j ≠ s → f'.dd j = f.dd j)
    (hs' : isSpecial (f'.dd s).tag = false ∧ baseTag (f'.dd s).tag ≠ DFTAG_LINKED)
    (hs : f.live s → isSpecial (f.dd s).tag = false ∧ baseTag (f.dd s).tag ≠ DFTAG_LINKED)
    (hnew : ∀ j, f'.live j → ¬ f.live j → j = s)
    (hlinks : f'.links = f.links)
    (hrd : ∀ x, x < f.endOff → (∀ o l, f.live s → (f.dd s).ext = some (o, l) → ¬ (o ≤ x ∧ x < o + l)) →
      rd f'.disk x = rd f.disk x) :
    WFE f' ∧ ∀ s', f.live s' → s' ≠ s → f'.slotBytes s' = f.slotBytes s' := by
  have hblk_ne : ∀ li j, f.blockSlotOf li j → j ≠ s ∧ f.live j := by
    intro li j ⟨t, idx, _, hk⟩
    refine ⟨?_, hk.1⟩
    intro e
    subst e
    have := (hs hk.1).2
    rw [hk.2.1] at this
    exact this (by decide)
  have hblk_dd : ∀ li j, f.blockSlotOf li j → f'.dd j = f.dd j := fun li j h => hdd j (hblk_ne li j h).2 (hblk_ne li j h).1
  have hrd_blk : ∀ (li : LinkInfo) t idx o l r, li.blockRef t idx ≠ 0 → f.blockExt (li.blockRef t idx) = some (o, l) → r < l →
      rd f'.disk (o + r) = rd f.disk (o + r) := by
    intro li t idx o l r h0 hx hr
    obtain ⟨j, hjk, hje⟩ := blockExt_slot hx
    have hne := (hblk_ne li j ⟨t, idx, h0, hjk⟩).1
    have hle := hw.ext_le j o l hjk.1 hje
    apply hrd (o + r) (by omega)
    intro o2 l2 hl2 he2
    have := hw.disj j s o l o2 l2 hne hjk.1 hl2 hje he2 (o + r)
    omega
  have hold : ∀ j, f'.live j → isSpecial (f'.dd j).tag = true → f.live j ∧ f'.dd j = f.dd j := by
    intro j hj hsp
    have hne : j ≠ s := by
      rintro rfl
      rw [hs'.1] at hsp
      exact absurd hsp (by decide)
    have hl : f.live j := Classical.byContradiction fun hl => hne (hnew j hj hl)
    exact ⟨hl, hdd j hl hne⟩
  refine ⟨hw.frame hw' hlinks hold hblk_dd hrd_blk, ?_⟩
  · intro s1 hl1 hne1
    apply slotBytes_frame hw hw' s1 hl1 (T := fun j => j = s)
    · intro j hj e
      exact hdd j hj e
    · exact link_of_links hlinks _
    · intro x hx hn
      apply hrd x hx
      intro o l hl he
      exact hn s o l rfl hl he
    · exact hne1
    · intro _ li _ j hb e
      exact (hblk_ne li j hb).1 e

/-- what `HTPdelete` of the user DD in slot `i` leaves -/
structure Deleted (f : File) (i : Nat) (f' : File) : Prop where
  wfe : WFE f'
  live : ∀ j, f'.live j ↔ (f.live j ∧ j ≠ i)
  dd_keep : ∀ j, j ≠ i → f'.dd j = f.dd j
  bytes : ∀ s, f.live s → s ≠ i → f'.slotBytes s = f.slotBytes s
  present : f'.present = f.present

theorem delete_user {f f' : File} (hw : WFE f) (i : Nat) (hut : baseTag (f.dd i).tag ≠ DFTAG_LINKED)
    (hdd : ∀ j, f'.dd j = if j = i then { f.dd i with tag := DFTAG_NULL } else f.dd j)
    (hdisk : f'.disk = f.disk) (hend : f'.endOff = f.endOff) (hlinks : f'.links = f.links) (hndds : f'.ndds = f.ndds)
    (hpres : f'.present = f.present) : Deleted f i f' := by
  have hkeep : ∀ j, j ≠ i → f'.dd j = f.dd j := by intro j hj; rw [hdd]; simp [hj]
  have hlive : ∀ j, f'.live j ↔ (f.live j ∧ j ≠ i) := by
    intro j
    unfold File.live
    by_cases e : j = i
    · subst e; rw [hdd]; simp
    · rw [hkeep j e]; simp [e]
  have hw' : WFF f' := by
    refine ⟨by rw [hndds]; exact hw.ndds_pos, ?_, ?_, ?_, ?_⟩
    · intro j o l hj he
      obtain ⟨h1, h2⟩ := (hlive j).mp hj
      rw [hkeep j h2] at he; rw [hend]; exact hw.ext_le j o l h1 he
    · intro a b oa la ob lb hab ha hb hea heb
      obtain ⟨a1, a2⟩ := (hlive a).mp ha
      obtain ⟨b1, b2⟩ := (hlive b).mp hb
      rw [hkeep a a2] at hea; rw [hkeep b b2] at heb
      exact hw.disj a b oa la ob lb hab a1 b1 hea heb
    · intro k hk; rw [hdisk]; rw [hend] at hk; exact hw.tail0 k hk
    · intro a b ha hb ht hr
      obtain ⟨a1, a2⟩ := (hlive a).mp ha
      obtain ⟨b1, b2⟩ := (hlive b).mp hb
      rw [hkeep a a2, hkeep b b2] at ht hr
      exact hw.uniq a b a1 b1 ht hr
  have hblk_ne : ∀ li j, f.blockSlotOf li j → j ≠ i := by
    intro li j ⟨t, idx, _, hk⟩ e
    subst e
    exact hut (by rw [hk.2.1]; rfl)
  have hlink : ∀ k, f'.link k = f.link k := link_of_links hlinks
  have hfr : ∀ s, f.live s → s ≠ i → f'.slotBytes s = f.slotBytes s := by
    intro s hs hne
    apply slotBytes_frame hw hw' s hs (fun j => j = i)
    · intro j _ hj; exact hkeep j hj
    · exact hlink _
    · intro x _ _; rw [hdisk]
    · exact hne
    · intro _ li _ j hb; exact hblk_ne li j hb
  exact ⟨hw.frame hw' hlinks (fun s hs _ => ⟨((hlive s).mp hs).1, hkeep s ((hlive s).mp hs).2⟩)
    (fun li j hj => hkeep j (hblk_ne li j hj)) (fun _ _ _ _ _ _ _ _ _ => by rw [hdisk]), hlive, hkeep, hfr, hpres⟩

theorem ddDelete_spec (f : File) (hw : WFE f) (i : Nat) (hl : f.live i) (hut : baseTag (f.dd i).tag ≠ DFTAG_LINKED) :
    Deleted f i (f.ddDelete i) := by
  refine delete_user hw i hut (fun j => ddDelete_dd f i j (live_lt _ i hl)) (ddDelete_disk f i) ?_ (ddDelete_links f i)
    (ddDelete_ndds f i) (ddDelete_present f i)
  rw [ddDelete_endOff]
  cases hx : (f.dd i).ext with
  | none => rfl
  | some e => exact Nat.max_eq_left (hw.ext_le i e.1 e.2 hl hx)

theorem Deleted.fresh {f f' : File} {i : Nat} (D : Deleted f i f') (hw : WFF f) (hl : f.live i) {t r : Nat}
    (hk : f.hasKey i t r) : ∀ j, ¬ f'.hasKey j t r := by
  intro j hj
  obtain ⟨l1, l2⟩ := (D.live j).mp hj.1
  have : f.hasKey j t r := (hasKey_congr (by rw [D.dd_keep j l2]) (by rw [D.dd_keep j l2])).mp hj
  exact l2 (hw.uniq j i this.1 hl (by rw [this.2.1, hk.2.1]) (by rw [this.2.2, hk.2.2]))

theorem Deleted.elem_none {f f' : File} {i : Nat} (D : Deleted f i f') (hw : WFF f) {t r : Nat} (hk : f.hasKey i t r) :
    f'.elem t r = none := by
  unfold File.elem; rw [select_none_of _ _ _ (D.fresh hw hk.1 hk)]; rfl

theorem Deleted.elem_frame {f f' : File} {i : Nat} (D : Deleted f i f') {k' : Nat × Nat} (hu : UserKey k')
    (hne : k' ≠ f.keyOf i) : f'.elem k'.1 k'.2 = f.elem k'.1 k'.2 := by
  have hni : ∀ {x}, f.hasKey x k'.1 k'.2 → x ≠ i := fun hx e => hne (keyOf_of_hasKey hu (e ▸ hx)).symm
  apply H4.Elem.elem_frame D.wfe.toWFF
  · intro x
    by_cases ex : x = i
    · exact ⟨fun hx => absurd ((D.live x).mp hx.1).2 (fun c => c ex), fun hx => absurd ex (hni hx)⟩
    · exact hasKey_congr (by rw [D.dd_keep x ex]) (by rw [D.dd_keep x ex])
  · intro x hx; exact D.bytes x hx.1 (hni hx)

theorem WFE.of_same {f g : File} (hw : WFE f) (gdd : ∀ j, g.dd j = f.dd j) (grd : ∀ x, rd g.disk x = rd f.disk x)
    (glinks : g.links = f.links) (gndds : g.ndds = f.ndds)
    (gext : ∀ j o l, f.live j → (f.dd j).ext = some (o, l) → o + l ≤ g.endOff) (gtail : ∀ k, g.endOff ≤ k → rd g.disk k = 0) :
    WFE g ∧ ∀ t r, g.elem t r = f.elem t r := by
  have glive : ∀ j, g.live j ↔ f.live j := by intro j; unfold File.live; rw [gdd]
  have hw' : WFF g := by
    refine ⟨by rw [gndds]; exact hw.ndds_pos, ?_, ?_, gtail, ?_⟩
    · intro j o l hj he; rw [gdd] at he; exact gext j o l ((glive j).mp hj) he
    · intro a b oa la ob lb hab ha hb hea heb
      rw [gdd] at hea heb
      exact hw.disj a b oa la ob lb hab ((glive a).mp ha) ((glive b).mp hb) hea heb
    · intro a b ha hb ht hr
      rw [gdd, gdd] at ht hr
      exact hw.uniq a b ((glive a).mp ha) ((glive b).mp hb) ht hr
  have hframe : ∀ j, f.live j → g.slotBytes j = f.slotBytes j := by
    intro j hj
    apply slotBytes_frame hw hw' j hj (T := fun _ => False)
    · intro x _ _; exact gdd x
    · exact link_of_links glinks _
    · intro x _ _; exact grd x
    · exact fun h => h
    · intro _ _ _ _ _ h; exact h
  refine ⟨hw.frame hw' glinks (fun s hs _ => ⟨(glive s).mp hs, gdd s⟩) (fun _ j _ => gdd j) (fun _ _ _ o _ r _ _ _ => grd (o + r)), ?_⟩
  intro t r
  apply elem_frame hw'
  · intro j; exact hasKey_congr (by rw [gdd]) (by rw [gdd])
  · intro j hk; exact hframe j hk.1

theorem WFE.attach {f : File} (h : WFE f) (n : Nat) : WFE { f with attach := n } :=
  (h.of_same (g := { f with attach := n }) (fun _ => rfl) (fun _ => rfl) rfl rfl h.ext_le h.tail0).1

theorem attach_dd (f : File) (n j : Nat) : ({ f with attach := n } : File).dd j = f.dd j := rfl

theorem attach_elem (f : File) (n t r : Nat) : ({ f with attach := n } : File).elem t r = f.elem t r := rfl

theorem attach_keyOf (f : File) (n j : Nat) : ({ f with attach := n } : File).keyOf j = f.keyOf j := rfl

/-- element `k` is in slot `s'` of `f'` and holds `c` (`none`: it has no data yet); the DD in slot `drop` of `f` (if any: the element's old DD, when it was
    registered anew) is gone, every other DD keeps its shape and every other user element its bytes. `drop = none`: the
    element was changed in place. -/
structure ElemSet (f : File) (drop : Option Nat) (k : Nat × Nat) (c : Option Bytes) (f' : File) (s' : Nat) : Prop where
  wfe : WFE f'
  live' : f'.live s'
  key' : f'.keyOf s' = k
  bytes : f'.slotBytes s' = c
  shape : ∀ x, f.live x → drop ≠ some x → SameShape (f'.dd x) (f.dd x)
  others : ∀ x, f.live x → drop ≠ some x → x ≠ s' → baseTag (f.dd x).tag ≠ DFTAG_LINKED → f'.slotBytes x = f.slotBytes x
  new_slots : ∀ x, f'.live x → (f.live x ∧ drop ≠ some x) ∨ x = s' ∨ (f'.dd x).tag = DFTAG_LINKED
  present : f'.present = f.present

theorem ElemSet.setExt {f f' : File} {s : Nat} {e : Nat × Nat} {c : Option Bytes} (hE : WFE f') (hl : f.live s)
    (hds : f'.dd s = { f.dd s with ext := some e }) (hbytes : f'.slotBytes s = c)
    (hothers : ∀ x, f.live x → x ≠ s → f'.dd x = f.dd x ∧ f'.slotBytes x = f.slotBytes x)
    (hnew : ∀ x, f'.live x → f.live x) (hpres : f'.present = f.present) :
    ElemSet f none (f.keyOf s) c f' s := by
  refine ⟨hE, by unfold File.live; rw [hds]; exact hl, by unfold File.keyOf; rw [hds], hbytes, ?_,
    fun x hx _ hne _ => (hothers x hx hne).2, fun x hx => Or.inl ⟨hnew x hx, fun c => by cases c⟩, hpres⟩
  intro x hx _
  by_cases e : x = s
  · rw [e, hds]; exact SameShape.setExt _ _
  · exact SameShape.of_eq (hothers x hx e).1

theorem ElemSet.attach {f f' : File} {drop : Option Nat} {k : Nat × Nat} {c : Option Bytes} {s' : Nat} (R : ElemSet f drop k c f' s')
    (n : Nat) : ElemSet f drop k c { f' with attach := n } s' :=
  ⟨R.wfe.attach n, R.live', R.key', R.bytes, R.shape, R.others, R.new_slots, R.present⟩

end H4.Elem
