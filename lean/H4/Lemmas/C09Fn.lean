import H4.Gen.Fn.Mfgr
import H4.Lemmas.Interlace
import H4.Lemmas.C2L
import H4.Lemmas.C2LLoop
/-! Lemmas for `H4.Props.C09Fn`: `GRIil_convert` of `hdf/src/mfgr.c`, as translated from the C text (`H4.Gen.Fn.Mfgr`), computes the loop
    model `H4.Interlace.convert` on an image placed in one flat byte memory. `mkS` is the explicit form of the translated state, `ofSt`
    places a model state into it; every loop of the translation is run through known states (`IsLoop.run`; `IsLoop.count` for the two
    whose passes run inner loops and leave their counters behind). -/
namespace H4.Lemmas.C09Fn
open H4 H4.Interlace H4.Gen.Fn.Mfgr H4.C2L

/-- a C `uint8` memory as the translated functions see it -/
def bytes (l : List Byte) : List Int := l.map fun b => (b.toNat : Int)

@[simp] theorem bytes_length (l : List Byte) : (bytes l).length = l.length := by simp [bytes]
theorem bytes_take (l : List Byte) (n : Nat) : bytes (l.take n) = (bytes l).take n := by simp [bytes]
theorem bytes_drop (l : List Byte) (n : Nat) : bytes (l.drop n) = (bytes l).drop n := by simp [bytes]
theorem bytes_readAt (l : List Byte) (i n : Nat) : bytes (readAt l i n) = readAt (bytes l) i n := map_readAt _ l i n
theorem bytes_storeAt (l : List Byte) (i : Nat) (d : List Byte) : bytes (storeAt l i d) = storeAt (bytes l) i (bytes d) :=
  map_storeAt _ l i d

theorem bytes_inj {a b : List Byte} (h : bytes a = bytes b) : a = b :=
  (List.map_inj_right fun _ _ h => UInt8.toNat_inj.mp (Int.ofNat_inj.mp h)).mp h

/-- what never changes behind the initialisers of `GRIil_convert` (`pix`, `csz`: `pixel_size`, `comp_size` as they set them) -/
structure Fix where
  inbuf : Int
  inil : Int
  outbuf : Int
  outil : Int
  ncomp : Int
  nt : Int
  csznt : Int
  pix : Int
  csz : Int
  dims : List Int

/-- the state of the translated `GRIil_convert` in its `else` branch: the six malloc'ed blocks, the flat memory, the three counters;
    the block cursors are 0, `ret_value = 0`, no ub / oof / pending goto -/
def mkS (c : Fix) (icp ocp ipa opa ila ola mem : List Int) (i j k : Int) : GRIil_convert.St :=
  { inbuf := c.inbuf, inil := c.inil, outbuf := c.outbuf, outil := c.outil, ncomp := c.ncomp, nt := c.nt, comp_size_nt := c.csznt,
    pixel_size := c.pix, comp_size := c.csz, dims := c.dims, mem := mem, i := i, j := j, k := k,
    in_comp_ptr_blk := icp, out_comp_ptr_blk := ocp, in_pixel_add_blk := ipa, out_pixel_add_blk := opa,
    in_line_add_blk := ila, out_line_add_blk := ola }

theorem storeAt_range_set {α : Type} (f : Nat → α) {n : Nat} {l : List α} (h : n < l.length) :
    (storeAt l 0 ((List.range n).map f)).set n (f n) = storeAt l 0 ((List.range (n + 1)).map f) := by
  have := storeAt_snoc l 0 ((List.range n).map f) (f n) (by simpa using h)
  rwa [List.length_map, List.length_range, Nat.zero_add, ← List.map_singleton (f := f), ← List.map_append, ← List.range_succ] at this

abbrev M64 : Int := 18446744073709551616

/-- `inbuf + (size_t)i * comp_size` etc.: the start of component `n` in a buffer at address `p` with interlace code `il`, as the C computes it -/
def vBase (c : Fix) (p : Int) (il : Nat) (n : Nat) : Int :=
  match il with
  | 0 => p + ((((n : Int) % M64) * c.csz)) % M64
  | 1 => p + ((((((n : Int) % M64) * ((c.dims.getD 0 0) % M64))) % M64) * c.csz) % M64
  | _ => p + (((((((((n : Int) % M64) * ((c.dims.getD 1 0) % M64))) % M64) * ((c.dims.getD 0 0) % M64))) % M64) * c.csz) % M64

def vPix (c : Fix) (il : Nat) : Int := if il = 0 then c.pix else c.csz

def vLine (c : Fix) (il : Nat) : Int :=
  if il = 1 then (((((((c.ncomp - 1)) % M64) * ((c.dims.getD 0 0) % M64))) % M64) * c.csz) % M64 else 0

/-- The six set-up loops at once: `for (i = 0; i < ncomp; i++) { P[i] = fP i; A[i] = fA i; L[i] = fL i; }`.  The loops differ in WHICH
    three of the six blocks they write, so the state comes as a function `mk P A L i` of those three and of the counter. -/
theorem setup_run (mk : List Int → List Int → List Int → Int → GRIil_convert.St) (N : Nat) (hi : ∀ a b d n, (mk a b d n).i = n)
    (hnc : ∀ a b d n, (mk a b d n).ncomp = N) (hg : ∀ a b d n, (mk a b d n).gto = false)
    {loop body : Nat → GRIil_convert.St → GRIil_convert.St}
    (hL : IsLoop loop (fun s => (s.i < s.ncomp) ∧ ¬(s.gto)) body (fun s => s))
    (fP fA fL : Nat → Int)
    (hb : ∀ f a b d (n : Nat), n < a.length → n < b.length → n < d.length →
      body f (mk a b d n) = mk (a.set n (fP n)) (b.set n (fA n)) (d.set n (fL n)) (n + 1 : Nat))
    (fuel : Nat) (hf : N ≤ fuel) (a b d : List Int) (la : a.length = N) (lb : b.length = N) (ld : d.length = N) :
    loop fuel (mk a b d 0) = mk ((List.range N).map fP) ((List.range N).map fA) ((List.range N).map fL) N := by
  have hl : ∀ (g : Nat → Int) {l : List Int} {n : Nat}, l.length = N → n < N → n < (storeAt l 0 ((List.range n).map g)).length := fun g l n h hn => by
    rw [length_storeAt _ _ _ (by simp; omega)]; omega
  have h := hL.run N (fun n => mk (storeAt a 0 ((List.range n).map fP)) (storeAt b 0 ((List.range n).map fA)) (storeAt d 0 ((List.range n).map fL)) n)
    (fun n hn => by show (_ < _) ∧ ¬ _; rw [hi, hnc, hg]; exact ⟨by omega, Bool.false_ne_true⟩)
    (by show ¬ ((_ < _) ∧ ¬ _); rw [hi, hnc]; omega)
    (fun n f hn _ => by
      rw [hb _ _ _ _ _ (hl fP la hn) (hl fA lb hn) (hl fL ld hn),
        storeAt_range_set _ (by omega), storeAt_range_set _ (by omega), storeAt_range_set _ (by omega)]) hf
  have hall : ∀ (g : Nat → Int) {l : List Int}, l.length = N → storeAt l 0 ((List.range N).map g) = (List.range N).map g := fun g l h => by
    rw [storeAt_zero, List.drop_of_length_le (by simp [h]), List.append_nil]
  simpa only [List.range_zero, List.map_nil, storeAt_nil, hall _ la, hall _ lb, hall _ ld, Int.natCast_zero] using h

theorem loop0_run (c : Fix) (N : Nat) (hN : c.ncomp = N) (fuel : Nat) (hf : N ≤ fuel)
    (icp ocp ipa opa ila ola mem : List Int) (j k : Int) (l1 : icp.length = N) (l2 : ipa.length = N) (l3 : ila.length = N) :
    GRIil_convert.loop0 fuel (mkS c icp ocp ipa opa ila ola mem 0 j k) =
      mkS c ((List.range N).map (vBase c c.inbuf 0)) ocp ((List.range N).map fun _ => vPix c 0) opa
        ((List.range N).map fun _ => vLine c 0) ola mem N j k :=
  setup_run (fun a b d n => mkS c a ocp b opa d ola mem n j k) N (fun _ _ _ _ => rfl) (fun _ _ _ _ => hN) (fun _ _ _ _ => rfl)
    (loop := GRIil_convert.loop0) (.of_eqs (fun _ => rfl) (fun _ _ => rfl)) _ _ _
    (fun f a b d n h1 h2 h3 => by simp [GRIil_convert.loop0.body, GRIil_convert.chk, mkS, vBase, vPix, vLine, h1, h2, h3])
    fuel hf icp ipa ila l1 l2 l3

theorem loop1_run (c : Fix) (N : Nat) (hN : c.ncomp = N) (hd : c.dims.length = 2) (fuel : Nat) (hf : N ≤ fuel)
    (icp ocp ipa opa ila ola mem : List Int) (j k : Int) (l1 : icp.length = N) (l2 : ipa.length = N) (l3 : ila.length = N) :
    GRIil_convert.loop1 fuel (mkS c icp ocp ipa opa ila ola mem 0 j k) =
      mkS c ((List.range N).map (vBase c c.inbuf 1)) ocp ((List.range N).map fun _ => vPix c 1) opa
        ((List.range N).map fun _ => vLine c 1) ola mem N j k :=
  setup_run (fun a b d n => mkS c a ocp b opa d ola mem n j k) N (fun _ _ _ _ => rfl) (fun _ _ _ _ => hN) (fun _ _ _ _ => rfl)
    (loop := GRIil_convert.loop1) (.of_eqs (fun _ => rfl) (fun _ _ => rfl)) _ _ _
    (fun f a b d n h1 h2 h3 => by simp [GRIil_convert.loop1.body, GRIil_convert.chk, mkS, vBase, vPix, vLine, h1, h2, h3, hd])
    fuel hf icp ipa ila l1 l2 l3

theorem loop2_run (c : Fix) (N : Nat) (hN : c.ncomp = N) (hd : c.dims.length = 2) (fuel : Nat) (hf : N ≤ fuel)
    (icp ocp ipa opa ila ola mem : List Int) (j k : Int) (l1 : icp.length = N) (l2 : ipa.length = N) (l3 : ila.length = N) :
    GRIil_convert.loop2 fuel (mkS c icp ocp ipa opa ila ola mem 0 j k) =
      mkS c ((List.range N).map (vBase c c.inbuf 2)) ocp ((List.range N).map fun _ => vPix c 2) opa
        ((List.range N).map fun _ => vLine c 2) ola mem N j k :=
  setup_run (fun a b d n => mkS c a ocp b opa d ola mem n j k) N (fun _ _ _ _ => rfl) (fun _ _ _ _ => hN) (fun _ _ _ _ => rfl)
    (loop := GRIil_convert.loop2) (.of_eqs (fun _ => rfl) (fun _ _ => rfl)) _ _ _
    (fun f a b d n h1 h2 h3 => by simp [GRIil_convert.loop2.body, GRIil_convert.chk, mkS, vBase, vPix, vLine, h1, h2, h3, hd])
    fuel hf icp ipa ila l1 l2 l3

theorem loop3_run (c : Fix) (N : Nat) (hN : c.ncomp = N) (fuel : Nat) (hf : N ≤ fuel)
    (icp ocp ipa opa ila ola mem : List Int) (j k : Int) (l1 : ocp.length = N) (l2 : opa.length = N) (l3 : ola.length = N) :
    GRIil_convert.loop3 fuel (mkS c icp ocp ipa opa ila ola mem 0 j k) =
      mkS c icp ((List.range N).map (vBase c c.outbuf 0)) ipa ((List.range N).map fun _ => vPix c 0)
        ila ((List.range N).map fun _ => vLine c 0) mem N j k :=
  setup_run (fun a b d n => mkS c icp a ipa b ila d mem n j k) N (fun _ _ _ _ => rfl) (fun _ _ _ _ => hN) (fun _ _ _ _ => rfl)
    (loop := GRIil_convert.loop3) (.of_eqs (fun _ => rfl) (fun _ _ => rfl)) _ _ _
    (fun f a b d n h1 h2 h3 => by simp [GRIil_convert.loop3.body, GRIil_convert.chk, mkS, vBase, vPix, vLine, h1, h2, h3])
    fuel hf ocp opa ola l1 l2 l3

theorem loop4_run (c : Fix) (N : Nat) (hN : c.ncomp = N) (hd : c.dims.length = 2) (fuel : Nat) (hf : N ≤ fuel)
    (icp ocp ipa opa ila ola mem : List Int) (j k : Int) (l1 : ocp.length = N) (l2 : opa.length = N) (l3 : ola.length = N) :
    GRIil_convert.loop4 fuel (mkS c icp ocp ipa opa ila ola mem 0 j k) =
      mkS c icp ((List.range N).map (vBase c c.outbuf 1)) ipa ((List.range N).map fun _ => vPix c 1)
        ila ((List.range N).map fun _ => vLine c 1) mem N j k :=
  setup_run (fun a b d n => mkS c icp a ipa b ila d mem n j k) N (fun _ _ _ _ => rfl) (fun _ _ _ _ => hN) (fun _ _ _ _ => rfl)
    (loop := GRIil_convert.loop4) (.of_eqs (fun _ => rfl) (fun _ _ => rfl)) _ _ _
    (fun f a b d n h1 h2 h3 => by simp [GRIil_convert.loop4.body, GRIil_convert.chk, mkS, vBase, vPix, vLine, h1, h2, h3, hd])
    fuel hf ocp opa ola l1 l2 l3

theorem loop5_run (c : Fix) (N : Nat) (hN : c.ncomp = N) (hd : c.dims.length = 2) (fuel : Nat) (hf : N ≤ fuel)
    (icp ocp ipa opa ila ola mem : List Int) (j k : Int) (l1 : ocp.length = N) (l2 : opa.length = N) (l3 : ola.length = N) :
    GRIil_convert.loop5 fuel (mkS c icp ocp ipa opa ila ola mem 0 j k) =
      mkS c icp ((List.range N).map (vBase c c.outbuf 2)) ipa ((List.range N).map fun _ => vPix c 2)
        ila ((List.range N).map fun _ => vLine c 2) mem N j k :=
  setup_run (fun a b d n => mkS c icp a ipa b ila d mem n j k) N (fun _ _ _ _ => rfl) (fun _ _ _ _ => hN) (fun _ _ _ _ => rfl)
    (loop := GRIil_convert.loop5) (.of_eqs (fun _ => rfl) (fun _ _ => rfl)) _ _ _
    (fun f a b d n h1 h2 h3 => by simp [GRIil_convert.loop5.body, GRIil_convert.chk, mkS, vBase, vPix, vLine, h1, h2, h3, hd])
    fuel hf ocp opa ola l1 l2 l3

/-- one `memcpy(out_comp_ptr[k], in_comp_ptr[k], comp_size)` + the two pointer increments, on the flat memory -/
theorem loop8_body (c : Fix) (icp ocp ipa opa ila ola mem : List Int) (i j : Int) (k : Nat) (fuel : Nat) (ip op csz pa qa : Nat)
    (h1 : k < icp.length) (h2 : k < ocp.length) (h3 : k < ipa.length) (h4 : k < opa.length) (hc : c.csz = csz)
    (hip : icp.getD k 0 = (ip : Int)) (hop : ocp.getD k 0 = (op : Int)) (hpa : ipa.getD k 0 = pa) (hqa : opa.getD k 0 = qa)
    (hbi : ip + csz ≤ mem.length) (hbo : op + csz ≤ mem.length) (hd : op + csz ≤ ip ∨ ip + csz ≤ op) :
    GRIil_convert.loop8.body fuel (mkS c icp ocp ipa opa ila ola mem i j k) =
      mkS c (icp.set k ((ip + pa : Nat) : Int)) (ocp.set k ((op + qa : Nat) : Int)) ipa opa ila ola
        (storeAt mem op (readAt mem ip csz)) i j (k + 1 : Nat) := by
  rw [show storeAt mem op (readAt mem ip csz) = mem.take op ++ (mem.drop ip).take csz ++ mem.drop (op + csz) by
    rw [storeAt, length_readAt mem ip csz hbi]; rfl]
  have e1 : (op : Int) + csz ≤ (mem.length : Int) := by omega
  have e2 : (ip : Int) + csz ≤ (mem.length : Int) := by omega
  have e4 : ((op : Int) + (csz : Int)).toNat = op + csz := by omega
  simp [-List.getD_eq_getElem?_getD, GRIil_convert.loop8.body, GRIil_convert.chk, mkS, h1, h2, h3, h4, hc, hip, hop, hpa, hqa, e1, e2, e4]
  omega

/-- `out_comp_ptr[k] += out_line_add[k]; in_comp_ptr[k] += in_line_add[k]` -/
theorem loop9_body (c : Fix) (icp ocp ipa opa ila ola mem : List Int) (i j : Int) (k : Nat) (fuel : Nat) (ip op la lb : Nat)
    (h1 : k < icp.length) (h2 : k < ocp.length) (h3 : k < ila.length) (h4 : k < ola.length)
    (hip : icp.getD k 0 = (ip : Int)) (hop : ocp.getD k 0 = (op : Int)) (hla : ila.getD k 0 = la) (hlb : ola.getD k 0 = lb) :
    GRIil_convert.loop9.body fuel (mkS c icp ocp ipa opa ila ola mem i j k) =
      mkS c (icp.set k ((ip + la : Nat) : Int)) (ocp.set k ((op + lb : Nat) : Int)) ipa opa ila ola mem i j (k + 1 : Nat) := by
  simp [-List.getD_eq_getElem?_getD, GRIil_convert.loop9.body, GRIil_convert.chk, mkS, h1, h2, h3, h4, hip, hop, hla, hlb]

def splice (m : List Byte) (off n : Nat) (o : List Byte) : List Byte := m.take off ++ o ++ m.drop (off + n)

theorem splice_eq {m : List Byte} {off n : Nat} {o : List Byte} (ho : o.length = n) : splice m off n o = storeAt m off o := by
  subst ho; rfl

theorem length_splice {m : List Byte} {off n : Nat} {o : List Byte} (ho : o.length = n) (hm : off + n ≤ m.length) :
    (splice m off n o).length = m.length := by
  rw [splice_eq ho, length_storeAt _ _ _ (by omega)]

theorem getElem?_splice {m : List Byte} {off n : Nat} {o : List Byte} (ho : o.length = n) (hm : off + n ≤ m.length) (q : Nat) :
    (splice m off n o)[q]? = if off ≤ q ∧ q < off + n then o[q - off]? else m[q]? := by
  rw [splice_eq ho, getElem?_storeAt _ _ _ (by omega), ho]
  by_cases c1 : q < off
  · rw [if_pos c1, if_neg (by omega)]
  · rw [if_neg c1]
    by_cases c2 : q < off + n
    · rw [if_pos c2, if_pos (by omega)]
    · rw [if_neg c2, if_neg (by omega)]

theorem slice_splice_same {m : List Byte} {off n : Nat} {o : List Byte} (ho : o.length = n) (hm : off + n ≤ m.length) :
    slice (splice m off n o) off n = o := by
  rw [splice_eq ho]
  exact ho ▸ readAt_storeAt_same m off o (by omega)

theorem slice_splice_disj {m : List Byte} {off n : Nat} {o : List Byte} (ho : o.length = n) (hm : off + n ≤ m.length)
    {q len : Nat} (hd : q + len ≤ off ∨ off + n ≤ q) : slice (splice m off n o) q len = slice m q len := by
  rw [splice_eq ho]
  exact readAt_storeAt_disj m off o (by omega) (by omega)

theorem splice_blit {m : List Byte} {off n : Nat} {o s : List Byte} (ho : o.length = n) (hm : off + n ≤ m.length)
    {p : Nat} (hp : p + s.length ≤ n) : storeAt (splice m off n o) (off + p) s = splice m off n (blit o p s) := by
  rw [splice_eq ho, splice_eq (by rw [length_blit, ho]), blit_eq (by omega), storeAt_storeAt_in _ _ _ _ _ (by omega) (by omega)]

/-- an array of pointers into the buffer at address `off`, given by their offsets -/
def ptrs (off : Nat) (l : List Nat) : List Int := l.map fun x => ((off + x : Nat) : Int)

@[simp] theorem ptrs_length (off : Nat) (l : List Nat) : (ptrs off l).length = l.length := by simp [ptrs]

theorem ptrs_getD (off : Nat) (l : List Nat) (k : Nat) (h : k < l.length) : (ptrs off l).getD k 0 = ((off + l.getD k 0 : Nat) : Int) := by
  simp [ptrs, h]

theorem ptrs_set (off : Nat) (l : List Nat) (k v : Nat) : (ptrs off l).set k ((off + v : Nat) : Int) = ptrs off (l.set k v) := by
  simp [ptrs, List.map_set]

section
variable (c : Fix) (m : List Byte) (inOff outOff N : Nat) (ipa opa ila ola : List Nat)

/-- the translated state that holds the model state `t`: the pointer arrays are the addresses `inOff + t.inp[k]`, `outOff + t.outp[k]`,
    the memory is `m` with the output placement replaced by `t.out` -/
def ofSt (t : St) (i j k : Int) : GRIil_convert.St :=
  mkS c (ptrs inOff t.inp) (ptrs outOff t.outp) (ints ipa) (ints opa) (ints ila) (ints ola) (bytes (splice m outOff N t.out)) i j k

structure Placed : Prop where
  hin : inOff + N ≤ m.length
  hout : outOff + N ≤ m.length
  hdisj : inOff + N ≤ outOff ∨ outOff + N ≤ inOff

variable {c m inOff outOff N ipa opa ila ola}

theorem loop8_step (hp : Placed m inOff outOff N) (csz : Nat) (hc : c.csz = csz) (t : St) (i j : Int) (k fuel : Nat)
    (h1 : k < t.inp.length) (h2 : k < t.outp.length) (h3 : k < ipa.length) (h4 : k < opa.length) (ho : t.out.length = N)
    (hbi : t.inp.getD k 0 + csz ≤ N) (hbo : t.outp.getD k 0 + csz ≤ N) :
    GRIil_convert.loop8.body fuel (ofSt c m inOff outOff N ipa opa ila ola t i j k) =
      ofSt c m inOff outOff N ipa opa ila ola (kBody (slice m inOff N) csz ipa opa t k) i j (k + 1 : Nat) := by
  obtain ⟨hin, hout, hdisj⟩ := hp
  have hl := length_splice ho hout
  unfold ofSt
  rw [loop8_body c _ _ _ _ _ _ _ i j k fuel (inOff + t.inp.getD k 0) (outOff + t.outp.getD k 0) csz (ipa.getD k 0) (opa.getD k 0)
    (by simpa using h1) (by simpa using h2) (by simpa using h3) (by simpa using h4) hc (ptrs_getD _ _ _ h1) (ptrs_getD _ _ _ h2)
    (ints_getD_nat _ _) (ints_getD_nat _ _) (by rw [bytes_length, hl]; omega) (by rw [bytes_length, hl]; omega) (by omega)]
  have es : readAt (splice m outOff N t.out) (inOff + t.inp.getD k 0) csz = slice (slice m inOff N) (t.inp.getD k 0) csz := by
    rw [splice_eq ho, readAt_storeAt_disj _ _ _ (by omega) (by omega)]
    exact (readAt_readAt m hbi).symm
  have esl : (slice (slice m inOff N) (t.inp.getD k 0) csz).length = csz :=
    length_slice (by rw [length_slice (by omega)]; exact hbi)
  rw [← bytes_readAt, ← bytes_storeAt, es, splice_blit ho hout (by rw [esl]; exact hbo), Nat.add_assoc, Nat.add_assoc, ptrs_set, ptrs_set]
  rfl

theorem loop9_step (t : St) (i j : Int) (k fuel : Nat)
    (h1 : k < t.inp.length) (h2 : k < t.outp.length) (h3 : k < ila.length) (h4 : k < ola.length) :
    GRIil_convert.loop9.body fuel (ofSt c m inOff outOff N ipa opa ila ola t i j k) =
      ofSt c m inOff outOff N ipa opa ila ola (wrapBody ila ola t k) i j (k + 1 : Nat) := by
  unfold ofSt
  rw [loop9_body c _ _ _ _ _ _ _ i j k fuel (inOff + t.inp.getD k 0) (outOff + t.outp.getD k 0) (ila.getD k 0) (ola.getD k 0)
    (by simpa using h1) (by simpa using h2) (by simpa using h3) (by simpa using h4) (ptrs_getD _ _ _ h1) (ptrs_getD _ _ _ h2)
    (ints_getD_nat _ _) (ints_getD_nat _ _)]
  rw [Nat.add_assoc, Nat.add_assoc, ptrs_set, ptrs_set]
  rfl

theorem chk_true (s : GRIil_convert.St) (p : Prop) [Decidable p] (h : p) : GRIil_convert.chk s p = s := by
  simp [GRIil_convert.chk, h]

/-- a per-component array whose cells all hold `v` (the increment arrays) -/
abbrev cst (n v : Nat) : List Nat := (List.range n).map fun _ => v

theorem ofSt_inil (t : St) (i j k : Int) : (ofSt c m inOff outOff N ipa opa ila ola t i j k).inil = c.inil := rfl
theorem ofSt_outil (t : St) (i j k : Int) : (ofSt c m inOff outOff N ipa opa ila ola t i j k).outil = c.outil := rfl
theorem ofSt_i (t : St) (i j k : Int) : (ofSt c m inOff outOff N ipa opa ila ola t i j k).i = i := rfl
theorem ofSt_set_k (t : St) (i j k v : Int) :
    (ofSt c m inOff outOff N ipa opa ila ola t i j k).set_k v = ofSt c m inOff outOff N ipa opa ila ola t i j v := rfl
theorem ofSt_set_j (t : St) (i j k v : Int) :
    (ofSt c m inOff outOff N ipa opa ila ola t i j k).set_j v = ofSt c m inOff outOff N ipa opa ila ola t i v k := rfl
theorem ofSt_set_i (t : St) (i j k v : Int) :
    (ofSt c m inOff outOff N ipa opa ila ola t i j k).set_i v = ofSt c m inOff outOff N ipa opa ila ola t v j k := rfl

theorem loop8_run (hp : Placed m inOff outOff N) (csz ncomp ia oa : Nat) (hc : c.csz = csz) (hn : c.ncomp = ncomp) (i j : Int)
    (fin fout : Nat → Nat) (o : List Byte) (lo : o.length = N) (hb : ∀ k, k < ncomp → fin k + csz ≤ N ∧ fout k + csz ≤ N)
    (fuel : Nat) (hf : ncomp ≤ fuel) :
    GRIil_convert.loop8 fuel (ofSt c m inOff outOff N (cst ncomp ia) (cst ncomp oa) ila ola (mkSt ncomp fin fout o) i j 0) =
      ofSt c m inOff outOff N (cst ncomp ia) (cst ncomp oa) ila ola
        ((List.range ncomp).foldl (kBody (slice m inOff N) csz (cst ncomp ia) (cst ncomp oa)) (mkSt ncomp fin fout o)) i j ncomp :=
  IsLoop.run (L := GRIil_convert.loop8) (.of_eqs (fun _ => rfl) (fun _ _ => rfl)) ncomp
    (fun k => ofSt c m inOff outOff N (cst ncomp ia) (cst ncomp oa) ila ola
      ((List.range k).foldl (kBody (slice m inOff N) csz (cst ncomp ia) (cst ncomp oa)) (mkSt ncomp fin fout o)) i j k)
    (fun k hk => ⟨show (k : Int) < c.ncomp by omega, Bool.false_ne_true⟩) (fun h => by have : (ncomp : Int) < c.ncomp := h.1; omega)
    (fun k f hk _ => by
      have e := gLoop_aux (fun o i p => blit o p (slice (slice m inOff N) i csz)) ncomp ia oa fin fout o k (by omega)
      have e' : (List.range k).foldl (kBody (slice m inOff N) csz (cst ncomp ia) (cst ncomp oa)) (mkSt ncomp fin fout o) = _ := e
      rw [List.range_succ, List.foldl_append]
      exact loop8_step hp csz hc _ i j k _ (by rw [e']; simp [mkSt]; omega) (by rw [e']; simp [mkSt]; omega) (by simp; omega) (by simp; omega)
        ((foldl_out_length (fun _ _ => length_blit ..) _ _).trans lo)
        (by rw [e']; simp only [mkSt]; rw [getD_map_range hk, if_neg (Nat.lt_irrefl k)]; exact (hb k hk).1)
        (by rw [e']; simp only [mkSt]; rw [getD_map_range hk, if_neg (Nat.lt_irrefl k)]; exact (hb k hk).2))
    hf

theorem loop9_run (ncomp la lb : Nat) (hn : c.ncomp = ncomp) (i j : Int) (fin fout : Nat → Nat) (o : List Byte)
    (fuel : Nat) (hf : ncomp ≤ fuel) :
    GRIil_convert.loop9 fuel (ofSt c m inOff outOff N ipa opa (cst ncomp la) (cst ncomp lb) (mkSt ncomp fin fout o) i j 0) =
      ofSt c m inOff outOff N ipa opa (cst ncomp la) (cst ncomp lb)
        ((List.range ncomp).foldl (wrapBody (cst ncomp la) (cst ncomp lb)) (mkSt ncomp fin fout o)) i j ncomp :=
  IsLoop.run (L := GRIil_convert.loop9) (.of_eqs (fun _ => rfl) (fun _ _ => rfl)) ncomp
    (fun k => ofSt c m inOff outOff N ipa opa (cst ncomp la) (cst ncomp lb)
      ((List.range k).foldl (wrapBody (cst ncomp la) (cst ncomp lb)) (mkSt ncomp fin fout o)) i j k)
    (fun k hk => ⟨show (k : Int) < c.ncomp by omega, Bool.false_ne_true⟩) (fun h => by have : (ncomp : Int) < c.ncomp := h.1; omega)
    (fun k f hk _ => by
      have e : (List.range k).foldl (wrapBody (cst ncomp la) (cst ncomp lb)) (mkSt ncomp fin fout o) = _ :=
        gLoop_aux (fun o _ _ => o) ncomp la lb fin fout o k (by omega)
      rw [List.range_succ, List.foldl_append]
      exact loop9_step _ i j k _ (by rw [e]; simp [mkSt]; omega) (by rw [e]; simp [mkSt]; omega) (by simp; omega) (by simp; omega))
    hf

theorem loop7_body_eq (f : Nat) (s : GRIil_convert.St) :
    GRIil_convert.loop7.body f s = (GRIil_convert.loop8 f (s.set_k 0)).set_j ((GRIil_convert.loop8 f (s.set_k 0)).j + 1) := rfl

theorem loop6_body_eq (f : Nat) (s : GRIil_convert.St) :
    GRIil_convert.loop6.body f s =
      (fun s1 : GRIil_convert.St => (fun s2 : GRIil_convert.St => s2.set_i (s2.i + 1))
        (if (s1.inil = 1) ∨ (s1.outil = 1) then GRIil_convert.loop9 f (s1.set_k 0) else s1)) (GRIil_convert.loop7 f (s.set_j 0)) := rfl

/-- loops 6 and 7 check the operand `dims[]` of their test on every pass and on the way out -/
theorem loop7_isLoop : IsLoop GRIil_convert.loop7
    (fun s => let t := GRIil_convert.chk s (0 < s.dims.length); t.j < t.dims.getD (Int.toNat 0) 0 ∧ ¬ t.gto)
    (fun f s => GRIil_convert.loop7.body f (GRIil_convert.chk s (0 < s.dims.length)))
    (fun s => GRIil_convert.chk s (0 < s.dims.length)) :=
  .of_eqs (stuck := fun s => { GRIil_convert.chk s (0 < s.dims.length) with oof := true }) (fun _ => rfl) (fun _ _ => rfl)

theorem loop6_isLoop : IsLoop GRIil_convert.loop6
    (fun s => let t := GRIil_convert.chk s (0 ≤ 1 ∧ 1 < s.dims.length); t.i < t.dims.getD (Int.toNat 1) 0 ∧ ¬ t.gto)
    (fun f s => GRIil_convert.loop6.body f (GRIil_convert.chk s (0 ≤ 1 ∧ 1 < s.dims.length)))
    (fun s => GRIil_convert.chk s (0 ≤ 1 ∧ 1 < s.dims.length)) :=
  .of_eqs (stuck := fun s => { GRIil_convert.chk s (0 ≤ 1 ∧ 1 < s.dims.length) with oof := true }) (fun _ => rfl) (fun _ _ => rfl)

/-- `for (j = 0; j < W; j++) for (k…)`: the model's fold of `jBody` over the pixels of a line; the bounds say that every pixel of the
    line lies inside the image -/
theorem loop7_run (hp : Placed m inOff outOff N) (W H ncomp csz ia oa : Nat) (hc : c.csz = csz) (hn : c.ncomp = ncomp)
    (hd : c.dims = ints [W, H]) (i : Int) (fin fout : Nat → Nat) (o : List Byte) (k : Int) (lo : o.length = N)
    (hb : ∀ j', j' < W → ∀ k', k' < ncomp → fin k' + j' * ia + csz ≤ N ∧ fout k' + j' * oa + csz ≤ N) (fuel : Nat) (hf : W + ncomp ≤ fuel) :
    ∃ k' : Int, GRIil_convert.loop7 fuel (ofSt c m inOff outOff N (cst ncomp ia) (cst ncomp oa) ila ola (mkSt ncomp fin fout o) i 0 k) =
      ofSt c m inOff outOff N (cst ncomp ia) (cst ncomp oa) ila ola
        ((List.range W).foldl (jBody (slice m inOff N) ncomp csz (cst ncomp ia) (cst ncomp oa)) (mkSt ncomp fin fout o)) i W k' := by
  have hd0 : ∀ t i j k, 0 < (ofSt c m inOff outOff N (cst ncomp ia) (cst ncomp oa) ila ola t i j k).dims.length := by
    intro t i j k; show 0 < c.dims.length; rw [hd]; simp
  have hW : c.dims.getD (Int.toNat 0) 0 = (W : Int) := by rw [hd]; rfl
  obtain ⟨_, ⟨k', rfl⟩, e⟩ := loop7_isLoop.count (fun j s => ∃ u, s = ofSt c m inOff outOff N (cst ncomp ia) (cst ncomp oa) ila ola
      ((List.range j).foldl (jBody (slice m inOff N) ncomp csz (cst ncomp ia) (cst ncomp oa)) (mkSt ncomp fin fout o)) i j u) W ncomp
    (fun j s _ ⟨u, e⟩ => by subst e; show ((j : Int) < c.dims.getD (Int.toNat 0) 0 ∧ ¬ false = true) ↔ _; rw [hW]; simp)
    (fun j s f hj hF ⟨u, e⟩ => ⟨ncomp, by
      subst e
      have e := jLoop_spec (slice m inOff N) ncomp csz ia oa fin fout o j
      have lo' : List.length (List.foldl _ o (List.range j)) = N :=
        (congrArg (·.out.length) e).symm.trans ((foldl_out_length jBody_out_length _ _).trans lo)
      show GRIil_convert.loop7.body f (GRIil_convert.chk _ _) = _
      rw [chk_true _ _ (hd0 ..), loop7_body_eq, ofSt_set_k, List.range_succ, List.foldl_append, e,
        loop8_run hp csz ncomp ia oa hc hn i j _ _ _ lo' (fun k' hk' => by have := hb j hj k' hk'; omega) f (by omega)]
      rfl⟩)
    (k := 0) (fuel := fuel) (Nat.zero_le _) (by omega) ⟨k, rfl⟩
  exact ⟨k', e.trans (chk_true _ _ (hd0 ..))⟩


/-- `for (i = 0; i < H; i++) { pixel loops; wrap loop }`: the model's fold of `iBody` over the lines -/
theorem loop6_run (hp : Placed m inOff outOff N) (W H ncomp csz ia oa la lb : Nat) (wrap : Bool) (hc : c.csz = csz) (hn : c.ncomp = ncomp)
    (hd : c.dims = ints [W, H]) (hw : (c.inil = 1 ∨ c.outil = 1) ↔ wrap = true) (fin fout : Nat → Nat) (o : List Byte) (j k : Int)
    (lo : o.length = N)
    (hb : ∀ i', i' < H → ∀ j', j' < W → ∀ k', k' < ncomp →
      fin k' + i' * (W * ia + if wrap then la else 0) + j' * ia + csz ≤ N ∧ fout k' + i' * (W * oa + if wrap then lb else 0) + j' * oa + csz ≤ N)
    (fuel : Nat) (hf : H + (W + ncomp) ≤ fuel) :
    ∃ u : Int × Int, GRIil_convert.loop6 fuel (ofSt c m inOff outOff N (cst ncomp ia) (cst ncomp oa) (cst ncomp la) (cst ncomp lb)
        (mkSt ncomp fin fout o) (0 : Nat) j k) =
      ofSt c m inOff outOff N (cst ncomp ia) (cst ncomp oa) (cst ncomp la) (cst ncomp lb)
        ((List.range H).foldl (iBody (slice m inOff N) W ncomp csz ⟨(List.range ncomp).map fin, cst ncomp ia, cst ncomp la⟩
          ⟨(List.range ncomp).map fout, cst ncomp oa, cst ncomp lb⟩ wrap) (mkSt ncomp fin fout o)) H u.1 u.2 := by
  have hd1 : ∀ t i j k, 0 ≤ 1 ∧ 1 < (ofSt c m inOff outOff N (cst ncomp ia) (cst ncomp oa) (cst ncomp la) (cst ncomp lb) t i j k).dims.length := by
    intro t i j k; show 0 ≤ 1 ∧ 1 < c.dims.length; rw [hd]; simp
  have hH : c.dims.getD (Int.toNat 1) 0 = (H : Int) := by rw [hd]; rfl
  obtain ⟨_, ⟨u', rfl⟩, e⟩ := loop6_isLoop.count (fun i s => ∃ u : Int × Int, s = ofSt c m inOff outOff N (cst ncomp ia) (cst ncomp oa)
      (cst ncomp la) (cst ncomp lb) ((List.range i).foldl (iBody (slice m inOff N) W ncomp csz ⟨(List.range ncomp).map fin, cst ncomp ia, cst ncomp la⟩
        ⟨(List.range ncomp).map fout, cst ncomp oa, cst ncomp lb⟩ wrap) (mkSt ncomp fin fout o)) i u.1 u.2) H (W + ncomp)
    (fun i s _ ⟨u, e⟩ => by subst e; show ((i : Int) < c.dims.getD (Int.toNat 1) 0 ∧ ¬ false = true) ↔ _; rw [hH]; simp)
    (fun i s f hi hF ⟨u, e⟩ => by
      subst e
      have e := iLoop_spec (slice m inOff N) ncomp csz ia oa W la lb wrap fin fout o i
      have lo' : List.length (List.foldl _ o (List.range i)) = N :=
        (congrArg (·.out.length) e).symm.trans ((foldl_out_length iBody_out_length _ _).trans lo)
      obtain ⟨k1, h7⟩ := loop7_run (c := c) (ila := cst ncomp la) (ola := cst ncomp lb) hp W H ncomp csz ia oa hc hn hd (i : Int) _ _ _ u.2 lo'
        (hb i hi) f (by omega)
      show ∃ u', GRIil_convert.loop6.body f (GRIil_convert.chk _ _) = _
      rw [chk_true _ _ (hd1 ..), loop6_body_eq, ofSt_set_j, List.range_succ, List.foldl_append, e, h7]
      simp only [List.foldl_cons, List.foldl_nil, iBody]
      cases wrap with
      | false =>
        rw [ofSt_inil, ofSt_outil, if_neg (fun h => Bool.false_ne_true (hw.mp h)), ofSt_i, ofSt_set_i]
        exact ⟨(W, k1), rfl⟩
      | true =>
        rw [ofSt_inil, ofSt_outil, if_pos (hw.mpr rfl), ofSt_set_k, jLoop_spec,
          loop9_run ncomp la lb hn (i : Int) (W : Int) _ _ _ f (by omega), ofSt_i, ofSt_set_i]
        exact ⟨(W, ncomp), rfl⟩)
    (k := 0) (fuel := fuel) (Nat.zero_le _) (by omega) ⟨(j, k), rfl⟩
  exact ⟨u', e.trans (chk_true _ _ (hd1 ..))⟩

end
/-! The function head (allocation of the six blocks, the two `switch` statements, the label `done`) is cut into pieces that are copies of the
translated text; `entry` glues them by unfolding, then the pieces are evaluated on explicit states. -/

/-- a freshly malloc'ed block of `n` cells (poison value) -/
abbrev fresh (n : Nat) : List Int := List.replicate n 170

/-- `HGOTO_ERROR(.., FAIL)` -/
def gotoFail (s : GRIil_convert.St) : GRIil_convert.St := (s.set_ret_value (-1)).set_gto true

def loopsB (fuel : Nat) (s : GRIil_convert.St) : GRIil_convert.St :=
  if s.gto then s else GRIil_convert.loop6 fuel (s.set_i 0)

/-- `switch (inil)` -/
def swIn (fuel : Nat) (s : GRIil_convert.St) : GRIil_convert.St :=
  if s.gto then s else
  if s.inil = 0 then GRIil_convert.loop0 fuel (s.set_i 0)
  else if s.inil = 1 then GRIil_convert.loop1 fuel (s.set_i 0)
  else if s.inil = 2 then GRIil_convert.loop2 fuel (s.set_i 0)
  else gotoFail s

/-- `switch (outil)` -/
def swOut (fuel : Nat) (s : GRIil_convert.St) : GRIil_convert.St :=
  if s.gto then s else
  if s.outil = 0 then GRIil_convert.loop3 fuel (s.set_i 0)
  else if s.outil = 1 then GRIil_convert.loop4 fuel (s.set_i 0)
  else if s.outil = 2 then GRIil_convert.loop5 fuel (s.set_i 0)
  else gotoFail s

/-- number of cells of `HDmalloc(sz * ncomp)`, `sz = sizeof(void * )` or `sizeof(int32)` -/
abbrev cells (sz : Int) (s : GRIil_convert.St) : Int :=
  Int.tdiv (((sz * ((s.ncomp) % 18446744073709551616))) % 18446744073709551616) sz

/-- the `else` branch: the six `malloc`s, each with its `if (p == NULL) HGOTO_ERROR` that the translation never takes, then the rest -/
def elseB (fuel : Nat) (s : GRIil_convert.St) : GRIil_convert.St :=
  have s := GRIil_convert.chk s ((0 : Int) ≤ cells 8 s)
  have s := (s.set_in_comp_ptr_blk (List.replicate (Int.toNat (cells 8 s)) 170)).set_in_comp_ptr 0
  have s := if False then gotoFail s else s
  have s := if s.gto then s else
    have s := GRIil_convert.chk s ((0 : Int) ≤ cells 8 s)
    have s := (s.set_out_comp_ptr_blk (List.replicate (Int.toNat (cells 8 s)) 170)).set_out_comp_ptr 0
    if False then gotoFail s else s
  have s := if s.gto then s else
    have s := GRIil_convert.chk s ((0 : Int) ≤ cells 4 s)
    have s := (s.set_in_pixel_add_blk (List.replicate (Int.toNat (cells 4 s)) 170)).set_in_pixel_add 0
    if False then gotoFail s else s
  have s := if s.gto then s else
    have s := GRIil_convert.chk s ((0 : Int) ≤ cells 4 s)
    have s := (s.set_out_pixel_add_blk (List.replicate (Int.toNat (cells 4 s)) 170)).set_out_pixel_add 0
    if False then gotoFail s else s
  have s := if s.gto then s else
    have s := GRIil_convert.chk s ((0 : Int) ≤ cells 4 s)
    have s := (s.set_in_line_add_blk (List.replicate (Int.toNat (cells 4 s)) 170)).set_in_line_add 0
    if False then gotoFail s else s
  have s := if s.gto then s else
    have s := GRIil_convert.chk s ((0 : Int) ≤ cells 4 s)
    have s := (s.set_out_line_add_blk (List.replicate (Int.toNat (cells 4 s)) 170)).set_out_line_add 0
    if False then gotoFail s else s
  loopsB fuel (swOut fuel (swIn fuel s))

/-- `done: return ret_value` -/
def finishRet (s : GRIil_convert.St) : GRIil_convert.St := (s.set_gto false).set_ret s.ret_value

/-- the state after the initialisers of `ret_value`, `pixel_size`, `comp_size` -/
def S1 (inbuf outbuf inil outil ncomp nt csznt : Int) (mem dims : List Int) : GRIil_convert.St :=
  { inbuf := inbuf, mem := mem, inil := inil, outbuf := outbuf, outil := outil, dims := dims, ncomp := ncomp, nt := nt, comp_size_nt := csznt,
    in_comp_ptr_blk := [], out_comp_ptr_blk := [], in_pixel_add_blk := [], out_pixel_add_blk := [], in_line_add_blk := [], out_line_add_blk := [],
    ret_value := 0, pixel_size := (((csznt % 4294967296) * (ncomp % 4294967296))) % 4294967296, comp_size := csznt % 4294967296 }

/-- the byte count `(size_t)dims[XDIM] * (size_t)dims[YDIM] * (size_t)pixel_size` of the `memcpy` of the `inil == outil` branch -/
def memcpyLen (s : GRIil_convert.St) : Int :=
  (((((((((s.dims.getD (Int.toNat (0)) 0)) % 18446744073709551616) * (((s.dims.getD (Int.toNat (1)) 0)) % 18446744073709551616))) % 18446744073709551616) * s.pixel_size)) % 18446744073709551616)

def memcpyB (s : GRIil_convert.St) : GRIil_convert.St :=
  have s := GRIil_convert.chk s (0 < s.dims.length)
  have s := GRIil_convert.chk s (0 ≤ 1 ∧ 1 < s.dims.length)
  have s := GRIil_convert.chk s ((0 : Int) ≤ memcpyLen s)
  have s := GRIil_convert.chk s (0 ≤ s.outbuf ∧ s.outbuf + memcpyLen s ≤ s.mem.length)
  have s := GRIil_convert.chk s (0 ≤ s.inbuf ∧ s.inbuf + memcpyLen s ≤ s.mem.length)
  have s := GRIil_convert.chk s (s.outbuf + memcpyLen s ≤ s.inbuf ∨ s.inbuf + memcpyLen s ≤ s.outbuf ∨ memcpyLen s = 0)
  s.set_mem ((s.mem.take (Int.toNat (s.outbuf))) ++ ((s.mem.drop (Int.toNat (s.inbuf))).take (Int.toNat (memcpyLen s))) ++ (s.mem.drop (Int.toNat (s.outbuf + memcpyLen s))))

/-- The control skeleton of `GRIil_convert`, by unfolding. The state is a variable `s` (bound to the initial state in the `show`) so
    that both sides unfold to the same term: with the initial state written out, `rfl` compares it field by field at every occurrence. -/
theorem entry (fuel : Nat) (inbuf outbuf inil outil ncomp nt csznt : Int) (mem dims : List Int) :
    GRIil_convert fuel inbuf mem inil outbuf outil dims ncomp nt csznt =
      finishRet (if inil = outil then memcpyB (S1 inbuf outbuf inil outil ncomp nt csznt mem dims)
        else elseB fuel (S1 inbuf outbuf inil outil ncomp nt csznt mem dims)) :=
  show _ = (
    have s : GRIil_convert.St := { inbuf := inbuf, mem := mem, inil := inil, outbuf := outbuf, outil := outil, dims := dims, ncomp := ncomp, nt := nt, comp_size_nt := csznt, in_comp_ptr_blk := [], out_comp_ptr_blk := [], in_pixel_add_blk := [], out_pixel_add_blk := [], in_line_add_blk := [], out_line_add_blk := [] }
    have s := s.set_ret_value 0
    have s := s.set_pixel_size ((((((s.comp_size_nt) % 4294967296) * ((s.ncomp) % 4294967296))) % 4294967296))
    have s := s.set_comp_size (((s.comp_size_nt) % 4294967296))
    finishRet (if s.inil = s.outil then memcpyB s else elseB fuel s)) from by delta memcpyB memcpyLen; rfl

theorem S1_sizes (inbuf outbuf inil outil nt : Int) (mem dims : List Int) {ncomp csz : Nat} (hn : ncomp < 2147483648)
    (hc : csz < 2147483648) (hpix : csz * ncomp < 2147483648) :
    S1 inbuf outbuf inil outil ncomp nt csz mem dims =
      { S1 inbuf outbuf inil outil ncomp nt csz mem dims with pixel_size := ((csz * ncomp : Nat) : Int), comp_size := csz } := by
  have p1 : (csz : Int) % 4294967296 = csz := emod32_nat _ (by omega)
  have p2 : (ncomp : Int) % 4294967296 = ncomp := emod32_nat _ (by omega)
  have p3 : ((csz : Int) * (ncomp : Int)) % 4294967296 = ((csz * ncomp : Nat) : Int) := by
    rw [← Int.natCast_mul]; exact emod32_nat _ (by omega)
  simp only [S1, p1, p2, p3]

theorem elseB_eq (fuel : Nat) (inbuf outbuf inil outil nt : Int) (mem dims : List Int) (ncomp csz : Nat) (hn : ncomp < 2147483648)
    (hc : csz < 2147483648) (hpix : csz * ncomp < 2147483648) :
    elseB fuel (S1 inbuf outbuf inil outil ncomp nt csz mem dims) =
      loopsB fuel (swOut fuel (swIn fuel (mkS ⟨inbuf, inil, outbuf, outil, ncomp, nt, csz, ((csz * ncomp : Nat) : Int), csz, dims⟩
        (fresh ncomp) (fresh ncomp) (fresh ncomp) (fresh ncomp) (fresh ncomp) (fresh ncomp) mem 0 0 0))) := by
  have e8 : Int.tdiv (((8 * (((ncomp : Int)) % 18446744073709551616))) % 18446744073709551616) 8 = (ncomp : Int) := by
    rw [Int.emod_eq_of_lt (by omega) (by omega), Int.emod_eq_of_lt (by omega) (by omega), Int.mul_comm, Int.mul_tdiv_cancel _ (by omega)]
  have e4 : Int.tdiv (((4 * (((ncomp : Int)) % 18446744073709551616))) % 18446744073709551616) 4 = (ncomp : Int) := by
    rw [Int.emod_eq_of_lt (by omega) (by omega), Int.emod_eq_of_lt (by omega) (by omega), Int.mul_comm, Int.mul_tdiv_cancel _ (by omega)]
  rw [S1_sizes _ _ _ _ _ _ _ hn hc hpix]
  simp only [elseB, S1, e8]
  simp [GRIil_convert.chk, mkS, e8, e4]

theorem swIn_eq (a : Il) (c : Fix) (N : Nat) (hN : c.ncomp = N) (hd : c.dims.length = 2) (hil : c.inil = (a.code : Nat)) (fuel : Nat) (hf : N ≤ fuel)
    (icp ocp ipa opa ila ola mem : List Int) (i j k : Int) (l1 : icp.length = N) (l2 : ipa.length = N) (l3 : ila.length = N) :
    swIn fuel (mkS c icp ocp ipa opa ila ola mem i j k) =
      mkS c ((List.range N).map (vBase c c.inbuf a.code)) ocp ((List.range N).map fun _ => vPix c a.code) opa
        ((List.range N).map fun _ => vLine c a.code) ola mem N j k := by
  refine (if_neg Bool.false_ne_true).trans ?_
  rcases code_cases a with ⟨rfl, h⟩ | ⟨rfl, h⟩ | ⟨rfl, h⟩ <;> rw [h] at hil
  · exact (if_pos hil).trans (loop0_run c N hN fuel hf icp ocp ipa opa ila ola mem j k l1 l2 l3)
  · exact ((if_neg (show ¬ c.inil = 0 by omega)).trans (if_pos hil)).trans
      (loop1_run c N hN hd fuel hf icp ocp ipa opa ila ola mem j k l1 l2 l3)
  · exact ((if_neg (show ¬ c.inil = 0 by omega)).trans ((if_neg (show ¬ c.inil = 1 by omega)).trans (if_pos hil))).trans
      (loop2_run c N hN hd fuel hf icp ocp ipa opa ila ola mem j k l1 l2 l3)

theorem swOut_eq (b : Il) (c : Fix) (N : Nat) (hN : c.ncomp = N) (hd : c.dims.length = 2) (hil : c.outil = (b.code : Nat)) (fuel : Nat) (hf : N ≤ fuel)
    (icp ocp ipa opa ila ola mem : List Int) (i j k : Int) (l1 : ocp.length = N) (l2 : opa.length = N) (l3 : ola.length = N) :
    swOut fuel (mkS c icp ocp ipa opa ila ola mem i j k) =
      mkS c icp ((List.range N).map (vBase c c.outbuf b.code)) ipa ((List.range N).map fun _ => vPix c b.code)
        ila ((List.range N).map fun _ => vLine c b.code) mem N j k := by
  refine (if_neg Bool.false_ne_true).trans ?_
  rcases code_cases b with ⟨rfl, h⟩ | ⟨rfl, h⟩ | ⟨rfl, h⟩ <;> rw [h] at hil
  · exact (if_pos hil).trans (loop3_run c N hN fuel hf icp ocp ipa opa ila ola mem j k l1 l2 l3)
  · exact ((if_neg (show ¬ c.outil = 0 by omega)).trans (if_pos hil)).trans
      (loop4_run c N hN hd fuel hf icp ocp ipa opa ila ola mem j k l1 l2 l3)
  · exact ((if_neg (show ¬ c.outil = 0 by omega)).trans ((if_neg (show ¬ c.outil = 1 by omega)).trans (if_pos hil))).trans
      (loop5_run c N hN hd fuel hf icp ocp ipa opa ila ola mem j k l1 l2 l3)

/-- `default:` of a `switch` -/
theorem swIn_bad (fuel : Nat) {c : Fix} (icp ocp ipa opa ila ola mem : List Int) (i j k : Int) (h : ¬ (c.inil = 0 ∨ c.inil = 1 ∨ c.inil = 2)) :
    swIn fuel (mkS c icp ocp ipa opa ila ola mem i j k) = gotoFail (mkS c icp ocp ipa opa ila ola mem i j k) :=
  (if_neg Bool.false_ne_true).trans ((if_neg (show ¬ c.inil = 0 by omega)).trans ((if_neg (show ¬ c.inil = 1 by omega)).trans
    (if_neg (show ¬ c.inil = 2 by omega))))

theorem swOut_bad (fuel : Nat) {c : Fix} (icp ocp ipa opa ila ola mem : List Int) (i j k : Int) (h : ¬ (c.outil = 0 ∨ c.outil = 1 ∨ c.outil = 2)) :
    swOut fuel (mkS c icp ocp ipa opa ila ola mem i j k) = gotoFail (mkS c icp ocp ipa opa ila ola mem i j k) :=
  (if_neg Bool.false_ne_true).trans ((if_neg (show ¬ c.outil = 0 by omega)).trans ((if_neg (show ¬ c.outil = 1 by omega)).trans
    (if_neg (show ¬ c.outil = 2 by omega))))

end H4.Lemmas.C09Fn
