import H4.Gen.Fn.Dfrle
import H4.Lemmas.Codecs
import H4.Lemmas.C2L
import H4.Lemmas.C2LLoop
/-! Loop lemmas for `H4.Props.C15Fn`: the loops of the TRANSLATED `DFCIrle` / `DFCIunrle` (`H4.Gen.Fn.Dfrle`, from `hdf/src/dfrle.c`) compute the recursions
    `runScan`, `encLoop`, `unrleLoop` of the hand-written model `H4.Codecs`.  Each function has a state constructor over abstract positions (`rleSt`, `unSt`),
    so the loop lemmas are equations between such states, and what a loop has written is a `storeAt`. -/
namespace H4.Lemmas.C15Fn
open H4.Codecs H4.Gen.Fn.Dfrle H4.C2L

/-- a C `uint8` array as the translated functions see it -/
def bytes (l : List Byte) : List Int := l.map fun b => (b.toNat : Int)

@[simp] theorem bytes_length (l : List Byte) : (bytes l).length = l.length := by simp [bytes]
@[simp] theorem bytes_nil : bytes [] = [] := rfl
@[simp] theorem bytes_cons (a : Byte) (l : List Byte) : bytes (a :: l) = (a.toNat : Int) :: bytes l := rfl
theorem bytes_append (a b : List Byte) : bytes (a ++ b) = bytes a ++ bytes b := by simp [bytes]
theorem bytes_take (l : List Byte) (n : Nat) : bytes (l.take n) = (bytes l).take n := by simp [bytes]
theorem bytes_drop (l : List Byte) (n : Nat) : bytes (l.drop n) = (bytes l).drop n := by simp [bytes]

theorem bytes_getD (l : List Byte) (i : Nat) (h : i < l.length) : (bytes l)[i]?.getD 0 = ((l[i]).toNat : Int) := by
  simp [bytes, h]

theorem getD_bytes {buf : List Byte} {P : Nat} (hP : P < buf.length) : (bytes buf).getD P 0 = (buf[P].toNat : Int) := by
  rw [List.getD_eq_getElem?_getD]; exact bytes_getD buf P hP

/- in the shapes `simp` leaves them in once it has pushed the casts inside (`clead = C + 1 + L`, `cfoll + 1`, `p - begp`) -/
theorem idx_ok {a m : Nat} (h : a < m) : 0 ≤ (a : Int) ∧ (a : Int) < (m : Int) := by omega

theorem idx1 {a b m : Nat} (h : a + 1 + b < m) : 0 ≤ (a : Int) + 1 + b ∧ (a : Int) + 1 + b < (m : Int) := by omega
theorem idx2 {a b m : Nat} (h : a + 1 + b + 1 < m) : 0 ≤ (a : Int) + 1 + b + 1 ∧ (a : Int) + 1 + b + 1 < (m : Int) := by omega
theorem idx3 {a m : Nat} (h : a + 1 < m) : 0 ≤ (a : Int) + 1 ∧ (a : Int) + 1 < (m : Int) := by omega
theorem toNat1 (a b : Nat) : ((a : Int) + 1 + b).toNat = a + 1 + b := by omega
theorem toNat2 (a b : Nat) : ((a : Int) + 1 + b + 1).toNat = a + 1 + b + 1 := by omega
theorem toNat3 (a : Nat) : ((a : Int) + 1).toNat = a + 1 := by omega
theorem sub_sub_mod (P L : Nat) (h : L ≤ 255) : ((P : Int) - ((P : Int) - L)) % 256 = (L : Int) := by omega
theorem sub_sub_mod1 (P L : Nat) (h : L ≤ 254) : ((P : Int) + 1 - ((P : Int) - L)) % 256 = ((L + 1 : Nat) : Int) := by omega

theorem bytes_inj {a b : List Byte} (h : bytes a = bytes b) : a = b :=
  (List.map_inj_right fun _ _ h => UInt8.toNat_inj.mp (Int.ofNat_inj.mp h)).mp h

theorem drop_nonempty {α} (l : List α) (P : Nat) (h : l.drop P ≠ []) : P < l.length :=
  Nat.lt_of_not_le (mt List.drop_eq_nil_iff.mpr h)

theorem take_drop_set_snoc {α} (l : List α) (a L : Nat) (x : α) (h : a + L < l.length) :
    ((l.set (a + L) x).drop a).take (L + 1) = (l.drop a).take L ++ [x] := by
  have : (l.set (a + L) x).drop a = (l.drop a).set L x := by
    rw [List.drop_set, if_neg (by omega), Nat.add_sub_cancel_left]
  rw [this, List.take_succ_eq_append_getElem (by simp; omega)]
  simp [List.take_set_of_le]

theorem mem_le_sum : ∀ (ns : List Nat) (n : Nat), n ∈ ns → n ≤ ns.sum := by
  intro ns
  induction ns with
  | nil => intro n h; cases h
  | cons a t ih =>
    intro n h
    rcases List.mem_cons.mp h with h | h
    · subst h; simp
    · have := ih n h; simp only [List.sum_cons]; omega

theorem rle_chk_true (s : DFCIrle.St) (c : Prop) [Decidable c] (h : c) : DFCIrle.chk s c = s := by
  simp [DFCIrle.chk, h]

theorem rle_loop1_succ (fuel : Nat) (s : DFCIrle.St)
    (c1 : ¬(s.i ≠ 0 ∧ s.i + 120 > s.len) ∨ (0 ≤ s.p ∧ s.p < s.buf.length))
    (c2 : ¬(s.i ≠ 0 ∧ s.i + 120 > s.len) ∨ (0 ≤ s.q ∧ s.q < s.buf.length)) :
    DFCIrle.loop1 (fuel + 1) s =
      if ((s.i ≠ 0 ∧ s.i + 120 > s.len) ∧ s.buf.getD s.p.toNat 0 = s.buf.getD s.q.toNat 0) then
        DFCIrle.loop1 fuel (DFCIrle.loop1.body (fuel + 1) s) else s := by
  rw [DFCIrle.loop1]
  simp only [rle_chk_true s _ c1]
  simp only [rle_chk_true s _ c2]

/-- `p` at position `P` of the row, the reserved count cell `cfoll` at `C` of `bufto`, `L` literal bytes pending behind it -/
def rleSt (bs : List Byte) (P L C : Nat) (q i diff : Int) (bufto : List Int) (ret : Int) : DFCIrle.St :=
  { len := (bs.length : Int) - P, p := P, q := q, cfoll := C, clead := (C : Int) + 1 + L, begp := (P : Int) - L, i := i, diff := diff, buf := bytes bs, bufto := bufto, ub := false, oof := false, ret := ret }

theorem rle_loop1_stop (f : Nat) (s : DFCIrle.St) (h : ¬ (s.i ≠ 0 ∧ s.i + 120 > s.len)) : DFCIrle.loop1 f s = s := by
  cases f with
  | zero =>
    rw [DFCIrle.loop1]
    simp only [rle_chk_true s _ (Or.inl h : ¬(s.i ≠ 0 ∧ s.i + 120 > s.len) ∨ (0 ≤ s.p ∧ s.p < s.buf.length))]
    simp only [rle_chk_true s _ (Or.inl h : ¬(s.i ≠ 0 ∧ s.i + 120 > s.len) ∨ (0 ≤ s.q ∧ s.q < s.buf.length))]
    simp only [h, false_and, if_false]
  | succ f => rw [rle_loop1_succ f s (Or.inl h) (Or.inl h), if_neg (fun c => h c.1)]

/-- the inner loop `while (i && i + 120 > len && *p == *q) { q++; i--; }` advances `q` by the model's `runScan`:
    `Q` = position of `q` in the row, `n = len - (q - p)` the bytes from `q` on -/
theorem rle_loop1 (bs : List Byte) (P L C : Nat) (diff : Int) (bufto : List Int) (ret : Int) (hP : P < bs.length) :
    ∀ (n f Q : Nat), n ≤ f → Q + n = bs.length → P < Q → Q ≤ P + 120 →
      DFCIrle.loop1 f (rleSt bs P L C Q n diff bufto ret) =
        rleSt bs P L C ((Q + runScan bs[P] (bs.drop Q) (P + 120 - Q) : Nat) : Int) ((n - runScan bs[P] (bs.drop Q) (P + 120 - Q) : Nat) : Int)
          diff bufto ret := by
  intro n
  induction n with
  | zero =>
    intro f Q _ hQ _ _
    rw [rle_loop1_stop _ _ (by simp [rleSt]), List.drop_of_length_le (by omega)]
    rfl
  | succ n ih =>
    intro f Q hf hQ hPQ hcap
    obtain ⟨f, rfl⟩ : ∃ g, f = g + 1 := ⟨f - 1, by omega⟩
    have hQl : Q < bs.length := by omega
    have eP := getD_bytes hP
    have eQ := getD_bytes hQl
    rw [rle_loop1_succ _ _ (Or.inr (by simp only [rleSt, bytes_length]; omega)) (Or.inr (by simp only [rleSt, bytes_length]; omega)),
      List.drop_eq_getElem_cons hQl, runScan_cons]
    by_cases hgo : 0 < P + 120 - Q ∧ bs[Q] = bs[P]
    · have hb : DFCIrle.loop1.body (f + 1) (rleSt bs P L C Q (n + 1 : Nat) diff bufto ret) = rleSt bs P L C (Q + 1 : Nat) n diff bufto ret := by
        simp only [DFCIrle.loop1.body, rleSt, DFCIrle.St.set_i, Int.natCast_add, Int.cast_ofNat_Int, Int.add_sub_cancel]
      rw [if_pos hgo, if_pos (by simp only [rleSt, Int.toNat_natCast, eP, eQ, hgo.2, and_true]; omega), hb,
        ih f (Q + 1) (by omega) (by omega) (by omega) (by omega), Nat.add_right_comm, Nat.add_sub_add_right, Nat.sub_add_eq, Nat.add_assoc]
    · rw [if_neg hgo, if_neg]
      · rfl
      · simp only [rleSt, Int.toNat_natCast, eP, eQ]
        intro hc
        exact hgo ⟨by omega, (UInt8.toNat_inj.mp (by omega)).symm⟩

theorem rle_scan (bs : List Byte) (P L C : Nat) (diff : Int) (bufto : List Int) (ret : Int) (hP : P < bs.length) (f : Nat)
    (hf : bs.length - P ≤ f + 1) :
    DFCIrle.loop1 (f + 1) (rleSt bs P L C ((P : Int) + 1) ((bs.length : Int) - P - 1) diff bufto ret) =
      rleSt bs P L C ((P : Int) + 1 + (runScan bs[P] (bs.drop (P + 1)) 119 : Nat))
        ((bs.length : Int) - P - 1 - (runScan bs[P] (bs.drop (P + 1)) 119 : Nat)) diff bufto ret := by
  have h := rle_loop1 bs P L C diff bufto ret hP (bs.length - P - 1) (f + 1) (P + 1) (by omega) (by omega) (by omega) (by omega)
  have := (runScan_spec bs[P] (bs.drop (P + 1)) 119).2.1
  simp only [List.length_drop] at this
  rw [show P + 120 - (P + 1) = 119 by omega] at h
  rw [show (P : Int) + 1 = ((P + 1 : Nat) : Int) by omega,
    show (bs.length : Int) - P - 1 = ((bs.length - P - 1 : Nat) : Int) by omega, h]
  congr 2 <;> omega

theorem ser_nil : ser [] = [] := rfl
theorem flushLit_nil : flushLit [] = [] := rfl
theorem flushLit_cons (a : Byte) (l : List Byte) : flushLit (a :: l) = [.lit (a :: l)] := rfl

/-- `if (p > begp) { *cfoll = (uint8)(p - begp); cfoll = clead; }`: the new `cfoll`, and `bufto` then -/
def flushPos (L C : Nat) : Nat := if 0 < L then C + 1 + L else C
def flushBuf (L C : Nat) (bufto : List Int) : List Int := if 0 < L then bufto.set C (L : Int) else bufto

theorem flushBuf_length (L C : Nat) (l : List Int) : (flushBuf L C l).length = l.length := by
  unfold flushBuf; split <;> simp

/-- the pending bytes `lit` are ALREADY in the buffer behind the reserved count cell `C`, so writing the block out is setting that one cell
    (`storeAt_skip`) -/
theorem flush_storeAt (l : List Int) (C L : Nat) (lit : List Byte) (Y : List Int) (hL : L = lit.length) (h3 : L ≤ 255)
    (hroom : flushPos L C ≤ l.length) (hlit : (l.drop (C + 1)).take L = bytes lit) :
    storeAt (flushBuf L C l) (flushPos L C) Y = storeAt l C (bytes (ser (flushLit lit)) ++ Y) := by
  cases lit with
  | nil => subst hL; rfl
  | cons a t =>
    have h0 : 0 < L := by rw [hL]; exact Nat.succ_pos _
    rw [flushPos, if_pos h0] at hroom
    have hc : ((UInt8.ofNat L).toNat : Int) = (L : Int) := by rw [toNat_ofNat_lt L (by omega)]
    simp only [flushBuf, flushPos, h0, if_true, flushLit_cons, ser_cons, ser_nil, Pkt.ser, List.append_nil, ← hL, bytes_cons, hc,
      List.cons_append]
    rw [← storeAt_set _ _ _ _ (by omega), storeAt_skip _ _ _ _ (by simpa using hroom), List.drop_set_of_lt (by omega), hlit]
    rfl

/-- `(uint8)(128 | (uint8)(q - p))` for a run of `1 + k ≤ 120` bytes -/
theorem run_count (k : Nat) (hk : k ≤ 119) (x : Int) (hx : x = 1 + (k : Int)) :
    Int.ofNat (Int.toNat 128 ||| (x % 256).toNat) % 256 = ((128 ||| (1 + k) : Nat) : Int) := by
  subst hx
  rw [show (((1 : Int) + k) % 256).toNat = 1 + k by omega, show Int.toNat 128 = 128 from rfl, or128 _ (by omega)]
  simp only [Int.ofNat_eq_natCast]; omega

section
variable {bs : List Byte} {P L C : Nat} {q i diff : Int} {bufto : List Int} {ret : Int}

/-- one pass of the main loop of `DFCIrle`, case by case as the model's `encLoop_cons` -/
theorem rle_body (f : Nat) (hP : P < bs.length) (hf : bs.length - P ≤ f + 1) (hL : L ≤ 120)
    (k : Nat) (hk : runScan bs[P] (bs.drop (P + 1)) 119 = k)
    (hroom : if 2 ≤ k then flushPos L C + 1 < bufto.length else C + 1 + L < bufto.length) :
    DFCIrle.loop0.body (f + 1) (rleSt bs P L C q i diff bufto ret) =
      if 2 ≤ k then
        rleSt bs (P + 1 + k) 0 (flushPos L C + 2) ((P : Int) + 1 + k) ((bs.length : Int) - P - 1 - k) (1 + k)
          (((flushBuf L C bufto).set (flushPos L C) ((128 ||| (1 + k) : Nat) : Int)).set (flushPos L C + 1) (bs[P].toNat : Int)) ret
      else if 120 ≤ L then
        rleSt bs (P + 1) 0 (C + 1 + L + 1) ((P : Int) + 1 + k) ((bs.length : Int) - P - 1 - k) diff
          ((bufto.set (C + 1 + L) (bs[P].toNat : Int)).set C ((L + 1 : Nat) : Int)) ret
      else
        rleSt bs (P + 1) (L + 1) C ((P : Int) + 1 + k) ((bs.length : Int) - P - 1 - k) diff (bufto.set (C + 1 + L) (bs[P].toNat : Int)) ret := by
  have h2 : k ≤ 119 := hk ▸ (runScan_spec _ _ _).1
  have hs := rle_scan bs P L C diff bufto ret hP f hf
  simp only [rleSt, hk] at hs
  have e2 := getD_bytes hP
  have cp := idx_ok ((bytes_length bs).symm ▸ hP)
  have e1 := toNat1 C L
  by_cases hrun : 2 ≤ k
  · rw [if_pos hrun] at hroom ⊢
    have c1 : ((P : Int) + 1 + (k : Nat) - P > 2) := by omega
    have e5 := run_count k h2 ((P : Int) + 1 + (k : Nat) - P) (by omega)
    have cb : (0 : Int) ≤ 128 ∧ (0 : Int) ≤ ((P : Int) + 1 + (k : Nat) - P) % 256 := by omega
    by_cases h0 : 0 < L
    · simp only [flushPos, flushBuf, h0, if_true] at hroom ⊢
      have c2 : ((P : Int) > (P : Int) - L) := by omega
      have e4 := sub_sub_mod P L (by omega)
      have cc2 := idx2 hroom
      have e1' := toNat2 C L
      simp only [DFCIrle.loop0.body, rleSt, DFCIrle.St.set_i, hs, c1, c2, ↓reduceIte, DFCIrle.chk, DFCIrle.St.set_cfoll,
        DFCIrle.St.set_begp, List.length_set, idx_ok (show C < bufto.length by omega), idx1 (show C + 1 + L < bufto.length by omega), cc2, cp, cb, and_self, decide_true, Bool.not_true,
        Bool.or_false, e1, e1', e2, e4, e5, Int.toNat_natCast]
      congr 1 <;> omega
    · simp only [flushPos, flushBuf, h0, if_false] at hroom ⊢
      have c2 : ¬ ((P : Int) > (P : Int) - L) := by omega
      have cc2 := idx3 hroom
      have e1' := toNat3 C
      simp only [DFCIrle.loop0.body, rleSt, DFCIrle.St.set_i, hs, c1, c2, ↓reduceIte, DFCIrle.chk, DFCIrle.St.set_begp, List.length_set,
        idx_ok (show C < bufto.length by omega), cc2, cp, cb, and_self, decide_true, Bool.not_true, Bool.or_false, e1', e2, e5, Int.toNat_natCast]
      congr 1 <;> omega
  · rw [if_neg hrun] at hroom ⊢
    have c1 : ¬ ((P : Int) + 1 + (k : Nat) - P > 2) := by omega
    by_cases hfull : 120 ≤ L
    · rw [if_pos hfull]
      have c2 : ((P : Int) + 1 - ((P : Int) - L) > 120) := by omega
      have e3 := sub_sub_mod1 P L (by omega)
      simp only [DFCIrle.loop0.body, rleSt, DFCIrle.St.set_i, hs, c1, c2, ↓reduceIte, DFCIrle.chk, DFCIrle.St.set_begp, List.length_set,
        idx_ok (show C < bufto.length by omega), idx1 hroom, cp, and_self, decide_true, Bool.not_true, Bool.or_false, e1, e2, e3, Int.toNat_natCast]
      congr 1 <;> omega
    · rw [if_neg hfull]
      have c2 : ¬ ((P : Int) + 1 - ((P : Int) - L) > 120) := by omega
      simp only [DFCIrle.loop0.body, rleSt, DFCIrle.St.set_i, hs, c1, c2, ↓reduceIte, DFCIrle.chk, DFCIrle.St.set_len, idx1 hroom, cp,
        and_self, decide_true, Bool.not_true, Bool.or_false, e1, e2, Int.toNat_natCast]
      congr 1 <;> omega
end

/-- the statements of `DFCIrle` after its main loop ("fill in last bytecount" and the `return`) -/
def rleFin (s : DFCIrle.St) : DFCIrle.St :=
  have s : DFCIrle.St := if (s.p > s.begp) then
      have s : DFCIrle.St := DFCIrle.chk s (0 ≤ s.cfoll ∧ s.cfoll < s.bufto.length)
      have s : DFCIrle.St := DFCIrle.St.set_bufto s (s.bufto.set (Int.toNat (s.cfoll)) ((((s.p - s.begp)) % 256)))
      s
    else
      let e0 : Int := (s.clead - 1)
      have s : DFCIrle.St := DFCIrle.St.set_clead s (e0)
      s
  have s : DFCIrle.St := DFCIrle.St.set_ret s ((s.clead - 0))
  s

theorem rle_unfold (fuel : Nat) (bs : List Byte) (out : List Int) :
    DFCIrle fuel (bytes bs) out bs.length = rleFin (DFCIrle.loop0 fuel (rleSt bs 0 0 0 0 0 0 out 0)) := rfl

theorem rle_loop0_isLoop : IsLoop DFCIrle.loop0 (fun s => s.len > 0) DFCIrle.loop0.body (fun s => s) :=
  .of_eqs (fun _ => rfl) (fun _ _ => rfl)

theorem flushPos_eq (C L : Nat) (lit : List Byte) (hL : L = lit.length) : flushPos L C = C + (ser (flushLit lit)).length := by
  subst hL
  cases lit with
  | nil => rfl
  | cons a t => simp [flushPos, flushLit, ser, Pkt.ser]; omega

theorem rle_fin (bs : List Byte) (P L C : Nat) (q i diff : Int) (bufto : List Int) (ret : Int) (h3 : L ≤ 254)
    (hroom : flushPos L C ≤ bufto.length) :
    rleFin (rleSt bs P L C q i diff bufto ret) =
      { rleSt bs P L C q i diff bufto ret with
        bufto := flushBuf L C bufto, clead := (flushPos L C : Nat), ret := (flushPos L C : Nat) } := by
  unfold flushBuf flushPos at *
  by_cases hL : 0 < L
  · rw [if_pos hL] at hroom
    have c : (P : Int) > (P : Int) - L := by omega
    have e4 := sub_sub_mod P L (by omega)
    have cc := idx_ok (show C < bufto.length by omega)
    simp only [rleFin, rleSt, c, if_true, DFCIrle.chk, DFCIrle.St.set_bufto, DFCIrle.St.set_ret, hL, e4, Int.toNat_natCast, cc, and_self,
      decide_true, Bool.not_true, Bool.or_false]
    congr 1 <;> omega
  · have c : ¬ ((P : Int) > (P : Int) - L) := by omega
    simp only [rleFin, rleSt, c, if_false, DFCIrle.St.set_clead, DFCIrle.St.set_ret, hL]
    congr 1 <;> omega

structure RleOut (s : DFCIrle.St) (bufto : List Int) (C : Nat) (out : List Byte) : Prop where
  ub : s.ub = false
  oof : s.oof = false
  ret : s.ret = ((C + out.length : Nat) : Int)
  buf : s.bufto = storeAt bufto C (bytes out)

theorem RleOut.splice {s : DFCIrle.St} {b' bufto : List Int} {C' C : Nat} {out' : List Byte} (h : RleOut s b' C' out') (H : List Byte)
    (hC : C' = C + H.length) (hw : storeAt b' C' (bytes out') = storeAt bufto C (bytes H ++ bytes out')) :
    RleOut s bufto C (H ++ out') :=
  ⟨h.ub, h.oof, by rw [h.ret, hC, List.length_append, Nat.add_assoc], by rw [h.buf, hw, bytes_append]⟩

theorem rle_main_nil (bs : List Byte) (f : Nat) (lit : List Byte) (P L C : Nat) (q i diff : Int) (bufto : List Int) (ret : Int)
    (hP : bs.length ≤ P) (hL : L = lit.length) (hL120 : L ≤ 120)
    (hroom : C + (ser (flushLit lit)).length ≤ bufto.length) (hlit : (bufto.drop (C + 1)).take L = bytes lit) :
    RleOut (rleFin (DFCIrle.loop0 f (rleSt bs P L C q i diff bufto ret))) bufto C (ser (flushLit lit)) := by
  have hfp := flushPos_eq C L lit hL
  rw [rle_loop0_isLoop.exit (by simp only [rleSt]; omega), rle_fin _ _ _ _ _ _ _ _ _ (by omega) (by omega)]
  refine ⟨rfl, rfl, by rw [← hfp], ?_⟩
  have := flush_storeAt bufto C L lit [] hL (by omega) (by omega) hlit
  rwa [storeAt_nil, List.append_nil] at this

/-- main loop of `DFCIrle` and the final count byte; `lit` = the bytes between `begp` and `p`, already copied behind the reserved count
    cell `cfoll = C` -/
theorem rle_main (bs : List Byte) : ∀ (m f : Nat) (lit input : List Byte) (P L C : Nat) (q i diff : Int) (bufto : List Int) (ret : Int),
    bs.drop P = input → L = lit.length → input.length ≤ m → input.length ≤ f → L ≤ 120 →
    C + (ser (encLoop m lit input)).length ≤ bufto.length → (bufto.drop (C + 1)).take L = bytes lit →
    RleOut (rleFin (DFCIrle.loop0 f (rleSt bs P L C q i diff bufto ret))) bufto C (ser (encLoop m lit input)) := by
  intro m
  induction m with
  | zero =>
    intro f lit input P L C q i diff bufto ret hin hL hm hf hL120 hroom hlit
    obtain rfl : input = [] := List.eq_nil_of_length_eq_zero (by omega)
    rw [encLoop_nil] at hroom ⊢
    exact rle_main_nil bs f lit P L C q i diff bufto ret (List.drop_eq_nil_iff.mp hin) hL hL120 hroom hlit
  | succ m ih =>
    intro f lit input P L C q i diff bufto ret hin hL hm hf hL120 hroom hlit
    cases input with
    | nil =>
      rw [encLoop_nil] at hroom ⊢
      exact rle_main_nil bs f lit P L C q i diff bufto ret (List.drop_eq_nil_iff.mp hin) hL hL120 hroom hlit
    | cons v rest =>
      simp only [List.length_cons] at hm hf
      obtain ⟨f, rfl⟩ : ∃ g, f = g + 1 := ⟨f - 1, by omega⟩
      have hPl : P < bs.length := drop_nonempty _ _ (by rw [hin]; exact List.cons_ne_nil _ _)
      rw [List.drop_eq_getElem_cons hPl, List.cons.injEq] at hin
      obtain ⟨hv, hrest⟩ := hin
      have hlenbs : bs.length = P + 1 + rest.length := by rw [← hrest, List.length_drop]; omega
      obtain ⟨s1, s2, _⟩ := runScan_spec v rest 119
      generalize hk : runScan v rest 119 = k at s1 s2
      have hk' : runScan bs[P] (bs.drop (P + 1)) 119 = k := by rw [hv, hrest, hk]
      rw [rle_loop0_isLoop.pass (by simp only [rleSt]; omega)]
      rw [encLoop_cons, hk] at hroom ⊢
      have hb1 : (bufto.set (C + 1 + L) (bs[P].toNat : Int)).length = bufto.length := List.length_set
      have hlit1 : C + 1 + L < bufto.length →
          ((bufto.set (C + 1 + L) (bs[P].toNat : Int)).drop (C + 1)).take (L + 1) = bytes (lit ++ [v]) := fun h => by
        rw [take_drop_set_snoc bufto (C + 1) L _ h, hlit, hv, bytes_append]; rfl
      by_cases hrun : 2 ≤ k
      · rw [if_pos hrun] at hroom ⊢
        simp only [ser_append, ser_cons, Pkt.ser, rle_consts.2.2.2, List.length_append, List.length_cons, List.length_nil] at hroom ⊢
        have hc : ((UInt8.ofNat (128 ||| (1 + k))).toNat : Int) = ((128 ||| (1 + k) : Nat) : Int) := by
          rw [toNat_ofNat_lt _ (by rw [or128 _ (by omega)]; omega)]
        have hfp := flushPos_eq C L lit hL
        rw [rle_body f hPl (by omega) hL120 k hk' (by rw [if_pos hrun]; omega), if_pos hrun, ← List.append_assoc]
        refine (ih f [] (rest.drop k) (P + 1 + k) 0 (flushPos L C + 2) _ _ _ _ ret
          (by rw [← List.drop_drop, hrest]) rfl (by rw [List.length_drop]; omega) (by rw [List.length_drop]; omega)
          (by omega) (by simp only [List.length_set, flushBuf_length]; omega) rfl).splice _
          (by rw [hfp, List.length_append]; rfl) ?_
        rw [storeAt_set _ _ _ _ (by simp only [List.length_set, flushBuf_length]; omega),
          storeAt_set _ _ _ _ (by simp only [flushBuf_length]; omega),
          flush_storeAt _ _ _ _ _ hL (by omega) (by omega) hlit, bytes_append, bytes_cons, bytes_cons, hc, hv, List.append_assoc]
        rfl
      · rw [if_neg hrun] at hroom ⊢
        by_cases hfull : 120 ≤ lit.length
        · rw [if_pos hfull] at hroom ⊢
          rw [ser_append, List.length_append] at hroom
          have hfp := flushPos_eq C (L + 1) (lit ++ [v]) (by simp [hL])
          rw [flushPos, if_pos (Nat.succ_pos L)] at hfp
          rw [ser_append, rle_body f hPl (by omega) hL120 k hk' (by rw [if_neg hrun]; omega), if_neg hrun, if_pos (hL ▸ hfull)]
          refine (ih f [] rest (P + 1) 0 (C + 1 + L + 1) _ _ _ _ ret hrest rfl (by omega) (by omega) (by omega)
            (by simp only [List.length_set]; omega) rfl).splice _ (by omega) ?_
          have hfl := flush_storeAt _ C (L + 1) (lit ++ [v]) (bytes (ser (encLoop m [] rest))) (by simp [hL]) (by omega)
            (by rw [hb1, flushPos, if_pos (Nat.succ_pos L)]; omega) (hlit1 (by omega))
          rw [flushBuf, flushPos, if_pos (Nat.succ_pos L), if_pos (Nat.succ_pos L)] at hfl
          -- the byte just copied lies inside the cells the packet will occupy: seen from `C` the store disappears
          rw [← storeAt_set_in bufto C (C + 1 + L) (bs[P].toNat : Int) _ (by omega) (by simp only [List.length_append, bytes_length]; omega)]
          exact hfl
        · rw [if_neg hfull] at hroom ⊢
          have hge := encLoop_ser_ge m (lit ++ [v]) rest (by omega) (by simp)
          simp only [List.length_append, List.length_cons, List.length_nil, ← hL] at hge
          rw [rle_body f hPl (by omega) hL120 k hk' (by rw [if_neg hrun]; omega), if_neg hrun, if_neg (hL ▸ hfull)]
          obtain ⟨r1, r2, r3, r4⟩ := ih f (lit ++ [v]) rest (P + 1) (L + 1) C _ _ _ (bufto.set (C + 1 + L) (bs[P].toNat : Int)) ret hrest
            (by simp [hL]) (by omega) (by omega) (by omega) (by rw [hb1]; exact hroom) (hlit1 (by omega))
          exact ⟨r1, r2, r3, by rw [r4, storeAt_set_in _ _ _ _ _ (by omega) (by rw [bytes_length]; omega)]⟩

/-- `p`, `q`, `savestart`, `saveend` at positions `P`, `Q`, `SS`, `SE` of `buf`, `bufto`, `save` -/
def unSt (buf : List Byte) (outlen : Nat) (rs : Int) (P Q SS SE : Nat) (cnt : Int) (save bufto : List Int) (ret : Int) : DFCIunrle.St :=
  { outlen := outlen, resetsave := rs, p := P, q := Q, endp := outlen, savestart := SS, saveend := SE, cnt_ := cnt, save := save,
    buf := bytes buf, bufto := bufto, ub := false, oof := false, ret := ret }

section
variable {buf : List Byte} {outlen : Nat} {rs : Int} {P Q SS SE n : Nat} {cnt : Int} {save bufto : List Int} {ret : Int}

/- `loop2` (a literal block: `*p++`) and `loop3` (a run: `*p`) are the same loop except that `p` advances in the first: the lemmas come in pairs -/
theorem un_loop2_step_out (f : Nat) (hP : P < buf.length) (hQ : Q < outlen) (hb : outlen ≤ bufto.length) :
    DFCIunrle.loop2 (f + 1) (unSt buf outlen rs P Q SS SE ((n + 1 : Nat) : Int) save bufto ret) =
      DFCIunrle.loop2 f (unSt buf outlen rs (P + 1) (Q + 1) SS SE (n : Int) save (bufto.set Q (buf[P].toNat : Int)) ret) := by
  have c1 : ¬ ((n : Int) + 1 = 0) := by omega
  have c2 : (Q : Int) < (outlen : Int) := by omega
  rw [DFCIunrle.loop2]
  simp only [unSt, c1, c2, decide_true, ↓reduceIte, DFCIunrle.loop2.body, DFCIunrle.chk, ne_eq, not_false_eq_true, Int.toNat_natCast,
    getD_bytes hP, bytes_length, idx_ok hP, idx_ok (Nat.lt_of_lt_of_le hQ hb), and_self, Bool.not_true, Bool.or_false, Int.natCast_add,
    Int.cast_ofNat_Int, Int.add_sub_cancel]

theorem un_loop2_step_save (f : Nat) (hP : P < buf.length) (hQ : ¬ Q < outlen) (hs : SE < save.length) :
    DFCIunrle.loop2 (f + 1) (unSt buf outlen rs P Q SS SE ((n + 1 : Nat) : Int) save bufto ret) =
      DFCIunrle.loop2 f (unSt buf outlen rs (P + 1) Q SS (SE + 1) (n : Int) (save.set SE (buf[P].toNat : Int)) bufto ret) := by
  have c1 : ¬ ((n : Int) + 1 = 0) := by omega
  have c2 : ¬ ((Q : Int) < (outlen : Int)) := by omega
  rw [DFCIunrle.loop2]
  simp only [unSt, c1, c2, decide_true, ↓reduceIte, DFCIunrle.loop2.body, DFCIunrle.chk, ne_eq, not_false_eq_true, Int.toNat_natCast,
    getD_bytes hP, bytes_length, idx_ok hP, idx_ok hs, and_self, Bool.not_true, Bool.or_false, Int.natCast_add, Int.cast_ofNat_Int,
    Int.add_sub_cancel]

theorem un_loop2_zero (f : Nat) :
    DFCIunrle.loop2 f (unSt buf outlen rs P Q SS SE 0 save bufto ret) = unSt buf outlen rs P Q SS SE (-1) save bufto ret := by
  cases f <;> (rw [DFCIunrle.loop2]; simp [unSt])

theorem un_loop3_step_out (f : Nat) (hP : P < buf.length) (hQ : Q < outlen) (hb : outlen ≤ bufto.length) :
    DFCIunrle.loop3 (f + 1) (unSt buf outlen rs P Q SS SE ((n + 1 : Nat) : Int) save bufto ret) =
      DFCIunrle.loop3 f (unSt buf outlen rs P (Q + 1) SS SE (n : Int) save (bufto.set Q (buf[P].toNat : Int)) ret) := by
  have c1 : ¬ ((n : Int) + 1 = 0) := by omega
  have c2 : (Q : Int) < (outlen : Int) := by omega
  rw [DFCIunrle.loop3]
  simp only [unSt, c1, c2, decide_true, ↓reduceIte, DFCIunrle.loop3.body, DFCIunrle.chk, ne_eq, not_false_eq_true, Int.toNat_natCast,
    getD_bytes hP, bytes_length, idx_ok hP, idx_ok (Nat.lt_of_lt_of_le hQ hb), and_self, Bool.not_true, Bool.or_false, Int.natCast_add,
    Int.cast_ofNat_Int, Int.add_sub_cancel]

theorem un_loop3_step_save (f : Nat) (hP : P < buf.length) (hQ : ¬ Q < outlen) (hs : SE < save.length) :
    DFCIunrle.loop3 (f + 1) (unSt buf outlen rs P Q SS SE ((n + 1 : Nat) : Int) save bufto ret) =
      DFCIunrle.loop3 f (unSt buf outlen rs P Q SS (SE + 1) (n : Int) (save.set SE (buf[P].toNat : Int)) bufto ret) := by
  have c1 : ¬ ((n : Int) + 1 = 0) := by omega
  have c2 : ¬ ((Q : Int) < (outlen : Int)) := by omega
  rw [DFCIunrle.loop3]
  simp only [unSt, c1, c2, decide_true, ↓reduceIte, DFCIunrle.loop3.body, DFCIunrle.chk, ne_eq, not_false_eq_true, Int.toNat_natCast,
    getD_bytes hP, bytes_length, idx_ok hP, idx_ok hs, and_self, Bool.not_true, Bool.or_false, Int.natCast_add, Int.cast_ofNat_Int,
    Int.add_sub_cancel]

theorem un_loop3_zero (f : Nat) :
    DFCIunrle.loop3 f (unSt buf outlen rs P Q SS SE 0 save bufto ret) = unSt buf outlen rs P Q SS SE (-1) save bufto ret := by
  cases f <;> (rw [DFCIunrle.loop3]; simp [unSt])

/-- the state after `data` went out: the bytes that fit before `endp` to `bufto`, the others to the end of the save area -/
def unOut (buf : List Byte) (outlen : Nat) (rs : Int) (P Q SS SE : Nat) (cnt : Int) (save bufto : List Int) (ret : Int)
    (data : List Byte) : DFCIunrle.St :=
  unSt buf outlen rs P (Q + min data.length (outlen - Q)) SS (SE + (data.length - (outlen - Q))) cnt
    (storeAt save SE (bytes (data.drop (outlen - Q)))) (storeAt bufto Q (bytes (data.take (outlen - Q)))) ret

theorem unOut_nil : unOut buf outlen rs P Q SS SE cnt save bufto ret [] = unSt buf outlen rs P Q SS SE cnt save bufto ret := by
  simp [unOut, storeAt_nil]

theorem unOut_cons_out (x : Byte) (data : List Byte) (hQ : Q < outlen) (hb : Q < bufto.length) :
    unOut buf outlen rs P (Q + 1) SS SE cnt save (bufto.set Q (x.toNat : Int)) ret data =
      unOut buf outlen rs P Q SS SE cnt save bufto ret (x :: data) := by
  obtain ⟨d, hd⟩ : ∃ d, outlen - Q = d + 1 := ⟨outlen - Q - 1, by omega⟩
  have hd' : outlen - (Q + 1) = d := by omega
  unfold unOut
  rw [hd, hd', List.take_succ_cons, List.drop_succ_cons, bytes_cons, ← storeAt_set _ _ _ _ hb, List.length_cons]
  congr 1 <;> omega

theorem unOut_cons_save (x : Byte) (data : List Byte) (hQ : ¬ Q < outlen) (hs : SE < save.length) :
    unOut buf outlen rs P Q SS (SE + 1) cnt (save.set SE (x.toNat : Int)) bufto ret data =
      unOut buf outlen rs P Q SS SE cnt save bufto ret (x :: data) := by
  have hd : outlen - Q = 0 := by omega
  unfold unOut
  rw [hd, List.take_zero, List.drop_zero, List.drop_zero, List.take_zero, bytes_cons, ← storeAt_set _ _ _ _ hs, List.length_cons]
  congr 1 <;> omega

theorem unOut_fits (data : List Byte) (h : data.length ≤ outlen - Q) :
    unOut buf outlen rs P Q SS SE cnt save bufto ret data =
      unSt buf outlen rs P (Q + data.length) SS SE cnt save (storeAt bufto Q (bytes data)) ret := by
  unfold unOut
  rw [List.take_of_length_le h, List.drop_of_length_le h, bytes_nil, storeAt_nil, Nat.min_eq_left h,
    Nat.sub_eq_zero_of_le h, Nat.add_zero]

theorem unOut_append (a b : List Byte) (h : a.length ≤ outlen - Q) (hb : Q ≤ bufto.length) :
    unOut buf outlen rs P (Q + a.length) SS SE cnt save (storeAt bufto Q (bytes a)) ret b =
      unOut buf outlen rs P Q SS SE cnt save bufto ret (a ++ b) := by
  obtain ⟨d, hd⟩ : ∃ d, outlen - Q = a.length + d := ⟨outlen - Q - a.length, by omega⟩
  have e : outlen - (Q + a.length) = d := by omega
  have := storeAt_storeAt bufto Q (bytes a) (bytes (b.take d)) hb
  rw [bytes_length] at this
  unfold unOut
  rw [e, hd, this, ← bytes_append, List.take_append, List.drop_append, List.take_of_length_le (Nat.le_add_right _ _),
    List.drop_of_length_le (Nat.le_add_right _ _), List.nil_append, List.length_append, Nat.add_sub_cancel_left,
    Nat.add_min_add_left, Nat.add_sub_add_left, Nat.add_assoc]

theorem unOut_exact (out sv : List Byte) (hQ : Q ≤ outlen) (h : out.length = outlen - Q) :
    unOut buf outlen rs P Q SS SE cnt save bufto ret (out ++ sv) =
      unSt buf outlen rs P outlen SS (SE + sv.length) cnt (storeAt save SE (bytes sv)) (storeAt bufto Q (bytes out)) ret := by
  unfold unOut
  rw [← h, List.take_left, List.drop_left, List.length_append]
  congr 1 <;> omega

end

/-- the literal-block loop `while (cnt--) { if (q < endp) *q++ = *p++; else *saveend++ = *p++; }` sends the `n` bytes at `p` out -/
theorem un_loop2 (buf : List Byte) (outlen : Nat) (rs : Int) (SS : Nat) (ret : Int) :
    ∀ (n f P Q SE : Nat) (save bufto : List Int), n ≤ f → P + n ≤ buf.length → outlen ≤ bufto.length →
      SE + (n - (outlen - Q)) ≤ save.length →
      DFCIunrle.loop2 f (unSt buf outlen rs P Q SS SE (n : Int) save bufto ret) =
        unOut buf outlen rs (P + n) Q SS SE (-1) save bufto ret ((buf.drop P).take n) := by
  intro n
  induction n with
  | zero =>
    intro f P Q SE save bufto _ _ _ _
    exact (un_loop2_zero f).trans (unOut_nil ..).symm
  | succ n ih =>
    intro f P Q SE save bufto hf hP hb hs
    obtain ⟨f, rfl⟩ : ∃ g, f = g + 1 := ⟨f - 1, by omega⟩
    have hPl : P < buf.length := by omega
    rw [List.drop_eq_getElem_cons hPl, List.take_succ_cons, ← Nat.add_assoc P n 1, Nat.add_right_comm P n 1]
    by_cases hQ : Q < outlen
    · rw [un_loop2_step_out f hPl hQ hb,
        ih f (P + 1) (Q + 1) SE save _ (by omega) (by omega) (by simpa using hb) (by omega),
        unOut_cons_out _ _ hQ (by omega)]
    · rw [un_loop2_step_save f hPl hQ (by omega),
        ih f (P + 1) Q (SE + 1) _ bufto (by omega) (by omega) hb (by simp only [List.length_set]; omega),
        unOut_cons_save _ _ hQ (by omega)]

/-- the run loop `while (cnt--) { if (q < endp) *q++ = *p; else *saveend++ = *p; }` sends `n` copies of the byte at `p` out -/
theorem un_loop3 (buf : List Byte) (outlen : Nat) (rs : Int) (SS : Nat) (ret : Int) (P : Nat) (hPl : P < buf.length) :
    ∀ (n f Q SE : Nat) (save bufto : List Int), n ≤ f → outlen ≤ bufto.length →
      SE + (n - (outlen - Q)) ≤ save.length →
      DFCIunrle.loop3 f (unSt buf outlen rs P Q SS SE (n : Int) save bufto ret) =
        unOut buf outlen rs P Q SS SE (-1) save bufto ret (List.replicate n buf[P]) := by
  intro n
  induction n with
  | zero =>
    intro f Q SE save bufto _ _ _
    exact (un_loop3_zero f).trans (unOut_nil ..).symm
  | succ n ih =>
    intro f Q SE save bufto hf hb hs
    obtain ⟨f, rfl⟩ : ∃ g, f = g + 1 := ⟨f - 1, by omega⟩
    rw [List.replicate_succ]
    by_cases hQ : Q < outlen
    · rw [un_loop3_step_out f hPl hQ hb,
        ih f (Q + 1) SE save _ (by omega) (by simpa using hb) (by omega),
        unOut_cons_out _ _ hQ (by omega)]
    · rw [un_loop3_step_save f hPl hQ (by omega),
        ih f Q (SE + 1) _ bufto (by omega) hb (by simp only [List.length_set]; omega),
        unOut_cons_save _ _ hQ (by omega)]

theorem un_body (buf : List Byte) (outlen : Nat) (rs : Int) (P Q SS SE : Nat) (cnt : Int) (save bufto : List Int) (ret : Int) (f : Nat)
    (data : List Byte) (used : Nat) (hd : decPkt (buf.drop P) = some (data, used)) (hf : 127 ≤ f)
    (hb : outlen ≤ bufto.length) (hs : SE + (data.length - (outlen - Q)) ≤ save.length) :
    DFCIunrle.loop1.body (f + 1) (unSt buf outlen rs P Q SS SE cnt save bufto ret) =
      unOut buf outlen rs (P + used) Q SS SE (-1) save bufto ret data := by
  have hP : P < buf.length := drop_nonempty _ _ (by intro h; rw [h] at hd; cases hd)
  have hlen := (decPkt_bounds _ _ _ hd).1
  have e2 := getD_bytes hP
  have cp := idx_ok ((bytes_length buf).symm ▸ hP)
  have cq : 0 ≤ ((UInt8.toNat buf[P] : Nat) : Int) ∧ (0 : Int) ≤ 128 := by omega
  have e128 : Int.toNat 128 = 128 := rfl
  rw [List.drop_eq_getElem_cons hP] at hd
  simp only [decPkt, rle_consts.2.2.2] at hd
  by_cases hc : buf[P].toNat &&& 128 = 0
  · simp only [hc, if_true] at hd
    by_cases hshort : (buf.drop (P + 1)).length < buf[P].toNat
    · simp only [hshort, if_true] at hd; cases hd
    simp only [hshort, if_false, Option.some.injEq, Prod.mk.injEq] at hd
    obtain ⟨rfl, rfl⟩ := hd
    simp only [List.length_drop] at hshort
    simp only [List.length_take, List.length_drop, Nat.min_eq_left (Nat.le_of_not_lt hshort)] at hs hlen
    have c0 : ¬Int.ofNat (UInt8.toNat buf[P] &&& Int.toNat 128) ≠ 0 := by rw [e128, hc]; simp
    have h2 := un_loop2 buf outlen rs SS ret buf[P].toNat (f + 1) (P + 1) Q SE save bufto (by omega) (by omega) hb hs
    simp only [unSt, Int.natCast_add, Int.cast_ofNat_Int] at h2
    simp only [DFCIunrle.loop1.body, unSt, DFCIunrle.chk, Int.toNat_natCast, e2, c0, cp, cq, decide_true, Bool.not_true, Bool.or_false,
      if_true, and_self, not_false_eq_true, h2, Nat.add_assoc]
  · simp only [hc, if_false] at hd
    have hP1 : P + 1 < buf.length := drop_nonempty _ _ (by intro h; rw [h] at hd; cases hd)
    rw [List.drop_eq_getElem_cons hP1] at hd
    simp only [Option.some.injEq, Prod.mk.injEq, Nat.reduceSub] at hd
    obtain ⟨rfl, rfl⟩ := hd
    simp only [List.length_replicate] at hs hlen
    have c0 : Int.ofNat (UInt8.toNat buf[P] &&& Int.toNat 128) ≠ 0 := by
      rw [e128]; simp only [Int.ofNat_eq_natCast]; omega
    have ecnt : Int.ofNat (UInt8.toNat buf[P] &&& Int.toNat 127) = ((buf[P].toNat &&& 127 : Nat) : Int) := rfl
    have cr : 0 ≤ ((UInt8.toNat buf[P] : Nat) : Int) ∧ (0 : Int) ≤ 127 := by omega
    have h3 := un_loop3 buf outlen rs SS ret (P + 1) hP1 (buf[P].toNat &&& 127) (f + 1) Q SE save bufto (by omega) hb hs
    simp only [unSt, Int.natCast_add, Int.cast_ofNat_Int] at h3
    simp only [DFCIunrle.loop1.body, unSt, DFCIunrle.chk, Int.toNat_natCast, e2, c0, cp, cq, cr, ecnt, decide_true, Bool.not_true,
      Bool.or_false, if_false, and_self, not_false_eq_true, not_true_eq_false, ne_eq, h3]
    simp only [unOut, unSt, Int.natCast_add, Int.cast_ofNat_Int, Int.add_assoc, Int.reduceAdd]

theorem un_loop1_isLoop : IsLoop DFCIunrle.loop1 (fun s => s.q < s.endp) DFCIunrle.loop1.body (fun s => s) :=
  .of_eqs (fun _ => rfl) (fun _ _ => rfl)

/-- packet loop of `DFCIunrle` (`while (q < endp)`), started with an empty save area: `r.out` fills `bufto` up to `endp`, `r.save` is left
    in `save[0 .. saveend)` -/
theorem un_loop1 (buf : List Byte) (outlen : Nat) (rs : Int) (ret : Int) (mf f P Q : Nat) (cnt : Int) (save bufto : List Int) (r : Unrle)
    (hb : outlen ≤ bufto.length) (hs : 127 ≤ save.length) (hf : (buf.length - P) + 127 ≤ f)
    (hr : unrleLoop mf (buf.drop P) (outlen - Q) = some r) :
    ∃ cnt', DFCIunrle.loop1 f (unSt buf outlen rs P Q 0 0 cnt save bufto ret) =
      unOut buf outlen rs (P + r.used) Q 0 0 cnt' save bufto ret (r.out ++ r.save) := by
  refine unrleLoop_cases (motive := fun l need r => ∀ f P Q cnt bufto, l = buf.drop P → need = outlen - Q → outlen ≤ bufto.length →
      (buf.length - P) + 127 ≤ f → ∃ cnt', DFCIunrle.loop1 f (unSt buf outlen rs P Q 0 0 cnt save bufto ret) =
        unOut buf outlen rs (P + r.used) Q 0 0 cnt' save bufto ret (r.out ++ r.save)) ?_ ?_ ?_ mf _ _ r hr f P Q cnt bufto rfl rfl hb hf
  · intro l f P Q cnt bufto _ hn _ _
    exact ⟨cnt, by rw [un_loop1_isLoop.exit (by simp only [unSt]; omega)]; exact (unOut_nil ..).symm⟩
  · intro l d data used r' hd hfit hlen hu0 hul ih f P Q cnt bufto hl hn hb hf
    subst hl
    simp only [List.length_drop] at hul
    obtain ⟨f, rfl⟩ : ∃ g, f = g + 1 := ⟨f - 1, by omega⟩
    rw [un_loop1_isLoop.pass (by simp only [unSt]; omega), un_body buf outlen rs P Q 0 0 cnt save bufto ret f data used hd (by omega) hb (by omega),
      unOut_fits _ (by omega)]
    obtain ⟨cnt', h'⟩ := ih f (P + used) (Q + data.length) (-1) (storeAt bufto Q (bytes data)) (List.drop_drop ..) (by omega)
      (by rw [length_storeAt _ _ _ (by simp only [bytes_length]; omega)]; exact hb) (by omega)
    exact ⟨cnt', by rw [h', unOut_append _ _ (by omega) (by omega), Nat.add_assoc, List.append_assoc]⟩
  · intro l d data used hd hc hlen hu0 hul f P Q cnt bufto hl hn hb hf
    subst hl
    simp only [List.length_drop] at hul
    obtain ⟨f, rfl⟩ : ∃ g, f = g + 1 := ⟨f - 1, by omega⟩
    rw [un_loop1_isLoop.pass (by simp only [unSt]; omega), un_body buf outlen rs P Q 0 0 cnt save bufto ret f data used hd (by omega) hb (by omega)]
    exact ⟨-1, by rw [un_loop1_isLoop.exit (by simp only [unOut, unSt]; omega), List.take_append_drop]⟩

section
variable {buf : List Byte} {outlen : Nat} {rs : Int} {P Q SS SE : Nat} {cnt : Int} {save bufto : List Int} {ret : Int}

theorem un_loop0_isLoop : IsLoop DFCIunrle.loop0 (fun s => s.saveend > s.savestart ∧ s.q < s.endp) DFCIunrle.loop0.body (fun s => s) :=
  .of_eqs (fun _ => rfl) (fun _ _ => rfl)

theorem un_loop0_step (f : Nat) (h1 : SS < SE) (hQ : Q < outlen) (hb : outlen ≤ bufto.length) (hs : SE ≤ save.length) :
    DFCIunrle.loop0 (f + 1) (unSt buf outlen rs P Q SS SE cnt save bufto ret) =
      DFCIunrle.loop0 f (unSt buf outlen rs P (Q + 1) (SS + 1) SE cnt save (bufto.set Q (save.getD SS 0)) ret) := by
  rw [un_loop0_isLoop.pass (by simp only [unSt]; omega)]
  simp only [unSt, DFCIunrle.loop0.body, DFCIunrle.chk, Int.toNat_natCast, idx_ok (Nat.lt_of_lt_of_le h1 hs),
    idx_ok (Nat.lt_of_lt_of_le hQ hb), and_self, decide_true, Bool.not_true, Bool.or_false, Int.natCast_add, Int.cast_ofNat_Int]

end

/-- the first loop of `DFCIunrle`, `while (saveend > savestart && q < endp) *q++ = *savestart++;` -/
theorem un_loop0 (buf : List Byte) (outlen : Nat) (rs : Int) (P SE : Nat) (cnt : Int) (save : List Int) (ret : Int) (hs : SE ≤ save.length) :
    ∀ (c f Q SS : Nat) (bufto : List Int), SS + c ≤ SE → Q + c ≤ outlen → SS + c = SE ∨ Q + c = outlen → c ≤ f → outlen ≤ bufto.length →
      DFCIunrle.loop0 f (unSt buf outlen rs P Q SS SE cnt save bufto ret) =
        unSt buf outlen rs P (Q + c) (SS + c) SE cnt save (storeAt bufto Q ((save.drop SS).take c)) ret := by
  intro c
  induction c with
  | zero =>
    intro f Q SS bufto _ _ hstop _ _
    rw [un_loop0_isLoop.exit (by simp only [unSt]; omega), List.take_zero, storeAt_nil]; rfl
  | succ c ih =>
    intro f Q SS bufto h1 h2 hstop hf hb
    obtain ⟨f, rfl⟩ : ∃ g, f = g + 1 := ⟨f - 1, by omega⟩
    have hSS : SS < save.length := by omega
    rw [un_loop0_step _ (by omega) (by omega) hb hs,
      ih f (Q + 1) (SS + 1) _ (by omega) (by omega) (by omega) (by omega) (by simpa using hb),
      List.drop_eq_getElem_cons hSS, List.take_succ_cons, ← storeAt_set _ _ _ _ (by omega), List.getD_eq_getElem?_getD,
      List.getElem?_eq_getElem hSS, Option.getD_some, Nat.add_right_comm Q, Nat.add_right_comm SS, Nat.add_assoc Q, Nat.add_assoc SS]

/-- `if (savestart >= saveend) savestart = saveend = save;` -/
def unReset (s : DFCIunrle.St) : DFCIunrle.St :=
  if (s.savestart ≥ s.saveend) then
    have s : DFCIunrle.St := DFCIunrle.St.set_saveend s (0)
    have s : DFCIunrle.St := DFCIunrle.St.set_savestart s (s.saveend)
    s
  else
    s

/-- the statements of `DFCIunrle` after `if (resetsave) savestart = saveend = save;` -/
def unRest (fuel : Nat) (s : DFCIunrle.St) : DFCIunrle.St :=
  have s : DFCIunrle.St := DFCIunrle.loop1 fuel (unReset (DFCIunrle.loop0 fuel s))
  DFCIunrle.St.set_ret s ((s.p - 0))

theorem un_unfold_reset (fuel : Nat) (buf : List Byte) (out save : List Int) (outlen : Nat) (ss se : Int) :
    Gen.Fn.Dfrle.DFCIunrle fuel (bytes buf) out outlen 1 save ss se = unRest fuel (unSt buf outlen 1 0 0 0 0 0 save out 0) := by
  exact (congrArg (fun e => unRest fuel { unSt buf outlen 1 0 0 0 0 0 save out 0 with endp := e }) (Int.zero_add (outlen : Int)) :)
theorem un_unfold_cont (fuel : Nat) (buf : List Byte) (out save : List Int) (outlen : Nat) (SS SE : Nat) :
    Gen.Fn.Dfrle.DFCIunrle fuel (bytes buf) out outlen 0 save SS SE = unRest fuel (unSt buf outlen 0 0 0 SS SE 0 save out 0) := by
  exact (congrArg (fun e => unRest fuel { unSt buf outlen 0 0 0 SS SE 0 save out 0 with endp := e }) (Int.zero_add (outlen : Int)) :)

theorem un_reset (buf : List Byte) (outlen : Nat) (rs : Int) (P Q SS SE : Nat) (cnt : Int) (save bufto : List Int) (ret : Int) :
    unReset (unSt buf outlen rs P Q SS SE cnt save bufto ret) =
      if SE ≤ SS then unSt buf outlen rs P Q 0 0 cnt save bufto ret else unSt buf outlen rs P Q SS SE cnt save bufto ret := by
  by_cases h : SE ≤ SS
  · rw [if_pos h, unReset, if_pos (by simp only [unSt]; omega)]; rfl
  · rw [if_neg h, unReset, if_neg (by simp only [unSt]; omega)]

/-- `s` is a variable with an equation (`hs'`), not the term: the callers meet it with the `let s := DFCIunrle ..` of their statements through `un_unfold_*`,
    without `DFCIunrle` being unfolded in their goals -/
theorem un_rest (buf : List Byte) (outlen : Nat) (rs : Int) (SS SE : Nat) (save out : List Int) (fuel : Nat) (msave : List Byte) (r : Unrle)
    (h1 : SS ≤ SE) (h2 : SE ≤ save.length) (hreg : (save.drop SS).take (SE - SS) = bytes msave) (hout : outlen ≤ out.length)
    (hs : 127 ≤ save.length) (hf1 : save.length ≤ fuel) (hf2 : buf.length + 127 ≤ fuel)
    (hr : DFCIunrleS msave buf outlen false = some r) (s : DFCIunrle.St) (hs' : s = unRest fuel (unSt buf outlen rs 0 0 SS SE 0 save out 0)) :
    s.ub = false ∧ s.oof = false ∧ s.ret = (r.used : Int) ∧ s.bufto = bytes r.out ++ out.drop outlen ∧
    ∃ SS' SE' : Nat, s.savestart = (SS' : Int) ∧ s.saveend = (SE' : Int) ∧ SS' ≤ SE' ∧ SE' ≤ save.length ∧
      s.save.length = save.length ∧ (s.save.drop SS').take (SE' - SS') = bytes r.save := by
  subst hs'
  have hml : msave.length = SE - SS := by
    have := congrArg List.length hreg
    simp only [List.length_take, List.length_drop, bytes_length] at this; omega
  rw [← hml] at hreg
  simp only [DFCIunrleS, Bool.false_eq_true, if_false] at hr
  by_cases hlt : msave.length < outlen
  · rw [if_pos hlt] at hr
    obtain ⟨r', hr', rfl⟩ := Option.map_eq_some_iff.mp hr
    obtain ⟨l1, l2⟩ := unrleLoop_lens _ _ _ _ hr'
    obtain ⟨cnt', e2⟩ := un_loop1 buf outlen rs 0 (buf.length + 1) fuel 0 (0 + msave.length) 0 save (storeAt out 0 (bytes msave)) r'
      (by rw [length_storeAt _ _ _ (by simp; omega)]; exact hout) hs (by omega) (by simpa using hr')
    rw [unOut_append _ _ (by omega) (Nat.zero_le _), ← List.append_assoc,
      unOut_exact _ _ (Nat.zero_le _) (by rw [List.length_append]; omega)] at e2
    have e : unRest fuel (unSt buf outlen rs 0 0 SS SE 0 save out 0) =
        { unSt buf outlen rs (0 + r'.used) outlen 0 (0 + r'.save.length) cnt' (storeAt save 0 (bytes r'.save))
            (storeAt out 0 (bytes (msave ++ r'.out))) 0 with ret := ((0 + r'.used : Nat) : Int) - 0 } := by
      unfold unRest
      rw [un_loop0 buf outlen rs 0 SE 0 save 0 h2 msave.length fuel 0 SS out (by omega) (by omega) (Or.inl (by omega)) (by omega) hout,
        hreg, un_reset, if_pos (by omega), e2]
      rfl
    rw [e, List.take_of_length_le (by omega)]
    refine ⟨rfl, rfl, by simp, ?_, 0, r'.save.length, rfl, by simp [unSt], by omega, by omega, ?_, ?_⟩
    · simp only [unSt, storeAt_zero, bytes_length, List.length_append, l1]
      congr 2; omega
    · simp only [unSt]; rw [length_storeAt _ _ _ (by simp; omega)]
    · simp only [unSt, storeAt_zero, List.drop_zero, Nat.sub_zero]
      rw [List.take_append_of_le_length (by simp), List.take_of_length_le (by simp)]
  · rw [if_neg hlt, Option.some.injEq] at hr
    subst hr
    have hlen : (msave.take outlen).length = outlen := by rw [List.length_take]; omega
    have e : unRest fuel (unSt buf outlen rs 0 0 SS SE 0 save out 0) =
        DFCIunrle.St.set_ret (if SE ≤ SS + outlen then unSt buf outlen rs 0 (0 + outlen) 0 0 0 save (storeAt out 0 (bytes (msave.take outlen))) 0
            else unSt buf outlen rs 0 (0 + outlen) (SS + outlen) SE 0 save (storeAt out 0 (bytes (msave.take outlen))) 0) (((0 : Nat) : Int) - 0) := by
      unfold unRest
      rw [un_loop0 buf outlen rs 0 SE 0 save 0 h2 outlen fuel 0 SS out (by omega) (by omega) (Or.inr (by omega)) (by omega) hout,
        show (save.drop SS).take outlen = bytes (msave.take outlen) by
          rw [bytes_take, ← hreg, List.take_take, Nat.min_eq_left (by omega)],
        un_reset, un_loop1_isLoop.exit (by split <;> (simp only [unSt]; omega))]
      split <;> rfl
    rw [e, storeAt_zero, bytes_length, hlen]
    by_cases hall : SE ≤ SS + outlen
    · rw [if_pos hall]
      refine ⟨rfl, rfl, by simp, rfl, 0, 0, rfl, rfl, Nat.le_refl _, Nat.zero_le _, rfl, ?_⟩
      rw [show msave.drop outlen = [] from List.drop_of_length_le (by omega)]; rfl
    · rw [if_neg hall]
      refine ⟨rfl, rfl, by simp, rfl, SS + outlen, SE, rfl, rfl, by omega, h2, rfl, ?_⟩
      simp only [unSt]
      rw [bytes_drop, ← hreg, List.drop_take, List.drop_drop]
      congr 1; omega

end H4.Lemmas.C15Fn
