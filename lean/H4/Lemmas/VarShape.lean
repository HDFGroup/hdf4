import H4.VarShape
import H4.Lemmas.C2L
import H4.Lemmas.Slab
/-! The model `H4.VarShape` by itself (C03, C20): `dot`, `inExtents` and `prod` at a suffix, the cells of `dsizes` as products `subSize` of a suffix of the shape, when
    the values `NC_var_shape` stores (`dsC`, `lenAt`: reduced modulo 2^64) are the unbounded ones, and `voRaw`, what `NC_varoffset` computes from the stored `dsizes`. -/
namespace H4.Lemmas.C03Fn2
open H4.Slab H4.VarShape H4.C2L

theorem dot_nil_right (D : List Nat) : dot D [] = 0 := by cases D <;> rfl

theorem dot_drop (D C : List Nat) (j : Nat) (hD : j < D.length) (hC : j < C.length) :
    dot (D.drop j) (C.drop j) = D.getD j 0 * C.getD j 0 + dot (D.drop (j + 1)) (C.drop (j + 1)) := by
  rw [drop_cons_getD D j hD, drop_cons_getD C j hC, dot, List.getD_eq_getElem?_getD, List.getD_eq_getElem?_getD]

theorem dot_dsizes (xszof : Nat) : ∀ (shape coords : List Nat), dot (dsizes xszof shape) coords = offset shape coords * xszof := by
  intro shape
  induction shape with
  | nil => intro coords; simp [dsizes, strides, dot, offset]
  | cons x xs ih =>
    intro coords
    cases coords with
    | nil => simp [dsizes, strides, dot, offset]
    | cons c cs =>
      have := ih cs
      simp only [dsizes] at this
      simp only [dsizes, strides, List.map_cons, dot, offset, this]
      rw [Nat.add_mul, Nat.mul_comm (prod xs * xszof) c, Nat.mul_assoc]

theorem dsizes_length (xszof : Nat) (shape : List Nat) : (dsizes xszof shape).length = shape.length := by
  induction shape with
  | nil => rfl
  | cons x xs ih => simp [dsizes, strides] at ih ⊢; exact ih

theorem dsizes_tail (xszof : Nat) (shape : List Nat) : (dsizes xszof shape).drop 1 = dsizes xszof (shape.drop 1) := by
  cases shape <;> simp [dsizes, strides]

theorem dot_mod (D C : List Nat) : dot (D.map (· % W)) C % W = dot D C % W := by
  induction D generalizing C with
  | nil => rfl
  | cons d ds ih =>
    cases C with
    | nil => rfl
    | cons c cs =>
      simp only [List.map_cons, dot]
      rw [Nat.add_mod, Nat.mul_mod, Nat.mod_mod, ← Nat.mul_mod, ih cs, ← Nat.add_mod]

/-- `xszof * shape[k] * … * shape[n-1]`, unbounded -/
def subSize (x : Nat) (S : List Nat) (k : Nat) : Nat := prod (S.drop k) * x

theorem subSize_length (x : Nat) (S : List Nat) : subSize x S S.length = x := by simp [subSize, prod]

theorem prod_drop (S : List Nat) (k : Nat) (h : k < S.length) : prod (S.drop k) = S.getD k 0 * prod (S.drop (k + 1)) := by
  rw [drop_cons_getD S k h]; simp [prod, List.getD_eq_getElem?_getD]

theorem subSize_step (x : Nat) (S : List Nat) (k : Nat) (h : k < S.length) : subSize x S k = subSize x S (k + 1) * S.getD k 0 := by
  unfold subSize; rw [prod_drop S k h, Nat.mul_assoc, Nat.mul_comm (S.getD k 0), Nat.mul_assoc, Nat.mul_comm x]

theorem strides_getD : ∀ (S : List Nat) (k : Nat), k < S.length → (strides S).getD k 0 = prod (S.drop (k + 1)) := by
  intro S
  induction S with
  | nil => intro k h; simp at h
  | cons a t ih =>
    intro k h
    cases k with
    | zero => simp [strides, List.getD_eq_getElem?_getD]
    | succ j =>
      have := ih j (by simpa using h)
      simpa [strides, List.getD_eq_getElem?_getD] using this

theorem strides_length (S : List Nat) : (strides S).length = S.length := by
  induction S with
  | nil => rfl
  | cons a t ih => simp [strides, ih]

theorem dsizes_getD (x : Nat) (S : List Nat) (k : Nat) (h : k < S.length) : (dsizes x S).getD k 0 = subSize x S (k + 1) := by
  have hl : k < (strides S).length := by rw [strides_length]; exact h
  have := strides_getD S k h
  simp only [List.getD_eq_getElem?_getD, List.getElem?_eq_getElem hl, Option.getD_some] at this
  simp [dsizes, subSize, List.getD_eq_getElem?_getD, List.getElem?_map, List.getElem?_eq_getElem hl, this]

theorem varLen_cases (x : Nat) (S : List Nat) (h : 0 < S.length) :
    varLen x S = if S.getD 0 0 = 0 then subSize x S 1 else subSize x S 0 := by
  cases S with
  | nil => simp at h
  | cons a t =>
    simp only [varLen, recProd, subSize, H4.Gen.Ncvar.NC_UNLIMITED]
    by_cases ha : a = 0
    · simp [ha, List.getD_eq_getElem?_getD]
    · simp [ha, prod, List.getD_eq_getElem?_getD]

/-- the stored `dsizes` (every product reduced modulo 2^64) -/
def dsC (x : Nat) (S : List Nat) : List Nat := (dsizes x S).map (· % W)

theorem dsC_length (x : Nat) (S : List Nat) : (dsC x S).length = S.length := by simp [dsC, dsizes_length]

theorem dsC_getD (x : Nat) (S : List Nat) (k : Nat) (h : k < S.length) : (dsC x S).getD k 0 = subSize x S (k + 1) % W := by
  have hl : k < (dsizes x S).length := by rw [dsizes_length]; exact h
  have := dsizes_getD x S k h
  simp only [List.getD_eq_getElem?_getD, List.getElem?_eq_getElem hl, Option.getD_some] at this
  simp [dsC, List.getD_eq_getElem?_getD, List.getElem?_map, List.getElem?_eq_getElem hl, this]

/-- `var->len` when the cursor of the second loop stands at index `m - 1` (`m = 0`: after the loop) -/
def lenAt (x : Nat) (S : List Nat) (m : Nat) : Nat := if m = 0 then varLen x S % W else subSize x S m % W

theorem lenAt_zero (x : Nat) (S : List Nat) : lenAt x S 0 = varLen x S % W := rfl

theorem lenAt_succ (x : Nat) (S : List Nat) (j : Nat) : lenAt x S (j + 1) = subSize x S (j + 1) % W := rfl

theorem lenAt_step (x : Nat) (S : List Nat) (m : Nat) (hm : m < S.length) :
    (if m ≠ 0 ∨ S.getD m 0 ≠ 0 then (subSize x S (m + 1) % W * S.getD m 0) % W else subSize x S (m + 1) % W) = lenAt x S m := by
  unfold lenAt
  have hmm : (subSize x S (m + 1) % W * S.getD m 0) % W = subSize x S m % W := by
    rw [subSize_step x S m hm, Nat.mul_mod (subSize x S (m + 1) % W), Nat.mod_mod, ← Nat.mul_mod]
  by_cases h0 : m = 0
  · subst h0
    rw [varLen_cases x S hm]
    by_cases hz : S.getD 0 0 = 0
    · simp only [hz, ne_eq, not_true_eq_false, or_self, if_false, if_true]
    · simp only [hz, ne_eq, not_true_eq_false, not_false_eq_true, or_true, if_true, if_false, hmm]
  · simp only [h0, ne_eq, not_false_eq_true, true_or, if_true, if_false, hmm]

theorem shapeOf_length (dimsizes : List Nat) : ∀ (ids : List Int) (f : Bool) (S : List Nat), shapeOf dimsizes f ids = some S → S.length = ids.length := by
  intro ids
  induction ids with
  | nil => intro f S h; simp [shapeOf] at h; subst h; rfl
  | cons a t ih =>
    intro f S h
    simp only [shapeOf] at h
    split at h
    · exact absurd h (by simp)
    · split at h
      · exact absurd h (by simp)
      · cases hr : shapeOf dimsizes false t with
        | none => rw [hr] at h; simp at h
        | some r => rw [hr] at h; simp at h; subst h; simp [ih false r hr]

theorem shapeOf_pos (dimsizes : List Nat) : ∀ (ids : List Int) (f : Bool) (S : List Nat), shapeOf dimsizes f ids = some S →
    ∀ k, k < S.length → (f = false ∨ 1 ≤ k) → S.getD k 0 ≠ 0 := by
  intro ids
  induction ids with
  | nil => intro f S h k hk; simp [shapeOf] at h; subst h; simp at hk
  | cons a t ih =>
    intro f S h k hk hf
    simp only [shapeOf] at h
    split at h
    · exact absurd h (by simp)
    · split at h
      · exact absurd h (by simp)
      · rename_i hnb hnu
        cases hr : shapeOf dimsizes false t with
        | none => rw [hr] at h; simp at h
        | some r =>
          rw [hr] at h; simp at h; subst h
          cases k with
          | zero =>
            rcases hf with hf | hf
            · simp only [H4.Gen.Ncvar.NC_UNLIMITED] at hnu
              simp only [List.getD_cons_zero]
              intro hz; exact hnu ⟨hz, hf⟩
            · omega
          | succ j =>
            simp only [List.getD_cons_succ]
            exact ih false r hr j (by simpa using hk) (Or.inl rfl)

theorem inExtents_nil_right (S : List Nat) : inExtents S [] = true := by cases S <;> rfl

theorem inExtents_drop (S : List Nat) (C : List Int) (j : Nat) (hS : j < S.length) (hC : j < C.length) :
    inExtents (S.drop j) (C.drop j) =
      (decide (0 ≤ C.getD j 0) && decide (C.getD j 0 < (S.getD j 0 : Int)) && inExtents (S.drop (j + 1)) (C.drop (j + 1))) := by
  rw [List.drop_eq_getElem_cons hS, List.drop_eq_getElem_cons hC, inExtents, List.getD_eq_getElem?_getD, List.getD_eq_getElem?_getD,
    List.getElem?_eq_getElem hS, List.getElem?_eq_getElem hC]; rfl

theorem inExtents_drop_false (S : List Nat) (C : List Int) (b : Nat) : ∀ k, b + k ≤ S.length → b + k ≤ C.length →
    inExtents (S.drop (b + k)) (C.drop (b + k)) = false → inExtents (S.drop b) (C.drop b) = false := by
  intro k
  induction k with
  | zero => exact fun _ _ h => h
  | succ k ih =>
    intro h1 h2 h
    refine ih (Nat.le_of_lt h1) (Nat.le_of_lt h2) ?_
    rw [inExtents_drop S C (b + k) h1 h2, show b + k + 1 = b + (k + 1) from rfl, h, Bool.and_false]

theorem subSize_le_one (x : Nat) (S : List Nat) (hp : ∀ k, 1 ≤ k → k < S.length → S.getD k 0 ≠ 0) :
    ∀ j, 1 + j ≤ S.length → subSize x S (1 + j) ≤ subSize x S 1 := by
  intro j
  induction j with
  | zero => intro _; exact Nat.le_refl _
  | succ i ih =>
    intro h
    have h1 := ih (by omega)
    have hs := subSize_step x S (1 + i) (by omega)
    have hz := hp (1 + i) (by omega) (by omega)
    have : subSize x S (1 + i + 1) ≤ subSize x S (1 + i + 1) * S.getD (1 + i) 0 := Nat.le_mul_of_pos_right _ (by omega)
    rw [show 1 + (i + 1) = 1 + i + 1 by omega]
    omega

theorem subSize_one_le_varLen (x : Nat) (S : List Nat) (h : 0 < S.length) : subSize x S 1 ≤ varLen x S := by
  rw [varLen_cases x S h]
  by_cases hz : S.getD 0 0 = 0
  · simp only [hz, if_true]; exact Nat.le_refl _
  · simp only [hz, if_false]
    rw [subSize_step x S 0 h]
    exact Nat.le_mul_of_pos_right _ (by omega)

theorem dsizes_le_varLen (x : Nat) (S : List Nat) (hp : ∀ k, 1 ≤ k → k < S.length → S.getD k 0 ≠ 0) (k : Nat) (hk : k < S.length) :
    (dsizes x S).getD k 0 ≤ varLen x S := by
  rw [dsizes_getD x S k hk]
  have := subSize_le_one x S hp k (by omega)
  rw [show 1 + k = k + 1 by omega] at this
  exact Nat.le_trans this (subSize_one_le_varLen x S (by omega))

theorem map_mod_eq (l : List Nat) (h : ∀ d ∈ l, d < W) : l.map (· % W) = l := by
  induction l with
  | nil => rfl
  | cons a t ih =>
    simp only [List.map_cons]
    rw [Nat.mod_eq_of_lt (h a (by simp)), ih (fun d hd => h d (by simp [hd]))]

theorem le_roundLen (ft ty L : Nat) : L ≤ roundLen ft ty L := by
  unfold roundLen; split <;> omega

theorem stored_eq_iff (x ft ty : Nat) (S : List Nat) (hp : ∀ k, 1 ≤ k → k < S.length → S.getD k 0 ≠ 0) :
    (dsC x S = dsizes x S ∧ roundLen ft ty (varLen x S % W) % W = roundLen ft ty (varLen x S)) ↔ roundLen ft ty (varLen x S) < W := by
  constructor
  · intro ⟨_, h⟩
    rw [← h]; exact Nat.mod_lt _ (by simp [W])
  · intro h
    have hv : varLen x S < W := Nat.lt_of_le_of_lt (le_roundLen ft ty _) h
    refine ⟨?_, ?_⟩
    · apply map_mod_eq
      intro d hd
      obtain ⟨i, hi, rfl⟩ := List.getElem_of_mem hd
      have hi' : i < S.length := by rw [dsizes_length] at hi; exact hi
      have := dsizes_le_varLen x S hp i hi'
      simp only [List.getD_eq_getElem?_getD, List.getElem?_eq_getElem hi, Option.getD_some] at this
      omega
    · rw [Nat.mod_eq_of_lt hv, Nat.mod_eq_of_lt h]

theorem inExtents_iff_inB : ∀ (S C : List Nat), C.length = S.length → (inExtents S (C.map Int.ofNat) = true ↔ inB S C) := by
  intro S
  induction S with
  | nil => intro C h; cases C with
    | nil => simp [inExtents, inB]
    | cons c cs => simp at h
  | cons a t ih =>
    intro C h
    cases C with
    | nil => simp at h
    | cons c cs =>
      have := ih cs (by simpa using h)
      simp only [List.map_cons, inExtents, inB, Bool.and_eq_true, decide_eq_true_eq, this, Int.ofNat_eq_natCast]
      constructor
      · intro ⟨⟨_, h2⟩, h3⟩; exact ⟨by omega, h3⟩
      · intro ⟨h2, h3⟩; exact ⟨⟨by omega, by omega⟩, h3⟩

/-- what `NC_varoffset` returns, unbounded, in terms of the stored `dsizes` (`D`).  The C code takes every file type but `HDF_FILE` (1) for netCDF; the model
    `VarShape.varOffset` (in terms of the shape) answers 0 for a type that is neither, so the two agree for `ft = 0 ∨ ft = 1` only (`voRaw_model`). -/
def voRaw (ft begin recsize : Nat) (isRec : Bool) (D C : List Nat) : Nat :=
  if ft = 1 then dot D C
  else if isRec then begin + recsize * C.getD 0 0 + dot (D.drop 1) (C.drop 1) else begin + dot D C

theorem voRaw_model (ft begin recsize x : Nat) (S C : List Nat) (hpos : 0 < S.length) (hC : C.length = S.length) (hft : ft = 0 ∨ ft = 1) :
    voRaw ft begin recsize (S.getD 0 0 == 0) (dsC x S) C % W = varOffset ft begin recsize x S C % W := by
  cases S with
  | nil => simp at hpos
  | cons a t =>
    cases C with
    | nil => simp at hC
    | cons c cs =>
      have hd : dot (dsC x (a :: t)) (c :: cs) % W = offset (a :: t) (c :: cs) * x % W := by
        rw [dsC, dot_mod, dot_dsizes]
      have hd1 : dot ((dsC x (a :: t)).drop 1) ((c :: cs).drop 1) % W = offset t cs * x % W := by
        have : (dsC x (a :: t)).drop 1 = dsC x t := by simp [dsC, dsizes, strides]
        rw [this, dsC, dot_mod, dot_dsizes]; simp
      simp only [voRaw, varOffset, H4.Gen.Ncvar.HDF_FILE, H4.Gen.Ncvar.netCDF_FILE, H4.Gen.Ncvar.NC_UNLIMITED, List.getD_cons_zero, beq_iff_eq,
        List.headD_cons, List.tail_cons]
      rcases hft with rfl | rfl
      · simp only [show ¬ (0 = 1) by decide, if_false, if_true]
        by_cases ha : a = 0
        · subst ha
          simp only [if_true]
          rw [Nat.add_mod, hd1, ← Nat.add_mod]
        · simp only [ha, if_false]
          rw [Nat.add_mod, hd, ← Nat.add_mod]
      · simp only [if_true]
        exact hd

end H4.Lemmas.C03Fn2
