import H4.Bits
namespace H4.Bits

@[simp] theorem length_msbBits (w n : Nat) : (msbBits w n).length = w := by
  induction w with
  | zero => rfl
  | succ w ih => simp [msbBits, ih]

theorem msbBits_congr {w n m : Nat} (h : ∀ i, i < w → n.testBit i = m.testBit i) : msbBits w n = msbBits w m := by
  induction w with
  | zero => rfl
  | succ w ih =>
    simp only [msbBits]
    rw [h w (by omega), ih (fun i hi => h i (by omega))]

theorem msbBits_mod {w k : Nat} (n : Nat) (h : w ≤ k) : msbBits w (n % 2 ^ k) = msbBits w n := by
  apply msbBits_congr
  intro i hi
  rw [Nat.testBit_mod_two_pow]
  simp [show i < k by omega]

theorem msbBits_add (a b n : Nat) : msbBits (a + b) n = msbBits a (n / 2 ^ b) ++ msbBits b n := by
  induction a with
  | zero => simp [msbBits]
  | succ a ih =>
    have : a + 1 + b = (a + b) + 1 := by omega
    rw [this]
    simp only [msbBits, List.cons_append]
    rw [ih, Nat.testBit_div_two_pow]

theorem msbBits_succ_right (w n : Nat) : msbBits (w + 1) n = msbBits w (n / 2) ++ [n.testBit 0] := by
  have := msbBits_add w 1 n
  simpa [msbBits] using this

theorem ofBits_append (l1 l2 : List Bool) : ofBits (l1 ++ l2) = ofBits l1 * 2 ^ l2.length + ofBits l2 := by
  unfold ofBits
  rw [List.foldl_append]
  generalize List.foldl (fun a b => 2 * a + b.toNat) 0 l1 = x
  induction l2 generalizing x with
  | nil => simp
  | cons b l ih =>
    simp only [List.foldl_cons, List.length_cons]
    rw [ih (2 * x + b.toNat), ih (2 * 0 + b.toNat)]
    rw [Nat.pow_succ]
    simp [Nat.add_mul, Nat.mul_assoc, Nat.mul_comm, Nat.add_assoc]

theorem ofBits_singleton (b : Bool) : ofBits [b] = b.toNat := by simp [ofBits]

theorem ofBits_cons (b : Bool) (l : List Bool) : ofBits (b :: l) = b.toNat * 2 ^ l.length + ofBits l := by
  have := ofBits_append [b] l
  simpa [ofBits_singleton] using this

theorem ofBits_lt (l : List Bool) : ofBits l < 2 ^ l.length := by
  induction l with
  | nil => simp [ofBits]
  | cons b l ih =>
    rw [ofBits_cons, List.length_cons, Nat.pow_succ]
    cases b <;> simp <;> omega

theorem ofBits_msbBits (w n : Nat) : ofBits (msbBits w n) = n % 2 ^ w := by
  induction w generalizing n with
  | zero => simp [msbBits, ofBits, Nat.mod_one]
  | succ w ih =>
    rw [msbBits_succ_right, ofBits_append, ih, ofBits_singleton]
    simp only [List.length_cons, List.length_nil, Nat.zero_add, Nat.pow_one]
    have h1 : (n.testBit 0).toNat = n % 2 := by
      rw [Nat.testBit_zero]; rcases Nat.mod_two_eq_zero_or_one n with h | h <;> simp [h]
    rw [h1, Nat.pow_succ]
    have := Nat.mod_mul_right_div_self n 2 (2 ^ w)
    have h2 : n % (2 ^ w * 2) = n % (2 * 2 ^ w) := by rw [Nat.mul_comm]
    rw [h2, Nat.mod_mul]
    omega

theorem msbBits_ofBits (l : List Bool) : msbBits l.length (ofBits l) = l := by
  induction l with
  | nil => rfl
  | cons b l ih =>
    rw [ofBits_cons, List.length_cons]
    simp only [msbBits]
    have hlt := ofBits_lt l
    have h1 : (b.toNat * 2 ^ l.length + ofBits l).testBit l.length = b := by
      rw [Nat.mul_comm, Nat.testBit_two_pow_mul_add _ hlt]
      cases b <;> simp
    have h2 : msbBits l.length (b.toNat * 2 ^ l.length + ofBits l) = msbBits l.length (ofBits l) := by
      apply msbBits_congr
      intro i hi
      rw [Nat.mul_comm, Nat.testBit_two_pow_mul_add _ hlt]
      simp [hi]
    rw [h1, h2, ih]

theorem msbBits_eq_of_mod {w n m : Nat} (h : n % 2 ^ w = m % 2 ^ w) : msbBits w n = msbBits w m := by
  rw [← msbBits_mod n (Nat.le_refl w), ← msbBits_mod m (Nat.le_refl w), h]

@[simp] theorem bytesBits_nil : bytesBits [] = [] := rfl
theorem bytesBits_cons (b : UInt8) (l : List UInt8) : bytesBits (b :: l) = msbBits 8 b.toNat ++ bytesBits l := by
  simp [bytesBits]
theorem bytesBits_append (a b : List UInt8) : bytesBits (a ++ b) = bytesBits a ++ bytesBits b := by
  simp [bytesBits]
@[simp] theorem length_bytesBits (l : List UInt8) : (bytesBits l).length = 8 * l.length := by
  induction l with
  | nil => rfl
  | cons b l ih => rw [bytesBits_cons]; simp [ih]; omega
theorem bytesBits_singleton (b : UInt8) : bytesBits [b] = msbBits 8 b.toNat := by simp [bytesBits]

theorem drop_bytesBits (l : List UInt8) (B : Nat) : (bytesBits l).drop (8 * B) = bytesBits (l.drop B) := by
  induction B generalizing l with
  | zero => simp
  | succ B ih =>
    cases l with
    | nil => simp
    | cons b l =>
      rw [bytesBits_cons, List.drop_append, List.drop_of_length_le (by simp; omega), List.nil_append, length_msbBits,
        show 8 * (B + 1) - 8 = 8 * B by omega, ih]
      simp

theorem byte_of_bits (l : List UInt8) (i : Nat) (h : i < l.length) :
    l[i].toNat = ofBits (((bytesBits l).drop (8 * i)).take 8) := by
  rw [drop_bytesBits, List.drop_eq_getElem_cons h, bytesBits_cons, List.take_left' (length_msbBits 8 _), ofBits_msbBits]
  exact (Nat.mod_eq_of_lt (UInt8.toNat_lt _)).symm

theorem fieldsBits_cons (f : Nat × Nat) (fs : List (Nat × Nat)) : fieldsBits (f :: fs) = msbBits f.1 f.2 ++ fieldsBits fs := by
  simp [fieldsBits]
theorem fieldsBits_append (a b : List (Nat × Nat)) : fieldsBits (a ++ b) = fieldsBits a ++ fieldsBits b := by
  simp [fieldsBits]
@[simp] theorem fieldsBits_nil : fieldsBits [] = [] := rfl

theorem toNat_ofNat_byte (n : Nat) : (UInt8.ofNat n).toNat = n % 256 := by
  simp [UInt8.toNat_ofNat']

theorem fieldsBits_filter (l : List (Nat × Nat)) :
    fieldsBits (l.filter fun e => e.1 > 0) = fieldsBits l := by
  induction l with
  | nil => rfl
  | cons f fs ih =>
    by_cases h : f.1 > 0
    · simp [h, fieldsBits_cons, ih]
    · have h0 : f.1 = 0 := by omega
      simp [fieldsBits_cons, ih, h0, msbBits]

theorem length_fieldsBits (fs : List (Nat × Nat)) : (fieldsBits fs).length = (fs.map (·.1)).sum := by
  induction fs with
  | nil => rfl
  | cons f fs ih => simp [fieldsBits_cons, length_msbBits, ih]

theorem msbBits_push (k v : Nat) (bit : Bool) (hv : v < 2 ^ k) :
    msbBits (k + 1) (if bit then v ||| 2 ^ k else v) = bit :: msbBits k v := by
  simp only [msbBits]
  cases bit
  · simp [Nat.testBit_lt_two_pow hv]
  · simp only [if_true]
    congr 1
    · simp [Nat.testBit_or, Nat.testBit_two_pow_self]
    · apply msbBits_congr
      intro i hi
      simp [Nat.testBit_or, Nat.testBit_two_pow]
      omega

theorem div_of_mul_add {q k d : Nat} (hd : d < 2 ^ k) : (q * 2 ^ k + d) / 2 ^ k = q := by
  rw [Nat.mul_comm, Nat.mul_add_div (Nat.two_pow_pos k), Nat.div_eq_of_lt hd]; omega

theorem msbBits_mul_add {q k d : Nat} (hd : d < 2 ^ k) (a : Nat) :
    msbBits (a + k) (q * 2 ^ k + d) = msbBits a q ++ msbBits k d := by
  rw [msbBits_add, div_of_mul_add hd]
  congr 1
  apply msbBits_eq_of_mod
  rw [Nat.mul_comm, Nat.mul_add_mod]

theorem msbBits_zero (c : Nat) : msbBits c 0 = List.replicate c false := by
  induction c with
  | zero => rfl
  | succ c ih => simp [msbBits, ih, List.replicate_succ]

theorem msbBits_ones (k : Nat) : ∀ c, c ≤ k → msbBits c (2 ^ k - 1) = List.replicate c true := by
  intro c
  induction c with
  | zero => intro _; rfl
  | succ c ih =>
    intro h
    have ht : Nat.testBit (2 ^ k - 1) c = true := by rw [Nat.testBit_two_pow_sub_one]; simp; omega
    simp [msbBits, ht, ih (by omega), List.replicate_succ]

theorem take_msbBits {a : Nat} (n r : Nat) (h : r ≤ a) : (msbBits a n).take r = msbBits r (n / 2 ^ (a - r)) := by
  have : a = r + (a - r) := by omega
  conv => lhs; rw [this, msbBits_add]
  rw [List.take_append_of_le_length (by simp), List.take_of_length_le (by simp)]

theorem drop_msbBits {a : Nat} (n r : Nat) (h : r ≤ a) : (msbBits a n).drop r = msbBits (a - r) n := by
  have : a = r + (a - r) := by omega
  conv => lhs; rw [this, msbBits_add]
  rw [List.drop_append_of_le_length (by simp), List.drop_of_length_le (by simp)]; simp

theorem takeFields_append (l junk : List Bool) : ∀ (ws : List Nat), ws.sum ≤ l.length →
    takeFields (l ++ junk) ws = takeFields l ws := by
  intro ws
  induction ws generalizing l with
  | nil => intro _; rfl
  | cons w ws ih =>
    intro h
    simp only [List.sum_cons] at h
    simp only [takeFields]
    rw [List.take_append_of_le_length (by omega), List.drop_append_of_le_length (by omega)]
    rw [ih (l.drop w) (by simp; omega)]

theorem takeFields_fieldsBits : ∀ (fs : List (Nat × Nat)),
    takeFields (fieldsBits fs) (fs.map Prod.fst) = fs.map fun f => f.2 % 2 ^ f.1 := by
  intro fs
  induction fs with
  | nil => rfl
  | cons f fs ih =>
    simp only [List.map_cons, takeFields, fieldsBits_cons]
    rw [List.take_append_of_le_length (by simp), List.take_of_length_le (by simp),
      List.drop_append_of_le_length (by simp), List.drop_of_length_le (by simp), List.nil_append, ih, ofBits_msbBits]

end H4.Bits
