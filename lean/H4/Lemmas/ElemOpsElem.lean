import H4.Lemmas.ElemOps
/-! The calls, other than `Hwrite`, that change the element behind their access id: `Hseek` (which may promote it), `HLconvert`,
    `Hsetlength`, `Htrunc`. -/
namespace H4.Elem
open H4.Gen.Hdf

theorem stepSim_seek (w : World) (hw : WFW w) (h : Nat) (off : Int) (origin : Nat) (hsafe : OpSafe w (.seek h off origin)) :
    StepSim w (.seek h off origin) := by
  unfold StepSim
  cases ha : w.acc h with
  | none => simp only [step, hseek, ha]; exact ResOK.fail hw _
  | some a =>
    have hh := hw.handles h a ha
    simp only [step, hseek, ha]
    by_cases horg : origin ≠ DF_START ∧ origin ≠ DF_CURRENT ∧ origin ≠ DF_END
    · rw [if_pos horg]; exact ResOK.fail hw _
    rw [if_neg horg]
    by_cases hsp : a.special = true
    · -- linked blocks: no upper bound
      have hsp' := hh.tag_special hsp
      obtain ⟨li, ho, hl, hlink, hwl, _, _⟩ := (hw.files a.file).linked_ok a.slot hh.live hsp'
      rw [if_pos hsp]
      simp only [acc_key_eq, hlink]
      by_cases hneg : off + (if origin = DF_CURRENT then (a.posn : Int) else 0) + (if origin = DF_END then (li.length : Int) else 0) < 0
      · rw [if_pos hneg]; exact ResOK.fail hw _
      · rw [if_neg hneg]
        refine resOK_posn hw ha _ fun v hy he => ?_
        simp only [specStep, hy, he, Option.map_some, slotBytes_special _ _ hsp', hlink, seekTarget, lenI,
          linkedBytes_length]
        rw [if_neg hneg]
        simp
    · have hsp0 : a.special = false := by simpa using hsp
      have hsp' := hh.tag_special hsp0
      rw [if_neg hsp]
      generalize htgt : off + (if origin = DF_CURRENT then (a.posn : Int) else 0) +
        (if origin = DF_END then ddLen ((w.file a.file).dd a.slot) else 0) = tgt
      have hspec_t : seekTarget a.posn ((w.file a.file).slotBytes a.slot) off origin = tgt := by
        unfold seekTarget; rw [lenI_plain _ _ hsp']; exact htgt
      by_cases h1 : tgt = a.posn
      · rw [if_pos h1]
        refine resOK_stay hw ha fun v hy he => ?_
        simp only [specStep, hy, he, hspec_t]
        have : ¬ (tgt < 0) := by omega
        rw [if_neg this]
        have : ¬ ((w.file a.file).slotBytes a.slot = none ∧ tgt ≠ (a.posn : Int)) := fun c => c.2 h1
        rw [if_neg this, h1]
        simp
      rw [if_neg h1]
      by_cases h2 : tgt < 0 ∨ (a.appendable = false ∧ tgt > ddLen ((w.file a.file).dd a.slot))
      · rw [if_pos h2]; exact ResOK.fail hw _
      rw [if_neg h2]
      have htnn : ¬ (tgt < 0) := fun c => h2 (Or.inl c)
      by_cases h3 : a.appendable = true ∧ tgt ≥ ddLen ((w.file a.file).dd a.slot) ∧ (w.file a.file).notLast a.slot
      · rw [if_pos h3]
        by_cases hwr : (w.file a.file).writable = false ∨ (((w.file a.file).dd a.slot).ext = none ∧ a.canWrite = false)
        · rw [if_pos hwr]
          exact resOK_flags hw ha { a with appendable := false } (hh.same rfl rfl rfl rfl hh.blk) rfl rfl rfl (by intro v; rfl)
        · rw [if_neg hwr]
          have halone := hsafe a ha hsp0 h3.1 (by rw [htgt]; exact h3.2.1) h3.2.2
          refine Eff.resOK (r := (_, _)) (convert_world w hw h a ha hsp0 halone a.blockSize a.numBlocks hh.blk.1 hh.blk.2
            tgt.toNat false false rfl) fun v hv => ?_
          obtain ⟨hy, he⟩ := Eqv.reads hv hw ha
          cases hb : (w.file a.file).slotBytes a.slot with
          | none =>
            rw [hb] at he hspec_t
            refine ⟨_, ?_, Eqv.refl _⟩
            simp only [specStep, hy, he, hspec_t]
            rw [if_neg htnn, if_pos ⟨trivial, h1⟩]
            rfl
          | some b =>
            rw [hb] at he hspec_t
            refine ⟨v.setHnd h (some { file := a.file, key := (w.file a.file).keyOf a.slot, pos := tgt.toNat }), ?_,
              View.eqv_setHnd v h _ he⟩
            simp only [specStep, hy, he, hspec_t]
            rw [if_neg htnn]
            simp
      · rw [if_neg h3]
        refine resOK_posn hw ha _ fun v hy he => ?_
        simp only [specStep, hy, he, hspec_t]
        rw [if_neg htnn]
        have : ¬ ((w.file a.file).slotBytes a.slot = none ∧ tgt ≠ (a.posn : Int)) := by
          intro c
          -- an element without length: the only non-failing seek that is not a promotion stays where it is
          have hx : ((w.file a.file).dd a.slot).ext = none := by
            have := c.1; rw [slotBytes_plain _ _ hsp'] at this
            cases hx : ((w.file a.file).dd a.slot).ext with
            | none => rfl
            | some e => rw [hx] at this; simp at this
          rw [File.notLast, ddLen_none hx, ddOff_none hx] at h3
          rw [ddLen_none hx] at h2
          by_cases hap : a.appendable = true
          · apply h3
            refine ⟨hap, by omega, ?_⟩
            omega
          · apply h2; right; exact ⟨by simpa using hap, by omega⟩
        rw [if_neg this]

theorem stepSim_hlconvert (w : World) (hw : WFW w) (h blen nblk : Nat) (hsafe : OpSafe w (.hlconvert h blen nblk)) :
    StepSim w (.hlconvert h blen nblk) := by
  obtain ⟨hb, hn, halone⟩ := hsafe
  unfold StepSim
  cases ha : w.acc h with
  | none => simp only [step, hlconvert, ha]; exact ResOK.fail hw _
  | some a =>
    simp only [step, hlconvert, ha]
    by_cases hc : (a.special || !(w.file a.file).writable) = true
    · rw [if_pos hc]; exact ResOK.fail hw _
    have hsp0 : a.special = false := by
      cases hs : a.special with
      | false => rfl
      | true => simp [hs] at hc
    by_cases hc2 : (((w.file a.file).dd a.slot).ext.isNone && !a.canWrite) = true
    · rw [if_neg hc, if_pos hc2]; exact ResOK.fail hw _
    rw [if_neg hc, if_neg hc2]
    refine Eff.resOK (r := (_, _)) (convert_world w hw h a ha hsp0 halone blen nblk hb hn a.posn false false rfl)
      fun v hv => ?_
    obtain ⟨hy, he⟩ := Eqv.reads hv hw ha
    cases hb' : (w.file a.file).slotBytes a.slot with
    | none =>
      rw [hb'] at he
      exact ⟨_, by simp [specStep, hy, he], View.eqv_setElem _ _ _ _ hy⟩
    | some b =>
      rw [hb'] at he
      exact ⟨_, by simp [specStep, hy, he], v.eqv_sets he hy⟩

theorem stepC_setlength (w : World) (hw : WFW w) (h len : Nat) (hfresh : Fresh w h) :
    ResOK w (.setlength h len) (stepC w (.setlength h len)) := by
  cases ha : w.acc h with
  | none => simp only [stepC, hsetlengthCore, ha]; exact ResOK.fail hw _
  | some a =>
    have hh := hw.handles h a ha
    simp only [stepC, hsetlengthCore, ha]
    by_cases hnew : a.newElem = true
    · rw [if_neg (by simp [hnew])]
      by_cases hcw : (!a.canWrite) = true
      · rw [if_pos hcw]; exact ResOK.fail hw _
      rw [if_neg hcw]
      have hsp0 := hh.plain_of_new hnew
      refine Eff.resOK (r := (_, _)) (setLength_world w hw h a ha hsp0 len a.appendable) fun v hv => ?_
      obtain ⟨hy, he⟩ := Eqv.reads hv hw ha
      rw [slotBytes_plain _ _ (hh.tag_special hsp0), hfresh a ha hnew hsp0] at he
      exact ⟨_, by simp [specStep, hy, he], View.eqv_setElem _ _ _ _ hy⟩
    · rw [if_pos (by simp [hnew])]; exact ResOK.fail hw _

/-- **`Hsetlength`**: `HIrefresh_new`, then the allocation. No side condition: a second id on the element simply finds
    it sized (7f7ac10). -/
theorem stepSim_setlength (w : World) (hw : WFW w) (h len : Nat) : StepSim w (.setlength h len) :=
  stepSim_of_core w hw h (.setlength h len) rfl
    (stepC_setlength (w.refresh h) (refresh_spec w hw h).wfw h len (refresh_spec w hw h).fresh)

/-- 1e2fd75; before, `Htrunc` cut the description record -/
theorem htrunc_linked_refused (w : World) (h n : Nat) (a : Acc) (ha : w.acc h = some a) (hsp : a.special = true) :
    htrunc w h n = (w, .fail) := by
  simp only [htrunc, ha]
  split
  · rfl
  · first | rfl | rw [if_pos hsp]

theorem stepSim_trunc (w : World) (hw : WFW w) (h n : Nat) : StepSim w (.trunc h n) := by
  unfold StepSim
  cases ha : w.acc h with
  | none => simp only [step, htrunc, ha]; exact ResOK.fail hw _
  | some a =>
    have hh := hw.handles h a ha
    simp only [step, htrunc, ha]
    by_cases hcw : (!a.canWrite) = true
    · rw [if_pos hcw]; exact ResOK.fail hw _
    rw [if_neg hcw]
    by_cases hfx : a.special = true
    · rw [if_pos hfx]; exact ResOK.fail hw _
    rw [if_neg hfx]
    have hsp' := hh.tag_special (Bool.eq_false_iff.mpr hfx)
    cases hx : ((w.file a.file).dd a.slot).ext with
    | none =>
      rw [ddLen_none hx, if_neg (by omega)]; exact ResOK.fail hw _
    | some e =>
      obtain ⟨o, l⟩ := e
      rw [ddLen_some hx, ddOff_some hx]
      by_cases hgt : (l : Int) > n
      · rw [if_pos hgt, Int.toNat_natCast]
        refine Eff.resOK (r := (_, _))
          (inPlace_world w hw h a { a with posn := min a.posn n } ha rfl rfl rfl hh.special_new hh.blk _ _
            (trunc_spec (w.file a.file) (hw.files a.file) a.slot o l n hh.live hsp' (keyOf_user_ne_linked hh.user) hx (by omega))
            (coh_ddSetExt (hw.coh a.file) a.slot (o, n) (live_lt _ _ hh.live))) fun v hv => ?_
        obtain ⟨hy, he⟩ := Eqv.reads hv hw ha
        refine ⟨_, ?_, Eqv.refl _⟩
        simp only [specStep, hy, he, Option.map_some, slotBytes_plain _ _ hsp', hx, bytesAt_length]
        have : n < l := by omega
        simp [this]
      · rw [if_neg hgt]; exact ResOK.fail hw _

end H4.Elem
