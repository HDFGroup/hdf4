import H4.Lemmas.ElemOpsWrite
import H4.Lemmas.ElemOpsElem
import H4.Lemmas.ElemOpsRecord
import H4.Lemmas.ElemOpsKey
import H4.Lemmas.ElemOpsFile
/-! The forward simulation: every call of a safe history is a byte-array step; whole result traces. -/
namespace H4.Elem

theorem stepSim_all (w : World) (hw : WFW w) (op : Op) (hs : OpSafe w op) : StepSim w op := by
  cases op with
  | «open» fi mode ndds => exact stepSim_open w hw fi mode ndds hs
  | close fi => exact stepSim_close w hw fi hs
  | startaccess h fi tag ref wr app => exact stepSim_startaccess w hw h fi tag ref wr app hs
  | startwrite h fi tag ref len => exact stepSim_startwrite w hw h fi tag ref len hs
  | setlength h len => exact stepSim_setlength w hw h len
  | hlcreate h fi tag ref blen nblk => exact stepSim_hlcreate w hw h fi tag ref blen nblk hs
  | hlconvert h blen nblk => exact stepSim_hlconvert w hw h blen nblk hs
  | setblockinfo h blen nblk => exact stepSim_setblockinfo w hw h blen nblk
  | appendable h => exact stepSim_appendable w hw h
  | seek h off origin => exact stepSim_seek w hw h off origin hs
  | tell h => exact stepSim_tell w hw h
  | inquire h => exact stepSim_inquire w hw h
  | read h n => exact stepSim_read w hw h n
  | write h bs => exact stepSim_write w hw h bs hs
  | trunc h n => exact stepSim_trunc w hw h n
  | endaccess h => exact stepSim_endaccess w hw h
  | deldd fi tag ref => exact stepSim_deldd w hw fi tag ref hs

/-- a history on the model is a history of byte arrays: at every call, the result the implementation returns is one
    the byte-array specification allows from the view of the state before the call, and the view of the state after
    the call is the one the specification prescribes (on every user element, every file, every access id) -/
def Refines (w : World) : List Op → Prop
  | [] => True
  | op :: ops =>
    (∃ v', specStep (abs w) op (step w op).2 = some v' ∧ v'.Eqv (abs (step w op).1)) ∧ Refines (step w op).1 ops

theorem refines_of_safe (ops : List Op) : ∀ (w : World), WFW w → Safe w ops → Refines w ops ∧ WFW (run w ops).1 := by
  induction ops with
  | nil => intro w hw _; exact ⟨trivial, hw⟩
  | cons op ops ih =>
    intro w hw hs
    obtain ⟨h1, h2⟩ := (stepSim_all w hw op hs.1).stepOK
    obtain ⟨r1, r2⟩ := ih (step w op).1 h1 hs.2
    refine ⟨⟨h2, r1⟩, ?_⟩
    simp only [run]
    exact r2

theorem wfw_empty : WFW {} := by
  have hE : WFE ({} : File) := by
    have hdd : ∀ j, ({} : File).dd j = nilDD := by intro j; rfl
    have hnl : ∀ j, ¬ ({} : File).live j := by intro j hl; exact hl (by rw [hdd]; rfl)
    refine ⟨⟨by decide, fun j _ _ hl => absurd hl (hnl j), fun i _ _ _ _ _ _ hl => absurd hl (hnl i), ?_,
      fun i _ hl => absurd hl (hnl i)⟩, fun s hl => absurd hl (hnl s), fun s hl => absurd hl (hnl s),
      fun s1 _ _ _ _ hl => absurd hl (hnl s1)⟩
    intro k _; rfl
  have hC : Coh ({} : File) := ⟨rfl, by decide, rfl, rfl, fun i hi => absurd hi (by simp)⟩
  have hfile : ∀ j, ({} : World).file j = {} := by intro j; rfl
  refine ⟨fun j => by rw [hfile]; exact hE, fun j => by rw [hfile]; exact hC, ?_⟩
  intro h a ha
  cases ha

def View.UserHnd (v : View) : Prop := ∀ h hv, v.hnd h = some hv → UserKey hv.key

theorem UserHnd.setElem {v : View} (hv : v.UserHnd) (fi : Nat) (k : Nat × Nat) (x : Option (Option Bytes)) :
    (v.setElem fi k x).UserHnd := hv

theorem UserHnd.of_eqv {v v' : View} (e : v.Eqv v') (hv : v.UserHnd) : v'.UserHnd := by
  intro h z hz; rw [← e.2.2 h] at hz; exact hv h z hz

/-- `Refines` restarts from `abs w` at every call, this chains ONE view through the history: neither follows from the other, both
    follow from `stepSim_all` -/
theorem trace_of_sim (ops : List Op) : ∀ (w : World) (v : View), WFW w → Safe w ops → v.Eqv (abs w) →
    ∃ vf, specRun v ops (run w ops).2 = some vf ∧ vf.Eqv (abs (run w ops).1) := by
  induction ops with
  | nil => intro w v _ _ hv; exact ⟨v, rfl, hv⟩
  | cons op ops ih =>
    intro w v hw hs hv
    obtain ⟨hw1, hsim⟩ := stepSim_all w hw op hs.1
    obtain ⟨v1, h1, e1⟩ := hsim v hv
    obtain ⟨vf, h2, e2⟩ := ih (step w op).1 v1 hw1 hs.2 e1
    exact ⟨vf, by simp only [run, specRun, h1, Option.bind_some]; exact h2, by simp only [run]; exact e2⟩

end H4.Elem
