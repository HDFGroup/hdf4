import H4.Gen.Fn.Dfconv
import H4.Gen.Fn.Vsfld
import H4.VData
import H4.VsfldEnc
import H4.Lemmas.VDataSchema
import H4.Lemmas.C07FldAttr
import H4.Lemmas.C2L
/-! The common ground of the function-level Tie A of the Vdata schema functions (`H4.Props.C07Fld`): `DFKNTsize` (dfconv.c) as translated
    (`H4.Gen.Fn.Dfconv`) is the model's `ntInfo`; on the C strings of the translated `VSfdefine` / `VSsetfields` (`H4.Gen.Fn.Vsfld`), `strcmp`
    against a stored name decides equality of names without NUL (`NameOK`) and `strdup` copies a name up to its NUL. -/
namespace H4.Lemmas.C07Fld
open H4.Gen.Fn.Dfconv H4.Gen.Fn.Vsfld H4.VData H4.Gen.Hdf H4.Gen.Vs H4.VsfldEnc

attribute [c2l_st] Bool.false_eq_true or_self true_or or_true and_self and_true true_and decide_true Bool.not_true Bool.or_false ne_eq
  not_true_eq_false not_false_eq_true Option.isSome_some Option.getD_some Int.toNat_natCast Int.ofNat_eq_natCast List.length_set
  VSfdefine.chk VSfdefine.St.join VSsetfields.chk VSsetfields.St.join

/-- `x & ~DFNT_LITEND` on 32 bits: bit 14 is cleared -/
theorem and_mask (x : Nat) (hx : x < 4294967296) : x &&& 4294950911 = 32768 * (x / 32768) + x % 16384 := by
  have h1 : (x &&& 4294950911) / 2^15 = x / 2^15 &&& 4294950911 / 2^15 := Nat.and_div_two_pow ..
  have h2 : (x &&& 4294950911) % 2^15 = x % 2^15 &&& 4294950911 % 2^15 := Nat.and_mod_two_pow ..
  have h3 : x / 2^15 &&& (2^17 - 1) = x / 2^15 % 2^17 := Nat.and_two_pow_sub_one_eq_mod ..
  have h4 : x % 2^15 &&& (2^14 - 1) = x % 2^15 % 2^14 := Nat.and_two_pow_sub_one_eq_mod ..
  simp only [Nat.reducePow, Nat.reduceDiv, Nat.reduceMod, Nat.reduceSub] at h1 h2 h3 h4
  omega


theorem DFKNTsize_spec (fuel : Nat) (t : Int) (h1 : -2147483648 ≤ t) (h2 : t < 2147483648) :
    DFKNTsize fuel t = ⟨t, false, false, ntsize t, true⟩ := by
  unfold DFKNTsize
  extract_lets +onlyGivenNames s sw
  -- `sw = (int32)(t & ~DFNT_LITEND)`: bit 14 cleared
  have hsw : (0 ≤ t ∧ t < 32768 ∧ sw = t % 16384) ∨ ((t < 0 ∨ 32768 ≤ t) ∧ (sw < 0 ∨ 32768 ≤ sw)) := by
    simp only [sw, s, Int.reduceMod, Int.reduceToNat, Int.reduceNeg, Int.reduceSub, Int.ofNat_eq_natCast]
    rw [and_mask _ (by omega)]
    split <;> omega
  clear_value sw
  simp only [Int.reduceMod, Int.reduceToNat, Nat.reduceOr, Int.ofNat_eq_natCast, Int.cast_ofNat_Int, Int.reduceGE, if_false]
  -- the codes the `switch` has a case for are `c` and `DFNT_NATIVE | c`, `c` in the table
  by_cases hr : ∃ x : Nat, t = x ∧ x < 32768 ∧ x / 8192 % 2 = 0 ∧ x % 4096 ∈ NT_CODES
  · obtain ⟨x, rfl, hlt, hc, hmem⟩ := hr
    have hsw' : sw = ↑(x % 4096) ∨ sw = ↑(x % 4096) + 4096 := by omega
    rw [tables.1] at hmem
    simp only [List.mem_cons, List.not_mem_nil, or_false] at hmem
    rcases hmem with h | h | h | h | h | h | h | h | h | h <;> rw [h] at hsw' <;> rcases hsw' with rfl | rfl <;>
      rw [ntsize_code hlt hc (by rw [h]; rfl)] <;> rfl
  · have hn : ntsize t = -1 := ntsize_none (by
      by_cases h0 : t < 0
      · exact Or.inl h0
      · exact Or.inr (ntInfo_nocode fun h => hr ⟨_, by omega, h⟩))
    have hmiss : ∀ k : Int, 0 ≤ k → k < 8192 → k.toNat % 4096 ∈ NT_CODES → (sw = k) = False := by
      intro k k0 k1 hk
      refine eq_false fun e => hr ?_
      obtain ⟨x, rfl⟩ := Int.eq_ofNat_of_zero_le (show 0 ≤ t by omega)
      obtain ⟨k, rfl⟩ := Int.eq_ofNat_of_zero_le k0
      exact ⟨x, rfl, by omega, by omega, (show x % 4096 = k % 4096 by omega) ▸ hk⟩
    rw [hn]
    simp only [hmiss, Int.reduceLE, Int.reduceLT, Int.reduceToNat, Nat.reduceMod, tables.1, List.mem_cons, Nat.reduceEqDiff, true_or, or_true, if_false]
    rfl

/-- `x | DFNT_NATIVE`: bit 12 is set -/
theorem or_native (x : Nat) : x ||| 4096 = x + 4096 * (1 - x / 4096 % 2) := by
  have h1 : (x ||| 4096) / 2^12 = x / 2^12 ||| 4096 / 2^12 := Nat.or_div_two_pow ..
  have h2 : (x ||| 4096) % 2^12 = x % 2^12 ||| 4096 % 2^12 := Nat.or_mod_two_pow ..
  have h3 : (x / 2^12 ||| 1) / 2^1 = x / 2^12 / 2^1 ||| 1 / 2^1 := Nat.or_div_two_pow ..
  have h4 : (x / 2^12 ||| 1) % 2^1 = x / 2^12 % 2^1 ||| 1 % 2^1 := Nat.or_mod_two_pow ..
  simp only [Nat.reducePow, Nat.reduceDiv, Nat.reduceMod, Nat.or_zero, Nat.pow_one] at h1 h2 h3 h4
  have h5 : x / 4096 % 2 ||| 1 = 1 := by
    rcases Nat.mod_two_eq_zero_or_one (x / 4096) with h | h <;> rw [h] <;> rfl
  rw [h5] at h4
  omega

theorem DFKNTsize_native (fuel : Nat) {t : Nat} {nt : NT} (h : ntInfo t = some nt) :
    DFKNTsize fuel ((t ||| 4096 : Nat) : Int) = ⟨((t ||| 4096 : Nat) : Int), false, false, (nt.nsz : Int), true⟩ := by
  obtain ⟨hlt, hc, i, hi, _, e⟩ := ntInfo_some h
  rw [or_native] at *
  rw [DFKNTsize_spec fuel _ (by omega) (by omega), e,
    ntsize_code (by omega) (by omega) (by rw [show (t + 4096 * (1 - t / 4096 % 2)) % 4096 = t % 4096 by omega]; exact hi)]

/-- character codes of a C string's characters: every cell is a non-zero `unsigned char` -/
def CharsOK (l : List Int) : Prop := ∀ c ∈ l, 0 < c ∧ c < 256

theorem strcmpC_spec (la lb pa pb : List Int) (ha : CharsOK la) (hb : CharsOK lb) :
    ∃ r, strcmpC (la ++ 0 :: pa) (lb ++ 0 :: pb) = some r ∧ (r = 0 ↔ la = lb) := by
  obtain ⟨r, h1, h2⟩ := H4.C2L.strcmp_spec (f := strcmpC) (fun _ _ _ _ => rfl) id la lb pa pb (fun c hc => by have := ha c hc; omega)
    (fun c hc => by have := hb c hc; omega) (fun x hx y hy => by have := ha x hx; have := hb y hy; simp only [id]; omega)
  exact ⟨r, h1, by rw [h2, List.map_id, List.map_id]⟩

/-- a name that is a C string of single-byte characters: no NUL inside, every code below 256 -/
def NameOK (s : String) : Prop := ∀ c ∈ s.toList, 0 < c.toNat ∧ c.toNat < 256

instance (s : String) : Decidable (NameOK s) := by unfold NameOK; infer_instance

theorem chars_inj {a b : String} (h : chars a = chars b) : a = b := by
  apply String.toList_inj.mp
  unfold chars at h
  exact (List.map_inj_right (fun x y hxy => Char.toNat_inj.mp (by exact_mod_cast hxy))).mp h

theorem chars_ok {s : String} (h : NameOK s) : CharsOK (chars s) := by
  intro c hc
  simp only [chars, List.mem_map] at hc
  obtain ⟨x, hx, rfl⟩ := hc
  have := h x hx
  omega

theorem strcmp_names (a b : String) (ha : NameOK a) (hb : NameOK b) (pa pb : List Int) :
    ∃ r, strcmpC (chars a ++ 0 :: pa) (chars b ++ 0 :: pb) = some r ∧ (r = 0 ↔ a = b) := by
  obtain ⟨r, h1, h2⟩ := strcmpC_spec (chars a) (chars b) pa pb (chars_ok ha) (chars_ok hb)
  exact ⟨r, h1, h2.trans ⟨chars_inj, fun e => by rw [e]⟩⟩

theorem zero_mem (l p : List Int) : (0 : Int) ∈ l ++ 0 :: p := by simp

/-- `strdup`: the characters up to and including the first NUL -/
theorem take_string (l p : List Int) (h : CharsOK l) :
    (l ++ 0 :: p).take (((l ++ 0 :: p).takeWhile (· ≠ 0)).length + 1) = l ++ [0] := by
  rw [H4.C2L.cstr_takeWhile (fun h0 => absurd (h 0 h0).1 (by omega)), H4.C2L.cstr_take]

end H4.Lemmas.C07Fld
