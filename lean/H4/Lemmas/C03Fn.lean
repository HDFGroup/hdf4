import H4.Lemmas.SlabScan
import H4.Gen.Fn.Putget
/-! C03, function-level Tie A: loop lemmas for `NCvcmaxcontig` of `mfhdf/src/putget.c` as translated by gen/c2lean.py
    (`H4.Gen.Fn.Putget`): the translated function computes `Slab.maxContigScan`, and never leaves its arrays whatever they hold.
    What the scan's answer means for `Slab.runs` is in `H4.Lemmas.SlabScan`. -/
namespace H4.Lemmas.C03Fn
open H4.Slab H4.C2L H4.Gen.Fn.Putget

theorem chk_true (s : NCvcmaxcontig.St) (c : Prop) [Decidable c] (h : c) : NCvcmaxcontig.chk s c = s := by
  cases s; simp [NCvcmaxcontig.chk, h]

theorem wrap_nat (a : Nat) (h : a < 2 ^ 63) : (a : Int) % 18446744073709551616 = a := by omega

/-- `*shp - *orp` in `unsigned long` for `origin ≤ shape` -/
theorem wrap_sub (a b : Nat) (ha : a < 2 ^ 63) (hb : b ≤ a) :
    ((a : Int) - (b : Int)) % 18446744073709551616 = ((a - b : Nat) : Int) := by omega

/-- all values of a C array of `long`/`unsigned long` are below 2^63 -/
def Small (l : List Nat) : Prop := ∀ x ∈ l, x < 2 ^ 63

instance (l : List Nat) : Decidable (Small l) := by unfold Small; exact inferInstance

theorem Small.getD {l : List Nat} (h : Small l) (i : Nat) : l.getD i 0 < 2 ^ 63 :=
  getD_of_forall_mem h (by decide) i

theorem body_eq (fuel : Nat) (s : NCvcmaxcontig.St) (shape origin edges : List Nat) (j : Nat)
    (hsh : s.vp_shape = ints shape) (hor : s.origin = ints origin) (hed : s.edges = ints edges)
    (hj1 : j < shape.length) (hj2 : j < origin.length) (hj3 : j < edges.length)
    (hshp : s.shp = j) (hedp : s.edp = j) (horp : s.orp = j)
    (hdone : s.done = false) (hbrk : s.brk = false) (hcnt : s.cnt = false)
    (hS : shape.getD j 0 < 2 ^ 63) (hO : origin.getD j 0 ≤ shape.getD j 0) (hE : edges.getD j 0 < 2 ^ 63) :
    NCvcmaxcontig.loop0.body fuel s =
      if shape.getD j 0 - origin.getD j 0 < edges.getD j 0 then { s with retnull := true, done := true }
      else if edges.getD j 0 < shape.getD j 0 then { s with brk := true }
      else { s with shp := (j : Int) - 1, edp := (j : Int) - 1, orp := (j : Int) - 1 } := by
  have c1 : 0 ≤ s.edp ∧ s.edp < s.edges.length := by rw [hedp, hed]; simp; omega
  have c2 : 0 ≤ s.shp ∧ s.shp < s.vp_shape.length := by rw [hshp, hsh]; simp; omega
  have c3 : 0 ≤ s.orp ∧ s.orp < s.origin.length := by rw [horp, hor]; simp; omega
  have gE : s.edges.getD (Int.toNat s.edp) 0 = ((edges.getD j 0 : Nat) : Int) := by
    rw [hedp, hed]; exact ints_getD_nat edges j
  have gS : s.vp_shape.getD (Int.toNat s.shp) 0 = ((shape.getD j 0 : Nat) : Int) := by
    rw [hshp, hsh]; exact ints_getD_nat shape j
  have gO : s.origin.getD (Int.toNat s.orp) 0 = ((origin.getD j 0 : Nat) : Int) := by
    rw [horp, hor]; exact ints_getD_nat origin j
  have hO' : origin.getD j 0 < 2 ^ 63 := by omega
  unfold NCvcmaxcontig.loop0.body
  by_cases r : shape.getD j 0 - origin.getD j 0 < edges.getD j 0
  · have r' : ((edges.getD j 0 : Nat) : Int) > ((shape.getD j 0 - origin.getD j 0 : Nat) : Int) ∨ ((edges.getD j 0 : Nat) : Int) < 0 := by omega
    simp only [chk_true s _ c1, chk_true s _ c2, chk_true s _ c3, chk_true s _ (Or.inr c1 : _ ∨ _), gE, gS, gO,
      wrap_nat _ hE, wrap_nat _ hO', wrap_sub _ _ hS hO, r', r, ↓reduceIte, NCvcmaxcontig.St.set_done, 
      NCvcmaxcontig.St.set_cnt, true_or]
    cases s; dsimp only at *; subst_vars; rfl
  · have r' : ¬ (((edges.getD j 0 : Nat) : Int) > ((shape.getD j 0 - origin.getD j 0 : Nat) : Int) ∨ ((edges.getD j 0 : Nat) : Int) < 0) := by omega
    have nx : ¬ (s.done = true ∨ s.brk = true ∨ s.cnt = true) := by simp [hdone, hbrk, hcnt]
    by_cases b : edges.getD j 0 < shape.getD j 0
    · have b' : ((edges.getD j 0 : Nat) : Int) < ((shape.getD j 0 : Nat) : Int) := by omega
      simp only [chk_true s _ c1, chk_true s _ c2, chk_true s _ c3, chk_true s _ (Or.inr c1 : _ ∨ _), gE, gS, gO,
        wrap_nat _ hE, wrap_nat _ hO', wrap_sub _ _ hS hO, r', r, b, b', nx, ↓reduceIte, NCvcmaxcontig.St.set_brk,
        NCvcmaxcontig.St.set_cnt, or_true]
      cases s; dsimp only at *; subst_vars; rfl
    · have b' : ¬ (((edges.getD j 0 : Nat) : Int) < ((shape.getD j 0 : Nat) : Int)) := by omega
      simp only [chk_true s _ c1, chk_true s _ c2, chk_true s _ c3, chk_true s _ (Or.inr c1 : _ ∨ _), gE, gS, gO,
        wrap_nat _ hE, wrap_nat _ hO', wrap_sub _ _ hS hO, r', r, b, b', ↓reduceIte, 
        NCvcmaxcontig.St.set_cnt, NCvcmaxcontig.St.set_orp, hdone, hbrk]
      cases s; dsimp only at *; subst_vars; rfl

theorem loop0_stop (fuel : Nat) (s : NCvcmaxcontig.St) (h : s.done = true ∨ s.brk = true ∨ s.shp < s.boundary) :
    NCvcmaxcontig.loop0 fuel s = s := by
  have : ¬ ((s.shp ≥ s.boundary) ∧ ¬(s.done = true ∨ s.brk = true)) := by
    rcases h with h | h | h
    · simp [h]
    · simp [h]
    · intro ⟨h1, _⟩; omega
  cases fuel <;> simp only [NCvcmaxcontig.loop0, this, if_false]

/-- The scan with its cursors at index `m - 1`: what it leaves is the model's `maxContigScan .. b m`.  The answer is read off the way the C does after
    the loop: `edp` itself after a `break`, `edp + 1` (the C's `edp++`) when the scan ran past `boundary`. -/
theorem loop0_spec (shape origin edges : List Nat) (b : Nat)
    (hl2 : origin.length = shape.length) (hl3 : edges.length = shape.length)
    (hS : Small shape) (hE : Small edges)
    (hO : ∀ j, b ≤ j → j < shape.length → origin.getD j 0 ≤ shape.getD j 0) :
    ∀ (m fuel : Nat) (s : NCvcmaxcontig.St), m ≤ shape.length → m ≤ fuel → b ≤ m →
      s.vp_shape = ints shape → s.origin = ints origin → s.edges = ints edges →
      s.shp = (m : Int) - 1 → s.edp = (m : Int) - 1 → s.orp = (m : Int) - 1 → s.boundary = b →
      s.done = false → s.brk = false → s.cnt = false → s.retnull = false →
      (NCvcmaxcontig.loop0 fuel s).cnt = false ∧ (NCvcmaxcontig.loop0 fuel s).boundary = b ∧
      match maxContigScan shape origin edges b m with
      | none => (NCvcmaxcontig.loop0 fuel s).done = true ∧ (NCvcmaxcontig.loop0 fuel s).retnull = true
      | some k => (NCvcmaxcontig.loop0 fuel s).done = false ∧ (NCvcmaxcontig.loop0 fuel s).retnull = false ∧
          (if (NCvcmaxcontig.loop0 fuel s).shp < (NCvcmaxcontig.loop0 fuel s).boundary
            then (NCvcmaxcontig.loop0 fuel s).edp + 1 else (NCvcmaxcontig.loop0 fuel s).edp) = (k : Int) := by
  intro m
  induction m with
  | zero =>
    intro fuel s _ _ hb hsh hor hed hshp hedp horp hbd hdone hbrk hcnt hrn
    have hb0 : b = 0 := by omega
    rw [loop0_stop fuel s (by right; right; rw [hshp, hbd]; omega)]
    simp only [maxContigScan]
    refine ⟨hcnt, hbd, hdone, hrn, ?_⟩
    rw [hshp, hbd, hedp, hb0]; simp
  | succ j ih =>
    intro fuel s hm hf hb hsh hor hed hshp hedp horp hbd hdone hbrk hcnt hrn
    have hshp' : s.shp = (j : Int) := by rw [hshp]; omega
    have hedp' : s.edp = (j : Int) := by rw [hedp]; omega
    have horp' : s.orp = (j : Int) := by rw [horp]; omega
    by_cases hjb : j < b
    · rw [loop0_stop fuel s (by right; right; rw [hshp', hbd]; omega)]
      simp only [maxContigScan, hjb, if_true]
      refine ⟨hcnt, hbd, hdone, hrn, ?_⟩
      rw [hshp', hbd, hedp']
      have hb' : (b : Int) = (j : Int) + 1 := by omega
      rw [hb', if_pos (by omega)]
    · cases fuel with
      | zero => omega
      | succ fuel =>
        have hgo : (s.shp ≥ s.boundary) ∧ ¬(s.done = true ∨ s.brk = true) := by
          refine ⟨by rw [hshp', hbd]; omega, by simp [hdone, hbrk]⟩
        have hstep : NCvcmaxcontig.loop0 (fuel + 1) s = NCvcmaxcontig.loop0 fuel (NCvcmaxcontig.loop0.body (fuel + 1) s) := by
          rw [NCvcmaxcontig.loop0, if_pos hgo]
        rw [hstep, body_eq (fuel + 1) s shape origin edges j hsh hor hed (by omega) (by omega) (by omega) hshp' hedp' horp'
          hdone hbrk hcnt (hS.getD j) (hO j (by omega) (by omega)) (hE.getD j)]
        simp only [maxContigScan, hjb, if_false]
        by_cases r : shape.getD j 0 - origin.getD j 0 < edges.getD j 0
        · simp only [r, if_true]
          rw [loop0_stop _ _ (by left; rfl)]
          exact ⟨hcnt, hbd, rfl, rfl⟩
        · simp only [r, if_false]
          by_cases c : edges.getD j 0 < shape.getD j 0
          · simp only [c, if_true]
            rw [loop0_stop _ _ (by right; left; rfl)]
            refine ⟨hcnt, hbd, hdone, hrn, ?_⟩
            show (if s.shp < s.boundary then s.edp + 1 else s.edp) = (j : Int)
            rw [hshp', hbd, hedp']
            have : ¬ ((j : Int) < (b : Int)) := by omega
            simp [this]
          · simp only [c, if_false]
            exact ih fuel _ (by omega) (by omega) (by omega) hsh hor hed (by simp) (by simp) (by simp) hbd hdone hbrk hcnt hrn

/-- the state in which the translated `NCvcmaxcontig` enters its loop -/
@[reducible] def entrySt (n recsize len : Int) (shape origin edges : List Int) (b : Int) : NCvcmaxcontig.St :=
  (((({ vp_assoc_count := n, handle_recsize := recsize, vp_len := len, vp_shape_null := false, vp_shape := shape,
        edges := edges, origin := origin } : NCvcmaxcontig.St).set_boundary b).set_shp (n - 1)).set_edp (n - 1)).set_orp (n - 1)

/-- the translated `NCvcmaxcontig` past its early return: `boundary` is 1 for a record variable (`shape[0] = 0`), 0 for a fixed-size one -/
theorem entry_spec (shape origin edges : List Nat) (recsize len fuel : Nat) (hne : 0 < shape.length)
    (hl2 : origin.length = shape.length) (hl3 : edges.length = shape.length)
    (hS : Small shape) (hE : Small edges)
    (hearly : ¬ (shape.getD 0 0 = 0 ∧ shape.length = 1 ∧ recsize ≤ len))
    (hO : ∀ j, (if shape.getD 0 0 = 0 then 1 else 0) ≤ j → j < shape.length → origin.getD j 0 ≤ shape.getD j 0) (hf : shape.length ≤ fuel) :
    let s := NCvcmaxcontig fuel recsize false (ints shape) shape.length len (ints origin) (ints edges)
    s.boundary = ((if shape.getD 0 0 = 0 then 1 else 0 : Nat) : Int) ∧
    match maxContigScan shape origin edges (if shape.getD 0 0 = 0 then 1 else 0) shape.length with
    | none => s.retnull = true
    | some k => s.retnull = false ∧ s.ret = (k : Int) := by
  intro s
  have g0 := ints_getD_nat shape 0
  generalize hb : (if shape.getD 0 0 = 0 then 1 else 0) = b at hO ⊢
  have key := loop0_spec shape origin edges b hl2 hl3 hS hE hO shape.length fuel
    (entrySt shape.length recsize len (ints shape) (ints origin) (ints edges) b)
    (Nat.le_refl _) hf (by rw [← hb]; split <;> omega) rfl rfl rfl rfl rfl rfl rfl rfl rfl rfl rfl
  by_cases h0 : shape.getD 0 0 = 0
  case' pos =>
    have h1' : ¬ ((shape.length : Int) = 1 ∧ recsize ≤ len) := by omega
    rw [if_pos h0] at hb; subst hb
    simp [s, NCvcmaxcontig, NCvcmaxcontig.chk, -List.getD_eq_getElem?_getD, g0, h0, hne, h1']
  case' neg =>
    rw [if_neg h0] at hb; subst hb
    simp [s, NCvcmaxcontig, NCvcmaxcontig.chk, -List.getD_eq_getElem?_getD, g0, h0, hne]
  all_goals
    generalize hr : NCvcmaxcontig.loop0 fuel _ = r
    rw [show NCvcmaxcontig.loop0 fuel (entrySt _ _ _ _ _ _ ((_ : Nat) : Int)) = r from hr] at key
    obtain ⟨hcnt, hbd, hm⟩ := key
    cases hsc : maxContigScan shape origin edges _ shape.length with
    | none =>
      rw [hsc] at hm
      simp [hm.1, hm.2, hbd]
    | some k =>
      rw [hsc] at hm
      obtain ⟨hd, hn, hk⟩ := hm
      simp only [hd, hcnt, hbd]
      by_cases hlt : r.shp < r.boundary
      · rw [if_pos hlt] at hk
        rw [hbd] at hlt
        simp at hlt
        simp [hlt, hd, hcnt, hn, ← hk, hbd]
      · rw [if_neg hlt] at hk
        rw [hbd] at hlt
        simp only [Int.natCast_zero, Int.natCast_one] at hlt
        simp [hlt, hd, hcnt, hn, hk, hbd]

theorem entry_early (shape origin edges : List Nat) (recsize len fuel : Nat) (hn : shape.length = 1)
    (h0 : shape.getD 0 0 = 0) (h1 : recsize ≤ len) :
    let s := NCvcmaxcontig fuel recsize false (ints shape) shape.length len (ints origin) (ints edges)
    s.ub = false ∧ s.oof = false ∧ s.done = true ∧ s.retnull = false ∧ s.ret = 0 := by
  intro s
  have g0 := ints_getD_nat shape 0
  simp [s, NCvcmaxcontig, NCvcmaxcontig.chk, -List.getD_eq_getElem?_getD, g0, h0, hn, h1]

theorem body_safe (fuel : Nat) (s : NCvcmaxcontig.St) (j : Nat)
    (hj1 : j < s.vp_shape.length) (hj2 : j < s.origin.length) (hj3 : j < s.edges.length)
    (hshp : s.shp = j) (hedp : s.edp = j) (horp : s.orp = j)
    (hdone : s.done = false) (hbrk : s.brk = false) (hcnt : s.cnt = false) :
    let r := NCvcmaxcontig.loop0.body fuel s
    r.ub = s.ub ∧ r.oof = s.oof ∧ r.cnt = false ∧ r.boundary = s.boundary ∧
    r.vp_shape = s.vp_shape ∧ r.origin = s.origin ∧ r.edges = s.edges ∧
    (r.done = true ∨ r.brk = true ∨
      (r.done = false ∧ r.brk = false ∧ r.shp = (j : Int) - 1 ∧ r.edp = (j : Int) - 1 ∧ r.orp = (j : Int) - 1)) := by
  have c1 : 0 ≤ s.edp ∧ s.edp < s.edges.length := by rw [hedp]; omega
  have c2 : 0 ≤ s.shp ∧ s.shp < s.vp_shape.length := by rw [hshp]; omega
  have c3 : 0 ≤ s.orp ∧ s.orp < s.origin.length := by rw [horp]; omega
  have nx : ¬ (s.done = true ∨ s.brk = true ∨ s.cnt = true) := by simp [hdone, hbrk, hcnt]
  dsimp only
  unfold NCvcmaxcontig.loop0.body
  by_cases hA : ((((s.edges.getD (Int.toNat (s.edp)) 0)) % 18446744073709551616) > ((((s.vp_shape.getD (Int.toNat (s.shp)) 0) - (((s.origin.getD (Int.toNat (s.orp)) 0)) % 18446744073709551616))) % 18446744073709551616)) ∨ ((s.edges.getD (Int.toNat (s.edp)) 0) < 0)
  · simp only [chk_true s _ c1, chk_true s _ c2, chk_true s _ c3, chk_true s _ (Or.inr c1 : _ ∨ _), hA, ↓reduceIte,
      NCvcmaxcontig.St.set_done, NCvcmaxcontig.St.set_cnt, true_or]
    simp
  · by_cases hB : ((((s.edges.getD (Int.toNat (s.edp)) 0)) % 18446744073709551616) < (s.vp_shape.getD (Int.toNat (s.shp)) 0))
    · simp only [chk_true s _ c1, chk_true s _ c2, chk_true s _ c3, chk_true s _ (Or.inr c1 : _ ∨ _), hA, hB, nx, ↓reduceIte,
        NCvcmaxcontig.St.set_brk, NCvcmaxcontig.St.set_cnt, true_or, or_true]
      simp
    · simp only [chk_true s _ c1, chk_true s _ c2, chk_true s _ c3, chk_true s _ (Or.inr c1 : _ ∨ _), hA, hB, ↓reduceIte,
        NCvcmaxcontig.St.set_cnt, NCvcmaxcontig.St.set_orp,
        hdone, hbrk]
      simp [hdone, hbrk, hshp, hedp, horp]

theorem loop0_safe : ∀ (m fuel : Nat) (s : NCvcmaxcontig.St),
    m ≤ s.vp_shape.length → m ≤ s.origin.length → m ≤ s.edges.length → m ≤ fuel →
    s.shp = (m : Int) - 1 → s.edp = (m : Int) - 1 → s.orp = (m : Int) - 1 → 0 ≤ s.boundary →
    s.done = false → s.brk = false → s.cnt = false → s.ub = false → s.oof = false →
    (NCvcmaxcontig.loop0 fuel s).ub = false ∧ (NCvcmaxcontig.loop0 fuel s).oof = false ∧ (NCvcmaxcontig.loop0 fuel s).cnt = false := by
  intro m
  induction m with
  | zero =>
    intro fuel s _ _ _ _ hshp _ _ hb _ _ hcnt hub hoof
    rw [loop0_stop fuel s (by right; right; rw [hshp]; omega)]
    exact ⟨hub, hoof, hcnt⟩
  | succ j ih =>
    intro fuel s h1 h2 h3 hf hshp hedp horp hb hdone hbrk hcnt hub hoof
    by_cases hlt : s.shp < s.boundary
    · rw [loop0_stop fuel s (by right; right; exact hlt)]
      exact ⟨hub, hoof, hcnt⟩
    · cases fuel with
      | zero => omega
      | succ fuel =>
        have hgo : (s.shp ≥ s.boundary) ∧ ¬(s.done = true ∨ s.brk = true) := ⟨by omega, by simp [hdone, hbrk]⟩
        have hstep : NCvcmaxcontig.loop0 (fuel + 1) s = NCvcmaxcontig.loop0 fuel (NCvcmaxcontig.loop0.body (fuel + 1) s) := by
          rw [NCvcmaxcontig.loop0, if_pos hgo]
        obtain ⟨b1, b2, b3, b4, b5, b6, b7, b8⟩ := body_safe (fuel + 1) s j (by omega) (by omega) (by omega)
          (by rw [hshp]; omega) (by rw [hedp]; omega) (by rw [horp]; omega) hdone hbrk hcnt
        rw [hstep]
        rcases b8 with d | d | ⟨d1, d2, d3, d4, d5⟩
        · rw [loop0_stop _ _ (Or.inl d)]; exact ⟨by rw [b1]; exact hub, by rw [b2]; exact hoof, b3⟩
        · rw [loop0_stop _ _ (Or.inr (Or.inl d))]; exact ⟨by rw [b1]; exact hub, by rw [b2]; exact hoof, b3⟩
        · exact ih fuel _ (b5 ▸ Nat.le_of_succ_le h1) (b6 ▸ Nat.le_of_succ_le h2) (b7 ▸ Nat.le_of_succ_le h3) (Nat.le_of_succ_le_succ hf) d3 d4 d5 (by rw [b4]; exact hb)
            d1 d2 b3 (by rw [b1]; exact hub) (by rw [b2]; exact hoof)

theorem entry_safe (shape origin edges : List Int) (recsize len : Int) (fuel : Nat) (hne : 0 < shape.length)
    (hl2 : origin.length = shape.length) (hl3 : edges.length = shape.length) (hf : shape.length ≤ fuel) :
    let s := NCvcmaxcontig fuel recsize false shape shape.length len origin edges
    s.ub = false ∧ s.oof = false ∧ s.done = true := by
  intro s
  have key := fun b => loop0_safe shape.length fuel (entrySt shape.length recsize len shape origin edges b)
    (Nat.le_refl _) (by simp [hl2]) (by simp [hl3]) hf rfl rfl rfl
  by_cases h0 : shape.getD 0 0 = 0
  case' pos =>
    by_cases h1 : (shape.length : Int) = 1 ∧ recsize ≤ len
    case' pos => simp [s, NCvcmaxcontig, NCvcmaxcontig.chk, -List.getD_eq_getElem?_getD, h0, hne, h1]
    case' neg =>
      replace key := key 1 (by simp) rfl rfl rfl rfl rfl
      simp [s, NCvcmaxcontig, NCvcmaxcontig.chk, -List.getD_eq_getElem?_getD, h0, hne, h1]
  case' neg =>
    replace key := key 0 (by simp) rfl rfl rfl rfl rfl
    simp [s, NCvcmaxcontig, NCvcmaxcontig.chk, -List.getD_eq_getElem?_getD, h0, hne]
  all_goals
    generalize hr : NCvcmaxcontig.loop0 fuel _ = r at key
    obtain ⟨hub, hoof, hcnt⟩ := key
    cases hd : r.done <;> by_cases hlt : r.shp < r.boundary <;> simp [hd, hub, hoof, hcnt, hlt]

theorem entry_safe_nat (shape origin edges : List Nat) (recsize len fuel : Nat) (hne : 0 < shape.length)
    (hl2 : origin.length = shape.length) (hl3 : edges.length = shape.length) (hf : shape.length ≤ fuel) :
    let s := NCvcmaxcontig fuel recsize false (ints shape) shape.length len (ints origin) (ints edges)
    s.ub = false ∧ s.oof = false ∧ s.done = true := by
  have := entry_safe (ints shape) (ints origin) (ints edges) recsize len fuel (by simpa using hne) (by simp [hl2]) (by simp [hl3]) (by simpa using hf)
  simpa only [ints_length] using this

theorem small_of_inRange (sh s e : List Nat) (hr : inRange sh s e) (hS : Small sh) : Small e := by
  obtain ⟨_, h3⟩ := inRange_length sh s e hr
  intro x hx
  obtain ⟨j, hj, rfl⟩ := List.getElem_of_mem hx
  have h1 := inRange_getD sh s e hr j (by omega)
  have h2 := hS.getD j
  have : e.getD j 0 = e[j] := by simp [hj]
  omega

end H4.Lemmas.C03Fn
