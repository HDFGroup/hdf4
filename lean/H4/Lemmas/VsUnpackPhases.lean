import H4.Lemmas.VsUnpackLoops
/-! Every phase of the translated `vunpackvs` on a state without undefined behaviour, with the explicit state it leaves, and the whole function on an accepted record
    (`run_ok`, `run_hi`).  The preamble, `extag` / `exref`, the version-4 block and the epilogue are `vunpackvg`'s with `vs` for `vg`: the two functions are the same
    program around a different middle, over two state types. -/
namespace H4.Lemmas.C07Fn3
open H4 H4.Gen.Fn.Vio3
open H4.C2L hiding andS orS andU orU
open H4.Lemmas.C08Fn3 (Keeps be16 be32 S32 be16N be16_eq be32N be32_eq w16 vals_length fill fill_length attr_bit32 andU)

def SPre (B : List Int) (L : Nat) (s : St) : St :=
  ((((s.set_ret_value 0).set_uint16var (be16 B (L - 3))).set_vs_version (w16 (be16 B (L - 5)))).set_vs_more (w16 (be16 B (L - 3)))).set_bb 0

theorem phPre_ok (B : List Int) (L : Nat) (s : St) (hb : s.buf = B) (hlen : s.len = L) (h5 : 5 ≤ L) (hL : L ≤ B.length)
    (hub : s.ub = false) (hoof : s.oof = false) (hd : s.done = false) (hg : s.gto = false) :
    phPre s = SPre B L s ∧ Ok B (SPre B L s) 0 := by
  refine ⟨?_, ⟨hb, rfl, hub, hoof, hd, hg⟩⟩
  have o0 : Ok B (phPre0 s) (L - 5) := ⟨hb, by show s.len - 5 = _; rw [hlen]; omega, hub, hoof, hd, hg⟩
  obtain ⟨q1, o1⟩ := dec16v_ok o0 (by omega)
  have e1 : phVer (phPre0 s) = (((phPre0 s).set_uint16var (be16 B (L - 5))).set_bb ((L - 5 + 2 : Nat) : Int)).set_vs_version (w16 (be16 B (L - 5))) := by
    simp only [phVer]; rw [q1]; rfl
  have o1' : Ok B (phVer (phPre0 s)) (L - 5 + 2) := by rw [e1]; exact ⟨hb, rfl, hub, hoof, hd, hg⟩
  obtain ⟨q2, o2⟩ := dec16v_ok o1' (by omega)
  have e2 : L - 5 + 2 = L - 3 := by omega
  simp only [phPre, phMore]
  rw [q2, e1, e2]
  rfl

def SHead (B : List Int) (s : St) : St :=
  (((((s.set_vs_interlace (w16 (be16 B 0))).set_vs_nvertices (S32 (be32 B 2))).set_vs_wlist_ivsize (be16 B 6)).set_int16var (be16N B 8 : Int)).set_vs_wlist_n
    (be16N B 8 : Int)).set_bb 10

theorem phHead_ok {B s} (h : Ok B s 0) (hl : 10 ≤ B.length) (hnf : be16N B 8 < 32768) : phHead s = SHead B s ∧ Ok B (SHead B s) 10 := by
  refine ⟨?_, ⟨h.buf, rfl, h.ub, h.oof, h.done, h.gto⟩⟩
  obtain ⟨q1, o1⟩ := dec_ok r16s (·.vs_interlace) vunpackvs.St.set_vs_interlace h (by omega)
  obtain ⟨q2, o2⟩ := dec_ok r32s (·.vs_nvertices) vunpackvs.St.set_vs_nvertices o1 (by omega)
  obtain ⟨q3, o3⟩ := dec_ok r16 (·.vs_wlist_ivsize) vunpackvs.St.set_vs_wlist_ivsize o2 (by omega)
  obtain ⟨q4, o4⟩ := dec_ok r16s (·.int16var) vunpackvs.St.set_int16var o3 (by omega) (hT := tInt16var)
  have ew : w16 (be16 B (0 + 2 + 4 + 2)) = (be16N B 8 : Int) := by
    have e8 : 0 + 2 + 4 + 2 = 8 := rfl
    rw [e8, be16_eq]; simp only [w16]; omega
  rw [ew] at q4
  simp only [phHead, decS16v]
  rw [q1, q2, q3, q4]
  rfl

def SAllocB (s : St) (n : Nat) : St :=
  ((((((((((((s.set_vs_wlist_bptr (List.replicate (5 * n) 170)).set_vs_wlist_bptr_null false).set_vs_wlist_type 0).set_vs_wlist_type_null false).set_vs_wlist_off
    (n : Int)).set_vs_wlist_off_null false).set_vs_wlist_isize ((2 * n : Nat) : Int)).set_vs_wlist_isize_null false).set_vs_wlist_order ((3 * n : Nat) : Int)).set_vs_wlist_order_null
    false).set_vs_wlist_esize ((4 * n : Nat) : Int)).set_vs_wlist_esize_null false)

theorem phAllocB_ok {B s p} (h : Ok B s p) (n : Nat) (hn : s.vs_wlist_n = (n : Int)) (hlt : n < 32768) :
    phAllocB s = SAllocB s n ∧ Ok B (SAllocB s n) p := by
  refine ⟨?_, ⟨h.buf, h.bb, h.ub, h.oof, h.done, h.gto⟩⟩
  have e5 : ((n : Int) * 5) % 18446744073709551616 = (n : Int) * 5 := Int.emod_eq_of_lt (by omega) (by omega)
  have e10 : (2 * ((n : Int) * 5)) % 18446744073709551616 = 2 * ((n : Int) * 5) := Int.emod_eq_of_lt (by omega) (by omega)
  have c : ¬ ((((2 * (((s.vs_wlist_n * 5)) % 18446744073709551616))) % 18446744073709551616) > 9223372036854775807) := by rw [hn, e5, e10]; omega
  have t : Int.toNat (Int.tdiv (((2 * (((s.vs_wlist_n * 5)) % 18446744073709551616))) % 18446744073709551616) 2) = 5 * n := by
    rw [hn, e5, e10, Int.mul_tdiv_cancel_left _ (by decide)]; omega
  simp only [phAllocB]
  rw [if_neg c, decide_eq_false c, t]
  simp only [guard, SAllocB, vunpackvs.St.set_vs_wlist_bptr_null, vunpackvs.St.set_vs_wlist_type_null,
    vunpackvs.St.set_vs_wlist_off_null, vunpackvs.St.set_vs_wlist_isize_null,
    vunpackvs.St.set_vs_wlist_order_null, vunpackvs.St.set_vs_wlist_esize_null,
    h.done, h.gto, Bool.false_eq_true, or_self, ↓reduceIte, hn]
  congr 1 <;> omega

theorem phLoop_ok {B s p} (h : Ok B s p) (loop : St → St) : phLoop s loop = loop (s.set_i 0) := by
  rw [phLoop, guard_ok h]

def SF2 (B : List Int) (s : St) (n : Nat) : St := F0 B ((SAllocB s n).set_i 0) 10 0 n
def SF3 (B : List Int) (s : St) (n : Nat) : St := F1 B ((SF2 B s n).set_i 0) (10 + 2 * n) (2 * n) n
def SF4 (B : List Int) (s : St) (n : Nat) : St := F2 B ((SF3 B s n).set_i 0) (10 + 2 * n + 2 * n) n n
def SF5 (B : List Int) (s : St) (n : Nat) : St := F3 B ((SF4 B s n).set_i 0) (10 + 2 * n + 2 * n + 2 * n) (3 * n) n
def SF6 (B : List Int) (s : St) (n : Nat) : St := ((SF5 B s n).set_vs_wlist_name (List.replicate n [])).set_vs_wlist_name_null false
def SF7 (B : List Int) (s : St) (n : Nat) : St := F4 B ((SF6 B s n).set_i 0) (10 + 8 * n) n

theorem phAllocN_ok {B s p} (h : Ok B s p) (n : Nat) (hn : s.vs_wlist_n = (n : Int)) (hlt : n < 32768) :
    phAllocN s = (s.set_vs_wlist_name (List.replicate n [])).set_vs_wlist_name_null false := by
  have e8 : (8 * ((n : Int) % 18446744073709551616)) % 18446744073709551616 = 8 * (n : Int) := by
    have : (n : Int) % 18446744073709551616 = n := Int.emod_eq_of_lt (by omega) (by omega)
    rw [this]; exact Int.emod_eq_of_lt (by omega) (by omega)
  have c : ¬ ((((8 * ((s.vs_wlist_n) % 18446744073709551616))) % 18446744073709551616) > 9223372036854775807) := by rw [hn, e8]; omega
  have t : Int.toNat (Int.tdiv (((8 * ((s.vs_wlist_n) % 18446744073709551616))) % 18446744073709551616) 8) = n := by
    rw [hn, e8, Int.mul_tdiv_cancel_left _ (by decide)]; omega
  rw [phAllocN, guard_ok h]
  simp only []
  rw [if_neg c, decide_eq_false c, t]
  simp only [vunpackvs.St.set_vs_wlist_name_null, Bool.false_eq_true, ↓reduceIte]

structure Blk (s : St) (n : Nat) : Prop where
  nf : s.vs_wlist_n = (n : Int)
  type : s.vs_wlist_type = ((0 : Nat) : Int)
  off : s.vs_wlist_off = (n : Int)
  isize : s.vs_wlist_isize = ((2 * n : Nat) : Int)
  order : s.vs_wlist_order = ((3 * n : Nat) : Int)
  len : s.vs_wlist_bptr.length = 5 * n

theorem Blk.cell {s : St} {n : Nat} (h : Blk s n) (w : Int → Int) (B : List Int) (p cN : Nat) (hc : cN + n ≤ 5 * n) :
    Blk (Fcell w B (s.set_i 0) p cN n) n :=
  ⟨h.nf, h.type, h.off, h.isize, h.order, by
    show (fill s.vs_wlist_bptr cN _).length = _
    rw [fill_length _ _ _ (by rw [List.length_map, vals_length, h.len]; exact hc), h.len]⟩

theorem SF5_blk (B : List Int) (s : St) (n : Nat) (hn : s.vs_wlist_n = (n : Int)) : Blk (SF5 B s n) n :=
  ((((⟨hn, rfl, rfl, rfl, rfl, List.length_replicate⟩ : Blk (SAllocB s n) n).cell w16 B 10 0 (by omega)).cell idv B (10 + 2 * n) (2 * n)
    (by omega)).cell idv B (10 + 2 * n + 2 * n) n (by omega)).cell idv B (10 + 2 * n + 2 * n + 2 * n) (3 * n) (by omega)

theorem phFields_ok (M D : Int → Int) {B s} (h : Ok B s 10) (fuel n : Nat) (hn : s.vs_wlist_n = (n : Int)) (hn0 : 0 < n) (hlt : n < 32768)
    (hlen : ∀ t, t < n → nameLen B (10 + 8 * n) t < 32768) (hend : namePos B (10 + 8 * n) n ≤ B.length) (hf : n ≤ fuel) :
    phFields M D fuel s = SF7 B s n ∧ Ok B (SF7 B s n) (namePos B (10 + 8 * n) n) := by
  have hp0 : 10 + 8 * n ≤ B.length := Nat.le_trans (namePos_mono B (10 + 8 * n) 0 n (by omega)) hend
  obtain ⟨q1, o1⟩ := phAllocB_ok h n hn hlt
  have k1 : Blk (SAllocB s n) n := ⟨hn, rfl, rfl, rfl, rfl, List.length_replicate⟩
  have k2 : Blk (SF2 B s n) n := k1.cell w16 B 10 0 (by omega)
  have k3 : Blk (SF3 B s n) n := k2.cell idv B _ (2 * n) (by omega)
  have k4 : Blk (SF4 B s n) n := k3.cell idv B _ n (by omega)
  have k5 : Blk (SF5 B s n) n := k4.cell idv B _ (3 * n) (by omega)
  have seti : ∀ {t p}, Ok B t p → Ok B (t.set_i 0) p := fun o => ⟨o.buf, o.bb, o.ub, o.oof, o.done, o.gto⟩
  obtain ⟨q2, o2⟩ := loop0_ok M D (seti o1) n fuel 0 rfl k1.nf k1.type (by omega) (by show 0 + n ≤ (SAllocB s n).vs_wlist_bptr.length; rw [k1.len]; omega) hf
  obtain ⟨q3, o3⟩ := loop1_ok M D (seti (show Ok B (SF2 B s n) _ from o2)) n fuel (2 * n) rfl k2.nf k2.isize (by omega)
    (by show 2 * n + n ≤ (SF2 B s n).vs_wlist_bptr.length; rw [k2.len]; omega) hf
  obtain ⟨q4, o4⟩ := loop2_ok M D (seti (show Ok B (SF3 B s n) _ from o3)) n fuel n rfl k3.nf k3.off (by omega)
    (by show n + n ≤ (SF3 B s n).vs_wlist_bptr.length; rw [k3.len]; omega) hf
  obtain ⟨q5, o5⟩ := loop3_ok M D (seti (show Ok B (SF4 B s n) _ from o4)) n fuel (3 * n) rfl k4.nf k4.order (by omega)
    (by show 3 * n + n ≤ (SF4 B s n).vs_wlist_bptr.length; rw [k4.len]; omega) hf
  have e8 : 10 + 2 * n + 2 * n + 2 * n + 2 * n = 10 + 8 * n := by omega
  rw [e8] at o5
  have o5' : Ok B (SF5 B s n) (10 + 8 * n) := o5
  have q6 : phAllocN (SF5 B s n) = SF6 B s n := phAllocN_ok o5' n k5.nf hlt
  have o6 : Ok B (SF6 B s n) (10 + 8 * n) := ⟨o5.buf, o5.bb, o5.ub, o5.oof, o5.done, o5.gto⟩
  obtain ⟨q7, o7⟩ := loop4_ok M D (seti o6) n fuel rfl k5.nf (by show (List.replicate n ([] : List Int)).length = n; simp) hlen hend hf
  refine ⟨?_, o7⟩
  simp only [phFields]
  rw [q1, phLoop_ok o1, show vunpackvs.loop0 M D fuel _ = SF2 B s n from q2, phLoop_ok (show Ok B (SF2 B s n) _ from o2),
    show vunpackvs.loop1 M D fuel _ = SF3 B s n from q3, phLoop_ok (show Ok B (SF3 B s n) _ from o3),
    show vunpackvs.loop2 M D fuel _ = SF4 B s n from q4, phLoop_ok (show Ok B (SF4 B s n) _ from o4),
    show vunpackvs.loop3 M D fuel _ = SF5 B s n from q5, q6, phLoop_ok o6, show vunpackvs.loop4 M D fuel _ = SF7 B s n from q7]

def STable (B : List Int) (s : St) (n : Nat) : St := if n = 0 then phNoFields s else SF7 B s n

def pV (B : List Int) : Nat := namePos B (10 + 8 * be16N B 8) (be16N B 8)

theorem phTable_ok (M D : Int → Int) {B s} (h : Ok B s 10) (fuel n : Nat) (hn : s.vs_wlist_n = (n : Int)) (hlt : n < 32768)
    (hlen : ∀ t, t < n → nameLen B (10 + 8 * n) t < 32768) (hend : namePos B (10 + 8 * n) n ≤ B.length) (hf : n ≤ fuel) :
    phTable M D fuel s = STable B s n ∧ Ok B (STable B s n) (namePos B (10 + 8 * n) n) := by
  have c : ¬ (s.vs_wlist_n < 0) := by rw [hn]; omega
  simp only [phTable, STable]
  rw [if_neg c]
  by_cases h0 : n = 0
  · subst h0
    rw [if_pos (by rw [hn]; rfl), if_pos rfl]
    exact ⟨rfl, ⟨h.buf, h.bb, h.ub, h.oof, h.done, h.gto⟩⟩
  · rw [if_neg (by rw [hn]; omega), if_neg h0]
    exact phFields_ok M D h fuel n hn (by omega) hlt hlen hend hf

def SFix (reg : St → List Int) (setreg : St → List Int → St) (B : List Int) (s : St) (p : Nat) : St :=
  vunpackvs.St.set_bb (setreg (s.set_int16var (be16N B p : Int)) (cstrInto B (p + 2) (be16N B p) (reg s))) ((p + 2 + be16N B p : Nat) : Int)

structure FixSlot (reg : St → List Int) (setreg : St → List Int → St) : Prop where
  fr : ∀ x, Frame (setreg · x) := by intro _; exact {}
  ri : ∀ t v w, reg (vunpackvs.St.set_bb (vunpackvs.St.set_int16var t v) w) = reg t := by intros; rfl
  ui : ∀ t x, (setreg t x).int16var = t.int16var := by intros; rfl
  sb : ∀ t v x w, vunpackvs.St.set_bb (setreg (vunpackvs.St.set_bb t v) x) w = vunpackvs.St.set_bb (setreg t x) w := by intros; rfl

theorem phStr_ok (reg : St → List Int) (setreg : St → List Int → St) (hS : FixSlot reg setreg) {B s p} (h : Ok B s p) (hl : p + 2 + be16N B p ≤ B.length) (hlt : be16N B p < 32768)
    (hfit : (((B.drop (p + 2)).take (be16N B p)).takeWhile (· ≠ 0)).length + 1 ≤ (reg s).length) :
    phStr s reg setreg = SFix reg setreg B s p ∧ Ok B (SFix reg setreg B s p) (p + 2 + be16N B p) := by
  obtain ⟨fr, ri, ui, sb⟩ := hS
  refine ⟨?_, ((h.frame ((show Frame (vunpackvs.St.set_int16var · _) from {}))).frame (fr _)).move _⟩
  obtain ⟨q1, o1⟩ := dec_ok r16s (·.int16var) vunpackvs.St.set_int16var h (by omega) (hT := tInt16var)
  have ew : w16 (be16 B p) = (be16N B p : Int) := by
    rw [be16_eq]; simp only [w16]; omega
  rw [ew] at q1 o1
  simp only [phStr]
  rw [guard_ok h]
  simp only [decS16v]
  rw [q1, guard_ok o1]
  have q2 := cpy_ok reg setreg o1 (be16N B p) rfl (by omega) (by rw [ri]; exact hfit)
  rw [q2, ri]
  have o2 : Ok B (setreg (vunpackvs.St.set_bb (vunpackvs.St.set_int16var s (be16N B p : Int)) ((p + 2 : Nat) : Int))
      (cstrInto B (p + 2) (be16N B p) (reg s))) (p + 2) := o1.frame (fr _)
  rw [guard_ok o2]
  obtain ⟨q3, _⟩ := skip_ok o2 (be16N B p) (by rw [ui]) hlt
  rw [q3, sb]
  rfl

theorem phExtag_ok {B s p} (h : Ok B s p) (hl : p + 2 ≤ B.length) :
    phExtag s = (s.set_vs_extag (be16 B p)).set_bb ((p + 2 : Nat) : Int) ∧
      Ok B ((s.set_vs_extag (be16 B p)).set_bb ((p + 2 : Nat) : Int)) (p + 2) := by
  rw [phExtag, guard_ok h]
  exact dec_ok r16 (·.vs_extag) vunpackvs.St.set_vs_extag h hl

theorem phExref_ok {B s p} (h : Ok B s p) (hl : p + 2 ≤ B.length) :
    phExref s = (s.set_vs_exref (be16 B p)).set_bb ((p + 2 : Nat) : Int) ∧
      Ok B ((s.set_vs_exref (be16 B p)).set_bb ((p + 2 : Nat) : Int)) (p + 2) := by
  rw [phExref, guard_ok h]
  exact dec_ok r16 (·.vs_exref) vunpackvs.St.set_vs_exref h hl

theorem phMid_ok {B s p} (h : Ok B s p) (x : St → Int) (hx : ∀ t v w, x (vunpackvs.St.set_bb (vunpackvs.St.set_temp t v) w) = x t)
    (hl : p + 2 ≤ B.length) (heq : w16 (be16 B p) = x s) :
    phMid s x = (s.set_temp (w16 (be16 B p))).set_bb ((p + 2 : Nat) : Int) ∧
      Ok B ((s.set_temp (w16 (be16 B p))).set_bb ((p + 2 : Nat) : Int)) (p + 2) := by
  obtain ⟨q1, o1⟩ := dec_ok r16s (·.temp) vunpackvs.St.set_temp h hl (hT := tTemp)
  refine ⟨?_, o1⟩
  simp only [phMid]
  rw [guard_ok h, q1, guard_ok o1]
  have : ¬ ((vunpackvs.St.set_bb (vunpackvs.St.set_temp s (w16 (be16 B p))) ((p + 2 : Nat) : Int)).temp ≠ x (vunpackvs.St.set_bb (vunpackvs.St.set_temp s (w16 (be16 B p))) ((p + 2 : Nat) : Int))) := by
    rw [hx]; show ¬ (w16 (be16 B p) ≠ x s); rw [heq]; simp
  rw [if_neg this]

theorem phMid_fail {B s p} (h : Ok B s p) (x : St → Int) (hx : ∀ t v w, x (vunpackvs.St.set_bb (vunpackvs.St.set_temp t v) w) = x t)
    (hl : p + 2 ≤ B.length) (hne : w16 (be16 B p) ≠ x s) :
    (phMid s x).ub = false ∧ (phMid s x).oof = false ∧ (phMid s x).done = false ∧ (phMid s x).gto = true ∧ (phMid s x).ret_value = -1 := by
  obtain ⟨q1, o1⟩ := dec_ok r16s (·.temp) vunpackvs.St.set_temp h hl (hT := tTemp)
  simp only [phMid]
  rw [guard_ok h, q1, guard_ok o1]
  have : ((vunpackvs.St.set_bb (vunpackvs.St.set_temp s (w16 (be16 B p))) ((p + 2 : Nat) : Int)).temp ≠ x (vunpackvs.St.set_bb (vunpackvs.St.set_temp s (w16 (be16 B p))) ((p + 2 : Nat) : Int))) := by
    rw [hx]; exact hne
  rw [if_pos this]
  exact ⟨h.ub, h.oof, h.done, rfl, rfl⟩

theorem allocAlist_ok (s : St) (na : Nat) (hn : s.vs_nattrs = na) (hlt : na < 2147483648) :
    allocAlist s = (((s.set_vs_alist_findex (List.replicate na 170)).set_vs_alist_atag (List.replicate na 170)).set_vs_alist_aref (List.replicate na 170)).set_vs_alist_null false := by
  have e1 : ((na : Int) % 18446744073709551616) = na := Int.emod_eq_of_lt (by omega) (by omega)
  have e2 : ((na : Int) * 8) % 18446744073709551616 = na * 8 := Int.emod_eq_of_lt (by omega) (by omega)
  have c : ¬ (((((s.vs_nattrs) % 18446744073709551616) * 8)) % 18446744073709551616 > 9223372036854775807) := by rw [hn, e1, e2]; omega
  have t : Int.toNat (Int.tdiv (((((s.vs_nattrs) % 18446744073709551616) * 8)) % 18446744073709551616) 8) = na := by
    rw [hn, e1, e2, Int.mul_tdiv_cancel _ (by decide)]; omega
  simp only [allocAlist, vunpackvs.St.set_vs_alist_null, c, t,
    ↓reduceIte, decide_false, Bool.false_eq_true]

theorem allocAlist_fail (s : St) (hn : s.vs_nattrs < 0) (hlo : -2147483648 ≤ s.vs_nattrs) :
    (allocAlist s).gto = true ∧ (allocAlist s).ret_value = -1 ∧ (allocAlist s).ub = s.ub ∧ (allocAlist s).oof = s.oof ∧ (allocAlist s).done = s.done := by
  have e1 : ((s.vs_nattrs) % 18446744073709551616) = s.vs_nattrs + 18446744073709551616 := by omega
  have c : (((((s.vs_nattrs) % 18446744073709551616) * 8)) % 18446744073709551616 > 9223372036854775807) := by
    rw [e1]; omega
  simp only [allocAlist, fail, vunpackvs.St.set_vs_alist_null, c,
    if_true, decide_true, vunpackvs.St.set_gto]
  simp

theorem phV4_old (M D : Int → Int) {B s p} (h : Ok B s p) (fuel : Nat) (hv : s.vs_version ≠ 4) : phV4 M D fuel s = s := by
  rw [phV4, guard_ok h]; exact if_neg hv

theorem phV4_flags (M D : Int → Int) {B s p} (h : Ok B s p) (fuel : Nat) (hv : s.vs_version = 4) (hl : p + 4 ≤ B.length) (ha : be32N B p % 2 = 0) :
    phV4 M D fuel s = (s.set_vs_flags (be32 B p)).set_bb ((p + 4 : Nat) : Int) ∧
      Ok B ((s.set_vs_flags (be32 B p)).set_bb ((p + 4 : Nat) : Int)) (p + 4) := by
  obtain ⟨q, o⟩ := decFlags_ok h hl
  refine ⟨?_, o⟩
  rw [phV4, guard_ok h]
  simp only [if_pos hv]
  rw [q]
  rw [if_neg (show ¬ andU (be32 B p) _ ≠ 0 from fun c => by have := (attr_bit32 B p).mp c; omega)]

def SAlloc (B : List Int) (s : St) (p na : Nat) : St :=
  vunpackvs.St.set_i (vunpackvs.St.set_vs_alist_null (vunpackvs.St.set_vs_alist_aref (vunpackvs.St.set_vs_alist_atag (vunpackvs.St.set_vs_alist_findex
    (vunpackvs.St.set_bb (vunpackvs.St.set_vs_nattrs (vunpackvs.St.set_bb (vunpackvs.St.set_vs_flags s (be32 B p)) ((p + 4 : Nat) : Int)) (na : Int))
      ((p + 8 : Nat) : Int)) (List.replicate na 170)) (List.replicate na 170)) (List.replicate na 170)) false) 0

def SAttr (B : List Int) (s : St) (p na : Nat) : St := F5 B (SAlloc B s p na) (p + 8) na

theorem phV4_attrs (M D : Int → Int) {B s p} (h : Ok B s p) (fuel : Nat) (hv : s.vs_version = 4) (ha : be32N B p % 2 = 1)
    (hna : be32N B (p + 4) < 2147483648) (hl : p + 8 + 8 * be32N B (p + 4) ≤ B.length) (hf : be32N B (p + 4) ≤ fuel) :
    phV4 M D fuel s = SAttr B s p (be32N B (p + 4)) ∧ Ok B (SAttr B s p (be32N B (p + 4))) (p + 8 + 8 * be32N B (p + 4)) := by
  obtain ⟨q, o⟩ := decFlags_ok h (by omega)
  obtain ⟨q2, o2⟩ := dec_ok r32s (·.vs_nattrs) vunpackvs.St.set_vs_nattrs o (by omega)
  have e8 : p + 4 + 4 = p + 8 := by omega
  rw [e8] at q2 o2
  have s32 : S32 (be32 B (p + 4)) = (be32N B (p + 4) : Int) := by
    rw [be32_eq]; simp only [S32]; split <;> omega
  rw [s32] at q2 o2
  have q3 := allocAlist_ok (vunpackvs.St.set_bb (vunpackvs.St.set_vs_nattrs (vunpackvs.St.set_bb (vunpackvs.St.set_vs_flags s (be32 B p)) ((p + 4 : Nat) : Int))
    (be32N B (p + 4) : Int)) ((p + 8 : Nat) : Int)) (be32N B (p + 4)) rfl hna
  have o3 : Ok B (SAlloc B s p (be32N B (p + 4))) (p + 8) := ⟨h.buf, rfl, h.ub, h.oof, h.done, h.gto⟩
  obtain ⟨q4, o4⟩ := loop5_ok M D o3 (be32N B (p + 4)) fuel rfl rfl hl
    (by show _ ≤ (List.replicate _ _).length; simp) (by show _ ≤ (List.replicate _ _).length; simp) (by show _ ≤ (List.replicate _ _).length; simp) hf
  refine ⟨?_, o4⟩
  rw [phV4, guard_ok h]
  simp only [if_pos hv]
  rw [q]
  rw [if_pos (show andU (be32 B p) _ ≠ 0 from (attr_bit32 B p).mpr ha)]
  simp only [phAttrs]
  rw [q2, q3]
  have og : Ok B (vunpackvs.St.set_vs_alist_null (vunpackvs.St.set_vs_alist_aref (vunpackvs.St.set_vs_alist_atag (vunpackvs.St.set_vs_alist_findex
    (vunpackvs.St.set_bb (vunpackvs.St.set_vs_nattrs (vunpackvs.St.set_bb (vunpackvs.St.set_vs_flags s (be32 B p)) ((p + 4 : Nat) : Int)) (be32N B (p + 4) : Int))
      ((p + 8 : Nat) : Int)) (List.replicate (be32N B (p + 4)) 170)) (List.replicate (be32N B (p + 4)) 170)) (List.replicate (be32N B (p + 4)) 170)) false) (p + 8) :=
    ⟨h.buf, rfl, h.ub, h.oof, h.done, h.gto⟩
  rw [phLoop_ok og]
  exact q4

theorem phOld_new (M D : Int → Int) {B s p} (h : Ok B s p) (fuel : Nat) (hv : ¬ s.vs_version ≤ 2) : phOld M D fuel s = s := by
  rw [phOld, guard_ok h]; exact if_neg hv

theorem phOld_old (M D : Int → Int) {B s p} (h : Ok B s p) (fuel : Nat) (hv : s.vs_version ≤ 2) (m tN : Nat) (hn : s.vs_wlist_n = (m : Int))
    (hc : s.vs_wlist_type = (tN : Int)) (ht : tN + m ≤ s.vs_wlist_bptr.length) (hf : m ≤ fuel) :
    phOld M D fuel s = F6 M (s.set_i 0) tN m ∧ Ok B (F6 M (s.set_i 0) tN m) p := by
  rw [phOld, guard_ok h]
  simp only [if_pos hv]
  exact loop6_ok M D (show Ok B (s.set_i 0) p from ⟨h.buf, h.bb, h.ub, h.oof, h.done, h.gto⟩) m fuel tN rfl hn hc ht hf

theorem phEpi_ok (s : St) (hd : s.done = false) : phEpi s = ((s.set_gto false).set_ret s.ret_value).set_done true := by
  simp only [phEpi, hd]; rfl

def Sm3 (B : List Int) (s : St) : St := SFix (·.vs_vsname) vunpackvs.St.set_vs_vsname B (STable B (SHead B s) (nfN B)) (pVn B)
def Sm4 (B : List Int) (s : St) : St := SFix (·.vs_vsclass) vunpackvs.St.set_vs_vsclass B (Sm3 B s) (pVc B)
def Sm5 (B : List Int) (s : St) : St := ((Sm4 B s).set_vs_extag (be16 B (pEx B))).set_bb ((pEx B + 2 : Nat) : Int)
def Sm6 (B : List Int) (s : St) : St := ((Sm5 B s).set_vs_exref (be16 B (pEx B + 2))).set_bb ((pEx B + 2 + 2 : Nat) : Int)
def Sm7 (B : List Int) (s : St) : St := ((Sm6 B s).set_temp (w16 (be16 B (pEx B + 2 + 2)))).set_bb ((pEx B + 2 + 2 + 2 : Nat) : Int)
def Sm8 (B : List Int) (s : St) : St := ((Sm7 B s).set_temp (w16 (be16 B (pEx B + 2 + 2 + 2)))).set_bb ((pEx B + 2 + 2 + 2 + 2 : Nat) : Int)

/-- what the record must satisfy up to the middle trailer copies for the translated code to read it without undefined behaviour (`< 32768`: non-negative as
    `int16`) -/
structure HeadOK (B : List Int) (s : St) : Prop where
  nf : nfN B < 32768
  names : ∀ t, t < nfN B → nameLen B (pNm B) t < 32768
  lvn : lVn B < 32768
  lvc : lVc B < 32768
  inside : pEx B + 8 ≤ B.length
  fitn : (((B.drop (pVn B + 2)).take (lVn B)).takeWhile (· ≠ 0)).length + 1 ≤ s.vs_vsname.length
  fitc : (((B.drop (pVc B + 2)).take (lVc B)).takeWhile (· ≠ 0)).length + 1 ≤ s.vs_vsclass.length
  ver : w16 (be16 B (pEx B + 4)) = s.vs_version
  more : w16 (be16 B (pEx B + 6)) = s.vs_more

/-- A `rfl` per member does not do here as it does for `vunpackvg`'s `Sb9_extag`: the states are guarded by `if`s on the record (`STable`, `SV4`, `SOld`, `SEs`),
    which the unifier would have to decide; hence one clause per setter (so `KMid`, `KV4`, `KEpi`). -/
structure KTab {α} (f : St → α) : Prop where
  bb : Keeps f vunpackvs.St.set_bb := by intro _ _; rfl
  i : Keeps f vunpackvs.St.set_i := by intro _ _; rfl
  u : Keeps f vunpackvs.St.set_int16var := by intro _ _; rfl
  row : Keeps f vunpackvs.St.set_vs_wlist_name := by intro _ _; rfl
  rown : Keeps f vunpackvs.St.set_vs_wlist_name_null := by intro _ _; rfl
  b : Keeps f vunpackvs.St.set_vs_wlist_bptr := by intro _ _; rfl
  bn : Keeps f vunpackvs.St.set_vs_wlist_bptr_null := by intro _ _; rfl
  c1 : Keeps f vunpackvs.St.set_vs_wlist_type := by intro _ _; rfl
  c1n : Keeps f vunpackvs.St.set_vs_wlist_type_null := by intro _ _; rfl
  c2 : Keeps f vunpackvs.St.set_vs_wlist_off := by intro _ _; rfl
  c2n : Keeps f vunpackvs.St.set_vs_wlist_off_null := by intro _ _; rfl
  c3 : Keeps f vunpackvs.St.set_vs_wlist_isize := by intro _ _; rfl
  c3n : Keeps f vunpackvs.St.set_vs_wlist_isize_null := by intro _ _; rfl
  c4 : Keeps f vunpackvs.St.set_vs_wlist_order := by intro _ _; rfl
  c4n : Keeps f vunpackvs.St.set_vs_wlist_order_null := by intro _ _; rfl
  c5 : Keeps f vunpackvs.St.set_vs_wlist_esize := by intro _ _; rfl
  c5n : Keeps f vunpackvs.St.set_vs_wlist_esize_null := by intro _ _; rfl

theorem SF7_keep {α} (f : St → α) (B : List Int) (t : St) (n : Nat) (k : KTab f := by exact {}) : f (SF7 B t n) = f t := by
  rw [SF7, F4, k.bb, k.i, k.u, k.row, k.i, SF6, k.rown, k.row, SF5, F3, k.bb, k.i, k.b, k.i, SF4, F2, k.bb, k.i, k.b, k.i, SF3, F1, k.bb, k.i, k.b, k.i,
    SF2, F0, k.bb, k.i, k.b, k.i, SAllocB, k.c5n, k.c5, k.c4n, k.c4, k.c3n, k.c3, k.c2n, k.c2, k.c1n, k.c1, k.bn, k.b]

theorem STable_keep {α} (f : St → α) (B : List Int) (s : St) (n : Nat) (h1 : f (SF7 B s n) = f s)
    (h0 : f (phNoFields s) = f s := by rfl) : f (STable B s n) = f s := by
  simp only [STable]; split
  · exact h0
  · exact h1

theorem STable_vsname (B : List Int) (s : St) (n : Nat) : (STable B s n).vs_vsname = s.vs_vsname := STable_keep (·.vs_vsname) B s n (SF7_keep _ B s n)
theorem STable_vsclass (B : List Int) (s : St) (n : Nat) : (STable B s n).vs_vsclass = s.vs_vsclass := STable_keep (·.vs_vsclass) B s n (SF7_keep _ B s n)
theorem STable_version (B : List Int) (s : St) (n : Nat) : (STable B s n).vs_version = s.vs_version := STable_keep (·.vs_version) B s n (SF7_keep _ B s n)
theorem STable_more (B : List Int) (s : St) (n : Nat) : (STable B s n).vs_more = s.vs_more := STable_keep (·.vs_more) B s n (SF7_keep _ B s n)

structure KMid {α} (f : St → α) : Prop where
  bb : Keeps f vunpackvs.St.set_bb := by intro _ _; rfl
  t : Keeps f vunpackvs.St.set_temp := by intro _ _; rfl
  x : Keeps f vunpackvs.St.set_vs_exref := by intro _ _; rfl
  e : Keeps f vunpackvs.St.set_vs_extag := by intro _ _; rfl
  c : Keeps f vunpackvs.St.set_vs_vsclass := by intro _ _; rfl
  n : Keeps f vunpackvs.St.set_vs_vsname := by intro _ _; rfl
  u : Keeps f vunpackvs.St.set_int16var := by intro _ _; rfl

theorem Sm6_thru {α} (f : St → α) (B : List Int) (s : St) (k : KMid f := by exact {}) : f (Sm6 B s) = f (STable B (SHead B s) (nfN B)) := by
  rw [Sm6, k.bb, k.x, Sm5, k.bb, k.e, Sm4, SFix, k.bb, k.c, k.u, Sm3, SFix, k.bb, k.n, k.u]

theorem Sm8_thru {α} (f : St → α) (B : List Int) (s : St) (k : KMid f := by exact {}) : f (Sm8 B s) = f (STable B (SHead B s) (nfN B)) := by
  rw [Sm8, k.bb, k.t, Sm7, k.bb, k.t, Sm6_thru f B s k]

theorem mid8_ok (M D : Int → Int) {B s} (h : Ok B s 0) (fuel : Nat) (hk : HeadOK B s) (hf : nfN B ≤ fuel) :
    phMid (phMid (phExref (phExtag (phStr (phStr (phTable M D fuel (phHead s)) (·.vs_vsname) vunpackvs.St.set_vs_vsname) (·.vs_vsclass)
      vunpackvs.St.set_vs_vsclass))) (·.vs_version)) (·.vs_more) = Sm8 B s ∧ Ok B (Sm8 B s) (pEx B + 8) := by
  obtain ⟨k1, k2, k3, k4, k5, k6, k7, k8, k9⟩ := hk
  have hpos : pNm B = 10 + 8 * nfN B ∧ pVn B = namePos B (pNm B) (nfN B) ∧ pVc B = pVn B + 2 + lVn B ∧ pEx B = pVc B + 2 + lVc B := ⟨rfl, rfl, rfl, rfl⟩
  have hmono := namePos_mono B (pNm B) 0 (nfN B) (by omega)
  have hp0 : namePos B (pNm B) 0 = pNm B := rfl
  obtain ⟨q1, o1⟩ := phHead_ok h (by omega) k1
  obtain ⟨q2, o2⟩ : _ ∧ Ok B (STable B (SHead B s) (nfN B)) (pVn B) := phTable_ok M D o1 fuel (nfN B) rfl k1 k2 (by show pVn B ≤ _; omega) hf
  obtain ⟨q3, o3⟩ : _ = Sm3 B s ∧ Ok B (Sm3 B s) (pVc B) :=
    phStr_ok (·.vs_vsname) vunpackvs.St.set_vs_vsname {} o2
      (by show pVn B + 2 + lVn B ≤ _; omega) k3 (by rw [STable_vsname]; exact k6)
  obtain ⟨q4, o4⟩ : _ = Sm4 B s ∧ Ok B (Sm4 B s) (pEx B) :=
    phStr_ok (·.vs_vsclass) vunpackvs.St.set_vs_vsclass {} o3
      (by show pVc B + 2 + lVc B ≤ _; omega) k4 (by
        show _ ≤ (STable B (SHead B s) (nfN B)).vs_vsclass.length
        rw [STable_vsclass]; exact k7)
  obtain ⟨q5, o5⟩ : _ = Sm5 B s ∧ _ := phExtag_ok o4 (by omega)
  obtain ⟨q6, o6⟩ : _ = Sm6 B s ∧ Ok B (Sm6 B s) (pEx B + 2 + 2) := phExref_ok o5 (by omega)
  have v6 : (Sm6 B s).vs_version = s.vs_version := (Sm6_thru (·.vs_version) B s).trans (STable_version _ _ _)
  have m6 : (Sm6 B s).vs_more = s.vs_more := (Sm6_thru (·.vs_more) B s).trans (STable_more _ _ _)
  have e4 : pEx B + 2 + 2 = pEx B + 4 := by omega
  have e6 : pEx B + 2 + 2 + 2 = pEx B + 6 := by omega
  obtain ⟨q7, o7⟩ : _ = Sm7 B s ∧ Ok B (Sm7 B s) (pEx B + 2 + 2 + 2) := phMid_ok o6 (·.vs_version) (fun _ _ _ => rfl) (by omega) (by rw [e4, v6]; exact k8)
  obtain ⟨q8, o8⟩ : _ = Sm8 B s ∧ _ := phMid_ok o7 (·.vs_more) (fun _ _ _ => rfl) (by omega) (by
    rw [e6]; show _ = (Sm6 B s).vs_more; rw [m6]; exact k9)
  refine ⟨?_, by have e8 : pEx B + 2 + 2 + 2 + 2 = pEx B + 8 := by omega
                 rw [← e8]; exact o8⟩
  rw [q1, q2, q3, q4, q5, q6, q7, q8]

def SV4 (B : List Int) (s : St) (p : Nat) : St :=
  if s.vs_version = 4 then
    (if be32N B p % 2 = 1 then SAttr B s p (be32N B (p + 4)) else (s.set_vs_flags (be32 B p)).set_bb ((p + 4 : Nat) : Int))
  else s

def endV4 (B : List Int) (ver : Int) (p : Nat) : Nat :=
  if ver = 4 then (if be32N B p % 2 = 1 then p + 8 + 8 * be32N B (p + 4) else p + 4) else p

structure KV4 {α} (f : St → α) : Prop where
  bb : Keeps f vunpackvs.St.set_bb := by intro _ _; rfl
  i : Keeps f vunpackvs.St.set_i := by intro _ _; rfl
  fl : Keeps f vunpackvs.St.set_vs_flags := by intro _ _; rfl
  na : Keeps f vunpackvs.St.set_vs_nattrs := by intro _ _; rfl
  a1 : Keeps f vunpackvs.St.set_vs_alist_findex := by intro _ _; rfl
  a2 : Keeps f vunpackvs.St.set_vs_alist_atag := by intro _ _; rfl
  a3 : Keeps f vunpackvs.St.set_vs_alist_aref := by intro _ _; rfl
  a4 : Keeps f vunpackvs.St.set_vs_alist_null := by intro _ _; rfl

theorem SV4_proj {α} (f : St → α) (B : List Int) (s : St) (p : Nat) (k : KV4 f := by exact {}) : f (SV4 B s p) = f s := by
  simp only [SV4]; split
  · split
    · rw [SAttr, F5, k.bb, k.i, k.a3, k.a2, k.a1, SAlloc, k.i, k.a4, k.a3, k.a2, k.a1, k.bb, k.na, k.bb, k.fl]
    · rw [k.bb, k.fl]
  · rfl

theorem phV4_all (M D : Int → Int) {B s p} (h : Ok B s p) (fuel : Nat)
    (hin : s.vs_version = 4 → p + 4 ≤ B.length ∧ (be32N B p % 2 = 1 → be32N B (p + 4) < 2147483648 ∧ p + 8 + 8 * be32N B (p + 4) ≤ B.length ∧
      be32N B (p + 4) ≤ fuel)) :
    phV4 M D fuel s = SV4 B s p ∧ Ok B (SV4 B s p) (endV4 B s.vs_version p) := by
  simp only [SV4, endV4]
  by_cases hv : s.vs_version = 4
  · obtain ⟨h4, ha⟩ := hin hv
    rw [if_pos hv, if_pos hv]
    by_cases hb : be32N B p % 2 = 1
    · obtain ⟨a1, a2, a3⟩ := ha hb
      rw [if_pos hb, if_pos hb]
      exact phV4_attrs M D h fuel hv hb a1 a2 a3
    · rw [if_neg hb, if_neg hb]
      exact phV4_flags M D h fuel hv h4 (by omega)
  · rw [if_neg hv, if_neg hv]
    exact ⟨phV4_old M D h fuel hv, h⟩

theorem loop6_zero (M D : Int → Int) (fuel : Nat) (s : St) (hn : s.vs_wlist_n = 0) (hi : s.i = 0) : vunpackvs.loop6 M D fuel s = s :=
  (H4.C2L.IsLoop.of_eqs (L := vunpackvs.loop6 M D) (fun _ => rfl) (fun _ _ => rfl)).exit (by rw [hn, hi]; simp) fuel

theorem loop7_zero (M D : Int → Int) (fuel : Nat) (s : St) (hn : s.vs_wlist_n = 0) (hi : s.i = 0) : vunpackvs.loop7 M D fuel s = s :=
  (H4.C2L.IsLoop.of_eqs (L := vunpackvs.loop7 M D) (fun _ => rfl) (fun _ _ => rfl)).exit (by rw [hn, hi]; simp) fuel

def SOld (M : Int → Int) (s : St) (n : Nat) : St :=
  if s.vs_version ≤ 2 then (if n = 0 then s.set_i 0 else F6 M (s.set_i 0) 0 n) else s

theorem phOld_all (M D : Int → Int) {B s p} (h : Ok B s p) (fuel n : Nat) (hn : s.vs_wlist_n = (n : Int))
    (hc : 0 < n → s.vs_wlist_type = 0 ∧ n ≤ s.vs_wlist_bptr.length) (hf : n ≤ fuel) :
    phOld M D fuel s = SOld M s n ∧ Ok B (SOld M s n) p := by
  simp only [SOld]
  by_cases hv : s.vs_version ≤ 2
  · rw [if_pos hv]
    by_cases h0 : n = 0
    · subst h0
      rw [if_pos rfl, phOld, guard_ok h]
      simp only [if_pos hv]
      rw [loop6_zero M D fuel _ (by show s.vs_wlist_n = 0; rw [hn]; rfl) rfl]
      exact ⟨rfl, ⟨h.buf, h.bb, h.ub, h.oof, h.done, h.gto⟩⟩
    · rw [if_neg h0]
      obtain ⟨c1, c2⟩ := hc (by omega)
      exact phOld_old M D h fuel hv n 0 hn (by rw [c1]; rfl) (by omega) hf
  · rw [if_neg hv]
    exact ⟨phOld_new M D h fuel hv, h⟩

def SEs (D : Int → Int) (s : St) (n : Nat) : St := if n = 0 then s.set_i 0 else F7 D (s.set_i 0) 0 (3 * n) (4 * n) n

theorem phEs_all (M D : Int → Int) {B s p} (h : Ok B s p) (fuel n : Nat) (hn : s.vs_wlist_n = (n : Int))
    (hc : 0 < n → s.vs_wlist_type = 0 ∧ s.vs_wlist_order = ((3 * n : Nat) : Int) ∧ s.vs_wlist_esize = ((4 * n : Nat) : Int) ∧ 5 * n ≤ s.vs_wlist_bptr.length)
    (hf : n ≤ fuel) :
    phLoop s (vunpackvs.loop7 M D fuel) = SEs D s n ∧ Ok B (SEs D s n) p := by
  rw [phLoop_ok h]
  simp only [SEs]
  by_cases h0 : n = 0
  · subst h0
    rw [if_pos rfl, loop7_zero M D fuel _ (by show s.vs_wlist_n = 0; rw [hn]; rfl) rfl]
    exact ⟨rfl, ⟨h.buf, h.bb, h.ub, h.oof, h.done, h.gto⟩⟩
  · rw [if_neg h0]
    obtain ⟨c1, c2, c3, c4⟩ := hc (by omega)
    exact loop7_ok M D (show Ok B (s.set_i 0) p from ⟨h.buf, h.bb, h.ub, h.oof, h.done, h.gto⟩) n fuel 0 (3 * n) (4 * n) rfl hn
      (by show s.vs_wlist_type = _; rw [c1]; rfl) c2 c3 (by omega) (by omega) (by show 4 * n + n ≤ s.vs_wlist_bptr.length; omega) hf

structure TableOK (s : St) (n : Nat) : Prop where
  nf : s.vs_wlist_n = (n : Int)
  type : 0 < n → s.vs_wlist_type = 0
  order : 0 < n → s.vs_wlist_order = ((3 * n : Nat) : Int)
  esize : 0 < n → s.vs_wlist_esize = ((4 * n : Nat) : Int)
  len : 0 < n → s.vs_wlist_bptr.length = 5 * n

theorem TableOK.of_eq {s s' : St} {n : Nat} (h : TableOK s n) (e1 : s'.vs_wlist_n = s.vs_wlist_n) (e2 : s'.vs_wlist_type = s.vs_wlist_type)
    (e3 : s'.vs_wlist_order = s.vs_wlist_order) (e4 : s'.vs_wlist_esize = s.vs_wlist_esize) (e5 : s'.vs_wlist_bptr.length = s.vs_wlist_bptr.length) :
    TableOK s' n :=
  ⟨by rw [e1]; exact h.nf, fun x => by rw [e2]; exact h.type x, fun x => by rw [e3]; exact h.order x, fun x => by rw [e4]; exact h.esize x,
   fun x => by rw [e5]; exact h.len x⟩

theorem SV4_table (B : List Int) (s : St) (p n : Nat) (h : TableOK s n) : TableOK (SV4 B s p) n :=
  h.of_eq (SV4_proj (·.vs_wlist_n) B s p) (SV4_proj (·.vs_wlist_type) B s p) (SV4_proj (·.vs_wlist_order) B s p) (SV4_proj (·.vs_wlist_esize) B s p)
    (SV4_proj (·.vs_wlist_bptr.length) B s p)

theorem SOld_table (M : Int → Int) (s : St) (n : Nat) (h : TableOK s n) : TableOK (SOld M s n) n := by
  simp only [SOld]
  split
  · split
    · exact h.of_eq rfl rfl rfl rfl rfl
    · rename_i h0
      refine h.of_eq rfl rfl rfl rfl ?_
      show (fill s.vs_wlist_bptr 0 _).length = _
      rw [fill_length _ _ _ (by simp; rw [h.len (by omega)]; omega)]
  · exact h

theorem tail_ok (M D : Int → Int) {B s p} (h : Ok B s p) (fuel n : Nat) (ht : TableOK s n)
    (hin : s.vs_version = 4 → p + 4 ≤ B.length ∧ (be32N B p % 2 = 1 → be32N B (p + 4) < 2147483648 ∧ p + 8 + 8 * be32N B (p + 4) ≤ B.length ∧
      be32N B (p + 4) ≤ fuel)) (hf : n ≤ fuel) :
    phLoop (phOld M D fuel (phV4 M D fuel s)) (vunpackvs.loop7 M D fuel) = SEs D (SOld M (SV4 B s p) n) n ∧
      Ok B (SEs D (SOld M (SV4 B s p) n) n) (endV4 B s.vs_version p) := by
  obtain ⟨q1, o1⟩ := phV4_all M D h fuel hin
  have t1 := SV4_table B s p n ht
  obtain ⟨q2, o2⟩ := phOld_all M D o1 fuel n t1.nf (fun x => ⟨t1.type x, by rw [t1.len x]; omega⟩) hf
  have t2 := SOld_table M _ n t1
  obtain ⟨q3, o3⟩ := phEs_all M D o2 fuel n t2.nf (fun x => ⟨t2.type x, t2.order x, t2.esize x, by rw [t2.len x]; omega⟩) hf
  rw [q1, q2, q3]
  exact ⟨rfl, o3⟩

theorem STable_table (B : List Int) (s : St) (n : Nat) (hn : s.vs_wlist_n = (n : Int)) : TableOK (STable B s n) n := by
  refine ⟨(STable_keep (·.vs_wlist_n) B s n (SF7_keep _ B s n)).trans hn, ?_, ?_, ?_, ?_⟩ <;> intro h0 <;> simp only [STable, if_neg (show ¬ n = 0 by omega)]
  · rfl
  · rfl
  · rfl
  · exact (SF5_blk B s n hn).len

theorem Sm8_table (B : List Int) (s : St) : TableOK (Sm8 B s) (nfN B) :=
  (STable_table B (SHead B s) (nfN B) rfl).of_eq (Sm8_thru (·.vs_wlist_n) B s) (Sm8_thru (·.vs_wlist_type) B s) (Sm8_thru (·.vs_wlist_order) B s)
    (Sm8_thru (·.vs_wlist_esize) B s) (Sm8_thru (·.vs_wlist_bptr.length) B s)

theorem Sm8_version (B : List Int) (s : St) : (Sm8 B s).vs_version = s.vs_version :=
  (Sm8_thru (·.vs_version) B s).trans (STable_version _ _ _)

def Epi (s : St) : St := ((s.set_gto false).set_ret s.ret_value).set_done true

structure Init (B : List Int) (L : Nat) (s : St) : Prop where
  buf : s.buf = B
  len : s.len = L
  ub : s.ub = false
  oof : s.oof = false
  done : s.done = false
  gto : s.gto = false

def SFin (M D : Int → Int) (B : List Int) (L : Nat) (s : St) : St :=
  Epi (SEs D (SOld M (SV4 B (Sm8 B (SPre B L s)) (pEx B + 8)) (nfN B)) (nfN B))

theorem run_hi (M D : Int → Int) {B L s} (h : Init B L s) (fuel : Nat) (h5 : 5 ≤ L) (hL : L ≤ B.length) (hv : ¬ w16 (be16 B (L - 5)) ≤ 4) :
    run M D fuel s = Epi (SPre B L s) ∧ (Epi (SPre B L s)).ub = false ∧ (Epi (SPre B L s)).oof = false ∧ (Epi (SPre B L s)).ret = 0 := by
  obtain ⟨q, o⟩ := phPre_ok B L s h.buf h.len h5 hL h.ub h.oof h.done h.gto
  refine ⟨?_, o.ub, o.oof, rfl⟩
  simp only [run]
  rw [q, if_neg (show ¬ (SPre B L s).vs_version ≤ 4 from hv), phEpi_ok _ o.done]
  rfl

theorem run_ok (M D : Int → Int) {B L s} (h : Init B L s) (fuel : Nat) (h5 : 5 ≤ L) (hL : L ≤ B.length) (hv : w16 (be16 B (L - 5)) ≤ 4)
    (hk : HeadOK B (SPre B L s))
    (hin : w16 (be16 B (L - 5)) = 4 → pEx B + 8 + 4 ≤ B.length ∧ (be32N B (pEx B + 8) % 2 = 1 → be32N B (pEx B + 8 + 4) < 2147483648 ∧
      pEx B + 8 + 8 + 8 * be32N B (pEx B + 8 + 4) ≤ B.length ∧ be32N B (pEx B + 8 + 4) ≤ fuel)) (hf : nfN B ≤ fuel) :
    run M D fuel s = SFin M D B L s ∧ (SFin M D B L s).ub = false ∧ (SFin M D B L s).oof = false ∧ (SFin M D B L s).ret = (SFin M D B L s).ret_value := by
  obtain ⟨q, o⟩ := phPre_ok B L s h.buf h.len h5 hL h.ub h.oof h.done h.gto
  obtain ⟨q8, o8⟩ := mid8_ok M D o fuel hk hf
  have hver : (Sm8 B (SPre B L s)).vs_version = w16 (be16 B (L - 5)) := by rw [Sm8_version]; rfl
  obtain ⟨qt, ot⟩ := tail_ok M D o8 fuel (nfN B) (Sm8_table B _) (by rw [hver]; exact hin) hf
  have e : ∀ X : St, (Epi X).ub = X.ub ∧ (Epi X).oof = X.oof ∧ (Epi X).ret = (Epi X).ret_value := fun _ => ⟨rfl, rfl, rfl⟩
  refine ⟨?_, (e _).1.trans ot.ub, (e _).2.1.trans ot.oof, (e _).2.2⟩
  simp only [run]
  rw [q, if_pos (show (SPre B L s).vs_version ≤ 4 from hv)]
  simp only [phBody]
  rw [q8, qt, phEpi_ok _ ot.done]
  rfl

end H4.Lemmas.C07Fn3
