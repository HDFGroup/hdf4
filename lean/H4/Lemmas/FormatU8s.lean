import H4.Lemmas.Format
import H4.Lemmas.C2LBytes
/-! The bytes of `H4.Format` as the translated code sees them (`u8s`): an encoded field is the cursor layer's big-endian cell list (`u8s_enc16`,
    `u8s_enc32`), and the cursor's `val16` / `val32` over such a buffer are the values `nv16` / `nv32` the model's readers deliver
    (namespace of `nv16` / `nv32`). -/
namespace H4.Lemmas.C02HdrFn
open H4 H4.Format H4.C2L

theorem u8s_enc16 (n : Nat) : u8s (Format.enc16 n) = be16I (n : Int) := by
  have a1 : ((n / 256 : Nat) : Int) = (n : Int) / 256 := by omega
  simp only [Format.enc16, u8s_cons, u8s_nil, u8_toInt, be16I, a1]

theorem u8s_enc32 (n : Nat) : u8s (Format.enc32 n) = be32I (n : Int) := by
  have a1 : ((n / 256 : Nat) : Int) = (n : Int) / 256 := by omega
  have a2 : ((n / 65536 : Nat) : Int) = (n : Int) / 65536 := by omega
  have a3 : ((n / 16777216 : Nat) : Int) = (n : Int) / 16777216 := by omega
  simp only [Format.enc32, u8s_cons, u8s_nil, u8_toInt, be32I, a1, a2, a3]

theorem cellAt_u8s (b : Bytes) (k j : Nat) : cellAt (u8s b) (k : Int) j = (nv8 b (k + j) : Int) := by
  unfold cellAt nv8
  rw [show Int.toNat ((k : Int) + (j : Int)) = k + j by omega, u8s_getD]
  have := UInt8.toNat_lt (b.getD (k + j) 0)
  omega
theorem val16_u8s (b : Bytes) (k : Nat) : val16 (u8s b) (k : Int) = (nv16 b k : Int) := by
  unfold val16 nv16
  rw [cellAt_u8s, cellAt_u8s]
  simp
theorem val32_u8s (b : Bytes) (k : Nat) : val32 (u8s b) (k : Int) = (nv32 b k : Int) := by
  unfold val32 nv32
  rw [cellAt_u8s, cellAt_u8s, cellAt_u8s, cellAt_u8s]
  simp only [Nat.add_zero]
  omega
theorem toS32_wrap (n : Nat) (h : n < 4294967296) : toS32 n = wrapS32 (n : Int) := by
  unfold toS32 wrapS32
  split <;> omega

end H4.Lemmas.C02HdrFn
