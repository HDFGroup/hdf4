import H4.ReadOnly
/-! Helper lemmas for `Props/C14.lean`: which model functions are "quiet" (no write request, no change of the bytes,
of the DD list in memory or of the access rights) and what a read-only, clean record guarantees. -/
namespace H4.ReadOnly
open H4.Gen.Hdf H4.Gen.Macros
open H4.Gen.RO (DFACC_CURRENT)

theorem consts : DFACC_READ = 1 ∧ DFACC_WRITE = 2 ∧ DFACC_RDWR = 3 ∧ DFACC_CREATE = 4 ∧ DFACC_ALL = 7 := by decide

theorem read_noW : DFACC_READ &&& DFACC_WRITE = 0 := by decide
theorem rdwr_W : DFACC_RDWR &&& DFACC_WRITE ≠ 0 := by decide

theorem or_read_noW (a : Nat) (h : a &&& DFACC_WRITE = 0) : (a ||| DFACC_READ) &&& DFACC_WRITE = 0 := by
  rw [Nat.and_or_distrib_right, h, read_noW]; rfl

def AccsRO (s : State) : Prop := ∀ a ∈ s.accs, a.access &&& DFACC_WRITE = 0

def RO (s : State) : Prop := canWrite s.f = false ∧ AccsRO s

def Clean (s : State) : Prop := s.f.dirty = 0 ∧ ∀ b ∈ s.f.blocks, b.dirty = false

def Inv (s : State) : Prop := RO s ∧ Clean s

/-- `s'` differs from `s` at most in the access records, the id counters, `attach`, `maxref`, `ddnull` and the version fields -/
structure Quiet (s s' : State) : Prop where
  disk : s'.f.disk = s.f.disk
  log : s'.log = s.log
  exts : s'.exts = s.exts
  blocks : s'.f.blocks = s.f.blocks
  dirty : s'.f.dirty = s.f.dirty
  access : s'.f.access = s.f.access
  streamW : s'.f.streamW = s.f.streamW
  cache : s'.f.cache = s.f.cache
  refcount : s'.f.refcount = s.f.refcount
  endOff : s'.f.endOff = s.f.endOff
  fids : s'.fids = s.fids
  accs : AccsRO s → AccsRO s'
  ver : s.f.verSet = true → s.f.verMod = false → s'.f.verSet = true ∧ s'.f.verMod = false

theorem Quiet.refl (s : State) : Quiet s s := ⟨rfl, rfl, rfl, rfl, rfl, rfl, rfl, rfl, rfl, rfl, rfl, id, fun h1 h2 => ⟨h1, h2⟩⟩

theorem Quiet.trans {a b c : State} (h1 : Quiet a b) (h2 : Quiet b c) : Quiet a c :=
  ⟨h2.disk.trans h1.disk, h2.log.trans h1.log, h2.exts.trans h1.exts, h2.blocks.trans h1.blocks, h2.dirty.trans h1.dirty,
   h2.access.trans h1.access, h2.streamW.trans h1.streamW, h2.cache.trans h1.cache, h2.refcount.trans h1.refcount,
   h2.endOff.trans h1.endOff, h2.fids.trans h1.fids, fun h => h2.accs (h1.accs h),
   fun a b => h2.ver (h1.ver a b).1 (h1.ver a b).2⟩

structure Same (s s' : State) : Prop where
  disk : s'.f.disk = s.f.disk
  log : s'.log = s.log
  exts : s'.exts = s.exts

theorem Same.refl (s : State) : Same s s := ⟨rfl, rfl, rfl⟩
theorem Same.trans {a b c : State} (h1 : Same a b) (h2 : Same b c) : Same a c :=
  ⟨h2.disk.trans h1.disk, h2.log.trans h1.log, h2.exts.trans h1.exts⟩
theorem Quiet.same {s s' : State} (h : Quiet s s') : Same s s' := ⟨h.disk, h.log, h.exts⟩

theorem Quiet.ro {s s' : State} (h : Quiet s s') (hr : RO s) : RO s' :=
  ⟨by have := hr.1; unfold canWrite at *; rw [h.access]; exact this, h.accs hr.2⟩

theorem Quiet.clean {s s' : State} (h : Quiet s s') (hc : Clean s) : Clean s' := by
  unfold Clean; rw [h.dirty, h.blocks]; exact hc

theorem Quiet.inv {s s' : State} (h : Quiet s s') (hi : Inv s) : Inv s' := ⟨h.ro hi.1, h.clean hi.2⟩

/-- the proofs below follow the `if` chain of each function with this: a `split` of a whole body is slow to check -/
theorem Quiet.ite {s : State} {c : Prop} [Decidable c] {a b : State × Res} (ha : Quiet s a.1) (hb : Quiet s b.1) :
    Quiet s (if c then a else b).1 := by
  split <;> assumption

theorem findAcc_mem {s : State} {aid : Nat} {a : Acc} (h : findAcc s aid = some a) : a ∈ s.accs :=
  List.mem_of_find?_eq_some h

theorem findAcc_aid {s : State} {aid : Nat} {a : Acc} (h : findAcc s aid = some a) : a.aid = aid := by
  simpa using List.find?_some h

theorem setAcc_quiet (s : State) (a : Acc) (h : AccsRO s → a.access &&& DFACC_WRITE = 0) : Quiet s (setAcc s a) :=
  { Quiet.refl s with
    accs := fun hro x hx => by
      obtain ⟨y, hy, rfl⟩ := List.mem_map.mp hx
      split
      · exact h hro
      · exact hro y hy }

theorem dropAcc_quiet (s : State) (aid : Nat) : Quiet s (dropAcc s aid) :=
  { Quiet.refl s with accs := fun hro x hx => hro x (List.mem_filter.mp hx).1 }

theorem setCursor_quiet (s : State) (c : Option (Nat × Int)) : Quiet s (setCursor s c) := { Quiet.refl s with }

theorem decAttach_quiet (s : State) : Quiet s (decAttach s) := { Quiet.refl s with }

theorem setVer_quiet (s : State) (v) : Quiet s (setVer s v) := { Quiet.refl s with ver := fun h1 _ => ⟨h1, rfl⟩ }

theorem accsRO_append {s : State} {a : Acc} (h : a.access &&& DFACC_WRITE = 0) (hro : AccsRO s) :
    ∀ x ∈ s.accs ++ [a], x.access &&& DFACC_WRITE = 0 := by
  intro x hx
  rcases List.mem_append.mp hx with hx | hx
  · exact hro x hx
  · exact List.mem_singleton.mp hx ▸ h

@[simp] theorem refreshNew_access (s : State) (a : Acc) : (refreshNew s a).access = a.access := by
  unfold refreshNew; simp only []; split <;> rfl
@[simp] theorem refreshNew_aid (s : State) (a : Acc) : (refreshNew s a).aid = a.aid := by
  unfold refreshNew; simp only []; split <;> rfl

theorem mem_setAcc_self {s : State} {a a' : Acc} (hm : a ∈ s.accs) (hid : a'.aid = a.aid) : a' ∈ (setAcc s a').accs :=
  List.mem_map.mpr ⟨a, hm, by simp [hid]⟩

theorem refresh_quiet (s : State) (a : Acc) (hm : a ∈ s.accs) : Quiet s (setAcc s (refreshNew s a)) :=
  setAcc_quiet _ _ fun hro => by rw [refreshNew_access]; exact hro a hm

theorem checkFileVersion_eq (f : File) : checkFileVersion f =
    { f with ver := if verLess f.ver libVer then libVer else f.ver, verMod := f.verMod || verLess f.ver libVer, verSet := true } := by
  unfold checkFileVersion; split <;> simp [*]

@[simp] theorem checkFileVersion_attach (f : File) : (checkFileVersion f).attach = f.attach := by
  rw [checkFileVersion_eq]

theorem openAcc_quiet (s : State) (fid : Nat) (p : Slot) (flags : Nat) (dn : Bool) (nref : Nat) (h : flags &&& DFACC_WRITE = 0) :
    Quiet s (openAcc s fid p flags dn nref).1 := by
  simp only [openAcc, checkFileVersion_eq]
  split <;> exact { Quiet.refl s with accs := accsRO_append h, ver := fun h1 h2 => by simp_all }

theorem openSpecial_quiet (s : State) (fid : Nat) (p : Slot) (dd : DD) (flags : Nat) (h : flags &&& DFACC_WRITE = 0) :
    Quiet s (openSpecial s fid p dd flags).1 := by
  simp only [openSpecial, h, beq_self_eq_true, if_true]
  exact .ite (.refl _) <| .ite (.refl _) { Quiet.refl s with accs := accsRO_append (or_read_noW _ read_noW) }

theorem startAccess_quiet (s : State) (fid tag ref flags : Nat) (h : flags &&& DFACC_WRITE = 0) :
    Quiet s (startAccess s fid tag ref flags).1 := by
  unfold startAccess
  refine .ite (.refl _) <| .ite (.refl _) ?_
  generalize (if (flags &&& DFACC_CURRENT != 0) = true then (none, s.f.ddnull) else hfind s.f tag ref) = fr
  have hq := setCursor_quiet s fr.2
  simp only [h, beq_self_eq_true, if_true]
  split
  · exact hq
  · exact .ite (hq.trans (openSpecial_quiet _ _ _ _ _ h)) (hq.trans (openAcc_quiet _ _ _ _ _ _ h))

theorem endAccess_quiet (s : State) (aid : Nat) : Quiet s (endAccess s aid).1 := by
  unfold endAccess
  split
  · exact .refl _
  · exact .ite (dropAcc_quiet _ _) ((dropAcc_quiet _ _).trans (decAttach_quiet _))

theorem hlConvert_ro (cfg : Cfg) (s : State) (aid : Nat) (h : canWrite s.f = false) : hlConvert cfg s aid = .fail := by
  unfold hlConvert
  split
  · rfl
  · simp [h]

theorem seek_quiet (cfg : Cfg) (s : State) (aid : Nat) (off : Int) (org : Nat) : Quiet s (seek cfg s aid off org).1 := by
  unfold seek
  split
  · exact .refl _
  · next a ha =>
    have hs : ∀ a' : Acc, a'.access = a.access → Quiet s (setAcc s a') :=
      fun a' h => setAcc_quiet _ _ fun hro => h ▸ hro a (findAcc_mem ha)
    exact .ite (.refl _) <| .ite (.refl _) <| .ite (.refl _) <| .ite (.refl _) <|
      .ite (.ite (hs _ rfl) (hs _ rfl)) (hs _ rfl)

theorem read_quiet (s : State) (aid : Nat) (len : Int) : Quiet s (read s aid len).1 := by
  unfold read
  split
  · exact .refl _
  · next a ha =>
    have hm := findAcc_mem ha
    have h1 := refresh_quiet s a hm
    refine .ite h1 <| .ite h1 <| .ite h1 <| .ite h1 <| .ite h1 ?_
    split
    · exact h1
    · exact h1.trans (setAcc_quiet _ _ fun hro => hro (refreshNew s a) (mem_setAcc_self hm (refreshNew_aid s a)))

theorem appendable_quiet (s : State) (aid : Nat) : Quiet s (appendable s aid).1 := by
  unfold appendable
  split
  · exact .refl _
  · next a ha => exact setAcc_quiet _ _ fun hro => hro a (findAcc_mem ha)

theorem startRead_quiet (s : State) (fid tag ref : Nat) : Quiet s (startRead s fid tag ref).1 :=
  startAccess_quiet _ _ _ _ _ read_noW

theorem getElement_quiet (s : State) (fid tag ref : Nat) : Quiet s (getElement s fid tag ref).1 := by
  unfold getElement
  have h1 := startRead_quiet s fid tag ref
  generalize startRead s fid tag ref = r at h1
  simp only []
  split
  · exact (h1.trans (read_quiet _ _ _)).trans (endAccess_quiet _ _)
  · exact h1

theorem hlength_quiet (s : State) (fid tag ref : Nat) : Quiet s (hlength s fid tag ref).1 := by
  unfold hlength
  have h1 := startRead_quiet s fid tag ref
  generalize startRead s fid tag ref = r at h1
  simp only []
  split
  · exact h1.trans (endAccess_quiet _ _)
  · exact h1

theorem hexist_quiet (s : State) (fid tag ref : Nat) : Quiet s (hexist s fid tag ref).1 :=
  .ite (.refl _) (setCursor_quiet _ _)

theorem readVersion_quiet (s : State) (fid : Nat) : Quiet s (readVersion s fid) :=
  (getElement_quiet s fid DFTAG_VERSION 1).trans (setVer_quiet _ _)

theorem readVersion_verMod (s : State) (fid : Nat) : (readVersion s fid).f.verMod = false := rfl

/-- calls that only read or inquire (no `Hopen`/`Hclose`/`Hcache`, which change the record itself) -/
def Op.isReadClass : Op → Bool
  | .startaccess _ _ _ flags => flags &&& DFACC_WRITE == 0
  | .startread .. | .appendable .. | .seek .. | .read .. | .endaccess .. | .getelement .. | .hlength .. | .hexist .. => true
  | _ => false

theorem step_read_quiet (cfg : Cfg) (s : State) (op : Op) (h : op.isReadClass = true) : Quiet s (step cfg s op).1 := by
  cases op <;> simp only [Op.isReadClass, Bool.false_eq_true] at h
  case startaccess fid tag ref flags => exact startAccess_quiet s fid tag ref flags (by simpa using h)
  case startread fid tag ref => exact startRead_quiet s fid tag ref
  case appendable aid => exact appendable_quiet s aid
  case seek aid off org => exact seek_quiet cfg s aid off org
  case read aid len => exact read_quiet s aid len
  case endaccess aid => exact endAccess_quiet s aid
  case getelement fid tag ref => exact getElement_quiet s fid tag ref
  case hlength fid tag ref => exact hlength_quiet s fid tag ref
  case hexist fid tag ref => exact hexist_quiet s fid tag ref

theorem run_read_quiet (cfg : Cfg) (s : State) (ops : List Op) (h : ∀ op ∈ ops, op.isReadClass = true) : Quiet s (run cfg s ops) := by
  induction ops generalizing s with
  | nil => exact .refl _
  | cons op ops ih =>
    exact (step_read_quiet cfg s op (h op List.mem_cons_self)).trans (ih _ fun o ho => h o (List.mem_cons_of_mem _ ho))

theorem startAccess_ro_write (s : State) (fid tag ref flags : Nat) (hr : RO s) (hw : flags &&& DFACC_WRITE ≠ 0) :
    startAccess s fid tag ref flags = (s, .fail) := by
  unfold startAccess
  split
  · rfl
  · simp [hw, hr.1]

theorem startWrite_ro (cfg : Cfg) (s : State) (fid tag ref len : Nat) (hr : RO s) :
    startWrite cfg s fid tag ref len = (s, .fail) := by
  unfold startWrite
  rw [startAccess_ro_write s fid (BASETAG tag) ref DFACC_RDWR hr rdwr_W]

theorem putElement_ro (cfg : Cfg) (s : State) (fid tag ref : Nat) (d : Bytes) (hr : RO s) :
    putElement cfg s fid tag ref d = (s, .fail) := by
  unfold putElement
  rw [startWrite_ro cfg s fid tag ref _ hr]

theorem setLength_ro (cfg : Cfg) (hc : cfg.hsetlengthChecks = true) (s : State) (aid len : Nat) (hr : RO s) :
    (setLength cfg s aid len).2 = .fail ∧ Quiet s (setLength cfg s aid len).1 := by
  unfold setLength
  split
  · exact ⟨rfl, .refl _⟩
  · next a ha =>
    have hm := findAcc_mem ha
    have hacc : (refreshNew s a).access &&& DFACC_WRITE = 0 := by rw [refreshNew_access]; exact hr.2 a hm
    simp only []
    split
    · exact ⟨rfl, refresh_quiet s a hm⟩
    · simp only [hc, hacc, beq_self_eq_true, Bool.and_self, if_true]
      exact ⟨trivial, refresh_quiet s a hm⟩

theorem write_ro (cfg : Cfg) (s : State) (aid : Nat) (d : Bytes) (hr : RO s) : write cfg s aid d = (s, .fail) := by
  unfold write
  split
  · rfl
  · next a ha => simp [hr.2 a (findAcc_mem ha)]

theorem trunc_ro (s : State) (aid : Nat) (len : Int) (hr : RO s) : trunc s aid len = (s, .fail) := by
  unfold trunc
  split
  · rfl
  · next a ha => simp [hr.2 a (findAcc_mem ha)]

theorem deldd_ro (cfg : Cfg) (hc : cfg.hdelddChecks = true) (s : State) (fid tag ref : Nat) (hr : RO s) :
    deldd cfg s fid tag ref = (s, .fail) := by
  unfold deldd
  split
  · rfl
  · simp [hc, hr.1]

theorem dupdd_ro (cfg : Cfg) (hc : cfg.hdupddChecks = true) (s : State) (fid tag ref ot orf : Nat) (hr : RO s) :
    dupdd cfg s fid tag ref ot orf = (s, .fail) := by
  unfold dupdd
  split
  · rfl
  · simp [hc, hr.1]

theorem reuse_ro (cfg : Cfg) (hc : cfg.hreuseChecks = true) (s : State) (fid tag ref : Nat) (hr : RO s) :
    reuse cfg s fid tag ref = (s, .fail) := by
  unfold reuse
  split
  · rfl
  · simp [hc, hr.1]

theorem specialCreate_ro (s : State) (fid tag : Nat) (ok : Bool) (hr : RO s) : specialCreate s fid tag ok = (s, .fail) := by
  unfold specialCreate
  split
  · rfl
  · simp [hr.1]

theorem updateVersion_ro (cfg : Cfg) (s : State) (fid : Nat) (hr : RO s) :
    updateVersion cfg s fid = { s with f := { s.f with ver := libVer } } := by
  unfold updateVersion
  rw [putElement_ro cfg _ fid _ _ _ (show RO { s with f := { s.f with ver := libVer } } from hr)]
  rfl

theorem guarded_iff (c : Cfg) : c.guarded = true ↔ c.hdelddChecks = true ∧ c.hdupddChecks = true ∧ c.hreuseChecks = true ∧ c.hsetlengthChecks = true := by
  unfold Cfg.guarded; simp [and_assoc]

theorem step_mutating_ro (cfg : Cfg) (hg : cfg.guarded = true) (s : State) (op : Op) (hr : RO s) (hm : op.isMutating = true) :
    (step cfg s op).2 = .fail ∧ Quiet s (step cfg s op).1 := by
  obtain ⟨g1, g2, g3, g4⟩ := (guarded_iff cfg).mp hg
  cases op <;> simp only [Op.isMutating, Bool.false_eq_true] at hm <;> simp only [step]
  case startaccess fid tag ref flags => rw [startAccess_ro_write s fid tag ref flags hr (by simpa using hm)]; exact ⟨rfl, .refl s⟩
  case setlength aid len => exact setLength_ro cfg g4 s aid len hr
  case hlconvert aid b n =>
    split
    · exact ⟨rfl, .refl _⟩
    · exact ⟨hlConvert_ro cfg s aid hr.1, .refl _⟩
  all_goals
    simp only [startWrite_ro cfg s _ _ _ _ hr, write_ro cfg s _ _ hr, trunc_ro s _ _ hr, putElement_ro cfg s _ _ _ _ hr,
      deldd_ro cfg g1 s _ _ _ hr, dupdd_ro cfg g2 s _ _ _ _ _ hr, reuse_ro cfg g3 s _ _ _ hr, specialCreate_ro s _ _ _ hr, Quiet.refl,
      and_self]

theorem hiSync_clean (s : State) (hc : s.f.dirty = 0) : hiSync s = (s, true) := by
  unfold hiSync
  simp [hc]

theorem getD_dirty (bl : List Block) (i : Nat) (h : ∀ b ∈ bl, b.dirty = false) : (bl.getD i default).dirty = false := by
  rw [List.getD_eq_getElem?_getD]
  cases hg : bl[i]? with
  | none => rfl
  | some b => exact h b (List.mem_of_getElem? hg)

theorem htpSyncFrom_clean (s : State) (h : ∀ b ∈ s.f.blocks, b.dirty = false) (n i : Nat) : htpSyncFrom s n i = (s, true) := by
  induction n generalizing i with
  | zero => rfl
  | succ n ih =>
    unfold htpSyncFrom
    simp only [getD_dirty _ _ h]
    exact ih (i + 1)

theorem htpSync_clean (s : State) (h : ∀ b ∈ s.f.blocks, b.dirty = false) : (htpSync s).1 = s := by
  unfold htpSync
  split
  · rfl
  · rw [htpSyncFrom_clean s h]

theorem readBlocks_clean (d : Bytes) (fuel off : Nat) (bl : List Block) (h : readBlocks d fuel off = some bl) :
    ∀ b ∈ bl, b.dirty = false := by
  induction fuel generalizing off bl with
  | zero => simp [readBlocks] at h
  | succ n ih =>
    simp only [readBlocks, Option.ite_none_left_eq_some] at h
    obtain ⟨-, -, -, h⟩ := h
    split at h
    · obtain ⟨tl, htl, rfl⟩ := Option.map_eq_some_iff.mp h
      intro b hb
      rcases List.mem_cons.mp hb with rfl | hb
      · rfl
      · exact ih _ _ htl b hb
    · cases h
      intro b hb
      cases List.mem_singleton.mp hb; rfl

theorem hopenRec_clean (cfg : Cfg) (s s' : State) (acc : Nat) (hc : Clean s) (h : hopenRec cfg s acc = some s') :
    Same s s' ∧ Clean s' ∧ (acc &&& DFACC_WRITE = 0 → RO s → RO s') := by
  unfold hopenRec at h
  split at h
  · split at h
    · next hw =>
      rw [hiSync_clean s hc.1] at h
      cases h
      cases cfg.reopenSetsAccess <;> exact ⟨⟨rfl, rfl, rfl⟩, hc, fun hacc => by simp [hacc] at hw⟩
    · cases h
      exact ⟨⟨rfl, rfl, rfl⟩, hc, fun _ hr => hr⟩
  · simp only [Option.ite_none_left_eq_some] at h
    split at h
    · cases h.2
    · next bl hbl =>
      cases h.2
      refine ⟨⟨rfl, rfl, rfl⟩, ⟨rfl, readBlocks_clean _ _ _ _ hbl⟩, fun hacc hr => ⟨?_, hr.2⟩⟩
      simp [canWrite, or_read_noW acc hacc]

theorem hopenFinish_quiet (s : State) :
    Quiet { s with f := { s.f with verSet := false }, fids := s.fids ++ [s.nfid], nfid := s.nfid + 1 } (hopenFinish s).1 :=
  readVersion_quiet _ _

theorem hopen_clean (cfg : Cfg) (s : State) (acc : Nat) (hc : Clean s) :
    Same s (hopen cfg s acc).1 ∧ Clean (hopen cfg s acc).1 ∧ (acc &&& DFACC_WRITE = 0 → RO s → RO (hopen cfg s acc).1) ∧
    ((hopen cfg s acc).1 = s ∨ (hopen cfg s acc).1.f.verMod = false) := by
  unfold hopen
  split
  · exact ⟨.refl _, hc, fun _ hr => hr, .inl rfl⟩
  · split
    · exact ⟨.refl _, hc, fun _ hr => hr, .inl rfl⟩
    · next s' h =>
      have h1 := hopenRec_clean cfg s s' acc hc h
      have h2 := hopenFinish_quiet s'
      exact ⟨h1.1.trans ⟨h2.disk, h2.log, h2.exts⟩, h2.clean h1.2.1, fun hacc hr => h2.ro (h1.2.2 hacc hr), .inr (readVersion_verMod _ _)⟩

theorem hopen_closed (cfg : Cfg) (disk : Bytes) (exts : List (Nat × Bytes)) (acc : Nat) :
    let r := hopen cfg (State.closed disk exts) acc
    Same (State.closed disk exts) r.1 ∧ Clean r.1 ∧ r.1.f.verMod = false :=
  have h := hopen_clean cfg (State.closed disk exts) acc ⟨rfl, by simp [State.closed]⟩
  ⟨h.1, h.2.1, h.2.2.2.elim (fun e => by rw [e]; rfl) id⟩

theorem hsync_ro (s : State) (fid : Nat) (hi : Inv s) : (hsync s fid).1 = s := by
  unfold hsync
  split
  · rfl
  · rw [hiSync_clean s hi.2.1]

theorem hcache_ro (s : State) (fid : Nat) (on : Bool) (hi : Inv s) :
    Same s (hcache s fid on).1 ∧ Inv (hcache s fid on).1 := by
  unfold hcache
  split
  · exact ⟨.refl _, hi⟩
  · rw [show (if (!on && s.f.cache) = true then hiSync s else (s, true)) = (s, true) by
      split
      · exact hiSync_clean s hi.2.1
      · rfl]
    exact ⟨⟨rfl, rfl, rfl⟩, hi⟩

theorem hcloseCore_clean (s : State) (fid : Nat) (hc : Clean s) :
    Same s (hcloseCore s fid).1 ∧ (RO s → Inv (hcloseCore s fid).1) := by
  unfold hcloseCore
  split
  · split
    · exact ⟨.refl _, fun hr => ⟨hr, hc⟩⟩
    · have hc0 : Clean { s with f := { s.f with refcount := 0 } } := hc
      rw [hiSync_clean _ hc0.1]
      simp only [Bool.not_true, Bool.false_eq_true, if_false]
      rw [htpSync_clean _ hc0.2]
      split
      · exact ⟨⟨rfl, rfl, rfl⟩, fun hr => ⟨hr, hc⟩⟩
      · exact ⟨⟨rfl, rfl, rfl⟩, fun hr => ⟨⟨by simp [canWrite], hr.2⟩, hc.1, by simp⟩⟩
  · exact ⟨⟨rfl, rfl, rfl⟩, fun hr => ⟨hr, hc⟩⟩

theorem hclose_ro (cfg : Cfg) (s : State) (fid : Nat) (hi : Inv s) : Same s (hclose cfg s fid).1 ∧ Inv (hclose cfg s fid).1 := by
  unfold hclose
  split
  · exact ⟨.refl _, hi⟩
  · have h : ∀ s0 : State, Inv s0 → Same s0 (hcloseCore s0 fid).1 ∧ Inv (hcloseCore s0 fid).1 :=
      fun s0 h0 => ⟨(hcloseCore_clean s0 fid h0.2).1, (hcloseCore_clean s0 fid h0.2).2 h0.1⟩
    split
    · rw [updateVersion_ro cfg s fid hi.1]
      obtain ⟨h1, h2⟩ := h { s with f := { s.f with ver := libVer } } hi
      exact ⟨⟨h1.disk, h1.log, h1.exts⟩, h2⟩
    · exact h s hi

theorem hclose_same (cfg : Cfg) (s : State) (fid : Nat) (hv : s.f.verMod = false) (hc : Clean s) :
    Same s (hclose cfg s fid).1 := by
  unfold hclose
  split
  · exact .refl _
  · simp only [hv, Bool.false_eq_true, if_false]
    exact (hcloseCore_clean s fid hc).1

theorem step_ro (cfg : Cfg) (hg : cfg.guarded = true) (s : State) (op : Op) (hi : Inv s) (hop : op.opensForWrite = false) :
    Same s (step cfg s op).1 ∧ Inv (step cfg s op).1 ∧ (op.isMutating = true → (step cfg s op).2 = .fail) := by
  by_cases hm : op.isMutating = true
  · have h := step_mutating_ro cfg hg s op hi.1 hm
    exact ⟨h.2.same, h.2.inv hi, fun _ => h.1⟩
  by_cases hr : op.isReadClass = true
  · have h := step_read_quiet cfg s op hr
    exact ⟨h.same, h.inv hi, fun h => absurd h hm⟩
  refine (?_ : _ ∧ _).elim fun h1 h2 => ⟨h1, h2, fun h => absurd h hm⟩
  cases op <;> simp only [Op.isMutating, Op.isReadClass, not_true_eq_false] at hm hr
  case hopen acc =>
    have h := hopen_clean cfg s acc hi.2
    exact ⟨h.1, h.2.2.1 (by simpa [Op.opensForWrite] using hop) hi.1, h.2.1⟩
  case hclose fid => exact hclose_ro cfg s fid hi
  case hcache fid on => exact hcache_ro s fid on hi
  case hsync fid => simp only [step]; rw [hsync_ro s fid hi]; exact ⟨.refl _, hi⟩
  case startaccess fid tag ref flags => simp_all

end H4.ReadOnly
