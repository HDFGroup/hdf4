import H4.Tools
/-! `options_get_info` of hrepack (`H4.Tools.optionsGetInfo`) as two stages: the chunk request that applies to the object
(`chunkStage`), then the compression request (`compReq`), which turns the flags into HDF_CHUNK|HDF_COMP only where chunking
applies. `optionsGetInfo_ok` is the one case analysis of the four regimes (`-c`/`-t` global or per object). -/
namespace H4.Tools
open H4.Gen.Tools

theorem setChunkComp_frame (s s' : LState) (t i : Int) (b : Bool) (h : setChunkComp s t i b = some s') :
    s'.comp = s.comp ∧ s'.info = s.info ∧ s'.lens = s.lens ∧ s'.flags = (HDF_CHUNK ||| HDF_COMP) ∧ s'.ccomp = t := by
  unfold setChunkComp at h
  simp only at h
  split at h
  · cases h; simp
  split at h
  · cases h
  split at h
  · cases h; simp
  split at h
  · cases h
  · cases h; simp

/-- the OUT values after the `-c` part of `options_get_info`: a global `-c "*:…"` applies to objects of its rank, an entry
    of the object's own to that object (a rank mismatch there is refused by `optionsGetInfo` itself); `NONE` is rank -2 -/
def chunkStage (o : Options) (s : LState) (rank : Nat) (path : Str) : LState :=
  if o.allChunk then
    if o.chunkG.rank = -2 then { s with flags := HDF_NONE }
    else if o.chunkG.rank ≠ (rank : Int) then s else { s with flags := HDF_CHUNK, lens := o.chunkG.lens }
  else match getObject path o.tbl with
    | none => s
    | some e => if e.chunk.rank = -2 then { s with flags := HDF_NONE }
                else if e.chunk.rank > 0 then { s with flags := HDF_CHUNK, lens := e.chunk.lens } else s

theorem chunkStage_flags (o : Options) (s : LState) (rank : Nat) (path : Str) :
    (chunkStage o s rank path).flags = s.flags ∨ (chunkStage o s rank path).flags = HDF_NONE ∨
      (chunkStage o s rank path).flags = HDF_CHUNK := by
  unfold chunkStage; repeat' split
  all_goals simp

/-- the coder and parameter `options_get_info` reports: the global `-t "*:…"` if there is one, else the object's entry
    (case 1 copies it even when the entry carries no `-t`, i.e. type -1) -/
def compReq (o : Options) (s : LState) (path : Str) : Int × Int :=
  if o.allComp then (o.compG.type, o.compG.info)
  else match getObject path o.tbl with
    | none => (s.comp, s.info)
    | some e => if o.allChunk ∨ e.comp.type ≥ 0 then (e.comp.type, e.comp.info) else (s.comp, s.info)

theorem globalCompTail_ok {o : Options} {hv hv' : Nat} {app : LState → Bool} {s1 s' : LState}
    (h : globalCompTail o hv app s1 = .ok hv' s') :
    hv' = hv ∧ s'.comp = o.compG.type ∧ s'.info = o.compG.info ∧ s'.lens = s1.lens ∧
    ((s'.flags = s1.flags ∧ s'.ccomp = s1.ccomp) ∨
     (app { s1 with comp := o.compG.type, info := o.compG.info } = true ∧ s'.flags = (HDF_CHUNK ||| HDF_COMP) ∧ s'.ccomp = o.compG.type)) := by
  unfold globalCompTail at h
  simp only at h
  split at h
  · rename_i happ
    split at h
    · cases h
    · rename_i s3 h3
      cases h
      obtain ⟨f1, f2, f3, f4, f5⟩ := setChunkComp_frame _ _ _ _ _ h3
      exact ⟨rfl, f1, f2, f3, Or.inr ⟨happ, f4, f5⟩⟩
  · cases h; exact ⟨rfl, rfl, rfl, rfl, Or.inl ⟨rfl, rfl⟩⟩

theorem optionsGetInfo_ok {o : Options} {s : LState} {rank : Nat} {path : Str} {hv : Nat} {s' : LState}
    (h : optionsGetInfo o s rank path = .ok hv s') :
    hv = (if (getObject path o.tbl).isSome ∧ ¬(o.allChunk = true ∧ o.allComp = true) then 1 else 0) ∧
    (s'.comp, s'.info) = compReq o s path ∧ s'.lens = (chunkStage o s rank path).lens ∧
    ((s'.flags = (chunkStage o s rank path).flags ∧ s'.ccomp = s.ccomp) ∨
     (((chunkStage o s rank path).flags = HDF_CHUNK ∨ isChunkComp (chunkStage o s rank path).flags = true) ∧ s'.flags = (HDF_CHUNK ||| HDF_COMP) ∧ s'.ccomp = s'.comp)) := by
  unfold optionsGetInfo at h
  have g3 : ¬ (rank : Int) = -2 := by omega
  have g4 : ¬ (-2 : Int) = rank := by omega
  have k1 : ¬ HDF_NONE = HDF_CHUNK := by decide
  have k2 : isChunkComp HDF_NONE = false := by decide
  cases hA : o.allChunk <;> cases hB : o.allComp <;> cases hO : getObject path o.tbl <;>
    simp only [hA, hB, hO, chunkStage, compReq, Bool.and_true, Bool.and_false, Bool.not_true, Bool.not_false, Bool.false_eq_true, if_false, if_true] at h ⊢
  case false.false.none => cases h; simp
  case false.false.some e =>
    by_cases h2 : e.chunk.rank = -2
    · simp only [h2, show ¬ (-2 : Int) > 0 by decide, if_true, if_false, false_and] at h ⊢
      split at h <;> cases h
      · simp_all
      · simp_all; intro; omega
    by_cases hp : e.chunk.rank > 0
    · simp only [h2, hp, if_true, if_false, true_and] at h ⊢
      split at h
      · cases h
      split at h
      · split at h
        · cases h
        · rename_i s3 h3
          cases h
          obtain ⟨f1, f2, f3, f4, f5⟩ := setChunkComp_frame _ _ _ _ _ h3
          simp_all
      · cases h; simp_all; intro; omega
    · simp only [h2, hp, if_false, false_and] at h ⊢
      split at h <;> cases h <;> simp_all
      intro; omega
  case false.true.none =>
    obtain ⟨rfl, f1, f2, f3, f4⟩ := globalCompTail_ok h
    simp_all
  case false.true.some e =>
    by_cases h2 : e.chunk.rank = -2
    · simp only [h2, if_true] at h ⊢
      obtain ⟨rfl, f1, f2, f3, f4⟩ := globalCompTail_ok h
      simp_all
    by_cases hp : e.chunk.rank > 0
    · simp only [h2, hp, if_true, if_false] at h ⊢
      split at h
      · cases h
      obtain ⟨rfl, f1, f2, f3, f4⟩ := globalCompTail_ok h
      simp_all
    · simp only [h2, hp, if_false] at h ⊢
      obtain ⟨rfl, f1, f2, f3, f4⟩ := globalCompTail_ok h
      simp_all
  -- a global `-c`: the three forms of `chunkG.rank` (NONE, the object's rank, another rank) make `chunkStage` concrete
  case true.false.none =>
    -- no entry for the object, no global `-t`
    by_cases g2 : o.chunkG.rank = -2
    · simp only [g2, if_true, k1] at h ⊢
      cases h; simp [k2]
    · by_cases gr : o.chunkG.rank = rank <;>
        simp only [g2, gr, g3, ne_eq, not_true, not_false_eq_true, if_true, if_false] at h ⊢ <;>
        (cases h; simp)
  case true.false.some e =>
    -- the object's own `-t` on top of it
    by_cases g2 : o.chunkG.rank = -2
    · simp only [g2, g4, if_true, k1, false_and, if_false] at h ⊢
      cases h; simp [k2]
    · by_cases gr : o.chunkG.rank = rank <;>
        simp only [g2, gr, g3, ne_eq, not_true, not_false_eq_true, if_true, if_false] at h ⊢ <;>
        split at h
      case pos.isTrue | neg.isTrue =>
        split at h
        · cases h
        · rename_i s3 h3
          cases h
          obtain ⟨f1, f2, f3, f4, f5⟩ := setChunkComp_frame _ _ _ _ _ h3
          simp_all
      case pos.isFalse | neg.isFalse => cases h; simp_all
  case true.true.none | true.true.some =>
    -- the global `-t` on top of it
    by_cases g2 : o.chunkG.rank = -2
    · simp only [g2, g4, if_true, decide_false, k1] at h ⊢
      obtain ⟨rfl, f1, f2, f3, f4⟩ := globalCompTail_ok h; simp_all
    · by_cases gr : o.chunkG.rank = rank <;>
        simp only [g2, gr, g3, ne_eq, not_true, not_false_eq_true, if_true, if_false, decide_true, decide_false] at h ⊢ <;>
        (obtain ⟨rfl, f1, f2, f3, f4⟩ := globalCompTail_ok h; simp_all)

end H4.Tools
