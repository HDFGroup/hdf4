import H4.ElemFn
import H4.Gen.Fn.Hfile2
import H4.Lemmas.ElemWorld
import H4.Lemmas.ElemDD
/-! For the function-level Tie A of `hdf/src/hfile.c` (unit `H4.Gen.Fn.Hfile2`): the encoding of a model access record / descriptor / file record as
    the entry fields of the translated functions, the codes of the call log, and the two translated functions `Hwrite` calls (`HIrefresh_new`,
    `Hsetlength` on a new element). -/
namespace H4.Lemmas.C01Fn
open H4 H4.Elem H4.Gen.Hdf H4.ElemFn
export H4.ElemFn (b2i resCode readLen seekOff fits32 hseekI htruncI hsetlengthI hwriteNeg)

/-! codes of the rows of the call log `calls` (`call_specs` of unit Hfile in gen/gen.py) -/
def cINQ : Int := 1      -- HTPinquire(ddid, …)
def cUPD : Int := 2      -- HTPupdate(ddid, offset, length)
def cSEEK : Int := 3     -- HPseek(file_rec, offset)
def cREAD : Int := 4     -- HP_read(file_rec, buf, bytes)
def cWRITE : Int := 5    -- HP_write(file_rec, buf, bytes)
def cCONV : Int := 6     -- HLconvert(aid, block_size, num_blocks)
def cBLOCK : Int := 7    -- HPgetdiskblock(file_rec, size, moveto)
def cRESEEK : Int := 8   -- Hseek(aid, offset, origin) on the converted element
def cREWRITE : Int := 9  -- Hwrite(aid, length, data) on the converted element

theorem consts : DF_START = 0 ∧ DF_CURRENT = 1 ∧ DF_END = 2 ∧ DFACC_WRITE = 2 ∧ INVALID_OFFSET = -1 ∧ INVALID_LENGTH = -1 := by decide

theorem ddLen_cases (d : DD) : (d.ext = none ∧ ddLen d = -1 ∧ ddOff d = -1) ∨ (∃ o l : Nat, d.ext = some (o, l) ∧ ddLen d = l ∧ ddOff d = o) := by
  cases h : d.ext with
  | none => exact .inl ⟨rfl, ddLen_none h, ddOff_none h⟩
  | some p => exact .inr ⟨p.1, p.2, rfl, ddLen_some h, ddOff_some h⟩

/-- `hseek` / `Hseek` take the promotion branch (`HLconvert`, then the seek on the linked-block element) -/
def seekPromotes (a : Acc) (f : File) (offset : Int) (origin : Nat) : Prop :=
  origin ≤ 2 ∧ fits32 (seekOff a (f.dd a.slot) offset origin) ∧ seekOff a (f.dd a.slot) offset origin ≠ a.posn ∧ 0 ≤ seekOff a (f.dd a.slot) offset origin ∧ a.appendable = true ∧
  seekOff a (f.dd a.slot) offset origin ≥ ddLen (f.dd a.slot) ∧ ddLen (f.dd a.slot) + ddOff (f.dd a.slot) ≠ f.endOff

instance (a : Acc) (f : File) (offset : Int) (origin : Nat) : Decidable (seekPromotes a f offset origin) := by
  unfold seekPromotes; infer_instance

theorem seekPromotes_iff {a : Acc} {f : File} {offset off : Int} {origin : Nat} (h : seekOff a (f.dd a.slot) offset origin = off) :
    seekPromotes a f offset origin ↔ origin ≤ 2 ∧ fits32 off ∧ off ≠ a.posn ∧ 0 ≤ off ∧ a.appendable = true ∧ off ≥ ddLen (f.dd a.slot) ∧
      ddLen (f.dd a.slot) + ddOff (f.dd a.slot) ≠ f.endOff := by
  subst h; rfl

/-- `seekOff` with the origin read as the C reads it -/
theorem seekOff_int (a : Acc) (d : DD) (offset : Int) (origin : Nat) :
    offset + (if (origin : Int) = 1 then (a.posn : Int) else 0) + (if (origin : Int) = 2 then ddLen d else 0) = seekOff a d offset origin := by
  have k1 : ((origin : Int) = 1) = (origin = 1) := propext ⟨fun h => by omega, fun h => by omega⟩
  have k2 : ((origin : Int) = 2) = (origin = 2) := propext ⟨fun h => by omega, fun h => by omega⟩
  simp only [seekOff, k1, k2, consts.2.1, consts.2.2.1]

/-- `DFACC_WRITE` is set in the access word of the C access record exactly when the model record may write -/
def WriteBit (acc : Nat) (a : Acc) : Prop := (acc &&& 2 ≠ 0) ↔ a.canWrite = true

instance (acc : Nat) (a : Acc) : Decidable (WriteBit acc a) := by unfold WriteBit; infer_instance

theorem WriteBit.cases {acc : Nat} {a : Acc} (h : WriteBit acc a) :
    (a.canWrite = false ∧ acc &&& 2 = 0) ∨ (a.canWrite = true ∧ ¬ (acc &&& 2 = 0)) := by
  unfold WriteBit at h
  cases hcw : a.canWrite <;> rw [hcw] at h <;> simp at h <;> simp [h]

def ddView (f' : File) (slot : Nat) : Int × Int × Int := (ddOff (f'.dd slot), ddLen (f'.dd slot), f'.endOff)

theorem setLength_view (w : World) (i slot n : Nat) (f : File) (hi : i < w.files.length) (hs : slot < f.mem.length) :
    ddView ((w.setFile i (f.setLength slot n).1).file i) slot = ((f.endOff : Int), (n : Int), ((f.endOff : Int) + n)) := by
  obtain ⟨he, hend, -, -⟩ := setLength_facts f slot n hs
  rw [file_setFile_same _ _ _ hi, ddView, ddOff, ddLen, he, hend, Int.natCast_add]

theorem b2i_eq_zero (b : Bool) : b2i b = 0 ↔ b = false := by cases b <;> simp [b2i]
theorem b2i_ne_zero (b : Bool) : b2i b ≠ 0 ↔ b = true := by cases b <;> simp [b2i]

theorem HIrefresh_new_eq (fuel : Nat) (ne ddid tag ref off len : Int) (calls : List (List Int)) :
    H4.Gen.Fn.Hfile2.HIrefresh_new fuel ne 0 ddid 0 calls tag ref off len =
      { off := if ne = 1 then off else -1, len := if ne = 1 then len else -1,
        access_rec_new_elem := if ne = 1 ∧ ¬ (off = -1 ∧ len = -1) then 0 else ne, access_rec_special := 0, HTPinquire_ret := 0,
        access_rec_ddid := ddid, dd_tag := tag, dd_ref := ref, dd_off := off, dd_len := len,
        calls := calls ++ if ne = 1 then [[cINQ, ddid]] else [] } := by
  by_cases h : off = -1 ∧ len = -1 <;> by_cases h1 : ne = 1 <;> simp [H4.Gen.Fn.Hfile2.HIrefresh_new, cINQ, h, h1]

theorem HIrefresh_new_bool (fuel : Nat) (b : Bool) (ddid tag ref off len : Int) (calls : List (List Int)) :
    H4.Gen.Fn.Hfile2.HIrefresh_new fuel (if b = true then 1 else 0) 0 ddid 0 calls tag ref off len =
      { off := if b = true then off else -1, len := if b = true then len else -1,
        access_rec_new_elem := if b = true ∧ off = -1 ∧ len = -1 then 1 else 0, access_rec_special := 0, HTPinquire_ret := 0,
        access_rec_ddid := ddid, dd_tag := tag, dd_ref := ref, dd_off := off, dd_len := len,
        calls := calls ++ if b = true then [[cINQ, ddid]] else [] } := by
  by_cases h : off = -1 ∧ len = -1 <;> cases b <;> simp [HIrefresh_new_eq, h]

theorem Hsetlength_new (fuel : Nat) (aid n ddid tag ref refc eoff : Int) (acc : Nat) (calls : List (List Int))
    (hbit : ¬ (acc &&& 2 = 0)) (hr : refc ≠ 0) (he : 0 ≤ eoff) (hn : 0 ≤ n) :
    let r := H4.Gen.Fn.Hfile2.Hsetlength fuel aid n false 1 0 ddid 0 calls tag ref (-1) (-1) acc false refc eoff eoff 0
    r.ub = false ∧ r.oof = false ∧ r.ret = 0 ∧ r.access_rec_new_elem = 0 ∧ r.dd_off = eoff ∧ r.dd_len = n ∧
    r.file_rec_f_end_off = eoff + n ∧ r.calls = calls ++ [[cINQ, ddid], [cBLOCK, n, 0], [cUPD, ddid, eoff, n]] := by
  have e1 : ¬ (eoff = -1) := by omega
  have e2 : ¬ (eoff = -2) := by omega
  have e3 : ¬ (n = -1) := by omega
  have e4 : ¬ (n = -2) := by omega
  simp [H4.Gen.Fn.Hfile2.Hsetlength, H4.Gen.Fn.Hfile2.Hsetlength.chk, H4.Gen.Fn.Hfile2.Hsetlength.St.join, HIrefresh_new_eq, cINQ, cBLOCK, cUPD,
    hbit, hr, e1, e2, e3, e4]

end H4.Lemmas.C01Fn
