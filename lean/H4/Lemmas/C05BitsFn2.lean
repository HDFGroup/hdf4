import H4.Lemmas.C05BitsFn
/-! Continuation of `H4.Lemmas.C05BitsFn`: `Hbitseek` with the variant `HIbitflush_m` of the flush it calls, the mode switches `HIwrite2read` / `HIread2write`, and
    `Hbitread` / `Hbitwrite` called in the other mode.  Core only. -/
namespace H4.Lemmas.C05BitsFn
open H4 H4.BitIO H4.Gen.Hbitio H4.Gen.Fn.Hbitio2

/-! ## `HIbitflush_m`: the text of `HIbitflush` as `Hbitseek` calls it (`flushbit = -1`, the call of `Hbitwrite` trapped) -/

/-- the record after a run of `HIbitflush_m`, the members the function does not know taken from `r0` -/
def flmRec (s : HIbitflush_m.St) (r0 : CRec) : CRec :=
  { r0 with count := s.rec_count, bits := s.rec_bits, byteOff := s.rec_byte_offset, maxOff := s.rec_max_offset,
            blockOff := s.rec_block_offset, bytep := s.rec_bytep, bytez := s.rec_bytez, bytea := s.rec_bytea, elt := s.io_elt,
            epos := s.io_epos, enew := s.io_enew }

/-- `HIbitflush(rec, -1, writeout)` on the record `r`: the pending bits (if any) are merged into the byte under the cursor, then the
    buffer is written out if asked for; the `Hbitwrite` branch is never reached (`ub = false`) -/
theorem flm_main (fuel : Nat) (r : CRec) (wo : Int) (hc : 0 ≤ r.count ∧ r.count ≤ 8) (hr : r.WOK) (hbits : 0 ≤ r.bits)
    (hx : 0 ≤ r.bytea.getD r.bytep.toNat 0) :
    let S := HIbitflush_m fuel r.count r.byteOff r.maxOff r.bytea r.bytep r.bits r.bytez r.blockOff (-1) wo r.elt r.epos r.enew
    S.ub = false ∧ S.oof = false ∧ S.ret = 0 ∧
      flmRec S r = (if wo = 1 then fWriteout (if r.count < 8 then fMerge r else r) else (if r.count < 8 then fMerge r else r)) := by
  obtain ⟨hc1, hc2⟩ := hc
  obtain ⟨hl, ⟨hp1, hp2⟩, ⟨hz1, hz2⟩, he, -⟩ := hr
  have hl' : (r.bytea.length : Int) = 4096 := by omega
  have hpn : r.bytep.toNat < r.bytea.length := by omega
  have hmm : (0 ≤ mergeMaskC r.count) = True := by unfold mergeMaskC; exact mod256_nonneg _
  by_cases hc8 : r.count < 8
  · by_cases hwo : wo = 1
    · by_cases hlt : r.bytez < (if r.maxOff < r.byteOff + 1 then r.byteOff + 1 else r.maxOff) - r.blockOff
      · by_cases hpos : r.bytez > 0
        · have hn : (r.bytez = -1) = False := by simp only [eq_iff_iff, iff_false]; omega
          c2l_simp [HIbitflush_m.chk, flm_max_ite, HIbitflush_m, bitnum_int, mergeMaskC_fold, fMerge, fWriteout, flmRec, hc8, hwo,
            H4.C2L.getD_set_self _ _ _ _ hpn, List.set_set, Int.zero_emod, hlt, hpos, hn]
          c2l_ub [hl', hmm]
        · c2l_simp [HIbitflush_m.chk, flm_max_ite, HIbitflush_m, bitnum_int, mergeMaskC_fold, fMerge, fWriteout, flmRec, hc8, hwo,
            H4.C2L.getD_set_self _ _ _ _ hpn, List.set_set, Int.zero_emod, hlt, hpos]
          c2l_ub [hl', hmm]
      · by_cases hpos : (if r.maxOff < r.byteOff + 1 then r.byteOff + 1 else r.maxOff) - r.blockOff > 0
        · have hn : ((if r.maxOff < r.byteOff + 1 then r.byteOff + 1 else r.maxOff) - r.blockOff = -1) = False := by
            simp only [eq_iff_iff, iff_false]; omega
          c2l_simp [HIbitflush_m.chk, flm_max_ite, HIbitflush_m, bitnum_int, mergeMaskC_fold, fMerge, fWriteout, flmRec, hc8, hwo,
            H4.C2L.getD_set_self _ _ _ _ hpn, List.set_set, Int.zero_emod, hlt, hpos, hn]
          c2l_ub [hl', hmm]
        · c2l_simp [HIbitflush_m.chk, flm_max_ite, HIbitflush_m, bitnum_int, mergeMaskC_fold, fMerge, fWriteout, flmRec, hc8, hwo,
            H4.C2L.getD_set_self _ _ _ _ hpn, List.set_set, Int.zero_emod, hlt, hpos]
          c2l_ub [hl', hmm]
    · c2l_simp [HIbitflush_m.chk, flm_max_ite, HIbitflush_m, bitnum_int, mergeMaskC_fold, fMerge, flmRec, hc8, hwo,
        H4.C2L.getD_set_self _ _ _ _ hpn, List.set_set, Int.zero_emod]
      c2l_ub [hl', hmm]
  · by_cases hwo : wo = 1
    · by_cases hlt : r.bytez < r.maxOff - r.blockOff
      · by_cases hpos : r.bytez > 0
        · have hn : (r.bytez = -1) = False := by simp only [eq_iff_iff, iff_false]; omega
          c2l_simp [HIbitflush_m.chk, HIbitflush_m, bitnum_int, fWriteout, flmRec, hc8, hwo, hlt, hpos, hn]
          c2l_ub [hl']
        · c2l_simp [HIbitflush_m, bitnum_int, fWriteout, flmRec, hc8, hwo, hlt, hpos]
      · by_cases hpos : r.maxOff - r.blockOff > 0
        · have hn : (r.maxOff - r.blockOff = -1) = False := by simp only [eq_iff_iff, iff_false]; omega
          c2l_simp [HIbitflush_m.chk, HIbitflush_m, bitnum_int, fWriteout, flmRec, hc8, hwo, hlt, hpos, hn]
          c2l_ub [hl']
        · c2l_simp [HIbitflush_m, bitnum_int, fWriteout, flmRec, hc8, hwo, hlt, hpos]
    · c2l_simp [HIbitflush_m, bitnum_int, flmRec, hc8, hwo]

/-- the record inside the state of the translated `Hbitseek` (which never looks at `access`: taken from outside) -/
def skRec (s : Hbitseek.St) (acc : Int) : CRec :=
  { access := acc, mode := s.rec_mode, count := s.rec_count, bits := s.rec_bits, bufRead := s.rec_buf_read,
    byteOff := s.rec_byte_offset, maxOff := s.rec_max_offset, blockOff := s.rec_block_offset, bytep := s.rec_bytep,
    bytez := s.rec_bytez, bytea := s.rec_bytea, elt := s.io_elt, epos := s.io_epos, enew := s.io_enew }

/-- segment 0 of `Hbitseek`, the argument check: a negative offset, a bit offset above 7 or a byte offset beyond `max_offset` is `FAIL` -/
theorem sk_seg0_bad (fuel : Nat) (s : Hbitseek.St) (hub : s.ub = false) (hnull : s.rec_null = false)
    (hbad : s.byte_offset < 0 ∨ s.bit_offset < 0 ∨ s.bit_offset > 7 ∨ s.byte_offset > s.rec_max_offset) :
    let s' := Hbitseek.seg0 fuel s
    s'.ub = false ∧ s'.oof = s.oof ∧ s'.done = true ∧ s'.ret = -1 := by
  have hbad' : ((s.byte_offset < 0 ∨ s.bit_offset < 0) ∨ 8 - 1 < s.bit_offset) ∨ s.rec_max_offset < s.byte_offset := by omega
  c2l_simp [hub, hnull, Hbitseek.seg0, bitnum_int, hbad']

/-- .. and otherwise `new_block` -/
theorem sk_seg0_eq (fuel : Nat) (s : Hbitseek.St) (hdone : s.done = false) (hnull : s.rec_null = false)
    (hgood : ¬ (s.byte_offset < 0 ∨ s.bit_offset < 0 ∨ s.bit_offset > 7 ∨ s.byte_offset > s.rec_max_offset)) :
    Hbitseek.seg0 fuel s =
      { s with new_block := (if s.byte_offset < s.rec_block_offset ∨ s.byte_offset ≥ s.rec_block_offset + 4096 then 1 else 0) } := by
  have hbad' : ¬ (((s.byte_offset < 0 ∨ s.bit_offset < 0) ∨ 8 - 1 < s.bit_offset) ∨ s.rec_max_offset < s.byte_offset) := by omega
  cases s
  simp only at hdone hnull hbad'
  subst hdone hnull
  c2l_simp [Hbitseek.seg0, bitnum_int, hbad']

theorem sk_seg_done (fuel : Nat) (s : Hbitseek.St) (h : s.done = true) : Hbitseek.seg1 fuel s = s ∧ Hbitseek.seg2 fuel s = s := by
  refine ⟨?_, ?_⟩
  · simp only [Hbitseek.seg1, h, ↓reduceIte]
  · simp only [Hbitseek.seg2, h, ↓reduceIte]

theorem sk_seg1_r (fuel : Nat) (s : Hbitseek.St) (hm : s.rec_mode ≠ 119) : Hbitseek.seg1 fuel s = s := by
  cases hd : s.done <;> simp only [Hbitseek.seg1, hd, hm, Bool.false_eq_true, ↓reduceIte]

/-- segment 1 of `Hbitseek` in write mode: `HIbitflush(rec, -1, new_block)` (the translated variant `HIbitflush_m`) on the same record -/
theorem sk_seg1_w (fuel : Nat) (s : Hbitseek.St) (hdone : s.done = false) (hm : s.rec_mode = 119) (acc : Int) :
    let S := HIbitflush_m fuel s.rec_count s.rec_byte_offset s.rec_max_offset s.rec_bytea s.rec_bytep s.rec_bits s.rec_bytez
      s.rec_block_offset (-1) s.new_block s.io_elt s.io_epos s.io_enew
    let s' := Hbitseek.seg1 fuel s
    s'.ub = (s.ub || S.ub) ∧ s'.oof = (s.oof || S.oof) ∧ s'.byte_offset = s.byte_offset ∧ s'.bit_offset = s.bit_offset ∧
      s'.new_block = s.new_block ∧ (S.ret ≠ -1 → s'.done = false ∧ s'.ret = s.ret) ∧
      skRec s' acc = { skRec s acc with count := S.rec_count, byteOff := S.rec_byte_offset, maxOff := S.rec_max_offset,
                                        bytea := S.rec_bytea, bytep := S.rec_bytep, bits := S.rec_bits, elt := S.io_elt,
                                        epos := S.io_epos, enew := S.io_enew } := by
  intro S
  by_cases hr : S.ret = -1 <;>
    (have hr' := hr
     simp only [S] at hr'
     c2l_simp [Hbitseek.St.join, hdone, hm, Hbitseek.seg1, skRec, hr, S])

/-- `maskc[bit_offset] << count` with `count = BITNUM - bit_offset`, as the translator writes it -/
def seekMaskC (b : Int) : Int := Int.ofNat ((H4.Gen.Hbitio.maskc).getD (Int.toNat b) 0) * 2 ^ Int.toNat (8 - b)
theorem seekMaskC_fold (b : Int) : Int.ofNat ((H4.Gen.Hbitio.maskc).getD (Int.toNat b) 0) * 2 ^ Int.toNat (8 - b) = seekMaskC b := rfl

theorem seekMaskC_nonneg (b : Int) : (0 ≤ seekMaskC b) = True := by
  simp only [eq_iff_iff, iff_true]
  unfold seekMaskC
  exact Int.mul_nonneg (by simp only [Int.ofNat_eq_natCast]; omega) (Int.pow_nonneg (by omega))

/-- the "another block" part of `Hbitseek`: `Hseek` to the block that holds `byte_offset`, `Hread` of it (`none` = the read failed),
    cursors and `block_offset` reset; when writing the whole buffer is the window and the element position returns to the block start -/
def fSeekBlock (r : CRec) (B : Int) : Option CRec :=
  let sp := Int.tdiv B 4096 * 4096
  let rs := rdSize r.maxOff sp
  if r.enew = 0 then
    let k := kRead r.elt.length sp rs
    some { r with bytea := (r.elt.drop sp.toNat).take k.toNat ++ r.bytea.drop k.toNat, bytep := 0,
                  bytez := if r.mode = 119 then 4096 else k, bufRead := k, blockOff := sp, epos := if r.mode = 119 then sp else sp + k }
  else none

/-- the positioning part of `Hbitseek`: `byte_offset`, the cursor, and the bit buffer for a position inside a byte -/
def fSeekPos (r : CRec) (B b : Int) : CRec :=
  let r1 : CRec := { r with byteOff := B, bytep := B - r.blockOff }
  if b > 0 then
    if r1.mode = 119 then
      { r1 with count := 8 - b,
                bits := Int.ofNat (Int.toNat (r1.bytea.getD r1.bytep.toNat 0) &&& Int.toNat (seekMaskC b)) % 256 }
    else { r1 with count := 8 - b, bits := r1.bytea.getD r1.bytep.toNat 0, bytep := r1.bytep + 1 }
  else if r1.mode = 119 then { r1 with count := 8, bits := 0 } else { r1 with count := 0 }

theorem tdiv_block (B : Int) (h : 0 ≤ B) : 0 ≤ Int.tdiv B 4096 * 4096 ∧ Int.tdiv B 4096 * 4096 ≤ B ∧ B - Int.tdiv B 4096 * 4096 < 4096 := by
  rw [Int.tdiv_eq_ediv_of_nonneg h]; omega

theorem sk_seg2 (fuel : Nat) (s : Hbitseek.St) (acc : Int) (hub : s.ub = false) (hdone : s.done = false)
    (hnb : s.new_block = 0 ∨ s.new_block = 1) (hB : 0 ≤ s.byte_offset) (hb : 0 ≤ s.bit_offset ∧ s.bit_offset ≤ 7)
    (hl : s.rec_bytea.length = 4096) (hmax : s.byte_offset ≤ s.rec_max_offset)
    (hpos : s.new_block = 0 → 0 ≤ s.byte_offset - s.rec_block_offset ∧ s.byte_offset - s.rec_block_offset < 4096)
    (hk : s.new_block = 1 → kRead s.io_elt.length (Int.tdiv s.byte_offset 4096 * 4096)
      (rdSize s.rec_max_offset (Int.tdiv s.byte_offset 4096 * 4096)) ≤ 4096)
    (hA : ∀ x ∈ s.rec_bytea, 0 ≤ x) (hE : ∀ x ∈ s.io_elt, 0 ≤ x) :
    let s' := Hbitseek.seg2 fuel s
    let r1 := if s.new_block = 1 then fSeekBlock (skRec s acc) s.byte_offset else some (skRec s acc)
    s'.ub = false ∧ s'.oof = s.oof ∧ s'.done = true ∧
    (r1 = none → s'.ret = -1) ∧
    (∀ q, r1 = some q → s'.ret = 0 ∧ skRec s' acc = fSeekPos q s.byte_offset s.bit_offset) := by
  obtain ⟨hb1, hb2⟩ := hb
  have hl' : (s.rec_bytea.length : Int) = 4096 := by omega
  obtain ⟨ht1, ht2, ht3⟩ := tdiv_block s.byte_offset hB
  rcases hnb with hnb | hnb
  · obtain ⟨hp1, hp2⟩ := hpos hnb
    have hx := getD_nonneg_of_all _ hA (s.byte_offset - s.rec_block_offset).toNat
    have h01 : ((0 : Int) = 1) = False := by decide
    by_cases hbp : s.bit_offset > 0
    · by_cases hm : s.rec_mode = 119 <;>
        (c2l_simp [Hbitseek.chk, hub, hdone, hnb, Hbitseek.seg2, bitnum_int, seekMaskC_fold, fSeekPos, skRec, h01, hbp, hm, reduceCtorEq,
            Option.some.injEq, forall_eq']
         c2l_ub [hl', hx, seekMaskC_nonneg])
    · by_cases hm : s.rec_mode = 119 <;>
        c2l_simp [hub, hdone, hnb, Hbitseek.seg2, bitnum_int, fSeekPos, skRec, h01, hbp, hm, reduceCtorEq, Option.some.injEq, forall_eq',
            Int.zero_emod]
  · have hk' := hk hnb
    have hsp : (0 ≤ Int.tdiv s.byte_offset 4096 * 4096) = True := by simp only [eq_iff_iff, iff_true]; exact ht1
    have hrs0 : (0 ≤ rdSize s.rec_max_offset (Int.tdiv s.byte_offset 4096 * 4096)) = True := by
      simp only [eq_iff_iff, iff_true]; unfold rdSize; split <;> omega
    by_cases hnew : s.io_enew = 0
    · have hrs0' : 0 ≤ rdSize s.rec_max_offset (Int.tdiv s.byte_offset 4096 * 4096) := by unfold rdSize; split <;> omega
      generalize hspd : Int.tdiv s.byte_offset 4096 * 4096 = sp at *
      generalize hrsd : rdSize s.rec_max_offset sp = rs at *
      have hkb : 0 ≤ kRead s.io_elt.length sp rs ∧ (kRead s.io_elt.length sp rs ≤ s.io_elt.length - sp ∨ kRead s.io_elt.length sp rs = 0) := by
        unfold kRead; simp only [Int.ofNat_eq_natCast]; split <;> omega
      generalize hkd : kRead s.io_elt.length sp rs = k at *
      have hkn : (k = -1) = False := by simp only [eq_iff_iff, iff_false]; omega
      have hA' := all_nonneg_read s.rec_bytea s.io_elt hA hE sp.toNat k.toNat
      have hx := getD_nonneg_of_all _ hA' (s.byte_offset - sp).toNat
      have hlen : ((List.take k.toNat (List.drop sp.toNat s.io_elt) ++ List.drop k.toNat s.rec_bytea).length : Int) = 4096 := by
        simp only [List.length_append, List.length_take, List.length_drop]; omega
      by_cases hbp : s.bit_offset > 0
      · by_cases hm : s.rec_mode = 119 <;>
          (c2l_simp [Hbitseek.chk, hub, hdone, hnb, Hbitseek.seg2, bitnum_int, seekMaskC_fold, kRead_fold, rdSize_fold, hspd, hrsd, hkd,
              fSeekBlock, fSeekPos, skRec, hnew, hsp, reduceCtorEq, hkn, hbp, hm, Option.some.injEq, forall_eq']
           c2l_ub [hl', hrs0, hlen, hx, seekMaskC_nonneg])
      · by_cases hm : s.rec_mode = 119 <;>
          (c2l_simp [Hbitseek.chk, hub, hdone, hnb, Hbitseek.seg2, bitnum_int, kRead_fold, rdSize_fold, hspd, hrsd, hkd, fSeekBlock,
              fSeekPos, skRec, hnew, hsp, reduceCtorEq, hkn, hbp, hm, Option.some.injEq, forall_eq', Int.zero_emod]
           c2l_ub [hl', hrs0, hlen])
    · c2l_simp [Hbitseek.chk, hub, hdone, hnb, Hbitseek.seg2, kRead_fold, rdSize_fold, fSeekBlock, fSeekPos, skRec, hnew, hsp, reduceCtorEq, hrs0]

theorem seekMaskC_nat (b : Nat) : seekMaskC (b : Int) = ((maskC b <<< (BITNUM - b) : Nat) : Int) := by
  unfold seekMaskC maskC
  simp only [toNat_8_sub, Int.toNat_natCast, Int.ofNat_eq_natCast, shl_cast]
  rfl

theorem seek_bits (x b : Nat) (hx : x < 256) :
    Int.ofNat (x &&& Int.toNat (seekMaskC (b : Int))) % 256 = ((x &&& ((maskC b <<< (8 - b)) % 256) : Nat) : Int) := by
  rw [seekMaskC_nat b]
  simp only [Int.toNat_natCast, Int.ofNat_eq_natCast, consts]
  rw [← and_mod_256 x _ hx]
  have : x &&& maskC b <<< (8 - b) < 256 := and_le_255 _ _ hx
  omega

theorem ints_getD' (l : List Byte) (i : Nat) (h : i < l.length) : (ints l).getD i 0 = ((l[i]).toNat : Int) := ints_getD l i h

theorem mSeekPos_toC {q : St} (h : Rep q) (B b : Nat) (hB : q.blockOff ≤ B) (hp : B - q.blockOff < 4096) (hb : b ≤ 7) :
    (mSeekPos q B b).toC = fSeekPos q.toC B b ∧ Rep (mSeekPos q B b) ∧ (mSeekPos q B b).wMode = q.wMode ∧
      (mSeekPos q B b).wAccess = q.wAccess ∧ (mSeekPos q B b).bytez = q.bytez ∧
      (mSeekPos q B b).bytep = B - q.blockOff + (if b > 0 ∧ q.wMode = false then 1 else 0) ∧
      (q.wMode = true → 1 ≤ (mSeekPos q B b).count) ∧ (b > 0 → (mSeekPos q B b).count = 8 - b) := by
  obtain ⟨h1, h2, h3, h4, h5, h7, h9⟩ := h
  obtain ⟨elem, posn, isNew, wAccess, wMode, blockOff, maxOff, byteOff, count, bufRead, bits, pre, post, bytep, bytez, oob, err⟩ := q
  simp only at h1 h2 h3 h4 h5 h7 h9 hB hp
  subst h1 h2 h3
  have hbuf : (pre.reverse ++ post).length = 4096 := by simp; omega
  have hsub : ((B : Int) - (blockOff : Int)) = ((B - blockOff : Nat) : Int) := by omega
  generalize hP : B - blockOff = p at *
  have hpl : p < (pre.reverse ++ post).length := by omega
  have hdrop : List.drop p (pre.reverse ++ post) = (pre.reverse ++ post)[p] :: List.drop (p + 1) (pre.reverse ++ post) :=
    List.drop_eq_getElem_cons hpl
  have hget : (ints (pre.reverse ++ post)).getD p 0 = (((pre.reverse ++ post)[p]).toNat : Int) := ints_getD _ _ hpl
  have hx := UInt8.toNat_lt ((pre.reverse ++ post)[p])
  have htl : (List.take p (pre.reverse ++ post)).length = p := by rw [List.length_take]; omega
  have hbufeq : List.take p (pre.reverse ++ post) ++ (pre.reverse ++ post)[p] :: List.drop (p + 1) (pre.reverse ++ post) =
      pre.reverse ++ post := by rw [← hdrop, List.take_append_drop]
  by_cases hbp : b > 0
  · have hbp' : (b : Int) > 0 := by omega
    cases wMode with
    | true =>
      have hm : modeChar true = 119 := rfl
      simp only [mSeekPos, St.setPtr, St.buf, hP, hbp, if_true, St.peek, hdrop, St.toC, fSeekPos, hsub, hbp', hm, Int.toNat_natCast,
        List.reverse_reverse, hget, consts, hbufeq, seek_bits _ _ hx]
      refine ⟨?_, ⟨rfl, rfl, by simp only [List.length_reverse, htl], by simp only [List.length_reverse, htl, List.length_cons, List.length_drop, hbuf]; omega,
        h5, by simp only; omega, and_le_255 _ _ (by omega)⟩, ?_⟩
      · congr 1; omega
      · simp; omega
    | false =>
      have hm : ¬ (modeChar false = 119) := by decide
      simp only [mSeekPos, St.setPtr, St.buf, hP, hbp, if_true, St.peek, hdrop, St.adv, St.toC, fSeekPos, hsub, hbp', hm, if_false,
        Int.toNat_natCast, List.reverse_reverse, hget, consts, Bool.false_eq_true, List.reverse_cons,
        List.append_assoc, List.singleton_append, hbufeq]
      refine ⟨?_, ⟨rfl, rfl, by simp [htl], by simp [htl, hbuf]; omega, h5, by simp only; omega, by simp only; omega⟩, ?_⟩
      · simp only [Int.natCast_add, Int.natCast_one]; congr 1; omega
      · simp
  · have hb0 : b = 0 := by omega
    subst hb0
    have hbp' : ¬ ((0 : Int) > 0) := by omega
    cases wMode with
    | true =>
      have hm : modeChar true = 119 := rfl
      simp only [mSeekPos, St.setPtr, St.buf, hP, Nat.lt_irrefl, if_false, if_true, St.toC, fSeekPos, hsub, hm, Int.natCast_zero, hbp',
        List.reverse_reverse, List.take_append_drop, consts]
      refine ⟨?_, ⟨rfl, rfl, by simp only [List.length_reverse, htl], by simp only [List.length_reverse, htl, List.length_drop, hbuf]; omega,
        h5, by simp only; omega, by simp only; omega⟩, ?_⟩
      · rfl
      · simp
    | false =>
      have hm : ¬ (modeChar false = 119) := by decide
      simp only [mSeekPos, St.setPtr, St.buf, hP, Nat.lt_irrefl, if_false, St.toC, fSeekPos, hsub, hm, Int.natCast_zero, hbp',
        List.reverse_reverse, List.take_append_drop, Bool.false_eq_true]
      refine ⟨?_, ⟨rfl, rfl, by simp only [List.length_reverse, htl], by simp only [List.length_reverse, htl, List.length_drop, hbuf]; omega,
        h5, by simp only; omega, h9⟩, ?_⟩
      · trivial
      · simp

theorem seekPos_sought {m q : St} (hq : Rep q) (B b : Nat) (hb7 : b ≤ 7) (hq1 : q.blockOff ≤ B) (hq2 : B - q.blockOff < 4096)
    (hq3 : q.wMode = m.wMode) (hq4 : q.wAccess = m.wAccess) (hq5 : q.wMode = true → q.bytez = 4096)
    (hacc : m.wMode = true → m.wAccess = true) :
    (mSeekPos q B b).toC = fSeekPos q.toC B b ∧ Sought m (mSeekPos q B b) b := by
  obtain ⟨p1, p2, p3, p4, p5, p6, p7, p11⟩ := mSeekPos_toC hq B b hq1 hq2 hb7
  refine ⟨p1, p2, p3.trans hq3, p4.trans hq4, ?_, ?_, ?_, p11⟩
  · intro hw
    have hqw : q.wMode = true := hq3.trans hw
    have hz : (mSeekPos q B b).bytez = 4096 := p5.trans (hq5 hqw)
    have hbp : (mSeekPos q B b).bytep = B - q.blockOff := by
      rw [p6]; simp [hqw]
    exact ⟨p2.noOob, p2.noErr, p2.bytep, p2.len, p2.zle, by rw [hbp, hz]; omega, p2.cnt, fun _ => by rw [hbp, hz]; omega, p2.bits,
      fun _ => p7 hqw, fun _ => by rw [p4, hq4]; exact hacc hw, fun _ => hz⟩
  · rw [p6, hq3]; split <;> omega
  · intro hbm; rw [p6, hq3, if_pos hbm]; omega

theorem tdiv_nat_block (B : Nat) : Int.tdiv (B : Int) 4096 * 4096 = ((B / 4096 * 4096 : Nat) : Int) := by
  rw [Int.tdiv_eq_ediv_of_nonneg (by omega)]; simp

/-- what `Hread` delivers when `Hbitseek` loads another block fits the buffer, provided the element is not more than a buffer longer
    than `max_offset` says (`Hread` with a length of 0 - the block starts exactly at `max_offset` - reads to the END of the element) -/
theorem seek_fit (len mx sp : Nat) (hsp : sp ≤ mx) (hfit : len ≤ mx + 4096) :
    kRead (len : Int) (sp : Int) (rdSize (mx : Int) (sp : Int)) ≤ 4096 := by
  rw [rdSize_nat mx sp hsp, kRead_nat]
  split <;> omega

theorem mSeekBlock_toC {s1 : St} (h : Rep s1) (B : Nat) (hmax : B ≤ s1.maxOff) (hfit : s1.elem.length ≤ s1.maxOff + 4096) :
    (mSeekBlock s1 (B / 4096 * 4096)).map St.toC = fSeekBlock s1.toC B ∧
    ∀ q, mSeekBlock s1 (B / 4096 * 4096) = some q → Rep q ∧ q.blockOff = B / 4096 * 4096 ∧ q.wMode = s1.wMode ∧
      q.wAccess = s1.wAccess ∧ q.maxOff = s1.maxOff ∧ q.elem = s1.elem ∧ (q.wMode = true → q.bytez = 4096) ∧
      (q.wMode = false → q.bytez = q.bufRead) := by
  obtain ⟨h1, h2, h3, h4, h5, h7, h9⟩ := h
  obtain ⟨elem, posn, isNew, wAccess, wMode, blockOff, maxOff, byteOff, count, bufRead, bits, pre, post, bytep, bytez, oob, err⟩ := s1
  simp only at h1 h2 h3 h4 h5 h7 h9 hmax hfit
  subst h1 h2 h3
  generalize hspd : B / 4096 * 4096 = sp at *
  have hbuf : (pre.reverse ++ post).length = 4096 := by simp; omega
  cases isNew with
  | true =>
    simp only [mSeekBlock, hSeek, hRead, if_true, Option.map_none, fSeekBlock, St.toC, tdiv_nat_block, hspd]
    refine ⟨by simp, ?_⟩
    intro q hq; cases hq
  | false =>
    obtain ⟨N, hr, hN, hlen⟩ := hRead_some
      (hSeek (St.mk elem posn false wAccess wMode blockOff maxOff byteOff count bufRead bits pre post pre.length bytez false false) sp) rfl
      (min ((hSeek (St.mk elem posn false wAccess wMode blockOff maxOff byteOff count bufRead bits pre post pre.length bytez false false) sp).maxOff - sp)
        BITBUF_SIZE)
    simp only [hSeek] at hN hlen
    have hkk : kRead (↑(ints elem).length) (↑sp) (rdSize (↑maxOff) (↑sp)) = (N : Int) := by
      rw [ints_length, rdSize_nat maxOff sp (by omega), kRead_nat, hN]; simp only [consts]
    have hNle : N ≤ elem.length - sp ∧ N ≤ 4096 := by rw [hN]; simp only [consts]; split <;> omega
    cases wMode with
    | true =>
      have hm : modeChar true = 119 := rfl
      simp only [mSeekBlock]
      rw [hr]
      simp only [hSeek, hlen, if_true, Option.map_some, fSeekBlock, St.toC,
        tdiv_nat_block, hspd, hkk, hm, St.setPtr, St.load, St.buf, List.reverse_reverse, List.take_append_drop, List.take_zero,
        List.drop_zero, List.reverse_nil, List.nil_append, Int.toNat_natCast, ints_append, ints_take, ints_drop, Int.natCast_zero, consts]
      refine ⟨by simp, ?_⟩
      intro q hq
      cases hq
      exact ⟨⟨rfl, rfl, rfl, by simp [hlen, hbuf]; omega, by simp, h7, h9⟩, rfl, rfl, rfl, rfl, rfl, fun _ => rfl, fun h => Bool.noConfusion h⟩
    | false =>
      have hm : ¬ (modeChar false = 119) := by decide
      simp only [mSeekBlock]
      rw [hr]
      simp only [hSeek, hlen, Bool.false_eq_true, if_false, Option.map_some, fSeekBlock, St.toC,
        tdiv_nat_block, hspd, hkk, hm, St.setPtr, St.load, St.buf, List.reverse_reverse, List.take_append_drop, List.take_zero,
        List.drop_zero, List.reverse_nil, List.nil_append, Int.toNat_natCast, ints_append, ints_take, ints_drop, Int.natCast_zero, consts,
        Int.natCast_add]
      refine ⟨by simp, ?_⟩
      intro q hq
      cases hq
      exact ⟨⟨rfl, rfl, rfl, by simp [hlen, hbuf]; omega, by simp only; omega, h7, h9⟩, rfl, rfl, rfl, rfl, rfl, fun h => Bool.noConfusion h, fun _ => rfl⟩

theorem bitflush_none_toC {m : St} (hinv : Inv m) (hw : m.wMode = true) (wo : Bool) :
    (bitflush m none wo).toC = (if wo then fWriteout (if m.toC.count < 8 then fMerge m.toC else m.toC)
                                else (if m.toC.count < 8 then fMerge m.toC else m.toC)) ∧
    Rep (bitflush m none wo) ∧ (bitflush m none wo).wMode = true ∧ (bitflush m none wo).wAccess = m.wAccess ∧
    (bitflush m none wo).bytez = m.bytez ∧ m.maxOff ≤ (bitflush m none wo).maxOff ∧ (bitflush m none wo).blockOff = m.blockOff := by
  rw [bitflush_eq]
  have hcond : ¬ (m.byteOff ≥ m.maxOff ∧ (none : Option Bool).isSome = true) := by simp
  by_cases hc8 : m.count < 8
  · have hc : m.count < BITNUM := by simpa [consts] using hc8
    have hcI : m.toC.count < 8 := by show (m.count : Int) < 8; omega
    have hplt : m.bytep < 4096 := by have := hinv.wlt hw; have := hinv.zle; omega
    obtain ⟨w1, w2, w3, w4, w5⟩ := mMerge_toC hinv.rep hplt hc8
    obtain ⟨g1, g2, g3⟩ := mMerge_geom m
    obtain ⟨v1, v2, v3, v4, v5⟩ := mWriteout_toC w2 wo
    obtain ⟨z1, z2⟩ := mWriteout_geom (mMerge m) wo
    rw [if_pos hc, if_neg hcond, if_pos hcI, v1, w1]
    exact ⟨rfl, v2, v3.trans (w3.trans hw), v4.trans w4, v5.trans w5, by rw [z1]; exact g1, z2.trans g2⟩
  · have hc : ¬ (m.count < BITNUM) := by simpa [consts] using hc8
    have hcI : ¬ (m.toC.count < 8) := by show ¬ ((m.count : Int) < 8); omega
    obtain ⟨v1, v2, v3, v4, v5⟩ := mWriteout_toC hinv.rep wo
    obtain ⟨z1, z2⟩ := mWriteout_geom m wo
    rw [if_neg hc, if_neg hcI, v1]
    exact ⟨rfl, v2, v3.trans hw, v4, v5, by rw [z1]; exact Nat.le_refl _, z2⟩

def skInit (r : CRec) (B b : Int) : Hbitseek.St :=
  { bitid := bitId, byte_offset := B, bit_offset := b, rec_null := false, rec_max_offset := r.maxOff, rec_block_offset := r.blockOff,
    rec_mode := r.mode, rec_count := r.count, rec_byte_offset := r.byteOff, rec_bytea := r.bytea, rec_bytep := r.bytep, rec_bits := r.bits,
    rec_bytez := r.bytez, io_elt := r.elt, io_epos := r.epos, io_enew := r.enew, rec_buf_read := r.bufRead }

theorem cBitseek_eq (fuel : Nat) (r : CRec) (B b : Int) :
    cBitseek fuel r B b =
      (let s := Hbitseek.seg2 fuel (Hbitseek.seg1 fuel (Hbitseek.seg0 fuel (skInit r B b)))
       { crec := skRec s r.access, ret := s.ret, ub := s.ub, oof := s.oof }) := rfl

theorem fWriteout_bz (r : CRec) : (fWriteout r).bytez = r.bytez ∧ (fWriteout r).blockOff = r.blockOff := by
  unfold fWriteout
  simp only
  split <;> split <;> exact ⟨rfl, rfl⟩

theorem flat_flush_bz (r : CRec) (wo : Int) :
    (if wo = 1 then fWriteout (if r.count < 8 then fMerge r else r) else (if r.count < 8 then fMerge r else r)).bytez = r.bytez ∧
    (if wo = 1 then fWriteout (if r.count < 8 then fMerge r else r) else (if r.count < 8 then fMerge r else r)).blockOff = r.blockOff := by
  by_cases h1 : wo = 1 <;> by_cases h2 : r.count < 8 <;> simp only [h1, h2, if_true, if_false]
  · exact ⟨(fWriteout_bz _).1.trans rfl, (fWriteout_bz _).2.trans rfl⟩
  · exact fWriteout_bz _
  · exact ⟨rfl, rfl⟩
  · simp

theorem sk_rest (m : St) (hrep : Rep m) (hwi : m.wMode = true → Inv m) (B b : Nat) (hb7 : b ≤ 7) (hBm : B ≤ m.maxOff) (nb : Bool)
    (hnb : nb = true ↔ (B < m.blockOff ∨ B ≥ m.blockOff + 4096))
    (hfit : nb = true → (if m.wMode then bitflush m none nb else m).elem.length ≤ (if m.wMode then bitflush m none nb else m).maxOff + 4096)
    (fuel : Nat) :
    let S0 : Hbitseek.St := { skInit m.toC B b with new_block := if nb then 1 else 0 }
    let s := Hbitseek.seg2 fuel (Hbitseek.seg1 fuel S0)
    let m1 := if m.wMode then bitflush m none nb else m
    let r := mSeekTail (if nb then mSeekBlock m1 (B / BITBUF_SIZE * BITBUF_SIZE) else some m1) m1 B b
    s.ub = false ∧ s.oof = false ∧ s.ret = (if r.2 then 0 else -1) ∧
    (r.2 = true → skRec s m.toC.access = r.1.toC ∧ Sought m r.1 b) := by
  intro S0 s m1 r
  have hflush : (Hbitseek.seg1 fuel S0).ub = false ∧ (Hbitseek.seg1 fuel S0).oof = false ∧ (Hbitseek.seg1 fuel S0).done = false ∧
      (Hbitseek.seg1 fuel S0).byte_offset = B ∧ (Hbitseek.seg1 fuel S0).bit_offset = b ∧
      (Hbitseek.seg1 fuel S0).new_block = (if nb then 1 else 0) ∧ skRec (Hbitseek.seg1 fuel S0) m.toC.access = m1.toC ∧ Rep m1 ∧
      m1.wMode = m.wMode ∧ m1.wAccess = m.wAccess ∧ m1.bytez = m.bytez ∧ m.maxOff ≤ m1.maxOff ∧ m1.blockOff = m.blockOff := by
    cases hw : m.wMode with
    | false =>
      have hm : S0.rec_mode ≠ 119 := by show modeChar m.wMode ≠ 119; rw [hw]; decide
      have hm1 : m1 = m := by simp only [m1, hw, Bool.false_eq_true, if_false]
      rw [sk_seg1_r fuel S0 hm, hm1]
      exact ⟨rfl, rfl, rfl, rfl, rfl, rfl, rfl, hrep, hw, rfl, rfl, Nat.le_refl _, rfl⟩
    | true =>
      have hinv := hwi hw
      have hm : S0.rec_mode = 119 := by show modeChar m.wMode = 119; rw [hw]; rfl
      have hm1 : m1 = bitflush m none nb := by simp only [m1, hw, if_true]
      have gc : (0 : Int) ≤ m.toC.count ∧ m.toC.count ≤ 8 := by have := hinv.cnt; simp only [St.toC]; omega
      have gb : (0 : Int) ≤ m.toC.bits := by simp only [St.toC]; omega
      have hfl := flm_main fuel m.toC (if nb then 1 else 0) gc (toC_w_facts hinv hw) gb (ints_getD_nonneg _ _)
      simp only at hfl
      obtain ⟨f1, f2, f3, f4⟩ := hfl
      have h1 := sk_seg1_w fuel S0 rfl hm m.toC.access
      simp only at h1
      obtain ⟨k1, k2, k3, k4, k5, k6, k7⟩ := h1
      obtain ⟨w1, w2, w3, w4, w5, w6, w7⟩ := bitflush_none_toC hinv hw nb
      obtain ⟨k6a, k6b⟩ := k6 (fun h => absurd (f3.symm.trans h) (by decide))
      have hwoI : ∀ x : CRec, (if (if nb then (1 : Int) else 0) = 1 then fWriteout x else x) = (if nb then fWriteout x else x) := by
        intro x; cases nb <;> simp
      rw [hm1]
      refine ⟨k1.trans (congrArg (false || ·) f1), k2.trans (congrArg (false || ·) f2), k6a, k3, k4, k5, ?_, w2, w3, w4, w5, w6, w7⟩
      have hbz := flat_flush_bz m.toC (if nb then 1 else 0)
      rw [← f4] at hbz
      rw [k7, w1, ← hwoI, ← f4]
      simp only [flmRec, skRec, S0, skInit] at hbz ⊢
      rw [hbz.1, hbz.2]
  obtain ⟨u1, u2, u3, u4, u5, u6, u7, u8, u9, u10, u11, u12, u13⟩ := hflush
  have hs : s = Hbitseek.seg2 fuel (Hbitseek.seg1 fuel S0) := rfl
  generalize Hbitseek.seg1 fuel S0 = S1 at hs u1 u2 u3 u4 u5 u6 u7
  have e_bytea : S1.rec_bytea = m1.toC.bytea := congrArg CRec.bytea u7
  have e_elt : S1.io_elt = m1.toC.elt := congrArg CRec.elt u7
  have e_max : S1.rec_max_offset = m1.toC.maxOff := congrArg CRec.maxOff u7
  have e_blk : S1.rec_block_offset = m1.toC.blockOff := congrArg CRec.blockOff u7
  obtain ⟨g1, g2, g3, g4, g5, g6⟩ := toC_rep_facts u8
  have hsp : B / 4096 * 4096 ≤ B := Nat.div_mul_le_self B 4096
  have h2 := sk_seg2 fuel S1 m.toC.access u1 u3 (by rw [u6]; cases nb <;> simp) (by rw [u4]; omega) (by rw [u5]; omega)
    (by rw [e_bytea]; exact g1) (by rw [u4, e_max]; show (B : Int) ≤ (m1.maxOff : Int); omega)
    (by
      intro h0
      have hnf : nb = false := by
        cases nb with
        | false => rfl
        | true => rw [u6] at h0; simp at h0
      have hn : ¬ (B < m.blockOff ∨ B ≥ m.blockOff + 4096) := fun h => by rw [hnb.mpr h] at hnf; cases hnf
      rw [u4, e_blk]
      show (0 : Int) ≤ (B : Int) - (m1.blockOff : Int) ∧ (B : Int) - (m1.blockOff : Int) < 4096
      rw [u13]; omega)
    (by
      intro h1
      have hnt : nb = true := by
        cases nb with
        | true => rfl
        | false => rw [u6] at h1; simp at h1
      rw [u4, e_elt, e_max, tdiv_nat_block]
      show kRead ((ints m1.elem).length : Int) _ (rdSize (m1.maxOff : Int) _) ≤ 4096
      rw [ints_length]
      exact seek_fit _ _ _ (by omega) (hfit hnt))
    (by rw [e_bytea]; exact ints_nonneg _) (by rw [e_elt]; exact ints_nonneg _)
  simp only at h2
  rw [← hs] at h2
  obtain ⟨c1, c2, c3, c4, c5⟩ := h2
  rw [u7, u4, u6] at c4
  rw [u7, u4, u5, u6] at c5
  have hacc : m.wMode = true → m.wAccess = true := fun hw => (hwi hw).wacc hw
  cases nb with
  | true =>
    have hnbP : B < m.blockOff ∨ B ≥ m.blockOff + 4096 := hnb.mp rfl
    simp only [if_true] at c4 c5
    obtain ⟨t1, t2⟩ := mSeekBlock_toC u8 B (by omega) (hfit rfl)
    have hr : r = mSeekTail (mSeekBlock m1 (B / 4096 * 4096)) m1 B b := by simp only [r, if_true, consts]
    cases hq : mSeekBlock m1 (B / 4096 * 4096) with
    | none =>
      rw [hq, Option.map_none] at t1
      rw [hr, hq]
      refine ⟨c1, c2.trans u2, ?_, fun h => Bool.noConfusion h⟩
      simp only [mSeekTail, Bool.false_eq_true, if_false]
      exact c4 t1.symm
    | some q =>
      rw [hq, Option.map_some] at t1
      obtain ⟨x1, x2⟩ := c5 q.toC t1.symm
      obtain ⟨y1, y2, y3, y4, y5, y6, y7, y8⟩ := t2 q hq
      rw [hr, hq, mSeekTail_some]
      refine ⟨c1, c2.trans u2, by simp only [if_true]; exact x1, fun _ => ?_⟩
      obtain ⟨z1, z2⟩ := seekPos_sought (m := m) y1 B b hb7 (by rw [y2]; exact hsp) (by rw [y2]; omega) (y3.trans u9) (y4.trans u10) y7 hacc
      exact ⟨x2.trans z1.symm, z2⟩
  | false =>
    have hnbP : ¬ (B < m.blockOff ∨ B ≥ m.blockOff + 4096) := fun h => by have := hnb.mpr h; cases this
    have h01 : ((0 : Int) = 1) = False := by decide
    simp only [h01, if_false, Bool.false_eq_true] at c4 c5
    obtain ⟨x1, x2⟩ := c5 m1.toC rfl
    have hr : r = (mSeekPos m1 B b, true) := by simp only [r, Bool.false_eq_true, if_false, mSeekTail_some]
    rw [hr]
    refine ⟨c1, c2.trans u2, by simp only [if_true]; exact x1, fun _ => ?_⟩
    obtain ⟨z1, z2⟩ := seekPos_sought (m := m) u8 B b hb7 (by rw [u13]; omega) (by rw [u13]; omega) u9 u10
      (fun hw1 => by rw [u11]; exact (hwi (u9.symm.trans hw1)).wz (u9.symm.trans hw1)) hacc
    exact ⟨x2.trans z1.symm, z2⟩

/-- **`Hbitseek`** as translated from hbitio.c computes the model's `bitseek` on the C view, in read and in write mode, inside the
    buffered block or with the load of another block.  `hfit`: when another block is loaded, the element is not more than a buffer
    longer than `max_offset` (`Hread` is asked for `MIN(max_offset - seek_pos, BITBUF_SIZE)` bytes, and a length of 0 means "to the end
    of the element"). -/
theorem Hbitseek_main (m : St) (hrep : Rep m) (hwi : m.wMode = true → Inv m) (B b : Nat)
    (hfit : (B < m.blockOff ∨ B ≥ m.blockOff + BITBUF_SIZE) → (seekPre m B).elem.length ≤ (seekPre m B).maxOff + 4096)
    (fuel : Nat) :
    let o := cBitseek fuel m.toC B b
    let r := bitseek m B b
    o.ub = false ∧ o.oof = false ∧ o.ret = (if r.2 then 0 else -1) ∧
    (r.2 = true → o.crec = r.1.toC ∧ Sought m r.1 b) := by
  rw [cBitseek_eq, bitseek_eq]
  by_cases hbad : b > BITNUM - 1 ∨ B > m.maxOff
  · have hbadC : (skInit m.toC B b).byte_offset < 0 ∨ (skInit m.toC B b).bit_offset < 0 ∨ (skInit m.toC B b).bit_offset > 7 ∨
        (skInit m.toC B b).byte_offset > (skInit m.toC B b).rec_max_offset := by
      rcases hbad with h | h
      · right; right; left; show (b : Int) > 7; simp only [consts] at h; omega
      · right; right; right; show (B : Int) > (m.maxOff : Int); omega
    obtain ⟨a1, a2, b1, b2⟩ := sk_seg0_bad fuel (skInit m.toC B b) rfl rfl hbadC
    obtain ⟨d1, d2⟩ := sk_seg_done fuel _ b1
    rw [d1, d2, if_pos hbad]
    exact ⟨a1, a2, b2, fun h => Bool.noConfusion h⟩
  · have hb7 : b ≤ 7 := by
      have : ¬ (b > BITNUM - 1) := fun h => hbad (Or.inl h)
      simp only [consts] at this; omega
    have hBm : B ≤ m.maxOff := by
      have : ¬ (B > m.maxOff) := fun h => hbad (Or.inr h)
      omega
    have hgoodC : ¬ ((skInit m.toC B b).byte_offset < 0 ∨ (skInit m.toC B b).bit_offset < 0 ∨ (skInit m.toC B b).bit_offset > 7 ∨
        (skInit m.toC B b).byte_offset > (skInit m.toC B b).rec_max_offset) := by
      show ¬ ((B : Int) < 0 ∨ (b : Int) < 0 ∨ (b : Int) > 7 ∨ (B : Int) > (m.maxOff : Int))
      omega
    rw [if_neg hbad]
    have hS0 := sk_seg0_eq fuel (skInit m.toC B b) rfl rfl hgoodC
    have hnbI : (if (skInit m.toC B b).byte_offset < (skInit m.toC B b).rec_block_offset ∨
        (skInit m.toC B b).byte_offset ≥ (skInit m.toC B b).rec_block_offset + 4096 then (1 : Int) else 0) =
        (if (B < m.blockOff ∨ B ≥ m.blockOff + BITBUF_SIZE) then 1 else 0) := by
      show (if (B : Int) < (m.blockOff : Int) ∨ (B : Int) ≥ (m.blockOff : Int) + 4096 then (1 : Int) else 0) = _
      simp only [consts]
      split <;> split <;> omega
    rw [hnbI] at hS0
    rw [hS0]
    by_cases hnbP : B < m.blockOff ∨ B ≥ m.blockOff + BITBUF_SIZE
    · have hk := sk_rest m hrep hwi B b hb7 hBm true ⟨fun _ => by simpa [consts] using hnbP, fun _ => rfl⟩
        (fun _ => by have := hfit hnbP; simpa [seekPre, hnbP] using this) fuel
      simp only [hnbP, if_true, decide_true] at hk ⊢
      exact hk
    · have hk := sk_rest m hrep hwi B b hb7 hBm false ⟨fun h => Bool.noConfusion h, fun h => absurd (by simpa [consts] using h) hnbP⟩
        (fun h => Bool.noConfusion h) fuel
      simp only [hnbP, if_false, decide_false, Bool.false_eq_true] at hk ⊢
      exact hk

def w2rRec (s : HIwrite2read.St) : CRec :=
  { access := s.rec_access, mode := s.rec_mode, count := s.rec_count, bits := s.rec_bits, bufRead := s.rec_buf_read,
    byteOff := s.rec_byte_offset, maxOff := s.rec_max_offset, blockOff := s.rec_block_offset, bytep := s.rec_bytep,
    bytez := s.rec_bytez, bytea := s.rec_bytea, elt := s.io_elt, epos := s.io_epos, enew := s.io_enew }

/-- segment 1 of `HIwrite2read`: `HIbitflush(rec, -1, TRUE)` (the translated function) on the same record -/
theorem w2r_seg1 (fuel : Nat) (s : HIwrite2read.St) (hid : s.rec_bit_id = bitId) :
    let o := cBitflush fuel (w2rRec s) (-1) 1
    let s' := HIwrite2read.seg1 fuel s
    s'.ub = (s.ub || o.ub) ∧ s'.oof = (s.oof || o.oof) ∧ s'.prev_count = s.prev_count ∧ s'.prev_offset = s.prev_offset ∧
      s'.rec_bit_id = s.rec_bit_id ∧ (o.ret ≠ -1 → s'.done = s.done ∧ s'.ret = s.ret) ∧
      w2rRec s' = { o.crec with access := s.rec_access } := by
  intro o
  by_cases hr : o.ret = -1 <;> simp only [o, cBitflush, w2rRec] at hr <;>
    c2l_simp [HIwrite2read.St.join, hid, HIwrite2read.seg1, w2rRec, hr, o, cBitflush]

/-- segment 3 of `HIwrite2read`: `Hbitseek(bit_id, prev_offset, BITNUM - prev_count)` (the translated function) on the same record -/
theorem w2r_seg3 (fuel : Nat) (s : HIwrite2read.St) (hdone : s.done = false) (hid : s.rec_bit_id = bitId) :
    let o := cBitseek fuel (w2rRec s) s.prev_offset (8 - s.prev_count)
    let s' := HIwrite2read.seg3 fuel s
    s'.ub = (s.ub || o.ub) ∧ s'.oof = (s.oof || o.oof) ∧ (o.ret ≠ -1 → s'.done = false ∧ s'.ret = s.ret) ∧
      (o.ret = -1 → s'.done = true ∧ s'.ret = -1) ∧ w2rRec s' = { o.crec with mode := s.rec_mode } := by
  intro o
  by_cases hr : o.ret = -1 <;> simp only [o, cBitseek, w2rRec] at hr <;>
    c2l_simp [HIwrite2read.St.join, hid, hdone, HIwrite2read.seg3, bitnum_int, w2rRec, hr, o, cBitseek]

def w2rInit (r : CRec) : HIwrite2read.St :=
  { rec_access := r.access, rec_mode := r.mode, rec_block_offset := r.blockOff, rec_bytea := r.bytea, rec_bytep := r.bytep,
    rec_count := r.count, rec_bit_id := bitId, rec_max_offset := r.maxOff, rec_byte_offset := r.byteOff, rec_bits := r.bits,
    rec_bytez := r.bytez, rec_buf_read := r.bufRead, io_elt := r.elt, io_epos := r.epos, io_enew := r.enew }

theorem cWrite2read_eq (fuel : Nat) (r : CRec) :
    cWrite2read fuel r =
      (let s := HIwrite2read.seg4 fuel (HIwrite2read.seg3 fuel (HIwrite2read.seg2 fuel (HIwrite2read.seg1 fuel
        (HIwrite2read.seg0 fuel (w2rInit r)))))
       { crec := w2rRec s, ret := s.ret, ub := s.ub, oof := s.oof }) := rfl

theorem w2r_seg2_eq (fuel : Nat) (s : HIwrite2read.St) (hdone : s.done = false) :
    HIwrite2read.seg2 fuel s = { s with rec_block_offset := 0, rec_mode := 114 } := by
  simp only [HIwrite2read.seg2, hdone, Bool.false_eq_true, if_false, longmin_int, HIwrite2read.St.set_rec_block_offset,
    HIwrite2read.St.set_rec_mode]
  rfl

theorem w2r_seg4_eq (fuel : Nat) (s : HIwrite2read.St) :
    (s.done = true → HIwrite2read.seg4 fuel s = s) ∧ (s.done = false → HIwrite2read.seg4 fuel s = { s with ret := 0, done := true }) := by
  refine ⟨fun h => ?_, fun h => ?_⟩
  · simp only [HIwrite2read.seg4, h, ↓reduceIte]
  · simp only [HIwrite2read.seg4, h, Bool.false_eq_true, if_false, HIwrite2read.St.set_done]

theorem HIwrite2read_main (m : St) (hinv : Inv m) (hw : m.wMode = true)
    (hfit : SeekFits (w2rMid m) m.byteOff)
    (fuel : Nat) (hf : 3 ≤ fuel) :
    let o := cWrite2read fuel m.toC
    let r := bitseek (w2rMid m) m.byteOff (BITNUM - m.count)
    o.ub = false ∧ o.oof = false ∧ o.ret = (if r.2 then 0 else -1) ∧
    (r.2 = true → o.crec = (write2read m).toC ∧ Rep (write2read m) ∧ (write2read m).wMode = false ∧
      (write2read m).wAccess = m.wAccess ∧ (write2read m).bytep ≤ 4096) := by
  rw [cWrite2read_eq, write2read_eq]
  have hS0 : HIwrite2read.seg0 fuel (w2rInit m.toC) = { w2rInit m.toC with prev_count := m.count, prev_offset := m.byteOff } := rfl
  rw [hS0]
  obtain ⟨f1, f2, f3, f4, f5, f6, f7⟩ := HIbitflush_w m hinv hw none true fuel hf
  have h1 := w2r_seg1 fuel { w2rInit m.toC with prev_count := m.count, prev_offset := m.byteOff } rfl
  simp only at h1
  rw [show cBitflush fuel (w2rRec { w2rInit m.toC with prev_count := m.count, prev_offset := m.byteOff }) (-1) 1 =
    cBitflush fuel m.toC (flushArg none) (if true then 1 else 0) from rfl] at h1
  obtain ⟨a1, a2, a3, a4, a5, a6, a7⟩ := h1
  rw [f1] at a1
  rw [f2] at a2
  obtain ⟨a6a, a6b⟩ := a6 (by rw [f3]; decide)
  rw [f4] at a7
  generalize HIwrite2read.seg1 fuel { w2rInit m.toC with prev_count := m.count, prev_offset := m.byteOff } = S1 at a1 a2 a3 a4 a5 a6a a6b a7 ⊢
  rw [w2r_seg2_eq fuel S1 a6a]
  have hmid : w2rRec { S1 with rec_block_offset := 0, rec_mode := 114 } = (w2rMid m).toC := by
    have e1 : w2rRec { S1 with rec_block_offset := 0, rec_mode := 114 } = { w2rRec S1 with blockOff := 0, mode := 114 } := rfl
    rw [e1, a7]
    simp only [w2rMid, St.toC, St.buf]
    rw [f7]
    rfl
  have hrepMid : Rep (w2rMid m) := f5.blockMode _ _
  have hmc8 := hinv.cnt
  have hmc1 := hinv.wcnt hw
  have hsk := Hbitseek_main (w2rMid m) hrepMid (fun h => Bool.noConfusion h) m.byteOff (BITNUM - m.count)
    (by intro h; simpa [seekPre, w2rMid] using hfit h) fuel
  simp only at hsk
  obtain ⟨k1, k2, k3, k4⟩ := hsk
  have h3 := w2r_seg3 fuel { S1 with rec_block_offset := 0, rec_mode := 114 } a6a a5
  simp only at h3
  have hcall : cBitseek fuel (w2rRec { S1 with rec_block_offset := 0, rec_mode := 114 })
      ({ S1 with rec_block_offset := 0, rec_mode := 114 } : HIwrite2read.St).prev_offset
      (8 - ({ S1 with rec_block_offset := 0, rec_mode := 114 } : HIwrite2read.St).prev_count) =
      cBitseek fuel (w2rMid m).toC (m.byteOff : Int) ((BITNUM - m.count : Nat) : Int) := by
    rw [hmid]
    show cBitseek fuel _ S1.prev_offset (8 - S1.prev_count) = _
    rw [a4, a3]
    show cBitseek fuel _ (m.byteOff : Int) (8 - (m.count : Int)) = _
    rw [show (8 : Int) - (m.count : Int) = ((BITNUM - m.count : Nat) : Int) by simp only [consts]; omega]
  rw [hcall] at h3
  obtain ⟨c1, c2, c3, c4, c5⟩ := h3
  rw [k1] at c1
  rw [k2] at c2
  generalize HIwrite2read.seg3 fuel { S1 with rec_block_offset := 0, rec_mode := 114 } = S3 at c1 c2 c3 c4 c5 ⊢
  cases hok : (bitseek (w2rMid m) m.byteOff (BITNUM - m.count)).2 with
  | false =>
    rw [hok] at k3
    simp only [Bool.false_eq_true, if_false] at k3
    obtain ⟨d1, d2⟩ := c4 k3
    rw [(w2r_seg4_eq fuel S3).1 d1]
    simp only [hok, Bool.false_eq_true, if_false]
    exact ⟨c1.trans (by rw [a1]; rfl), c2.trans (by rw [a2]; rfl), d2, fun h => h.elim⟩
  | true =>
    rw [hok] at k3
    simp only [if_true] at k3
    obtain ⟨d1, d2⟩ := c3 (by rw [k3]; decide)
    obtain ⟨e1, e⟩ := k4 hok
    rw [(w2r_seg4_eq fuel S3).2 d1]
    simp only [hok, if_true]
    refine ⟨c1.trans (by rw [a1]; rfl), c2.trans (by rw [a2]; rfl), trivial, fun _ => ⟨?_, e.rep, e.mode, e.acc.trans f7, e.ple⟩⟩
    show w2rRec S3 = _
    rw [c5, e1]
    simp only [St.toC, e.mode]
    rfl

/-- segment 1 of `Hbitread` in write mode: `HIwrite2read(rec)` (the translated function) on the same record -/
theorem rd_seg1_w (fuel : Nat) (s : Hbitread.St) (hdone : s.done = false) (hm : s.rec_mode = 119) (hid : s.rec_bit_id = bitId) :
    let o := cWrite2read fuel (rdRec s)
    let s' := Hbitread.seg1 fuel s
    (o.ret = -1 → s'.done = true ∧ s'.ret = -1 ∧ s'.ub = (s.ub || o.ub) ∧ s'.oof = (s.oof || o.oof) ∧ s'.data = s.data) ∧
    (o.ret ≠ -1 → s' = { s with rec_count := o.crec.count, rec_byte_offset := o.crec.byteOff, rec_max_offset := o.crec.maxOff,
                                rec_mode := o.crec.mode, rec_block_offset := o.crec.blockOff, rec_bytea := o.crec.bytea,
                                rec_bytep := o.crec.bytep, rec_bytez := o.crec.bytez, rec_buf_read := o.crec.bufRead,
                                rec_bits := o.crec.bits, io_elt := o.crec.elt, io_epos := o.crec.epos, io_enew := o.crec.enew,
                                ub := s.ub || o.ub, oof := s.oof || o.oof }) := by
  cases s
  simp only at hdone hm hid
  subst hdone hm hid
  intro o
  by_cases hr : o.ret = -1 <;> simp only [o, cWrite2read, rdRec] at hr <;>
    c2l_simp [Hbitread.St.join, Hbitread.seg1, rdRec, hr, o, cWrite2read]

theorem cBitread_switch (m : St) (hinv : Inv m) (hw : m.wMode = true)
    (hfit : SeekFits (w2rMid m) m.byteOff)
    (hok : (bitseek (w2rMid m) m.byteOff (BITNUM - m.count)).2 = true)
    (count d0 : Int) (hc : 0 < count) (fuel : Nat) (hf : 3 ≤ fuel) :
    cBitread fuel m.toC count d0 = cBitread fuel (write2read m).toC count d0 := by
  obtain ⟨k1, k2, k3, k4⟩ := HIwrite2read_main m hinv hw hfit fuel hf
  rw [hok] at k3
  simp only [if_true] at k3
  obtain ⟨e1, e2, e3, e4, e5⟩ := k4 hok
  rw [cBitread_eq, cBitread_eq]
  rw [rd_seg0_eq fuel (rdInit m.toC count d0) rfl rfl hc, rd_seg0_eq fuel (rdInit (write2read m).toC count d0) rfl rfl hc]
  have hmodeR : ({ rdInit (write2read m).toC count d0 with b := 0 } : Hbitread.St).rec_mode = 114 := by
    show modeChar (write2read m).wMode = 114; rw [e3]; rfl
  rw [rd_seg1_r fuel _ hmodeR]
  have hmodeW : ({ rdInit m.toC count d0 with b := 0 } : Hbitread.St).rec_mode = 119 := by
    show modeChar m.wMode = 119; rw [hw]; rfl
  have h1 := (rd_seg1_w fuel { rdInit m.toC count d0 with b := 0 } rfl hmodeW rfl).2
  rw [show cWrite2read fuel (rdRec { rdInit m.toC count d0 with b := 0 }) = cWrite2read fuel m.toC from rfl] at h1
  have h1' := h1 (by rw [k3]; decide)
  rw [h1', k1, k2, e1]
  have hacc : m.toC.access = (write2read m).toC.access := by
    show modeChar m.wAccess = modeChar (write2read m).wAccess; rw [e4]
  simp only [rdInit, hacc, Bool.or_false]

/-- the record inside the state of the translated `HIread2write` (which never looks at `access`: taken from outside) -/
def r2wRec (s : HIread2write.St) (acc : Int) : CRec :=
  { access := acc, mode := s.rec_mode, count := s.rec_count, bits := s.rec_bits, bufRead := s.rec_buf_read,
    byteOff := s.rec_byte_offset, maxOff := s.rec_max_offset, blockOff := s.rec_block_offset, bytep := s.rec_bytep,
    bytez := s.rec_bytez, bytea := s.rec_bytea, elt := s.io_elt, epos := s.io_epos, enew := s.io_enew }

/-- segment 0 of `HIread2write`: the byte that takes the next bit written, and the number of its bits already read -/
theorem r2w_seg0_eq (fuel : Nat) (s : HIread2write.St) :
    HIread2write.seg0 fuel s =
      { s with pos := if s.rec_count > 0 then s.rec_block_offset + s.rec_bytep - 1 else s.rec_block_offset + s.rec_bytep,
               bit := if s.rec_count > 0 then 8 - s.rec_count else 0 } := by
  by_cases h : s.rec_count > 0 <;>
    c2l_simp [HIread2write.seg0, bitnum_int, h]

/-- segment 1 of `HIread2write`: `Hbitseek(bit_id, pos, bit)` (the translated function) on the same record -/
theorem r2w_seg1 (fuel : Nat) (s : HIread2write.St) (hid : s.rec_bit_id = bitId) (acc : Int) :
    let o := cBitseek fuel (r2wRec s acc) s.pos s.bit
    let s' := HIread2write.seg1 fuel s
    s'.ub = (s.ub || o.ub) ∧ s'.oof = (s.oof || o.oof) ∧ s'.bit = s.bit ∧ (o.ret ≠ -1 → s'.done = s.done ∧ s'.ret = s.ret) ∧
      (o.ret = -1 → s'.done = true ∧ s'.ret = -1) ∧ r2wRec s' acc = { o.crec with mode := s.rec_mode } := by
  intro o
  by_cases hr : o.ret = -1 <;> simp only [o, cBitseek, r2wRec] at hr <;>
    c2l_simp [HIread2write.St.join, hid, HIread2write.seg1, r2wRec, hr, o, cBitseek]

/-- `(uint8)(maskc[bit] << count)` as the translator writes it -/
def r2wMaskC (bit count : Int) : Int := (Int.ofNat ((H4.Gen.Hbitio.maskc).getD (Int.toNat bit) 0) * 2 ^ Int.toNat count) % 256
theorem r2wMaskC_fold (bit count : Int) :
    (Int.ofNat ((H4.Gen.Hbitio.maskc).getD (Int.toNat bit) 0) * 2 ^ Int.toNat count) % 256 = r2wMaskC bit count := rfl

/-- the end of `HIread2write`: the read position becomes a write position -/
def fR2W (r : CRec) (bit : Int) : CRec :=
  let r1 : CRec := if bit > 0 then
      { r with bytep := r.bytep - 1, bits := Int.ofNat (Int.toNat r.bits &&& Int.toNat (r2wMaskC bit r.count)) % 256 }
    else { r with count := 8, bits := 0 }
  { r1 with bytez := 4096, mode := 119, epos := r1.blockOff }

theorem r2w_seg2 (fuel : Nat) (s : HIread2write.St) (acc : Int) (hub : s.ub = false) (hdone : s.done = false)
    (hbit : 0 ≤ s.bit ∧ s.bit ≤ 7) (hc : 0 ≤ s.rec_count ∧ s.rec_count ≤ 8) (hbits : 0 ≤ s.rec_bits) (hb : 0 ≤ s.rec_block_offset) :
    let s' := HIread2write.seg2 fuel s
    s'.ub = false ∧ s'.oof = s.oof ∧ s'.ret = 0 ∧ r2wRec s' acc = fR2W (r2wRec s acc) s.bit := by
  obtain ⟨hb1, hb2⟩ := hbit
  obtain ⟨hc1, hc2⟩ := hc
  have h119 : ((119 : Int) % 256) = 119 := by decide
  by_cases hbp : s.bit > 0
  · have hmk : (0 ≤ r2wMaskC s.bit s.rec_count) = True := by unfold r2wMaskC; exact mod256_nonneg _
    c2l_simp [HIread2write.chk, hub, hdone, HIread2write.seg2, r2wMaskC_fold, fR2W, r2wRec, hbp, hb, h119]
    c2l_ub [hmk]
  · c2l_simp [hub, hdone, HIread2write.seg2, bitnum_int, fR2W, r2wRec, hbp, hb, h119, Int.zero_emod]

theorem r2w_bits (bits bit count : Nat) (hb : bits < 256) :
    Int.ofNat (Int.toNat (bits : Int) &&& Int.toNat (r2wMaskC (bit : Int) (count : Int))) % 256 =
      ((bits &&& ((maskC bit <<< count) % 256) : Nat) : Int) := by
  have : bits &&& (maskC bit <<< count) % 256 < 256 := and_le_255 _ _ hb
  unfold r2wMaskC maskC at *
  simp only [Int.toNat_natCast, Int.ofNat_eq_natCast, shl_cast, mod256_cast]
  omega

theorem mR2W_toC {q : St} (h : Rep q) (bit : Nat) (hacc : q.wAccess = true) (hp : bit > 0 → 1 ≤ q.bytep)
    (hlt : q.bytep - (if bit > 0 then 1 else 0) < 4096) (hcnt : bit > 0 → 1 ≤ q.count) :
    (mR2W q bit).toC = fR2W q.toC bit ∧ Inv (mR2W q bit) ∧ (mR2W q bit).wMode = true := by
  obtain ⟨h1, h2, h3, h4, h5, h7, h9⟩ := h
  obtain ⟨elem, posn, isNew, wAccess, wMode, blockOff, maxOff, byteOff, count, bufRead, bits, pre, post, bytep, bytez, oob, err⟩ := q
  simp only at h1 h2 h3 h4 h5 h7 h9 hacc hp hlt hcnt
  subst h1 h2 h3 hacc
  have hbuf : (pre.reverse ++ post).length = 4096 := by simp; omega
  by_cases hbp : bit > 0
  · have hbp' : (bit : Int) > 0 := by omega
    have hp1 := hp hbp
    have hc1 := hcnt hbp
    simp only [hbp, if_true] at hlt
    have htl : (List.take (pre.length - 1) (pre.reverse ++ post)).length = pre.length - 1 := by rw [List.length_take]; omega
    simp only [mR2W, hbp, if_true, St.setPtr, St.buf, hSeek, St.toC, fR2W, hbp', List.reverse_reverse, List.take_append_drop,
      r2w_bits _ _ _ h9, consts]
    refine ⟨?_, ⟨rfl, rfl, by simp only [List.length_reverse, htl], by simp only [List.length_reverse, htl, List.length_drop, hbuf]; omega,
      by simp, by simp only; omega, h7, fun _ => by simp only; omega, and_le_255 _ _ h9, fun _ => hc1, fun _ => rfl, fun _ => rfl⟩, trivial⟩
    congr 1
    omega
  · have hb0 : bit = 0 := by omega
    subst hb0
    have hbp' : ¬ ((0 : Int) > 0) := by omega
    simp only [Nat.lt_irrefl, if_false, Nat.sub_zero] at hlt
    simp only [mR2W, Nat.lt_irrefl, if_false, hSeek, St.toC, fR2W, Int.natCast_zero, hbp', consts, St.buf]
    exact ⟨rfl, ⟨rfl, rfl, rfl, h4, by simp, by simp only; omega, by simp, fun _ => by simp only; omega, by simp, fun _ => by simp,
      fun _ => rfl, fun _ => rfl⟩, trivial⟩

def r2wInit (r : CRec) : HIread2write.St :=
  { rec_mode := r.mode, rec_block_offset := r.blockOff, rec_bytea := r.bytea, rec_bytep := r.bytep, rec_count := r.count,
    rec_bit_id := bitId, rec_max_offset := r.maxOff, rec_byte_offset := r.byteOff, rec_bits := r.bits, rec_bytez := r.bytez,
    rec_buf_read := r.bufRead, io_elt := r.elt, io_epos := r.epos, io_enew := r.enew }

theorem cRead2write_eq (fuel : Nat) (r : CRec) :
    cRead2write fuel r =
      (let s := HIread2write.seg2 fuel (HIread2write.seg1 fuel (HIread2write.seg0 fuel (r2wInit r)))
       { crec := r2wRec s r.access, ret := s.ret, ub := s.ub, oof := s.oof }) := rfl

theorem r2w_seg2_done (fuel : Nat) (s : HIread2write.St) (h : s.done = true) : HIread2write.seg2 fuel s = s := by
  simp only [HIread2write.seg2, h, ↓reduceIte]

theorem HIread2write_main (m : St) (hrep : Rep m) (hr : m.wMode = false) (hacc : m.wAccess = true)
    (hpos : m.count > 0 → 1 ≤ m.blockOff + m.bytep)
    (hfit : SeekFits m (r2wPos m).1)
    (fuel : Nat) :
    let o := cRead2write fuel m.toC
    let r := read2write m
    o.ub = false ∧ o.oof = false ∧ o.ret = (if r.2 then 0 else -1) ∧
    (r.2 = true → o.crec = r.1.toC ∧ Inv r.1 ∧ r.1.wMode = true ∧ r.1.wAccess = true) := by
  rw [cRead2write_eq, read2write_eq, r2w_seg0_eq]
  have hc8 := hrep.cnt
  have hpb : ({ r2wInit m.toC with
      pos := if (r2wInit m.toC).rec_count > 0 then (r2wInit m.toC).rec_block_offset + (r2wInit m.toC).rec_bytep - 1
             else (r2wInit m.toC).rec_block_offset + (r2wInit m.toC).rec_bytep,
      bit := if (r2wInit m.toC).rec_count > 0 then 8 - (r2wInit m.toC).rec_count else 0 } : HIread2write.St) =
      { r2wInit m.toC with pos := ((r2wPos m).1 : Int), bit := ((r2wPos m).2 : Int) } := by
    have e1 : (if (r2wInit m.toC).rec_count > 0 then (r2wInit m.toC).rec_block_offset + (r2wInit m.toC).rec_bytep - 1
        else (r2wInit m.toC).rec_block_offset + (r2wInit m.toC).rec_bytep) = ((r2wPos m).1 : Int) := by
      show (if (m.count : Int) > 0 then (m.blockOff : Int) + (m.bytep : Int) - 1 else (m.blockOff : Int) + (m.bytep : Int)) = _
      unfold r2wPos
      by_cases h : m.count > 0
      · have h' : (m.count : Int) > 0 := by omega
        have := hpos h
        simp only [h, h', if_true]; omega
      · have h' : ¬ ((m.count : Int) > 0) := by omega
        simp only [h, h', if_false]; omega
    have e2 : (if (r2wInit m.toC).rec_count > 0 then 8 - (r2wInit m.toC).rec_count else 0) = ((r2wPos m).2 : Int) := by
      show (if (m.count : Int) > 0 then 8 - (m.count : Int) else 0) = _
      unfold r2wPos
      by_cases h : m.count > 0
      · have h' : (m.count : Int) > 0 := by omega
        simp only [h, h', if_true, consts]; omega
      · have h' : ¬ ((m.count : Int) > 0) := by omega
        simp only [h, h', if_false]; rfl
    rw [e1, e2]
  rw [hpb]
  have hb7 : (r2wPos m).2 ≤ 7 := by
    unfold r2wPos; split <;> simp only [consts] <;> omega
  have hsk := Hbitseek_main m hrep (fun h => by rw [hr] at h; cases h) (r2wPos m).1 (r2wPos m).2
    (by intro h; have := hfit h; simpa [seekPre, hr] using this) fuel
  simp only at hsk
  obtain ⟨k1, k2, k3, k4⟩ := hsk
  have h1 := r2w_seg1 fuel { r2wInit m.toC with pos := ((r2wPos m).1 : Int), bit := ((r2wPos m).2 : Int) } rfl m.toC.access
  simp only at h1
  rw [show cBitseek fuel (r2wRec { r2wInit m.toC with pos := ((r2wPos m).1 : Int), bit := ((r2wPos m).2 : Int) } m.toC.access)
      ({ r2wInit m.toC with pos := ((r2wPos m).1 : Int), bit := ((r2wPos m).2 : Int) } : HIread2write.St).pos
      ({ r2wInit m.toC with pos := ((r2wPos m).1 : Int), bit := ((r2wPos m).2 : Int) } : HIread2write.St).bit =
      cBitseek fuel m.toC ((r2wPos m).1 : Int) ((r2wPos m).2 : Int) from rfl] at h1
  obtain ⟨a1, a2, a3, a4, a5, a6⟩ := h1
  rw [k1] at a1
  rw [k2] at a2
  generalize HIread2write.seg1 fuel { r2wInit m.toC with pos := ((r2wPos m).1 : Int), bit := ((r2wPos m).2 : Int) } = S1 at a1 a2 a3 a4 a5 a6 ⊢
  cases hok : (bitseek m (r2wPos m).1 (r2wPos m).2).2 with
  | false =>
    rw [hok] at k3
    simp only [Bool.false_eq_true, if_false] at k3
    obtain ⟨d1, d2⟩ := a5 k3
    rw [r2w_seg2_done fuel S1 d1]
    simp only [Bool.not_false, if_true]
    exact ⟨a1, a2, d2, fun h => Bool.noConfusion h⟩
  | true =>
    rw [hok] at k3
    simp only [if_true] at k3
    obtain ⟨d1, d2⟩ := a4 (by rw [k3]; decide)
    obtain ⟨e1, e⟩ := k4 hok
    simp only [Bool.not_true, Bool.false_eq_true, if_false, if_true]
    have hrecS1 : r2wRec S1 m.toC.access = (bitseek m (r2wPos m).1 (r2wPos m).2).1.toC := by
      rw [a6, e1]
      simp only [St.toC, e.mode]
      rfl
    generalize (bitseek m (r2wPos m).1 (r2wPos m).2).1 = q at e1 e hrecS1 ⊢
    have hcq : S1.rec_count = (q.count : Int) := congrArg CRec.count hrecS1
    have hbq : S1.rec_bits = (q.bits : Int) := congrArg CRec.bits hrecS1
    have hkq : S1.rec_block_offset = (q.blockOff : Int) := congrArg CRec.blockOff hrecS1
    have h2 := r2w_seg2 fuel S1 m.toC.access a1 d1 (by rw [a3]; show (0 : Int) ≤ ((r2wPos m).2 : Int) ∧ ((r2wPos m).2 : Int) ≤ 7; omega)
      (by rw [hcq]; have := e.rep.cnt; omega) (by rw [hbq]; omega) (by rw [hkq]; omega)
    simp only at h2
    obtain ⟨c1, c2, c3, c4⟩ := h2
    obtain ⟨t1, t2, t3⟩ := mR2W_toC e.rep (r2wPos m).2 (e.acc.trans hacc)
      (fun hb => e.pge ⟨hb, hr⟩)
      (by
        by_cases hb : (r2wPos m).2 > 0
        · have := e.plt; simp only [hb, hr, and_self, if_true] at this ⊢; exact this
        · have := e.plt; simp only [hb, false_and, if_false, Nat.sub_zero] at this ⊢; exact this)
      (fun hb => by rw [e.cnt hb]; omega)
    refine ⟨c1, c2.trans a2, c3, fun _ => ⟨?_, t2, t3, (t2.wacc t3)⟩⟩
    show r2wRec (HIread2write.seg2 fuel S1) m.toC.access = _
    rw [c4, hrecS1, a3, t1]

/-- segment 1 of `Hbitwrite` in read mode: `HIread2write(rec)` (the translated function) on the same record -/
theorem wr_seg1_r (fuel : Nat) (s : Hbitwrite.St) (hdone : s.done = false) (hm : s.rec_mode = 114) (hid : s.rec_bit_id = bitId) :
    let o := cRead2write fuel (wrRec s)
    let s' := Hbitwrite.seg1 fuel s
    (o.ret = -1 → s'.done = true ∧ s'.ret = -1 ∧ s'.ub = (s.ub || o.ub) ∧ s'.oof = (s.oof || o.oof)) ∧
    (o.ret ≠ -1 → s' = { s with rec_block_offset := o.crec.blockOff, rec_bytea := o.crec.bytea, rec_bytep := o.crec.bytep,
                                rec_count := o.crec.count, rec_max_offset := o.crec.maxOff, rec_mode := o.crec.mode,
                                rec_byte_offset := o.crec.byteOff, rec_bits := o.crec.bits, rec_bytez := o.crec.bytez,
                                rec_buf_read := o.crec.bufRead, io_elt := o.crec.elt, io_epos := o.crec.epos, io_enew := o.crec.enew,
                                ub := s.ub || o.ub, oof := s.oof || o.oof }) := by
  cases s
  simp only at hdone hm hid
  subst hdone hm hid
  intro o
  by_cases hr : o.ret = -1 <;> simp only [o, cRead2write, wrRec] at hr <;>
    c2l_simp [Hbitwrite.St.join, Hbitwrite.seg1, wrRec, hr, o, cRead2write]

theorem cBitwrite_switch (m : St) (hrep : Rep m) (hr : m.wMode = false) (hacc : m.wAccess = true)
    (hpos : m.count > 0 → 1 ≤ m.blockOff + m.bytep)
    (hfit : SeekFits m (r2wPos m).1)
    (hok : (read2write m).2 = true) (count data : Int) (hc : 0 < count) (fuel : Nat) :
    cBitwrite fuel m.toC count data = cBitwrite fuel (read2write m).1.toC count data := by
  obtain ⟨k1, k2, k3, k4⟩ := HIread2write_main m hrep hr hacc hpos hfit fuel
  rw [hok] at k3
  simp only [if_true] at k3
  obtain ⟨e1, e2, e3, e4⟩ := k4 hok
  have hacc0 : m.toC.access = 119 := by show modeChar m.wAccess = 119; rw [hacc]; rfl
  have hacc1 : (read2write m).1.toC.access = 119 := by show modeChar (read2write m).1.wAccess = 119; rw [e4]; rfl
  rw [cBitwrite_eq, cBitwrite_eq, wr_seg0_init fuel _ _ _ hc hacc0, wr_seg0_init fuel _ _ _ hc hacc1]
  have hmodeW : (wrS0 (read2write m).1.toC count data).rec_mode = 119 := by
    show modeChar (read2write m).1.wMode = 119; rw [e3]; rfl
  rw [wr_seg1_w fuel _ rfl hmodeW]
  have hmodeR : (wrS0 m.toC count data).rec_mode = 114 := by show modeChar m.wMode = 114; rw [hr]; rfl
  have h1 := (wr_seg1_r fuel (wrS0 m.toC count data) rfl hmodeR rfl).2
  rw [show cRead2write fuel (wrRec (wrS0 m.toC count data)) = cRead2write fuel m.toC from rfl] at h1
  have h1' := h1 (by rw [k3]; decide)
  rw [h1', k1, k2, e1]
  simp only [wrS0, wrInit, hacc0, hacc1, Bool.or_false]
