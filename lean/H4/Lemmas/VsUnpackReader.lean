import H4.Format
import H4.Lemmas.UnpackReaders
/-! The independent reader `H4.Format.vunpackvs` and its primitives inverted by positions in the record (`Accepted`, `vunpackvs_inv`); Format's 16- and 32-bit readers
    are VGroup's (`Format.get16_eq_getU16`, `get32_eq_getU32`, `get16s_eq_getU16s`). -/
namespace H4.Lemmas.C07Fn3
open H4 H4.Gen.Hdf H4.C2L
open H4.Format hiding S32 S16
open H4.Lemmas.C08Fn (bytesI)
open H4.Lemmas.C08Fn3 (be16 be32 S32 be16N be16_eq be16N_lt be32N be32_eq be32N_lt w16 valsN getU16_inv getU32_inv getU16s_inv vals ReadsAt ReadsAt.rep posN posN_add)

theorem toS16_w16 (B : List Int) (p : Nat) : toS16 (be16N B p) = w16 (be16 B p) := by
  have := be16N_lt B p
  rw [be16_eq]; simp only [toS16, w16]; split <;> omega

theorem toS32_S32 (B : List Int) (p : Nat) : toS32 (be32N B p) = S32 (be32 B p) := by
  have := be32N_lt B p
  rw [be32_eq]; simp only [toS32, S32]; split <;> split <;> omega

theorem get16_inv (rec : Bytes) (tail : List Int) : ReadsAt rec get16 (· + 2) (be16N (bytesI rec ++ tail)) :=
  fun p x r hp h => getU16_inv rec tail p x r hp (get16_eq_getU16 _ ▸ h)

theorem getS16_inv (rec : Bytes) (tail : List Int) : ReadsAt rec getS16 (· + 2) (fun p => w16 (be16 (bytesI rec ++ tail) p)) := by
  have := (get16_inv rec tail).map toS16
  simp only [toS16_w16] at this
  exact this

theorem get32_inv (rec : Bytes) (tail : List Int) : ReadsAt rec get32 (· + 4) (be32N (bytesI rec ++ tail)) :=
  fun p x r hp h => getU32_inv rec tail p x r hp (get32_eq_getU32 _ ▸ h)

theorem getS32_inv (rec : Bytes) (tail : List Int) : ReadsAt rec getS32 (· + 4) (fun p => S32 (be32 (bytesI rec ++ tail) p)) := by
  have := (get32_inv rec tail).map toS32
  simp only [toS32_S32] at this
  exact this

theorem get16s_inv (rec : Bytes) (tail : List Int) (n : Nat) :
    ReadsAt rec (get16s n) (· + 2 * n) (fun p => valsN (bytesI rec ++ tail) p 2 n) :=
  fun p x r hp h => getU16s_inv rec tail n p x r hp (get16s_eq_getU16s n _ ▸ h)

theorem getS16s_inv (rec : Bytes) (tail : List Int) (n : Nat) :
    ReadsAt rec (getS16s n) (· + 2 * n) (fun p => (vals (bytesI rec ++ tail) p 2 n).map w16) := by
  have := (getS16_inv rec tail).rep getS16s (fun _ => rfl) (fun _ _ => rfl) n
  simp only [posN_add] at this
  simp only [vals, List.map_map]
  exact this

theorem getStr16_inv (rec : Bytes) (tail : List Int) :
    ReadsAt rec getStr16 (fun p => p + 2 + be16N (bytesI rec ++ tail) p) (fun p => (rec.drop (p + 2)).take (be16N (bytesI rec ++ tail) p)) := by
  intro p nm r hp h
  show p + 2 + be16N _ p ≤ _ ∧ nm = (rec.drop (p + 2)).take _ ∧ r = rec.drop (p + 2 + be16N _ p)
  simp only [getStr16, bind, Option.bind_eq_some_iff] at h
  obtain ⟨⟨x, r1⟩, h1, h2⟩ := h
  obtain ⟨a1, a2, a3⟩ := (get16_inv rec tail).run hp h1
  subst a2 a3
  simp only [getN] at h2
  split at h2
  · rename_i hle
    injection h2 with h2; injection h2 with h3 h4
    simp only [List.length_drop] at hle
    exact ⟨by omega, h3.symm, by rw [← h4, List.drop_drop]⟩
  · exact absurd h2 (by simp)

def namesAt (rec : Bytes) (B : List Int) (p0 n : Nat) : List Bytes :=
  (List.range n).map fun t => (rec.drop (namePos B p0 t + 2)).take (nameLen B p0 t)

theorem namePos_shift (B : List Int) (p0 : Nat) : ∀ t, namePos B (p0 + 2 + be16N B p0) t = namePos B p0 (t + 1) := by
  intro t
  induction t with
  | zero => rfl
  | succ t ih => simp only [namePos, ih]

/-- `namePos` steps at the end, `posN` at the front -/
theorem posN_names (B : List Int) (t : Nat) : posN (fun p => p + 2 + be16N B p) t = fun p0 => namePos B p0 t := by
  induction t with
  | zero => rfl
  | succ t ih => funext p0; rw [← namePos_shift, ← congrFun ih]; rfl

theorem getStrs16_inv (rec : Bytes) (tail : List Int) (n : Nat) :
    ReadsAt rec (getStrs16 n) (fun p => namePos (bytesI rec ++ tail) p n) (fun p => namesAt rec (bytesI rec ++ tail) p n) := by
  have := (getStr16_inv rec tail).rep getStrs16 (fun _ => rfl) (fun _ _ => rfl) n
  simp only [posN_names] at this
  exact this

def attrsAt (B : List Int) (p n : Nat) : List VAttr :=
  (List.range n).map fun t => ⟨S32 (be32 B (p + 8 * t)), be16N B (p + 8 * t + 4), be16N B (p + 8 * t + 6)⟩

theorem decodeVAttrs_inv (rec : Bytes) (tail : List Int) (n : Nat) :
    ReadsAt rec (decodeVAttrs n) (· + 8 * n) (fun p => attrsAt (bytesI rec ++ tail) p n) := by
  have h1 : ReadsAt rec (fun b => (getS32 b).bind fun a => (get16 a.2).bind fun c => (get16 c.2).bind fun d => some (⟨a.1, c.1, d.1⟩, d.2)) (· + 8)
      (fun p => (⟨S32 (be32 (bytesI rec ++ tail) p), be16N (bytesI rec ++ tail) (p + 4), be16N (bytesI rec ++ tail) (p + 6)⟩ : VAttr)) := by
    intro p x r hp e
    rw [Option.bind_eq_some_iff] at e
    obtain ⟨⟨a, r1⟩, e1, e⟩ := e
    rw [Option.bind_eq_some_iff] at e
    obtain ⟨⟨c, r2⟩, e2, e⟩ := e
    rw [Option.bind_eq_some_iff] at e
    obtain ⟨⟨d, r3⟩, e3, e4⟩ := e
    obtain ⟨a1, rfl, rfl⟩ := (getS32_inv rec tail).run hp e1
    obtain ⟨a2, rfl, rfl⟩ := (get16_inv rec tail).run a1 e2
    obtain ⟨a3, rfl, rfl⟩ := (get16_inv rec tail).run a2 e3
    injection e4 with e4; injection e4 with e5 e6
    exact ⟨a3, e5.symm, e6.symm⟩
  have := h1.rep decodeVAttrs (fun _ => rfl) (fun n r => by
    simp only [decodeVAttrs, bind, Option.bind_assoc, Option.bind_some]) n
  simp only [posN_add] at this
  exact this

structure Accepted (rec : Bytes) (B : List Int) (v : VH) : Prop where
  len5 : 5 ≤ rec.length
  version : v.version = w16 (be16 B (rec.length - 5))
  more : v.more = w16 (be16 B (rec.length - 3))
  il : v.interlace = w16 (be16 B 0)
  nv : v.nvert = S32 (be32 B 2)
  ivs : v.ivsize = be16N B 6
  nf : nfN B < 32768
  inside : pEx B + 8 ≤ rec.length
  fields : v.fields = zipFields ((vals B 10 2 (nfN B)).map w16) (valsN B (10 + 2 * nfN B) 2 (nfN B)) (valsN B (10 + 2 * nfN B + 2 * nfN B) 2 (nfN B))
    (valsN B (10 + 2 * nfN B + 2 * nfN B + 2 * nfN B) 2 (nfN B)) (namesAt rec B (pNm B) (nfN B))
  name : v.name = (rec.drop (pVn B + 2)).take (lVn B)
  cls : v.cls = (rec.drop (pVc B + 2)).take (lVc B)
  extag : v.extag = be16N B (pEx B)
  exref : v.exref = be16N B (pEx B + 2)
  midv : w16 (be16 B (pEx B + 4)) = v.version
  midm : w16 (be16 B (pEx B + 6)) = v.more
  v4 : v.version = 4 → pEx B + 12 ≤ rec.length ∧ v.flags = be32N B (pEx B + 8) ∧
    (v.flags % 2 = 1 → pEx B + 16 ≤ rec.length ∧ pEx B + 16 + 8 * be32N B (pEx B + 12) + 5 = rec.length ∧
      v.attrs = attrsAt B (pEx B + 16) (be32N B (pEx B + 12))) ∧
    (¬ v.flags % 2 = 1 → v.attrs = [] ∧ pEx B + 12 + 5 = rec.length)
  v3 : v.version ≠ 4 → v.flags = 0 ∧ v.attrs = [] ∧ pEx B + 8 + 5 = rec.length

theorem consts : (VSET_NEW_VERSION : Nat) = 4 := by decide

theorem vunpackvs_inv (rec : Bytes) (tail : List Int) (v : VH) (h : Format.vunpackvs rec = some v) : Accepted rec (bytesI rec ++ tail) v := by
  generalize hB : bytesI rec ++ tail = B
  unfold Format.vunpackvs at h
  -- an early `none` in a `do` block duplicates the continuation: remove the dead copies before anything looks at the term
  simp only [bind, Option.bind_none] at h
  rw [Option.ite_none_left_eq_some] at h; obtain ⟨hL, h⟩ := h
  rw [Option.bind_eq_some_iff] at h; obtain ⟨⟨vb, r1⟩, h1, h⟩ := h
  rw [Option.bind_eq_some_iff] at h; obtain ⟨⟨mb, r2⟩, h2, h⟩ := h
  rw [Option.bind_eq_some_iff] at h; obtain ⟨⟨il, r3⟩, h3, h⟩ := h
  rw [Option.bind_eq_some_iff] at h; obtain ⟨⟨nv, r4⟩, h4, h⟩ := h
  rw [Option.bind_eq_some_iff] at h; obtain ⟨⟨ivs, r5⟩, h5, h⟩ := h
  rw [Option.bind_eq_some_iff] at h; obtain ⟨⟨nf, r6⟩, h6, h⟩ := h
  rw [Option.ite_none_left_eq_some] at h; obtain ⟨hnf, h⟩ := h
  rw [Option.bind_eq_some_iff] at h; obtain ⟨⟨tys, r7⟩, h7, h⟩ := h
  rw [Option.bind_eq_some_iff] at h; obtain ⟨⟨iss, r8⟩, h8, h⟩ := h
  rw [Option.bind_eq_some_iff] at h; obtain ⟨⟨ofs, r9⟩, h9, h⟩ := h
  rw [Option.bind_eq_some_iff] at h; obtain ⟨⟨ods, r10⟩, h10, h⟩ := h
  rw [Option.bind_eq_some_iff] at h; obtain ⟨⟨nms, r11⟩, h11, h⟩ := h
  rw [Option.bind_eq_some_iff] at h; obtain ⟨⟨nm, r12⟩, h12, h⟩ := h
  rw [Option.bind_eq_some_iff] at h; obtain ⟨⟨cl, r13⟩, h13, h⟩ := h
  rw [Option.bind_eq_some_iff] at h; obtain ⟨⟨et, r14⟩, h14, h⟩ := h
  rw [Option.bind_eq_some_iff] at h; obtain ⟨⟨er, r15⟩, h15, h⟩ := h
  rw [Option.bind_eq_some_iff] at h; obtain ⟨⟨vm, r16⟩, h16, h⟩ := h
  rw [Option.bind_eq_some_iff] at h; obtain ⟨⟨mm, r17⟩, h17, h⟩ := h
  rw [Option.ite_none_left_eq_some] at h; obtain ⟨hmid, h⟩ := h
  simp only at h h2 h4 h5 h6 h7 h8 h9 h10 h11 h12 h13 h14 h15 h16 h17 hnf hmid
  obtain ⟨a1, a2, a3⟩ := (getS16_inv rec tail).run (Nat.sub_le _ _) h1
  subst a3
  obtain ⟨b1, b2, b3⟩ := (getS16_inv rec tail).run a1 h2
  have hd0 : rec = rec.drop 0 := rfl
  rw [hd0] at h3
  obtain ⟨c1, c2, c3⟩ := (getS16_inv rec tail).run (Nat.zero_le _) h3
  subst c3
  obtain ⟨d1, d2, d3⟩ := (getS32_inv rec tail).run c1 h4
  subst d3
  obtain ⟨e1, e2, e3⟩ := (get16_inv rec tail).run d1 h5
  subst e3
  obtain ⟨f1, f2, f3⟩ := (get16_inv rec tail).run e1 h6
  subst f3
  rw [hB] at a2 b2 c2 d2 e2 f2
  have hnfN : nf = nfN B := f2
  obtain ⟨g1, g2, g3⟩ := (getS16s_inv rec tail nf).run f1 h7
  subst g3
  obtain ⟨i1, i2, i3⟩ := (get16s_inv rec tail nf).run g1 h8
  subst i3
  obtain ⟨j1, j2, j3⟩ := (get16s_inv rec tail nf).run i1 h9
  subst j3
  obtain ⟨k1, k2, k3⟩ := (get16s_inv rec tail nf).run j1 h10
  subst k3
  obtain ⟨l1, l2, l3⟩ := (getStrs16_inv rec tail nf).run k1 h11
  subst l3
  obtain ⟨m1, m2, m3⟩ := (getStr16_inv rec tail).run l1 h12
  subst m3
  obtain ⟨n1, n2, n3⟩ := (getStr16_inv rec tail).run m1 h13
  subst n3
  obtain ⟨o1, o2, o3⟩ := (get16_inv rec tail).run n1 h14
  subst o3
  obtain ⟨p1, p2, p3⟩ := (get16_inv rec tail).run o1 h15
  subst p3
  obtain ⟨q1, q2, q3⟩ := (getS16_inv rec tail).run p1 h16
  subst q3
  obtain ⟨s1, s2, s3⟩ := (getS16_inv rec tail).run q1 h17
  subst s3
  rw [hB] at g2 i2 j2 k2 l1 l2 m1 m2 n1 n2 o1 o2 p1 p2 q1 q2 s1 s2 h
  have hp : 0 + 2 + 4 + 2 + 2 + 2 * nf + 2 * nf + 2 * nf + 2 * nf = pNm B := by
    show _ = 10 + 8 * nfN B
    rw [← hnfN]; omega
  have h10' : 0 + 2 + 4 + 2 + 2 = 10 := rfl
  rw [hp] at l1 l2 m1 m2 n1 n2 o1 o2 p1 p2 q1 q2 s1 s2 h
  rw [h10'] at g2 i2 j2 k2
  subst hnfN
  have e4 : pEx B + 2 + 2 = pEx B + 4 := by omega
  have e6 : pEx B + 2 + 2 + 2 = pEx B + 6 := by omega
  have e8 : pEx B + 2 + 2 + 2 + 2 = pEx B + 8 := by omega
  have e3 : rec.length - 5 + 2 = rec.length - 3 := by omega
  rw [e3] at b2
  have q2' : vm = w16 (be16 B (pEx B + 4)) := by rw [← e4]; exact q2
  have s2' : mm = w16 (be16 B (pEx B + 6)) := by rw [← e6]; exact s2
  have s1' : pEx B + 8 ≤ rec.length := by rw [← e8]; exact s1
  have hr17 : List.drop (pEx B + 2 + 2 + 2 + 2) rec = List.drop (pEx B + 8) rec := by rw [e8]
  have hmv : vm = vb ∧ mm = mb :=
    ⟨Decidable.byContradiction fun hc => hmid (Or.inl hc), Decidable.byContradiction fun hc => hmid (Or.inr hc)⟩
  -- the header up to `more` is read; what remains is the version-4 part `fl`, `ats`
  have fin : ∀ (fl : Nat) (ats : List VAttr),
      (vb = 4 → pEx B + 12 ≤ rec.length ∧ fl = be32N B (pEx B + 8) ∧
        (fl % 2 = 1 → pEx B + 16 ≤ rec.length ∧ pEx B + 16 + 8 * be32N B (pEx B + 12) + 5 = rec.length ∧
          ats = attrsAt B (pEx B + 16) (be32N B (pEx B + 12))) ∧
        (¬ fl % 2 = 1 → ats = [] ∧ pEx B + 12 + 5 = rec.length)) →
      (vb ≠ 4 → fl = 0 ∧ ats = [] ∧ pEx B + 8 + 5 = rec.length) →
      Accepted rec B ⟨il, nv, ivs, zipFields tys iss ofs ods nms, nm, cl, et, er, vb, mb, fl, ats⟩ :=
    fun fl ats t4 t3 => ⟨by omega, a2, b2, c2, d2, e2, by omega, s1', by rw [g2, i2, j2, k2, l2], m2, n2, o2, p2,
      by rw [← q2']; exact hmv.1, by rw [← s2']; exact hmv.2, t4, t3⟩
  erw [hr17] at h
  by_cases hv4 : vb = (VSET_NEW_VERSION : Nat)
  · rw [if_pos hv4, Option.bind_eq_some_iff] at h; obtain ⟨⟨fl, r18⟩, h18, h⟩ := h
    obtain ⟨t1, t2, t3⟩ := (get32_inv rec tail).run (by omega) h18
    subst t3
    rw [hB] at t2
    simp only at h
    by_cases hodd : fl % 2 = 1
    · rw [if_pos hodd, Option.bind_eq_some_iff] at h; obtain ⟨⟨na, r19⟩, h19, h⟩ := h
      obtain ⟨u1, u2, u3⟩ := (get32_inv rec tail).run t1 h19
      subst u3
      rw [hB] at u2
      rw [Option.bind_eq_some_iff] at h; obtain ⟨⟨ats, r20⟩, h20, h⟩ := h
      simp only at h h20
      obtain ⟨w1, w3, w2⟩ := (decodeVAttrs_inv rec tail na).run u1 h20
      rw [Option.ite_none_right_eq_some] at h; obtain ⟨hlen, h⟩ := h
      have e12 : pEx B + 8 + 4 = pEx B + 12 := by omega
      have e16 : pEx B + 8 + 4 + 4 = pEx B + 16 := by omega
      rw [hB, e16] at w3
      rw [e12] at u2
      rw [e16] at w1 w2
      rw [w2, List.length_drop] at hlen
      rw [← Option.some.inj h]
      exact fin fl ats (fun _ => ⟨by omega, t2, fun _ => ⟨by omega, by omega, by rw [w3, u2]⟩, fun hno => absurd hodd hno⟩)
        (fun hne => absurd hv4 hne)
    · rw [if_neg hodd] at h
      rw [Option.ite_none_right_eq_some] at h; obtain ⟨hlen, h⟩ := h
      rw [List.length_drop] at hlen
      rw [← Option.some.inj h]
      exact fin fl [] (fun _ => ⟨by omega, t2, fun hy => absurd hy hodd, fun _ => ⟨rfl, by omega⟩⟩) (fun hne => absurd hv4 hne)
  · rw [if_neg hv4] at h
    rw [Option.ite_none_right_eq_some] at h; obtain ⟨hlen, h⟩ := h
    rw [List.length_drop] at hlen
    rw [← Option.some.inj h]
    exact fin 0 [] (fun h4 => absurd h4 hv4) (fun _ => ⟨rfl, rfl, by omega⟩)

end H4.Lemmas.C07Fn3
