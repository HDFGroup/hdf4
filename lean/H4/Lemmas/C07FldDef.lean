import H4.Lemmas.C07Fld
import H4.Lemmas.C2LLoop
/-! `VSfdefine` (vsfld.c) as translated statement by statement (`H4.Gen.Fn.Vsfld.VSfdefine`): the duplicate scan (loop 0) is a case of
    `IsLoop.first_hit` and enters as a rewrite rule (`fd_loop0_eval`); the function is run on its arguments once per way through it
    (redefinition, first symbol, one more symbol; each failing test). -/
namespace H4.Lemmas.C07Fld
open H4.Gen.Fn.Dfconv H4.Gen.Fn.Vsfld H4.VData H4.Gen.Hdf H4.Gen.Vs H4.C2L H4.VsfldEnc

instance : Inhabited SymDef := ⟨⟨"", 0, 0, 0⟩⟩

theorem usym_cols (usym : List SymDef) : (nameRows usym).length = usym.length ∧ (isizeCol usym).length = usym.length ∧
    (typeCol usym).length = usym.length ∧ (orderCol usym).length = usym.length := by
  simp [nameRows, isizeCol, typeCol, orderCol]

theorem usym_row {usym : List SymDef} {j : Nat} (h : j < usym.length) :
    (nameRows usym).getD j [] = chars (usym.getD j default).name ++ [0] ∧ (isizeCol usym).getD j 0 = (usym.getD j default).isize ∧
    (typeCol usym).getD j 0 = (usym.getD j default).type ∧ (orderCol usym).getD j 0 = (usym.getD j default).order := by
  simp [nameRows, isizeCol, typeCol, orderCol, cstr, h]

theorem fd_loop0_eval (usym : List SymDef) (hn : ∀ sd ∈ usym, NameOK sd.name) (tok : String) (htok : NameOK tok) (pad : List Int)
    (rest : List (List Int)) (fuel : Nat) (hf : usym.length ≤ fuel) (s : VSfdefine.St) (hj : s.j = 0) (hav : s.av = (chars tok ++ 0 :: pad) :: rest)
    (hnu : s.vs_nusym = usym.length) (hnm : s.vs_usym_name = nameRows usym)
    (hcl : s.done = false ∧ s.gto = false ∧ s.brk = false ∧ s.cnt = false) :
    VSfdefine.loop0 fuel s =
      match usym.findIdx? (·.name == tok) with
      | some i => { s with replacesym := 1, j := i, brk := true }
      | none => { s with j := usym.length } := by
  obtain ⟨h1, h2, h3, h4⟩ := hcl
  have pass : ∀ (k f : Nat) (h : k < usym.length), VSfdefine.loop0.body f { s with j := k } =
      if usym[k].name = tok then { s with replacesym := 1, j := k, brk := true } else { s with j := (k : Int) + 1 } := by
    intro k f h
    obtain ⟨r, hr, hr0⟩ := strcmp_names tok usym[k].name htok (hn _ (List.getElem_mem h)) pad []
    have hrow : (nameRows usym).getD k [] = chars usym[k].name ++ 0 :: [] := by simpa [h] using (usym_row h).1
    have ln := (usym_cols usym).1
    have a2 : (0 : Int) ≤ k ∧ (k : Int) < usym.length := by omega
    cases s
    simp only at hj hav hnu hnm h1 h2 h3 h4
    subst hj hav hnu hnm h1 h2 h3 h4
    by_cases e : usym[k].name = tok
    · obtain rfl : r = 0 := hr0.mpr e.symm
      rw [if_pos e]
      simp only [VSfdefine.loop0.body, c2l_st, ↓reduceIte, hrow, hr, ln, a2, Int.toNat_zero, List.getD_cons_zero, List.length_cons, Int.reduceAdd,
        Int.reduceMod, Int.reduceSub, Int.toNat_natCast, Nat.zero_lt_succ, le_refl]
    · have hr' : ¬ r = 0 := fun h => e (hr0.mp h).symm
      rw [if_neg e]
      simp only [VSfdefine.loop0.body, c2l_st, ↓reduceIte, hrow, hr, ln, a2, hr', Int.toNat_zero, List.getD_cons_zero, List.length_cons,
        Int.toNat_natCast, Nat.zero_lt_succ, le_refl]
  have := IsLoop.first_hit (L := VSfdefine.loop0) (.of_eqs (fun _ => rfl) (fun _ _ => rfl)) usym (·.name == tok)
    (fun k => { s with j := k }) (fun d r => r = { s with replacesym := 1, j := d, brk := true })
    (fun k hk => ⟨by show (k : Int) < s.vs_nusym; omega, by show ¬ (s.done = true ∨ s.gto = true ∨ s.brk = true); simp [h1, h2, h3]⟩)
    (fun h => by have : (usym.length : Int) < s.vs_nusym := h.1; omega)
    (fun k f h hp => by rw [pass k f h, if_neg (by simpa using hp)]; rfl)
    (fun d f h _ hp => by
      rw [pass d f h, if_pos (by simpa using hp)]
      exact ⟨fun h => h.2 (.inr (.inr rfl)), rfl⟩)
    hf
  have e0 : ({ s with j := ((0 : Nat) : Int) } : VSfdefine.St) = s := by cases s; simp only at hj; subst hj; rfl
  rw [e0] at this
  cases hfi : usym.findIdx? (·.name == tok) <;> (rw [hfi] at this; exact this)

/-- the entry tests of `VSfdefine` (atom group, instance, vdata, `scanattrs` with exactly one token, order and field-size limits) -/
def FdOk (s : VSfdefine.St) : Prop :=
  s.vkey_group = 4 ∧ s.w_null = false ∧ s.vs_null = false ∧ s.scan_ret ≠ -1 ∧ s.ac = 1 ∧ 1 ≤ s.order ∧ s.order ≤ 65535 ∧
    ntsize s.localtype ≠ -1 ∧ ntsize s.localtype * s.order ≤ 65535

instance (s : VSfdefine.St) : Decidable (FdOk s) := by unfold FdOk; infer_instance

theorem VSfdefine_accept (usym : List SymDef) (hn : ∀ sd ∈ usym, NameOK sd.name) (tok : String) (htok : NameOK tok) (pad : List Int)
    (rest : List (List Int)) (t order vkey scan_ret : Int) (h32 : -2147483648 ≤ t ∧ t < 2147483648) (hs : scan_ret ≠ -1)
    (unull : Bool) (hnull : unull = true → usym = []) (hlen : usym.length < 32767) (fuel : Nat) (hf : usym.length ≤ fuel)
    (hl : FdLimits t order) :
    let s := VSfdefine fuel vkey t order 1 ((chars tok ++ 0 :: pad) :: rest) 4 false false scan_ret usym.length (nameRows usym) unull
      (isizeCol usym) (typeCol usym) (orderCol usym)
    let u' := usymPut usym ⟨tok, t.toNat, (ntsize t).toNat, order.toNat⟩
    s.ub = false ∧ s.oof = false ∧ s.ret = 0 ∧ s.vs_nusym = u'.length ∧ s.vs_usym_name = nameRows u' ∧ s.vs_usym_isize = isizeCol u' ∧
      s.vs_usym_type = typeCol u' ∧ s.vs_usym_order = orderCol u' ∧ s.vs_usym_null = false := by
  obtain ⟨ho1, ho2, hnt, hsz⟩ := hl
  have hr := (ntsize_range t).resolve_left hnt
  have hconv : (ntsize t + 32768) % 65536 - 32768 = ntsize t := by omega
  have hD := DFKNTsize_spec fuel t h32.1 h32.2
  have ho : ¬ (order < 1 ∨ 65535 < order) := by omega
  have hl : ¬ (65535 < ntsize t * order) := by omega
  have e1 : ntsize t % 65536 = ((ntsize t).toNat : Int) := by omega
  have e2 : (t + 32768) % 65536 - 32768 = (t.toNat : Int) := by omega
  have e3 : order % 65536 = (order.toNat : Int) := by omega
  obtain ⟨ln, li, lt, lo⟩ := usym_cols usym
  have hstr := take_string (chars tok) pad (chars_ok htok)
  have hz := zero_mem (chars tok) pad
  cases hfi : usym.findIdx? (fun s => s.name == tok) with
  | some j =>
    have hj : j < usym.length := (List.findIdx?_eq_some_iff_getElem.mp hfi).1
    obtain rfl : unull = false := by
      cases unull with
      | false => rfl
      | true => rw [hnull rfl] at hj; simp at hj
    have k0 : (0 : Int) ≤ j := Int.natCast_nonneg j
    simp only [VSfdefine, usymPut, c2l_st, ↓reduceIte, hD, hconv, hnt, ho, hl, hs, Int.reduceNeg, Int.reduceAdd, Int.reduceMod, Int.reduceSub, gt_iff_lt,
      fd_loop0_eval usym hn tok htok pad rest fuel hf, hfi, Int.reduceEq, k0, Int.ofNat_lt, ln, li, lt, lo, hj, Nat.zero_le, Int.toNat_zero,
      List.getD_cons_zero, hstr, hz, List.length_cons, Nat.zero_lt_succ, e1, e2, e3]
    simp [nameRows, isizeCol, typeCol, orderCol, List.map_set, cstr]
  | none =>
    have hc : Int.tdiv ((16 * (((usym.length : Int) + 1) % 18446744073709551616)) % 18446744073709551616) 16 = (usym.length : Int) + 1 :=
      (H4.C2L.malloc_cells 16 _ (by omega) (by omega) (by omega)).1
    have hto : ((usym.length : Int) + 1).toNat = usym.length + 1 := by omega
    have k0 : (0 : Int) ≤ usym.length := Int.natCast_nonneg _
    have k1 : (0 : Int) ≤ (usym.length : Int) + 1 := by omega
    have e5 : ((usym.length : Int) + 1 + 32768) % 65536 - 32768 = (usym.length : Int) + 1 := by omega
    cases unull with
    | true =>
      obtain rfl := hnull rfl
      simp only [VSfdefine, usymPut, c2l_st, ↓reduceIte, hD, hconv, hnt, ho, hl, hs, Int.reduceNeg, Int.reduceAdd, Int.reduceMod, Int.reduceSub, gt_iff_lt,
        fd_loop0_eval [] hn tok htok pad rest fuel hf, hfi, Nat.zero_le, Int.toNat_zero,
        List.getD_cons_zero, hstr, hz, List.length_cons, Nat.zero_lt_succ, e1, e2, e3]
      simp [nameRows, isizeCol, typeCol, orderCol, cstr]
    | false =>
      simp only [VSfdefine, usymPut, c2l_st, ↓reduceIte, hD, hconv, hnt, ho, hl, hs, Int.reduceNeg, Int.reduceAdd, Int.reduceMod, Int.reduceSub, gt_iff_lt,
        fd_loop0_eval usym hn tok htok pad rest fuel hf, hfi, Nat.zero_le, Int.toNat_zero, hc, hto, k0, k1, e5,
        List.getD_cons_zero, hstr, hz, List.length_cons, Nat.zero_lt_succ, e1, e2, e3,
        take_append_replicate _ _ _ ln, take_append_replicate _ _ _ li, take_append_replicate _ _ _ lt, take_append_replicate _ _ _ lo,
        set_snoc _ _ _ _ ln, set_snoc _ _ _ _ li, set_snoc _ _ _ _ lt, set_snoc _ _ _ _ lo]
      simp [nameRows, isizeCol, typeCol, orderCol, cstr]

theorem VSfdefine_refuse (fuel : Nat) (vkey t order ac : Int) (av : List (List Int)) (group : Int) (wnull vsnull : Bool) (scan_ret nusym : Int)
    (names : List (List Int)) (unull : Bool) (isz typ ord : List Int) (h32 : -2147483648 ≤ t ∧ t < 2147483648)
    (hbad : ¬ (group = 4 ∧ wnull = false ∧ vsnull = false ∧ scan_ret ≠ -1 ∧ ac = 1 ∧ FdLimits t order)) :
    let s := VSfdefine fuel vkey t order ac av group wnull vsnull scan_ret nusym names unull isz typ ord
    s.ub = false ∧ s.oof = false ∧ s.ret = -1 ∧ s.vs_nusym = nusym ∧ s.vs_usym_name = names ∧ s.vs_usym_isize = isz ∧
      s.vs_usym_type = typ ∧ s.vs_usym_order = ord ∧ s.vs_usym_null = unull := by
  have hr := ntsize_range t
  have hconv : (ntsize t + 32768) % 65536 - 32768 = ntsize t := by omega
  have hD := DFKNTsize_spec fuel t h32.1 h32.2
  by_cases c1 : group = 4
  · by_cases c2 : wnull = true
    · simp only [VSfdefine, c2l_st, ↓reduceIte, c1, c2, Int.reduceNeg]
    · by_cases c3 : (vsnull = true ∨ scan_ret = -1) ∨ ¬ ac = 1
      · simp only [VSfdefine, c2l_st, ↓reduceIte, c1, c2, c3, Int.reduceNeg]
      · by_cases c4 : order < 1 ∨ 65535 < order
        · simp only [VSfdefine, c2l_st, ↓reduceIte, c1, c2, c3, c4, Int.reduceNeg, gt_iff_lt]
        · have c5 : ntsize t = -1 ∨ 65535 < ntsize t * order := by
            by_contra h
            exact hbad ⟨c1, by simpa using c2, by simpa using fun h => c3 (.inl (.inl h)), fun h => c3 (.inl (.inr h)),
              not_not.mp fun h => c3 (.inr h), by omega, by omega, fun h' => h (.inl h'), by omega⟩
          simp only [VSfdefine, c2l_st, ↓reduceIte, c1, c2, c3, c4, c5, hD, hconv, Int.reduceNeg, gt_iff_lt]
  · simp only [VSfdefine, c2l_st, ↓reduceIte, c1, Int.reduceNeg]

end H4.Lemmas.C07Fld
