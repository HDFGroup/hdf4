import H4.Lemmas.Attr
import H4.AttrSD
import H4.AttrGR
import H4.AttrVS
/-! Facts about the models `H4.AttrSD`, `H4.AttrGR`, `H4.AttrVS` alone, for `H4.Props.C10Files`: `sdiPut` / `sdiPutAll` against `H4.Attr.put`, the predefined string
    attributes (`strGot`, `strPuts_spec`), the views of the GR and Vdata attribute lists, and which SD calls mark the file as written (`SameFlags`, `Marks`). -/
namespace H4.Props.C10
open H4.Attr H4.Gen.Attr

open H4.AttrSD in
theorem sdiPut_eq_put {a : Attr} (l : AList) (hlen : a.name.length ≤ H4_MAX_NC_NAME) (hun : (unmap a.nt).isSome = true) :
    sdiPut l a = put .sd l a := by
  unfold sdiPut
  rw [if_neg (Nat.not_lt.mpr hlen), if_neg (by rw [Option.isNone_iff_eq_none, ← Option.not_isSome_iff_eq_none, hun]; exact fun h => h rfl)]

open H4.AttrSD in
theorem sdiPut_some {l : AList} {a : Attr} (hlen : a.name.length ≤ H4_MAX_NC_NAME) (hun : (unmap a.nt).isSome = true)
    (hroom : l.length < H4_MAX_NC_ATTRS) : ∃ l', sdiPut l a = some l' ∧ put .sd l a = some l' ∧ l'.length ≤ l.length + 1 := by
  obtain ⟨l', hl'⟩ := put_sd_some l a hroom
  exact ⟨l', (sdiPut_eq_put l hlen hun).trans hl', hl', by rw [length_put hl']; split <;> omega⟩

open H4.AttrSD in
theorem sdiPutAll_spec (ps : List Attr) (l : AList)
    (hok : ∀ p ∈ ps, p.name.length ≤ H4_MAX_NC_NAME ∧ (unmap p.nt).isSome = true)
    (hd : (ps.map (·.name)).Nodup) (hroom : l.length + ps.length ≤ H4_MAX_NC_ATTRS) :
    (sdiPutAll l ps).2 = true ∧ (∀ p ∈ ps, getByName (sdiPutAll l ps).1 p.name = some p) ∧
    (∀ n, n ∉ ps.map (·.name) → getByName (sdiPutAll l ps).1 n = getByName l n) := by
  induction ps generalizing l with
  | nil => exact ⟨rfl, fun _ hp => (nomatch hp), fun _ _ => rfl⟩
  | cons a t ih =>
    obtain ⟨hnotin, hdt⟩ := List.nodup_cons.mp hd
    rw [List.length_cons] at hroom
    obtain ⟨l', hs, hl', hlen'⟩ := sdiPut_some (hok a List.mem_cons_self).1 (hok a List.mem_cons_self).2
      (by omega : l.length < H4_MAX_NC_ATTRS)
    obtain ⟨i1, i2, i3⟩ := ih l' (fun p hp => hok p (List.mem_cons_of_mem _ hp)) hdt (by omega)
    rw [sdiPutAll, hs]
    refine ⟨i1, fun p hp => ?_, fun n hn => ?_⟩
    · rcases List.mem_cons.mp hp with rfl | h
      · rw [i3 _ hnotin, getByName_put hl', if_pos rfl]
      · exact i2 p h
    · rw [List.map_cons, List.mem_cons, not_or] at hn
      rw [i3 n hn.2, getByName_put hl', if_neg hn.1]

theorem predef_names_distinct :
    [nLongName, nUnits, nFormat, nCoordSys].Nodup ∧
    [nScaleFactor, nScaleFactorErr, nAddOffset, nAddOffsetErr, nCalibratedNt].Nodup := by decide

/-- what a string argument of `SDsetdatastrs` / `SDsetdimstrs` leaves under its name: a non-empty string is stored
    (DFNT_CHAR, count = strlen), NULL and "" leave what was there -/
def strGot (al : AList) (nm : Bytes) : Option Bytes → Option Attr
  | some (ch :: t) => some ⟨nm, DFNT_CHAR, (ch :: t).length, ch :: t⟩
  | _ => getByName al nm

theorem strGot_congr {al al' : AList} {nm : Bytes} (h : getByName al' nm = getByName al nm) (s : Option Bytes) :
    strGot al' nm s = strGot al nm s :=
  match s with
  | none => h
  | some [] => h
  | some (_ :: _) => rfl

theorem strAttr_cases (al : AList) (nm : Bytes) (s : Option Bytes) :
    (strAttr nm s = [] ∧ strGot al nm s = getByName al nm) ∨
    ∃ q, strAttr nm s = [q] ∧ strGot al nm s = some q ∧ q.name = nm ∧ q.nt = DFNT_CHAR :=
  match s with
  | none => .inl ⟨rfl, rfl⟩
  | some [] => .inl ⟨rfl, rfl⟩
  | some (_ :: _) => .inr ⟨_, rfl, rfl, rfl, rfl⟩

open H4.AttrSD in
theorem strPuts_spec (ps : List (Bytes × Option Bytes)) (al : AList) (hnd : (ps.map (·.1)).Nodup)
    (hlen : ∀ n ∈ ps.map (·.1), n.length ≤ H4_MAX_NC_NAME) (hroom : al.length + ps.length ≤ H4_MAX_NC_ATTRS) :
    (sdiPutAll al (ps.flatMap fun p => strAttr p.1 p.2)).2 = true ∧
    (∀ p ∈ ps, getByName (sdiPutAll al (ps.flatMap fun p => strAttr p.1 p.2)).1 p.1 = strGot al p.1 p.2) ∧
    (∀ n, n ∉ ps.map (·.1) → getByName (sdiPutAll al (ps.flatMap fun p => strAttr p.1 p.2)).1 n = getByName al n) := by
  induction ps generalizing al with
  | nil => exact ⟨rfl, fun _ hp => (nomatch hp), fun _ _ => rfl⟩
  | cons p t ih =>
    obtain ⟨hnotin, hdt⟩ := List.nodup_cons.mp hnd
    rw [List.length_cons] at hroom
    have hlen' := fun n hn => hlen n (List.mem_cons_of_mem _ hn)
    rw [List.flatMap_cons]
    rcases strAttr_cases al p.1 p.2 with ⟨he, hg⟩ | ⟨q, he, hg, hqn, hqt⟩ <;> rw [he]
    · obtain ⟨i1, i2, i3⟩ := ih al hdt hlen' (by omega)
      refine ⟨i1, fun r hr => ?_, fun n hn => i3 n (fun h => hn (List.mem_cons_of_mem _ h))⟩
      rcases List.mem_cons.mp hr with rfl | h
      · rw [hg]; exact i3 _ hnotin
      · exact i2 r h
    · obtain ⟨l', hs, hp, hl⟩ := sdiPut_some (a := q) (by rw [hqn]; exact hlen _ List.mem_cons_self)
        (by rw [hqt]; decide) (by omega : al.length < H4_MAX_NC_ATTRS)
      obtain ⟨i1, i2, i3⟩ := ih l' hdt hlen' (by omega)
      rw [List.singleton_append, sdiPutAll, hs]
      refine ⟨i1, fun r hr => ?_, fun n hn => ?_⟩
      · rcases List.mem_cons.mp hr with rfl | h
        · rw [i3 _ hnotin, getByName_put hp, hg, if_pos hqn.symm]
        · have hne : r.1 ≠ q.name := fun e => hnotin (List.mem_map.mpr ⟨r, h, e.trans hqn⟩)
          exact (i2 r h).trans (strGot_congr (by rw [getByName_put hp, if_neg hne]) _)
      · rw [List.map_cons, List.mem_cons, not_or] at hn
        rw [i3 n hn.2, getByName_put hp, if_neg (hqn ▸ hn.1)]

open H4.AttrGR in
theorem views_set (l : List GAttr) (i : Nat) (g : GAttr) : views (l.set i g) = (views l).set i g.view :=
  List.map_set

open H4.AttrGR in
theorem take_overwrite (new : Bytes) (old : Option Bytes) : (overwrite new old).take new.length = new := by
  cases old
  · exact List.take_length
  · exact List.take_left'  rfl

open H4.AttrVS in
theorem view_append (al : List (Int × Attr)) (fx g : Int) (a : Attr) :
    view (al ++ [(fx, a)]) g = if g = fx then view al g ++ [a] else view al g := by
  simp only [view, List.filter_append, List.map_append]
  by_cases h : g = fx
  · subst h; simp
  · have : ¬ fx = g := fun e => h e.symm
    simp [h, this]

open H4.AttrVS in
theorem view_cons (e : Int × Attr) (t : List (Int × Attr)) (g : Int) :
    view (e :: t) g = if e.1 = g then e.2 :: view t g else view t g := by
  unfold view
  rw [List.filter_cons]
  by_cases h : e.1 = g
  · rw [if_pos h, if_pos (beq_iff_eq.mpr h)]; rfl
  · rw [if_neg h, if_neg (fun c => h (beq_iff_eq.mp c))]

open H4.AttrVS in
theorem posOf_go_spec (fx : Int) (x : Attr) (l : List (Int × Attr)) (k pos p : Nat) (h : posOf.go fx l k pos = some p) :
    pos ≤ p ∧ ∀ g, view (l.set (p - pos) (fx, x)) g = if g = fx then (view l g).set k x else view l g := by
  induction l generalizing k pos with
  | nil => cases h
  | cons e t ih =>
    unfold posOf.go at h
    have step : ∀ k', posOf.go fx t k' (pos + 1) = some p → pos ≤ p ∧ ∀ g,
        view ((e :: t).set (p - pos) (fx, x)) g =
          if e.1 = g then e.2 :: (if g = fx then (view t g).set k' x else view t g)
          else if g = fx then (view t g).set k' x else view t g := fun k' h' => by
      obtain ⟨hp, hv⟩ := ih k' (pos + 1) h'
      refine ⟨by omega, fun g => ?_⟩
      rw [show p - pos = (p - (pos + 1)) + 1 by omega, List.set_cons_succ, view_cons, hv g]
    by_cases he : e.1 = fx
    · rw [if_pos (beq_iff_eq.mpr he)] at h
      cases k with
      | zero =>
        cases h
        refine ⟨Nat.le_refl _, fun g => ?_⟩
        rw [Nat.sub_self, List.set_cons_zero, view_cons, view_cons, he]
        by_cases hg : g = fx
        · rw [if_pos hg.symm, if_pos hg, if_pos hg.symm]; rfl
        · rw [if_neg (Ne.symm hg), if_neg hg, if_neg (Ne.symm hg)]
      | succ k =>
        rw [if_neg (by simp)] at h
        obtain ⟨hp, hv⟩ := step k h
        refine ⟨hp, fun g => ?_⟩
        rw [hv g, view_cons, he]
        by_cases hg : g = fx
        · rw [if_pos hg.symm, if_pos hg, if_pos hg, if_pos hg.symm]; rfl
        · rw [if_neg (Ne.symm hg), if_neg hg, if_neg hg, if_neg (Ne.symm hg)]
    · rw [if_neg (fun c => he (beq_iff_eq.mp c))] at h
      obtain ⟨hp, hv⟩ := step k h
      refine ⟨hp, fun g => ?_⟩
      rw [hv g, view_cons]
      by_cases hg : g = fx
      · rw [if_neg (fun c => he (c.trans hg)), if_pos hg, if_pos hg, if_neg (fun c => he (c.trans hg))]
      · rw [if_neg hg, if_neg hg]

theorem mapM_option_spec {α β : Type} (f : α → Option β) (l : List α) (l' : List β) (h : l.mapM f = some l') :
    l'.length = l.length ∧ ∀ (i : Nat) (x : α), l[i]? = some x → ∃ y : β, l'[i]? = some y ∧ f x = some y := by
  induction l generalizing l' with
  | nil => simp at h; subst h; simp
  | cons a t ih =>
    simp only [List.mapM_cons, Option.bind_eq_bind, Option.pure_def] at h
    cases hfa : f a with
    | none => simp [hfa] at h
    | some y =>
      simp only [hfa, Option.bind_some] at h
      cases ht : t.mapM f with
      | none => simp [ht] at h
      | some t' =>
        simp only [ht, Option.bind_some, Option.some.injEq] at h
        subst h
        obtain ⟨h1, h2⟩ := ih t' ht
        refine ⟨by simp [h1], ?_⟩
        intro i x hx
        cases i with
        | zero => simp at hx; subst hx; exact ⟨y, by simp, hfa⟩
        | succ j => simp at hx; obtain ⟨y', hy', hfy⟩ := h2 j x hx; exact ⟨y', by simpa using hy', hfy⟩

section dirty
open H4.AttrSD

/-- what a session must be in for `SDend` to write it -/
def Written (f : AttrSD.File) : Prop := f.isOpen = true ∧ f.rdwr = true ∧ f.dirty = true

def SameFlags (f g : AttrSD.File) : Prop := g.isOpen = f.isOpen ∧ g.rdwr = f.rdwr ∧ g.dirty = f.dirty

theorem SameFlags.refl {f : AttrSD.File} : SameFlags f f := ⟨rfl, rfl, rfl⟩

theorem SameFlags.trans {f g h : AttrSD.File} (h₂ : SameFlags g h) (h₁ : SameFlags f g) : SameFlags f h :=
  ⟨h₂.1.trans h₁.1, h₂.2.1.trans h₁.2.1, h₂.2.2.trans h₁.2.2⟩

theorem SameFlags.written {f g : AttrSD.File} (h : SameFlags f g) (hw : Written f) : Written g :=
  ⟨h.1.trans hw.1, h.2.1.trans hw.2.1, h.2.2.trans hw.2.2⟩

theorem SameFlags.mark {f g : AttrSD.File} (h : SameFlags f g) (ho : f.isOpen = true) (hr : f.rdwr = true) :
    Written { g with dirty := true } := ⟨h.1.trans ho, h.2.1.trans hr, rfl⟩

theorem updVar_flags (f : AttrSD.File) (i : Nat) (g : Var → Var) : SameFlags f (updVar f i g) := by
  unfold updVar; split <;> exact .refl

theorem addFakeDims_flags (sz : List Nat) (f : AttrSD.File) : SameFlags f (addFakeDims f sz).1 := by
  induction sz generalizing f with
  | nil => exact .refl
  | cons a t ih => exact ih _

theorem setAttrsAt_flags (f : AttrSD.File) (loc : Loc) (l : AList) : SameFlags f (setAttrsAt f loc l) := by
  cases loc
  · exact .refl
  · exact updVar_flags ..

theorem getCoordVar_flags (f : AttrSD.File) (d : Dim) (slot nt : Nat) : SameFlags f (getCoordVar f d slot nt).1 := by
  unfold getCoordVar
  split
  · dsimp only
    refine iteInduction (motive := fun r : AttrSD.File × Option Nat => SameFlags f r.1) (fun _ => ?_) fun _ => .refl
    split
    · refine iteInduction (motive := fun r : AttrSD.File × Option Nat => SameFlags f r.1) (fun _ => ?_) fun _ => updVar_flags ..
      exact iteInduction (motive := fun r : AttrSD.File × Option Nat => SameFlags f r.1) (fun _ => .refl) fun _ => updVar_flags ..
    · exact .refl
  · dsimp only
    split <;> exact .refl

theorem apFromId_flags (f : AttrSD.File) (o : Obj) : SameFlags f (apFromId f o).1 := by
  cases o with
  | file => exact .refl
  | var i => simp only [apFromId]; split <;> exact .refl
  | dim s =>
    simp only [apFromId]
    split
    · exact .refl
    · rename_i d _
      have h := getCoordVar_flags f d s 0
      split <;> (rename_i heq; rw [heq] at h; exact h)

def Marks (r : AttrSD.File × AttrSD.Out) : Prop := r.2 ≠ .fail → Written r.1

theorem Marks.fail (f : AttrSD.File) : Marks (f, .fail) := fun h => absurd rfl h

theorem Marks.ok {f : AttrSD.File} (h : Written f) (o : AttrSD.Out) : Marks (f, o) := fun _ => h

/-- stated for `ite` so that a guard is passed by unification, without `split` traversing the rest of the call -/
theorem Marks.guard {c : Prop} [Decidable c] {f : AttrSD.File} {r : AttrSD.File × AttrSD.Out} (h : ¬c → Marks r) :
    Marks (if c then (f, .fail) else r) := by
  split
  · exact .fail f
  · exact h ‹_›

theorem Marks.need {b : Bool} {f : AttrSD.File} {r : AttrSD.File × AttrSD.Out} (h : b = true → Marks r) :
    Marks (if (!b) = true then (f, .fail) else r) := by
  cases b
  · exact .fail f
  · exact h rfl

theorem Marks.withVar {f : AttrSD.File} {i : Nat} {k : Var → AttrSD.File × AttrSD.Out}
    (h : f.isOpen = true → ∀ v, Marks (k v)) : Marks (withVar f i k) := by
  unfold AttrSD.withVar
  refine .need fun ho => ?_
  split
  · exact .fail f
  · exact h ho _

theorem create_marks (f : AttrSD.File) (n : Bytes) (nt : Nat) (sz : List Nat) : Marks (sdCreate f n nt sz) := by
  unfold sdCreate
  refine .need fun ho => .need fun hr => .guard fun _ => ?_
  have hw := (addFakeDims_flags sz f).mark ho hr
  split
  rename_i f1 ds heq
  rw [heq] at hw
  split
  · exact .fail _
  · refine .guard fun _ => ?_
    split
    · exact .fail _
    · exact .ok hw _

theorem setattr_marks (f : AttrSD.File) (o : Obj) (n : Bytes) (nt : Nat) (c : Int) (v : Bytes) :
    Marks (sdSetAttr f o n nt c v) := by
  unfold sdSetAttr
  refine .need fun ho => .guard fun _ => .guard fun _ => .need fun hr => ?_
  have hfl := apFromId_flags f o
  split <;> rename_i heq <;> rw [heq] at hfl
  · exact .fail _
  · refine .guard fun _ => .guard fun _ => ?_
    split
    · exact .fail _
    · exact .ok (((setAttrsAt_flags ..).trans hfl).mark ho hr) _

theorem dimscale_marks (f : AttrSD.File) (s c nt : Nat) (b : Bytes) : Marks (sdSetDimScale f s c nt b) := by
  unfold sdSetDimScale
  refine .need fun ho => ?_
  split
  · exact .fail f
  rename_i d _
  refine .need fun hr => .guard fun _ => ?_
  have hw := (getCoordVar_flags f d s nt).mark ho hr
  split <;> rename_i heq <;> rw [heq] at hw
  · exact .fail _
  · dsimp only
    refine .guard fun _ => ?_
    split
    · exact .ok ((updVar_flags ..).written hw) _
    · exact .guard fun _ => .ok ((updVar_flags ..).written hw) _

theorem datastrs_marks (f : AttrSD.File) (i : Nat) (l u fm c : Option Bytes)
    (hn : (l.isSome || u.isSome || fm.isSome || c.isSome) = true) : Marks (sdSetDataStrs f i l u fm c) := by
  unfold sdSetDataStrs
  refine .withVar fun ho v => .need fun hr => ?_
  split
  dsimp only
  refine .guard fun _ => ?_
  rw [if_pos hn]
  exact .ok ((updVar_flags ..).mark ho hr) _

theorem cal_marks (f : AttrSD.File) (i : Nat) (a b c d e : Bytes) : Marks (sdSetCal f i a b c d e) := by
  unfold sdSetCal
  refine .withVar fun ho v => .need fun hr => ?_
  split
  dsimp only
  split
  · exact .ok ((updVar_flags ..).mark ho hr) _
  · exact .fail _

theorem range_marks (f : AttrSD.File) (i : Nat) (mx mn : Bytes) : Marks (sdSetRange f i mx mn) := by
  unfold sdSetRange
  refine .withVar fun ho v => .need fun hr => ?_
  split
  · exact .fail _
  · split
    · exact .fail _
    · exact .ok ((updVar_flags ..).mark ho hr) _

theorem fill_marks (f : AttrSD.File) (i : Nat) (fv : Bytes) : Marks (sdSetFill f i fv) := by
  unfold sdSetFill
  refine .withVar fun ho v => .need fun hr => ?_
  split
  · exact .fail _
  · exact .ok ((updVar_flags ..).mark ho hr) _

theorem dimname_marks (f : AttrSD.File) (s : Nat) (n : Bytes) : Marks (sdSetDimName f s n) := by
  unfold sdSetDimName
  refine .need fun ho => .need fun hr => ?_
  split
  · dsimp only
    split <;> exact .guard fun _ _ => ⟨ho, hr, rfl⟩
  · exact .fail _

theorem dimstrs_marks (f : AttrSD.File) (s : Nat) (l u fm : Option Bytes) : Marks (sdSetDimStrs f s l u fm) := by
  unfold sdSetDimStrs
  refine .need fun ho => ?_
  split
  · exact .fail f
  rename_i d _
  refine .need fun hr => ?_
  have hfl := getCoordVar_flags f d s 0
  split <;> rename_i heq <;> rw [heq] at hfl
  · exact .fail _
  · split
    dsimp only
    split
    · exact .ok (((updVar_flags ..).trans hfl).mark ho hr) _
    · exact .fail _

theorem close_written (f : AttrSD.File) (d : Disk) (hw : Written f) (hs : save f = some d) :
    close f = ({ disk := d }, .ok) := by
  obtain ⟨ho, hr, hd⟩ := hw
  simp [close, ho, hr, hd, hs]

end dirty
end H4.Props.C10
