import H4.Codecs
import H4.Lemmas.C2L
/-! Lemmas for the in-place row spreading of `DFR8getimage` (C15). -/
namespace H4.Codecs

theorem spreadRow_length (w xdim y x : Nat) (buf : List Byte) : (spreadRow w xdim y x buf).length = buf.length := by
  induction x generalizing buf with
  | zero => rfl
  | succ x ih => simp [spreadRow, ih]

theorem spreadRow_getD (w xdim y : Nat) (hw : w ≤ xdim) (x : Nat) (buf : List Byte) (hlen : y * xdim + x ≤ buf.length) (i : Nat) :
    (spreadRow w xdim y x buf).getD i 0 =
      if y * xdim ≤ i ∧ i < y * xdim + x then buf.getD (y * w + (i - y * xdim)) 0 else buf.getD i 0 := by
  induction x generalizing buf with
  | zero =>
    simp only [spreadRow]
    have : ¬ (y * xdim ≤ i ∧ i < y * xdim + 0) := by omega
    rw [if_neg this]
  | succ x ih =>
    have hyw : y * w ≤ y * xdim := Nat.mul_le_mul_left y hw
    simp only [spreadRow]
    rw [ih _ (by simp only [List.length_set]; omega)]
    have hin : y * xdim + x < buf.length := by omega
    by_cases h1 : y * xdim ≤ i ∧ i < y * xdim + x
    · have h2 : y * xdim ≤ i ∧ i < y * xdim + (x + 1) := ⟨h1.1, by omega⟩
      simp only [h1, h2, and_self, if_true]
      exact H4.C2L.getD_set_ne _ _ _ _ _ (by omega)
    · simp only [h1, if_false]
      by_cases h3 : i = y * xdim + x
      · subst h3
        have h2 : y * xdim ≤ y * xdim + x ∧ y * xdim + x < y * xdim + (x + 1) := ⟨by omega, by omega⟩
        simp only [h2, and_self, if_true]
        rw [H4.C2L.getD_set_self _ _ _ _ hin, Nat.add_sub_cancel_left]
      · have h2 : ¬ (y * xdim ≤ i ∧ i < y * xdim + (x + 1)) := by omega
        rw [if_neg h2]
        exact H4.C2L.getD_set_ne _ _ _ _ _ (Ne.symm h3)

theorem spreadRowsFrom_length (w xdim h : Nat) (buf : List Byte) : (spreadRowsFrom w xdim h buf).length = buf.length := by
  induction h, buf using spreadRowsFrom.induct w xdim with
  | case1 => rfl
  | case2 => rfl
  | case3 y buf ih => simp only [spreadRowsFrom]; rw [ih, spreadRow_length]

theorem spreadRowsFrom_spec (w xdim : Nat) (hw : w ≤ xdim) (h : Nat) (buf : List Byte)
    (hlen : h = 0 ∨ (h - 1) * xdim + w ≤ buf.length) :
    (∀ r c, r < h → c < w → (spreadRowsFrom w xdim h buf).getD (r * xdim + c) 0 = buf.getD (r * w + c) 0) ∧
    (∀ i, h * xdim ≤ i → (spreadRowsFrom w xdim h buf).getD i 0 = buf.getD i 0) := by
  induction h, buf using spreadRowsFrom.induct w xdim with
  | case1 => exact ⟨fun r c hr _ => absurd hr (Nat.not_lt_zero r), fun i _ => rfl⟩
  | case2 =>
    refine ⟨fun r c hr _ => ?_, fun i _ => rfl⟩
    have : r = 0 := by omega
    subst this; simp [spreadRowsFrom]
  | case3 y buf ih =>
    have hl : (y + 1) * xdim + w ≤ buf.length := by
      rcases hlen with h0 | h1
      · omega
      · simpa using h1
    simp only [spreadRowsFrom]
    have hrow := spreadRow_getD w xdim (y + 1) hw w buf hl
    have ih' := ih (Or.inr (by
      rw [spreadRow_length]
      have : (y + 1 - 1) * xdim ≤ (y + 1) * xdim := Nat.mul_le_mul_right xdim (by omega)
      omega))
    have hmul : (y + 1) * w ≤ (y + 1) * xdim := Nat.mul_le_mul_left (y + 1) hw
    constructor
    · intro r c hr hc
      by_cases hry : r < y + 1
      · rw [ih'.1 r c hry hc, hrow]
        have h1 : (r + 1) * w ≤ (y + 1) * w := Nat.mul_le_mul_right w (by omega)
        have h2 : (r + 1) * w = r * w + w := by rw [Nat.add_mul]; omega
        have : ¬ ((y + 1) * xdim ≤ r * w + c ∧ r * w + c < (y + 1) * xdim + w) := by omega
        simp [this]
      · have hr' : r = y + 1 := by omega
        subst hr'
        rw [ih'.2 _ (by omega), hrow]
        have h2 : (y + 1) * xdim ≤ (y + 1) * xdim + c ∧ (y + 1) * xdim + c < (y + 1) * xdim + w := ⟨by omega, by omega⟩
        have h3 : (y + 1) * xdim + c - (y + 1) * xdim = c := by omega
        simp [h2, h3]
    · intro i hi
      have hi' : (y + 1 + 1) * xdim ≤ i := hi
      rw [Nat.add_mul] at hi' 
      rw [ih'.2 i (by omega), hrow]
      have : ¬ ((y + 1) * xdim ≤ i ∧ i < (y + 1) * xdim + w) := by omega
      simp [this]

end H4.Codecs
