import H4.Lemmas.C07FldDef
import H4.Lemmas.C2L
/-! `VSsetfields` (vsfld.c) as translated statement by statement.  Its body and field-list branch are cut into pieces: COPIES of the
    generated text, glued by `VSsetfields_pieces : … := rfl`, so a change of the C text breaks the glue.  The loop bodies are run as
    generated; the two name scans of the field loop (loops 2, 3) are cases of `IsLoop.first_hit`. -/
namespace H4.Lemmas.C07Fld
open H4.Gen.Fn.Dfconv H4.Gen.Fn.Vsfld H4.VData H4.Gen.Hdf H4.Gen.Vs H4.C2L H4.VsfldEnc

def sfChk (_fuel : Nat) (s : VSsetfields.St) : VSsetfields.St :=
  have s : VSsetfields.St := VSsetfields.St.set_building s (0)
  have s : VSsetfields.St := VSsetfields.St.set_ret_value s ((- 1))
  have s : VSsetfields.St := if (s.fields_null = true) then
      have s : VSsetfields.St := VSsetfields.St.set_ret_value s ((- 1))
      have s : VSsetfields.St := VSsetfields.St.set_gto s (true)
      s
    else
      s
  have s : VSsetfields.St := if s.gto ∨ s.brk ∨ s.cnt then s else
    have s : VSsetfields.St := if (s.vkey_group ≠ 4) then
        have s : VSsetfields.St := VSsetfields.St.set_ret_value s ((- 1))
        have s : VSsetfields.St := VSsetfields.St.set_gto s (true)
        s
      else
        s
    s
  have s : VSsetfields.St := if s.gto ∨ s.brk ∨ s.cnt then s else
    have s : VSsetfields.St := if (s.w_null = true) then
        have s : VSsetfields.St := VSsetfields.St.set_ret_value s ((- 1))
        have s : VSsetfields.St := VSsetfields.St.set_gto s (true)
        s
      else
        s
    s
  have s : VSsetfields.St := if s.gto ∨ s.brk ∨ s.cnt then s else
    have s : VSsetfields.St := if (s.vs_null = true) then
        have s : VSsetfields.St := VSsetfields.St.set_ret_value s ((- 1))
        have s : VSsetfields.St := VSsetfields.St.set_gto s (true)
        s
      else
        s
    s
  have s : VSsetfields.St := if s.gto ∨ s.brk ∨ s.cnt then s else
    have s : VSsetfields.St := if ((s.scan_ret = (- 1)) ∨ (s.ac = 0)) then
        have s : VSsetfields.St := VSsetfields.St.set_ret_value s ((- 1))
        have s : VSsetfields.St := VSsetfields.St.set_gto s (true)
        s
      else
        s
    s
  have s : VSsetfields.St := if s.gto ∨ s.brk ∨ s.cnt then s else
    have s : VSsetfields.St := if (s.ac > 256) then
        have s : VSsetfields.St := VSsetfields.St.set_ret_value s ((- 1))
        have s : VSsetfields.St := VSsetfields.St.set_gto s (true)
        s
      else
        s
    s
  s

def sfRead (fuel : Nat) (s : VSsetfields.St) : VSsetfields.St :=
  have s : VSsetfields.St := if s.gto ∨ s.brk ∨ s.cnt then s else
    have s : VSsetfields.St := if (s.vs_nvertices > 0) then
        have s : VSsetfields.St := VSsetfields.St.set_vs_rlist_n s (0)
        have s : VSsetfields.St := VSsetfields.St.set_vs_rlist_item s ([])
        have s : VSsetfields.St := VSsetfields.St.set_vs_rlist_item_null s (true)
        have s : VSsetfields.St := VSsetfields.chk s ((0 : Int) ≤ (Int.tdiv (((4 * ((s.ac) % 18446744073709551616))) % 18446744073709551616) 4))
        have s : VSsetfields.St := VSsetfields.St.set_vs_rlist_item s (List.replicate (Int.toNat (Int.tdiv (((4 * ((s.ac) % 18446744073709551616))) % 18446744073709551616) 4)) 170)
        have s : VSsetfields.St := VSsetfields.St.set_vs_rlist_item_null s (false)
        have s : VSsetfields.St := if False then
            have s : VSsetfields.St := VSsetfields.St.set_ret_value s ((- 1))
            have s : VSsetfields.St := VSsetfields.St.set_gto s (true)
            s
          else
            s
        have s : VSsetfields.St := if s.gto ∨ s.brk ∨ s.cnt then s else
          have s : VSsetfields.St := VSsetfields.St.set_i s (0)
          have s : VSsetfields.St := VSsetfields.loop5 fuel s
          have s : VSsetfields.St := VSsetfields.St.set_brk s (false)
          s
        have s : VSsetfields.St := if s.gto ∨ s.brk ∨ s.cnt then s else
          have s : VSsetfields.St := VSsetfields.St.set_ret_value s (0)
          s
        s
      else
        s
    s
  s

def sfDone (fuel : Nat) (s : VSsetfields.St) : VSsetfields.St :=
  have s : VSsetfields.St := VSsetfields.St.set_gto s (false)
  have s : VSsetfields.St := if (s.building ≠ 0) then
      have s : VSsetfields.St := VSsetfields.St.set_i s (0)
      have s : VSsetfields.St := VSsetfields.loop7 fuel s
      have s : VSsetfields.St := VSsetfields.St.set_brk s (false)
      have s : VSsetfields.St := VSsetfields.St.set_vs_wlist_name s ([])
      have s : VSsetfields.St := VSsetfields.St.set_vs_wlist_name_null s (true)
      have s : VSsetfields.St := VSsetfields.St.set_vs_wlist_bptr s ([])
      have s : VSsetfields.St := VSsetfields.St.set_vs_wlist_bptr_null s (true)
      have s : VSsetfields.St := VSsetfields.St.set_vs_wlist_n s (0)
      have s : VSsetfields.St := VSsetfields.St.set_vs_wlist_ivsize s (((0) % 65536))
      s
    else
      s
  s

def sfRet (_fuel : Nat) (s : VSsetfields.St) : VSsetfields.St :=
  have s : VSsetfields.St := if s.gto ∨ s.brk ∨ s.cnt then s else
    have s : VSsetfields.St := VSsetfields.St.set_ret s (s.ret_value)
    s
  s

def sfBInit (_fuel : Nat) (s : VSsetfields.St) : VSsetfields.St :=
  have s : VSsetfields.St := VSsetfields.St.set_vs_wlist_ivsize s (((0) % 65536))
  have s : VSsetfields.St := VSsetfields.St.set_vs_wlist_n s (0)
  have s : VSsetfields.St := VSsetfields.chk s ((0 : Int) ≤ (Int.tdiv (((2 * (((s.ac * 5)) % 18446744073709551616))) % 18446744073709551616) 2))
  have s : VSsetfields.St := VSsetfields.St.set_vs_wlist_bptr s (List.replicate (Int.toNat (Int.tdiv (((2 * (((s.ac * 5)) % 18446744073709551616))) % 18446744073709551616) 2)) 170)
  have s : VSsetfields.St := VSsetfields.St.set_vs_wlist_bptr_null s (false)
  have s : VSsetfields.St := if False then
      have s : VSsetfields.St := VSsetfields.St.set_ret_value s ((- 1))
      have s : VSsetfields.St := VSsetfields.St.set_gto s (true)
      s
    else
      s
  have s : VSsetfields.St := if s.gto ∨ s.brk ∨ s.cnt then s else
    have s : VSsetfields.St := VSsetfields.St.set_vs_wlist_type_i s (0)
    s
  have s : VSsetfields.St := if s.gto ∨ s.brk ∨ s.cnt then s else
    have s : VSsetfields.St := VSsetfields.St.set_vs_wlist_off_i s ((s.vs_wlist_type_i + s.ac))
    s
  have s : VSsetfields.St := if s.gto ∨ s.brk ∨ s.cnt then s else
    have s : VSsetfields.St := VSsetfields.St.set_vs_wlist_isize_i s ((s.vs_wlist_off_i + s.ac))
    s
  have s : VSsetfields.St := if s.gto ∨ s.brk ∨ s.cnt then s else
    have s : VSsetfields.St := VSsetfields.St.set_vs_wlist_order_i s ((s.vs_wlist_isize_i + s.ac))
    s
  have s : VSsetfields.St := if s.gto ∨ s.brk ∨ s.cnt then s else
    have s : VSsetfields.St := VSsetfields.St.set_vs_wlist_esize_i s ((s.vs_wlist_order_i + s.ac))
    s
  have s : VSsetfields.St := if s.gto ∨ s.brk ∨ s.cnt then s else
    have s : VSsetfields.St := VSsetfields.chk s ((0 : Int) ≤ (Int.tdiv (((8 * ((s.ac) % 18446744073709551616))) % 18446744073709551616) 8))
    have s : VSsetfields.St := VSsetfields.St.set_vs_wlist_name s (List.replicate (Int.toNat (Int.tdiv (((8 * ((s.ac) % 18446744073709551616))) % 18446744073709551616) 8)) [])
    have s : VSsetfields.St := VSsetfields.St.set_vs_wlist_name_null s (false)
    have s : VSsetfields.St := if False then
        have s : VSsetfields.St := VSsetfields.St.set_ret_value s ((- 1))
        have s : VSsetfields.St := VSsetfields.St.set_gto s (true)
        s
      else
        s
    s
  s

def sfBNull (fuel : Nat) (s : VSsetfields.St) : VSsetfields.St :=
  have s : VSsetfields.St := if s.gto ∨ s.brk ∨ s.cnt then s else
    have s : VSsetfields.St := VSsetfields.St.set_i s (0)
    have s : VSsetfields.St := VSsetfields.loop0 fuel s
    have s : VSsetfields.St := VSsetfields.St.set_brk s (false)
    s
  s

def sfBFlag (_fuel : Nat) (s : VSsetfields.St) : VSsetfields.St :=
  have s : VSsetfields.St := if s.gto ∨ s.brk ∨ s.cnt then s else
    have s : VSsetfields.St := VSsetfields.St.set_building s ((if (0 ≠ 0) then 0 else 1))
    s
  s

def sfBFields (fuel : Nat) (s : VSsetfields.St) : VSsetfields.St :=
  have s : VSsetfields.St := if s.gto ∨ s.brk ∨ s.cnt then s else
    have s : VSsetfields.St := VSsetfields.St.set_i s (0)
    have s : VSsetfields.St := VSsetfields.loop1 fuel s
    have s : VSsetfields.St := VSsetfields.St.set_brk s (false)
    s
  s

def sfBOffs (fuel : Nat) (s : VSsetfields.St) : VSsetfields.St :=
  have s : VSsetfields.St := if s.gto ∨ s.brk ∨ s.cnt then s else
    have s : VSsetfields.St := VSsetfields.St.set_uj s (((0) % 65536))
    have s : VSsetfields.St := VSsetfields.St.set_i s (0)
    have s : VSsetfields.St := VSsetfields.loop4 fuel s
    have s : VSsetfields.St := VSsetfields.St.set_brk s (false)
    s
  s

def sfBFin (_fuel : Nat) (s : VSsetfields.St) : VSsetfields.St :=
  have s : VSsetfields.St := if s.gto ∨ s.brk ∨ s.cnt then s else
    have s : VSsetfields.St := VSsetfields.St.set_vs_marked s ((if (0 ≠ 0) then 0 else 1))
    s
  have s : VSsetfields.St := if s.gto ∨ s.brk ∨ s.cnt then s else
    have s : VSsetfields.St := VSsetfields.St.set_vs_new_h_sz s ((if (0 ≠ 0) then 0 else 1))
    s
  have s : VSsetfields.St := if s.gto ∨ s.brk ∨ s.cnt then s else
    have s : VSsetfields.St := VSsetfields.St.set_building s (0)
    s
  have s : VSsetfields.St := if s.gto ∨ s.brk ∨ s.cnt then s else
    have s : VSsetfields.St := VSsetfields.St.set_ret_value s (0)
    have s : VSsetfields.St := VSsetfields.St.set_gto s (true)
    s
  s

def sfBuild (fuel : Nat) (s : VSsetfields.St) : VSsetfields.St :=
  if s.gto ∨ s.brk ∨ s.cnt then s else
    if (s.vs_access = 119) then
      if (s.vs_nvertices = 0) then
        if (s.vs_wlist_n = 0) then sfBFin fuel (sfBOffs fuel (sfBFields fuel (sfBFlag fuel (sfBNull fuel (sfBInit fuel (s))))))
        else s
      else s
    else s

def sfRun (fuel : Nat) (s : VSsetfields.St) : VSsetfields.St := sfRet fuel (sfDone fuel (sfRead fuel (sfBuild fuel (sfChk fuel s))))

theorem VSsetfields_pieces (fuel : Nat) (vkey : Int) (fields_null : Bool) (ac : Int) (av : List (List Int)) (vkey_group : Int) (w_null : Bool) (vs_null : Bool) (scan_ret : Int) (vs_access : Int) (vs_nvertices : Int) (vs_wlist_n : Int) (vs_wlist_ivsize : Int) (vs_wlist_bptr : List Int) (vs_wlist_bptr_null : Bool) (vs_wlist_type_i : Int) (vs_wlist_off_i : Int) (vs_wlist_isize_i : Int) (vs_wlist_order_i : Int) (vs_wlist_esize_i : Int) (vs_wlist_name : List (List Int)) (vs_wlist_name_null : Bool) (vs_nusym : Int) (vs_usym_name : List (List Int)) (vs_usym_order : List Int) (vs_usym_type : List Int) (vs_usym_isize : List Int) (vs_marked : Int) (vs_new_h_sz : Int) (vs_rlist_n : Int) (vs_rlist_item : List Int) (vs_rlist_item_null : Bool) :
    VSsetfields fuel vkey fields_null ac av vkey_group w_null vs_null scan_ret vs_access vs_nvertices vs_wlist_n vs_wlist_ivsize vs_wlist_bptr vs_wlist_bptr_null vs_wlist_type_i vs_wlist_off_i vs_wlist_isize_i vs_wlist_order_i vs_wlist_esize_i vs_wlist_name vs_wlist_name_null vs_nusym vs_usym_name vs_usym_order vs_usym_type vs_usym_isize vs_marked vs_new_h_sz vs_rlist_n vs_rlist_item vs_rlist_item_null =
    sfRun fuel ({ vkey := vkey, fields_null := fields_null, ac := ac, av := av, vkey_group := vkey_group, w_null := w_null, vs_null := vs_null, scan_ret := scan_ret, vs_access := vs_access, vs_nvertices := vs_nvertices, vs_wlist_n := vs_wlist_n, vs_wlist_ivsize := vs_wlist_ivsize, vs_wlist_bptr := vs_wlist_bptr, vs_wlist_bptr_null := vs_wlist_bptr_null, vs_wlist_type_i := vs_wlist_type_i, vs_wlist_off_i := vs_wlist_off_i, vs_wlist_isize_i := vs_wlist_isize_i, vs_wlist_order_i := vs_wlist_order_i, vs_wlist_esize_i := vs_wlist_esize_i, vs_wlist_name := vs_wlist_name, vs_wlist_name_null := vs_wlist_name_null, vs_nusym := vs_nusym, vs_usym_name := vs_usym_name, vs_usym_order := vs_usym_order, vs_usym_type := vs_usym_type, vs_usym_isize := vs_usym_isize, vs_marked := vs_marked, vs_new_h_sz := vs_new_h_sz, vs_rlist_n := vs_rlist_n, vs_rlist_item := vs_rlist_item, vs_rlist_item_null := vs_rlist_item_null }) := rfl

theorem sf_chk_true (s : VSsetfields.St) (c : Prop) [Decidable c] (h : c) : VSsetfields.chk s c = s := by
  simp [VSsetfields.chk, h]

/-- no `goto` / `break` / `continue` is pending -/
def SfClean (s : VSsetfields.St) : Prop := s.gto = false ∧ s.brk = false ∧ s.cnt = false

/-- the state with what the field loop of `VSsetfields` may change forgotten; `sfFrame r = sfFrame s`: `r` and `s` agree on the rest,
    `congrArg (·.av)` reads a member off -/
def sfFrame (s : VSsetfields.St) : VSsetfields.St :=
  { s with found := 0, j := 0, i := 0, uj := 0, order := 0, value := 0, ret_value := 0, vs_wlist_n := 0, vs_wlist_ivsize := 0,
           vs_wlist_name := [], vs_wlist_bptr := [], ub := false, oof := false, ret := 0, gto := false, brk := false, cnt := false }

structure UsymImg (usym : List SymDef) (s : VSsetfields.St) : Prop where
  u1 : s.vs_usym_name = nameRows usym
  u2 : s.vs_usym_type = typeCol usym
  u3 : s.vs_usym_isize = isizeCol usym
  u4 : s.vs_usym_order = orderCol usym
  un : s.vs_nusym = usym.length

/-- `bptr`, `name` are NULL exactly when there is no field -/
structure WlImg (w : WList) (s : VSsetfields.St) : Prop where
  wn : s.vs_wlist_n = w.n
  wiv : s.vs_wlist_ivsize = w.ivsize
  wb : s.vs_wlist_bptr = wBptr w
  wnm : s.vs_wlist_name = wNames w
  wbn : s.vs_wlist_bptr_null = w.fields.isEmpty
  wnn : s.vs_wlist_name_null = w.fields.isEmpty
  cur : w.fields ≠ [] → s.vs_wlist_type_i = 0 ∧ s.vs_wlist_off_i = w.n ∧ s.vs_wlist_isize_i = 2 * w.n ∧
    s.vs_wlist_order_i = 3 * w.n ∧ s.vs_wlist_esize_i = 4 * w.n

/-- `rlist.item` may be longer than `rlist.n` -/
structure RlImg (items : List Nat) (s : VSsetfields.St) : Prop where
  rn : s.vs_rlist_n = items.length
  ri : ∀ j, j < items.length → s.vs_rlist_item.getD j 0 = ((items.getD j 0 : Nat) : Int)

/-- the members the three images speak of; a frame equality gives their equality by `congrArg` -/
def usOf (s : VSsetfields.St) := (s.vs_usym_name, s.vs_usym_type, s.vs_usym_isize, s.vs_usym_order, s.vs_nusym)
def wlOf (s : VSsetfields.St) := (s.vs_wlist_n, s.vs_wlist_ivsize, s.vs_wlist_bptr, s.vs_wlist_name, s.vs_wlist_bptr_null, s.vs_wlist_name_null,
  s.vs_wlist_type_i, s.vs_wlist_off_i, s.vs_wlist_isize_i, s.vs_wlist_order_i, s.vs_wlist_esize_i)
def rlOf (s : VSsetfields.St) := (s.vs_rlist_n, s.vs_rlist_item)

theorem UsymImg.of_eq {usym : List SymDef} {r s : VSsetfields.St} (U : UsymImg usym s) (h : usOf r = usOf s) : UsymImg usym r := by
  simp only [usOf, Prod.mk.injEq] at h
  obtain ⟨h1, h2, h3, h4, h5⟩ := h
  exact ⟨h1.trans U.u1, h2.trans U.u2, h3.trans U.u3, h4.trans U.u4, h5.trans U.un⟩

theorem WlImg.of_eq {w : WList} {r s : VSsetfields.St} (W : WlImg w s) (h : wlOf r = wlOf s) : WlImg w r := by
  simp only [wlOf, Prod.mk.injEq] at h
  obtain ⟨h1, h2, h3, h4, h5, h6, h7, h8, h9, h10, h11⟩ := h
  exact ⟨h1.trans W.wn, h2.trans W.wiv, h3.trans W.wb, h4.trans W.wnm, h5.trans W.wbn, h6.trans W.wnn, by rw [h7, h8, h9, h10, h11]; exact W.cur⟩

theorem RlImg.of_eq {items : List Nat} {r s : VSsetfields.St} (R : RlImg items s) (h : rlOf r = rlOf s) : RlImg items r := by
  simp only [rlOf, Prod.mk.injEq] at h
  exact ⟨h.1.trans R.rn, by rw [h.2]; exact R.ri⟩

/-- slot `k` of `bptr`, five arrays of `ac` cells (`type`, `off`, `isize`, `order`, `esize`): the bounds checks of its cells, the `toNat` of
    the indices written, the cell read back -/
theorem wl_idx {ac k : Nat} (h : k < ac) :
    ((0 : Int) ≤ k ∧ (k : Int) < ac) ∧ ((0 : Int) ≤ 0 + k ∧ (0 : Int) + k < ((5 * ac : Nat) : Int)) ∧
    ((0 : Int) ≤ 2 * ac + k ∧ (2 : Int) * ac + k < ((5 * ac : Nat) : Int)) ∧ ((0 : Int) ≤ 3 * ac + k ∧ (3 : Int) * ac + k < ((5 * ac : Nat) : Int)) ∧
    ((0 : Int) ≤ 4 * ac + k ∧ (4 : Int) * ac + k < ((5 * ac : Nat) : Int)) ∧ ((0 : Int) + k).toNat = k ∧ ((2 : Int) * ac + k).toNat = 2 * ac + k ∧
    ((3 : Int) * ac + k).toNat = 3 * ac + k ∧ ((4 : Int) * ac + k).toNat = 4 * ac + k ∧
    ∀ (B : List Int) (d : Int), B.length = 5 * ac → (B.set (2 * ac + k) d).getD (2 * ac + k) 0 = d :=
  ⟨by omega, by omega, by omega, by omega, by omega, by omega, by omega, by omega, by omega, fun B d h => getD_set_self _ _ _ _ (by omega)⟩

theorem l2_miss (fuel : Nat) (s : VSsetfields.St) (hcl : SfClean s) (usym : List SymDef) (nm : String) (hnm : NameOK nm) (pad : List Int)
    (hav : s.av.getD (Int.toNat s.i) [] = chars nm ++ 0 :: pad) (hi : 0 ≤ s.i ∧ s.i < s.av.length)
    (u1 : s.vs_usym_name = nameRows usym) (j0 : Nat) (hj : s.j = j0) (hj0 : j0 < usym.length)
    (hn : NameOK (usym.getD j0 default).name) (hne : (usym.getD j0 default).name ≠ nm) :
    VSsetfields.loop2.body fuel s = (s.set_cnt false).set_j (s.j + 1) := by
  obtain ⟨h1, h2, h3⟩ := hcl
  obtain ⟨r, hr, hr0⟩ := strcmp_names nm (usym.getD j0 default).name hnm hn pad []
  have hr' : ¬ r = 0 := fun h => hne (hr0.mp h).symm
  have hrow := (usym_row hj0).1
  have ln := (usym_cols usym).1
  have a2 : (0 : Int) ≤ j0 ∧ (j0 : Int) < usym.length := by omega
  cases s
  simp only at h1 h2 h3 hav hi u1 hj
  subst h1 h2 h3 u1 hj
  simp only [VSsetfields.loop2.body, c2l_st, ↓reduceIte, hav, hi, hrow, hr, ln, a2, hr']

def wlPut (B : List Int) (ac k : Nat) (f : Field) : List Int :=
  (((B.set k f.type).set (3 * ac + k) f.order).set (4 * ac + k) f.esize).set (2 * ac + k) f.isize

theorem length_wlPut (B : List Int) (ac k : Nat) (f : Field) : (wlPut B ac k f).length = B.length := by simp [wlPut]

theorem getD_wlPut (B : List Int) (ac k : Nat) (f : Field) (hbl : B.length = 5 * ac) (hk : k < ac) :
    (wlPut B ac k f).getD k 0 = f.type ∧ (wlPut B ac k f).getD (2 * ac + k) 0 = f.isize ∧ (wlPut B ac k f).getD (3 * ac + k) 0 = f.order ∧
    (wlPut B ac k f).getD (4 * ac + k) 0 = f.esize ∧
    ∀ x, x ≠ k → x ≠ 2 * ac + k → x ≠ 3 * ac + k → x ≠ 4 * ac + k → (wlPut B ac k f).getD x 0 = B.getD x 0 := by
  unfold wlPut
  refine ⟨?_, ?_, ?_, ?_, fun x h1 h2 h3 h4 => ?_⟩
  · rw [getD_set_ne _ _ _ _ _ (by omega), getD_set_ne _ _ _ _ _ (by omega), getD_set_ne _ _ _ _ _ (by omega), getD_set_self _ _ _ _ (by omega)]
  · rw [getD_set_self _ _ _ _ (by simp [hbl]; omega)]
  · rw [getD_set_ne _ _ _ _ _ (by omega), getD_set_ne _ _ _ _ _ (by omega), getD_set_self _ _ _ _ (by simp [hbl]; omega)]
  · rw [getD_set_ne _ _ _ _ _ (by omega), getD_set_self _ _ _ _ (by simp [hbl]; omega)]
  · rw [getD_set_ne _ _ _ _ _ (Ne.symm h2), getD_set_ne _ _ _ _ _ (Ne.symm h4), getD_set_ne _ _ _ _ _ (Ne.symm h3), getD_set_ne _ _ _ _ _ (Ne.symm h1)]

/-- what the pass over the symbol of the wanted name leaves when the record still fits -/
def wlStore (s : VSsetfields.St) (ac k : Nat) (f : Field) (iv' : Nat) : VSsetfields.St :=
  { s with found := 1, vs_wlist_name := s.vs_wlist_name.set k (cstr f.name), order := f.order, value := iv',
           vs_wlist_bptr := wlPut s.vs_wlist_bptr ac k f, vs_wlist_ivsize := iv', vs_wlist_n := (k : Int) + 1, brk := true }

def SymPass (s : VSsetfields.St) (ac k : Nat) (sd : SymDef) (nt : NT) (iv : Nat) (R : VSsetfields.St) : Prop :=
  if sd.order * sd.isize > 65535 ∨ iv + sd.order * sd.isize > 65535 then
    R.gto = true ∧ R.brk = false ∧ R.ret_value = -1 ∧ sfFrame R = sfFrame s ∧ R.ub = s.ub ∧ R.oof = s.oof
  else R = wlStore s ac k (symField sd nt) (iv + sd.order * sd.isize)

theorem SymPass.leaves {s R : VSsetfields.St} {ac k iv : Nat} {sd : SymDef} {nt : NT} (h : SymPass s ac k sd nt iv R) :
    R.gto = true ∨ R.brk = true := by
  unfold SymPass at h
  split at h
  · exact .inl h.1
  · rw [h]; exact .inr rfl

theorem l2_hit (fuel : Nat) (s : VSsetfields.St) (hcl : SfClean s) (ac k j0 iv : Nat) (usym : List SymDef) (sd : SymDef) (nt : NT)
    (pad : List Int) (hi : 0 ≤ s.i ∧ s.i < s.av.length) (hav : s.av.getD (Int.toNat s.i) [] = chars sd.name ++ 0 :: pad)
    (hk : s.vs_wlist_n = k) (hkac : k < ac)
    (c1 : s.vs_wlist_type_i = 0) (c3 : s.vs_wlist_isize_i = 2 * ac) (c4 : s.vs_wlist_order_i = 3 * ac) (c5 : s.vs_wlist_esize_i = 4 * ac)
    (hbl : s.vs_wlist_bptr.length = 5 * ac) (hnl : s.vs_wlist_name.length = ac)
    (hj : s.j = j0) (hj0 : j0 < usym.length) (hsd : usym.getD j0 default = sd)
    (U : UsymImg usym s) (hname : NameOK sd.name) (hnt : ntInfo sd.type = some nt) (hiv : s.vs_wlist_ivsize = iv) :
    SymPass s ac k sd nt iv (VSsetfields.loop2.body fuel s) := by
  unfold SymPass
  obtain ⟨ln, li, lt, lo⟩ := usym_cols usym
  obtain ⟨hrow, hI, hT, hO⟩ := usym_row hj0
  rw [hsd] at hrow hI hT hO
  obtain ⟨h1, h2, h3⟩ := hcl
  obtain ⟨u1, u2, u3, u4, _⟩ := U
  obtain ⟨r, hr, hr0⟩ := strcmp_names sd.name sd.name hname hname pad []
  obtain rfl : r = 0 := hr0.mpr rfl
  have hnz : 1 ≤ nt.nsz := by have := ntInfo_valid hnt; omega
  have hD := DFKNTsize_native fuel hnt
  have hstr := take_string (chars sd.name) [] (chars_ok hname)
  have hz := zero_mem (chars sd.name) []
  have e5 : ((sd.order : Int) * (nt.nsz : Int)) = ((sd.order * nt.nsz : Nat) : Int) := by push_cast; rfl
  have e6 : ((sd.order * nt.nsz % 65536 : Nat) : Int) = ((sd.order * nt.nsz : Nat) : Int) % 65536 := by omega
  have hne : ¬ (((sd.order * nt.nsz : Nat) : Int) = -1) := by omega
  have hmul : (sd.order : Int) * (sd.isize : Int) = ((sd.order * sd.isize : Nat) : Int) := by push_cast; rfl
  have a2 : (0 : Int) ≤ j0 ∧ (j0 : Int) < usym.length := by omega
  have a7 : (0 : Int) ≤ sd.type ∧ (0 : Int) ≤ 4096 := by omega
  obtain ⟨a1, a3, a6, a4, a5, i1, i3, i4, i5, hcell⟩ := wl_idx hkac
  cases s
  simp only at h1 h2 h3 hi hav hk c1 c3 c4 c5 hbl hnl hj u1 u2 u3 u4 hiv
  subst h1 h2 h3 hk c1 c3 c4 c5 hj u1 u2 u3 u4 hiv
  by_cases g1 : sd.order * sd.isize > 65535
  · have g1' : ((sd.order * sd.isize : Nat) : Int) > 65535 := by omega
    rw [if_pos (.inl g1)]
    simp only [VSsetfields.loop2.body, c2l_st, ↓reduceIte, hi, hav, hr, hrow, hO, hT, hI, hstr, hz, hD,
      Int.reduceToNat, e5, hne, hmul, g1', i1, i4, i5, hbl, hnl, ln, lo, lt, li,
      a1, a2, a3, a4, a5, a7, sfFrame]
  · have g1' : ¬ (((sd.order * sd.isize : Nat) : Int) > 65535) := by omega
    have hmod : ((sd.order * sd.isize : Nat) : Int) % 65536 = ((sd.order * sd.isize : Nat) : Int) := by omega
    by_cases g2 : iv + sd.order * sd.isize > 65535
    · have g2' : ((iv : Int) + ((sd.order * sd.isize : Nat) : Int) > 65535) := by omega
      rw [if_pos (.inr g2)]
      simp only [VSsetfields.loop2.body, c2l_st, ↓reduceIte, hi, hav, hr, hrow, hO, hT, hI, hstr, hz, hD,
        Int.reduceToNat, e5, hne, hmul, g1', g2', i1, i3, i4, i5, hcell, hbl, hnl, ln, lo, lt, li, hmod,
        a1, a2, a3, a4, a5, a6, a7, sfFrame]
    · have g2' : ¬ ((iv : Int) + ((sd.order * sd.isize : Nat) : Int) > 65535) := by omega
      have hmod2 : ((iv : Int) + ((sd.order * sd.isize : Nat) : Int)) % 65536 = ((iv + sd.order * sd.isize : Nat) : Int) := by omega
      rw [if_neg (by omega)]
      simp only [VSsetfields.loop2.body, c2l_st, ↓reduceIte, hi, hav, hr, hrow, hO, hT, hI, hstr, hz, hD,
        Int.reduceToNat, e5, e6, hne, hmul, g1', g2', i1, i3, i4, i5, hcell, hbl, hnl, ln, lo, lt, li, hmod, hmod2,
        a1, a2, a3, a4, a5, a6, a7, cstr, Nat.cast_add, wlStore, wlPut, symField]

/-- the generated tables of `rstab[]` and the model's `rstab` agree; every reserved symbol has order 1 and 4 bytes -/
theorem rstab_rows : RSTAB_NAME.length = 9 ∧ RSTAB_TYPE.length = 9 ∧ RSTAB_ISIZE.length = 9 ∧ RSTAB_ORDER.length = 9 ∧ rstab.length = 9 ∧
    ∀ j < 9, RSTAB_NAME.getD j [] = cstr (rstab.getD j default).name ∧ NameOK (rstab.getD j default).name ∧
      RSTAB_TYPE.getD j 0 = (rstab.getD j default).type ∧ RSTAB_ISIZE.getD j 0 = (rstab.getD j default).isize ∧
      RSTAB_ORDER.getD j 0 = (rstab.getD j default).order ∧ 1 ≤ (rstab.getD j default).order ∧
      (rstab.getD j default).order * (rstab.getD j default).isize < 65536 := by decide

theorem l3_miss (fuel : Nat) (s : VSsetfields.St) (hcl : SfClean s) (nm : String) (hnm : NameOK nm) (pad : List Int)
    (hav : s.av.getD (Int.toNat s.i) [] = chars nm ++ 0 :: pad) (hi : 0 ≤ s.i ∧ s.i < s.av.length)
    (j0 : Nat) (hj : s.j = j0) (hj0 : j0 < 9) (hne : (rstab.getD j0 default).name ≠ nm) :
    VSsetfields.loop3.body fuel s = (s.set_cnt false).set_j (s.j + 1) := by
  obtain ⟨h1, h2, h3⟩ := hcl
  obtain ⟨r1, _, _, _, _, rr⟩ := rstab_rows
  obtain ⟨q1, q2, _⟩ := rr j0 hj0
  obtain ⟨r, hr, hr0⟩ := strcmp_names nm (rstab.getD j0 default).name hnm q2 pad []
  have hr' : ¬ r = 0 := fun h => hne (hr0.mp h).symm
  have a2 : (0 : Int) ≤ j0 ∧ (j0 : Int) < ((9 : Nat) : Int) := by omega
  cases s
  simp only at h1 h2 h3 hav hi hj
  subst h1 h2 h3 hj
  simp only [VSsetfields.loop3.body, c2l_st, ↓reduceIte, hav, hi, q1, r1, hr, a2, cstr, hr']

/-- as `l2_hit`, on `rstab[]`: a reserved symbol has less than 65536 bytes (`rstab_rows`), so the `uint16` conversion of its size does
    nothing and the single-field test of the user branch has no counterpart; the record-size test is that of commit fef3f30 -/
theorem l3_hit (fuel : Nat) (s : VSsetfields.St) (hcl : SfClean s) (ac k j0 iv : Nat) (sd : SymDef) (nt : NT)
    (pad : List Int) (hi : 0 ≤ s.i ∧ s.i < s.av.length) (hav : s.av.getD (Int.toNat s.i) [] = chars sd.name ++ 0 :: pad)
    (hk : s.vs_wlist_n = k) (hkac : k < ac)
    (c1 : s.vs_wlist_type_i = 0) (c3 : s.vs_wlist_isize_i = 2 * ac) (c4 : s.vs_wlist_order_i = 3 * ac) (c5 : s.vs_wlist_esize_i = 4 * ac)
    (hbl : s.vs_wlist_bptr.length = 5 * ac) (hnl : s.vs_wlist_name.length = ac)
    (hj : s.j = j0) (hj0 : j0 < 9) (hsd : rstab.getD j0 default = sd) (hnt : ntInfo sd.type = some nt) (hiv : s.vs_wlist_ivsize = iv) :
    SymPass s ac k sd nt iv (VSsetfields.loop3.body fuel s) := by
  obtain ⟨r1, r2, r3, r4, _, rr⟩ := rstab_rows
  obtain ⟨q1, q2, q3, q4, q5, q6, q7⟩ := rr j0 hj0
  rw [hsd] at q1 q2 q3 q4 q5 q6 q7
  unfold SymPass
  simp only [show ¬ sd.order * sd.isize > 65535 by omega, false_or]
  obtain ⟨h1, h2, h3⟩ := hcl
  obtain ⟨r, hr, hr0⟩ := strcmp_names sd.name sd.name q2 q2 pad []
  obtain rfl : r = 0 := hr0.mpr rfl
  have hnz : 1 ≤ nt.nsz := by have := ntInfo_valid hnt; omega
  have hD := DFKNTsize_native fuel hnt
  have hstr := take_string (chars sd.name) [] (chars_ok q2)
  have hz := zero_mem (chars sd.name) []
  have e5 : ((sd.order : Int) * (nt.nsz : Int)) = ((sd.order * nt.nsz : Nat) : Int) := by push_cast; rfl
  have e6 : ((sd.order * nt.nsz % 65536 : Nat) : Int) = ((sd.order * nt.nsz : Nat) : Int) % 65536 := by omega
  have hne : ¬ (((sd.order * nt.nsz : Nat) : Int) = -1) := by omega
  have hmul : (sd.order : Int) * (sd.isize : Int) % 65536 = ((sd.order * sd.isize : Nat) : Int) := by
    rw [← Int.natCast_mul]; omega
  have a2 : (0 : Int) ≤ j0 ∧ (j0 : Int) < ((9 : Nat) : Int) := by omega
  have a7 : (0 : Int) ≤ sd.type ∧ (0 : Int) ≤ 4096 := by omega
  obtain ⟨a1, a3, a6, a4, a5, i1, i3, i4, i5, hcell⟩ := wl_idx hkac
  cases s
  simp only at h1 h2 h3 hi hav hk c1 c3 c4 c5 hbl hnl hj hiv
  subst h1 h2 h3 hk c1 c3 c4 c5 hj hiv
  by_cases g2 : iv + sd.order * sd.isize > 65535
  · have g2' : ((iv : Int) + ((sd.order * sd.isize : Nat) : Int) > 65535) := by omega
    rw [if_pos g2]
    simp only [VSsetfields.loop3.body, c2l_st, ↓reduceIte, hi, hav, hr, q1, q3, q4, q5, r1, r2, r3, r4, hstr, hz, hD,
      Int.reduceToNat, e5, hne, hmul, g2', i1, i3, i4, i5, hcell, hbl, hnl,
      a1, a2, a3, a4, a5, a6, a7, cstr, sfFrame]
  · have g2' : ¬ ((iv : Int) + ((sd.order * sd.isize : Nat) : Int) > 65535) := by omega
    have hmod2 : ((iv : Int) + ((sd.order * sd.isize : Nat) : Int)) % 65536 = ((iv + sd.order * sd.isize : Nat) : Int) := by omega
    rw [if_neg g2]
    simp only [VSsetfields.loop3.body, c2l_st, ↓reduceIte, hi, hav, hr, q1, q3, q4, q5, r1, r2, r3, r4, hstr, hz, hD,
      Int.reduceToNat, e5, e6, hne, hmul, g2', i1, i3, i4, i5, hcell, hbl, hnl, hmod2,
      a1, a2, a3, a4, a5, a6, a7, cstr, Nat.cast_add, wlStore, wlPut, symField]

theorem st_j_next (s : VSsetfields.St) (hc : s.cnt = false) (k : Nat) :
    ({ (s.set_j k) with j := (s.set_j k).j + 1, cnt := false } : VSsetfields.St) = s.set_j ((k + 1 : Nat) : Int) := by
  cases s; subst hc; rfl

/-- loop 2, the scan of the user symbols for `av[i]`; `hX`: the pass over the first symbol of that name leaves the loop in `Hit` -/
theorem l2_scan (usym : List SymDef) (hn : ∀ sd ∈ usym, NameOK sd.name) (nm : String) (hnm : NameOK nm) (pad : List Int)
    (fuel : Nat) (s : VSsetfields.St) (hf : usym.length ≤ fuel) (hcl : SfClean s)
    (hav : s.av.getD (Int.toNat s.i) [] = chars nm ++ 0 :: pad) (hi : 0 ≤ s.i ∧ s.i < s.av.length)
    (U : UsymImg usym s) (Hit : Nat → VSsetfields.St → Prop)
    (hX : ∀ d f', usym.findIdx? (·.name == nm) = some d →
      ((VSsetfields.loop2.body f' (s.set_j d)).gto = true ∨ (VSsetfields.loop2.body f' (s.set_j d)).brk = true) ∧
        Hit d (VSsetfields.loop2.body f' (s.set_j d))) :
    match usym.findIdx? (·.name == nm) with
    | none => VSsetfields.loop2 fuel (s.set_j 0) = s.set_j usym.length
    | some d => Hit d (VSsetfields.loop2 fuel (s.set_j 0)) :=
  IsLoop.first_hit (L := VSsetfields.loop2) (.of_eqs (fun _ => rfl) (fun _ _ => rfl)) usym (·.name == nm) (fun k => s.set_j k) Hit
    (fun k hk => ⟨by show (k : Int) < s.vs_nusym; rw [U.un]; omega, by show ¬ (s.gto = true ∨ s.brk = true); simp [hcl.1, hcl.2.1]⟩)
    (fun h => by have : (usym.length : Int) < s.vs_nusym := h.1; rw [U.un] at this; omega)
    (fun k f h hp => by
      rw [l2_miss f (s.set_j k) hcl usym nm hnm pad hav hi U.u1 k rfl h (by simpa [h] using hn _ (List.getElem_mem h)) (by simpa [h] using hp)]
      exact st_j_next s hcl.2.2 k)
    (fun d f _ hd _ => ⟨fun hc => hc.2 (hX d f hd).1, (hX d f hd).2⟩)
    hf

/-- the test of loop 3 is `j < sizeof(rstab) / sizeof(rstab[0])`, preceded by the check of the divisor -/
theorem sf_loop3 : IsLoop VSsetfields.loop3 (fun s => s.j < 9 ∧ ¬(s.gto ∨ s.brk)) VSsetfields.loop3.body fun s => s :=
  .of_eqs (stuck := fun s => { s with oof := true })
    (fun s => by rw [VSsetfields.loop3]; simp only [sf_chk_true s (16 ≠ 0) (by decide)]; rfl)
    (fun f s => by rw [VSsetfields.loop3]; simp only [sf_chk_true s (16 ≠ 0) (by decide)]; rfl)

theorem rstab_length : rstab.length = 9 := rstab_rows.2.2.2.2.1

theorem l3_scan (nm : String) (hnm : NameOK nm) (pad : List Int)
    (fuel : Nat) (s : VSsetfields.St) (hf : 9 ≤ fuel) (hcl : SfClean s)
    (hav : s.av.getD (Int.toNat s.i) [] = chars nm ++ 0 :: pad) (hi : 0 ≤ s.i ∧ s.i < s.av.length) (Hit : Nat → VSsetfields.St → Prop)
    (hX : ∀ d f', rstab.findIdx? (·.name == nm) = some d →
      ((VSsetfields.loop3.body f' (s.set_j d)).gto = true ∨ (VSsetfields.loop3.body f' (s.set_j d)).brk = true) ∧
        Hit d (VSsetfields.loop3.body f' (s.set_j d))) :
    match rstab.findIdx? (·.name == nm) with
    | none => VSsetfields.loop3 fuel (s.set_j 0) = s.set_j 9
    | some d => Hit d (VSsetfields.loop3 fuel (s.set_j 0)) := by
  have h9 := rstab_length
  have := IsLoop.first_hit sf_loop3 rstab (·.name == nm) (fun k => s.set_j k) Hit
    (fun k hk => ⟨by show (k : Int) < 9; omega, by show ¬ (s.gto = true ∨ s.brk = true); simp [hcl.1, hcl.2.1]⟩)
    (fun h => by have : (rstab.length : Int) < 9 := h.1; omega)
    (fun k f h hp => by
      rw [l3_miss f (s.set_j k) hcl nm hnm pad hav hi k rfl (by omega) (by simpa [h] using hp)]
      exact st_j_next s hcl.2.2 k)
    (fun d f _ hd _ => ⟨fun hc => hc.2 (hX d f hd).1, (hX d f hd).2⟩)
    (fuel := fuel) (by omega)
  rw [h9] at this
  exact this
end H4.Lemmas.C07Fld
