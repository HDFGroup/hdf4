import H4.Lemmas.VGroupStep
namespace H4.VGroup

theorem sim_step (s : File) (op : Op) (hI : Inv s) (hG : GraphInv s.abs) (ha : admissible s.abs op = true) : StepOK s op := by
  cases op with
  | new slot ref => exact sim_new s slot ref hI hG
  | attach slot ref w => exact sim_attach s slot ref w hI hG
  | detach slot => exact sim_detach s slot hI hG
  | setname slot n => exact ⟨sim_setname s slot n hI hG ha, ginv_withSlot_nattach hG fun n => by split <;> rfl⟩
  | setclass slot n => exact ⟨sim_setclass s slot n hI hG ha, ginv_withSlot_nattach hG fun n => by split <;> rfl⟩
  | addtagref slot t r => exact ⟨sim_addtagref s slot t r hI hG, ginv_withSlot_nattach hG fun n => by split; rfl; split <;> rfl⟩
  | insertvg slot slot2 => exact sim_insertvg s slot slot2 hI hG
  | insertvs slot vsref => exact sim_insertvs s slot vsref hI hG
  | deltagref slot t r => exact ⟨sim_deltagref s slot t r hI hG, ginv_withSlot_nattach hG fun n => by split; rfl; split <;> rfl⟩
  | setattr slot vsref => exact sim_setattr s slot vsref hI hG ha
  | vdelete ref => exact sim_vdelete s ref hI hG ha
  | vsdelete ref => exact sim_vsdelete s ref hI hG
  | vsnew ref => exact sim_vsnew s ref hI hG
  | reopen => exact sim_reopen s hI ha
  | ntagrefs slot => exact ⟨sim_ntagrefs s slot hI, ginv_query hG _⟩
  | inq slot t r => exact ⟨sim_inq s slot t r hI, ginv_query hG _⟩
  | gettagrefs slot n => exact ⟨sim_gettagrefs s slot n hI, ginv_query hG _⟩
  | gettagref slot i => exact ⟨sim_gettagref s slot i hI, ginv_query hG _⟩
  | nrefs slot t => exact ⟨sim_nrefs s slot t hI, ginv_query hG _⟩
  | getname slot => exact ⟨sim_getname s slot hI, ginv_query hG _⟩
  | getclass slot => exact ⟨sim_getclass s slot hI, ginv_query hG _⟩
  | getnamelen slot => exact ⟨sim_getnamelen s slot hI, ginv_query hG _⟩
  | getclasslen slot => exact ⟨sim_getclasslen s slot hI, ginv_query hG _⟩
  | getid id => exact sim_getid s id hI hG
  | getnext slot id => exact ⟨sim_getnext s slot id hI, ginv_query hG _⟩
  | vsgetid id => exact sim_vsgetid s id hI hG
  | vlone => exact sim_vlone s hI hG
  | vslone => exact sim_vslone s hI hG
  | find n => exact sim_find s n hI hG
  | findclass n => exact sim_findclass s n hI hG

theorem inv_empty (fixed3 : Bool) : Inv { fixed3 := fixed3 } :=
  (inv_iff_rows _).mpr ⟨List.Pairwise.nil, List.Pairwise.nil, fun _ => rfl⟩

theorem sim_run (ops : List Op) (s : File) (hI : Inv s) (hG : GraphInv s.abs) (ha : admissibleHist s.abs ops = true) :
    (run s ops).2 = (grun s.abs ops).2 ∧ (run s ops).1.abs = (grun s.abs ops).1 ∧ Inv (run s ops).1 := by
  induction ops generalizing s with
  | nil => exact ⟨rfl, rfl, hI⟩
  | cons op rest ih =>
    simp only [admissibleHist, Bool.and_eq_true] at ha
    obtain ⟨⟨a1, a2, a3⟩, a4⟩ := sim_step s op hI hG ha.1
    have hG' : GraphInv (step s op).1.abs := by rw [a1]; exact a4
    have ha' : admissibleHist (step s op).1.abs rest = true := by rw [a1]; exact ha.2
    obtain ⟨b2, b1, b3⟩ := ih (step s op).1 a3 hG' ha'
    simp only [run, grun]
    rw [← a1]
    exact ⟨by rw [a2, b2], b1, b3⟩

end H4.VGroup
