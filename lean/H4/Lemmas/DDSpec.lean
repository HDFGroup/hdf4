import H4.Lemmas.DDInvOps
/-! # The map specification of the directory, and the abstraction from a file state -/
namespace H4.DD
open H4.Gen.Hdf

/-- a directory entry as the specification sees it: tag, ref, length -/
abbrev Ent := Nat × Nat × Int

/-- the key of an entry: special variants of a tag share the ref space of the base tag -/
def entKey (e : Ent) : Nat × Nat := (baseTag e.1, e.2.1)

def ent (d : DD) : Ent := (d.tag, d.ref, d.len)
/-- the abstraction: the live descriptors in chain order, without their offsets -/
def absl (l : List DD) : List Ent := (liveOf l).map ent
def File.abs (s : File) : List Ent := absl s.slots

@[simp] theorem entKey_ent (d : DD) : entKey (ent d) = keyOf d := rfl

def specGet (sp : List Ent) (k : Nat × Nat) : Option Ent := sp.find? (fun e => entKey e == k)
def specSet (sp : List Ent) (k : Nat × Nat) (len : Int) : List Ent :=
  sp.map (fun e => if entKey e == k then (e.1, e.2.1, len) else e)
def specDel (sp : List Ent) (k : Nat × Nat) : List Ent := sp.filter (fun e => !(entKey e == k))

/-- what a search `(st, sr)` with wildcards accepts, on entries -/
def entMatch (st sr : Nat) (e : Ent) : Bool :=
  (st == 0 || e.1 == st || (mkSpecial st != DFTAG_NULL && e.1 == mkSpecial st)) && (sr == 0 || e.2.1 == sr)

/-- `Hstartwrite`-style access to `(base, r)` for writing `l` bytes: the entry is created, or (re)placed when it has no
    data yet; `put` additionally refuses (after the fact) lengths ≤ 0 and writes that do not fit -/
def specWrite (sp : List Ent) (base r : Nat) (l : Int) (put : Bool) : Out × List Ent :=
  match specGet sp (base, r) with
  | none =>
    if base = DFTAG_NULL then (.fail, sp)
    else if l < 0 then (.fail, sp ++ [(base, r, -1)])
    else ((if put then (if l ≤ 0 then .fail else .num l) else .ok), sp ++ [(base, r, l)])
  | some e =>
    if isSpecial e.1 then (.unsupported, sp)
    else if e.2.2 = -1 then
      (if l < 0 then (.fail, sp)
       else ((if put then (if l ≤ 0 then .fail else .num l) else .ok), specSet sp (base, r) l))
    else ((if put then (if l ≤ 0 ∨ l > e.2.2 then .fail else .num l) else .ok), sp)

def specStep (cfg : Cfg) (sp : List Ent) : Op → Out × List Ent
  | .put t r l => specWrite sp (baseTag t) r l true
  | .startwrite t r l => specWrite sp (baseTag t) r l false
  | .append _ _ _ => (.unsupported, sp)
  | .del t r =>
    if t = 0 ∨ r = 0 ∨ t = 1 then (.fail, sp)
    else match specGet sp (baseTag t, r) with
      | none => (.fail, sp)
      | some _ => (.ok, specDel sp (baseTag t, r))
  | .dup t r ot or' =>
    if ot = 0 ∨ ot = 1 ∨ or' = 0 then (.fail, sp)
    else match specGet sp (baseTag ot, or') with
      | none => (.fail, sp)
      | some eo =>
        if t = 0 ∨ t = 1 ∨ r = 0 then (.fail, sp)
        else match specGet sp (baseTag t, r) with
          | some _ => (.fail, sp)
          | none => (.ok, sp ++ [(t, r, eo.2.2)])
  | .reuse t r =>
    if t = 0 ∨ r = 0 ∨ t = 1 then (.fail, sp)
    else match specGet sp (baseTag t, r) with
      | none => (.fail, sp)
      | some _ => (.ok, specSet sp (baseTag t, r) (-1))
  | .inquire t r =>
    match specGet sp (baseTag t, r) with
    | none => (.fail, sp)
    | some e => ((if isSpecial e.1 then .unsupported else .dd ⟨e.1, e.2.1, 0, e.2.2⟩), sp)
  | .number t =>
    (.cnt (if t = 0 then (sp.filter (fun e => e.1 != DFTAG_FREE)).length
           else (sp.filter (fun e => e.1 == t || (mkSpecial t != DFTAG_NULL && e.1 == mkSpecial t))).length) false, sp)
  | .exist t r =>
    ((if t ≠ 0 ∧ r ≠ 0 then Out.ofBool (specGet sp (baseTag t, r)).isSome
      else Out.ofBool (sp.any (entMatch t r))), sp)
  | .newref => (.ok, sp)
  | .tagnewref _ => (.ok, sp)
  | .cache _ => (.ok, sp)
  | .sync => (.ok, sp)
  | .reopen => (.ok, sp)

/-- forget what the specification does not determine: offsets, the values of fresh refs, the out-of-bounds flag -/
def eraseOut : Op → Out → Out
  | .inquire _ _, .dd d => .dd { d with off := 0 }
  | .number _, .cnt n _ => .cnt n false
  | .newref, .num _ => .ok
  | .tagnewref _, .num _ => .ok
  | _, o => o

def runMap (cfg : Cfg) : List Ent → List Op → List Out × List Ent
  | sp, [] => ([], sp)
  | sp, op :: ops =>
    let r := specStep cfg sp op
    let rest := runMap cfg r.2 ops
    (r.1 :: rest.1, rest.2)

theorem absl_split_dead {pre post : List DD} {old : DD} (h : isLive old = false) :
    absl (pre ++ old :: post) = absl pre ++ absl post := by
  simp [absl, liveOf_split_dead h]
theorem absl_split_live {pre post : List DD} {d : DD} (h : isLive d = true) :
    absl (pre ++ d :: post) = absl pre ++ ent d :: absl post := by
  simp [absl, liveOf_split_live h]

theorem keys_of_split {pre post : List DD} {old : DD} (hn : KeysNodup (pre ++ old :: post)) (hl : isLive old = true) :
    (∀ e ∈ absl pre, entKey e ≠ keyOf old) ∧ (∀ e ∈ absl post, entKey e ≠ keyOf old) := by
  unfold KeysNodup at hn
  rw [liveOf_split_live hl] at hn
  simp only [List.map_append, List.map_cons] at hn
  have hperm : (List.map keyOf (liveOf pre) ++ keyOf old :: List.map keyOf (liveOf post)).Perm
      (keyOf old :: (List.map keyOf (liveOf pre) ++ List.map keyOf (liveOf post))) := List.perm_middle
  rw [hperm.nodup_iff, List.nodup_cons] at hn
  constructor
  · intro e he hk
    obtain ⟨d, hd, rfl⟩ := List.mem_map.mp he
    exact hn.1 (List.mem_append.mpr (Or.inl (List.mem_map.mpr ⟨d, hd, hk⟩)))
  · intro e he hk
    obtain ⟨d, hd, rfl⟩ := List.mem_map.mp he
    exact hn.1 (List.mem_append.mpr (Or.inr (List.mem_map.mpr ⟨d, hd, hk⟩)))

theorem map_id_of_ne {l : List Ent} {k : Nat × Nat} {len : Int} (h : ∀ e ∈ l, entKey e ≠ k) :
    l.map (fun e => if entKey e == k then (e.1, e.2.1, len) else e) = l :=
  map_noop l (fun e => (entKey e == k) = true) _ (fun e he => by simpa using h e he)

theorem filter_id_of_ne {l : List Ent} {k : Nat × Nat} (h : ∀ e ∈ l, entKey e ≠ k) :
    l.filter (fun e => !(entKey e == k)) = l := by
  rw [List.filter_eq_self]
  intro e he
  have := h e he
  simpa using this

theorem absl_update {pre post : List DD} {old new : DD} (hn : KeysNodup (pre ++ old :: post)) (hl : isLive old = true)
    (ht : new.tag = old.tag) (hr : new.ref = old.ref) :
    absl (pre ++ new :: post) = specSet (absl (pre ++ old :: post)) (keyOf old) new.len := by
  have hl' : isLive new = true := by rw [isLive_iff] at hl ⊢; rw [ht]; exact hl
  obtain ⟨k1, k2⟩ := keys_of_split hn hl
  rw [absl_split_live hl', absl_split_live hl]
  unfold specSet
  rw [List.map_append, List.map_cons, map_id_of_ne k1, map_id_of_ne k2]
  have : (entKey (ent old) == keyOf old) = true := by simp
  rw [this]
  simp [ent, ht, hr]

theorem absl_delete {pre post : List DD} {old : DD} (hn : KeysNodup (pre ++ old :: post)) (hl : isLive old = true) :
    absl (pre ++ { old with tag := DFTAG_NULL } :: post) = specDel (absl (pre ++ old :: post)) (keyOf old) := by
  have hd : isLive { old with tag := DFTAG_NULL } = false := by simp [isLive]
  obtain ⟨k1, k2⟩ := keys_of_split hn hl
  rw [absl_split_dead hd, absl_split_live hl]
  unfold specDel
  rw [List.filter_append, List.filter_cons, filter_id_of_ne k1, filter_id_of_ne k2]
  simp

theorem specGet_some {l : List DD} (hn : KeysNodup l) {d : DD} (hd : d ∈ liveOf l) :
    specGet (absl l) (keyOf d) = some (ent d) := by
  obtain ⟨hm, hl⟩ := mem_liveOf.mp hd
  obtain ⟨pre, post, rfl⟩ := List.append_of_mem hm
  obtain ⟨k1, _⟩ := keys_of_split hn hl
  rw [absl_split_live hl]
  unfold specGet
  rw [List.find?_append]
  have : (absl pre).find? (fun e => entKey e == keyOf d) = none := by
    rw [List.find?_eq_none]
    intro e he
    simpa using k1 e he
  rw [this]
  simp

theorem specGet_none {l : List DD} {k : Nat × Nat} (h : ∀ d ∈ liveOf l, keyOf d ≠ k) : specGet (absl l) k = none := by
  unfold specGet
  rw [List.find?_eq_none]
  intro e he
  obtain ⟨d, hd, rfl⟩ := List.mem_map.mp he
  simpa using h d hd

theorem specSet_append_new {sp : List Ent} {k : Nat × Nat} (hk : ∀ e ∈ sp, entKey e ≠ k) (e0 : Ent) (he : entKey e0 = k)
    (len : Int) : specSet (sp ++ [e0]) k len = sp ++ [(e0.1, e0.2.1, len)] := by
  unfold specSet
  rw [List.map_append, map_id_of_ne hk]
  simp [he]

theorem abs_mem_key {s : File} {e : Ent} (he : e ∈ s.abs) : ∃ d ∈ s.live, ent d = e := by
  obtain ⟨d, hd, rfl⟩ := List.mem_map.mp he
  exact ⟨d, hd, rfl⟩

theorem abs_keys_ne {s : File} {k : Nat × Nat} (h : ∀ d ∈ s.live, keyOf d ≠ k) : ∀ e ∈ s.abs, entKey e ≠ k := by
  intro e he
  obtain ⟨d, hd, rfl⟩ := abs_mem_key he
  exact h d hd

theorem Replaced.abs_set {cfg : Cfg} {s s' : File} {p : Pos} {d' : DD} (r : Replaced cfg s p d' s') (hw : WF s)
    (hl : isLive (getDD s.blocks p) = true) (ht : d'.tag = (getDD s.blocks p).tag) (hr : d'.ref = (getDD s.blocks p).ref) :
    s'.abs = specSet s.abs (keyOf (getDD s.blocks p)) d'.len := by
  obtain ⟨pre, post, e1, e2⟩ := r.slots
  unfold File.abs
  rw [e2, absl_update (e1 ▸ hw.wfl.nodup) hl ht hr, ← e1]

theorem Replaced.abs_del {cfg : Cfg} {s s' : File} {p : Pos} (r : Replaced cfg s p { getDD s.blocks p with tag := DFTAG_NULL } s')
    (hw : WF s) (hl : isLive (getDD s.blocks p) = true) : s'.abs = specDel s.abs (keyOf (getDD s.blocks p)) := by
  obtain ⟨pre, post, e1, e2⟩ := r.slots
  unfold File.abs
  rw [e2, absl_delete (e1 ▸ hw.wfl.nodup) hl, ← e1]

theorem Created.abs_perm {cfg : Cfg} {s s1 : File} {t r : Nat} {p : Pos} (c : Created cfg s t r p s1) :
    s1.abs.Perm (s.abs ++ [(t, r, -1)]) :=
  (c.live.map ent).trans (List.perm_append_singleton _ _).symm

theorem Created.abs_then_set {cfg : Cfg} {s s1 s2 : File} {t r : Nat} {p : Pos} {d' : DD} (c : Created cfg s t r p s1)
    (hfree : ∀ d ∈ s.live, keyOf d ≠ (baseTag t, r)) (rep : Replaced cfg s1 p d' s2) (ht : d'.tag = t) (hr : d'.ref = r) :
    s2.abs.Perm (s.abs ++ [(t, r, d'.len)]) := by
  have hl : isLive (getDD s1.blocks p) = true := by
    rw [c.get]; exact (mem_liveOf.mp (c.live.mem_iff.mpr (List.mem_cons_self ..))).2
  rw [rep.abs_set c.inv.wf hl (by rw [c.get]; exact ht) (by rw [c.get]; exact hr), c.get]
  have hp : (specSet s1.abs (baseTag t, r) d'.len).Perm (specSet (s.abs ++ [(t, r, -1)]) (baseTag t, r) d'.len) := c.abs_perm.map _
  rwa [specSet_append_new (abs_keys_ne hfree) (t, r, -1) rfl] at hp

end H4.DD
