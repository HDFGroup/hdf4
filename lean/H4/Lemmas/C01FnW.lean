import H4.Lemmas.C01FnModel
import H4.Lemmas.C2LLoop
/-! The translated `Hwrite` (`H4.Gen.Fn.Hfile2.Hwrite`): its zero-fill loop, the equations about pieces of the text (`Wr`), and the outcome of a
    plain write as the text computes it (`Wr.look_eval`: the record `plainOut` of `H4.Lemmas.C01FnModel`), set beside the model's in
    `Wr.look_refines_plain`. -/
namespace H4.Lemmas.C01Fn
open H4.Elem H4.Gen.Fn.Hfile2

/-- last value of the loop's local `n` -/
def lastN (g : Nat) (n0 : Int) : Int := if g = 0 then n0 else if g % 512 = 0 then 512 else ((g % 512 : Nat) : Int)

theorem loop0_body (fuel : Nat) (s : Hwrite.St) (hw : s.HP_write_ret ≠ -1) (hd : s.done = false) (ht : s.gto = false) :
    Hwrite.loop0.body fuel s =
      { s with n := (if s.gap > 512 then 512 else s.gap), calls := s.calls ++ [[5, (if s.gap > 512 then 512 else s.gap)]],
               file_rec_f_cur_off := s.file_rec_f_cur_off + (if s.gap > 512 then 512 else s.gap),
               gap := s.gap - (if s.gap > 512 then 512 else s.gap) } := by
  cases s
  simp only at hw hd ht
  subst hd ht
  simp [Hwrite.loop0.body, hw]

theorem loop0_isLoop : H4.C2L.IsLoop Hwrite.loop0 (fun s => s.gap > 0 ∧ ¬(s.done ∨ s.gto)) Hwrite.loop0.body (fun s => s) :=
  .of_eqs (fun _ => rfl) (fun _ _ => rfl)

theorem loop0_spec : ∀ (fuel g : Nat) (s : Hwrite.St), s.gap = g → s.HP_write_ret ≠ -1 → s.done = false → s.gto = false →
    (g + 511) / 512 ≤ fuel →
    Hwrite.loop0 fuel s = { s with gap := 0, n := lastN g s.n, calls := s.calls ++ zrows g, file_rec_f_cur_off := s.file_rec_f_cur_off + g } := by
  intro fuel g s hg hw hd ht hf
  -- a gap of `g` bytes takes `(g + 511) / 512` passes; a pass leaves the gap `g - 512`, or nothing
  refine loop0_isLoop.spec (fun g => (g + 511) / 512)
    (fun g s => s.gap = g ∧ s.HP_write_ret ≠ -1 ∧ s.done = false ∧ s.gto = false)
    (fun g s r => r = { s with gap := 0, n := lastN g s.n, calls := s.calls ++ zrows g, file_rec_f_cur_off := s.file_rec_f_cur_off + g })
    ?_ fuel g s hf ⟨hg, hw, hd, ht⟩
  clear hg hw hd ht hf s g fuel
  intro g s ⟨hg, hw, hd, ht⟩
  by_cases h0 : g = 0
  · subst h0
    refine .inl ⟨fun x => by omega, ?_⟩
    cases s; simp only at hg; subst hg; simp [lastN, zrows_zero]
  · refine .inr ⟨⟨by omega, by simp [hd, ht]⟩, fun f _ => ?_⟩
    rw [loop0_body f s hw hd ht]
    by_cases hb : 512 < g
    · have e : s.gap > 512 := by omega
      refine ⟨g - 512, by omega, ⟨by simp [e]; omega, hw, hd, ht⟩, fun r hr => ?_⟩
      rw [hr]
      simp [e, zrows_big g hb, lastN]
      refine ⟨by omega, ?_⟩
      have hm : (g - 512) % 512 = g % 512 := by omega
      rw [hm, if_neg h0]
      by_cases h5 : g - 512 = 0
      · have : g % 512 = 0 := by omega
        simp [h5, this]
      · simp [h5]
        omega
    · have e : ¬ (s.gap > 512) := by omega
      refine ⟨0, by omega, ⟨by simp [e], hw, hd, ht⟩, fun r hr => ?_⟩
      rw [hr]
      simp [e, zrows_small g (by omega) (by omega), lastN, zrows_zero, h0]
      refine ⟨hg, ?_, hg⟩
      split <;> omega

/-! The text of `Hwrite` from `HTPinquire` on, in three pieces, each ending in a call of the next, so that `Hwrite .. = look fuel _` is checked by
    walking both texts in step.  What comes before is not repeated: `Wr.before`, `Wr.entry_*`. -/

namespace Wr
def xfer (s : Hwrite.St) : Hwrite.St :=
  have s : Hwrite.St := if s.done ∨ s.gto then s else
    have s : Hwrite.St := Hwrite.chk s (s.access_rec_null = false)
    let c : Bool := decide (s.HPseek_ret = (- 1))
    let e0 : List (List Int) := (s.calls ++ [[3, (s.access_rec_posn + s.data_off)]])
    let e1 : Int := (if (s.HPseek_ret ≠ (- 1)) then ((s.access_rec_posn + s.data_off)) else s.file_rec_f_cur_off)
    have s : Hwrite.St := Hwrite.St.set_calls s (e0)
    have s : Hwrite.St := Hwrite.St.set_file_rec_f_cur_off s (e1)
    have s : Hwrite.St := if c = true then
        have s : Hwrite.St := Hwrite.St.set_ret_value s ((- 1))
        have s : Hwrite.St := Hwrite.St.set_gto s (true)
        s
      else
        s
    s
  have s : Hwrite.St := if s.done ∨ s.gto then s else
    let c : Bool := decide (s.HP_write_ret = (- 1))
    let e0 : List (List Int) := (s.calls ++ [[5, s.length]])
    let e1 : Int := (if (s.HP_write_ret ≠ (- 1)) then s.file_rec_f_cur_off + (s.length) else s.file_rec_f_cur_off)
    have s : Hwrite.St := Hwrite.St.set_calls s (e0)
    have s : Hwrite.St := Hwrite.St.set_file_rec_f_cur_off s (e1)
    have s : Hwrite.St := if c = true then
        have s : Hwrite.St := Hwrite.St.set_ret_value s ((- 1))
        have s : Hwrite.St := Hwrite.St.set_gto s (true)
        s
      else
        s
    s
  have s : Hwrite.St := if s.done ∨ s.gto then s else
    have s : Hwrite.St := Hwrite.chk s (s.file_rec_null = false)
    have s : Hwrite.St := if (s.file_rec_f_cur_off > s.file_rec_f_end_off) then
        have s : Hwrite.St := Hwrite.chk s (s.file_rec_null = false)
        have s : Hwrite.St := Hwrite.St.set_file_rec_f_end_off s (s.file_rec_f_cur_off)
        s
      else
        s
    s
  have s : Hwrite.St := if s.done ∨ s.gto then s else
    have s : Hwrite.St := Hwrite.chk s (s.access_rec_null = false)
    have s : Hwrite.St := Hwrite.St.set_access_rec_posn s ((s.access_rec_posn + s.length))
    s
  have s : Hwrite.St := if s.done ∨ s.gto then s else
    have s : Hwrite.St := Hwrite.St.set_ret_value s (s.length)
    s
  have s : Hwrite.St := if s.done then s else
    have s : Hwrite.St := Hwrite.St.set_gto s (false)
    have s : Hwrite.St := Hwrite.St.set_ret s (s.ret_value)
    have s : Hwrite.St := Hwrite.St.set_done s (true)
    s
  s

def grow (fuel : Nat) (s : Hwrite.St) : Hwrite.St :=
  have s : Hwrite.St := if s.done ∨ s.gto then s else
    have s : Hwrite.St := Hwrite.chk s (s.access_rec_null = false)
    have s : Hwrite.St := Hwrite.chk s (¬(s.access_rec_appendable ≠ 0) ∨ (s.access_rec_null = false))
    have s : Hwrite.St := if ((s.access_rec_appendable ≠ 0) ∧ ((s.length + s.access_rec_posn) > s.data_len)) then
        have s : Hwrite.St := Hwrite.chk s (s.file_rec_null = false)
        have s : Hwrite.St := if ((s.data_len + s.data_off) ≠ s.file_rec_f_end_off) then
            have s : Hwrite.St := Hwrite.chk s (s.access_rec_null = false)
            let c : Bool := decide (s.HLconvert_ret = (- 1))
            let e0 : List (List Int) := (s.calls ++ [[6, s.access_id, s.access_rec_block_size, s.access_rec_num_blocks]])
            have s : Hwrite.St := Hwrite.St.set_calls s (e0)
            have s : Hwrite.St := if c = true then
                have s : Hwrite.St := Hwrite.chk s (s.access_rec_null = false)
                have s : Hwrite.St := Hwrite.St.set_access_rec_appendable s (0)
                have s : Hwrite.St := Hwrite.St.set_ret_value s ((- 1))
                have s : Hwrite.St := Hwrite.St.set_gto s (true)
                s
              else
                s
            have s : Hwrite.St := if s.done ∨ s.gto then s else
              let c : Bool := decide (s.rewrite_ret = (- 1))
              let e0 : List (List Int) := (s.calls ++ [[9, s.access_id, s.length]])
              let e1 : Int := s.rewrite_ret
              have s : Hwrite.St := Hwrite.St.set_calls s (e0)
              have s : Hwrite.St := Hwrite.St.set_ret_value s (e1)
              have s : Hwrite.St := if c = true then
                  have s : Hwrite.St := Hwrite.St.set_ret_value s ((- 1))
                  have s : Hwrite.St := Hwrite.St.set_gto s (true)
                  s
                else
                  s
              s
            have s : Hwrite.St := if s.done ∨ s.gto then s else
              have s : Hwrite.St := Hwrite.St.set_gto s (true)
              s
            s
          else
            s
        have s : Hwrite.St := if s.done ∨ s.gto then s else
          have s : Hwrite.St := Hwrite.chk s (s.access_rec_null = false)
          have s : Hwrite.St := if (s.access_rec_posn > s.data_len) then
              have s : Hwrite.St := Hwrite.chk s (s.access_rec_null = false)
              have s : Hwrite.St := Hwrite.St.set_gap s ((s.access_rec_posn - s.data_len))
              have s : Hwrite.St := Hwrite.chk s ((0 : Int) ≤ 512)
              have s : Hwrite.St := Hwrite.chk s (0 ≤ 0 ∧ 0 + 512 ≤ s.zeros.length)
              have s : Hwrite.St := Hwrite.St.set_zeros s ((s.zeros.take (Int.toNat (0))) ++ (List.replicate (Int.toNat (512)) ((0) % 256)) ++ (s.zeros.drop (Int.toNat (0 + 512))))
              let c : Bool := decide (s.HPseek_ret = (- 1))
              let e0 : List (List Int) := (s.calls ++ [[3, (s.data_off + s.data_len)]])
              let e1 : Int := (if (s.HPseek_ret ≠ (- 1)) then ((s.data_off + s.data_len)) else s.file_rec_f_cur_off)
              have s : Hwrite.St := Hwrite.St.set_calls s (e0)
              have s : Hwrite.St := Hwrite.St.set_file_rec_f_cur_off s (e1)
              have s : Hwrite.St := if c = true then
                  have s : Hwrite.St := Hwrite.St.set_ret_value s ((- 1))
                  have s : Hwrite.St := Hwrite.St.set_gto s (true)
                  s
                else
                  s
              have s : Hwrite.St := if s.done ∨ s.gto then s else
                have s : Hwrite.St := Hwrite.loop0 fuel s
                s
              s
            else
              s
          s
        have s : Hwrite.St := if s.done ∨ s.gto then s else
          have s : Hwrite.St := Hwrite.chk s (s.access_rec_null = false)
          let c : Bool := decide (s.HTPupdate_ret = (- 1))
          let e0 : List (List Int) := (s.calls ++ [[2, s.access_rec_ddid, (- 2), (s.access_rec_posn + s.length)]])
          let e1 : Int := (if (s.HTPupdate_ret ≠ (- 1)) then (if ((- 2)) = -2 then s.dd_off else ((- 2))) else s.dd_off)
          let e2 : Int := (if (s.HTPupdate_ret ≠ (- 1)) then (if ((s.access_rec_posn + s.length)) = -2 then s.dd_len else ((s.access_rec_posn + s.length))) else s.dd_len)
          let e3 : Int := (if (s.HTPupdate_ret ≠ (- 1)) then (if (if ((- 2)) = -2 then s.dd_off else ((- 2))) ≠ -1 ∧ (if ((s.access_rec_posn + s.length)) = -2 then s.dd_len else ((s.access_rec_posn + s.length))) ≠ -1 ∧ (if ((- 2)) = -2 then s.dd_off else ((- 2))) + (if ((s.access_rec_posn + s.length)) = -2 then s.dd_len else ((s.access_rec_posn + s.length))) > s.file_rec_f_end_off then (if ((- 2)) = -2 then s.dd_off else ((- 2))) + (if ((s.access_rec_posn + s.length)) = -2 then s.dd_len else ((s.access_rec_posn + s.length))) else s.file_rec_f_end_off) else s.file_rec_f_end_off)
          have s : Hwrite.St := Hwrite.St.set_calls s (e0)
          have s : Hwrite.St := Hwrite.St.set_dd_off s (e1)
          have s : Hwrite.St := Hwrite.St.set_dd_len s (e2)
          have s : Hwrite.St := Hwrite.St.set_file_rec_f_end_off s (e3)
          have s : Hwrite.St := if c = true then
              have s : Hwrite.St := Hwrite.St.set_ret_value s ((- 1))
              have s : Hwrite.St := Hwrite.St.set_gto s (true)
              s
            else
              s
          s
        s
      else
        s
    s
  xfer s

def look (fuel : Nat) (s : Hwrite.St) : Hwrite.St :=
  have s : Hwrite.St := if s.done ∨ s.gto then s else
    have s : Hwrite.St := Hwrite.chk s (s.access_rec_null = false)
    let c : Bool := decide (s.HTPinquire_ret = (- 1))
    let e0 : List (List Int) := (s.calls ++ [[1, s.access_rec_ddid]])
    let e1 : Int := (if (s.HTPinquire_ret ≠ (- 1)) then s.dd_off else s.data_off)
    let e2 : Int := (if (s.HTPinquire_ret ≠ (- 1)) then s.dd_len else s.data_len)
    have s : Hwrite.St := Hwrite.St.set_calls s (e0)
    have s : Hwrite.St := Hwrite.St.set_data_off s (e1)
    have s : Hwrite.St := Hwrite.St.set_data_len s (e2)
    have s : Hwrite.St := if c = true then
        have s : Hwrite.St := Hwrite.St.set_ret_value s ((- 1))
        have s : Hwrite.St := Hwrite.St.set_gto s (true)
        s
      else
        s
    s
  have s : Hwrite.St := if s.done ∨ s.gto then s else
    have s : Hwrite.St := Hwrite.chk s (¬((s.length > 0) ∧ (s.data_off ≥ 0)) ∨ (s.access_rec_null = false))
    have s : Hwrite.St := if (((s.length > 0) ∧ (s.data_off ≥ 0)) ∧ (s.length > (((2147483647 - 1) - s.data_off) - s.access_rec_posn))) then
        have s : Hwrite.St := Hwrite.St.set_ret_value s ((- 1))
        have s : Hwrite.St := Hwrite.St.set_gto s (true)
        s
      else
        s
    s
  have s : Hwrite.St := if s.done ∨ s.gto then s else
    have s : Hwrite.St := Hwrite.chk s ((s.length ≤ 0) ∨ (s.access_rec_null = false))
    have s : Hwrite.St := Hwrite.chk s ((s.length ≤ 0) ∨ (¬(¬(s.access_rec_appendable ≠ 0)) ∨ (s.access_rec_null = false)))
    have s : Hwrite.St := if ((s.length ≤ 0) ∨ ((¬(s.access_rec_appendable ≠ 0)) ∧ ((s.length + s.access_rec_posn) > s.data_len))) then
        have s : Hwrite.St := Hwrite.St.set_ret_value s ((- 1))
        have s : Hwrite.St := Hwrite.St.set_gto s (true)
        s
      else
        s
    s
  grow fuel s

/-- the state in which `look` starts (the text of `Hwrite` before `look`, run on these arguments), with the equation `Hwrite .. = look fuel _` -/
def before (fuel : Nat) (aid n : Int) (dnull anull : Bool) (acc spec : Int) (fnull : Bool) (refc ne ddid inq : Int) (calls : List (List Int))
    (tag ref off len blk eoff upd app posn conv bsz nb rew seekr cur wrr : Int) :
    { H : Hwrite.St // Hwrite fuel aid n dnull anull acc spec fnull refc ne ddid inq calls tag ref off len blk eoff upd app posn conv bsz nb rew
        seekr cur wrr = look fuel H } := ⟨_, rfl⟩

def init (aid n acc spec refc ne ddid inq tag ref off len blk eoff upd app posn conv bsz nb rew seekr cur wrr : Int)
    (dnull anull fnull : Bool) (calls : List (List Int)) : Hwrite.St :=
  { access_id := aid, length := n, data_null := dnull, access_rec_null := anull, access_rec_access := acc, access_rec_special := spec,
    file_rec_null := fnull, file_rec_refcount := refc, access_rec_new_elem := ne, access_rec_ddid := ddid, HTPinquire_ret := inq,
    calls := calls, dd_tag := tag, dd_ref := ref, dd_off := off, dd_len := len, HPgetdiskblock_ret := blk, file_rec_f_end_off := eoff,
    HTPupdate_ret := upd, access_rec_appendable := app, access_rec_posn := posn, HLconvert_ret := conv, access_rec_block_size := bsz,
    access_rec_num_blocks := nb, rewrite_ret := rew, HPseek_ret := seekr, file_rec_f_cur_off := cur, HP_write_ret := wrr,
    zeros := List.replicate 512 0 }

/-- what the theorems about `Hwrite` compare -/
structure Obs where
  ub : Bool
  oof : Bool
  out : PlainOut
  new_elem : Int
  dd_off : Int
  calls : List (List Int)

def obs (s : Hwrite.St) : Obs :=
  ⟨s.ub, s.oof, ⟨s.ret, s.access_rec_posn, s.access_rec_appendable, s.dd_len, s.file_rec_f_end_off⟩, s.access_rec_new_elem, s.dd_off, s.calls⟩

section
variable (fuel : Nat) (s : Hwrite.St) (hd : s.done = false)
include hd

theorem xfer_skip (hg : s.gto = true) : xfer s = { s with gto := false, ret := s.ret_value, done := true } := by
  cases s; simp_all [xfer]

theorem grow_skip (hg : s.gto = true) : grow fuel s = { s with gto := false, ret := s.ret_value, done := true } := by
  rw [← xfer_skip s hd hg]; cases s; simp_all [grow]

theorem look_skip (hg : s.gto = true) : look fuel s = { s with gto := false, ret := s.ret_value, done := true } := by
  rw [← grow_skip fuel s hd hg]; cases s; simp_all [look]

variable (hg : s.gto = false) (hn : s.access_rec_null = false)
include hg hn

theorem xfer_eq (hf : s.file_rec_null = false) (hk : s.HPseek_ret = 0) (hw : s.HP_write_ret = 0) :
    xfer s = { s with calls := s.calls ++ [[cSEEK, s.access_rec_posn + s.data_off], [cWRITE, s.length]],
                      file_rec_f_cur_off := s.access_rec_posn + s.data_off + s.length,
                      file_rec_f_end_off := max s.file_rec_f_end_off (s.access_rec_posn + s.data_off + s.length),
                      access_rec_posn := s.access_rec_posn + s.length, ret_value := s.length, ret := s.length, done := true } := by
  by_cases h : s.file_rec_f_end_off < s.access_rec_posn + s.data_off + s.length <;> cases s <;>
    simp only at hd hg hn hf hk hw h <;> subst hd hg hn hf hk hw <;> simp [xfer, Hwrite.chk, cSEEK, cWRITE, h] <;> omega

theorem grow_none (h : ¬ (s.access_rec_appendable ≠ 0 ∧ s.length + s.access_rec_posn > s.data_len)) : grow fuel s = xfer s := by
  cases s; simp only at hd hg hn h; subst hd hg hn; simp [grow, Hwrite.chk, h]

theorem grow_promoted (hf : s.file_rec_null = false) (ha : s.access_rec_appendable ≠ 0) (hb : s.length + s.access_rec_posn > s.data_len)
    (he : s.data_len + s.data_off ≠ s.file_rec_f_end_off) :
    grow fuel s = { s with calls := s.calls ++ [[cCONV, s.access_id, s.access_rec_block_size, s.access_rec_num_blocks]] ++
                                      (if s.HLconvert_ret = -1 then [] else [[cREWRITE, s.access_id, s.length]]),
                           access_rec_appendable := if s.HLconvert_ret = -1 then 0 else s.access_rec_appendable,
                           ret_value := if s.HLconvert_ret = -1 then -1 else s.rewrite_ret,
                           ret := if s.HLconvert_ret = -1 then -1 else s.rewrite_ret, done := true } := by
  by_cases hc : s.HLconvert_ret = -1 <;> by_cases hr : s.rewrite_ret = -1 <;> cases s <;>
    simp only at hd hg hn hf ha hb he hc hr <;> subst hd hg hn hf <;> simp [grow, xfer, Hwrite.chk, cCONV, cREWRITE, ha, hb, he, hc, hr]

/-- about `obs`, not about the state: the locals `gap`, `n` and the zero buffer end up depending on the gap (`lastN`) -/
theorem grow_inplace (hf : s.file_rec_null = false) (ha : s.access_rec_appendable ≠ 0) (hb : s.length + s.access_rec_posn > s.data_len)
    (he : s.data_len + s.data_off = s.file_rec_f_end_off) (hl : 0 ≤ s.data_len) (ho : 0 ≤ s.data_off)
    (hdo : s.dd_off = s.data_off) (hk : s.HPseek_ret = 0) (hw : s.HP_write_ret = 0) (hu : s.HTPupdate_ret = 0)
    (hz : 512 ≤ s.zeros.length) (hfu : ((s.access_rec_posn - s.data_len).toNat + 511) / 512 ≤ fuel) :
    obs (grow fuel s) =
      ⟨s.ub, s.oof, ⟨s.length, s.access_rec_posn + s.length, s.access_rec_appendable, s.access_rec_posn + s.length, s.data_off + (s.access_rec_posn + s.length)⟩,
       s.access_rec_new_elem, s.dd_off,
       s.calls ++ (if s.access_rec_posn > s.data_len then
                     [cSEEK, s.data_off + s.data_len] :: zrows (s.access_rec_posn - s.data_len).toNat else []) ++
         [[cUPD, s.access_rec_ddid, -2, s.access_rec_posn + s.length], [cSEEK, s.access_rec_posn + s.data_off], [cWRITE, s.length]]⟩ := by
  by_cases hp : s.access_rec_posn > s.data_len
  · have hloop : ∀ t : Hwrite.St, t.gap = s.access_rec_posn - s.data_len → t.HP_write_ret = 0 → t.done = false → t.gto = false →
        Hwrite.loop0 fuel t = { t with gap := 0, n := lastN (s.access_rec_posn - s.data_len).toNat t.n,
                                       calls := t.calls ++ zrows (s.access_rec_posn - s.data_len).toNat,
                                       file_rec_f_cur_off := t.file_rec_f_cur_off + ((s.access_rec_posn - s.data_len).toNat : Nat) } :=
      fun t h h2 h3 h4 => loop0_spec fuel _ t (by rw [h]; omega) (by rw [h2]; decide) h3 h4 hfu
    cases s
    simp only at hd hg hn hf ha hb he hl ho hdo hk hw hu hz hp hloop
    subst hd hg hn hf hdo hk hw hu
    simp [grow, Hwrite.chk, xfer_eq, obs, cSEEK, cUPD, cWRITE, ha, hb, he, hp, hz, hloop, -List.reduceReplicate]
    omega
  · cases s
    simp only at hd hg hn hf ha hb he hl ho hdo hk hw hu hz hp
    subst hd hg hn hf hdo hk hw hu
    simp [grow, Hwrite.chk, xfer_eq, obs, cSEEK, cUPD, cWRITE, ha, hb, he, hp]
    omega

/-- the write is refused after `HTPinquire`: it would end beyond offset 2^31-2 of the file (c61e7e0), or it is empty, or it ends beyond an
    element that cannot grow -/
def refused (n off len posn app : Int) : Prop :=
  ((0 < n ∧ 0 ≤ off) ∧ 2147483646 - off - posn < n) ∨ n ≤ 0 ∨ (app = 0 ∧ len < n + posn)

omit hd hg hn in
/-- below the range test it is the first case of `plainOut` -/
theorem refused_iff {n o l posn : Nat} {app : Bool} (hfit : (n : Int) + o + posn ≤ 2147483646) :
    refused n o l posn (b2i app) ↔ n = 0 ∨ (app = false ∧ n + posn > l) := by
  unfold refused; rw [b2i_eq_zero]
  constructor
  · rintro (h | h | ⟨h, h'⟩)
    · omega
    · exact .inl (by omega)
    · exact .inr ⟨h, by omega⟩
  · rintro (h | ⟨h, h'⟩)
    · exact .inr (.inl (by omega))
    · exact .inr (.inr ⟨h, by omega⟩)

theorem look_pass (hi : s.HTPinquire_ret = 0) (h : ¬ refused s.length s.dd_off s.dd_len s.access_rec_posn s.access_rec_appendable) :
    look fuel s = grow fuel { s with calls := s.calls ++ [[cINQ, s.access_rec_ddid]], data_off := s.dd_off, data_len := s.dd_len } := by
  have h1 : ¬ ((0 < s.length ∧ 0 ≤ s.dd_off) ∧ 2147483646 - s.dd_off - s.access_rec_posn < s.length) := fun x => h (.inl x)
  have h2 : ¬ (s.length ≤ 0 ∨ (s.access_rec_appendable = 0 ∧ s.dd_len < s.length + s.access_rec_posn)) := fun x => h (.inr x)
  cases s
  simp only at hd hg hn hi h1 h2
  subst hd hg hn hi
  simp [look, Hwrite.chk, cINQ, h1, h2]

end
section
variable (fuel : Nat) (aid n refc ddid tag ref off len blk eoff upd app posn conv bsz nb rew seekr cur wrr : Int) (acc : Nat)
  (calls : List (List Int))

/-- the state in which `look` starts on an ordinary record with write access: `init` after the entry tests and `HIrefresh_new`
    (`new_elem` is 0); `calls` is the log so far -/
def ready (aid n acc refc ddid tag ref off len blk eoff upd app posn conv bsz nb rew seekr cur wrr : Int) (calls : List (List Int)) : Hwrite.St :=
  init aid n acc 0 refc 0 ddid 0 tag ref off len blk eoff upd app posn conv bsz nb rew seekr cur wrr false false false calls

theorem entry_old (hbit : ¬ (acc &&& 2 = 0)) (hr : refc ≠ 0) (ne : Bool) (ho : off ≠ -1) :
    Hwrite fuel aid n false false acc 0 false refc (b2i ne) ddid 0 calls tag ref off len blk eoff upd app posn conv bsz nb rew seekr cur wrr =
      look fuel (ready aid n acc refc ddid tag ref off len blk eoff upd app posn conv bsz nb rew seekr cur wrr
        (calls ++ if ne then [[cINQ, ddid]] else [])) := by
  rw [(before ..).2]
  congr 1
  have hx : ¬ (off = -1 ∧ len = -1) := fun x => ho x.1
  cases ne <;> simp [before, ready, init, Hwrite.chk, Hwrite.St.join, HIrefresh_new_eq, cINQ, b2i, hbit, hr, hx, ↓reduceIte, -List.reduceReplicate]

-- `ne`, `off`, `len`, `blk` are variables with equations, so that the equation applies to the caller's `b2i a.newElem`, `ddOff d`, `ddLen d`, `f.endOff`
theorem entry_new (ne off len blk : Int) (hbit : ¬ (acc &&& 2 = 0)) (hr : refc ≠ 0) (hne : ne = 1) (ho : off = -1) (hl : len = -1)
    (hb : blk = eoff) (he : 0 ≤ eoff) (hlen : 0 ≤ n) :
    Hwrite fuel aid n false false acc 0 false refc ne ddid 0 calls tag ref off len blk eoff 0 app posn conv bsz nb rew seekr cur wrr =
      look fuel (ready aid n acc refc ddid tag ref eoff n blk (eoff + n) 0 1 posn conv bsz nb rew seekr cur wrr
        (calls ++ [[cINQ, ddid], [cINQ, ddid], [cBLOCK, n, 0], [cUPD, ddid, eoff, n]])) := by
  subst hne ho hl hb
  rw [(before ..).2]
  congr 1
  simp [before, ready, init, Hwrite.chk, Hwrite.St.join, HIrefresh_new_eq, cINQ, hbit, hr, ↓reduceIte, -List.reduceReplicate,
    fun aid ddid tag ref calls => Hsetlength_new fuel aid _ ddid tag ref _ _ acc calls hbit hr he hlen]

theorem entry_denied (dnull fnull : Bool) (spec ne inq : Int) (hbit : acc &&& 2 = 0) :
    Hwrite fuel aid n dnull false acc spec fnull refc ne ddid inq calls tag ref off len blk eoff upd app posn conv bsz nb rew seekr cur wrr =
      { init aid n acc spec refc ne ddid inq tag ref off len blk eoff upd app posn conv bsz nb rew seekr cur wrr dnull false fnull calls with
        ret_value := -1, ret := -1, done := true } := by
  rw [(before ..).2, look_skip _ _ (by simp [before, Hwrite.chk, hbit, -List.reduceReplicate]) (by simp [before, Hwrite.chk, hbit, -List.reduceReplicate])]
  simp [before, init, Hwrite.chk, hbit, -List.reduceReplicate]

end

theorem look_refused (fuel : Nat) (aid n acc refc ddid tag ref off len blk eoff upd app posn conv bsz nb rew seekr cur wrr : Int)
    (calls : List (List Int)) (h : refused n off len posn app) :
    look fuel (ready aid n acc refc ddid tag ref off len blk eoff upd app posn conv bsz nb rew seekr cur wrr calls) =
      { ready aid n acc refc ddid tag ref off len blk eoff upd app posn conv bsz nb rew seekr cur wrr calls with
        calls := calls ++ [[cINQ, ddid]], data_off := off, data_len := len, ret_value := -1, ret := -1, done := true } := by
  by_cases h1 : (0 < n ∧ 0 ≤ off) ∧ 2147483646 - off - posn < n
  · simp [look, grow_skip, ready, init, Hwrite.chk, cINQ, h1, -List.reduceReplicate]
  · have h2 : n ≤ 0 ∨ (app = 0 ∧ len < n + posn) := h.resolve_left h1
    simp [look, grow_skip, ready, init, Hwrite.chk, cINQ, h1, h2, -List.reduceReplicate]

/-- **the translated `Hwrite` after its entry tests computes `plainOut` and makes the calls `plainRows`**, where the layer below succeeds, the
    C text's own range test (c61e7e0) does not fire (`hfit`) and the fuel covers the zero fill (one pass per 512 bytes of a gap, which is
    at most `posn`).  `app` is the flag (a new element has just been made appendable), `calls` the log so far. -/
theorem look_eval (fuel : Nat) (aid acc refc ddid tag ref blk conv bsz nb rew cur : Int) (calls : List (List Int)) (posn : Nat) (app : Bool)
    (o l e n : Nat) (hfit : (n : Int) + o + posn ≤ 2147483646) (hfu : (posn + 511) / 512 ≤ fuel) :
    obs (look fuel (ready aid n acc refc ddid tag ref o l blk e 0 (b2i app) posn conv bsz nb rew 0 cur 0 calls)) =
      ⟨false, false, plainOut conv rew posn app o l e n, 0, o, calls ++ [[cINQ, ddid]] ++ plainRows aid ddid conv bsz nb posn app o l e n⟩ := by
  by_cases hr : n = 0 ∨ (app = false ∧ n + posn > l)
  · rw [look_refused (h := (refused_iff hfit).mpr hr)]
    simp only [obs, ready, init, plainOut, plainRows, if_pos hr, List.append_nil]
  · rw [look_pass fuel _ (by rfl) (by rfl) (by rfl) (by rfl) (by exact mt (refused_iff hfit).mp hr)]
    by_cases hb : app = true ∧ n + posn > l
    · have ha : b2i app ≠ 0 := (b2i_ne_zero app).mpr hb.1
      have hlt : (n : Int) + posn > l := by omega
      by_cases hE : l + o = e
      · rw [grow_inplace fuel _ (by rfl) (by rfl) (by rfl) (by rfl) (by exact ha) (by exact hlt)
          (by show (l : Int) + o = e; omega) (by show (0 : Int) ≤ l; omega) (by show (0 : Int) ≤ o; omega) (by rfl) (by rfl) (by rfl) (by rfl)
          (by exact Nat.le_of_eq List.length_replicate.symm) (by show ((((posn : Int) - l).toNat + 511) / 512 ≤ fuel); omega)]
        have hp : ¬ (app = true ∧ n + posn > l ∧ l + o ≠ e) := fun x => x.2.2 hE
        have hJ : ((posn : Int) > l) = (posn > l) := propext ⟨fun h => by omega, fun h => by omega⟩
        have hM : (o : Int) + ((posn : Int) + n) = ((max e (o + posn + n) : Nat) : Int) := by omega
        simp only [ready, init, plainOut, plainRows, if_neg hr, if_neg hp, hJ, hM]
        by_cases hgap : posn > l <;> simp [hb, hgap, cSEEK, cUPD, cWRITE]
      · rw [grow_promoted fuel _ (by rfl) (by rfl) (by rfl) (by rfl) (by exact ha) (by exact hlt) (by show (l : Int) + o ≠ e; omega)]
        simp only [obs, ready, init, plainOut, plainRows, if_neg hr, if_pos (show app = true ∧ n + posn > l ∧ l + o ≠ e from ⟨hb.1, hb.2, hE⟩),
          List.append_assoc, List.cons_append, List.nil_append]
        rfl
    · have hp : ¬ (app = true ∧ n + posn > l ∧ l + o ≠ e) := fun x => hb ⟨x.1, x.2.1⟩
      have hM : max (e : Int) (posn + o + n) = ((max e (o + posn + n) : Nat) : Int) := by omega
      rw [grow_none fuel _ (by rfl) (by rfl) (by rfl) (by
          show ¬ (b2i app ≠ 0 ∧ (n : Int) + posn > l)
          rintro ⟨x, y⟩; exact hb ⟨(b2i_ne_zero app).mp x, by omega⟩),
        xfer_eq _ (by rfl) (by rfl) (by rfl) (by rfl) (by rfl) (by rfl)]
      simp only [obs, ready, init, plainOut, plainRows, if_neg hr, if_neg hp, if_neg hb, hM]
      simp [cSEEK, cWRITE]
      exact fun x y => absurd ⟨x, y⟩ hb
/-- **after the entry the C text refines the model's plain write**: `Wr.look` on `Wr.ready` (log `pre` so far) against `hwritePlain` on the record
    `a` with `appendable = app`, the element being `(o, l)` in the file `f'`; both compute `plainOut` -/
theorem look_refines_plain (w : World) (h : Nat) (a : Acc) (bs : Bytes) (fuel : Nat) (aid acc refc ddid tag ref blk conv rew cur : Int)
    (app : Bool) (f' : File) (o l : Nat) (pre : List (List Int)) (s : Hwrite.St) (r : World × Res)
    (hs : s = look fuel (ready aid bs.length acc refc ddid tag ref o l blk f'.endOff 0 (b2i app) a.posn conv a.blockSize a.numBlocks rew 0 cur 0 pre))
    (hr : r = hwritePlain w h { a with newElem := false, appendable := app } f' bs) (hrew : rew = resCode r.2)
    (hfi : a.file < w.files.length) (hfuel : (a.posn + 511) / 512 ≤ fuel) (he : (f'.dd a.slot).ext = some (o, l)) (hsl : a.slot < f'.mem.length)
    (hconv : conv = -1 ↔ f'.writable = false) (hfit : (bs.length : Int) + o + a.posn ≤ 2147483646) :
    s.ub = false ∧ s.oof = false ∧ s.ret = resCode r.2 ∧
    ((∃ c ∈ s.calls, c.head? = some cREWRITE) ∨
      (accView r.1 h = some (s.access_rec_posn, s.access_rec_appendable, s.access_rec_new_elem) ∧
       ddView (r.1.file a.file) a.slot = (s.dd_off, s.dd_len, s.file_rec_f_end_off))) ∧
    s.calls = pre ++ [[cINQ, ddid]] ++ plainCalls aid ddid conv a app o l f'.endOff bs.length := by
  have hO := congrArg obs hs
  rw [look_eval fuel aid acc refc ddid tag ref blk conv a.blockSize a.numBlocks rew cur pre a.posn app o l f'.endOff bs.length hfit hfuel] at hO
  obtain ⟨m1, m2⟩ := plain_eval w h { a with newElem := false, appendable := app } f' bs o l he hfi hsl aid ddid conv rew hconv (by rw [hrew, hr])
  rw [← hr] at m1 m2
  simp only [obs, Obs.mk.injEq] at hO
  obtain ⟨hub, hoof, hout, hne, hoff, hcalls⟩ := hO
  rw [← hout] at m1 m2
  refine ⟨hub, hoof, m1.symm, ?_, hcalls⟩
  rcases m2 with ⟨c, hc, hh⟩ | m2
  · exact .inl ⟨c, by rw [hcalls]; exact List.mem_append_right _ hc, hh⟩
  · exact .inr (by rw [hne, hoff]; exact m2)
end Wr

end H4.Lemmas.C01Fn
