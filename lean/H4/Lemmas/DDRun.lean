import H4.Lemmas.DDRefine2
/-! # Histories: the step guard, one step refines the specification, and the specification respects permutation -/
namespace H4.DD
open H4.Gen.Hdf

/-- what must hold of the state for one call to behave as the specification says.
    Three kinds of conjuncts: API preconditions (tags/refs are 16-bit and not wildcards where the call creates or looks up
    a single element); and, per defect, the configurations in which the code AS IT IS goes wrong
    (F3: new DD block while caching is off; F4: delete while caching is off; F17: `Hdupdd` onto a tag/ref in use).
    For `Cfg.fixed` only the API preconditions remain (`guard_fixed`). -/
def guard (cfg : Cfg) (s : File) : Op → Bool
  | .put t r _ => baseTag t != 0 && r != 0 && decide (t < 65536) && decide (r < 65536) && guardF3 cfg s
  | .startwrite t r _ => baseTag t != 0 && r != 0 && decide (t < 65536) && decide (r < 65536) && guardF3 cfg s
  | .append _ _ _ => false
  | .del _ _ => guardF4 cfg s
  | .dup t r _ _ => decide (t < 65536) && decide (r < 65536) && guardF3 cfg s && (cfg.fixF17 || (htpSelect s t r).isNone)
  | .inquire t r => baseTag t != 0 && r != 0
  | .number t => t != 1
  | .exist t r => !(t == 1 && r == 0)
  | _ => true

/-- the API preconditions, and no `append`, no `Hnumber(DFTAG_NULL)`, no `Hexist(DFTAG_NULL, wildcard)` -/
def dom : Op → Bool
  | .put t r _ => baseTag t != 0 && r != 0 && decide (t < 65536) && decide (r < 65536)
  | .startwrite t r _ => baseTag t != 0 && r != 0 && decide (t < 65536) && decide (r < 65536)
  | .append _ _ _ => false
  | .dup t r _ _ => decide (t < 65536) && decide (r < 65536)
  | .inquire t r => baseTag t != 0 && r != 0
  | .number t => t != 1
  | .exist t r => !(t == 1 && r == 0)
  | _ => true

theorem guard_fixed (s : File) (op : Op) : guard Cfg.fixed s op = dom op := by
  cases op <;> simp [guard, dom, guardF3, guardF4, Cfg.fixed]

def guarded (cfg : Cfg) : File → List Op → Bool
  | _, [] => true
  | s, op :: ops => guard cfg s op && (match (step cfg s op).2 with
    | none => true
    | some s' => guarded cfg s' ops)

theorem guarded_of_dom : ∀ (ops : List Op) (s : File), (∀ op ∈ ops, dom op = true) → guarded Cfg.fixed s ops = true := by
  intro ops
  induction ops with
  | nil => intro s _; rfl
  | cons op ops ih =>
    intro s h
    simp only [guarded, Bool.and_eq_true]
    refine ⟨by rw [guard_fixed]; exact h op (by simp), ?_⟩
    cases (step Cfg.fixed s op).2 with
    | none => rfl
    | some s' => exact ih s' (fun o ho => h o (by simp [ho]))

theorem run_cons_some {cfg : Cfg} {s s1 : File} {op : Op} (h : (step cfg s op).2 = some s1) (ops : List Op) :
    run cfg s (op :: ops) = ((step cfg s op).1 :: (run cfg s1 ops).1, (run cfg s1 ops).2) := by
  show (match step cfg s op with
    | (o, none) => ([o], none)
    | (o, some s') => (o :: (run cfg s' ops).1, (run cfg s' ops).2)) = _
  rw [show step cfg s op = ((step cfg s op).1, some s1) by rw [← h]]

theorem step_refines (cfg : Cfg) {s : File} (h : Inv cfg s) (op : Op) (hg : guard cfg s op = true) : Refines cfg s op := by
  cases op with
  | put t r l =>
    simp only [guard, Bool.and_eq_true, bne_iff_ne, ne_eq, decide_eq_true_eq] at hg
    exact .of rfl rfl (write_refines cfg true h hg.1.1.1.1 hg.1.1.1.2 hg.1.1.2 hg.1.2 hg.2)
  | startwrite t r l =>
    simp only [guard, Bool.and_eq_true, bne_iff_ne, ne_eq, decide_eq_true_eq] at hg
    exact .of rfl rfl (write_refines cfg false h hg.1.1.1.1 hg.1.1.1.2 hg.1.1.2 hg.1.2 hg.2)
  | append t r n => simp [guard] at hg
  | del t r => exact del_refines cfg h t r (by simpa [guard] using hg)
  | dup t r ot or' =>
    simp only [guard, Bool.and_eq_true, decide_eq_true_eq, Bool.or_eq_true] at hg
    exact dup_refines cfg h t r ot or' hg.1.1.1 hg.1.1.2 hg.1.2 hg.2
  | reuse t r => exact reuse_refines cfg h t r
  | inquire t r =>
    simp only [guard, Bool.and_eq_true, bne_iff_ne, ne_eq] at hg
    exact inquire_refines cfg h t r hg.1 hg.2
  | number t =>
    simp only [guard, bne_iff_ne, ne_eq] at hg
    exact ⟨s, rfl, h, number_refines cfg s hg, by simp [specStep]⟩
  | exist t r =>
    simp only [guard, Bool.not_eq_true', Bool.and_eq_false_imp, beq_iff_eq, beq_eq_false_iff_ne] at hg
    exact exist_refines cfg h t r (fun hh => hg hh.1 hh.2)
  | newref => exact .of_slots rfl (newref_inv cfg h) rfl rfl
  | tagnewref t => exact .of_slots rfl (tagnewref_inv cfg h t) rfl rfl
  | cache on => exact .of_slots rfl (hcache_inv cfg h on) rfl rfl
  | sync => exact .of_slots rfl (hiSync_inv cfg h) rfl rfl
  | reopen =>
    obtain ⟨s', hs', hi, hp, _⟩ := hreopen_inv cfg h
    refine ⟨s', by simp [step, hs'], hi, by simp [step, hs', specStep, eraseOut], by simpa [specStep] using hp⟩

theorem specGet_mem {sp : List Ent} {k : Nat × Nat} {e : Ent} (h : specGet sp k = some e) : e ∈ sp ∧ entKey e = k := by
  unfold specGet at h
  exact ⟨List.mem_of_find?_eq_some h, by simpa using List.find?_some h⟩

theorem specGet_perm {sp sp' : List Ent} (hp : sp.Perm sp') (hn : (sp.map entKey).Nodup) (k : Nat × Nat) :
    specGet sp k = specGet sp' k := by
  cases h1 : specGet sp k with
  | none =>
    have : ∀ e ∈ sp, ¬ (entKey e == k) = true := by
      unfold specGet at h1; rw [List.find?_eq_none] at h1; exact h1
    symm; unfold specGet; rw [List.find?_eq_none]
    intro e he; exact this e (hp.mem_iff.mpr he)
  | some e =>
    obtain ⟨he, hk⟩ := specGet_mem h1
    cases h2 : specGet sp' k with
    | none =>
      unfold specGet at h2; rw [List.find?_eq_none] at h2
      exact absurd (by simpa using hk) (h2 e (hp.mem_iff.mp he))
    | some e' =>
      obtain ⟨he', hk'⟩ := specGet_mem h2
      rw [nodup_map_inj hn he (hp.mem_iff.mpr he') (by rw [hk, hk'])]

theorem specWrite_perm {sp sp' : List Ent} (hp : sp.Perm sp') (hn : (sp.map entKey).Nodup) (base r : Nat) (l : Int) (put : Bool) :
    (specWrite sp base r l put).1 = (specWrite sp' base r l put).1 ∧
    (specWrite sp base r l put).2.Perm (specWrite sp' base r l put).2 := by
  unfold specWrite
  rw [← specGet_perm hp hn]
  cases specGet sp (base, r) with
  | none =>
    by_cases h1 : base = DFTAG_NULL <;> by_cases h2 : l < 0 <;> simp only [h1, h2, ↓reduceIte] <;>
      first | exact ⟨trivial, hp⟩ | exact ⟨trivial, hp.append_right _⟩
  | some e =>
    by_cases h1 : isSpecial e.1 = true <;> by_cases h2 : e.2.2 = -1 <;> by_cases h3 : l < 0 <;> simp only [h1, h2, h3, Bool.false_eq_true, ↓reduceIte] <;>
      first | exact ⟨trivial, hp⟩ | exact ⟨trivial, hp.map _⟩

theorem specStep_perm (cfg : Cfg) {sp sp' : List Ent} (hp : sp.Perm sp') (hn : (sp.map entKey).Nodup) (op : Op) :
    (specStep cfg sp op).1 = (specStep cfg sp' op).1 ∧ (specStep cfg sp op).2.Perm (specStep cfg sp' op).2 := by
  cases op with
  | put t r l => exact specWrite_perm hp hn _ _ _ _
  | startwrite t r l => exact specWrite_perm hp hn _ _ _ _
  | append t r n => exact ⟨rfl, hp⟩
  | del t r =>
    simp only [specStep]
    split
    · exact ⟨rfl, hp⟩
    · rw [← specGet_perm hp hn]
      cases specGet sp (baseTag t, r) with
      | none => exact ⟨rfl, hp⟩
      | some e => exact ⟨rfl, hp.filter _⟩
  | dup t r ot or' =>
    simp only [specStep]
    split
    · exact ⟨rfl, hp⟩
    · rw [← specGet_perm hp hn]
      cases specGet sp (baseTag ot, or') with
      | none => exact ⟨rfl, hp⟩
      | some eo =>
        simp only
        split
        · exact ⟨rfl, hp⟩
        · rw [← specGet_perm hp hn]
          cases specGet sp (baseTag t, r) with
          | none => exact ⟨rfl, hp.append_right _⟩
          | some e => exact ⟨rfl, hp⟩
  | reuse t r =>
    simp only [specStep]
    split
    · exact ⟨rfl, hp⟩
    · rw [← specGet_perm hp hn]
      cases specGet sp (baseTag t, r) with
      | none => exact ⟨rfl, hp⟩
      | some e => exact ⟨rfl, hp.map _⟩
  | inquire t r =>
    simp only [specStep]
    rw [← specGet_perm hp hn]
    cases specGet sp (baseTag t, r) with
    | none => exact ⟨rfl, hp⟩
    | some e => exact ⟨rfl, hp⟩
  | number t =>
    simp only [specStep]
    refine ⟨?_, hp⟩
    congr 1
    split
    · exact (hp.filter _).length_eq
    · exact (hp.filter _).length_eq
  | exist t r =>
    simp only [specStep]
    refine ⟨?_, hp⟩
    rw [← specGet_perm hp hn, hp.any_eq]
  | newref => exact ⟨rfl, hp⟩
  | tagnewref t => exact ⟨rfl, hp⟩
  | cache on => exact ⟨rfl, hp⟩
  | sync => exact ⟨rfl, hp⟩
  | reopen => exact ⟨rfl, hp⟩

theorem abs_keys_nodup {s : File} (h : WF s) : (s.abs.map entKey).Nodup := by
  have := h.wfl.nodup
  unfold KeysNodup at this
  unfold File.abs absl
  rw [List.map_map]
  exact this

def eraseOuts : List Op → List Out → List Out
  | op :: ops, o :: os => eraseOut op o :: eraseOuts ops os
  | _, _ => []

/-- results are compared up to offsets and fresh ref values (`eraseOuts`) -/
theorem run_refines (cfg : Cfg) : ∀ (ops : List Op) (s : File) (sp : List Ent), Inv cfg s → s.abs.Perm sp →
    guarded cfg s ops = true →
    ∃ s', (run cfg s ops).2 = some s' ∧ Inv cfg s' ∧
      eraseOuts ops (run cfg s ops).1 = (runMap cfg sp ops).1 ∧ s'.abs.Perm (runMap cfg sp ops).2 := by
  intro ops
  induction ops with
  | nil => intro s sp h hp _; exact ⟨s, rfl, h, rfl, hp⟩
  | cons op ops ih =>
    intro s sp h hp hg
    simp only [guarded, Bool.and_eq_true] at hg
    obtain ⟨s1, hs1, hinv1, hout, hperm⟩ := step_refines cfg h op hg.1
    obtain ⟨c1, c2⟩ := specStep_perm cfg hp (abs_keys_nodup h.wf) op
    have hg2 : guarded cfg s1 ops = true := by have := hg.2; rw [hs1] at this; exact this
    obtain ⟨s', hs', hinv', houts, hperm'⟩ := ih s1 (specStep cfg sp op).2 hinv1 (hperm.trans c2) hg2
    rw [run_cons_some hs1]
    refine ⟨s', hs', hinv', ?_, hperm'⟩
    show eraseOut op (step cfg s op).1 :: eraseOuts ops (run cfg s1 ops).1 = _
    rw [hout, c1, houts]
    rfl

end H4.DD
