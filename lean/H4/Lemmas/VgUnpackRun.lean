import H4.Lemmas.VgUnpackPhases
/-! The whole translated `vunpackvg` on each kind of accepted record (`run_hi .. run_fail`). -/
namespace H4.Lemmas.C08Fn3
open H4 H4.Gen.Fn.Vgp3 H4.C2L

def Epi (s : St) : St := ((s.set_gto false).set_ret s.ret_value).set_done true

theorem SStr_proj {α} (f : St → α) (setnull : St → Bool → St) (setreg : St → List Int → St) (B : List Int) (s : St) (p l : Nat)
    (h1 : Keeps f setnull := by intro _ _; rfl) (h2 : Keeps f setreg := by intro _ _; rfl)
    (h3 : Keeps f vunpackvg.St.set_bb := by intro _ _; rfl) : f (SStr setnull setreg B s p l) = f s := by
  simp only [SStr]; split
  · rw [h1]
  · rw [h3, h1, h2]

theorem Sb9_thru {α} (f : St → α) (B : List Int) (s : St)
    (hn : Keeps f vunpackvg.St.set_vg_vgname_null := by intro _ _; rfl)
    (hnr : Keeps f vunpackvg.St.set_vg_vgname := by intro _ _; rfl)
    (hc : Keeps f vunpackvg.St.set_vg_vgclass_null := by intro _ _; rfl)
    (hcr : Keeps f vunpackvg.St.set_vg_vgclass := by intro _ _; rfl)
    (hb : Keeps f vunpackvg.St.set_bb := by intro _ _; rfl)
    (hu : Keeps f vunpackvg.St.set_uint16var := by intro _ _; rfl)
    (he : Keeps f vunpackvg.St.set_vg_extag := by intro _ _; rfl)
    (hx : Keeps f vunpackvg.St.set_vg_exref := by intro _ _; rfl) : f (Sb9 B s) = f (Sb3 B s) := by
  rw [Sb9, hb, hx, Sb8, hb, he, Sb7, SStr_proj f _ _ _ _ _ _ hc hcr hb, Sb6, hb, hu, Sb5, SStr_proj f _ _ _ _ _ _ hn hnr hb, Sb4, hb, hu]

theorem Sb3_tag (B : List Int) (s : St) : (Sb3 B s).vg_tag = fill (List.replicate (max (nvN B) 64) 170) 0 (vals B 2 2 (nvN B)) := rfl
theorem Sb3_ref (B : List Int) (s : St) :
    (Sb3 B s).vg_ref = fill (List.replicate (max (nvN B) 64) 170) 0 (vals B (2 + 2 * nvN B) 2 (nvN B)) := rfl

theorem Sb9_tag (B : List Int) (s : St) : (Sb9 B s).vg_tag = fill (List.replicate (max (nvN B) 64) 170) 0 (vals B 2 2 (nvN B)) :=
  Sb9_thru (·.vg_tag) B s
theorem Sb9_ref (B : List Int) (s : St) :
    (Sb9 B s).vg_ref = fill (List.replicate (max (nvN B) 64) 170) 0 (vals B (2 + 2 * nvN B) 2 (nvN B)) :=
  Sb9_thru (·.vg_ref) B s
theorem Sb9_nvelt (B : List Int) (s : St) : (Sb9 B s).vg_nvelt = (nvN B : Int) := Sb9_thru (·.vg_nvelt) B s
theorem Sb9_msize (B : List Int) (s : St) : (Sb9 B s).vg_msize = ((max (nvN B) 64 : Nat) : Int) := Sb9_thru (·.vg_msize) B s
theorem Sb9_tag_null (B : List Int) (s : St) : (Sb9 B s).vg_tag_null = false := Sb9_thru (·.vg_tag_null) B s
theorem Sb9_ref_null (B : List Int) (s : St) : (Sb9 B s).vg_ref_null = false := Sb9_thru (·.vg_ref_null) B s
theorem Sb9_extag (B : List Int) (s : St) : (Sb9 B s).vg_extag = be16 B (pE B) := rfl
theorem Sb9_exref (B : List Int) (s : St) : (Sb9 B s).vg_exref = be16 B (pE B + 2) := rfl

theorem Sb9_keep (B : List Int) (L : Nat) (s : St) :
    (Sb9 B (SPre B L s)).vg_version = w16 (be16 B (L - 5)) ∧ (Sb9 B (SPre B L s)).vg_more = w16 (be16 B (L - 3)) ∧
      (Sb9 B (SPre B L s)).ret_value = 0 ∧ (Sb9 B (SPre B L s)).vg_flags = s.vg_flags ∧ (Sb9 B (SPre B L s)).vg_nattrs = s.vg_nattrs ∧
      (Sb9 B (SPre B L s)).vg_alist_null = s.vg_alist_null ∧ (Sb9 B (SPre B L s)).vg_alist_atag = s.vg_alist_atag ∧
      (Sb9 B (SPre B L s)).vg_alist_aref = s.vg_alist_aref :=
  ⟨Sb9_thru (·.vg_version) B _, Sb9_thru (·.vg_more) B _, Sb9_thru (·.ret_value) B _, Sb9_thru (·.vg_flags) B _,
    Sb9_thru (·.vg_nattrs) B _, Sb9_thru (·.vg_alist_null) B _, Sb9_thru (·.vg_alist_atag) B _, Sb9_thru (·.vg_alist_aref) B _⟩

theorem Sb9_name (B : List Int) (s : St) :
    (Sb9 B s).vg_vgname_null = decide (lN B = 0) ∧ (lN B ≠ 0 → (Sb9 B s).vg_vgname = strAt B (pN B + 2) (lN B)) := by
  have e1 : (Sb9 B s).vg_vgname_null = (Sb5 B s).vg_vgname_null := by
    show (Sb7 B s).vg_vgname_null = _
    rw [Sb7, SStr_proj (·.vg_vgname_null) vunpackvg.St.set_vg_vgclass_null vunpackvg.St.set_vg_vgclass]; rfl
  have e2 : (Sb9 B s).vg_vgname = (Sb5 B s).vg_vgname := by
    show (Sb7 B s).vg_vgname = _
    rw [Sb7, SStr_proj (·.vg_vgname) vunpackvg.St.set_vg_vgclass_null vunpackvg.St.set_vg_vgclass]; rfl
  rw [e1, e2, Sb5]
  simp only [SStr]
  split
  · rename_i h0; simp [h0]
  · rename_i h0; simp [h0]

theorem Sb9_class (B : List Int) (s : St) :
    (Sb9 B s).vg_vgclass_null = decide (lC B = 0) ∧ (lC B ≠ 0 → (Sb9 B s).vg_vgclass = strAt B (pC B + 2) (lC B)) := by
  have e1 : (Sb9 B s).vg_vgclass_null = (Sb7 B s).vg_vgclass_null := rfl
  have e2 : (Sb9 B s).vg_vgclass = (Sb7 B s).vg_vgclass := rfl
  rw [e1, e2, Sb7]
  simp only [SStr]
  split
  · rename_i h0; simp [h0]
  · rename_i h0; simp [h0]

structure Init (B : List Int) (L : Nat) (s : St) : Prop where
  buf : s.buf = B
  len : s.len = L
  ub : s.ub = false
  oof : s.oof = false
  done : s.done = false
  gto : s.gto = false

theorem run_hi {B L s} (h : Init B L s) (fuel : Nat) (h5 : 5 ≤ L) (hL : L ≤ B.length) (hv : ¬ w16 (be16 B (L - 5)) ≤ 4) :
    run fuel s = Epi (SPre B L s) ∧ (Epi (SPre B L s)).ub = false ∧ (Epi (SPre B L s)).oof = false ∧ (Epi (SPre B L s)).ret = 0 := by
  obtain ⟨q, o⟩ := phPre_ok B L s h.buf h.len h5 hL h.ub h.oof h.done h.gto
  refine ⟨?_, o.ub, o.oof, rfl⟩
  simp only [run]
  rw [q, if_neg (show ¬ (SPre B L s).vg_version ≤ 4 from hv), phEpi_ok _ o.done]
  rfl

theorem run_old {B L s} (h : Init B L s) (fuel : Nat) (h5 : 5 ≤ L) (hL : L ≤ B.length) (hv : w16 (be16 B (L - 5)) ≤ 4)
    (hv4 : w16 (be16 B (L - 5)) ≠ 4) (hb : pE B + 4 ≤ B.length) (hf : nvN B ≤ fuel) :
    run fuel s = Epi (Sb9 B (SPre B L s)) ∧ (Epi (Sb9 B (SPre B L s))).ub = false ∧ (Epi (Sb9 B (SPre B L s))).oof = false ∧
      (Epi (Sb9 B (SPre B L s))).ret = 0 := by
  obtain ⟨q, o⟩ := phPre_ok B L s h.buf h.len h5 hL h.ub h.oof h.done h.gto
  obtain ⟨q9, o9⟩ := body9_ok o fuel hb hf
  refine ⟨?_, o9.ub, o9.oof, (Sb9_keep B L s).2.2.1⟩
  have hver := (Sb9_keep B L s).1
  simp only [run]
  rw [q, if_pos (show (SPre B L s).vg_version ≤ 4 from hv), phBody, q9, phV4_old o9 fuel (by rw [hver]; exact hv4), phEpi_ok _ o9.done]
  rfl

theorem run_v4 {B L s} (h : Init B L s) (fuel : Nat) (h5 : 5 ≤ L) (hL : L ≤ B.length) (hv4 : w16 (be16 B (L - 5)) = 4)
    (hb : pE B + 8 ≤ B.length) (ha : be32N B (pE B + 4) % 2 = 0) (hf : nvN B ≤ fuel) :
    run fuel s = Epi (((Sb9 B (SPre B L s)).set_vg_flags (be32 B (pE B + 4))).set_bb ((pE B + 4 + 4 : Nat) : Int)) ∧
      (run fuel s).ub = false ∧ (run fuel s).oof = false ∧ (run fuel s).ret = 0 := by
  obtain ⟨q, o⟩ := phPre_ok B L s h.buf h.len h5 hL h.ub h.oof h.done h.gto
  obtain ⟨q9, o9⟩ := body9_ok o fuel (by omega) hf
  have hver := (Sb9_keep B L s).1
  obtain ⟨qv, ov⟩ := phV4_flags o9 fuel (by rw [hver]; exact hv4) (by omega) ha
  have key : run fuel s = Epi (((Sb9 B (SPre B L s)).set_vg_flags (be32 B (pE B + 4))).set_bb ((pE B + 4 + 4 : Nat) : Int)) := by
    simp only [run]
    rw [q, if_pos (show (SPre B L s).vg_version ≤ 4 by show w16 _ ≤ 4; omega), phBody, q9, qv, phEpi_ok _ ov.done]
    rfl
  refine ⟨key, ?_, ?_, ?_⟩
  · rw [key]; exact ov.ub
  · rw [key]; exact ov.oof
  · rw [key]; exact (Sb9_keep B L s).2.2.1

theorem run_attr {B L s} (h : Init B L s) (fuel : Nat) (h5 : 5 ≤ L) (hL : L ≤ B.length) (hv4 : w16 (be16 B (L - 5)) = 4)
    (ha : be32N B (pE B + 4) % 2 = 1) (hna : be32N B (pE B + 8) < 2147483648)
    (hb : pE B + 12 + 4 * be32N B (pE B + 8) ≤ B.length) (hf : nvN B ≤ fuel) (hf2 : be32N B (pE B + 8) ≤ fuel) :
    run fuel s = Epi (SAttr B (Sb9 B (SPre B L s)) (pE B + 4) (be32N B (pE B + 8))) ∧
      (run fuel s).ub = false ∧ (run fuel s).oof = false ∧ (run fuel s).ret = 0 := by
  obtain ⟨q, o⟩ := phPre_ok B L s h.buf h.len h5 hL h.ub h.oof h.done h.gto
  obtain ⟨q9, o9⟩ := body9_ok o fuel (by omega) hf
  have hver := (Sb9_keep B L s).1
  have e8 : pE B + 4 + 4 = pE B + 8 := by omega
  obtain ⟨qv, ov⟩ := phV4_attrs o9 fuel (by rw [hver]; exact hv4) ha (by rw [e8]; exact hna) (by rw [e8]; omega) (by rw [e8]; exact hf2)
  rw [e8] at qv ov
  have key : run fuel s = Epi (SAttr B (Sb9 B (SPre B L s)) (pE B + 4) (be32N B (pE B + 8))) := by
    simp only [run]
    rw [q, if_pos (show (SPre B L s).vg_version ≤ 4 by show w16 _ ≤ 4; omega), phBody, q9, qv, phEpi_ok _ ov.done]
    rfl
  refine ⟨key, ?_, ?_, ?_⟩
  · rw [key]; exact ov.ub
  · rw [key]; exact ov.oof
  · rw [key]; exact (Sb9_keep B L s).2.2.1

theorem run_fail {B L s} (h : Init B L s) (fuel : Nat) (h5 : 5 ≤ L) (hL : L ≤ B.length) (hv4 : w16 (be16 B (L - 5)) = 4)
    (ha : be32N B (pE B + 4) % 2 = 1) (hb : pE B + 12 ≤ B.length) (hna : 2147483648 ≤ be32N B (pE B + 8)) (hf : nvN B ≤ fuel) :
    (run fuel s).ub = false ∧ (run fuel s).oof = false ∧ (run fuel s).ret = -1 := by
  obtain ⟨q, o⟩ := phPre_ok B L s h.buf h.len h5 hL h.ub h.oof h.done h.gto
  obtain ⟨q9, o9⟩ := body9_ok o fuel (by omega) hf
  have hver := (Sb9_keep B L s).1
  have e8 : pE B + 4 + 4 = pE B + 8 := by omega
  obtain ⟨f1, f2, f3, f4⟩ := phV4_fail o9 fuel (by rw [hver]; exact hv4) ha (by omega) (by rw [e8]; exact hna)
  simp only [run]
  rw [q, if_pos (show (SPre B L s).vg_version ≤ 4 by show w16 _ ≤ 4; omega), phBody, q9, phEpi_ok _ f3]
  exact ⟨f1, f2, f4⟩

end H4.Lemmas.C08Fn3
