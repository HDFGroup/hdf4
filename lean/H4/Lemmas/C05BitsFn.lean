import H4.BitIOFn
import H4.Lemmas.BitIO
import H4.Lemmas.C2L
import H4.Lemmas.C2LLoop
/-! The functions of `hdf/src/hbitio.c` as TRANSLATED from the C text (`H4.Gen.Fn.Hbitio2`) compute the hand model `H4.BitIO` on the C view `St.toC` of a model
    state (`Hbitwrite`, `HIbitflush`, `Hbitread` here; `Hbitseek` and the mode switches in `C05BitsFn2`).  A segment lemma runs one segment of the text and says that on the
    record it is a flat function `fX` on `CRec`; the model is cut into the same pieces by `rfl` equations (end of `H4.Lemmas.BitIO`), with `(piece m).toC = fPiece m.toC`; per function one theorem steps
    both states together, the integer ranges a segment needs being read off the model state.  Core only. -/
namespace H4.Lemmas.C05BitsFn
open H4 H4.BitIO H4.Gen.Hbitio H4.Gen.Fn.Hbitio2

/-- `(int)BITNUM`, `(int)DATANUM` as the translator writes them (exact two's complement reduction of the `size_t` constant) -/
theorem bitnum_int : ((((((1 * ((8) % 18446744073709551616))) % 18446744073709551616)) + 2147483648) % 4294967296 - 2147483648 : Int) = 8 := by decide
theorem datanum_int : ((((((4 * ((8) % 18446744073709551616))) % 18446744073709551616)) + 2147483648) % 4294967296 - 2147483648 : Int) = 32 := by decide

/-- `(int32)LONG_MIN` as the translator writes it (exact two's complement reduction: 0 on this LP64 host) -/
theorem longmin_int : ((((((- 9223372036854775807) - 1)) + 2147483648) % 4294967296 - 2147483648) : Int) = 0 := by decide

theorem maskl_len : (H4.Gen.Hbitio.maskl).length = 33 := rfl
theorem maskc_len : (H4.Gen.Hbitio.maskc).length = 9 := rfl
theorem mod256_nonneg (x : Int) : (0 ≤ x % 256) = True := by simp only [eq_iff_iff, iff_true]; omega
theorem zero_ne_neg1 : ((0 : Int) = -1) = False := by decide

/-- symbolic execution of translated code: unfold the given definitions / use the given facts to decide every `if`, with a fixed
    set of harmless normalisations (no arithmetic, no list lemmas that change the shape of terms).  The state stays a variable: the
    generated setters are reducible, only `chk` / `join` have to be named.  `↓reduceIte` decides a condition before `simp` enters the
    branches (with `if_true` / `if_false` every dead branch of the generated text is simplified first). -/
syntax "c2l_simp" "[" Lean.Parser.Tactic.simpLemma,* "]" (Lean.Parser.Tactic.location)? : tactic
macro_rules
  | `(tactic| c2l_simp [$ls,*] $[$loc]?) =>
    `(tactic| simp only [$ls,*, Int.sub_zero, Int.add_zero, Int.zero_add, Int.toNat_zero, List.drop_zero, List.take_zero, List.nil_append,
        eq_self, decide_true, decide_false, ↓reduceIte, Bool.false_eq_true, Bool.true_eq_false,
        not_true_eq_false, not_false_eq_true, ne_eq, gt_iff_lt, ge_iff_le, Bool.or_false, Bool.false_or, Bool.not_true,
        and_true, true_and, and_self, false_or, or_false, Int.le_refl, Bool.or_self, zero_ne_neg1,
        imp_self, false_implies, forall_const, implies_true, true_or, or_true,
        and_false, false_and] $[$loc]?)

/-- the `ub` flag of a symbolically executed block is `false`: every recorded check holds -/
syntax "c2l_ub" "[" Lean.Parser.Tactic.simpLemma,* "]" : tactic
macro_rules
  | `(tactic| c2l_ub [$ls,*]) =>
    `(tactic| (simp only [Bool.or_eq_false_iff, Bool.not_eq_false', decide_eq_true_eq]
               try simp only [$ls,*, List.length_set, Int.ofNat_eq_natCast, maskl_len, maskc_len, mod256_nonneg]
               (repeat' apply And.intro) <;> first | exact trivial | omega))

/-! `if (byte_offset > max_offset) max_offset = byte_offset;` is an update of one member: no case split is needed to run it -/
theorem wr_max_ite (c : Prop) [Decidable c] (s : Hbitwrite.St) (v : Int) :
    (if c then s.set_rec_max_offset v else s) = s.set_rec_max_offset (if c then v else s.rec_max_offset) := by split <;> rfl
theorem rd_max_ite (c : Prop) [Decidable c] (s : Hbitread.St) (v : Int) :
    (if c then s.set_rec_max_offset v else s) = s.set_rec_max_offset (if c then v else s.rec_max_offset) := by split <;> rfl
theorem fl_max_ite (c : Prop) [Decidable c] (s : HIbitflush.St) (v : Int) :
    (if c then s.set_rec_max_offset v else s) = s.set_rec_max_offset (if c then v else s.rec_max_offset) := by split <;> rfl
theorem flm_max_ite (c : Prop) [Decidable c] (s : HIbitflush_m.St) (v : Int) :
    (if c then s.set_rec_max_offset v else s) = s.set_rec_max_offset (if c then v else s.rec_max_offset) := by split <;> rfl

/-- number of bytes `Hread(acc_id, n, …)` delivers on an element of `len` bytes at position `pos` -/
def kRead (len pos n : Int) : Int := if (n : Int) = 0 ∨ n + pos > len then Int.ofNat (Int.toNat (len - pos)) else n
/-- `MIN(max_offset - byte_offset, BITBUF_SIZE)` -/
def rdSize (mx off : Int) : Int := if mx - off < 4096 then mx - off else 4096

theorem kRead_fold (len pos n : Int) : (if (n : Int) = 0 ∨ n + pos > len then Int.ofNat (Int.toNat (len - pos)) else n) = kRead len pos n := rfl
theorem rdSize_fold (mx off : Int) : (if mx - off < 4096 then mx - off else 4096) = rdSize mx off := rfl

theorem rdSize_pos {mx off : Int} (h : mx > off) : 0 < rdSize mx off ∧ rdSize mx off ≤ 4096 := by
  unfold rdSize; split <;> omega
theorem kRead_bounds {len pos n : Int} (hn : 0 < n) : 0 ≤ kRead len pos n ∧ kRead len pos n ≤ n := by
  unfold kRead; simp only [Int.ofNat_eq_natCast]; split <;> omega
theorem kRead_avail {len pos n : Int} (hk : 0 < kRead len pos n) : kRead len pos n ≤ len - pos := by
  unfold kRead at hk ⊢; simp only [Int.ofNat_eq_natCast] at hk ⊢; split at hk <;> simp_all <;> omega
theorem kRead_le {len pos n : Int} (hn : 0 < n) (h : n ≤ 4096) : (kRead len pos n ≤ 4096) = True := by
  have := @kRead_bounds len pos n hn; simp only [eq_iff_iff, iff_true]; omega
theorem kRead_ne {len pos n : Int} (hn : 0 < n) : (kRead len pos n = -1) = False := by
  have := @kRead_bounds len pos n hn; simp only [eq_iff_iff, iff_false]; omega

/-- `*(bytep) = b; byte_offset++; if (++bytep == bytez) { Hwrite the block; block_offset += …; pre-read the next block }` -/
def fPut (r : CRec) (b : Int) : CRec :=
  let r1 : CRec := { r with bytea := r.bytea.set r.bytep.toNat b, byteOff := r.byteOff + 1, bytep := r.bytep + 1 }
  if r1.bytep = r1.bytez then
    let ws := r1.bytez
    let r2 : CRec := { r1 with bytep := 0, elt := r1.elt.take r1.epos.toNat ++ r1.bytea.take ws.toNat ++ r1.elt.drop (r1.epos + ws).toNat,
                               epos := r1.epos + ws, enew := 0, blockOff := r1.blockOff + ws }
    if r2.maxOff > r2.byteOff then
      let rs := rdSize r2.maxOff r2.byteOff
      let k := kRead r2.elt.length r2.epos rs
      { r2 with bytea := (r2.elt.drop r2.epos.toNat).take k.toNat ++ r2.bytea.drop k.toNat, bufRead := k,
                epos := if 0 ≤ r2.blockOff then r2.blockOff else r2.epos + k }
    else r2
  else r1

def wrRec (s : Hbitwrite.St) : CRec :=
  { access := s.rec_access, mode := s.rec_mode, count := s.rec_count, bits := s.rec_bits, bufRead := s.rec_buf_read,
    byteOff := s.rec_byte_offset, maxOff := s.rec_max_offset, blockOff := s.rec_block_offset, bytep := s.rec_bytep,
    bytez := s.rec_bytez, bytea := s.rec_bytea, elt := s.io_elt, epos := s.io_epos, enew := s.io_enew }

/-- the ranges of a record in write mode that the checks of the translated text ask for -/
def _root_.H4.BitIO.CRec.WOK (r : CRec) : Prop :=
  r.bytea.length = 4096 ∧ (0 ≤ r.bytep ∧ r.bytep < 4096) ∧ (0 ≤ r.bytez ∧ r.bytez ≤ 4096) ∧ 0 ≤ r.epos ∧ 0 ≤ r.blockOff

theorem wr_body (fuel : Nat) (s : Hbitwrite.St) (hub : s.ub = false) (hdone : s.done = false)
    (hc : 8 ≤ s.count ∧ s.count < 40) (hd : 0 ≤ s.data) (hr : (wrRec s).WOK) :
    let s' := Hbitwrite.loop0.body fuel s
    s'.ub = false ∧ s'.done = false ∧ s'.oof = s.oof ∧ wrRec s' = fPut (wrRec s) ((s.data / 2 ^ (s.count - 8).toNat) % 256) ∧
      s'.count = s.count - 8 ∧ s'.data = s.data ∧ s'.orig_count = s.orig_count := by
  obtain ⟨hc1, hc2⟩ := hc
  obtain ⟨hl, ⟨hp1, hp2⟩, ⟨hz1, hz2⟩, he, hb⟩ := hr
  simp only [wrRec] at hl hp1 hp2 hz1 hz2 he hb
  have hzn' : (s.rec_bytez = -1) = False := by simp only [eq_iff_iff, iff_false]; omega
  have hbz : 0 ≤ s.rec_block_offset + s.rec_bytez := by omega
  have hl' : (s.rec_bytea.length : Int) = 4096 := by omega
  by_cases hfull : s.rec_bytep + 1 = s.rec_bytez
  · by_cases hmore : s.rec_max_offset > s.rec_byte_offset + 1
    · have hrs := rdSize_pos hmore
      c2l_simp [Hbitwrite.chk, hub, hdone, Hbitwrite.loop0.body, kRead_fold, rdSize_fold, bitnum_int, fPut, wrRec,
        hfull, hzn', hmore, kRead_ne hrs.1, hbz]
      c2l_ub [hl', kRead_le hrs.1 hrs.2]
    · c2l_simp [Hbitwrite.chk, hub, hdone, Hbitwrite.loop0.body, bitnum_int, fPut, wrRec,
        hfull, hzn', hmore]
      c2l_ub [hl']
  · c2l_simp [Hbitwrite.chk, hub, hdone, Hbitwrite.loop0.body, bitnum_int, fPut, wrRec,
        hfull]
    c2l_ub [hl']

@[simp] theorem ints_length (l : List Byte) : (ints l).length = l.length := by simp [ints]
@[simp] theorem ints_nil : ints [] = [] := rfl
@[simp] theorem ints_cons (a : Byte) (l : List Byte) : ints (a :: l) = (a.toNat : Int) :: ints l := rfl
theorem ints_append (a b : List Byte) : ints (a ++ b) = ints a ++ ints b := by simp [ints]
theorem ints_take (l : List Byte) (n : Nat) : ints (l.take n) = (ints l).take n := by simp [ints]
theorem ints_drop (l : List Byte) (n : Nat) : ints (l.drop n) = (ints l).drop n := by simp [ints]
theorem ints_getD (l : List Byte) (i : Nat) (h : i < l.length) : (ints l).getD i 0 = ((l[i]).toNat : Int) := by
  simp [ints, h]
theorem ints_set (l : List Byte) (i : Nat) (b : Byte) : (ints l).set i (b.toNat : Int) = ints (l.set i b) := by
  simp [ints, List.map_set]

theorem toC_cell {m : St} (h : Rep m) {x : Byte} {t : List Byte} (hq : m.post = x :: t) :
    m.toC.bytea.getD m.toC.bytep.toNat 0 = (x.toNat : Int) := by
  have : m.bytep = (ints m.pre.reverse).length := by simp [h.bytep]
  simp only [St.toC, St.buf, hq, ints_append, ints_cons, Int.toNat_natCast]
  rw [this, List.getD_eq_getElem?_getD, List.getElem?_append_right (Nat.le_refl _)]
  simp

theorem toNat_sub_cast (a b : Nat) : Int.toNat ((a : Int) - (b : Int)) = a - b := by omega
theorem toNat_8_sub (b : Nat) : Int.toNat (8 - (b : Int)) = 8 - b := by omega
theorem toNat_sub_8 (a : Nat) : Int.toNat ((a : Int) - 8) = a - 8 := by omega
theorem shl_cast (x k : Nat) : (x : Int) * 2 ^ k = ((x <<< k : Nat) : Int) := by rw [Nat.shiftLeft_eq]; simp
theorem shr_cast (x k : Nat) : (x : Int) / 2 ^ k = ((x >>> k : Nat) : Int) := by rw [Nat.shiftRight_eq_div_pow]; simp
theorem or_cast (a b : Nat) : Int.ofNat (Int.toNat (a : Int) ||| Int.toNat (b : Int)) = ((a ||| b : Nat) : Int) := rfl
theorem mod256_cast (x : Nat) : (x : Int) % 256 = ((x % 256 : Nat) : Int) := by omega
theorem mod32_cast (x : Nat) : (x : Int) % 4294967296 = ((x % 4294967296 : Nat) : Int) := by omega

theorem natCast_max_ite (a b : Nat) :
    ((if a > b then a else b : Nat) : Int) = if (a : Int) > (b : Int) then (a : Int) else (b : Int) := by
  split <;> split <;> omega

theorem kRead_nat (L p n : Nat) :
    kRead (L : Int) (p : Int) (n : Int) = ((if n = 0 ∨ n + p > L then L - p else n : Nat) : Int) := by
  unfold kRead
  simp only [Int.ofNat_eq_natCast]
  split <;> split <;> omega

theorem rdSize_nat (mx off : Nat) (h : off ≤ mx) : rdSize (mx : Int) (off : Int) = ((min (mx - off) 4096 : Nat) : Int) := by
  unfold rdSize; split <;> omega

theorem putByte_toC {m : St} (h : Inv m) (hw : m.wMode = true) (b : Nat) (hb : b < 256) :
    (putByte m b).toC = fPut m.toC b ∧ Inv (putByte m b) ∧ (putByte m b).wMode = true := by
  have hlt := h.wlt hw
  have hz1 := h.wz hw
  have hp := h.bytep
  have hz := h.zle
  obtain ⟨x, t, hq⟩ := h.rep.post_cons (by omega)
  have hl := h.len
  rw [hq, List.length_cons] at hl
  have hB : ((UInt8.ofNat b).toNat : Int) = (b : Int) := by rw [UInt8.toNat_ofNat']; omega
  have e0 : (ints m.pre.reverse ++ (x.toNat : Int) :: ints t).set m.bytep (b : Int) = ints m.pre.reverse ++ (b : Int) :: ints t := by
    have := set_append_cons (ints m.pre.reverse) (x.toNat : Int) (b : Int) (ints t)
    simpa only [ints_length, List.length_reverse, ← hp] using this
  have e3 : ints (m.pre.reverse ++ UInt8.ofNat b :: t) = ints m.pre.reverse ++ (b : Int) :: ints t := by rw [ints_append, ints_cons, hB]
  have e := e0.trans e3.symm
  have hbuf : (m.pre.reverse ++ UInt8.ofNat b :: t).length = 4096 := by simp; omega
  have hdata : (List.take m.bytez (m.pre.reverse ++ UInt8.ofNat b :: t)).length = m.bytez := by rw [List.length_take, hbuf]; omega
  have e2 : ((m.posn : Int) + (m.bytez : Int)).toNat = m.posn + m.bytez := by omega
  have inv : ∀ m' : St, m'.oob = false → m'.err = false → m'.bytep = m'.pre.length → m'.pre.length + m'.post.length = 4096 →
      m'.bytez = m.bytez → m'.bytep < m'.bytez → m'.count = m.count → m'.bits = m.bits → m'.wAccess = m.wAccess → Inv m' :=
    fun m' a1 a2 a3 a4 a5 a6 a7 a8 a9 => ⟨a1, a2, a3, a4, by rw [a5]; exact hz, Nat.le_of_lt a6, by rw [a7]; exact h.cnt, fun _ => a6,
      by rw [a8]; exact h.bits, fun _ => by rw [a7]; exact h.wcnt hw, fun _ => by rw [a9]; exact h.wacc hw, fun _ => by rw [a5]; exact hz1⟩
  by_cases hfull : m.bytep + 1 = m.bytez
  · have hfull' : ((m.bytep : Int) + 1 = (m.bytez : Int)) := by omega
    by_cases hmore : m.maxOff > m.byteOff + 1
    · have hmore' : (m.maxOff : Int) > (m.byteOff : Int) + 1 := by omega
      simp only [putByte, St.store, afterStore, St.adv, hq, hfull, if_true, St.toC, fPut, St.buf, List.reverse_cons, List.append_assoc,
        List.singleton_append, ints_append, ints_cons, hfull', Int.toNat_natCast, Int.natCast_add, Int.natCast_one,
        St.setPtr, hWrite, hRead, hSeek, St.load, hmore, hmore', List.take_zero, List.drop_zero, List.reverse_nil, List.nil_append,
        Bool.false_eq_true, if_false, consts]
      simp only [hdata, e, e2, ← ints_take, ← ints_drop, ← ints_append]
      generalize hE : List.take m.posn m.elem ++ (List.take m.bytez (m.pre.reverse ++ UInt8.ofNat b :: t) ++ List.drop (m.posn + m.bytez) m.elem) = E
      generalize hN : (if min (m.maxOff - (m.byteOff + 1)) 4096 = 0 ∨ min (m.maxOff - (m.byteOff + 1)) 4096 + (m.posn + m.bytez) > E.length
        then E.length - (m.posn + m.bytez) else min (m.maxOff - (m.byteOff + 1)) 4096) = N
      have hkk : kRead (↑(ints E).length) (↑m.posn + ↑m.bytez) (rdSize (↑m.maxOff) (↑m.byteOff + 1)) = (N : Int) := by
        have h1 := rdSize_nat m.maxOff (m.byteOff + 1) (by omega)
        have h2 := kRead_nat E.length (m.posn + m.bytez) (min (m.maxOff - (m.byteOff + 1)) 4096)
        rw [hN] at h2
        simp only [Int.natCast_add, Int.natCast_one] at h1 h2
        rw [ints_length, h1, h2]
      have hNle : N ≤ E.length - (m.posn + m.bytez) ∧ N ≤ 4096 := by rw [← hN]; split <;> omega
      have hlen : (List.take N (List.drop (m.posn + m.bytez) E)).length = N := by simp; omega
      have hpos : (0 : Int) ≤ (m.blockOff : Int) + (m.bytez : Int) := by omega
      simp only [hkk, hlen, Int.toNat_natCast, hpos, if_true, Int.natCast_zero, true_and, and_true, hw]
      exact inv _ h.noOob h.noErr rfl (by simp [hlen, hbuf]; omega) rfl (by simp only; omega) rfl rfl rfl
    · have hmore' : ¬ ((m.maxOff : Int) > (m.byteOff : Int) + 1) := by omega
      simp only [putByte, St.store, afterStore, St.adv, hq, hfull, if_true, St.toC, fPut, St.buf, List.reverse_cons, List.append_assoc,
        List.singleton_append, ints_append, ints_cons, hfull', Int.toNat_natCast, hB, Int.natCast_add, Int.natCast_one,
        St.setPtr, hWrite, hRead, hSeek, St.load, hmore, hmore', List.take_zero, List.drop_zero, List.reverse_nil, List.nil_append,
        Bool.false_eq_true, if_false, consts]
      simp only [hdata, e, e2, ← ints_take, ← ints_drop, ← ints_append, Int.natCast_zero, and_true, hw]
      refine ⟨?_, inv _ h.noOob h.noErr rfl (by simp [hbuf]) rfl (by simp only; omega) rfl rfl rfl⟩
      rw [e3]
  · have hfull' : ¬ ((m.bytep : Int) + 1 = (m.bytez : Int)) := by omega
    simp only [putByte, St.store, afterStore, St.adv, hq, hfull, if_false, St.toC, fPut, St.buf, List.reverse_cons, List.append_assoc,
      List.singleton_append, ints_append, ints_cons, hfull', Int.toNat_natCast, hB, Int.natCast_add, Int.natCast_one, hw]
    refine ⟨by rw [e0], inv _ h.noOob h.noErr (by simp [hp]) (by simp; omega) rfl (by simp only; omega) rfl rfl rfl, trivial⟩

theorem toC_w_facts {m : St} (h : Inv m) (hw : m.wMode = true) : m.toC.WOK := by
  unfold CRec.WOK
  have h1 := h.wlt hw
  have h2 := h.zle
  simp only [St.toC, ints_length, buf_length h]
  refine ⟨trivial, ⟨?_, ?_⟩, ⟨?_, ?_⟩, ?_, ?_⟩ <;> omega

theorem wr_isLoop : H4.C2L.IsLoop Hbitwrite.loop0 (fun s => s.count ≥ 8 ∧ ¬ s.done = true) Hbitwrite.loop0.body (fun s => s) :=
  .of_eqs (stuck := fun s => { s with oof := true }) (fun _ => rfl) (fun _ _ => rfl)

theorem byte_cast (d k : Nat) : (((d >>> k) % 256 : Nat) : Int) = (d : Int) / 2 ^ k % 256 := by
  rw [shr_cast, mod256_cast]

/-- the translated `Hbitwrite` is under way on the C view of the model state `m` (write mode) -/
structure WrSim (s : Hbitwrite.St) (m : St) : Prop where
  ub : s.ub = false
  run : s.done = false
  crec : wrRec s = m.toC
  inv : Inv m
  w : m.wMode = true

structure WrKept (s s' : Hbitwrite.St) : Prop where
  oof : s'.oof = s.oof
  data : s'.data = s.data
  orig : s'.orig_count = s.orig_count

/-- the translated `Hbitwrite` has run from `s` to its end `s'` without undefined behaviour, and its record there is the C view of `m'` -/
structure WrEnd (s s' : Hbitwrite.St) (m' : St) : Prop where
  ub : s'.ub = false
  oof : s'.oof = s.oof
  done : s'.done = true
  ret : s'.ret = s.orig_count
  crec : wrRec s' = m'.toC
  inv : Inv m'
  w : m'.wMode = true

theorem WrKept.refl (s : Hbitwrite.St) : WrKept s s := ⟨rfl, rfl, rfl⟩
theorem WrKept.trans {a b c : Hbitwrite.St} (h : WrKept a b) (k : WrKept b c) : WrKept a c :=
  ⟨k.oof.trans h.oof, k.data.trans h.data, k.orig.trans h.orig⟩

theorem WrEnd.after {s s' s'' : Hbitwrite.St} {m : St} (e : WrEnd s' s'' m) (ho : s'.oof = s.oof) (hr : s'.orig_count = s.orig_count) :
    WrEnd s s'' m :=
  ⟨e.ub, e.oof.trans ho, e.done, e.ret.trans hr, e.crec, e.inv, e.w⟩

theorem wr_loop (n : Nat) : ∀ (c fuel f : Nat) (s : Hbitwrite.St) (m : St) (d : Nat),
    c < 8 * (n + 1) → c < 40 → n ≤ fuel → n ≤ f → WrSim s m → s.count = c → s.data = d →
    let s' := Hbitwrite.loop0 fuel s
    let r := wholeBytes f m d c
    WrSim s' r.1 ∧ WrKept s s' ∧ s'.count = r.2 ∧ r.2 < 8 := by
  induction n with
  | zero =>
    intro c fuel f s m d hc _ _ _ h hcnt hdat
    have hc8 : c < 8 := by omega
    rw [wr_isLoop.exit (s := s) (fun hc => by omega) fuel, wholeBytes_stop f m d c hc8]
    exact ⟨h, .refl s, hcnt, hc8⟩
  | succ n ih =>
    intro c fuel f s m d hc hc40 hfuel hf h hcnt hdat
    by_cases hc8 : c < 8
    · rw [wr_isLoop.exit (s := s) (fun hc => by omega) fuel, wholeBytes_stop f m d c hc8]
      exact ⟨h, .refl s, hcnt, hc8⟩
    · obtain ⟨fuel, rfl⟩ : ∃ k, fuel = k + 1 := ⟨fuel - 1, by omega⟩
      obtain ⟨f, rfl⟩ : ∃ k, f = k + 1 := ⟨f - 1, by omega⟩
      obtain ⟨b1, b2, b3, b4, b5, b6, b7⟩ := wr_body (fuel + 1) s h.ub h.run (by omega) (by omega) (h.crec ▸ toC_w_facts h.inv h.w)
      have hbyte : (s.data / 2 ^ (s.count - 8).toNat) % 256 = (((d >>> (c - 8)) % 256 : Nat) : Int) := by
        rw [byte_cast, hdat, hcnt]
        congr 3; omega
      obtain ⟨p1, p2, p3⟩ := putByte_toC h.inv h.w ((d >>> (c - 8)) % 256) (Nat.mod_lt _ (by omega))
      rw [h.crec, hbyte, ← p1] at b4
      obtain ⟨q1, q2, q3, q4⟩ := ih (c - 8) fuel f (Hbitwrite.loop0.body (fuel + 1) s) (putByte m ((d >>> (c - 8)) % 256)) d (by omega) (by omega)
        (by omega) (by omega) ⟨b1, b2, b4, p2, p3⟩ (by rw [b5, hcnt]; omega) (by rw [b6, hdat])
      have hm : wholeBytes (f + 1) m d c = wholeBytes f (putByte m ((d >>> (c - 8)) % 256)) d (c - 8) := by
        have h8 : c ≥ BITNUM := by simp [consts]; omega
        rw [wholeBytes, if_pos h8]; rfl
      rw [wr_isLoop.pass (s := s) ⟨by omega, by simp [h.run]⟩ fuel, hm]
      exact ⟨q1, WrKept.trans ⟨b3, b6, b7⟩ q2, q3, q4⟩


/-- `data &= maskl[count]` as the translator writes it -/
def maskedC (data count : Int) : Int :=
  Int.ofNat (Int.toNat data &&& Int.toNat (Int.ofNat ((H4.Gen.Hbitio.maskl).getD (Int.toNat count) 0)))

theorem maskedC_fold (data count : Int) :
    Int.ofNat (Int.toNat data &&& Int.toNat (Int.ofNat ((H4.Gen.Hbitio.maskl).getD (Int.toNat count) 0))) = maskedC data count := rfl

theorem maskedC_nonneg (data count : Int) : 0 ≤ maskedC data count := by
  unfold maskedC; simp only [Int.ofNat_eq_natCast]; omega

/-- segment 2 of `Hbitwrite` (mask the data; merge into the bit buffer and return, or complete the current byte and store it) -/
theorem wr_seg2 (fuel : Nat) (s : Hbitwrite.St) (hub : s.ub = false) (hdone : s.done = false)
    (hc : 1 ≤ s.count ∧ s.count ≤ 32) (hd : 0 ≤ s.data) (hrc : 1 ≤ s.rec_count ∧ s.rec_count ≤ 8) (hbits : 0 ≤ s.rec_bits)
    (hr : (wrRec s).WOK) :
    let dm := maskedC s.data s.count
    let s' := Hbitwrite.seg2 fuel s
    s'.ub = false ∧ s'.oof = s.oof ∧ s'.data = dm ∧ s'.orig_count = s.orig_count ∧
    (s.count < s.rec_count → s'.done = true ∧ s'.ret = s.orig_count ∧
      wrRec s' = { wrRec s with
        bits := (Int.ofNat (Int.toNat s.rec_bits ||| Int.toNat (dm * 2 ^ Int.toNat (s.rec_count - s.count) % 4294967296 % 256))) % 256,
        count := s.rec_count - s.count }) ∧
    (¬ s.count < s.rec_count → s'.done = false ∧ s'.ret = s.ret ∧ s'.count = s.count - s.rec_count ∧
      wrRec s' = fPut (wrRec s) ((Int.ofNat (Int.toNat s.rec_bits ||| Int.toNat (dm / 2 ^ Int.toNat (s.count - s.rec_count) % 256))) % 256)) := by
  obtain ⟨hc1, hc2⟩ := hc
  obtain ⟨hl, ⟨hp1, hp2⟩, ⟨hz1, hz2⟩, he, hb⟩ := hr
  simp only [wrRec] at hl hp1 hp2 hz1 hz2 he hb
  obtain ⟨hrc1, hrc2⟩ := hrc
  have hzn' : (s.rec_bytez = -1) = False := by simp only [eq_iff_iff, iff_false]; omega
  have hbz : 0 ≤ s.rec_block_offset + s.rec_bytez := by omega
  have hl' : (s.rec_bytea.length : Int) = 4096 := by omega
  have hdm := maskedC_nonneg s.data s.count
  by_cases hearly : s.count < s.rec_count
  · c2l_simp [Hbitwrite.chk, hub, hdone, Hbitwrite.seg2, maskedC_fold, wrRec, hearly]
    c2l_ub [hl']
  · have hfb : (0 : Int) ≤ s.count - s.rec_count ∧ s.count - s.rec_count < 32 := by omega
    by_cases hfull : s.rec_bytep + 1 = s.rec_bytez
    · by_cases hmore : s.rec_max_offset > s.rec_byte_offset + 1
      · have hrs := rdSize_pos hmore
        c2l_simp [Hbitwrite.chk, hub, hdone, Hbitwrite.seg2, maskedC_fold, kRead_fold, rdSize_fold, fPut, wrRec, hearly,
          hfull, hzn', hmore, kRead_ne hrs.1, hbz]
        c2l_ub [hl', kRead_le hrs.1 hrs.2]
      · c2l_simp [Hbitwrite.chk, hub, hdone, Hbitwrite.seg2, maskedC_fold, fPut, wrRec, hearly, hfull, hzn', hmore]
        c2l_ub [hl']
    · c2l_simp [Hbitwrite.chk, hub, hdone, Hbitwrite.seg2, maskedC_fold, fPut, wrRec, hearly, hfull]
      c2l_ub [hl']

theorem maskedC_nat (d c : Nat) : maskedC (d : Int) (c : Int) = ((d &&& maskL c : Nat) : Int) := by
  simp [maskedC, maskL]

theorem early_bits (b dm mc c : Nat) (hb : b < 256) :
    (Int.ofNat (Int.toNat (b : Int) ||| Int.toNat ((dm : Int) * 2 ^ Int.toNat ((mc : Int) - (c : Int)) % 4294967296 % 256))) % 256
      = ((b ||| ((dm <<< (mc - c)) % 256) : Nat) : Int) := by
  have : b ||| (dm <<< (mc - c)) % 256 < 256 := Nat.or_lt_two_pow (n := 8) hb (Nat.mod_lt _ (by omega))
  simp only [toNat_sub_cast, shl_cast, mod32_cast, mod256_cast, or_cast, Nat.mod_mod_of_dvd _ (by decide : 256 ∣ 4294967296)]
  omega

theorem first_bits (b dm mc c : Nat) :
    (Int.ofNat (Int.toNat (b : Int) ||| Int.toNat ((dm : Int) / 2 ^ Int.toNat ((c : Int) - (mc : Int)) % 256))) % 256
      = (((b ||| ((dm >>> (c - mc)) % 256)) % 256 : Nat) : Int) := by
  simp only [toNat_sub_cast, shr_cast, mod256_cast, or_cast]

theorem final_bits (dm c2 : Nat) :
    ((dm : Int) * 2 ^ Int.toNat (8 - (c2 : Int))) % 4294967296 % 256 = (((dm <<< (8 - c2)) % 256 : Nat) : Int) := by
  simp only [toNat_8_sub, shl_cast, mod32_cast, mod256_cast]
  omega

theorem wr_seg_done (fuel : Nat) (s : Hbitwrite.St) (h : s.done = true) :
    Hbitwrite.seg1 fuel s = s ∧ Hbitwrite.seg2 fuel s = s ∧ Hbitwrite.seg3 fuel s = s ∧ Hbitwrite.seg4 fuel s = s := by
  refine ⟨?_, ?_, ?_, ?_⟩
  · simp only [Hbitwrite.seg1, h, ↓reduceIte]
  · simp only [Hbitwrite.seg2, h, ↓reduceIte]
  · simp only [Hbitwrite.seg3, h, ↓reduceIte]
  · simp only [Hbitwrite.seg4, h, ↓reduceIte]

/-- segment 0 of `Hbitwrite`, the argument checks: a count `<= 0` or no write access is `FAIL` -/
theorem wr_seg0_bad (fuel : Nat) (s : Hbitwrite.St) (hub : s.ub = false) (hdone : s.done = false) (hnull : s.rec_null = false)
    (hbad : s.count ≤ 0 ∨ s.rec_access ≠ 119) :
    let s' := Hbitwrite.seg0 fuel s
    s'.ub = false ∧ s'.oof = s.oof ∧ wrRec s' = wrRec s ∧ s'.done = true ∧ s'.ret = -1 := by
  by_cases h0 : s.count ≤ 0
  · c2l_simp [hub, Hbitwrite.seg0, wrRec, h0]
  · have ha : ¬ s.rec_access = 119 := by rcases hbad with h | h; exact absurd h h0; exact h
    c2l_simp [hub, hdone, hnull, Hbitwrite.seg0, wrRec, h0, ha]

/-- .. and otherwise the clipping of `count` to `DATANUM` -/
theorem wr_seg0_eq (fuel : Nat) (s : Hbitwrite.St) (hdone : s.done = false) (hnull : s.rec_null = false) (hc : 0 < s.count)
    (hacc : s.rec_access = 119) :
    Hbitwrite.seg0 fuel s = { s with orig_count := s.count, count := if s.count > 32 then 32 else s.count } := by
  have h0 : ¬ (s.count ≤ 0) := by omega
  by_cases h32 : s.count > 32 <;> cases s <;> simp only at hdone hnull hacc h0 h32 <;> subst hdone hnull hacc <;>
    c2l_simp [Hbitwrite.seg0, datanum_int, h0, h32]

theorem wr_seg1_w (fuel : Nat) (s : Hbitwrite.St) (hdone : s.done = false) (hm : s.rec_mode = 119) : Hbitwrite.seg1 fuel s = s := by
  have hm' : ¬ (s.rec_mode = 114) := by omega
  simp only [Hbitwrite.seg1, hdone, hm', Bool.false_eq_true, ↓reduceIte]

/-- segment 4 of `Hbitwrite`: the remaining bits go to the bit buffer, `max_offset` follows `byte_offset`, `return orig_count` -/
theorem wr_seg4 (fuel : Nat) (s : Hbitwrite.St) (hub : s.ub = false) (hdone : s.done = false) (hc : 0 ≤ s.count ∧ s.count < 8)
    (hd : 0 ≤ s.data) :
    let s' := Hbitwrite.seg4 fuel s
    s'.ub = false ∧ s'.oof = s.oof ∧ s'.done = true ∧ s'.ret = s.orig_count ∧
      wrRec s' = { wrRec s with count := 8 - s.count, bits := s.data * 2 ^ Int.toNat (8 - s.count) % 4294967296 % 256,
                                maxOff := if s.rec_byte_offset > s.rec_max_offset then s.rec_byte_offset else s.rec_max_offset } := by
  have h1 : (8 : Int) - s.count > 0 := by omega
  c2l_simp [Hbitwrite.chk, wr_max_ite, hub, hdone, Hbitwrite.seg4, wrRec, bitnum_int, h1]
  c2l_ub []

theorem wr_seg3_run (fuel : Nat) (s : Hbitwrite.St) (h : s.done = false) : Hbitwrite.seg3 fuel s = Hbitwrite.loop0 fuel s := by
  simp only [Hbitwrite.seg3, h, Bool.false_eq_true, ↓reduceIte]

theorem wr_late (fuel : Nat) (hf : 3 ≤ fuel) (S2 : Hbitwrite.St) (m1 : St) (c0 dm : Nat) (h : WrSim S2 m1) (hcnt : S2.count = c0)
    (hdat : S2.data = dm) (hc0 : c0 < 32) :
    WrEnd S2 (Hbitwrite.seg4 fuel (Hbitwrite.loop0 fuel S2)) (wrRest (wholeBytes c0 m1 dm c0) dm) := by
  have hl := wr_loop (c0 / 8) c0 fuel c0 S2 m1 dm (by omega) (by omega) (by omega) (by omega) h hcnt hdat
  generalize Hbitwrite.loop0 fuel S2 = L at hl ⊢
  generalize wholeBytes c0 m1 dm c0 = W at hl ⊢
  obtain ⟨m2, c2⟩ := W
  obtain ⟨q, k, q5, q6⟩ := hl
  simp only at q k q5 q6
  obtain ⟨f1, f2, f3, f4, f5⟩ := wr_seg4 fuel L q.ub q.run (by rw [q5]; omega) (by rw [k.data, hdat]; omega)
  have hc2 : 8 - c2 > 0 := by omega
  simp only [wrRest, hc2, if_true]
  have hbo : L.rec_byte_offset = (m2.byteOff : Int) := congrArg CRec.byteOff q.crec
  have hmo : L.rec_max_offset = (m2.maxOff : Int) := congrArg CRec.maxOff q.crec
  have hbits : L.data * 2 ^ Int.toNat (8 - L.count) % 4294967296 % 256 = (((dm <<< (8 - c2)) % 256 : Nat) : Int) := by
    rw [k.data, hdat, q5, final_bits]
  refine .after ⟨f1, f2, f3, f4, ?_, q.inv.regs _ _ _ (by omega) (by omega) (Nat.mod_lt _ (by omega)), q.w⟩ k.oof k.orig
  rw [f5, q.crec, hbo, hmo, hbits, q5]
  simp only [St.toC, St.buf]
  congr 1
  · omega
  · exact (natCast_max_ite _ _).symm

theorem wr_core (fuel : Nat) (s : Hbitwrite.St) (m : St) (c d : Nat) (hc1 : 1 ≤ c) (hc : c ≤ 32) (hf : 3 ≤ fuel)
    (h : WrSim s m) (hcnt : s.count = c) (hdat : s.data = d) :
    WrEnd s (Hbitwrite.seg4 fuel (Hbitwrite.seg3 fuel (Hbitwrite.seg2 fuel s))) (bitwriteCore m c d) := by
  obtain ⟨hub, hdone, hrec, hinv, hw⟩ := h
  have gc : (1 : Int) ≤ m.toC.count ∧ m.toC.count ≤ 8 := by
    have := hinv.wcnt hw; have := hinv.cnt; simp only [St.toC]; omega
  have gb : (0 : Int) ≤ m.toC.bits := by simp only [St.toC]; omega
  rw [← hrec] at gc gb
  obtain ⟨a1, a2, a3, a4, a5, a6⟩ := wr_seg2 fuel s hub hdone (by omega) (by omega) gc gb (hrec ▸ toC_w_facts hinv hw)
  have hmc : s.rec_count = (m.count : Int) := congrArg CRec.count hrec
  have hmb : s.rec_bits = (m.bits : Int) := congrArg CRec.bits hrec
  generalize hdmv : d &&& maskL c = dm
  have hdm : maskedC s.data s.count = (dm : Int) := by rw [hdat, hcnt, maskedC_nat, hdmv]
  by_cases hearly : c < m.count
  · obtain ⟨e1, e2, e3⟩ := a5 (by omega)
    obtain ⟨-, -, d3, d4⟩ := wr_seg_done fuel (Hbitwrite.seg2 fuel s) e1
    simp only [d3, d4]
    have hm' : bitwriteCore m c d = { m with count := m.count - c, bits := m.bits ||| ((dm <<< (m.count - c)) % 256) } := by
      simp only [bitwriteCore, hearly, if_true, hdmv]
    rw [hm']
    refine ⟨a1, a2, e1, e2, ?_, ?_, hw⟩
    · rw [e3, hrec, hmc, hmb, hdm, hcnt, early_bits _ _ _ _ hinv.bits]
      simp only [St.toC, St.buf]
      congr 1
      omega
    · exact hinv.regs _ _ _ (by omega) (by have := hinv.cnt; omega)
        (Nat.or_lt_two_pow (n := 8) hinv.bits (Nat.mod_lt _ (by omega)))
  · obtain ⟨e1, e2, e3, e4⟩ := a6 (by omega)
    have hmc1 := hinv.wcnt hw
    obtain ⟨p1, p2, p3⟩ := putByte_toC hinv hw ((m.bits ||| ((dm >>> (c - m.count)) % 256)) % 256)
      (Nat.mod_lt _ (by omega))
    generalize hm1 : putByte m ((m.bits ||| ((dm >>> (c - m.count)) % 256)) % 256) = m1 at p1 p2 p3
    have hrec2 : wrRec (Hbitwrite.seg2 fuel s) = m1.toC := by
      rw [e4, hrec, hmb, hdm, hcnt, hmc, first_bits, ← p1]
    rw [wr_seg3_run _ _ e1, bitwriteCore_late m c d hearly, hdmv, hm1]
    refine (wr_late fuel (by omega) (Hbitwrite.seg2 fuel s) m1 (c - m.count) dm ⟨a1, e1, hrec2, p2, p3⟩
      (by rw [e3, hcnt, hmc]; omega) (by rw [a3, hdm]) (by omega)).after a2 a4

def wrInit (r : CRec) (count data : Int) : Hbitwrite.St :=
  { bitid := bitId, count := count, data := data, rec_null := false, rec_access := r.access, rec_mode := r.mode,
    rec_block_offset := r.blockOff, rec_bytea := r.bytea, rec_bytep := r.bytep, rec_count := r.count, rec_bit_id := bitId,
    rec_max_offset := r.maxOff, rec_bytez := r.bytez, rec_buf_read := r.bufRead, rec_byte_offset := r.byteOff, rec_bits := r.bits,
    io_elt := r.elt, io_epos := r.epos, io_enew := r.enew }

def wrS0 (r : CRec) (count data : Int) : Hbitwrite.St :=
  { wrInit r count data with orig_count := count, count := if count > 32 then 32 else count }

theorem wr_seg0_init (fuel : Nat) (r : CRec) (count data : Int) (hc : 0 < count) (hacc : r.access = 119) :
    Hbitwrite.seg0 fuel (wrInit r count data) = wrS0 r count data :=
  wr_seg0_eq fuel (wrInit r count data) rfl rfl hc hacc

theorem cBitwrite_eq (fuel : Nat) (r : CRec) (count data : Int) :
    cBitwrite fuel r count data =
      (let s := Hbitwrite.seg4 fuel (Hbitwrite.seg3 fuel (Hbitwrite.seg2 fuel (Hbitwrite.seg1 fuel (Hbitwrite.seg0 fuel (wrInit r count data)))))
       { crec := wrRec s, ret := s.ret, ub := s.ub, oof := s.oof }) := rfl

/-- A statement about the model alone that follows from `wr_core`, which establishes `Inv` of every intermediate model state; a model-only proof would repeat its
    induction over `wholeBytes`. -/
theorem bitwriteCore_inv {m : St} (hinv : Inv m) (hw : m.wMode = true) (c d : Nat) (hc1 : 1 ≤ c) (hc : c ≤ 32) :
    Inv (bitwriteCore m c d) :=
  (wr_core 3 (wrInit m.toC c d) m c d hc1 hc (Nat.le_refl _) ⟨rfl, rfl, rfl, hinv, hw⟩ rfl rfl).inv

theorem modeChar_w : modeChar true = 119 := rfl
theorem modeChar_r : modeChar false = 114 := rfl

theorem Hbitwrite_w (m : St) (hinv : Inv m) (hw : m.wMode = true) (count : Int) (data : Nat) (hd : data < 2 ^ 32)
    (fuel : Nat) (hf : 3 ≤ fuel) :
    let o := cBitwrite fuel m.toC count data
    let r := bitwrite m count.toNat data
    o.ub = false ∧ o.oof = false ∧ o.crec = r.1.toC ∧ o.ret = (match r.2 with | some _ => count | none => -1) ∧ Inv r.1 ∧
      r.1.wMode = true := by
  rw [cBitwrite_eq]
  by_cases hbad : count ≤ 0 ∨ m.wAccess = false
  · have hb' : (wrInit m.toC count data).count ≤ 0 ∨ (wrInit m.toC count data).rec_access ≠ 119 := by
      rcases hbad with h | h
      · exact Or.inl h
      · right; show modeChar m.wAccess ≠ 119; rw [h]; decide
    obtain ⟨a1, a2, a3, b1, b2⟩ := wr_seg0_bad fuel (wrInit m.toC count data) rfl rfl rfl hb'
    obtain ⟨d1, d2, d3, d4⟩ := wr_seg_done fuel _ b1
    rw [d1, d2, d3, d4]
    have hm : bitwrite m count.toNat data = (m, none) := by
      rcases hbad with h | h
      · have : count.toNat = 0 := by omega
        simp [bitwrite, this]
      · simp [bitwrite, h]
    rw [hm]
    exact ⟨a1, a2, a3, b2, hinv, hw⟩
  · have hc0 : 0 < count := by
      by_cases h : 0 < count
      · exact h
      · exact absurd (Or.inl (by omega)) hbad
    have hacc : m.wAccess = true := by
      cases h : m.wAccess
      · exact absurd (Or.inr h) hbad
      · rfl
    rw [wr_seg0_init fuel _ _ _ hc0 (by show modeChar m.wAccess = 119; rw [hacc]; rfl),
      wr_seg1_w fuel _ rfl (by show modeChar m.wMode = 119; rw [hw]; rfl)]
    have hcc : (wrS0 m.toC count data).count = ((min count.toNat 32 : Nat) : Int) := by
      show (if count > 32 then 32 else count) = _
      split <;> omega
    have k := wr_core fuel (wrS0 m.toC count data) m (min count.toNat 32) data (by omega) (by omega) hf
      ⟨rfl, rfl, rfl, hinv, hw⟩ hcc rfl
    have hm := bitwrite_w hw hacc (c := count.toNat) (by omega) data
    rw [Nat.mod_eq_of_lt hd] at hm
    rw [hm k.inv.noErr]
    exact ⟨k.ub, k.oof, k.crec, k.ret, k.inv, k.w⟩

def flRec (s : HIbitflush.St) : CRec :=
  { access := s.rec_access, mode := s.rec_mode, count := s.rec_count, bits := s.rec_bits, bufRead := s.rec_buf_read,
    byteOff := s.rec_byte_offset, maxOff := s.rec_max_offset, blockOff := s.rec_block_offset, bytep := s.rec_bytep,
    bytez := s.rec_bytez, bytea := s.rec_bytea, elt := s.io_elt, epos := s.io_epos, enew := s.io_enew }

/-- `(uint8)(~(maskc[BITNUM - count] << count))` as the translator writes it -/
def mergeMaskC (count : Int) : Int :=
  (-(Int.ofNat ((H4.Gen.Hbitio.maskc).getD (Int.toNat (8 - count)) 0) * 2 ^ Int.toNat count) - 1) % 256

theorem mergeMaskC_fold (count : Int) :
    (-(Int.ofNat ((H4.Gen.Hbitio.maskc).getD (Int.toNat (8 - count)) 0) * 2 ^ Int.toNat count) - 1) % 256 = mergeMaskC count := rfl

/-- the "middle of the dataset" branch of `HIbitflush`: the pending bits are merged into the byte under the cursor -/
def fMerge (r : CRec) : CRec :=
  let x := r.bytea.getD r.bytep.toNat 0
  let x1 := Int.ofNat (x.toNat &&& (mergeMaskC r.count).toNat) % 256
  let x2 := Int.ofNat (x1.toNat ||| r.bits.toNat) % 256
  { r with bytea := r.bytea.set r.bytep.toNat x2, bytep := r.bytep + 1, byteOff := r.byteOff + 1,
           maxOff := if r.byteOff + 1 > r.maxOff then r.byteOff + 1 else r.maxOff, count := 8, bits := 0 }

/-- `if (writeout == TRUE) { write_size = MIN(bytez - bytea, max_offset - block_offset); if (write_size > 0) Hwrite(…) }` -/
def fWriteout (r : CRec) : CRec :=
  let ws := if r.bytez < r.maxOff - r.blockOff then r.bytez else r.maxOff - r.blockOff
  if ws > 0 then
    { r with elt := r.elt.take r.epos.toNat ++ r.bytea.take ws.toNat ++ r.elt.drop (r.epos + ws).toNat, epos := r.epos + ws, enew := 0 }
  else r

theorem fl_seg0_skip (fuel : Nat) (s : HIbitflush.St) (h : 8 ≤ s.rec_count) : HIbitflush.seg0 fuel s = s := by
  have h' : ¬ (s.rec_count < 8) := by omega
  simp only [HIbitflush.seg0, bitnum_int, h', if_false]

theorem fl_seg0_merge (fuel : Nat) (s : HIbitflush.St) (hub : s.ub = false) (hc : 0 ≤ s.rec_count ∧ s.rec_count < 8)
    (hcond : ¬ (s.rec_byte_offset ≥ s.rec_max_offset ∧ s.flushbit ≠ -1)) (hl : s.rec_bytea.length = 4096)
    (hp : 0 ≤ s.rec_bytep ∧ s.rec_bytep < 4096) (hbits : 0 ≤ s.rec_bits) (hx : 0 ≤ s.rec_bytea.getD s.rec_bytep.toNat 0) :
    let s' := HIbitflush.seg0 fuel s
    s'.ub = false ∧ s'.oof = s.oof ∧ s'.done = s.done ∧ s'.ret = s.ret ∧ s'.flushbit = s.flushbit ∧ s'.writeout = s.writeout ∧
      flRec s' = fMerge (flRec s) := by
  obtain ⟨hc1, hc2⟩ := hc
  obtain ⟨hp1, hp2⟩ := hp
  have hl' : (s.rec_bytea.length : Int) = 4096 := by omega
  have hpn : s.rec_bytep.toNat < s.rec_bytea.length := by omega
  have hmm : (0 ≤ mergeMaskC s.rec_count) = True := by unfold mergeMaskC; exact mod256_nonneg _
  c2l_simp [HIbitflush.chk, fl_max_ite, hub, HIbitflush.seg0, bitnum_int, mergeMaskC_fold, fMerge, flRec, hc2, hcond, H4.C2L.getD_set_self _ _ _ _ hpn, List.set_set,
    Int.zero_emod]
  c2l_ub [hl', hmm]

theorem fl_seg1 (fuel : Nat) (s : HIbitflush.St) (hub : s.ub = false) (hdone : s.done = false) (hl : s.rec_bytea.length = 4096)
    (hz : 0 ≤ s.rec_bytez ∧ s.rec_bytez ≤ 4096) (he : 0 ≤ s.io_epos) :
    let s' := HIbitflush.seg1 fuel s
    s'.ub = false ∧ s'.oof = s.oof ∧ s'.done = true ∧ s'.ret = 0 ∧
      flRec s' = if s.writeout = 1 then fWriteout (flRec s) else flRec s := by
  obtain ⟨hz1, hz2⟩ := hz
  have hl' : (s.rec_bytea.length : Int) = 4096 := by omega
  by_cases hwo : s.writeout = 1
  · by_cases hlt : s.rec_bytez < s.rec_max_offset - s.rec_block_offset
    · by_cases hpos : s.rec_bytez > 0
      · have hn : (s.rec_bytez = -1) = False := by simp only [eq_iff_iff, iff_false]; omega
        c2l_simp [HIbitflush.chk, hub, hdone, HIbitflush.seg1, fWriteout, flRec, hwo, hlt, hpos, hn]
        c2l_ub [hl']
      · c2l_simp [hub, hdone, HIbitflush.seg1, fWriteout, flRec, hwo, hlt, hpos]
    · by_cases hpos : s.rec_max_offset - s.rec_block_offset > 0
      · have hn : (s.rec_max_offset - s.rec_block_offset = -1) = False := by simp only [eq_iff_iff, iff_false]; omega
        c2l_simp [HIbitflush.chk, hub, hdone, HIbitflush.seg1, fWriteout, flRec, hwo, hlt, hpos, hn]
        c2l_ub [hl']
      · c2l_simp [hub, hdone, HIbitflush.seg1, fWriteout, flRec, hwo, hlt, hpos]
  · c2l_simp [hub, hdone, HIbitflush.seg1, flRec, hwo]

/-- the branch of `HIbitflush` that completes the last byte with the flush bit: a call of (the translated) `Hbitwrite` on the same record -/
theorem fl_seg0_call (fuel : Nat) (s : HIbitflush.St) (hc : s.rec_count < 8) (hid : s.rec_bit_id = bitId)
    (hcond : s.rec_byte_offset ≥ s.rec_max_offset ∧ s.flushbit ≠ -1) :
    let o := cBitwrite fuel (flRec s) s.rec_count ((if s.flushbit ≠ 0 then 255 else 0) % 4294967296)
    let s' := HIbitflush.seg0 fuel s
    s'.ub = (s.ub || o.ub) ∧ s'.oof = (s.oof || o.oof) ∧ s'.done = (if o.ret = -1 then true else s.done) ∧
      s'.ret = (if o.ret = -1 then -1 else s.ret) ∧ s'.flushbit = s.flushbit ∧ s'.writeout = s.writeout ∧
      flRec s' = { o.crec with access := s.rec_access } := by
  intro o
  by_cases hr : o.ret = -1 <;> simp only [o, cBitwrite, flRec] at hr <;>
    c2l_simp [HIbitflush.St.join, hid, HIbitflush.seg0, bitnum_int, flRec, hc, hcond, hr, o, cBitwrite]

theorem mergeMaskC_nat : ∀ c : Nat, c < 8 → mergeMaskC (c : Int) = ((255 ^^^ ((maskC (BITNUM - c) <<< c) % 256) : Nat) : Int) := by
  decide

theorem mMerge_toC {m : St} (h : Rep m) (hp : m.bytep < 4096) (hc : m.count < 8) :
    (mMerge m).toC = fMerge m.toC ∧ Rep (mMerge m) ∧ (mMerge m).wMode = m.wMode ∧ (mMerge m).wAccess = m.wAccess ∧
      (mMerge m).bytez = m.bytez := by
  obtain ⟨x, t, hq⟩ := h.post_cons hp
  have hx := UInt8.toNat_lt x
  have hM : (mergeMaskC (m.count : Int)).toNat = (255 ^^^ ((maskC (8 - m.count) <<< m.count) % 256)) := by
    rw [mergeMaskC_nat m.count hc]; simp only [Int.toNat_natCast, consts]
  generalize hMd : (255 ^^^ ((maskC (8 - m.count) <<< m.count) % 256)) = M at hM
  have hxm : x.toNat &&& M < 256 := and_le_255 _ _ hx
  have hx1 : (((x.toNat &&& M : Nat) : Int) % 256).toNat = x.toNat &&& M := by omega
  have hB : ((UInt8.ofNat ((x.toNat &&& M ||| m.bits) % 256)).toNat : Int) = (((x.toNat &&& M ||| m.bits) % 256 : Nat) : Int) := by
    rw [UInt8.toNat_ofNat']; omega
  have hcell := toC_cell h hq
  have hl := h.len
  rw [hq] at hl
  simp only [mMerge, St.peek, St.store, St.adv, hq, st_ite, ite_self, consts, hMd]
  refine ⟨?_, ⟨h.noOob, h.noErr, by simp [h.bytep], by simp at hl ⊢; omega, h.zle, by simp, by simp⟩, trivial, trivial, trivial⟩
  have e := set_append_cons (ints m.pre.reverse) (x.toNat : Int) (((x.toNat &&& M ||| m.bits : Nat) : Int) % 256) (ints t)
  simp only [ints_length, List.length_reverse, ← h.bytep] at e
  simp only [St.toC, St.buf, hq, ints_append, ints_cons, Int.toNat_natCast] at hcell
  simp only [St.toC, fMerge, St.buf, hq, List.reverse_cons, List.append_assoc, List.singleton_append, ints_append, ints_cons,
    Int.toNat_natCast, hcell, hM, hx1, hB, e, Int.ofNat_eq_natCast, Int.natCast_emod, natCast_max_ite, Int.natCast_add, Int.natCast_one]
  rfl

theorem mWriteout_toC {m : St} (h : Rep m) (wo : Bool) :
    (mWriteout m wo).toC = (if wo then fWriteout m.toC else m.toC) ∧ Rep (mWriteout m wo) ∧ (mWriteout m wo).wMode = m.wMode ∧
      (mWriteout m wo).wAccess = m.wAccess ∧ (mWriteout m wo).bytez = m.bytez := by
  cases wo with
  | false => exact ⟨rfl, h, rfl, rfl, rfl⟩
  | true =>
    obtain ⟨h1, h2, h3, h4, h5, h7, h9⟩ := h
    obtain ⟨elem, posn, isNew, wAccess, wMode, blockOff, maxOff, byteOff, count, bufRead, bits, pre, post, bytep, bytez, oob, err⟩ := m
    simp only at h1 h2 h3 h4 h5 h7 h9
    subst h1 h2 h3
    have hbuf : (pre.reverse ++ post).length = 4096 := by simp; omega
    by_cases hpos : min bytez (maxOff - blockOff) > 0
    · have hlt : ((if (bytez : Int) < (maxOff : Int) - (blockOff : Int) then (bytez : Int) else (maxOff : Int) - (blockOff : Int)) : Int)
          = ((min bytez (maxOff - blockOff) : Nat) : Int) := by
        split <;> omega
      have hpos' : ((min bytez (maxOff - blockOff) : Nat) : Int) > 0 := by omega
      have hdl : (List.take (min bytez (maxOff - blockOff)) (pre.reverse ++ post)).length = min bytez (maxOff - blockOff) := by
        rw [List.length_take, hbuf]; omega
      have e2 : ((posn : Int) + ((min bytez (maxOff - blockOff) : Nat) : Int)).toNat = posn + min bytez (maxOff - blockOff) := by omega
      simp only [mWriteout, if_true, hpos, hWrite, St.toC, fWriteout, St.buf, hlt, hpos', hdl, e2, Int.toNat_natCast, ints_append,
        ints_take, ints_drop, Int.natCast_add, List.append_assoc]
      refine ⟨rfl, ⟨rfl, rfl, rfl, h4, h5, h7, h9⟩, ?_⟩
      simp
    · have hf : ∀ r : CRec, ¬ (r.bytez > 0 ∧ r.maxOff - r.blockOff > 0) → fWriteout r = r := by
        intro r hr
        unfold fWriteout
        simp only
        split <;> split <;> first | rfl | (exfalso; omega)
      rw [hf _ (by simp only [St.toC]; omega)]
      simp only [mWriteout, if_true, hpos, if_false, true_and]
      exact ⟨⟨rfl, rfl, rfl, h4, h5, h7, h9⟩, by simp⟩

def flInit (r : CRec) (flushbit writeout : Int) : HIbitflush.St :=
  { rec_access := r.access, rec_mode := r.mode, rec_block_offset := r.blockOff, rec_bytea := r.bytea, rec_bytep := r.bytep,
    rec_count := r.count, rec_bit_id := bitId, rec_max_offset := r.maxOff, rec_byte_offset := r.byteOff, rec_bits := r.bits,
    rec_bytez := r.bytez, rec_buf_read := r.bufRead, flushbit := flushbit, writeout := writeout, io_elt := r.elt, io_epos := r.epos,
    io_enew := r.enew }

theorem cBitflush_eq (fuel : Nat) (r : CRec) (flushbit writeout : Int) :
    cBitflush fuel r flushbit writeout =
      (let s := HIbitflush.seg1 fuel (HIbitflush.seg0 fuel (flInit r flushbit writeout))
       { crec := flRec s, ret := s.ret, ub := s.ub, oof := s.oof }) := rfl

theorem toC_rep_facts {m : St} (h : Rep m) :
    m.toC.bytea.length = 4096 ∧ (0 ≤ m.toC.bytez ∧ m.toC.bytez ≤ 4096) ∧ 0 ≤ m.toC.epos ∧ 0 ≤ m.toC.bits ∧ 0 ≤ m.toC.bytep ∧
      0 ≤ m.toC.blockOff := by
  have h2 := h.zle
  have hb : m.buf.length = 4096 := by simp [St.buf, h.len]
  simp only [St.toC, ints_length, hb]
  refine ⟨trivial, ⟨?_, ?_⟩, ?_, ?_, ?_, ?_⟩ <;> omega

theorem getD_nonneg_of_all (l : List Int) (h : ∀ x ∈ l, 0 ≤ x) (i : Nat) : 0 ≤ l.getD i 0 := by
  by_cases hi : i < l.length
  · rw [List.getD_eq_getElem?_getD, List.getElem?_eq_getElem hi]; exact h _ (List.getElem_mem hi)
  · simp [List.getD_eq_getElem?_getD, hi]

theorem ints_nonneg (l : List Byte) : ∀ x ∈ ints l, 0 ≤ x := by
  intro x hx
  simp only [ints, List.mem_map] at hx
  obtain ⟨b, -, rfl⟩ := hx
  omega

theorem ints_getD_nonneg (l : List Byte) (i : Nat) : 0 ≤ (ints l).getD i 0 := getD_nonneg_of_all _ (ints_nonneg l) i

theorem flushArg_ne (fb : Option Bool) : (flushArg fb ≠ -1) ↔ fb.isSome = true := by
  cases fb with
  | none => exact ⟨fun h => absurd rfl h, fun h => by cases h⟩
  | some b => cases b <;> exact ⟨fun _ => rfl, fun _ => by decide⟩

theorem flushVal (b : Bool) :
    ((if flushArg (some b) ≠ 0 then 255 else 0) % 4294967296 : Int) = ((if (some b).getD false then 0xFF else 0 : Nat) : Int) := by
  cases b <;> simp [flushArg]

theorem HIbitflush_w (m : St) (hinv : Inv m) (hw : m.wMode = true) (fb : Option Bool) (wo : Bool) (fuel : Nat) (hf : 3 ≤ fuel) :
    let o := cBitflush fuel m.toC (flushArg fb) (if wo then 1 else 0)
    let m' := bitflush m fb wo
    o.ub = false ∧ o.oof = false ∧ o.ret = 0 ∧ o.crec = m'.toC ∧ Rep m' ∧ m'.wMode = true ∧ m'.wAccess = m.wAccess := by
  rw [cBitflush_eq, bitflush_eq]
  have hwo : ∀ x : CRec, (if (if wo then (1 : Int) else 0) = 1 then fWriteout x else x) = (if wo then fWriteout x else x) := by
    intro x; cases wo <;> simp
  have tail : ∀ (s1 : HIbitflush.St) (m1 : St), s1.ub = false → s1.oof = false → s1.done = false → s1.writeout = (if wo then 1 else 0) →
      flRec s1 = m1.toC → Rep m1 → m1.wMode = true → m1.wAccess = m.wAccess →
      (HIbitflush.seg1 fuel s1).ub = false ∧ (HIbitflush.seg1 fuel s1).oof = false ∧ (HIbitflush.seg1 fuel s1).ret = 0 ∧
        flRec (HIbitflush.seg1 fuel s1) = (mWriteout m1 wo).toC ∧ Rep (mWriteout m1 wo) ∧ (mWriteout m1 wo).wMode = true ∧
        (mWriteout m1 wo).wAccess = m.wAccess := by
    intro s1 m1 t1 t2 t3 t4 t5 t6 t7 t8
    obtain ⟨g1, g2, g3, -, -, -⟩ := toC_rep_facts t6
    rw [← t5] at g1 g2 g3
    have h1 := fl_seg1 fuel s1 t1 t3 g1 g2 g3
    simp only at h1
    obtain ⟨c1, c2, c3, c4, c5⟩ := h1
    obtain ⟨w1, w2, w3, w4, -⟩ := mWriteout_toC t6 wo
    refine ⟨c1, c2.trans t2, c4, ?_, w2, w3.trans t7, w4.trans t8⟩
    rw [c5, t4, hwo, t5, w1]
  by_cases hc8 : m.count < 8
  · have hc : m.count < BITNUM := by simpa [consts] using hc8
    rw [if_pos hc]
    have hcI : (flInit m.toC (flushArg fb) (if wo then 1 else 0)).rec_count < 8 := by show (m.count : Int) < 8; omega
    by_cases hcond : m.byteOff ≥ m.maxOff ∧ fb.isSome
    · rw [if_pos hcond]
      obtain ⟨hbo, hsome⟩ := hcond
      obtain ⟨b, rfl⟩ := Option.isSome_iff_exists.mp hsome
      have hcondC : (flInit m.toC (flushArg (some b)) (if wo then 1 else 0)).rec_byte_offset ≥
          (flInit m.toC (flushArg (some b)) (if wo then 1 else 0)).rec_max_offset ∧
          (flInit m.toC (flushArg (some b)) (if wo then 1 else 0)).flushbit ≠ -1 :=
        ⟨by show (m.byteOff : Int) ≥ (m.maxOff : Int); omega, (flushArg_ne (some b)).mpr rfl⟩
      have hdl : (if (some b).getD false then 0xFF else 0 : Nat) < 2 ^ 32 := by cases b <;> decide
      have hfv := flushVal b
      generalize (if (some b).getD false then 0xFF else 0 : Nat) = v at hdl hfv ⊢
      have h0 := fl_seg0_call fuel _ hcI rfl hcondC
      simp only at h0
      have hv : (flInit m.toC (flushArg (some b)) (if wo then 1 else 0)).flushbit = flushArg (some b) := rfl
      rw [hv, hfv] at h0
      rw [show cBitwrite fuel (flRec (flInit m.toC (flushArg (some b)) (if wo then 1 else 0)))
          (flInit m.toC (flushArg (some b)) (if wo then 1 else 0)).rec_count
          (v : Int) =
            cBitwrite fuel m.toC (m.count : Int) (v : Int) from rfl] at h0
      have hmc1 := hinv.wcnt hw
      have hmc8 := hinv.cnt
      have key := Hbitwrite_w m hinv hw (m.count : Int) v hdl fuel hf
      simp only [Int.toNat_natCast] at key
      have hcore : (bitwriteCore m m.count v).err = false →
          bitwrite m m.count v =
            (bitwriteCore m m.count v, some m.count) :=
        bitwrite_w_eq m hw (hinv.wacc hw) m.count _ hmc1 (by omega) hdl
      have hmin : min m.count DATANUM = m.count := by simp [consts]; omega
      rw [hmin]
      rw [hcore (bitwriteCore_inv hinv hw _ _ hmc1 (by omega)).noErr] at key
      obtain ⟨k1, k2, k3, k4, k5, k6⟩ := key
      simp only at k3 k4 k5 k6
      have k7 : (bitwriteCore m m.count v).wAccess = m.wAccess := (k5.wacc k6).trans (hinv.wacc hw).symm
      obtain ⟨a1, a2, a3, a4, a5, a6, a7⟩ := h0
      have hret : ¬ ((cBitwrite fuel m.toC (m.count : Int) (v : Int)).ret = -1) := by
        rw [k4]; omega
      rw [if_neg hret] at a3 a4
      rw [k1] at a1
      rw [k2] at a2
      refine tail _ _ a1 a2 a3 a6 ?_ k5.rep k6 k7
      rw [a7, k3]
      show ({ (bitwriteCore m m.count v).toC with access := modeChar m.wAccess } : CRec) = _
      simp only [St.toC, k7]
    · rw [if_neg hcond]
      have hcondC : ¬ ((flInit m.toC (flushArg fb) (if wo then 1 else 0)).rec_byte_offset ≥
          (flInit m.toC (flushArg fb) (if wo then 1 else 0)).rec_max_offset ∧
          (flInit m.toC (flushArg fb) (if wo then 1 else 0)).flushbit ≠ -1) := by
        intro ⟨h1, h2⟩
        exact hcond ⟨by have : (m.byteOff : Int) ≥ (m.maxOff : Int) := h1; omega, (flushArg_ne fb).mp h2⟩
      have hplt : m.bytep < 4096 := by have := hinv.wlt hw; have := hinv.zle; omega
      obtain ⟨g1, g2, g3, g4, g5⟩ := toC_w_facts hinv hw
      have h0 := fl_seg0_merge fuel (flInit m.toC (flushArg fb) (if wo then 1 else 0)) rfl
        (by show (0 : Int) ≤ (m.count : Int) ∧ (m.count : Int) < 8; omega) hcondC g1 g2
        (by show (0 : Int) ≤ (m.bits : Int); omega) (ints_getD_nonneg _ _)
      simp only at h0
      obtain ⟨a1, a2, a3, a4, a5, a6, a7⟩ := h0
      obtain ⟨w1, w2, w3, w4, -⟩ := mMerge_toC hinv.rep hplt hc8
      exact tail _ _ a1 a2 a3 a6 (a7.trans w1.symm) w2 (w3.trans hw) w4
  · have hc : ¬ (m.count < BITNUM) := by simpa [consts] using hc8
    rw [if_neg hc]
    have h0 : HIbitflush.seg0 fuel (flInit m.toC (flushArg fb) (if wo then 1 else 0)) = flInit m.toC (flushArg fb) (if wo then 1 else 0) :=
      fl_seg0_skip fuel _ (by show (8 : Int) ≤ (m.count : Int); omega)
    rw [h0]
    exact tail _ m rfl rfl rfl rfl rfl hinv.rep hw rfl

def rdRec (s : Hbitread.St) : CRec :=
  { access := s.rec_access, mode := s.rec_mode, count := s.rec_count, bits := s.rec_bits, bufRead := s.rec_buf_read,
    byteOff := s.rec_byte_offset, maxOff := s.rec_max_offset, blockOff := s.rec_block_offset, bytep := s.rec_bytep,
    bytez := s.rec_bytez, bytea := s.rec_bytea, elt := s.io_elt, epos := s.io_epos, enew := s.io_enew }

/-- `if (bytep == bytez) { n = Hread(acc_id, BITBUF_SIZE, bytea); if (n <= 0) EOF; block_offset += buf_read; bytez = n + (bytep = bytea);
    buf_read = n; }`; `none` = the end-of-data branch -/
def fRefill (r : CRec) : Option CRec :=
  if r.bytep = r.bytez then
    if r.enew = 0 then
      let k := kRead r.elt.length r.epos 4096
      if k ≤ 0 then none
      else some { r with bytea := (r.elt.drop r.epos.toNat).take k.toNat ++ r.bytea.drop k.toNat, epos := r.epos + k,
                         blockOff := r.blockOff + r.bufRead, bytep := 0, bytez := k, bufRead := k }
    else none
  else some r

/-- `l = *bytep++; byte_offset++; if (byte_offset > max_offset) max_offset = byte_offset;` -/
def fGet (r : CRec) : Int × CRec :=
  (r.bytea.getD r.bytep.toNat 0,
   { r with bytep := r.bytep + 1, byteOff := r.byteOff + 1, maxOff := if r.byteOff + 1 > r.maxOff then r.byteOff + 1 else r.maxOff })

theorem all_nonneg_read (a e : List Int) (ha : ∀ x ∈ a, 0 ≤ x) (he : ∀ x ∈ e, 0 ≤ x) (p k : Nat) :
    ∀ x ∈ (e.drop p).take k ++ a.drop k, 0 ≤ x := by
  intro x hx
  rcases List.mem_append.mp hx with h | h
  · exact he x (List.mem_of_mem_drop (List.mem_of_mem_take h))
  · exact ha x (List.mem_of_mem_drop h)

/-- the ranges of a record in read mode that the checks of the translated text ask for; the cells of buffer and element are `uint8` -/
def _root_.H4.BitIO.CRec.ROK (r : CRec) : Prop :=
  r.bytea.length = 4096 ∧ (0 ≤ r.bytep ∧ r.bytep ≤ r.bytez) ∧ r.bytez ≤ 4096 ∧ 0 ≤ r.epos ∧ (∀ x ∈ r.bytea, 0 ≤ x) ∧ (∀ x ∈ r.elt, 0 ≤ x)

/-- one pass through the loop `while (count >= BITNUM) { refill; l = *bytep++; b |= l << (count -= BITNUM); … }` of `Hbitread` -/
theorem rd_body (fuel : Nat) (s : Hbitread.St) (hub : s.ub = false) (hdone : s.done = false)
    (hc : 8 ≤ s.count ∧ s.count < 40) (hb : 0 ≤ s.b) (hdl : 0 < s.data.length) (hr : (rdRec s).ROK) :
    let s' := Hbitread.loop0.body fuel s
    s'.ub = false ∧ s'.oof = s.oof ∧ s'.orig_count = s.orig_count ∧
    (fRefill (rdRec s) = none → s'.done = true ∧ s'.ret = s.orig_count - s.count ∧ s'.data = s.data.set 0 s.b ∧
      rdRec s' = { rdRec s with count := 0 }) ∧
    (∀ r1, fRefill (rdRec s) = some r1 → s'.done = false ∧ s'.ret = s.ret ∧ s'.data = s.data ∧ rdRec s' = (fGet r1).2 ∧
      s'.count = s.count - 8 ∧
      s'.b = Int.ofNat (Int.toNat s.b ||| Int.toNat ((fGet r1).1 * 2 ^ Int.toNat (s.count - 8) % 4294967296))) := by
  obtain ⟨hc1, hc2⟩ := hc
  obtain ⟨hl, ⟨hp1, hp2⟩, hz, he, hA, hE⟩ := hr
  simp only [rdRec] at hl hp1 hp2 hz he hA hE
  have hl' : (s.rec_bytea.length : Int) = 4096 := by omega
  have hkb := @kRead_bounds (s.io_elt.length : Int) s.io_epos 4096 (by omega)
  by_cases hfull : s.rec_bytep = s.rec_bytez
  · by_cases hnew : s.io_enew = 0
    · by_cases hk : kRead s.io_elt.length s.io_epos 4096 ≤ 0
      · have hk0 : kRead s.io_elt.length s.io_epos 4096 = 0 := by omega
        c2l_simp [Hbitread.chk, hub, hdone, Hbitread.loop0.body, kRead_fold, fRefill, fGet, rdRec, hfull, hnew, hk0, reduceCtorEq]
        c2l_ub [hl', hdl, he]
      · have hkp : 0 < kRead s.io_elt.length s.io_epos 4096 := by omega
        have hkn : (kRead s.io_elt.length s.io_epos 4096 ≤ 0) = False := by simp only [eq_iff_iff, iff_false]; omega
        have hka := kRead_avail hkp
        have hA' := all_nonneg_read s.rec_bytea s.io_elt hA hE s.io_epos.toNat (kRead s.io_elt.length s.io_epos 4096).toNat
        have hx := getD_nonneg_of_all _ hA' 0
        have hlen : ((List.take (kRead s.io_elt.length s.io_epos 4096).toNat (List.drop s.io_epos.toNat s.io_elt) ++
            List.drop (kRead s.io_elt.length s.io_epos 4096).toNat s.rec_bytea).length : Int) = 4096 := by
          simp only [List.length_append, List.length_take, List.length_drop]; omega
        c2l_simp [Hbitread.chk, rd_max_ite, hub, hdone, Hbitread.loop0.body, bitnum_int, kRead_fold, fRefill, fGet, rdRec, hfull, hnew, hkn, reduceCtorEq,
          Option.some.injEq, forall_eq']
        c2l_ub [hl', hdl, he, hlen, hx]
    · have hm1 : ((-1 : Int) ≤ 0) = True := by decide
      c2l_simp [Hbitread.chk, hub, hdone, Hbitread.loop0.body, kRead_fold, fRefill, fGet, rdRec, hfull, hnew, reduceCtorEq, hm1]
      c2l_ub [hl', hdl, he]
  · have hx := getD_nonneg_of_all _ hA s.rec_bytep.toNat
    c2l_simp [Hbitread.chk, rd_max_ite, hub, hdone, Hbitread.loop0.body, bitnum_int, fRefill, fGet, rdRec, hfull, reduceCtorEq, Option.some.injEq, forall_eq']
    c2l_ub [hl', hdl, he, hx]

theorem load_buf (s : St) (d : List Byte) : (s.load d).buf = d ++ s.buf.drop d.length := by
  simp [St.load, St.buf]

theorem refill_toC {m : St} (h : RdInv m) :
    (refill m).map St.toC = fRefill m.toC ∧
    ∀ m1, refill m = some m1 → Rep m1 ∧ m1.bytep < m1.bytez ∧ m1.wMode = false := by
  obtain ⟨⟨h1, h2, h3, h4, h5, h7, h9⟩, hr, hple⟩ := h
  obtain ⟨elem, posn, isNew, wAccess, wMode, blockOff, maxOff, byteOff, count, bufRead, bits, pre, post, bytep, bytez, oob, err⟩ := m
  simp only at h1 h2 h3 h4 h5 h7 h9 hr hple
  subst h1 h2 h3 hr
  by_cases hfull : pre.length = bytez
  · have hfull' : (pre.length : Int) = (bytez : Int) := by omega
    cases isNew with
    | true =>
      simp only [refill, hfull, if_true, hRead, Option.map_none, fRefill, St.toC]
      refine ⟨by simp, ?_⟩
      intro m1 hm; cases hm
    | false =>
      generalize hN : (if BITBUF_SIZE = 0 ∨ BITBUF_SIZE + posn > elem.length then elem.length - posn else BITBUF_SIZE) = N
      have hkk : kRead (↑(ints elem).length) (↑posn) 4096 = (N : Int) := by
        have h2 := kRead_nat elem.length posn 4096
        rw [ints_length, show ((4096 : Nat) : Int) = 4096 from rfl] at *
        rw [h2, ← hN]; rfl
      have hNle : N ≤ elem.length - posn ∧ N ≤ 4096 := by rw [← hN]; simp only [consts]; split <;> omega
      have hlen : (List.take N (List.drop posn elem)).length = N := by simp; omega
      by_cases hN0 : N = 0
      · have hk0 : ((N : Int) ≤ 0) := by omega
        simp only [refill, hfull, if_true, hRead, Bool.false_eq_true, if_false, hN, hN0, fRefill, St.toC, hkk]
        refine ⟨by simp, ?_⟩
        intro m1 hm; simp at hm
      · have hk0 : ¬ ((N : Int) ≤ 0) := by omega
        have hbuf : (pre.reverse ++ post).length = 4096 := by simp; omega
        simp only [refill, hfull, if_true, hRead, Bool.false_eq_true, if_false, hN, hlen, hN0, Option.map_some, fRefill, St.toC, 
          hkk, hk0, St.setPtr, St.load, St.buf, List.reverse_reverse, List.take_append_drop, List.take_zero, List.drop_zero, List.reverse_nil,
          List.nil_append, Int.toNat_natCast,
          ints_append, ints_take, ints_drop, Int.natCast_add, Int.natCast_zero]
        refine ⟨trivial, ?_⟩
        intro m1 hm
        cases hm
        refine ⟨⟨rfl, rfl, rfl, by simp [hlen, hbuf]; omega, by simp only; omega, h7, h9⟩, by simp only; omega, rfl⟩
  · have hfull' : ¬ ((pre.length : Int) = (bytez : Int)) := by omega
    simp only [refill, hfull, if_false, Option.map_some, fRefill, St.toC, hfull', true_and]
    intro m1 hm
    cases hm
    exact ⟨⟨rfl, rfl, rfl, h4, h5, h7, h9⟩, by simp only; omega, rfl⟩

theorem getByte_toC {m : St} (h : Rep m) (hlt : m.bytep < m.bytez) :
    ((getByte m).1 : Int) = (fGet m.toC).1 ∧ (getByte m).2.toC = (fGet m.toC).2 ∧ Rep (getByte m).2 ∧
      (getByte m).2.bytep ≤ (getByte m).2.bytez ∧ (getByte m).2.wMode = m.wMode ∧ (getByte m).2.count = m.count ∧
      (getByte m).1 < 256 := by
  obtain ⟨x, t, hq⟩ := h.post_cons (by have := h.zle; omega)
  have hx := UInt8.toNat_lt x
  simp only [getByte, St.peek, St.adv, hq, st_ite, ite_self, fGet, toC_cell h hq]
  have hl := h.len
  rw [hq] at hl
  refine ⟨trivial, ?_, ⟨h.noOob, h.noErr, by simp [h.bytep], by simp at hl ⊢; omega, h.zle, h.cnt, h.bits⟩, by omega, trivial, trivial, hx⟩
  simp only [St.toC, St.buf, hq, List.reverse_cons, List.append_assoc, List.singleton_append, Int.natCast_add, Int.natCast_one,
    natCast_max_ite]


theorem rd_isLoop : H4.C2L.IsLoop Hbitread.loop0 (fun s => s.count ≥ 8 ∧ ¬ s.done = true) Hbitread.loop0.body (fun s => s) :=
  .of_eqs (stuck := fun s => { s with oof := true }) (fun _ => rfl) (fun _ _ => rfl)

theorem rd_b_cast (bN x c : Nat) :
    Int.ofNat (Int.toNat (bN : Int) ||| Int.toNat ((x : Int) * 2 ^ Int.toNat ((c : Int) - 8) % 4294967296)) =
      ((bN ||| ((x <<< (c - 8)) % 2 ^ DATANUM) : Nat) : Int) := by
  simp only [toNat_sub_8, shl_cast, mod32_cast, or_cast]
  rfl

theorem toC_r_facts {m : St} (h : RdInv m) : m.toC.ROK := by
  have h1 := h.ple
  have h2 := h.rep.zle
  have hb : m.buf.length = 4096 := by simp [St.buf, h.rep.len]
  refine ⟨by simp [St.toC, hb], ⟨by simp only [St.toC]; omega, by simp only [St.toC]; omega⟩, by simp only [St.toC]; omega,
    by simp only [St.toC]; omega, ints_nonneg _, ints_nonneg _⟩

/-- the translated `Hbitread` is under way on the C view of the model state `m` (read mode) -/
structure RdSim (s : Hbitread.St) (m : St) : Prop where
  ub : s.ub = false
  run : s.done = false
  crec : rdRec s = m.toC
  inv : RdInv m
  dl : 0 < s.data.length

/-- `Hbitread` has returned at the end of the data, with the bits `b` gathered so far and `c` bits missing -/
structure RdShort (s0 s : Hbitread.St) (m : St) (b c : Nat) : Prop where
  ub : s.ub = false
  fin : s.done = true
  crec : rdRec s = m.toC
  inv : RdInv m
  ret : s.ret = s0.orig_count - c
  data : s.data = s0.data.set 0 b

/-- the translated `Hbitread` has run from `s` to its end `s'` without undefined behaviour: its record is the C view of the model's state
    `r.1`, and it returns and stores what the model delivers, `r.2` -/
structure RdEnd (s s' : Hbitread.St) (r : St × Option (Nat × Nat)) : Prop where
  ub : s'.ub = false
  oof : s'.oof = s.oof
  crec : rdRec s' = r.1.toC
  inv : RdInv r.1
  out : ∃ n v : Nat, r.2 = some (n, v) ∧ s'.ret = n ∧ s'.data = s.data.set 0 v

theorem RdEnd.after {s s' s'' : Hbitread.St} {r : St × Option (Nat × Nat)} (e : RdEnd s' s'' r) (ho : s'.oof = s.oof) (hd : s'.data = s.data) :
    RdEnd s s'' r :=
  ⟨e.ub, e.oof.trans ho, e.crec, e.inv, hd ▸ e.out⟩

theorem rd_loop (n : Nat) : ∀ (c fuel f : Nat) (s : Hbitread.St) (m : St) (bN : Nat),
    c < 8 * (n + 1) → c < 40 → n ≤ fuel → n ≤ f → RdSim s m → s.count = c → s.b = bN →
    let s' := Hbitread.loop0 fuel s
    let r := readWhole f m bN c
    s'.oof = s.oof ∧ s'.orig_count = s.orig_count ∧ r.2.2.1 ≤ c ∧
    (r.2.2.2 = true → RdShort s s' r.1 r.2.1 r.2.2.1) ∧
    (r.2.2.2 = false → RdSim s' r.1 ∧ s'.data = s.data ∧ s'.count = r.2.2.1 ∧ s'.b = r.2.1 ∧ r.2.2.1 < 8) := by
  induction n with
  | zero =>
    intro c fuel f s m bN hc _ _ _ h hcnt hb
    have hc8 : c < 8 := by omega
    rw [rd_isLoop.exit (s := s) (fun hc => by omega) fuel, readWhole_stop f m bN c hc8]
    exact ⟨rfl, rfl, Nat.le_refl _, fun h => Bool.noConfusion h, fun _ => ⟨h, rfl, hcnt, hb, hc8⟩⟩
  | succ n ih =>
    intro c fuel f s m bN hc hc40 hfuel hf h hcnt hb
    by_cases hc8 : c < 8
    · rw [rd_isLoop.exit (s := s) (fun hc => by omega) fuel, readWhole_stop f m bN c hc8]
      exact ⟨rfl, rfl, Nat.le_refl _, fun h => Bool.noConfusion h, fun _ => ⟨h, rfl, hcnt, hb, hc8⟩⟩
    · obtain ⟨fuel, rfl⟩ : ∃ k, fuel = k + 1 := ⟨fuel - 1, by omega⟩
      obtain ⟨f, rfl⟩ : ∃ k, f = k + 1 := ⟨f - 1, by omega⟩
      obtain ⟨b1, b2, b3, b4, b5⟩ := rd_body (fuel + 1) s h.ub h.run (by omega) (by omega) h.dl (h.crec ▸ toC_r_facts h.inv)
      obtain ⟨t1, t2⟩ := refill_toC h.inv
      rw [← h.crec] at t1
      have h8 : c ≥ BITNUM := by simp [consts]; omega
      rw [rd_isLoop.pass (s := s) ⟨by omega, by simp [h.run]⟩ fuel]
      cases hrf : refill m with
      | none =>
        rw [hrf, Option.map_none] at t1
        obtain ⟨e1, e2, e3, e4⟩ := b4 t1.symm
        have hm : readWhole (f + 1) m bN c = ({ m with count := 0 }, bN, c, true) := by
          rw [readWhole, if_pos h8, hrf]
        rw [hm, rd_isLoop.exit (fun hc => hc.2 e1) fuel]
        refine ⟨b2, b3, Nat.le_refl _, fun _ => ⟨b1, e1, ?_, h.inv.count 0 (Nat.zero_le _),
          by rw [e2, hcnt], by rw [e3, hb]⟩, fun h => Bool.noConfusion h⟩
        rw [e4, h.crec]
        simp only [St.toC, St.buf, Int.natCast_zero]
      | some m1 =>
        rw [hrf, Option.map_some] at t1
        obtain ⟨e1, e2, e3, e4, e5, e6⟩ := b5 m1.toC t1.symm
        obtain ⟨u1, u2, u3⟩ := t2 m1 hrf
        obtain ⟨v1, v2, v3, v4, v5, -, -⟩ := getByte_toC u1 u2
        have hm : readWhole (f + 1) m bN c =
            readWhole f (getByte m1).2 (bN ||| (((getByte m1).1 <<< (c - 8)) % 2 ^ DATANUM)) (c - 8) := by
          rw [readWhole, if_pos h8, hrf]; rfl
        rw [hm]
        have hb' : (Hbitread.loop0.body (fuel + 1) s).b =
            ((bN ||| (((getByte m1).1 <<< (c - 8)) % 2 ^ DATANUM) : Nat) : Int) := by
          rw [e6, hb, hcnt, ← v1, rd_b_cast]
        obtain ⟨q2, q3, q9, q7, q8⟩ := ih (c - 8) fuel f (Hbitread.loop0.body (fuel + 1) s) (getByte m1).2
          (bN ||| (((getByte m1).1 <<< (c - 8)) % 2 ^ DATANUM)) (by omega) (by omega) (by omega) (by omega)
          ⟨b1, e1, by rw [e4, v2], ⟨v3, v5.trans u3, v4⟩, by rw [e3]; exact h.dl⟩ (by rw [e5, hcnt]; omega) hb'
        refine ⟨by rw [q2, b2], by rw [q3, b3], by omega, fun he => ?_, fun he => ?_⟩
        · obtain ⟨w1, w2, w3, w4, w5, w6⟩ := q7 he
          exact ⟨w1, w2, w3, w4, by rw [w5, b3], by rw [w6, e3]⟩
        · obtain ⟨w1, w3, w4, w5, w6⟩ := q8 he
          exact ⟨w1, by rw [w3, e3], w4, w5, w6⟩

/-- `(bits >> (count -= n)) & maskc[n]` as the translator writes it -/
def earlyVal (bits rc c : Int) : Int :=
  Int.ofNat (Int.toNat (bits / 2 ^ Int.toNat (rc - c)) &&& Int.toNat (Int.ofNat ((H4.Gen.Hbitio.maskc).getD (Int.toNat c) 0)))
/-- `b = (bits & maskc[count]); b <<= (n -= count)` as the translator writes it -/
def bufBits (bits rc c : Int) : Int :=
  (Int.ofNat (Int.toNat bits &&& Int.toNat (Int.ofNat ((H4.Gen.Hbitio.maskc).getD (Int.toNat rc) 0)))) % 4294967296 *
    2 ^ Int.toNat (c - rc) % 4294967296

theorem earlyVal_fold (bits rc c : Int) :
    Int.ofNat (Int.toNat (bits / 2 ^ Int.toNat (rc - c)) &&& Int.toNat (Int.ofNat ((H4.Gen.Hbitio.maskc).getD (Int.toNat c) 0))) =
      earlyVal bits rc c := rfl
theorem bufBits_fold (bits rc c : Int) :
    (Int.ofNat (Int.toNat bits &&& Int.toNat (Int.ofNat ((H4.Gen.Hbitio.maskc).getD (Int.toNat rc) 0)))) % 4294967296 *
      2 ^ Int.toNat (c - rc) % 4294967296 = bufBits bits rc c := rfl

/-- segment 2 of `Hbitread`: clip the count; serve the request from the bit buffer, or move the buffered bits into place -/
theorem rd_seg2 (fuel : Nat) (s : Hbitread.St) (hub : s.ub = false) (hdone : s.done = false) (hc : 1 ≤ s.count)
    (hrc : 0 ≤ s.rec_count ∧ s.rec_count ≤ 8) (hbits : 0 ≤ s.rec_bits) (hdl : 0 < s.data.length) :
    let c := if s.count > 32 then 32 else s.count
    let s' := Hbitread.seg2 fuel s
    s'.ub = false ∧ s'.oof = s.oof ∧
    (c ≤ s.rec_count → s'.done = true ∧ s'.ret = c ∧ s'.data = s.data.set 0 (earlyVal s.rec_bits s.rec_count c) ∧
      rdRec s' = { rdRec s with count := s.rec_count - c }) ∧
    (¬ c ≤ s.rec_count → s'.done = false ∧ s'.ret = s.ret ∧ s'.data = s.data ∧ rdRec s' = rdRec s ∧ s'.orig_count = c ∧
      s'.count = c - s.rec_count ∧ s'.b = (if s.rec_count > 0 then bufBits s.rec_bits s.rec_count c else s.b)) := by
  obtain ⟨hrc1, hrc2⟩ := hrc
  have hdiv : ∀ k : Nat, (0 ≤ s.rec_bits / 2 ^ k) = True := by
    intro k; simp only [eq_iff_iff, iff_true]; exact Int.ediv_nonneg hbits (Int.pow_nonneg (by omega))
  by_cases h32 : s.count > 32
  · have he : ¬ ((32 : Int) ≤ s.rec_count) := by omega
    by_cases hpos : s.rec_count > 0
    · c2l_simp [Hbitread.chk, hub, hdone, Hbitread.seg2, datanum_int, rdRec, bufBits_fold, h32, he, hpos]
      c2l_ub [hdl]
    · c2l_simp [hub, hdone, Hbitread.seg2, datanum_int, rdRec, h32, he, hpos]
      omega
  · by_cases hearly : s.count ≤ s.rec_count
    · c2l_simp [Hbitread.chk, hub, hdone, Hbitread.seg2, datanum_int, rdRec, earlyVal_fold, h32, hearly]
      c2l_ub [hdl, hdiv]
    · by_cases hpos : s.rec_count > 0
      · c2l_simp [Hbitread.chk, hub, hdone, Hbitread.seg2, datanum_int, rdRec, bufBits_fold, h32, hearly, hpos]
        c2l_ub [hdl]
      · c2l_simp [hub, hdone, Hbitread.seg2, datanum_int, rdRec, h32, hearly, hpos]
        omega

/-- segment 4 of `Hbitread`: the last, partial byte (its unused bits stay in the bit buffer), `*data = b`, `return orig_count` -/
theorem rd_seg4 (fuel : Nat) (s : Hbitread.St) (hub : s.ub = false) (hdone : s.done = false)
    (hc : 0 ≤ s.count ∧ s.count < 8) (hb : 0 ≤ s.b) (hdl : 0 < s.data.length) (hr : (rdRec s).ROK) :
    let s' := Hbitread.seg4 fuel s
    s'.ub = false ∧ s'.oof = s.oof ∧ s'.done = true ∧
    (s.count = 0 → s'.ret = s.orig_count ∧ s'.data = s.data.set 0 s.b ∧ rdRec s' = { rdRec s with count := 0 }) ∧
    (0 < s.count → fRefill (rdRec s) = none → s'.ret = s.orig_count - s.count ∧ s'.data = s.data.set 0 s.b ∧
      rdRec s' = { rdRec s with count := 0 }) ∧
    (0 < s.count → ∀ r1, fRefill (rdRec s) = some r1 → s'.ret = s.orig_count ∧
      s'.data = s.data.set 0 (Int.ofNat (Int.toNat s.b ||| Int.toNat ((fGet r1).1 / 2 ^ Int.toNat (8 - s.count)))) ∧
      rdRec s' = { (fGet r1).2 with count := 8 - s.count, bits := (fGet r1).1 }) := by
  obtain ⟨hc1, hc2⟩ := hc
  obtain ⟨hl, ⟨hp1, hp2⟩, hz, he, hA, hE⟩ := hr
  simp only [rdRec] at hl hp1 hp2 hz he hA hE
  have hl' : (s.rec_bytea.length : Int) = 4096 := by omega
  have hkb := @kRead_bounds (s.io_elt.length : Int) s.io_epos 4096 (by omega)
  have hdiv : ∀ (x : Int) (k : Nat), 0 ≤ x → (0 ≤ x / 2 ^ k) = True := by
    intro x k hx; simp only [eq_iff_iff, iff_true]; exact Int.ediv_nonneg hx (Int.pow_nonneg (by omega))
  by_cases hpos : s.count > 0
  · have hne : ¬ (s.count = 0) := by omega
    by_cases hfull : s.rec_bytep = s.rec_bytez
    · by_cases hnew : s.io_enew = 0
      · by_cases hk : kRead s.io_elt.length s.io_epos 4096 ≤ 0
        · have hk0 : kRead s.io_elt.length s.io_epos 4096 = 0 := by omega
          c2l_simp [Hbitread.chk, hub, hdone, Hbitread.seg4, kRead_fold, fRefill, fGet, rdRec, hfull, hnew, hk0, reduceCtorEq, hpos, hne]
          c2l_ub [hl', hdl, he]
        · have hkp : 0 < kRead s.io_elt.length s.io_epos 4096 := by omega
          have hkn : (kRead s.io_elt.length s.io_epos 4096 ≤ 0) = False := by simp only [eq_iff_iff, iff_false]; omega
          have hka := kRead_avail hkp
          have hA' := all_nonneg_read s.rec_bytea s.io_elt hA hE s.io_epos.toNat (kRead s.io_elt.length s.io_epos 4096).toNat
          have hx := getD_nonneg_of_all _ hA' 0
          have hlen : ((List.take (kRead s.io_elt.length s.io_epos 4096).toNat (List.drop s.io_epos.toNat s.io_elt) ++
              List.drop (kRead s.io_elt.length s.io_epos 4096).toNat s.rec_bytea).length : Int) = 4096 := by
            simp only [List.length_append, List.length_take, List.length_drop]; omega
          c2l_simp [Hbitread.chk, rd_max_ite, hub, hdone, Hbitread.seg4, bitnum_int, kRead_fold, fRefill, fGet, rdRec, hfull, hnew, hkn, reduceCtorEq,
            Option.some.injEq, forall_eq', hpos, hne]
          c2l_ub [hl', hdl, he, hlen, hx, hdiv _ _ hx]
      · have hm1 : ((-1 : Int) ≤ 0) = True := by decide
        c2l_simp [Hbitread.chk, hub, hdone, Hbitread.seg4, kRead_fold, fRefill, fGet, rdRec, hfull, hnew, reduceCtorEq, hm1, hpos, hne]
        c2l_ub [hl', hdl, he]
    · have hx := getD_nonneg_of_all _ hA s.rec_bytep.toNat
      c2l_simp [Hbitread.chk, rd_max_ite, hub, hdone, Hbitread.seg4, bitnum_int, fRefill, fGet, rdRec, hfull, reduceCtorEq, Option.some.injEq, forall_eq',
        hpos, hne]
      c2l_ub [hl', hdl, he, hx, hdiv _ _ hx]
  · have h0 : s.count = 0 := by omega
    c2l_simp [h0, Int.lt_irrefl, Hbitread.chk, hub, hdone, Hbitread.seg4, rdRec, Int.lt_irrefl, hdl]

def rdInit (r : CRec) (count d0 : Int) : Hbitread.St :=
  { bitid := bitId, count := count, data := [d0], rec_null := false, rec_access := r.access, rec_mode := r.mode,
    rec_block_offset := r.blockOff, rec_bytea := r.bytea, rec_bytep := r.bytep, rec_count := r.count, rec_bit_id := bitId,
    rec_max_offset := r.maxOff, rec_byte_offset := r.byteOff, rec_bits := r.bits, rec_bytez := r.bytez, rec_buf_read := r.bufRead,
    io_elt := r.elt, io_epos := r.epos, io_enew := r.enew }

theorem cBitread_eq (fuel : Nat) (r : CRec) (count d0 : Int) :
    cBitread fuel r count d0 =
      (let s := Hbitread.seg4 fuel (Hbitread.seg3 fuel (Hbitread.seg2 fuel (Hbitread.seg1 fuel (Hbitread.seg0 fuel (rdInit r count d0)))))
       ({ crec := rdRec s, ret := s.ret, ub := s.ub, oof := s.oof }, s.data.getD 0 0)) := rfl

theorem rd_seg_done (fuel : Nat) (s : Hbitread.St) (h : s.done = true) :
    Hbitread.seg1 fuel s = s ∧ Hbitread.seg2 fuel s = s ∧ Hbitread.seg3 fuel s = s ∧ Hbitread.seg4 fuel s = s := by
  refine ⟨?_, ?_, ?_, ?_⟩
  · simp only [Hbitread.seg1, h, ↓reduceIte]
  · simp only [Hbitread.seg2, h, ↓reduceIte]
  · simp only [Hbitread.seg3, h, ↓reduceIte]
  · simp only [Hbitread.seg4, h, ↓reduceIte]

theorem rd_seg0_eq (fuel : Nat) (s : Hbitread.St) (hdone : s.done = false) (hnull : s.rec_null = false) (hc : 0 < s.count) :
    Hbitread.seg0 fuel s = { s with b := 0 } := by
  have h0 : ¬ (s.count ≤ 0) := by omega
  cases s
  simp only at hdone hnull h0
  subst hdone hnull
  c2l_simp [Hbitread.seg0, h0, Int.zero_emod]

theorem rd_seg0 (fuel : Nat) (s : Hbitread.St) (hub : s.ub = false) (hdone : s.done = false) (hnull : s.rec_null = false) :
    let s' := Hbitread.seg0 fuel s
    s'.ub = false ∧ s'.oof = s.oof ∧ rdRec s' = rdRec s ∧ s'.data = s.data ∧ s'.count = s.count ∧ s'.b = 0 ∧
    (s.count ≤ 0 → s'.done = true ∧ s'.ret = -1) ∧ (0 < s.count → s'.done = false ∧ s'.ret = s.ret) := by
  by_cases h0 : s.count ≤ 0
  · have h0' : ¬ (0 < s.count) := by omega
    c2l_simp [hub, Hbitread.seg0, rdRec, h0, h0', Int.zero_emod]
  · rw [rd_seg0_eq fuel s hdone hnull (by omega)]
    exact ⟨hub, rfl, rfl, rfl, rfl, rfl, fun h => absurd h h0, fun _ => ⟨hdone, rfl⟩⟩

theorem rd_seg1_r (fuel : Nat) (s : Hbitread.St) (hm : s.rec_mode = 114) : Hbitread.seg1 fuel s = s := by
  have hm' : ¬ (s.rec_mode = 119) := by omega
  cases hd : s.done <;> simp only [Hbitread.seg1, hd, hm', Bool.false_eq_true, ↓reduceIte]

theorem rd_seg3_run (fuel : Nat) (s : Hbitread.St) (h : s.done = false) : Hbitread.seg3 fuel s = Hbitread.loop0 fuel s := by
  simp only [Hbitread.seg3, h, Bool.false_eq_true, ↓reduceIte]

theorem earlyVal_nat (bits mc c : Nat) :
    earlyVal (bits : Int) (mc : Int) (c : Int) = (((bits >>> (mc - c)) &&& maskC c : Nat) : Int) := by
  unfold earlyVal maskC
  simp only [toNat_sub_cast, shr_cast, Int.toNat_natCast, Int.ofNat_eq_natCast]

theorem bufBits_nat (bits mc c : Nat) (hb : bits < 256) :
    bufBits (bits : Int) (mc : Int) (c : Int) = ((((bits &&& maskC mc) <<< (c - mc)) % 2 ^ DATANUM : Nat) : Int) := by
  have hlt : bits &&& maskc.getD mc 0 < 256 := and_le_255 _ _ hb
  unfold bufBits maskC
  simp only [toNat_sub_cast, Int.toNat_natCast, Int.ofNat_eq_natCast, mod32_cast, shl_cast, consts]
  rw [Nat.mod_eq_of_lt (show bits &&& maskc.getD mc 0 < 4294967296 by omega)]

theorem last_bits (b l c : Nat) :
    Int.ofNat (Int.toNat (b : Int) ||| Int.toNat ((l : Int) / 2 ^ Int.toNat (8 - (c : Int)))) = ((b ||| (l >>> (8 - c)) : Nat) : Int) := by
  simp only [toNat_8_sub, shr_cast, or_cast]

theorem rd_tail (fuel : Nat) (L : Hbitread.St) (m2 : St) (b2 c2 c : Nat) (q : RdSim L m2) (w4 : L.count = c2) (w5 : L.b = b2) (w6 : c2 < 8)
    (horig : L.orig_count = c) (hle : c2 ≤ c) :
    RdEnd L (Hbitread.seg4 fuel L) (readTail c (m2, b2, c2, false)) := by
  simp only [readTail, Bool.false_eq_true, if_false]
  obtain ⟨f1, f2, f3, f4, f5, f6⟩ := rd_seg4 fuel L q.ub q.run (by rw [w4]; omega) (by rw [w5]; omega) q.dl (q.crec ▸ toC_r_facts q.inv)
  obtain ⟨t1, t2⟩ := refill_toC q.inv
  rw [← q.crec] at t1
  by_cases hc2 : c2 > 0
  · simp only [hc2, if_true]
    cases hrf : refill m2 with
    | none =>
      rw [hrf, Option.map_none] at t1
      obtain ⟨x1, x2, x3⟩ := f5 (by rw [w4]; omega) t1.symm
      refine ⟨f1, f2, ?_, q.inv.count 0 (Nat.zero_le _), _, _, rfl, by rw [x1, horig, w4]; exact (Int.ofNat_sub hle).symm, by rw [x2, w5]⟩
      rw [x3, q.crec]; simp only [St.toC, St.buf, Int.natCast_zero]
    | some m3 =>
      rw [hrf, Option.map_some] at t1
      obtain ⟨x1, x2, x3⟩ := f6 (by rw [w4]; omega) m3.toC t1.symm
      obtain ⟨u1, u2, u3⟩ := t2 m3 hrf
      have hrep3 : Rep { m3 with count := 8 - c2 } :=
        u1.count _ (by omega)
      obtain ⟨v1, v2, v3, v4, v5, v7, v9⟩ := getByte_toC (m := { m3 with count := 8 - c2 }) hrep3 u2
      have hfg1 : (fGet ({ m3 with count := 8 - c2 } : St).toC).1 = (fGet m3.toC).1 := rfl
      have hfg2 : (fGet ({ m3 with count := 8 - c2 } : St).toC).2 = { (fGet m3.toC).2 with count := ((8 - c2 : Nat) : Int) } := rfl
      refine ⟨f1, f2, ?_, ⟨⟨v3.noOob, v3.noErr, v3.bytep, v3.len, v3.zle, v3.cnt, v9⟩, v5.trans u3, v4⟩, _, _, rfl, by rw [x1, horig], ?_⟩
      · rw [x3, w4, ← v1.trans hfg1]
        have := (v2.trans hfg2).symm
        simp only [St.toC, St.buf] at this ⊢
        simp only [CRec.mk.injEq] at this ⊢
        obtain ⟨z1, z2, z3, z4, z5, z6, z7, z8, z9, z10, z11, z12, z13, z14⟩ := this
        refine ⟨z1, z2, ?_, trivial, z5, z6, z7, z8, z9, z10, z11, z12, z13, z14⟩
        rw [v7]; simp only; omega
      · rw [x2, w5, w4, ← v1.trans hfg1, last_bits, v7]
  · have h0 : c2 = 0 := by omega
    subst h0
    simp only [Nat.lt_irrefl, if_false]
    obtain ⟨x1, x2, x3⟩ := f4 w4
    refine ⟨f1, f2, ?_, q.inv.count 0 (Nat.zero_le _), _, _, rfl, by rw [x1, horig], by rw [x2, w5]⟩
    rw [x3, q.crec]; simp only [St.toC, St.buf, Int.natCast_zero]

theorem rd_late (fuel : Nat) (hf : 4 ≤ fuel) (S2 : Hbitread.St) (m : St) (c0 b0 c : Nat) (h : RdSim S2 m) (hcnt : S2.count = c0)
    (hb : S2.b = b0) (horig : S2.orig_count = c) (hc0 : c0 ≤ c) (hc32 : c ≤ 32) :
    RdEnd S2 (Hbitread.seg4 fuel (Hbitread.loop0 fuel S2)) (readTail c (readWhole c0 m b0 c0)) := by
  have hl := rd_loop (c0 / 8) c0 fuel c0 S2 m b0 (by omega) (by omega) (by omega) (by omega) h hcnt hb
  generalize Hbitread.loop0 fuel S2 = L at hl ⊢
  generalize readWhole c0 m b0 c0 = R at hl ⊢
  obtain ⟨m2, b2, c2, eof⟩ := R
  obtain ⟨q2, q3, q9, q7, q8⟩ := hl
  simp only at q7 q8 q9
  have hle : c2 ≤ c := Nat.le_trans q9 hc0
  cases eof with
  | true =>
    have w := q7 rfl
    rw [(rd_seg_done fuel L w.fin).2.2.2]
    simp only [readTail, if_true]
    exact ⟨w.ub, q2, w.crec, w.inv, _, _, rfl, by rw [w.ret, horig]; exact (Int.ofNat_sub hle).symm, w.data⟩
  | false =>
    obtain ⟨q, w3, w4, w5, w6⟩ := q8 rfl
    exact (rd_tail fuel L m2 b2 c2 c q w4 w5 w6 (q3.trans horig) hle).after q2 w3

/-- result of `Hbitread` as the harness prints it: `(bits read, data)`, `none` = FAIL (`*data` untouched) -/
def rdOut (o : COut × Int) (d0 : Int) (res : Option (Nat × Nat)) : Prop :=
  match res with
  | some (n, v) => o.1.ret = n ∧ o.2 = v
  | none => o.1.ret = -1 ∧ o.2 = d0

theorem Hbitread_r (m : St) (hinv : RdInv m) (count d0 : Int) (fuel : Nat) (hf : 4 ≤ fuel) :
    let o := cBitread fuel m.toC count d0
    let r := bitread m count.toNat
    o.1.ub = false ∧ o.1.oof = false ∧ o.1.crec = r.1.toC ∧ rdOut o d0 r.2 ∧ RdInv r.1 := by
  rw [cBitread_eq]
  have h0 := rd_seg0 fuel (rdInit m.toC count d0) rfl rfl rfl
  simp only at h0
  obtain ⟨a1, a2, a3, a4, a5, a6, a7, a8⟩ := h0
  generalize Hbitread.seg0 fuel (rdInit m.toC count d0) = S0 at a1 a2 a3 a4 a5 a6 a7 a8 ⊢
  have hrec0 : rdRec (rdInit m.toC count d0) = m.toC := rfl
  have hmode : S0.rec_mode = 114 := by
    have := congrArg CRec.mode a3
    exact this.trans (by show modeChar m.wMode = 114; rw [hinv.rMode]; rfl)
  rw [rd_seg1_r fuel _ hmode]
  by_cases hbad : count ≤ 0
  · obtain ⟨b1, b2⟩ := a7 hbad
    obtain ⟨-, d2, d3, d4⟩ := rd_seg_done fuel _ b1
    rw [d2, d3, d4]
    have hm : bitread m count.toNat = (m, none) := by
      have : count.toNat = 0 := by omega
      simp [bitread, this]
    rw [hm]
    refine ⟨a1, a2, a3, ⟨b2, ?_⟩, hinv⟩
    show S0.data.getD 0 0 = d0
    rw [a4]; rfl
  · have hc0 : 0 < count := by omega
    obtain ⟨b1, b2⟩ := a8 hc0
    have hmc8 := hinv.rep.cnt
    have hmb := hinv.rep.bits
    have hdl : 0 < S0.data.length := by rw [a4]; exact Nat.zero_lt_one
    have hrc : S0.rec_count = (m.count : Int) := congrArg CRec.count a3
    have hrb : S0.rec_bits = (m.bits : Int) := congrArg CRec.bits a3
    have h2 := rd_seg2 fuel _ a1 b1 (by rw [a5]; exact hc0) (by rw [hrc]; omega) (by rw [hrb]; omega) hdl
    simp only at h2
    have hcc : (if S0.count > 32 then 32 else S0.count)
        = ((min count.toNat 32 : Nat) : Int) := by
      rw [a5]; show (if count > 32 then 32 else count) = _
      split <;> omega
    rw [hcc, hrc, hrb] at h2
    obtain ⟨s2a, s2b, s2c, s2d⟩ := h2
    have hne : ¬ (count.toNat = 0) := Nat.ne_of_gt (Int.lt_toNat.mpr hc0)
    have hc1 : 1 ≤ min count.toNat 32 := Nat.le_min.mpr ⟨Int.lt_toNat.mpr hc0, by decide⟩
    have hc32 : min count.toNat 32 ≤ 32 := Nat.min_le_right _ _
    generalize hcN : min count.toNat 32 = c at *
    by_cases hearly : c ≤ m.count
    · obtain ⟨e1, e2, e3, e4⟩ := s2c (by omega)
      obtain ⟨-, -, d3, d4⟩ := rd_seg_done fuel _ e1
      rw [d3, d4]
      have hm : bitread m count.toNat =
          ({ m with count := m.count - c }, some (c, (m.bits >>> (m.count - c)) &&& maskC c)) := by
        simp only [bitread, hne, if_false, hinv.rMode, Bool.false_eq_true, consts, hcN, hearly, if_true]
      rw [hm]
      refine ⟨s2a, s2b.trans a2, ?_, ⟨e2, ?_⟩, hinv.count _ (by omega)⟩
      · show rdRec _ = _
        rw [e4, a3, hrec0]
        simp only [St.toC, St.buf]
        congr 1
        omega
      · show (Hbitread.seg2 fuel S0).data.getD 0 0 = _
        rw [e3, a4, earlyVal_nat]; rfl
    · obtain ⟨e1, e2, e3, e4, e5, e6, e7⟩ := s2d (by omega)
      rw [rd_seg3_run _ _ e1]
      have hb0 : (Hbitread.seg2 fuel S0).b =
          (((if m.count > 0 then ((m.bits &&& maskC m.count) <<< (c - m.count)) % 2 ^ DATANUM else 0) : Nat) : Int) := by
        rw [e7]
        by_cases hpos : m.count > 0
        · have hpos' : (m.count : Int) > 0 := by omega
          rw [if_pos hpos, if_pos hpos', bufBits_nat _ _ _ hmb]
        · have hpos' : ¬ ((m.count : Int) > 0) := by omega
          rw [if_neg hpos, if_neg hpos', a6]; rfl
      rw [bitread_late m count.toNat hinv.rMode hne (by rw [hcN]; exact hearly), hcN]
      have t := rd_late fuel (by omega) (Hbitread.seg2 fuel S0) m (c - m.count) _ c
        ⟨s2a, e1, by rw [e4, a3, hrec0], hinv, by rw [e3]; exact hdl⟩ (by rw [e6]; omega) hb0 e5 (Nat.sub_le _ _) hc32
      obtain ⟨n, v, t5, t6, t7⟩ := t.out
      simp only [t5]
      refine ⟨t.ub, (t.oof.trans s2b).trans a2, t.crec, ⟨t6, ?_⟩, t.inv⟩
      show (Hbitread.seg4 fuel (Hbitread.loop0 fuel (Hbitread.seg2 fuel S0))).data.getD 0 0 = _
      rw [t7, e3, a4]; rfl
