import H4.Lemmas.ElemDisk
/-! Worlds: files and access records as finite maps. -/
namespace H4.Elem

theorem file_def (w : World) (i : Nat) : w.file i = w.files[i]?.getD {} := by
  simp [World.file, List.getD_eq_getElem?_getD]

theorem file_setFile (w : World) (i j : Nat) (f : File) (hi : i < w.files.length) :
    (w.setFile i f).file j = if j = i then f else w.file j := by
  simp only [file_def, World.setFile, List.getElem?_set]
  by_cases h : i = j
  · subst h; simp [hi]
  · have : ¬ (j = i) := fun e => h e.symm
    simp [h, this]

theorem file_setFile_same (w : World) (i : Nat) (f : File) (hi : i < w.files.length) : (w.setFile i f).file i = f := by
  rw [file_setFile w i i f hi]; simp

theorem file_setFile_ne (w : World) (i j : Nat) (f : File) (h : j ≠ i) : (w.setFile i f).file j = w.file j := by
  simp only [file_def, World.setFile, List.getElem?_set]
  have : ¬ (i = j) := fun e => h e.symm
  simp [this]

theorem setFile_self (w : World) (i : Nat) (hi : i < w.files.length) : w.setFile i (w.file i) = w := by
  unfold World.setFile World.file
  rw [List.getD_eq_getElem?_getD, List.getElem?_eq_getElem hi, Option.getD_some, List.set_getElem_self]

theorem acc_setFile (w : World) (i : Nat) (f : File) (h : Nat) : (w.setFile i f).acc h = w.acc h := rfl
theorem file_setAcc (w : World) (h : Nat) (a : Acc) (i : Nat) : (w.setAcc h a).file i = w.file i := rfl
theorem files_setAcc (w : World) (h : Nat) (a : Acc) : (w.setAcc h a).files = w.files := rfl
theorem files_length_setFile (w : World) (i : Nat) (f : File) : (w.setFile i f).files.length = w.files.length := by
  simp [World.setFile]

theorem find_filter_self (l : List (Nat × Acc)) (h : Nat) :
    (l.filter (fun p => p.1 != h)).find? (fun p => p.1 == h) = none := by
  rw [List.find?_eq_none]
  intro x hx
  simp only [List.mem_filter, bne_iff_ne, ne_eq] at hx
  simp [hx.2]

theorem acc_setAcc (w : World) (h h' : Nat) (a : Acc) : (w.setAcc h a).acc h' = if h' = h then some a else w.acc h' :=
  find?_cons_filter _ _ _ _

theorem acc_delAcc (w : World) (h h' : Nat) : (w.delAcc h).acc h' = if h' = h then none else w.acc h' := by
  unfold World.acc World.delAcc
  by_cases e : h' = h
  · subst e; simp
  · rw [if_neg e, find?_filter_ne _ _ _ e]

theorem default_not_live (s : Nat) : ¬ (({} : File).live s) := by
  intro h
  apply h
  simp [File.dd, nilDD]

theorem file_default (w : World) (i : Nat) (h : w.files.length ≤ i) : w.file i = {} := by
  simp [file_def, List.getElem?_eq_none h]

theorem file_lt_of_live (w : World) (i s : Nat) (h : (w.file i).live s) : i < w.files.length :=
  Nat.lt_of_not_le fun hi => default_not_live s (file_default w i hi ▸ h)

theorem setFile_setFile (w : World) (i : Nat) (f g : File) : (w.setFile i f).setFile i g = w.setFile i g := by
  unfold World.setFile
  simp only [List.set_set]

theorem filter_filter_ne (l : List (Nat × Acc)) (h : Nat) :
    (l.filter (fun p => p.1 != h)).filter (fun p => p.1 != h) = l.filter (fun p => p.1 != h) := by
  rw [List.filter_filter]; congr 1; funext p; simp

theorem setAcc_setAcc (w : World) (h : Nat) (a b : Acc) : (w.setAcc h a).setAcc h b = w.setAcc h b := by
  unfold World.setAcc
  simp only [List.filter_cons, bne_self_eq_false, Bool.false_eq_true, if_false, filter_filter_ne]

theorem setAcc_setFile_comm (w : World) (h : Nat) (a : Acc) (i : Nat) (f : File) :
    (w.setAcc h a).setFile i f = (w.setFile i f).setAcc h a := rfl

/-- after a preparatory step (`Hsetlength`, `HLconvert`) the model calls `hwritePlain` / `hwriteLinked` on the world it started from, with the
    prepared file and record as arguments; the proofs want them on the prepared world -/
theorem restart (w : World) (i : Nat) (f g : File) (h : Nat) (a b : Acc) :
    (((w.setFile i f).setAcc h a).setFile i g).setAcc h b = (w.setFile i g).setAcc h b := by
  rw [setAcc_setFile_comm, setFile_setFile, setAcc_setAcc]

theorem file_lt_of_open (w : World) (i : Nat) (h : (w.file i).isOpen = true) : i < w.files.length :=
  Nat.lt_of_not_le fun hi => by rw [file_default w i hi] at h; cases h

theorem acc_update (w : World) (i : Nat) (f : File) (h : Nat) (a : Acc) : ((w.setFile i f).setAcc h a).acc h = some a := by
  rw [acc_setAcc, if_pos rfl]

theorem file_update (w : World) (i : Nat) (hi : i < w.files.length) (f : File) (h : Nat) (a : Acc) (j : Nat) :
    ((w.setFile i f).setAcc h a).file j = if j = i then f else w.file j := by
  rw [file_setAcc, file_setFile w i j f hi]

theorem file_update_same (w : World) (i : Nat) (hi : i < w.files.length) (f : File) (h : Nat) (a : Acc) :
    ((w.setFile i f).setAcc h a).file i = f := by
  rw [file_update w i hi, if_pos rfl]

theorem refresh_acc (w : World) (h : Nat) (a : Acc) (hw : w.acc h = some a) :
    (w.refresh h).acc h = some (a.refresh (w.file a.file)) := by
  unfold World.refresh
  rw [hw]
  by_cases e : a.refresh (w.file a.file) = a
  · simp [e, hw]
  · simp [e, acc_setAcc]

theorem refresh_file (w : World) (h i : Nat) : (w.refresh h).file i = w.file i := by
  unfold World.refresh
  cases hw : w.acc h with
  | none => rfl
  | some a =>
    by_cases e : a.refresh (w.file a.file) = a
    · simp [e]
    · simp [e, file_setAcc]

theorem refresh_files (w : World) (h : Nat) : (w.refresh h).files = w.files := by
  unfold World.refresh
  cases hw : w.acc h with
  | none => rfl
  | some a =>
    by_cases e : a.refresh (w.file a.file) = a
    · simp [e]
    · simp [e, files_setAcc]

end H4.Elem
