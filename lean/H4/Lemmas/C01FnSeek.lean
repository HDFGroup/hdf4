import H4.Lemmas.C01Fn
/-! The translated `Hseek` (`H4.Gen.Fn.Hfile2.Hseek`) in two parts: up to the position asked for (`Sk.head_eq`, `Sk.head_origin`: about `Hseek` itself),
    and the seek proper (`Sk.tree`, the last five blocks of the text; `Sk.tree_chain`: the chain of its tests for any state). -/
namespace H4.Lemmas.C01Fn
open H4.Elem H4.Gen.Fn.Hfile2 H4.Gen.Hdf

namespace Sk
/-- the seek proper, `s.offset` being the position asked for: nothing to do, refused, promotion to linked blocks, or the new position -/
def tree (s : Hseek.St) : Hseek.St :=
  have s : Hseek.St := if s.done ∨ s.gto then s else
    have s : Hseek.St := Hseek.chk s (s.access_rec_null = false)
    have s : Hseek.St := if (s.offset = s.access_rec_posn) then
        have s : Hseek.St := Hseek.St.set_ret_value s (0)
        have s : Hseek.St := Hseek.St.set_gto s (true)
        s
      else
        s
    s
  have s : Hseek.St := if s.done ∨ s.gto then s else
    have s : Hseek.St := Hseek.chk s ((s.offset < 0) ∨ (s.access_rec_null = false))
    have s : Hseek.St := if ((s.offset < 0) ∨ ((¬(s.access_rec_appendable ≠ 0)) ∧ (s.offset > s.data_len))) then
        have s : Hseek.St := Hseek.St.set_ret_value s ((- 1))
        have s : Hseek.St := Hseek.St.set_gto s (true)
        s
      else
        s
    s
  have s : Hseek.St := if s.done ∨ s.gto then s else
    have s : Hseek.St := Hseek.chk s (s.access_rec_null = false)
    have s : Hseek.St := if ((s.access_rec_appendable ≠ 0) ∧ (s.offset ≥ s.data_len)) then
        have s : Hseek.St := Hseek.chk s (s.file_rec_null = false)
        have s : Hseek.St := if ((s.data_len + s.data_off) ≠ s.file_rec_f_end_off) then
            have s : Hseek.St := Hseek.chk s (s.access_rec_null = false)
            let c : Bool := decide (s.HLconvert_ret = (- 1))
            let e0 : List (List Int) := (s.calls ++ [[6, s.access_id, s.access_rec_block_size, s.access_rec_num_blocks]])
            have s : Hseek.St := Hseek.St.set_calls s (e0)
            have s : Hseek.St := if c = true then
                have s : Hseek.St := Hseek.chk s (s.access_rec_null = false)
                have s : Hseek.St := Hseek.St.set_access_rec_appendable s (0)
                have s : Hseek.St := Hseek.St.set_ret_value s ((- 1))
                have s : Hseek.St := Hseek.St.set_gto s (true)
                s
              else
                let c : Bool := decide (s.reseek_ret = (- 1))
                let e0 : List (List Int) := (s.calls ++ [[8, s.access_id, s.old_offset, s.origin]])
                have s : Hseek.St := Hseek.St.set_calls s (e0)
                have s : Hseek.St := if c = true then
                    have s : Hseek.St := Hseek.St.set_ret_value s ((- 1))
                    have s : Hseek.St := Hseek.St.set_gto s (true)
                    s
                  else
                    s
                s
            s
          else
            s
        s
      else
        s
    s
  have s : Hseek.St := if s.done ∨ s.gto then s else
    have s : Hseek.St := Hseek.chk s (s.access_rec_null = false)
    have s : Hseek.St := Hseek.St.set_access_rec_posn s (s.offset)
    s
  have s : Hseek.St := if s.done then s else
    have s : Hseek.St := Hseek.St.set_gto s (false)
    have s : Hseek.St := Hseek.St.set_ret s (s.ret_value)
    have s : Hseek.St := Hseek.St.set_done s (true)
    s
  s

/-- the state in which the seek proper starts (the text of `Hseek` before `tree`, run on these arguments), with the equation `Hseek .. = tree _` -/
def before (fuel : Nat) (aid offset origin : Int) (anull : Bool) (spec inq ddid : Int) (calls : List (List Int))
    (tag ref doff dlen posn app eoff : Int) (fnull : Bool) (conv bsz nb re : Int) :
    { H : Hseek.St // Hseek fuel aid offset origin anull spec inq ddid calls tag ref doff dlen posn app eoff fnull conv bsz nb re = tree H } :=
  ⟨_, rfl⟩

def init (aid offset origin spec inq ddid tag ref doff dlen posn app eoff conv bsz nb re : Int) (anull fnull : Bool) (calls : List (List Int)) :
    Hseek.St :=
  { access_id := aid, offset := offset, origin := origin, access_rec_null := anull, access_rec_special := spec, HTPinquire_ret := inq,
    access_rec_ddid := ddid, calls := calls, dd_tag := tag, dd_ref := ref, dd_off := doff, dd_len := dlen, access_rec_posn := posn,
    access_rec_appendable := app, file_rec_f_end_off := eoff, file_rec_null := fnull, HLconvert_ret := conv,
    access_rec_block_size := bsz, access_rec_num_blocks := nb, reseek_ret := re }

/-- the C's test (7739a98) fires: `offset + posn` (`DF_CURRENT`) / `offset + length` (`DF_END`) would not be an `int32` -/
def overflows (origin offset posn len : Int) : Prop :=
  (origin = 1 ∧ offset > 2147483647 - posn) ∨
  (origin = 2 ∧ ((len > 0 ∧ offset > 2147483647 - len) ∨ (len < 0 ∧ offset < -2147483648 - len)))

instance (origin offset posn len : Int) : Decidable (overflows origin offset posn len) := by unfold overflows; infer_instance

/-- the C tests before it adds, the model after: on `int32` operands the two agree -/
theorem overflows_iff {origin offset posn len : Int} (ho : origin = 0 ∨ origin = 1 ∨ origin = 2) (hoff : fits32 offset)
    (hposn : 0 ≤ posn ∧ posn ≤ 2147483647) (hlen : -1 ≤ len ∧ len ≤ 2147483647) :
    overflows origin offset posn len ↔ ¬ fits32 (offset + (if origin = 1 then posn else 0) + (if origin = 2 then len else 0)) := by
  unfold overflows fits32 at *
  rcases ho with rfl | rfl | rfl <;> simp <;> omega

section
variable (s : Hseek.St) (hd : s.done = false)
include hd

theorem tree_skip (hg : s.gto = true) : tree s = { s with gto := false, ret := s.ret_value, done := true } := by
  cases s; simp_all [tree]

variable (hg : s.gto = false) (hn : s.access_rec_null = false)
include hg hn

/-- the four tests in the order of the model's `hseek` -/
theorem tree_chain (hf : s.file_rec_null = false) (hr : s.reseek_ret ≠ -1) :
    tree s =
      if s.offset = s.access_rec_posn then { s with ret_value := 0, ret := 0, done := true }
      else if s.offset < 0 ∨ (s.access_rec_appendable = 0 ∧ s.offset > s.data_len) then { s with ret_value := -1, ret := -1, done := true }
      else if s.access_rec_appendable ≠ 0 ∧ s.offset ≥ s.data_len ∧ s.data_len + s.data_off ≠ s.file_rec_f_end_off then
        { s with calls := s.calls ++ [[cCONV, s.access_id, s.access_rec_block_size, s.access_rec_num_blocks]] ++
                            (if s.HLconvert_ret = -1 then [] else [[cRESEEK, s.access_id, s.old_offset, s.origin]]),
                 access_rec_appendable := if s.HLconvert_ret = -1 then 0 else s.access_rec_appendable,
                 access_rec_posn := if s.HLconvert_ret = -1 then s.access_rec_posn else s.offset,
                 ret_value := if s.HLconvert_ret = -1 then -1 else s.ret_value,
                 ret := if s.HLconvert_ret = -1 then -1 else s.ret_value, done := true }
      else { s with access_rec_posn := s.offset, ret := s.ret_value, done := true } := by
  by_cases h1 : s.offset = s.access_rec_posn
  · rw [if_pos h1]; cases s; simp only at hd hg hn h1; subst hd hg hn h1; simp [tree, Hseek.chk]
  rw [if_neg h1]
  by_cases h2 : s.offset < 0 ∨ (s.access_rec_appendable = 0 ∧ s.offset > s.data_len)
  · rw [if_pos h2]; cases s; simp only at hd hg hn h1 h2; subst hd hg hn; simp [tree, Hseek.chk, h1, h2]
  rw [if_neg h2]
  have h2' : ¬ (s.offset < 0) := fun x => h2 (.inl x)
  by_cases h3 : s.access_rec_appendable ≠ 0 ∧ s.offset ≥ s.data_len ∧ s.data_len + s.data_off ≠ s.file_rec_f_end_off
  · rw [if_pos h3]
    obtain ⟨ha, h3, h4⟩ := h3
    by_cases hc : s.HLconvert_ret = -1 <;> cases s <;> simp only at hd hg hn hf hr h1 h2' ha h3 h4 hc <;> subst hd hg hn hf <;>
      simp [tree, Hseek.chk, cCONV, cRESEEK, h1, h2', ha, h3, h4, hr, hc]
  · rw [if_neg h3]
    by_cases ha : s.access_rec_appendable = 0
    · have h5 : ¬ (s.offset > s.data_len) := fun x => h2 (.inr ⟨ha, x⟩)
      cases s; simp only at hd hg hn h1 h2' ha h5; subst hd hg hn ha; simp [tree, Hseek.chk, h1, h2', h5]
    · by_cases h5 : s.offset ≥ s.data_len
      · have h4 : s.data_len + s.data_off = s.file_rec_f_end_off := Decidable.byContradiction fun x => h3 ⟨ha, h5, x⟩
        cases s; simp only at hd hg hn hf h1 h2' ha h5 h4; subst hd hg hn hf; simp [tree, Hseek.chk, h1, h2', ha, h5, h4]
      · cases s; simp only at hd hg hn h1 h2' ha h5; subst hd hg hn; simp [tree, Hseek.chk, h1, h2', ha, h5]
end

section
variable (fuel : Nat) (aid offset origin spec inq ddid tag ref doff dlen posn app eoff conv bsz nb re : Int) (fnull : Bool) (calls : List (List Int))

theorem head_origin (h : origin ≠ 0 ∧ origin ≠ 1 ∧ origin ≠ 2) :
    Hseek fuel aid offset origin false spec inq ddid calls tag ref doff dlen posn app eoff fnull conv bsz nb re =
      { init aid offset origin spec inq ddid tag ref doff dlen posn app eoff conv bsz nb re false fnull calls with
        old_offset := offset, ret_value := -1, ret := -1, done := true } := by
  simp [Hseek, init, h]

theorem head_eq (ho : origin = 0 ∨ origin = 1 ∨ origin = 2) :
    Hseek fuel aid offset origin false 0 0 ddid calls tag ref doff dlen posn app eoff fnull conv bsz nb re =
      if overflows origin offset posn dlen then
        { init aid offset origin 0 0 ddid tag ref doff dlen posn app eoff conv bsz nb re false fnull calls with
          old_offset := offset, calls := calls ++ [[cINQ, ddid]], data_off := doff, data_len := dlen, ret_value := -1, ret := -1, done := true }
      else tree { init aid offset origin 0 0 ddid tag ref doff dlen posn app eoff conv bsz nb re false fnull calls with
          old_offset := offset, calls := calls ++ [[cINQ, ddid]], data_off := doff, data_len := dlen,
          offset := offset + (if origin = 1 then posn else 0) + (if origin = 2 then dlen else 0) } := by
  rw [(before fuel aid offset origin false 0 0 ddid calls tag ref doff dlen posn app eoff fnull conv bsz nb re).2]
  by_cases hl : overflows origin offset posn dlen
  · rw [if_pos hl]
    rcases hl with ⟨h1, h2⟩ | ⟨h1, h2⟩ <;> subst h1 <;> rw [tree_skip _ (by simp [before, Hseek.chk, h2]) (by simp [before, Hseek.chk, h2])] <;>
      simp [before, Hseek.chk, init, cINQ, h2]
  · rw [if_neg hl]
    congr 1
    rcases ho with h1 | h1 | h1 <;> subst h1
    · simp [before, Hseek.chk, init, cINQ]
    · have h2 : ¬ (offset > 2147483647 - posn) := fun x => hl (.inl ⟨rfl, x⟩)
      simp [before, Hseek.chk, init, cINQ, h2]
    · have h2 : ¬ ((dlen > 0 ∧ offset > 2147483647 - dlen) ∨ (dlen < 0 ∧ offset < -2147483648 - dlen)) := fun x => hl (.inr ⟨rfl, x⟩)
      simp [before, Hseek.chk, init, cINQ, h2]
end
end Sk
end H4.Lemmas.C01Fn
