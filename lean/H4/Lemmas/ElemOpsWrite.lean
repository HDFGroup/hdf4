import H4.Lemmas.ElemOps
/-! `Hwrite` against the byte-array specification: in place, extended in place, first write of a new element, linked
    blocks, silent promotion. -/
namespace H4.Elem

theorem coh_plainWriteF {f : File} (h : Coh f) (s o l p : Nat) (bs : Bytes) (grow : Bool) (hs : s < f.mem.length) :
    Coh (plainWriteF f s o l p bs grow) := by
  unfold plainWriteF
  cases grow with
  | false => simp only [Bool.false_eq_true, false_and, if_false]; exact coh_endOff (coh_pwrite h _ _) _
  | true =>
    simp only [if_true, true_and]
    by_cases c : p > l
    · rw [if_pos c]; exact coh_endOff (coh_pwrite (coh_ddSetExt (coh_pwrite h _ _) s _ hs) _ _) _
    · rw [if_neg c]; exact coh_endOff (coh_pwrite (coh_ddSetExt h s _ hs) _ _) _

def Refused (w : World) (r : World × Res) : Prop := r.2 = .fail ∧ WFW r.1 ∧ (abs w).Eqv (abs r.1)

def Wrote (w : World) (h : Nat) (a : Acc) (bs : Bytes) (r : World × Res) : Prop :=
  r.2 = .num bs.length ∧
  Eff w r.1 a.file ((w.file a.file).keyOf a.slot)
    (some (some (specWrite (((w.file a.file).slotBytes a.slot).getD []) a.posn bs))) h
    (some { file := a.file, key := (w.file a.file).keyOf a.slot, pos := a.posn + bs.length })

theorem resOK_write {w : World} (hw : WFW w) {h : Nat} {a : Acc} (ha : w.acc h = some a) {bs : Bytes} (hbs : bs ≠ [])
    {r : World × Res} (hr : Refused w r ∨ Wrote w h a bs r) : ResOK w (.write h bs) r := by
  rcases hr with ⟨h1, h2, h3⟩ | ⟨h1, E⟩
  · exact ⟨h2, fun v hv => ⟨v, by rw [h1]; rfl, Eqv.trans hv h3⟩⟩
  · refine E.resOK fun v hv => ?_
    obtain ⟨hy, he⟩ := Eqv.reads hv hw ha
    rw [h1]
    exact ⟨_, by simp [specStep, hy, he, hbs], Eqv.refl _⟩

/-- `Hwrite` after a preparatory step through the same id: `Hsetlength` for a new element, `HLconvert` for one that must be promoted -/
theorem Wrote.after {w w1 : World} {h : Nat} {a a1 : Acc} {bs B1 : Bytes} {r : World × Res}
    (e : Eff w w1 a.file ((w.file a.file).keyOf a.slot) (some (some B1)) h
      (some { file := a.file, key := (w.file a.file).keyOf a.slot, pos := a.posn }))
    (hu : UserKey ((w.file a.file).keyOf a.slot)) (ha1 : w1.acc h = some a1)
    (hB : specWrite B1 a.posn bs = specWrite (((w.file a.file).slotBytes a.slot).getD []) a.posn bs)
    (W : Wrote w1 h a1 bs r) : Wrote w h a bs r := by
  obtain ⟨e1, e2, e3⟩ := e.acc ha1
  have hx := e.elem hu
  have he1 := handle_elem w1 e.wfw h a1 ha1
  rw [e2, e1, hx] at he1
  obtain ⟨W1, W2⟩ := W
  rw [e1] at W2 e2
  rw [e2, ← Option.some.inj he1, e3, Option.getD_some, hB] at W2
  exact ⟨W1, e.trans W2⟩

theorem hwritePlain_eq (w : World) (h : Nat) (a : Acc) (f : File) (bs : Bytes) {o l : Nat} (hx : (f.dd a.slot).ext = some (o, l)) :
    hwritePlain w h a f bs =
      if (bs.length : Int) ≤ 0 ∨ (a.appendable = false ∧ (bs.length : Int) + a.posn > l) then ((w.setFile a.file f).setAcc h a, .fail)
      else if a.promotes f bs.length then
        if f.writable = false then ((w.setFile a.file f).setAcc h { a with appendable := false }, .fail)
        else hwriteLinked w h
          { a with slot := (f.convert a.slot a.blockSize a.numBlocks).2, special := true, appendable := false, newElem := false }
          (f.convert a.slot a.blockSize a.numBlocks).1 bs
      else ((w.setFile a.file (plainWriteF f a.slot o l a.posn bs (decide (a.appendable = true ∧ (bs.length : Int) + a.posn > l)))).setAcc h
              { a with posn := a.posn + bs.length }, .num bs.length) := by
  unfold hwritePlain Acc.promotes File.notLast
  simp only [ddLen_some hx, ddOff_some hx]
  by_cases h1 : (bs.length : Int) ≤ 0 ∨ (a.appendable = false ∧ (bs.length : Int) + a.posn > l)
  · rw [if_pos h1, if_pos h1]
  rw [if_neg h1, if_neg h1]
  by_cases h2 : a.appendable = true ∧ (bs.length : Int) + a.posn > l ∧ (l : Int) + o ≠ f.endOff
  · rw [if_pos h2, if_pos h2]
  rw [if_neg h2, if_neg h2]
  refine congrArg (fun F : File => ((w.setFile a.file F).setAcc h { a with posn := a.posn + bs.length }, Res.num bs.length)) ?_
  simp only [plainWriteF, Int.toNat_natCast]
  by_cases hg : a.appendable = true ∧ (bs.length : Int) + a.posn > l
  · by_cases hp : a.posn > l
    · have hp' : (a.posn : Int) > l := by omega
      simp [hg, hp, hp']
    · have hp' : ¬ ((a.posn : Int) > l) := by omega
      simp [hg, hp, hp']
  · have hg' : ¬ (a.appendable = true ∧ (bs.length : Int) + a.posn > l ∧ (a.posn : Int) > l) := fun c => hg ⟨c.1, c.2.1⟩
    rw [if_neg hg, if_neg hg']
    simp [hg]

theorem hwritePlain_spec (w : World) (hw : WFW w) (h : Nat) (bs : Bytes) (hbs : bs ≠ []) (a : Acc)
    (ha : w.acc h = some a) (hsp : a.special = false) (hnew : a.newElem = false)
    (hnoprom : ¬ a.promotes (w.file a.file) bs.length) :
    (a.appendable = false ∧ Refused w (hwritePlain w h a (w.file a.file) bs)) ∨
      Wrote w h a bs (hwritePlain w h a (w.file a.file) bs) := by
  have hh := hw.handles h a ha
  have hsp' := hh.tag_special hsp
  have hfi := file_lt_of_live w a.file a.slot hh.live
  have hn : 1 ≤ bs.length := by cases bs with | nil => exact absurd rfl hbs | cons _ _ => simp
  cases hx : ((w.file a.file).dd a.slot).ext with
  | none =>
    have := hh.new_of_none hsp hx
    rw [hnew] at this; exact absurd this (by decide)
  | some e =>
    obtain ⟨o, l⟩ := e
    have hB : ((w.file a.file).slotBytes a.slot).getD [] = (w.file a.file).bytesAt o l := by
      rw [slotBytes_plain _ _ hsp', hx]; rfl
    unfold Refused Wrote
    rw [hB, hwritePlain_eq w h a _ bs hx]
    by_cases hfail : ((bs.length : Int) ≤ 0 ∨ (a.appendable = false ∧ (bs.length : Int) + a.posn > l))
    · rw [if_pos hfail, setFile_self w a.file hfi]
      exact Or.inl ⟨by rcases hfail with c | c
                       · omega
                       · exact c.1, rfl, hw.setAcc h a hh, abs_setAcc_same w h a a ha rfl rfl rfl⟩
    · rw [if_neg hfail, if_neg hnoprom]
      have hnp : ¬ (a.appendable = true ∧ (bs.length : Int) + a.posn > l ∧ (l : Int) + o ≠ (w.file a.file).endOff) := by
        have := hnoprom
        simp only [Acc.promotes, File.notLast, ddLen_some hx, ddOff_some hx] at this
        exact this
      have hcase : (decide (a.appendable = true ∧ (bs.length : Int) + a.posn > l) = false ∧ a.posn + bs.length ≤ l) ∨
          (decide (a.appendable = true ∧ (bs.length : Int) + a.posn > l) = true ∧ a.posn + bs.length > l ∧
            o + l = (w.file a.file).endOff) := by
        by_cases hg : a.appendable = true ∧ (bs.length : Int) + a.posn > l
        · right
          refine ⟨by simpa using hg, by omega, ?_⟩
          by_cases heof : (l : Int) + o ≠ (w.file a.file).endOff
          · exact absurd ⟨hg.1, hg.2, heof⟩ hnp
          · omega
        · left
          refine ⟨by simpa using hg, ?_⟩
          by_cases hap : a.appendable = true
          · have : ¬ ((bs.length : Int) + a.posn > l) := fun h2 => hg ⟨hap, h2⟩
            omega
          · have : ¬ ((bs.length : Int) + a.posn > l) := by
              intro h2; apply hfail; right
              exact ⟨by simpa using hap, h2⟩
            omega
      have hPW := plainWrite_spec (w.file a.file) (hw.files a.file) a.slot o l a.posn bs _ hh.live hsp'
        (keyOf_user_ne_linked hh.user) hx hcase
      exact Or.inr ⟨rfl, inPlace_world w hw h a { a with posn := a.posn + bs.length } ha rfl rfl rfl hh.special_new hh.blk
        _ _ (hPW.elemSet hh.live) (coh_plainWriteF (hw.coh a.file) _ _ _ _ _ _ (live_lt _ _ hh.live))⟩

theorem hwriteLinked_spec (w : World) (hw : WFW w) (h : Nat) (bs : Bytes) (hbs : bs ≠ []) (a : Acc)
    (ha : w.acc h = some a) (hsp : a.special = true) :
    Wrote w h a bs (hwriteLinked w h a (w.file a.file) bs) := by
  have hh := hw.handles h a ha
  have hsp' := hh.tag_special hsp
  have hE := hw.files a.file
  obtain ⟨li, ho, hlen, hlink, hwl, hext, h6⟩ := hE.linked_ok a.slot hh.live hsp'
  obtain ⟨f', li', hr, W⟩ := hlpWrite_spec (w.file a.file) li hE.toWFF hwl a.slot a.posn bs hbs hh.live
    (hE.hdr_tag a.slot hh.live hsp') ho hlen hext h6
  have hkeyf' : a.key f' = (w.file a.file).keyOf a.slot := by
    rw [acc_key_eq]; exact keyOf_eq (W.dd_keep a.slot hh.live)
  unfold hwriteLinked Wrote
  rw [acc_key_eq, hlink, slotBytes_special _ _ hsp', hlink]
  simp only [hr, hkeyf']
  refine ⟨trivial, ?_⟩
  have hC : Coh (f'.setLink ((w.file a.file).keyOf a.slot) li') := by
    have := coh_hlpWrite (hw.coh a.file) li a.slot a.posn bs
    rw [hr] at this
    exact coh_setLink this _ _
  exact inPlace_world w hw h a { a with posn := a.posn + bs.length } ha rfl rfl rfl hh.special_new hh.blk _ _
    (linkedWrite_elemSet (w.file a.file) hE a.slot hh.live hsp' li ho hlen hlink hwl hext h6 a.posn bs f' li' W) hC

theorem hwriteLinked_restart (w : World) (h : Nat) (a a0 : Acc) (f f0 : File) (bs : Bytes)
    (hl : (f.link (a.key f)).isSome = true) :
    hwriteLinked ((w.setFile a.file f0).setAcc h a0) h a f bs = hwriteLinked w h a f bs := by
  unfold hwriteLinked
  cases hk : f.link (a.key f) with
  | none => rw [hk] at hl; exact absurd hl (by decide)
  | some li =>
    simp only
    cases (hlpWrite f li a.slot a.posn bs).2.2 with
    | none => simp only [restart]
    | some n => simp only [restart]

theorem hwritePlain_promote_spec (w : World) (hw : WFW w) (h : Nat) (bs : Bytes) (hbs : bs ≠ []) (a : Acc)
    (ha : w.acc h = some a) (hsp : a.special = false)
    (hprom : a.promotes (w.file a.file) bs.length)
    (halone : (w.file a.file).writable = true → Alone w h) :
    Refused w (hwritePlain w h a (w.file a.file) bs) ∨ Wrote w h a bs (hwritePlain w h a (w.file a.file) bs) := by
  have hh := hw.handles h a ha
  have hn : 1 ≤ bs.length := by cases bs with | nil => exact absurd rfl hbs | cons _ _ => simp
  unfold hwritePlain
  simp only
  have h1 : ¬ ((bs.length : Int) ≤ 0 ∨ (a.appendable = false ∧ (bs.length : Int) + a.posn > ddLen ((w.file a.file).dd a.slot))) := by
    intro h; rcases h with h | h
    · omega
    · rw [hprom.1] at h; exact absurd h.1 (by decide)
  rw [if_neg h1, if_pos hprom]
  by_cases hwr : (w.file a.file).writable = false
  · rw [if_pos hwr, setFile_self w a.file (file_lt_of_live w a.file a.slot hh.live)]
    exact Or.inl ⟨rfl, hw.setAcc h _ (hh.same rfl rfl rfl rfl hh.blk), abs_setAcc_same w h a _ ha rfl rfl rfl⟩
  · rw [if_neg hwr]
    obtain ⟨hww, heqv⟩ := convert_world w hw h a ha hsp (halone (by simpa using hwr)) a.blockSize a.numBlocks
      hh.blk.1 hh.blk.2 a.posn false false rfl
    have hacc := acc_update w a.file ((w.file a.file).convert a.slot a.blockSize a.numBlocks).1 h
      { a with slot := ((w.file a.file).convert a.slot a.blockSize a.numBlocks).2, special := true, appendable := false, newElem := false }
    have hfile := file_update_same w a.file (file_lt_of_live w a.file a.slot hh.live)
      ((w.file a.file).convert a.slot a.blockSize a.numBlocks).1 h
      { a with slot := ((w.file a.file).convert a.slot a.blockSize a.numBlocks).2, special := true, appendable := false, newElem := false }
    generalize ((w.file a.file).convert a.slot a.blockSize a.numBlocks).1 = f2 at hww hacc hfile heqv ⊢
    generalize hs2 : ((w.file a.file).convert a.slot a.blockSize a.numBlocks).2 = s2 at hww hacc hfile heqv ⊢
    generalize ha2 : ({ a with slot := s2, special := true, appendable := false, newElem := false } : Acc) = a2 at hww hacc hfile heqv ⊢
    have ha2f : a2.file = a.file := by rw [← ha2]
    have hsp2 : a2.special = true := by rw [← ha2]
    have hfile2 : ((w.setFile a.file f2).setAcc h a2).file a2.file = f2 := by rw [ha2f]; exact hfile
    have hlk : (f2.link (a2.key f2)).isSome = true := by
      have hh2 := hww.handles h a2 hacc
      have hE2 := hww.files a2.file; rw [hfile2] at hE2
      have hl2 := hh2.live; rw [hfile2] at hl2
      have hs2' := hh2.special_iff; rw [hfile2, hsp2] at hs2'
      obtain ⟨li, _, _, hk, _⟩ := hE2.linked_ok a2.slot hl2 hs2'.symm
      rw [acc_key_eq, hk]; rfl
    have W := hwriteLinked_spec _ hww h bs hbs a2 hacc hsp2
    have hrs := hwriteLinked_restart w h a2 a2 f2 f2 bs hlk
    rw [ha2f] at hrs
    rw [hfile2, hrs] at W
    exact Or.inr (Wrote.after ⟨hww, heqv⟩ hh.user hacc rfl W)

theorem hwritePlain_restart (w : World) (h : Nat) (a a0 : Acc) (f f0 : File) (bs : Bytes)
    (hnp : ¬ a.promotes f bs.length) :
    hwritePlain ((w.setFile a.file f0).setAcc h a0) h a f bs = hwritePlain w h a f bs := by
  unfold hwritePlain
  simp only
  by_cases h1 : ((bs.length : Int) ≤ 0 ∨ (a.appendable = false ∧ (bs.length : Int) + a.posn > ddLen (f.dd a.slot)))
  · simp only [if_pos h1, restart]
  · simp only [if_neg h1, if_neg hnp, restart]

theorem specWrite_zeros (m p : Nat) (bs : Bytes) (h : m ≤ p + bs.length) : specWrite (zeros m) p bs = specWrite [] p bs := by
  unfold specWrite
  simp only [zeros_length, List.length_nil]
  have : max m (p + bs.length) = max 0 (p + bs.length) := by omega
  rw [this]
  apply List.map_congr_left
  intro i _
  split
  · rfl
  · simp [zeros, List.getD_eq_getElem?_getD, List.getElem?_replicate]
    split <;> rfl

theorem stepC_write (w : World) (hw : WFW w) (h : Nat) (bs : Bytes) (hbs : bs ≠ [])
    (hprom_alone : ∀ a, w.acc h = some a → a.special = false → a.newElem = false → a.promotes (w.file a.file) bs.length →
      Alone w h)
    (hfresh : Fresh w h) : ResOK w (.write h bs) (stepC w (.write h bs)) := by
  cases ha : w.acc h with
  | none => simp only [stepC, hwriteCore, ha]; exact ResOK.fail hw _
  | some a =>
    simp only [stepC, hwriteCore, ha]
    by_cases hcw : a.canWrite = false
    · rw [if_pos hcw]; exact ResOK.fail hw _
    have hh := hw.handles h a ha
    rw [if_neg hcw]
    apply resOK_write hw ha hbs
    by_cases hsp : a.special = true
    · rw [if_pos hsp]; exact Or.inr (hwriteLinked_spec w hw h bs hbs a ha hsp)
    have hsp0 : a.special = false := by simpa using hsp
    rw [if_neg hsp]
    by_cases hnew : a.newElem = true
    · -- first write of an element: Hsetlength(|bs|), then the write, which fits exactly
      rw [if_pos hnew]
      obtain ⟨hw1, heqv1⟩ := setLength_world w hw h a ha hsp0 bs.length true
      obtain ⟨hext1, hend1, -, -⟩ := setLength_facts (w.file a.file) a.slot bs.length (live_lt _ _ hh.live)
      have hacc1 := acc_update w a.file ((w.file a.file).setLength a.slot bs.length).1 h { a with newElem := false, appendable := true }
      have hfile1 := file_update_same w a.file (file_lt_of_live w a.file a.slot hh.live) ((w.file a.file).setLength a.slot bs.length).1 h
        { a with newElem := false, appendable := true }
      generalize ((w.file a.file).setLength a.slot bs.length).1 = f1 at hw1 hacc1 hfile1 hext1 hend1 heqv1 ⊢
      generalize ha1 : ({ a with newElem := false, appendable := true } : Acc) = a1 at hw1 hacc1 hfile1 heqv1 ⊢
      have ha1f : a1.file = a.file := by rw [← ha1]
      have hnp : ¬ a1.promotes f1 bs.length := by
        unfold Acc.promotes File.notLast
        rw [show a1.slot = a.slot by rw [← ha1], ddLen_some hext1, ddOff_some hext1, hend1]
        intro hh; apply hh.2.2; omega
      have hfile1' : ((w.setFile a.file f1).setAcc h a1).file a1.file = f1 := by rw [ha1f]; exact hfile1
      have W := hwritePlain_spec _ hw1 h bs hbs a1 hacc1 (by rw [← ha1]; exact hsp0) (by rw [← ha1]) (by rw [hfile1']; exact hnp)
      have hrs := hwritePlain_restart w h a1 a1 f1 f1 bs hnp
      rw [ha1f] at hrs
      rw [hfile1', hrs] at W
      rcases W with ⟨c, _⟩ | W
      · rw [← ha1] at c; cases c
      · have hx : ((w.file a.file).slotBytes a.slot).getD [] = [] := by
          rw [slotBytes_plain _ _ (hh.tag_special hsp0), hfresh a ha hnew hsp0]; rfl
        exact Or.inr (Wrote.after ⟨hw1, heqv1⟩ hh.user hacc1 (by rw [hx]; exact specWrite_zeros _ _ _ (by omega)) W)
    · rw [if_neg hnew]
      have hnew0 : a.newElem = false := by simpa using hnew
      by_cases hprom : a.promotes (w.file a.file) bs.length
      · exact hwritePlain_promote_spec w hw h bs hbs a ha hsp0 hprom (fun _ => hprom_alone a ha hsp0 hnew0 hprom)
      · exact (hwritePlain_spec w hw h bs hbs a ha hsp0 hnew0 hprom).imp_left And.right

/-- **`Hwrite`**: argument check, `HIrefresh_new`, then the write proper -/
theorem stepSim_write (w : World) (hw : WFW w) (h : Nat) (bs : Bytes) (hsafe : OpSafe w (.write h bs)) :
    StepSim w (.write h bs) := by
  obtain ⟨hbs, hprom⟩ := hsafe
  have hdec : w.acc h = none ∨ ∃ a, w.acc h = some a := by cases w.acc h <;> simp
  rcases hdec with ha | ⟨a, ha⟩
  · exact ResOK.of_fail hw (by simp [step, hwrite, ha])
  by_cases hcw : a.canWrite = false
  · exact ResOK.of_fail hw (by simp [step, hwrite, ha, hcw])
  obtain ⟨hw', _, hfr, hoth⟩ := refresh_spec w hw h
  have hfile := refresh_file w h
  have hacc := refresh_acc w h
  apply stepSim_of_core w hw h (.write h bs) (by simp only [step, stepC, hwrite, ha]; rw [if_neg hcw])
  apply stepC_write _ hw' h bs hbs _ hfr
  -- `OpSafe` speaks of the record before `HIrefresh_new`; only the "new" flag differs, which neither the condition for
  -- promotion nor `Alone` looks at
  intro a' ha' hsp' hne' hp'
  rw [hacc a ha] at ha'
  simp only [Option.some.injEq] at ha'
  subst ha'
  rw [Acc.refresh_eq] at hsp' hp'
  rw [hfile] at hp'
  have hxne : ((w.file a.file).dd a.slot).ext ≠ none := by
    intro c
    have h1 := (hw.handles h a ha).new_of_none hsp' c
    have h2 : (a.refresh (w.file a.file)).newElem = true := by
      unfold Acc.refresh; rw [if_neg (fun cc => cc.2.2 c)]; exact h1
    rw [hne'] at h2; exact absurd h2 (by decide)
  exact alone_refresh hw (hprom a ha hsp' hxne hp'.1 hp'.2.1 hp'.2.2)

end H4.Elem
