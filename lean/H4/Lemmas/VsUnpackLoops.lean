import H4.Lemmas.VsUnpackText
import H4.Lemmas.UnpackLayout
/-! `HIstrncpy` into an array of `*vs` and the eight loops of the translated `vunpackvs` on a state without undefined behaviour, with the closed forms `F0 .. F7` of
    their states; the four array loops of the field table are one lemma, `cellLoop_ok`. -/
namespace H4.Lemmas.C07Fn3
open H4 H4.Gen.Fn.Vio3
open H4.C2L hiding andS orS andU orU
open H4.Lemmas.C08Fn3 (be16 be32 S32 be16N be16_eq w16 strncpy_room takeWhile_take_le vals vals_length vals_succ fill fill_eq fill_nil fill_length fill_snoc strAt
  for_ok orS fill_vals_lt fill_vals_set)

theorem guard_ok {B s p} (h : Ok B s p) (f : St → St) : guard s f = f s := by
  simp only [guard, h.done, h.gto]; simp

/-- what `HIstrncpy` of the `l` bytes at `p` leaves in a fixed array `old` -/
def cstrInto (B : List Int) (p l : Nat) (old : List Int) : List Int :=
  ((B.drop p).take l).takeWhile (· ≠ 0) ++ 0 :: old.drop ((((B.drop p).take l).takeWhile (· ≠ 0)).length + 1)

theorem cpy_ok (reg : St → List Int) (setreg : St → List Int → St) {B s p} (h : Ok B s p) (l : Nat) (hu : s.int16var = l)
    (hl : p + l ≤ B.length) (hfit : (((B.drop p).take l).takeWhile (· ≠ 0)).length + 1 ≤ (reg s).length) :
    cpy s reg setreg = setreg s (cstrInto B p l (reg s)) := by
  obtain ⟨c1, c2, e⟩ := strncpy_room B (reg s) _ p l rfl hl hfit
  simp only [cpy]
  rw [chk_true s _ (by simp only [hu, h.bb, h.buf, Int.add_sub_cancel, Int.toNat_natCast]; exact c1),
    chk_true s _ (by simp only [hu, h.bb, h.buf, Int.add_sub_cancel, Int.toNat_natCast]; exact c2)]
  simp only [hu, h.bb, h.buf, Int.add_sub_cancel, Int.toNat_natCast]
  rw [e]; rfl

theorem skip_ok {B s p} (h : Ok B s p) (l : Nat) (hu : s.int16var = l) (hlt : l < 32768) :
    skip s = vunpackvs.St.set_bb s ((p + l : Nat) : Int) ∧ Ok B (vunpackvs.St.set_bb s ((p + l : Nat) : Int)) (p + l) := by
  refine ⟨?_, h.move _⟩
  simp only [skip, hu, h.bb]
  congr 1
  omega

def idv (x : Int) : Int := x
theorem map_idv (l : List Int) : l.map idv = l := by
  have : idv = id := rfl
  rw [this, List.map_id]

def Fcell (w : Int → Int) (B : List Int) (s : St) (p cN : Nat) (j : Nat) : St :=
  ((s.set_vs_wlist_bptr (fill s.vs_wlist_bptr cN ((vals B p 2 j).map w))).set_i ((j : Nat) : Int)).set_bb ((p + 2 * j : Nat) : Int)

theorem cellLoop_ok {loop body : Nat → St → St} (curs : St → Int) (w : Int → Int)
    (hL : H4.C2L.IsLoop loop (fun s => s.i < s.vs_wlist_n ∧ ¬(s.done = true ∨ s.gto = true)) body (fun s => s))
    (hcurs : ∀ t l v u, curs (vunpackvs.St.set_bb (vunpackvs.St.set_i (vunpackvs.St.set_vs_wlist_bptr t l) v) u) = curs t)
    (hstep : ∀ fuel {B t q}, Ok B t q → q + 2 ≤ B.length → ∀ k : Nat, curs t + t.i = k → k < t.vs_wlist_bptr.length →
      body fuel t = vunpackvs.St.set_i (vunpackvs.St.set_bb (vunpackvs.St.set_vs_wlist_bptr t (t.vs_wlist_bptr.set k (w (be16 B q))))
        ((q + 2 : Nat) : Int)) (t.i + 1))
    {B s p} (h : Ok B s p) (m fuel cN : Nat) (hu : s.i = 0) (hn : s.vs_wlist_n = (m : Int)) (hc : curs s = (cN : Int))
    (hl : p + 2 * m ≤ B.length) (ht : cN + m ≤ s.vs_wlist_bptr.length) (hf : m ≤ fuel) :
    loop fuel s = Fcell w B s p cN m ∧ Ok B (Fcell w B s p cN m) (p + 2 * m) := by
  have ok : ∀ j, Ok B (Fcell w B s p cN j) (p + 2 * j) := fun _ => ⟨h.buf, rfl, h.ub, h.oof, h.done, h.gto⟩
  refine ⟨?_, ok m⟩
  refine for_ok (·.i) (·.vs_wlist_n) (·.done) (·.gto) hL m (Fcell w B s p cN) (fun j => ⟨rfl, hn, h.done, h.gto⟩)
    (fun j hj fuel => ?_) ?_ fuel hf
  · have e := fill_snoc s.vs_wlist_bptr cN ((vals B p 2 j).map w) (w (be16 B (p + 2 * j))) (by simp; omega)
    simp only [List.length_map, vals_length] at e
    rw [hstep fuel (ok j) (by omega) (cN + j)
      (by rw [Fcell, hcurs, hc]; show (cN : Int) + ((j : Nat) : Int) = _; omega)
      (by show cN + j < (fill s.vs_wlist_bptr cN ((vals B p 2 j).map w)).length; rw [fill_length _ _ _ (by simp; omega)]; omega)]
    rw [show (Fcell w B s p cN j).vs_wlist_bptr.set (cN + j) _ = _ from e, ← List.map_singleton (f := w), ← List.map_append, ← vals_succ]
    simp only [Fcell, vunpackvs.St.set_i, vunpackvs.St.set_bb]
    congr 1
  · simp only [Fcell, vals, List.range_zero, List.map_nil, fill_nil, vunpackvs.St.set_bb]
    have e1 : ((0 : Nat) : Int) = s.i := by rw [hu]; rfl
    have e2 : ((p + 2 * 0 : Nat) : Int) = s.bb := by rw [h.bb]; rfl
    rw [e1, e2]

def F0 (B : List Int) (s : St) (p cN : Nat) (j : Nat) : St :=
  ((s.set_vs_wlist_bptr (fill s.vs_wlist_bptr cN ((vals B p 2 j).map w16))).set_i ((j : Nat) : Int)).set_bb ((p + 2 * j : Nat) : Int)

theorem loop0_ok (M D : Int → Int) {B s p} (h : Ok B s p) (m fuel cN : Nat) (hu : s.i = 0) (hn : s.vs_wlist_n = (m : Int))
    (hc : s.vs_wlist_type = (cN : Int)) (hl : p + 2 * m ≤ B.length) (ht : cN + m ≤ s.vs_wlist_bptr.length) (hf : m ≤ fuel) :
    vunpackvs.loop0 M D fuel s = F0 B s p cN m ∧ Ok B (F0 B s p cN m) (p + 2 * m) :=
  cellLoop_ok (loop := vunpackvs.loop0 M D) (·.vs_wlist_type) w16 (.of_eqs (fun _ => rfl) (fun _ _ => rfl)) (fun _ _ _ _ => rfl)
    (fun fuel B t q ok hl k hi hk => by
      rw [loop0_body, (deca_ok r16s (fun s => (s.vs_wlist_type + s.i)) (·.vs_wlist_bptr) vunpackvs.St.set_vs_wlist_bptr ok hl k hi hk).1])
    h m fuel cN hu hn hc hl ht hf

def F1 (B : List Int) (s : St) (p cN : Nat) (j : Nat) : St :=
  ((s.set_vs_wlist_bptr (fill s.vs_wlist_bptr cN ((vals B p 2 j).map idv))).set_i ((j : Nat) : Int)).set_bb ((p + 2 * j : Nat) : Int)

theorem loop1_ok (M D : Int → Int) {B s p} (h : Ok B s p) (m fuel cN : Nat) (hu : s.i = 0) (hn : s.vs_wlist_n = (m : Int))
    (hc : s.vs_wlist_isize = (cN : Int)) (hl : p + 2 * m ≤ B.length) (ht : cN + m ≤ s.vs_wlist_bptr.length) (hf : m ≤ fuel) :
    vunpackvs.loop1 M D fuel s = F1 B s p cN m ∧ Ok B (F1 B s p cN m) (p + 2 * m) :=
  cellLoop_ok (loop := vunpackvs.loop1 M D) (·.vs_wlist_isize) idv (.of_eqs (fun _ => rfl) (fun _ _ => rfl)) (fun _ _ _ _ => rfl)
    (fun fuel B t q ok hl k hi hk => by
      rw [loop1_body, (deca_ok r16 (fun s => (s.vs_wlist_isize + s.i)) (·.vs_wlist_bptr) vunpackvs.St.set_vs_wlist_bptr ok hl k hi hk).1]; rfl)
    h m fuel cN hu hn hc hl ht hf

def F2 (B : List Int) (s : St) (p cN : Nat) (j : Nat) : St :=
  ((s.set_vs_wlist_bptr (fill s.vs_wlist_bptr cN ((vals B p 2 j).map idv))).set_i ((j : Nat) : Int)).set_bb ((p + 2 * j : Nat) : Int)

theorem loop2_ok (M D : Int → Int) {B s p} (h : Ok B s p) (m fuel cN : Nat) (hu : s.i = 0) (hn : s.vs_wlist_n = (m : Int))
    (hc : s.vs_wlist_off = (cN : Int)) (hl : p + 2 * m ≤ B.length) (ht : cN + m ≤ s.vs_wlist_bptr.length) (hf : m ≤ fuel) :
    vunpackvs.loop2 M D fuel s = F2 B s p cN m ∧ Ok B (F2 B s p cN m) (p + 2 * m) :=
  cellLoop_ok (loop := vunpackvs.loop2 M D) (·.vs_wlist_off) idv (.of_eqs (fun _ => rfl) (fun _ _ => rfl)) (fun _ _ _ _ => rfl)
    (fun fuel B t q ok hl k hi hk => by
      rw [loop2_body, (deca_ok r16 (fun s => (s.vs_wlist_off + s.i)) (·.vs_wlist_bptr) vunpackvs.St.set_vs_wlist_bptr ok hl k hi hk).1]; rfl)
    h m fuel cN hu hn hc hl ht hf

def F3 (B : List Int) (s : St) (p cN : Nat) (j : Nat) : St :=
  ((s.set_vs_wlist_bptr (fill s.vs_wlist_bptr cN ((vals B p 2 j).map idv))).set_i ((j : Nat) : Int)).set_bb ((p + 2 * j : Nat) : Int)

theorem loop3_ok (M D : Int → Int) {B s p} (h : Ok B s p) (m fuel cN : Nat) (hu : s.i = 0) (hn : s.vs_wlist_n = (m : Int))
    (hc : s.vs_wlist_order = (cN : Int)) (hl : p + 2 * m ≤ B.length) (ht : cN + m ≤ s.vs_wlist_bptr.length) (hf : m ≤ fuel) :
    vunpackvs.loop3 M D fuel s = F3 B s p cN m ∧ Ok B (F3 B s p cN m) (p + 2 * m) :=
  cellLoop_ok (loop := vunpackvs.loop3 M D) (·.vs_wlist_order) idv (.of_eqs (fun _ => rfl) (fun _ _ => rfl)) (fun _ _ _ _ => rfl)
    (fun fuel B t q ok hl k hi hk => by
      rw [loop3_body, (deca_ok r16 (fun s => (s.vs_wlist_order + s.i)) (·.vs_wlist_bptr) vunpackvs.St.set_vs_wlist_bptr ok hl k hi hk).1]; rfl)
    h m fuel cN hu hn hc hl ht hf

theorem fill_getD_out (l : List Int) (k : Nat) (vs : List Int) (x : Nat) (d : Int) (hx : x < k ∨ k + vs.length ≤ x)
    (hk : k + vs.length ≤ l.length) : (fill l k vs).getD x d = l.getD x d := by
  rw [List.getD_eq_getElem?_getD, List.getD_eq_getElem?_getD, fill_eq, getElem?_storeAt l k vs hk]
  rcases hx with hx | hx
  · rw [if_pos hx]
  · rw [if_neg (by omega), if_neg (by omega)]

def rowsAt (B : List Int) (p0 : Nat) (rows : List (List Int)) (j : Nat) : List (List Int) :=
  (List.range j).map (fun t => strAt B (namePos B p0 t + 2) (nameLen B p0 t)) ++ rows.drop j

theorem rowsAt_zero (B : List Int) (p0 : Nat) (rows : List (List Int)) : rowsAt B p0 rows 0 = rows := by simp [rowsAt]

theorem rowsAt_length (B : List Int) (p0 : Nat) (rows : List (List Int)) (j : Nat) (h : j ≤ rows.length) : (rowsAt B p0 rows j).length = rows.length := by
  simp [rowsAt]; omega

theorem rowsAt_set (B : List Int) (p0 : Nat) (rows : List (List Int)) (j : Nat) (h : j < rows.length) :
    (rowsAt B p0 rows j).set j (strAt B (namePos B p0 j + 2) (nameLen B p0 j)) = rowsAt B p0 rows (j + 1) := by
  simp only [rowsAt, List.range_succ, List.map_append, List.map_cons, List.map_nil]
  rw [List.set_append_right _ _ (by simp)]
  simp only [List.length_map, List.length_range, Nat.sub_self]
  rw [List.drop_eq_getElem_cons h, List.set_cons_zero]
  simp

theorem rowsAt_getD (B : List Int) (p0 : Nat) (rows : List (List Int)) (j : Nat) (h : j < rows.length) :
    (rowsAt B p0 rows j).getD j [] = rows.getD j [] := by
  simp only [rowsAt, List.getD_eq_getElem?_getD]
  rw [List.getElem?_append_right (by simp)]
  simp [h]

theorem strAt_eq (B : List Int) (p l : Nat) :
    strAt B p l = cstrInto B p l (List.replicate (l + 1) 170) := by
  simp only [strAt, cstrInto, List.drop_replicate]
  congr 3
  omega

theorem allocRow_ok (s : St) (j l : Nat) (hi : s.i = j) (hj : j < s.vs_wlist_name.length) (hu : s.int16var = l) (hl : l < 32768) :
    allocRow s = vunpackvs.St.set_vs_wlist_name s (s.vs_wlist_name.set j (List.replicate (l + 1) 170)) := by
  have c : ¬ (((((((s.int16var + 1)) % 18446744073709551616) * 1)) % 18446744073709551616) > 9223372036854775807) := by rw [hu]; omega
  have t : Int.toNat (Int.tdiv ((((((s.int16var + 1)) % 18446744073709551616) * 1)) % 18446744073709551616) 1) = l + 1 := by
    rw [hu, Int.tdiv_eq_ediv_of_nonneg (by omega)]; omega
  simp only [allocRow]
  rw [chk_true s _ (by rw [hi]; omega)]
  rw [if_neg c, if_neg c, t, hi, Int.toNat_natCast]

theorem cpyRow_ok {B s p} (h : Ok B s p) (j l : Nat) (hi : s.i = j) (hj : j < s.vs_wlist_name.length) (hu : s.int16var = l)
    (hl : p + l ≤ B.length) (hrow : s.vs_wlist_name.getD j [] = List.replicate (l + 1) 170) :
    cpyRow s = vunpackvs.St.set_vs_wlist_name s (s.vs_wlist_name.set j (strAt B p l)) := by
  have hK := takeWhile_take_le (· ≠ (0 : Int)) (B.drop p) l
  simp only [cpyRow]
  rw [chk_true s _ (by rw [hi]; omega)]
  rw [cpy_ok (fun s => (s.vs_wlist_name.getD (Int.toNat (s.i)) [])) (fun s v => vunpackvs.St.set_vs_wlist_name s (s.vs_wlist_name.set (Int.toNat (s.i)) v)) h l hu hl
    (by show _ ≤ (s.vs_wlist_name.getD (Int.toNat (s.i)) []).length; rw [hi, Int.toNat_natCast, hrow, List.length_replicate]; omega)]
  show vunpackvs.St.set_vs_wlist_name s (s.vs_wlist_name.set (Int.toNat (s.i)) (cstrInto B p l (s.vs_wlist_name.getD (Int.toNat (s.i)) []))) = _
  rw [hi, Int.toNat_natCast, hrow, ← strAt_eq]

def F4 (B : List Int) (s : St) (p0 : Nat) (j : Nat) : St :=
  (((s.set_vs_wlist_name (rowsAt B p0 s.vs_wlist_name j)).set_int16var (if j = 0 then s.int16var else (nameLen B p0 (j - 1) : Int))).set_i ((j : Nat) : Int)).set_bb
    ((namePos B p0 j : Nat) : Int)

theorem loop4_ok (M D : Int → Int) {B s p0} (h : Ok B s p0) (m fuel : Nat) (hu : s.i = 0) (hn : s.vs_wlist_n = (m : Int))
    (hrows : s.vs_wlist_name.length = m)
    (hlen : ∀ t, t < m → nameLen B p0 t < 32768) (hend : namePos B p0 m ≤ B.length) (hf : m ≤ fuel) :
    vunpackvs.loop4 M D fuel s = F4 B s p0 m ∧ Ok B (F4 B s p0 m) (namePos B p0 m) := by
  have ok : ∀ j, Ok B (F4 B s p0 j) (namePos B p0 j) := fun _ => ⟨h.buf, rfl, h.ub, h.oof, h.done, h.gto⟩
  refine ⟨?_, ok m⟩
  refine for_ok (loop := vunpackvs.loop4 M D) (·.i) (·.vs_wlist_n) (·.done) (·.gto) (.of_eqs (fun _ => rfl) (fun _ _ => rfl)) m (F4 B s p0)
    (fun j => ⟨rfl, hn, h.done, h.gto⟩) (fun j hj fuel => ?_) ?_ fuel hf
  · have hmono := namePos_mono B p0 (j + 1) m (by omega)
    have hstep : namePos B p0 (j + 1) = namePos B p0 j + 2 + nameLen B p0 j := rfl
    have hl := hlen j hj
    rw [loop4_body]
    obtain ⟨q1, o1⟩ := dec_ok r16s (·.int16var) vunpackvs.St.set_int16var (ok j) (by omega) (hT := tInt16var)
    have ew : w16 (be16 B (namePos B p0 j)) = (nameLen B p0 j : Int) := by
      rw [be16_eq]; simp only [w16, nameLen] at hl ⊢; omega
    rw [ew] at q1 o1
    simp only [decS16v]
    rw [q1]
    generalize hs1 : vunpackvs.St.set_bb (vunpackvs.St.set_int16var (F4 B s p0 j) (nameLen B p0 j : Int)) ((namePos B p0 j + 2 : Nat) : Int) = s1 at o1
    have i1 : s1.i = j := by rw [← hs1]; rfl
    have r1 : s1.vs_wlist_name = rowsAt B p0 s.vs_wlist_name j := by rw [← hs1]; rfl
    have u1 : s1.int16var = (nameLen B p0 j : Int) := by rw [← hs1]
    have q2 := allocRow_ok s1 j (nameLen B p0 j) i1 (by rw [r1, rowsAt_length _ _ _ _ (by omega)]; omega) u1 hl
    rw [q2]
    have o2 : Ok B (vunpackvs.St.set_vs_wlist_name s1 (s1.vs_wlist_name.set j (List.replicate (nameLen B p0 j + 1) 170))) (namePos B p0 j + 2) :=
      ⟨o1.buf, o1.bb, o1.ub, o1.oof, o1.done, o1.gto⟩
    rw [guard_ok o2]
    have q3 := cpyRow_ok o2 j (nameLen B p0 j) i1 (by show j < (s1.vs_wlist_name.set j _).length; rw [List.length_set, r1, rowsAt_length _ _ _ _ (by omega)]; omega)
      u1 (by omega) (by show (s1.vs_wlist_name.set j _).getD j [] = _; rw [List.getD_eq_getElem?_getD, List.getElem?_set_self (by rw [r1, rowsAt_length _ _ _ _ (by omega)]; omega)]; rfl)
    rw [q3]
    have e3 : (s1.vs_wlist_name.set j (List.replicate (nameLen B p0 j + 1) 170)).set j (strAt B (namePos B p0 j + 2) (nameLen B p0 j)) = rowsAt B p0 s.vs_wlist_name (j + 1) := by
      rw [List.set_set, r1, rowsAt_set _ _ _ _ (by omega)]
    show guard (guard (vunpackvs.St.set_vs_wlist_name _ ((s1.vs_wlist_name.set j (List.replicate (nameLen B p0 j + 1) 170)).set j (strAt B (namePos B p0 j + 2) (nameLen B p0 j)))) skip) _ = _
    rw [e3]
    have o3 : Ok B (vunpackvs.St.set_vs_wlist_name (vunpackvs.St.set_vs_wlist_name s1 (s1.vs_wlist_name.set j (List.replicate (nameLen B p0 j + 1) 170))) (rowsAt B p0 s.vs_wlist_name (j + 1))) (namePos B p0 j + 2) :=
      ⟨o1.buf, o1.bb, o1.ub, o1.oof, o1.done, o1.gto⟩
    rw [guard_ok o3]
    obtain ⟨q4, o4⟩ := skip_ok o3 (nameLen B p0 j) u1 hl
    rw [q4, guard_ok o4, ← hs1]
    simp only [F4, vunpackvs.St.set_i, vunpackvs.St.set_bb, Nat.add_sub_cancel, Nat.succ_ne_zero, if_false]
    congr 1
  · simp only [F4, rowsAt_zero, namePos, vunpackvs.St.set_bb, if_true]
    have e1 : ((0 : Nat) : Int) = s.i := by rw [hu]; rfl
    have e2 : ((p0 : Nat) : Int) = s.bb := by rw [h.bb]
    rw [e1, e2]

def vals32 (B : List Int) (p st m : Nat) : List Int := (List.range m).map fun j => S32 (be32 B (p + st * j))

@[simp] theorem vals32_length (B : List Int) (p st m : Nat) : (vals32 B p st m).length = m := by simp [vals32]

theorem vals32_succ (B : List Int) (p st m : Nat) : vals32 B p st (m + 1) = vals32 B p st m ++ [S32 (be32 B (p + st * m))] := by
  simp [vals32, List.range_succ]

def F5 (B : List Int) (s : St) (p : Nat) (j : Nat) : St :=
  ((((s.set_vs_alist_findex (fill s.vs_alist_findex 0 (vals32 B p 8 j))).set_vs_alist_atag (fill s.vs_alist_atag 0 (vals B (p + 4) 8 j))).set_vs_alist_aref
    (fill s.vs_alist_aref 0 (vals B (p + 6) 8 j))).set_i ((j : Nat) : Int)).set_bb ((p + 8 * j : Nat) : Int)

theorem loop5_ok (M D : Int → Int) {B s p} (h : Ok B s p) (m fuel : Nat) (hu : s.i = 0) (hn : s.vs_nattrs = (m : Int))
    (hl : p + 8 * m ≤ B.length) (ht1 : m ≤ s.vs_alist_findex.length) (ht2 : m ≤ s.vs_alist_atag.length) (ht3 : m ≤ s.vs_alist_aref.length)
    (hf : m ≤ fuel) :
    vunpackvs.loop5 M D fuel s = F5 B s p m ∧ Ok B (F5 B s p m) (p + 8 * m) := by
  have ok : ∀ j, Ok B (F5 B s p j) (p + 8 * j) := fun _ => ⟨h.buf, rfl, h.ub, h.oof, h.done, h.gto⟩
  refine ⟨?_, ok m⟩
  refine for_ok (loop := vunpackvs.loop5 M D) (·.i) (·.vs_nattrs) (·.done) (·.gto) (.of_eqs (fun _ => rfl) (fun _ _ => rfl)) m (F5 B s p)
    (fun j => ⟨rfl, hn, h.done, h.gto⟩) (fun j hj fuel => ?_) ?_ fuel hf
  · rw [loop5_body]
    obtain ⟨q1, o1⟩ := deca_ok r32s (·.i) (·.vs_alist_findex) vunpackvs.St.set_vs_alist_findex (ok j) (by omega) j rfl
      (by show j < (fill s.vs_alist_findex 0 (vals32 B p 8 j)).length; rw [fill_length _ _ _ (by simp; omega)]; omega)
    obtain ⟨q2, o2⟩ := deca_ok r16 (·.i) (·.vs_alist_atag) vunpackvs.St.set_vs_alist_atag o1 (by omega) j rfl
      (fill_vals_lt _ B _ _ j (by omega))
    obtain ⟨q3, _⟩ := deca_ok r16 (·.i) (·.vs_alist_aref) vunpackvs.St.set_vs_alist_aref o2 (by omega) j rfl
      (fill_vals_lt _ B _ _ j (by omega))
    simp only [q1, q2, q3]
    have e1 := fill_snoc s.vs_alist_findex 0 (vals32 B p 8 j) (S32 (be32 B (p + 8 * j))) (by simp; omega)
    simp only [vals32_length, Nat.zero_add] at e1
    have a1 : p + 8 * j + 4 = p + 4 + 8 * j := by omega
    have a2 : p + 4 + 8 * j + 2 = p + 6 + 8 * j := by omega
    rw [show (F5 B s p j).vs_alist_findex.set j _ = _ from e1, ← vals32_succ, a1, a2,
      show (F5 B s p j).vs_alist_atag.set j _ = _ from fill_vals_set _ B _ _ j (by omega),
      show (F5 B s p j).vs_alist_aref.set j _ = _ from fill_vals_set _ B _ _ j (by omega)]
    simp only [F5, vunpackvs.St.set_i, vunpackvs.St.set_bb]
    congr 1
    omega
  · simp only [F5, vals, vals32, List.range_zero, List.map_nil, fill_nil, 
      vunpackvs.St.set_bb]
    have e1 : ((0 : Nat) : Int) = s.i := by rw [hu]; rfl
    have e2 : ((p + 8 * 0 : Nat) : Int) = s.bb := by rw [h.bb]; rfl
    rw [e1, e2]

def gens (f : Nat → Int) (m : Nat) : List Int := (List.range m).map f

@[simp] theorem gens_length (f : Nat → Int) (m : Nat) : (gens f m).length = m := by simp [gens]
theorem gens_succ (f : Nat → Int) (m : Nat) : gens f (m + 1) = gens f m ++ [f m] := by simp [gens, List.range_succ]

theorem idx_at (c : Int) (a j : Nat) (reg : List Int) (hc : c = a) (hk : a + j < reg.length) :
    Int.toNat (c + ((j : Nat) : Int)) = a + j ∧ 0 ≤ c + ((j : Nat) : Int) ∧ c + ((j : Nat) : Int) < reg.length := by
  subst hc; omega

def F6 (M : Int → Int) (s : St) (tN : Nat) (j : Nat) : St :=
  (s.set_vs_wlist_bptr (fill s.vs_wlist_bptr tN (gens (fun t => M (s.vs_wlist_bptr.getD (tN + t) 0)) j))).set_i ((j : Nat) : Int)

theorem loop6_ok (M D : Int → Int) {B s p} (h : Ok B s p) (m fuel tN : Nat) (hu : s.i = 0) (hn : s.vs_wlist_n = (m : Int))
    (hc : s.vs_wlist_type = (tN : Int)) (ht : tN + m ≤ s.vs_wlist_bptr.length) (hf : m ≤ fuel) :
    vunpackvs.loop6 M D fuel s = F6 M s tN m ∧ Ok B (F6 M s tN m) p := by
  refine ⟨?_, ⟨h.buf, h.bb, h.ub, h.oof, h.done, h.gto⟩⟩
  refine for_ok (loop := vunpackvs.loop6 M D) (·.i) (·.vs_wlist_n) (·.done) (·.gto) (.of_eqs (fun _ => rfl) (fun _ _ => rfl)) m (F6 M s tN)
    (fun j => ⟨rfl, hn, h.done, h.gto⟩) (fun j hj fuel => ?_) ?_ fuel hf
  · rw [loop6_body]
    have hlen : (fill s.vs_wlist_bptr tN (gens (fun t => M (s.vs_wlist_bptr.getD (tN + t) 0)) j)).length = s.vs_wlist_bptr.length :=
      fill_length _ _ _ (by simp; omega)
    obtain ⟨e0, ct⟩ := idx_at s.vs_wlist_type tN j _ hc (show tN + j < (fill _ _ _).length by rw [hlen]; omega)
    have e0 : Int.toNat ((F6 M s tN j).vs_wlist_type + (F6 M s tN j).i) = tN + j := e0
    have c1 : idxchk (fun s => (s.vs_wlist_type + s.i)) (·.vs_wlist_bptr) (F6 M s tN j) = F6 M s tN j := chk_true _ _ ct
    simp only [c1, e0]
    have g : (F6 M s tN j).vs_wlist_bptr.getD (tN + j) 0 = s.vs_wlist_bptr.getD (tN + j) 0 :=
      fill_getD_out _ _ _ _ _ (Or.inr (by simp)) (by simp; omega)
    rw [g]
    have e := fill_snoc s.vs_wlist_bptr tN (gens (fun t => M (s.vs_wlist_bptr.getD (tN + t) 0)) j) (M (s.vs_wlist_bptr.getD (tN + j) 0)) (by simp; omega)
    simp only [gens_length] at e
    rw [show (F6 M s tN j).vs_wlist_bptr.set (tN + j) _ = _ from e, ← gens_succ (fun t => M (s.vs_wlist_bptr.getD (tN + t) 0))]
    simp only [F6, vunpackvs.St.set_i]
    congr 1
  · simp only [F6, gens, List.range_zero, List.map_nil, fill_nil, vunpackvs.St.set_i]
    have e1 : ((0 : Nat) : Int) = s.i := by rw [hu]; rfl
    rw [e1]

/-- `esize[t] = (uint16)(order[t] * DFKNTsize(type[t] | DFNT_NATIVE))` -/
def esz (D : Int → Int) (bp : List Int) (tN oN t : Nat) : Int := (bp.getD (oN + t) 0 * D (orS (bp.getD (tN + t) 0) 4096)) % 65536

def F7 (D : Int → Int) (s : St) (tN oN eN : Nat) (j : Nat) : St :=
  (s.set_vs_wlist_bptr (fill s.vs_wlist_bptr eN (gens (esz D s.vs_wlist_bptr tN oN) j))).set_i ((j : Nat) : Int)

theorem loop7_ok (M D : Int → Int) {B s p} (h : Ok B s p) (m fuel tN oN eN : Nat) (hu : s.i = 0) (hn : s.vs_wlist_n = (m : Int))
    (hct : s.vs_wlist_type = (tN : Int)) (hco : s.vs_wlist_order = (oN : Int)) (hce : s.vs_wlist_esize = (eN : Int))
    (h1 : tN + m ≤ eN) (h2 : oN + m ≤ eN) (ht : eN + m ≤ s.vs_wlist_bptr.length) (hf : m ≤ fuel) :
    vunpackvs.loop7 M D fuel s = F7 D s tN oN eN m ∧ Ok B (F7 D s tN oN eN m) p := by
  refine ⟨?_, ⟨h.buf, h.bb, h.ub, h.oof, h.done, h.gto⟩⟩
  refine for_ok (loop := vunpackvs.loop7 M D) (·.i) (·.vs_wlist_n) (·.done) (·.gto) (.of_eqs (fun _ => rfl) (fun _ _ => rfl)) m (F7 D s tN oN eN)
    (fun j => ⟨rfl, hn, h.done, h.gto⟩) (fun j hj fuel => ?_) ?_ fuel hf
  · rw [loop7_body]
    have hlen : (fill s.vs_wlist_bptr eN (gens (esz D s.vs_wlist_bptr tN oN) j)).length = s.vs_wlist_bptr.length :=
      fill_length _ _ _ (by simp; omega)
    obtain ⟨et, ct⟩ := idx_at s.vs_wlist_type tN j _ hct (show tN + j < (fill _ _ _).length by rw [hlen]; omega)
    obtain ⟨eo, co⟩ := idx_at s.vs_wlist_order oN j _ hco (show oN + j < (fill _ _ _).length by rw [hlen]; omega)
    obtain ⟨ee, ce⟩ := idx_at s.vs_wlist_esize eN j _ hce (show eN + j < (fill _ _ _).length by rw [hlen]; omega)
    have c1 : idxchk (fun s => (s.vs_wlist_order + s.i)) (·.vs_wlist_bptr) (F7 D s tN oN eN j) = F7 D s tN oN eN j := chk_true _ _ co
    have c2 : idxchk (fun s => (s.vs_wlist_type + s.i)) (·.vs_wlist_bptr) (F7 D s tN oN eN j) = F7 D s tN oN eN j := chk_true _ _ ct
    have c3 : idxchk (fun s => (s.vs_wlist_esize + s.i)) (·.vs_wlist_bptr) (F7 D s tN oN eN j) = F7 D s tN oN eN j := chk_true _ _ ce
    have et : Int.toNat ((F7 D s tN oN eN j).vs_wlist_type + (F7 D s tN oN eN j).i) = tN + j := et
    have eo : Int.toNat ((F7 D s tN oN eN j).vs_wlist_order + (F7 D s tN oN eN j).i) = oN + j := eo
    have ee : Int.toNat ((F7 D s tN oN eN j).vs_wlist_esize + (F7 D s tN oN eN j).i) = eN + j := ee
    simp only [c1, c2, c3, et, eo, ee]
    have g1 : (F7 D s tN oN eN j).vs_wlist_bptr.getD (oN + j) 0 = s.vs_wlist_bptr.getD (oN + j) 0 :=
      fill_getD_out _ _ _ _ _ (Or.inl (by omega)) (by simp; omega)
    have g2 : (F7 D s tN oN eN j).vs_wlist_bptr.getD (tN + j) 0 = s.vs_wlist_bptr.getD (tN + j) 0 :=
      fill_getD_out _ _ _ _ _ (Or.inl (by omega)) (by simp; omega)
    rw [g1, g2]
    have e := fill_snoc s.vs_wlist_bptr eN (gens (esz D s.vs_wlist_bptr tN oN) j) (esz D s.vs_wlist_bptr tN oN j) (by simp; omega)
    simp only [gens_length] at e
    show vunpackvs.St.set_i (vunpackvs.St.set_vs_wlist_bptr (F7 D s tN oN eN j) ((fill s.vs_wlist_bptr eN _).set (eN + j) (esz D s.vs_wlist_bptr tN oN j))) _ = _
    rw [e, ← gens_succ]
    simp only [F7, vunpackvs.St.set_i]
    congr 1
  · simp only [F7, gens, List.range_zero, List.map_nil, fill_nil, vunpackvs.St.set_i]
    have e1 : ((0 : Nat) : Int) = s.i := by rw [hu]; rfl
    rw [e1]

end H4.Lemmas.C07Fn3
