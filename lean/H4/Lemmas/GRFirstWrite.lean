import H4.Lemmas.GRSelect
import Mathlib.Tactic.Ring
/-! C09, regions: the first partial write of a new image does not seek but emits the whole element front to back as a trace of `Hwrite` calls (`Seg`).
    Any trace is `writeAt` on the all-fill element at the positions the access id had (`render_eq_writeAt`); the trace of either fill branch has length
    `W·H` and puts the caller's pixels at the selected offsets. -/
namespace H4.GRegion
open H4.Slab

theorem render_length {α} (f : α) : ∀ segs : List (Seg α), (render f segs).length = slen segs := by
  intro segs
  induction segs with
  | nil => rfl
  | cons s r ih => cases s <;> simp [render, slen, Seg.len, ih]

theorem slen_append {α} (a b : List (Seg α)) : slen (a ++ b) = slen a + slen b := by
  induction a with
  | nil => simp [slen]
  | cons s r ih => simp [slen, ih]; omega

theorem render_append {α} (f : α) (a b : List (Seg α)) : render f (a ++ b) = render f a ++ render f b := by
  induction a with
  | nil => simp [render]
  | cons s r ih => cases s <;> simp [render, ih]

theorem dvals_append {α} (a b : List (Seg α)) : dvals (a ++ b) = dvals a ++ dvals b := by
  induction a with
  | nil => simp [dvals]
  | cons s r ih => cases s <;> simp [dvals, ih]

theorem positions_append {α} : ∀ (a b : List (Seg α)) (p : Nat),
    positions p (a ++ b) = positions p a ++ positions (p + slen a) b := by
  intro a
  induction a with
  | nil => intro b p; simp [positions, slen]
  | cons s r ih =>
    intro b p
    cases s with
    | fill n => simp only [List.cons_append, positions, slen, Seg.len, ih]; congr 2; omega
    | data vs => simp only [List.cons_append, positions, slen, Seg.len, ih, List.append_assoc]; congr 3; omega

theorem positions_length {α} : ∀ (segs : List (Seg α)) (p : Nat), (positions p segs).length = (dvals segs).length := by
  intro segs
  induction segs with
  | nil => intro p; rfl
  | cons s r ih => intro p; cases s <;> simp [positions, dvals, ih]

/-- **Trace lemma.** Whatever the sequence of `Hwrite` calls, the element it produces is the all-fill element
    of the same length with the caller's pixels stored at the positions the access id had when they were written. -/
theorem render_eq_writeAt {α} (f : α) : ∀ (segs : List (Seg α)) (pre : List α),
    pre ++ render f segs
      = writeAt (pre ++ List.replicate (slen segs) f) (positions pre.length segs) (dvals segs) := by
  intro segs
  induction segs with
  | nil => intro pre; simp [render, slen, positions, dvals, writeAt]
  | cons s r ih =>
    intro pre
    cases s with
    | fill n =>
      simp only [render, slen, Seg.len, positions, dvals]
      have := ih (pre ++ List.replicate n f)
      simp only [List.length_append, List.length_replicate, List.append_assoc] at this
      rw [this, List.replicate_append_replicate]
    | data vs =>
      simp only [render, slen, Seg.len, positions, dvals]
      rw [writeAt_append _ _ _ _ _ (by simp), writeAt_range'_replicate]
      have := ih (pre ++ vs)
      simp only [List.length_append, List.append_assoc] at this
      simpa using this

/-- started at offset `p`, the trace `t` stores `vs` at the offsets `os` and advances by `n` pixels -/
structure Emits {α} (p : Nat) (t : List (Seg α)) (vs : List α) (os : List Nat) (n : Nat) : Prop where
  vals : dvals t = vs
  offs : positions p t = os
  len : slen t = n

theorem Emits.of_eq {α} {p n n' : Nat} {t : List (Seg α)} {vs vs' : List α} {os os' : List Nat} (h : Emits p t vs os n)
    (e1 : vs = vs') (e2 : os = os') (e3 : n = n') : Emits p t vs' os' n' := by subst e1 e2 e3; exact h

theorem Emits.nil {α} (p : Nat) : Emits p ([] : List (Seg α)) [] [] 0 := ⟨rfl, rfl, rfl⟩

theorem Emits.append {α} {p n n' : Nat} {s s' : List (Seg α)} {vs vs' : List α} {os os' : List Nat} (a : Emits p s vs os n)
    (b : Emits (p + n) s' vs' os' n') : Emits p (s ++ s') (vs ++ vs') (os ++ os') (n + n') :=
  ⟨by rw [dvals_append, a.vals, b.vals], by rw [positions_append, a.len, a.offs, b.offs], by rw [slen_append, a.len, b.len]⟩

theorem Emits.data {α} (p : Nat) (l : List α) : Emits p [.data l] l (List.range' p l.length) l.length :=
  ⟨by simp [dvals], by simp [positions], by simp [slen, Seg.len]⟩

theorem Emits.fills {α} (W : Nat) : ∀ (k p : Nat), Emits p (List.replicate k (Seg.fill W : Seg α)) [] [] (k * W)
  | 0, p => (Emits.nil p).of_eq rfl rfl (by simp)
  | k + 1, p => by
    have h := Emits.fills (α := α) W k (p + W)
    exact ⟨by simp [List.replicate_succ, dvals, h.vals], by simp [List.replicate_succ, positions, h.offs],
      by simp [List.replicate_succ, slen, Seg.len, h.len, Nat.succ_mul]; omega⟩

theorem Emits.optFill {α} (p : Nat) (c : Bool) (k : Nat) : Emits p (opt c (Seg.fill k : Seg α)) [] [] (if c then k else 0) := by
  cases c <;> exact ⟨by simp [opt, dvals], by simp [opt, positions], by simp [opt, slen, Seg.len]⟩

theorem Emits.render {α} (f : α) {t : List (Seg α)} {vs : List α} {os : List Nat} {n : Nat} (h : Emits 0 t vs os n) :
    render f t = writeAt (List.replicate n f) os vs := by
  simpa [h.vals, h.offs, h.len] using render_eq_writeAt f t []

/-- The row loops of the two fill branches at once: `rows (n + 1)` emits the pixels of one row (`head`), then the fill between two
    rows (`gap n`, nothing after the last row), then the remaining rows. `R` pixels per row, `G` per gap, selected pixels `tx` apart. -/
theorem rows_spec {α} (rows : Nat → List α → List (Seg α)) (head : List α → List (Seg α)) (gap : Nat → List (Seg α)) (cx R G tx : Nat)
    (h0 : ∀ vals, rows 0 vals = [])
    (hrec : ∀ n vals, rows (n + 1) vals = head (vals.take cx) ++ gap n ++ rows n (vals.drop cx))
    (hhead : ∀ l p, l.length = cx → Emits p (head l) l ((List.range cx).map (fun j => p + j * tx)) R)
    (hgap : ∀ n p, Emits p (gap n) [] [] (if n = 0 then 0 else G)) :
    ∀ (n : Nat) (vals : List α) (p : Nat), n * cx ≤ vals.length →
    Emits p (rows n vals) (vals.take (n * cx))
      ((List.range n).flatMap (fun i => (List.range cx).map (fun j => p + i * (R + G) + j * tx))) (n * R + (n - 1) * G) := by
  intro n
  induction n with
  | zero => intro vals p _; rw [h0]; exact (Emits.nil p).of_eq (by simp) (by simp) (by simp)
  | succ n ih =>
    intro vals p hlen
    rw [Nat.succ_mul] at hlen
    rw [hrec]
    refine (((hhead (vals.take cx) p (by rw [List.length_take]; omega)).append (hgap n _)).append
      (ih (vals.drop cx) _ (by rw [List.length_drop]; omega))).of_eq ?_ ?_ ?_
    · rw [List.append_nil, Nat.succ_mul, Nat.add_comm (n * cx) cx, List.take_add]
    · rw [List.append_nil, List.range_succ_eq_map]
      simp only [List.flatMap_cons, List.flatMap_map, Nat.zero_mul, Nat.add_zero]
      congr 1
      cases n with
      | zero => simp
      | succ k =>
        rw [if_neg (Nat.succ_ne_zero k)]
        apply flatMap_congr'; intro i _
        apply List.map_congr_left; intro j _
        simp only [Nat.succ_mul]; omega
    · cases n with
      | zero => simp
      | succ k => simp only [Nat.add_sub_cancel, Nat.succ_mul, if_neg (Nat.succ_ne_zero k)]; omega

/-- what the row loop of a fill branch has to do for the request `r` on an image of width `W`: consume the buffer, emit the rows
    with `(ty - 1)` fill lines and the `hi + lo` fill between two of them, put the caller's pixels `tx` apart -/
def RowsOk {α} (W : Nat) (r : Req) (vals : List α) (mid : List (Seg α)) : Prop :=
  ∀ p, Emits p mid (vals.take (r.cy * r.cx))
    ((List.range r.cy).flatMap (fun i => (List.range r.cx).map
      (fun j => p + i * (((r.cx - 1) * r.tx + 1) + ((r.ty - 1) * W + (fillHi W r + fillLo r))) + j * r.tx)))
    (r.cy * ((r.cx - 1) * r.tx + 1) + (r.cy - 1) * ((r.ty - 1) * W + (fillHi W r + fillLo r)))

/-- the `hi + lo` fill between two rows -/
theorem wrapFill_emits {α} (hl n p : Nat) :
    Emits p (opt (decide (0 < hl) && decide (n ≠ 0)) (Seg.fill hl : Seg α)) [] [] (if n = 0 then 0 else hl) :=
  (Emits.optFill p _ hl).of_eq rfl rfl (by by_cases hn : n = 0 <;> by_cases hh : 0 < hl <;> simp [hn, hh]; omega)

theorem solidRows_ok {α} (W : Nat) (r : Req) (htx : r.tx = 1) (hty : r.ty = 1) (hcx : 1 ≤ r.cx) (vals : List α)
    (hl : vals.length = r.cx * r.cy) : RowsOk W r vals (solidRows r.cx (fillHi W r + fillLo r) r.cy vals) := by
  intro p
  rw [htx, hty]
  exact rows_spec (solidRows r.cx _) (fun l => [.data l]) (fun n => opt (decide (0 < fillHi W r + fillLo r) && decide (n ≠ 0)) (.fill (fillHi W r + fillLo r)))
    r.cx _ _ 1 (fun _ => rfl) (fun _ _ => rfl)
    (fun l p hl => (Emits.data p l).of_eq rfl (by rw [hl]; simp only [Nat.mul_one, List.range_eq_range', List.map_add_range']; simp) (by omega))
    (fun n p => (wrapFill_emits _ n p).of_eq rfl rfl (by simp)) r.cy vals p (by rw [hl, Nat.mul_comm])

/-- `tx - 1` fill pixels behind every pixel of a row but the last -/
theorem pixRun_spec {α} (tx : Nat) (htx : 1 ≤ tx) : ∀ (l : List α) (v : α) (p : Nat),
    Emits p (pixRun tx (v :: l)) (v :: l) ((List.range (l.length + 1)).map (fun j => p + j * tx)) (l.length * tx + 1) := by
  intro l
  induction l with
  | nil => intro v p; exact (Emits.data p [v]).of_eq rfl (by simp) (by simp)
  | cons w vs ih =>
    intro v p
    refine ((Emits.data p [v]).append ((Emits.optFill _ (decide (1 < tx)) (tx - 1)).append (ih w _))).of_eq rfl ?_ ?_
    · simp only [List.length_cons, List.length_nil, Nat.zero_add, List.range'_one, List.nil_append, List.singleton_append]
      rw [List.range_succ_eq_map (n := vs.length + 1)]
      simp only [List.map_cons, List.map_map, Nat.zero_mul, Nat.add_zero]
      congr 1
      apply List.map_congr_left; intro j _
      simp only [Function.comp]; rw [Nat.succ_mul]
      by_cases h : 1 < tx <;> simp [h] <;> omega
    · simp only [List.length_cons, List.length_nil, Nat.succ_mul]
      by_cases h : 1 < tx <;> simp [h] <;> omega

/-- the "Fill in the y-dim stride lines" writes of one row (with `Variant.f15Fixed`: only when another row follows) -/
def yLines {α} (v : Variant) (W ty n : Nat) : List (Seg α) :=
  if decide (1 < ty) && (!v.f15Fixed || decide (n ≠ 0)) then List.replicate (ty - 1) (.fill W) else []

theorem yLines_fixed {α} (v : Variant) (hv : v.f15Fixed = true) (W ty n : Nat) (hty : 1 ≤ ty) (p : Nat) :
    Emits p (yLines v W ty n : List (Seg α)) [] [] (if n = 0 then 0 else (ty - 1) * W) := by
  have hc : (decide (1 < ty) && (!v.f15Fixed || decide (n ≠ 0))) = true ↔ 1 < ty ∧ n ≠ 0 := by simp [hv]
  unfold yLines
  by_cases h : 1 < ty ∧ n ≠ 0
  · rw [if_pos (hc.mpr h), if_neg h.2]; exact Emits.fills W _ p
  · rw [if_neg (mt hc.mp h)]
    refine (Emits.nil p).of_eq rfl rfl ?_
    split
    · rfl
    · obtain rfl : ty = 1 := by omega
      simp

theorem stridedRows_ok {α} (v : Variant) (hv : v.f15Fixed = true) (W : Nat) (r : Req) (htx : 1 ≤ r.tx) (hty : 1 ≤ r.ty) (hcx : 1 ≤ r.cx)
    (vals : List α) (hl : vals.length = r.cx * r.cy) :
    RowsOk W r vals (stridedRows v W r.tx r.ty r.cx (fillHi W r + fillLo r) r.cy vals) := fun p =>
  rows_spec (stridedRows v W r.tx r.ty r.cx _) (pixRun r.tx)
    (fun n => yLines v W r.ty n ++ opt (decide (0 < fillHi W r + fillLo r) && decide (n ≠ 0)) (.fill (fillHi W r + fillLo r))) r.cx _ _ r.tx
    (fun _ => rfl) (fun _ _ => by simp [stridedRows, yLines])
    (fun l p hl => by
      obtain ⟨v, l, rfl⟩ : ∃ v l', l = v :: l' := by cases l with
        | nil => simp at hl; omega
        | cons v l' => exact ⟨v, l', rfl⟩
      simp only [List.length_cons] at hl
      exact (pixRun_spec r.tx htx l v p).of_eq rfl (by rw [hl]) (by rw [← hl]; simp))
    (fun n p => ((yLines_fixed v hv W r.ty n hty p).append (wrapFill_emits _ n _)).of_eq rfl rfl (by by_cases hn : n = 0 <;> simp [hn]))
    r.cy vals p (by rw [hl, Nat.mul_comm])

theorem fillLo_eq (r : Req) : fillLo r = r.sx := by unfold fillLo; split <;> omega

theorem fillHi_eq (W : Nat) (r : Req) (h : lastCol r < W) : fillHi W r + lastCol r + 1 = W := by
  unfold fillHi; split <;> omega

theorem ite_pos_self (n : Nat) : (if decide (0 < n) = true then n else 0) = n := by
  by_cases h : 0 < n
  · simp [h]
  · have : n = 0 := by omega
    simp [this]

theorem strided_total (sy cy ty H W span hl lo hi : Nat) (hcy : 1 ≤ cy) (hty : 1 ≤ ty) (hW : span + hl = W)
    (hhl : hl = hi + lo) (hH : sy + (cy - 1) * ty < H) :
    sy * W + lo + (cy * span + (cy - 1) * ((ty - 1) * W + hl)) + hi + (H - (sy + (cy - 1) * ty + 1)) * W = W * H := by
  obtain ⟨k, rfl⟩ : ∃ k, cy = k + 1 := ⟨cy - 1, by omega⟩
  obtain ⟨m, rfl⟩ : ∃ m, ty = m + 1 := ⟨ty - 1, by omega⟩
  obtain ⟨R, rfl⟩ : ∃ R, H = sy + k * (m + 1) + 1 + R := ⟨H - (sy + k * (m + 1) + 1), by simp only [Nat.add_sub_cancel] at hH; omega⟩
  subst hhl hW
  simp only [Nat.add_sub_cancel, Nat.add_sub_cancel_left]
  ring

/-- The trace of either fill branch, given what its row loop does (`mid`): the lines below, the first `fill_lo`, the rows, the last
    `fill_hi`, the lines above write exactly `W·H` pixels and put the caller's pixels at the selected offsets. -/
theorem firstShape_spec {α} (W H : Nat) (r : Req) (hs : r.sane = true) (hi : r.inImage W H = true) (vals : List α)
    (hl : vals.length = r.cx * r.cy) (mid : List (Seg α)) (hmid : RowsOk W r vals mid) :
    Emits 0 (linesBelow W r ++ opt (decide (0 < fillLo r)) (.fill (fillLo r)) ++ mid
      ++ opt (decide (0 < fillHi W r)) (.fill (fillHi W r)) ++ linesAbove W H r) vals (selOffsets W r) (W * H) := by
  obtain ⟨h1, h2, h3, h4, h5, h6⟩ := valid_bounds W H r hs hi
  have hlo := fillLo_eq r
  have hhi := fillHi_eq W r h5
  have hW : ((r.cx - 1) * r.tx + 1) + (fillHi W r + fillLo r) = W := by
    simp only [lastCol] at hhi; omega
  refine (((((Emits.fills W r.sy 0).append (Emits.optFill _ _ _)).append (hmid _)).append (Emits.optFill _ _ _)).append
    (Emits.fills W _ _)).of_eq ?_ ?_ ?_
  · simp only [List.nil_append, List.append_nil]
    rw [Nat.mul_comm, ← hl, List.take_length]
  · simp only [List.nil_append, List.append_nil, ite_pos_self, Nat.zero_add]
    rw [hlo] at hW ⊢
    unfold selOffsets
    apply flatMap_congr'; intro i _
    apply List.map_congr_left; intro j _
    have e : (r.cx - 1) * r.tx + 1 + ((r.ty - 1) * W + (fillHi W r + r.sx)) = r.ty * W := by
      obtain ⟨m, hm⟩ : ∃ m, r.ty = m + 1 := ⟨r.ty - 1, by omega⟩
      rw [hm, Nat.add_sub_cancel, Nat.succ_mul]; omega
    rw [e, Nat.add_mul, ← Nat.mul_assoc]; omega
  · have := strided_total r.sy r.cy r.ty H W ((r.cx - 1) * r.tx + 1) (fillHi W r + fillLo r) (fillLo r) (fillHi W r)
      h4 h2 hW rfl (by simpa [lastRow] using h6)
    simp only [ite_pos_self, lastRow]
    omega

/-- **First write of a new image.** For every valid request the `Hwrite` trace of the fill path (solid or sub-sampled; without
    `Variant.f15Fixed` for solid blocks only, the branch both variants share) writes exactly `W·H` pixels, puts the caller's pixels at the
    selected offsets in buffer order, and consumes exactly the caller's buffer. -/
theorem firstTrace_spec {α} (v : Variant) (W H : Nat) (r : Req) (hv : v.f15Fixed = true ∨ r.solid = true) (hs : r.sane = true)
    (hi : r.inImage W H = true) (vals : List α) (hl : vals.length = r.cx * r.cy) :
    Emits 0 (firstTrace v W H r vals) vals (selOffsets W r) (W * H) := by
  obtain ⟨h1, h2, h3, _⟩ := valid_bounds W H r hs hi
  unfold firstTrace
  by_cases h : r.solid = true
  · simp only [h, if_true]
    simp only [Req.solid, Bool.and_eq_true, beq_iff_eq] at h
    exact firstShape_spec W H r hs hi vals hl _ (solidRows_ok W r h.1 h.2 h3 vals hl)
  · simp only [h, firstStrided, hv.resolve_right h, if_true]
    exact firstShape_spec W H r hs hi vals hl _ (stridedRows_ok v (hv.resolve_right h) W r h1 h2 h3 vals hl)

theorem render_firstTrace {α} (v : Variant) (W H : Nat) (f : α) (r : Req) (hv : v.f15Fixed = true ∨ r.solid = true)
    (hs : r.sane = true) (hi : r.inImage W H = true) (vals : List α) (hl : vals.length = r.cx * r.cy) :
    render f (firstTrace v W H r vals)
      = writeAt (List.replicate (W * H) f) (sel W H r) vals := by
  rw [(firstTrace_spec v W H r hv hs hi vals hl).render f, sel_eq_selOffsets]

end H4.GRegion
