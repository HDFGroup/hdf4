import H4.Attr
/-! Helper lemmas for C10: `find` on association lists with stable indices, `put`, name invariants; at the end, that every number
    type `DFKNTsize` knows (DFNT_NATIVE ones apart) is one `hdf_unmap_type` knows, by a sweep of the two generated tables. -/
namespace H4.Attr
open H4.Gen.Attr

theorem getD_of_getElem? {α : Type} {l : List α} {i : Nat} {a d : α} (h : l[i]? = some a) : l.getD i d = a := by
  rw [List.getD_eq_getElem?_getD, h]; rfl

theorem findIdx?_some_iff {α : Type} (p : α → Bool) (l : List α) (i : Nat) :
    l.findIdx? p = some i ↔ (∃ a, l[i]? = some a ∧ p a = true) ∧ ∀ j, j < i → ∀ b, l[j]? = some b → p b = false := by
  rw [List.findIdx?_eq_some_iff_getElem]
  constructor
  · rintro ⟨h, hp, hmin⟩
    refine ⟨⟨l[i], List.getElem?_eq_getElem h, hp⟩, fun j hj b hb => ?_⟩
    obtain ⟨hjl, rfl⟩ := List.getElem?_eq_some_iff.mp hb
    exact Bool.eq_false_iff.mpr (hmin j hj)
  · rintro ⟨⟨a, ha, hp⟩, hmin⟩
    obtain ⟨h, rfl⟩ := List.getElem?_eq_some_iff.mp ha
    exact ⟨h, hp, fun j hj => Bool.eq_false_iff.mp (hmin j hj _ (List.getElem?_eq_getElem _))⟩

theorem findIdx?_of_nodup {α β : Type} [BEq β] [LawfulBEq β] (f : α → β) {l : List α} (hnd : (l.map f).Nodup) {i : Nat} {a : α}
    (h : l[i]? = some a) : l.findIdx? (f · == f a) = some i := by
  rw [findIdx?_some_iff]
  refine ⟨⟨a, h, beq_self_eq_true _⟩, fun j hj b hb => ?_⟩
  obtain ⟨hi, rfl⟩ := List.getElem?_eq_some_iff.mp h
  obtain ⟨hjl, rfl⟩ := List.getElem?_eq_some_iff.mp hb
  refine beq_eq_false_iff_ne.mpr fun e => ?_
  have := (List.getElem_inj (xs := l.map f) (h₀ := by simpa using hjl) (h₁ := by simpa using hi) hnd).mp (by simpa using e)
  omega

theorem find_eq_findIdx? (n : Bytes) (l : AList) : find n l = l.findIdx? (·.name == n) := by
  induction l with
  | nil => rfl
  | cons a t ih => rw [find, List.findIdx?_cons, ih]; simp only [beq_iff_eq]

theorem find_of_nodup {l : AList} (hnd : (l.map (·.name)).Nodup) {i : Nat} {a : Attr} (h : l[i]? = some a) :
    find a.name l = some i := by
  rw [find_eq_findIdx?]; exact findIdx?_of_nodup (·.name) hnd h

theorem idxOf?_names (l : AList) (n : Bytes) : (l.map (·.name)).idxOf? n = find n l := by
  rw [find_eq_findIdx?, List.idxOf?, List.findIdx?_map]; rfl

theorem find_eq_some_iff {n : Bytes} {l : AList} {i : Nat} :
    find n l = some i ↔ (∃ a, l[i]? = some a ∧ a.name = n) ∧ ∀ j, j < i → ∀ b, l[j]? = some b → b.name ≠ n := by
  rw [find_eq_findIdx?, findIdx?_some_iff]
  simp only [beq_iff_eq, beq_eq_false_iff_ne]

theorem find_name {n : Bytes} {l : AList} {i : Nat} (h : find n l = some i) :
    ∃ a, l[i]? = some a ∧ a.name = n :=
  (find_eq_some_iff.mp h).1

theorem find_lt {n : Bytes} {l : AList} {i : Nat} (h : find n l = some i) : i < l.length := by
  obtain ⟨a, ha, _⟩ := find_name h
  exact (List.getElem?_eq_some_iff.mp ha).1

theorem find_none_iff {n : Bytes} {l : AList} : find n l = none ↔ ∀ a ∈ l, a.name ≠ n := by
  rw [find_eq_findIdx?, List.findIdx?_eq_none_iff]
  simp only [beq_eq_false_iff_ne]

theorem find_isSome_iff {n : Bytes} {l : AList} : (find n l).isSome ↔ ∃ a ∈ l, a.name = n := by
  rw [← Option.ne_none_iff_isSome, Ne, find_none_iff]
  simp

theorem names_set {l : AList} {i : Nat} {a b : Attr} (hb : l[i]? = some b) (hn : b.name = a.name) :
    (l.set i a).map (·.name) = l.map (·.name) := by
  obtain ⟨hi, rfl⟩ := List.getElem?_eq_some_iff.mp hb
  rw [List.map_set, ← hn]
  exact (congrArg _ (List.getElem_map _).symm).trans (List.set_getElem_self (by simpa using hi))

theorem find_congr_names {l l' : AList} (h : l.map (·.name) = l'.map (·.name)) (n : Bytes) : find n l = find n l' := by
  rw [← idxOf?_names, ← idxOf?_names, h]

theorem find_append (n : Bytes) (l l2 : AList) :
    find n (l ++ l2) = (find n l).or ((find n l2).map (· + l.length)) := by
  simp only [find_eq_findIdx?, List.findIdx?_append]

theorem find_snoc_new {l : AList} {a : Attr} (h : find a.name l = none) : find a.name (l ++ [a]) = some l.length := by
  rw [find_append, h]; simp [find]

theorem find_snoc_other {l : AList} {a : Attr} {n : Bytes} (hn : n ≠ a.name) : find n (l ++ [a]) = find n l := by
  rw [find_append, find, if_neg (Ne.symm hn)]; simp [find]

theorem put_found {k : Kind} {l : AList} {a : Attr} {i : Nat} (h : find a.name l = some i) :
    put k l a = if compatible k (l.getD i default) a then some (l.set i a) else none := by
  simp [put, h]

theorem put_new {k : Kind} {l : AList} {a : Attr} (h : find a.name l = none) :
    put k l a = if room k l then some (l ++ [a]) else none := by
  simp [put, h]

/-- in SD a replacement is always compatible -/
theorem put_sd_some (l : AList) (a : Attr) (hroom : l.length < H4_MAX_NC_ATTRS) : ∃ l', put .sd l a = some l' := by
  cases hf : find a.name l with
  | some i => exact ⟨l.set i a, by rw [put_found hf]; simp [compatible]⟩
  | none => exact ⟨l ++ [a], by rw [put_new hf]; simp [room, hroom]⟩

theorem put_cases {k : Kind} {l l' : AList} {a : Attr} (h : put k l a = some l') :
    (∃ i b, find a.name l = some i ∧ l[i]? = some b ∧ b.name = a.name ∧ l' = l.set i a) ∨
    (find a.name l = none ∧ l' = l ++ [a]) := by
  cases hf : find a.name l with
  | some i =>
    obtain ⟨b, hb, hbn⟩ := find_name hf
    rw [put_found hf] at h
    split at h
    · cases h; exact .inl ⟨i, b, rfl, hb, hbn, rfl⟩
    · cases h
  | none =>
    rw [put_new hf] at h
    split at h
    · cases h; exact .inr ⟨rfl, rfl⟩
    · cases h

theorem put_names {k : Kind} {l l' : AList} {a : Attr} (h : put k l a = some l') :
    l'.map (·.name) = if (find a.name l).isSome then l.map (·.name) else l.map (·.name) ++ [a.name] := by
  rcases put_cases h with ⟨i, b, hf, hb, hbn, rfl⟩ | ⟨hf, rfl⟩ <;> rw [hf]
  · exact names_set hb hbn
  · exact List.map_append

theorem find_put {k : Kind} {l l' : AList} {a : Attr} (h : put k l a = some l') (n : Bytes) :
    find n l' = if n = a.name then some ((find n l).getD l.length) else find n l := by
  rcases put_cases h with ⟨i, b, hf, hb, hbn, rfl⟩ | ⟨hf, rfl⟩
  · rw [find_congr_names (names_set hb hbn)]
    split
    · subst n; rw [hf]; rfl
    · rfl
  · split
    · subst n; rw [find_snoc_new hf, hf]; rfl
    · exact find_snoc_other ‹_›

theorem length_put {k : Kind} {l l' : AList} {a : Attr} (h : put k l a = some l') :
    l'.length = if (find a.name l).isSome then l.length else l.length + 1 := by
  have := congrArg List.length (put_names h)
  rw [List.length_map] at this
  rw [this]; split <;> simp

theorem nth_put_other {k : Kind} {l l' : AList} {a : Attr} (h : put k l a = some l') {j : Nat} {b : Attr}
    (hb : nth l j = some b) (hne : b.name ≠ a.name) : nth l' j = some b := by
  unfold nth at hb ⊢
  rcases put_cases h with ⟨i, b0, _, hb0, hbn0, rfl⟩ | ⟨_, rfl⟩
  · rw [List.getElem?_set, if_neg, hb]
    rintro rfl
    rw [hb0] at hb; cases hb; exact hne hbn0
  · rw [List.getElem?_append_left (List.getElem?_eq_some_iff.mp hb).1, hb]

theorem nth_put_self {k : Kind} {l l' : AList} {a : Attr} (h : put k l a = some l') :
    nth l' ((find a.name l).getD l.length) = some a := by
  unfold nth
  rcases put_cases h with ⟨i, b, hf, hb, _, rfl⟩ | ⟨hf, rfl⟩ <;> rw [hf]
  · rw [Option.getD_some, List.getElem?_set_self (List.getElem?_eq_some_iff.mp hb).1]
  · exact List.getElem?_concat_length

theorem getByName_put {k : Kind} {l l' : AList} {a : Attr} (h : put k l a = some l') (n : Bytes) :
    getByName l' n = if n = a.name then some a else getByName l n := by
  unfold getByName
  rw [find_put h]
  split
  · subst n; exact nth_put_self h
  · cases hf : find n l with
    | none => rfl
    | some j =>
      obtain ⟨c, hc, hcn⟩ := find_name hf
      exact (nth_put_other h hc (hcn ▸ ‹_›)).trans hc.symm

theorem put_nodup {k : Kind} {l l' : AList} {a : Attr} (hnd : (l.map (·.name)).Nodup) (h : put k l a = some l') :
    (l'.map (·.name)).Nodup := by
  rw [put_names h]
  cases hf : find a.name l with
  | some i => simpa using hnd
  | none =>
    simp only [Option.isSome_none, Bool.false_eq_true, if_false]
    rw [List.nodup_append]
    refine ⟨hnd, by simp, ?_⟩
    intro x hx y hy
    simp only [List.mem_singleton] at hy
    subst hy
    simp only [List.mem_map] at hx
    obtain ⟨b, hb, hbn⟩ := hx
    intro e
    exact (find_none_iff.mp hf) b hb (hbn.trans e)

theorem putS_nodup {k : Kind} {l : AList} {a : Attr} (hnd : (l.map (·.name)).Nodup) :
    ((putS k l a).map (·.name)).Nodup := by
  unfold putS
  cases h : put k l a with
  | none => simpa using hnd
  | some l' => simpa using put_nodup hnd h

theorem tab_size_unmap : ∀ x, x < 64 → (tab NT_SIZE x).isSome = true → (tab UNMAP x).isSome = true := by decide +kernel

/-- with or without DFNT_LITEND, the low byte of the number type is the index at which `ntSize` looked it up -/
theorem unmap_isSome_of_ntSize {nt : Nat} (hs : (ntSize nt).isSome = true) (hnat : nt / DFNT_NATIVE % 2 = 0) :
    (unmap nt).isSome = true := by
  have key : ∀ x, x < 64 → nt % 256 = x → (tab NT_SIZE x).isSome = true → (unmap nt).isSome = true := by
    intro x hx hm h
    unfold unmap
    rw [hm, if_pos hx]
    exact tab_size_unmap x hx h
  have nonnative : ∀ x, (x = nt ∨ x + 16384 = nt) → ¬ (4096 ≤ x ∧ x - 4096 < 64) := by
    have : nt / 4096 % 2 = 0 := hnat
    omega
  unfold ntSize at hs
  simp only [show DFNT_LITEND = 16384 from rfl, show DFNT_NATIVE = 4096 from rfl, Bool.and_eq_true,
    decide_eq_true_eq] at hs
  split at hs <;> rename_i hl <;> simp only [beq_iff_eq] at hl <;> split at hs
  · rename_i hx
    exact key _ hx (by clear hnat key nonnative; omega) hs
  · split at hs
    · rename_i h; exact absurd h (nonnative _ (.inr (by clear hnat key nonnative; omega)))
    · cases hs
  · rename_i hx
    exact key _ hx (Nat.mod_eq_of_lt (Nat.lt_trans hx (by decide))) hs
  · split at hs
    · rename_i h; exact absurd h (nonnative _ (.inl rfl))
    · cases hs

end H4.Attr
