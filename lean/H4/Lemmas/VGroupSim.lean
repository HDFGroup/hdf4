import H4.VGraph
import H4.Lemmas.Assoc
import H4.Lemmas.VGroupMem
import H4.Lemmas.VGroupCodec
/-! Simulation of the implementation model (`H4.VGroup.step`) by the reference graph model (`gstep`): the abstraction, the three
    invariants (`GInv` of one Vgroup, `Inv` of the file, `GraphInv` of the reference graph) and how single updates keep them. -/
namespace H4.VGroup
open H4.Gen.Hdf

def VGroup.abs (g : VGroup) : Node :=
  { members := g.mem.members, name := g.name, cls := g.cls, attrs := g.attrs, access := g.access, nattach := g.nattach }

/-- abstraction of the file: forget arrays, marks, versions, the disk -/
def File.abs (s : File) : Graph :=
  { vgs := s.vgs.map (fun e => (e.1, e.2.abs)), vds := s.vds, slots := s.slots }

/-- `marked`: has changes that `Vdetach` still has to write -/
def GInv (g : VGroup) : Prop := g.mem.OK ∧ g.toVG.WFmem ∧ (g.marked = true → 0 < g.nattach)

def Inv (s : File) : Prop :=
  (∀ r g, alook r s.vgs = some g → GInv g ∧ (g.marked = false → alook r s.disk = some (vpackvg g.toVG))) ∧
  KSorted s.vgs ∧ KSorted s.disk ∧ (∀ k, (alook k s.disk).isSome → (alook k s.vgs).isSome)

def cnt (r : Nat) (slots : List (Nat × Nat)) : Nat := (slots.filter (fun e => e.2 == r)).length

/-- handles and attach counts agree (a property of the reference state) -/
def GraphInv (g : Graph) : Prop :=
  ∀ r, cnt r g.slots = (match alook r g.vgs with | some n => n.nattach | none => 0)

theorem GInv.unmarked {g : VGroup} (h : GInv g) (hn : ¬ 0 < g.nattach) : g.marked = false :=
  Bool.eq_false_iff.mpr fun hh => hn (h.2.2 hh)

theorem GInv.memOK {g : VGroup} (h : GInv g) : g.mem.OK := h.1
theorem GInv.wf {g : VGroup} (h : GInv g) : g.toVG.WFmem := h.2.1

theorem Inv.entry {s : File} (h : Inv s) {r : Nat} {g : VGroup} (e : alook r s.vgs = some g) :
    GInv g ∧ (g.marked = false → alook r s.disk = some (vpackvg g.toVG)) := h.1 r g e
theorem Inv.sorted_vgs {s : File} (h : Inv s) : KSorted s.vgs := h.2.1
theorem Inv.sorted_disk {s : File} (h : Inv s) : KSorted s.disk := h.2.2.1

theorem abs_alook (s : File) (r : Nat) : alook r s.abs.vgs = (alook r s.vgs).map VGroup.abs := by
  simp [File.abs, alook_map]

theorem cnt_cons (r slot r' : Nat) (l : List (Nat × Nat)) :
    cnt r ((slot, r') :: l) = (if r' = r then 1 else 0) + cnt r l := by
  simp only [cnt, List.filter_cons]
  by_cases h : r' = r
  · simp [h]; omega
  · simp [h]

theorem cnt_adel1 {slot r : Nat} {l : List (Nat × Nat)} (h : alook slot l = some r) (r' : Nat) :
    cnt r' l = (if r' = r then 1 else 0) + cnt r' (adel1 slot l) := by
  induction l with
  | nil => simp [alook] at h
  | cons a t ih =>
    obtain ⟨k, v⟩ := a
    simp only [alook] at h
    by_cases e : k = slot
    · simp only [e, if_true, Option.some.injEq] at h
      subst h
      simp only [adel1, e, if_true, cnt_cons]
      by_cases e2 : r' = v
      · simp [e2]
      · have : ¬ v = r' := fun x => e2 x.symm
        simp [e2, this]
    · simp only [e, if_false] at h
      simp only [adel1, e, if_false, cnt_cons, ih h]
      omega

theorem sim_withSlot {s : File} {slot : Nat} {k : VGroup → VGroup × Out} {k' : Node → Node × Out}
    (hk : ∀ r g, alook slot s.slots = some r → alook r s.vgs = some g → ((k g).1.abs, (k g).2) = k' g.abs) :
    (withSlot s slot k).1.abs = (gwithSlot s.abs slot k').1 ∧ (withSlot s slot k).2 = (gwithSlot s.abs slot k').2 := by
  simp only [withSlot, gwithSlot, withSlotG]
  have hs : s.abs.slots = s.slots := rfl
  rw [hs]
  cases h1 : alook slot s.slots with
  | none => simp [File.abs]
  | some r =>
    simp only [abs_alook]
    cases h2 : alook r s.vgs with
    | none => simp [File.abs]
    | some g =>
      have := hk r g h1 h2
      simp only [Option.map_some]
      rw [← this]
      simp [File.abs, aset_map]

/-- what `Inv` says of one ref: the entry of the table and the entry of the disk under it -/
@[reducible] def Row (g : Option VGroup) (d : Option Bytes) : Prop :=
  match g with
  | some g => GInv g ∧ (g.marked = false → d = some (vpackvg g.toVG))
  | none => d = none

theorem inv_iff_rows (s : File) : Inv s ↔ KSorted s.vgs ∧ KSorted s.disk ∧ ∀ r, Row (alook r s.vgs) (alook r s.disk) := by
  constructor
  · rintro ⟨i1, i2, i3, i4⟩
    refine ⟨i2, i3, fun r => ?_⟩
    cases h : alook r s.vgs with
    | some g => exact i1 r g h
    | none =>
      cases h3 : alook r s.disk with
      | none => rfl
      | some b => have := i4 r (by simp [h3]); simp [h] at this
  · rintro ⟨i2, i3, hr⟩
    refine ⟨fun r g h => ?_, i2, i3, fun k hk => ?_⟩
    · have := hr r; rw [h] at this; exact this
    · have := hr k
      cases h : alook k s.vgs with
      | some g => rfl
      | none => rw [h] at this; simp only [Row] at this; rw [this] at hk; simp at hk

theorem Inv.row {s : File} (hI : Inv s) (r : Nat) : Row (alook r s.vgs) (alook r s.disk) := ((inv_iff_rows s).mp hI).2.2 r

theorem inv_update {s s' : File} (hI : Inv s) (hv : KSorted s'.vgs) (hd : KSorted s'.disk)
    (h : ∀ r, (alook r s'.vgs = alook r s.vgs ∧ alook r s'.disk = alook r s.disk) ∨ Row (alook r s'.vgs) (alook r s'.disk)) : Inv s' :=
  (inv_iff_rows s').mpr ⟨hv, hd, fun r => (h r).elim (fun e => e.1 ▸ e.2 ▸ hI.row r) id⟩

theorem inv_aset {s : File} (hI : Inv s) {r : Nat} {g g' : VGroup} (h2 : alook r s.vgs = some g) {d : List (Nat × Bytes)}
    (hs : KSorted d) (hd : ∀ k, k ≠ r → alook k d = alook k s.disk)
    (hg : Row (some g') (alook r d)) :
    Inv { s with vgs := aset r g' s.vgs, disk := d } :=
  inv_update hI (ksorted_aset hI.sorted_vgs) hs fun k => by
    simp only [alook_aset]
    by_cases e : k = r
    · subst e; simp only [if_true, h2, Option.map_some]; exact Or.inr hg
    · simp only [e, if_false, true_and]; exact Or.inl (hd k e)

theorem inv_withSlot {s : File} {slot : Nat} {k : VGroup → VGroup × Out} (hI : Inv s)
    (hk : ∀ r g, alook slot s.slots = some r → alook r s.vgs = some g →
      ((k g).1 = g ∨ (GInv (k g).1 ∧ (k g).1.marked = true))) : Inv (withSlot s slot k).1 := by
  cases h1 : alook slot s.slots with
  | none => simp only [withSlot, withSlotG, h1]; exact hI
  | some r =>
    cases h2 : alook r s.vgs with
    | none => simp only [withSlot, withSlotG, h1, h2]; exact hI
    | some g =>
      simp only [withSlot, withSlotG, h1, h2]
      refine inv_aset hI h2 hI.sorted_disk (fun _ _ => rfl) ?_
      rcases hk r g h1 h2 with hh | hh
      · rw [hh]; exact hI.entry h2
      · exact ⟨hh.1, fun hm => by rw [hh.2] at hm; exact absurd hm (by decide)⟩

theorem ginv_withSlot_nattach {k' : Node → Node × Out} {s : Graph} {slot : Nat} (hG : GraphInv s)
    (hk : ∀ n, (k' n).1.nattach = n.nattach) : GraphInv (gwithSlot s slot k').1 := by
  cases h1 : alook slot s.slots with
  | none => simp only [gwithSlot, withSlotG, h1]; exact hG
  | some r =>
    cases h2 : alook r s.vgs with
    | none => simp only [gwithSlot, withSlotG, h1, h2]; exact hG
    | some g =>
      simp only [gwithSlot, withSlotG, h1, h2]
      intro r'
      have := hG r'
      simp only [alook_aset]
      by_cases e : r' = r
      · subst e; simp only [if_true, h2, Option.map_some, hk]; simpa [h2] using this
      · simpa [e] using this

theorem nattach_pos_of_slot {s : Graph} (hG : GraphInv s) {slot r : Nat} {n : Node}
    (h1 : alook slot s.slots = some r) (h2 : alook r s.vgs = some n) : 0 < n.nattach := by
  have := hG r
  simp only [h2] at this
  have c := cnt_adel1 h1 r
  simp only [if_true] at c
  omega

theorem ginv_query {g : Graph} {slot : Nat} (hG : GraphInv g) (f' : Node → Out) : GraphInv (gwithSlot g slot fun n => (n, f' n)).1 :=
  ginv_withSlot_nattach hG fun _ => rfl

theorem ginv_map_nattach {g : Graph} (hG : GraphInv g) (f : Node → Node) (hf : ∀ n, (f n).nattach = n.nattach) :
    GraphInv { g with vgs := g.vgs.map (fun e => (e.1, f e.2)) } := by
  intro r
  have := hG r
  simp only [alook_map]
  cases h : alook r g.vgs with
  | none => simpa [h] using this
  | some n => simpa [h, hf] using this

theorem ginv_aset {g : Graph} (hG : GraphInv g) {r0 : Nat} {n n' : Node} (h2 : alook r0 g.vgs = some n) {slots' : List (Nat × Nat)}
    (hc : ∀ r, cnt r slots' + (if r = r0 then n.nattach else 0) = cnt r g.slots + (if r = r0 then n'.nattach else 0)) :
    GraphInv { g with vgs := aset r0 n' g.vgs, slots := slots' } := by
  intro r
  have h1 := hG r
  have h3 := hc r
  simp only [alook_aset]
  by_cases e : r = r0
  · subst e
    simp only [if_true, h2, Option.map_some] at h1 h3 ⊢
    omega
  · simp only [e, if_false] at h3 ⊢
    omega

theorem ginv_empty : GraphInv {} := by intro r; rfl

theorem ginv_touch {g : Graph} (hG : GraphInv g) : GraphInv { g with vgs := g.vgs.map (fun e => (e.1, e.2.touched)) } :=
  ginv_map_nattach hG Node.touched (fun n => by unfold Node.touched; split <;> rfl)

theorem cstr_no_nul (n : Bytes) : (0 : Byte) ∉ cstr n := by
  unfold cstr
  induction n with
  | nil => simp
  | cons a t ih =>
    rw [List.takeWhile_cons]
    split
    · rename_i h
      simp only [ne_eq, decide_eq_true_eq] at h
      intro hm
      rcases List.mem_cons.mp hm with e | e
      · exact h e.symm
      · exact ih e
    · simp


theorem ginv_mem {g : VGroup} (h : GInv g) {m : Mem} (hm : m.OK) (hp : ∀ p ∈ m.members, PairOK p)
    (hn : 0 < g.nattach) : GInv { g with mem := m, marked := true } :=
  ⟨hm, h.2.1.set_members (by rw [Mem.members_length hm]; exact hm.2.2.2) hp, fun _ => hn⟩

theorem ginv_name {g : VGroup} (h : GInv g) (n : Bytes) (hl : (cstr n).length < 65536) (hn : 0 < g.nattach) :
    GInv { g with name := some (cstr n), marked := true } :=
  ⟨h.1, h.2.1.set_name ⟨hl, cstr_no_nul n⟩, fun _ => hn⟩

theorem ginv_cls {g : VGroup} (h : GInv g) (n : Bytes) (hl : (cstr n).length < 65536) (hn : 0 < g.nattach) :
    GInv { g with cls := some (cstr n), marked := true } :=
  ⟨h.1, h.2.1.set_cls ⟨hl, cstr_no_nul n⟩, fun _ => hn⟩

theorem ginv_fresh : GInv ({} : VGroup) := by
  refine ⟨Mem.fresh_ok, ?_, fun _ => by decide⟩
  decide

end H4.VGroup
