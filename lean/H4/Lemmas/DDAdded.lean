import H4.Lemmas.DDRun
/-! # C17: a cached session that only adds writes nothing below the end of the file as it was (`Mono`) and keeps memory and disk
in the relation `Added` -/
namespace H4.DD
open H4.Gen.Hdf

/-- a call that only ADDS to the file: creates an element that does not exist yet (or only reads) -/
def adds (s : File) : Op → Bool
  | .put t r l => (htpSelect s (baseTag t) r).isNone && decide (0 < l)
  | .startwrite t r l => (htpSelect s (baseTag t) r).isNone && decide (0 ≤ l)
  | .dup t r _ _ => (htpSelect s t r).isNone
  | .inquire _ _ => true
  | .number _ => true
  | .exist _ _ => true
  | .newref => true
  | .tagnewref _ => true
  | _ => false

def addingOnly (cfg : Cfg) : File → List Op → Bool
  | _, [] => true
  | s, op :: ops => adds s op && (match (step cfg s op).2 with
    | none => true
    | some s' => addingOnly cfg s' ops)

theorem select_absent {s : File} (h : WF s) {base r : Nat} (hb0 : base ≠ 0) (hb1 : base ≠ 1) (hr : r ≠ 0)
    (hsel : (htpSelect s base r).isNone = true) (hbb : baseTag base = base) : ∀ d ∈ s.live, keyOf d ≠ (base, r) := by
  have : htpSelect s base r = none := Option.isNone_iff_eq_none.mp hsel
  have := htpSelect_none h hb0 hb1 hr this
  rw [hbb] at this; exact this

theorem existing_ordinary_absurd {cfg : Cfg} {s : File} (h : Inv cfg s) {t r : Nat} (h1 : baseTag t ≠ 0) (h2 : r ≠ 0)
    (hsel : (htpSelect s (baseTag t) r).isNone = true) {d : DD} (hd : d ∈ s.live) (hk : keyOf d = (baseTag t, r))
    (hsp : isSpecial d.tag = false) : False := by
  by_cases hb1 : baseTag t = 1
  · have := (h.wf.wfl.live_ok d hd).1.1
    have hk1 : baseTag d.tag = 1 := by simp [keyOf] at hk; rw [hk.1]; exact hb1
    rw [baseTag_of_not_special hsp] at hk1
    omega
  · exact select_absent h.wf h1 hb1 h2 hsel (baseTag_idem t) d hd hk

theorem write_adding (cfg : Cfg) (put : Bool) {s : File} (h : Inv cfg s) (hc : s.cache = true) {t r : Nat} {l : Int}
    (h1 : baseTag t ≠ 0) (h2 : r ≠ 0) (h3 : t < 65536) (h4 : r < 65536) (h5 : guardF3 cfg s = true)
    (hsel : (htpSelect s (baseTag t) r).isNone = true) (hl : 0 ≤ l) :
    Adding cfg s (if put then hputelement cfg s t r l else hstartwriteEnd cfg s t r l).2 := by
  have hbs := baseTag_not_special t
  have hbl := baseTag_lt h3
  rw [hwrite_eq cfg s t r l put]
  rcases access_write_cases cfg h h1 hbs hbl h2 h4 h5 with
    ⟨d, hd, hk, hsp, q, hacc⟩ | ⟨d, hd, hk, hsp, _⟩ | ⟨hfree, hb1, hacc⟩ | ⟨hfree, hb1, p, s1, hacc, hcr⟩
  · rw [hacc]; exact .refl _ _
  · exact absurd (existing_ordinary_absurd h h1 h2 hsel hd hk hsp) id
  · rw [hacc]; exact .refl _ _
  · have hm1 := hcr.mono hc
    have hc1 : s1.cache = true := hcr.cache.trans hc
    have hl1 : isLive (getDD s1.blocks p) = true := by rw [hcr.get]; simp [isLive, DFTAG_NULL]; exact hb1
    have hnl : ¬ l < 0 := by omega
    have r2 := hsetlength_inv cfg hcr.inv hcr.valid hl1 l.toNat
    have hm2 : Mono s (hsetlength s1 p l.toNat) := hm1.trans (r2.mono hc1)
    have ha2 : cfg.fixF3 = true → Added s → Added (hsetlength s1 p l.toNat) :=
      fun hf hA => (r2.added hc1 (hcr.added hc hf hA)).1
    rw [hacc]
    simp only [hnl, and_false, if_false, if_true]
    rcases writeTail_snd put (hsetlength s1 p l.toNat) p l with e | e <;> rw [e]
    · exact ⟨hm2, ha2⟩
    · -- the data go where `Hsetlength` put the element: at the end of the file as `HTPcreate` left it
      refine ⟨hm2.log_after _ ?_, fun hf hA => added_frame (ha2 hf hA) rfl rfl⟩
      rw [r2.get]
      show s.fEnd ≤ (s1.fEnd : Int).toNat
      have := hm1.fEnd
      omega

theorem dup_adding (cfg : Cfg) {s : File} (h : Inv cfg s) (hc : s.cache = true)
    (t r ot or' : Nat) (ht : t < 65536) (hr : r < 65536) (hg3 : guardF3 cfg s = true)
    (hsel : (htpSelect s t r).isNone = true) :
    Adding cfg s (hdupdd cfg s t r ot or').2 := by
  rw [hdupdd_eq]
  cases htpSelect s ot or' with
  | none => exact .refl _ _
  | some old =>
    simp only
    by_cases hwn : t = 0 ∨ t = 1 ∨ r = 0
    · rw [htpCreate_wild cfg s hwn]; exact .refl _ _
    · have hfree := htpSelect_none h.wf (by omega) (by omega) (by omega) (Option.isNone_iff_eq_none.mp hsel)
      obtain ⟨p, s1, hcr, hc1⟩ := htpCreate_inv cfg h (tag := t) (ref := r) ⟨by omega, ht⟩ ⟨by omega, hr⟩ hfree hg3
      have hcc : s1.cache = true := hc1.cache.trans hc
      rw [hcr]
      exact ⟨(hc1.mono hc).trans (fillSlot_mono hcc hc1.valid _),
        fun hf hA => (added_fillSlot (hc1.added hc hf hA) hcc hc1.valid _).1⟩

theorem step_adding (cfg : Cfg) {s : File} (h : Inv cfg s) (hc : s.cache = true) (op : Op)
    (hg : guard cfg s op = true) (hadd : adds s op = true) :
    ∀ s', (step cfg s op).2 = some s' → Adding cfg s s' := by
  intro s' hs'
  cases op <;> simp only [adds, Bool.false_eq_true] at hadd
  all_goals (simp only [step, hexist, Option.some.injEq] at hs'; subst hs')
  case put t r l =>
    simp only [guard, Bool.and_eq_true, bne_iff_ne, ne_eq, decide_eq_true_eq] at hg hadd
    obtain ⟨⟨⟨⟨h1, h2⟩, h3⟩, h4⟩, h5⟩ := hg
    simpa using write_adding cfg true h hc (l := l) h1 h2 h3 h4 h5 hadd.1 (by omega)
  case startwrite t r l =>
    simp only [guard, Bool.and_eq_true, bne_iff_ne, ne_eq, decide_eq_true_eq] at hg hadd
    obtain ⟨⟨⟨⟨h1, h2⟩, h3⟩, h4⟩, h5⟩ := hg
    simpa using write_adding cfg false h hc (l := l) h1 h2 h3 h4 h5 hadd.1 hadd.2
  case dup t r ot or' =>
    simp only [guard, Bool.and_eq_true, decide_eq_true_eq, Bool.or_eq_true] at hg
    obtain ⟨⟨⟨h1, h2⟩, h3⟩, _⟩ := hg
    exact dup_adding cfg h hc t r ot or' h1 h2 h3 hadd
  case inquire t r =>
    exact (hinquire_scal cfg s t r).adding cfg
  case number t => exact .refl _ _
  case exist t r => exact (hfind_scal s t r 0 0 .fwd).adding cfg
  case newref => exact (hnewref_scal s).adding cfg
  case tagnewref t => exact (htagnewref_spec cfg h.wf t).2.1.adding cfg

/-- the induction behind `append_only_before_flush`: `fEnd` (`f_end_off`) bounds every descriptor block and every element extent, and no
    flush (`Hsync`, `Hcache`, `Hclose`) is an adding call -/
theorem adding_history (cfg : Cfg) : ∀ (ops : List Op) (s : File), Inv cfg s → s.cache = true →
    guarded cfg s ops = true → addingOnly cfg s ops = true →
    ∃ s', (run cfg s ops).2 = some s' ∧ Inv cfg s' ∧ Adding cfg s s' := by
  intro ops
  induction ops with
  | nil => intro s h _ _ _; exact ⟨s, rfl, h, .refl _ _⟩
  | cons op ops ih =>
    intro s h hc hg hadd
    simp only [guarded, Bool.and_eq_true] at hg
    simp only [addingOnly, Bool.and_eq_true] at hadd
    obtain ⟨s1, hs1, hinv1, _, _⟩ := step_refines cfg h op hg.1
    have a1 := step_adding cfg h hc op hg.1 hadd.1 s1 hs1
    rw [hs1] at hg hadd
    obtain ⟨s', hs', hinv', a'⟩ := ih s1 hinv1 (a1.1.cache.trans hc) hg.2 hadd.2
    refine ⟨s', ?_, hinv', a1.trans a'⟩
    rw [run_cons_some hs1]; exact hs'

end H4.DD
