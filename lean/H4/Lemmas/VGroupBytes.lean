import H4.VGroup
import H4.Lemmas.C2LBytes
/-! A byte string of the models `H4.VGroup` / `H4.Format` as a translated C function sees a `uint8` array: a list of `Int` cells (`bytesI`); an
    encoded field is the cursor layer's big-endian cell list (`be16I_u16`, `be32I_u32`); the lengths and the split of the model's Vgroup record
    (`packStr_length`, `packPairs_length`, `flagsPart`, `vpackvgF_split`).  Namespace of the first user. -/
namespace H4.Lemmas.C08Fn
open H4.VGroup

def bytesI (l : Bytes) : List Int := l.map fun b => (b.toNat : Int)

@[simp] theorem bytesI_length (l : Bytes) : (bytesI l).length = l.length := by simp [bytesI]
@[simp] theorem bytesI_nil : bytesI [] = [] := rfl
@[simp] theorem bytesI_cons (a : Byte) (l : Bytes) : bytesI (a :: l) = (a.toNat : Int) :: bytesI l := rfl
theorem bytesI_append (a b : Bytes) : bytesI (a ++ b) = bytesI a ++ bytesI b := by simp [bytesI]

theorem bytesI_flatMap {α} (l : List α) (g : α → Bytes) : bytesI (l.flatMap g) = l.flatMap (fun a => bytesI (g a)) := by
  induction l with
  | nil => rfl
  | cons a l ih => simp only [List.flatMap_cons, bytesI_append, ih]

open H4 H4.Gen.Hdf H4.C2L

theorem be16I_u16 (n : Nat) : be16I (n : Int) = bytesI (u16 n) := by
  have a1 : ((n / 256 : Nat) : Int) = (n : Int) / 256 := by omega
  simp only [be16I, u16, bytesI_cons, bytesI_nil, u8_toInt, a1]

theorem be32I_u32 (n : Nat) : be32I (n : Int) = bytesI (u32 n) := by
  have a1 : ((n / 256 : Nat) : Int) = (n : Int) / 256 := by omega
  have a2 : ((n / 65536 : Nat) : Int) = (n : Int) / 65536 := by omega
  have a3 : ((n / 16777216 : Nat) : Int) = (n : Int) / 16777216 := by omega
  simp only [be32I, VGroup.u32, bytesI_cons, bytesI_nil, u8_toInt, a1, a2, a3]

theorem flatMap_be16I {α} (l : List α) (g : α → Nat) : (l.flatMap fun p => be16I (g p : Int)) = bytesI (l.flatMap fun p => u16 (g p)) := by
  rw [bytesI_flatMap]; simp only [be16I_u16]

theorem mem_bytesI_zero (b : Bytes) (h0 : (0 : Byte) ∉ b) : (0 : Int) ∉ bytesI b := by
  intro h
  obtain ⟨x, hx, e⟩ := List.mem_map.mp h
  exact h0 (by rwa [show x = 0 from UInt8.toNat_inj.mp (by simpa using e)] at hx)

/-- the part of the record between `exref` and `version` -/
def flagsPart (g : VG) : Bytes :=
  if hasFlagsWord true g then
    u32 g.flags ++ (if g.flags &&& VG_ATTR_SET ≠ 0 then u32 g.attrs.length ++ packPairs g.attrs else [])
  else []

theorem toI16_four : toI16 4 = 4 := by decide

theorem toI16_lt {v : Nat} (h : v < 65536) : toI16 v = if v < 32768 then (v : Int) else (v : Int) - 65536 := by
  simp only [toI16, Nat.mod_eq_of_lt h]

theorem packPairs_length (l : List Pair) : (packPairs l).length = 4 * l.length := by
  induction l with
  | nil => rfl
  | cons a l ih =>
    simp only [packPairs, List.flatMap_cons, List.length_append, u16, List.length_cons, List.length_nil] at ih ⊢
    omega

theorem packStr_length (nm : Option Bytes) (h : NameMemOK nm) : (packStr nm).length = 2 + (nm.getD []).length := by
  have hlen : (nm.getD []).length < 65536 := by
    cases nm with
    | none => simp
    | some b => exact h.1
  simp only [packStr, Nat.mod_eq_of_lt hlen, List.take_length, List.length_append, u16, List.length_cons, List.length_nil]

theorem vpackvgF_split (g : VG) : vpackvgF true g =
    ((((((([] ++ u16 g.members.length) ++ g.members.flatMap (fun p => u16 p.1)) ++ g.members.flatMap (fun p => u16 p.2))
      ++ packStr g.name) ++ packStr g.cls) ++ u16 g.extag ++ u16 g.exref) ++ flagsPart g) ++ u16 (packVersion g) ++ u16 g.more ++ [0] := by
  simp only [vpackvgF, flagsPart, List.nil_append, List.append_assoc]

end H4.Lemmas.C08Fn
