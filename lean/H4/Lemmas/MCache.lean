import H4.MCache

/-! Lemmas for `H4.MCache`: the structural invariant `Inv` and the refinement relation `Rel` are kept by every `mcache_*` function of the model, each function
taken through the list of its outcomes (`BktOut`, `GetOut`, `syncWalk_ind`, `StepOut`); the simulation `Sim` with the cache-less object. -/
namespace H4.MCache
open H4.Gen.Mcache

/-- the constants the proofs rely on (regenerated from `mcache_priv.h` on every run) -/
theorem consts : MCACHE_DIRTY = 1 ∧ MCACHE_PINNED = 2 ∧ ELEM_READ = 1 ∧ ELEM_WRITTEN = 2 ∧ ELEM_SYNC = 3 ∧
    DEF_MAXCACHE = 1 ∧ HASHSIZE = 128 := by decide

/- `hashKey` is an arbitrary function as far as the proofs are concerned -/
attribute [local irreducible] hashKey

@[simp] theorem upd_same {α : Type} (f : Nat → α) (k : Nat) (v : α) : upd f k v k = v := by simp [upd]
theorem upd_other {α : Type} (f : Nat → α) {k j : Nat} (v : α) (h : j ≠ k) : upd f k v j = f j := by simp [upd, h]
theorem upd_apply {α : Type} (f : Nat → α) (k j : Nat) (v : α) : upd f k v j = if j = k then v else f j := rfl

def lelemHas (l : List (Nat × Nat)) (pg : Nat) : Prop := ∃ e ∈ l, e.1 = pg
/-- chain `l` has an element of page `pg` with `eflags != 0` (page "exists on disk": `mcache_get` will `pgin` it) -/
def lelemNZ (l : List (Nat × Nat)) (pg : Nat) : Prop := ∃ e ∈ l, e.1 = pg ∧ e.2 ≠ 0

theorem lelemNZ.has {l pg} (h : lelemNZ l pg) : lelemHas l pg := by
  obtain ⟨e, he, h1, _⟩ := h; exact ⟨e, he, h1⟩

theorem lelemHas_updFirst (p : Nat × Nat → Bool) (ef : Nat) (l : List (Nat × Nat)) (pg : Nat) :
    lelemHas (updFirst p (fun e => (e.1, ef)) l) pg ↔ lelemHas l pg := by
  induction l with
  | nil => simp [updFirst]
  | cons a l ih =>
    unfold updFirst
    split
    · simp [lelemHas]
    · simp only [lelemHas, List.mem_cons, exists_eq_or_imp] at ih ⊢
      rw [ih]

theorem lelemNZ_updFirst_mono (p : Nat × Nat → Bool) {ef : Nat} (hef : ef ≠ 0) {l : List (Nat × Nat)} {pg : Nat}
    (h : lelemNZ l pg) : lelemNZ (updFirst p (fun e => (e.1, ef)) l) pg := by
  induction l with
  | nil => simp [lelemNZ] at h
  | cons a l ih =>
    unfold updFirst
    obtain ⟨e, he, h1, h2⟩ := h
    rcases List.mem_cons.1 he with rfl | he
    · split
      · exact ⟨(e.1, ef), by simp, h1, hef⟩
      · exact ⟨e, by simp, h1, h2⟩
    · split
      · exact ⟨e, by simp [he], h1, h2⟩
      · obtain ⟨e', he', h1', h2'⟩ := ih ⟨e, he, h1, h2⟩
        exact ⟨e', by simp [he'], h1', h2'⟩

theorem lelemNZ_updFirst_isPg {ef : Nat} (hef : ef ≠ 0) {l : List (Nat × Nat)} {pg : Nat}
    (h : lelemHas l pg) : lelemNZ (updFirst (isPg pg) (fun e => (e.1, ef)) l) pg := by
  induction l with
  | nil => simp [lelemHas] at h
  | cons a l ih =>
    unfold updFirst
    by_cases ha : isPg pg a = true
    · simp only [ha, if_true]
      exact ⟨(a.1, ef), by simp, by simpa [isPg] using ha, hef⟩
    · simp only [ha]
      obtain ⟨e, he, h1⟩ := h
      rcases List.mem_cons.1 he with rfl | he
      · exact absurd (by simpa [isPg] using h1) ha
      · obtain ⟨e', he', h1', h2'⟩ := ih ⟨e, he, h1⟩
        exact ⟨e', by simp [he'], h1', h2'⟩

theorem any_isPgNZ_iff (l : List (Nat × Nat)) (pg : Nat) : l.any (isPgNZ pg) = true ↔ lelemNZ l pg := by
  simp [lelemNZ, isPgNZ, List.any_eq_true]

/-- every cached page number sits exactly once on the LRU queue and exactly once on the hash chain of its key (and on no
other chain), is in range, has a list element; `curcache` counts at least the linked buckets. -/
structure Inv (s : State) : Prop where
  lru_nodup : s.lru.Nodup
  lru_iff : ∀ pg, pg ∈ s.lru ↔ (s.pages pg).isSome = true
  hqh_iff : ∀ k pg, pg ∈ s.hqh k ↔ ((s.pages pg).isSome = true ∧ hashKey pg = k)
  hqh_nodup : ∀ k, (s.hqh k).Nodup
  range : ∀ pg, (s.pages pg).isSome = true → 1 ≤ pg ∧ pg ≤ s.npages
  lelem : ∀ pg, (s.pages pg).isSome = true → lelemHas (s.lhqh (hashKey pg)) pg
  cur : s.lru.length ≤ s.curcache

theorem upd_upd {α : Type} (f : Nat → α) (k : Nat) (a b : α) : upd (upd f k a) k b = upd f k b := by
  funext j; simp only [upd_apply]; split <;> rfl

theorem isSome_upd_some (f : Nat → Option Bkt) {pg : Nat} (b : Bkt) (h : (f pg).isSome = true) (pg' : Nat) :
    (upd f pg (some b) pg').isSome = (f pg').isSome := by
  by_cases e : pg' = pg
  · subst e; simp [h]
  · simp [upd_other _ _ e]

theorem isSome_upd_none (f : Nat → Option Bkt) (pg pg' : Nat) :
    (upd f pg none pg').isSome = true ↔ (pg' ≠ pg ∧ (f pg').isSome = true) := by
  by_cases e : pg' = pg
  · subst e; simp
  · simp [upd_other _ _ e, e]

theorem isSome_upd_some' (f : Nat → Option Bkt) (pg : Nat) (b : Bkt) (pg' : Nat) :
    (upd f pg (some b) pg').isSome = true ↔ (pg' = pg ∨ (f pg').isSome = true) := by
  by_cases e : pg' = pg
  · subst e; simp
  · simp [upd_other _ _ e, e]

theorem Inv.congr {s s' : State} (h : Inv s) (hlru : s'.lru = s.lru) (hhqh : s'.hqh = s.hqh) (hnp : s'.npages = s.npages)
    (hp : ∀ pg, (s'.pages pg).isSome = (s.pages pg).isSome)
    (hl : ∀ k pg, lelemHas (s.lhqh k) pg → lelemHas (s'.lhqh k) pg) (hc : s.curcache ≤ s'.curcache) : Inv s' :=
  ⟨hlru ▸ h.lru_nodup, fun pg => by rw [hlru, hp]; exact h.lru_iff pg, fun k pg => by rw [hhqh, hp]; exact h.hqh_iff k pg,
   fun k => hhqh ▸ h.hqh_nodup k, fun pg hc' => by rw [hnp]; exact h.range pg (hp pg ▸ hc'),
   fun pg hc' => hl _ _ (h.lelem pg (hp pg ▸ hc')), by rw [hlru]; exact Nat.le_trans h.cur hc⟩

theorem Inv.of_empty {s : State} (h1 : s.lru = []) (h2 : s.hqh = fun _ => []) (h3 : s.pages = fun _ => none) : Inv s :=
  ⟨h1 ▸ List.nodup_nil, by simp [h1, h3], by simp [h2, h3], by simp [h2], by simp [h3], by simp [h3], by simp [h1]⟩

theorem lelemHas_setEflags (s : State) (p : Nat × Nat → Bool) (pg ef k pg' : Nat) :
    lelemHas ((setEflags s p pg ef).lhqh k) pg' ↔ lelemHas (s.lhqh k) pg' := by
  simp only [setEflags, upd_apply]
  split
  · rename_i e; subst e; exact lelemHas_updFirst _ _ _ _
  · exact Iff.rfl

theorem lelemNZ_setEflags_mono (s : State) (p : Nat × Nat → Bool) (pg : Nat) {ef : Nat} (hef : ef ≠ 0) {k pg' : Nat}
    (h : lelemNZ (s.lhqh k) pg') : lelemNZ ((setEflags s p pg ef).lhqh k) pg' := by
  simp only [setEflags, upd_apply]
  split
  · rename_i e; subst e; exact lelemNZ_updFirst_mono _ hef h
  · exact h

theorem inv_setEflags {s : State} (h : Inv s) (p : Nat × Nat → Bool) (pg ef : Nat) : Inv (setEflags s p pg ef) :=
  h.congr rfl rfl rfl (fun _ => rfl) (fun k pg' => (lelemHas_setEflags s p pg ef k pg').2) (Nat.le_refl _)

theorem mem_consElem {s : State} {pg k : Nat} {e : Nat × Nat} (h : e ∈ s.lhqh k) : e ∈ (consElem s pg).lhqh k := by
  simp only [consElem, upd_apply]
  split
  · rename_i ek; subst ek; exact List.mem_cons_of_mem _ h
  · exact h

theorem lelemHas_consElem_self (s : State) (pg : Nat) : lelemHas ((consElem s pg).lhqh (hashKey pg)) pg := by
  simp only [consElem, upd_same]
  exact ⟨(pg, 0), by simp, rfl⟩

theorem inv_setBkt {s : State} (h : Inv s) {pg : Nat} (b : Bkt) (hc : (s.pages pg).isSome = true) : Inv (setBkt s pg b) :=
  h.congr rfl rfl rfl (isSome_upd_some _ b hc) (fun _ _ hl => hl) (Nat.le_refl _)

theorem inv_cleanPage {s : State} (h : Inv s) {pg : Nat} (b : Bkt) (hc : (s.pages pg).isSome = true) : Inv (cleanPage s pg b) :=
  h.congr rfl rfl rfl (isSome_upd_some _ _ hc) (fun _ _ hl => hl) (Nat.le_refl _)

theorem inv_unlink {s : State} (h : Inv s) (pg : Nat) : Inv (unlink s pg) := by
  refine ⟨h.lru_nodup.erase pg, fun pg' => ?_, fun k pg' => ?_, fun k => ?_,
    fun pg' hc => h.range pg' ((isSome_upd_none _ _ _).1 hc).2, fun pg' hc => h.lelem pg' ((isSome_upd_none _ _ _).1 hc).2,
    Nat.le_trans List.length_erase_le h.cur⟩
  · show pg' ∈ s.lru.erase pg ↔ (upd s.pages pg none pg').isSome = true
    rw [h.lru_nodup.mem_erase_iff, isSome_upd_none, h.lru_iff]
  · show pg' ∈ upd s.hqh (hashKey pg) ((s.hqh (hashKey pg)).erase pg) k ↔ (upd s.pages pg none pg').isSome = true ∧ hashKey pg' = k
    rw [isSome_upd_none, upd_apply]
    split
    · rename_i e; subst e
      rw [(h.hqh_nodup _).mem_erase_iff, h.hqh_iff, and_assoc]
    · rename_i e
      rw [h.hqh_iff]
      exact ⟨fun ⟨h1, h2⟩ => ⟨⟨fun e' => e (e' ▸ h2.symm), h1⟩, h2⟩, fun ⟨⟨_, h1⟩, h2⟩ => ⟨h1, h2⟩⟩
  · show (upd s.hqh (hashKey pg) ((s.hqh (hashKey pg)).erase pg) k).Nodup
    rw [upd_apply]; split
    · exact (h.hqh_nodup _).erase pg
    · exact h.hqh_nodup k

theorem inv_insertPage {s : State} (h : Inv s) {pg : Nat} (c : Nat) (hn : s.pages pg = none)
    (h1 : 1 ≤ pg) (h2 : pg ≤ s.npages) (hl : lelemHas (s.lhqh (hashKey pg)) pg) (hcur : s.lru.length < s.curcache) :
    Inv (insertPage s pg c) := by
  have hnl : pg ∉ s.lru := by rw [h.lru_iff, hn]; simp
  have hnh : pg ∉ s.hqh (hashKey pg) := by rw [h.hqh_iff, hn]; simp
  refine ⟨?_, fun pg' => ?_, fun k pg' => ?_, fun k => ?_, fun pg' hc => ?_, fun pg' hc => ?_, ?_⟩
  · show (s.lru ++ [pg]).Nodup
    simpa [List.nodup_append, h.lru_nodup] using fun a ha (e : a = pg) => hnl (e ▸ ha)
  · show pg' ∈ s.lru ++ [pg] ↔ (upd s.pages pg _ pg').isSome = true
    rw [isSome_upd_some', List.mem_append, h.lru_iff]; simp [or_comm]
  · show pg' ∈ upd s.hqh (hashKey pg) (pg :: s.hqh (hashKey pg)) k ↔ (upd s.pages pg _ pg').isSome = true ∧ hashKey pg' = k
    rw [isSome_upd_some', upd_apply]
    split
    · rename_i e; subst e
      rw [List.mem_cons, h.hqh_iff]
      by_cases e' : pg' = pg <;> simp [e']
    · rename_i e
      rw [h.hqh_iff]
      by_cases e' : pg' = pg
      · subst e'; simp [hn, Ne.symm e]
      · simp [e']
  · show (upd s.hqh (hashKey pg) (pg :: s.hqh (hashKey pg)) k).Nodup
    rw [upd_apply]; split
    · exact List.nodup_cons.2 ⟨hnh, h.hqh_nodup _⟩
    · exact h.hqh_nodup k
  · rcases (isSome_upd_some' _ _ _ _).1 hc with rfl | hc
    · exact ⟨h1, h2⟩
    · exact h.range pg' hc
  · rcases (isSome_upd_some' _ _ _ _).1 hc with rfl | hc
    · exact hl
    · exact h.lelem pg' hc
  · show (s.lru ++ [pg]).length ≤ s.curcache
    rw [List.length_append]; exact hcur

theorem erase_lt_cur {s : State} (h : Inv s) {pg : Nat} (hin : pg ∈ s.lru) : (s.lru.erase pg).length < s.curcache := by
  have := List.length_erase_of_mem hin; have := List.length_pos_of_mem hin; have := h.cur; omega

/-- as far as `Inv` can see, the hit path of `mcache_get` unlinks the bucket and links it again -/
theorem inv_touch {s : State} (h : Inv s) {pg : Nat} {b : Bkt} (hb : s.pages pg = some b) : Inv (touch s pg b) := by
  have hc : (s.pages pg).isSome = true := by rw [hb]; rfl
  have hin : pg ∈ s.lru := (h.lru_iff pg).2 hc
  refine (inv_insertPage (inv_unlink h pg) 0 (upd_same _ _ _) (h.range pg hc).1 (h.range pg hc).2 (h.lelem pg hc)
    (erase_lt_cur h hin)).congr
    rfl ?_ rfl (fun pg' => ?_) (fun _ _ hl => hl) (Nat.le_refl _)
  · show upd s.hqh _ _ = upd (upd s.hqh _ _) _ (pg :: upd s.hqh _ _ _)
    rw [upd_same, upd_upd]
  · show (upd s.pages pg _ pg').isSome = (upd (upd s.pages pg none) pg _ pg').isSome
    rw [upd_upd, upd_apply, upd_apply]; split <;> rfl

/-- `m` is what a client must see: a cached page holds `m pg`; a CLEAN cached page and an uncached page have `m pg` in the
backing store as well; a dirty page is always defined in `m`; every page defined in `m` has a list element with
`eflags != 0`, so a miss will `pgin` it instead of handing out an uninitialised buffer. -/
structure Rel (s : State) (m : Nat → Option Nat) : Prop where
  inv : Inv s
  val_c : ∀ pg v b, m pg = some v → s.pages pg = some b → b.data = v ∧ (b.dirty = false → s.backing pg = v)
  val_n : ∀ pg v, m pg = some v → s.pages pg = none → s.backing pg = v
  dirty : ∀ pg b, s.pages pg = some b → b.dirty = true → (m pg).isSome = true
  nz : ∀ pg v, m pg = some v → lelemNZ (s.lhqh (hashKey pg)) pg

theorem Rel.of_agree {s s' : State} {m m' : Nat → Option Nat} (h : Rel s m) (hi : Inv s') (pg : Nat)
    (hoff : ∀ pg', pg' ≠ pg → s'.pages pg' = s.pages pg' ∧ s'.backing pg' = s.backing pg' ∧ m' pg' = m pg')
    (hnz : ∀ pg' v, m' pg' = some v → lelemNZ (s'.lhqh (hashKey pg')) pg')
    (hc : ∀ v b, m' pg = some v → s'.pages pg = some b → b.data = v ∧ (b.dirty = false → s'.backing pg = v))
    (hn : ∀ v, m' pg = some v → s'.pages pg = none → s'.backing pg = v)
    (hd : ∀ b, s'.pages pg = some b → b.dirty = true → (m' pg).isSome = true) : Rel s' m' := by
  refine ⟨hi, fun pg' v b hv hb => ?_, fun pg' v hv hb => ?_, fun pg' b hb hdb => ?_, hnz⟩ <;> by_cases e : pg' = pg
  · subst e; exact hc v b hv hb
  · obtain ⟨e1, e2, e3⟩ := hoff pg' e; rw [e1] at hb; rw [e3] at hv; rw [e2]; exact h.val_c pg' v b hv hb
  · subst e; exact hn v hv hb
  · obtain ⟨e1, e2, e3⟩ := hoff pg' e; rw [e1] at hb; rw [e3] at hv; rw [e2]; exact h.val_n pg' v hv hb
  · subst e; exact hd b hb hdb
  · obtain ⟨e1, _, e3⟩ := hoff pg' e; rw [e1] at hb; rw [e3]; exact h.dirty pg' b hb hdb

theorem Rel.of_bkt {s s' : State} {m m' : Nat → Option Nat} (h : Rel s m) (hi : Inv s') {pg : Nat} {b' : Bkt}
    (hp : s'.pages pg = some b')
    (hoff : ∀ pg', pg' ≠ pg → s'.pages pg' = s.pages pg' ∧ s'.backing pg' = s.backing pg' ∧ m' pg' = m pg')
    (hnz : ∀ pg' v, m' pg' = some v → lelemNZ (s'.lhqh (hashKey pg')) pg')
    (hc : ∀ v, m' pg = some v → b'.data = v ∧ (b'.dirty = false → s'.backing pg = v))
    (hd : b'.dirty = true → (m' pg).isSome = true) : Rel s' m' :=
  h.of_agree hi pg hoff hnz (fun v b hv hb => by rw [hp] at hb; cases hb; exact hc v hv)
    (fun v _ hn => by rw [hp] at hn; cases hn) (fun b hb hdb => by rw [hp] at hb; cases hb; exact hd hdb)

theorem Rel.congr {s s' : State} {m : Nat → Option Nat} (h : Rel s m) (hlru : s'.lru = s.lru) (hhqh : s'.hqh = s.hqh)
    (hnp : s'.npages = s.npages) (hp : s'.pages = s.pages) (hb : s'.backing = s.backing)
    (hl : ∀ k pg, lelemHas (s.lhqh k) pg → lelemHas (s'.lhqh k) pg)
    (hz : ∀ k pg, lelemNZ (s.lhqh k) pg → lelemNZ (s'.lhqh k) pg) (hc : s.curcache ≤ s'.curcache) : Rel s' m :=
  ⟨h.inv.congr hlru hhqh hnp (fun _ => by rw [hp]) hl hc, by rw [hp, hb]; exact h.val_c, by rw [hp, hb]; exact h.val_n,
    by rw [hp]; exact h.dirty, fun pg v hv => hz _ _ (h.nz pg v hv)⟩

theorem rel_logIo {s : State} {m : Nat → Option Nat} (h : Rel s m) (io : Io) : Rel (logIo s io) m :=
  h.congr rfl rfl rfl rfl rfl (fun _ _ hl => hl) (fun _ _ hl => hl) (Nat.le_refl _)

theorem rel_grow {s : State} {m : Nat → Option Nat} (h : Rel s m) : Rel (grow s) m :=
  h.congr rfl rfl rfl rfl rfl (fun _ _ hl => hl) (fun _ _ hl => hl) (Nat.le_succ _)

theorem rel_setEflags {s : State} {m : Nat → Option Nat} (h : Rel s m) (p : Nat × Nat → Bool) (pg : Nat) {ef : Nat}
    (hef : ef ≠ 0) : Rel (setEflags s p pg ef) m :=
  h.congr rfl rfl rfl rfl rfl (fun k pg' => (lelemHas_setEflags s p pg ef k pg').2)
    (fun _ _ => lelemNZ_setEflags_mono s p pg hef) (Nat.le_refl _)

theorem rel_consElem {s : State} {m : Nat → Option Nat} (h : Rel s m) (pg : Nat) : Rel (consElem s pg) m :=
  h.congr rfl rfl rfl rfl rfl (fun _ _ ⟨x, hx, h1⟩ => ⟨x, mem_consElem hx, h1⟩)
    (fun _ _ ⟨x, hx, h1⟩ => ⟨x, mem_consElem hx, h1⟩) (Nat.le_refl _)

theorem rel_cleanPage {s : State} {m : Nat → Option Nat} (h : Rel s m) {pg : Nat} {b : Bkt} (hb : s.pages pg = some b) :
    Rel (cleanPage s pg b) m :=
  h.of_bkt (inv_cleanPage h.inv b (by rw [hb]; rfl)) (b' := { b with dirty := false }) (upd_same _ _ _)
    (fun _ e => ⟨upd_other _ _ e, upd_other _ _ e, rfl⟩) h.nz
    (fun v hv => have := (h.val_c pg v b hv hb).1; ⟨this, fun _ => (upd_same _ _ _).trans this⟩) (fun hd => by cases hd)

theorem rel_unlink {s : State} {m : Nat → Option Nat} (h : Rel s m) {pg : Nat} {b : Bkt} (hb : s.pages pg = some b)
    (hd : b.dirty = false) : Rel (unlink s pg) m := by
  have hp : (unlink s pg).pages pg = none := upd_same _ _ _
  exact h.of_agree (inv_unlink h.inv pg) pg (fun _ e => ⟨upd_other _ _ e, rfl, rfl⟩) h.nz
    (fun v b' _ hb' => by rw [hp] at hb'; cases hb') (fun v hv _ => (h.val_c pg v b hv hb).2 hd)
    (fun b' hb' _ => by rw [hp] at hb'; cases hb')

theorem rel_insertPage {s : State} {m : Nat → Option Nat} (h : Rel s m) {pg : Nat} (c : Nat) (hn : s.pages pg = none)
    (h1 : 1 ≤ pg) (h2 : pg ≤ s.npages) (hl : lelemHas (s.lhqh (hashKey pg)) pg) (hcur : s.lru.length < s.curcache)
    (hv : ∀ v, m pg = some v → c = v ∧ s.backing pg = v) : Rel (insertPage s pg c) m :=
  h.of_bkt (inv_insertPage h.inv c hn h1 h2 hl hcur) (upd_same _ _ _) (fun _ e => ⟨upd_other _ _ e, rfl, rfl⟩) h.nz
    (fun v hv' => ⟨(hv v hv').1, fun _ => (hv v hv').2⟩) (fun hd => by cases hd)

theorem rel_touch {s : State} {m : Nat → Option Nat} (h : Rel s m) {pg : Nat} {b : Bkt} (hb : s.pages pg = some b) :
    Rel (touch s pg b) m :=
  h.of_bkt (inv_touch h.inv hb) (b' := { b with pinned := true }) (upd_same _ _ _)
    (fun _ e => ⟨upd_other _ _ e, rfl, rfl⟩) h.nz (fun v hv => h.val_c pg v b hv hb) (h.dirty pg b hb)

theorem rel_setBkt_same {s : State} {m : Nat → Option Nat} (h : Rel s m) {pg : Nat} {b b' : Bkt} (hb : s.pages pg = some b)
    (hdata : b'.data = b.data) (hdirty : b'.dirty = b.dirty) : Rel (setBkt s pg b') m :=
  h.of_bkt (inv_setBkt h.inv b' (by rw [hb]; rfl)) (upd_same _ _ _) (fun _ e => ⟨upd_other _ _ e, rfl, rfl⟩) h.nz
    (fun v hv => by rw [hdata, hdirty]; exact h.val_c pg v b hv hb) (fun hd => h.dirty pg b hb (hdirty ▸ hd))

theorem rel_setBkt_dirty {s : State} {m : Nat → Option Nat} (h : Rel s m) {pg : Nat} {b' : Bkt}
    (hc : (s.pages pg).isSome = true) (hd : b'.dirty = true) {ef : Nat} (hef : ef ≠ 0) :
    Rel (setEflags (setBkt s pg b') (isPg pg) pg ef) (upd m pg (some b'.data)) := by
  refine h.of_bkt (inv_setEflags (inv_setBkt h.inv b' hc) _ _ _) (upd_same _ _ _)
    (fun _ e => ⟨upd_other _ _ e, rfl, upd_other _ _ e⟩) (fun pg' v hv => ?_)
    (fun v hv => ⟨Option.some.inj ((upd_same _ _ _).symm.trans hv), fun hf => by rw [hd] at hf; cases hf⟩)
    (fun _ => by rw [upd_same]; rfl)
  by_cases e : pg' = pg
  · subst e
    simp only [setEflags, upd_same]
    exact lelemNZ_updFirst_isPg hef (h.inv.lelem pg' hc)
  · rw [upd_other _ _ e] at hv
    exact lelemNZ_setEflags_mono _ _ _ hef (h.nz pg' v hv)

theorem mcacheWrite_eq (s : State) (pg : Nat) (b : Bkt) :
    mcacheWrite s pg b =
      if s.outFail pg then (logIo (setEflags s (isPg pg) pg ELEM_SYNC) (Io.pgout (pg - 1) b.data false), false)
      else (cleanPage (logIo (setEflags s (isPg pg) pg ELEM_SYNC) (Io.pgout (pg - 1) b.data true)) pg b, true) := rfl

theorem elem_sync_ne : ELEM_SYNC ≠ 0 := by decide
theorem elem_read_ne : ELEM_READ ≠ 0 := by decide
theorem elem_written_ne : ELEM_WRITTEN ≠ 0 := by decide

theorem mcacheWrite_rel {s : State} {m : Nat → Option Nat} (h : Rel s m) {pg : Nat} {b : Bkt} (hb : s.pages pg = some b) :
    Rel (mcacheWrite s pg b).1 m := by
  rw [mcacheWrite_eq]
  split
  · exact rel_logIo (rel_setEflags h _ _ elem_sync_ne) _
  · exact rel_cleanPage (rel_logIo (rel_setEflags h _ _ elem_sync_ne) _) hb

/-- what only `mcache_close` and `mcache_set_maxcache` change -/
structure Frame (s s' : State) : Prop where
  inFail : s'.inFail = s.inFail := by rfl
  outFail : s'.outFail = s.outFail := by rfl
  npages : s'.npages = s.npages := by rfl
  closed : s'.closed = s.closed := by rfl
  maxcache : s'.maxcache = s.maxcache := by rfl

theorem Frame.refl (s : State) : Frame s s := {}

/-- for `simp only` on a state given by record updates (the `rfl`s of the fields are dear there: the unifier first compares the two states) -/
theorem frame_iff {s s' : State} : Frame s s' ↔
    s'.inFail = s.inFail ∧ s'.outFail = s.outFail ∧ s'.npages = s.npages ∧ s'.closed = s.closed ∧ s'.maxcache = s.maxcache :=
  ⟨fun h => ⟨h.inFail, h.outFail, h.npages, h.closed, h.maxcache⟩, fun h => ⟨h.1, h.2.1, h.2.2.1, h.2.2.2.1, h.2.2.2.2⟩⟩

theorem Frame.trans {a b c : State} (h1 : Frame a b) (h2 : Frame b c) : Frame a c :=
  ⟨h2.inFail.trans h1.inFail, h2.outFail.trans h1.outFail, h2.npages.trans h1.npages, h2.closed.trans h1.closed, h2.maxcache.trans h1.maxcache⟩

theorem mcacheWrite_keeps (s : State) (pg : Nat) (b : Bkt) :
    Frame s (mcacheWrite s pg b).1 ∧ (mcacheWrite s pg b).1.lru = s.lru ∧ (mcacheWrite s pg b).1.hqh = s.hqh ∧
      (mcacheWrite s pg b).1.curcache = s.curcache ∧ (mcacheWrite s pg b).1.garbage = s.garbage := by
  rw [mcacheWrite_eq, frame_iff]
  split <;> simp only [logIo, setEflags, cleanPage, and_self]

theorem mcacheWrite_frame (s : State) (pg : Nat) (b : Bkt) : Frame s (mcacheWrite s pg b).1 := (mcacheWrite_keeps s pg b).1
theorem mcacheWrite_lru (s : State) (pg : Nat) (b : Bkt) : (mcacheWrite s pg b).1.lru = s.lru := (mcacheWrite_keeps s pg b).2.1
theorem mcacheWrite_hqh (s : State) (pg : Nat) (b : Bkt) : (mcacheWrite s pg b).1.hqh = s.hqh := (mcacheWrite_keeps s pg b).2.2.1
theorem mcacheWrite_curcache (s : State) (pg : Nat) (b : Bkt) : (mcacheWrite s pg b).1.curcache = s.curcache :=
  (mcacheWrite_keeps s pg b).2.2.2.1
theorem mcacheWrite_garbage (s : State) (pg : Nat) (b : Bkt) : (mcacheWrite s pg b).1.garbage = s.garbage :=
  (mcacheWrite_keeps s pg b).2.2.2.2

theorem mcacheWrite_ok {s : State} {pg : Nat} {b : Bkt} (h : (mcacheWrite s pg b).2 = true) :
    s.outFail pg = false ∧ (mcacheWrite s pg b).1.pages = upd s.pages pg (some { b with dirty := false }) ∧
    (mcacheWrite s pg b).1.backing = upd s.backing pg b.data := by
  rw [mcacheWrite_eq] at h ⊢
  split at h
  · cases h
  · rename_i hf
    simp only [hf]
    exact ⟨by simp, rfl, rfl⟩

theorem mcacheWrite_fail {s : State} {pg : Nat} {b : Bkt} (h : (mcacheWrite s pg b).2 = false) :
    s.outFail pg = true ∧ (mcacheWrite s pg b).1.pages = s.pages ∧ (mcacheWrite s pg b).1.backing = s.backing := by
  rw [mcacheWrite_eq] at h ⊢
  split at h
  · rename_i hf
    refine ⟨hf, ?_, ?_⟩ <;> rw [if_pos hf] <;> rfl
  · cases h

theorem mcacheWrite_succeeds {s : State} {pg : Nat} {b : Bkt} (h : s.outFail pg = false) : (mcacheWrite s pg b).2 = true := by
  rw [mcacheWrite_eq]; simp [h]

theorem victim_split {s : State} {pg : Nat} {b : Bkt} (h : victim s = some (pg, b)) :
    ∃ l₁ l₂, s.lru = l₁ ++ pg :: l₂ ∧ s.pages pg = some b ∧ b.pinned = false ∧
      ∀ x ∈ l₁, ∀ bx, s.pages x = some bx → bx.pinned = true := by
  unfold victim at h
  obtain ⟨l₁, a, l₂, hl, hf, hpre⟩ := List.findSome?_eq_some_iff.1 h
  have ha : a = pg ∧ s.pages pg = some b ∧ b.pinned = false := by
    split at hf
    · rename_i b' hb'
      split at hf
      · cases hf
      · rename_i hp
        simp only [Option.some.injEq, Prod.mk.injEq] at hf
        obtain ⟨rfl, rfl⟩ := hf
        exact ⟨rfl, hb', by simpa using hp⟩
    · cases hf
  obtain ⟨rfl, hb, hp⟩ := ha
  refine ⟨l₁, l₂, hl, hb, hp, fun x hx bx hbx => ?_⟩
  have := hpre x hx
  simp only [hbx] at this
  split at this
  · assumption
  · cases this

theorem victim_some {s : State} {pg : Nat} {b : Bkt} (h : victim s = some (pg, b)) :
    pg ∈ s.lru ∧ s.pages pg = some b ∧ b.pinned = false := by
  obtain ⟨l₁, l₂, hl, hb, hp, _⟩ := victim_split h
  exact ⟨by rw [hl]; simp, hb, hp⟩

theorem victim_none {s : State} (h : victim s = none) {pg : Nat} (hp : pg ∈ s.lru) {b : Bkt} (hb : s.pages pg = some b) :
    b.pinned = true := by
  unfold victim at h
  have := List.findSome?_eq_none_iff.1 h pg hp
  simp only [hb] at this
  split at this
  · assumption
  · cases this

/-- the ways `mcache_bkt` ends (`none`: the write-back of the victim failed) -/
inductive BktOut (s : State) : State × Option Nat → Prop
  | grow : (s.curcache < s.maxcache ∨ victim s = none) → BktOut s (grow s, some s.garbage)
  | clean {pg : Nat} {b : Bkt} : victim s = some (pg, b) → b.dirty = false → BktOut s (unlink s pg, some b.data)
  | writeFail {pg : Nat} {b : Bkt} : victim s = some (pg, b) → b.dirty = true → (mcacheWrite s pg b).2 = false →
      BktOut s ((mcacheWrite s pg b).1, none)
  | wrote {pg : Nat} {b : Bkt} : victim s = some (pg, b) → b.dirty = true → (mcacheWrite s pg b).2 = true →
      BktOut s (unlink (mcacheWrite s pg b).1 pg, some b.data)

theorem mcacheBkt_out (s : State) : BktOut s (mcacheBkt s) := by
  unfold mcacheBkt
  split
  · exact .grow (Or.inl ‹_›)
  · split
    · rename_i pg b hv
      by_cases hd : b.dirty = true
      · simp only [hd, if_true]
        cases hr : (mcacheWrite s pg b).2
        · rw [show mcacheWrite s pg b = ((mcacheWrite s pg b).1, false) by rw [← hr]]
          exact .writeFail hv hd hr
        · rw [show mcacheWrite s pg b = ((mcacheWrite s pg b).1, true) by rw [← hr]]
          exact .wrote hv hd hr
      · have hd' : b.dirty = false := by simpa using hd
        simp only [hd', Bool.false_eq_true, if_false]
        exact .clean hv hd'
    · exact .grow (Or.inr ‹_›)

theorem BktOut.rel {s s1 : State} {r : Option Nat} {m : Nat → Option Nat} (h : Rel s m) (o : BktOut s (s1, r)) :
    Rel s1 m ∧ (r.isSome = true → s1.lru.length < s1.curcache) ∧ (∀ pg, s.pages pg = none → s1.pages pg = none) := by
  have gone : ∀ (t : State) (pg pg' : Nat), t.pages pg' = none → (unlink t pg).pages pg' = none := fun t pg pg' hn => by
    show upd t.pages pg none pg' = none
    rw [upd_apply]; split
    · rfl
    · exact hn
  cases o with
  | grow => exact ⟨rel_grow h, fun _ => Nat.lt_succ_of_le h.inv.cur, fun _ hn => hn⟩
  | clean hv hd =>
    obtain ⟨hin, hb, _⟩ := victim_some hv
    exact ⟨rel_unlink h hb hd, fun _ => erase_lt_cur h.inv hin, fun _ => gone _ _ _⟩
  | writeFail hv hd hr =>
    exact ⟨mcacheWrite_rel h (victim_some hv).2.1, (fun hs => by cases hs), fun _ hn => by rw [(mcacheWrite_fail hr).2.1]; exact hn⟩
  | @wrote pg b hv hd hr =>
    obtain ⟨hin, hb, _⟩ := victim_some hv
    have hw := (mcacheWrite_ok hr).2.1
    have hr1 := mcacheWrite_rel h hb
    refine ⟨rel_unlink hr1 (b := { b with dirty := false }) (by rw [hw]; exact upd_same _ _ _) rfl, fun _ => ?_, fun pg' hn => ?_⟩
    · exact erase_lt_cur hr1.inv (by rw [mcacheWrite_lru]; exact hin)
    · apply gone
      rw [hw, upd_apply]; split
      · rename_i e; rw [e, (victim_some hv).2.1] at hn; cases hn
      · exact hn

theorem BktOut.pages {s s1 : State} {r : Option Nat} (o : BktOut s (s1, r)) {pg : Nat} {b : Bkt} (hb : s.pages pg = some b) :
    (s1.pages pg = some b ∧ s1.backing pg = s.backing pg) ∨
    (s1.pages pg = none ∧ b.pinned = false ∧ r.isSome = true ∧
      (b.dirty = true → s1.backing pg = b.data) ∧ (b.dirty = false → s1.backing pg = s.backing pg)) := by
  cases o with
  | grow => exact Or.inl ⟨hb, rfl⟩
  | @clean vpg vb hv hd =>
    obtain ⟨_, hvb, hvp⟩ := victim_some hv
    by_cases e : pg = vpg
    · subst e; rw [hvb] at hb; cases hb
      exact Or.inr ⟨upd_same _ _ _, hvp, rfl, (fun hf => by rw [hd] at hf; cases hf), fun _ => rfl⟩
    · exact Or.inl ⟨(upd_other _ _ e).trans hb, rfl⟩
  | writeFail hv hd hr =>
    have hw := mcacheWrite_fail hr
    exact Or.inl ⟨by rw [hw.2.1]; exact hb, by rw [hw.2.2]⟩
  | @wrote vpg vb hv hd hr =>
    obtain ⟨_, hvb, hvp⟩ := victim_some hv
    have hw := mcacheWrite_ok hr
    by_cases e : pg = vpg
    · subst e; rw [hvb] at hb; cases hb
      refine Or.inr ⟨upd_same _ _ _, hvp, rfl, fun _ => ?_, fun hf => by rw [hd] at hf; cases hf⟩
      show (mcacheWrite s pg b).1.backing pg = b.data
      rw [hw.2.2]; exact upd_same _ _ _
    · refine Or.inl ⟨?_, ?_⟩
      · show upd (mcacheWrite s vpg vb).1.pages vpg none pg = some b
        rw [upd_other _ _ e, hw.2.1, upd_other _ _ e]; exact hb
      · show (mcacheWrite s vpg vb).1.backing pg = s.backing pg
        rw [hw.2.2, upd_other _ _ e]

theorem BktOut.frame {s s1 : State} {r : Option Nat} (o : BktOut s (s1, r)) : Frame s s1 := by
  cases o with
  | grow => exact {}
  | clean => exact {}
  | writeFail => exact mcacheWrite_frame _ _ _
  | wrote => exact (mcacheWrite_frame _ _ _).trans {}

theorem BktOut.isSome {s s1 : State} {r : Option Nat} (o : BktOut s (s1, r)) (ho : ∀ pg, s.outFail pg = false) :
    r.isSome = true := by
  cases o with
  | writeFail _ _ hr => rw [mcacheWrite_succeeds (ho _)] at hr; cases hr
  | _ => rfl

/-- `mcache_bkt`: `curcache` stays, or grows by one – and then only because it was below `maxcache` or because EVERY cached
page is pinned; with `curcache` = number of linked buckets before, a buffer handed out is one more than the linked buckets. -/
theorem BktOut.cur {s s1 : State} {r : Option Nat} (o : BktOut s (s1, r)) (hj : s.curcache = s.lru.length) :
    (r.isSome = true → s1.curcache = s1.lru.length + 1) ∧ (r = none → s1.curcache = s1.lru.length) ∧
    (s1.curcache = s.curcache ∨
      (s1.curcache = s.curcache + 1 ∧ s1.lru = s.lru ∧ s1.pages = s.pages ∧ r.isSome = true ∧
        (s.curcache < s.maxcache ∨ victim s = none))) := by
  have er : ∀ {pg : Nat}, pg ∈ s.lru → s.curcache = (s.lru.erase pg).length + 1 := fun hin => by
    have := List.length_erase_of_mem hin; have := List.length_pos_of_mem hin; omega
  cases o with
  | grow hg => exact ⟨fun _ => congrArg (· + 1) hj, (fun hn => by cases hn), Or.inr ⟨rfl, rfl, rfl, rfl, hg⟩⟩
  | clean hv hd => exact ⟨fun _ => er (victim_some hv).1, (fun hn => by cases hn), Or.inl rfl⟩
  | writeFail hv hd hr =>
    exact ⟨(fun hs => by cases hs), (fun _ => by rw [mcacheWrite_curcache, mcacheWrite_lru]; exact hj),
      Or.inl (mcacheWrite_curcache _ _ _)⟩
  | wrote hv hd hr =>
    refine ⟨fun _ => ?_, (fun hn => by cases hn), Or.inl (mcacheWrite_curcache _ _ _)⟩
    show (mcacheWrite s _ _).1.curcache = ((mcacheWrite s _ _).1.lru.erase _).length + 1
    rw [mcacheWrite_curcache, mcacheWrite_lru]; exact er (victim_some hv).1

theorem look_false {s : State} (h : Inv s) {pg : Nat} (hl : mcacheLook s pg = false) (h2 : pg ≤ s.npages) : s.pages pg = none := by
  unfold mcacheLook at hl
  rw [if_neg (by omega)] at hl
  have : pg ∉ s.hqh (hashKey pg) := by simpa using hl
  rw [h.hqh_iff] at this
  cases hp : s.pages pg with
  | none => rfl
  | some b => exact absurd ⟨by simp [hp], rfl⟩ this

theorem look_true {s : State} (h : Inv s) {pg : Nat} (hl : mcacheLook s pg = true) : (s.pages pg).isSome = true := by
  unfold mcacheLook at hl
  split at hl
  · cases hl
  · have : pg ∈ s.hqh (hashKey pg) := by simpa using hl
    exact ((h.hqh_iff _ _).1 this).1

/-- the ways `mcache_get` ends (`refuse` also covers a hash chain naming an unknown bucket, which `Inv` excludes) -/
inductive GetOut (s : State) (pgno : Nat) : State × Option Nat → Prop
  | refuse : (pgno = 0 ∨ pgno > s.npages ∨ (mcacheLook s pgno = true ∧ s.pages pgno = none)) → GetOut s pgno (s, none)
  | hit {b : Bkt} : s.pages pgno = some b → GetOut s pgno (touch s pgno b, some b.data)
  | noBuf {s1 : State} : mcacheLook s pgno = false → BktOut s (s1, none) → GetOut s pgno (s1, none)
  | pginFail {s1 : State} {buf : Nat} : 1 ≤ pgno → pgno ≤ s.npages → mcacheLook s pgno = false → BktOut s (s1, some buf) →
      lelemNZ (s1.lhqh (hashKey pgno)) pgno → s1.inFail pgno = true →
      GetOut s pgno (logIo (setEflags s1 (isPgNZ pgno) pgno ELEM_READ) (Io.pgin (pgno - 1) false), none)
  | pginOk {s1 : State} {buf : Nat} : 1 ≤ pgno → pgno ≤ s.npages → mcacheLook s pgno = false → BktOut s (s1, some buf) →
      lelemNZ (s1.lhqh (hashKey pgno)) pgno → s1.inFail pgno = false →
      GetOut s pgno (insertPage (logIo (setEflags s1 (isPgNZ pgno) pgno ELEM_READ) (Io.pgin (pgno - 1) true)) pgno
        (s1.backing pgno), some (s1.backing pgno))
  | fresh {s1 : State} {buf : Nat} : 1 ≤ pgno → pgno ≤ s.npages → mcacheLook s pgno = false → BktOut s (s1, some buf) →
      ¬ lelemNZ (s1.lhqh (hashKey pgno)) pgno → GetOut s pgno (insertPage (consElem s1 pgno) pgno buf, some buf)

theorem mcacheGet_out (s : State) (pgno : Nat) : GetOut s pgno (mcacheGet s pgno) := by
  unfold mcacheGet
  split
  · rename_i hr
    exact .refuse (hr.elim Or.inl fun h => Or.inr (Or.inl h))
  · rename_i hr
    have h1 : 1 ≤ pgno := by omega
    have h2 : pgno ≤ s.npages := by omega
    split
    · rename_i hl
      split
      · exact .hit ‹_›
      · exact .refuse (Or.inr (Or.inr ⟨hl, ‹_›⟩))
    · rename_i hl
      have hl' : mcacheLook s pgno = false := by simpa using hl
      have ho := mcacheBkt_out s
      split
      · rename_i s1 he; rw [he] at ho; exact .noBuf hl' ho
      · rename_i s1 buf he; rw [he] at ho
        split
        · rename_i hany
          have hnz := (any_isPgNZ_iff _ _).1 hany
          dsimp only
          split
          · exact .pginFail h1 h2 hl' ho hnz ‹_›
          · rename_i hf; exact .pginOk h1 h2 hl' ho hnz (Bool.eq_false_iff.2 hf)
        · rename_i hany
          exact .fresh h1 h2 hl' ho fun hnz => hany ((any_isPgNZ_iff _ _).2 hnz)

theorem GetOut.spec {s : State} {pg : Nat} {r : State × Option Nat} {m : Nat → Option Nat} (o : GetOut s pg r) (h : Rel s m) :
    Rel r.1 m ∧ ∀ d, r.2 = some d → ∀ v, m pg = some v → d = v := by
  cases o with
  | refuse => exact ⟨h, fun _ hd => by cases hd⟩
  | @hit b hb =>
    exact ⟨rel_touch h hb, fun d hd v hv => by cases hd; exact (h.val_c pg v b hv hb).1⟩
  | noBuf _ ho => exact ⟨(ho.rel h).1, fun _ hd => by cases hd⟩
  | pginFail _ _ _ ho => exact ⟨rel_logIo (rel_setEflags (ho.rel h).1 _ _ elem_read_ne) _, fun _ hd => by cases hd⟩
  | @pginOk s1 _ h1 h2 hl ho hnz =>
    obtain ⟨hr1, hcur, hnone⟩ := ho.rel h
    have hn1 : s1.pages pg = none := hnone pg (look_false h.inv hl h2)
    have hval : ∀ v, m pg = some v → s1.backing pg = v := fun v hv => hr1.val_n pg v hv hn1
    exact ⟨rel_insertPage (rel_logIo (rel_setEflags hr1 (isPgNZ pg) pg elem_read_ne) _) _ hn1 h1 (ho.frame.npages ▸ h2)
      ((lelemHas_setEflags s1 _ _ _ _ _).2 hnz.has) (hcur rfl) fun v hv => ⟨hval v hv, hval v hv⟩,
      fun d hd v hv => by cases hd; exact hval v hv⟩
  | @fresh s1 _ h1 h2 hl ho hnz =>
    obtain ⟨hr1, hcur, hnone⟩ := ho.rel h
    have hmn : ∀ v, m pg ≠ some v := fun v hv => hnz (hr1.nz pg v hv)
    exact ⟨rel_insertPage (rel_consElem hr1 pg) _ (hnone pg (look_false h.inv hl h2)) h1 (ho.frame.npages ▸ h2)
      (lelemHas_consElem_self s1 pg) (hcur rfl) fun v hv => absurd hv (hmn v), fun _ _ v hv => absurd hv (hmn v)⟩

/-- Effect of `mcache_get(pgno)` on a page `pg` that was cached before: it either stays cached with the same content and
dirtiness (a pinned page stays pinned), or it is gone – then it was NOT pinned, and if it was dirty the backing store now
holds its content (if it was clean the backing store entry is untouched). -/
theorem GetOut.pages {s : State} {pgno : Nat} {r : State × Option Nat} (o : GetOut s pgno r) (h : Inv s) {pg : Nat} {b : Bkt}
    (hb : s.pages pg = some b) :
    (∃ b', r.1.pages pg = some b' ∧ b'.data = b.data ∧ b'.dirty = b.dirty ∧ (b.pinned = true → b'.pinned = true)) ∨
    (r.1.pages pg = none ∧ b.pinned = false ∧
      (b.dirty = true → r.1.backing pg = b.data) ∧ (b.dirty = false → r.1.backing pg = s.backing pg)) := by
  have fin : ∀ {s1 : State} {r : Option Nat} (s' : State), BktOut s (s1, r) → s'.pages pg = s1.pages pg →
      s'.backing pg = s1.backing pg →
      (∃ b', s'.pages pg = some b' ∧ b'.data = b.data ∧ b'.dirty = b.dirty ∧ (b.pinned = true → b'.pinned = true)) ∨
      (s'.pages pg = none ∧ b.pinned = false ∧ (b.dirty = true → s'.backing pg = b.data) ∧
        (b.dirty = false → s'.backing pg = s.backing pg)) := fun s' ho e1 e2 => by
    rw [e1, e2]
    rcases ho.pages hb with ⟨a, _⟩ | ⟨a1, a2, _, a3, a4⟩
    · exact Or.inl ⟨b, a, rfl, rfl, id⟩
    · exact Or.inr ⟨a1, a2, a3, a4⟩
  have ne : mcacheLook s pgno = false → pgno ≤ s.npages → pg ≠ pgno := fun hl h2 e => by
    rw [e, look_false h hl h2] at hb; cases hb
  cases o with
  | refuse => exact Or.inl ⟨b, hb, rfl, rfl, id⟩
  | @hit b0 hb0 =>
    by_cases e : pg = pgno
    · subst e; rw [hb0] at hb; cases hb
      exact Or.inl ⟨{ b with pinned := true }, upd_same _ _ _, rfl, rfl, fun _ => rfl⟩
    · exact Or.inl ⟨b, (upd_other _ _ e).trans hb, rfl, rfl, id⟩
  | noBuf _ ho => exact fin _ ho rfl rfl
  | pginFail _ _ _ ho => exact fin _ ho rfl rfl
  | pginOk _ h2 hl ho => exact fin _ ho (upd_other _ _ (ne hl h2)) rfl
  | fresh _ h2 hl ho => exact fin _ ho (upd_other _ _ (ne hl h2)) rfl

theorem GetOut.frame {s : State} {pg : Nat} {r : State × Option Nat} (o : GetOut s pg r) : Frame s r.1 := by
  cases o with
  | refuse => exact Frame.refl s
  | hit => simp only [frame_iff, touch, and_self]
  | noBuf _ ho => exact ho.frame
  | pginFail _ _ _ ho => exact ho.frame.trans (by simp only [frame_iff, logIo, setEflags, and_self])
  | pginOk _ _ _ ho => exact ho.frame.trans (by simp only [frame_iff, insertPage, logIo, setEflags, and_self])
  | fresh _ _ _ ho => exact ho.frame.trans (by simp only [frame_iff, insertPage, consElem, and_self])

theorem GetOut.isSome {s : State} {pg : Nat} {r : State × Option Nat} (o : GetOut s pg r) (h : Inv s) (hi : ∀ pg, s.inFail pg = false)
    (ho : ∀ pg, s.outFail pg = false) (h1 : 1 ≤ pg) (h2 : pg ≤ s.npages) : r.2.isSome = true := by
  cases o with
  | refuse hr =>
    rcases hr with hr | hr | ⟨hl, hn⟩
    · omega
    · omega
    · have := look_true h hl; rw [hn] at this; cases this
  | noBuf _ hb => cases hb.isSome ho
  | pginFail _ _ _ hb _ hf => rw [hb.frame.inFail, hi] at hf; cases hf
  | _ => rfl

theorem GetOut.pinned {s : State} {pg d : Nat} {r : State × Option Nat} (o : GetOut s pg r) (h : r.2 = some d) :
    ∃ b, r.1.pages pg = some b ∧ b.pinned = true := by
  cases o with
  | refuse => cases h
  | noBuf => cases h
  | pginFail => cases h
  | _ => exact ⟨_, upd_same _ _ _, rfl⟩

theorem pinnedCount_insert {t : State} {pgno c : Nat} (hn : pgno ∉ t.lru)
    (hall : ∀ pg ∈ t.lru, ∀ b, t.pages pg = some b → b.pinned = true) (hc : ∀ pg ∈ t.lru, (t.pages pg).isSome = true) :
    pinnedCount (insertPage t pgno c) = t.lru.length + 1 := by
  unfold pinnedCount
  refine (congrArg List.length (List.filter_eq_self.2 ?_)).trans ?_
  · intro pg hin
    have hin0 : pg ∈ t.lru ++ [pgno] := hin
    rcases List.mem_append.1 hin0 with hin1 | hin2
    · have e : pg ≠ pgno := fun e => hn (e ▸ hin1)
      show (match upd t.pages pgno _ pg with | some b => b.pinned | none => false) = true
      rw [upd_other _ _ e]
      cases hp : t.pages pg with
      | none => have := hc pg hin1; rw [hp] at this; cases this
      | some b => exact hall pg hin1 b hp
    · simp only [List.mem_singleton] at hin2
      subst hin2
      show (match upd t.pages pg _ pg with | some b => b.pinned | none => false) = true
      rw [upd_same]
  · show (t.lru ++ [pgno]).length = _
    simp

/-- `mcache_get` (page-in callback never failing): `curcache` stays equal to the number of cached pages; it does not grow,
or it stays within `maxcache`, or it equals the number of PINNED pages (the cache grew because everything was pinned). -/
theorem GetOut.cur {s : State} {pgno : Nat} {r : State × Option Nat} (o : GetOut s pgno r) (h : Inv s) (hj : s.curcache = s.lru.length)
    (hi : ∀ pg, s.inFail pg = false) :
    r.1.curcache = r.1.lru.length ∧ r.1.maxcache = s.maxcache ∧
    (r.1.curcache = s.curcache ∨ r.1.curcache ≤ s.maxcache ∨ r.1.curcache = pinnedCount r.1) := by
  have fin : ∀ {s1 : State} {buf : Nat} (t : State) (c : Nat), BktOut s (s1, some buf) → mcacheLook s pgno = false →
      pgno ≤ s.npages → t.lru = s1.lru → t.pages = s1.pages → t.curcache = s1.curcache → t.maxcache = s1.maxcache →
      (insertPage t pgno c).curcache = (insertPage t pgno c).lru.length ∧ (insertPage t pgno c).maxcache = s.maxcache ∧
      ((insertPage t pgno c).curcache = s.curcache ∨ (insertPage t pgno c).curcache ≤ s.maxcache ∨
        (insertPage t pgno c).curcache = pinnedCount (insertPage t pgno c)) := fun t c ho hl h2 e1 e2 e3 e4 => by
    obtain ⟨c1, _, c4⟩ := ho.cur hj
    have c1' := c1 rfl
    have hlen : t.curcache = (t.lru ++ [pgno]).length := by rw [e3, e1, c1', List.length_append]; rfl
    refine ⟨hlen, e4.trans ho.frame.maxcache, ?_⟩
    show t.curcache = s.curcache ∨ t.curcache ≤ s.maxcache ∨ t.curcache = pinnedCount (insertPage t pgno c)
    rcases c4 with c4 | ⟨c4, l4, p4, _, c5 | c5⟩
    · exact Or.inl (by rw [e3, c4])
    · exact Or.inr (Or.inl (by rw [e3, c4]; omega))
    · refine Or.inr (Or.inr ?_)
      have hnl : pgno ∉ t.lru := by rw [e1, l4, h.lru_iff, look_false h hl h2]; simp
      rw [pinnedCount_insert hnl, e3, c1', e1]
      · intro pg hp b hb
        rw [e1, l4] at hp; rw [e2, p4] at hb
        exact victim_none c5 hp hb
      · intro pg hp
        rw [e1, l4] at hp; rw [e2, p4]
        exact (h.lru_iff pg).1 hp
  cases o with
  | refuse => exact ⟨hj, rfl, Or.inl rfl⟩
  | hit hb =>
    have hin : pgno ∈ s.lru := (h.lru_iff pgno).2 (by rw [hb]; rfl)
    refine ⟨?_, rfl, Or.inl rfl⟩
    show s.curcache = (s.lru.erase pgno ++ [pgno]).length
    have := List.length_erase_of_mem hin; have := List.length_pos_of_mem hin
    rw [List.length_append, List.length_singleton]; omega
  | noBuf _ ho =>
    obtain ⟨_, c2, c4⟩ := ho.cur hj
    refine ⟨c2 rfl, ho.frame.maxcache, ?_⟩
    rcases c4 with c4 | ⟨_, _, _, c4, _⟩
    · exact Or.inl c4
    · cases c4
  | pginFail _ _ _ ho _ hf => rw [ho.frame.inFail, hi] at hf; cases hf
  | pginOk _ h2 hl ho => exact fin _ _ ho hl h2 rfl rfl rfl rfl
  | fresh _ h2 hl ho => exact fin _ _ ho hl h2 rfl rfl rfl rfl

theorem setBkt_setBkt (s : State) (pg : Nat) (a b : Bkt) : setBkt (setBkt s pg a) pg b = setBkt s pg b := by
  simp [setBkt, upd_upd]

theorem mcachePut_none {s : State} {pg : Nat} (h : s.pages pg = none) (fl : Nat) : mcachePut s pg fl = (s, false) := by
  simp [mcachePut, h]

theorem mcachePut_clean {s : State} {pg : Nat} {b : Bkt} (h : s.pages pg = some b) :
    mcachePut s pg 0 = (if b.dirty then setEflags (setBkt s pg { b with pinned := false }) (isPg pg) pg ELEM_WRITTEN
                        else setBkt s pg { b with pinned := false }, true) := by
  simp only [mcachePut, h]
  cases b with
  | mk d p dd => cases dd <;> simp

theorem mcachePut_dirty {s : State} {pg : Nat} {b : Bkt} (h : s.pages pg = some b) :
    mcachePut s pg MCACHE_DIRTY = (setEflags (setBkt s pg { b with pinned := false, dirty := true }) (isPg pg) pg ELEM_WRITTEN, true) := by
  have : (MCACHE_DIRTY &&& MCACHE_DIRTY != 0) = true := by decide
  simp only [mcachePut, h, this, Bool.or_true, if_true]

theorem mcachePut_frame (s : State) (pg fl : Nat) :
    Frame s (mcachePut s pg fl).1 ∧ (mcachePut s pg fl).1.lru = s.lru ∧ (mcachePut s pg fl).1.curcache = s.curcache := by
  unfold mcachePut
  split
  · exact ⟨{}, rfl, rfl⟩
  · dsimp only
    split <;> exact ⟨{}, rfl, rfl⟩

theorem mcachePut_pages_other (s : State) (pg fl : Nat) {pg' : Nat} (e : pg' ≠ pg) :
    (mcachePut s pg fl).1.pages pg' = s.pages pg' := by
  unfold mcachePut
  split
  · rfl
  · dsimp only
    split
    · show upd s.pages pg _ pg' = _; rw [upd_other _ _ e]
    · show upd s.pages pg _ pg' = _; rw [upd_other _ _ e]

theorem mcachePut_isSome (s : State) (pg fl pg' : Nat) :
    ((mcachePut s pg fl).1.pages pg').isSome = (s.pages pg').isSome := by
  unfold mcachePut
  cases hp : s.pages pg with
  | none => rfl
  | some b =>
    dsimp only
    split <;> exact isSome_upd_some _ _ (by rw [hp]; rfl) pg'

theorem mcachePut_ok {s : State} {pg : Nat} {b : Bkt} (hb : s.pages pg = some b) (fl : Nat) : (mcachePut s pg fl).2 = true := by
  simp [mcachePut, hb]

theorem mcachePut_clean_rel {s : State} {m : Nat → Option Nat} (h : Rel s m) (pg : Nat) : Rel (mcachePut s pg 0).1 m := by
  cases hp : s.pages pg with
  | none => rw [mcachePut_none hp]; exact h
  | some b =>
    rw [mcachePut_clean hp]
    have h1 : Rel (setBkt s pg { b with pinned := false }) m := rel_setBkt_same h hp rfl rfl
    dsimp only
    split
    · exact rel_setEflags h1 _ _ elem_written_ne
    · exact h1

theorem syncWalk_cons (s : State) (pg : Nat) (rest : List Nat) :
    (syncWalk s (pg :: rest) = syncWalk s rest ∧ ∀ b, s.pages pg = some b → b.dirty = false) ∨
    ∃ b, s.pages pg = some b ∧ b.dirty = true ∧
      (((mcacheWrite s pg b).2 = false ∧ syncWalk s (pg :: rest) = ((mcacheWrite s pg b).1, false)) ∨
       ((mcacheWrite s pg b).2 = true ∧ syncWalk s (pg :: rest) = syncWalk (mcacheWrite s pg b).1 rest)) := by
  rw [syncWalk]
  cases hp : s.pages pg with
  | none => exact Or.inl ⟨rfl, fun _ hb => by cases hb⟩
  | some b =>
    by_cases hd : b.dirty = true
    · refine Or.inr ⟨b, rfl, hd, ?_⟩
      simp only [hd, if_true]
      cases hr : (mcacheWrite s pg b).2
      · exact Or.inl ⟨rfl, by rw [show mcacheWrite s pg b = ((mcacheWrite s pg b).1, false) by rw [← hr]]⟩
      · exact Or.inr ⟨rfl, by rw [show mcacheWrite s pg b = ((mcacheWrite s pg b).1, true) by rw [← hr]]⟩
    · have hd' : b.dirty = false := by simpa using hd
      exact Or.inl ⟨by simp only [hd', Bool.false_eq_true, if_false], fun b' hb' => by cases hb'; exact hd'⟩

/-- `mcache_sync` is a sequence of `mcache_write`s of dirty cached pages -/
theorem syncWalk_ind {P : State → State → Prop} (refl : ∀ s, P s s) (trans : ∀ {a b c}, P a b → P b c → P a c)
    (step : ∀ s pg b, s.pages pg = some b → b.dirty = true → P s (mcacheWrite s pg b).1) :
    ∀ (l : List Nat) (s : State), P s (syncWalk s l).1
  | [], s => refl s
  | pg :: rest, s => by
    rcases syncWalk_cons s pg rest with ⟨e, _⟩ | ⟨b, hp, hd, ⟨_, e⟩ | ⟨_, e⟩⟩ <;> rw [e]
    · exact syncWalk_ind refl trans step rest s
    · exact step s pg b hp hd
    · exact trans (step s pg b hp hd) (syncWalk_ind refl trans step rest _)

theorem syncWalk_frame (l : List Nat) (s : State) : Frame s (syncWalk s l).1 :=
  syncWalk_ind Frame.refl Frame.trans (fun s pg b _ _ => mcacheWrite_frame s pg b) l s

theorem syncWalk_cur (l : List Nat) (s : State) : (syncWalk s l).1.lru = s.lru ∧ (syncWalk s l).1.curcache = s.curcache :=
  syncWalk_ind (P := fun s s' => s'.lru = s.lru ∧ s'.curcache = s.curcache) (fun _ => ⟨rfl, rfl⟩)
    (fun h1 h2 => ⟨h2.1.trans h1.1, h2.2.trans h1.2⟩) (fun s pg b _ _ => ⟨mcacheWrite_lru s pg b, mcacheWrite_curcache s pg b⟩) l s

theorem syncWalk_rel {m : Nat → Option Nat} (l : List Nat) (s : State) (h : Rel s m) : Rel (syncWalk s l).1 m :=
  syncWalk_ind (P := fun s s' => Rel s m → Rel s' m) (fun _ h => h) (fun h1 h2 h => h2 (h1 h))
    (fun _ _ _ hp _ h => mcacheWrite_rel h hp) l s h

theorem syncWalk_bkt (l : List Nat) (s : State) : ∀ pg, (s.pages pg = none → (syncWalk s l).1.pages pg = none) ∧
    ∀ b, s.pages pg = some b →
      (syncWalk s l).1.pages pg = some b ∨ (b.dirty = true ∧ (syncWalk s l).1.pages pg = some { b with dirty := false }) := by
  refine syncWalk_ind (P := fun s s' => ∀ pg, (s.pages pg = none → s'.pages pg = none) ∧ ∀ b, s.pages pg = some b →
      s'.pages pg = some b ∨ (b.dirty = true ∧ s'.pages pg = some { b with dirty := false }))
    (fun _ _ => ⟨id, fun _ hb => Or.inl hb⟩) (fun {a b c} h1 h2 pg => ⟨fun hn => (h2 pg).1 ((h1 pg).1 hn), fun x hx => ?_⟩)
    (fun s pg b hp hd pg' => ?_) l s
  · rcases (h1 pg).2 x hx with h | ⟨hd, h⟩
    · exact (h2 pg).2 x h
    · rcases (h2 pg).2 _ h with h' | ⟨hd', _⟩
      · exact Or.inr ⟨hd, h'⟩
      · cases hd'
  · cases hr : (mcacheWrite s pg b).2
    · rw [(mcacheWrite_fail hr).2.1]; exact ⟨id, fun _ hb => Or.inl hb⟩
    · rw [(mcacheWrite_ok hr).2.1, upd_apply]
      split
      · rename_i e; subst e
        exact ⟨fun hn => (by rw [hp] at hn; cases hn), fun x hx => by rw [hp] at hx; cases hx; exact Or.inr ⟨hd, rfl⟩⟩
      · exact ⟨id, fun _ hb => Or.inl hb⟩

theorem syncWalk_pages (l : List Nat) (s : State) (pg : Nat) (b : Bkt) (hb : s.pages pg = some b) :
    ∃ b', (syncWalk s l).1.pages pg = some b' ∧ b'.pinned = b.pinned ∧ b'.data = b.data := by
  rcases (syncWalk_bkt l s pg).2 b hb with h | ⟨_, h⟩
  · exact ⟨b, h, rfl, rfl⟩
  · exact ⟨_, h, rfl, rfl⟩

theorem syncWalk_ok : ∀ (l : List Nat) (s : State), (∀ pg, s.outFail pg = false) → (syncWalk s l).2 = true
  | [], _, _ => rfl
  | pg :: rest, s, ho => by
    rcases syncWalk_cons s pg rest with ⟨e, _⟩ | ⟨b, hp, hd, ⟨hr, _⟩ | ⟨_, e⟩⟩
    · rw [e]; exact syncWalk_ok rest s ho
    · rw [mcacheWrite_succeeds (ho pg)] at hr; cases hr
    · rw [e]; exact syncWalk_ok rest _ (by rw [(mcacheWrite_frame s pg b).outFail]; exact ho)

theorem syncWalk_clean : ∀ (l : List Nat) (s : State), (syncWalk s l).2 = true →
    ∀ pg ∈ l, ∀ b, (syncWalk s l).1.pages pg = some b → b.dirty = false
  | [], _, _, _, hin, _, _ => by cases hin
  | pg :: rest, s, hok, pg', hin, b', hb' => by
    -- the head, once clean (or not cached), is not touched by the rest of the walk
    have head : ∀ t : State, (∀ b, t.pages pg = some b → b.dirty = false) → (syncWalk t rest).1.pages pg = some b' →
        b'.dirty = false := fun t ht hf => by
      cases hp : t.pages pg with
      | none => rw [(syncWalk_bkt rest t pg).1 hp] at hf; cases hf
      | some b =>
        rcases (syncWalk_bkt rest t pg).2 b hp with h | ⟨hd, _⟩
        · rw [h] at hf; cases hf; exact ht _ hp
        · rw [ht b hp] at hd; cases hd
    rcases syncWalk_cons s pg rest with ⟨e, hc⟩ | ⟨b, hp, hd, ⟨_, e⟩ | ⟨hr, e⟩⟩ <;> rw [e] at hok hb'
    · rcases List.mem_cons.1 hin with rfl | hin
      · exact head s hc hb'
      · exact syncWalk_clean rest s hok pg' hin b' hb'
    · cases hok
    · rcases List.mem_cons.1 hin with rfl | hin
      · refine head _ (fun x hx => ?_) hb'
        rw [(mcacheWrite_ok hr).2.1, upd_same] at hx; cases hx; rfl
      · exact syncWalk_clean rest _ hok pg' hin b' hb'

theorem mcacheSync_spec {s : State} {m : Nat → Option Nat} (h : Rel s m) :
    Rel (mcacheSync s).1 m ∧
    ((mcacheSync s).2 = true →
      (∀ pg b, (mcacheSync s).1.pages pg = some b → b.dirty = false) ∧
      (∀ pg v, m pg = some v → (mcacheSync s).1.backing pg = v)) := by
  have i1 := syncWalk_rel s.lru s h
  refine ⟨i1, fun hok => ?_⟩
  have hclean : ∀ pg b, (mcacheSync s).1.pages pg = some b → b.dirty = false := fun pg b hb =>
    syncWalk_clean s.lru s hok pg ((syncWalk_cur s.lru s).1 ▸ (i1.inv.lru_iff pg).2 (by rw [show (syncWalk s s.lru).1.pages pg = some b from hb]; rfl)) b hb
  refine ⟨hclean, fun pg v hv => ?_⟩
  cases hp : (mcacheSync s).1.pages pg with
  | none => exact i1.val_n pg v hv hp
  | some b => exact (i1.val_c pg v b hv hp).2 (hclean pg b hp)

theorem rel_setMax {s : State} {m : Nat → Option Nat} (h : Rel s m) (n : Nat) : Rel (mcacheSetMaxcache s n) m := by
  unfold mcacheSetMaxcache
  split
  · exact h.congr rfl rfl rfl rfl rfl (fun _ _ hl => hl) (fun _ _ hl => hl) (Nat.le_refl _)
  · split
    · exact h.congr rfl rfl rfl rfl rfl (fun _ _ hl => hl) (fun _ _ hl => hl) (Nat.le_refl _)
    · exact h

theorem step_closed {s : State} (h : s.closed = true) (op : Op) : step s op = (s, .undef) := by
  cases op <;> simp [step, call, h]

theorem step_get_eq {s : State} (hc : s.closed = false) (pg : Nat) :
    step s (.get pg) = ((mcacheGet s pg).1, match (mcacheGet s pg).2 with | some d => Ret.page d | none => Ret.fail) := by
  simp only [step, call, hc, Bool.false_eq_true, if_false]
  cases hr : mcacheGet s pg with
  | mk s' r => cases r <;> rfl

theorem step_sync_eq {s : State} (hc : s.closed = false) :
    step s .sync = ((mcacheSync s).1, if (mcacheSync s).2 then Ret.ok else Ret.fail) := by
  simp only [step, call, hc, Bool.false_eq_true, if_false]
  cases hr : mcacheSync s with
  | mk s' r => cases r <;> rfl

theorem step_close_eq {s : State} (hc : s.closed = false) : step s .close = (mcacheClose s, .ok) := by
  simp [step, call, hc]

theorem call_put {s : State} (hc : s.closed = false) (pg fl : Nat) :
    call s (.put pg fl) = ((mcachePut s pg fl).1, if (mcachePut s pg fl).2 then Ret.ok else Ret.fail) := by
  simp only [call, hc, Bool.false_eq_true, if_false]
  cases hr : mcachePut s pg fl with
  | mk s' r => cases r <;> rfl

inductive StepOut (s : State) : Op → State × Ret → Prop
  | closed (op : Op) : s.closed = true → StepOut s op (s, .undef)
  | get (pg : Nat) : s.closed = false →
      StepOut s (.get pg) ((mcacheGet s pg).1, match (mcacheGet s pg).2 with | some d => Ret.page d | none => Ret.fail)
  | putDirty {pg : Nat} {b : Bkt} (v : Nat) : s.closed = false → s.pages pg = some b →
      StepOut s (.putDirty pg v) (setEflags (setBkt s pg { data := v, pinned := false, dirty := true }) (isPg pg) pg ELEM_WRITTEN, .ok)
  | putDirtyRefused {pg : Nat} (v : Nat) : s.closed = false → s.pages pg = none → StepOut s (.putDirty pg v) (s, .fail)
  | putClean (pg : Nat) : s.closed = false →
      StepOut s (.putClean pg) ((mcachePut s pg 0).1, if (mcachePut s pg 0).2 then Ret.ok else Ret.fail)
  | sync : s.closed = false → StepOut s .sync ((mcacheSync s).1, if (mcacheSync s).2 then Ret.ok else Ret.fail)
  | setMax (n : Nat) : s.closed = false → StepOut s (.setMax n) (mcacheSetMaxcache s n, .val (mcacheSetMaxcache s n).maxcache)
  | close : s.closed = false → StepOut s .close (mcacheClose s, .ok)

theorem step_out (s : State) (op : Op) : StepOut s op (step s op) := by
  cases hc : s.closed
  case true => rw [step_closed hc]; exact .closed op hc
  case false =>
  cases op with
  | get pg => rw [step_get_eq hc]; exact .get pg hc
  | putDirty pg v =>
    rw [show step s (.putDirty pg v) = call (call s (.write pg v)).1 (.put pg MCACHE_DIRTY) from rfl]
    cases hb : s.pages pg with
    | none =>
      rw [show call s (.write pg v) = (s, .fail) by simp [call, hc, userWrite, hb], call_put hc, mcachePut_none hb]
      exact .putDirtyRefused v hc hb
    | some b =>
      rw [show call s (.write pg v) = (setBkt s pg { b with data := v }, .ok) by simp [call, hc, userWrite, hb],
        call_put (show (setBkt s pg { b with data := v }).closed = false from hc),
        mcachePut_dirty (show (setBkt s pg { b with data := v }).pages pg = some { b with data := v } by simp [setBkt]), setBkt_setBkt]
      exact .putDirty v hc hb
  | putClean pg => rw [show step s (.putClean pg) = call s (.put pg 0) from rfl, call_put hc]; exact .putClean pg hc
  | sync => rw [step_sync_eq hc]; exact .sync hc
  | setMax n =>
    rw [show step s (.setMax n) = (mcacheSetMaxcache s n, .val (mcacheSetMaxcache s n).maxcache) by simp [step, call, hc]]
    exact .setMax n hc
  | close => rw [step_close_eq hc]; exact .close hc

def Ok (s : State) (m : Nat → Option Nat) : Prop := (s.closed = true ∧ Inv s) ∨ Rel s m

theorem Ok.inv {s : State} {m : Nat → Option Nat} (h : Ok s m) : Inv s := by
  rcases h with h | h
  · exact h.2
  · exact h.inv

theorem inv_close (s : State) : Inv (mcacheClose s) := Inv.of_empty rfl rfl rfl

theorem Ok.rel {s : State} {m : Nat → Option Nat} (h : Ok s m) (hc : s.closed = false) : Rel s m :=
  h.resolve_left fun hx => by rw [hc] at hx; cases hx.1

theorem StepOut.ok {s s' : State} {m : Nat → Option Nat} {op : Op} {r : Ret} (h : Ok s m) (o : StepOut s op (s', r)) :
    Ok s' (specStep m op r) ∧ Good s' m op r := by
  cases o with
  | closed _ hc => exact ⟨Or.inl ⟨hc, h.inv⟩, by cases op <;> trivial⟩
  | get pg hc =>
    obtain ⟨h1, h2⟩ := (mcacheGet_out s pg).spec (h.rel hc)
    cases hr : (mcacheGet s pg).2 with
    | none => exact ⟨Or.inr h1, trivial⟩
    | some d => exact ⟨Or.inr h1, h2 d hr⟩
  | putDirty v hc hp => exact ⟨Or.inr (rel_setBkt_dirty (h.rel hc) (by rw [hp]; rfl) rfl elem_written_ne), trivial⟩
  | putDirtyRefused v hc _ => exact ⟨Or.inr (h.rel hc), trivial⟩
  | putClean pg hc => exact ⟨Or.inr (mcachePut_clean_rel (h.rel hc) pg), by split <;> trivial⟩
  | sync hc =>
    obtain ⟨h1, h2⟩ := mcacheSync_spec (h.rel hc)
    cases hr : (mcacheSync s).2 with
    | false => exact ⟨Or.inr h1, trivial⟩
    | true => exact ⟨Or.inr h1, (h2 hr).2⟩
  | setMax n hc => exact ⟨Or.inr (rel_setMax (h.rel hc) n), trivial⟩
  | close _ => exact ⟨Or.inl ⟨rfl, inv_close s⟩, trivial⟩

theorem step_ok {s : State} {m : Nat → Option Nat} (h : Ok s m) (op : Op) :
    Ok (step s op).1 (specStep m op (step s op).2) ∧ Good (step s op).1 m op (step s op).2 :=
  (step_out s op).ok h

theorem run_ok : ∀ (ops : List Op) (s : State) (m : Nat → Option Nat), Ok s m → ∃ m', Ok (run s ops).1 m'
  | [], _, m, h => ⟨m, h⟩
  | op :: ops, _, _, h => run_ok ops _ _ (step_ok h op).1

theorem refines_of_ok : ∀ (ops : List Op) (s : State) (m : Nat → Option Nat), Ok s m → Refines s m ops
  | [], _, _, _ => trivial
  | op :: ops, _, _, h => ⟨(step_ok h op).2, refines_of_ok ops _ _ (step_ok h op).1⟩

theorem lhLoop_aux (ef : Nat) : ∀ (l : List Nat) (acc : Nat → List (Nat × Nat)) (k : Nat),
    l.foldl (fun lh pg => upd lh (hashKey pg) ((pg, ef) :: lh (hashKey pg))) acc k =
      ((l.reverse.filter fun pg => hashKey pg == k).map fun pg => (pg, ef)) ++ acc k
  | [], _, _ => rfl
  | a :: l, acc, k => by
    rw [List.foldl_cons, lhLoop_aux ef l, List.reverse_cons, List.filter_append, List.map_append, List.append_assoc]
    congr 1
    simp only [List.filter_cons, List.filter_nil, upd_apply]
    by_cases e : k = hashKey a
    · subst e; simp
    · have : (hashKey a == k) = false := by simp; exact fun h => e h.symm
      simp [this, e]

/-- the closed form used by the model is the C loop -/
theorem lhInit_eq_loop (npages ef : Nat) : lhInit npages ef = lhInitLoop npages ef := by
  funext k
  unfold lhInit lhInitLoop
  rw [lhLoop_aux]; simp

theorem inv_open (maxcache npages flags : Nat) (backing : Nat → Nat) (garbage : Nat) (inFail outFail : Nat → Bool) :
    Inv (mcacheOpen maxcache npages flags backing garbage inFail outFail) := Inv.of_empty rfl rfl rfl

theorem lhInit_nz {npages ef pg : Nat} (h1 : 1 ≤ pg) (h2 : pg ≤ npages) (hef : ef ≠ 0) :
    lelemNZ (lhInit npages ef (hashKey pg)) pg := by
  refine ⟨(pg, ef), ?_, rfl, hef⟩
  simp only [lhInit, List.mem_map, List.mem_filter, List.mem_reverse, List.mem_range'_1]
  exact ⟨pg, ⟨⟨h1, by omega⟩, by simp⟩, rfl⟩

theorem rel_open (maxcache npages flags : Nat) (backing : Nat → Nat) (garbage : Nat) (inFail outFail : Nat → Bool) :
    Rel (mcacheOpen maxcache npages flags backing garbage inFail outFail) (specInit npages flags backing) := by
  refine ⟨inv_open _ _ _ _ _ _ _, ?_, ?_, ?_, ?_⟩
  · intro pg v b _ hb; simp [mcacheOpen] at hb
  · intro pg v hv _
    simp only [specInit] at hv
    split at hv
    · simp only [Option.some.injEq] at hv; exact hv
    · cases hv
  · intro pg b hb; simp [mcacheOpen] at hb
  · intro pg v hv
    simp only [specInit] at hv
    split at hv
    · rename_i hc
      simp only [mcacheOpen, hc.1, if_true]
      exact lhInit_nz hc.2.1 hc.2.2 elem_sync_ne
    · cases hv

def NoFail (s : State) : Prop := (∀ pg, s.inFail pg = false) ∧ (∀ pg, s.outFail pg = false)

theorem setMax_pages (s : State) (n : Nat) :
    (mcacheSetMaxcache s n).pages = s.pages ∧ (mcacheSetMaxcache s n).closed = s.closed ∧
    (mcacheSetMaxcache s n).npages = s.npages ∧ (mcacheSetMaxcache s n).inFail = s.inFail ∧
    (mcacheSetMaxcache s n).outFail = s.outFail := by
  unfold mcacheSetMaxcache
  split
  · exact ⟨rfl, rfl, rfl, rfl, rfl⟩
  · split <;> exact ⟨rfl, rfl, rfl, rfl, rfl⟩

theorem StepOut.static {s : State} {op : Op} {p : State × Ret} (o : StepOut s op p) :
    p.1.inFail = s.inFail ∧ p.1.outFail = s.outFail ∧ p.1.npages = s.npages := by
  have of : ∀ {s' : State}, Frame s s' → s'.inFail = s.inFail ∧ s'.outFail = s.outFail ∧ s'.npages = s.npages :=
    fun f => ⟨f.inFail, f.outFail, f.npages⟩
  cases o with
  | get pg _ => exact of (mcacheGet_out s pg).frame
  | putClean pg _ => exact of (mcachePut_frame s pg 0).1
  | sync _ => exact of (syncWalk_frame s.lru s)
  | setMax n _ => obtain ⟨_, _, hn, hi, ho⟩ := setMax_pages s n; exact ⟨hi, ho, hn⟩
  | _ => exact ⟨rfl, rfl, rfl⟩

theorem NoFail.step {s : State} (h : NoFail s) (op : Op) : NoFail (MCache.step s op).1 := by
  obtain ⟨i1, i2, _⟩ := (step_out s op).static
  exact ⟨by rw [i1]; exact h.1, by rw [i2]; exact h.2⟩

instance decPinBound (K : Nat) : ∀ (s : State) (ops : List Op), Decidable (PinBound K s ops)
  | s, [] => inferInstanceAs (Decidable (pinnedCount s ≤ K))
  | s, op :: ops => @instDecidableAnd _ _ _ (decPinBound K (step s op).1 ops)

def absMap (npages : Nat) (a : Abs) : Nat → Option Nat := fun pg => if 1 ≤ pg ∧ pg ≤ npages then some (a.m pg) else none

def Held (s : State) (l : List Nat) : Prop := ∀ pg ∈ l, ∃ b, s.pages pg = some b ∧ b.pinned = true

theorem Held.mono {s s' : State} {l l' : List Nat} (h : Held s l) (hl : ∀ pg ∈ l', pg ∈ l)
    (hp : ∀ pg ∈ l', ∀ b, s.pages pg = some b → b.pinned = true → ∃ b', s'.pages pg = some b' ∧ b'.pinned = true) : Held s' l' :=
  fun pg hin => let ⟨b, hb, hpn⟩ := h pg (hl pg hin); hp pg hin b hb hpn

/-- simulation relation: same open/closed status; while open the cache refines the object's map, its callbacks do not
fail, and every page the client holds is cached and pinned -/
structure Sim (npages : Nat) (s : State) (a : Abs) : Prop where
  closed : s.closed = a.closed
  inv : Inv s
  live : a.closed = false → Rel s (absMap npages a) ∧ s.npages = npages ∧ NoFail s ∧
    ∀ pg ∈ a.held, ∃ b, s.pages pg = some b ∧ b.pinned = true

theorem Sim.next {npages : Nat} {s s' : State} {a' : Abs} (hc : s.closed = false) (hnp : s.npages = npages) (hnf : NoFail s)
    (ha' : a'.closed = false) (f : Frame s s') (hr : Rel s' (absMap npages a')) (hh : Held s' a'.held) : Sim npages s' a' :=
  ⟨by rw [f.closed, hc, ha'], hr.inv,
    fun _ => ⟨hr, f.npages.trans hnp, ⟨fun pg => by rw [f.inFail]; exact hnf.1 pg, fun pg => by rw [f.outFail]; exact hnf.2 pg⟩, hh⟩⟩

theorem StepOut.of_closed {s : State} {op : Op} {p : State × Ret} (o : StepOut s op p) (h : s.closed = true) : p = (s, .undef) := by
  cases o <;> simp_all

theorem StepOut.sim {npages : Nat} {s : State} {a a' : Abs} {op : Op} {p : State × Ret} {r : Ret} (o : StepOut s op p)
    (h : Sim npages s a) (ha : absStep npages a op = some (a', r)) : Sim npages p.1 a' ∧ obs p.2 = r := by
  unfold absStep at ha
  cases hac : a.closed
  case true =>
    rw [hac, if_pos rfl] at ha
    cases ha
    rw [o.of_closed (by rw [h.closed, hac])]
    exact ⟨h, rfl⟩
  case false =>
  rw [hac] at ha
  simp only [Bool.false_eq_true, if_false] at ha
  have hc : s.closed = false := by rw [h.closed, hac]
  obtain ⟨hrel, hnp, hnf, hheld⟩ := h.live hac
  have hheld : Held s a.held := hheld
  cases o with
  | closed _ hx => rw [hc] at hx; cases hx
  | get pg _ =>
    have og := mcacheGet_out s pg
    simp only at ha
    split at ha
    · rename_i hr
      cases ha
      rw [show mcacheGet s pg = (s, none) by unfold mcacheGet; rw [if_pos (by rw [hnp]; exact hr)]]
      exact ⟨h, rfl⟩
    · rename_i hr
      cases ha
      have h1 : 1 ≤ pg := by omega
      have h2 : pg ≤ npages := by omega
      have hsome := og.isSome hrel.inv hnf.1 hnf.2 h1 (by rw [hnp]; exact h2)
      obtain ⟨hrel', hval⟩ := og.spec hrel
      cases hd : (mcacheGet s pg).2 with
      | none => rw [hd] at hsome; cases hsome
      | some d =>
        refine ⟨Sim.next hc hnp hnf rfl og.frame hrel' fun pg' hin => ?_,
          by rw [hval d hd (a.m pg) (by simp [absMap, h1, h2])]; rfl⟩
        rcases List.mem_cons.1 hin with rfl | hin
        · exact og.pinned hd
        · refine hheld.mono (fun _ h => h) (fun pg' _ b hb hp => ?_) pg' hin
          rcases og.pages hrel.inv hb with ⟨b', hb', _, _, hp'⟩ | ⟨_, hp', _⟩
          · exact ⟨b', hb', hp' hp⟩
          · rw [hp] at hp'; cases hp'
  | @putDirty pg b v _ hb =>
    simp only at ha
    split at ha
    · cases ha
      have hcs : (s.pages pg).isSome = true := by rw [hb]; rfl
      have hrange := hrel.inv.range pg hcs
      have hrel' := rel_setBkt_dirty (b' := { data := v, pinned := false, dirty := true }) hrel hcs rfl elem_written_ne
      have hmap : upd (absMap npages a) pg (some v) =
          absMap npages { a with m := upd a.m pg v, held := a.held.filter (· != pg) } := by
        funext pg'
        simp only [absMap, upd_apply]
        by_cases e : pg' = pg
        · subst e; simp [hrange.1, hnp ▸ hrange.2]
        · simp [e]
      rw [hmap] at hrel'
      exact ⟨Sim.next hc hnp hnf rfl {} hrel' (hheld.mono (fun _ h => (List.mem_filter.1 h).1) fun pg' hin b' hb' hp' =>
        ⟨b', (upd_other _ _ (by simpa using (List.mem_filter.1 hin).2)).trans hb', hp'⟩), rfl⟩
    · cases ha
  | @putDirtyRefused pg v _ hn =>
    simp only at ha
    split at ha
    · rename_i hin
      obtain ⟨b, hb, _⟩ := hheld pg hin
      rw [hn] at hb; cases hb
    · cases ha
  | putClean pg _ =>
    simp only at ha
    split at ha
    · rename_i hin
      cases ha
      obtain ⟨b, hb, _⟩ := hheld pg hin
      rw [mcachePut_ok hb]
      exact ⟨Sim.next hc hnp hnf rfl (mcachePut_frame s pg 0).1 (mcachePut_clean_rel hrel pg)
        (hheld.mono (fun _ h => (List.mem_filter.1 h).1) fun pg' hin b' hb' hp' =>
          ⟨b', by rw [mcachePut_pages_other s pg 0 (by simpa using (List.mem_filter.1 hin).2)]; exact hb', hp'⟩), rfl⟩
    · cases ha
  | sync _ =>
    cases ha
    rw [show (mcacheSync s).2 = true from syncWalk_ok s.lru s hnf.2]
    exact ⟨Sim.next hc hnp hnf hac (syncWalk_frame s.lru s) (mcacheSync_spec hrel).1 (hheld.mono (fun _ h => h) fun pg _ b hb hp =>
      let ⟨b', hb', hp', _⟩ := syncWalk_pages s.lru s pg b hb; ⟨b', hb', hp'.trans hp⟩), rfl⟩
  | setMax n _ =>
    cases ha
    obtain ⟨m1, m2, m3, m4, m5⟩ := setMax_pages s n
    exact ⟨⟨m2.trans h.closed, (rel_setMax hrel n).inv, fun _ => ⟨rel_setMax hrel n, m3.trans hnp,
      ⟨fun pg => by rw [m4]; exact hnf.1 pg, fun pg => by rw [m5]; exact hnf.2 pg⟩, fun pg hin => by rw [m1]; exact hheld pg hin⟩⟩, rfl⟩
  | close _ =>
    cases ha
    exact ⟨⟨rfl, inv_close s, fun hf => by cases hf⟩, rfl⟩

theorem sim_run {npages : Nat} : ∀ (ops : List Op) (s : State) (a : Abs) (rs : List Ret), Sim npages s a →
    absRun npages a ops = some rs → (run s ops).2.map obs = rs
  | [], _, _, rs, _, ha => by simp only [absRun, Option.some.injEq] at ha; subst ha; rfl
  | op :: ops, s, a, rs, h, ha => by
    unfold absRun at ha
    cases hs : absStep npages a op with
    | none => rw [hs] at ha; cases ha
    | some p =>
      obtain ⟨a', r⟩ := p
      rw [hs] at ha
      simp only [Option.map_eq_some_iff] at ha
      obtain ⟨rs', hrs', rfl⟩ := ha
      obtain ⟨h', hr⟩ := (step_out s op).sim h hs
      have := sim_run ops _ a' rs' h' hrs'
      simp only [run, List.map_cons, hr, this]

theorem sim_open (maxcache npages : Nat) (backing : Nat → Nat) (garbage : Nat) :
    Sim npages (mcacheOpen maxcache npages 0 backing garbage) { m := backing } := by
  have hr := rel_open maxcache npages 0 backing garbage (fun _ => false) (fun _ => false)
  have hm : specInit npages 0 backing = absMap npages { m := backing } := by
    funext pg; simp [specInit, absMap]
  rw [hm] at hr
  exact ⟨rfl, hr.inv, fun _ => ⟨hr, rfl, ⟨fun _ => rfl, fun _ => rfl⟩, fun pg hin => by cases hin⟩⟩

theorem StepOut.bound {K : Nat} {s : State} {m : Nat → Option Nat} {op : Op} {p : State × Ret} (o : StepOut s op p) (h : Ok s m)
    (hj : s.curcache = s.lru.length) (hi : ∀ pg, s.inFail pg = false) (hb : s.curcache ≤ max s.maxcache K) (hk : pinnedCount p.1 ≤ K) :
    p.1.curcache = p.1.lru.length ∧ p.1.curcache ≤ max p.1.maxcache K := by
  have same : ∀ {s' : State}, s'.lru = s.lru → s'.curcache = s.curcache → s'.maxcache = s.maxcache →
      s'.curcache = s'.lru.length ∧ s'.curcache ≤ max s'.maxcache K := fun e1 e2 e3 => by rw [e1, e2, e3]; exact ⟨hj, hb⟩
  cases o with
  | get pg _ =>
    obtain ⟨g1, g2, g3⟩ := (mcacheGet_out s pg).cur h.inv hj hi
    refine ⟨g1, ?_⟩
    rw [g2]
    rcases g3 with g3 | g3 | g3
    · rw [g3]; exact hb
    · exact Nat.le_trans g3 (Nat.le_max_left _ _)
    · rw [g3]; exact Nat.le_trans hk (Nat.le_max_right _ _)
  | putClean pg _ =>
    obtain ⟨f, p1, p2⟩ := mcachePut_frame s pg 0
    exact same p1 p2 f.maxcache
  | sync _ => exact same (syncWalk_cur s.lru s).1 (syncWalk_cur s.lru s).2 (syncWalk_frame s.lru s).maxcache
  | setMax n _ =>
    unfold mcacheSetMaxcache
    split
    · exact ⟨hj, Nat.le_trans hb (by show max s.maxcache K ≤ max n K; omega)⟩
    · split
      · exact ⟨hj, by show s.curcache ≤ max n K; omega⟩
      · exact ⟨hj, hb⟩
  | close _ => exact ⟨rfl, Nat.zero_le _⟩
  | _ => exact ⟨hj, hb⟩

theorem run_bound {K : Nat} : ∀ (ops : List Op) (s : State) (m : Nat → Option Nat), Ok s m → s.curcache = s.lru.length →
    (∀ pg, s.inFail pg = false) → s.curcache ≤ max s.maxcache K → PinBound K s ops →
    (run s ops).1.curcache = (run s ops).1.lru.length ∧ (run s ops).1.curcache ≤ max (run s ops).1.maxcache K
  | [], _, _, _, hj, _, hb, _ => ⟨hj, hb⟩
  | op :: ops, s, m, h, hj, hi, hb, hp => by
    have hk : pinnedCount (step s op).1 ≤ K := by
      cases ops with
      | nil => exact hp.2
      | cons _ _ => exact hp.2.1
    obtain ⟨j', b'⟩ := (step_out s op).bound h hj hi hb hk
    exact run_bound ops _ _ (step_ok h op).1 j' (by rw [(step_out s op).static.1]; exact hi) b' hp.2

end H4.MCache
