import H4.ElemSpec
/-! The block walk of `HLPread`/`HLPwrite` tiles the requested byte range; a position lies in exactly one block (pure arithmetic). -/
namespace H4.Elem

theorem blockStart_succ (first blk b : Nat) :
    blockStart first blk (b + 1) = blockStart first blk b + blockLenOf first blk b := by
  unfold blockStart blockLenOf
  cases b with
  | zero => simp
  | succ k => simp [Nat.add_mul]; omega

/-- `ps` tile `[p, e)` exactly once, in order: every piece lies inside one block (`idx` within the table, `rel + n` within
    the block's length `cur`), is non-empty, and starts at the element position where the previous one ended -/
def Tiles (first blk nb : Nat) : Nat → List Piece → Nat → Prop
  | p, [], e => p = e
  | p, q :: rest, e =>
    q.idx < nb ∧ q.cur = blockLenOf first blk (q.tbl * nb + q.idx) ∧ 1 ≤ q.n ∧ q.rel + q.n ≤ q.cur ∧
    blockStart first blk (q.tbl * nb + q.idx) + q.rel = p ∧ Tiles first blk nb (p + q.n) rest e

theorem walkFrom_tiles (first blk nb : Nat) (hblk : 1 ≤ blk) :
    ∀ (fuel t idx rel cur len : Nat), len ≤ fuel → 1 ≤ len → idx < nb → rel < cur →
      cur = blockLenOf first blk (t * nb + idx) →
      Tiles first blk nb (blockStart first blk (t * nb + idx) + rel) (walkFrom blk nb fuel t idx rel cur len)
        (blockStart first blk (t * nb + idx) + rel + len) := by
  intro fuel
  induction fuel with
  | zero => intro t idx rel cur len h1 h2; omega
  | succ fuel ih =>
    intro t idx rel cur len hf hl hidx hrel hcur
    simp only [walkFrom]
    by_cases hlast : len ≤ cur - rel
    · rw [Nat.min_eq_right hlast, if_pos (Nat.sub_self len)]
      simp only [Tiles]
      exact ⟨hidx, hcur, hl, by omega, trivial, trivial⟩
    · rw [Nat.min_eq_left (by omega), if_neg (by omega)]
      -- the table hop and the plain step both continue at offset 0 of global block `t * nb + idx + 1`
      have next : ∀ t' idx', idx' < nb → t' * nb + idx' = t * nb + idx + 1 →
          Tiles first blk nb (blockStart first blk (t * nb + idx) + rel)
            ({ tbl := t, idx := idx, rel := rel, n := cur - rel, cur := cur } :: walkFrom blk nb fuel t' idx' 0 blk (len - (cur - rel)))
            (blockStart first blk (t * nb + idx) + rel + len) := by
        intro t' idx' hi' he
        have := ih t' idx' 0 blk (len - (cur - rel)) (by omega) (by omega) hi' (by omega) (by rw [he]; simp [blockLenOf])
        rw [he, blockStart_succ, ← hcur] at this
        simp only [Tiles]
        refine ⟨hidx, hcur, by omega, by omega, trivial, ?_⟩
        generalize blockStart first blk (t * nb + idx) = B at this ⊢
        rw [show B + rel + (cur - rel) = B + cur + 0 by omega, show B + rel + len = B + cur + 0 + (len - (cur - rel)) by omega]
        exact this
      split
      · exact next (t + 1) 0 (by omega) (by rw [Nat.add_mul]; omega)
      · exact next t (idx + 1) (by omega) (by omega)

/-- the start computed by "search for linked block to start from" is the block containing `p` -/
theorem startBlock_spec (first blk p : Nat) (hblk : 1 ≤ blk) :
    let s := startBlock first blk p
    s.2.1 < s.2.2 ∧ s.2.2 = blockLenOf first blk s.1 ∧ blockStart first blk s.1 + s.2.1 = p := by
  unfold startBlock
  by_cases h : p < first
  · simp [h, blockLenOf, blockStart]
  · simp only [h, if_false, blockLenOf, blockStart]
    refine ⟨Nat.mod_lt _ hblk, by simp, ?_⟩
    simp only [Nat.add_sub_cancel, Nat.add_one_ne_zero, if_false]
    have := Nat.div_add_mod (p - first) blk
    rw [Nat.mul_comm] at this
    omega

theorem startBlock_block (first blk b rel : Nat) (hblk : 1 ≤ blk) (hrel : rel < blockLenOf first blk b) :
    startBlock first blk (blockStart first blk b + rel) = (b, rel, blockLenOf first blk b) := by
  unfold startBlock blockStart blockLenOf at *
  cases b with
  | zero => simp at hrel ⊢; exact hrel
  | succ k =>
    simp only [Nat.add_one_ne_zero, if_false, Nat.add_sub_cancel] at hrel ⊢
    have h1 : ¬ (first + k * blk + rel < first) := by omega
    simp only [h1, if_false]
    have h2 : first + k * blk + rel - first = rel + blk * k := by rw [Nat.mul_comm]; omega
    rw [h2, Nat.add_mul_div_left _ _ (by omega : 0 < blk), Nat.add_mul_mod_self_left, Nat.div_eq_of_lt hrel, Nat.mod_eq_of_lt hrel]
    simp

theorem blockStart_mono (first blk : Nat) : ∀ b b', b ≤ b' → blockStart first blk b ≤ blockStart first blk b' := by
  intro b b' h
  induction h with
  | refl => exact Nat.le_refl _
  | step _ ih => rw [blockStart_succ]; omega

theorem mul_add_div_mod (t nb idx : Nat) (h : idx < nb) : (t * nb + idx) / nb = t ∧ (t * nb + idx) % nb = idx := by
  have hnb : 0 < nb := by omega
  constructor
  · rw [Nat.mul_comm, Nat.mul_add_div hnb, Nat.div_eq_of_lt h]; simp
  · rw [Nat.mul_comm, Nat.mul_add_mod, Nat.mod_eq_of_lt h]

theorem walk_tiles (first blk nb p len : Nat) (hblk : 1 ≤ blk) (hnb : 1 ≤ nb) (hlen : 1 ≤ len) :
    Tiles first blk nb p (walk first blk nb p len) (p + len) := by
  have hs := startBlock_spec first blk p hblk
  unfold walk
  generalize startBlock first blk p = s at hs
  obtain ⟨b, rel, cur⟩ := s
  simp only at hs ⊢
  obtain ⟨h1, h2, h3⟩ := hs
  have hb : b / nb * nb + b % nb = b := by
    have := Nat.div_add_mod b nb; rw [Nat.mul_comm] at this; exact this
  have := walkFrom_tiles first blk nb hblk len (b / nb) (b % nb) rel cur len (Nat.le_refl _) hlen
    (Nat.mod_lt _ hnb) h1 (by rw [hb]; exact h2)
  rw [hb, h3] at this
  exact this

theorem pos_block (first blk nb i : Nat) (hblk : 1 ≤ blk) (hnb : 1 ≤ nb) :
    ∃ t idx r, idx < nb ∧ r < blockLenOf first blk (t * nb + idx) ∧ blockStart first blk (t * nb + idx) + r = i := by
  have hs := startBlock_spec first blk i hblk
  generalize startBlock first blk i = s at hs
  obtain ⟨b, r, cur⟩ := s
  simp only at hs
  obtain ⟨h1, h2, h3⟩ := hs
  refine ⟨b / nb, b % nb, r, Nat.mod_lt _ hnb, ?_, ?_⟩
  · have : b / nb * nb + b % nb = b := by have := Nat.div_add_mod b nb; rw [Nat.mul_comm] at this; exact this
    rw [this, ← h2]; exact h1
  · have : b / nb * nb + b % nb = b := by have := Nat.div_add_mod b nb; rw [Nat.mul_comm] at this; exact this
    rw [this]; exact h3

theorem pos_block_unique (first blk nb : Nat) (hblk : 1 ≤ blk) (t idx r t' idx' r' : Nat) (hidx : idx < nb) (hidx' : idx' < nb)
    (hr : r < blockLenOf first blk (t * nb + idx)) (hr' : r' < blockLenOf first blk (t' * nb + idx'))
    (h : blockStart first blk (t * nb + idx) + r = blockStart first blk (t' * nb + idx') + r') :
    t = t' ∧ idx = idx' ∧ r = r' := by
  have a := startBlock_block first blk _ _ hblk hr
  have b := startBlock_block first blk _ _ hblk hr'
  rw [h, b] at a
  simp only [Prod.mk.injEq] at a
  obtain ⟨h1, h2, _⟩ := a
  have d1 := mul_add_div_mod t nb idx hidx
  have d2 := mul_add_div_mod t' nb idx' hidx'
  rw [← h1] at d1
  exact ⟨d1.1.symm.trans d2.1, d1.2.symm.trans d2.2, h2.symm⟩

end H4.Elem
