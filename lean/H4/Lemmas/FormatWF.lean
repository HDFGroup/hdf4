import H4.Lemmas.Format
import H4.Lemmas.Rle
/-! The file-level reader: the Bool checks decide their Prop specifications, every stage has its inversion, the chain walk is faithful to the
    bytes and never runs out of fuel; at the end, the reader's own RLE expansion of a compressed payload (`rleTake`) against the decoder of `H4.Rle`. -/
namespace H4.Format
open H4.Gen.Hdf

theorem allPairs_iff {α} (p : α → α → Bool) (l : List α) : allPairs p l = true ↔ l.Pairwise (fun a b => p a b = true) := by
  induction l with
  | nil => simp [allPairs]
  | cons a t ih =>
    simp only [allPairs, Bool.and_eq_true, List.all_eq_true, ih, List.pairwise_cons]

def LinkedP : List Block → Prop
  | [] => False
  | [x] => x.next = 0
  | x :: y :: l => x.next = y.off ∧ x.next ≠ 0 ∧ LinkedP (y :: l)

theorem linked_iff (l : List Block) : linked l = true ↔ LinkedP l := by
  induction l with
  | nil => simp [linked, LinkedP]
  | cons x t ih =>
    cases t with
    | nil => simp [linked, LinkedP]
    | cons y l =>
      simp only [linked, LinkedP, Bool.and_eq_true, beq_iff_eq, bne_iff_ne, ne_eq, ih, and_assoc]

theorem tagsOK_iff (dds : List DD) : tagsOK dds = true ↔ ∀ d ∈ dds, d.tag ≠ 0 ∧ d.ref ≠ 0 := by
  simp only [tagsOK, List.all_eq_true, Bool.and_eq_true, bne_iff_ne, ne_eq]

theorem noDupKeys_iff (dds : List DD) :
    noDupKeys dds = true ↔ dds.Pairwise (fun x y => ¬ (baseTag x.tag = baseTag y.tag ∧ x.ref = y.ref)) := by
  simp only [noDupKeys, allPairs_iff, sameKey, Bool.not_eq_true', Bool.and_eq_false_iff, beq_eq_false_iff_ne, ne_eq,
    Decidable.not_and_iff_not_or_not]

theorem extentsOK_iff (size : Nat) (dds : List DD) : extentsOK size dds = true ↔
    ∀ d ∈ dds, (d.off = -1 ∧ d.len = -1) ∨ (0 ≤ d.off ∧ 0 ≤ d.len ∧ d.off + d.len ≤ (size : Int)) := by
  simp only [extentsOK, List.all_eq_true, extentOK, isEmptyDD, INVALID_OFFSET, INVALID_LENGTH, Bool.or_eq_true, Bool.and_eq_true,
    beq_iff_eq, decide_eq_true_eq, and_assoc]

theorem noOverlap_iff (rs : List Region) : noOverlap rs = true ↔ rs.Pairwise (fun x y =>
    x.off + x.len ≤ y.off ∨ y.off + y.len ≤ x.off ∨ (x.elem = true ∧ y.elem = true ∧ x.off = y.off ∧ x.len = y.len)) := by
  simp only [noOverlap, allPairs_iff, disjointOrAlias, Bool.or_eq_true, Bool.and_eq_true, decide_eq_true_eq, beq_iff_eq, and_assoc, or_assoc]

theorem chainOK_iff (size : Nat) (blocks : List Block) : chainOK size blocks = true ↔
    blocks.head?.map (·.off) = some MAGICLEN ∧ LinkedP blocks ∧
    (∀ k ∈ blocks, 0 < k.ndds ∧ k.off + (NDDS_SZ + OFFSET_SZ) + DD_SZ * k.ndds ≤ size ∧ k.dds.length = k.ndds) ∧
    (blocks.map (·.off)).Nodup := by
  simp only [chainOK, Bool.and_eq_true, beq_iff_eq, linked_iff, List.all_eq_true, blockInBounds, decide_eq_true_eq, allPairs_iff,
    bne_iff_ne, ne_eq, and_assoc, List.Nodup, List.pairwise_map]

theorem finalOK_iff (c : FileContent) : finalOK c = true ↔
    c.elems.map (·.dd) = c.dds ∧
    (∀ p ∈ c.vgs, (∀ m ∈ p.2.members, m.1 ∈ virtualTags ∨ (findDD c.dds m.1 m.2).isSome = true) ∧
      (∀ m ∈ p.2.attrs, (findDD c.dds m.1 m.2).isSome = true)) ∧
    (∀ p ∈ c.vhs, ∀ a ∈ p.2.attrs, (findDD c.dds a.atag a.aref).isSome = true) := by
  simp only [finalOK, Bool.and_eq_true, beq_iff_eq, List.all_eq_true, Bool.or_eq_true, exists_, List.contains_iff_mem, and_assoc]
theorem slice_some {b : ByteArray} {o n : Nat} {x : Bytes} (h : slice b o n = some x) : o + n ≤ b.size := by
  unfold slice at h; split at h
  · assumption
  · cases h

theorem readBlock_ok {b : ByteArray} {off : Nat} {k : Block} (h : readBlock b off = .ok k) :
    ∃ hb hdr body, slice b off (NDDS_SZ + OFFSET_SZ) = some hb ∧ decodeBlockHdr hb = some hdr ∧ hdr.ndds ≠ 0 ∧
      slice b (off + (NDDS_SZ + OFFSET_SZ)) (DD_SZ * hdr.ndds) = some body ∧ decodeDDs hdr.ndds body = some k.dds ∧
      k.off = off ∧ k.ndds = hdr.ndds ∧ k.next = hdr.next := by
  unfold readBlock at h
  split at h
  · cases h
  · rename_i hb e1
    split at h
    · cases h
    · rename_i hdr e2
      split at h
      · cases h
      · rename_i e3
        split at h
        · cases h
        · rename_i body e4
          split at h
          · cases h
          · rename_i dds e5
            injection h with h; subst h
            exact ⟨hb, hdr, body, e1, e2, e3, e4, e5, rfl, rfl, rfl⟩

theorem readBlock_off {b : ByteArray} {off : Nat} {k : Block} (h : readBlock b off = .ok k) : k.off = off := by
  obtain ⟨_, _, _, _, _, _, _, _, e, _⟩ := readBlock_ok h
  exact e

theorem readBlock_bounds {b : ByteArray} {off : Nat} {k : Block} (h : readBlock b off = .ok k) :
    0 < k.ndds ∧ off + (NDDS_SZ + OFFSET_SZ) + DD_SZ * k.ndds ≤ b.size := by
  obtain ⟨_, hdr, _, _, _, h3, h4, _, _, e, _⟩ := readBlock_ok h
  exact e ▸ ⟨Nat.pos_of_ne_zero h3, slice_some h4⟩

theorem readBlock_ne_fuel (b : ByteArray) (off : Nat) : readBlock b off ≠ .error .fuel := by
  unfold readBlock
  repeat' split
  all_goals simp [bad]

def WalkInv (b : ByteArray) (acc : List Block) : Prop :=
  (∀ k ∈ acc, readBlock b k.off = .ok k) ∧ (acc.map (·.off)).Nodup

theorem walkInv_nil (b : ByteArray) : WalkInv b [] := ⟨by simp, by simp⟩

theorem walkInv_cons {b : ByteArray} {acc : List Block} {off : Nat} {k : Block} (hi : WalkInv b acc)
    (hn : acc.any (fun x => x.off == off) = false) (hr : readBlock b off = .ok k) : WalkInv b (k :: acc) := by
  have ho := readBlock_off hr
  refine ⟨?_, ?_⟩
  · intro x hx
    rcases List.mem_cons.mp hx with rfl | hx
    · rw [ho]; exact hr
    · exact hi.1 x hx
  · simp only [List.map_cons, List.nodup_cons]
    refine ⟨?_, hi.2⟩
    intro hm
    obtain ⟨x, hx, hxo⟩ := List.mem_map.mp hm
    have : acc.any (fun x => x.off == off) = true := by
      simp only [List.any_eq_true, beq_iff_eq]
      exact ⟨x, hx, by rw [hxo, ho]⟩
    rw [hn] at this; cases this

theorem nodup_bound : ∀ (n : Nat) (l : List Nat), l.Nodup → (∀ x ∈ l, x < n) → l.length ≤ n := by
  intro n
  induction n with
  | zero =>
    intro l _ h
    cases l with
    | nil => simp
    | cons a t => exact absurd (h a (by simp)) (by omega)
  | succ n ih =>
    intro l hnd h
    by_cases hm : n ∈ l
    · have h1 : (l.erase n).Nodup := hnd.erase n
      have h2 : ∀ x ∈ l.erase n, x < n := by
        intro x hx
        have hx' := (List.Nodup.mem_erase_iff hnd).mp hx
        have := h x hx'.2
        omega
      have h3 := ih _ h1 h2
      have h4 : (l.erase n).length = l.length - 1 := List.length_erase_of_mem hm
      have h5 : 0 < l.length := List.length_pos_of_mem hm
      omega
    · have h2 : ∀ x ∈ l, x < n := by
        intro x hx
        have := h x hx
        have : x ≠ n := fun e => hm (e ▸ hx)
        omega
      have := ih l hnd h2
      omega

theorem walk_spec (b : ByteArray) : ∀ (fuel off : Nat) (acc : List Block), WalkInv b acc →
    (∀ res, walk b fuel off acc = .ok res → WalkInv b res.reverse) ∧
    (b.size ≤ acc.length + fuel → 0 < b.size → walk b fuel off acc ≠ .error .fuel) := by
  intro fuel
  induction fuel with
  | zero =>
    intro off acc hi
    refine ⟨fun res h => by simp [walk] at h, fun hl hpos => ?_⟩
    exfalso
    -- acc has b.size blocks, but the offsets are distinct and each leaves room for a header and one descriptor
    have hb : ∀ x ∈ acc.map (·.off), x < b.size - 1 := by
      intro x hx
      obtain ⟨k, hk, rfl⟩ := List.mem_map.mp hx
      have := readBlock_bounds (hi.1 k hk)
      simp only [NDDS_SZ, OFFSET_SZ, DD_SZ] at this
      omega
    have := nodup_bound _ _ hi.2 hb
    simp only [List.length_map] at this
    omega
  | succ n ih =>
    intro off acc hi
    unfold walk
    split
    · exact ⟨fun res h => by simp [bad] at h, fun _ _ => by simp [bad]⟩
    · rename_i hany
      split
      · rename_i e hr
        exact ⟨fun res h => by simp at h, fun _ _ he => by injection he with he; exact readBlock_ne_fuel b off (he ▸ hr)⟩
      · rename_i blk hr
        have hany' : acc.any (fun x => x.off == off) = false := by simpa using hany
        have hi' := walkInv_cons hi hany' hr
        obtain ⟨i1, i2⟩ := ih blk.next (blk :: acc) hi'
        split
        · exact ⟨fun res h => by injection h with h; rw [← h, List.reverse_reverse]; exact hi', fun _ _ => by simp⟩
        · exact ⟨i1, fun hl hpos => i2 (by simp only [List.length_cons]; omega) hpos⟩

theorem readRaw_cases (b : ByteArray) :
    (∃ e, readChain b = .error e ∧ readRaw b = .error e) ∨
    ∃ blocks, readChain b = .ok blocks ∧
      ((∃ c m, readRaw b = bad c m) ∨
        (chainOK b.size blocks = true ∧ tagsOK (liveDDs blocks) = true ∧ noDupKeys (liveDDs blocks) = true ∧
          extentsOK b.size (liveDDs blocks) = true ∧ noOverlap (regions blocks (liveDDs blocks)) = true ∧
          readRaw b = .ok ⟨b.size, blocks, liveDDs blocks⟩)) := by
  unfold readRaw
  cases readChain b with
  | error e => exact Or.inl ⟨e, rfl, rfl⟩
  | ok blocks =>
    refine Or.inr ⟨blocks, rfl, ?_⟩
    dsimp only
    cases h1 : chainOK b.size blocks
    · exact Or.inl ⟨_, _, rfl⟩
    cases h2 : tagsOK (liveDDs blocks)
    · exact Or.inl ⟨_, _, rfl⟩
    cases h3 : noDupKeys (liveDDs blocks)
    · exact Or.inl ⟨_, _, rfl⟩
    cases h4 : extentsOK b.size (liveDDs blocks)
    · exact Or.inl ⟨_, _, rfl⟩
    cases h5 : noOverlap (regions blocks (liveDDs blocks))
    · exact Or.inl ⟨_, _, rfl⟩
    exact Or.inr ⟨rfl, rfl, rfl, rfl, rfl, rfl⟩

theorem readRaw_ok {b : ByteArray} {raw : Raw} (h : readRaw b = .ok raw) :
    ∃ blocks, readChain b = .ok blocks ∧ chainOK b.size blocks = true ∧ tagsOK (liveDDs blocks) = true ∧
      noDupKeys (liveDDs blocks) = true ∧ extentsOK b.size (liveDDs blocks) = true ∧
      noOverlap (regions blocks (liveDDs blocks)) = true ∧ raw = ⟨b.size, blocks, liveDDs blocks⟩ := by
  rcases readRaw_cases b with ⟨e, _, he⟩ | ⟨blocks, hc, ⟨c, m, hb⟩ | ⟨h1, h2, h3, h4, h5, ho⟩⟩
  · rw [he] at h; cases h
  · rw [hb] at h; cases h
  · rw [ho] at h; injection h with h
    exact ⟨blocks, hc, h1, h2, h3, h4, h5, h.symm⟩

theorem decodeFile_ok {b : ByteArray} {c : FileContent} (h : decodeFile b = .ok c) :
    ∃ raw, readRaw b = .ok raw ∧ raw.dds.mapM (readElem b raw.dds maxNest) = .ok c.elems ∧
      readRecords raw.dds c.elems = .ok (c.vhs, c.vgs, c.version) ∧
      c.size = raw.size ∧ c.blocks = raw.blocks ∧ c.dds = raw.dds ∧ finalOK c = true ∧ descComplaints c.elems c.vgs = [] := by
  unfold decodeFile at h
  split at h
  · cases h
  · rename_i raw hr
    split at h
    · cases h
    · rename_i elems he
      split at h
      · cases h
      · rename_i vhs vgs ver hrec
        simp only at h
        split at h
        · rename_i hf
          split at h
          · rename_i hd
            injection h with h; subst h
            exact ⟨raw, hr, he, hrec, rfl, rfl, rfl, hf, hd⟩
          · cases h
        · cases h

theorem readChain_ok {b : ByteArray} {blocks : List Block} (h : readChain b = .ok blocks) :
    magicOK b = true ∧ walk b b.size MAGICLEN [] = .ok blocks := by
  unfold readChain at h
  split at h
  · rename_i hm; exact ⟨hm, h⟩
  · simp [bad] at h

theorem magicOK_size {b : ByteArray} (h : magicOK b = true) : MAGICLEN ≤ b.size := by
  unfold magicOK slice at h
  split at h
  · rename_i hs; omega
  · simp at h


theorem rleAtLeast_pkt (p : H4.Rle.Pkt) (hv : p.Valid) (f need : Nat) (rest : List UInt8) :
    rleAtLeast (f + 1) (need + 1) (p.ser ++ rest) = (rleAtLeast f (need + 1 - p.expand.length) rest).map (p.expand ++ ·) := by
  cases p with
  | run n v =>
    obtain ⟨h1, h2⟩ := H4.Rle.Pkt.ctl_run n v hv
    simp only [H4.Rle.Pkt.ser, List.cons_append, List.nil_append, rleAtLeast, h1, h2, ne_eq, not_false_eq_true, ↓reduceIte,
      H4.Rle.Pkt.expand, List.length_replicate]
  | mix l =>
    obtain ⟨h1, h2⟩ := H4.Rle.Pkt.ctl_mix l hv
    simp only [H4.Rle.Pkt.ser, List.cons_append, rleAtLeast, h1, h2, ne_eq, not_true_eq_false, ↓reduceIte, List.length_append,
      Nat.not_lt.mpr (Nat.le_add_right _ _), List.take_left, List.drop_left, H4.Rle.Pkt.expand]

theorem rleAtLeast_of_dec : ∀ (fuel : Nat) (s out : List UInt8) (need : Nat), H4.Rle.decFuel fuel s = some out → need ≤ out.length →
    ∃ o, rleAtLeast fuel need s = some o ∧ o <+: out ∧ need ≤ o.length := by
  intro fuel
  induction fuel with
  | zero =>
    intro s out need h hn
    rcases H4.Rle.decFuel_some h with ⟨-, rfl⟩ | ⟨_, _, _, _, hf, -⟩
    · obtain rfl : need = 0 := Nat.le_zero.mp hn
      exact ⟨[], by simp [rleAtLeast], List.nil_prefix, Nat.le_refl _⟩
    · cases hf
  | succ f ih =>
    intro s out need h hn
    cases need with
    | zero => exact ⟨[], by simp [rleAtLeast], List.nil_prefix, Nat.le_refl _⟩
    | succ n =>
      rcases H4.Rle.decFuel_some h with ⟨-, rfl⟩ | ⟨f', p, rest, tail, hf, hv, rfl, ht, rfl⟩
      · simp at hn
      · cases hf
        rw [List.length_append] at hn
        obtain ⟨o', h1, h2, h3⟩ := ih rest tail (n + 1 - p.expand.length) ht (by omega)
        exact ⟨p.expand ++ o', by rw [rleAtLeast_pkt p hv, h1]; rfl, (List.prefix_append_right_inj _).mpr h2,
          by rw [List.length_append]; omega⟩

theorem take_of_prefix {α} {o out : List α} {n : Nat} (h : o <+: out) (hn : n ≤ o.length) : o.take n = out.take n := by
  obtain ⟨t, rfl⟩ := h
  rw [List.take_append_of_le_length hn]

theorem rleTake_eq_dec (s out : List UInt8) (n : Nat) (h : H4.Rle.dec s = some out) (hn : n ≤ out.length) :
    rleTake n s = some (out.take n) := by
  obtain ⟨o, h1, h2, h3⟩ := rleAtLeast_of_dec s.length s out n h hn
  simp only [rleTake, h1, Option.map_some, take_of_prefix h2 h3]

end H4.Format
