import H4.Handles
import H4.Lemmas.Atom
/-! Helper lemmas for `Props/C13Files.lean`: heaps, what one call does to the world (`Trans`), the invariants of the file table
    (`WF`, `WFA`, `TraceOk`, `NoOrphan`) through each such change, their bundle `Reach` for whole histories (`run_inv`), the SD id layout.
    The world keeps FIDGROUP and AIDGROUP as two fields, so the facts about ids come in pairs that differ in the field only;
    the table of records and its count of live ids is stated once for both halves (`Tab`). -/
namespace H4.Handles
open H4.Atom H4.Gen.Atom H4.Gen.Macros

theorem countP_eraseP_find {α} (p q : α → Bool) (l : List α) (e : α) (h : l.find? p = some e) :
    (l.eraseP p).countP q + (if q e then 1 else 0) = l.countP q := by
  induction l with
  | nil => cases h
  | cons a t ih =>
    cases hp : p a <;> simp only [List.find?_cons, hp, List.eraseP_cons, List.countP_cons, cond_true, cond_false] at h ⊢
    · rw [← ih h]; omega
    · rw [Option.some.inj h]

theorem mem_of_lookup {α} {l : List (Nat × α)} {p : Nat} {r : α} (h : (l.find? (fun e => e.1 == p)).map (·.2) = some r) :
    (p, r) ∈ l := by
  obtain ⟨e, he, rfl⟩ := Option.map_eq_some_iff.mp h
  have h2 : e.1 = p := by simpa using List.find?_some he
  exact h2 ▸ List.mem_of_find?_eq_some he

theorem lookup_of_mem {α} (l : List (Nat × α)) (hk : (l.map (·.1)).Nodup) {p : Nat} {r : α} (h : (p, r) ∈ l) :
    (l.find? (fun e => e.1 == p)).map (·.2) = some r := by
  induction l with
  | nil => cases h
  | cons a t ih =>
    simp only [List.map_cons, List.nodup_cons] at hk
    rcases List.mem_cons.mp h with rfl | ht
    · simp
    · have : a.1 ≠ p := by
        intro heq; apply hk.1; rw [heq]; exact List.mem_map.mpr ⟨(p, r), ht, rfl⟩
      have hb : (a.1 == p) = false := by simpa using this
      simp only [List.find?_cons, hb]
      exact ih hk.2 ht

theorem getF_mem {w : World} {p : Nat} {r : FRec} (h : getF w p = some r) : (p, r) ∈ w.frecs := mem_of_lookup h

theorem getA_mem {w : World} {q : Nat} {a : ARec} (h : getA w q = some a) : (q, a) ∈ w.arecs := mem_of_lookup h

theorem getF_of_mem {w : World} (hk : (w.frecs.map (·.1)).Nodup) {p : Nat} {r : FRec} (h : (p, r) ∈ w.frecs) : getF w p = some r :=
  lookup_of_mem w.frecs hk h

@[simp] theorem setF_keys (w : World) (p : Nat) (r : FRec) : (setF w p r).frecs.map (·.1) = w.frecs.map (·.1) := by
  simp only [setF, List.map_map]
  apply List.map_congr_left
  intro e _
  simp only [Function.comp]
  split
  · rename_i h; simp at h; exact h.symm
  · rfl

theorem mem_setF {w : World} {p : Nat} {r : FRec} {e : Nat × FRec} (h : e ∈ (setF w p r).frecs) :
    (e = (p, r) ∧ ∃ r0, (p, r0) ∈ w.frecs) ∨ (e ∈ w.frecs ∧ e.1 ≠ p) := by
  simp only [setF, List.mem_map] at h
  obtain ⟨x, hx, rfl⟩ := h
  by_cases hxp : x.1 = p
  · left; simp only [hxp, beq_self_eq_true, if_true, true_and]; exact ⟨x.2, by rw [← hxp]; exact hx⟩
  · right; simp only [beq_iff_eq, hxp, if_false]; exact ⟨hx, hxp⟩

theorem group_consts : FIDGROUP = 2 ∧ AIDGROUP = 1 := by decide

theorem grpOf_fid {w : World} {id : Nat} (hg : ATOM_TO_GROUP id = FIDGROUP) : grpOf w id = w.fidg := by
  simp only [grpOf, hg, if_true]

theorem grpOf_aid {w : World} {id : Nat} (hg : ATOM_TO_GROUP id = AIDGROUP) : grpOf w id = w.aidg := by
  simp only [grpOf, hg, show AIDGROUP ≠ FIDGROUP by decide, if_false, if_true]

theorem aObj_find {w : World} {id : Nat} (hn : ¬ (aObj w id == NULL) = true) :
    ∃ e, (grpOf w id).live.find? (fun e => e.id == id) = some e ∧ e.obj = aObj w id := by
  unfold aObj at hn ⊢
  cases hf : (grpOf w id).live.find? (fun e => e.id == id) with
  | none => simp [hf] at hn
  | some e => exact ⟨e, rfl, rfl⟩

theorem lookF_file {cfg : Cfg} (hk : cfg.kindChecked = true) {w : World} {id p : Nat} {r : FRec} (h : lookF cfg w id = .file p r) :
    ATOM_TO_GROUP id = FIDGROUP ∧ (∃ e, w.fidg.live.find? (fun e => e.id == id) = some e ∧ e.obj = p) ∧ (p, r) ∈ w.frecs := by
  unfold lookF at h
  simp only [hk, Bool.true_and] at h
  split at h
  · cases h
  · rename_i hg
    have hg' : ATOM_TO_GROUP id = FIDGROUP := by simpa using hg
    split at h
    · cases h
    · rename_i hn
      split at h
      · rename_i r' hr
        split at h
        · cases h
        · rename_i hrc
          injection h with h1 h2
          subst h1; subst h2
          exact ⟨hg', grpOf_fid hg' ▸ aObj_find hn, getF_mem hr⟩
      · split at h <;> cases h

theorem lookA_acc {cfg : Cfg} (hk : cfg.kindChecked = true) {w : World} {id q : Nat} {a : ARec} (h : lookA cfg w id = .acc q a) :
    ATOM_TO_GROUP id = AIDGROUP ∧ (∃ e, w.aidg.live.find? (fun e => e.id == id) = some e ∧ e.obj = q) ∧ (q, a) ∈ w.arecs := by
  unfold lookA at h
  simp only [hk, Bool.true_and] at h
  split at h
  · cases h
  · rename_i hg
    have hg' : ATOM_TO_GROUP id = AIDGROUP := by simpa using hg
    split at h
    · cases h
    · rename_i hn
      split at h
      · rename_i a' ha
        injection h with h1 h2
        subst h1; subst h2
        exact ⟨hg', grpOf_aid hg' ▸ aObj_find hn, getA_mem ha⟩
      · split at h <;> cases h

/-! Every operation either leaves the world alone or makes one of eight changes.  `step_trans` reads them off the definitions
    once; each invariant is then shown to survive each change (`Trans.wf`, `Trans.wfa`, `Trans.traceOk`, `Trans.noOrphan`). -/

inductive Trans (cfg : Cfg) (w : World) : Op → World → Res → Prop
  | same {op res} : Trans cfg w op w res
  /-- a failed `HTPstart` inside `Hopen` -/
  | failedStart {path acc} : Trans cfg w (.hopenbad path acc .dd) (setDd w (ddAfterFailedStart w.ddUse)) .fail
  /-- `Hopen` of a path that is open: one more id for the record -/
  | openShared {op path p r} (acc : Nat) : findRec w path = some p → getF w p = some r →
      Trans cfg w op (regF (setF w p { r with refcount := r.refcount + 1, access := reopenAccess r acc }) p) (.id (fidNew w))
  /-- `Hopen` of a path that is not open: a new record at the fresh pointer -/
  | openNew {op} (path a : Nat) : findRec w path = none →
      Trans cfg w op (setDd (regF { w with frecs := w.frecs ++ [(w.nobj, ⟨path, a, 1, 0⟩)], nobj := w.nobj + 1 } w.nobj) (w.ddUse + 1))
        (.id (fidNew w))
  /-- `Hclose` of the last id of a record without access elements -/
  | closeLast {op id p r} : lookF cfg w id = .file p r → (cfg.closeChecksAids && w.arecs.any (fun a => a.2.fileId == id)) = false →
      r.refcount = 1 → r.attach = 0 → Trans cfg w op (setDd (aRem (delF w p) id) (w.ddUse - 1)) .ok
  | closeShared {op id p r} : lookF cfg w id = .file p r → (cfg.closeChecksAids && w.arecs.any (fun a => a.2.fileId == id)) = false →
      r.refcount ≠ 1 → Trans cfg w op (aRem (setF w p { r with refcount := r.refcount - 1 }) id) .ok
  | start {op id p r} : lookF cfg w id = .file p r →
      Trans cfg w op (regA { setF w p { r with attach := r.attach + 1 } with arecs := w.arecs ++ [(w.nobj, ⟨id, p⟩)], nobj := w.nobj + 1 } w.nobj)
        (.id (aidNew w))
  | endOk {id q a p r} : lookA cfg w id = .acc q a → lookF cfg (delA (aRem w id) q) a.fileId = .file p r →
      Trans cfg w (.endaccess id) (setF (delA (aRem w id) q) p { r with attach := r.attach - 1 }) .ok
  /-- `Hendaccess` when the file id the access was started through is dead: the attach count is lost -/
  | endLeak {id q a} : lookA cfg w id = .acc q a → (∀ p r, lookF cfg (delA (aRem w id) q) a.fileId ≠ .file p r) →
      Trans cfg w (.endaccess id) { delA (aRem w id) q with leaked := w.leaked ++ [a.file] } .fail

theorem hopen_trans (cfg : Cfg) (w : World) (op : Op) (path acc : Nat) (osOk : Bool) :
    Trans cfg w op (hopen w path acc osOk).1 (hopen w path acc osOk).2 := by
  unfold hopen
  split
  · exact .same
  · split
    · next p hp =>
      split
      · next r hr =>
        split
        · exact .same
        · exact .openShared acc hp hr
      · exact .same
    · next hn =>
      split
      · exact .same
      · exact .openNew path _ hn

theorem nextRead_state (cfg : Cfg) (w : World) (id : Nat) (f : Bool) : (nextRead cfg w id f).1 = w := by
  unfold nextRead
  split
  · rfl
  · rfl
  · split <;> rfl

theorem step_trans (cfg : Cfg) (w : World) (op : Op) : Trans cfg w op (step cfg w op).1 (step cfg w op).2 := by
  cases op with
  | nextread id f => rw [show step cfg w (.nextread id f) = nextRead cfg w id f from rfl, nextRead_state]; exact .same
  | hopen p a o => exact hopen_trans cfg w _ p a o
  | hopenbad p a st =>
    simp only [step, hopenBad]
    split
    · exact .same
    · split
      · exact hopen_trans ..
      · split
        · exact hopen_trans ..
        · cases st
          · exact .same
          · exact .same
          · exact .failedStart
  | hclose id =>
    simp only [step, hclose]
    split
    · exact .same
    · exact .same
    · next p r hl =>
      split
      · exact .same
      · next hc =>
        unfold hcloseRec
        split
        · next h1 =>
          split
          · exact .same
          · exact .closeLast hl (by simpa using hc) (by simpa using h1) (by omega)
        · next h1 => exact .closeShared hl (by simpa using hc) (by simpa using h1)
  | startaccess id f wr =>
    simp only [step, startAccess]
    split
    · exact .same
    · exact .same
    · next p r hl =>
      split
      · exact .same
      · split
        · exact .same
        · exact .start hl
  | endaccess id =>
    simp only [step, endAccess]
    split
    · exact .same
    · exact .same
    · next q a hl =>
      split
      · next p r hlf => exact .endOk hl hlf
      · next hno => exact .endLeak hl hno
  | usefid id => exact .same
  | useaid id => exact .same

/-! The two halves of the file table meet only in the pointer counter; a call changes one of them and leaves the other to `congr`. -/

/-- a heap `recs` below the pointer counter, the registrations `live` that designate its records, and for each record the count
    `cnt` it keeps of them -/
structure Tab {α} (recs : List (Nat × α)) (live : List Info) (nobj : Nat) (cnt : α → Nat) : Prop where
  keys : (recs.map (·.1)).Nodup
  ptr : ∀ k ∈ recs.map (·.1), k < nobj
  obj : ∀ i ∈ live, i.obj ∈ recs.map (·.1)
  count : ∀ e ∈ recs, cnt e.2 = live.countP (fun i => i.obj == e.1) ∧ 1 ≤ cnt e.2

structure WFF (w : World) : Prop extends Tab w.frecs w.fidg.live w.nobj (·.refcount) where
  paths : (w.frecs.map (·.2.path)).Nodup

abbrev WFS (w : World) : Prop := Tab w.arecs w.aidg.live w.nobj fun _ => 1

structure WF (w : World) : Prop where
  toWFF : WFF w
  toWFS : WFS w

theorem Tab.congr {α} {recs : List (Nat × α)} {live : List Info} {n n' : Nat} {cnt : α → Nat} (h : Tab recs live n cnt) (hn : n ≤ n') :
    Tab recs live n' cnt :=
  ⟨h.keys, fun k hk => Nat.lt_of_lt_of_le (h.ptr k hk) hn, h.obj, h.count⟩

theorem Tab.recs_nil {α} {recs : List (Nat × α)} {n : Nat} {cnt : α → Nat} (h : Tab recs [] n cnt) : recs = [] :=
  List.eq_nil_iff_forall_not_mem.mpr fun e he => by have := h.count e he; rw [List.countP_nil] at this; omega

theorem WFF.congr {w w' : World} (h : WFF w) (hf : w'.frecs = w.frecs) (hl : w'.fidg.live = w.fidg.live) (hn : w.nobj ≤ w'.nobj) :
    WFF w' :=
  ⟨by rw [hf, hl]; exact h.toTab.congr hn, by rw [hf]; exact h.paths⟩

theorem WFS.congr {w w' : World} (h : WFS w) (ha : w'.arecs = w.arecs) (hl : w'.aidg.live = w.aidg.live) (hn : w.nobj ≤ w'.nobj) :
    WFS w' := by
  unfold WFS; rw [ha, hl]; exact Tab.congr h hn

theorem init_wf : WF World.init := by
  refine ⟨⟨⟨by simp [World.init], ?_, ?_, ?_⟩, by simp [World.init]⟩, ⟨by simp [World.init], ?_, ?_, ?_⟩⟩ <;>
    intro x hx <;> simp [World.init] at hx

theorem mem_keys {α} {l : List (Nat × α)} {e : Nat × α} (h : e ∈ l) : e.1 ∈ l.map (·.1) := List.mem_map_of_mem h

theorem setF_paths (w : World) (p : Nat) (r r0 : FRec) (hk : (w.frecs.map (·.1)).Nodup) (h0 : (p, r0) ∈ w.frecs) (hp : r.path = r0.path) :
    (setF w p r).frecs.map (·.2.path) = w.frecs.map (·.2.path) := by
  simp only [setF, List.map_map]
  apply List.map_congr_left
  intro e he
  simp only [Function.comp]
  split
  · next h =>
    have h1 : e.1 = p := by simpa using h
    have : getF w p = some e.2 := getF_of_mem hk (by rw [← h1]; exact he)
    rw [getF_of_mem hk h0] at this
    injection this with this
    simp only [hp, this]
  · rfl

@[simp] theorem setF_fidg (w : World) (p : Nat) (r : FRec) : (setF w p r).fidg = w.fidg := rfl
@[simp] theorem setF_aidg (w : World) (p : Nat) (r : FRec) : (setF w p r).aidg = w.aidg := rfl
@[simp] theorem setF_arecs (w : World) (p : Nat) (r : FRec) : (setF w p r).arecs = w.arecs := rfl
@[simp] theorem setF_nobj (w : World) (p : Nat) (r : FRec) : (setF w p r).nobj = w.nobj := rfl
@[simp] theorem setF_leaked (w : World) (p : Nat) (r : FRec) : (setF w p r).leaked = w.leaked := rfl
@[simp] theorem delF_fidg (w : World) (p : Nat) : (delF w p).fidg = w.fidg := rfl
@[simp] theorem delF_aidg (w : World) (p : Nat) : (delF w p).aidg = w.aidg := rfl
@[simp] theorem delF_arecs (w : World) (p : Nat) : (delF w p).arecs = w.arecs := rfl
@[simp] theorem delF_nobj (w : World) (p : Nat) : (delF w p).nobj = w.nobj := rfl
@[simp] theorem delF_leaked (w : World) (p : Nat) : (delF w p).leaked = w.leaked := rfl
@[simp] theorem delA_fidg (w : World) (p : Nat) : (delA w p).fidg = w.fidg := rfl
@[simp] theorem delA_aidg (w : World) (p : Nat) : (delA w p).aidg = w.aidg := rfl
@[simp] theorem delA_frecs (w : World) (p : Nat) : (delA w p).frecs = w.frecs := rfl
@[simp] theorem delA_nobj (w : World) (p : Nat) : (delA w p).nobj = w.nobj := rfl
@[simp] theorem delA_leaked (w : World) (p : Nat) : (delA w p).leaked = w.leaked := rfl

theorem mem_delF {w : World} {p : Nat} {e : Nat × FRec} : e ∈ (delF w p).frecs ↔ e ∈ w.frecs ∧ e.1 ≠ p := by
  simp [delF]

theorem mem_delA {w : World} {q : Nat} {e : Nat × ARec} : e ∈ (delA w q).arecs ↔ e ∈ w.arecs ∧ e.1 ≠ q := by
  simp [delA]

theorem aRem_fid (w : World) (id : Nat) (hg : ATOM_TO_GROUP id = FIDGROUP) :
    aRem w id = { w with fidg := { w.fidg with live := w.fidg.live.eraseP (fun e => e.id == id) }, trace := w.trace ++ [.remove id] } := by
  simp [aRem, hg]

theorem aRem_aid (w : World) (id : Nat) (hg : ATOM_TO_GROUP id = AIDGROUP) :
    aRem w id = { w with aidg := { w.aidg with live := w.aidg.live.eraseP (fun e => e.id == id) }, trace := w.trace ++ [.remove id] } := by
  simp [aRem, hg, show AIDGROUP ≠ FIDGROUP by decide]

theorem aRem_frame (w : World) (id : Nat) :
    (aRem w id).fidg.nextid = w.fidg.nextid ∧ (aRem w id).fidg.count = w.fidg.count ∧ (aRem w id).aidg.count = w.aidg.count ∧
    (aRem w id).trace = w.trace ++ [.remove id] := by
  unfold aRem; simp only []
  split
  · exact ⟨rfl, rfl, rfl, rfl⟩
  · split <;> exact ⟨rfl, rfl, rfl, rfl⟩

theorem WFF.upd_with {w w' : World} {p : Nat} {r r' : FRec} (h : WFF w) (hmem : (p, r) ∈ w.frecs) (hp : r'.path = r.path)
    (hf : w'.frecs = (setF w p r').frecs) (hn : w.nobj ≤ w'.nobj) (hobj : ∀ i ∈ w'.fidg.live, i.obj ∈ w.frecs.map (·.1))
    (hrc : r'.refcount = w'.fidg.live.countP (fun i => i.obj == p) ∧ 1 ≤ r'.refcount)
    (hoth : ∀ x, x ≠ p → w'.fidg.live.countP (fun i => i.obj == x) = w.fidg.live.countP (fun i => i.obj == x)) : WFF w' := by
  refine ⟨⟨?_, ?_, ?_, ?_⟩, ?_⟩ <;> rw [hf]
  · rw [setF_keys]; exact h.keys
  · rw [setF_keys]; exact fun k hk => Nat.lt_of_lt_of_le (h.ptr k hk) hn
  · rw [setF_keys]; exact hobj
  · intro e he
    rcases mem_setF he with ⟨rfl, _⟩ | ⟨he', hne⟩
    · exact hrc
    · rw [hoth _ hne]; exact h.count e he'
  · rw [setF_paths w p r' r h.keys hmem hp]; exact h.paths

theorem WFF.upd {w : World} {p : Nat} {r r' : FRec} (h : WFF w) (hmem : (p, r) ∈ w.frecs) (hp : r'.path = r.path)
    (hrc : r'.refcount = r.refcount) : WFF (setF w p r') :=
  h.upd_with hmem hp rfl (Nat.le_refl _) h.obj (hrc ▸ h.count (p, r) hmem) (fun _ _ => rfl)

theorem WFF.addId {w : World} {p : Nat} {r r' : FRec} (h : WFF w) (hmem : (p, r) ∈ w.frecs) (hp : r'.path = r.path)
    (hrc : r'.refcount = r.refcount + 1) : WFF (regF (setF w p r') p) := by
  have := h.count (p, r) hmem
  simp only [] at this
  refine h.upd_with hmem hp rfl (Nat.le_refl _) ?_ ?_ ?_
  · intro i hi
    rcases List.mem_cons.mp hi with rfl | hi
    · exact mem_keys hmem
    · exact h.obj i hi
  · simp only [regF, List.countP_cons, beq_self_eq_true, if_true, setF_fidg]
    constructor <;> omega
  · intro x hx
    simp [regF, Ne.symm hx]

theorem findRec_none {w : World} (h : WFF w) {path : Nat} (hn : findRec w path = none) : ∀ e ∈ w.frecs, e.2.path ≠ path := by
  intro e he hp
  have hc := h.count e he
  obtain ⟨i, hi, hio⟩ := List.countP_pos_iff.mp (show 0 < w.fidg.live.countP (fun i => i.obj == e.1) by omega)
  have hio' : i.obj = e.1 := by simpa using hio
  have hg : getF w i.obj = some e.2 := by rw [hio']; exact getF_of_mem h.keys he
  have := List.find?_eq_none.mp (Option.map_eq_none_iff.mp hn) i hi
  simp [hg, hp] at this

theorem Tab.addRec {α} {recs : List (Nat × α)} {live : List Info} {n : Nat} {cnt : α → Nat} (h : Tab recs live n cnt) (r : α)
    (hr : cnt r = 1) (id : Nat) : Tab (recs ++ [(n, r)]) (⟨id, n⟩ :: live) (n + 1) cnt := by
  have hfresh : ∀ k ∈ recs.map (·.1), k ≠ n := fun k hk => Nat.ne_of_lt (h.ptr k hk)
  have hnolive : live.countP (fun i => i.obj == n) = 0 :=
    List.countP_eq_zero.mpr fun i hi => by simpa using hfresh _ (h.obj i hi)
  refine ⟨?_, ?_, ?_, ?_⟩
  · simp only [List.map_append, List.map_cons, List.map_nil]
    exact List.nodup_append.mpr ⟨h.keys, by simp, fun a ha b hb => by rw [List.mem_singleton.mp hb]; exact hfresh a ha⟩
  · intro k hk
    simp only [List.map_append, List.mem_append, List.map_cons, List.map_nil, List.mem_singleton] at hk
    rcases hk with hk | rfl
    · exact Nat.lt_succ_of_lt (h.ptr k hk)
    · exact Nat.lt_succ_self _
  · intro i hi
    simp only [List.map_append, List.mem_append]
    rcases List.mem_cons.mp hi with rfl | hi
    · exact Or.inr (by simp)
    · exact Or.inl (h.obj i hi)
  · intro e he
    simp only [List.countP_cons]
    rcases List.mem_append.mp he with he | he
    · have hb : (n == e.1) = false := by simpa using (hfresh _ (mem_keys he)).symm
      simp only [hb, Bool.false_eq_true, if_false, Nat.add_zero]
      exact h.count e he
    · rw [List.mem_singleton.mp he]; simp [hnolive, hr]

theorem Tab.remRec {α} {recs : List (Nat × α)} {live : List Info} {n id q : Nat} {cnt : α → Nat} {a : α} {e0 : Info}
    (h : Tab recs live n cnt) (hfind : live.find? (fun e => e.id == id) = some e0) (hobj : e0.obj = q) (hmem : (q, a) ∈ recs)
    (h1 : cnt a = 1) : Tab (recs.filter (fun e => e.1 != q)) (live.eraseP (fun e => e.id == id)) n cnt := by
  have hcnt (x : Nat) := countP_eraseP_find (fun e : Info => e.id == id) (fun i : Info => i.obj == x) live e0 hfind
  have hq0 : (live.eraseP (fun e => e.id == id)).countP (fun i => i.obj == q) = 0 := by
    have := h.count (q, a) hmem
    have := hcnt q
    simp only [hobj, beq_self_eq_true, if_true] at *
    omega
  refine ⟨h.keys.sublist (List.filter_sublist.map _), fun k hk => h.ptr k ((List.filter_sublist.map _).subset hk), ?_, ?_⟩
  · intro i hi
    obtain ⟨e, he, heq⟩ := List.mem_map.mp (h.obj i (List.mem_of_mem_eraseP hi))
    have hne : e.1 ≠ q := fun hep =>
      absurd hq0 (Nat.ne_of_gt (List.countP_pos_iff.mpr ⟨i, hi, by simp [← heq, hep]⟩))
    exact List.mem_map.mpr ⟨e, List.mem_filter.mpr ⟨he, by simpa using hne⟩, heq⟩
  · intro e he
    obtain ⟨he', hne⟩ := List.mem_filter.mp he
    have hne : e.1 ≠ q := by simpa using hne
    have := hcnt e.1
    simp only [hobj, show (q == e.1) = false by simpa using Ne.symm hne, Bool.false_eq_true, if_false, Nat.add_zero] at this
    rw [this]; exact h.count e he'

theorem WFF.addRec {w : World} (h : WFF w) (r : FRec) (hr : r.refcount = 1) (hpath : ∀ e ∈ w.frecs, e.2.path ≠ r.path) :
    WFF (regF { w with frecs := w.frecs ++ [(w.nobj, r)], nobj := w.nobj + 1 } w.nobj) := by
  refine ⟨h.toTab.addRec r hr _, ?_⟩
  simp only [regF, List.map_append, List.map_cons, List.map_nil]
  refine List.nodup_append.mpr ⟨h.paths, by simp, fun a ha b hb => ?_⟩
  obtain ⟨e, he, rfl⟩ := List.mem_map.mp ha
  rw [List.mem_singleton.mp hb]; exact hpath e he

theorem WFF.remId {w : World} {id p : Nat} {r r' : FRec} {e0 : Info} (h : WFF w) (hg : ATOM_TO_GROUP id = FIDGROUP)
    (hfind : w.fidg.live.find? (fun e => e.id == id) = some e0) (hobj : e0.obj = p) (hmem : (p, r) ∈ w.frecs)
    (hp : r'.path = r.path) (hrc : r'.refcount = r.refcount - 1) (h1 : r.refcount ≠ 1) : WFF (aRem (setF w p r') id) := by
  have hcnt (x : Nat) := countP_eraseP_find (fun e : Info => e.id == id) (fun i : Info => i.obj == x) w.fidg.live e0 hfind
  have := h.count (p, r) hmem
  have hp' := hcnt p
  simp only [hobj, beq_self_eq_true, if_true] at this hp'
  rw [aRem_fid _ _ hg]
  refine h.upd_with hmem hp rfl (Nat.le_refl _) (fun i hi => h.obj i (List.mem_of_mem_eraseP hi)) ?_ ?_
  · simp only [setF_fidg]; constructor <;> omega
  · intro x hx
    have := hcnt x
    simpa [hobj, Ne.symm hx] using this

theorem WFF.remRec {w : World} {id p : Nat} {r : FRec} {e0 : Info} (h : WFF w) (hg : ATOM_TO_GROUP id = FIDGROUP)
    (hfind : w.fidg.live.find? (fun e => e.id == id) = some e0) (hobj : e0.obj = p) (hmem : (p, r) ∈ w.frecs)
    (h1 : r.refcount = 1) : WFF (aRem (delF w p) id) := by
  rw [aRem_fid _ _ hg]
  exact ⟨h.toTab.remRec hfind hobj hmem h1, h.paths.sublist (List.filter_sublist.map _)⟩

theorem WF.congr {w w' : World} (h : WF w) (hf : w'.frecs = w.frecs) (hfl : w'.fidg.live = w.fidg.live) (ha : w'.arecs = w.arecs)
    (hal : w'.aidg.live = w.aidg.live) (hn : w.nobj ≤ w'.nobj) : WF w' :=
  ⟨h.toWFF.congr hf hfl hn, h.toWFS.congr ha hal hn⟩

theorem endAccess_mid_wf {cfg : Cfg} (hk : cfg.kindChecked = true) {w : World} {id q : Nat} {a : ARec} (h : WF w)
    (hl : lookA cfg w id = .acc q a) : WF (delA (aRem w id) q) := by
  obtain ⟨hg, ⟨e0, hfind, hobj⟩, hget⟩ := lookA_acc hk hl
  rw [aRem_aid _ _ hg]
  exact ⟨h.toWFF.congr rfl rfl (Nat.le_refl _), h.toWFS.remRec hfind hobj hget rfl⟩

theorem Trans.wf {cfg : Cfg} (hk : cfg.kindChecked = true) {w w' : World} {op : Op} {res : Res} (t : Trans cfg w op w' res) (h : WF w) : WF w' := by
  cases t with
  | same => exact h
  | failedStart => exact h.congr rfl rfl rfl rfl (Nat.le_refl _)
  | openShared acc hp hr => exact ⟨h.toWFF.addId (getF_mem hr) rfl rfl, h.toWFS.congr rfl rfl (Nat.le_refl _)⟩
  | openNew path a hn =>
    exact ⟨(h.toWFF.addRec _ rfl (findRec_none h.toWFF hn)).congr rfl rfl (Nat.le_refl _), h.toWFS.congr rfl rfl (Nat.le_succ _)⟩
  | closeLast hl _ h1 _ =>
    obtain ⟨hg, ⟨e0, hfind, hobj⟩, hget⟩ := lookF_file hk hl
    refine ⟨(h.toWFF.remRec hg hfind hobj hget h1).congr rfl rfl (Nat.le_refl _), h.toWFS.congr ?_ ?_ ?_⟩ <;>
      simp only [setDd, aRem_fid _ _ hg] <;> first | rfl | exact Nat.le_refl _
  | closeShared hl _ h1 =>
    obtain ⟨hg, ⟨e0, hfind, hobj⟩, hget⟩ := lookF_file hk hl
    refine ⟨h.toWFF.remId hg hfind hobj hget rfl rfl h1, h.toWFS.congr ?_ ?_ ?_⟩ <;>
      simp only [aRem_fid _ _ hg] <;> first | rfl | exact Nat.le_refl _
  | @start _ id p r hl =>
    obtain ⟨_, _, hget⟩ := lookF_file hk hl
    exact ⟨(h.toWFF.upd (r' := { r with attach := r.attach + 1 }) hget rfl rfl).congr rfl rfl (Nat.le_succ _),
      (Tab.addRec h.toWFS ⟨id, p⟩ rfl _ : WFS _)⟩
  | endOk hl hlf =>
    have hmid := endAccess_mid_wf hk h hl
    obtain ⟨_, _, hget⟩ := lookF_file hk hlf
    exact ⟨hmid.toWFF.upd hget rfl rfl, hmid.toWFS.congr rfl rfl (Nat.le_refl _)⟩
  | endLeak hl _ => exact (endAccess_mid_wf hk h hl).congr rfl rfl rfl rfl (Nat.le_refl _)

theorem step_wf (cfg : Cfg) (hk : cfg.kindChecked = true) (w : World) (op : Op) (h : WF w) : WF (step cfg w op).1 :=
  (step_trans cfg w op).wf hk h

/-- the attach counters, through the ghosts `ARec.file` and `leaked` (the counts a failing `Hendaccess` lost); `link` is what a second
    issue of a file id would break -/
structure WFA (w : World) : Prop where
  att : ∀ e ∈ w.frecs, e.2.attach = w.arecs.countP (fun a => a.2.file == e.1) + w.leaked.countP (fun x => x == e.1)
  afile : ∀ a ∈ w.arecs, ∃ e ∈ w.frecs, e.1 = a.2.file
  lfile : ∀ x ∈ w.leaked, ∃ e ∈ w.frecs, e.1 = x
  issued : ∀ a ∈ w.arecs, ∃ k, k < w.fidg.nextid ∧ a.2.fileId = MAKE_ATOM FIDGROUP k
  fissued : ∀ i ∈ w.fidg.live, ∃ k, k < w.fidg.nextid ∧ i.id = MAKE_ATOM FIDGROUP k
  fnodup : w.fidg.live.Pairwise (fun a b => a.id ≠ b.id)
  link : ∀ a ∈ w.arecs, ∀ i ∈ w.fidg.live, i.id = a.2.fileId → i.obj = a.2.file

theorem init_wfa : WFA World.init := by
  refine ⟨?_, ?_, ?_, ?_, ?_, by simp [World.init], ?_⟩ <;> intro x hx <;> simp [World.init] at hx

theorem WFA.congr {w w' : World} (h : WFA w) (hf : w'.frecs = w.frecs) (ha : w'.arecs = w.arecs) (hl : w'.leaked = w.leaked)
    (hg : w'.fidg = w.fidg) : WFA w' := by
  refine ⟨?_, ?_, ?_, ?_, ?_, ?_, ?_⟩ <;> simp only [hf, ha, hl, hg]
  · exact h.att
  · exact h.afile
  · exact h.lfile
  · exact h.issued
  · exact h.fissued
  · exact h.fnodup
  · exact h.link

theorem setF_hasKey {w : World} {p : Nat} {r : FRec} {x : Nat} (h : ∃ e ∈ w.frecs, e.1 = x) : ∃ e ∈ (setF w p r).frecs, e.1 = x :=
  List.mem_map.mp (by rw [setF_keys]; exact List.mem_map.mpr h)

theorem fidNew_ne {w : World} (hs : w.fidg.nextid < 2 ^ 28) {x : Nat} (hx : ∃ k, k < w.fidg.nextid ∧ x = MAKE_ATOM FIDGROUP k) :
    fidNew w ≠ x := by
  obtain ⟨k, hk, rfl⟩ := hx
  intro heq
  have := MAKE_ATOM_inj FIDGROUP w.fidg.nextid k hs (by omega) heq
  omega

theorem WFA.regFid {w : World} (p : Nat) (hs : w.fidg.nextid < 2 ^ 28) (h : WFA w) : WFA (regF w p) := by
  refine ⟨h.att, h.afile, h.lfile, ?_, ?_, ?_, ?_⟩
  · intro a ha
    obtain ⟨k, hk, he⟩ := h.issued a ha
    exact ⟨k, Nat.lt_succ_of_lt hk, he⟩
  · intro i hi
    rcases List.mem_cons.mp hi with rfl | hi
    · exact ⟨w.fidg.nextid, Nat.lt_succ_self _, rfl⟩
    · obtain ⟨k, hk, he⟩ := h.fissued i hi
      exact ⟨k, Nat.lt_succ_of_lt hk, he⟩
  · exact List.pairwise_cons.mpr ⟨fun i hi => fidNew_ne hs (h.fissued i hi), h.fnodup⟩
  · intro a ha i hi hid
    rcases List.mem_cons.mp hi with rfl | hi
    · exact absurd hid (fidNew_ne hs (h.issued a ha))
    · exact h.link a ha i hi hid

theorem WFA.setFSame {w : World} {p : Nat} {r r' : FRec} (h : WFA w) (hmem : (p, r) ∈ w.frecs) (hat : r'.attach = r.attach) :
    WFA (setF w p r') := by
  refine ⟨?_, ?_, ?_, h.issued, h.fissued, h.fnodup, h.link⟩
  · intro e he
    rcases mem_setF he with ⟨rfl, _⟩ | ⟨he', _⟩
    · simp only [setF_arecs, setF_leaked, hat]; exact h.att (p, r) hmem
    · exact h.att e he'
  · exact fun a ha => setF_hasKey (h.afile a ha)
  · exact fun x hx => setF_hasKey (h.lfile x hx)

theorem WFA.addRec {w : World} (h : WFA w) (hw : WFF w) (r : FRec) (hr : r.attach = 0) :
    WFA { w with frecs := w.frecs ++ [(w.nobj, r)], nobj := w.nobj + 1 } := by
  have hfresh : ∀ {x}, (∃ e ∈ w.frecs, e.1 = x) → (x == w.nobj) = false := fun hx => by
    simpa using Nat.ne_of_lt (hw.ptr _ (List.mem_map.mpr hx))
  refine ⟨?_, ?_, ?_, h.issued, h.fissued, h.fnodup, h.link⟩
  · intro e he
    rcases List.mem_append.mp he with he | he
    · exact h.att e he
    · rw [List.mem_singleton.mp he, hr, List.countP_eq_zero.mpr fun a ha => by simpa using hfresh (h.afile a ha),
        List.countP_eq_zero.mpr fun x hx => by simpa using hfresh (h.lfile x hx)]
  · exact fun a ha => (h.afile a ha).imp fun e he => ⟨List.mem_append_left _ he.1, he.2⟩
  · exact fun x hx => (h.lfile x hx).imp fun e he => ⟨List.mem_append_left _ he.1, he.2⟩

theorem WFA.remFid {w : World} (id : Nat) (hg : ATOM_TO_GROUP id = FIDGROUP) (h : WFA w) : WFA (aRem w id) := by
  rw [aRem_fid _ _ hg]
  exact ⟨h.att, h.afile, h.lfile, h.issued, fun i hi => h.fissued i (List.mem_of_mem_eraseP hi), h.fnodup.sublist List.eraseP_sublist,
    fun a ha i hi => h.link a ha i (List.mem_of_mem_eraseP hi)⟩

theorem WFA.delRec {w : World} {p : Nat} {r : FRec} (h : WFA w) (hmem : (p, r) ∈ w.frecs) (hat : r.attach = 0) : WFA (delF w p) := by
  have h0 := h.att (p, r) hmem
  simp only [hat] at h0
  have hA : w.arecs.countP (fun a => a.2.file == p) = 0 := by omega
  have hL : w.leaked.countP (fun x => x == p) = 0 := by omega
  have hne : ∀ {x}, (∃ e ∈ w.frecs, e.1 = x) → (x == p) = false → ∃ e ∈ (delF w p).frecs, e.1 = x :=
    fun ⟨e, he, heq⟩ hx => ⟨e, mem_delF.mpr ⟨he, by simpa [heq] using hx⟩, heq⟩
  refine ⟨fun e he => h.att e (mem_delF.mp he).1, ?_, ?_, h.issued, h.fissued, h.fnodup, h.link⟩
  · exact fun a ha => hne (h.afile a ha) (by simpa using List.countP_eq_zero.mp hA a ha)
  · exact fun x hx => hne (h.lfile x hx) (by simpa using List.countP_eq_zero.mp hL x hx)

theorem perm_cons_filter_key {α} (l : List (Nat × α)) (hk : (l.map (·.1)).Nodup) {p : Nat} {r : α} (h : (p, r) ∈ l) :
    l.Perm ((p, r) :: l.filter (fun e => e.1 != p)) := by
  induction l with
  | nil => cases h
  | cons x t ih =>
    obtain ⟨hx, hk⟩ := List.nodup_cons.mp hk
    by_cases hxp : x.1 = p
    · have hne : ∀ e ∈ t, (e.1 != p) = true := fun e he => by
        simpa [← hxp] using fun heq : e.1 = x.1 => hx (List.mem_map.mpr ⟨e, he, heq⟩)
      rcases List.mem_cons.mp h with rfl | h
      · simp [List.filter_eq_self.mpr hne]
      · exact absurd (hne _ h) (by simp)
    · have ht : (p, r) ∈ t := (List.mem_cons.mp h).resolve_left fun e => hxp (e ▸ rfl)
      simpa [hxp] using ((ih hk ht).cons x).trans (List.Perm.swap ..)

theorem filter_key_length {α} (l : List (Nat × α)) (hk : (l.map (·.1)).Nodup) {p : Nat} {r : α} (h : (p, r) ∈ l) :
    (l.filter (fun e => e.1 != p)).length + 1 = l.length :=
  (perm_cons_filter_key l hk h).length_eq.symm

theorem find_unique {l : List Info} (hn : l.Pairwise (fun a b => a.id ≠ b.id)) {id : Nat} {e0 i : Info}
    (hfind : l.find? (fun e => e.id == id) = some e0) (hi : i ∈ l) (hid : i.id = id) : i = e0 := by
  have := find?_of_mem_nodup l i hi hn
  rw [hid, hfind] at this
  exact (Option.some.inj this).symm

theorem WFA.start {cfg : Cfg} (hk : cfg.kindChecked = true) {w : World} {id p : Nat} {r : FRec} (h : WFA w)
    (hl : lookF cfg w id = .file p r) :
    WFA (regA { setF w p { r with attach := r.attach + 1 } with arecs := w.arecs ++ [(w.nobj, ⟨id, p⟩)], nobj := w.nobj + 1 } w.nobj) := by
  obtain ⟨hg, ⟨e0, hfind, hobj⟩, hmem⟩ := lookF_file hk hl
  obtain ⟨he0, he0id⟩ := find?_id_some _ _ _ hfind
  refine ⟨?_, ?_, fun x hx => setF_hasKey (h.lfile x hx), ?_, h.fissued, h.fnodup, ?_⟩
  · intro e he
    simp only [regA, List.countP_append, List.countP_cons, List.countP_nil, setF_leaked]
    rcases mem_setF he with ⟨rfl, _⟩ | ⟨he', hne⟩
    · have := h.att (p, r) hmem
      simp only [beq_self_eq_true, if_true] at this ⊢
      omega
    · simp only [show (p == e.1) = false by simpa using Ne.symm hne, Bool.false_eq_true, if_false, Nat.add_zero]
      exact h.att e he'
  · intro a ha
    rcases List.mem_append.mp ha with ha | ha
    · exact setF_hasKey (h.afile a ha)
    · rw [List.mem_singleton.mp ha]; exact setF_hasKey ⟨_, hmem, rfl⟩
  · intro a ha
    rcases List.mem_append.mp ha with ha | ha
    · exact h.issued a ha
    · rw [List.mem_singleton.mp ha, ← he0id]; exact h.fissued e0 he0
  · intro a ha i hi hid
    rcases List.mem_append.mp ha with ha | ha
    · exact h.link a ha i hi hid
    · rw [List.mem_singleton.mp ha] at hid ⊢
      rw [find_unique h.fnodup hfind hi hid]; exact hobj

theorem WFA.endLeak {cfg : Cfg} (hk : cfg.kindChecked = true) {w : World} {id q : Nat} {a : ARec} (hw : WF w) (h : WFA w)
    (hl : lookA cfg w id = .acc q a) : WFA { delA (aRem w id) q with leaked := w.leaked ++ [a.file] } := by
  obtain ⟨hg, _, hmem⟩ := lookA_acc hk hl
  have hsub : ∀ b ∈ w.arecs.filter (fun e => e.1 != q), b ∈ w.arecs := fun b hb => (List.mem_filter.mp hb).1
  rw [aRem_aid _ _ hg]
  refine ⟨?_, fun b hb => h.afile b (hsub b hb), ?_, fun b hb => h.issued b (hsub b hb), h.fissued, h.fnodup,
    fun b hb => h.link b (hsub b hb)⟩
  · intro e he
    have h1 := h.att e he
    have h2 := (perm_cons_filter_key w.arecs hw.toWFS.keys hmem).countP_eq fun b => b.2.file == e.1
    simp only [delA, List.countP_append, List.countP_cons, List.countP_nil] at h2 ⊢
    omega
  · intro x hx
    rcases List.mem_append.mp hx with hx | hx
    · exact h.lfile x hx
    · rw [List.mem_singleton.mp hx]; exact h.afile (q, a) hmem

theorem WFA.endOk {cfg : Cfg} (hk : cfg.kindChecked = true) {w : World} {id q p : Nat} {a : ARec} {r : FRec} (hw : WF w) (h : WFA w)
    (hl : lookA cfg w id = .acc q a) (hlf : lookF cfg (delA (aRem w id) q) a.fileId = .file p r) :
    WFA (setF (delA (aRem w id) q) p { r with attach := r.attach - 1 }) := by
  have hL := h.endLeak hk hw hl
  obtain ⟨hg, _, hget⟩ := lookA_acc hk hl
  obtain ⟨_, ⟨e1, hfind1, hobj1⟩, hmemF⟩ := lookF_file hk hlf
  rw [aRem_aid _ _ hg] at hfind1 hmemF hL ⊢
  have hpfile : p = a.file := by
    rw [← hobj1]
    exact h.link (q, a) hget e1 (find?_id_some _ _ _ hfind1).1 (find?_id_some _ _ _ hfind1).2
  refine ⟨?_, ?_, ?_, hL.issued, hL.fissued, hL.fnodup, hL.link⟩
  · intro e he
    rcases mem_setF he with ⟨rfl, _⟩ | ⟨he', hne⟩
    · have := hL.att (p, r) hmemF
      simp only [List.countP_append, List.countP_cons, List.countP_nil, hpfile, beq_self_eq_true, if_true, setF_arecs,
        setF_leaked, delA_leaked] at this ⊢
      omega
    · have := hL.att e he'
      simpa only [List.countP_append, List.countP_cons, List.countP_nil, ← hpfile, setF_arecs, setF_leaked, delA_leaked,
        show (p == e.1) = false by simpa using Ne.symm hne, Bool.false_eq_true, if_false, Nat.add_zero] using this
  · exact fun b hb => setF_hasKey (hL.afile b hb)
  · exact fun x hx => setF_hasKey (h.lfile x hx)

/-- `hs`: the file-id counter has not wrapped; only the two changes that issue a file id need it (there it reads
    `w.fidg.nextid < 2 ^ 28`, by unfolding) -/
theorem Trans.wfa {cfg : Cfg} (hk : cfg.kindChecked = true) {w w' : World} {op : Op} {res : Res} (t : Trans cfg w op w' res) (hw : WF w)
    (hs : w'.fidg.nextid ≤ 2 ^ 28) (h : WFA w) : WFA w' := by
  cases t with
  | same => exact h
  | failedStart => exact h.congr rfl rfl rfl rfl
  | openShared acc hp hr => exact .regFid _ hs (h.setFSame (getF_mem hr) rfl)
  | openNew path a hn =>
    exact (WFA.regFid (w := { w with frecs := w.frecs ++ [(w.nobj, ⟨path, a, 1, 0⟩)], nobj := w.nobj + 1 }) _ hs
      (h.addRec hw.toWFF _ rfl)).congr rfl rfl rfl rfl
  | closeLast hl _ _ hat =>
    obtain ⟨hg, _, hget⟩ := lookF_file hk hl
    exact ((h.delRec hget hat).remFid _ hg).congr rfl rfl rfl rfl
  | closeShared hl _ _ =>
    obtain ⟨hg, _, hget⟩ := lookF_file hk hl
    exact .remFid _ hg (h.setFSame hget rfl)
  | start hl => exact h.start hk hl
  | endOk hl hlf => exact h.endOk hk hw hl hlf
  | endLeak hl _ => exact h.endLeak hk hw hl

theorem Trans.nextid {cfg : Cfg} {w w' : World} {op : Op} {res : Res} (t : Trans cfg w op w' res) :
    w.fidg.nextid ≤ w'.fidg.nextid ∧ w'.fidg.nextid ≤ w.fidg.nextid + 1 := by
  cases t with
  | openShared | openNew => exact ⟨Nat.le_succ _, Nat.le_refl _⟩
  | closeLast | closeShared | endOk | endLeak =>
    simp only [setDd, setF_fidg, delA_fidg, (aRem_frame _ _).1, delF_fidg]; exact ⟨Nat.le_refl _, Nat.le_succ _⟩
  | same | failedStart | start => exact ⟨Nat.le_refl _, Nat.le_succ _⟩

theorem badGroup_fid : badGroup (FIDGROUP : Int) = false := by decide
theorem badGroup_aid : badGroup (AIDGROUP : Int) = false := by decide

theorem atoms_fidg (w : World) : w.atoms FIDGROUP = w.fidg := if_pos rfl
theorem atoms_aidg (w : World) : w.atoms AIDGROUP = w.aidg := by simp [World.atoms, show AIDGROUP ≠ FIDGROUP by decide]

theorem atoms_setFidg (w w' : World) (hf : w'.aidg = w.aidg) : w'.atoms = upd w.atoms FIDGROUP w'.fidg := by
  funext g
  by_cases hg : g = FIDGROUP <;> simp [World.atoms, upd, hg, hf]

theorem atoms_setAidg (w w' : World) (hf : w'.fidg = w.fidg) : w'.atoms = upd w.atoms AIDGROUP w'.aidg := by
  funext g
  by_cases hg : g = AIDGROUP <;> simp [World.atoms, upd, hg, hf, show AIDGROUP ≠ FIDGROUP by decide]

theorem atoms_regF (w : World) (obj : Nat) (hc : w.fidg.count ≠ 0) :
    (regF w obj).atoms = sstep w.atoms (.register FIDGROUP obj) := by
  have e : sstep w.atoms (.register FIDGROUP obj) = upd w.atoms FIDGROUP (regF w obj).fidg := by
    simp [sstep, badGroup_fid, atoms_fidg, hc, regF, fidNew]
  rw [e]; exact atoms_setFidg w _ rfl

theorem atoms_regA (w : World) (obj : Nat) (hc : w.aidg.count ≠ 0) :
    (regA w obj).atoms = sstep w.atoms (.register AIDGROUP obj) := by
  have e : sstep w.atoms (.register AIDGROUP obj) = upd w.atoms AIDGROUP (regA w obj).aidg := by
    simp [sstep, badGroup_aid, atoms_aidg, hc, regA, aidNew]
  rw [e]; exact atoms_setAidg w _ rfl

theorem atoms_aRem (w : World) (id : Nat) : (aRem w id).atoms = sstep w.atoms (.remove id) := by
  rw [sstep_remove]
  by_cases hF : ATOM_TO_GROUP id = FIDGROUP
  · rw [aRem_fid _ _ hF, hF, atoms_fidg]; exact atoms_setFidg w _ rfl
  by_cases hA : ATOM_TO_GROUP id = AIDGROUP
  · rw [aRem_aid _ _ hA, hA, atoms_aidg]; exact atoms_setAidg w _ rfl
  · funext g
    by_cases hg : g = ATOM_TO_GROUP id <;> simp [World.atoms, aRem, hF, hA, upd, hg]

structure TraceOk (w : World) : Prop where
  eq : w.atoms = srunS SState.init w.trace
  cf : w.fidg.count ≠ 0
  ca : w.aidg.count ≠ 0

theorem srunS_snoc (sp : SState) (l : List Atom.Op) (op : Atom.Op) : srunS sp (l ++ [op]) = sstep (srunS sp l) op := by
  rw [srunS_append]; rfl

theorem TraceOk.same {w w' : World} (h : TraceOk w) (hf : w'.fidg = w.fidg) (ha : w'.aidg = w.aidg) (ht : w'.trace = w.trace) : TraceOk w' := by
  refine ⟨?_, by rw [hf]; exact h.cf, by rw [ha]; exact h.ca⟩
  have : w'.atoms = w.atoms := by funext g; simp [World.atoms, hf, ha]
  rw [this, ht]; exact h.eq

theorem TraceOk.regFid {w : World} (h : TraceOk w) (obj : Nat) : TraceOk (regF w obj) := by
  refine ⟨?_, h.cf, h.ca⟩
  rw [atoms_regF w obj h.cf, h.eq]
  show _ = srunS SState.init (w.trace ++ [.register FIDGROUP obj])
  rw [srunS_snoc]

theorem TraceOk.regAid {w : World} (h : TraceOk w) (obj : Nat) : TraceOk (regA w obj) := by
  refine ⟨?_, h.cf, h.ca⟩
  rw [atoms_regA w obj h.ca, h.eq]
  show _ = srunS SState.init (w.trace ++ [.register AIDGROUP obj])
  rw [srunS_snoc]

theorem TraceOk.remId {w : World} (h : TraceOk w) (id : Nat) : TraceOk (aRem w id) := by
  obtain ⟨_, cf, ca, tr⟩ := aRem_frame w id
  exact ⟨by rw [atoms_aRem w id, h.eq, tr, srunS_snoc], cf ▸ h.cf, ca ▸ h.ca⟩

theorem init_traceOk : TraceOk World.init := by
  refine ⟨?_, by decide, by decide⟩
  funext g
  have hne : AIDGROUP ≠ FIDGROUP := by decide
  have e1 : (64 &&& (64 - 1) != 0) = false := by decide
  have e2 : (256 &&& (256 - 1) != 0) = false := by decide
  have t1 : ((FIDGROUP : Nat) : Int).toNat = FIDGROUP := rfl
  have t2 : ((AIDGROUP : Nat) : Int).toNat = AIDGROUP := rfl
  simp only [World.init, initOps, srunS, sstep, badGroup_fid, badGroup_aid, e1, e2, Bool.false_eq_true, if_false, Bool.or_false,
    show ((64 : Nat) == 0) = false from rfl, show ((256 : Nat) == 0) = false from rfl, t1, t2]
  by_cases hg : g = FIDGROUP
  · subst hg; simp [World.atoms, upd, SState.init, hne.symm]
  · by_cases hg2 : g = AIDGROUP
    · subst hg2; simp [World.atoms, upd, SState.init, hne]
    · simp [World.atoms, upd, SState.init, hg, hg2]

theorem Trans.traceOk {cfg : Cfg} {w w' : World} {op : Op} {res : Res} (t : Trans cfg w op w' res) (h : TraceOk w) : TraceOk w' := by
  have same {w w' : World} (h : TraceOk w) : w'.fidg = w.fidg → w'.aidg = w.aidg → w'.trace = w.trace → TraceOk w' := h.same
  cases t with
  | same => exact h
  | failedStart => exact same h rfl rfl rfl
  | openShared => apply TraceOk.regFid; exact same h rfl rfl rfl
  | openNew => refine same (TraceOk.regFid (same h ?_ ?_ ?_) _) rfl rfl rfl <;> rfl
  | @closeLast _ id p =>
    have := TraceOk.remId (w := delF w p) (same h rfl rfl rfl) id
    generalize aRem (delF w p) id = w1 at this ⊢
    exact same this rfl rfl rfl
  | closeShared => apply TraceOk.remId; exact same h rfl rfl rfl
  | start => apply TraceOk.regAid; exact same h rfl rfl rfl
  | @endOk id | @endLeak id =>
    -- `aRem` is put out of the unifier's sight: unfolding it on both sides of the `rfl`s below is slow to check
    have := h.remId id
    generalize aRem w id = w1 at this ⊢
    exact same this rfl rfl rfl

structure NoOrphan (w : World) : Prop where
  alive : ∀ a ∈ w.arecs, ∃ i ∈ w.fidg.live, i.id = a.2.fileId
  noleak : w.leaked = []
  fpos : ∀ k ∈ w.frecs.map (·.1), 1 ≤ k
  npos : 1 ≤ w.nobj

theorem init_noOrphan : NoOrphan World.init := by
  refine ⟨?_, rfl, ?_, by simp [World.init]⟩ <;> intro x hx <;> simp [World.init] at hx

theorem lookF_of_live {cfg : Cfg} {w : World} (hw : WFF w) (hn : NoOrphan w) {id : Nat} (hg : ATOM_TO_GROUP id = FIDGROUP)
    {i : Info} (hi : i ∈ w.fidg.live) (hid : i.id = id) : ∃ p r, lookF cfg w id = .file p r := by
  obtain ⟨e, he⟩ := Option.isSome_iff_exists.mp (List.find?_isSome.mpr ⟨i, hi, by simp [hid]⟩ :
    (w.fidg.live.find? (fun e => e.id == id)).isSome)
  obtain ⟨rec, hrec, hreq⟩ := List.mem_map.mp (hw.obj e (List.mem_of_find?_eq_some he))
  have hget : getF w e.obj = some rec.2 := getF_of_mem hw.keys (by rw [← hreq]; exact hrec)
  have hpos := hn.fpos _ (mem_keys hrec)
  have hrc := (hw.count rec hrec).2
  refine ⟨e.obj, rec.2, ?_⟩
  have haobj : aObj w id = e.obj := by simp [aObj, grpOf, hg, he]
  have hnn : (e.obj == NULL) = false := by simp [NULL]; omega
  have hr0 : (rec.2.refcount == 0) = false := by simp; omega
  simp only [lookF, hg, bne_self_eq_false, Bool.and_false, Bool.false_eq_true, if_false, haobj, hnn, hget, hr0]

/-- `Hendaccess` cannot take its failing branch -/
theorem endAccess_lookF {cfg : Cfg} (hk : cfg.kindChecked = true) {w : World} {id q : Nat} {a : ARec} (hw : WF w) (ha : WFA w)
    (h : NoOrphan w) (hl : lookA cfg w id = .acc q a) : ∃ p r, lookF cfg (delA (aRem w id) q) a.fileId = .file p r := by
  have hmid := (endAccess_mid_wf hk hw hl).toWFF
  obtain ⟨hg, _, hmem⟩ := lookA_acc hk hl
  obtain ⟨i, hi, hid⟩ := h.alive (q, a) hmem
  obtain ⟨k, _, hk2⟩ := ha.issued (q, a) hmem
  rw [aRem_aid _ _ hg] at hmid ⊢
  exact lookF_of_live hmid ⟨fun b hb => h.alive b (mem_delA.mp hb).1, h.noleak, h.fpos, h.npos⟩
    (hk2 ▸ group_MAKE_ATOM FIDGROUP k (by decide)) hi hid

theorem Trans.noOrphan {cfg : Cfg} (hk : cfg.kindChecked = true) (hc : cfg.closeChecksAids = true) {w w' : World} {op : Op} {res : Res}
    (t : Trans cfg w op w' res) (hw : WF w) (ha : WFA w) (h : NoOrphan w) : NoOrphan w' := by
  have keep {id : Nat} (hany : (cfg.closeChecksAids && w.arecs.any (fun a => a.2.fileId == id)) = false) :
      ∀ a ∈ w.arecs, ∃ i ∈ w.fidg.live.eraseP (fun e => e.id == id), i.id = a.2.fileId := by
    intro a ha
    obtain ⟨i, hi, hid⟩ := h.alive a ha
    refine ⟨i, (List.mem_eraseP_of_neg ?_).mpr hi, hid⟩
    simp only [hc, Bool.true_and, List.any_eq_false, beq_iff_eq] at hany
    simpa [hid] using hany a ha
  cases t with
  | same => exact h
  | failedStart => exact ⟨h.alive, h.noleak, h.fpos, h.npos⟩
  | openShared acc hp hr =>
    exact ⟨fun a ha => (h.alive a ha).imp fun i hi => ⟨List.mem_cons_of_mem _ hi.1, hi.2⟩, h.noleak,
      by simp only [regF, setF_keys]; exact h.fpos, h.npos⟩
  | openNew path a hn =>
    refine ⟨fun a ha => (h.alive a ha).imp fun i hi => ⟨List.mem_cons_of_mem _ hi.1, hi.2⟩, h.noleak, ?_, Nat.le_succ_of_le h.npos⟩
    intro k hk
    simp only [setDd, regF, List.map_append, List.mem_append, List.map_cons, List.map_nil, List.mem_singleton] at hk
    rcases hk with hk | rfl
    · exact h.fpos k hk
    · exact h.npos
  | closeLast hl hany _ _ =>
    obtain ⟨hg, _⟩ := lookF_file hk hl
    simp only [setDd, aRem_fid _ _ hg]
    exact ⟨keep hany, h.noleak, fun k hk => h.fpos k ((List.filter_sublist.map _).subset hk), h.npos⟩
  | closeShared hl hany _ =>
    obtain ⟨hg, _⟩ := lookF_file hk hl
    simp only [aRem_fid _ _ hg]
    exact ⟨keep hany, h.noleak, by simp only [setF_keys]; exact h.fpos, h.npos⟩
  | start hl =>
    obtain ⟨_, ⟨e0, hfind, _⟩, _⟩ := lookF_file hk hl
    refine ⟨?_, h.noleak, by simp only [regA, setF_keys]; exact h.fpos, Nat.le_succ_of_le h.npos⟩
    intro a ha
    rcases List.mem_append.mp ha with ha | ha
    · exact h.alive a ha
    · rw [List.mem_singleton.mp ha]
      exact ⟨e0, find?_id_some _ _ _ hfind⟩
  | endOk hl hlf =>
    obtain ⟨hg, _⟩ := lookA_acc hk hl
    simp only [aRem_aid _ _ hg]
    exact ⟨fun b hb => h.alive b (mem_delA.mp hb).1, h.noleak, by simp only [setF_keys]; exact h.fpos, h.npos⟩
  | endLeak hl hno =>
    obtain ⟨p, r, hlf⟩ := endAccess_lookF hk hw ha h hl
    exact absurd hlf (hno p r)

theorem run_inv {P : World → Prop} (cfg : Cfg) (ops : List Op) (h : ∀ w, ∀ op ∈ ops, P w → P (step cfg w op).1) :
    ∀ w, P w → P (run cfg w ops) := by
  induction ops with
  | nil => exact fun _ hw => hw
  | cons op ops ih =>
    exact fun w hw => ih (fun w o ho => h w o (List.mem_cons_of_mem _ ho)) _ (h w op List.mem_cons_self hw)

theorem run_append (cfg : Cfg) (w : World) (a b : List Op) : run cfg w (a ++ b) = run cfg (run cfg w a) b := by
  induction a generalizing w with
  | nil => rfl
  | cons op t ih => simp only [List.cons_append, run]; exact ih _

theorem run_nextid (cfg : Cfg) (w : World) (ops : List Op) : (run cfg w ops).fidg.nextid ≤ w.fidg.nextid + ops.length := by
  induction ops generalizing w with
  | nil => exact Nat.le_refl _
  | cons op ops ih =>
    have := (step_trans cfg w op).nextid.2
    have := ih (step cfg w op).1
    simp only [run, List.length_cons]; omega

/-- `att`: a second issue of a file id would tie an access record to a file it was not started on -/
structure Reach (cfg : Cfg) (w : World) : Prop where
  wf : WF w
  trace : TraceOk w
  att : w.fidg.nextid ≤ 2 ^ 28 → WFA w ∧ (cfg.closeChecksAids = true → NoOrphan w)

theorem init_reach (cfg : Cfg) : Reach cfg World.init :=
  ⟨init_wf, init_traceOk, fun _ => ⟨init_wfa, fun _ => init_noOrphan⟩⟩

theorem Trans.reach {cfg : Cfg} (hk : cfg.kindChecked = true) {w w' : World} {op : Op} {res : Res} (t : Trans cfg w op w' res)
    (h : Reach cfg w) : Reach cfg w' :=
  ⟨t.wf hk h.wf, t.traceOk h.trace, fun hs =>
    have ⟨ha, hn⟩ := h.att (Nat.le_trans t.nextid.1 hs)
    ⟨t.wfa hk h.wf hs ha, fun hc => t.noOrphan hk hc h.wf ha (hn hc)⟩⟩

theorem run_reach (cfg : Cfg) (hk : cfg.kindChecked = true) (ops : List Op) (w : World) : Reach cfg w → Reach cfg (run cfg w ops) :=
  run_inv cfg ops (fun w op _ => (step_trans cfg w op).reach hk) w

section sd
open H4.Gen.Src

theorem unpack_eq (x : Nat) : sdidUnpack x = (x / 2 ^ 20 % 2 ^ 12, x / 2 ^ 16 % 2 ^ 4, x % 2 ^ 16) := by
  have lt (a n : Nat) (hn : 0 < n) (h : n < 4294967296) : a % n % 4294967296 = a % n :=
    Nat.mod_eq_of_lt (Nat.lt_trans (Nat.mod_lt _ hn) h)
  simp only [sdidUnpack, SDID_SLOT, SDID_KIND, SDID_VARINDEX, Nat.shiftRight_eq_div_pow,
    show (4095 : Nat) = 2 ^ 12 - 1 from rfl, show (15 : Nat) = 2 ^ 4 - 1 from rfl, show (65535 : Nat) = 2 ^ 16 - 1 from rfl,
    Nat.and_two_pow_sub_one_eq_mod, lt _ (2 ^ 12) (by decide) (by decide), lt _ (2 ^ 4) (by decide) (by decide),
    lt _ (2 ^ 16) (by decide) (by decide)]

theorem unpack_pack (c k i : Nat) (hc : c < 4096) (hk : k < 16) (hi : i < 65536) :
    sdidUnpack (c * 2 ^ 20 + k * 2 ^ 16 + i) = (c, k, i) := by
  rw [unpack_eq]
  refine Prod.ext ?_ (Prod.ext ?_ ?_) <;> simp only [] <;> omega

theorem SDSTART_ID_eq (c : Nat) (hc : c < 4096) : SDSTART_ID c = c * 2 ^ 20 + 6 * 2 ^ 16 + c := by
  simp only [SDSTART_ID, Nat.shiftLeft_eq]
  omega

theorem SDSELECT_ID_eq (c i : Nat) (hc : c < 4096) (hi : i < 65536) : SDSELECT_ID (SDSTART_ID c) i = c * 2 ^ 20 + 4 * 2 ^ 16 + i := by
  simp only [SDSTART_ID_eq c hc, SDSELECT_ID, Nat.shiftLeft_eq, show (65535 : Nat) = 2 ^ 16 - 1 from rfl, Nat.and_two_pow_sub_one_eq_mod]
  omega

/-- `sdsid & 0xfff00000` keeps the slot -/
theorem and_slot_mask (c r : Nat) (hc : c < 4096) (hr : r < 2 ^ 20) : (c * 2 ^ 20 + r) &&& 4293918720 = c * 2 ^ 20 := by
  have h1 : c * 2 ^ 20 &&& 4293918720 = c * 2 ^ 20 := by
    rw [show (4293918720 : Nat) = 4095 <<< 20 from rfl, ← Nat.shiftLeft_eq, ← Nat.shiftLeft_and_distrib,
      show (4095 : Nat) = 2 ^ 12 - 1 from rfl, Nat.and_two_pow_sub_one_eq_mod, Nat.mod_eq_of_lt hc]
  have h2 : r &&& 4293918720 = 0 := by
    rw [← Nat.mod_eq_of_lt hr, ← Nat.and_two_pow_sub_one_eq_mod, Nat.and_assoc,
      show (2 ^ 20 - 1 &&& 4293918720 : Nat) = 0 by decide, Nat.and_zero]
  rw [Nat.mul_comm, Nat.two_pow_add_eq_or_of_lt hr, Nat.and_or_distrib_right, Nat.mul_comm, h1, h2, Nat.or_zero]

theorem SDGETDIMID_ID_eq (c i d : Nat) (hc : c < 4096) (hi : i < 65536) (hd : d < 65536) :
    SDGETDIMID_ID (c * 2 ^ 20 + 4 * 2 ^ 16 + i) d = c * 2 ^ 20 + 5 * 2 ^ 16 + d := by
  simp only [SDGETDIMID_ID, Nat.add_assoc (c * 2 ^ 20), and_slot_mask c _ hc (show 4 * 2 ^ 16 + i < 2 ^ 20 by omega), Nat.shiftLeft_eq]
  omega
end sd

end H4.Handles
