import H4.Gen.Fn.MfgrRec
import H4.Codecs
import H4.Lemmas.CodecsRec
import H4.Lemmas.C2LBytes
import H4.Lemmas.FormatU8s
/-! The DFTAG_ID / DFTAG_LD image-dimension record of the GR interface as translated from `hdf/src/mfgr.c` (`H4.Gen.Fn.MfgrRec`): the reader
    `Decode_diminfo` and the writer block of `GRIupdatemeta` (fragment `GRIupdatemeta_id`), against the hand-written codec
    `H4.Codecs.encode_mfgr` / `decode_mfgr`.  Method as in `H4.Lemmas.C02HdrFn`. -/
namespace H4.Lemmas.C15RecFn
open H4 H4.Codecs H4.Gen.Codecs H4.Gen.Fn.MfgrRec H4.C2L
open H4.Lemmas.C02HdrFn (nv8 nv16 nv32 nv8_lt nv16_lt nv32_lt val16_u8s val32_u8s)

abbrev WSt := GRIupdatemeta_id.St

def wrL : Cursor WSt where
  buf := (·.p)
  pos := (·.p_i)
  ub := (·.ub)
  setBuf := GRIupdatemeta_id.St.set_p
  setPos := GRIupdatemeta_id.St.set_p_i
  chk := fun s c _ => GRIupdatemeta_id.chk s c

theorem wrP : wrL.Plain fun s u => { s with ub := u } := {}
theorem wrLaw : wrL.LawfulW := wrP.lawfulW

/-- the eight ENCODE macros (operands read from the state at entry: no store changes them) -/
def idW (s : WSt) : WSt :=
  have t : WSt := enc32 wrL s ((s.img_ptr_img_dim_xdim) % 4294967296)
  have t : WSt := enc32 wrL t ((s.img_ptr_img_dim_ydim) % 4294967296)
  have t : WSt := enc16 wrL t s.img_ptr_img_dim_nt_tag s.img_ptr_img_dim_nt_tag
  have t : WSt := enc16 wrL t s.img_ptr_img_dim_nt_ref s.img_ptr_img_dim_nt_ref
  have t : WSt := enc16s wrL t ((s.img_ptr_img_dim_ncomps) % 4294967296)
  have t : WSt := enc16s wrL t (((((0) + 32768) % 65536 - 32768)) % 4294967296)
  have t : WSt := enc16 wrL t s.img_ptr_img_dim_comp_tag s.img_ptr_img_dim_comp_tag
  have t : WSt := enc16 wrL t s.img_ptr_img_dim_comp_ref s.img_ptr_img_dim_comp_ref
  t

/-- the translated fragment with NAMED arguments -/
def GRIupdatemeta_idC (fuel : Nat) (p : List Int) (xdim ydim nt_tag nt_ref ncomps comp_tag comp_ref : Int) : WSt :=
  GRIupdatemeta_id (fuel := fuel) (p := p) (img_ptr_img_dim_xdim := xdim) (img_ptr_img_dim_ydim := ydim) (img_ptr_img_dim_nt_tag := nt_tag)
    (img_ptr_img_dim_nt_ref := nt_ref) (img_ptr_img_dim_ncomps := ncomps) (img_ptr_img_dim_comp_tag := comp_tag)
    (img_ptr_img_dim_comp_ref := comp_ref)

def wrInit (p : List Int) (xdim ydim nt_tag nt_ref ncomps comp_tag comp_ref : Int) : WSt :=
  { p := p, img_ptr_img_dim_xdim := xdim, img_ptr_img_dim_ydim := ydim, img_ptr_img_dim_nt_tag := nt_tag, img_ptr_img_dim_nt_ref := nt_ref,
    img_ptr_img_dim_ncomps := ncomps, img_ptr_img_dim_comp_tag := comp_tag, img_ptr_img_dim_comp_ref := comp_ref }

theorem GRIupdatemeta_id_phases (fuel : Nat) (p : List Int) (xdim ydim nt_tag nt_ref ncomps comp_tag comp_ref : Int) :
    GRIupdatemeta_idC fuel p xdim ydim nt_tag nt_ref ncomps comp_tag comp_ref =
      idW (wrInit p xdim ydim nt_tag nt_ref ncomps comp_tag comp_ref) := by
  kernel_rfl

theorem be16I_length (x : Int) : (be16I x).length = 2 := rfl
theorem be32I_length (x : Int) : (be32I x).length = 4 := rfl

def idB (xdim ydim nt_tag nt_ref ncomps comp_tag comp_ref : Int) : List Int :=
  be32I (xdim % 4294967296) ++ be32I (ydim % 4294967296) ++ be16I nt_tag ++ be16I nt_ref ++ be16I (ncomps % 4294967296) ++
    be16I (((((0) + 32768) % 65536 - 32768)) % 4294967296) ++ be16I comp_tag ++ be16I comp_ref

theorem idB_length (a b c d e f g : Int) : (idB a b c d e f g).length = 20 := by
  simp only [idB, List.length_append, be32I_length, be16I_length]

theorem idW_eq (s : WSt) (h1 : 0 ≤ s.img_ptr_img_dim_nt_tag) (h2 : 0 ≤ s.img_ptr_img_dim_nt_ref) (h3 : 0 ≤ s.img_ptr_img_dim_comp_tag)
    (h4 : 0 ≤ s.img_ptr_img_dim_comp_ref) :
    idW s = wr wrL s (idB s.img_ptr_img_dim_xdim s.img_ptr_img_dim_ydim s.img_ptr_img_dim_nt_tag s.img_ptr_img_dim_nt_ref
      s.img_ptr_img_dim_ncomps s.img_ptr_img_dim_comp_tag s.img_ptr_img_dim_comp_ref) := by
  unfold idW idB
  simp only []
  rw [enc32_wr wrLaw s _ (by omega), enc32_wr wrLaw _ _ (by omega), enc16_wr wrLaw _ _ _ h1 rfl, enc16_wr wrLaw _ _ _ h2 rfl,
    enc16s_wr wrLaw _ _ (by decide), enc16s_wr wrLaw _ _ (by omega), enc16_wr wrLaw _ _ _ h3 rfl, enc16_wr wrLaw _ _ _ h4 rfl]
  simp only [wr_wr wrLaw]

theorem ofNat_mod256 (n : Nat) : UInt8.ofNat (n % 256) = UInt8.ofNat n :=
  UInt8.toNat_inj.mp (by rw [UInt8.toNat_ofNat', UInt8.toNat_ofNat']; omega)

/-- the encoders of the two hand-written models (masks and shifts here, quotients there) are the same functions -/
theorem enc16_format (n : Nat) : Codecs.enc16 n = Format.enc16 n := by
  simp only [Codecs.enc16, Format.enc16, and255, Nat.shiftRight_eq_div_pow, ofNat_mod256, Nat.reducePow]
theorem enc32_format (n : Nat) : Codecs.enc32 n = Format.enc32 n := by
  simp only [Codecs.enc32, Format.enc32, and255, Nat.shiftRight_eq_div_pow, ofNat_mod256, Nat.reducePow]

theorem u8s_enc16 (n : Nat) : u8s (Codecs.enc16 n) = be16I (n : Int) := by rw [enc16_format, H4.Lemmas.C02HdrFn.u8s_enc16]
theorem u8s_enc32 (n : Nat) : u8s (Codecs.enc32 n) = be32I (n : Int) := by rw [enc32_format, H4.Lemmas.C02HdrFn.u8s_enc32]

theorem u8s_encI32 (i : Int) : u8s (encI32 i) = be32I (i % 4294967296) := by
  rw [encI32, u8s_enc32, toU32]
  congr 1
  omega

theorem u8s_encI16 (i : Int) : u8s (encI16 i) = be16I i := by
  rw [encI16, u8s_enc16, toU16]
  have : (((i % 65536).toNat : Nat) : Int) = i % 65536 := by omega
  rw [this, be16I_mod]

/-- **the model's `encode_mfgr` is the bytes the block stores** (tags and refs as naturals, sizes and component count as C integers;
    the interlace on disk is `MFGR_INTERLACE_PIXEL` whatever the record says) -/
theorem model_bytes (r : DimRec) :
    u8s (encode_mfgr r) = idB r.xdim r.ydim r.ntTag r.ntRef r.ncomps r.compTag r.compRef := by
  simp only [encode_mfgr, encodeDim, u8s_append, u8s_encI32, u8s_enc16, u8s_encI16, idB, be16I_mod32, MFGR_INTERLACE_PIXEL]
  rfl

theorem wr_any (fuel : Nat) (p : List Int) (r : DimRec) :
    GRIupdatemeta_idC fuel p r.xdim r.ydim r.ntTag r.ntRef r.ncomps r.compTag r.compRef =
      wr wrL (wrInit p r.xdim r.ydim r.ntTag r.ntRef r.ncomps r.compTag r.compRef) (u8s (encode_mfgr r)) := by
  rw [GRIupdatemeta_id_phases, idW_eq _ (Int.natCast_nonneg _) (Int.natCast_nonneg _) (Int.natCast_nonneg _) (Int.natCast_nonneg _), model_bytes]
  rfl

theorem wr_run (fuel : Nat) (p : List Int) (r : DimRec) (hb : 20 ≤ p.length) (s : WSt)
    (hs : s = GRIupdatemeta_idC fuel p r.xdim r.ydim r.ntTag r.ntRef r.ncomps r.compTag r.compRef) :
    s.ub = false ∧ s.oof = false ∧ s.p_i = 20 ∧ s.p = u8s (encode_mfgr r) ++ p.drop 20 := by
  obtain ⟨B, hB⟩ : ∃ B, B = u8s (encode_mfgr r) := ⟨_, rfl⟩
  obtain ⟨S, hS⟩ : ∃ S, S = wrInit p r.xdim r.ydim r.ntTag r.ntRef r.ncomps r.compTag r.compRef := ⟨_, rfl⟩
  have hl : B.length = 20 := by rw [hB, model_bytes, idB_length]
  have hp : wrL.buf S = p := by rw [hS]; rfl
  obtain ⟨hub, hbuf, hpos⟩ := wr_end wrP S B 0 (by rw [hS]; rfl) (by rw [hl, hp]; exact hb)
  rw [hs, wr_any, ← hB, ← hS]
  rw [hp, storeAt_zero, hl] at hbuf
  rw [hl] at hpos
  exact ⟨hub.trans (by rw [hS]; rfl), (frames_wr (L := wrL) (x := (·.oof)) {} S B).trans (by rw [hS]; rfl), hpos, hbuf⟩

abbrev RSt := Decode_diminfo.St

/- reducible (as is `rdInit`): simp rewrites `rdL.pos s` in the bounds tests of `rd` but not in their `Decidable` instances, and lemmas
   about `decide` then match only up to reducible unfolding -/
@[reducible] def rdL : Cursor RSt where
  buf := (·.p)
  pos := (·.p_i)
  ub := (·.ub)
  setBuf := fun s b => { s with p := b }
  setPos := Decode_diminfo.St.set_p_i
  chk := fun s c _ => Decode_diminfo.chk s c

theorem rdLaw : rdL.Lawful := (Cursor.Plain.lawfulW (setUb := fun s u => { s with ub := u }) {}).toLawful

@[reducible] def tX : Tgt RSt := ⟨(·.dim_info_xdim), Decode_diminfo.St.set_dim_info_xdim⟩
@[reducible] def tY : Tgt RSt := ⟨(·.dim_info_ydim), Decode_diminfo.St.set_dim_info_ydim⟩
@[reducible] def tNtTag : Tgt RSt := ⟨(·.dim_info_nt_tag), Decode_diminfo.St.set_dim_info_nt_tag⟩
@[reducible] def tNtRef : Tgt RSt := ⟨(·.dim_info_nt_ref), Decode_diminfo.St.set_dim_info_nt_ref⟩
@[reducible] def tI16 : Tgt RSt := ⟨(·.int16var), Decode_diminfo.St.set_int16var⟩
@[reducible] def tIl : Tgt RSt := ⟨(·.dim_info_il), Decode_diminfo.St.set_dim_info_il⟩
@[reducible] def tCTag : Tgt RSt := ⟨(·.dim_info_comp_tag), Decode_diminfo.St.set_dim_info_comp_tag⟩
@[reducible] def tCRef : Tgt RSt := ⟨(·.dim_info_comp_ref), Decode_diminfo.St.set_dim_info_comp_ref⟩

theorem tX_law : tX.Lawful rdL := by tgt_law
theorem tY_law : tY.Lawful rdL := by tgt_law
theorem tNtTag_law : tNtTag.Lawful rdL := by tgt_law
theorem tNtRef_law : tNtRef.Lawful rdL := by tgt_law
theorem tI16_law : tI16.Lawful rdL := by tgt_law
theorem tIl_law : tIl.Lawful rdL := by tgt_law
theorem tCTag_law : tCTag.Lawful rdL := by tgt_law
theorem tCRef_law : tCRef.Lawful rdL := by tgt_law

def idR (s : RSt) : RSt :=
  have s : RSt := dec32s rdL tX s
  have s : RSt := dec32s rdL tY s
  have s : RSt := dec16u rdL tNtTag s
  have s : RSt := dec16u rdL tNtRef s
  have s : RSt := dec16s rdL tI16 s
  have s : RSt := Decode_diminfo.St.set_dim_info_ncomps s (s.int16var)
  have s : RSt := dec16s rdL tIl s
  have s : RSt := dec16u rdL tCTag s
  have s : RSt := dec16u rdL tCRef s
  s

/-- the translated function with NAMED arguments (`d` = the previous contents of `*dim_info`) -/
def Decode_diminfoC (fuel : Nat) (p : List Int) (xdim ydim nt_tag nt_ref ncomps il comp_tag comp_ref : Int) : RSt :=
  Decode_diminfo (fuel := fuel) (p := p) (dim_info_xdim := xdim) (dim_info_ydim := ydim) (dim_info_nt_tag := nt_tag)
    (dim_info_nt_ref := nt_ref) (dim_info_ncomps := ncomps) (dim_info_il := il) (dim_info_comp_tag := comp_tag)
    (dim_info_comp_ref := comp_ref)

@[reducible] def rdInit (p : List Int) (xdim ydim nt_tag nt_ref ncomps il comp_tag comp_ref : Int) : RSt :=
  { p := p, dim_info_xdim := xdim, dim_info_ydim := ydim, dim_info_nt_tag := nt_tag, dim_info_nt_ref := nt_ref, dim_info_ncomps := ncomps,
    dim_info_il := il, dim_info_comp_tag := comp_tag, dim_info_comp_ref := comp_ref }

theorem Decode_diminfo_phases (fuel : Nat) (p : List Int) (xdim ydim nt_tag nt_ref ncomps il comp_tag comp_ref : Int) :
    Decode_diminfoC fuel p xdim ydim nt_tag nt_ref ncomps il comp_tag comp_ref =
      idR (rdInit p xdim ydim nt_tag nt_ref ncomps il comp_tag comp_ref) := by
  kernel_rfl

/-- EVERY buffer (any length, any cells); the function has no length parameter: the caller must provide 20 bytes -/
theorem rd_eval (fuel : Nat) (p : List Int) (a b c d e f g h : Int) :
    let s := Decode_diminfoC fuel p a b c d e f g h
    s.ub = !decide (20 ≤ p.length) ∧ s.oof = false ∧ s.p_i = 20 ∧ s.dim_info_xdim = wrapS32 (val32 p 0) ∧
      s.dim_info_ydim = wrapS32 (val32 p 4) ∧ s.dim_info_nt_tag = val16 p 8 ∧ s.dim_info_nt_ref = val16 p 10 ∧
      s.dim_info_ncomps = wrapS16 (val16 p 12) ∧ s.dim_info_il = wrapS16 (val16 p 14) ∧ s.dim_info_comp_tag = val16 p 16 ∧
      s.dim_info_comp_ref = val16 p 18 := by
  rw [Decode_diminfo_phases]
  simp only [idR, ↓ dec32s_eq rdLaw tX_law, ↓ dec32s_eq rdLaw tY_law, ↓ dec16u_eq rdLaw tNtTag_law, ↓ dec16u_eq rdLaw tNtRef_law,
    ↓ dec16s_eq rdLaw tI16_law, ↓ dec16s_eq rdLaw tIl_law, ↓ dec16u_eq rdLaw tCTag_law, ↓ dec16u_eq rdLaw tCRef_law, rd, Decode_diminfo.chk, Bool.false_or, Int.reduceAdd, Int.cast_ofNat_Int, and_true]
  rw [Bool.eq_iff_iff]
  simp only [Bool.or_eq_true, Bool.not_eq_true', decide_eq_false_iff_not]
  omega

theorem dec16_nv (b : List UInt8) (k : Nat) : dec16 (b.getD k 0) (b.getD (k + 1) 0) = nv16 b k := by
  unfold dec16 nv16 nv8
  rw [shl_or _ _ 8 (UInt8.toNat_lt _)]

theorem dec32_nv (b : List UInt8) (k : Nat) : dec32 (b.getD k 0) (b.getD (k + 1) 0) (b.getD (k + 2) 0) (b.getD (k + 3) 0) = nv32 b k := by
  unfold dec32 nv32 nv8
  rw [dec32_bytes _ _ _ _ (UInt8.toNat_lt _) (UInt8.toNat_lt _) (UInt8.toNat_lt _)]

theorem decode_mfgr_eq (b : List UInt8) :
    decode_mfgr b = if 20 ≤ b.length then
      some ⟨Codecs.toS32 (nv32 b 0), Codecs.toS32 (nv32 b 4), nv16 b 8, nv16 b 10, Codecs.toS16 (nv16 b 12), Codecs.toS16 (nv16 b 14),
        nv16 b 16, nv16 b 18⟩ else none := by
  rw [← dec32_nv b 0, ← dec32_nv b 4, ← dec16_nv b 8, ← dec16_nv b 10, ← dec16_nv b 12, ← dec16_nv b 14, ← dec16_nv b 16, ← dec16_nv b 18]
  iterate 20 (rcases b with _ | ⟨_, b⟩; · rfl)
  simp [decode_mfgr, decI32, decI16]

theorem toS32_wrap (n : Nat) (h : n < 4294967296) : Codecs.toS32 n = wrapS32 (n : Int) := by
  unfold Codecs.toS32 wrapS32
  split <;> omega

theorem toS16_wrap (n : Nat) (h : n < 65536) : Codecs.toS16 n = wrapS16 (n : Int) := by
  unfold Codecs.toS16 wrapS16
  split <;> omega

theorem decode_mfgr_append (r : DimRec) (rest : List UInt8) : decode_mfgr (encodeDim r ++ rest) = decode_mfgr (encodeDim r) := by
  kernel_rfl

end H4.Lemmas.C15RecFn
