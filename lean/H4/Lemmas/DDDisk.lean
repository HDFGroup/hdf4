import H4.Lemmas.DDWF
/-! # The disk image of the DD blocks: the invariant that ties it to the in-memory chain (`DiskOK`), `HTPsync` and `HTPstart`;
the write log (`Mono`) and the relation an adding session keeps (`Added`); what the two changes of the chain, `fillSlot` and
`HTInew_dd_block`, do to all three, block by block (`Par`), and that the changes `Scal` (DDWF) allows touch none of them. -/
namespace H4.DD
open H4.Gen.Hdf

/-- what `HTPsync` writes for a block -/
def mirror (b : Block) : DBlock := ⟨b.myoff, true, b.dds.length, b.next, b.dds⟩
/-- a block as `HTPstart` rebuilds it -/
def clean (b : Block) : Block := { b with dirty := false }

@[simp] theorem mirror_clean (b : Block) : mirror (clean b) = mirror b := rfl

/-- the chain of `nextoffset` pointers -/
def chainFrom : Nat → List Block → Prop
  | off, [] => off = 0
  | off, b :: rest => b.myoff = off ∧ 0 < off ∧ (∀ c ∈ rest, off < c.myoff) ∧ chainFrom b.next rest

structure DiskOK (s : File) : Prop where
  len : s.disk.length = s.blocks.length
  clean : ∀ (i : Nat) (b : Block) (d : DBlock), s.blocks[i]? = some b → s.disk[i]? = some d → b.dirty = false → d = mirror b
  chain : chainFrom MAGICLEN s.blocks
  bound : ∀ b ∈ s.blocks, b.myoff < s.fEnd
  dirtyflag : ∀ b ∈ s.blocks, b.dirty = true → s.cache = true ∧ s.fdirty = true

def Par (R : Block → DBlock → Prop) (bs : List Block) (ds : List DBlock) : Prop :=
  ds.length = bs.length ∧ ∀ (i : Nat) (b : Block) (d : DBlock), bs[i]? = some b → ds[i]? = some d → R b d

theorem Par.modify {R : Block → DBlock → Prop} {bs : List Block} {ds : List DBlock} (h : Par R bs ds) (i : Nat)
    (f : Block → Block) (g : DBlock → DBlock)
    (hfg : ∀ b d, bs[i]? = some b → ds[i]? = some d → R b d → R (f b) (g d)) : Par R (bs.modify i f) (ds.modify i g) := by
  refine ⟨by simp only [List.length_modify, h.1], fun j b d hb hd => ?_⟩
  rw [List.getElem?_modify] at hb hd
  cases hbj : bs[j]? with
  | none => rw [hbj] at hb; cases hb
  | some b0 =>
    cases hdj : ds[j]? with
    | none => rw [hdj] at hd; cases hd
    | some d0 =>
      rw [hbj] at hb; rw [hdj] at hd
      cases hb; cases hd
      by_cases hij : i = j
      · subst hij; simp only [if_true]; exact hfg b0 d0 hbj hdj (h.2 _ _ _ hbj hdj)
      · simp only [hij, if_false]; exact h.2 _ _ _ hbj hdj

theorem Par.snoc {R : Block → DBlock → Prop} {bs : List Block} {ds : List DBlock} (h : Par R bs ds) {b : Block} {d : DBlock}
    (hr : R b d) : Par R (bs ++ [b]) (ds ++ [d]) := by
  refine ⟨by simp only [List.length_append, h.1, List.length_cons, List.length_nil], fun j b' d' hb hd => ?_⟩
  rw [List.getElem?_append] at hb hd
  rw [h.1] at hd
  by_cases hj : j < bs.length
  · rw [if_pos hj] at hb hd; exact h.2 _ _ _ hb hd
  · rw [if_neg hj] at hb hd
    cases hk : j - bs.length with
    | zero => rw [hk] at hb hd; cases hb; cases hd; exact hr
    | succ k => rw [hk] at hb; cases hb

theorem Par.imp {R R' : Block → DBlock → Prop} {bs : List Block} {ds : List DBlock} (h : Par R bs ds)
    (hr : ∀ (i : Nat) (b : Block) (d : DBlock), bs[i]? = some b → ds[i]? = some d → R b d → R' b d) : Par R' bs ds :=
  ⟨h.1, fun i b d hb hd => hr i b d hb hd (h.2 i b d hb hd)⟩

theorem Par.of_map {R : Block → DBlock → Prop} {bs : List Block} (g : Block → DBlock) (h : ∀ b ∈ bs, R b (g b)) :
    Par R bs (bs.map g) := by
  refine ⟨List.length_map _, fun i b d hb hd => ?_⟩
  rw [List.getElem?_map, hb] at hd
  cases hd; exact h b (List.mem_of_getElem? hb)

theorem DiskOK.par {s : File} (h : DiskOK s) : Par (fun b d => b.dirty = false → d = mirror b) s.blocks s.disk := ⟨h.len, h.clean⟩

theorem clean_of_not_dirty {b : Block} (h : b.dirty = false) : clean b = b := by
  cases b; cases h; rfl

theorem syncBlocks_spec : ∀ (blocks : List Block) (disk : List DBlock), disk.length = blocks.length →
    (∀ (i : Nat) (b : Block) (d : DBlock), blocks[i]? = some b → disk[i]? = some d → b.dirty = false → d = mirror b) →
    syncBlocks blocks disk = (blocks.map clean, blocks.map mirror)
  | [], [], _, _ => rfl
  | b :: bs, d :: ds, hl, hc => by
    have ih := syncBlocks_spec bs ds (Nat.succ.inj hl) (fun i b' d' h1 h2 h3 => hc (i + 1) b' d' h1 h2 h3)
    simp only [syncBlocks, ih, List.map_cons]
    cases hd : b.dirty
    · rw [hc 0 b d rfl rfl hd, clean_of_not_dirty hd]; rfl
    · rfl

theorem htpSync_spec {s : File} (h : DiskOK s) :
    (htpSync s).blocks = s.blocks.map clean ∧ (htpSync s).disk = s.blocks.map mirror := by
  unfold htpSync
  rw [syncBlocks_spec s.blocks s.disk h.len h.clean]
  exact ⟨rfl, rfl⟩

theorem chainFrom_map_clean : ∀ (blocks : List Block) (off : Nat), chainFrom off (blocks.map clean) ↔ chainFrom off blocks := by
  intro blocks
  induction blocks with
  | nil => intro off; rfl
  | cons b bs ih =>
    intro off
    simp only [List.map_cons, chainFrom, clean, ih]
    constructor
    · rintro ⟨h1, h2, h3, h4⟩
      exact ⟨h1, h2, fun c hc => h3 (H4.DD.clean c) (List.mem_map.mpr ⟨c, hc, rfl⟩), h4⟩
    · rintro ⟨h1, h2, h3, h4⟩
      refine ⟨h1, h2, ?_, h4⟩
      intro c hc
      obtain ⟨c', hc', rfl⟩ := List.mem_map.mp hc
      exact h3 c' hc'

theorem htpSync_DiskOK {s : File} (h : DiskOK s) : DiskOK (htpSync s) := by
  obtain ⟨hb, hd⟩ := htpSync_spec h
  have hfe : (htpSync s).fEnd = s.fEnd := rfl
  have hca : (htpSync s).cache = s.cache := rfl
  refine ⟨by rw [hb, hd]; simp, ?_, by rw [hb]; exact (chainFrom_map_clean _ _).mpr h.chain, ?_, ?_⟩
  · intro i b d h1 h2 _
    rw [hb] at h1; rw [hd] at h2
    simp only [List.getElem?_map] at h1 h2
    cases hbi : s.blocks[i]? with
    | none => simp [hbi] at h1
    | some b0 =>
      simp [hbi] at h1 h2
      subst h1 h2; rfl
  · intro b hbm
    rw [hb] at hbm
    obtain ⟨b0, hb0, rfl⟩ := List.mem_map.mp hbm
    rw [hfe]; exact h.bound b0 hb0
  · intro b hbm hdirty
    rw [hb] at hbm
    obtain ⟨b0, hb0, rfl⟩ := List.mem_map.mp hbm
    simp [clean] at hdirty

theorem hiSync_DiskOK {s : File} (h : DiskOK s) : DiskOK (hiSync s) := by
  unfold hiSync
  split
  · have := htpSync_DiskOK h
    exact ⟨this.len, this.clean, this.chain, this.bound, fun b hb hd => by
      have hbb := (htpSync_spec h).1
      have hb' : b ∈ (htpSync s).blocks := hb
      rw [hbb] at hb'
      obtain ⟨b0, _, rfl⟩ := List.mem_map.mp hb'
      simp [clean] at hd⟩
  · exact h

theorem hiSync_cache (s : File) : (hiSync s).cache = s.cache := by
  unfold hiSync; split <;> rfl

theorem hiSync_fEnd (s : File) : (hiSync s).fEnd = s.fEnd := by
  unfold hiSync; split <;> rfl

theorem syncWrites_clean : ∀ (bs : List Block), (∀ b ∈ bs, b.dirty = false) → syncWrites bs = []
  | [], _ => rfl
  | b :: bs, h => by
    unfold syncWrites
    rw [h b (by simp), syncWrites_clean bs (fun b' hb' => h b' (by simp [hb']))]
    simp

theorem disk_eq_mirror_of_clean {s : File} (h : DiskOK s) (hcl : ∀ b ∈ s.blocks, b.dirty = false) : s.disk = s.blocks.map mirror := by
  refine List.ext_getElem (by rw [List.length_map, h.len]) fun i h1 h2 => ?_
  rw [List.getElem_map]
  exact h.clean i _ _ (List.getElem?_eq_getElem _) (List.getElem?_eq_getElem h1) (hcl _ (List.getElem_mem _))

theorem hclose_disk {s : File} (h : DiskOK s) : (hclose s).disk = s.blocks.map mirror := by
  unfold hclose
  have h1 := hiSync_DiskOK h
  rw [(htpSync_spec h1).2]
  unfold hiSync
  split
  · show (htpSync s).blocks.map mirror = _
    rw [(htpSync_spec h).1]; simp
  · rfl

theorem mem_modify {α} {l : List α} {i : Nat} {f : α → α} {x : α} (h : x ∈ l.modify i f) :
    ∃ y ∈ l, x = y ∨ x = f y := by
  obtain ⟨j, hj, rfl⟩ := List.getElem_of_mem h
  have hj' : j < l.length := by simpa using hj
  rw [List.getElem_modify]
  refine ⟨l[j], List.getElem_mem _, ?_⟩
  split
  · exact Or.inr rfl
  · exact Or.inl rfl

theorem forall_myoff_modify {f : Block → Block} (hf : ∀ b, (f b).myoff = b.myoff ∧ (f b).next = b.next) (P : Nat → Prop) :
    ∀ (bs : List Block) (i : Nat), (∀ x ∈ bs.modify i f, P x.myoff) ↔ ∀ x ∈ bs, P x.myoff
  | [], _ => by simp
  | b :: bs, 0 => by simp [(hf b).1]
  | b :: bs, i + 1 => by simp [forall_myoff_modify hf P bs i]

theorem chainFrom_modify {f : Block → Block} (hf : ∀ b, (f b).myoff = b.myoff ∧ (f b).next = b.next) :
    ∀ (bs : List Block) (i off : Nat), chainFrom off (bs.modify i f) ↔ chainFrom off bs
  | [], _, _ => by simp
  | b :: bs, 0, off => by simp only [List.modify_zero_cons, chainFrom, (hf b).1, (hf b).2]
  | b :: bs, i + 1, off => by
    simp only [List.modify_succ_cons, chainFrom, chainFrom_modify hf bs i b.next, forall_myoff_modify hf (off < ·) bs i]

theorem DiskOK_fEnd_ge {s s' : File} (h : DiskOK s) (h1 : s'.blocks = s.blocks) (h2 : s'.disk = s.disk)
    (h3 : s.fEnd ≤ s'.fEnd) (h4 : s'.cache = s.cache) (h5 : s'.fdirty = s.fdirty) : DiskOK s' := by
  refine ⟨by rw [h1, h2]; exact h.len, by rw [h1, h2]; exact h.clean, by rw [h1]; exact h.chain,
    ?_, by rw [h1, h4, h5]; exact h.dirtyflag⟩
  rw [h1]; intro b hb; exact Nat.lt_of_lt_of_le (h.bound b hb) h3

theorem DiskOK.ne {s : File} (h : DiskOK s) : s.blocks ≠ [] := fun e => by
  have := h.chain; rw [e] at this; simp [chainFrom, MAGICLEN] at this

theorem DiskOK_frame {s s' : File} (h : DiskOK s) (h1 : s'.blocks = s.blocks) (h2 : s'.disk = s.disk)
    (h3 : s'.fEnd = s.fEnd) (h4 : s'.cache = s.cache) (h5 : s'.fdirty = s.fdirty) : DiskOK s' :=
  DiskOK_fEnd_ge h h1 h2 (Nat.le_of_eq h3.symm) h4 h5

structure Mono (s s' : File) : Prop where
  cache : s'.cache = s.cache
  fEnd : s.fEnd ≤ s'.fEnd
  log : ∃ ws, s'.log = ws ++ s.log ∧ ∀ w ∈ ws, s.fEnd ≤ w.off
  disk : ∃ extra, s'.disk = s.disk ++ extra

theorem Mono.refl (s : File) : Mono s s := ⟨rfl, Nat.le_refl _, ⟨[], rfl, fun _ h => by cases h⟩, [], by simp⟩

theorem Mono.trans {a b c : File} (h1 : Mono a b) (h2 : Mono b c) : Mono a c := by
  obtain ⟨c1, f1, ⟨w1, l1, o1⟩, e1, d1⟩ := h1
  obtain ⟨c2, f2, ⟨w2, l2, o2⟩, e2, d2⟩ := h2
  refine ⟨by rw [c2, c1], Nat.le_trans f1 f2, ⟨w2 ++ w1, by rw [l2, l1, List.append_assoc], ?_⟩, e1 ++ e2, by rw [d2, d1, List.append_assoc]⟩
  intro w hw
  rcases List.mem_append.mp hw with hw | hw
  · exact Nat.le_trans f1 (o2 w hw)
  · exact o1 w hw

theorem Mono.of_frame {s s' : File} (hc : s'.cache = s.cache) (hf : s.fEnd ≤ s'.fEnd) (hl : s'.log = s.log)
    (hd : s'.disk = s.disk := by rfl) : Mono s s' :=
  ⟨hc, hf, ⟨[], by simpa using hl, fun _ h => by cases h⟩, [], by simp [hd]⟩

theorem Mono.log_after {s s2 : File} (h : Mono s s2) (w : Wr) (hw : s.fEnd ≤ w.off) : Mono s (logW w s2) := by
  obtain ⟨c, f, ⟨ws, l, o⟩, e, d⟩ := h
  refine ⟨c, f, ⟨w :: ws, by show w :: s2.log = _; rw [l]; rfl, ?_⟩, e, d⟩
  intro x hx
  rcases List.mem_cons.mp hx with rfl | hx
  · exact hw
  · exact o x hx

/-- one block: memory `b`, the image before the flush `d0`, an image during the flush `d` -/
structure SlotOK (b : Block) (d0 d : DBlock) : Prop where
  off0 : d0.myoff = b.myoff
  off : d.myoff = b.myoff
  hdr : d.hdr = true
  nd0 : d0.dds.length = b.dds.length
  nd : d.ndds = d.dds.length ∧ d.dds.length = b.dds.length ∧ b.dds.length ≠ 0
  /-- the old image already links to the next block, or the link is still to be patched (block added in this session) -/
  next0 : d0.next = b.next ∨ d0.next = 0
  /-- during the flush: the header of this block is still the old one, or `HTPsync` has written it -/
  nextd : d.next = d0.next ∨ d.next = b.next
  dds0 : ∀ (j : Nat) (x : DD), d0.dds[j]? = some x → isLive x = true → b.dds[j]? = some x
  ddsd : d.dds = d0.dds ∨ d.dds = b.dds

/-- what a session that only ADDS maintains between memory and the disk image, with the fix of F3 in.  (F3′ is the face of F3 with caching on:
    before fda7a17 `HTInew_dd_block` left the header of a new block unwritten until the flush, `hdr = false` in `newBlockDisk`; the same commit
    repairs both.) -/
def Added (s : File) : Prop :=
  s.disk.length = s.blocks.length ∧
  ∀ (i : Nat) (b : Block) (d : DBlock), s.blocks[i]? = some b → s.disk[i]? = some d → SlotOK b d d

def DiskSlotDead (s : File) (p : Pos) : Prop :=
  ∀ (d : DBlock) (x : DD), s.disk[p.blk]? = some d → d.dds[p.idx]? = some x → isLive x = false

theorem added_frame {s s' : File} (ha : Added s) (h1 : s'.blocks = s.blocks) (h2 : s'.disk = s.disk) : Added s' := by
  unfold Added; rw [h1, h2]; exact ha

theorem diskSlotDead_frame {s s' : File} {p : Pos} (hd : DiskSlotDead s p) (h2 : s'.disk = s.disk) : DiskSlotDead s' p := by
  unfold DiskSlotDead; rw [h2]; exact hd

/-- what a descriptor write at `p` asks for and keeps while caching is on -/
def AddedAt (s : File) (p : Pos) : Prop := Added s ∧ DiskSlotDead s p

theorem AddedAt.frame {s s' : File} {p : Pos} (h : AddedAt s p) (h1 : s'.blocks = s.blocks) (h2 : s'.disk = s.disk) : AddedAt s' p :=
  ⟨added_frame h.1 h1 h2, diskSlotDead_frame h.2 h2⟩

theorem Added.par {s : File} (h : Added s) : Par (fun b d => SlotOK b d d) s.blocks s.disk := h
theorem Added.of_par {s : File} (h : Par (fun b d => SlotOK b d d) s.blocks s.disk) : Added s := h


/-- what `HTPstart` makes of a run of consecutive disk blocks: it follows `nextoffset` until it is 0 -/
def cutChain : List DBlock → List Block
  | [] => []
  | d :: ds => ⟨d.myoff, d.next, false, d.dds⟩ :: (if d.next ≠ 0 then cutChain ds else [])

inductive Tri : List Block → List DBlock → List DBlock → Prop
  | nil : Tri [] [] []
  | cons {b d0 d bs ds0 ds} : SlotOK b d0 d → Tri bs ds0 ds → Tri (b :: bs) (d0 :: ds0) (d :: ds)

theorem Tri.length {bs : List Block} {ds0 ds : List DBlock} (h : Tri bs ds0 ds) : ds.length = bs.length ∧ ds0.length = bs.length := by
  induction h with
  | nil => exact ⟨rfl, rfl⟩
  | cons _ _ ih => simp [ih.1, ih.2]

theorem tri_of_par : ∀ (bs : List Block) (ds : List DBlock), Par (fun b d => SlotOK b d d) bs ds → Tri bs ds ds := by
  intro bs
  induction bs with
  | nil => intro ds h; cases ds with | nil => exact Tri.nil | cons _ _ => exact absurd h.1 (by simp)
  | cons b rest ih =>
    intro ds h
    cases ds with
    | nil => exact absurd h.1 (by simp)
    | cons d ds =>
      exact Tri.cons (h.2 0 b d (by simp) (by simp))
        (ih ds ⟨by simpa using h.1, fun i b' d' h1 h2 => h.2 (i + 1) b' d' (by simpa using h1) (by simpa using h2)⟩)

theorem readChain_tri (allD post : List DBlock) : ∀ (sufB : List Block) (sufD0 sufD preD : List DBlock) (off fuel : Nat),
    allD = preD ++ sufD ++ post → Tri sufB sufD0 sufD → sufB ≠ [] → chainFrom off sufB → (∀ c ∈ preD, c.myoff < off) →
    sufB.length ≤ fuel → readChain allD fuel off = some (cutChain sufD) := by
  intro sufB
  induction sufB with
  | nil => intro _ _ _ _ _ _ _ h; exact absurd rfl h
  | cons b rest ih =>
    intro sufD0 sufD preD off fuel hall htri _ hch hpre hfuel
    cases htri with
    | @cons _ d0 d _ ds0 ds hs ht =>
      obtain ⟨hoff, hpos, hlt, hrest⟩ := hch
      cases fuel with
      | zero => simp at hfuel
      | succ fuel =>
        have hfind : allD.find? (fun db => db.myoff == off) = some d := by
          rw [hall, List.append_assoc, List.find?_append]
          have : preD.find? (fun db => db.myoff == off) = none := by
            rw [List.find?_eq_none]
            intro c hc
            have := hpre c hc
            simp; omega
          rw [this]
          simp [hs.off, hoff]
        unfold readChain
        simp only [hfind]
        have hcond : ¬ (!d.hdr ∨ d.ndds = 0 ∨ d.dds.length ≠ d.ndds) := by
          have := hs.nd
          simp [hs.hdr]; omega
        rw [if_neg hcond]
        have hmy : d.myoff = off := by rw [hs.off, hoff]
        by_cases hn : d.next ≠ 0
        · rw [if_pos hn]
          have hdn : d.next = b.next := by
            rcases hs.nextd with h1 | h1
            · rcases hs.next0 with h2 | h2
              · rw [h1, h2]
              · rw [h1, h2] at hn; exact absurd rfl hn
            · exact h1
          have hrne : rest ≠ [] := by
            intro e; subst e
            simp [chainFrom] at hrest
            rw [hdn] at hn; exact hn hrest
          have := ih ds0 ds (preD ++ [d]) b.next fuel (by rw [hall]; simp) ht hrne hrest ?_ (by simp at hfuel; omega)
          · have hbn : b.next ≠ 0 := by rw [← hdn]; exact hn
            rw [hdn, this]
            simp [cutChain, hbn, hmy, hdn]
          · intro c hc
            cases rest with
            | nil => exact absurd rfl hrne
            | cons r rs =>
              obtain ⟨hr1, _, _, _⟩ := hrest
              have hbr : off < r.myoff := hlt r (by simp)
              simp at hc
              rcases hc with hc | hc
              · have := hpre c hc; omega
              · subst hc; omega
        · rw [if_neg hn]
          have hn0 : d.next = 0 := by omega
          simp [cutChain, hn0, hmy]

theorem cutChain_mirror_append : ∀ (blocks : List Block) (off : Nat) (extra : List DBlock), blocks ≠ [] →
    chainFrom off blocks → cutChain (blocks.map mirror ++ extra) = blocks.map clean := by
  intro blocks
  induction blocks with
  | nil => intro _ _ h; exact absurd rfl h
  | cons b rest ih =>
    intro off extra _ hch
    obtain ⟨_, _, _, h4⟩ := hch
    simp only [List.map_cons, List.cons_append, cutChain, mirror, clean]
    cases rest with
    | nil =>
      have hn : b.next = 0 := by simpa [chainFrom] using h4
      simp [hn]
    | cons c cs =>
      have hn : b.next ≠ 0 := by
        obtain ⟨h1, h2, _, _⟩ := h4
        omega
      rw [if_pos hn, ih b.next extra (by simp) h4]

theorem slotOK_mirror (b : Block) (h : b.dds ≠ []) : SlotOK b (mirror b) (mirror b) :=
  ⟨rfl, rfl, rfl, rfl, ⟨rfl, rfl, fun e => h (List.eq_nil_of_length_eq_zero e)⟩, Or.inl rfl, Or.inl rfl, fun _ _ hx _ => hx, Or.inl rfl⟩

theorem decode_synced {s : File} (hw : WF s) (hd : DiskOK s) :
    decodeBlocks (syncedDisk s) = some (s.blocks.map clean) := by
  unfold decodeBlocks syncedDisk
  rw [hclose_disk hd]
  have hne : s.blocks ≠ [] := List.ne_nil_of_length_pos hw.ne
  have hdds : ∀ b ∈ s.blocks, b.dds ≠ [] := by
    intro b hb
    obtain ⟨i, hi, rfl⟩ := List.getElem_of_mem hb
    obtain ⟨blk, h1, h2⟩ := hw.slotne i hi
    rw [List.getElem?_eq_getElem hi] at h1
    simp at h1; subst h1
    intro e; simp [e] at h2
  have hp : Par (fun b d => SlotOK b d d) s.blocks (s.blocks.map mirror) :=
    Par.of_map mirror fun b hb => slotOK_mirror b (hdds b hb)
  rw [readChain_tri (s.blocks.map mirror) [] s.blocks _ _ [] MAGICLEN _ (by simp) (tri_of_par _ _ hp) hne hd.chain (by simp) (by simp)]
  simpa using cutChain_mirror_append s.blocks MAGICLEN [] hne hd.chain

theorem dview_map_clean (blocks : List Block) : dview (blocks.map clean) = dview blocks := by
  simp [dview, clean, List.map_map, Function.comp_def]

theorem Mono.cut_old {s s' : File} (hm : Mono s s') (hd : DiskOK s) (hcl : ∀ b ∈ s.blocks, b.dirty = false) :
    slotsOf (cutChain s'.disk) = s.slots := by
  obtain ⟨extra, hext⟩ := hm.disk
  rw [hext, disk_eq_mirror_of_clean hd hcl, cutChain_mirror_append s.blocks MAGICLEN extra hd.ne hd.chain]
  exact slotsOf_congr (dview_map_clean _)

theorem Scal.diskOK {s s' : File} (h : Scal s s') (hd : DiskOK s) : DiskOK s' := DiskOK_frame hd h.blocks h.disk h.fEnd h.cache h.fdirty
theorem Scal.mono {s s' : File} (h : Scal s s') : Mono s s' := Mono.of_frame h.cache (Nat.le_of_eq h.fEnd.symm) h.log h.disk
theorem Scal.added {s s' : File} (h : Scal s s') (ha : Added s) : Added s' := added_frame ha h.blocks h.disk
theorem Scal.addedAt {s s' : File} {p : Pos} (h : Scal s s') (ha : AddedAt s p) : AddedAt s' p := ha.frame h.blocks h.disk

/-- what a call of an adding session keeps -/
def Adding (cfg : Cfg) (s s' : File) : Prop := Mono s s' ∧ (cfg.fixF3 = true → Added s → Added s')

theorem Adding.refl (cfg : Cfg) (s : File) : Adding cfg s s := ⟨Mono.refl _, fun _ ha => ha⟩
theorem Adding.trans {cfg : Cfg} {a b c : File} (h1 : Adding cfg a b) (h2 : Adding cfg b c) : Adding cfg a c :=
  ⟨h1.1.trans h2.1, fun hf ha => h2.2 hf (h1.2 hf ha)⟩
theorem Scal.adding {s s' : File} (h : Scal s s') (cfg : Cfg) : Adding cfg s s' := ⟨h.mono, fun _ => h.added⟩

theorem chainFrom_append : ∀ (blocks : List Block) (off x : Nat) (g : Block → Block) (nb : Block),
    blocks ≠ [] → chainFrom off blocks → (∀ b ∈ blocks, b.myoff < x) →
    (∀ b, (g b).myoff = b.myoff ∧ (g b).next = x) → nb.myoff = x → nb.next = 0 →
    chainFrom off (blocks.modify (blocks.length - 1) g ++ [nb]) := by
  intro blocks
  induction blocks with
  | nil => intro off x g nb h; exact absurd rfl h
  | cons b rest ih =>
    intro off x g nb _ hch hlt hg hnb1 hnb2
    obtain ⟨h1, h2, h3, h4⟩ := hch
    cases rest with
    | nil =>
      simp only [List.length_cons, List.length_nil, Nat.zero_add, Nat.sub_self, List.modify_zero_cons,
        List.cons_append, List.nil_append, chainFrom]
      refine ⟨by rw [(hg b).1]; exact h1, h2, ?_, ?_⟩
      · intro c hc; simp at hc; subst hc
        rw [hnb1, ← h1]; exact hlt b (by simp)
      · rw [(hg b).2]
        exact ⟨hnb1, by have := hlt b (by simp); omega, by simp, hnb2⟩
    | cons b2 rest2 =>
      have e : (b :: b2 :: rest2).length - 1 = (b2 :: rest2).length - 1 + 1 := by simp
      rw [e, List.modify_succ_cons]
      simp only [List.cons_append, chainFrom]
      refine ⟨h1, h2, ?_, ?_⟩
      · intro c hc
        rcases List.mem_append.mp hc with hc | hc
        · obtain ⟨y, hy, hxy⟩ := mem_modify hc
          rcases hxy with rfl | rfl
          · exact h3 _ hy
          · rw [(hg y).1]; exact h3 y hy
        · simp at hc; subst hc
          rw [hnb1, ← h1]; exact hlt b (by simp)
      · exact ih b.next x g nb (by simp) h4 (fun c hc => hlt c (by simp [hc])) hg hnb1 hnb2


theorem fillSlot_DiskOK {s : File} (h : DiskOK s) {p : Pos} (hv : Valid s.blocks p) (d : DD) :
    DiskOK (fillSlot s p d) := by
  rw [fillSlot_eq hv]
  have hp := h.par.modify p.blk (fun b => { b with dds := b.dds.set p.idx d, dirty := s.cache || b.dirty })
    (fun db => if s.cache then db else { db with dds := db.dds.set p.idx d }) (by
      intro b db _ _ hr hd
      cases hc : s.cache
      · rw [hc] at hd; rw [hr hd]; simp [mirror]
      · rw [hc] at hd; cases hd)
  have hf : ∀ b : Block, ({ b with dds := b.dds.set p.idx d, dirty := s.cache || b.dirty } : Block).myoff = b.myoff ∧
      ({ b with dds := b.dds.set p.idx d, dirty := s.cache || b.dirty } : Block).next = b.next := fun _ => ⟨rfl, rfl⟩
  refine ⟨hp.1, hp.2, (chainFrom_modify hf _ _ _).mpr h.chain, ?_, ?_⟩
  · rw [forall_myoff_modify hf (· < _)]
    intro b hb; exact Nat.lt_of_lt_of_le (h.bound b hb) (le_endAfter _ _)
  · intro b hb hd
    obtain ⟨y, hy, rfl | rfl⟩ := mem_modify hb
    · have := h.dirtyflag _ hy hd; simp [this.1]
    · cases hc : s.cache
      · have := h.dirtyflag y hy (by simpa [hc] using hd); rw [hc] at this; cases this.1
      · exact ⟨rfl, rfl⟩

/-- the disk side of `HTInew_dd_block` in the shape of the memory side -/
theorem newBlockDisk_eq (cfg : Cfg) (s : File) : newBlockDisk cfg s =
    s.disk.modify (s.blocks.length - 1) (fun d => if s.cache then d else { d with next := s.fEnd }) ++
      [{ myoff := s.fEnd, hdr := !s.cache || cfg.fixF3, ndds := headNdds s, next := 0,
         dds := List.replicate (headNdds s) (if s.cache || cfg.fixF3 then nilDD else zeroDD) }] := by
  unfold newBlockDisk
  cases hc : s.cache
  · simp only [Bool.false_eq_true, if_false, Bool.not_false, Bool.true_or, Bool.false_or]
  · simp only [if_true, Bool.not_true, Bool.false_or, Bool.true_or]
    rw [show s.disk.modify (s.blocks.length - 1) (fun d => d) = s.disk from List.modify_id _ _]

theorem newBlock_DiskOK (cfg : Cfg) {s : File} (h : DiskOK s) (hw : WF s)
    (hg : s.cache = true ∨ cfg.fixF3 = true) : DiskOK (htiNewBlock cfg s) := by
  have hne : s.blocks ≠ [] := List.ne_nil_of_length_pos hw.ne
  have hp : Par (fun b d => b.dirty = false → d = mirror b) (newBlockMem s) (newBlockDisk cfg s) := by
    rw [newBlockDisk_eq]
    refine (h.par.modify _ _ _ ?_).snoc ?_
    · intro b db _ _ hr hd
      cases hc : s.cache
      · rw [hc] at hd; rw [hr hd]; rfl
      · rw [hc] at hd; cases hd
    · intro hd
      have hc : s.cache = false := hd
      have hf : cfg.fixF3 = true := hg.resolve_left (by simp [hc])
      simp [mirror, hc, hf]
  refine ⟨hp.1, hp.2, ?_, ?_, ?_⟩
  · exact chainFrom_append s.blocks MAGICLEN s.fEnd _ _ hne h.chain h.bound (fun _ => ⟨rfl, rfl⟩) rfl rfl
  · intro b hb
    show b.myoff < s.fEnd + (NDDS_SZ + OFFSET_SZ) + headNdds s * DD_SZ
    rcases List.mem_append.mp hb with hb | hb
    · obtain ⟨y, hy, rfl | rfl⟩ := mem_modify hb
      · have := h.bound _ hy; omega
      · have := h.bound y hy; show y.myoff < _; omega
    · simp at hb; subst hb; show s.fEnd < _; have : 0 < NDDS_SZ + OFFSET_SZ := by decide
      omega
  · intro b hb hd
    show s.cache = true ∧ (if s.cache then true else s.fdirty) = true
    cases hc : s.cache
    · exfalso
      rcases List.mem_append.mp hb with hb | hb
      · obtain ⟨y, hy, rfl | rfl⟩ := mem_modify hb
        · have := h.dirtyflag _ hy hd; rw [hc] at this; cases this.1
        · have := h.dirtyflag y hy (by simpa [hc] using hd); rw [hc] at this; cases this.1
      · simp at hb; subst hb; simp [hc] at hd
    · exact ⟨rfl, rfl⟩

theorem fillSlot_mono {s : File} (hc : s.cache = true) {p : Pos} (hv : Valid s.blocks p) (d : DD) : Mono s (fillSlot s p d) := by
  rw [fillSlot_eq hv]
  exact Mono.of_frame rfl (le_endAfter _ _) (by simp only [hc, if_true]) (by simp only [hc, if_true]; exact List.modify_id _ _)

theorem newBlock_mono (cfg : Cfg) {s : File} (hc : s.cache = true) : Mono s (htiNewBlock cfg s) := by
  refine ⟨rfl, by show s.fEnd ≤ s.fEnd + (NDDS_SZ + OFFSET_SZ) + headNdds s * DD_SZ; omega,
    ⟨(newBlockWrites cfg s).reverse, rfl, ?_⟩,
    (by show ∃ extra, newBlockDisk cfg s = s.disk ++ extra
        unfold newBlockDisk; rw [if_pos hc]; exact ⟨_, rfl⟩)⟩
  intro w hw
  rw [List.mem_reverse] at hw
  unfold newBlockWrites at hw
  simp only [hc, if_true, List.nil_append, List.append_nil] at hw
  split at hw
  · simp at hw
    rcases hw with rfl | rfl
    · exact Nat.le_refl _
    · show s.fEnd ≤ s.fEnd + (NDDS_SZ + OFFSET_SZ); omega
  · simp at hw; subst hw; exact Nat.le_refl _

theorem added_of_clean {s : File} (hw : WF s) (hk : DiskOK s) (hcl : ∀ b ∈ s.blocks, b.dirty = false) : Added s :=
  Added.of_par <| hk.par.imp fun i b d hb _ hm => by
    rw [hm (hcl b (List.mem_of_getElem? hb))]
    obtain ⟨blk, h1, h2⟩ := hw.slotne i (List.getElem?_eq_some_iff.mp hb).1
    rw [hb] at h1; cases h1
    exact slotOK_mirror b fun e => by rw [e] at h2; exact absurd h2 (Nat.lt_irrefl 0)

theorem diskSlotDead_of_mem {s : File} (ha : Added s) {p : Pos} (hv : Valid s.blocks p)
    (hd : isLive (getDD s.blocks p) = false) : DiskSlotDead s p := by
  intro d x hdk hx
  obtain ⟨blk, hb, hi⟩ := hv
  have hs := ha.2 p.blk blk d hb hdk
  cases hl : isLive x with
  | false => rfl
  | true =>
    have := hs.dds0 p.idx x hx hl
    have hg : getDD s.blocks p = x := by
      simp only [getDD, hb, List.getD_eq_getElem?_getD, this, Option.getD_some]
    rw [hg, hl] at hd; cases hd

theorem added_fillSlot {s : File} {p : Pos} (hat : AddedAt s p) (hc : s.cache = true) (hv : Valid s.blocks p) (y : DD) :
    AddedAt (fillSlot s p y) p := by
  obtain ⟨ha, hdead⟩ := hat
  rw [fillSlot_eq hv]
  have hdk : s.disk.modify p.blk (fun db => if s.cache then db else { db with dds := db.dds.set p.idx y }) = s.disk := by
    simp only [hc, if_true]; exact List.modify_id _ _
  refine ⟨Added.of_par (ha.par.modify p.blk _ _ ?_), by intro d x h1 h2; rw [hdk] at h1; exact hdead d x h1 h2⟩
  intro b d _ hd hs
  simp only [hc, if_true]
  refine ⟨hs.off0, hs.off, hs.hdr, by simp [hs.nd0], ⟨hs.nd.1, by simp [hs.nd.2.1], by simp [hs.nd.2.2]⟩,
    hs.next0, hs.nextd, ?_, Or.inl rfl⟩
  intro j x hx hl
  by_cases hj : p.idx = j
  · subst hj; have := hdead d x hd hx; rw [hl] at this; cases this
  · simp only [List.getElem?_set, hj, if_false]; exact hs.dds0 j x hx hl

theorem chainFrom_last_next : ∀ (bs : List Block) (off : Nat), chainFrom off bs → ∀ (i : Nat) (b : Block),
    bs[i]? = some b → bs.length - 1 = i → b.next = 0
  | [], _, _, _, _, hb, _ => by cases hb
  | [x], _, h, i, b, hb, hi => by
    obtain rfl : 0 = i := hi
    cases hb; exact h.2.2.2
  | x :: y :: ys, _, h, i, b, hb, hi => by
    obtain ⟨i, rfl⟩ : ∃ k, i = k + 1 := ⟨(y :: ys).length - 1, by simp at hi ⊢; omega⟩
    exact chainFrom_last_next (y :: ys) _ h.2.2.2 i b (by simpa using hb) (by simp at hi ⊢; omega)

/-- a new DD block (caching on, with the fix of F3/F3′: a complete empty block is on disk at once) -/
theorem added_newBlock {cfg : Cfg} (hfix : cfg.fixF3 = true) {s : File} (hw : WF s) (hd : DiskOK s) (ha : Added s) (hc : s.cache = true) :
    Added (htiNewBlock cfg s) := by
  have hpos := headNdds_pos hw
  refine Added.of_par (s := htiNewBlock cfg s) ?_
  rw [show (htiNewBlock cfg s).disk = newBlockDisk cfg s from rfl, newBlockDisk_eq]
  refine (ha.par.modify _ _ _ ?_).snoc ?_
  · -- the last block: in memory its `nextoffset` points to the new block, on disk it is 0
    intro b d hb _ hs
    simp only [hc, if_true]
    have hn0 : d.next = 0 := by
      rcases hs.next0 with e | e
      · rw [e]; exact chainFrom_last_next _ _ hd.chain _ b hb rfl
      · exact e
    exact ⟨hs.off0, hs.off, hs.hdr, hs.nd0, hs.nd, Or.inr hn0, Or.inl rfl, hs.dds0, hs.ddsd⟩
  · refine ⟨rfl, rfl, by simp [hfix], by simp, ⟨by simp, by simp, by simp; omega⟩, Or.inl rfl, Or.inl rfl, ?_, Or.inl rfl⟩
    intro j x hx hl
    have := List.mem_of_getElem? hx
    simp [hc] at this
    rw [this.2] at hl
    simp [isLive, nilDD] at hl

end H4.DD
