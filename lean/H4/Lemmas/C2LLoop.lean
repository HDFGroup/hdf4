/-! The loops that `gen/c2lean.py` writes, and the rules for them.  A loop whose body the translator names (`X.loopK.body`) is an `IsLoop` by `of_eqs`,
    and the lemma files go through these rules or, where a closed form of the result is at hand, through `exit` / `pass` in an induction of their own.
    The one unit generated with its loop bodies inline, hchunks.c, has no such constant: the loops of Lemmas/C04Fn are inductions on the fuel. -/
namespace H4.C2L

/-- `while (c) body` as the translator writes it: one unit of fuel per pass, `body` handed the fuel the pass was entered with (for its inner
    loops).  `fin`: what the test itself does to the state on the way out (bounds checks of its operands, the decrement of `while (n--)`;
    then `c` and `body` include it too).  Out of fuel while `c` holds: left open. -/
structure IsLoop {σ : Type} (L : Nat → σ → σ) (c : σ → Prop) (body : Nat → σ → σ) (fin : σ → σ) : Prop where
  exit : ∀ {s}, ¬ c s → ∀ f, L f s = fin s
  pass : ∀ {s}, c s → ∀ f, L (f + 1) s = L f (body (f + 1) s)

namespace IsLoop
variable {σ : Type} {L : Nat → σ → σ} {c : σ → Prop} {body : Nat → σ → σ} {fin : σ → σ}

/-- the two equations of a generated `X.loopK` hold by `rfl` (with `body = X.loopK.body`, `stuck s = { s with oof := true }`) -/
theorem of_eqs [DecidablePred c] {stuck : σ → σ} (h0 : ∀ s, L 0 s = if c s then stuck s else fin s)
    (hs : ∀ f s, L (f + 1) s = if c s then L f (body (f + 1) s) else fin s) : IsLoop L c body fin where
  exit hc
    | 0 => (h0 _).trans (if_neg hc)
    | f + 1 => (hs f _).trans (if_neg hc)
  pass hc f := (hs f _).trans (if_pos hc)

/-- `i`: a ghost index whose `size` bounds the passes still to come (and so the fuel `body` may count on for its inner loops) -/
theorem spec {ι : Type} (h : IsLoop L c body fin) (size : ι → Nat) (Pre : ι → σ → Prop) (Post : ι → σ → σ → Prop)
    (step : ∀ i s, Pre i s → (¬ c s ∧ Post i s (fin s)) ∨
      (c s ∧ ∀ f, size i ≤ f → ∃ i', size i' < size i ∧ Pre i' (body f s) ∧ ∀ r, Post i' (body f s) r → Post i s r)) :
    ∀ fuel i s, size i ≤ fuel → Pre i s → Post i s (L fuel s) := by
  intro fuel
  induction fuel with
  | zero =>
    intro i s hf hp
    rcases step i s hp with ⟨hc, hpost⟩ | ⟨_, hb⟩
    · rw [h.exit hc]; exact hpost
    · obtain ⟨i', hlt, _⟩ := hb 0 hf; omega
  | succ f ih =>
    intro i s hf hp
    rcases step i s hp with ⟨hc, hpost⟩ | ⟨hc, hb⟩
    · rw [h.exit hc]; exact hpost
    · obtain ⟨i', hlt, hp', hr⟩ := hb (f + 1) hf
      rw [h.pass hc]
      exact hr _ (ih i' _ (by omega) hp')

/-- `R`: fuel the passes may count on beyond the passes still to come (what the inner loops of `body` need) -/
theorem count (h : IsLoop L c body fin) (I : Nat → σ → Prop) (n R : Nat) (hc : ∀ k s, k ≤ n → I k s → (c s ↔ k < n))
    (hb : ∀ k s f, k < n → R + (n - k) ≤ f → I k s → I (k + 1) (body f s)) {k fuel : Nat} {s : σ} (hkn : k ≤ n)
    (hf : R + (n - k) ≤ fuel) (hk : I k s) : ∃ t, I n t ∧ L fuel s = fin t :=
  h.spec (fun k => R + (n - k)) (fun k s => k ≤ n ∧ I k s) (fun _ _ r => ∃ t, I n t ∧ r = fin t)
    (fun k s ⟨hkn, hI⟩ => by
      by_cases hlt : k < n
      · exact .inr ⟨(hc k s hkn hI).mpr hlt, fun f hf => ⟨k + 1, by omega, ⟨hlt, hb k s f hlt hf hI⟩, fun _ hr => hr⟩⟩
      · obtain rfl : k = n := by omega
        exact .inl ⟨fun hcs => hlt ((hc k s hkn hI).mp hcs), s, hI, rfl⟩)
    fuel k s hf ⟨hkn, hk⟩

theorem passes (h : IsLoop L c body fin) (d : Nat) : ∀ (F : Nat → σ) (fuel : Nat), (∀ k, k < d → c (F k)) →
    (∀ k f, k < d → d - k ≤ f → body f (F k) = F (k + 1)) → d ≤ fuel → L fuel (F 0) = L (fuel - d) (F d) := by
  induction d with
  | zero => intros; rfl
  | succ d ih =>
    intro F fuel hc hb hf
    obtain ⟨f, rfl⟩ : ∃ f, fuel = f + 1 := ⟨fuel - 1, by omega⟩
    rw [h.pass (hc 0 (by omega)), hb 0 _ (by omega) (by omega), Nat.add_sub_add_right]
    exact ih (fun k => F (k + 1)) f (fun k hk => hc (k + 1) (by omega)) (fun k f hk hf => hb (k + 1) f (by omega) (by omega)) (by omega)

theorem run (h : IsLoop L c body fin) (d : Nat) (F : Nat → σ) {fuel : Nat} (hc : ∀ k, k < d → c (F k)) (hd : ¬ c (F d))
    (hb : ∀ k f, k < d → d - k ≤ f → body f (F k) = F (k + 1)) (hf : d ≤ fuel) : L fuel (F 0) = fin (F d) :=
  (h.passes d F fuel hc hb hf).trans (h.exit hd _)

/-- a search loop left by `break` / `goto` / `return` on the first row with `p`; `F k`: the state in front of row `k` -/
theorem first_hit {α : Type} (h : IsLoop L c body fin) (l : List α) (p : α → Bool) (F : Nat → σ) (Hit : Nat → σ → Prop)
    (hc : ∀ k, k < l.length → c (F k)) (hx : ¬ c (F l.length))
    (hmiss : ∀ k f (hk : k < l.length), p l[k] = false → body f (F k) = F (k + 1))
    (hhit : ∀ d f (hd : d < l.length), l.findIdx? p = some d → p l[d] = true → ¬ c (body f (F d)) ∧ Hit d (fin (body f (F d))))
    {fuel : Nat} (hf : l.length ≤ fuel) :
    match l.findIdx? p with
    | none => L fuel (F 0) = fin (F l.length)
    | some d => Hit d (L fuel (F 0)) := by
  cases hfi : l.findIdx? p with
  | none =>
    have hn := List.findIdx?_eq_none_iff.mp hfi
    exact h.run l.length F hc hx (fun k f hk _ => hmiss k f hk (by simpa using hn _ (List.getElem_mem hk))) hf
  | some d =>
    obtain ⟨hd, hp, hb⟩ := List.findIdx?_eq_some_iff_getElem.mp hfi
    obtain ⟨g, hg⟩ : ∃ g, fuel - d = g + 1 := ⟨fuel - d - 1, by omega⟩
    obtain ⟨hout, hH⟩ := hhit d (g + 1) hd hfi hp
    show Hit d (L fuel (F 0))
    rw [h.passes d F fuel (fun k hk => hc k (by omega)) (fun k f hk _ => hmiss k f (by omega) (by simpa using hb k hk)) (by omega), hg,
      h.pass (hc d hd), h.exit hout]
    exact hH

/-- `h0`: the one case `IsLoop` says nothing about in either loop, out of fuel while `c` holds -/
theorem map {τ : Type} {L' : Nat → τ → τ} {c' : τ → Prop} {body' : Nat → τ → τ} {fin' : τ → τ}
    (h : IsLoop L c body fin) (h' : IsLoop L' c' body' fin') (view : σ → τ) (hc : ∀ s, c s ↔ c' (view s))
    (hb : ∀ f s, c s → view (body f s) = body' f (view s)) (hfin : ∀ s, ¬ c s → view (fin s) = fin' (view s))
    (h0 : ∀ s, c s → view (L 0 s) = L' 0 (view s)) : ∀ f s, view (L f s) = L' f (view s) := by
  intro f
  induction f with
  | zero =>
    intro s
    by_cases hcs : c s
    · exact h0 s hcs
    · rw [h.exit hcs, h'.exit (fun x => hcs ((hc s).mpr x)), hfin s hcs]
  | succ f ih =>
    intro s
    by_cases hcs : c s
    · rw [h.pass hcs, h'.pass ((hc s).mp hcs), ih, hb _ _ hcs]
    · rw [h.exit hcs, h'.exit (fun x => hcs ((hc s).mpr x)), hfin s hcs]

end IsLoop

end H4.C2L
