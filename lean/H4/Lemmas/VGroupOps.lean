import H4.Lemmas.VGroupSim
/-! What the helper functions of the model do (`flushVG`, `touchVG` / `touchAll`, `VGroup.ofVG` / `loadAll`, `findBy`, `loneOf`) and what
    `Vattach` and `Vsetattr` leave in memory (`attachG` / `attachN` with `attach_abs`, `attachG_row`; `setattrG` / `setattrN` with `ginv_attr`):
    to the abstraction, to `GInv`, to the disk. -/
namespace H4.VGroup
open H4.Gen.Hdf

/-- the in-memory effect of `Vattach` on an existing Vgroup -/
def attachG (g : VGroup) (w : Bool) : VGroup :=
  if g.nattach > 0 then { g with access := max g.access (if w then accW else accR), nattach := g.nattach + 1 }
  else { g with access := (if w then accW else accR), marked := false, nattach := 1 }

def attachN (g : Node) (w : Bool) : Node :=
  if g.nattach > 0 then { g with access := max g.access (if w then accW else accR), nattach := g.nattach + 1 }
  else { g with access := (if w then accW else accR), nattach := 1 }

theorem attach_abs (g : VGroup) (w : Bool) : (attachG g w).abs = attachN g.abs w := by
  unfold attachG attachN
  by_cases hn : g.nattach > 0 <;> simp [VGroup.abs, hn]

/-- a first attachment clears `marked`, and an unattached Vgroup was not marked -/
theorem attachG_row {g : VGroup} {d : Option Bytes} (w : Bool) (h : Row (some g) d) : Row (some (attachG g w)) d := by
  obtain ⟨⟨gm, gw, gk⟩, gd⟩ := h
  unfold attachG
  by_cases hn : g.nattach > 0
  · simp only [hn, if_true]
    exact ⟨⟨gm, gw, fun _ => by simp⟩, gd⟩
  · simp only [hn, if_false]
    exact ⟨⟨gm, gw, fun hx => absurd hx (by simp)⟩, fun _ => gd (GInv.unmarked ⟨gm, gw, gk⟩ hn)⟩

theorem flush_abs (fx : Bool) (d : List (Nat × Bytes)) (r : Nat) (g : VGroup) : (flushVG fx d r g).2.abs = g.abs := by
  unfold flushVG; split <;> rfl

theorem flush_marked (fx : Bool) (d : List (Nat × Bytes)) (r : Nat) (g : VGroup) : (flushVG fx d r g).2.marked = false := by
  unfold flushVG; split
  · rfl
  · rename_i h; simpa using h

/-- the version is already normal -/
theorem flushVG_ginv {fx : Bool} {d : List (Nat × Bytes)} {r : Nat} {g : VGroup} (h : GInv g) :
    GInv (flushVG fx d r g).2 ∧ (flushVG fx d r g).2.toVG = g.toVG := by
  unfold flushVG; split
  · have tv : ({ g with version := packVersion g.toVG, marked := false, newvg := false } : VGroup).toVG = g.toVG := by
      have := packVersion_wf _ h.2.1.fix
      simp only [VGroup.toVG] at this ⊢
      rw [this]
    exact ⟨⟨h.1, by rw [tv]; exact h.2.1, fun hx => absurd hx (by simp)⟩, tv⟩
  · exact ⟨h, rfl⟩

theorem flush_nattach (fx : Bool) (d : List (Nat × Bytes)) (r : Nat) (g : VGroup) : (flushVG fx d r g).2.nattach = g.nattach := by
  unfold flushVG; split <;> rfl

/-- `fx` does not show on the right: for a well-formed `g` both writers give the same bytes (`vpackvgF_eq_of_wfmem`) -/
theorem flush_disk (fx : Bool) (d : List (Nat × Bytes)) (r : Nat) (g : VGroup) (hw : g.toVG.WFmem) (k : Nat) :
    alook k (flushVG fx d r g).1 = if g.marked = true ∧ k = r then some (vpackvg g.toVG) else alook k d := by
  unfold flushVG; split
  · rename_i h; simp only [alook_ains, h, true_and, vpackvgF_eq_of_wfmem fx _ hw]
  · rename_i h; simp [h]

theorem flush_sorted {fx : Bool} {d : List (Nat × Bytes)} (r : Nat) (g : VGroup) (h : KSorted d) : KSorted (flushVG fx d r g).1 := by
  unfold flushVG; split
  · exact ksorted_ains h
  · exact h

def setattrG (g : VGroup) (vsref : Nat) : VGroup :=
  { g with attrs := g.attrs ++ [(DFTAG_VH, vsref)], flags := g.flags ||| VG_ATTR_SET,
           version := VSET_NEW_VERSION, marked := true }

def setattrN (g : Node) (vsref : Nat) : Node := { g with attrs := g.attrs ++ [(DFTAG_VH, vsref)] }

theorem or_one_and_one (x : Nat) : (x ||| 1) &&& 1 ≠ 0 := by
  intro h
  have := congrArg (fun y => y.testBit 0) h
  simp at this

theorem or_one_ne_zero (x : Nat) : x ||| 1 ≠ 0 := fun h => or_one_and_one x (by rw [h]; rfl)

theorem ginv_attr {g : VGroup} (h : GInv g) (vsref : Nat) (hv : vsref < 65536) (hl : g.attrs.length < 2147483647)
    (hn : 0 < g.nattach) :
    GInv (setattrG g vsref) := by
  unfold setattrG
  obtain ⟨m, ⟨w1, w2, w3, w4, w5, w6, w7, _, _, _, _, w12, w13, w14⟩, _⟩ := h
  have c1 : VG_ATTR_SET = 1 := by decide
  refine ⟨m, ⟨w1, w2, w3, w4, w5, w6, w7, (by decide : VSET_NEW_VERSION < 65536), (by decide : toI16 VSET_NEW_VERSION ≤ 4), fun _ => rfl, ?_, ?_, ?_, ?_⟩, fun _ => hn⟩
  · intro h0; simp only [VGroup.toVG, c1] at h0; exact absurd h0 (or_one_ne_zero _)
  · simp only [VGroup.toVG, c1]; exact Nat.or_lt_two_pow (n := 32) w12 (by omega)
  · intro _
    simp only [VGroup.toVG, List.length_append, List.length_cons, List.length_nil]
    refine ⟨by omega, ?_⟩
    intro p hp
    rcases List.mem_append.mp hp with hp | hp
    · by_cases hb : g.flags &&& VG_ATTR_SET = 0
      · have := w14 hb; simp only [VGroup.toVG] at this; rw [this] at hp; simp at hp
      · exact (w13 hb).2 p hp
    · simp only [List.mem_singleton] at hp; subst hp
      exact ⟨(by decide : DFTAG_VH < 65536), hv⟩
  · intro h0; simp only [VGroup.toVG, c1] at h0; exact absurd h0 (or_one_and_one _)

theorem findBy_map {α β} (f : α → β) (sel : α → Option Bytes) (sel' : β → Option Bytes) (h : ∀ a, sel' (f a) = sel a)
    (n : Bytes) (l : List (Nat × α)) : findBy sel' n (l.map (fun e => (e.1, f e.2))) = findBy sel n l := by
  induction l with
  | nil => rfl
  | cons a t ih =>
    simp only [findBy, List.map_cons, List.find?_cons, h] at ih ⊢
    cases hc : (sel a.2 == some (cstr n)) with
    | true => rfl
    | false => exact ih

def touchG (g : VGroup) : VGroup :=
  if g.nattach > 0 then
    (if g.marked then { g with access := max g.access accR, version := packVersion g.toVG, marked := false, newvg := false }
     else { g with access := max g.access accR })
  else { g with access := accR, marked := false }

theorem touchVG_snd (fx : Bool) (d : List (Nat × Bytes)) (r : Nat) (g : VGroup) : (touchVG fx d r g).2 = touchG g := by
  unfold touchVG touchG flushVG
  by_cases hn : g.nattach > 0
  · by_cases hm : g.marked = true
    · simp [hn, hm, VGroup.toVG]
    · simp [hn, hm]
  · simp [hn]

theorem touchVG_disk (fx : Bool) (d : List (Nat × Bytes)) (r : Nat) (g : VGroup) (hw : g.toVG.WFmem) (k : Nat) :
    alook k (touchVG fx d r g).1 = if g.nattach > 0 ∧ g.marked = true ∧ k = r then some (vpackvg g.toVG) else alook k d := by
  unfold touchVG
  by_cases hn : g.nattach > 0
  · have hw' : ({ g with access := max g.access accR } : VGroup).toVG.WFmem := hw
    simp only [hn, if_true, flush_disk _ _ _ _ hw', true_and]
    rfl
  · simp [hn]

theorem touchVG_sorted {fx : Bool} {d : List (Nat × Bytes)} (r : Nat) (g : VGroup) (h : KSorted d) : KSorted (touchVG fx d r g).1 := by
  unfold touchVG
  split
  · exact flush_sorted _ _ h
  · exact h

theorem touchAll_snd (fx : Bool) (d : List (Nat × Bytes)) (vgs : List (Nat × VGroup)) :
    (touchAll fx d vgs).2 = vgs.map (fun e => (e.1, touchG e.2)) := by
  induction vgs generalizing d with
  | nil => rfl
  | cons a t ih =>
    obtain ⟨r, g⟩ := a
    simp only [touchAll, List.map_cons, touchVG_snd, ih]

theorem touchAll_sorted {fx : Bool} {d : List (Nat × Bytes)} (vgs : List (Nat × VGroup)) (h : KSorted d) : KSorted (touchAll fx d vgs).1 := by
  induction vgs generalizing d with
  | nil => exact h
  | cons a t ih =>
    obtain ⟨r, g⟩ := a
    simp only [touchAll]
    exact ih (touchVG_sorted r g h)

theorem touchAll_disk (fx : Bool) (vgs : List (Nat × VGroup)) (hs : KSorted vgs) (hw : ∀ e ∈ vgs, e.2.toVG.WFmem)
    (d : List (Nat × Bytes)) (k : Nat) :
    alook k (touchAll fx d vgs).1 =
      (match alook k vgs with
       | some g => if g.nattach > 0 ∧ g.marked = true then some (vpackvg g.toVG) else alook k d
       | none => alook k d) := by
  induction vgs generalizing d with
  | nil => rfl
  | cons a t ih =>
    obtain ⟨r, g⟩ := a
    rw [ksorted_cons] at hs
    have hg : g.toVG.WFmem := hw (r, g) (by simp)
    simp only [touchAll, alook]
    rw [ih hs.2 (fun e he => hw e (by simp [he]))]
    by_cases e : r = k
    · subst e
      have : alook r t = none := alook_none_of_lt hs.1 (Nat.le_refl _)
      simp only [this, if_true, touchVG_disk _ _ _ _ hg, and_true]
    · have e' : ¬ k = r := fun x => e x.symm
      simp only [e, if_false, touchVG_disk _ _ _ _ hg, e', and_false]

theorem touchG_abs (g : VGroup) : (touchG g).abs = g.abs.touched := by
  unfold touchG Node.touched
  by_cases hn : g.nattach > 0
  · by_cases hm : g.marked = true <;> simp [hn, hm, VGroup.abs]
  · simp [hn, VGroup.abs]

theorem touchG_marked (g : VGroup) : (touchG g).marked = false := by
  unfold touchG
  by_cases hn : g.nattach > 0
  · by_cases hm : g.marked = true
    · simp [hn, hm]
    · simp [hn, hm]
  · simp [hn]

theorem touchG_ginv {g : VGroup} (h : GInv g) : GInv (touchG g) ∧ (touchG g).toVG = g.toVG := by
  rw [← touchVG_snd false [] 0 g]
  unfold touchVG; split
  · exact flushVG_ginv (g := { g with access := max g.access accR }) ⟨h.1, h.2.1, h.2.2⟩
  · exact ⟨⟨h.1, h.2.1, fun hx => absurd hx (by simp)⟩, rfl⟩

theorem loneOf_map {α β} (f : α → β) (mem : α → List Pair) (mem' : β → List Pair) (h : ∀ a, mem' (f a) = mem a)
    (t : Nat) (fl : List Nat) (l : List (Nat × α)) :
    loneOf mem' t fl (l.map (fun e => (e.1, f e.2))) = loneOf mem t fl l := by
  simp only [loneOf, List.any_map, Function.comp_def, h]

theorem ofVG_members (v : VG) : (VGroup.ofVG v).mem.members = v.members := by
  simp [VGroup.ofVG, Mem.members]

theorem ofVG_toVG (v : VG) : (VGroup.ofVG v).toVG = v := by
  have := ofVG_members v
  simp only [VGroup.toVG, this]
  rfl

theorem ofVG_ginv {v : VG} (h : v.WFmem) : GInv (VGroup.ofVG v) := by
  refine ⟨?_, by rw [ofVG_toVG]; exact h, fun hx => absurd hx (by simp [VGroup.ofVG])⟩
  have hl := h.1
  have c : MAXNVELT = 64 := by decide
  simp only [VGroup.ofVG, Mem.OK, List.length_append, List.length_replicate, c]
  split <;> omega

theorem ofVG_abs (g : VGroup) : (VGroup.ofVG g.toVG.norm).abs = g.abs.reopened := by
  simp only [VGroup.abs, Node.reopened, ofVG_members]
  rfl

theorem loadAll_pack (vgs : List (Nat × VGroup)) (h : ∀ e ∈ vgs, GInv e.2) :
    loadAll (vgs.map (fun e => (e.1, vpackvg e.2.toVG))) = some (vgs.map (fun e => (e.1, VGroup.ofVG e.2.toVG.norm))) := by
  induction vgs with
  | nil => rfl
  | cons a t ih =>
    have ha := (h a (by simp)).2.1
    have ht := ih (fun e he => h e (by simp [he]))
    simp only [List.map_cons, loadAll, vunpackvg_vpackvg _ ha, ht]

end H4.VGroup
