import H4.VGroup
import H4.Lemmas.BigEndian
namespace H4.VGroup
open H4.Gen.Hdf H4.BigEndian

theorem getU16_u16 (n : Nat) (h : n < 65536) (r : Bytes) : getU16 (u16 n ++ r) = some (n, r) := by
  simp only [u16, List.cons_append, List.nil_append, getU16, UInt8.toNat_ofNat', digits16 h]

theorem getU32_u32 (n : Nat) (h : n < 4294967296) (r : Bytes) : getU32 (u32 n ++ r) = some (n, r) := by
  simp only [u32, List.cons_append, List.nil_append, getU32, UInt8.toNat_ofNat', digits32 h]

theorem getU16s_flatMap (l : List Nat) (h : ∀ x ∈ l, x < 65536) (r : Bytes) :
    getU16s l.length (l.flatMap u16 ++ r) = some (l, r) :=
  many_roundtrip (fun _ => rfl) (fun _ a _ _ _ ha e => by simp only [getU16s, getU16_u16 a ha, e]) l h r

theorem getPairs_pack (l : List Pair) (h : ∀ p ∈ l, PairOK p) (r : Bytes) :
    getPairs l.length (packPairs l ++ r) = some (l, r) := by
  unfold packPairs
  exact many_roundtrip (fun _ => rfl) (fun _ a _ _ _ ha e => by
    simp only [List.append_assoc, getPairs, getU16_u16 _ ha.1, getU16_u16 _ ha.2, e]) l h r

theorem takeWhile_ne_zero (b : Bytes) (h : (0 : Byte) ∉ b) : b.takeWhile (· ≠ 0) = b := by
  induction b with
  | nil => rfl
  | cons a t ih =>
    have ha : a ≠ 0 := fun e => h (by simp [e])
    have ht : (0 : Byte) ∉ t := fun e => h (by simp [e])
    have := ih ht
    rw [List.takeWhile_cons]
    simp only [ne_eq, ha, not_false_eq_true, decide_true, if_true]
    rw [show (fun x : Byte => decide (¬ x = 0)) = (fun x => decide (x ≠ 0)) from rfl, this]

theorem getStr_pack (s : Option Bytes) (h : NameMemOK s) (r : Bytes) : getStr (packStr s ++ r) = some (normName s, r) := by
  cases s with
  | none => simp [packStr, getStr, normName, getU16_u16 0 (by omega)]
  | some b =>
    obtain ⟨h2, h3⟩ := h
    have hl : b.length % 65536 = b.length := Nat.mod_eq_of_lt h2
    cases b with
    | nil => simp [packStr, getStr, normName, getU16_u16 0 (by omega)]
    | cons a t =>
      have hpos : (a :: t).length ≠ 0 := by simp
      simp only [packStr, Option.getD_some, hl, List.take_length, List.append_assoc, getStr, getU16_u16 _ h2, hpos,
        if_false]
      have : ¬ (a :: t ++ r).length < (a :: t).length := by simp
      simp only [this, if_false, List.take_left', List.drop_left', takeWhile_ne_zero _ h3, normName]

theorem u16_length (n : Nat) : (u16 n).length = 2 := rfl

theorem toI16_small (v : Nat) (h : v < 32768) : toI16 v = v := by
  unfold toI16
  have : v % 65536 = v := Nat.mod_eq_of_lt (by omega)
  simp [this, h]

theorem VG.WFmem.fix {g : VG} (h : g.WFmem) : g.WFfixmem := by
  obtain ⟨a1, a2, a3, a4, a5, a6, a7, a8, a9, a10, _, a12, a13, a14⟩ := h
  exact ⟨a1, a2, a3, a4, a5, a6, a7, a8, a9, a10, a12, a13, a14⟩

theorem packVersion_wf (g : VG) (h : g.WFfixmem) : packVersion g = g.version := by
  obtain ⟨_, _, _, _, _, _, _, _, _, hf, _⟩ := h
  unfold packVersion
  split
  · rename_i hc
    have := hf hc.1
    rw [this] at hc
    have h4 : toI16 VSET_NEW_VERSION = 4 := by decide
    rw [h4] at hc
    exact absurd hc.2 (by decide)
  · rfl

/-- everything `vpackvg` writes before the version field -/
def packBody (fx : Bool) (g : VG) : Bytes :=
  u16 g.members.length ++ g.members.flatMap (fun p => u16 p.1) ++ g.members.flatMap (fun p => u16 p.2)
  ++ packStr g.name ++ packStr g.cls ++ u16 g.extag ++ u16 g.exref
  ++ (if hasFlagsWord fx g then
        u32 g.flags ++ (if g.flags &&& VG_ATTR_SET ≠ 0 then u32 g.attrs.length ++ packPairs g.attrs else [])
      else [])

theorem vpackvgF_eq (fx : Bool) (g : VG) :
    vpackvgF fx g = packBody fx g ++ (u16 (packVersion g) ++ (u16 g.more ++ [0])) := by
  simp [vpackvgF, packBody, List.append_assoc]

theorem toI16_eq4 (v : Nat) (h : v < 65536) : toI16 v = 4 ↔ v = 4 := by
  unfold toI16
  have : v % 65536 = v := Nat.mod_eq_of_lt h
  rw [this]
  split <;> omega

theorem toI16_eq_new (v : Nat) (h : v < 65536) : toI16 v = (VSET_NEW_VERSION : Nat) ↔ v = VSET_NEW_VERSION := by
  have c4 : VSET_NEW_VERSION = 4 := by decide
  rw [c4]; exact_mod_cast toI16_eq4 v h

/-- round trip of the record under either writer: `fx = false` (no flags word for flags 0) needs "no flags ⇒ not version 4",
    `fx = true` (the flags word of every version-4 record, /repo since de44643) has no such restriction -/
theorem vunpackvg_vpackvgF (fx : Bool) (g : VG) (h : g.WFfixmem)
    (h0 : fx = false → g.flags = 0 → g.version ≠ VSET_NEW_VERSION) : vunpackvg (vpackvgF fx g) = some g.norm := by
  have hv := packVersion_wf g h
  obtain ⟨hlen, hmem, hname, hcls, hextag, hexref, hmore, hver, hver4, hf1, hfl, ha1, ha0⟩ := h
  rw [vpackvgF_eq, hv]
  have hlen5 : (packBody fx g ++ (u16 g.version ++ (u16 g.more ++ [0]))).length = (packBody fx g).length + 5 := by
    simp [u16_length]
  have hdrop : (packBody fx g ++ (u16 g.version ++ (u16 g.more ++ [0]))).drop ((packBody fx g).length + 5 - 5)
      = u16 g.version ++ (u16 g.more ++ [0]) := by simp
  unfold vunpackvg
  rw [hlen5, hdrop]
  have n5 : ¬ (packBody fx g).length + 5 < 5 := by omega
  simp only [n5, if_false, getU16_u16 _ hver, getU16_u16 _ hmore, hver4, if_true]
  have htags : ∀ x ∈ g.members.map (·.1), x < 65536 := by
    intro x hx; obtain ⟨p, hp, rfl⟩ := List.mem_map.mp hx; exact (hmem p hp).1
  have hrefs : ∀ x ∈ g.members.map (·.2), x < 65536 := by
    intro x hx; obtain ⟨p, hp, rfl⟩ := List.mem_map.mp hx; exact (hmem p hp).2
  have t1 : ∀ r, getU16s g.members.length ((g.members.map (·.1)).flatMap u16 ++ r) = some (g.members.map (·.1), r) := by
    intro r; simpa using getU16s_flatMap _ htags r
  have t2 : ∀ r, getU16s g.members.length ((g.members.map (·.2)).flatMap u16 ++ r) = some (g.members.map (·.2), r) := by
    intro r; simpa using getU16s_flatMap _ hrefs r
  simp only [packBody, List.append_assoc, getU16_u16 _ hlen, flatMap_map g.members (·.1) u16, flatMap_map g.members (·.2) u16, t1, t2]
  simp only [getStr_pack _ hname, getStr_pack _ hcls, getU16_u16 _ hextag, getU16_u16 _ hexref, zip_maps]
  by_cases hz : g.flags = 0
  · have hattr : g.attrs = [] := ha0 (by simp [hz])
    by_cases h4 : g.version = VSET_NEW_VERSION
    · -- only reachable with `fx = true`: the flags word (0) is written and read back
      have hfx : fx = true := by
        cases fx with
        | true => rfl
        | false => exact absurd h4 (h0 rfl hz)
      have he : toI16 g.version = VSET_NEW_VERSION := (toI16_eq_new _ hver).mpr h4
      have hw : hasFlagsWord fx g = true := by simp [hasFlagsWord, hfx, he]
      have hb : g.flags &&& VG_ATTR_SET = 0 := by simp [hz]
      simp only [hw, if_true, he, hb, ne_eq, not_true_eq_false, if_false, List.nil_append, List.append_assoc,
        getU32_u32 _ hfl]
      rw [VG.norm, hz, hattr]
    · have hne : ¬ toI16 g.version = VSET_NEW_VERSION := by rw [toI16_eq_new _ hver]; exact h4
      have hw : hasFlagsWord fx g = false := by simp [hasFlagsWord, hz, hne]
      simp only [hw, hne, if_false, Bool.false_eq_true, List.nil_append]
      rw [VG.norm, hz, hattr]
  · have h4 : g.version = VSET_NEW_VERSION := hf1 hz
    have he : toI16 g.version = VSET_NEW_VERSION := (toI16_eq_new _ hver).mpr h4
    have hw : hasFlagsWord fx g = true := by simp [hasFlagsWord, hz]
    simp only [hw, he, if_true, List.append_assoc, getU32_u32 _ hfl]
    by_cases hb : g.flags &&& VG_ATTR_SET = 0
    · have hattr : g.attrs = [] := ha0 hb
      simp only [hb, ne_eq, not_true_eq_false, if_false, List.nil_append]
      rw [VG.norm, hattr]
    · obtain ⟨hal, hap⟩ := ha1 hb
      have hal' : g.attrs.length < 4294967296 := by omega
      have hnot : ¬ g.attrs.length ≥ 2147483648 := by omega
      simp only [ne_eq, hb, not_false_eq_true, if_true, List.append_assoc, getU32_u32 _ hal', hnot, if_false,
        getPairs_pack _ hap]
      rfl

theorem vunpackvg_vpackvg (g : VG) (h : g.WFmem) : vunpackvg (vpackvg g) = some g.norm :=
  vunpackvg_vpackvgF false g h.fix (fun _ => h.2.2.2.2.2.2.2.2.2.2.1)

theorem vpackvgF_eq_of_wfmem (fx : Bool) (g : VG) (h : g.WFmem) : vpackvgF fx g = vpackvg g := by
  obtain ⟨_, _, _, _, _, _, _, hver, _, _, hf0, _⟩ := h
  have : hasFlagsWord fx g = hasFlagsWord false g := by
    by_cases hz : g.flags = 0
    · have hne : ¬ toI16 g.version = VSET_NEW_VERSION := by rw [toI16_eq_new _ hver]; exact hf0 hz
      simp [hasFlagsWord, hz, hne]
    · simp [hasFlagsWord, hz]
  simp only [vpackvg, vpackvgF, this]

theorem normName_of_ne {s : Option Bytes} (h : s ≠ some []) : normName s = s := by
  cases s with
  | none => rfl
  | some b => cases b with
    | nil => exact absurd rfl h
    | cons a t => rfl

theorem VG.norm_of_ne {g : VG} (h1 : g.name ≠ some []) (h2 : g.cls ≠ some []) : g.norm = g := by
  cases g; simp_all [VG.norm, normName_of_ne]

theorem packStr_norm (s : Option Bytes) : packStr (normName s) = packStr s := by
  cases s with
  | none => rfl
  | some b => cases b <;> rfl

theorem vpackvg_norm (g : VG) : vpackvg g.norm = vpackvg g := by
  simp only [vpackvg, vpackvgF, VG.norm, packStr_norm, packVersion, hasFlagsWord]
  rfl

theorem VG.WFmem.set_members {v : VG} (h : v.WFmem) {m : List Pair} (hl : m.length < 65536) (hp : ∀ p ∈ m, PairOK p) :
    VG.WFmem { v with members := m } := ⟨hl, hp, h.2.2⟩
theorem VG.WFmem.set_name {v : VG} (h : v.WFmem) {n : Option Bytes} (hn : NameMemOK n) : VG.WFmem { v with name := n } :=
  ⟨h.1, h.2.1, hn, h.2.2.2⟩
theorem VG.WFmem.set_cls {v : VG} (h : v.WFmem) {n : Option Bytes} (hn : NameMemOK n) : VG.WFmem { v with cls := n } :=
  ⟨h.1, h.2.1, h.2.2.1, hn, h.2.2.2.2⟩

theorem NameMemOK.norm {s : Option Bytes} (h : NameMemOK s) : NameMemOK (normName s) := by
  cases s with
  | none => exact h
  | some b => cases b with
    | nil => trivial
    | cons a t => exact h

theorem VG.norm_wfmem {g : VG} (h : g.WFmem) : g.norm.WFmem := (h.set_name h.2.2.1.norm).set_cls h.2.2.2.1.norm

end H4.VGroup
