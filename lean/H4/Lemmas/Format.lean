import H4.Format
import H4.Lemmas.VGroupCodec
/-! Round trips of the record codecs of the independent format reader (C02): every decoder is a chain of `bind`s over the field
    readers, and every proof lets `simp` step through that chain with the round trip of each field. -/
namespace H4.Format
open H4.Gen.Hdf H4.Gen.Fmt H4.BigEndian

/-! With these congruence rules `simp` rewrites the head of a chain of `bind`s and does not walk into the continuation (the whole
    rest of the decoder), which it would otherwise traverse again at every step. -/
theorem Option.bind_congr_left {α β : Type} {x y : Option α} (h : x = y) (f : α → Option β) : x.bind f = y.bind f := by rw [h]
theorem Option.bind_congr_left' {α β : Type} {x y : Option α} (h : x = y) (f : α → Option β) : (x >>= f) = (y >>= f) := by rw [h]
attribute [local congr] Option.bind_congr_left Option.bind_congr_left'

theorem get8_enc8 (n : Nat) (h : n < 256) (r : Bytes) : get8 (enc8 n ++ r) = some (n, r) := by
  simp only [enc8, List.cons_append, List.nil_append, get8, UInt8.toNat_ofNat']
  congr 2; omega

/-! The 16- and 32-bit readers of this model are those of `H4.VGroup` under other names (and `enc16`, `enc32` are its `u16`, `u32`
    by unfolding), so their round trips are VGroup's. -/
theorem get16_eq_getU16 (l : Bytes) : get16 l = VGroup.getU16 l := by
  match l with
  | [] | [_] | _ :: _ :: _ => rfl

theorem get32_eq_getU32 (l : Bytes) : get32 l = VGroup.getU32 l := by
  match l with
  | [] | [_] | [_, _] | [_, _, _] | _ :: _ :: _ :: _ :: _ => rfl

theorem get16s_eq_getU16s : ∀ (n : Nat) (r : Bytes), get16s n r = VGroup.getU16s n r
  | 0, _ => rfl
  | n + 1, r => by
    rw [get16s, VGroup.getU16s, get16_eq_getU16]
    rcases VGroup.getU16 r with _ | ⟨x, r1⟩
    · rfl
    · simp only [get16s_eq_getU16s n r1, bind, Option.bind]
      cases VGroup.getU16s n r1 <;> rfl

theorem get16_enc16 (n : Nat) (h : n < 65536) (r : Bytes) : get16 (enc16 n ++ r) = some (n, r) :=
  (get16_eq_getU16 _).trans (VGroup.getU16_u16 n h r)

theorem get32_enc32 (n : Nat) (h : n < 4294967296) (r : Bytes) : get32 (enc32 n ++ r) = some (n, r) :=
  (get32_eq_getU32 _).trans (VGroup.getU32_u32 n h r)

theorem ofNat_mul_add (x : Nat) (d : UInt8) : UInt8.ofNat (x * 256 + d.toNat) = d ∧ (x * 256 + d.toNat) / 256 = x := by
  have hd := d.toNat_lt
  exact ⟨UInt8.toNat_inj.mp (by rw [UInt8.toNat_ofNat']; omega), by omega⟩

theorem ofS32_lt (i : Int) : ofS32 i < 4294967296 := by
  unfold ofS32; omega

theorem ofS16_lt (i : Int) : ofS16 i < 65536 := by
  unfold ofS16; omega

theorem toS32_ofS32 (i : Int) (h1 : -2147483648 ≤ i) (h2 : i < 2147483648) : toS32 (ofS32 i) = i :=
  wrap_unwrap (H := 2147483648) h1 h2

theorem toS16_ofS16 (i : Int) (h1 : -32768 ≤ i) (h2 : i < 32768) : toS16 (ofS16 i) = i :=
  wrap_unwrap (H := 32768) h1 h2

theorem ofS32_toS32 (n : Nat) (h : n < 4294967296) : ofS32 (toS32 n) = n :=
  unwrap_wrap (H := 2147483648) h

theorem ofS16_toS16 (n : Nat) (h : n < 65536) : ofS16 (toS16 n) = n :=
  unwrap_wrap (H := 32768) h

def S32 (i : Int) : Prop := -2147483648 ≤ i ∧ i < 2147483648
def S16 (i : Int) : Prop := -32768 ≤ i ∧ i < 32768
instance (i : Int) : Decidable (S32 i) := by unfold S32; infer_instance
instance (i : Int) : Decidable (S16 i) := by unfold S16; infer_instance

theorem getS32_encS32 (i : Int) (h : S32 i) (r : Bytes) : getS32 (encS32 i ++ r) = some (i, r) := by
  simp only [getS32, encS32, get32_enc32 _ (ofS32_lt i), Option.map_some, toS32_ofS32 i h.1 h.2]

theorem getS16_encS16 (i : Int) (h : S16 i) (r : Bytes) : getS16 (encS16 i ++ r) = some (i, r) := by
  simp only [getS16, encS16, get16_enc16 _ (ofS16_lt i), Option.map_some, toS16_ofS16 i h.1 h.2]

theorem getN_append (s r : Bytes) : getN s.length (s ++ r) = some (s, r) := by
  simp [getN]

theorem at_end {α : Type} {p : Bytes → Option (α × Bytes)} {e : Bytes} {a : α} (h : ∀ r, p (e ++ r) = some (a, r)) :
    p e = some (a, []) := by
  have := h []; rwa [List.append_nil] at this

theorem get16s_flatMap (l : List Nat) (h : ∀ x ∈ l, x < 65536) (r : Bytes) :
    get16s l.length (l.flatMap enc16 ++ r) = some (l, r) :=
  (get16s_eq_getU16s _ _).trans (VGroup.getU16s_flatMap l h r)

theorem getS16s_flatMap (l : List Int) (h : ∀ x ∈ l, S16 x) (r : Bytes) :
    getS16s l.length (l.flatMap encS16 ++ r) = some (l, r) :=
  many_roundtrip (fun _ => rfl) (fun _ a _ _ _ ha e => by
    simp only [getS16s, getS16_encS16 a ha, e, Option.bind_eq_bind, Option.bind_some]) l h r

theorem getStr16_enc (s : Bytes) (h : s.length < 65536) (r : Bytes) : getStr16 (encStr16 s ++ r) = some (s, r) := by
  simp only [getStr16, encStr16, List.append_assoc, get16_enc16 _ h, Option.bind_eq_bind, Option.bind_some, getN_append]

theorem getStrs16_flatMap (l : List Bytes) (h : ∀ s ∈ l, s.length < 65536) (r : Bytes) :
    getStrs16 l.length (l.flatMap encStr16 ++ r) = some (l, r) :=
  many_roundtrip (P := fun s => s.length < 65536) (fun _ => rfl) (fun _ a _ _ _ ha e => by
    simp only [getStrs16, getStr16_enc a ha, e, Option.bind_eq_bind, Option.bind_some]) l h r

@[simp] theorem enc8_length (n : Nat) : (enc8 n).length = 1 := rfl
@[simp] theorem enc16_length (n : Nat) : (enc16 n).length = 2 := rfl
@[simp] theorem enc32_length (n : Nat) : (enc32 n).length = 4 := rfl
@[simp] theorem encS32_length (i : Int) : (encS32 i).length = 4 := rfl
@[simp] theorem encS16_length (i : Int) : (encS16 i).length = 2 := rfl


theorem decodeDD_encodeDD (d : DD) (h : d.InRange) : decodeDD (encodeDD d) = some d := by
  obtain ⟨h1, h2, h3, h4, h5, h6⟩ := h
  have e := at_end (getS32_encS32 d.len ⟨h5, h6⟩)
  simp only [decodeDD, encodeDD, List.append_assoc, get16_enc16 _ h1, get16_enc16 _ h2, getS32_encS32 _ ⟨h3, h4⟩, e,
    Option.bind_eq_bind, Option.bind_some, List.isEmpty_nil, ↓reduceIte]

theorem encodeDD_length (d : DD) : (encodeDD d).length = DD_SZ := rfl

def BlockHdr.InRange (h : BlockHdr) : Prop := h.ndds < 65536 ∧ h.next < 4294967296

theorem decodeBlockHdr_encode (h : BlockHdr) (w : h.InRange) : decodeBlockHdr (encodeBlockHdr h) = some h := by
  have e := at_end (get32_enc32 h.next w.2)
  simp only [decodeBlockHdr, encodeBlockHdr, get16_enc16 _ w.1, e, Option.bind_eq_bind, Option.bind_some, List.isEmpty_nil,
    ↓reduceIte]

theorem decodeDDs_encodeDDs (l : List DD) (h : ∀ d ∈ l, d.InRange) : decodeDDs l.length (encodeDDs l) = some l := by
  induction l with
  | nil => simp [decodeDDs, encodeDDs]
  | cons a t ih =>
    have ha := h a (by simp)
    have ht := ih (fun x hx => h x (by simp [hx]))
    have hl : DD_SZ = (encodeDD a).length := rfl
    simp only [encodeDDs] at ht ⊢
    simp only [List.length_cons, List.flatMap_cons, decodeDDs, hl, getN_append, decodeDD_encodeDD a ha, ht,
      Option.bind_eq_bind, Option.bind_some]

def LBDR.InRange (h : LBDR) : Prop := S32 h.length ∧ S32 h.blockLen ∧ S32 h.numBlocks ∧ h.linkRef < 65536

theorem decodeLBDR_encode (h : LBDR) (w : h.InRange) : decodeLBDR (encodeLBDR h) = some h := by
  obtain ⟨w1, w2, w3, w4⟩ := w
  have e := at_end (get16_enc16 h.linkRef w4)
  have c : SPECIAL_LINKED < 65536 := by decide
  simp only [decodeLBDR, encodeLBDR, List.append_assoc, get16_enc16 _ c, getS32_encS32 _ w1, getS32_encS32 _ w2,
    getS32_encS32 _ w3, e, Option.bind_eq_bind, Option.bind_some, List.isEmpty_nil, ↓reduceIte, ne_eq, not_true_eq_false,
    ]

theorem encodeLBDR_length (h : LBDR) : (encodeLBDR h).length = 16 := rfl

def LinkTable.InRange (t : LinkTable) : Prop := t.next < 65536 ∧ ∀ r ∈ t.refs, r < 65536

theorem decodeLinkTable_encode (t : LinkTable) (w : t.InRange) : decodeLinkTable t.refs.length (encodeLinkTable t) = some t := by
  have e := at_end (get16s_flatMap t.refs w.2)
  simp only [decodeLinkTable, encodeLinkTable, get16_enc16 _ w.1, e, Option.bind_eq_bind, Option.bind_some, List.isEmpty_nil,
    ↓reduceIte]

def ExtHdr.InRange (h : ExtHdr) : Prop := S32 h.length ∧ S32 h.offset ∧ h.name.length < 4294967296

theorem decodeExtHdr_encode (h : ExtHdr) (w : h.InRange) : decodeExtHdr (encodeExtHdr h) = some h := by
  obtain ⟨w1, w2, w3⟩ := w
  have e := at_end (getN_append h.name)
  have c : SPECIAL_EXT < 65536 := by decide
  simp only [decodeExtHdr, encodeExtHdr, List.append_assoc, get16_enc16 _ c, getS32_encS32 _ w1, getS32_encS32 _ w2,
    get32_enc32 _ w3, e, Option.bind_eq_bind, Option.bind_some, List.isEmpty_nil, ↓reduceIte, ne_eq, not_true_eq_false,
    ]


def Coder.InRange : Coder → Prop
  | .none => True
  | .rle => True
  | .nbit nt se fo sb bl => S32 nt ∧ se < 65536 ∧ fo < 65536 ∧ S32 sb ∧ S32 bl
  | .skphuff s c => s < 4294967296 ∧ c < 4294967296
  | .deflate l => l < 65536
  | .szip p ps m b pb => p < 4294967296 ∧ ps < 4294967296 ∧ m < 4294967296 ∧ b < 256 ∧ pb < 256
  | .other c => c < 65536 ∧ c ≠ COMP_CODE_NONE ∧ c ≠ COMP_CODE_RLE ∧ c ≠ COMP_CODE_NBIT ∧ c ≠ COMP_CODE_SKPHUFF ∧
      c ≠ COMP_CODE_DEFLATE ∧ c ≠ COMP_CODE_SZIP

theorem Coder.code_lt (c : Coder) (h : c.InRange) : c.code < 65536 := by
  cases c <;> simp only [Coder.code] <;> first | decide | exact h.1

theorem decodeCoderParams_encode (c : Coder) (h : c.InRange) (r : Bytes) :
    decodeCoderParams c.code (encodeCoderParams c ++ r) = some (c, r) := by
  cases c with
  | none => simp [decodeCoderParams, encodeCoderParams, Coder.code]
  | rle => simp [decodeCoderParams, encodeCoderParams, Coder.code, COMP_CODE_RLE, COMP_CODE_NONE]
  | nbit nt se fo sb bl =>
    obtain ⟨h1, h2, h3, h4, h5⟩ := h
    simp [decodeCoderParams, encodeCoderParams, Coder.code, COMP_CODE_RLE, COMP_CODE_NONE, COMP_CODE_NBIT,
      getS32_encS32 _ h1, get16_enc16 _ h2, get16_enc16 _ h3, getS32_encS32 _ h4, getS32_encS32 _ h5]
  | skphuff s c =>
    simp [decodeCoderParams, encodeCoderParams, Coder.code, COMP_CODE_RLE, COMP_CODE_NONE, COMP_CODE_NBIT, COMP_CODE_SKPHUFF,
      get32_enc32 _ h.1, get32_enc32 _ h.2]
  | deflate l =>
    simp [decodeCoderParams, encodeCoderParams, Coder.code, COMP_CODE_RLE, COMP_CODE_NONE, COMP_CODE_NBIT, COMP_CODE_SKPHUFF,
      COMP_CODE_DEFLATE, get16_enc16 _ h]
  | szip p ps m b pb =>
    obtain ⟨h1, h2, h3, h4, h5⟩ := h
    simp [decodeCoderParams, encodeCoderParams, Coder.code, COMP_CODE_RLE, COMP_CODE_NONE, COMP_CODE_NBIT, COMP_CODE_SKPHUFF,
      COMP_CODE_DEFLATE, COMP_CODE_SZIP, get32_enc32 _ h1, get32_enc32 _ h2, get32_enc32 _ h3, get8_enc8 _ h4, get8_enc8 _ h5]
  | other c =>
    obtain ⟨_, h1, h2, h3, h4, h5, h6⟩ := h
    simp [decodeCoderParams, encodeCoderParams, Coder.code, h1, h2, h3, h4, h5, h6]

def CoderInfo.InRange (c : CoderInfo) : Prop := c.model < 65536 ∧ c.coder.InRange

theorem decodeCoderInfo_encode (c : CoderInfo) (h : c.InRange) (r : Bytes) :
    decodeCoderInfo (encodeCoderInfo c ++ r) = some (c, r) := by
  simp only [decodeCoderInfo, encodeCoderInfo, List.append_assoc, get16_enc16 _ h.1, get16_enc16 _ (Coder.code_lt _ h.2),
    decodeCoderParams_encode _ h.2, Option.bind_eq_bind, Option.bind_some]

def CompHdr.InRange (h : CompHdr) : Prop := h.version < 65536 ∧ S32 h.length ∧ h.compRef < 65536 ∧ h.info.InRange

theorem decodeCompHdr_encode (h : CompHdr) (w : h.InRange) : decodeCompHdr (encodeCompHdr h) = some h := by
  obtain ⟨w1, w2, w3, w4⟩ := w
  have e := at_end (decodeCoderInfo_encode h.info w4)
  have c : SPECIAL_COMP < 65536 := by decide
  simp only [decodeCompHdr, encodeCompHdr, List.append_assoc, get16_enc16 _ c, get16_enc16 _ w1, getS32_encS32 _ w2,
    get16_enc16 _ w3, e, Option.bind_eq_bind, Option.bind_some, List.isEmpty_nil, ↓reduceIte, ne_eq, not_true_eq_false,
    ]

/-- per coder, as the property text asks -/
theorem decodeCompHdr_encode_none (v : Nat) (len : Int) (cr m : Nat) (hv : v < 65536) (hl : S32 len) (hc : cr < 65536) (hm : m < 65536) :
    decodeCompHdr (encodeCompHdr ⟨v, len, cr, ⟨m, .none⟩⟩) = some ⟨v, len, cr, ⟨m, .none⟩⟩ :=
  decodeCompHdr_encode _ ⟨hv, hl, hc, hm, trivial⟩
theorem decodeCompHdr_encode_rle (v : Nat) (len : Int) (cr m : Nat) (hv : v < 65536) (hl : S32 len) (hc : cr < 65536) (hm : m < 65536) :
    decodeCompHdr (encodeCompHdr ⟨v, len, cr, ⟨m, .rle⟩⟩) = some ⟨v, len, cr, ⟨m, .rle⟩⟩ :=
  decodeCompHdr_encode _ ⟨hv, hl, hc, hm, trivial⟩
theorem decodeCompHdr_encode_deflate (v : Nat) (len : Int) (cr m l : Nat) (hv : v < 65536) (hl : S32 len) (hc : cr < 65536) (hm : m < 65536)
    (h : l < 65536) : decodeCompHdr (encodeCompHdr ⟨v, len, cr, ⟨m, .deflate l⟩⟩) = some ⟨v, len, cr, ⟨m, .deflate l⟩⟩ :=
  decodeCompHdr_encode _ ⟨hv, hl, hc, hm, h⟩
theorem decodeCompHdr_encode_skphuff (v : Nat) (len : Int) (cr m s c : Nat) (hv : v < 65536) (hl : S32 len) (hc : cr < 65536) (hm : m < 65536)
    (h1 : s < 4294967296) (h2 : c < 4294967296) :
    decodeCompHdr (encodeCompHdr ⟨v, len, cr, ⟨m, .skphuff s c⟩⟩) = some ⟨v, len, cr, ⟨m, .skphuff s c⟩⟩ :=
  decodeCompHdr_encode _ ⟨hv, hl, hc, hm, h1, h2⟩
theorem decodeCompHdr_encode_nbit (v : Nat) (len : Int) (cr m : Nat) (nt : Int) (se fo : Nat) (sb bl : Int) (hv : v < 65536) (hl : S32 len)
    (hc : cr < 65536) (hm : m < 65536) (h : (Coder.nbit nt se fo sb bl).InRange) :
    decodeCompHdr (encodeCompHdr ⟨v, len, cr, ⟨m, .nbit nt se fo sb bl⟩⟩) = some ⟨v, len, cr, ⟨m, .nbit nt se fo sb bl⟩⟩ :=
  decodeCompHdr_encode _ ⟨hv, hl, hc, hm, h⟩
theorem decodeCompHdr_encode_szip (v : Nat) (len : Int) (cr m p ps mk b pb : Nat) (hv : v < 65536) (hl : S32 len)
    (hc : cr < 65536) (hm : m < 65536) (h : (Coder.szip p ps mk b pb).InRange) :
    decodeCompHdr (encodeCompHdr ⟨v, len, cr, ⟨m, .szip p ps mk b pb⟩⟩) = some ⟨v, len, cr, ⟨m, .szip p ps mk b pb⟩⟩ :=
  decodeCompHdr_encode _ ⟨hv, hl, hc, hm, h⟩

def ChunkDim.InRange (d : ChunkDim) : Prop := d.flag < 4294967296 ∧ S32 d.dimLen ∧ S32 d.chunkLen

theorem decodeChunkDims_encode (l : List ChunkDim) (h : ∀ d ∈ l, d.InRange) (r : Bytes) :
    decodeChunkDims l.length (l.flatMap encodeChunkDim ++ r) = some (l, r) :=
  many_roundtrip (fun _ => rfl) (fun _ a _ _ _ ha e => by
    simp only [List.append_assoc, decodeChunkDims, encodeChunkDim, get32_enc32 _ ha.1, getS32_encS32 _ ha.2.1, getS32_encS32 _ ha.2.2, e,
      Option.bind_eq_bind, Option.bind_some]) l h r

def ChunkHdr.InRange (h : ChunkHdr) : Prop :=
  S32 h.headLen ∧ h.version < 256 ∧ h.flag < 4294967296 ∧ S32 h.length ∧ S32 h.chunkSize ∧ S32 h.ntSize ∧
  h.tblTag < 65536 ∧ h.tblRef < 65536 ∧ h.spTag < 65536 ∧ h.spRef < 65536 ∧ h.dims.length < 4294967296 ∧
  (∀ d ∈ h.dims, d.InRange) ∧ h.fill.length < 4294967296 ∧
  -- the compression header is present exactly when the flag says so
  (h.flag % 256 = SPECIAL_COMP ↔ h.comp.isSome) ∧
  (∀ ci, h.comp = some ci → ci.InRange ∧ (encodeCoderInfo ci).length < 4294967296)

theorem decodeChunkHdr_encode (h : ChunkHdr) (w : h.InRange) : decodeChunkHdr (encodeChunkHdr h) = some h := by
  obtain ⟨w1, w2, w3, w4, w5, w6, w7, w8, w9, w10, w11, w12, w13, w14, w15⟩ := w
  have c : SPECIAL_CHUNKED < 65536 := by decide
  obtain ⟨hl, v, fl, len, cs, nt, tt, tr, st, sr, dims, fill, comp⟩ := h
  simp only at w1 w2 w3 w4 w5 w6 w7 w8 w9 w10 w11 w12 w13 w14 w15
  simp only [decodeChunkHdr, encodeChunkHdr, List.append_assoc, get16_enc16 _ c, getS32_encS32 _ w1, get8_enc8 _ w2,
    get32_enc32 _ w3, getS32_encS32 _ w4, getS32_encS32 _ w5, getS32_encS32 _ w6, get16_enc16 _ w7, get16_enc16 _ w8,
    get16_enc16 _ w9, get16_enc16 _ w10, get32_enc32 _ w11, decodeChunkDims_encode _ w12, get32_enc32 _ w13, getN_append,
    Option.bind_eq_bind, Option.bind_some, ne_eq, not_true_eq_false, ↓reduceIte]
  cases comp with
  | none =>
    have hf : ¬ fl % 256 = SPECIAL_COMP := by
      intro e; have := w14.mp e; simp at this
    simp only [hf, List.isEmpty_nil, ↓reduceIte]
  | some ci =>
    have hf : fl % 256 = SPECIAL_COMP := w14.mpr rfl
    obtain ⟨k1, k2⟩ := w15 ci rfl
    have c2 : SPECIAL_COMP < 65536 := by decide
    have e1 := at_end (getN_append (encodeCoderInfo ci))
    have e2 := at_end (decodeCoderInfo_encode ci k1)
    simp only [hf, get16_enc16 _ c2, get32_enc32 _ k2, e1, e2, List.isEmpty_nil, ↓reduceIte, Option.bind_some, Bool.and_self,
      not_true_eq_false]

def VField.InRange (f : VField) : Prop := S16 f.type ∧ f.isize < 65536 ∧ f.off < 65536 ∧ f.order < 65536 ∧ f.name.length < 65536
def VAttr.InRange (a : VAttr) : Prop := S32 a.findex ∧ a.atag < 65536 ∧ a.aref < 65536

/-- what `vpackvs` can represent faithfully.  The clause `version = 4 ↔ flags ≠ 0` is the writer's convention
    (vattr.c: version becomes VSET_NEW_VERSION exactly when a new feature flag is set); `vpackvs` writes the flags word
    iff `flags ≠ 0`, `vunpackvs` reads it iff `version = 4`. -/
def VH.WF (v : VH) : Prop :=
  S16 v.interlace ∧ S32 v.nvert ∧ v.ivsize < 65536 ∧ v.fields.length < 32768 ∧ (∀ f ∈ v.fields, f.InRange) ∧
  v.name.length < 65536 ∧ v.cls.length < 65536 ∧ v.extag < 65536 ∧ v.exref < 65536 ∧ S16 v.version ∧ S16 v.more ∧
  v.flags < 4294967296 ∧ (v.version = (VSET_NEW_VERSION : Nat) ↔ v.flags ≠ 0) ∧
  (v.flags % 2 = 1 → v.attrs.length < 4294967296 ∧ ∀ a ∈ v.attrs, a.InRange) ∧ (v.flags % 2 ≠ 1 → v.attrs = [])

theorem decodeVAttrs_encode (l : List VAttr) (h : ∀ a ∈ l, a.InRange) (r : Bytes) :
    decodeVAttrs l.length (l.flatMap encodeVAttr ++ r) = some (l, r) :=
  many_roundtrip (fun _ => rfl) (fun _ a _ _ _ ha e => by
    simp only [List.append_assoc, decodeVAttrs, encodeVAttr, getS32_encS32 _ ha.1, get16_enc16 _ ha.2.1, get16_enc16 _ ha.2.2, e,
      Option.bind_eq_bind, Option.bind_some]) l h r

theorem zipFields_maps (l : List VField) :
    zipFields (l.map (·.type)) (l.map (·.isize)) (l.map (·.off)) (l.map (·.order)) (l.map (·.name)) = l := by
  induction l with
  | nil => rfl
  | cons a t ih => simp only [List.map_cons, zipFields, ih]

theorem drop_suffix (x t : Bytes) : (x ++ t).drop ((x ++ t).length - t.length) = t := by
  rw [List.length_append, Nat.add_sub_cancel, List.drop_left]

theorem tail5_length (a b : Int) : (encS16 a ++ (encS16 b ++ [0])).length = 5 := rfl

/-- a record that ends with the bottom copy of version / more and the extra byte: the reader finds the two at `length - 5` -/
theorem tail5 (x : Bytes) (a b : Int) (ha : S16 a) (hb : S16 b) (w : Bytes) (hw : w = x ++ encS16 a ++ encS16 b ++ [0]) :
    ¬ w.length < 5 ∧ getS16 (w.drop (w.length - 5)) = some (a, encS16 b ++ [0]) ∧ getS16 (encS16 b ++ [0]) = some (b, [0]) := by
  have d := drop_suffix x (encS16 a ++ (encS16 b ++ [0]))
  rw [tail5_length] at d
  rw [hw, List.append_assoc, List.append_assoc]
  refine ⟨by rw [List.length_append, tail5_length]; omega, ?_, getS16_encS16 _ hb _⟩
  rw [d, getS16_encS16 _ ha]

theorem vunpackvs_vpackvs (v : VH) (h : v.WF) : vunpackvs (vpackvs v) = some v := by
  obtain ⟨h1, h2, h3, h4, h5, h6, h7, h8, h9, h10, h11, h12, h13, h14, h15⟩ := h
  obtain ⟨hlen, tl1, tl2⟩ := tail5 _ v.version v.more h10 h11 (vpackvs v) rfl
  have hnf : v.fields.length < 65536 := by omega
  have hnf' : ¬ v.fields.length ≥ 32768 := by omega
  have t1 := getS16s_flatMap (v.fields.map (·.type)) (List.forall_mem_map.mpr fun f hf => (h5 f hf).1)
  have t2 := get16s_flatMap (v.fields.map (·.isize)) (List.forall_mem_map.mpr fun f hf => (h5 f hf).2.1)
  have t3 := get16s_flatMap (v.fields.map (·.off)) (List.forall_mem_map.mpr fun f hf => (h5 f hf).2.2.1)
  have t4 := get16s_flatMap (v.fields.map (·.order)) (List.forall_mem_map.mpr fun f hf => (h5 f hf).2.2.2.1)
  have t5 := getStrs16_flatMap (v.fields.map (·.name)) (List.forall_mem_map.mpr fun f hf => (h5 f hf).2.2.2.2)
  simp only [List.length_map] at t1 t2 t3 t4 t5
  unfold vunpackvs
  rw [if_neg hlen, tl1]
  simp only [tl2, vpackvs, List.append_assoc, flatMap_map v.fields (·.type) encS16, flatMap_map v.fields (·.isize) enc16,
    flatMap_map v.fields (·.off) enc16, flatMap_map v.fields (·.order) enc16, flatMap_map v.fields (·.name) encStr16,
    getS16_encS16 _ h1, getS32_encS32 _ h2, get16_enc16 _ h3, get16_enc16 _ hnf, hnf', t1, t2, t3, t4, t5,
    getStr16_enc _ h6, getStr16_enc _ h7, get16_enc16 _ h8, get16_enc16 _ h9, getS16_encS16 _ h10, getS16_encS16 _ h11,
    Option.bind_eq_bind, Option.bind_some, ↓reduceIte, ne_eq, not_true_eq_false, or_self, zipFields_maps]
  obtain ⟨il, nv, ivs, fields, name, cls, et, er, ver, more, flags, attrs⟩ := v
  simp only at h13 h14 h15 h12 ⊢
  by_cases hv : ver = (VSET_NEW_VERSION : Nat)
  · have hfl : flags ≠ 0 := h13.mp hv
    simp only [hv, hfl, not_false_eq_true, ↓reduceIte, List.append_assoc, get32_enc32 _ h12, Option.bind_some]
    by_cases ha : flags % 2 = 1
    · obtain ⟨a1, a2⟩ := h14 ha
      simp only [ha, ↓reduceIte, List.append_assoc, get32_enc32 _ a1, decodeVAttrs_encode _ a2, Option.bind_some, tail5_length]
    · have a0 := h15 ha
      simp only [ha, ↓reduceIte, List.nil_append, tail5_length, a0]
  · have hfl : flags = 0 := Decidable.of_not_not (fun hc => hv (h13.mpr hc))
    have a0 : attrs = [] := h15 (by omega)
    simp only [hv, hfl, not_true_eq_false, ↓reduceIte, List.nil_append, tail5_length, a0]


def VG.WF (g : VG) : Prop :=
  g.members.length < 65536 ∧ (∀ m ∈ g.members, m.1 < 65536 ∧ m.2 < 65536) ∧ g.name.length < 65536 ∧ g.cls.length < 65536 ∧
  g.extag < 65536 ∧ g.exref < 65536 ∧ S16 g.version ∧ S16 g.more ∧ g.flags < 4294967296 ∧
  (g.flags ≠ 0 → g.version = (VSET_NEW_VERSION : Nat)) ∧
  (g.flags % 2 = 1 → g.attrs.length < 4294967296 ∧ ∀ a ∈ g.attrs, a.1 < 65536 ∧ a.2 < 65536) ∧ (g.flags % 2 ≠ 1 → g.attrs = [])

theorem getPairs16_encode (l : List (Nat × Nat)) (h : ∀ a ∈ l, a.1 < 65536 ∧ a.2 < 65536) (r : Bytes) :
    getPairs16 l.length (l.flatMap (fun a => enc16 a.1 ++ enc16 a.2) ++ r) = some (l, r) :=
  many_roundtrip (P := fun a => a.1 < 65536 ∧ a.2 < 65536) (fun _ => rfl) (fun _ a _ _ _ ha e => by
    simp only [List.append_assoc, getPairs16, get16_enc16 _ ha.1, get16_enc16 _ ha.2, e, Option.bind_eq_bind, Option.bind_some]) l h r

theorem VG.WF.version_written {g : VG} (h : g.WF) :
    (if g.flags ≠ 0 ∨ g.version = (VSET_NEW_VERSION : Nat) then ((VSET_NEW_VERSION : Nat) : Int) else g.version) = g.version := by
  obtain ⟨_, _, _, _, _, _, _, _, _, h10, _, _⟩ := h
  split
  · rename_i c; rcases c with c | c
    · exact (h10 c).symm
    · exact c.symm
  · rfl

theorem vunpackvg_vpackvg (g : VG) (h : g.WF) : vunpackvg (vpackvg g) = some g := by
  have hver := h.version_written
  obtain ⟨h1, h2, h3, h4, h5, h6, h7, h8, h9, h10, h11, h12⟩ := h
  obtain ⟨hlen, tl1, tl2⟩ := tail5 _ _ g.more (by rw [hver]; exact h7) h8 (vpackvg g) rfl
  rw [hver] at tl1
  have t1 := get16s_flatMap (g.members.map (·.1)) (List.forall_mem_map.mpr fun m hm => (h2 m hm).1)
  have t2 := get16s_flatMap (g.members.map (·.2)) (List.forall_mem_map.mpr fun m hm => (h2 m hm).2)
  simp only [List.length_map] at t1 t2
  unfold vunpackvg
  rw [if_neg hlen, tl1]
  simp only [tl2, vpackvg, hver, List.append_assoc, flatMap_map g.members (·.1) enc16, flatMap_map g.members (·.2) enc16,
    get16_enc16 _ h1, t1, t2, getStr16_enc _ h3, getStr16_enc _ h4, get16_enc16 _ h5, get16_enc16 _ h6,
    Option.bind_eq_bind, Option.bind_some, zip_maps]
  obtain ⟨members, name, cls, et, er, ver, more, flags, attrs⟩ := g
  simp only at h9 h10 h11 h12 ⊢
  by_cases hv : ver = (VSET_NEW_VERSION : Nat)
  · simp only [hv, or_true, ↓reduceIte, List.append_assoc, get32_enc32 _ h9, Option.bind_some]
    by_cases ha : flags % 2 = 1
    · obtain ⟨a1, a2⟩ := h11 ha
      simp only [ha, ↓reduceIte, List.append_assoc, get32_enc32 _ a1, getPairs16_encode _ a2, Option.bind_some, tail5_length]
    · have a0 := h12 ha
      simp only [ha, ↓reduceIte, List.nil_append, tail5_length, a0]
  · have hfl : flags = 0 := Decidable.of_not_not (fun hc => hv (h10 hc))
    have a0 : attrs = [] := h12 (by omega)
    simp only [hv, hfl, ne_eq, not_true_eq_false, or_self, ↓reduceIte, List.nil_append, tail5_length, a0]

def Version.WF (v : Version) : Prop := v.major < 4294967296 ∧ v.minor < 4294967296 ∧ v.release < 4294967296 ∧ v.str.length = LIBVSTR_LEN

theorem decodeVersion_encode (v : Version) (h : v.WF) : decodeVersion (encodeVersion v) = some v := by
  obtain ⟨h1, h2, h3, h4⟩ := h
  simp only [decodeVersion, encodeVersion, List.append_assoc, get32_enc32 _ h1, get32_enc32 _ h2, get32_enc32 _ h3,
    Option.bind_eq_bind, Option.bind_some, h4, ↓reduceIte]

end H4.Format

/-! What the field readers do on ARBITRARY input (the round trips above say it on encoded input only): `get* (b.drop k)` and `decodeCoderInfo`
    as one length test each (in the namespace of their user, the translated compression header). -/
namespace H4.Lemmas.C02HdrFn
open H4 H4.Format H4.Gen.Hdf H4.Gen.Fmt

/-- big-endian values of the model's bytes at offset `k` -/
def nv8 (b : Bytes) (k : Nat) : Nat := (b.getD k 0).toNat
def nv16 (b : Bytes) (k : Nat) : Nat := nv8 b k * 256 + nv8 b (k + 1)
def nv32 (b : Bytes) (k : Nat) : Nat := ((nv8 b k * 256 + nv8 b (k + 1)) * 256 + nv8 b (k + 2)) * 256 + nv8 b (k + 3)

theorem nv8_lt (b : Bytes) (k : Nat) : nv8 b k < 256 := UInt8.toNat_lt _
theorem nv8_drop (b : Bytes) (k j : Nat) : nv8 (b.drop k) j = nv8 b (k + j) := by
  simp [nv8, List.getD_eq_getElem?_getD, List.getElem?_drop]

theorem get8_eq (r : Bytes) : get8 r = if 1 ≤ r.length then some (nv8 r 0, r.drop 1) else none := by
  match r with
  | [] => rfl
  | a :: r => simp [get8, nv8]
theorem get16_eq (r : Bytes) : get16 r = if 2 ≤ r.length then some (nv16 r 0, r.drop 2) else none := by
  match r with
  | [] => rfl
  | [a] => rfl
  | a :: b :: r => simp [get16, be16, nv16, nv8]
theorem get32_eq (r : Bytes) : get32 r = if 4 ≤ r.length then some (nv32 r 0, r.drop 4) else none := by
  match r with
  | [] => rfl
  | [a] => rfl
  | [a, b] => rfl
  | [a, b, c] => rfl
  | a :: b :: c :: d :: r => simp [get32, be32, nv32, nv8]

theorem get8_drop (b : Bytes) (k : Nat) : get8 (b.drop k) = if k + 1 ≤ b.length then some (nv8 b k, b.drop (k + 1)) else none := by
  rw [get8_eq, nv8_drop, List.drop_drop, List.length_drop]
  by_cases h : k + 1 ≤ b.length
  · rw [if_pos h, if_pos (by omega)]; rfl
  · rw [if_neg h, if_neg (by omega)]
theorem get16_drop (b : Bytes) (k : Nat) : get16 (b.drop k) = if k + 2 ≤ b.length then some (nv16 b k, b.drop (k + 2)) else none := by
  rw [get16_eq, List.drop_drop, List.length_drop]
  simp only [nv16, nv8_drop]
  by_cases h : k + 2 ≤ b.length
  · rw [if_pos h, if_pos (by omega)]; rfl
  · rw [if_neg h, if_neg (by omega)]
theorem get32_drop (b : Bytes) (k : Nat) : get32 (b.drop k) = if k + 4 ≤ b.length then some (nv32 b k, b.drop (k + 4)) else none := by
  rw [get32_eq, List.drop_drop, List.length_drop]
  simp only [nv32, nv8_drop]
  by_cases h : k + 4 ≤ b.length
  · rw [if_pos h, if_pos (by omega)]; rfl
  · rw [if_neg h, if_neg (by omega)]
theorem getS32_drop (b : Bytes) (k : Nat) :
    getS32 (b.drop k) = if k + 4 ≤ b.length then some (toS32 (nv32 b k), b.drop (k + 4)) else none := by
  rw [getS32, get32_drop]
  split <;> rfl
theorem nv16_lt (b : Bytes) (k : Nat) : nv16 b k < 65536 := by
  have h1 := nv8_lt b k; have h2 := nv8_lt b (k + 1); unfold nv16; omega
theorem nv32_lt (b : Bytes) (k : Nat) : nv32 b k < 4294967296 := by
  have h1 := nv8_lt b k; have h2 := nv8_lt b (k + 1); have h3 := nv8_lt b (k + 2); have h4 := nv8_lt b (k + 3); unfold nv32; omega

/-- parameter bytes of coder type `code` in the model -/
def needN (code : Nat) : Nat :=
  if code = COMP_CODE_NBIT then 16 else if code = COMP_CODE_SKPHUFF then 8 else if code = COMP_CODE_DEFLATE then 2
  else if code = COMP_CODE_SZIP then 14 else 0

/-- the coder the model reads from the record `b` whose coder type field is `code` -/
def coderAtB (b : Bytes) (code : Nat) : Coder :=
  if code = COMP_CODE_NONE then .none
  else if code = COMP_CODE_RLE then .rle
  else if code = COMP_CODE_NBIT then .nbit (toS32 (nv32 b 4)) (nv16 b 8) (nv16 b 10) (toS32 (nv32 b 12)) (toS32 (nv32 b 16))
  else if code = COMP_CODE_SKPHUFF then .skphuff (nv32 b 4) (nv32 b 8)
  else if code = COMP_CODE_DEFLATE then .deflate (nv16 b 4)
  else if code = COMP_CODE_SZIP then .szip (nv32 b 4) (nv32 b 8) (nv32 b 12) (nv8 b 16) (nv8 b 17)
  else .other code

theorem bind_ite_some {α β : Type} (c : Prop) [Decidable c] (x : α) (f : α → Option β) :
    (if c then some x else none).bind f = if c then f x else none := by
  split <;> rfl

theorem ite_ite_none {α : Type} (p q : Prop) [Decidable p] [Decidable q] (x : Option α) (h : q → p) :
    (if p then (if q then x else none) else none) = if q then x else none := by
  by_cases hq : q
  · simp only [if_pos hq, if_pos (h hq)]
  · simp only [if_neg hq, ite_self]

theorem decodeCoderParams_drop (b : Bytes) (code : Nat) (h4 : 4 ≤ b.length) :
    decodeCoderParams code (b.drop 4) =
      if 4 + needN code ≤ b.length then some (coderAtB b code, b.drop (4 + needN code)) else none := by
  unfold decodeCoderParams needN coderAtB
  simp only [COMP_CODE_NONE, COMP_CODE_RLE, COMP_CODE_NBIT, COMP_CODE_SKPHUFF, COMP_CODE_DEFLATE, COMP_CODE_SZIP]
  by_cases h0 : code = 0
  · subst h0; simp [h4]
  by_cases h1 : code = 1
  · subst h1; simp [h4]
  by_cases h2 : code = 2
  · subst h2
    simp (disch := omega) only [Nat.reduceEqDiff, if_false, if_true, getS32_drop, get16_drop, Option.bind_eq_bind, bind_ite_some,
      Nat.reduceAdd, ite_ite_none]
  by_cases h3 : code = 3
  · subst h3
    simp (disch := omega) only [Nat.reduceEqDiff, if_false, if_true, get32_drop, Option.bind_eq_bind, bind_ite_some, Nat.reduceAdd,
      ite_ite_none]
  by_cases h4' : code = 4
  · subst h4'
    simp only [Nat.reduceEqDiff, if_false, if_true, get16_drop, Option.bind_eq_bind, bind_ite_some]
  by_cases h5 : code = 5
  · subst h5
    simp (disch := omega) only [Nat.reduceEqDiff, if_false, if_true, get32_drop, get8_drop, Option.bind_eq_bind, bind_ite_some,
      Nat.reduceAdd, ite_ite_none]
  simp only [h0, h1, h2, h3, h4', h5, if_false, Nat.add_zero, if_pos h4]

theorem decodeCoderInfo_eq (b : Bytes) :
    decodeCoderInfo b =
      if 4 + needN (nv16 b 2) ≤ b.length then some (⟨nv16 b 0, coderAtB b (nv16 b 2)⟩, b.drop (4 + needN (nv16 b 2))) else none := by
  unfold decodeCoderInfo
  have e0 : get16 b = get16 (b.drop 0) := by rw [List.drop_zero]
  rw [e0, get16_drop]
  by_cases h2 : 0 + 2 ≤ b.length
  · rw [if_pos h2]
    simp only [Option.bind_eq_bind, Option.bind_some, get16_drop]
    by_cases h4 : 4 ≤ b.length
    · rw [if_pos (by omega)]
      simp only [Option.bind_some, decodeCoderParams_drop b _ h4]
      split <;> rfl
    · rw [if_neg (by omega), if_neg (by omega)]
      rfl
  · rw [if_neg h2, if_neg (by omega)]
    rfl

end H4.Lemmas.C02HdrFn
