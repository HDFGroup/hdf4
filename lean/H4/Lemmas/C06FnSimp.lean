import Lean.Meta.Tactic.Simp.RegisterCommand
/-! The simp sets of `H4.Lemmas.C06Fn` (a simp attribute has to be registered in a file of its own). -/
/-- what puts the translated body of a loop and the common body `gbody` into the same normal form -/
register_simp_attr c06_body
/-- the translated entry functions, the common programs and the facts that settle the flag tests of one path -/
register_simp_attr c06_entry
