import H4.Bitvect
/-! # Lemmas about the `bitvect.c` model: abstraction to a set of bit positions, and the specification of
`bv_set`, `bv_get`, `bv_find_next_zero` over the generated tables. -/
namespace H4.Bitvect
open H4.Gen.Bitvect

theorem consts : BV_BASE_BITS = 8 ∧ BV_CHUNK_SIZE = 64 ∧ BV_DEFAULT_BITS = 128 := ⟨rfl, rfl, rfl⟩

/-- `x % 2^f = 2^f - 1`: the bits below the lowest clear one are all set -/
theorem firstZero_table : ∀ p ∈ bv_first_zero.zipIdx, p.2 ≠ 255 →
    p.1 < 8 ∧ p.2.testBit p.1 = false ∧ p.2 % 2 ^ p.1 = 2 ^ p.1 - 1 := by decide +kernel

theorem firstZero_spec {x : Nat} (hx : x < 256) (h : x ≠ 255) :
    firstZero x < 8 ∧ x.testBit (firstZero x) = false ∧ ∀ j, j < firstZero x → x.testBit j = true := by
  have hl : bv_first_zero.length = 256 := by decide +kernel
  have hm : (firstZero x, x) ∈ bv_first_zero.zipIdx := by
    rw [List.mem_zipIdx_iff_getElem?]
    unfold firstZero
    rw [List.getD_eq_getElem?_getD, List.getElem?_eq_getElem (by omega)]; rfl
  obtain ⟨h1, h2, h3⟩ := firstZero_table _ hm h
  refine ⟨h1, h2, fun j hj => ?_⟩
  have := Nat.testBit_mod_two_pow x (firstZero x) j
  rw [h3, Nat.testBit_two_pow_sub_one] at this
  simpa [hj] using this.symm

theorem bitValue_table : ∀ k : Fin 8, bitValue k.val = 2 ^ k.val := by decide
theorem bitValue_eq {k : Nat} (h : k < 8) : bitValue k = 2 ^ k := bitValue_table ⟨k, h⟩
theorem bitMask_table : ∀ k : Fin 9, bitMask k.val = 2 ^ k.val - 1 := by decide
theorem bitMask_eq {n : Nat} (h : n ≤ 8) : bitMask n = 2 ^ n - 1 := bitMask_table ⟨n, by omega⟩
theorem not_bit_table : ∀ k : Fin 8, 255 - 2 ^ k.val = 255 ^^^ 2 ^ k.val := by decide
theorem full_or_table : ∀ k : Fin 8, 255 ||| 2 ^ k.val = 255 := by decide

def BV.bit (b : BV) (k : Nat) : Bool := (b.buf.getD (k / 8) 0).testBit (k % 8)

/-- representation invariant of `bv_struct`; `lz` is what `last_zero` promises (every byte below it is full, so the search for a clear
    bit may start there), `beyond`: the bits from `bits_used` on are clear, also those of the partly used last byte -/
structure BV.Inv (b : BV) : Prop where
  len : b.buf.length = b.arraySize
  used : b.bitsUsed ≤ b.arraySize * 8
  bytes : ∀ x ∈ b.buf, x < 256
  lz : ∀ j, j < b.lastZero → b.buf.getD j 0 = 255
  lzle : b.lastZero ≤ b.bitsUsed / 8
  beyond : ∀ k, b.bitsUsed ≤ k → b.bit k = false

/-- the part of `BV.Inv` the C code needs to run without undefined behaviour -/
structure _root_.H4.Lemmas.C12Fn.Shape (b : BV) : Prop where
  len : b.buf.length = b.arraySize
  used : b.bitsUsed ≤ b.arraySize * 8
  bytes : ∀ x ∈ b.buf, x < 256
  lzle : b.lastZero ≤ b.bitsUsed / 8

open H4.Lemmas.C12Fn (Shape)

theorem _root_.H4.Lemmas.C12Fn.Shape.of_inv {b : BV} (h : b.Inv) : Shape b := ⟨h.len, h.used, h.bytes, h.lzle⟩

theorem getD_lt_256 {l : List Nat} (h : ∀ x ∈ l, x < 256) (i : Nat) : l.getD i 0 < 256 := by
  rw [List.getD_eq_getElem?_getD]
  cases hi : l[i]? with
  | none => simp
  | some v => simp; exact h v (List.mem_of_getElem? hi)

theorem getD_append_zeros (l : List Nat) (n i : Nat) : (l ++ List.replicate n 0).getD i 0 = l.getD i 0 := by
  simp only [List.getD_eq_getElem?_getD]
  by_cases h : i < l.length
  · rw [List.getElem?_append_left h]
  · rw [List.getElem?_append_right (by omega)]
    have : l[i]? = none := by simp; omega
    rw [this]
    cases h2 : (List.replicate n 0)[i - l.length]? with
    | none => rfl
    | some v =>
      have := List.mem_of_getElem? h2
      simp at this
      simp [this.2]

theorem getD_modify (l : List Nat) (f : Nat → Nat) (i j : Nat) :
    (l.modify i f).getD j 0 = if i = j ∧ j < l.length then f (l.getD j 0) else l.getD j 0 := by
  simp only [List.getD_eq_getElem?_getD, List.getElem?_modify]
  by_cases hij : i = j
  · subst hij
    by_cases hl : i < l.length
    · simp [hl]
    · have : l[i]? = none := by simp; omega
      simp [hl]
  · simp [hij]

theorem mem_modify_lt {l : List Nat} {f : Nat → Nat} (i : Nat) (hl : ∀ x ∈ l, x < 256) (hf : ∀ x, x < 256 → f x < 256) :
    ∀ x ∈ l.modify i f, x < 256 := by
  intro x hx
  obtain ⟨j, hj, rfl⟩ := List.getElem_of_mem hx
  rw [List.getElem_modify]
  split
  · exact hf _ (hl _ (List.getElem_mem _))
  · exact hl _ (List.getElem_mem _)

/-- `(x & bv_bit_value[m]) >> m` is bit `m` of `x` -/
theorem and_shift (x m : Nat) : (x &&& 2 ^ m) >>> m = if x.testBit m then 1 else 0 := by
  rw [Nat.shiftRight_and_distrib, Nat.shiftRight_eq_div_pow (2 ^ m), Nat.div_self (Nat.two_pow_pos m), Nat.and_one_is_mod,
    Nat.testBit_eq_decide_div_mod_eq, Nat.shiftRight_eq_div_pow]
  by_cases h : x / 2 ^ m % 2 = 1 <;> simp [h]; omega

theorem getD_replicate_zero (n i : Nat) : (List.replicate n 0).getD i 0 = 0 := by
  simpa using getD_append_zeros [] n i

theorem new_eq : BV.new = ⟨128, 64, 0, List.replicate 64 0⟩ := by rfl

theorem new_bit (k : Nat) : BV.new.bit k = false := by
  rw [new_eq]
  show ((List.replicate 64 0).getD (k / 8) 0).testBit (k % 8) = false
  rw [getD_replicate_zero]; simp

theorem new_inv : BV.new.Inv := by
  refine ⟨by simp [new_eq], by simp [new_eq], ?_, by simp [new_eq], by simp [new_eq], fun k _ => new_bit k⟩
  intro x hx
  simp [new_eq] at hx
  omega

theorem grow_def (b : BV) (k : Nat) : b.grow k =
    if k ≥ b.bitsUsed then
      if k / 8 < b.arraySize then { b with bitsUsed := k + 1 }
      else { b with buf := b.buf ++ List.replicate (((k / 8 + 1 - b.arraySize) / 64 + 1) * 64) 0,
                    arraySize := b.arraySize + ((k / 8 + 1 - b.arraySize) / 64 + 1) * 64,
                    bitsUsed := k + 1 }
    else b := rfl

theorem set_false_def (b : BV) (k : Nat) : b.set k false =
    { (b.grow k) with buf := (b.grow k).buf.modify (k / 8) (fun x => x &&& (255 - bitValue (k % 8))),
                      lastZero := if k / 8 < (b.grow k).lastZero then k / 8 else (b.grow k).lastZero } := rfl

theorem set_true_def (b : BV) (k : Nat) : b.set k true =
    { (b.grow k) with buf := (b.grow k).buf.modify (k / 8) (fun x => x ||| bitValue (k % 8)) } := rfl

theorem grow_getD (b : BV) (k j : Nat) : (b.grow k).buf.getD j 0 = b.buf.getD j 0 := by
  rw [grow_def]
  split
  · split
    · rfl
    · simp only [getD_append_zeros]
  · rfl

theorem grow_bit (b : BV) (k j : Nat) : (b.grow k).bit j = b.bit j := by
  unfold BV.bit; rw [grow_getD]

theorem grow_shape {b : BV} (h : Shape b) (k : Nat) :
    Shape (b.grow k) ∧ k < (b.grow k).bitsUsed ∧ (b.grow k).lastZero = b.lastZero ∧ b.bitsUsed ≤ (b.grow k).bitsUsed := by
  obtain ⟨hlen, hused, hbytes, hlzle⟩ := h
  rw [grow_def]
  split
  · split
    · exact ⟨⟨hlen, by simp only; omega, hbytes, by simp only; omega⟩, by simp, rfl, by simp only; omega⟩
    · refine ⟨⟨by simp [hlen], by simp only; omega, ?_, by simp only; omega⟩, by simp, rfl, by simp only; omega⟩
      intro x hx
      simp only [List.mem_append, List.mem_replicate] at hx
      rcases hx with hx | hx
      · exact hbytes x hx
      · omega
  · exact ⟨⟨hlen, hused, hbytes, hlzle⟩, by omega, rfl, Nat.le_refl _⟩

theorem grow_inv {b : BV} (h : b.Inv) (k : Nat) :
    (b.grow k).Inv ∧ k < (b.grow k).bitsUsed ∧ (b.grow k).lastZero = b.lastZero ∧ b.bitsUsed ≤ (b.grow k).bitsUsed := by
  obtain ⟨s, gk, glz, gbu⟩ := grow_shape (.of_inv h) k
  refine ⟨⟨s.len, s.used, s.bytes, fun j hj => ?_, s.lzle, fun j hj => ?_⟩, gk, glz, gbu⟩
  · rw [grow_getD]; exact h.lz j (glz ▸ hj)
  · rw [grow_bit]; exact h.beyond j (by omega)

theorem set_shape {b : BV} (h : Shape b) (k : Nat) (v : Bool) : Shape (b.set k v) := by
  obtain ⟨⟨hlen, hused, hbytes, hlzle⟩, gk, glz, _⟩ := grow_shape h k
  have hm : k % 8 < 8 := Nat.mod_lt _ (by omega)
  cases v
  · rw [set_false_def]
    refine ⟨by simp [hlen], hused, ?_, ?_⟩
    · exact mem_modify_lt _ hbytes (fun x hx => Nat.lt_of_le_of_lt Nat.and_le_left hx)
    · simp only
      split <;> omega
  · rw [set_true_def]
    refine ⟨by simp [hlen], hused, ?_, hlzle⟩
    apply mem_modify_lt _ hbytes
    intro x hx
    rw [bitValue_eq hm]
    have h1 : x < 2 ^ 8 := hx
    have h2 : 2 ^ (k % 8) < 2 ^ 8 := Nat.pow_lt_pow_right (by omega) hm
    exact Nat.or_lt_two_pow h1 h2

/-- the sizes `bv_set` computes stay in `int32` when its inputs are (no signed overflow in `bit_num + 1`,
    `array_size + num_chunks * BV_CHUNK_SIZE`) -/
theorem set_bounds (b : BV) (k : Nat) (v : Bool) :
    (b.set k v).bitsUsed ≤ max b.bitsUsed (k + 1) ∧ (b.set k v).arraySize ≤ max b.arraySize (k / 8 + 65) := by
  have hg : (b.grow k).bitsUsed ≤ max b.bitsUsed (k + 1) ∧ (b.grow k).arraySize ≤ max b.arraySize (k / 8 + 65) := by
    rw [grow_def]
    split
    · split
      · simp only; omega
      · simp only; omega
    · omega
  cases v
  · rw [set_false_def]; exact hg
  · rw [set_true_def]; exact hg

theorem testBit_255 {i : Nat} (hi : i < 8) : (255 : Nat).testBit i = true := by
  have := Nat.testBit_two_pow_sub_one 8 i
  simpa [hi] using this

theorem testBit_clear {x m i : Nat} (hm : m < 8) (hi : i < 8) :
    (x &&& (255 - 2 ^ m)).testBit i = (x.testBit i && decide (i ≠ m)) := by
  rw [not_bit_table ⟨m, hm⟩]
  simp only [Nat.testBit_and, Nat.testBit_xor]
  rw [testBit_255 hi, Nat.testBit_two_pow]
  by_cases h : m = i
  · subst h; simp
  · have : i ≠ m := fun e => h e.symm
    simp [h, this]

theorem set_bit {b : BV} (h : b.Inv) (k : Nat) (v : Bool) (j : Nat) :
    (b.set k v).bit j = if j = k then v else b.bit j := by
  obtain ⟨gi, gk, _, _⟩ := grow_inv h k
  have gb : ((b.grow k).buf.getD (j / 8) 0).testBit (j % 8) = b.bit j := grow_bit b k j
  have hk8 : k / 8 < (b.grow k).buf.length := by
    have := gi.used; have := gi.len; omega
  have hm : k % 8 < 8 := Nat.mod_lt _ (by omega)
  have hjm : j % 8 < 8 := Nat.mod_lt _ (by omega)
  -- both stores change byte `k / 8` by a function that gives bit `k % 8` the value `v` and keeps the other seven
  have key (f : Nat → Nat) (hf : ∀ x i, i < 8 → (f x).testBit i = if i = k % 8 then v else x.testBit i) :
      (((b.grow k).buf.modify (k / 8) f).getD (j / 8) 0).testBit (j % 8) = if j = k then v else b.bit j := by
    rw [getD_modify]
    by_cases hjk : k / 8 = j / 8
    · have hl : j / 8 < (b.grow k).buf.length := by omega
      simp only [hjk, hl, and_self, if_true]
      rw [hf _ _ hjm, gb]
      by_cases hjk2 : j = k
      · subst hjk2; simp
      · have : j % 8 ≠ k % 8 := by omega
        simp [this, hjk2]
    · have hne : j ≠ k := by intro h; subst h; exact hjk rfl
      simp only [hjk, false_and, if_false, hne]
      exact gb
  cases v
  · rw [set_false_def]
    exact key _ fun x i hi => by rw [bitValue_eq hm, testBit_clear hm hi]; by_cases e : i = k % 8 <;> simp [e]
  · rw [set_true_def]
    exact key _ fun x i hi => by rw [bitValue_eq hm, Nat.testBit_or, Nat.testBit_two_pow]; by_cases e : i = k % 8 <;> simp [e, eq_comm]

theorem set_inv {b : BV} (h : b.Inv) (k : Nat) (v : Bool) : (b.set k v).Inv := by
  obtain ⟨gi, gk, glz, gbu⟩ := grow_inv h k
  have sb := set_bit h k v
  obtain ⟨s1, s2, s3, s4⟩ := set_shape (.of_inv h) k v
  have hm : k % 8 < 8 := Nat.mod_lt _ (by omega)
  have hbey : ∀ j, (b.grow k).bitsUsed ≤ j → (b.set k v).bit j = false := by
    intro j hj
    rw [sb j, if_neg (by omega), ← grow_bit b k j]
    exact gi.beyond j hj
  refine ⟨s1, s2, s3, ?_, s4, ?_⟩
  · cases v
    · intro j hj
      rw [set_false_def] at hj ⊢
      simp only at hj ⊢
      rw [getD_modify, if_neg (fun ⟨h1, _⟩ => by split at hj <;> omega)]
      exact gi.lz j (by split at hj <;> omega)
    · intro j hj
      rw [set_true_def] at hj ⊢
      simp only at hj ⊢
      rw [getD_modify]
      split
      · rw [gi.lz j hj, bitValue_eq hm]
        exact full_or_table ⟨k % 8, hm⟩
      · exact gi.lz j hj
  · cases v <;> exact hbey

theorem get_eq {b : BV} (h : b.Inv) (k : Nat) : b.get k = if b.bit k then 1 else 0 := by
  unfold BV.get
  simp only [consts.1]
  split
  · rename_i hk
    rw [h.beyond k hk]; rfl
  · have hm : k % 8 < 8 := Nat.mod_lt _ (by omega)
    simp only [BV.bit]
    rw [bitValue_eq hm]
    exact and_shift _ _

theorem get_eq_one {b : BV} (h : b.Inv) (k : Nat) : b.get k = 1 ↔ b.bit k = true := by
  rw [get_eq h]; cases b.bit k <;> simp
theorem get_eq_zero {b : BV} (h : b.Inv) (k : Nat) : b.get k = 0 ↔ b.bit k = false := by
  rw [get_eq h]; cases b.bit k <;> simp

theorem skipFull_spec (l : List Nat) : ∀ (i bu : Nat),
    i ≤ skipFull l i bu ∧ skipFull l i bu - i ≤ l.length ∧
    (∀ j, i ≤ j → j < skipFull l i bu → l.getD (j - i) 0 = 255) ∧
    (skipFull l i bu < bu → skipFull l i bu - i < l.length → l.getD (skipFull l i bu - i) 0 ≠ 255) ∧
    (i ≤ bu → skipFull l i bu ≤ bu) := by
  induction l with
  | nil => intro i bu; simp [skipFull]
  | cons x xs ih =>
    intro i bu
    unfold skipFull
    split
    · rename_i hc
      obtain ⟨h1, h2, h3, h4, h5⟩ := ih (i + 1) bu
      refine ⟨by omega, by simp; omega, ?_, ?_, fun _ => h5 (by omega)⟩
      · intro j hij hjr
        by_cases hj : j = i
        · subst hj; simp [hc.2]
        · have : j - i = (j - (i + 1)) + 1 := by omega
          rw [this, List.getD_cons_succ]
          exact h3 j (by omega) hjr
      · intro hr hlen
        have : skipFull xs (i + 1) bu - i = (skipFull xs (i + 1) bu - (i + 1)) + 1 := by omega
        rw [this, List.getD_cons_succ]
        apply h4 hr
        simp at hlen; omega
    · rename_i hc
      refine ⟨by omega, by simp, fun j h1 h2 => by omega, ?_, fun h => h⟩
      intro hr _
      simp only [Nat.sub_self, List.getD_cons_zero]
      intro hx; exact hc ⟨hr, hx⟩

theorem skipFull_replicate (rest : List Nat) (bytesUsed : Nat) : ∀ (n i : Nat), i + n ≤ bytesUsed →
    skipFull (List.replicate n 255 ++ rest) i bytesUsed = skipFull rest (i + n) bytesUsed
  | 0, _, _ => rfl
  | n + 1, i, h => by
    rw [List.replicate_succ, List.cons_append, skipFull, if_pos ⟨by omega, rfl⟩, skipFull_replicate rest bytesUsed n (i + 1) (by omega)]
    congr 1; omega

theorem getD_drop (l : List Nat) (n i : Nat) : (l.drop n).getD i 0 = l.getD (n + i) 0 := by
  simp [List.getD_eq_getElem?_getD, List.getElem?_drop]

/-- where the scan of `bv_find_next_zero` stops: the first byte from `last_zero` on that is not full, at most `bits_used / 8` -/
def BV.firstNonFull (b : BV) : Nat := skipFull (b.buf.drop b.lastZero) b.lastZero (b.bitsUsed / 8)

theorem findNextZero_def (b : BV) : b.findNextZero =
    if b.firstNonFull < b.bitsUsed / 8 then
      (b.firstNonFull * 8 +
          firstZero (b.buf.getD (b.firstNonFull) 0),
        { b with lastZero := b.firstNonFull })
    else if b.bitsUsed / 8 * 8 < b.bitsUsed ∧
        (b.buf.getD (b.firstNonFull) 0) &&&
          bitMask (b.bitsUsed - b.bitsUsed / 8 * 8) ≠ 255 then
      (b.firstNonFull * 8 +
          firstZero ((b.buf.getD (b.firstNonFull) 0) &&&
            bitMask (b.bitsUsed - b.bitsUsed / 8 * 8)),
        { b with lastZero := b.firstNonFull })
    else (b.bitsUsed, b.set b.bitsUsed false) := rfl

/-- the exit of `bv_find_next_zero` through the partly used last byte -/
theorem findNextZero_slush {b : BV} {x : Nat}
    (hskip : b.firstNonFull = b.bitsUsed / 8)
    (hx : b.buf.getD (b.bitsUsed / 8) 0 = x) (hpart : b.bitsUsed / 8 * 8 < b.bitsUsed)
    (hne : x &&& bitMask (b.bitsUsed - b.bitsUsed / 8 * 8) ≠ 255) :
    b.findNextZero.1 = b.bitsUsed / 8 * 8 + firstZero (x &&& bitMask (b.bitsUsed - b.bitsUsed / 8 * 8)) := by
  rw [findNextZero_def, hskip, hx, if_neg (Nat.lt_irrefl _), if_pos ⟨hpart, hne⟩]

theorem findNextZero_shape {b : BV} (h : Shape b) : Shape b.findNextZero.2 := by
  obtain ⟨s1, s2, s3, s4, s5⟩ := skipFull_spec (b.buf.drop b.lastZero) b.lastZero (b.bitsUsed / 8)
  rw [findNextZero_def]
  have := s5 h.lzle
  split
  · exact ⟨h.len, h.used, h.bytes, this⟩
  · split
    · exact ⟨h.len, h.used, h.bytes, this⟩
    · exact (set_shape h _ _ : Shape (b.set b.bitsUsed false))

theorem bit_byte (b : BV) (i m : Nat) (hm : m < 8) : b.bit (i * 8 + m) = (b.buf.getD i 0).testBit m := by
  unfold BV.bit
  rw [show (i * 8 + m) / 8 = i by omega, show (i * 8 + m) % 8 = m by omega]

theorem lowest_in_byte {b : BV} (hb : ∀ x ∈ b.buf, x < 256) {i : Nat} (hfull : ∀ j, j < i → b.buf.getD j 0 = 255)
    (hne : b.buf.getD i 0 ≠ 255) :
    b.bit (i * 8 + firstZero (b.buf.getD i 0)) = false ∧ ∀ k, k < i * 8 + firstZero (b.buf.getD i 0) → b.bit k = true := by
  obtain ⟨f1, f2, f3⟩ := firstZero_spec (getD_lt_256 hb i) hne
  refine ⟨by rw [bit_byte b i _ f1]; exact f2, fun k hk => ?_⟩
  by_cases hk8 : k / 8 < i
  · simp only [BV.bit, hfull _ hk8]
    exact testBit_255 (Nat.mod_lt _ (by omega))
  · have : k / 8 = i := by omega
    simp only [BV.bit, this]
    exact f3 _ (by omega)

theorem findNextZero_spec {b : BV} (h : b.Inv) :
    b.bit b.findNextZero.1 = false ∧ (∀ k, k < b.findNextZero.1 → b.bit k = true) ∧
    b.findNextZero.2.Inv ∧ ∀ k, b.findNextZero.2.bit k = b.bit k := by
  obtain ⟨_, _, s3, s4, s5⟩ := skipFull_spec (b.buf.drop b.lastZero) b.lastZero (b.bitsUsed / 8)
  rw [findNextZero_def]
  unfold BV.firstNonFull
  generalize skipFull (b.buf.drop b.lastZero) b.lastZero (b.bitsUsed / 8) = i at *
  have hi_le : i ≤ b.bitsUsed / 8 := s5 h.lzle
  have hfull : ∀ j, j < i → b.buf.getD j 0 = 255 := by
    intro j hj
    by_cases hjl : j < b.lastZero
    · exact h.lz j hjl
    · have := s3 j (by omega) hj
      rwa [getD_drop, show b.lastZero + (j - b.lastZero) = j by omega] at this
  have hinv : ({ b with lastZero := i } : BV).Inv := ⟨h.len, h.used, h.bytes, hfull, hi_le, h.beyond⟩
  split
  · rename_i hlt
    have hne : b.buf.getD i 0 ≠ 255 := by
      have := s4 hlt (by have := h.len; have := h.used; simp only [List.length_drop]; omega)
      rwa [getD_drop, show b.lastZero + (i - b.lastZero) = i by omega] at this
    exact ⟨(lowest_in_byte h.bytes hfull hne).1, (lowest_in_byte h.bytes hfull hne).2, hinv, fun _ => rfl⟩
  · have hieq : i = b.bitsUsed / 8 := by omega
    split
    · -- the partly used last byte: its bits at or above `n` lie beyond `bits_used`, so the mask changes nothing
      rename_i hc
      have hsl : b.buf.getD i 0 &&& bitMask (b.bitsUsed - b.bitsUsed / 8 * 8) = b.buf.getD i 0 := by
        apply Nat.eq_of_testBit_eq
        intro m
        rw [bitMask_eq (by omega), Nat.testBit_and, Nat.testBit_two_pow_sub_one]
        by_cases hm : m < b.bitsUsed - b.bitsUsed / 8 * 8
        · simp [hm]
        · have : (b.buf.getD i 0).testBit m = false := by
            by_cases hm8 : m < 8
            · rw [← bit_byte b i m hm8]; exact h.beyond _ (by omega)
            · exact Nat.testBit_lt_two_pow (Nat.lt_of_lt_of_le (getD_lt_256 h.bytes i)
                (Nat.pow_le_pow_right (by decide) (Nat.le_of_not_lt hm8) : 2 ^ 8 ≤ 2 ^ m))
          rw [this, Bool.false_and]
      rw [hsl] at hc ⊢
      exact ⟨(lowest_in_byte h.bytes hfull hc.2).1, (lowest_in_byte h.bytes hfull hc.2).2, hinv, fun _ => rfl⟩
    · rename_i hc
      have hall : b.bitsUsed / 8 * 8 = b.bitsUsed := by
        by_cases hlt : b.bitsUsed / 8 * 8 < b.bitsUsed
        · exfalso
          apply hc
          refine ⟨hlt, ?_⟩
          have hn : b.bitsUsed - b.bitsUsed / 8 * 8 ≤ 7 := by omega
          rw [bitMask_eq (by omega)]
          have h1 : b.buf.getD i 0 &&& (2 ^ (b.bitsUsed - b.bitsUsed / 8 * 8) - 1) ≤ 2 ^ (b.bitsUsed - b.bitsUsed / 8 * 8) - 1 := Nat.and_le_right
          have h2 : 2 ^ (b.bitsUsed - b.bitsUsed / 8 * 8) ≤ 2 ^ 7 := Nat.pow_le_pow_right (by omega) hn
          omega
        · omega
      refine ⟨h.beyond _ (Nat.le_refl _), fun k hk => ?_, set_inv h b.bitsUsed false, fun k => ?_⟩
      · simp only [BV.bit, hfull _ (by omega : k / 8 < i)]
        exact testBit_255 (Nat.mod_lt _ (by omega))
      · rw [set_bit h]
        split
        · rename_i hk; rw [hk]; exact (h.beyond _ (Nat.le_refl _)).symm
        · rfl

theorem findNextZero_least {b : BV} (h : b.Inv) (k : Nat) (hk : b.bit k = false) : b.findNextZero.1 ≤ k := by
  by_cases hlt : k < b.findNextZero.1
  · have := (findNextZero_spec h).2.1 k hlt
    rw [hk] at this; cases this
  · omega

end H4.Bitvect
