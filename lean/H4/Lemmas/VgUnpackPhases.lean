import H4.Lemmas.VgUnpackText
import H4.Lemmas.UnpackLayout
/-! Every phase of the translated `vunpackvg` on a state without undefined behaviour (`Ok`), with the explicit state it leaves. -/
namespace H4.Lemmas.C08Fn3
open H4 H4.Gen.Fn.Vgp3 H4.C2L

/-- 170 = `0xAA`: what the translator fills a fresh `malloc` block with (indeterminate content) -/
theorem allocAlist_ok (s : St) (na : Nat) (hn : s.vg_nattrs = na) (hlt : na < 2147483648) :
    allocAlist s = ((s.set_vg_alist_atag (List.replicate na 170)).set_vg_alist_aref (List.replicate na 170)).set_vg_alist_null false := by
  have c : ¬ (((((s.vg_nattrs) % 18446744073709551616) * 4)) % 18446744073709551616 > 9223372036854775807) := by rw [hn]; omega
  have t : Int.toNat (Int.tdiv (((((s.vg_nattrs) % 18446744073709551616) * 4)) % 18446744073709551616) 4) = na := by
    rw [hn, Int.tdiv_eq_ediv_of_nonneg (by omega)]; omega
  simp only [allocAlist, vunpackvg.St.set_vg_alist_null, c, t,
    ↓reduceIte, decide_false, Bool.false_eq_true]

/-- a negative count: `(size_t)nattrs * 4` exceeds `PTRDIFF_MAX` and the allocation fails -/
theorem allocAlist_fail (s : St) (hn : s.vg_nattrs < 0) (hlo : -2147483648 ≤ s.vg_nattrs) :
    allocAlist s = ((((s.set_vg_alist_atag []).set_vg_alist_aref []).set_vg_alist_null true).set_ret_value (-1)).set_gto true := by
  have c : (((((s.vg_nattrs) % 18446744073709551616) * 4)) % 18446744073709551616 > 9223372036854775807) := by omega
  simp only [allocAlist, vunpackvg.St.set_vg_alist_null, c,
    if_true, decide_true, vunpackvg.St.set_gto]

def SStr (setnull : St → Bool → St) (setreg : St → List Int → St) (B : List Int) (s : St) (p l : Nat) : St :=
  if l = 0 then setnull s true else vunpackvg.St.set_bb (setnull (setreg s (strAt B p l)) false) ((p + l : Nat) : Int)

/-- `ss`: the block is assigned twice (allocated, then filled), the second assignment replaces the first -/
structure StrSlot (setnull : St → Bool → St) (reg : St → List Int) (setreg : St → List Int → St) : Prop where
  fn : ∀ b, Frame (setnull · b) := by intro _; exact {}
  fr : ∀ x, Frame (setreg · x) := by intro _; exact {}
  un : ∀ t b, (setnull t b).uint16var = t.uint16var := by intros; rfl
  ur : ∀ t x, (setreg t x).uint16var = t.uint16var := by intros; rfl
  rn : ∀ t b, reg (setnull t b) = reg t := by intros; rfl
  rr : ∀ t x, reg (setreg t x) = x := by intros; rfl
  ss : ∀ t a f b, setreg (setnull (setreg t a) f) b = setnull (setreg t b) f := by intros; rfl

theorem pstr_ok (setnull : St → Bool → St) (reg : St → List Int) (setreg : St → List Int → St) (hS : StrSlot setnull reg setreg)
    {B s p} (h : Ok B s p) (l : Nat) (hu : s.uint16var = l) (hlt : l < 65536) (hl : p + l ≤ B.length) :
    pstr s setnull reg setreg = SStr setnull setreg B s p l ∧ Ok B (SStr setnull setreg B s p l) (p + l) := by
  obtain ⟨fn, fr, un, ur, rn, rr, ss⟩ := hS
  refine ⟨?_, by
    simp only [SStr]
    split
    · rename_i h0; subst h0; exact h.frame (fn _)
    · exact ((h.frame (fr _)).frame (fn _)).move _⟩
  simp only [SStr, strAt]
  split
  · rename_i h0
    simp only [pstr, hu, h0]
    rfl
  rename_i hl0
  have hb := h.buf
  subst hb
  have h0 : ¬ (s.uint16var = 0) := by rw [hu]; omega
  have c : ¬ ((((s.uint16var + 1)) % 18446744073709551616) > 9223372036854775807) := by rw [hu]; omega
  have t : Int.toNat (Int.tdiv (((s.uint16var + 1)) % 18446744073709551616) 1) = l + 1 := by
    rw [hu, Int.tdiv_eq_ediv_of_nonneg (by omega)]; omega
  rw [pstr, if_neg h0, if_neg c, t]
  -- name the intermediate states instead of substituting them into each other (each occurs many times in the next)
  extract_lets s1 s2 s3 s4 s5 s6
  have u1 : s1.uint16var = l := (ur _ _).trans hu
  have e2 : s2 = setnull s1 false := by
    show setnull s1 (decide _) = _
    rw [decide_eq_false (by rw [u1]; omega)]
  have u2 : s2.uint16var = l := by rw [e2, un]; exact u1
  have b2 : s2.bb = p := by rw [e2]; exact ((fn _).bb _).trans (((fr _).bb _).trans h.bb)
  have f2 : s2.buf = s.buf := by rw [e2]; exact ((fn _).buf _).trans ((fr _).buf _)
  have r2 : reg s2 = List.replicate (l + 1) 170 := by rw [e2, rn]; exact rr _ _
  obtain ⟨c1, c2, e⟩ := strncpy_room s.buf (List.replicate (l + 1) 170) _ p l rfl hl (by
    rw [List.length_replicate]; exact Nat.succ_le_succ (takeWhile_take_le _ _ l))
  have e3 : s3 = s2 := chk_true _ _ (by simp only [u2, b2, f2, Int.add_sub_cancel, Int.toNat_natCast]; exact c1)
  clear_value s3
  subst e3
  have e4 : s4 = s2 := chk_true _ _ (by simp only [u2, b2, f2, r2, Int.add_sub_cancel, Int.toNat_natCast]; exact c2)
  clear_value s4
  subst e4
  show vunpackvg.St.set_bb s5 (s5.bb + s5.uint16var) = _
  rw [show s5.bb = s2.bb from (fr _).bb _, ur, u2, b2]
  show vunpackvg.St.set_bb (setreg s2 _) _ = _
  simp only [u2, b2, f2, r2, Int.add_sub_cancel, Int.toNat_natCast]
  rw [e, List.drop_replicate, Nat.add_sub_add_right, e2, ss]
  rfl

def F0 (B : List Int) (s : St) (p : Nat) (j : Nat) : St :=
  ((s.set_vg_tag (fill s.vg_tag 0 (vals B p 2 j))).set_u ((j : Nat) : Int)).set_bb ((p + 2 * j : Nat) : Int)

theorem loop0_ok {B s p} (h : Ok B s p) (m fuel : Nat) (hu : s.u = 0) (hn : s.vg_nvelt = (m : Int)) (hm : m < 4294967296)
    (hl : p + 2 * m ≤ B.length) (ht : m ≤ s.vg_tag.length) (hf : m ≤ fuel) :
    vunpackvg.loop0 fuel s = F0 B s p m ∧ Ok B (F0 B s p m) (p + 2 * m) := by
  have ok : ∀ j, Ok B (F0 B s p j) (p + 2 * j) := fun _ => ⟨h.buf, rfl, h.ub, h.oof, h.done, h.gto⟩
  refine ⟨?_, ok m⟩
  refine for_ok (loop := vunpackvg.loop0) (·.u) (·.vg_nvelt) (·.done) (·.gto) (.of_eqs (fun _ => rfl) (fun _ _ => rfl)) m (F0 B s p)
    (fun j => ⟨rfl, hn, h.done, h.gto⟩) (fun j hj fuel => ?_) ?_ fuel hf
  · rw [loop0_body]
    obtain ⟨q, _⟩ := dec16a_ok (·.u) (·.vg_tag) vunpackvg.St.set_vg_tag (ok j) (by omega) j rfl
      (fill_vals_lt _ B _ _ j (by omega))
    simp only [q]
    rw [show (F0 B s p j).vg_tag.set j _ = _ from fill_vals_set _ B _ _ j (by omega)]
    simp only [F0, vunpackvg.St.set_u, vunpackvg.St.set_bb]
    congr 1
    omega
  · simp only [F0, vals, List.range_zero, List.map_nil, fill_nil, vunpackvg.St.set_bb]
    have e1 : ((0 : Nat) : Int) = s.u := by rw [hu]; rfl
    have e2 : ((p + 2 * 0 : Nat) : Int) = s.bb := by rw [h.bb]; rfl
    rw [e1, e2]

def F1 (B : List Int) (s : St) (p : Nat) (j : Nat) : St :=
  ((s.set_vg_ref (fill s.vg_ref 0 (vals B p 2 j))).set_u ((j : Nat) : Int)).set_bb ((p + 2 * j : Nat) : Int)

theorem loop1_ok {B s p} (h : Ok B s p) (m fuel : Nat) (hu : s.u = 0) (hn : s.vg_nvelt = (m : Int)) (hm : m < 4294967296)
    (hl : p + 2 * m ≤ B.length) (ht : m ≤ s.vg_ref.length) (hf : m ≤ fuel) :
    vunpackvg.loop1 fuel s = F1 B s p m ∧ Ok B (F1 B s p m) (p + 2 * m) := by
  have ok : ∀ j, Ok B (F1 B s p j) (p + 2 * j) := fun _ => ⟨h.buf, rfl, h.ub, h.oof, h.done, h.gto⟩
  refine ⟨?_, ok m⟩
  refine for_ok (loop := vunpackvg.loop1) (·.u) (·.vg_nvelt) (·.done) (·.gto) (.of_eqs (fun _ => rfl) (fun _ _ => rfl)) m (F1 B s p)
    (fun j => ⟨rfl, hn, h.done, h.gto⟩) (fun j hj fuel => ?_) ?_ fuel hf
  · rw [loop1_body]
    obtain ⟨q, _⟩ := dec16a_ok (·.u) (·.vg_ref) vunpackvg.St.set_vg_ref (ok j) (by omega) j rfl
      (fill_vals_lt _ B _ _ j (by omega))
    simp only [q]
    rw [show (F1 B s p j).vg_ref.set j _ = _ from fill_vals_set _ B _ _ j (by omega)]
    simp only [F1, vunpackvg.St.set_u, vunpackvg.St.set_bb]
    congr 1
    omega
  · simp only [F1, vals, List.range_zero, List.map_nil, fill_nil, vunpackvg.St.set_bb]
    have e1 : ((0 : Nat) : Int) = s.u := by rw [hu]; rfl
    have e2 : ((p + 2 * 0 : Nat) : Int) = s.bb := by rw [h.bb]; rfl
    rw [e1, e2]

def F2 (B : List Int) (s : St) (p : Nat) (j : Nat) : St :=
  (((s.set_vg_alist_atag (fill s.vg_alist_atag 0 (vals B p 4 j))).set_vg_alist_aref (fill s.vg_alist_aref 0 (vals B (p + 2) 4 j))).set_i
    ((j : Nat) : Int)).set_bb ((p + 4 * j : Nat) : Int)

theorem loop2_ok {B s p} (h : Ok B s p) (m fuel : Nat) (hu : s.i = 0) (hn : s.vg_nattrs = (m : Int))
    (hl : p + 4 * m ≤ B.length) (ht : m ≤ s.vg_alist_atag.length) (ht2 : m ≤ s.vg_alist_aref.length) (hf : m ≤ fuel) :
    vunpackvg.loop2 fuel s = F2 B s p m ∧ Ok B (F2 B s p m) (p + 4 * m) := by
  have ok : ∀ j, Ok B (F2 B s p j) (p + 4 * j) := fun _ => ⟨h.buf, rfl, h.ub, h.oof, h.done, h.gto⟩
  refine ⟨?_, ok m⟩
  refine for_ok (loop := vunpackvg.loop2) (·.i) (·.vg_nattrs) (·.done) (·.gto) (.of_eqs (fun _ => rfl) (fun _ _ => rfl)) m (F2 B s p)
    (fun j => ⟨rfl, hn, h.done, h.gto⟩) (fun j hj fuel => ?_) ?_ fuel hf
  · rw [loop2_body]
    obtain ⟨q, ok2⟩ := dec16a_ok (·.i) (·.vg_alist_atag) vunpackvg.St.set_vg_alist_atag (ok j) (by omega) j rfl
      (fill_vals_lt _ B _ _ j (by omega))
    obtain ⟨q2, _⟩ := dec16a_ok (·.i) (·.vg_alist_aref) vunpackvg.St.set_vg_alist_aref ok2 (by omega) j rfl
      (fill_vals_lt _ B _ _ j (by omega))
    simp only [q, q2]
    have a1 : p + 4 * j + 2 = p + 2 + 4 * j := by omega
    rw [a1, show (F2 B s p j).vg_alist_atag.set j _ = _ from fill_vals_set _ B _ _ j (by omega),
      show (F2 B s p j).vg_alist_aref.set j _ = _ from fill_vals_set _ B _ _ j (by omega)]
    simp only [F2, vunpackvg.St.set_i, vunpackvg.St.set_bb]
    congr 1
    omega
  · simp only [F2, vals, List.range_zero, List.map_nil, fill_nil, 
      vunpackvg.St.set_bb]
    have e1 : ((0 : Nat) : Int) = s.i := by rw [hu]; rfl
    have e2 : ((p + 4 * 0 : Nat) : Int) = s.bb := by rw [h.bb]; rfl
    rw [e1, e2]

def SPre (B : List Int) (L : Nat) (s : St) : St :=
  ((((s.set_ret_value 0).set_uint16var (be16 B (L - 3))).set_vg_version (w16 (be16 B (L - 5)))).set_vg_more (w16 (be16 B (L - 3)))).set_bb 0

theorem phPre_ok (B : List Int) (L : Nat) (s : St) (hb : s.buf = B) (hlen : s.len = L) (h5 : 5 ≤ L) (hL : L ≤ B.length)
    (hub : s.ub = false) (hoof : s.oof = false) (hd : s.done = false) (hg : s.gto = false) :
    phPre s = SPre B L s ∧ Ok B (SPre B L s) 0 := by
  refine ⟨?_, ⟨hb, rfl, hub, hoof, hd, hg⟩⟩
  have o0 : Ok B (phPre0 s) (L - 5) := ⟨hb, by show s.len - 5 = _; rw [hlen]; omega, hub, hoof, hd, hg⟩
  obtain ⟨q1, o1⟩ := dec16v_ok o0 (by omega)
  have e1 : phVer (phPre0 s) = (((phPre0 s).set_uint16var (be16 B (L - 5))).set_bb ((L - 5 + 2 : Nat) : Int)).set_vg_version (w16 (be16 B (L - 5))) := by
    simp only [phVer]; rw [q1]; rfl
  have o1' : Ok B (phVer (phPre0 s)) (L - 5 + 2) := by rw [e1]; exact ⟨hb, rfl, hub, hoof, hd, hg⟩
  obtain ⟨q2, o2⟩ := dec16v_ok o1' (by omega)
  have e2 : L - 5 + 2 = L - 3 := by omega
  simp only [phPre, phMore]
  rw [q2, e1, e2]
  rfl

theorem guard_ok {B s p} (h : Ok B s p) (f : St → St) : guard s f = f s := by
  simp only [guard, h.done, h.gto]; simp

def SA (B : List Int) (s : St) : St :=
  ((((((s.set_vg_nvelt (be16N B 0)).set_vg_msize ((max (be16N B 0) 64 : Nat) : Int)).set_vg_tag (List.replicate (max (be16N B 0) 64) 170)).set_vg_tag_null
    false).set_vg_ref (List.replicate (max (be16N B 0) 64) 170)).set_vg_ref_null false).set_bb 2

theorem phA_ok {B s} (h : Ok B s 0) (hl : 2 ≤ B.length) : phA s = SA B s ∧ Ok B (SA B s) 2 := by
  refine ⟨?_, ⟨h.buf, rfl, h.ub, h.oof, h.done, h.gto⟩⟩
  obtain ⟨q, _⟩ := dec16_ok (·.vg_nvelt) vunpackvg.St.set_vg_nvelt h hl
  have hn := be16N_lt B 0
  simp only [phA]
  rw [q, be16_eq]
  generalize hs1 : vunpackvg.St.set_bb (vunpackvg.St.set_vg_nvelt s ((be16N B 0 : Nat) : Int)) ((0 + 2 : Nat) : Int) = s1
  have n1 : s1.vg_nvelt = (be16N B 0 : Nat) := by rw [← hs1]
  have m1 : (if (s1.vg_nvelt > ((64) % 4294967296)) then s1.vg_nvelt else 64) = ((max (be16N B 0) 64 : Nat) : Int) := by
    rw [n1]; split <;> omega
  rw [m1]
  have c : ¬ ((((((((max (be16N B 0) 64 : Nat) : Int)) % 18446744073709551616) * 2)) % 18446744073709551616) > 9223372036854775807) := by omega
  have t : Int.toNat (Int.tdiv (((((((max (be16N B 0) 64 : Nat) : Int)) % 18446744073709551616) * 2)) % 18446744073709551616) 2) = max (be16N B 0) 64 := by
    rw [Int.tdiv_eq_ediv_of_nonneg (by omega)]; omega
  simp only [vunpackvg.St.set_vg_ref_null,
    c, t, ↓reduceIte, decide_false, Bool.false_eq_true, false_or]
  rw [← hs1]
  rfl

theorem phTags_ok {B s p} (h : Ok B s p) (m fuel : Nat) (hn : s.vg_nvelt = (m : Int)) (hm : m < 4294967296)
    (hl : p + 2 * m ≤ B.length) (ht : m ≤ s.vg_tag.length) (hf : m ≤ fuel) :
    phTags fuel s = F0 B (s.set_u 0) p m ∧ Ok B (F0 B (s.set_u 0) p m) (p + 2 * m) := by
  have o : Ok B (s.set_u 0) p := ⟨h.buf, h.bb, h.ub, h.oof, h.done, h.gto⟩
  have := loop0_ok o m fuel rfl hn hm hl ht hf
  rw [phTags, guard_ok h]
  exact this

theorem phRefs_ok {B s p} (h : Ok B s p) (m fuel : Nat) (hn : s.vg_nvelt = (m : Int)) (hm : m < 4294967296)
    (hl : p + 2 * m ≤ B.length) (ht : m ≤ s.vg_ref.length) (hf : m ≤ fuel) :
    phRefs fuel s = F1 B (s.set_u 0) p m ∧ Ok B (F1 B (s.set_u 0) p m) (p + 2 * m) := by
  have o : Ok B (s.set_u 0) p := ⟨h.buf, h.bb, h.ub, h.oof, h.done, h.gto⟩
  have := loop1_ok o m fuel rfl hn hm hl ht hf
  rw [phRefs, guard_ok h]
  exact this

theorem phLen_ok {B s p} (h : Ok B s p) (hl : p + 2 ≤ B.length) :
    phLen s = (s.set_uint16var (be16 B p)).set_bb ((p + 2 : Nat) : Int) ∧
      Ok B ((s.set_uint16var (be16 B p)).set_bb ((p + 2 : Nat) : Int)) (p + 2) := by
  rw [phLen, guard_ok h]
  exact dec16v_ok h hl

theorem phName_ok {B s p} (h : Ok B s p) (l : Nat) (hu : s.uint16var = l) (hlt : l < 65536) (hl : p + l ≤ B.length) :
    phName s = SStr vunpackvg.St.set_vg_vgname_null vunpackvg.St.set_vg_vgname B s p l ∧
      Ok B (SStr vunpackvg.St.set_vg_vgname_null vunpackvg.St.set_vg_vgname B s p l) (p + l) := by
  rw [phName, guard_ok h]
  exact pstr_ok _ (·.vg_vgname) _ {} h l hu hlt hl

theorem phClass_ok {B s p} (h : Ok B s p) (l : Nat) (hu : s.uint16var = l) (hlt : l < 65536) (hl : p + l ≤ B.length) :
    phClass s = SStr vunpackvg.St.set_vg_vgclass_null vunpackvg.St.set_vg_vgclass B s p l ∧
      Ok B (SStr vunpackvg.St.set_vg_vgclass_null vunpackvg.St.set_vg_vgclass B s p l) (p + l) := by
  rw [phClass, guard_ok h]
  exact pstr_ok _ (·.vg_vgclass) _ {} h l hu hlt hl

theorem phExtag_ok {B s p} (h : Ok B s p) (hl : p + 2 ≤ B.length) :
    phExtag s = (s.set_vg_extag (be16 B p)).set_bb ((p + 2 : Nat) : Int) ∧
      Ok B ((s.set_vg_extag (be16 B p)).set_bb ((p + 2 : Nat) : Int)) (p + 2) := by
  rw [phExtag, guard_ok h]
  exact dec16_ok (·.vg_extag) vunpackvg.St.set_vg_extag h hl

theorem phExref_ok {B s p} (h : Ok B s p) (hl : p + 2 ≤ B.length) :
    phExref s = (s.set_vg_exref (be16 B p)).set_bb ((p + 2 : Nat) : Int) ∧
      Ok B ((s.set_vg_exref (be16 B p)).set_bb ((p + 2 : Nat) : Int)) (p + 2) := by
  rw [phExref, guard_ok h]
  exact dec16_ok (·.vg_exref) vunpackvg.St.set_vg_exref h hl

def Sb2 (B : List Int) (s : St) : St := F0 B ((SA B s).set_u 0) 2 (nvN B)
def Sb3 (B : List Int) (s : St) : St := F1 B ((Sb2 B s).set_u 0) (2 + 2 * nvN B) (nvN B)
def Sb4 (B : List Int) (s : St) : St := ((Sb3 B s).set_uint16var (be16 B (pN B))).set_bb ((pN B + 2 : Nat) : Int)
def Sb5 (B : List Int) (s : St) : St := SStr vunpackvg.St.set_vg_vgname_null vunpackvg.St.set_vg_vgname B (Sb4 B s) (pN B + 2) (lN B)
def Sb6 (B : List Int) (s : St) : St := ((Sb5 B s).set_uint16var (be16 B (pC B))).set_bb ((pC B + 2 : Nat) : Int)
def Sb7 (B : List Int) (s : St) : St := SStr vunpackvg.St.set_vg_vgclass_null vunpackvg.St.set_vg_vgclass B (Sb6 B s) (pC B + 2) (lC B)
def Sb8 (B : List Int) (s : St) : St := ((Sb7 B s).set_vg_extag (be16 B (pE B))).set_bb ((pE B + 2 : Nat) : Int)
def Sb9 (B : List Int) (s : St) : St := ((Sb8 B s).set_vg_exref (be16 B (pE B + 2))).set_bb ((pE B + 2 + 2 : Nat) : Int)

theorem body9_ok {B s} (h : Ok B s 0) (fuel : Nat) (hb : pE B + 4 ≤ B.length) (hf : nvN B ≤ fuel) :
    phExref (phExtag (phClass (phLen (phName (phLen (phRefs fuel (phTags fuel (phA s)))))))) = Sb9 B s ∧ Ok B (Sb9 B s) (pE B + 4) := by
  have hn := be16N_lt B 0
  have hln := be16N_lt B (pN B)
  have hlc := be16N_lt B (pC B)
  have hpos : pN B = 2 + 4 * nvN B ∧ pC B = pN B + 2 + lN B ∧ pE B = pC B + 2 + lC B := ⟨rfl, rfl, rfl⟩
  have hnv : nvN B = be16N B 0 := rfl
  obtain ⟨q1, o1⟩ := phA_ok h (by omega)
  obtain ⟨q2, o2⟩ := phTags_ok o1 (nvN B) fuel rfl (by omega) (by omega) (by show nvN B ≤ (List.replicate _ _).length; rw [List.length_replicate, hnv]; omega) hf
  obtain ⟨q3, o3⟩ := phRefs_ok o2 (nvN B) fuel rfl (by omega) (by omega) (by show nvN B ≤ (List.replicate _ _).length; rw [List.length_replicate, hnv]; omega) hf
  have e3 : 2 + 2 * nvN B + 2 * nvN B = pN B := by omega
  rw [e3] at o3
  obtain ⟨q4, o4⟩ := phLen_ok o3 (by omega)
  obtain ⟨q5, o5⟩ := phName_ok o4 (lN B) (be16_eq B (pN B)) hln (by omega)
  have e5 : pN B + 2 + lN B = pC B := rfl
  rw [e5] at o5
  obtain ⟨q6, o6⟩ := phLen_ok o5 (by omega)
  obtain ⟨q7, o7⟩ := phClass_ok o6 (lC B) (be16_eq B (pC B)) hlc (by omega)
  have e7 : pC B + 2 + lC B = pE B := rfl
  rw [e7] at o7
  obtain ⟨q8, o8⟩ := phExtag_ok o7 (by omega)
  obtain ⟨q9, o9⟩ := phExref_ok o8 (by omega)
  refine ⟨?_, o9⟩
  rw [q1, q2, q3, q4, q5, q6, q7, q8, q9]
  rfl

theorem phV4_old {B s p} (h : Ok B s p) (fuel : Nat) (hv : s.vg_version ≠ 4) : phV4 fuel s = s := by
  rw [phV4, guard_ok h]; exact if_neg hv

theorem phV4_flags {B s p} (h : Ok B s p) (fuel : Nat) (hv : s.vg_version = 4) (hl : p + 4 ≤ B.length) (ha : be32N B p % 2 = 0) :
    phV4 fuel s = (s.set_vg_flags (be32 B p)).set_bb ((p + 4 : Nat) : Int) ∧
      Ok B ((s.set_vg_flags (be32 B p)).set_bb ((p + 4 : Nat) : Int)) (p + 4) := by
  obtain ⟨q, o⟩ := decFlags_ok h hl
  refine ⟨?_, o⟩
  rw [phV4, guard_ok h]
  simp only [if_pos hv]
  rw [q]
  rw [if_neg (show ¬ andU (be32 B p) _ ≠ 0 from fun c => by have := (attr_bit32 B p).mp c; omega)]

def SAlloc (B : List Int) (s : St) (p na : Nat) : St :=
  vunpackvg.St.set_i (vunpackvg.St.set_vg_alist_null (vunpackvg.St.set_vg_alist_aref (vunpackvg.St.set_vg_alist_atag
    (vunpackvg.St.set_bb (vunpackvg.St.set_vg_nattrs (vunpackvg.St.set_bb (vunpackvg.St.set_vg_flags s (be32 B p)) ((p + 4 : Nat) : Int)) (na : Int))
      ((p + 8 : Nat) : Int)) (List.replicate na 170)) (List.replicate na 170)) false) 0

def SAttr (B : List Int) (s : St) (p na : Nat) : St := F2 B (SAlloc B s p na) (p + 8) na

theorem phV4_attrs {B s p} (h : Ok B s p) (fuel : Nat) (hv : s.vg_version = 4) (ha : be32N B p % 2 = 1)
    (hna : be32N B (p + 4) < 2147483648) (hl : p + 8 + 4 * be32N B (p + 4) ≤ B.length) (hf : be32N B (p + 4) ≤ fuel) :
    phV4 fuel s = SAttr B s p (be32N B (p + 4)) ∧ Ok B (SAttr B s p (be32N B (p + 4))) (p + 8 + 4 * be32N B (p + 4)) := by
  obtain ⟨q, o⟩ := decFlags_ok h (by omega)
  obtain ⟨q2, o2⟩ := decNattrs_ok o (by omega)
  have e8 : p + 4 + 4 = p + 8 := by omega
  rw [e8] at q2 o2
  have s32 : S32 (be32 B (p + 4)) = (be32N B (p + 4) : Int) := by
    rw [be32_eq]; simp only [S32]; split <;> omega
  rw [s32] at q2 o2
  have q3 := allocAlist_ok (vunpackvg.St.set_bb (vunpackvg.St.set_vg_nattrs (vunpackvg.St.set_bb (vunpackvg.St.set_vg_flags s (be32 B p)) ((p + 4 : Nat) : Int))
    (be32N B (p + 4) : Int)) ((p + 8 : Nat) : Int)) (be32N B (p + 4)) rfl hna
  have o3 : Ok B (SAlloc B s p (be32N B (p + 4))) (p + 8) := ⟨h.buf, rfl, h.ub, h.oof, h.done, h.gto⟩
  obtain ⟨q4, o4⟩ := loop2_ok o3 (be32N B (p + 4)) fuel rfl rfl hl
    (by show _ ≤ (List.replicate _ _).length; simp) (by show _ ≤ (List.replicate _ _).length; simp) hf
  refine ⟨?_, o4⟩
  rw [phV4, guard_ok h]
  simp only [if_pos hv]
  rw [q]
  rw [if_pos (show andU (be32 B p) _ ≠ 0 from (attr_bit32 B p).mpr ha)]
  simp only [phAttrs]
  rw [q2, q3]
  have og : Ok B (vunpackvg.St.set_vg_alist_null (vunpackvg.St.set_vg_alist_aref (vunpackvg.St.set_vg_alist_atag
    (vunpackvg.St.set_bb (vunpackvg.St.set_vg_nattrs (vunpackvg.St.set_bb (vunpackvg.St.set_vg_flags s (be32 B p)) ((p + 4 : Nat) : Int)) (be32N B (p + 4) : Int))
      ((p + 8 : Nat) : Int)) (List.replicate (be32N B (p + 4)) 170)) (List.replicate (be32N B (p + 4)) 170)) false) (p + 8) :=
    ⟨h.buf, rfl, h.ub, h.oof, h.done, h.gto⟩
  rw [guard_ok og]
  exact q4

theorem phV4_fail {B s p} (h : Ok B s p) (fuel : Nat) (hv : s.vg_version = 4) (ha : be32N B p % 2 = 1) (hl : p + 8 ≤ B.length)
    (hna : 2147483648 ≤ be32N B (p + 4)) :
    (phV4 fuel s).ub = false ∧ (phV4 fuel s).oof = false ∧ (phV4 fuel s).done = false ∧ (phV4 fuel s).ret_value = -1 := by
  obtain ⟨q, o⟩ := decFlags_ok h (by omega)
  obtain ⟨q2, o2⟩ := decNattrs_ok o (by omega)
  have hlt := be32N_lt B (p + 4)
  have s32 : S32 (be32 B (p + 4)) = (be32N B (p + 4) : Int) - 4294967296 := by
    rw [be32_eq]; simp only [S32]; split <;> omega
  rw [s32] at q2 o2
  have q3 := allocAlist_fail (vunpackvg.St.set_bb (vunpackvg.St.set_vg_nattrs (vunpackvg.St.set_bb (vunpackvg.St.set_vg_flags s (be32 B p)) ((p + 4 : Nat) : Int))
    ((be32N B (p + 4) : Int) - 4294967296)) ((p + 4 + 4 : Nat) : Int))
    (by show (be32N B (p + 4) : Int) - 4294967296 < 0; omega) (by show -2147483648 ≤ (be32N B (p + 4) : Int) - 4294967296; omega)
  rw [phV4, guard_ok h]
  simp only [if_pos hv]
  rw [q]
  rw [if_pos (show andU (be32 B p) _ ≠ 0 from (attr_bit32 B p).mpr ha)]
  simp only [phAttrs]
  rw [q2, q3]
  refine ⟨?_, ?_, ?_, ?_⟩
  · simp only [guard, vunpackvg.St.set_gto]; simp; exact h.ub
  · simp only [guard, vunpackvg.St.set_gto]; simp; exact h.oof
  · simp only [guard, vunpackvg.St.set_gto]; simp; exact h.done
  · simp only [guard, vunpackvg.St.set_gto]; simp

theorem phEpi_ok (s : St) (hd : s.done = false) : phEpi s = ((s.set_gto false).set_ret s.ret_value).set_done true := by
  simp only [phEpi, hd]; rfl

end H4.Lemmas.C08Fn3
