import H4.Limits
/-! Helper lemmas for C20, the limits that are not the int32 arithmetic of `Limits`: the first free reference number and the state of
    the reference-number allocator (`RefInv`, what `refPut`, `refDel`, `refAlloc` do to it), the `VSsetfields` size loop, the SD open-file
    table (`Tab.WF`), the counted refusals. -/
namespace H4.Limits
open H4.Gen.Hdf

theorem consts2 : MAX_REF = 65535 ∧ MAX_ORDER = 65535 ∧ MAX_FIELD_SIZE = 65535 ∧ VSFIELDMAX = 256 ∧ VSNAMELENMAX = 64
    ∧ FIELDNAMELENMAX = 128 ∧ H4_MAX_NC_NAME = 256 ∧ H4_MAX_VAR_DIMS = 32 ∧ H4.Gen.Limits.UINT16_MAX = 65535
    ∧ H4.Gen.Limits.SIZEOF_VSNAME = 65 ∧ H4.Gen.Limits.SIZEOF_VSCLASS = 65 ∧ H4.Gen.Limits.H4_MAX_NC_OPEN = 32
    ∧ H4.Gen.Limits.H4_MAX_GR_NAME = 256 := by decide


theorem firstFree_none {used : Nat → Bool} {lo : Nat} :
    firstFree used lo = none ↔ ∀ r, lo ≤ r → r ≤ 65535 → used r = true := by
  unfold firstFree
  rw [List.find?_eq_none]
  simp only [List.mem_range'_1, MAX_REF]
  constructor
  · intro h r h1 h2
    have := h r ⟨h1, by omega⟩
    simpa using this
  · intro h r ⟨h1, h2⟩
    have := h r h1 (by omega)
    simp [this]

theorem firstFree_some {used : Nat → Bool} {lo r : Nat} (h : firstFree used lo = some r) :
    lo ≤ r ∧ r ≤ 65535 ∧ used r = false := by
  unfold firstFree at h
  have h1 := List.mem_of_find?_eq_some h
  have h2 := List.find?_some h
  simp only [List.mem_range'_1, MAX_REF] at h1
  refine ⟨h1.1, by omega, by simpa using h2⟩

theorem firstFree_min {used : Nat → Bool} {lo r : Nat} (h : firstFree used lo = some r) :
    ∀ q, lo ≤ q → q < r → used q = true := by
  unfold firstFree at h
  rw [List.find?_eq_some_iff_append] at h
  obtain ⟨_, as, bs, hsplit, hall⟩ := h
  intro q h1 h2
  -- q is in the range and comes before r, hence in `as`
  have hq : q ∈ List.range' lo (MAX_REF + 1 - lo) := by
    have hr : r ∈ List.range' lo (MAX_REF + 1 - lo) := by rw [hsplit]; simp
    simp only [List.mem_range'_1] at hr ⊢
    omega
  rw [hsplit] at hq
  have hsorted : List.Pairwise (· < ·) (List.range' lo (MAX_REF + 1 - lo)) := List.pairwise_lt_range'
  rw [hsplit] at hsorted
  rcases List.mem_append.mp hq with hqa | hqb
  · have := hall q hqa; simpa using this
  · rcases List.mem_cons.mp hqb with rfl | hqb
    · omega
    · have := (List.pairwise_append.mp hsorted).2.1
      have := (List.pairwise_cons.mp this).1 q hqb
      omega


theorem setfieldsLoop_fits (l : List Nat) (iv k : Nat) (h : iv + l.sum ≤ 65535) :
    setfieldsLoop l iv k = (true, k + l.length, iv + l.sum) := by
  induction l generalizing iv k with
  | nil => rfl
  | cons sz rest ih =>
    rw [List.sum_cons] at h
    rw [setfieldsLoop, show MAX_FIELD_SIZE = 65535 from rfl, if_neg (by omega), if_neg (by omega), ih _ _ (by omega),
      List.sum_cons, List.length_cons, Nat.add_assoc, Nat.add_assoc, Nat.add_comm 1]

theorem setfieldsLoop_over (l : List Nat) (iv k : Nat) (h : iv + l.sum > 65535) (hiv : iv ≤ 65535) :
    (setfieldsLoop l iv k).1 = false := by
  induction l generalizing iv k with
  | nil => exact absurd hiv (Nat.not_le.mpr h)
  | cons sz rest ih =>
    rw [List.sum_cons] at h
    rw [setfieldsLoop, show MAX_FIELD_SIZE = 65535 from rfl]
    refine iteInduction (motive := fun r : Bool × Nat × Nat => r.1 = false) (fun _ => rfl) fun _ => ?_
    exact iteInduction (motive := fun r : Bool × Nat × Nat => r.1 = false) (fun _ => rfl) fun h2 =>
      ih _ _ (by omega) (Nat.not_lt.mp h2)

theorem _root_.H4.Props.C20.setfields_eq (sizes : List Nat) :
    setfields sizes = if 1 ≤ sizes.length ∧ sizes.length ≤ 256 ∧ sizes.sum ≤ 65535 then (true, sizes.length, sizes.sum)
      else (false, 0, 0) := by
  unfold setfields setfieldsV
  rw [show VSFIELDMAX = 256 from rfl]
  by_cases hl : 1 ≤ sizes.length ∧ sizes.length ≤ 256
  · rw [if_neg (by simp only [Bool.or_eq_true, decide_eq_true_eq]; omega)]
    dsimp only
    by_cases hs : sizes.sum ≤ 65535
    · rw [setfieldsLoop_fits sizes 0 0 (by omega), Nat.zero_add, Nat.zero_add]
      exact (if_pos (⟨hl.1, hl.2, hs⟩ : _ ∧ _ ∧ _)).symm
    · rw [setfieldsLoop_over sizes 0 0 (by omega) (Nat.zero_le _)]
      exact (if_neg fun h : _ ∧ _ ∧ _ => hs h.2.2).symm
  · rw [if_pos (by simp only [Bool.or_eq_true, decide_eq_true_eq]; omega), if_neg (fun h => hl ⟨h.1, h.2.1⟩)]

/-- consistency of `_cdfs` / `_cdfs_size` / `_ncdf` / `_curr_opened` / `max_NC_open` -/
structure Tab.WF (t : Tab) : Prop where
  unalloc : t.alloc = false → t.slots = [] ∧ t.ncdf = 0 ∧ t.opened = 0
  size : t.alloc = true → t.maxOpen = t.slots.length
  ncdf_le : t.ncdf ≤ t.slots.length
  beyond : ∀ i, t.ncdf ≤ i → t.slots.getD i false = false
  count : t.opened = t.slots.count true
  pos : 0 < t.maxOpen

theorem tabValid_iff (t : Tab) (id : Nat) : tabValid t id = true ↔ id < t.ncdf ∧ t.slots.getD id false = true := by
  simp [tabValid]

theorem getD_take_append_replicate (l : List Bool) (a i : Nat) (hi : i < a) :
    (l.take a ++ List.replicate (a - (l.take a).length) false).getD i false = l.getD i false := by
  simp only [List.getD_eq_getElem?_getD, List.getElem?_append, List.length_take, List.getElem?_take, hi, if_true,
    List.getElem?_replicate]
  by_cases h : i < l.length
  · have : i < min a l.length := by omega
    simp [this]
  · have h1 : ¬ i < min a l.length := by omega
    have h2 : l[i]? = none := by simp; omega
    simp only [h1, if_false, h2]
    split <;> simp

theorem count_take_of_beyond {l : List Bool} {a : Nat} (h : ∀ i, a ≤ i → l.getD i false = false) :
    (l.take a).count true = l.count true := by
  have hdrop : (l.drop a).count true = 0 := by
    refine List.count_eq_zero.mpr fun hm => ?_
    obtain ⟨j, hj, hjv⟩ := List.mem_iff_getElem.mp hm
    have hj' : a + j < l.length := by rw [List.length_drop] at hj; omega
    have := h (a + j) (by omega)
    rw [List.getD_eq_getElem?_getD, List.getElem?_eq_getElem hj', Option.getD_some, ← List.getElem_drop (h := hj), hjv] at this
    cases this
  conv => rhs; rw [← List.take_append_drop a l, List.count_append, hdrop]
  rfl

end H4.Limits

namespace H4.Props.C20
open H4.Limits H4.Gen.Hdf

def RefInv (s : RefSt) : Prop := s.maxref ≤ 65535 ∧ ∀ p ∈ s.used, 1 ≤ p.1 ∧ p.2 ≤ s.maxref

theorem inUse_iff (s : RefSt) (r : Nat) : s.inUse r = true ↔ ∃ p ∈ s.used, p.1 ≤ r ∧ r ≤ p.2 := by
  unfold RefSt.inUse
  simp [List.any_eq_true]

theorem inUse_bounds {s : RefSt} (h : RefInv s) {r : Nat} (hr : s.inUse r = true) : 1 ≤ r ∧ r ≤ s.maxref := by
  obtain ⟨p, hp, h1, h2⟩ := (inUse_iff s r).mp hr
  have := h.2 p hp
  omega

theorem refPut_inv {s : RefSt} (h : RefInv s) {lo hi : Nat} (h1 : 1 ≤ lo) (h2 : hi ≤ 65535) : RefInv (refPut s lo hi) := by
  unfold refPut RefInv
  obtain ⟨hm, hu⟩ := h
  refine ⟨by simp only; split <;> omega, ?_⟩
  intro p hp
  simp only [List.mem_append, List.mem_singleton] at hp
  rcases hp with hp | hp
  · have := hu p hp; simp only; split <;> omega
  · subst hp; simp only; split <;> omega

theorem refPutN_inv {s : RefSt} (h : RefInv s) {r : Nat} (h1 : 1 ≤ r) (h2 : r ≤ 65535) (n : Nat) : RefInv (refPutN s r n) := by
  induction n generalizing s with
  | zero => exact h
  | succ n ih => exact ih (refPut_inv h h1 h2)

theorem delRun_sub (l : List (Nat × Nat)) (r : Nat) : ∀ p ∈ delRun l r, ∃ q ∈ l, q.1 ≤ p.1 ∧ p.2 ≤ q.2 := by
  induction l with
  | nil => intro p hp; simp [delRun] at hp
  | cons a rest ih =>
    obtain ⟨lo, hi⟩ := a
    intro p hp
    unfold delRun at hp
    split at hp
    · rename_i hc
      simp only [List.mem_append] at hp
      rcases hp with (hp | hp) | hp
      · split at hp
        · simp only [List.mem_singleton] at hp; subst hp; exact ⟨(lo, hi), by simp, by simp, by simp; omega⟩
        · simp at hp
      · split at hp
        · simp only [List.mem_singleton] at hp; subst hp; exact ⟨(lo, hi), by simp, by simp; omega, by simp⟩
        · simp at hp
      · exact ⟨p, by simp [hp], Nat.le_refl _, Nat.le_refl _⟩
    · simp only [List.mem_cons] at hp
      rcases hp with hp | hp
      · subst hp; exact ⟨(lo, hi), by simp, Nat.le_refl _, Nat.le_refl _⟩
      · obtain ⟨q, hq, h1, h2⟩ := ih p hp
        exact ⟨q, by simp [hq], h1, h2⟩

theorem refDel_inv {s : RefSt} (h : RefInv s) (r : Nat) : RefInv (refDel s r) := by
  unfold refDel RefInv
  refine ⟨h.1, ?_⟩
  intro p hp
  obtain ⟨q, hq, h1, h2⟩ := delRun_sub s.used r p hp
  have := h.2 q hq
  simp only; omega

theorem refPutN_used (s : RefSt) (r n : Nat) : (refPutN s r n).used = s.used ++ List.replicate n (r, r) := by
  induction n generalizing s with
  | zero => simp [refPutN]
  | succ n ih => rw [refPutN, ih]; simp [refPut, List.replicate_succ]

theorem refAlloc_eq (s : RefSt) (n : Nat) :
    (refAlloc s n).1 = (newref s.maxref s.inUse).1 ∧
    (refAlloc s n).2 = if (newref s.maxref s.inUse).1 = 0 then s
      else refPutN { s with maxref := (newref s.maxref s.inUse).2 } (newref s.maxref s.inUse).1 n := by
  unfold refAlloc
  dsimp only
  split
  · rename_i h0; exact ⟨h0.symm, rfl⟩
  · exact ⟨rfl, rfl⟩

theorem refAlloc_used (s : RefSt) (n : Nat) :
    (refAlloc s n).2.used = s.used ++ List.replicate (if (refAlloc s n).1 = 0 then 0 else n) ((refAlloc s n).1, (refAlloc s n).1) := by
  rw [(refAlloc_eq s n).1, (refAlloc_eq s n).2]
  split
  · exact (List.append_nil _).symm
  · exact refPutN_used ..

theorem refuse_eq_some {α : Type} {c : Prop} [Decidable c] {n s : α} : (if c then none else some n) = some s ↔ ¬c ∧ s = n := by
  split
  · exact ⟨fun h => (nomatch h), fun h => absurd ‹c› h.1⟩
  · exact ⟨fun h => ⟨‹_›, (Option.some.inj h).symm⟩, fun h => congrArg some h.2.symm⟩

theorem refuse_isSome {α : Type} {c : Prop} [Decidable c] {n : α} : (if c then none else some n : Option α).isSome = true ↔ ¬c := by
  split
  · exact ⟨fun h => (nomatch h), fun h => absurd ‹c› h⟩
  · exact ⟨fun _ => ‹_›, fun _ => rfl⟩

theorem countRun_eq (ok : Nat → Bool) (lim : Nat) (hok : ∀ c, ok c = true ↔ c < lim) (count n : Nat) (h : count ≤ lim) :
    countRun ok count n = min (count + n) lim := by
  induction n generalizing count with
  | zero => exact (Nat.min_eq_left h).symm
  | succ n ih =>
    unfold countRun
    by_cases hc : count < lim
    · rw [if_pos ((hok count).mpr hc), ih (count + 1) hc, Nat.add_right_comm, Nat.add_assoc]
    · rw [if_neg (fun ho => hc ((hok count).mp ho)), ih count h, Nat.min_eq_right (by omega), Nat.min_eq_right (by omega)]

end H4.Props.C20
