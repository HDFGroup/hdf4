import H4.Chunk
import H4.Lemmas.Slab
/-! C04, the chunk address arithmetic of `hchunks.c`: mixed-radix numbers (`lin` / `digits`, on the facts of Lemmas/Slab), the `DIM_REC` records, the pieces
    the `HMCPread` / `HMCPwrite` loops cut a request into (`Tiles`).  Inside one chunk row of the fastest dimension the address map is a translation
    (`byteAddr_add`): every piece is contiguous. -/
namespace H4.Chunk

theorem add_mod_of_lt {x d m : Nat} (h : x % d + m < d) : (x + m) % d = x % d + m := by
  have := Nat.div_add_mod x d
  rw [show x + m = (x % d + m) + (x / d) * d by rw [Nat.mul_comm]; omega]
  rw [Nat.add_mul_mod_self_right, Nat.mod_eq_of_lt h]

theorem add_div_of_lt {x d m : Nat} (h : x % d + m < d) : (x + m) / d = x / d := by
  have hd : 0 < d := by omega
  have := Nat.div_add_mod x d
  rw [show x + m = (x % d + m) + (x / d) * d by rw [Nat.mul_comm]; omega]
  rw [Nat.add_mul_div_right _ _ hd, Nat.div_eq_of_lt h]; omega

theorem map_range'_congr {α} (f g : Nat → α) (k a b : Nat) (h : ∀ j, j < k → f (a + j) = g (b + j)) :
    (List.range' a k).map f = (List.range' b k).map g := by
  rw [List.range'_eq_map_range, List.range'_eq_map_range, List.map_map, List.map_map]
  exact List.map_congr_left fun j hj => h j (List.mem_range.1 hj)

def AllPos (l : List Nat) : Prop := ∀ x ∈ l, 0 < x

instance (l : List Nat) : Decidable (AllPos l) := by unfold AllPos; infer_instance

/-- `xs` is a digit vector for the radices `rs`: same length and every digit below its radix -/
def Below : List Nat → List Nat → Prop
  | [], [] => True
  | x :: xs, r :: rs => x < r ∧ Below xs rs
  | _, _ => False

instance : (xs rs : List Nat) → Decidable (Below xs rs)
  | [], [] => isTrue trivial
  | x :: xs, r :: rs => by
    have := instDecidableBelow xs rs
    unfold Below; infer_instance
  | [], _ :: _ => isFalse (by simp [Below])
  | _ :: _, [] => isFalse (by simp [Below])

/-- spec-level digit extraction, fastest (last) radix first: (carry out, digits) -/
def digits : List Nat → Nat → Nat × List Nat
  | [], x => (x, [])
  | r :: rs, x => let t := digits rs x; (t.1 / r, (t.1 % r) :: t.2)

theorem allPos_cons {r : Nat} {rs : List Nat} : AllPos (r :: rs) ↔ 0 < r ∧ AllPos rs := by
  simp [AllPos]

theorem prod_pos {rs : List Nat} (h : AllPos rs) : 0 < rs.prod := by
  induction rs with
  | nil => simp
  | cons r rs ih =>
    rw [allPos_cons] at h
    simp only [List.prod_cons]
    exact Nat.mul_pos h.1 (ih h.2)

theorem lin_fst (rs xs : List Nat) : (lin rs xs).1 = rs.prod := by
  induction rs generalizing xs with
  | nil => simp [lin]
  | cons r rs ih => simp [lin, ih, Nat.mul_comm]

theorem below_length {xs rs : List Nat} (h : Below xs rs) : xs.length = rs.length := by
  induction xs generalizing rs with
  | nil => cases rs <;> simp_all [Below]
  | cons x xs ih =>
    cases rs with
    | nil => simp [Below] at h
    | cons r rs => simp [Below] at h; simp [ih h.2]

theorem below_iff_inB {xs rs : List Nat} : Below xs rs ↔ Slab.inB rs xs := by
  induction xs generalizing rs with
  | nil => cases rs <;> simp [Below, Slab.inB]
  | cons x xs ih => cases rs <;> simp [Below, Slab.inB, ih]

theorem prod_eq (rs : List Nat) : Slab.prod rs = rs.prod := by
  induction rs with
  | nil => rfl
  | cons r rs ih => simp [Slab.prod, ih]

theorem offset_eq_lin (rs xs : List Nat) : Slab.offset rs xs = (lin rs xs).2 := by
  induction rs generalizing xs with
  | nil => cases xs <;> rfl
  | cons r rs ih =>
    cases xs with
    | nil => simp only [Slab.offset, lin, List.tail_nil, List.headD_nil, Nat.zero_mul, Nat.add_zero, ← ih]
    | cons x xs => simp only [Slab.offset, lin, List.tail_cons, List.headD_cons, lin_fst, prod_eq, ih]; omega

theorem lin_lt {rs xs : List Nat} (h : Below xs rs) : (lin rs xs).2 < rs.prod := by
  rw [← offset_eq_lin, ← prod_eq]; exact Slab.offset_lt rs xs (below_iff_inB.1 h)

theorem lin_inj {rs xs ys : List Nat} (hx : Below xs rs) (hy : Below ys rs) (h : (lin rs xs).2 = (lin rs ys).2) : xs = ys :=
  Slab.offset_inj rs xs ys (below_iff_inB.1 hx) (below_iff_inB.1 hy) (by rw [offset_eq_lin, offset_eq_lin]; exact h)

theorem lin_drop (rs xs : List Nat) (k : Nat) (hr : k < rs.length) :
    (lin (rs.drop k) (xs.drop k)).2 =
      (lin (rs.drop (k + 1)) (xs.drop (k + 1))).2 + xs[k]?.getD 0 * (rs.drop (k + 1)).prod := by
  rw [List.drop_eq_getElem_cons hr]
  simp [lin, lin_fst, List.tail_drop, List.headD_eq_head?_getD, List.head?_drop]

theorem digits_spec {rs : List Nat} (hp : AllPos rs) (x : Nat) :
    Below (digits rs x).2 rs ∧ (lin rs (digits rs x).2).2 + (digits rs x).1 * rs.prod = x := by
  induction rs with
  | nil => simp [digits, Below, lin]
  | cons r rs ih =>
    rw [allPos_cons] at hp
    obtain ⟨hb, hs⟩ := ih hp.2
    refine ⟨⟨Nat.mod_lt _ hp.1, hb⟩, ?_⟩
    simp only [digits, lin, List.tail_cons, List.headD_cons, lin_fst, List.prod_cons]
    have := Nat.div_add_mod (digits rs x).1 r
    generalize (lin rs (digits rs x).2).2 = a at *
    generalize (digits rs x).1 = t at *
    generalize rs.prod = P at *
    subst hs
    show a + t % r * P + t / r * (r * P) = a + t * P
    rw [Nat.add_assoc, ← Nat.mul_assoc, ← Nat.add_mul, Nat.add_comm (t % r), Nat.mul_comm (t / r), this]

theorem digits_lin {rs xs : List Nat} (hp : AllPos rs) (h : Below xs rs) (q : Nat) :
    digits rs ((lin rs xs).2 + q * rs.prod) = (q, xs) := by
  induction rs generalizing xs q with
  | nil => cases xs <;> simp_all [Below, lin, digits]
  | cons r rs ih =>
    cases xs with
    | nil => simp [Below] at h
    | cons x xs =>
      rw [allPos_cons] at hp
      simp only [Below] at h
      simp only [lin, List.tail_cons, List.headD_cons, lin_fst, List.prod_cons, digits]
      have e : (lin rs xs).2 + x * rs.prod + q * (r * rs.prod) = (lin rs xs).2 + (x + q * r) * rs.prod := by
        rw [Nat.add_assoc, ← Nat.mul_assoc, ← Nat.add_mul]
      rw [e, ih hp.2 h.2]
      simp only [Nat.add_mul_div_right _ _ hp.1, Nat.add_mul_mod_self_right, Nat.div_eq_of_lt h.1, Nat.mod_eq_of_lt h.1]
      simp

theorem digits_of_lt {rs : List Nat} (hp : AllPos rs) {x : Nat} (hx : x < rs.prod) :
    (digits rs x).1 = 0 ∧ (lin rs (digits rs x).2).2 = x := by
  obtain ⟨_, hs⟩ := digits_spec hp x
  have hP := prod_pos hp
  have hq : (digits rs x).1 = 0 := by
    apply Classical.byContradiction; intro hne
    have : rs.prod ≤ (digits rs x).1 * rs.prod := Nat.le_mul_of_pos_left _ (Nat.pos_of_ne_zero hne)
    omega
  rw [hq] at hs
  exact ⟨hq, by omega⟩

/-- what `HMCcreate`/`HMCIstaccess` establish for a dimension with positive lengths:
    `(num_chunks-1)·chunk_length + last_chunk_length = dim_length`, `0 < last_chunk_length ≤ chunk_length` -/
def DimRec.WF (r : DimRec) : Prop :=
  0 < r.chunkLength ∧ 0 < r.lastChunkLength ∧ r.lastChunkLength ≤ r.chunkLength ∧ 0 < r.numChunks ∧
  (r.numChunks - 1) * r.chunkLength + r.lastChunkLength = r.dimLength

instance (r : DimRec) : Decidable r.WF := by unfold DimRec.WF; infer_instance

theorem mkDimRec_wf {d c : Nat} (hd : 0 < d) (hc : 0 < c) :
    (mkDimRec d c).WF ∧ (mkDimRec d c).dimLength = d ∧ (mkDimRec d c).chunkLength = c := by
  have hd0 : (d == 0) = false := by simp; omega
  have hdm := Nat.div_add_mod d c
  unfold mkDimRec
  simp only [hd0, Bool.false_eq_true, if_false]
  by_cases hodd : d % c = 0
  · have : ((d % c != 0) = false) := by simp [hodd]
    simp only [this, Bool.false_eq_true, if_false, DimRec.WF]
    have hq : 0 < d / c := by
      apply Nat.pos_of_ne_zero; intro h0; rw [h0, hodd] at hdm; omega
    refine ⟨⟨hc, hc, Nat.le_refl _, hq, ?_⟩, trivial, trivial⟩
    obtain ⟨n, hn⟩ : ∃ n, d / c = n + 1 := ⟨d / c - 1, by omega⟩
    rw [hn] at hdm ⊢
    rw [hodd] at hdm
    simp only [Nat.add_sub_cancel]
    rw [← hdm]; grind
  · have : ((d % c != 0) = true) := by simp [hodd]
    simp only [this, if_true, DimRec.WF]
    refine ⟨⟨hc, Nat.pos_of_ne_zero hodd, Nat.le_of_lt (Nat.mod_lt _ hc), Nat.succ_pos _, ?_⟩, trivial, trivial⟩
    simp only [Nat.add_sub_cancel]
    rw [Nat.mul_comm]; exact hdm

theorem DimRec.WF.dim_pos {r : DimRec} (h : r.WF) : 0 < r.dimLength := by
  obtain ⟨_, h2, _, _, h5⟩ := h; omega

theorem DimRec.WF.idx {r : DimRec} (h : r.WF) {a : Nat} (ha : a < r.dimLength) :
    a / r.chunkLength < r.numChunks ∧ a % r.chunkLength < r.chunkLength ∧
    (a / r.chunkLength + 1 = r.numChunks → a % r.chunkLength < r.lastChunkLength) ∧
    (a / r.chunkLength + 1 ≠ r.numChunks → a + (r.chunkLength - a % r.chunkLength) ≤ r.dimLength) := by
  obtain ⟨hc, hl, hlc, hn, hd⟩ := h
  have hdm := Nat.div_add_mod a r.chunkLength
  have hml := Nat.mod_lt a hc
  obtain ⟨n, hn'⟩ : ∃ n, r.numChunks = n + 1 := ⟨r.numChunks - 1, by omega⟩
  rw [hn'] at hd ⊢
  simp only [Nat.add_sub_cancel] at hd
  have h1 : a / r.chunkLength < n + 1 := by
    rw [Nat.div_lt_iff_lt_mul hc]
    have := Nat.add_one_mul n r.chunkLength
    omega
  refine ⟨h1, hml, ?_, ?_⟩
  · intro he
    have he' : a / r.chunkLength = n := by omega
    rw [he', Nat.mul_comm] at hdm
    omega
  · intro hne
    have hlt : a / r.chunkLength + 1 ≤ n := by omega
    have := Nat.mul_le_mul_left r.chunkLength hlt
    have e := Nat.mul_add_one r.chunkLength (a / r.chunkLength)
    rw [Nat.mul_comm r.chunkLength n] at this
    omega

def DDWF (dd : List DimRec) : Prop := ∀ r ∈ dd, r.WF

instance (dd : List DimRec) : Decidable (DDWF dd) := by unfold DDWF; infer_instance

theorem ddwf_cons {d : DimRec} {ds : List DimRec} : DDWF (d :: ds) ↔ d.WF ∧ DDWF ds := by simp [DDWF]

abbrev dimsOf (dd : List DimRec) : List Nat := dd.map (·.dimLength)
abbrev cdimsOf (dd : List DimRec) : List Nat := dd.map (·.chunkLength)
abbrev nchunksOf (dd : List DimRec) : List Nat := dd.map (·.numChunks)

theorem ddwf_pos {dd : List DimRec} (h : DDWF dd) :
    AllPos (dimsOf dd) ∧ AllPos (cdimsOf dd) ∧ AllPos (nchunksOf dd) := by
  induction dd with
  | nil => simp [AllPos]
  | cons d ds ih =>
    rw [ddwf_cons] at h
    obtain ⟨a, b, c⟩ := ih h.2
    simp only [List.map_cons, allPos_cons]
    exact ⟨⟨h.1.dim_pos, a⟩, ⟨h.1.1, b⟩, ⟨h.1.2.2.2.1, c⟩⟩

theorem mkDims_spec : ∀ {dims cdims : List Nat}, dims.length = cdims.length → AllPos dims → AllPos cdims →
    DDWF (mkDims dims cdims) ∧ dimsOf (mkDims dims cdims) = dims ∧ cdimsOf (mkDims dims cdims) = cdims
  | [], [], _, _, _ => by simp [mkDims, DDWF]
  | d :: ds, c :: cs, hl, hd, hc => by
    rw [allPos_cons] at hd hc
    obtain ⟨a, b, e⟩ := mkDims_spec (dims := ds) (cdims := cs) (by simpa using hl) hd.2 hc.2
    obtain ⟨w, wd, wc⟩ := mkDimRec_wf hd.1 hc.1
    simp only [mkDims, ddwf_cons, List.map_cons]
    exact ⟨⟨w, a⟩, by rw [wd]; exact congrArg (d :: ·) b, by rw [wc]; exact congrArg (c :: ·) e⟩
  | [], _ :: _, hl, _, _ => by simp at hl
  | _ :: _, [], hl, _, _ => by simp at hl

def sbiOf : List DimRec → List Nat → List Nat
  | d :: ds, a :: as => a / d.chunkLength :: sbiOf ds as
  | _, _ => []

def spbOf : List DimRec → List Nat → List Nat
  | d :: ds, a :: as => a % d.chunkLength :: spbOf ds as
  | _, _ => []

theorem ucisLoop_eq (dd : List DimRec) (x : Nat) :
    ucisLoop dd x = ((digits (dimsOf dd) x).1, sbiOf dd (digits (dimsOf dd) x).2, spbOf dd (digits (dimsOf dd) x).2) := by
  induction dd with
  | nil => rfl
  | cons d ds ih => rw [ucisLoop, ih]; rfl

theorem sbi_spb_below {dd : List DimRec} (h : DDWF dd) {a : List Nat} (ha : Below a (dimsOf dd)) :
    Below (sbiOf dd a) (nchunksOf dd) ∧ Below (spbOf dd a) (cdimsOf dd) := by
  induction dd generalizing a with
  | nil => cases a <;> simp_all [Below, sbiOf, spbOf]
  | cons d ds ih =>
    cases a with
    | nil => simp [Below] at ha
    | cons a as =>
      rw [ddwf_cons] at h
      simp only [List.map_cons, Below] at ha
      obtain ⟨i1, i2⟩ := ih h.2 ha.2
      obtain ⟨f1, f2, _, _⟩ := h.1.idx ha.1
      simp only [sbiOf, spbOf, List.map_cons, Below]
      exact ⟨⟨f1, i1⟩, ⟨f2, i2⟩⟩

theorem divmod_inj {dd : List DimRec} {a b : List Nat} (ha : a.length = dd.length) (hb : b.length = dd.length)
    (h1 : sbiOf dd a = sbiOf dd b) (h2 : spbOf dd a = spbOf dd b) : a = b := by
  induction dd generalizing a b with
  | nil => cases a <;> cases b <;> simp_all
  | cons d ds ih =>
    cases a with
    | nil => simp at ha
    | cons x xs =>
      cases b with
      | nil => simp at hb
      | cons y ys =>
        simp only [sbiOf, spbOf, List.cons.injEq] at h1 h2
        have := ih (by simpa using ha) (by simpa using hb) h1.2 h2.2
        have e1 := Nat.div_add_mod x d.chunkLength
        have e2 := Nat.div_add_mod y d.chunkLength
        rw [h1.1, h2.1] at e1
        simp [this]; omega

theorem elem_addr_inj {dd : List DimRec} (h : DDWF dd) {x y : Nat}
    (hx : x < (dimsOf dd).prod) (hy : y < (dimsOf dd).prod)
    (hc : calculateChunkNum dd (ucisLoop dd x).2.1 = calculateChunkNum dd (ucisLoop dd y).2.1)
    (hs : (lin (cdimsOf dd) (ucisLoop dd x).2.2).2 = (lin (cdimsOf dd) (ucisLoop dd y).2.2).2) : x = y := by
  obtain ⟨pD, _, _⟩ := ddwf_pos h
  simp only [ucisLoop_eq, calculateChunkNum] at hc hs
  obtain ⟨bx, _⟩ := digits_spec pD x
  obtain ⟨by', _⟩ := digits_spec pD y
  obtain ⟨sx, px⟩ := sbi_spb_below h bx
  obtain ⟨sy, py⟩ := sbi_spb_below h by'
  have e1 := lin_inj sx sy hc
  have e2 := lin_inj px py hs
  have := divmod_inj (by simpa using below_length bx) (by simpa using below_length by') e1 e2
  have vx := (digits_of_lt pD hx).2
  have vy := (digits_of_lt pD hy).2
  rw [this] at vx
  omega

/-- `d0`, `n0`, `p0`: the defaults of the `getLastD`s; arguments because the recursion hands other ones down, irrelevant because `dd ≠ []` -/
theorem ucisLoop_last : ∀ {dd : List DimRec}, dd ≠ [] → ∀ (x : Nat) (d0 : DimRec) (n0 p0 : Nat),
    (ucisLoop dd x).2.1.getLastD n0 = (x % (dd.getLastD d0).dimLength) / (dd.getLastD d0).chunkLength ∧
    (ucisLoop dd x).2.2.getLastD p0 = (x % (dd.getLastD d0).dimLength) % (dd.getLastD d0).chunkLength
  | [], h, _, _, _, _ => absurd rfl h
  | [d], _, x, _, _, _ => by simp [ucisLoop]
  | d :: d' :: ds, _, x, d0, n0, p0 => by
    have ih := ucisLoop_last (dd := d' :: ds) (by simp) x d
    rw [ucisLoop]
    simp only [List.getLastD_cons] at ih ⊢
    exact ih _ _

theorem ucisLoop_add : ∀ {dd : List DimRec}, dd ≠ [] → ∀ (x m : Nat) (d0 : DimRec),
    (x % (dd.getLastD d0).dimLength) % (dd.getLastD d0).chunkLength + m < (dd.getLastD d0).chunkLength →
    x % (dd.getLastD d0).dimLength + m < (dd.getLastD d0).dimLength →
    (ucisLoop dd (x + m)).1 = (ucisLoop dd x).1 ∧ (ucisLoop dd (x + m)).2.1 = (ucisLoop dd x).2.1 ∧
    (lin (cdimsOf dd) (ucisLoop dd (x + m)).2.2).2 = (lin (cdimsOf dd) (ucisLoop dd x).2.2).2 + m
  | [], h, _, _, _, _, _ => absurd rfl h
  | [d], _, x, m, _, h1, h2 => by
    simp only [List.getLastD_cons, List.getLastD_nil] at h1 h2
    simp only [ucisLoop, List.map_cons, List.map_nil, lin, List.headD_cons, Nat.mul_one, Nat.zero_add]
    rw [add_mod_of_lt h2, add_div_of_lt h2, add_mod_of_lt h1, add_div_of_lt h1]
    exact ⟨rfl, rfl, rfl⟩
  | d :: d' :: ds, _, x, m, d0, h1, h2 => by
    have ih := ucisLoop_add (dd := d' :: ds) (by simp) x m d
    simp only [List.getLastD_cons] at ih h1 h2
    obtain ⟨i1, i2, i3⟩ := ih h1 h2
    have e : ∀ y, ucisLoop (d :: d' :: ds) y = ((ucisLoop (d' :: ds) y).1 / d.dimLength,
        ((ucisLoop (d' :: ds) y).1 % d.dimLength / d.chunkLength) :: (ucisLoop (d' :: ds) y).2.1,
        ((ucisLoop (d' :: ds) y).1 % d.dimLength % d.chunkLength) :: (ucisLoop (d' :: ds) y).2.2) := fun _ => rfl
    rw [e, e, i1, i2]
    refine ⟨rfl, rfl, ?_⟩
    simp only [List.map_cons, lin, List.tail_cons, List.headD_cons, lin_fst] at i3 ⊢
    omega

theorem getLastD_mem {α} {l : List α} (h : l ≠ []) (d0 : α) : l.getLastD d0 ∈ l := by
  rw [List.getLastD_eq_getLast?, List.getLast?_eq_some_getLast h]; exact List.getLast_mem h

/-- chunk number holding byte `q` of the element, as `HMCPread/HMCPwrite` compute it -/
def chunkNumAt (dd : List DimRec) (nt q : Nat) : Nat :=
  calculateChunkNum dd (updateChunkIndicesSeek dd nt q).1

/-- `read_seek`/`write_seek` for byte position `q` (start of the element containing `q`) -/
def seekAt (dd : List DimRec) (nt q : Nat) : Nat :=
  calculateSeekInChunk dd nt (updateChunkIndicesSeek dd nt q).2

/-- SPEC: where byte `q` of the flat element lives: (chunk number, byte offset inside that chunk's buffer) -/
def byteAddr (dd : List DimRec) (nt q : Nat) : Nat × Nat :=
  (chunkNumAt dd nt q, seekAt dd nt q + q % nt)

/-- elements left, from element number `x` on, in the current chunk row of the fastest dimension
    (`last_chunk_length - spb` in the last chunk, `chunk_length - spb` otherwise) -/
def rowRem (dd : List DimRec) (x : Nat) : Nat :=
  let dl := dd.getLastD default
  let a := x % dl.dimLength
  (if a / dl.chunkLength + 1 = dl.numChunks then dl.lastChunkLength else dl.chunkLength) - a % dl.chunkLength

theorem rowRem_facts {dd : List DimRec} (h : DDWF dd) (hne : dd ≠ []) (x : Nat) :
    let dl := dd.getLastD default
    let a := x % dl.dimLength
    0 < rowRem dd x ∧ a % dl.chunkLength + rowRem dd x ≤ dl.chunkLength ∧ a + rowRem dd x ≤ dl.dimLength ∧
    (a % dl.chunkLength + rowRem dd x = dl.chunkLength ∨ a + rowRem dd x = dl.dimLength) := by
  have hw : (dd.getLastD default).WF := h _ (getLastD_mem hne _)
  unfold rowRem
  dsimp only
  generalize dd.getLastD default = dl at hw ⊢
  have ha : x % dl.dimLength < dl.dimLength := Nat.mod_lt _ hw.dim_pos
  generalize x % dl.dimLength = a at ha ⊢
  obtain ⟨f1, f2, f3, f4⟩ := hw.idx ha
  obtain ⟨hc, hl, hlc, hn, hd⟩ := hw
  have hdm := Nat.div_add_mod a dl.chunkLength
  by_cases he : a / dl.chunkLength + 1 = dl.numChunks
  · have := f3 he
    rw [show a / dl.chunkLength = dl.numChunks - 1 by omega, Nat.mul_comm] at hdm
    rw [if_pos he]
    omega
  · have := f4 he
    rw [if_neg he]
    omega

theorem cfc_eq {dd : List DimRec} (h : DDWF dd) (hne : dd ≠ []) (nt len done x : Nat) (hd : done ≤ len) :
    calculateChunkForChunk dd nt len done (ucisLoop dd x).2.1 (ucisLoop dd x).2.2
      = ((min (len - done) (rowRem dd x * nt) : Nat) : Int) := by
  obtain ⟨r1, r2, r3, _⟩ := rowRem_facts h hne x
  obtain ⟨l1, l2⟩ := ucisLoop_last hne x default 0 0
  unfold calculateChunkForChunk
  simp only [l1, l2]
  unfold rowRem at r1 r2 r3 ⊢
  simp only [] at r1 r2 r3 ⊢
  generalize (dd.getLastD default) = dl at *
  generalize x % dl.dimLength = a at *
  simp only [beq_iff_eq]
  by_cases he : a / dl.chunkLength + 1 = dl.numChunks
  · simp only [he, if_true] at r1 r2 r3 ⊢
    have e : ((dl.lastChunkLength : Int) - ((a % dl.chunkLength : Nat) : Int)) * (nt : Int)
        = (((dl.lastChunkLength - a % dl.chunkLength) * nt : Nat) : Int) := by
      rw [Int.natCast_mul, Int.natCast_sub (by omega)]
    rw [e]
    generalize (dl.lastChunkLength - a % dl.chunkLength) * nt = z
    omega
  · simp only [he, if_false] at r1 r2 r3 ⊢
    have e : ((dl.chunkLength : Int) - ((a % dl.chunkLength : Nat) : Int)) * (nt : Int)
        = (((dl.chunkLength - a % dl.chunkLength) * nt : Nat) : Int) := by
      rw [Int.natCast_mul, Int.natCast_sub (by omega)]
    rw [e]
    generalize (dl.chunkLength - a % dl.chunkLength) * nt = z
    omega

theorem byteAddr_add {dd : List DimRec} (h : DDWF dd) (hne : dd ≠ []) {nt : Nat} (hnt : 0 < nt) {p j : Nat}
    (hj : p % nt + j < rowRem dd (p / nt) * nt) :
    byteAddr dd nt (p + j) = (chunkNumAt dd nt p, seekAt dd nt p + p % nt + j) := by
  obtain ⟨r1, r2, r3, _⟩ := rowRem_facts h hne (p / nt)
  have hm : (p % nt + j) / nt < rowRem dd (p / nt) := (Nat.div_lt_iff_lt_mul hnt).2 hj
  have hp := Nat.div_add_mod p nt
  have e : p + j = (p % nt + j) + p / nt * nt := by rw [Nat.mul_comm]; omega
  have e1 : (p + j) / nt = p / nt + (p % nt + j) / nt := by rw [e, Nat.add_mul_div_right _ _ hnt]; omega
  have e2 : (p + j) % nt = (p % nt + j) % nt := by rw [e, Nat.add_mul_mod_self_right]
  obtain ⟨_, a2, a3⟩ := ucisLoop_add hne (p / nt) ((p % nt + j) / nt) default (by omega) (by omega)
  unfold byteAddr chunkNumAt seekAt updateChunkIndicesSeek calculateSeekInChunk
  rw [e1, e2, a2, a3]
  have := Nat.div_add_mod (p % nt + j) nt
  congr 1
  grind

theorem piece_len {dd : List DimRec} (hw : DDWF dd) (hne : dd ≠ []) {nt : Nat} (hnt : 0 < nt)
    (p len done : Nat) (hrem : done < len) :
    ∃ k : Nat, calculateChunkForChunk dd nt (len + p % nt) done (updateChunkIndicesSeek dd nt p).1
        (updateChunkIndicesSeek dd nt p).2 - ((p % nt : Nat) : Int) = (k : Int) ∧
      0 < k ∧ k ≤ len - done ∧ p % nt + k ≤ rowRem dd (p / nt) * nt ∧
      (k = len - done ∨ p % nt + k = rowRem dd (p / nt) * nt) := by
  have hoff : p % nt < nt := Nat.mod_lt _ hnt
  have hrow : nt ≤ rowRem dd (p / nt) * nt := Nat.le_mul_of_pos_left _ (rowRem_facts hw hne (p / nt)).1
  refine ⟨min (len + p % nt - done) (rowRem dd (p / nt) * nt) - p % nt, ?_, ?_⟩
  · rw [show updateChunkIndicesSeek dd nt p = (ucisLoop dd (p / nt)).2 from rfl,
      cfc_eq hw hne nt (len + p % nt) done (p / nt) (by omega), Int.natCast_sub (by omega)]
  · generalize rowRem dd (p / nt) * nt = R at *
    omega

/-- `ps` cuts the byte range `[rp, rp+n)` into consecutive non-empty pieces, each of which occupies consecutive
    addresses of one chunk buffer, namely the addresses `addr` assigns to its bytes -/
def Tiles (addr : Nat → Nat × Nat) : Nat → List Piece → Nat → Prop
  | _, [], n => n = 0
  | rp, pc :: ps, n => pc.pos = rp ∧ 0 < pc.size ∧ pc.size ≤ n ∧
      (∀ j, j < pc.size → addr (rp + j) = (pc.chunk, pc.seek + j)) ∧ Tiles addr (rp + pc.size) ps (n - pc.size)

theorem walkLoop_tiles {dd : List DimRec} (h : DDWF dd) (hne : dd ≠ []) {nt : Nat} (hnt : 0 < nt) (len : Nat) :
    ∀ (fuel rp done : Nat), done ≤ len → len - done ≤ fuel →
    Tiles (byteAddr dd nt) rp
      (walkLoop dd nt len fuel rp done (updateChunkIndicesSeek dd nt rp).1 (updateChunkIndicesSeek dd nt rp).2)
      (len - done)
  | 0, rp, done, _, h2 => by simp only [walkLoop, Tiles]; omega
  | fuel + 1, rp, done, h1, h2 => by
    rw [walkLoop]
    by_cases hlt : done < len
    · obtain ⟨k, hk, k1, k2, k3, _⟩ := piece_len h hne hnt rp len done hlt
      have hnot : ¬ ((k : Int) ≤ 0) := by omega
      simp only [hlt, if_true, hk, hnot, if_false, Int.toNat_natCast, Tiles]
      refine ⟨trivial, k1, k2, fun j hj => ?_, ?_⟩
      · exact byteAddr_add h hne hnt (by omega)
      · have := walkLoop_tiles h hne hnt len fuel (rp + k) (done + k) (by omega) (by omega)
        rw [show len - done - k = len - (done + k) by omega]
        exact this
    · simp only [hlt, if_false, Tiles]; omega

theorem walk_tiles {dd : List DimRec} (h : DDWF dd) (hne : dd ≠ []) {nt : Nat} (hnt : 0 < nt)
    (pos len : Nat) : Tiles (byteAddr dd nt) pos (walk dd nt pos len) len := by
  have := walkLoop_tiles h hne hnt len len pos 0 (by omega) (by omega)
  simpa [walk] using this

/-- chunk-buffer addresses touched by one piece, in `memcpy` order -/
def Piece.addrs (pc : Piece) : List (Nat × Nat) := (List.range' pc.seek pc.size).map fun o => (pc.chunk, o)

theorem tiles_flatMap {α} {addr : Nat → Nat × Nat} (g : Piece → List α) (f : Nat → α) :
    ∀ {ps : List Piece} {rp n : Nat}, Tiles addr rp ps n →
      (∀ pc ∈ ps, rp ≤ pc.pos → pc.pos + pc.size ≤ rp + n → (∀ j, j < pc.size → addr (pc.pos + j) = (pc.chunk, pc.seek + j)) →
        g pc = (List.range' pc.pos pc.size).map f) →
      ps.flatMap g = (List.range' rp n).map f
  | [], _, _, h, _ => by simp only [Tiles] at h; simp [h]
  | pc :: ps, rp, n, h, hg => by
    obtain ⟨h1, _, h3, h4, h5⟩ := h
    rw [List.flatMap_cons, hg pc List.mem_cons_self (by omega) (by omega) (h1 ▸ h4), h1,
      tiles_flatMap g f h5 fun x hx h6 h7 => hg x (List.mem_cons_of_mem _ hx) (by omega) (by omega), ← List.map_append]
    have := @List.range'_append rp pc.size (n - pc.size) 1
    simp only [Nat.one_mul] at this
    rw [this]; congr 2; omega

theorem tiles_positions {addr : Nat → Nat × Nat} {ps : List Piece} {rp n : Nat} (h : Tiles addr rp ps n) :
    ps.flatMap (fun pc => List.range' pc.pos pc.size) = List.range' rp n := by
  rw [tiles_flatMap _ id h fun _ _ _ _ _ => (List.map_id _).symm, List.map_id]

theorem tiles_addrs {addr : Nat → Nat × Nat} {ps : List Piece} {rp n : Nat} (h : Tiles addr rp ps n) :
    ps.flatMap Piece.addrs = (List.range' rp n).map addr :=
  tiles_flatMap _ addr h fun _ _ _ _ h4 => map_range'_congr _ _ _ _ _ fun j hj => (h4 j hj).symm

theorem tiles_pos {addr : Nat → Nat × Nat} : ∀ {ps : List Piece} {rp n : Nat}, Tiles addr rp ps n →
    ∀ pc ∈ ps, 0 < pc.size
  | [], _, _, _ => by simp
  | pc :: ps, rp, n, h => by
    obtain ⟨_, h2, _, _, h5⟩ := h
    intro x hx
    rcases List.mem_cons.mp hx with rfl | hx
    · exact h2
    · exact tiles_pos h5 x hx

theorem tiles_sizes {addr : Nat → Nat × Nat} : ∀ {ps : List Piece} {rp n : Nat}, Tiles addr rp ps n →
    (ps.map (·.size)).sum = n
  | [], _, _, h => by simp only [Tiles] at h; simp [h]
  | pc :: ps, rp, n, h => by
    obtain ⟨_, _, h3, _, h5⟩ := h
    simp only [List.map_cons, List.sum_cons, tiles_sizes h5]; omega

theorem byteAddr_inj {dd : List DimRec} (h : DDWF dd) {nt : Nat} (hnt : 0 < nt) {q1 q2 : Nat}
    (h1 : q1 < (dimsOf dd).prod * nt) (h2 : q2 < (dimsOf dd).prod * nt)
    (he : byteAddr dd nt q1 = byteAddr dd nt q2) : q1 = q2 := by
  unfold byteAddr chunkNumAt seekAt updateChunkIndicesSeek calculateSeekInChunk at he
  obtain ⟨hc, hs⟩ := Prod.mk.inj he
  have m1 := Nat.mod_lt q1 hnt
  have m2 := Nat.mod_lt q2 hnt
  obtain ⟨e2, e1⟩ := Slab.radix_inj m1 m2 hs
  have x1 : q1 / nt < (dimsOf dd).prod := (Nat.div_lt_iff_lt_mul hnt).2 h1
  have x2 : q2 / nt < (dimsOf dd).prod := (Nat.div_lt_iff_lt_mul hnt).2 h2
  have := elem_addr_inj h x1 x2 hc e2
  have d1 := Nat.div_add_mod q1 nt
  have d2 := Nat.div_add_mod q2 nt
  rw [this, e1] at d1
  omega

/-- the chunk buffers `st` hold the flat byte array `f` (of `total` bytes) -/
def Sim (dd : List DimRec) (nt total : Nat) (st : Store) (f : Nat → UInt8) : Prop :=
  ∀ q, q < total → st.get (byteAddr dd nt q).1 (byteAddr dd nt q).2 = f q

def flatWrite (f : Nat → UInt8) (pos : Nat) (data : List UInt8) : Nat → UInt8 :=
  fun q => if pos ≤ q ∧ q < pos + data.length then data.getD (q - pos) 0 else f q

theorem copyIn_get (st : Store) (c o : Nat) (bs : List UInt8) (c' o' : Nat) :
    (st.copyIn c o bs).get c' o' =
      if c' = c ∧ o ≤ o' ∧ o' < o + bs.length then bs.getD (o' - o) 0 else st.get c' o' := by
  simp [Store.copyIn, Array.getD, List.getD]
  split <;> rename_i hh
  · have : o' - o < bs.length := by omega
    simp [this]
  · rfl

theorem flatWrite_split (f : Nat → UInt8) (rp k : Nat) (data : List UInt8) (hk : k ≤ data.length) (q : Nat) :
    flatWrite (flatWrite f rp (data.take k)) (rp + k) (data.drop k) q = flatWrite f rp data q := by
  unfold flatWrite
  simp only [List.length_take, List.length_drop, List.getD_eq_getElem?_getD, List.getElem?_drop, List.getElem?_take,
    Nat.min_eq_left hk]
  by_cases c1 : rp + k ≤ q ∧ q < rp + k + (data.length - k)
  · have c2 : rp ≤ q ∧ q < rp + data.length := by omega
    simp only [c1, c2, and_self, if_true]
    congr 2; omega
  · simp only [c1, if_false]
    by_cases c3 : rp ≤ q ∧ q < rp + k
    · have c2 : rp ≤ q ∧ q < rp + data.length := by omega
      have c4 : q - rp < k := by omega
      simp [c2, c3, c4]
    · have c2 : ¬ (rp ≤ q ∧ q < rp + data.length) := by omega
      simp [c2, c3]

theorem sim_piece {dd : List DimRec} (h : DDWF dd) {nt : Nat} (hnt : 0 < nt) {st : Store} {f : Nat → UInt8}
    (hs : Sim dd nt ((dimsOf dd).prod * nt) st f) {rp c sk : Nat} {bs : List UInt8}
    (ha : ∀ j, j < bs.length → byteAddr dd nt (rp + j) = (c, sk + j))
    (hr : rp + bs.length ≤ (dimsOf dd).prod * nt) :
    Sim dd nt ((dimsOf dd).prod * nt) (st.copyIn c sk bs) (flatWrite f rp bs) := by
  intro q hq
  rw [copyIn_get]
  unfold flatWrite
  by_cases hin : rp ≤ q ∧ q < rp + bs.length
  · have := ha (q - rp) (by omega)
    rw [show rp + (q - rp) = q by omega] at this
    rw [this]
    have c1 : c = c ∧ sk ≤ sk + (q - rp) ∧ sk + (q - rp) < sk + bs.length := by omega
    simp only [c1, hin, and_self, if_true]
    congr 1; omega
  · simp only [hin, if_false]
    by_cases hit : (byteAddr dd nt q).1 = c ∧ sk ≤ (byteAddr dd nt q).2 ∧ (byteAddr dd nt q).2 < sk + bs.length
    · exfalso
      have hj : (byteAddr dd nt q).2 - sk < bs.length := by omega
      have := ha _ hj
      have e : byteAddr dd nt q = byteAddr dd nt (rp + ((byteAddr dd nt q).2 - sk)) := by
        rw [this]; apply Prod.ext
        · exact hit.1
        · simp only []; omega
      have := byteAddr_inj h hnt hq (by omega) e
      omega
    · simp only [hit, if_false]
      exact hs q hq

theorem write_sim {dd : List DimRec} (h : DDWF dd) {nt : Nat} (hnt : 0 < nt) :
    ∀ {ps : List Piece} {rp : Nat} {data : List UInt8} {st : Store} {f : Nat → UInt8},
    Tiles (byteAddr dd nt) rp ps data.length → rp + data.length ≤ (dimsOf dd).prod * nt →
    Sim dd nt ((dimsOf dd).prod * nt) st f →
    Sim dd nt ((dimsOf dd).prod * nt) (writePieces st ps data) (flatWrite f rp data)
  | [], rp, data, st, f, ht, _, hs => by
    simp only [Tiles] at ht
    intro q hq
    simp only [writePieces, flatWrite, ht]
    rw [hs q hq]
    have : ¬ (rp ≤ q ∧ q < rp + 0) := by omega
    simp only [this, if_false]
  | pc :: ps, rp, data, st, f, ht, hr, hs => by
    obtain ⟨_, h2, h3, h4, h5⟩ := ht
    have hlen : (data.take pc.size).length = pc.size := by simp [List.length_take]; omega
    have s1 := sim_piece h hnt hs (rp := rp) (c := pc.chunk) (sk := pc.seek) (bs := data.take pc.size)
      (by rw [hlen]; exact h4) (by rw [hlen]; omega)
    have h5' : Tiles (byteAddr dd nt) (rp + pc.size) ps (data.drop pc.size).length := by
      rw [List.length_drop]; exact h5
    have s2 := write_sim h hnt h5' (by rw [List.length_drop]; omega) s1
    intro q hq
    rw [writePieces, s2 q hq, flatWrite_split f rp pc.size data h3 q]

theorem read_sim {dd : List DimRec} {nt total : Nat} {st : Store} {f : Nat → UInt8} (hs : Sim dd nt total st f)
    {ps : List Piece} {rp n : Nat} (ht : Tiles (byteAddr dd nt) rp ps n) (hr : rp + n ≤ total) :
    readPieces st ps = (List.range' rp n).map f :=
  tiles_flatMap _ f ht fun pc _ _ h7 h4 => map_range'_congr _ _ _ _ _ fun j hj => by
    rw [← hs (pc.pos + j) (by omega), h4 j hj]

theorem sim_init {dd : List DimRec} {nt total : Nat} {fill : List UInt8} (hf : fill.length ∣ nt) :
    Sim dd nt total (initStore fill) (fillAt fill) := by
  intro q _
  obtain ⟨t, ht⟩ := hf
  simp only [initStore, fillAt, byteAddr, seekAt, calculateSeekInChunk]
  congr 1
  rw [ht, Nat.mul_comm fill.length t, ← Nat.mul_assoc, Nat.add_comm, Nat.add_mul_mod_self_right,
    ← Nat.mul_comm fill.length t]
  exact Nat.mod_mul_right_mod _ _ _

/-- `(sbi, spb)` names a real (non-ghost) cell: chunk index below `num_chunks`, position below `chunk_length`
    and, in the last chunk of a dimension, below `last_chunk_length` -/
def CoordOK : List DimRec → List Nat → List Nat → Prop
  | [], [], [] => True
  | d :: ds, b :: bs, p :: ps =>
    b < d.numChunks ∧ p < d.chunkLength ∧ (b + 1 = d.numChunks → p < d.lastChunkLength) ∧ CoordOK ds bs ps
  | _, _, _ => False

instance : (dd : List DimRec) → (sbi spb : List Nat) → Decidable (CoordOK dd sbi spb)
  | [], [], [] => isTrue trivial
  | d :: ds, b :: bs, p :: ps => by
    have := instDecidableCoordOK ds bs ps
    unfold CoordOK; infer_instance
  | [], _ :: _, _ => isFalse (by simp [CoordOK])
  | [], [], _ :: _ => isFalse (by simp [CoordOK])
  | _ :: _, [], _ => isFalse (by simp [CoordOK])
  | _ :: _, _ :: _, [] => isFalse (by simp [CoordOK])

/-- one cell of `compute_chunk_to_array` (body of the model's recursion) -/
def c2aElem (d : DimRec) (ci pi : Nat) : Nat :=
  if ci + 1 == d.numChunks then ci * d.chunkLength + (if pi > d.lastChunkLength then d.lastChunkLength else pi)
  else ci * d.chunkLength + pi

theorem c2a_cons (d : DimRec) (ds : List DimRec) (b : Nat) (bs : List Nat) (p : Nat) (ps : List Nat) :
    computeChunkToArray (d :: ds) (b :: bs) (p :: ps) = c2aElem d b p :: computeChunkToArray ds bs ps := rfl

theorem c2aElem_eq {d : DimRec} {b p : Nat} (h : b + 1 = d.numChunks → p ≤ d.lastChunkLength) :
    c2aElem d b p = b * d.chunkLength + p := by
  unfold c2aElem
  by_cases he : b + 1 = d.numChunks
  · simp only [he, beq_self_eq_true, if_true, Nat.not_lt.2 (h he), if_false]
  · simp only [beq_iff_eq, he, if_false]

theorem c2a_length (dd : List DimRec) : ∀ (sbi spb : List Nat), (computeChunkToArray dd sbi spb).length = dd.length := by
  induction dd with
  | nil => intros; rfl
  | cons d ds ih => intro sbi spb; simp [computeChunkToArray, ih]

theorem c2a_getD (dd : List DimRec) : ∀ (sbi spb : List Nat) (j : Nat) (h : j < dd.length),
    (computeChunkToArray dd sbi spb)[j]?.getD 0 = c2aElem dd[j] (sbi[j]?.getD 0) (spb[j]?.getD 0) := by
  induction dd with
  | nil => intro _ _ j h; cases h
  | cons d ds ih =>
    intro sbi spb j h
    cases j with
    | zero => cases sbi <;> cases spb <;> rfl
    | succ j =>
      show (computeChunkToArray ds sbi.tail spb.tail)[j]?.getD 0 = _
      rw [ih sbi.tail spb.tail j (Nat.lt_of_succ_lt_succ h)]
      cases sbi <;> cases spb <;> rfl

theorem c2a_of_array {dd : List DimRec} (h : DDWF dd) {arr : List Nat} (ha : Below arr (dimsOf dd)) :
    computeChunkToArray dd (sbiOf dd arr) (spbOf dd arr) = arr := by
  induction dd generalizing arr with
  | nil => cases arr <;> simp_all [Below, computeChunkToArray]
  | cons d ds ih =>
    cases arr with
    | nil => simp [Below] at ha
    | cons a as =>
      rw [ddwf_cons] at h
      simp only [List.map_cons, Below] at ha
      obtain ⟨_, _, f3, _⟩ := h.1.idx ha.1
      rw [sbiOf, spbOf, c2a_cons, ih h.2 ha.2, c2aElem_eq fun he => Nat.le_of_lt (f3 he), Nat.mul_comm,
        Nat.div_add_mod]

theorem array_of_coord {dd : List DimRec} (h : DDWF dd) {sbi spb : List Nat} (hc : CoordOK dd sbi spb) :
    Below (computeChunkToArray dd sbi spb) (dimsOf dd) ∧
    sbiOf dd (computeChunkToArray dd sbi spb) = sbi ∧ spbOf dd (computeChunkToArray dd sbi spb) = spb := by
  induction dd generalizing sbi spb with
  | nil => cases sbi <;> cases spb <;> simp_all [CoordOK, Below, computeChunkToArray, sbiOf, spbOf]
  | cons d ds ih =>
    cases sbi with
    | nil => simp [CoordOK] at hc
    | cons b bs =>
      cases spb with
      | nil => simp [CoordOK] at hc
      | cons p ps =>
        rw [ddwf_cons] at h
        obtain ⟨c1, c2, c3, c4⟩ := hc
        obtain ⟨i1, i2, i3⟩ := ih h.2 c4
        obtain ⟨hcp, hl, hlc, hn, hd⟩ := h.1
        rw [c2a_cons, c2aElem_eq fun he => Nat.le_of_lt (c3 he), Nat.add_comm]
        simp only [List.map_cons, Below, sbiOf, spbOf,
          i2, i3, Nat.add_mul_div_right _ _ hcp, Nat.add_mul_mod_self_right, Nat.div_eq_of_lt c2,
          Nat.mod_eq_of_lt c2, Nat.zero_add]
        refine ⟨⟨?_, i1⟩, trivial, trivial⟩
        by_cases he : b + 1 = d.numChunks
        · have := c3 he
          have : b = d.numChunks - 1 := by omega
          rw [this]; omega
        · have hle : b + 1 ≤ d.numChunks - 1 := by omega
          have := Nat.mul_le_mul_right d.chunkLength hle
          have e := Nat.add_one_mul b d.chunkLength
          omega

theorem ucis_of_array {dd : List DimRec} (h : DDWF dd) {nt : Nat} (hnt : 0 < nt) {arr : List Nat}
    (ha : Below arr (dimsOf dd)) :
    updateChunkIndicesSeek dd nt (computeArrayToSeek dd nt arr) = (sbiOf dd arr, spbOf dd arr) := by
  have hdg := digits_lin (ddwf_pos h).1 ha 0
  rw [Nat.zero_mul, Nat.add_zero] at hdg
  show (ucisLoop dd ((lin (dimsOf dd) arr).2 * nt / nt)).2 = _
  rw [Nat.mul_div_cancel _ hnt, ucisLoop_eq, hdg]

theorem coord_of_array {dd : List DimRec} (h : DDWF dd) {arr : List Nat} (ha : Below arr (dimsOf dd)) :
    CoordOK dd (sbiOf dd arr) (spbOf dd arr) := by
  induction dd generalizing arr with
  | nil => cases arr <;> simp_all [Below, CoordOK, sbiOf, spbOf]
  | cons d ds ih =>
    cases arr with
    | nil => simp [Below] at ha
    | cons a as =>
      rw [ddwf_cons] at h
      simp only [List.map_cons, Below] at ha
      obtain ⟨f1, f2, f3, _⟩ := h.1.idx ha.1
      exact ⟨f1, f2, f3, ih h.2 ha.2⟩

theorem uspcLoop_mul_prod (dd : List DimRec) (hp : AllPos (cdimsOf dd)) (q : Nat) :
    uspcLoop dd (q * (cdimsOf dd).prod) = (q, List.replicate dd.length 0) := by
  induction dd generalizing q with
  | nil => simp [uspcLoop]
  | cons d ds ih =>
    simp only [List.map_cons, allPos_cons] at hp
    have e : q * (cdimsOf (d :: ds)).prod = (q * d.chunkLength) * (cdimsOf ds).prod := by
      simp only [List.map_cons, List.prod_cons]; grind
    rw [e, uspcLoop, ih hp.2]
    simp only [Nat.mul_div_cancel _ hp.1, Nat.mul_mod_left, List.length_cons, List.replicate_succ]

theorem c2a_zero (dd : List DimRec) (origin : List Nat) (hl : origin.length = dd.length) :
    computeChunkToArray dd origin (List.replicate dd.length 0) = List.zipWith (· * ·) origin (cdimsOf dd) := by
  induction dd generalizing origin with
  | nil => simp [computeChunkToArray]
  | cons d ds ih =>
    cases origin with
    | nil => simp at hl
    | cons b bs =>
      rw [List.length_cons, List.replicate_succ, c2a_cons, ih bs (by simpa using hl), c2aElem_eq fun _ => Nat.zero_le _]
      rfl

end H4.Chunk
