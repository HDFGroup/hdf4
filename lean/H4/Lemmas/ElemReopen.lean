import H4.Lemmas.ElemLinkedHwrite
import H4.Lemmas.ElemCoh
/-! `Hclose` followed by `Hopen`: nothing an element consists of is lost (`sync_wfe`, `reopen_preserves`); the file
    `Hopen(DFACC_CREATE)` makes (`create_spec`). -/
namespace H4.Elem
open H4.Gen.Hdf

theorem rd_padTo (d : Bytes) (n x : Nat) : rd (padTo d n) x = rd d x := by
  unfold padTo
  simp only [rd_eq, List.getElem?_append]
  split
  · rfl
  · rename_i h
    rw [List.getElem?_eq_none (Nat.le_of_not_lt h)]
    simp only [zeros, List.getElem?_replicate]
    split <;> rfl

theorem foldl_pad_rd (l : List Nat) (g : Nat → Bool) (o : Nat → Nat) (d : Bytes) (x : Nat) :
    rd (l.foldl (fun d b => if g b then padTo d (o b) else d) d) x = rd d x := by
  induction l generalizing d with
  | nil => rfl
  | cons b bs ih =>
    simp only [List.foldl_cons]
    rw [ih]
    split
    · exact rd_padTo _ _ _
    · rfl

theorem sync_spec (f : File) (hw : WFF f) (hc : Coh f) :
    f.sync.mem = f.mem ∧ f.sync.dsk = f.mem ∧ (∀ x, rd f.sync.disk x = rd f.disk x) ∧ f.sync.links = f.links ∧
    f.sync.endOff = f.endOff ∧ f.sync.ndds = f.ndds ∧ f.sync.blkOff = f.blkOff ∧ f.sync.present = f.present ∧
    f.sync.blkDirty.length = f.blkDirty.length := by
  have hall : (List.range f.mem.length).map (fun i => if f.blkDirty.getD (i / f.ndds) false then f.dd i else f.dsk.getD i nilDD) = f.mem := by
    apply List.ext_getElem?
    intro i
    simp only [List.getElem?_map]
    by_cases hi : i < f.mem.length
    · rw [List.getElem?_range hi]
      simp only [Option.map_some]
      have hm : f.mem[i]? = some (f.dd i) := by simp [dd_def, hi]
      rw [hm]
      by_cases hd : f.blkDirty.getD (i / f.ndds) false = true
      · rw [if_pos hd]
      · have : f.blkDirty.getD (i / f.ndds) false = false := by simpa using hd
        simp only [this, Bool.false_eq_true, if_false]
        rw [hc.dirty_ok i hi this]
    · rw [List.getElem?_eq_none (by simp; omega : (List.range f.mem.length).length ≤ i), List.getElem?_eq_none (by omega)]
      rfl
  unfold File.sync
  split
  · refine ⟨rfl, hall, ?_, rfl, rfl, rfl, rfl, rfl, by simp⟩
    intro x
    simp only
    split
    · rw [rd_diskWrite]
      split
      · rename_i h
        simp at h
        have : x = f.endOff := by omega
        rw [hw.tail0 x (by omega)]
        simp [this]
      · exact foldl_pad_rd _ _ _ _ _
    · exact foldl_pad_rd _ _ _ _ _
  · rename_i hnd
    refine ⟨rfl, ?_, fun _ => rfl, rfl, rfl, rfl, rfl, rfl, rfl⟩
    have hclean : ∀ b, f.blkDirty.getD b false = false := by
      intro b
      have h1 : ¬ (f.blkDirty.any id = true) := by
        intro h2; apply hnd; simp [hc.cache, h2]
      cases hb : f.blkDirty.getD b false with
      | false => rfl
      | true =>
        exfalso; apply h1
        rw [List.any_eq_true]
        by_cases hbl : b < f.blkDirty.length
        · refine ⟨f.blkDirty[b], List.getElem_mem hbl, ?_⟩
          simp [List.getD_eq_getElem?_getD, hbl] at hb
          simpa using hb
        · simp [List.getD_eq_getElem?_getD, List.getElem?_eq_none (Nat.le_of_not_lt hbl)] at hb
    apply List.ext_getElem?
    intro i
    by_cases hi : i < f.mem.length
    · have hm : f.mem[i]? = some (f.dd i) := by simp [dd_def, hi]
      have hd := hc.dirty_ok i hi (hclean _)
      have hil : i < f.dsk.length := by rw [hc.dsk_len]; exact hi
      simp only [List.getD_eq_getElem?_getD, hil, List.getElem?_eq_getElem, Option.getD_some] at hd
      rw [hm, List.getElem?_eq_getElem hil, hd]
    · rw [List.getElem?_eq_none (by rw [hc.dsk_len]; omega), List.getElem?_eq_none (by omega)]

theorem sync_present (f : File) : f.sync.present = f.present := by
  unfold File.sync; split <;> rfl

theorem foldl_max_ext_mono (l : List DD) (a : Nat) :
    a ≤ l.foldl (fun m d => match d.ext with | some (o, n) => max m (o + n) | none => m) a := by
  induction l generalizing a with
  | nil => exact Nat.le_refl _
  | cons d ds ih =>
    simp only [List.foldl_cons]
    refine Nat.le_trans ?_ (ih _)
    cases d.ext with
    | none => exact Nat.le_refl _
    | some e => obtain ⟨o, n⟩ := e; simp only; omega

theorem foldl_max_ext_ge (l : List DD) (a : Nat) (d : DD) (hd : d ∈ l) (o n : Nat) (he : d.ext = some (o, n)) :
    o + n ≤ l.foldl (fun m d => match d.ext with | some (o, n) => max m (o + n) | none => m) a := by
  induction l generalizing a with
  | nil => simp at hd
  | cons x xs ih =>
    simp only [List.foldl_cons, List.mem_cons] at hd ⊢
    rcases hd with rfl | hd
    · refine Nat.le_trans ?_ (foldl_max_ext_mono xs _)
      rw [he]; simp only; omega
    · exact ih _ hd

/-- `HTPstart`'s `f_end_off` covers every DD's extent -/
theorem endOffOf_ge (ndds : Nat) (blk : List Nat) (l : List DD) (i o n : Nat) (hi : i < l.length) (he : (l.getD i nilDD).ext = some (o, n)) :
    o + n ≤ endOffOf ndds blk l := by
  unfold endOffOf
  apply foldl_max_ext_ge l _ (l.getD i nilDD) _ o n he
  simp only [List.getD_eq_getElem?_getD, hi, List.getElem?_eq_getElem, Option.getD_some]
  exact List.getElem_mem hi

/-- a well-formed DD list registers no tag/ref twice: `HTPstart` will not see `DFE_DUPDD` -/
theorem dupDDs_false (f : File) (hw : WFF f) : dupDDs f.mem = false := by
  cases h : dupDDs f.mem with
  | false => rfl
  | true =>
    exfalso
    unfold dupDDs at h
    rw [List.any_eq_true] at h
    obtain ⟨i, _, h⟩ := h
    rw [List.any_eq_true] at h
    obtain ⟨j, _, h⟩ := h
    simp only [Bool.and_eq_true, decide_eq_true_eq, bne_iff_ne, ne_eq, beq_iff_eq] at h
    obtain ⟨⟨⟨⟨hij, hi⟩, hj⟩, ht⟩, hr⟩ := h
    have := hw.uniq i j hi hj ht hr
    omega

/-- **`reopen_preserves`**: `Hclose` (which flushes the DD list) followed by `Hopen` gives a well-formed file in which
    every element is the same byte string as before — provided nothing but zeros lies beyond the end of file that
    `HTPstart` recomputes from the DDs (it does not after `Htrunc` of the last element: finding F20) -/
theorem reopen_preserves (f : File) (hw : WFE f) (hc : Coh f) (wr : Bool)
    (hz : ∀ k, endOffOf f.ndds f.blkOff f.mem ≤ k → rd f.disk k = 0) :
    ∃ g, f.sync.reopen wr = some g ∧ WFE g ∧ Coh g ∧ (∀ t r, g.elem t r = f.elem t r) ∧ g.present = f.present ∧
      g.isOpen = true := by
  obtain ⟨s1, s2, s3, s4, s5, s6, s7, s8, s9⟩ := sync_spec f hw.toWFF hc
  have hdup : dupDDs f.sync.dsk = false := by rw [s2]; exact dupDDs_false f hw.toWFF
  have hre : ∃ g, f.sync.reopen wr = some g ∧ g.mem = f.sync.dsk ∧ g.disk = f.sync.disk ∧ g.links = f.sync.links ∧
      g.endOff = endOffOf f.sync.ndds f.sync.blkOff f.sync.dsk ∧ g.ndds = f.sync.ndds ∧ g.present = f.sync.present ∧
      g.isOpen = true ∧ g.cache = true ∧ g.dsk = f.sync.dsk ∧ g.blkDirty = f.sync.blkDirty.map (fun _ => false) := by
    unfold File.reopen
    rw [hdup]
    exact ⟨_, rfl, rfl, rfl, rfl, rfl, rfl, rfl, rfl, rfl, rfl, rfl⟩
  obtain ⟨g, hgo, g1, g2, g3, g4, g5, g6, g7, g8, g9, g10⟩ := hre
  refine ⟨g, hgo, ?_⟩
  have gmem : g.mem = f.mem := by rw [g1]; exact s2
  have gdd : ∀ j, g.dd j = f.dd j := by intro j; simp only [File.dd, gmem]
  have grd : ∀ x, rd g.disk x = rd f.disk x := by intro x; rw [g2]; exact s3 x
  have glinks : g.links = f.links := by rw [g3]; exact s4
  have gend : g.endOff = endOffOf f.ndds f.blkOff f.mem := by rw [g4, s6, s7, s2]
  obtain ⟨E, hel⟩ := hw.of_same gdd grd glinks (by rw [g5, s6])
    (fun j o l hj he => by rw [gend]; exact endOffOf_ge _ _ _ j o l (live_lt f j hj) (by simpa [File.dd] using he))
    (fun k hk => by rw [grd]; rw [gend] at hk; exact hz k hk)
  refine ⟨E, ?_, hel, by rw [g6]; exact s8, g7⟩
  · have gdsk : g.dsk = g.mem := by rw [g9, g1]
    refine ⟨g8, by rw [g5, s6]; exact hw.ndds_pos, by rw [gdsk], ?_, ?_⟩
    · rw [gmem, g10, g5, List.length_map, s9, s6]; exact hc.dirty_len
    · intro i _ _
      rw [gdsk]; rfl

theorem sync_wfe (f : File) (hw : WFE f) (hc : Coh f) : WFE f.sync ∧ Coh f.sync ∧ (∀ t r, f.sync.elem t r = f.elem t r) ∧
    (f.sync.dirtyEnd || f.sync.blkDirty.any id) = false ∧ (∀ j, f.sync.dd j = f.dd j) := by
  obtain ⟨s1, s2, s3, s4, s5, s6, s7, s8, s9⟩ := sync_spec f hw.toWFF hc
  have gdd : ∀ j, f.sync.dd j = f.dd j := by intro j; simp only [File.dd, s1]
  obtain ⟨E, hel⟩ := hw.of_same gdd s3 s4 s6 (fun j o l hj he => by rw [s5]; exact hw.ext_le j o l hj he)
    (fun k hk => by rw [s3]; rw [s5] at hk; exact hw.tail0 k hk)
  have hclean : (f.sync.dirtyEnd || f.sync.blkDirty.any id) = false := by
    unfold File.sync
    split
    · simp
    · rename_i hnd
      have := hc.cache
      simp only [this, Bool.true_and] at hnd
      simpa using hnd
  refine ⟨E, ?_, hel, hclean, gdd⟩
  · have hcache : f.sync.cache = true := by
      unfold File.sync; split
      · exact hc.cache
      · exact hc.cache
    refine ⟨hcache, by rw [s6]; exact hc.ndds_pos, by rw [s2, s1], by rw [s9, s6, s1]; exact hc.dirty_len, ?_⟩
    intro i hi _
    rw [s2]
    simp only [File.dd, s1]

theorem rd_zeros (n x : Nat) : rd (zeros n) x = 0 := by
  simp only [rd_eq, zeros, List.getElem?_replicate]; split <;> rfl

theorem getD_replicate_nil (n j : Nat) : (List.replicate n nilDD).getD j nilDD = nilDD := by
  simp only [List.getD_eq_getElem?_getD, List.getElem?_replicate]; split <;> rfl

theorem create_spec (ndds0 : Nat) :
    WFE (File.create ndds0) ∧ Coh (File.create ndds0) ∧ (File.create ndds0).present = true ∧ (File.create ndds0).isOpen = true ∧
    ∀ k, UserKey k → (File.create ndds0).elem k.1 k.2 = none := by
  unfold File.create
  have hn1 : 1 ≤ nddsOf ndds0 := by
    unfold nddsOf; simp only [DEF_NDDS, MIN_NDDS]
    by_cases h0 : ndds0 = 0
    · simp [h0]
    · by_cases h4 : ndds0 < 4
      · simp [h0, h4]
      · simp only [h0, h4, if_false]; omega
  generalize nddsOf ndds0 = ndds at hn1
  generalize hb : File.blank ndds = b
  have bdd : ∀ j, b.dd j = nilDD := by intro j; rw [← hb]; exact getD_replicate_nil ndds j
  have bnl : ∀ j, ¬ b.live j := by intro j h; apply h; rw [bdd]; rfl
  have brd : ∀ x, rd b.disk x = 0 := by intro x; rw [← hb]; exact rd_zeros _ x
  have hwb : WFE b := by
    refine ⟨⟨by rw [← hb]; exact hn1, ?_, ?_, fun k _ => brd k, ?_⟩, ?_, ?_, ?_⟩
    · intro j _ _ hj; exact absurd hj (bnl j)
    · intro a _ _ _ _ _ _ ha; exact absurd ha (bnl a)
    · intro a _ ha; exact absurd ha (bnl a)
    · intro s hs; exact absurd hs (bnl s)
    · intro s hs; exact absurd hs (bnl s)
    · intro a _ _ _ _ ha; exact absurd ha (bnl a)
  have hcb : Coh b := by
    rw [← hb]
    refine ⟨rfl, hn1, rfl, by simp [File.blank], ?_⟩
    intro i _ _
    simp only [File.dd, File.blank]
  unfold File.putNew
  simp only
  have hfresh : ∀ j, ¬ b.hasKey j DFTAG_VERSION 1 := fun j h => bnl j h.1
  have C := ddCreate_spec b DFTAG_VERSION 1 hwb.ndds_pos hwb.tail0
  have W1 := C.wff hwb.toWFF hfresh
  have hC1 := coh_ddCreate hcb DFTAG_VERSION 1
  generalize hc : b.ddCreate DFTAG_VERSION 1 = c at C W1 hC1
  obtain ⟨f1, i⟩ := c
  simp only at C W1 hC1 ⊢
  have hv : isSpecial DFTAG_VERSION = false ∧ baseTag DFTAG_VERSION ≠ DFTAG_LINKED := by decide
  have hlive1 : ∀ j, f1.live j ↔ j = i := by
    intro j; unfold File.live
    by_cases e : j = i
    · subst e; rw [C.dd_new]; simp; decide
    · rw [C.dd_keep j e, bdd]; simp [e, nilDD]
  obtain ⟨E1, _⟩ := hwb.plain_step W1 i (fun x hx _ => absurd hx (bnl x)) (by rw [C.dd_new]; exact hv)
    (fun hl => absurd hl (bnl i)) (fun x hx1 _ => (hlive1 x).mp hx1) C.links (fun y _ _ => C.rd_keep y)
  have S := setLength_spec f1 i LIBVER_LEN C.lt W1.tail0
  have W2 := S.wff W1
  have hC2 := coh_setLength hC1 i LIBVER_LEN C.lt
  generalize hs : f1.setLength i LIBVER_LEN = sl at S W2 hC2
  obtain ⟨f2, off⟩ := sl
  simp only at S W2 hC2 ⊢
  obtain ⟨E2, _⟩ := E1.plain_step W2 i (fun x _ hne => S.dd_keep x hne) (by rw [S.dd_new, C.dd_new]; exact hv)
    (fun _ => by rw [C.dd_new]; exact hv) (fun x hx1 hnx => by
      by_cases e : x = i
      · exact e
      · exfalso; apply hnx; unfold File.live at *; rw [← S.dd_keep x e]; exact hx1) S.links (fun y _ _ => S.rd_keep y)
  have hrd3 : ∀ x, rd (f2.pwrite off (zeros LIBVER_LEN)).disk x = rd f2.disk x := by
    intro x
    apply pwrite_zeros_rd
    intro y _ _
    rw [S.rd_keep, C.rd_keep]; exact brd y
  have hfit : off + (zeros LIBVER_LEN).length ≤ (f2.pwrite off (zeros LIBVER_LEN)).endOff := by
    show off + (zeros LIBVER_LEN).length ≤ f2.endOff
    rw [zeros_length, S.end_eq, S.off_eq]; exact Nat.le_refl _
  rw [endOff_max_noop _ _ hfit]
  obtain ⟨E3, hel3⟩ := E2.of_same (g := f2.pwrite off (zeros LIBVER_LEN)) (fun _ => rfl) hrd3 rfl rfl E2.ext_le
    (fun k hk => by rw [hrd3]; exact E2.tail0 k hk)
  refine ⟨E3, coh_pwrite hC2 _ _, ?_, ?_, ?_⟩
  · show f2.present = true; rw [S.present, C.present, ← hb]; rfl
  · show f2.isOpen = true
    have hb_open : b.isOpen = true := by rw [← hb]; rfl
    have h1 : ∀ (g : File) (j : Nat), (g.updateDD j).isOpen = g.isOpen := by
      intro g j; unfold File.updateDD; simp only [File.dd]; split <;> split <;> rfl
    have h2 : ∀ (g : File) (n : Nat), (g.getDiskBlock n).1.isOpen = g.isOpen := by
      intro g n; unfold File.getDiskBlock; simp only; split
      · rfl
      · split <;> rfl
    have h3 : f1.isOpen = b.isOpen := by
      rw [← (show (b.ddCreate DFTAG_VERSION 1).1 = f1 by rw [hc])]
      unfold File.ddCreate
      cases b.findFree with
      | some k => simp only; rw [h1]
      | none => simp only; rw [h1]; unfold File.newDDBlock; simp only; rw [h2]
    have h4 : f2.isOpen = f1.isOpen := by
      rw [← (show (f1.setLength i LIBVER_LEN).1 = f2 by rw [hs])]
      unfold File.setLength File.ddSetExt; simp only; rw [h1]; exact h2 f1 _
    rw [h4, h3, hb_open]
  · intro k hu
    show (f2.pwrite off (zeros LIBVER_LEN)).elem k.1 k.2 = none
    unfold File.elem
    have : (f2.pwrite off (zeros LIBVER_LEN)).select k.1 k.2 = none := by
      apply select_none_of
      intro j hk
      have hj : f2.live j := hk.1
      have hji : j = i := by
        by_cases e : j = i
        · exact e
        · exfalso; unfold File.live at hj; rw [S.dd_keep j e] at hj; exact ((hlive1 j).mp hj |> e)
      subst hji
      have h2 := hk.2.1
      rw [pwrite_dd, S.dd_new, C.dd_new] at h2
      simp only at h2
      rw [baseTag_not_special _ hu.1] at h2
      exact hu.2.2.2.1 (h2.symm.trans (by decide))
    rw [this]; rfl

theorem sync_noop (f : File) (h : (f.dirtyEnd || f.blkDirty.any id) = false) : f.sync = f := by
  unfold File.sync
  rw [h]
  simp

end H4.Elem
