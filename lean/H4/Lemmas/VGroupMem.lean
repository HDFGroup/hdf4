import H4.VGroup
namespace H4.VGroup
open H4.Gen.Hdf

theorem consts : MAXNVELT = 64 ∧ DFTAG_VG = 1965 ∧ DFTAG_VH = 1962 ∧ VSDESCTAG = 1962 ∧ DFTAG_NULL = 1 ∧
    VSET_VERSION = 3 ∧ VSET_NEW_VERSION = 4 ∧ VG_ATTR_SET = 1 ∧ MAX_REF = 65535 := by decide

theorem Mem.fresh_ok : Mem.fresh.OK := by decide

theorem Mem.fresh_members : Mem.fresh.members = [] := by simp [Mem.fresh, Mem.members]

theorem Mem.members_length {m : Mem} (h : m.OK) : m.members.length = m.nvelt := by
  obtain ⟨h1, h2, _, _⟩ := h
  simp [Mem.members]; omega

theorem Mem.grow_members {m : Mem} (h : m.OK) : m.grow.members = m.members := by
  obtain ⟨h1, h2, _, _⟩ := h
  unfold Mem.grow
  split
  · simp only [Mem.members]
    rw [List.take_append_of_le_length (by omega)]
  · rfl

theorem Mem.grow_nvelt (m : Mem) : m.grow.nvelt = m.nvelt := by
  unfold Mem.grow; split <;> rfl

theorem Mem.grow_ok {m : Mem} (h : m.OK) : m.grow.OK ∧ m.grow.nvelt < m.grow.msize := by
  obtain ⟨h1, h2, h3, h4⟩ := h
  unfold Mem.grow
  split
  · refine ⟨⟨?_, ?_, ?_, ?_⟩, ?_⟩ <;> simp <;> omega
  · exact ⟨⟨h1, h2, h3, h4⟩, by omega⟩

theorem take_set_snoc {α} (l : List α) (n : Nat) (x : α) (h : n < l.length) :
    (l.set n x).take (n + 1) = l.take n ++ [x] := by
  induction l generalizing n with
  | nil => simp at h
  | cons a t ih =>
    cases n with
    | zero => simp
    | succ k => simp at h; simp [ih k h]

theorem vinsertpair_snoc {m : Mem} (h : m.OK) (hn : m.nvelt < 65535) (t r : Nat) :
    ∃ p, vinsertpair m t r = some p ∧ p.1.members = m.members ++ [(t, r)] ∧ p.2 = m.members.length + 1 ∧ p.1.OK := by
  obtain ⟨g1, g2⟩ := Mem.grow_ok h
  have gm := Mem.grow_members h
  have gn := Mem.grow_nvelt m
  obtain ⟨a1, a2, a3, a4⟩ := g1
  have hl := Mem.members_length h
  have hmod : (m.grow.nvelt + 1) % 65536 = m.grow.nvelt + 1 := Nat.mod_eq_of_lt (by omega)
  have c : MAX_REF = 65535 := by decide
  have hne : ¬ m.nvelt = MAX_REF := by omega
  refine ⟨({ m.grow with arr := m.grow.arr.set m.grow.nvelt (t, r), nvelt := (m.grow.nvelt + 1) % 65536 }, (m.grow.nvelt + 1) % 65536),
    by simp only [vinsertpair, hne, if_false], ?_, ?_, ?_⟩
  · simp only [Mem.members, hmod]
    rw [take_set_snoc _ _ _ (by omega)]
    simp only [Mem.members] at gm
    rw [gm]
  · simp only [hmod]; omega
  · simp only [hmod]
    refine ⟨?_, ?_, ?_, ?_⟩ <;> simp <;> omega

theorem vinsertpair_full {m : Mem} (hn : m.nvelt = 65535) (t r : Nat) : vinsertpair m t r = none := by
  have c : MAX_REF = 65535 := by decide
  simp [vinsertpair, hn, c]

theorem vinsertpair_spec {m : Mem} (h : m.OK) (t r : Nat) :
    match vinsertpair m t r with
    | some p => m.members.length ≠ MAX_REF ∧ p.1.members = m.members ++ [(t, r)] ∧ p.2 = m.members.length + 1 ∧ p.1.OK
    | none => m.members.length = MAX_REF := by
  have c : MAX_REF = 65535 := by decide
  have hl := Mem.members_length h
  by_cases hf : m.nvelt = 65535
  · rw [vinsertpair_full hf]; simp only; omega
  · obtain ⟨p, e, a, b, c'⟩ := vinsertpair_snoc h (by have := h.2.2.2; omega) t r
    rw [e]; exact ⟨by omega, a, b, c'⟩

theorem idxOf?_some_lt {α} [BEq α] [LawfulBEq α] {a : α} {l : List α} {i : Nat} (h : List.idxOf? a l = some i) :
    i < l.length ∧ a ∈ l := by
  simp only [List.idxOf?, List.findIdx?_eq_some_iff_getElem] at h
  obtain ⟨hi, he, _⟩ := h
  exact ⟨hi, by rw [← eq_of_beq he]; exact List.getElem_mem hi⟩

theorem idxOf?_none {α} [BEq α] [LawfulBEq α] {a : α} {l : List α} (h : List.idxOf? a l = none) : a ∉ l := by
  intro hm
  simp only [List.idxOf?, List.findIdx?_eq_none_iff] at h
  have := h a hm
  simp at this

theorem vdeletetagref_erase {m : Mem} (h : m.OK) (t r : Nat) :
    (match vdeletetagref m t r with
     | some m' => (t, r) ∈ m.members ∧ m'.members = m.members.erase (t, r) ∧ m'.OK
     | none => (t, r) ∉ m.members) := by
  obtain ⟨h1, h2, h3, h4⟩ := h
  have hl : m.members.length = m.nvelt := Mem.members_length ⟨h1, h2, h3, h4⟩
  unfold vdeletetagref
  have he := List.erase_eq_eraseIdx m.members (t, r)
  cases hi : List.idxOf? (t, r) m.members with
  | none => simp only; exact idxOf?_none hi
  | some i =>
    simp only
    rw [hi] at he; simp only at he
    obtain ⟨ilt, imem⟩ := idxOf?_some_lt hi
    have hlen : (m.members.eraseIdx i).length = m.nvelt - 1 := by
      rw [List.length_eraseIdx]; simp [hl]; omega
    refine ⟨imem, ?_, ?_⟩
    · simp only [Mem.members] at *
      rw [List.take_append_of_le_length (by omega)]
      rw [List.take_of_length_le (by omega)]
      exact he.symm
    · refine ⟨?_, ?_, h3, ?_⟩
      · simp only [List.length_append, List.length_cons, List.length_drop, hlen]
        omega
      · simp only; omega
      · simp only; omega

theorem vinqtagref_mem (m : Mem) (t r : Nat) : vinqtagref m t r = true ↔ (t, r) ∈ m.members := by
  simp [vinqtagref]

theorem vntagrefs_length {m : Mem} (h : m.OK) : vntagrefs m = m.members.length := by
  rw [Mem.members_length h]; rfl

theorem vgettagrefs_take (m : Mem) (n : Nat) : vgettagrefs m n = m.members.take n := by
  simp [vgettagrefs, Mem.members, List.take_take]

theorem vgettagref_get {m : Mem} (h : m.OK) (i : Nat) : vgettagref m (i : Int) = m.members[i]? := by
  obtain ⟨h1, h2, _, _⟩ := h
  unfold vgettagref
  by_cases hi : i < m.nvelt
  · have : ¬ ((i : Int) < 0 ∨ (i : Int) > (m.nvelt : Int) - 1) := by omega
    simp only [this, if_false, Int.toNat_natCast, Mem.members]
    rw [List.getElem?_take]; simp [hi]
  · have : ((i : Int) < 0 ∨ (i : Int) > (m.nvelt : Int) - 1) := by omega
    simp only [this, if_true, Mem.members]
    rw [List.getElem?_take]; simp [hi]

theorem vgettagref_neg (m : Mem) (i : Int) (h : i < 0) : vgettagref m i = none := by
  simp [vgettagref, h]

theorem vnrefs_count (m : Mem) (t : Nat) : vnrefs m t = (m.members.filter (fun p => p.1 == t)).length := rfl

end H4.VGroup
