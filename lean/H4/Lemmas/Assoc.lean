import H4.VGroup
/-! Association lists keyed by ref (`alook`/`ains`/`aset`/`adel`): lookup, membership, key order, `map`.  With strictly ascending
    keys (`KSorted`, kept by every update) two lists with the same lookups are equal (`ksorted_ext`): that is how the disk and the
    table of Vgroups are compared. -/
namespace H4.VGroup

variable {α β : Type}

def KSorted (l : List (Nat × α)) : Prop := (akeys l).Pairwise (· < ·)

theorem alook_map (f : α → β) (k : Nat) (l : List (Nat × α)) :
    alook k (l.map (fun e => (e.1, f e.2))) = (alook k l).map f := by
  induction l with
  | nil => rfl
  | cons a t ih => simp only [List.map_cons, alook]; split <;> simp [ih]

theorem akeys_map (f : α → β) (l : List (Nat × α)) : akeys (l.map (fun e => (e.1, f e.2))) = akeys l := by
  simp [akeys, List.map_map, Function.comp_def]

theorem aset_map (f : α → β) (k : Nat) (v : α) (l : List (Nat × α)) :
    (aset k v l).map (fun e => (e.1, f e.2)) = aset k (f v) (l.map (fun e => (e.1, f e.2))) := by
  simp only [aset, List.map_map]
  apply List.map_congr_left
  intro a _
  simp only [Function.comp_def]
  split <;> rfl

theorem ains_map (f : α → β) (k : Nat) (v : α) (l : List (Nat × α)) :
    (ains k v l).map (fun e => (e.1, f e.2)) = ains k (f v) (l.map (fun e => (e.1, f e.2))) := by
  induction l with
  | nil => rfl
  | cons a t ih =>
    simp only [ains, List.map_cons]
    split
    · rfl
    · split
      · rfl
      · simp [ih]

theorem adel_map (f : α → β) (k : Nat) (l : List (Nat × α)) :
    (adel k l).map (fun e => (e.1, f e.2)) = adel k (l.map (fun e => (e.1, f e.2))) := by
  simp [adel, List.filter_map, Function.comp_def]

theorem akeys_aset (k : Nat) (v : α) (l : List (Nat × α)) : akeys (aset k v l) = akeys l := by
  simp only [akeys, aset, List.map_map]
  apply List.map_congr_left
  intro a _
  simp only [Function.comp_def]
  split
  · rename_i h; exact h.symm
  · rfl

theorem alook_ains (k k' : Nat) (v : α) (l : List (Nat × α)) :
    alook k' (ains k v l) = if k' = k then some v else alook k' l := by
  induction l with
  | nil => simp only [ains, alook]; split <;> simp_all <;> omega
  | cons a t ih =>
    obtain ⟨ka, va⟩ := a
    simp only [ains]
    split
    · simp only [alook]; split <;> simp_all <;> omega
    · split
      · rename_i h1 h2; subst h2
        simp only [alook]
        by_cases h3 : k = k'
        · simp [h3]
        · have : ¬ k' = k := fun e => h3 e.symm
          simp [h3, this]
      · rename_i h1 h2
        simp only [alook, ih]
        by_cases h3 : ka = k'
        · have : k' ≠ k := by omega
          simp [h3, this]
        · simp [h3]

theorem alook_adel (k k' : Nat) (l : List (Nat × α)) :
    alook k' (adel k l) = if k' = k then none else alook k' l := by
  induction l with
  | nil => simp [adel, alook]
  | cons a t ih =>
    obtain ⟨ka, va⟩ := a
    simp only [adel, List.filter_cons] at ih ⊢
    by_cases h : ka = k
    · subst h
      simp only [bne_self_eq_false, Bool.false_eq_true, if_false, ih, alook]
      by_cases h2 : k' = ka
      · simp [h2]
      · have : ¬ ka = k' := fun e => h2 e.symm
        simp [h2, this]
    · have hb : (ka != k) = true := by simp [h]
      simp only [hb, if_true, alook, ih]
      by_cases h2 : ka = k'
      · have : ¬ k' = k := by omega
        simp [h2, this]
      · simp [h2]

theorem alook_aset (k k' : Nat) (v : α) (l : List (Nat × α)) :
    alook k' (aset k v l) = if k' = k then (alook k l).map (fun _ => v) else alook k' l := by
  induction l with
  | nil => simp [aset, alook]
  | cons a t ih =>
    obtain ⟨ka, va⟩ := a
    simp only [aset, List.map_cons] at ih ⊢
    by_cases h : ka = k
    · subst h
      simp only [if_true, alook]
      by_cases h2 : ka = k'
      · simp [h2]
      · have : ¬ k' = ka := fun e => h2 e.symm
        simp [h2, this, ih]
    · simp only [h, if_false, alook, ih]
      by_cases h2 : ka = k'
      · have : ¬ k' = k := by omega
        simp [h2, this]
      · simp [h2]

theorem mem_of_alook {k : Nat} {v : α} {l : List (Nat × α)} (h : alook k l = some v) : (k, v) ∈ l := by
  induction l with
  | nil => simp [alook] at h
  | cons a t ih =>
    obtain ⟨ka, va⟩ := a
    simp only [alook] at h
    split at h
    · rename_i e; subst e; simp at h; simp [h]
    · simp [ih h]

theorem alook_isSome_iff {k : Nat} {l : List (Nat × α)} : (alook k l).isSome ↔ k ∈ akeys l := by
  induction l with
  | nil => simp [alook, akeys]
  | cons a t ih =>
    obtain ⟨ka, va⟩ := a
    simp only [alook, akeys, List.map_cons, List.mem_cons] at ih ⊢
    split
    · rename_i e; simp [e]
    · rename_i e; simp [ih, Ne.symm e]

theorem ksorted_cons {k : Nat} {v : α} {l : List (Nat × α)} : KSorted ((k, v) :: l) ↔ (∀ x ∈ akeys l, k < x) ∧ KSorted l := by
  simp only [KSorted, akeys, List.map_cons, List.pairwise_cons]

theorem alook_of_mem_sorted {k : Nat} {v : α} {l : List (Nat × α)} (hs : KSorted l) (h : (k, v) ∈ l) :
    alook k l = some v := by
  induction l with
  | nil => simp at h
  | cons a t ih =>
    obtain ⟨ka, va⟩ := a
    rw [ksorted_cons] at hs
    simp only [List.mem_cons, Prod.mk.injEq] at h
    simp only [alook]
    rcases h with ⟨h1, h2⟩ | h
    · simp [h1, h2]
    · have hk : ka < k := hs.1 k (by simp only [akeys, List.mem_map]; exact ⟨(k, v), h, rfl⟩)
      have : ¬ ka = k := by omega
      simp only [this, if_false]
      exact ih hs.2 h

theorem alook_none_of_not_mem {k : Nat} {l : List (Nat × α)} (h : k ∉ akeys l) : alook k l = none := by
  cases hh : alook k l with
  | none => rfl
  | some v => exact absurd (alook_isSome_iff.mp (by simp [hh])) h

theorem alook_none_of_lt {k x : Nat} {l : List (Nat × α)} (h : ∀ y ∈ akeys l, k < y) (hx : x ≤ k) : alook x l = none :=
  alook_none_of_not_mem fun hm => by have := h x hm; omega

theorem akeys_ains_mem {k x : Nat} {v : α} {l : List (Nat × α)} (h : x ∈ akeys (ains k v l)) : x = k ∨ x ∈ akeys l := by
  have := alook_isSome_iff.mpr h
  rw [alook_ains] at this
  by_cases e : x = k
  · left; exact e
  · right; simp only [e, if_false] at this; exact alook_isSome_iff.mp this

theorem ksorted_ains {k : Nat} {v : α} {l : List (Nat × α)} (h : KSorted l) : KSorted (ains k v l) := by
  induction l with
  | nil => simp [ains, KSorted, akeys]
  | cons a t ih =>
    obtain ⟨ka, va⟩ := a
    rw [ksorted_cons] at h
    simp only [ains]
    split
    · rename_i hlt
      simp only [ksorted_cons, akeys, List.map_cons, List.mem_cons]
      refine ⟨?_, h.1, h.2⟩
      intro x hx
      rcases hx with hx | hx
      · omega
      · have := h.1 x hx; omega
    · split
      · rename_i h1 h2; subst h2
        rw [ksorted_cons]
        exact h
      · rename_i h1 h2
        rw [ksorted_cons]
        refine ⟨?_, ih h.2⟩
        intro x hx
        rcases akeys_ains_mem hx with e | e
        · omega
        · exact h.1 x e

theorem ksorted_adel {k : Nat} {l : List (Nat × α)} (h : KSorted l) : KSorted (adel k l) := by
  have : akeys (adel k l) = (akeys l).filter (fun x => x != k) := by
    simp [akeys, adel, List.filter_map, Function.comp_def]
  unfold KSorted; rw [this]
  exact List.Pairwise.filter _ h

theorem ksorted_aset {k : Nat} {v : α} {l : List (Nat × α)} (h : KSorted l) : KSorted (aset k v l) := by
  unfold KSorted; rw [akeys_aset]; exact h

theorem ksorted_map (f : α → β) {l : List (Nat × α)} (h : KSorted l) : KSorted (l.map (fun e => (e.1, f e.2))) := by
  unfold KSorted; rw [akeys_map]; exact h

theorem ksorted_ext {l1 l2 : List (Nat × α)} (h1 : KSorted l1) (h2 : KSorted l2)
    (h : ∀ k, alook k l1 = alook k l2) : l1 = l2 := by
  induction l1 generalizing l2 with
  | nil =>
    cases l2 with
    | nil => rfl
    | cons b t2 => have := h b.1; simp [alook] at this
  | cons a t1 ih =>
    obtain ⟨ka, va⟩ := a
    cases l2 with
    | nil => have := h ka; simp [alook] at this
    | cons b t2 =>
      obtain ⟨kb, vb⟩ := b
      rw [ksorted_cons] at h1 h2
      have na : alook ka t1 = none := alook_none_of_lt h1.1 (Nat.le_refl _)
      have nb : alook kb t2 = none := alook_none_of_lt h2.1 (Nat.le_refl _)
      have hk : ka = kb := by
        rcases Nat.lt_trichotomy ka kb with hlt | heq | hgt
        · have := h ka
          have n2 : alook ka t2 = none := alook_none_of_lt h2.1 (Nat.le_of_lt hlt)
          have e : ¬ kb = ka := by omega
          simp [alook, e, n2] at this
        · exact heq
        · have := h kb
          have n1 : alook kb t1 = none := alook_none_of_lt h1.1 (Nat.le_of_lt hgt)
          have e : ¬ ka = kb := by omega
          simp [alook, e, n1] at this
      subst hk
      have hv : va = vb := by have := h ka; simpa [alook] using this
      subst hv
      congr 1
      apply ih h1.2 h2.2
      intro k
      by_cases e : ka = k
      · subst e; rw [na, nb]
      · have := h k; simpa [alook, e] using this

end H4.VGroup
