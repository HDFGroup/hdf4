import Lean.Elab.Tactic.Basic
/-! What every file about a function translated from C by `gen/c2lean.py` (`H4.Gen.Fn.*`) rests on: the tactic `kernel_rfl` (a restated `have`
    chain is the generated one), `ints` (a model's `Nat` cells as the C arrays of `Int`), `storeAt` / `readAt` (a block of cells put into / taken
    out of a region) with `memcpy`, and the translator's C strings, `malloc` counts and integer casts. -/
namespace H4.C2L

/-- `Eq.refl` handed to the kernel: the elaborator's unifier unfolds the `have` chain of a translated function into a tree and times out -/
elab "kernel_rfl" : tactic => do
  let g ← Lean.Elab.Tactic.getMainGoal
  let some (_, lhs, _) := (← g.getType).eq? | throwError "kernel_rfl: not an equation"
  g.assign (← Lean.Meta.mkEqRefl lhs)

/-- a C array of non-negative `int32` values, as the translated functions see it -/
def ints (l : List Nat) : List Int := l.map Int.ofNat

@[simp] theorem ints_length (l : List Nat) : (ints l).length = l.length := by simp [ints]

@[simp] theorem ints_getD (l : List Nat) (i : Nat) : (ints l)[i]?.getD 0 = ((l[i]?.getD 0 : Nat) : Int) := by
  simp [ints, List.getElem?_map]
  cases l[i]? <;> simp

@[simp] theorem ints_nil : ints [] = [] := rfl
@[simp] theorem ints_cons (a : Nat) (l : List Nat) : ints (a :: l) = (a : Int) :: ints l := rfl

theorem ints_set (l : List Nat) (i v : Nat) : (ints l).set i (v : Int) = ints (l.set i v) := by
  simp [ints, List.map_set]

theorem ints_inj {a b : List Nat} (h : ints a = ints b) : a = b := by
  induction a generalizing b with
  | nil => cases b <;> simp_all [ints]
  | cons x xs ih => cases b with
    | nil => simp [ints] at h
    | cons y ys => simp [ints] at h; obtain ⟨h1, h2⟩ := h; rw [ih (by simpa [ints] using h2)]; simp; omega

theorem drop_cons_getD (l : List Nat) (k : Nat) (h : k < l.length) : l.drop k = l[k]?.getD 0 :: l.drop (k + 1) := by
  rw [List.drop_eq_getElem_cons h]; simp [h]

theorem tdiv_nat (a b : Nat) : Int.tdiv (a : Int) (b : Int) = ((a / b : Nat) : Int) := by
  simp

theorem tmod_nat (a b : Nat) : Int.tmod (a : Int) (b : Int) = ((a % b : Nat) : Int) := by
  rw [Int.tmod_eq_emod_of_nonneg (by omega)]; simp

theorem ints_append (a b : List Nat) : ints (a ++ b) = ints a ++ ints b := by simp [ints]

theorem drop_set_self {α} (l : List α) (k : Nat) (v : α) (h : k < l.length) : (l.set k v).drop k = v :: l.drop (k + 1) := by
  rw [List.drop_eq_getElem_cons (by simpa using h)]; simp [List.drop_set_of_lt]

theorem take_set_succ {α} (l : List α) (k : Nat) (v : α) (h : k < l.length) : (l.set k v).take (k + 1) = l.take k ++ [v] := by
  rw [List.take_succ_eq_append_getElem (by simpa using h)]; simp [List.take_set_of_le]

theorem take_succ_getD (l : List Nat) (k : Nat) (h : k < l.length) : l.take (k + 1) = l.take k ++ [l[k]?.getD 0] := by
  rw [List.take_succ_eq_append_getElem h]; simp [h]

theorem getLastD_eq_getD {α} (l : List α) (d : α) (h : l ≠ []) : l.getLastD d = l[l.length - 1]?.getD d := by
  cases l with
  | nil => exact absurd rfl h
  | cons a t => simp [List.getLast?_eq_getElem?]

theorem ints_map_getD {α} (f : α → Nat) (l : List α) (k : Nat) (hk : k < l.length) :
    (ints (l.map f)).getD k 0 = ((f l[k] : Nat) : Int) := by
  simp [ints, hk]

theorem getD_set_self {α} (l : List α) (k : Nat) (v d : α) (h : k < l.length) : (l.set k v).getD k d = v := by
  simp [h]

theorem getD_set_ne {α} (l : List α) (i j : Nat) (v d : α) (h : i ≠ j) : (l.set i v).getD j d = l.getD j d := by
  simp [List.getD_eq_getElem?_getD, List.getElem?_set_ne h]

/-- `memcpy`, `memset`, a loop that fills cell after cell -/
def storeAt {α} (l : List α) (i : Nat) (d : List α) : List α := l.take i ++ d ++ l.drop (i + d.length)

theorem storeAt_nil {α} (l : List α) (i : Nat) : storeAt l i [] = l := by simp [storeAt]

theorem length_storeAt {α} (l : List α) (i : Nat) (d : List α) (h : i + d.length ≤ l.length) : (storeAt l i d).length = l.length := by
  simp only [storeAt, List.length_append, List.length_take, List.length_drop]; omega

theorem storeAt_zero {α} (l d : List α) : storeAt l 0 d = d ++ l.drop d.length := by
  simp [storeAt]

theorem storeAt_set {α} (l : List α) (i : Nat) (x : α) (d : List α) (h : i < l.length) :
    storeAt (l.set i x) (i + 1) d = storeAt l i (x :: d) := by
  unfold storeAt
  rw [take_set_succ l i x h, List.drop_set_of_lt (by omega), List.length_cons, Nat.add_assoc, Nat.add_comm 1]
  simp only [List.append_assoc, List.cons_append, List.nil_append]

theorem storeAt_storeAt {α} (l : List α) (i : Nat) (a b : List α) (h : i ≤ l.length) :
    storeAt (storeAt l i a) (i + a.length) b = storeAt l i (a ++ b) := by
  have hl : (l.take i ++ a).length = i + a.length := by rw [List.length_append, List.length_take, Nat.min_eq_left h]
  unfold storeAt
  rw [← hl, List.take_left, ← List.drop_drop, List.drop_left, hl, List.drop_drop, List.length_append]
  simp only [List.append_assoc, Nat.add_assoc]

theorem storeAt_one {α} (l : List α) (i : Nat) (x : α) (h : i < l.length) : storeAt l i [x] = l.set i x := by
  rw [← storeAt_set l i x [] h, storeAt_nil]

theorem storeAt_snoc {α} (l : List α) (i : Nat) (d : List α) (x : α) (h : i + d.length < l.length) :
    (storeAt l i d).set (i + d.length) x = storeAt l i (d ++ [x]) := by
  rw [← storeAt_storeAt l i d [x] (by omega), storeAt_one _ _ _ (by rw [length_storeAt _ _ _ (by omega)]; exact h)]

theorem storeAt_set_in {α} (l : List α) (i j : Nat) (x : α) (d : List α) (h1 : i ≤ j) (h2 : j < i + d.length) :
    storeAt (l.set j x) i d = storeAt l i d := by
  unfold storeAt
  rw [List.take_set_of_le h1, List.drop_set_of_lt h2]

theorem storeAt_skip {α} (l : List α) (i k : Nat) (d : List α) (h : i + k ≤ l.length) :
    storeAt l (i + k) d = storeAt l i ((l.drop i).take k ++ d) := by
  unfold storeAt
  rw [List.take_add, List.length_append, List.length_take, List.length_drop, Nat.min_eq_left (by omega), Nat.add_assoc]
  simp only [List.append_assoc]

theorem getElem?_storeAt {α} (l : List α) (i : Nat) (d : List α) (h : i + d.length ≤ l.length) (j : Nat) :
    (storeAt l i d)[j]? = if j < i then l[j]? else if j < i + d.length then d[j - i]? else l[j]? := by
  unfold storeAt
  have hi : (l.take i).length = i := by rw [List.length_take]; omega
  by_cases h1 : j < i
  · rw [if_pos h1, List.append_assoc, List.getElem?_append_left (by omega), List.getElem?_take, if_pos h1]
  · rw [if_neg h1, List.append_assoc, List.getElem?_append_right (by omega), hi]
    by_cases h2 : j < i + d.length
    · rw [if_pos h2, List.getElem?_append_left (by omega)]
    · rw [if_neg h2, List.getElem?_append_right (by omega), List.getElem?_drop]
      congr 1; omega

theorem getD_storeAt_out {α} (l : List α) (i : Nat) (d : List α) (j : Nat) (x : α) (h : i + d.length ≤ l.length)
    (hj : j < i ∨ i + d.length ≤ j) : (storeAt l i d).getD j x = l.getD j x := by
  rw [List.getD_eq_getElem?_getD, List.getD_eq_getElem?_getD, getElem?_storeAt l i d h]
  rcases hj with hj | hj
  · rw [if_pos hj]
  · rw [if_neg (by omega), if_neg (by omega)]

theorem map_storeAt {α β} (f : α → β) (l : List α) (i : Nat) (d : List α) : (storeAt l i d).map f = storeAt (l.map f) i (d.map f) := by
  simp [storeAt, List.map_take, List.map_drop]

theorem storeAt_mid {α} (pre m post d : List α) (i : Nat) (h : i + d.length ≤ m.length) :
    storeAt (pre ++ m ++ post) (pre.length + i) d = pre ++ storeAt m i d ++ post := by
  unfold storeAt
  rw [List.append_assoc pre m post, List.take_append, List.take_of_length_le (Nat.le_add_right _ _), Nat.add_sub_cancel_left,
    List.take_append_of_le_length (by omega), List.drop_append, List.drop_of_length_le (by omega),
    show pre.length + i + d.length - pre.length = i + d.length by omega, List.drop_append_of_le_length h]
  simp only [List.append_assoc, List.nil_append]

def readAt {α} (l : List α) (i n : Nat) : List α := (l.drop i).take n

theorem length_readAt {α} (l : List α) (i n : Nat) (h : i + n ≤ l.length) : (readAt l i n).length = n := by
  simp only [readAt, List.length_take, List.length_drop]; omega

theorem getElem?_readAt {α} (l : List α) (i n j : Nat) : (readAt l i n)[j]? = if j < n then l[i + j]? else none := by
  simp [readAt, List.getElem?_take]

theorem map_readAt {α β} (f : α → β) (l : List α) (i n : Nat) : (readAt l i n).map f = readAt (l.map f) i n := by
  simp [readAt, List.map_take, List.map_drop]

theorem readAt_add {α} (l : List α) (i a b : Nat) : readAt l i (a + b) = readAt l i a ++ readAt l (i + a) b := by
  simp only [readAt]
  rw [List.take_add, List.drop_drop]

theorem readAt_readAt {α} (l : List α) {i n q k : Nat} (h : q + k ≤ n) : readAt (readAt l i n) q k = readAt l (i + q) k := by
  apply List.ext_getElem?
  intro j
  rw [getElem?_readAt, getElem?_readAt, getElem?_readAt]
  by_cases c : j < k
  · rw [if_pos c, if_pos c, if_pos (by omega), Nat.add_assoc]
  · rw [if_neg c, if_neg c]

theorem storeAt_readAt_self {α} (l : List α) (i n : Nat) (h : i + n ≤ l.length) : storeAt l i (readAt l i n) = l := by
  rw [storeAt, length_readAt l i n h, readAt, List.append_assoc, ← List.drop_drop, List.take_append_drop, List.take_append_drop]

theorem readAt_storeAt_same {α} (l : List α) (i : Nat) (d : List α) (h : i + d.length ≤ l.length) :
    readAt (storeAt l i d) i d.length = d := by
  apply List.ext_getElem?
  intro j
  rw [getElem?_readAt, getElem?_storeAt l i d h]
  by_cases c : j < d.length
  · rw [if_pos c, if_neg (by omega), if_pos (by omega), Nat.add_sub_cancel_left]
  · rw [if_neg c, List.getElem?_eq_none (by omega)]

theorem readAt_storeAt_disj {α} (l : List α) (i : Nat) (d : List α) (h : i + d.length ≤ l.length) {p n : Nat}
    (hd : p + n ≤ i ∨ i + d.length ≤ p) : readAt (storeAt l i d) p n = readAt l p n := by
  apply List.ext_getElem?
  intro j
  rw [getElem?_readAt, getElem?_readAt, getElem?_storeAt l i d h]
  by_cases c : j < n
  · rw [if_pos c, if_pos c]
    by_cases c1 : p + j < i
    · rw [if_pos c1]
    · rw [if_neg c1, if_neg (by omega)]
  · rw [if_neg c, if_neg c]

theorem storeAt_storeAt_in {α} (l : List α) (i : Nat) (o : List α) (p : Nat) (s : List α) (hm : i + o.length ≤ l.length)
    (hp : p + s.length ≤ o.length) : storeAt (storeAt l i o) (i + p) s = storeAt l i (storeAt o p s) := by
  have ho := length_storeAt o p s hp
  apply List.ext_getElem?
  intro q
  rw [getElem?_storeAt _ _ _ (by rw [length_storeAt _ _ _ hm]; omega), getElem?_storeAt _ _ _ hm,
    getElem?_storeAt _ _ _ (by rw [ho]; exact hm), ho, getElem?_storeAt _ _ _ hp]
  by_cases c1 : q < i
  · rw [if_pos (by omega), if_pos c1, if_pos c1]
  · rw [if_neg c1, if_neg c1]
    by_cases c2 : q < i + p
    · rw [if_pos c2, if_pos (by omega), if_pos (by omega), if_pos (by omega)]
    · rw [if_neg c2]
      by_cases c3 : q < i + p + s.length
      · rw [if_pos c3, if_pos (by omega), if_neg (by omega), if_pos (by omega)]; congr 1; omega
      · rw [if_neg c3]
        by_cases c4 : q < i + o.length
        · rw [if_pos c4, if_pos c4, if_neg (by omega), if_neg (by omega)]
        · rw [if_neg c4, if_neg c4]

/-! `memcpy(a + d, a + s, n)` inside one array as the translator writes it: the checks of C11 7.24.2.1 (count, destination range, source
    range, no overlap unless empty), then the array -/
def memcpyUb (ub : Bool) (len d s n : Int) : Bool :=
  (((ub || !decide (0 ≤ n)) || !decide (0 ≤ d ∧ d + n ≤ len)) || !decide (0 ≤ s ∧ s + n ≤ len)) || !decide (d + n ≤ s ∨ s + n ≤ d ∨ n = 0)

def memcpyMem (a : List Int) (d s n : Int) : List Int := a.take d.toNat ++ (a.drop s.toNat).take n.toNat ++ a.drop (d + n).toNat

theorem memcpyUb_nat (ub : Bool) {len d s n : Nat} (hd : d + n ≤ len) (hs : s + n ≤ len) :
    memcpyUb ub len d s n = (ub || !decide (d + n ≤ s ∨ s + n ≤ d ∨ n = 0)) := by
  have c1 : (0 ≤ (d : Int) ∧ (d : Int) + n ≤ len) := by omega
  have c2 : (0 ≤ (s : Int) ∧ (s : Int) + n ≤ len) := by omega
  have c3 : ((d : Int) + n ≤ s ∨ (s : Int) + n ≤ d ∨ (n : Int) = 0) ↔ (d + n ≤ s ∨ s + n ≤ d ∨ n = 0) := by omega
  simp only [memcpyUb, c1, c2, Int.natCast_nonneg, and_self, decide_true, Bool.not_true, Bool.or_false, decide_eq_decide.mpr c3]

theorem memcpyMem_nat (a : List Int) {d s n : Nat} (hs : s + n ≤ a.length) : memcpyMem a d s n = storeAt a d (readAt a s n) := by
  rw [storeAt, length_readAt a s n hs, memcpyMem, show ((d : Int) + (n : Int)).toNat = d + n by omega]
  rfl

theorem ints_getD_nat (l : List Nat) (i : Nat) : (ints l).getD i 0 = ((l.getD i 0 : Nat) : Int) := by
  simp only [List.getD_eq_getElem?_getD, ints_getD]

theorem ints_append_zeros (l : List Nat) (k : Nat) : ints l ++ List.replicate k (0 : Int) = ints (l ++ List.replicate k 0) := by
  simp [ints]

theorem ints_set_modify (l : List Nat) (i : Nat) (f : Nat → Nat) :
    (ints l).set i ((f (l.getD i 0) : Nat) : Int) = ints (l.modify i f) := by
  apply List.ext_getElem?
  intro j
  simp only [ints, List.getElem?_set, List.getElem?_map, List.getElem?_modify, List.length_map, List.getD_eq_getElem?_getD]
  by_cases hij : i = j
  · subst hij
    by_cases hl : i < l.length
    · simp [hl]
    · simp [hl]
  · simp [hij]

theorem ints_set_clr (l : List Nat) (i c : Nat) :
    (ints l).set i ((l.getD i 0 &&& c : Nat) : Int) = ints (l.modify i (fun x => x &&& c)) := ints_set_modify l i (fun x => x &&& c)
theorem ints_set_or (l : List Nat) (i c : Nat) :
    (ints l).set i ((l.getD i 0 ||| c : Nat) : Int) = ints (l.modify i (fun x => x ||| c)) := ints_set_modify l i (fun x => x ||| c)

/-- `realloc` to `a + k` cells (new cells poisoned) followed by `memset(&buf[a], 0, k)` -/
theorem realloc_memset (B : List Int) (a k : Nat) (h : B.length = a) :
    List.take a (List.take (a + k) B ++ List.replicate (a + k - a) 170) ++ List.replicate k 0 ++
      List.drop (a + k) (List.take (a + k) B ++ List.replicate (a + k - a) 170) = B ++ List.replicate k 0 := by
  have h1 : List.take (a + k) B = B := List.take_of_length_le (by omega)
  rw [h1, Nat.add_sub_cancel_left, List.take_left' h, List.drop_of_length_le (by simp; omega), List.append_nil]

theorem getD_of_forall_mem {α} {p : α → Prop} {l : List α} {d : α} (h : ∀ x ∈ l, p x) (hd : p d) (i : Nat) : p (l.getD i d) := by
  by_cases hi : i < l.length
  · simp only [List.getD_eq_getElem?_getD, List.getElem?_eq_getElem hi, Option.getD_some]
    exact h _ (List.getElem_mem hi)
  · simp only [List.getD_eq_getElem?_getD, List.getElem?_eq_none (by omega : l.length ≤ i), Option.getD_none]
    exact hd

/-! ### C strings, `malloc` counts and integer casts as the translator writes them -/

theorem cstr_takeWhile {α} [DecidableEq α] {z : α} {b : List α} (h : z ∉ b) (pad : List α) : (b ++ z :: pad).takeWhile (· ≠ z) = b := by
  induction b with
  | nil => simp
  | cons x xs ih =>
    have hx : x ≠ z := fun e => h (by simp [e])
    simp only [List.cons_append, List.takeWhile_cons, ne_eq, hx, not_false_eq_true, decide_true, if_true, ih (fun e => h (List.mem_cons_of_mem _ e))]

theorem cstr_take {α} (b : List α) (z : α) (pad : List α) : (b ++ z :: pad).take (b.length + 1) = b ++ [z] := by
  rw [List.take_append, List.take_of_length_le (by omega), Nat.add_sub_cancel_left]; rfl

/-- `strlen(str)` as translated: its check, and the characters it counts -/
theorem cstr_strlen {str b pad : List Int} (hs : str = b ++ 0 :: pad) (h0 : (0 : Int) ∉ b) :
    (0 ≤ 0 ∧ (0 : Int) ∈ str.drop (Int.toNat 0)) ∧ (str.drop (Int.toNat 0)).takeWhile (· ≠ 0) = b := by
  subst hs
  exact ⟨⟨Nat.le_refl 0, by simp⟩, cstr_takeWhile h0 pad⟩

/-- `strcmp` as the translator defines it in every unit that calls it (`hf`: `fun _ _ _ _ => rfl` for such a copy), on two regions that hold
    C strings: it answers, and with 0 exactly when the strings agree under any reading `g` of a cell that sees its low byte only -/
theorem strcmp_spec {β} {f : List Int → List Int → Option Int}
    (hf : ∀ a as b bs, f (a :: as) (b :: bs) =
      if a % 256 ≠ b % 256 then some (if a % 256 < b % 256 then -1 else 1) else if a % 256 = 0 then some 0 else f as bs) (g : Int → β) :
    ∀ (a b pa pb : List Int), (∀ c ∈ a, c % 256 ≠ 0) → (∀ c ∈ b, c % 256 ≠ 0) → (∀ x ∈ a, ∀ y ∈ b, (g x = g y ↔ x % 256 = y % 256)) →
    ∃ r, f (a ++ 0 :: pa) (b ++ 0 :: pb) = some r ∧ (r = 0 ↔ a.map g = b.map g) := by
  intro a
  induction a with
  | nil =>
    intro b pa pb _ hb _
    cases b with
    | nil => exact ⟨0, by simp [hf], by simp⟩
    | cons y ys =>
      have := hb y (by simp)
      refine ⟨-1, ?_, by simp⟩
      simp only [List.nil_append, List.cons_append, hf]
      rw [if_pos (by omega), if_pos (by omega)]
  | cons x xs ih =>
    intro b pa pb ha hb hg
    have hx := ha x (by simp)
    cases b with
    | nil =>
      refine ⟨1, ?_, by simp⟩
      simp only [List.nil_append, List.cons_append, hf]
      rw [if_pos (by omega), if_neg (by omega)]
    | cons y ys =>
      have hy := hb y (by simp)
      have hxy := hg x (by simp) y (by simp)
      simp only [List.cons_append, hf]
      by_cases e : x % 256 = y % 256
      · rw [if_neg (by omega), if_neg (by omega)]
        obtain ⟨r, hr, hr2⟩ := ih ys pa pb (fun c hc => ha c (by simp [hc])) (fun c hc => hb c (by simp [hc]))
          (fun u hu v hv => hg u (by simp [hu]) v (by simp [hv]))
        exact ⟨r, hr, by simp [hr2, hxy.mpr e]⟩
      · rw [if_pos e]
        refine ⟨_, rfl, ?_⟩
        constructor
        · intro h; split at h <;> omega
        · intro h; simp at h; exact absurd (hxy.mp h.1) e

/-- `malloc(sizeof(T) * (size_t)n)` / `malloc((size_t)n * sizeof(T))` is a block of `n` cells of `k = sizeof(T)` bytes -/
theorem malloc_cells (k n : Int) (hk : 0 < k) (h0 : 0 ≤ n) (h1 : k * n < 18446744073709551616) :
    Int.tdiv ((k * (n % 18446744073709551616)) % 18446744073709551616) k = n ∧
    Int.tdiv (((n % 18446744073709551616) * k) % 18446744073709551616) k = n := by
  have hn : n < 18446744073709551616 := by have := Int.mul_le_mul_of_nonneg_right (show (1 : Int) ≤ k from hk) h0; omega
  have hkn : 0 ≤ k * n := Int.mul_nonneg (Int.le_of_lt hk) h0
  rw [Int.emod_eq_of_lt h0 hn, Int.mul_comm n k, Int.emod_eq_of_lt hkn h1, Int.mul_comm, Int.mul_tdiv_cancel _ (Int.ne_of_gt hk)]
  exact ⟨rfl, rfl⟩

theorem emod_natCast {x : Nat} {M : Int} (h : (x : Int) < M) : (x : Int) % M = x := Int.emod_eq_of_lt (Int.natCast_nonneg x) h

theorem emod32_nat (x : Nat) (h : x < 4294967296) : (x : Int) % 4294967296 = x := emod_natCast (by omega)

theorem emod64_nat (x : Nat) (h : x < 18446744073709551616) : (x : Int) % 18446744073709551616 = x := emod_natCast (by omega)

theorem mul_emod64 (x y : Nat) (hxy : x * y < 18446744073709551616) : ((x : Int) * (y : Int)) % 18446744073709551616 = ((x * y : Nat) : Int) := by
  rw [← Int.natCast_mul, emod64_nat _ hxy]

theorem toNat_natCast_add (a b : Nat) : Int.toNat ((a : Int) + (b : Int)) = a + b := by omega

theorem headD_eq_getD {α} (l : List α) (d : α) : l.headD d = l.getD 0 d := by cases l <;> rfl

/-- a `malloc`ed block (the translator fills it with the poison value 170 = 0xAA, here `p`) written at the first unwritten cell -/
theorem set_append_replicate (p : Int) (acc : List Nat) (m : Nat) (v : Nat) :
    (ints acc ++ List.replicate (m + 1) p).set acc.length (v : Int) = ints (acc ++ [v]) ++ List.replicate m p := by
  rw [List.set_append_right _ _ (by simp)]
  simp [ints_append, List.replicate_succ]

/-- the same for a block filled from its end -/
theorem set_replicate_drop (p : Int) (m : Nat) (D : List Nat) (hm : m < D.length) :
    (List.replicate (m + 1) p ++ ints (D.drop (m + 1))).set m ((D.getD m 0 : Nat) : Int) = List.replicate m p ++ ints (D.drop m) := by
  rw [List.set_append_left _ _ (by simp)]
  rw [drop_cons_getD D m hm]
  have : (List.replicate (m + 1) p).set m ((D.getD m 0 : Nat) : Int) = List.replicate m p ++ [((D.getD m 0 : Nat) : Int)] := by
    rw [List.replicate_succ']
    rw [List.set_append_right _ _ (by simp)]
    simp
  rw [this]
  simp [List.getD_eq_getElem?_getD]

/-- a fact kept out of sight of `omega` (which would case-split on its `%`) -/
structure Hide (p : Prop) : Prop where
  h : p

theorem find_findIdx {α} [Inhabited α] (l : List α) (p : α → Bool) :
    l.find? p = (l.findIdx? p).map (fun j => l.getD j default) := by
  induction l with
  | nil => rfl
  | cons a t ih =>
    rw [List.find?_cons, List.findIdx?_cons]
    cases h : p a with
    | true => simp
    | false =>
      simp only [Bool.false_eq_true, if_false, ih, Option.map_map]
      congr 1

theorem findIdx_getD {α} (l : List α) (p : α → Bool) : l.findIdx p = (l.findIdx? p).getD l.length := by
  induction l with
  | nil => rfl
  | cons a t ih =>
    rw [List.findIdx_cons, List.findIdx?_cons]
    cases h : p a with
    | true => simp
    | false =>
      simp only [Bool.false_eq_true, if_false, cond_false, ih]
      cases t.findIdx? p <;> simp

theorem take_append_replicate {α} (l : List α) (n : Nat) (x : α) (h : l.length = n) :
    l.take (n + 1) ++ List.replicate (n + 1 - l.length) x = l ++ [x] := by
  rw [List.take_of_length_le (by omega), h]
  simp

theorem set_snoc {α} (l : List α) (n : Nat) (a v : α) (h : l.length = n) : (l ++ [a]).set n v = l ++ [v] := by
  subst h
  induction l with
  | nil => rfl
  | cons x t ih => simp [ih]

theorem ext_getD {α} (l1 l2 : List α) (d : α) (hl : l1.length = l2.length) (h : ∀ i, i < l1.length → l1.getD i d = l2.getD i d) : l1 = l2 := by
  apply List.ext_getElem hl
  intro i h1 h2
  have := h i h1
  simpa [List.getD_eq_getElem?_getD, h1, h2] using this

theorem drop_block (b X : List Int) (n ac : Nat) (hX : X.length = ac) (hn : n + ac ≤ b.length)
    (h : ∀ j, j < ac → b.getD (n + j) 0 = X.getD j 0) : b.drop n = X ++ b.drop (n + ac) := by
  apply List.ext_getElem? 
  intro i
  by_cases hi : i < ac
  · have := h i hi
    rw [List.getElem?_append_left (by omega), List.getElem?_drop]
    simp only [List.getD_eq_getElem?_getD] at this
    rw [List.getElem?_eq_getElem (by omega), List.getElem?_eq_getElem (by omega)] at this ⊢
    simpa using this
  · rw [List.getElem?_append_right (by omega), List.getElem?_drop, List.getElem?_drop, hX]
    congr 1; omega

theorem five_ext (b A B C D E : List Int) (ac : Nat) (hA : A.length = ac) (hB : B.length = ac) (hC : C.length = ac) (hD : D.length = ac)
    (hE : E.length = ac) (hb : b.length = 5 * ac)
    (h : ∀ j, j < ac → b.getD j 0 = A.getD j 0 ∧ b.getD (ac + j) 0 = B.getD j 0 ∧ b.getD (2 * ac + j) 0 = C.getD j 0 ∧
      b.getD (3 * ac + j) 0 = D.getD j 0 ∧ b.getD (4 * ac + j) 0 = E.getD j 0) : b = A ++ B ++ C ++ D ++ E := by
  have e0 := drop_block b A 0 ac hA (by omega) (fun j hj => by rw [Nat.zero_add]; exact (h j hj).1)
  have e1 := drop_block b B ac ac hB (by omega) (fun j hj => (h j hj).2.1)
  have e2 := drop_block b C (2 * ac) ac hC (by omega) (fun j hj => (h j hj).2.2.1)
  have e3 := drop_block b D (3 * ac) ac hD (by omega) (fun j hj => (h j hj).2.2.2.1)
  have e4 := drop_block b E (4 * ac) ac hE (by omega) (fun j hj => (h j hj).2.2.2.2)
  rw [List.drop_eq_nil_of_le (show b.length ≤ 4 * ac + ac by omega), List.append_nil] at e4
  rw [show 3 * ac + ac = 4 * ac by omega, e4] at e3
  rw [show 2 * ac + ac = 3 * ac by omega, e3] at e2
  rw [show ac + ac = 2 * ac by omega, e2] at e1
  rw [Nat.zero_add, e1, List.drop_zero] at e0
  rw [e0]
  simp only [List.append_assoc]

theorem take_app {α} (A B : List α) (i : Nat) (h : A.length = i) : (A ++ B).take i = A := by subst h; simp
theorem drop_app {α} (A B : List α) (i d : Nat) (h : A.length = i) : (A ++ B).drop (i + d) = B.drop d := by
  subst h; simp [List.drop_append]

theorem drop_cons_inv {α} (l : List α) (k : Nat) (c : α) (rest : List α) (h : l.drop k = c :: rest) :
    ∃ hk : k < l.length, l[k] = c ∧ l.drop (k + 1) = rest := by
  have hk : k < l.length := by
    rcases Nat.lt_or_ge k l.length with h' | h'
    · exact h'
    · rw [List.drop_eq_nil_of_le h'] at h; cases h
  rw [List.drop_eq_getElem_cons hk] at h
  simp only [List.cons.injEq] at h
  exact ⟨hk, h.1, h.2⟩

theorem take_succ_split {α} (l : List α) (k : Nat) (R : List α) (x d : α) (h : l.take (k + 1) = R ++ [x]) (hR : R.length = k) :
    l.take k = R ∧ l.getD k d = x ∧ k < l.length := by
  have hl : k < l.length := by
    have := congrArg List.length h
    simp at this; omega
  rw [List.take_succ_eq_append_getElem hl] at h
  obtain ⟨h1, h2⟩ := List.append_inj' h rfl
  exact ⟨h1, by simpa [List.getD, hl] using h2, hl⟩

end H4.C2L
