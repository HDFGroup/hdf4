import H4.Lemmas.C18Names
/-! Helper lemmas for `H4.Props.C18Fn`: `parse_chunk` of `hrepack_parse.c` as translated (`H4.Gen.Fn.Repack.parse_chunk`).
    The object-list part it shares with `parse_comp` is in `H4.Lemmas.C18Names` (`chunk_text` is what ties this translation to it);
    here: the chunk-length scanner (loop 2) and the assembly. -/

namespace H4.C18Fn
open H4.Tools H4.Gen.Tools

section chunk
open H4.Gen.Fn.Repack

def chunkNames : NameVars parse_chunk.St where
  get s := { obj_list := s.obj_list, i := s.i, c_ := s.c_, len := s.len, j := s.j, n := s.n, k := s.k, end_obj := s.end_obj, str := s.str, n_objs := s.n_objs, obj := s.obj, obj_list_blk := s.obj_list_blk, ub := s.ub, oof := s.oof, ret := s.ret, retnull := s.retnull, done := s.done, gto := s.gto }
  put a s := { s with obj_list := a.obj_list, i := a.i, c_ := a.c_, len := a.len, j := a.j, n := a.n, k := a.k, end_obj := a.end_obj, str := a.str, n_objs := a.n_objs, obj := a.obj, obj_list_blk := a.obj_list_blk, ub := a.ub, oof := a.oof, ret := a.ret, retnull := a.retnull, done := a.done, gto := a.gto }
  get_put _ _ := rfl
  put_get _ := rfl

theorem chunk_scanStep (fuel : Nat) (a : NameSt) (s : parse_chunk.St) :
    parse_chunk.loop0.body fuel (chunkNames.put a s) = chunkNames.put (scanStep a) s := by
  by_cases h58 : a.str.getD a.i.toNat 0 = 58
  · simp only [parse_chunk.loop0.body, parse_chunk.chk, scanStep, NameSt.chk, chunkNames, h58, Int.reduceEq, c18logic]; rfl
  · by_cases h44 : a.str.getD a.i.toNat 0 = 44 <;>
      simp only [parse_chunk.loop0.body, parse_chunk.chk, scanStep, NameSt.chk, chunkNames, h58, h44, Int.reduceEq, c18logic] <;> rfl

theorem chunk_nameStep (fuel : Nat) (a : NameSt) (s : parse_chunk.St) (hd : a.done = false) (hg : a.gto = false) :
    parse_chunk.loop1.body fuel (chunkNames.put a s) = chunkNames.put (nameStep a) s := by
  by_cases hk : a.k ≥ 256 - 1
  · simp only [parse_chunk.loop1.body, parse_chunk.chk, nameStep, NameSt.chk, chunkNames, hd, hg, hk, c18logic]
  by_cases hem : a.str.getD (Int.toNat a.j) 0 = 44 ∨ a.j = a.end_obj - 1
  · by_cases h44 : a.str.getD (Int.toNat a.j) 0 = 44
    · simp only [parse_chunk.loop1.body, parse_chunk.chk, nameStep, rowCopy, NameSt.chk, chunkNames, hd, hg, hk, h44, c18logic]
    · simp only [parse_chunk.loop1.body, parse_chunk.chk, nameStep, rowCopy, NameSt.chk, chunkNames, hd, hg, hk, eq_true (hem.resolve_left h44), h44, c18logic]
  · simp only [parse_chunk.loop1.body, parse_chunk.chk, nameStep, NameSt.chk, chunkNames, hd, hg, hk, hem, c18logic]


theorem chunk_loop2_is : H4.C2L.IsLoop parse_chunk.loop2 (fun s => (s.i < s.len) ∧ ¬(s.done ∨ s.gto)) parse_chunk.loop2.body (fun s => s) :=
  .of_eqs (fun _ => rfl) (fun _ _ => rfl)

/-- what `isdigit((unsigned char)c) || c == 'x' || ...` of the C text says about the character -/
theorem chunkChar_iff {c : Int} (hc : IsChar c) :
    chunkChar (toChar c) = true ↔ ((48 ≤ c % 256 ∧ c % 256 ≤ 57) ∨ c = 120 ∨ c = 78 ∨ c = 79 ∨ c = 69) := by
  simp only [chunkChar, Bool.or_eq_true, decide_eq_true_eq, toChar_isDigit,
    toChar_eq_ascii hc 'x' 120 rfl (by omega), toChar_eq_ascii hc 'N' 78 rfl (by omega), toChar_eq_ascii hc 'O' 79 rfl (by omega),
    toChar_eq_ascii hc 'E' 69 rfl (by omega)]
  simp only [Int.cast_ofNat_Int, or_assoc]

theorem tokOK_snoc {sd : List Int} {c : Int} (h : TokOK sd) (hc : IsChar c)
    (hcc : (48 ≤ c % 256 ∧ c % 256 ≤ 57) ∨ c = 78 ∨ c = 79 ∨ c = 69) : TokOK (sd ++ [c]) := by
  intro x hx
  rcases List.mem_append.mp hx with h' | h'
  · exact h x h'
  · simp at h'; subst h'; unfold IsChar at hc; refine ⟨hc, ?_, ?_, ?_, ?_⟩ <;> omega

/-! Loop 2, its body cut at its statements: the pieces are copies of the generated text, `chunk_body_pieces` ties them to it. -/

/-- the character is read; a full `sdim[]`, or an `x` as the last character, is refused -/
def ckPre (s : parse_chunk.St) : parse_chunk.St :=
  have s : parse_chunk.St := parse_chunk.chk s (0 ≤ s.i ∧ s.i < s.str.length)
  have s : parse_chunk.St := parse_chunk.St.set_c_ s ((s.str.getD (Int.toNat (s.i)) 0))
  have s : parse_chunk.St := if ((s.k ≥ (10 - 1)) ∨ ((s.c_ = 120) ∧ (s.i = (((s.len - ((1) % 18446744073709551616))) % 18446744073709551616)))) then
      have s : parse_chunk.St := parse_chunk.St.set_gto s (true)
      s
    else
      s
  s

/-- `sdim[k++] = c` -/
def ckStore (s : parse_chunk.St) : parse_chunk.St :=
  have s : parse_chunk.St := if s.done ∨ s.gto then s else
    have s : parse_chunk.St := parse_chunk.chk s (0 ≤ s.k ∧ s.k < s.sdim.length)
    have s : parse_chunk.St := parse_chunk.St.set_sdim s (s.sdim.set (Int.toNat (s.k)) (s.c_))
    s
  have s : parse_chunk.St := if s.done ∨ s.gto then s else
    have s : parse_chunk.St := parse_chunk.St.set_k s ((s.k + 1))
    s
  s

/-- a character that is neither a digit nor one of `x N O E` is refused -/
def ckChar (s : parse_chunk.St) : parse_chunk.St :=
  have s : parse_chunk.St := if s.done ∨ s.gto then s else
    have s : parse_chunk.St := parse_chunk.chk s (-1 ≤ ((s.c_) % 256) ∧ ((s.c_) % 256) ≤ 255)
    have s : parse_chunk.St := if ((((((¬((if 48 ≤ ((s.c_) % 256) ∧ ((s.c_) % 256) ≤ 57 then 1 else 0) ≠ 0)) ∧ (s.c_ ≠ 120)) ∧ (s.c_ ≠ 78)) ∧ (s.c_ ≠ 79)) ∧ (s.c_ ≠ 78)) ∧ (s.c_ ≠ 69)) then
        have s : parse_chunk.St := parse_chunk.St.set_gto s (true)
        s
      else
        s
    s
  s

/-- `chunk_lengths[c_index] = atoi(sdim)`; a zero length is refused -/
def ckLen (s : parse_chunk.St) : parse_chunk.St :=
  have s : parse_chunk.St := parse_chunk.chk s ((atoiC s.sdim).isSome = true)
  have s : parse_chunk.St := parse_chunk.chk s (0 ≤ s.c_index ∧ s.c_index < s.chunk_lengths.length)
  have s : parse_chunk.St := parse_chunk.St.set_chunk_lengths s (s.chunk_lengths.set (Int.toNat (s.c_index)) (((atoiC s.sdim).getD 0)))
  have s : parse_chunk.St := parse_chunk.chk s (0 ≤ s.c_index ∧ s.c_index < s.chunk_lengths.length)
  have s : parse_chunk.St := if ((s.chunk_lengths.getD (Int.toNat (s.c_index)) 0) = 0) then
      have s : parse_chunk.St := parse_chunk.St.set_gto s (true)
      s
    else
      s
  s

/-- at an `x`: the token is closed over the `x`, stored as the next length, `c_index++` -/
def ckX (s : parse_chunk.St) : parse_chunk.St :=
  have s : parse_chunk.St := parse_chunk.chk s (0 ≤ (s.k - 1) ∧ (s.k - 1) < s.sdim.length)
  have s : parse_chunk.St := parse_chunk.St.set_sdim s (s.sdim.set (Int.toNat ((s.k - 1))) ((((0) + 128) % 256 - 128)))
  have s : parse_chunk.St := parse_chunk.St.set_k s (0)
  have s : parse_chunk.St := ckLen s
  have s : parse_chunk.St := if s.done ∨ s.gto then s else
    have s : parse_chunk.St := parse_chunk.St.set_c_index s ((s.c_index + 1))
    s
  s

/-- at the last character: the token is closed behind it; `NONE` sets the rank to -2, anything else is the last length and sets the rank -/
def ckLast (s : parse_chunk.St) : parse_chunk.St :=
  have s : parse_chunk.St := if (s.i = (((s.len - ((1) % 18446744073709551616))) % 18446744073709551616)) then
      have s : parse_chunk.St := parse_chunk.chk s (0 ≤ s.k ∧ s.k < s.sdim.length)
      have s : parse_chunk.St := parse_chunk.St.set_sdim s (s.sdim.set (Int.toNat (s.k)) ((((0) + 128) % 256 - 128)))
      have s : parse_chunk.St := parse_chunk.St.set_k s (0)
      have s : parse_chunk.St := parse_chunk.chk s ((strcmpC s.sdim ([78, 79, 78, 69, 0] : List Int)).isSome = true)
      have s : parse_chunk.St := if (((strcmpC s.sdim ([78, 79, 78, 69, 0] : List Int)).getD 0) = 0) then
          have s : parse_chunk.St := parse_chunk.chk s (0 < s.chunk_rank.length)
          have s : parse_chunk.St := parse_chunk.St.set_chunk_rank s (s.chunk_rank.set (Int.toNat (0)) ((- 2)))
          s
        else
          have s : parse_chunk.St := ckLen s
          have s : parse_chunk.St := if s.done ∨ s.gto then s else
            have s : parse_chunk.St := parse_chunk.chk s (0 < s.chunk_rank.length)
            have s : parse_chunk.St := parse_chunk.St.set_chunk_rank s (s.chunk_rank.set (Int.toNat (0)) ((s.c_index + 1)))
            s
          s
      s
    else
      s
  s

/-- the token ends at an `x` or at the last character, if `chunk_lengths[]` has room for one more -/
def ckTok (s : parse_chunk.St) : parse_chunk.St :=
  have s : parse_chunk.St := if s.done ∨ s.gto then s else
    have s : parse_chunk.St := if ((s.c_ = 120) ∨ (s.i = (((s.len - ((1) % 18446744073709551616))) % 18446744073709551616))) then
        have s : parse_chunk.St := if (s.c_index ≥ 32) then
            have s : parse_chunk.St := parse_chunk.St.set_gto s (true)
            s
          else
            s
        have s : parse_chunk.St := if s.done ∨ s.gto then s else
          have s : parse_chunk.St := if (s.c_ = 120) then
              ckX s
            else
              ckLast s
          s
        s
      else
        s
    s
  s

def ckPost (s : parse_chunk.St) : parse_chunk.St :=
  have s : parse_chunk.St := if s.done ∨ s.gto then s else
    have s : parse_chunk.St := parse_chunk.St.set_i s ((((s.i + 1)) % 4294967296))
    s
  s

theorem chunk_body_pieces (fuel : Nat) (s : parse_chunk.St) :
    parse_chunk.loop2.body fuel s = ckPost (ckTok (ckChar (ckStore (ckPre s)))) := rfl

theorem ck_skip (s : parse_chunk.St) (h : s.done = true ∨ s.gto = true) : ckPost (ckTok (ckChar (ckStore s))) = s := by
  simp only [ckPost, ckTok, ckChar, ckStore, h, if_true]

theorem ckTok_skip (s : parse_chunk.St) (h : s.done = true ∨ s.gto = true) : ckTok s = s := by
  simp only [ckTok, h, if_true]

theorem ckPost_skip (s : parse_chunk.St) (h : s.done = true ∨ s.gto = true) : ckPost s = s := by
  simp only [ckPost, h, if_true]

theorem ckPre_spec (s : parse_chunk.St) (hA0 : 0 ≤ s.i ∧ s.i < (s.str.length : Int)) :
    ckPre s = if s.k ≥ 10 - 1 ∨ (s.str.getD s.i.toNat 0 = 120 ∧ s.i = (s.len - 1 % 18446744073709551616) % 18446744073709551616)
      then { s with c_ := s.str.getD s.i.toNat 0, gto := true } else { s with c_ := s.str.getD s.i.toNat 0 } := by
  by_cases h : s.k ≥ 10 - 1 ∨ (s.str.getD s.i.toNat 0 = 120 ∧ s.i = (s.len - 1 % 18446744073709551616) % 18446744073709551616) <;>
    simp only [ckPre, parse_chunk.chk, hA0, h, c18logic]

theorem ckStore_spec (s : parse_chunk.St) (hd : s.done = false) (hg : s.gto = false) (hk : 0 ≤ s.k ∧ s.k < (s.sdim.length : Int)) :
    ckStore s = { s with sdim := s.sdim.set s.k.toNat s.c_, k := s.k + 1 } := by
  simp only [ckStore, parse_chunk.chk, show ¬ (s.done = true ∨ s.gto = true) by simp [hd, hg], hk, c18logic]

theorem ckChar_spec (s : parse_chunk.St) (hd : s.done = false) (hg : s.gto = false) (hc : IsChar s.c_) :
    ckChar s = if chunkChar (toChar s.c_) = true then s else { s with gto := true } := by
  have hmod : -1 ≤ s.c_ % 256 ∧ s.c_ % 256 ≤ 255 := by omega
  have hiff := chunkChar_iff hc
  have hdg : ¬ (s.done = true ∨ s.gto = true) := by simp [hd, hg]
  have hA4 : ((((((¬((if 48 ≤ s.c_ % 256 ∧ s.c_ % 256 ≤ 57 then 1 else 0) ≠ 0)) ∧ (s.c_ ≠ 120)) ∧ (s.c_ ≠ 78)) ∧ (s.c_ ≠ 79)) ∧ (s.c_ ≠ 78)) ∧ (s.c_ ≠ 69)) ↔
      ¬ chunkChar (toChar s.c_) = true := by
    rw [hiff, isdigitC_iff]; omega
  by_cases hcc : chunkChar (toChar s.c_) = true
  · rw [if_pos hcc]
    simp only [ckChar, parse_chunk.chk, hdg, hmod, eq_false (mt hA4.mp (not_not_intro hcc)), c18logic]
  · rw [if_neg hcc]
    simp only [ckChar, parse_chunk.chk, hdg, hmod, eq_true (hA4.mpr hcc), c18logic]

theorem ckTok_spec (s : parse_chunk.St) (hd : s.done = false) (hg : s.gto = false) :
    ckTok s = if s.c_ = 120 ∨ s.i = (s.len - 1 % 18446744073709551616) % 18446744073709551616 then
        (if s.c_index ≥ 32 then { s with gto := true } else if s.c_ = 120 then ckX s else ckLast s)
      else s := by
  have hdg : ¬ (s.done = true ∨ s.gto = true) := by simp [hd, hg]
  by_cases h : s.c_ = 120 ∨ s.i = (s.len - 1 % 18446744073709551616) % 18446744073709551616
  · by_cases hr : s.c_index ≥ 32
    · simp only [ckTok, hdg, h, hr, c18logic]
    · by_cases hx : s.c_ = 120 <;> simp only [ckTok, hdg, hr, hx, c18logic]
  · simp only [ckTok, hdg, h, c18logic]

theorem ckLen_spec (s : parse_chunk.St) (sd junk : List Int) (hsd : s.sdim = sd ++ 0 :: junk) (htok : TokOK sd) (hl : sd.length ≤ 9)
    (hci : 0 ≤ s.c_index ∧ s.c_index < (s.chunk_lengths.length : Int)) :
    ckLen s = if atoi (toStr sd) = 0
      then { s with chunk_lengths := s.chunk_lengths.set s.c_index.toNat ((atoi (toStr sd) : Nat) : Int), gto := true }
      else { s with chunk_lengths := s.chunk_lengths.set s.c_index.toNat ((atoi (toStr sd) : Nat) : Int) } := by
  have hatoi := atoiC_spec sd junk htok hl
  have hgs (v : Int) : (s.chunk_lengths.set s.c_index.toNat v).getD s.c_index.toNat 0 = v := H4.C2L.getD_set_self _ _ _ _ (by omega)
  by_cases hv : atoi (toStr sd) = 0
  · rw [if_pos hv]
    simp only [ckLen, parse_chunk.chk, hsd, hatoi, hci, hgs, hv, List.length_set, Option.isSome_some, Option.getD_some, Int.natCast_zero, c18logic]
  · rw [if_neg hv]
    simp only [ckLen, parse_chunk.chk, hsd, hatoi, hci, hgs, eq_false (Int.natCast_ne_zero.mpr hv), List.length_set, Option.isSome_some, Option.getD_some, c18logic]

theorem ckX_spec (s : parse_chunk.St) (sd jr : List Int) (c b : Int) (hk : s.k = (sd.length : Int) + 1) (hsd : s.sdim = (sd ++ [c]) ++ b :: jr)
    (htok : TokOK sd) (hl : sd.length ≤ 8) (hci : 0 ≤ s.c_index ∧ s.c_index < (s.chunk_lengths.length : Int))
    (hd : s.done = false) (hg : s.gto = false) :
    ckX s = if atoi (toStr sd) = 0
      then { s with sdim := sd ++ 0 :: b :: jr, k := 0, chunk_lengths := s.chunk_lengths.set s.c_index.toNat ((atoi (toStr sd) : Nat) : Int), gto := true }
      else { s with sdim := sd ++ 0 :: b :: jr, k := 0, chunk_lengths := s.chunk_lengths.set s.c_index.toNat ((atoi (toStr sd) : Nat) : Int),
                    c_index := s.c_index + 1 } := by
  have hA : 0 ≤ s.k - 1 ∧ s.k - 1 < (s.sdim.length : Int) := by rw [hk, hsd]; simp; omega
  have hset : s.sdim.set (s.k - 1).toNat 0 = sd ++ 0 :: b :: jr := by
    rw [hk, hsd, show ((sd.length : Int) + 1 - 1).toNat = sd.length by omega]; simp
  have e : ckX s = (fun t : parse_chunk.St => if t.done = true ∨ t.gto = true then t else { t with c_index := t.c_index + 1 })
      (ckLen { s with sdim := sd ++ 0 :: b :: jr, k := 0 }) := by
    simp only [ckX, parse_chunk.chk, hA, nul_cell, hset, c18logic]
  rw [e, ckLen_spec { s with sdim := sd ++ 0 :: b :: jr, k := 0 } sd (b :: jr) rfl htok (by omega) hci]
  by_cases hv : atoi (toStr sd) = 0
  · simp only [hv, if_true, or_true]
  · simp only [hv, if_false, hd, hg, Bool.false_eq_true, or_self]

theorem ckLast_spec (s : parse_chunk.St) (tok jr : List Int) (b : Int) (hk : s.k = (tok.length : Int)) (hsd : s.sdim = tok ++ b :: jr)
    (htok : TokOK tok) (hl : tok.length ≤ 9) (hlast : s.i = (s.len - 1 % 18446744073709551616) % 18446744073709551616)
    (hci : 0 ≤ s.c_index ∧ s.c_index < (s.chunk_lengths.length : Int)) (hcr : 0 < s.chunk_rank.length)
    (hd : s.done = false) (hg : s.gto = false) :
    ckLast s = if toStr tok = "NONE".toList then { s with sdim := tok ++ 0 :: jr, k := 0, chunk_rank := s.chunk_rank.set 0 (-2) }
      else if atoi (toStr tok) = 0
      then { s with sdim := tok ++ 0 :: jr, k := 0, chunk_lengths := s.chunk_lengths.set s.c_index.toNat ((atoi (toStr tok) : Nat) : Int), gto := true }
      else { s with sdim := tok ++ 0 :: jr, k := 0, chunk_lengths := s.chunk_lengths.set s.c_index.toNat ((atoi (toStr tok) : Nat) : Int),
                    chunk_rank := s.chunk_rank.set 0 (s.c_index + 1) } := by
  have hA : 0 ≤ s.k ∧ s.k < (s.sdim.length : Int) := by rw [hk, hsd]; simp; omega
  have hset : s.sdim.set s.k.toNat 0 = tok ++ 0 :: jr := by rw [hk, hsd]; simp
  obtain ⟨r, hr, hr0⟩ := strcmp_buf tok jr htok.cstr [78, 79, 78, 69] "NONE".toList (by decide) (by decide)
  simp only [List.cons_append, List.nil_append] at hr
  by_cases hnone : toStr tok = "NONE".toList
  · obtain rfl : r = 0 := hr0.mpr hnone
    rw [if_pos hnone]
    simp only [ckLast, parse_chunk.chk, eq_true hlast, hA, nul_cell, hset, hr, hcr, Option.isSome_some, Option.getD_some, Int.toNat_zero,
      Int.reduceNeg, c18logic]
  · have hrne : ¬ r = 0 := fun h => hnone (hr0.mp h)
    have e : ckLast s = (fun t : parse_chunk.St => if t.done = true ∨ t.gto = true then t else
        { parse_chunk.chk t (0 < t.chunk_rank.length) with chunk_rank := t.chunk_rank.set 0 (t.c_index + 1) })
        (ckLen { s with sdim := tok ++ 0 :: jr, k := 0 }) := by
      simp only [ckLast, parse_chunk.chk, eq_true hlast, hA, nul_cell, hset, hr, eq_false hrne, Option.isSome_some, Option.getD_some,
        Int.toNat_zero, c18logic]
    rw [if_neg hnone, e, ckLen_spec { s with sdim := tok ++ 0 :: jr, k := 0 } tok jr rfl htok hl hci]
    by_cases hv : atoi (toStr tok) = 0
    · simp only [hv, if_true, or_true]
    · simp only [hv, hd, hg, parse_chunk.chk, hcr, c18logic]

theorem ckPost_spec (s : parse_chunk.St) (hd : s.done = false) (hg : s.gto = false) : ckPost s = { s with i := (s.i + 1) % 4294967296 } := by
  simp only [ckPost, show ¬ (s.done = true ∨ s.gto = true) by simp [hd, hg], c18logic]

/-- **loop 2 computes `chunkValue`.**  Invariant: `pre` is scanned, `sdim[10]` holds the token so far (`sd`, `k` characters), `lens` are the
    lengths stored so far in `chunk_lengths[]` (`H4_MAX_VAR_DIMS` = 32 cells at least) -/
theorem chunk_loop2 (bs tail : List Int) :
    ∀ (rem pre sd sj : List Int) (lens : List Nat) (s : parse_chunk.St) (fuel : Nat), At s.str s.len s.i bs tail pre rem → rem ≠ [] →
    s.k = sd.length → s.sdim = sd ++ sj → sd.length + sj.length = 10 → TokOK sd →
    s.c_index = lens.length → s.chunk_lengths.take lens.length = lit lens → 32 ≤ s.chunk_lengths.length → lens.length ≤ 32 →
    0 < s.chunk_rank.length → (∀ c ∈ rem, IsChar c ∧ c ≠ 0) → rem.length ≤ fuel → s.done = false → s.gto = false →
    ∃ i k c ci sdim cl cr g, parse_chunk.loop2 fuel s = { s with
        i := i, k := k, c_ := c, c_index := ci, sdim := sdim, chunk_lengths := cl, chunk_rank := cr, gto := g } ∧
      (match chunkValue (toStr rem) (toStr sd) lens with
       | none => g = true
       | some ck => g = false ∧ cr = s.chunk_rank.set 0 ck.rank ∧ (ck.rank = -2 ∨ cl.take ck.lens.length = lit ck.lens)) := by
  intro rem
  induction rem with
  | nil => intro pre sd sj lens s fuel _ h; exact absurd rfl h
  | cons c cs ih =>
    intro pre sd sj lens s fuel hat _ hk hsd hsdl htok hci hcl hcll hlens hcr hrem hf hd hg
    obtain ⟨fuel, rfl⟩ : ∃ f, fuel = f + 1 := ⟨fuel - 1, by simp at hf; omega⟩
    obtain ⟨hlt, hA0, hget, hw', hlastS, -, hnext⟩ := hat.cell
    have hc := hrem c (by simp)
    have hcs : ∀ x ∈ cs, IsChar x ∧ x ≠ 0 := fun x hx => hrem x (by simp [hx])
    have hx := toChar_eq_ascii hc.1 'x' 120 rfl (by omega)
    have hemp : (toStr cs).isEmpty = true ↔ cs = [] := by cases cs <;> simp
    rw [chunk_loop2_is.pass ⟨hlt, by simp [hd, hg]⟩, chunk_body_pieces, ckPre_spec s hA0, hget]
    simp only [toStr_cons]
    rw [chunkValue_cons]
    -- a refused string: the pass ends with `goto out` pending, the loop stops there, the model says `none`
    have reject : ∀ T : parse_chunk.St, T.gto = true → T = { s with
          i := T.i, k := T.k, c_ := T.c_, c_index := T.c_index, sdim := T.sdim, chunk_lengths := T.chunk_lengths, chunk_rank := T.chunk_rank, gto := true } →
        ∃ i k c' ci sdim cl cr g, parse_chunk.loop2 fuel T = { s with
            i := i, k := k, c_ := c', c_index := ci, sdim := sdim, chunk_lengths := cl, chunk_rank := cr, gto := g } ∧
          (match (none : Option Chunk) with
           | none => g = true
           | some ck => g = false ∧ cr = s.chunk_rank.set 0 ck.rank ∧ (ck.rank = -2 ∨ cl.take ck.lens.length = lit ck.lens)) :=
      fun T hT e => ⟨T.i, T.k, T.c_, T.c_index, T.sdim, T.chunk_lengths, T.chunk_rank, true,
        (chunk_loop2_is.exit (fun h => h.2 (Or.inr hT)) _).trans e, rfl⟩
    by_cases hL1 : sd.length ≥ SDIM_SZ - 1 ∨ (c = 120 ∧ cs = [])
    · have hC : s.k ≥ 10 - 1 ∨ (c = 120 ∧ s.i = (s.len - 1 % 18446744073709551616) % 18446744073709551616) := by
        rcases hL1 with h | ⟨h, h'⟩
        · left; rw [hk]; simp [SDIM_SZ] at h; omega
        · exact Or.inr ⟨h, hlastS.mpr h'⟩
      have hM : ((toStr sd).length ≥ SDIM_SZ - 1 || (toChar c = 'x' && (toStr cs).isEmpty)) = true := by
        rcases hL1 with h | ⟨h, h'⟩
        · simp [h]
        · simp [hx.mpr (by simpa using h), hemp.mpr h']
      rw [if_pos hC, ck_skip _ (Or.inr rfl), if_pos hM]
      exact reject _ rfl rfl
    · have hsd8 : sd.length ≤ 8 := by simp [SDIM_SZ] at hL1; omega
      have hC : ¬ (s.k ≥ 10 - 1 ∨ (c = 120 ∧ s.i = (s.len - 1 % 18446744073709551616) % 18446744073709551616)) := by
        rw [hk]
        rintro (h | ⟨h, h'⟩)
        · omega
        · exact hL1 (Or.inr ⟨h, hlastS.mp h'⟩)
      have hM : ¬ (((toStr sd).length ≥ SDIM_SZ - 1 || (toChar c = 'x' && (toStr cs).isEmpty)) = true) := by
        simp only [Bool.or_eq_true, decide_eq_true_eq, Bool.and_eq_true, toStr_length]
        rintro (h | ⟨h, h'⟩)
        · exact hL1 (Or.inl h)
        · exact hL1 (Or.inr ⟨by simpa using hx.mp h, hemp.mp h'⟩)
      obtain ⟨a, b, jr, rfl, hA2, hA2'⟩ := tokbuf sd sj 10 hsdl (by omega)
      have hk1 : 0 ≤ s.k ∧ s.k < (s.sdim.length : Int) := by rw [hk, hsd]; exact hA2
      have hset1 : s.sdim.set s.k.toNat c = (sd ++ [c]) ++ b :: jr := by rw [hk, hsd, Int.toNat_natCast]; exact set_tok c
      rw [if_neg hC, if_neg hM, ckStore_spec _ (by exact hd) (by exact hg) (by exact hk1), ckChar_spec _ (by exact hd) (by exact hg) (by exact hc.1)]
      dsimp only
      rw [hset1]
      by_cases hcc : chunkChar (toChar c) = true
      · have hMc : ¬ ((!chunkChar (toChar c)) = true) := by simp [hcc]
        have hcc' := (chunkChar_iff hc.1).mp hcc
        have hroomC : s.c_index ≥ 32 ↔ lens.length ≥ H4_MAX_VAR_DIMS := by rw [hci]; simp only [H4_MAX_VAR_DIMS]; omega
        have hstore : ∀ v : Nat, ¬ lens.length ≥ H4_MAX_VAR_DIMS → (0 ≤ s.c_index ∧ s.c_index < (s.chunk_lengths.length : Int)) ∧
            (s.chunk_lengths.set s.c_index.toNat (v : Int)).take (lens ++ [v]).length = lit (lens ++ [v]) := by
          intro v hroom
          have : lens.length < s.chunk_lengths.length := by simp [H4_MAX_VAR_DIMS] at hroom; omega
          exact ⟨by rw [hci]; omega, by
            rw [hci, Int.toNat_natCast, List.length_append, List.length_singleton, H4.C2L.take_set_succ _ _ _ this, hcl, lit_snoc]⟩
        rw [if_pos hcc, if_neg hMc, ckTok_spec _ (by exact hd) (by exact hg)]
        dsimp only
        by_cases h120 : c = 120
        · have hcsne : cs ≠ [] := fun h => hL1 (Or.inr ⟨h120, h⟩)
          rw [if_pos (Or.inl h120), if_pos (hx.mpr (by simpa using h120))]
          by_cases hroom : lens.length ≥ H4_MAX_VAR_DIMS
          · rw [if_pos (hroomC.mpr hroom), ckPost_skip _ (Or.inr rfl), if_pos hroom]
            exact reject _ rfl rfl
          · have hcib := (hstore (atoi (toStr sd)) hroom).1
            rw [if_neg (mt hroomC.mp hroom), if_pos h120, if_neg hroom,
              ckX_spec _ sd jr c b (by show s.k + 1 = _; rw [hk]) rfl htok hsd8 (by exact hcib) (by exact hd) (by exact hg)]
            by_cases hv : atoi (toStr sd) = 0
            · rw [if_pos hv, ckPost_skip _ (Or.inr rfl), if_pos hv]
              exact reject _ rfl rfl
            · rw [if_neg hv, ckPost_spec _ (by exact hd) (by exact hg), if_neg hv]
              obtain ⟨i', k', c', ci', sdim', cl', cr', g', hrun, hres⟩ := ih (pre ++ [c]) [] (sd ++ 0 :: b :: jr) (lens ++ [atoi (toStr sd)]) { s with
                  c_ := c, sdim := sd ++ 0 :: b :: jr, k := 0, chunk_lengths := s.chunk_lengths.set s.c_index.toNat ((atoi (toStr sd) : Nat) : Int),
                  c_index := s.c_index + 1, i := (s.i + 1) % 4294967296 }
                fuel (by show At s.str s.len ((s.i + 1) % 4294967296) _ _ _ _; rw [hw']; exact hnext) hcsne rfl rfl (by simp at hsdl ⊢; omega)
                (by intro x hx; simp at hx) (by show s.c_index + 1 = _; rw [hci]; simp)
                (hstore _ hroom).2
                (by show 32 ≤ (s.chunk_lengths.set _ _).length; rw [List.length_set]; exact hcll)
                (by simp [H4_MAX_VAR_DIMS] at hroom ⊢; omega) hcr hcs (by simpa using hf) hd hg
              exact ⟨i', k', c', ci', sdim', cl', cr', g', hrun, by simpa using hres⟩
        · have hmx : ¬ toChar c = 'x' := fun h => h120 (by simpa using hx.mp h)
          have htok' : TokOK (sd ++ [c]) := tokOK_snoc htok hc.1 (by
            rcases hcc' with h | h | h | h | h
            · exact Or.inl h
            · exact absurd h h120
            · exact Or.inr (Or.inl h)
            · exact Or.inr (Or.inr (Or.inl h))
            · exact Or.inr (Or.inr (Or.inr h)))
          rw [if_neg hmx]
          by_cases hcse : cs = []
          · subst hcse
            have hlastT := hlastS.mpr rfl
            have hend : ¬ ((s.i + 1) % 4294967296 < s.len ∧ ¬ (s.done = true ∨ s.gto = true)) := by
              rw [hw']; exact fun h => hnext.stop h.1
            rw [if_pos (Or.inr hlastT)]
            simp only [toStr_nil]
            by_cases hroom : lens.length ≥ H4_MAX_VAR_DIMS
            · rw [if_pos (hroomC.mpr hroom), ckPost_skip _ (Or.inr rfl), if_pos hroom]
              exact reject _ rfl rfl
            · have hcib := (hstore (atoi (toStr sd ++ [toChar c])) hroom).1
              rw [if_neg (mt hroomC.mp hroom), if_neg h120, if_neg hroom,
                ckLast_spec _ (sd ++ [c]) jr b (by show s.k + 1 = _; rw [hk]; simp) rfl htok' (by simp; omega) (by exact hlastT) (by exact hcib)
                  (by exact hcr) (by exact hd) (by exact hg), toStr_append, toStr_cons, toStr_nil]
              by_cases hnone : toStr sd ++ [toChar c] = "NONE".toList
              · rw [if_pos hnone, ckPost_spec _ (by exact hd) (by exact hg), if_pos hnone]
                exact ⟨_, _, _, _, _, _, _, _, (chunk_loop2_is.exit hend _).trans rfl, hg, rfl, Or.inl rfl⟩
              · rw [if_neg hnone, if_neg hnone]
                by_cases hv : atoi (toStr sd ++ [toChar c]) = 0
                · rw [if_pos hv, ckPost_skip _ (Or.inr rfl), if_pos hv]
                  exact reject _ rfl rfl
                · rw [if_neg hv, ckPost_spec _ (by exact hd) (by exact hg), if_neg hv]
                  exact ⟨_, _, _, _, _, _, _, _, (chunk_loop2_is.exit hend _).trans rfl, hg, by rw [hci]; simp, Or.inr (hstore _ hroom).2⟩
          · have hnl : ¬ (c = 120 ∨ s.i = (s.len - 1 % 18446744073709551616) % 18446744073709551616) := by
              rintro (h | h)
              · exact h120 h
              · exact hcse (hlastS.mp h)
            rw [if_neg hnl, ckPost_spec _ (by exact hd) (by exact hg)]
            obtain ⟨i', k', c', ci', sdim', cl', cr', g', hrun, hres⟩ := ih (pre ++ [c]) (sd ++ [c]) (b :: jr) lens { s with
                c_ := c, sdim := (sd ++ [c]) ++ b :: jr, k := s.k + 1, i := (s.i + 1) % 4294967296 }
              fuel (by show At s.str s.len ((s.i + 1) % 4294967296) _ _ _ _; rw [hw']; exact hnext) hcse (by show s.k + 1 = _; rw [hk]; simp) rfl
              (by simp at hsdl ⊢; omega) htok' hci hcl hcll hlens hcr hcs (by simpa using hf) hd hg
            refine ⟨i', k', c', ci', sdim', cl', cr', g', hrun, ?_⟩
            obtain ⟨y, ys, rfl⟩ := List.exists_cons_of_ne_nil hcse
            simpa using hres
      · rw [if_neg hcc, ckTok_skip _ (Or.inr rfl), ckPost_skip _ (Or.inr rfl), if_pos (by simpa using hcc)]
        exact reject _ rfl rfl

/-- up to the first loop -/
def pkA (str n_objs chunk_lengths chunk_rank : List Int) : parse_chunk.St :=
  let s : parse_chunk.St := { str := str, n_objs := n_objs, chunk_lengths := chunk_lengths, chunk_rank := chunk_rank, obj := List.replicate 256 170, sdim := List.replicate 10 170, obj_list_blk := [] }
  have s : parse_chunk.St := parse_chunk.chk s (0 ≤ 0 ∧ (0 : Int) ∈ (s.str.drop (Int.toNat (0))))
  have s : parse_chunk.St := parse_chunk.St.set_len s ((Int.ofNat ((s.str.drop (Int.toNat (0))).takeWhile (· ≠ 0)).length))
  have s : parse_chunk.St := parse_chunk.St.set_end_obj s ((- 1))
  have s : parse_chunk.St := parse_chunk.St.set_i s (((0) % 4294967296))
  have s : parse_chunk.St := parse_chunk.St.set_n s (0)
  s

/-- from the first loop to the name loop -/
def pkB (fuel : Nat) (s : parse_chunk.St) : parse_chunk.St :=
  have s : parse_chunk.St := if (s.end_obj = (- 1)) then
      have s : parse_chunk.St := parse_chunk.St.set_retnull s (true)
      have s : parse_chunk.St := parse_chunk.St.set_done s (true)
      s
    else
      s
  have s : parse_chunk.St := if s.done ∨ s.gto then s else
    have s : parse_chunk.St := parse_chunk.chk s ((s.end_obj = 0) ∨ (0 ≤ (s.end_obj - 1) ∧ (s.end_obj - 1) < s.str.length))
    have s : parse_chunk.St := if ((s.end_obj = 0) ∨ ((s.str.getD (Int.toNat ((s.end_obj - 1))) 0) = 44)) then
        have s : parse_chunk.St := parse_chunk.St.set_retnull s (true)
        have s : parse_chunk.St := parse_chunk.St.set_done s (true)
        s
      else
        s
    s
  have s : parse_chunk.St := if s.done ∨ s.gto then s else
    have s : parse_chunk.St := parse_chunk.St.set_n s ((s.n + 1))
    s
  have s : parse_chunk.St := if s.done ∨ s.gto then s else
    have s : parse_chunk.St := parse_chunk.chk s ((0 : Int) ≤ (Int.tdiv (((((s.n) % 18446744073709551616) * 256)) % 18446744073709551616) 1))
    have s : parse_chunk.St := parse_chunk.St.set_obj_list_blk s (List.replicate (Int.toNat (Int.tdiv (((((s.n) % 18446744073709551616) * 256)) % 18446744073709551616) 1)) 170)
    have s : parse_chunk.St := parse_chunk.St.set_obj_list s (0)
    s
  have s : parse_chunk.St := if s.done ∨ s.gto then s else
    have s : parse_chunk.St := parse_chunk.chk s (0 < s.n_objs.length)
    have s : parse_chunk.St := parse_chunk.St.set_n_objs s (s.n_objs.set (Int.toNat (0)) (s.n))
    s
  have s : parse_chunk.St := if s.done ∨ s.gto then s else
    have s : parse_chunk.St := parse_chunk.St.set_j s (0)
    have s : parse_chunk.St := parse_chunk.St.set_k s (0)
    have s : parse_chunk.St := parse_chunk.St.set_n s (0)
    have s : parse_chunk.St := parse_chunk.loop1 fuel s
    s
  s

/-- from the name loop to the end -/
def pkC (fuel : Nat) (s : parse_chunk.St) : parse_chunk.St :=
  have s : parse_chunk.St := if s.done ∨ s.gto then s else
    have s : parse_chunk.St := if ((s.end_obj + 1) = s.len) then
        have s : parse_chunk.St := parse_chunk.St.set_gto s (true)
        s
      else
        s
    s
  have s : parse_chunk.St := if s.done ∨ s.gto then s else
    have s : parse_chunk.St := parse_chunk.St.set_k s (0)
    s
  have s : parse_chunk.St := if s.done ∨ s.gto then s else
    have s : parse_chunk.St := parse_chunk.St.set_i s ((((s.end_obj + 1)) % 4294967296))
    have s : parse_chunk.St := parse_chunk.St.set_c_index s (0)
    have s : parse_chunk.St := parse_chunk.loop2 fuel s
    s
  s

/-- after the last loop: `return obj_list` / `out: … return NULL` -/
def pkD (s : parse_chunk.St) : parse_chunk.St :=
  have s : parse_chunk.St := if s.done ∨ s.gto then s else
    have s : parse_chunk.St := parse_chunk.St.set_ret s (s.obj_list)
    have s : parse_chunk.St := parse_chunk.St.set_done s (true)
    s
  have s : parse_chunk.St := if s.done then s else
    have s : parse_chunk.St := parse_chunk.St.set_gto s (false)
    s
  have s : parse_chunk.St := if s.done ∨ s.gto then s else
    have s : parse_chunk.St := parse_chunk.St.set_retnull s (true)
    have s : parse_chunk.St := parse_chunk.St.set_done s (true)
    s
  s

theorem parse_chunk_split (fuel : Nat) (str n_objs cl cr : List Int) :
    parse_chunk fuel str n_objs cl cr = pkD (pkC fuel (pkB fuel (parse_chunk.loop0 fuel (pkA str n_objs cl cr)))) := rfl


theorem chunk_listInit (fuel : Nat) (a : NameSt) (s : parse_chunk.St) (hd : a.done = false) (hg : a.gto = false) :
    pkB fuel (chunkNames.put a s) =
      if (listInit a).done then chunkNames.put (listInit a) s else parse_chunk.loop1 fuel (chunkNames.put (listInit a) s) := by
  by_cases h1 : a.end_obj = -1
  · simp only [pkB, listInit, chunkNames, hd, hg, h1, c18logic]
  by_cases h2 : (a.end_obj = 0) ∨ ((a.str.getD (Int.toNat ((a.end_obj - 1))) 0) = 44) <;>
    simp only [pkB, parse_chunk.chk, listInit, NameSt.chk, chunkNames, hd, hg, h1, h2, c18logic]

theorem chunk_text : NameText chunkNames parse_chunk.loop0 parse_chunk.loop0.body parse_chunk.loop1 parse_chunk.loop1.body pkB pkC pkD where
  scan := ⟨.of_eqs (fun _ => rfl) (fun _ _ => rfl), fun f a s _ => chunk_scanStep f a s⟩
  names := ⟨.of_eqs (fun _ => rfl) (fun _ _ => rfl), fun f a s hg =>
    chunk_nameStep f a s (Bool.eq_false_iff.mpr fun h => hg.2 (.inl h)) (Bool.eq_false_iff.mpr fun h => hg.2 (.inr h))⟩
  list := chunk_listInit
  skip fuel a s h := by simp only [pkC, chunkNames, h, if_true]
  empty fuel a s hd hg h := by simp only [pkC, chunkNames, hd, hg, h, c18logic]
  ret a s := by cases hd : a.done <;> cases hg : a.gto <;> simp only [pkD, nameRet, chunkNames, hd, hg, c18logic, Bool.false_eq_true]

theorem pkA_eq (bs rest n_objs cl cr : List Int) (hbs : CStr bs) :
    pkA (bs ++ 0 :: rest) n_objs cl cr =
      chunkNames.put (nameInit (bs ++ 0 :: rest) bs.length n_objs) (pkA (bs ++ 0 :: rest) n_objs cl cr) := by
  have htw := takeWhile_cstr bs rest hbs
  have hmem : (0 : Int) ∈ bs ++ 0 :: rest := by simp
  have h : chunkNames.get (pkA (bs ++ 0 :: rest) n_objs cl cr) = nameInit (bs ++ 0 :: rest) bs.length n_objs := by
    simp only [pkA, chunkNames, nameInit, parse_chunk.chk, Int.toNat_zero, List.drop_zero, htw, hmem, Int.ofNat_eq_natCast, Int.reduceMod, Int.reduceNeg, c18logic, Std.le_refl]
  exact congrArg (chunkNames.put · _) h

theorem pkC_value (fuel : Nat) (s : parse_chunk.St) (bs rest : List Int) (e : Nat) (hstr : s.str = bs ++ 0 :: rest) (hl : s.len = bs.length)
    (he : s.end_obj = e) (hel : e + 1 < bs.length) (hsd : s.sdim.length = 10) (hcl : 32 ≤ s.chunk_lengths.length) (hcr : 0 < s.chunk_rank.length)
    (hbs : CStr bs) (hlen : bs.length < 2 ^ 31) (hf : bs.length ≤ fuel) (hd : s.done = false) (hg : s.gto = false) :
    ∃ i k c ci sdim cl cr g, pkC fuel s = { s with
        i := i, k := k, c_ := c, c_index := ci, sdim := sdim, chunk_lengths := cl, chunk_rank := cr, gto := g } ∧
      (match chunkValue (toStr (bs.drop (e + 1))) [] [] with
       | none => g = true
       | some ck => g = false ∧ cr = s.chunk_rank.set 0 ck.rank ∧ (ck.rank = -2 ∨ cl.take ck.lens.length = lit ck.lens)) := by
  have hstep : pkC fuel s = parse_chunk.loop2 fuel { s with k := 0, i := ((e + 1 : Nat) : Int), c_index := 0 } := by
    cases s
    simp only at hstr hl he hd hg
    subst hstr hl he hd hg
    have h1 : ¬ ((e : Int) + 1 = (bs.length : Int)) := by omega
    have hw : ((e : Int) + 1) % 4294967296 = ((e + 1 : Nat) : Int) := by omega
    simp only [pkC, eq_false h1, hw, c18logic]
  rw [hstep]
  have hne : bs.drop (e + 1) ≠ [] := by
    intro h; have := congrArg List.length h; simp at this; omega
  obtain ⟨i, k, c, ci, sdim, cl, cr, g, hrun, hres⟩ := chunk_loop2 bs (0 :: rest) (bs.drop (e + 1)) (bs.take (e + 1)) [] s.sdim []
    { s with k := 0, i := ((e + 1 : Nat) : Int), c_index := 0 } fuel ⟨hstr, hl, by simp; omega, (List.take_append_drop _ _).symm, hlen⟩ hne
    rfl rfl (by simpa using hsd) (by intro x hx; simp at hx) rfl rfl hcl (by simp) hcr (fun c hc => (hbs.drop _) c hc)
    (by simp; omega) hd hg
  refine ⟨i, k, c, ci, sdim, cl, cr, g, by rw [hrun], ?_⟩
  simpa only [toStr_nil] using hres


/-- what `parse_chunk` hands back for an accepted string (`ret = 0`: the list, at the start of its block) -/
structure ChunkOut (s : parse_chunk.St) (n_objs0 cr0 : List Int) (n : Nat) (names : List Str) (ck : Chunk) : Prop where
  notnull : s.retnull = false
  ret : s.ret = 0
  nobjs : s.n_objs = n_objs0.set 0 (n : Int)
  count : names.length = n
  blk : s.obj_list_blk.length = n * 256
  rows : ∀ i (h : i < names.length), toStr (cstrAt s.obj_list_blk (i * 256)) = names[i]
  rank : s.chunk_rank = cr0.set 0 ck.rank
  lens : ck.rank = -2 ∨ s.chunk_lengths.take ck.lens.length = lit ck.lens

theorem parse_chunk_main (fuel : Nat) (bs rest n_objs cl cr : List Int) (hbs : CStr bs) (hlen : bs.length < 2 ^ 31) (hf : bs.length ≤ fuel)
    (hno : 0 < n_objs.length) (hcl : 32 ≤ cl.length) (hcr : 0 < cr.length) (s : parse_chunk.St)
    (hs : s = parse_chunk fuel (bs ++ 0 :: rest) n_objs cl cr) :
    s.ub = false ∧ s.oof = false ∧ s.done = true ∧
    (match parseChunk (toStr bs) with
     | none => s.retnull = true
     | some (n, names, ck) => ChunkOut s n_objs cr n names ck) := by
  rw [parse_chunk_split, pkA_eq _ _ _ _ _ hbs] at hs
  rw [parseChunk_eq]
  have href := fun hp => chunk_text.refused bs rest hbs hlen fuel hf n_objs hno (pkA (bs ++ 0 :: rest) n_objs cl cr) hp _ rfl
  cases hp : parseNames (toStr bs) with
  | none => subst hs; exact href (Or.inl hp)
  | some p =>
    obtain ⟨e, names⟩ := p
    rw [Option.bind_some, ← toStr_drop]
    by_cases hemp : e + 1 = bs.length
    · rw [if_pos (by rw [List.isEmpty_iff, ← List.length_eq_zero_iff]; simp; omega)]
      subst hs
      exact href (Or.inr ⟨e, names, hp, hemp⟩)
    · obtain ⟨a', hN, hres⟩ := chunk_text.spec bs rest hbs hlen fuel hf n_objs hno (pkA (bs ++ 0 :: rest) n_objs cl cr)
      rw [hN] at hs
      rw [hp] at hres
      obtain ⟨ns, rfl, o⟩ := hres
      obtain ⟨hel, -⟩ := lastColon_bound _ _ (parseNames_some hp).1
      rw [toStr_length] at hel
      rw [if_neg (by rw [List.isEmpty_iff, ← List.length_eq_zero_iff]; simp; omega)]
      obtain ⟨i', k', c', ci', sdim', cl', cr', g', hC, hres⟩ := pkC_value fuel (chunkNames.put a' (pkA (bs ++ 0 :: rest) n_objs cl cr)) bs rest e
        o.str o.len o.end_obj (by omega) rfl hcl hcr hbs hlen hf o.done o.gto
      rw [hC] at hs
      cases hcv : chunkValue (toStr (bs.drop (e + 1))) [] [] with
      | none =>
        rw [hcv] at hres
        subst hs
        exact chunk_text.epi_refused _ (Or.inr ⟨by exact o.done, hres⟩) (by exact o.ub) (by exact o.oof)
      | some ck =>
        rw [hcv] at hres
        obtain ⟨rfl, rfl, hlens⟩ := hres
        rw [chunk_text.epi_ok _ (by exact o.done) rfl] at hs
        obtain ⟨o1, o2, o3⟩ := names_out bs hbs e ns hp o.names (chunkValue_no_comma _ _ _ _ hcv)
        subst hs
        exact ⟨o.ub, o.oof, rfl, o.retnull, o.obj_list, o.n_objs, o1, (congrArg List.length o.blk).trans o2,
          fun i h => (congrArg (fun b => toStr (cstrAt b (i * 256))) o.blk).trans (o3 i h), rfl, hlens⟩

end chunk

end H4.C18Fn
