import H4.DD
import H4.Lemmas.BigEndian
/-! # The byte layout of a descriptor (`DDENCODE` / `DDDECODE`) and of a block header; the round trip of a whole DD list
(`decodeDDs_encode`) stands at the end of `H4.Lemmas.C12Fn2`, beside the translated encoder -/
namespace H4.DD

/-- what fits the on-disk fields: uint16 tag and ref, int32 offset and length -/
def DDRange (d : DD) : Prop :=
  d.tag < 65536 ∧ d.ref < 65536 ∧ -2147483648 ≤ d.off ∧ d.off < 2147483648 ∧ -2147483648 ≤ d.len ∧ d.len < 2147483648

theorem ofU32_toU32 {i : Int} (h1 : -2147483648 ≤ i) (h2 : i < 2147483648) : ofU32 (toU32 i) = i :=
  BigEndian.wrap_unwrap (H := 2147483648) h1 h2

theorem toU32_lt (i : Int) : toU32 i < 4294967296 := by unfold toU32; omega

theorem encodeDD_length (d : DD) : (encodeDD d).length = 12 := by simp [encodeDD, be16, be32]

theorem be16_sum {n : Nat} (h : n < 65536) : n / 256 % 256 * 256 + n % 256 = n := BigEndian.digits16 h
theorem be32_sum {n : Nat} (h : n < 4294967296) :
    n / 16777216 % 256 * 16777216 + n / 65536 % 256 * 65536 + n / 256 % 256 * 256 + n % 256 = n := by
  have e := BigEndian.digits32 h
  simp only [Nat.add_mul, Nat.mul_assoc, Nat.reduceMul] at e
  exact e

theorem decode_encode_dd (d : DD) (h : DDRange d) : decodeDD (encodeDD d) = d := by
  obtain ⟨h1, h2, h3, h4, h5, h6⟩ := h
  simp only [encodeDD, decodeDD, be16, be32, rd16, rd32, List.cons_append, List.nil_append, List.drop_succ_cons, List.drop_zero,
    be16_sum h1, be16_sum h2, be32_sum (toU32_lt _), ofU32_toU32 h3 h4, ofU32_toU32 h5 h6]

/-- header: `ndds` (int16, positive) and `nextoffset` (int32, non-negative) -/
theorem decode_encode_hdr {ndds next : Nat} (h1 : ndds < 32768) (h2 : next < 2147483648) :
    decodeHdr (encodeHdr ndds next) = (ndds, next) := by
  simp only [encodeHdr, decodeHdr, be16, be32, rd16, rd32, List.cons_append, List.nil_append, List.drop_succ_cons,
    List.drop_zero, be16_sum (Nat.lt_trans h1 (by decide)), be32_sum (Nat.lt_trans h2 (by decide))]

theorem decodeDDs_length : ∀ (n : Nat) (bs : List Nat), (decodeDDs n bs).length = n
  | 0, _ => rfl
  | n + 1, bs => by rw [decodeDDs, List.length_cons, decodeDDs_length n]

end H4.DD
