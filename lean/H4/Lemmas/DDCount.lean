import H4.Lemmas.DDWF
/-! # `HTIcount_dd` (Hnumber): the unrolled two-at-a-time loop, with and without the F5 fix -/
namespace H4.DD
open H4.Gen.Hdf

theorem pairLoop_spec (m : DD → Bool) : ∀ (l : List DD),
    (pairLoop m l).1 = (l.filter m).length ∧ ((pairLoop m l).2 = decide (l.length % 2 = 1)) := by
  intro l
  induction l using pairLoop.induct m with
  | case1 => simp [pairLoop]
  | case2 a => by_cases h : m a <;> simp [pairLoop, h]
  | case3 a b rest ih =>
    obtain ⟨i1, i2⟩ := ih
    simp only [pairLoop, i1, i2]
    constructor
    · by_cases ha : m a <;> by_cases hb : m b <;> simp [ha, hb] <;> omega
    · simp only [List.length_cons]
      congr 1
      apply propext
      omega

theorem countBlkPairs_spec (cfg : Cfg) (m : DD → Bool) (dds : List DD) :
    (countBlkPairs cfg m dds).1 = (dds.filter m).length ∧
    ((countBlkPairs cfg m dds).2 = true ↔
      cfg.fixF5 = false ∧ dds.length % 2 = 1 ∧ ∃ d0 rest, dds = d0 :: rest ∧ m d0 = false) := by
  unfold countBlkPairs
  by_cases hodd : dds.length % 2 = 1
  · rw [if_pos hodd]
    cases dds with
    | nil => simp at hodd
    | cons d0 rest =>
      have hre : rest.length % 2 = 0 := by simp at hodd; omega
      obtain ⟨r1, r2⟩ := pairLoop_spec m rest
      obtain ⟨a1, a2⟩ := pairLoop_spec m (d0 :: rest)
      by_cases hm : m d0 = true
      · simp only [hm, if_true, r1, r2]
        refine ⟨by simp [hm], ?_⟩
        simp [hre, hm]
      · have hm' : m d0 = false := Bool.eq_false_iff.mpr hm
        simp only [hm', Bool.false_eq_true, if_false]
        by_cases hf : cfg.fixF5 = true
        · simp only [hf, if_true, r1, r2]
          refine ⟨by simp [hm'], ?_⟩
          simp [hre]
        · have hf' : cfg.fixF5 = false := Bool.eq_false_iff.mpr hf
          simp only [hf', Bool.false_eq_true, if_false, a1, a2]
          refine ⟨trivial, ?_⟩
          simp [hm']
  · rw [if_neg hodd]
    obtain ⟨a1, a2⟩ := pairLoop_spec m dds
    refine ⟨a1, ?_⟩
    rw [a2]
    simp [hodd]

theorem foldl_count (f : Block → Nat × Bool) : ∀ (blocks : List Block) (c : Nat) (o : Bool),
    blocks.foldl (fun acc b => (acc.1 + (f b).1, acc.2 || (f b).2)) (c, o) =
      (c + (blocks.map (fun b => (f b).1)).sum, o || blocks.any (fun b => (f b).2)) := by
  intro blocks
  induction blocks with
  | nil => intro c o; simp
  | cons b bs ih =>
    intro c o
    simp only [List.foldl_cons, ih, List.map_cons, List.sum_cons, List.any_cons]
    simp [Nat.add_assoc, Bool.or_assoc]

theorem sum_filter_blocks (m : DD → Bool) : ∀ (blocks : List Block),
    (blocks.map (fun b => (b.dds.filter m).length)).sum = ((slotsOf blocks).filter m).length := by
  intro blocks
  induction blocks with
  | nil => rfl
  | cons b bs ih => simp [ih]

/-- the match predicate of `Hnumber(tag)`: the tag itself or its special variant -/
def numMatch (t : Nat) (d : DD) : Bool := d.tag == t || (mkSpecial t != DFTAG_NULL && d.tag == mkSpecial t)

theorem htiCountDD_general (cfg : Cfg) (s : File) {t : Nat} (h0 : t ≠ 0) (h1 : t ≠ 1) (h108 : t ≠ 108) :
    htiCountDD cfg s t =
      if mkSpecial t = DFTAG_NULL then ((s.slots.filter (fun d => d.tag == t)).length, false)
      else s.blocks.foldl (fun acc b =>
        let r := countBlkPairs cfg (fun d => d.tag == t || d.tag == mkSpecial t) b.dds
        (acc.1 + r.1, acc.2 || r.2)) (0, false) := by
  unfold htiCountDD
  rw [if_neg (by simpa [DFTAG_WILDCARD] using h0), if_neg (by simp [DFTAG_NULL, DFTAG_FREE, H4.Gen.DDTie.DFTAG_FREE]; omega)]

theorem htiCountDD_count (cfg : Cfg) (s : File) {t : Nat} (h0 : t ≠ 0) (h1 : t ≠ 1) :
    (htiCountDD cfg s t).1 = (s.slots.filter (numMatch t)).length := by
  by_cases h108 : t = 108
  · subst h108
    simp [htiCountDD, DFTAG_WILDCARD, DFTAG_NULL, DFTAG_FREE, H4.Gen.DDTie.DFTAG_FREE]
    rfl
  rw [htiCountDD_general cfg s h0 h1 h108]
  by_cases hs : mkSpecial t = DFTAG_NULL
  · rw [if_pos hs]
    simp only
    congr 1
    apply List.filter_congr
    intro d _
    simp [numMatch, hs]
  · rw [if_neg hs]
    rw [foldl_count (fun b => countBlkPairs cfg (fun d => d.tag == t || d.tag == mkSpecial t) b.dds)]
    simp only [Nat.zero_add]
    have : (fun b : Block => (countBlkPairs cfg (fun d => d.tag == t || d.tag == mkSpecial t) b.dds).1) =
        (fun b : Block => (b.dds.filter (fun d => d.tag == t || d.tag == mkSpecial t)).length) := by
      funext b; exact (countBlkPairs_spec cfg _ b.dds).1
    rw [this, sum_filter_blocks]
    show ((s.slots).filter _).length = _
    congr 1
    apply List.filter_congr
    intro d _
    have : (mkSpecial t != DFTAG_NULL) = true := by simpa using hs
    simp [numMatch, this]

/-- `Hnumber(tag)`: when does `HTIcount_dd` read one `dd_t` past a block? -/
theorem htiCountDD_oob (cfg : Cfg) (s : File) {t : Nat} (h0 : t ≠ 0) (h1 : t ≠ 1) (h108 : t ≠ 108) :
    (htiCountDD cfg s t).2 = true ↔
      cfg.fixF5 = false ∧ mkSpecial t ≠ DFTAG_NULL ∧
      ∃ b ∈ s.blocks, b.dds.length % 2 = 1 ∧ ∃ d0 rest, b.dds = d0 :: rest ∧ numMatch t d0 = false := by
  rw [htiCountDD_general cfg s h0 h1 h108]
  by_cases hs : mkSpecial t = DFTAG_NULL
  · rw [if_pos hs]
    simp [hs]
  · rw [if_neg hs]
    rw [foldl_count (fun b => countBlkPairs cfg (fun d => d.tag == t || d.tag == mkSpecial t) b.dds)]
    simp only [Bool.false_or, List.any_eq_true]
    have hsp : (mkSpecial t != DFTAG_NULL) = true := by simpa using hs
    constructor
    · rintro ⟨b, hb, hoob⟩
      obtain ⟨f5, hodd, d0, rest, hd, hm⟩ := (countBlkPairs_spec cfg _ b.dds).2.mp hoob
      exact ⟨f5, hs, b, hb, hodd, d0, rest, hd, by simpa [numMatch, hsp] using hm⟩
    · rintro ⟨f5, _, b, hb, hodd, d0, rest, hd, hm⟩
      exact ⟨b, hb, (countBlkPairs_spec cfg _ b.dds).2.mpr ⟨f5, hodd, d0, rest, hd, by simpa [numMatch, hsp] using hm⟩⟩

theorem htiCountDD_wild (cfg : Cfg) (s : File) :
    htiCountDD cfg s 0 = ((s.slots.filter (fun d => !(d.tag == DFTAG_NULL || d.tag == DFTAG_FREE))).length, false) := by
  simp [htiCountDD, DFTAG_WILDCARD]

end H4.DD
