import H4.Gen.Fn.Hchunks
import H4.Lemmas.Chunk
import H4.Lemmas.C2L
/-! Loop lemmas for `H4.Props.C04Fn`: the loops of the chunk address functions of `hdf/src/hchunks.c`, as TRANSLATED from the C text
    (`H4.Gen.Fn.Hchunks`, regenerated on every run), compute the recursions of the hand-written model `H4.Chunk`.  This unit is generated with the
    loop bodies inline: there is no constant `loopK.body` to name in an `IsLoop`, so its loops are inductions on the fuel. -/
namespace H4.Lemmas.C04Fn
open H4 H4.Chunk H4.Gen.Fn.Hchunks H4.C2L

theorem field_ne_zero {f : DimRec → Nat} {dd : List DimRec} (hp : AllPos (dd.map f)) {k : Nat} (hk : k < dd.length) :
    ((f dd[k] : Nat) : Int) ≠ 0 :=
  Int.natCast_ne_zero.2 (Nat.ne_of_gt (hp _ (List.mem_map.mpr ⟨dd[k], List.getElem_mem _, rfl⟩)))

/-! ## the mixed-radix accumulation `x[n-1]; cnum = 1; for (j = n-2; j >= 0; j--) { cnum *= r[j+1]; acc += x[j]*cnum; }`

`calculate_chunk_num`, `compute_array_to_seek` and `calculate_seek_in_chunk` are this loop on three state types that differ in
the names of the fields (`calculate_chunk_num` has no `nt_size`: its view shows 0). `linLoop`/`linStart` is the loop written once, check for check; each translated function equals it
through a projection of its state (`ccnView`, `catsView`, `csicView`). -/

/-- `xs` the index array, `rs` the radices, `acc` the one-cell OUT parameter, `nt` = `nt_size` -/
structure LinSt where
  j : Int
  cnum : Int
  xs : List Int
  rs : List Int
  acc : List Int
  nt : Int
  ub : Bool
  oof : Bool

def LinSt.chk (s : LinSt) (c : Prop) [Decidable c] : LinSt := { s with ub := s.ub || !decide c }

def linLoop : Nat → LinSt → LinSt
  | 0, s => if s.j ≥ 0 then { s with oof := true } else s
  | fuel + 1, s =>
    if s.j ≥ 0 then
      let s := s.chk (0 ≤ s.j + 1 ∧ s.j + 1 < s.rs.length)
      let s := { s with cnum := s.cnum * s.rs.getD (s.j + 1).toNat 0 }
      let s := s.chk (0 ≤ s.j ∧ s.j < s.xs.length)
      let s := s.chk (0 < s.acc.length)
      let s := { s with acc := s.acc.set 0 (s.acc.getD 0 0 + s.xs.getD s.j.toNat 0 * s.cnum) }
      linLoop fuel { s with j := s.j - 1 }
    else s

def linStart (fuel : Nat) (ndims : Int) (s : LinSt) : LinSt :=
  let s := s.chk (0 ≤ ndims - 1 ∧ ndims - 1 < s.xs.length)
  let s := s.chk (0 < s.acc.length)
  let s := { s with acc := s.acc.set 0 (s.xs.getD (ndims - 1).toNat 0) }
  if ndims > 1 then linLoop fuel { s with cnum := 1, j := ndims - 2 } else s

/-- `*out = *out * nt_size` -/
def LinSt.scale (s : LinSt) : LinSt :=
  let s := s.chk (0 < s.acc.length)
  { s with acc := s.acc.set 0 (s.acc.getD 0 0 * s.nt) }

/-- with `k` indices still to do (`j = k-1`), `acc` holds the model's value for the dimensions `k..` and `cnum` the product of
    the radices `k+1..`: the loop ends with the value for all dimensions -/
theorem linLoop_spec (rs xs : List Nat) (hs : xs.length = rs.length) (nt : Int) :
    ∀ (k fuel : Nat), k ≤ fuel → k + 1 ≤ rs.length →
      linLoop fuel ⟨(k : Int) - 1, ((rs.drop (k + 1)).prod : Nat), ints xs, ints rs,
          [((lin (rs.drop k) (xs.drop k)).2 : Nat)], nt, false, false⟩
        = ⟨-1, ((rs.drop 1).prod : Nat), ints xs, ints rs, [((lin rs xs).2 : Nat)], nt, false, false⟩
  | 0, fuel, _, _ => by cases fuel <;> rfl
  | k + 1, fuel + 1, hf, hk => by
    have e0 : ((k + 1 : Nat) : Int) - 1 = (k : Int) := Int.add_sub_cancel (k : Int) 1
    have hb1 : 0 ≤ (k : Int) + 1 ∧ (k : Int) + 1 < (rs.length : Int) := ⟨Int.natCast_nonneg (k + 1), Int.ofNat_lt.2 hk⟩
    have hb2 : 0 ≤ (k : Int) ∧ (k : Int) < (xs.length : Int) := ⟨Int.natCast_nonneg k, Int.ofNat_lt.2 (by omega)⟩
    have hp : (rs.drop (k + 1)).prod = rs[k + 1]?.getD 0 * (rs.drop (k + 2)).prod := by
      rw [drop_cons_getD rs (k + 1) (by omega), List.prod_cons]
    rw [e0, linLoop, if_pos hb2.1, ← linLoop_spec rs xs hs nt k fuel (by omega) (by omega)]
    simp only [LinSt.chk, Int.toNat_natCast_add_one, Int.toNat_natCast, ints_length, hb1, hb2, List.length_cons,
      List.getD_eq_getElem?_getD, ints_getD, lin_drop rs xs k (by omega), hp]
    congr 2
    · rw [Int.natCast_mul, Int.mul_comm]
    · simp only [List.set_cons_zero, List.getElem?_cons_zero, Option.getD_some, Int.natCast_add, Int.natCast_mul]
      rw [Int.mul_comm (↑(rs[k + 1]?.getD 0))]

theorem linStart_spec (rs xs : List Nat) (hs : xs.length = rs.length) (hne : rs ≠ []) (j c out nt : Int) :
    let s := linStart rs.length rs.length ⟨j, c, ints xs, ints rs, [out], nt, false, false⟩
    s.ub = false ∧ s.oof = false ∧ s.acc = [(((lin rs xs).2 : Nat) : Int)] ∧ s.nt = nt := by
  obtain ⟨n, hn⟩ : ∃ n, rs.length = n + 1 := ⟨rs.length - 1, by have := List.length_pos_iff.mpr hne; omega⟩
  have e0 : ((n + 1 : Nat) : Int) - 1 = (n : Int) := Int.add_sub_cancel (n : Int) 1
  have hb : 0 ≤ (n : Int) ∧ (n : Int) < (xs.length : Int) := ⟨Int.natCast_nonneg n, Int.ofNat_lt.2 (by omega)⟩
  have hd : rs.drop (n + 1) = [] := List.drop_eq_nil_of_le (by omega)
  have hl : (lin (rs.drop n) (xs.drop n)).2 = xs[n]?.getD 0 := by
    rw [lin_drop rs xs n (by omega), hd]; simp [lin]
  rw [hn]
  simp only [linStart, LinSt.chk, e0, hb, Int.toNat_natCast, ints_length, List.length_cons, List.getD_eq_getElem?_getD, ints_getD,
    List.set_cons_zero]
  by_cases h1 : ((n + 1 : Nat) : Int) > 1
  · have := linLoop_spec rs xs hs nt n (n + 1) (by omega) (by omega)
    rw [hd, hl] at this
    rw [if_pos h1, show ((n + 1 : Nat) : Int) - 2 = (n : Int) - 1 by omega]
    -- the two start states differ by `1` for `[].prod` and by an evaluated `ub`
    exact (show linLoop (n + 1) ⟨(n : Int) - 1, 1, ints xs, ints rs, [((xs[n]?.getD 0 : Nat) : Int)], nt, false, false⟩ = _
      from this) ▸ ⟨rfl, rfl, rfl, rfl⟩
  · rw [if_neg h1, ← hl, show n = 0 by omega]
    exact ⟨rfl, rfl, rfl, rfl⟩

theorem LinSt.scale_spec {s : LinSt} {v : Nat} (nt : Nat)
    (h : s.ub = false ∧ s.oof = false ∧ s.acc = [(v : Int)] ∧ s.nt = nt) :
    s.scale.ub = false ∧ s.scale.oof = false ∧ s.scale.acc = [((v * nt : Nat) : Int)] := by
  obtain ⟨h1, h2, h3, h4⟩ := h
  simp [LinSt.scale, LinSt.chk, h1, h2, h3, h4]

@[reducible] def ccnView (s : calculate_chunk_num.St) : LinSt :=
  ⟨s.j, s.cnum, s.sbi, s.ddims_num_chunks, s.chunk_num, 0, s.ub, s.oof⟩

theorem ccn_loop_view : ∀ (fuel : Nat) (s : calculate_chunk_num.St),
    ccnView (calculate_chunk_num.loop0 fuel s) = linLoop fuel (ccnView s)
  | 0, s => by
    unfold calculate_chunk_num.loop0 linLoop
    by_cases h : s.j ≥ 0 <;> simp only [h, ↓reduceIte]
  | fuel + 1, s => by
    unfold calculate_chunk_num.loop0 linLoop
    by_cases h : s.j ≥ 0 <;> simp only [h, ↓reduceIte]
    exact ccn_loop_view fuel _

theorem ccn_view (fuel : Nat) (out sbi nc : List Int) (ndims : Int) :
    ccnView (calculate_chunk_num fuel out ndims sbi nc) = linStart fuel ndims ⟨0, 0, sbi, nc, out, 0, false, false⟩ := by
  by_cases h : ndims > 1
  · exact (congrArg ccnView (if_pos h)).trans ((ccn_loop_view fuel _).trans (if_pos h).symm)
  · exact (congrArg ccnView (if_neg h)).trans (if_neg h).symm

@[reducible] def catsView (s : compute_array_to_seek.St) : LinSt :=
  ⟨s.j, s.cnum, s.array_indices, s.ddims_dim_length, s.user_seek, s.nt_size, s.ub, s.oof⟩

theorem cats_loop_view : ∀ (fuel : Nat) (s : compute_array_to_seek.St),
    catsView (compute_array_to_seek.loop0 fuel s) = linLoop fuel (catsView s)
  | 0, s => by
    unfold compute_array_to_seek.loop0 linLoop
    by_cases h : s.j ≥ 0 <;> simp only [h, ↓reduceIte]
  | fuel + 1, s => by
    unfold compute_array_to_seek.loop0 linLoop
    by_cases h : s.j ≥ 0 <;> simp only [h, ↓reduceIte]
    exact cats_loop_view fuel _

theorem cats_view (fuel : Nat) (out arr dl : List Int) (nt ndims : Int) :
    catsView (compute_array_to_seek fuel out arr nt ndims dl) =
      (linStart fuel ndims ⟨0, 0, arr, dl, out, nt, false, false⟩).scale := by
  refine congrArg LinSt.scale (?_ : catsView _ = _)
  by_cases h : ndims > 1
  · exact (congrArg catsView (if_pos h)).trans ((cats_loop_view fuel _).trans (if_pos h).symm)
  · exact (congrArg catsView (if_neg h)).trans (if_neg h).symm

@[reducible] def csicView (s : calculate_seek_in_chunk.St) : LinSt :=
  ⟨s.j, s.cnum, s.spb, s.ddims_chunk_length, s.chunk_seek, s.nt_size, s.ub, s.oof⟩

theorem csic_loop_view : ∀ (fuel : Nat) (s : calculate_seek_in_chunk.St),
    csicView (calculate_seek_in_chunk.loop0 fuel s) = linLoop fuel (csicView s)
  | 0, s => by
    unfold calculate_seek_in_chunk.loop0 linLoop
    by_cases h : s.j ≥ 0 <;> simp only [h, ↓reduceIte]
  | fuel + 1, s => by
    unfold calculate_seek_in_chunk.loop0 linLoop
    by_cases h : s.j ≥ 0 <;> simp only [h, ↓reduceIte]
    exact csic_loop_view fuel _

theorem csic_view (fuel : Nat) (out spb cl : List Int) (nt ndims : Int) :
    csicView (calculate_seek_in_chunk fuel out ndims nt spb cl) =
      (linStart fuel ndims ⟨0, 0, spb, cl, out, nt, false, false⟩).scale := by
  refine congrArg LinSt.scale (?_ : csicView _ = _)
  by_cases h : ndims > 1
  · exact (congrArg csicView (if_pos h)).trans ((csic_loop_view fuel _).trans (if_pos h).symm)
  · exact (congrArg csicView (if_neg h)).trans (if_neg h).symm

/-- loop of `update_seek_pos_chunk`: with `k` indices still to do (`i = k-1`), `stmp` and `spb[k..]` hold what the model's
    recursion `uspcLoop` returns for the dimensions `k..` (it handles the fast dimensions first, as the C loop does) -/
theorem uspc_loop (dd : List DimRec) (x : Nat) (hp : AllPos (cdimsOf dd)) (cs nd nt ret : Int) :
    ∀ (k fuel : Nat) (spb : List Int), k ≤ fuel → k ≤ dd.length → spb.length = dd.length →
      spb.drop k = ints (uspcLoop (dd.drop k) x).2 →
      let s := update_seek_pos_chunk.loop0 fuel
        { chunk_seek := cs, ndims := nd, nt_size := nt, i := (k : Int) - 1, stmp := ((uspcLoop (dd.drop k) x).1 : Nat),
          ddims_chunk_length := ints (cdimsOf dd), spb := spb, ret := ret }
      s.ub = false ∧ s.oof = false ∧ s.spb = ints (uspcLoop dd x).2
  | 0, fuel, spb, _, _, _, h => by cases fuel <;> exact ⟨rfl, rfl, h⟩
  | k + 1, fuel + 1, spb, hf, hk, hl, h => by
    have e0 : ((k + 1 : Nat) : Int) - 1 = (k : Int) := Int.add_sub_cancel (k : Int) 1
    have hb : 0 ≤ (k : Int) ∧ (k : Int) < (dd.length : Int) := ⟨Int.natCast_nonneg k, Int.ofNat_lt.2 hk⟩
    have hv := ints_map_getD (·.chunkLength) dd k (by omega)
    have hc := field_ne_zero hp (k := k) (by omega)
    have hdk : dd.drop k = dd[k] :: dd.drop (k + 1) := List.drop_eq_getElem_cons (by omega)
    have ih := uspc_loop dd x hp cs nd nt ret k fuel
      (spb.set k (((uspcLoop (dd.drop (k + 1)) x).1 % dd[k].chunkLength : Nat) : Int)) (by omega) (by omega)
      (by rw [List.length_set]; exact hl) (by rw [drop_set_self _ _ _ (by omega), h, hdk]; rfl)
    rw [hdk] at ih
    rw [e0, update_seek_pos_chunk.loop0, if_pos hb.1]
    simp only [update_seek_pos_chunk.chk, Int.toNat_natCast, hb, hv, hc, hl, ints_length, List.length_map, tmod_nat, tdiv_nat, ne_eq,
      not_false_eq_true, and_self, decide_true, Bool.not_true, Bool.or_false]
    exact ih

/-- loop of `update_chunk_indices_seek`: the invariant of `uspc_loop` with the two OUT arrays `sbi`, `spb` and the model's `ucisLoop` -/
theorem ucis_loop (dd : List DimRec) (x : Nat) (hpd : AllPos (dimsOf dd)) (hpc : AllPos (cdimsOf dd)) (sl nd nt ret : Int) :
    ∀ (k fuel : Nat) (sbi spb : List Int), k ≤ fuel → k ≤ dd.length → sbi.length = dd.length → spb.length = dd.length →
      sbi.drop k = ints (ucisLoop (dd.drop k) x).2.1 → spb.drop k = ints (ucisLoop (dd.drop k) x).2.2 →
      let s := update_chunk_indices_seek.loop0 fuel
        { sloc := sl, ndims := nd, nt_size := nt, i := (k : Int) - 1, stmp := ((ucisLoop (dd.drop k) x).1 : Nat),
          ddims_dim_length := ints (dimsOf dd), ddims_chunk_length := ints (cdimsOf dd), sbi := sbi, spb := spb, ret := ret }
      s.ub = false ∧ s.oof = false ∧ s.sbi = ints (ucisLoop dd x).2.1 ∧ s.spb = ints (ucisLoop dd x).2.2
  | 0, fuel, sbi, spb, _, _, _, _, h1, h2 => by cases fuel <;> exact ⟨rfl, rfl, h1, h2⟩
  | k + 1, fuel + 1, sbi, spb, hf, hk, hl1, hl2, h1, h2 => by
    have e0 : ((k + 1 : Nat) : Int) - 1 = (k : Int) := Int.add_sub_cancel (k : Int) 1
    have hb : 0 ≤ (k : Int) ∧ (k : Int) < (dd.length : Int) := ⟨Int.natCast_nonneg k, Int.ofNat_lt.2 hk⟩
    have hvd := ints_map_getD (·.dimLength) dd k (by omega)
    have hvc := ints_map_getD (·.chunkLength) dd k (by omega)
    have hd := field_ne_zero hpd (k := k) (by omega)
    have hc := field_ne_zero hpc (k := k) (by omega)
    have hdk : dd.drop k = dd[k] :: dd.drop (k + 1) := List.drop_eq_getElem_cons (by omega)
    have ih := ucis_loop dd x hpd hpc sl nd nt ret k fuel
      (sbi.set k (((ucisLoop (dd.drop (k + 1)) x).1 % dd[k].dimLength / dd[k].chunkLength : Nat) : Int))
      (spb.set k (((ucisLoop (dd.drop (k + 1)) x).1 % dd[k].dimLength % dd[k].chunkLength : Nat) : Int))
      (by omega) (by omega) (by rw [List.length_set]; exact hl1) (by rw [List.length_set]; exact hl2)
      (by rw [drop_set_self _ _ _ (by omega), h1, hdk]; rfl) (by rw [drop_set_self _ _ _ (by omega), h2, hdk]; rfl)
    rw [hdk] at ih
    rw [e0, update_chunk_indices_seek.loop0, if_pos hb.1]
    simp only [update_chunk_indices_seek.chk, Int.toNat_natCast, hb, hvd, hvc, hd, hc, hl1, hl2, ints_length, List.length_map,
      tmod_nat, tdiv_nat, ne_eq, not_false_eq_true, and_self, decide_true, Bool.not_true, Bool.or_false]
    exact ih

/-- the model's test for the last chunk of a dimension, `ci + 1 == numChunks`, as the C makes it on `int32`: `ci == num_chunks - 1` -/
theorem last_chunk_cast (ci n : Nat) : ((ci + 1 == n) = true) = ((ci : Int) = (n : Int) - 1) := by
  rw [beq_iff_eq]; exact propext (by omega)

/-- the cell as the C computes it, on `int32` -/
theorem c2aElem_cast (d : DimRec) (ci pi : Nat) :
    ((c2aElem d ci pi : Nat) : Int) =
      if (ci : Int) = (d.numChunks : Int) - 1 then
        (ci : Int) * d.chunkLength + (if (pi : Int) > d.lastChunkLength then (d.lastChunkLength : Int) else pi)
      else (ci : Int) * d.chunkLength + pi := by
  have e' : (pi > d.lastChunkLength) = ((pi : Int) > (d.lastChunkLength : Int)) := propext (by omega)
  simp only [c2aElem, last_chunk_cast, e']
  split
  · split <;> simp only [Int.natCast_add, Int.natCast_mul]
  · simp only [Int.natCast_add, Int.natCast_mul]

/-- loop of `compute_chunk_to_array`: with `k` indices still to do (`j = m`, `m + k = ndims`), the first `m` cells of the OUT
    array hold the model's result -/
theorem c2a_loop (dd : List DimRec) (sbi spb : List Nat) (hs : sbi.length = dd.length) (hp : spb.length = dd.length) (ret : Int) :
    ∀ (k m fuel : Nat) (out : List Int), k ≤ fuel → m + k = dd.length → out.length = dd.length →
      out.take m = ints ((computeChunkToArray dd sbi spb).take m) →
      let s := compute_chunk_to_array.loop0 fuel
        { ndims := dd.length, j := m, chunk_indices := ints sbi, ddims_chunk_length := ints (cdimsOf dd), array_indices := out,
          ddims_num_chunks := ints (nchunksOf dd), chunk_array_ind := ints spb,
          ddims_last_chunk_length := ints (dd.map (·.lastChunkLength)), ret := ret }
      s.ub = false ∧ s.oof = false ∧ s.array_indices = ints (computeChunkToArray dd sbi spb)
  | 0, m, fuel, out, _, hm, hl, h => by
    rw [List.take_of_length_le (by omega), List.take_of_length_le (by rw [c2a_length]; omega)] at h
    have : ¬ ((m : Int) < dd.length) := by omega
    cases fuel <;> (rw [compute_chunk_to_array.loop0, if_neg this]; exact ⟨rfl, rfl, h⟩)
  | k + 1, m, fuel + 1, out, hf, hm, hl, h => by
    have hm' : m < dd.length := by omega
    have hb : 0 ≤ (m : Int) ∧ (m : Int) < (dd.length : Int) := ⟨Int.natCast_nonneg m, Int.ofNat_lt.2 hm'⟩
    have hv1 := ints_map_getD (·.chunkLength) dd m hm'
    have hv2 := ints_map_getD (·.numChunks) dd m hm'
    have hv3 := ints_map_getD (·.lastChunkLength) dd m hm'
    have hg : ∀ v : Int, (out.set m v).getD m 0 = v := fun v => getD_set_self _ _ _ _ (hl ▸ hm')
    have ih := c2a_loop dd sbi spb hs hp ret k (m + 1) fuel
      (out.set m ((c2aElem dd[m] (sbi[m]?.getD 0) (spb[m]?.getD 0) : Nat) : Int))
      (by omega) (by omega) (by rw [List.length_set]; exact hl)
      (by rw [take_set_succ _ _ _ (hl ▸ hm'), take_succ_getD _ _ (by rw [c2a_length]; exact hm'), ints_append,
            c2a_getD dd sbi spb m hm', h]; rfl)
    rw [c2aElem_cast, Int.natCast_add] at ih
    rw [compute_chunk_to_array.loop0, if_pos hb.2]
    simp only [compute_chunk_to_array.chk, Int.toNat_natCast, hb, hv1, hv2, hv3, hl, hs, hp, hg, ints_length, List.length_map,
      List.getD_eq_getElem?_getD, ints_getD, and_self, decide_true, Bool.not_true, Bool.or_false, List.length_set, or_true,
      List.set_set]
    split
    · rw [if_pos ‹_›] at ih; exact ih
    · rw [if_neg ‹_›] at ih; exact ih

end H4.Lemmas.C04Fn
