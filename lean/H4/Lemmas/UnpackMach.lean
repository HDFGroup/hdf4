import H4.Lemmas.C2LBytes
import H4.Lemmas.C2LLoop
/-! What the translated `vunpackvg` (vgp.c) and `vunpackvs` (vio.c) share, over the state type of either: the values at a buffer position that the statements of both
    property files are written in (`b8 be16 be32 S32 w16`), the cursor of `H4.C2L` with three flags (`Mach`) and the invariant `Ok` of a run on an accepted record, the
    DECODE macros and the counted loop on such a state. -/
namespace H4.Lemmas.C08Fn3

/-- `a & b` on `int` operands, as the translator writes it -/
def andS (a b : Int) : Int :=
  (if (Int.ofNat (Int.toNat ((a) % 4294967296) &&& Int.toNat ((b) % 4294967296))) ≥ 2147483648 then (Int.ofNat (Int.toNat ((a) % 4294967296) &&& Int.toNat ((b) % 4294967296))) - 4294967296 else (Int.ofNat (Int.toNat ((a) % 4294967296) &&& Int.toNat ((b) % 4294967296))))

/-- `a | b` on `int` operands -/
def orS (a b : Int) : Int :=
  (if (Int.ofNat (Int.toNat ((a) % 4294967296) ||| Int.toNat ((b) % 4294967296))) ≥ 2147483648 then (Int.ofNat (Int.toNat ((a) % 4294967296) ||| Int.toNat ((b) % 4294967296))) - 4294967296 else (Int.ofNat (Int.toNat ((a) % 4294967296) ||| Int.toNat ((b) % 4294967296))))

/-- `a & b` on `unsigned` operands -/
def andU (a b : Int) : Int := (Int.ofNat (Int.toNat ((a) % 4294967296) &&& Int.toNat ((b) % 4294967296)))

/-- `a | b` on `unsigned` operands -/
def orU (a b : Int) : Int := (Int.ofNat (Int.toNat ((a) % 4294967296) ||| Int.toNat ((b) % 4294967296)))

/-! `H4.C2L`'s four operators, spelt as the translated text spells them: the restatements `vunpack*_phases` compare text with text. -/
theorem andS_eq : andS = H4.C2L.andS := rfl
theorem orS_eq : orS = H4.C2L.orS := rfl
theorem andU_eq : andU = H4.C2L.andU := rfl
theorem orU_eq : orU = H4.C2L.orU := rfl

/-- a cell of a `uint8` array holds 0..255; any other content is reduced as `& 0xff` does -/
def b8 (B : List Int) (p : Nat) : Int := (B.getD p 0) % 256
def be16 (B : List Int) (p : Nat) : Int := b8 B p * 256 + b8 B (p + 1)
def be32 (B : List Int) (p : Nat) : Int := ((b8 B p * 256 + b8 B (p + 1)) * 256 + b8 B (p + 2)) * 256 + b8 B (p + 3)

theorem b8_range (B : List Int) (p : Nat) : 0 ≤ b8 B p ∧ b8 B p < 256 := by
  simp only [b8]; omega

def S32 (u : Int) : Int := if u ≥ 2147483648 then u - 4294967296 else u

/-- `(int16)x` of a `uint16` -/
def w16 (x : Int) : Int := (x + 32768) % 65536 - 32768

theorem w16_eq : w16 = H4.C2L.wrapS16 := rfl

open H4.C2L (Cursor Tgt val16 val32 cellAt wrapS32 rd dec16uP dec16sP dec32sP idxchk)

theorem val16_be16 (B : List Int) (p : Nat) : val16 B (p : Int) = be16 B p := by
  simp only [val16, cellAt, be16, b8, show ((0 : Nat) : Int) = 0 from rfl, show ((1 : Nat) : Int) = 1 from rfl, Int.add_zero]
  rw [Int.toNat_natCast, show (p : Int) + 1 = ((p + 1 : Nat) : Int) from rfl, Int.toNat_natCast]

theorem val32_be32 (B : List Int) (p : Nat) : val32 B (p : Int) = be32 B p := by
  simp only [val32, cellAt, be32, b8, show ((0 : Nat) : Int) = 0 from rfl, show ((1 : Nat) : Int) = 1 from rfl,
    show ((2 : Nat) : Int) = 2 from rfl, show ((3 : Nat) : Int) = 3 from rfl, Int.add_zero]
  rw [Int.toNat_natCast, show (p : Int) + 1 = ((p + 1 : Nat) : Int) from rfl, show (p : Int) + 2 = ((p + 2 : Nat) : Int) from rfl,
    show (p : Int) + 3 = ((p + 3 : Nat) : Int) from rfl, Int.toNat_natCast, Int.toNat_natCast, Int.toNat_natCast]
  omega

theorem wrapS32_be32 (B : List Int) (p : Nat) : wrapS32 (be32 B p) = S32 (be32 B p) := by
  have h0 := b8_range B p
  have h1 := b8_range B (p + 1)
  have h2 := b8_range B (p + 2)
  have h3 := b8_range B (p + 3)
  simp only [wrapS32, S32, be32]
  omega

structure Mach (σ : Type) where
  L : Cursor σ
  lawful : L.Lawful
  oof : σ → Bool
  done : σ → Bool
  gto : σ → Bool
  ub_set : ∀ s v, L.ub (L.setPos s v) = L.ub s
  oof_set : ∀ s v, oof (L.setPos s v) = oof s
  done_set : ∀ s v, done (L.setPos s v) = done s
  gto_set : ∀ s v, gto (L.setPos s v) = gto s

abbrev Keeps {σ : Type} {α : Sort u} {β : Type} (f : σ → α) (g : σ → β → σ) : Prop := ∀ t v, f (g t v) = f t

namespace Mach
variable {σ : Type} (M : Mach σ)

/-- `ub`: a check has failed; `oof`: a loop ran out of fuel; `done` / `gto`: a `return` / `goto done` is pending -/
structure Ok (B : List Int) (s : σ) (p : Nat) : Prop where
  buf : M.L.buf s = B
  bb : M.L.pos s = p
  ub : M.L.ub s = false
  oof : M.oof s = false
  done : M.done s = false
  gto : M.gto s = false

structure Frame (f : σ → σ) : Prop where
  bb : ∀ t, M.L.pos (f t) = M.L.pos t := by intros; rfl
  buf : ∀ t, M.L.buf (f t) = M.L.buf t := by intros; rfl
  ub : ∀ t, M.L.ub (f t) = M.L.ub t := by intros; rfl
  oof : ∀ t, M.oof (f t) = M.oof t := by intros; rfl
  done : ∀ t, M.done (f t) = M.done t := by intros; rfl
  gto : ∀ t, M.gto (f t) = M.gto t := by intros; rfl

variable {M}

theorem Ok.frame {B s p} (h : M.Ok B s p) {f : σ → σ} (hf : M.Frame f) : M.Ok B (f s) p :=
  ⟨by rw [hf.buf]; exact h.buf, by rw [hf.bb]; exact h.bb, by rw [hf.ub]; exact h.ub, by rw [hf.oof]; exact h.oof,
   by rw [hf.done]; exact h.done, by rw [hf.gto]; exact h.gto⟩

theorem Ok.move {B s p} (h : M.Ok B s p) (q : Nat) : M.Ok B (M.L.setPos s (q : Int)) q :=
  ⟨by rw [M.lawful.buf_setPos]; exact h.buf, M.lawful.pos_setPos _ _, by rw [M.ub_set]; exact h.ub, by rw [M.oof_set]; exact h.oof,
   by rw [M.done_set]; exact h.done, by rw [M.gto_set]; exact h.gto⟩

theorem Frame.cell {idx : σ → Int} {reg : σ → List Int} {setreg : σ → List Int → σ} (hf : ∀ l, M.Frame (setreg · l)) (v : Int) :
    M.Frame ((Tgt.cell idx reg setreg).set · v) :=
  ⟨fun t => (hf _).bb t, fun t => (hf _).buf t, fun t => (hf _).ub t, fun t => (hf _).oof t, fun t => (hf _).done t, fun t => (hf _).gto t⟩

variable {T : Tgt σ} {pre : σ → σ} {G : σ → Prop}

theorem rd_eq (hG : T.LawfulOn M.L pre G) {B s p} (h : M.Ok B s p) (w : Nat) (v : Int) (hl : p + w ≤ B.length) :
    rd M.L T s w v = M.L.setPos (T.set s v) ((p + w : Nat) : Int) :=
  H4.C2L.rd_eq M.lawful hG s w v p h.bb (by rw [h.buf]; exact hl)

variable (M) in
/-- `d` is a DECODE macro of `w` bytes with value `val`: where there is room it stores `val B p` in its target and moves the cursor by `w` -/
structure Reads (d : σ → (σ → σ) → (σ → Int) → (σ → Int → σ) → σ) (w : Nat) (val : List Int → Nat → Int) : Prop where
  eq : ∀ {get set pre G}, Tgt.LawfulOn M.L ⟨get, set⟩ pre G → ∀ {B s p}, M.Ok B s p → G s → p + w ≤ B.length →
    d s pre get set = M.L.setPos (set s (val B p)) ((p + w : Nat) : Int)

variable {d : σ → (σ → σ) → (σ → Int) → (σ → Int → σ) → σ} {w : Nat} {val : List Int → Nat → Int}

/-- `UINT16DECODE(bb, x)` -/
theorem Reads.u16 (e : ∀ s pre get set, d s pre get set = dec16uP M.L ⟨get, set⟩ pre s) : M.Reads d 2 be16 :=
  ⟨fun hG _ _ _ h hg hl => by rw [e, H4.C2L.dec16uP_eq M.lawful hG _ hg, h.buf, h.bb, val16_be16]; exact rd_eq hG h 2 _ hl⟩

/-- `INT16DECODE(bb, x)` -/
theorem Reads.s16 (e : ∀ s pre get set, d s pre get set = dec16sP M.L ⟨get, set⟩ pre s) : M.Reads d 2 (fun B p => w16 (be16 B p)) :=
  ⟨fun hG _ _ _ h hg hl => by rw [e, H4.C2L.dec16sP_eq M.lawful hG _ hg, h.buf, h.bb, val16_be16]; exact rd_eq hG h 2 _ hl⟩

/-- `INT32DECODE(bb, x)` -/
theorem Reads.s32 (e : ∀ s pre get set, d s pre get set = dec32sP M.L ⟨get, set⟩ pre s) : M.Reads d 4 (fun B p => S32 (be32 B p)) :=
  ⟨fun hG _ _ _ h hg hl => by rw [e, H4.C2L.dec32sP_eq M.lawful hG _ hg, h.buf, h.bb, val32_be32, wrapS32_be32]; exact rd_eq hG h 4 _ hl⟩

theorem dec_ok (hd : M.Reads d w val) {get : σ → Int} {set : σ → Int → σ} (hG : Tgt.LawfulOn M.L ⟨get, set⟩ pre G) (hf : ∀ v, M.Frame (set · v))
    {B s p} (h : M.Ok B s p) (hl : p + w ≤ B.length) (hg : G s) :
    d s pre get set = M.L.setPos (set s (val B p)) ((p + w : Nat) : Int) ∧ M.Ok B (M.L.setPos (set s (val B p)) ((p + w : Nat) : Int)) (p + w) :=
  ⟨hd.eq hG h hg hl, (h.frame (hf _)).move _⟩

/-- the same into a cell `reg[idx]` -/
theorem deca_ok (hd : M.Reads d w val) {idx : σ → Int} {reg : σ → List Int} {setreg : σ → List Int → σ} (hR : M.L.Reg idx reg setreg)
    (hf : ∀ l, M.Frame (setreg · l)) {B s p} (h : M.Ok B s p) (hl : p + w ≤ B.length) (k : Nat) (hi : idx s = k) (hk : k < (reg s).length) :
    d s (idxchk M.L idx reg) (Tgt.cell idx reg setreg).get (Tgt.cell idx reg setreg).set =
        M.L.setPos (setreg s ((reg s).set k (val B p))) ((p + w : Nat) : Int) ∧
      M.Ok B (M.L.setPos (setreg s ((reg s).set k (val B p))) ((p + w : Nat) : Int)) (p + w) := by
  have key := dec_ok hd (hR.on M.lawful k) (Frame.cell hf) h hl ⟨hi, hk⟩
  simp only [hi, Int.toNat_natCast] at key
  exact key

/-- `UINT32DECODE(bb, x)` -/
theorem dec32u_ok (hT : T.Lawful M.L) (hf : ∀ v, M.Frame (T.set · v)) {B s p} (h : M.Ok B s p) (hl : p + 4 ≤ B.length) :
    H4.C2L.dec32u M.L T s = M.L.setPos (T.set s (be32 B p)) ((p + 4 : Nat) : Int) ∧
      M.Ok B (M.L.setPos (T.set s (be32 B p)) ((p + 4 : Nat) : Int)) (p + 4) := by
  rw [H4.C2L.dec32u_eq M.lawful hT s, h.buf, h.bb, val32_be32]
  exact ⟨rd_eq hT.on h 4 _ hl, (h.frame (hf _)).move _⟩

/-- `INT32DECODE(bb, x)` -/
theorem dec32s_ok (hT : T.Lawful M.L) (hf : ∀ v, M.Frame (T.set · v)) {B s p} (h : M.Ok B s p) (hl : p + 4 ≤ B.length) :
    H4.C2L.dec32s M.L T s = M.L.setPos (T.set s (S32 (be32 B p))) ((p + 4 : Nat) : Int) ∧
      M.Ok B (M.L.setPos (T.set s (S32 (be32 B p))) ((p + 4 : Nat) : Int)) (p + 4) := by
  rw [H4.C2L.dec32s_eq M.lawful hT s, h.buf, h.bb, val32_be32, wrapS32_be32]
  exact ⟨rd_eq hT.on h 4 _ hl, (h.frame (hf _)).move _⟩

end Mach

open H4.C2L

theorem take_takeWhile_length {α} (q : α → Bool) (X : List α) (l : Nat) :
    X.take ((X.take l).takeWhile q).length = (X.take l).takeWhile q := by
  induction X generalizing l with
  | nil => simp
  | cons a t ih =>
    cases l with
    | zero => simp
    | succ l =>
      simp only [List.take_succ_cons, List.takeWhile_cons]
      split
      · simp [ih]
      · simp

theorem takeWhile_take_le {α} (q : α → Bool) (X : List α) (l : Nat) : ((X.take l).takeWhile q).length ≤ l :=
  Nat.le_trans (List.takeWhile_prefix q).length_le (List.length_take_le l X)

/-- the translated `HIstrncpy(dst, src + p, l + 1)` where `src` has `l` bytes at `p` and the C string `K` found there fits into `dst`: the check of the source, the
    check of the destination, and `dst` afterwards -/
theorem strncpy_room (src dst K : List Int) (p l : Nat) (hK : K = ((src.drop p).take l).takeWhile (· ≠ 0)) (hl : p + l ≤ src.length)
    (hfit : K.length + 1 ≤ dst.length) :
    ((l : Int) + 1 = 0 ∨ (0 ≤ (p : Int) ∧ (K.length = l ∨ K.length < (src.drop p).length))) ∧
    ((l : Int) + 1 = 0 ∨ (0 ≤ 0 ∧ 0 + (Int.ofNat K.length + 1) ≤ dst.length)) ∧
    (if (l : Int) + 1 = 0 then dst else dst.take (Int.toNat 0) ++ (src.drop p).take K.length ++ [0] ++ dst.drop (Int.toNat (0 + (Int.ofNat K.length + 1)))) =
      K ++ 0 :: dst.drop (K.length + 1) := by
  have hle : K.length ≤ l := hK ▸ takeWhile_take_le _ _ l
  refine ⟨.inr ⟨by omega, ?_⟩, .inr ⟨by omega, by simp only [Int.ofNat_eq_natCast]; omega⟩, ?_⟩
  · simp only [List.length_drop]; omega
  · rw [if_neg (by omega), show Int.toNat (0 + (Int.ofNat K.length + 1)) = K.length + 1 by simp only [Int.ofNat_eq_natCast]; omega,
      show Int.toNat 0 = 0 from rfl, List.take_zero, List.nil_append, List.append_assoc, List.singleton_append]
    subst hK
    rw [take_takeWhile_length]

theorem for_ok {σ : Type} {loop body : Nat → σ → σ} (i cnt : σ → Int) (done gto : σ → Bool)
    (hL : H4.C2L.IsLoop loop (fun s => i s < cnt s ∧ ¬(done s = true ∨ gto s = true)) body (fun s => s))
    (m : Nat) (F : Nat → σ) (hF : ∀ j, i (F j) = j ∧ cnt (F j) = m ∧ done (F j) = false ∧ gto (F j) = false)
    (hb : ∀ j, j < m → ∀ fuel, body fuel (F j) = F (j + 1)) {s : σ} (hz : F 0 = s) (fuel : Nat) (hf : m ≤ fuel) : loop fuel s = F m :=
  hz ▸ hL.run m F
    (fun j hj => by obtain ⟨e1, e2, e3, e4⟩ := hF j; exact ⟨by rw [e1, e2]; omega, by rw [e3, e4]; simp⟩)
    (fun h => by obtain ⟨e1, e2, _⟩ := hF m; have := h.1; rw [e1, e2] at this; omega)
    (fun j f hj _ => hb j hj f) hf

def vals (B : List Int) (p st m : Nat) : List Int := (List.range m).map fun j => be16 B (p + st * j)

@[simp] theorem vals_length (B : List Int) (p st m : Nat) : (vals B p st m).length = m := by simp [vals]

theorem vals_succ (B : List Int) (p st m : Nat) : vals B p st (m + 1) = vals B p st m ++ [be16 B (p + st * m)] := by
  simp [vals, List.range_succ]

def fill (l : List Int) (k : Nat) (vs : List Int) : List Int := l.take k ++ vs ++ l.drop (k + vs.length)

theorem fill_eq (l : List Int) (k : Nat) (vs : List Int) : fill l k vs = storeAt l k vs := rfl

theorem fill_nil (l : List Int) (k : Nat) : fill l k [] = l := storeAt_nil l k

theorem fill_length (l : List Int) (k : Nat) (vs : List Int) (h : k + vs.length ≤ l.length) : (fill l k vs).length = l.length :=
  length_storeAt l k vs h

theorem fill_zero (n ms : Nat) (vs : List Int) (h : vs.length = n) :
    fill (List.replicate ms 170) 0 vs = vs ++ List.replicate (ms - n) 170 := by
  rw [fill_eq, storeAt_zero, List.drop_replicate, h]

theorem fill_zero' (vs : List Int) (n : Nat) (h : vs.length = n) : fill (List.replicate n 170) 0 vs = vs := by
  rw [fill_zero n n vs h, Nat.sub_self]; exact List.append_nil vs

theorem fill_snoc (l : List Int) (k : Nat) (vs : List Int) (v : Int) (h : k + vs.length < l.length) :
    (fill l k vs).set (k + vs.length) v = fill l k (vs ++ [v]) := storeAt_snoc l k vs v h

theorem fill_vals_lt (l B : List Int) (q st j : Nat) (h : j < l.length) : j < (fill l 0 (vals B q st j)).length := by
  rw [fill_length _ _ _ (by simp; omega)]; exact h

theorem fill_vals_set (l B : List Int) (q st j : Nat) (h : j < l.length) :
    (fill l 0 (vals B q st j)).set j (be16 B (q + st * j)) = fill l 0 (vals B q st (j + 1)) := by
  have e := fill_snoc l 0 (vals B q st j) (be16 B (q + st * j)) (by simp; omega)
  simp only [vals_length, Nat.zero_add] at e
  rw [e, ← vals_succ]

def be16N (B : List Int) (p : Nat) : Nat := (be16 B p).toNat

theorem be16_eq (B : List Int) (p : Nat) : be16 B p = (be16N B p : Int) := by
  have h1 := b8_range B p
  have h2 := b8_range B (p + 1)
  simp only [be16N, be16]; omega

theorem be16N_lt (B : List Int) (p : Nat) : be16N B p < 65536 := by
  have h1 := b8_range B p
  have h2 := b8_range B (p + 1)
  simp only [be16N, be16]; omega

/-- what `HIstrncpy` leaves in a fresh block of `l + 1` cells (170: indeterminate content) -/
def strAt (B : List Int) (p l : Nat) : List Int :=
  ((B.drop p).take l).takeWhile (· ≠ 0) ++ 0 :: List.replicate (l - (((B.drop p).take l).takeWhile (· ≠ 0)).length) 170

def be32N (B : List Int) (p : Nat) : Nat := (be32 B p).toNat

theorem be32_eq (B : List Int) (p : Nat) : be32 B p = (be32N B p : Int) := by
  have h1 := b8_range B p
  have h2 := b8_range B (p + 1)
  have h3 := b8_range B (p + 2)
  have h4 := b8_range B (p + 3)
  simp only [be32N, be32]; omega

theorem be32N_lt (B : List Int) (p : Nat) : be32N B p < 4294967296 := by
  have h1 := b8_range B p
  have h2 := b8_range B (p + 1)
  have h3 := b8_range B (p + 2)
  have h4 := b8_range B (p + 3)
  simp only [be32N, be32]; omega

/-- `flags & VG_ATTR_SET` as the translated code tests it -/
theorem attr_bit (f : Nat) (hf : f < 4294967296) : (andU (f : Int) (((1 : Int) % 4294967296)) ≠ 0) ↔ f % 2 = 1 := by
  have e1 : Int.toNat ((f : Int) % 4294967296) = f := by omega
  have e2 : Int.toNat ((((1 : Int) % 4294967296)) % 4294967296) = 1 := by decide
  simp only [andU, e1, e2, Int.ofNat_eq_natCast, Nat.and_one_is_mod]
  omega

theorem attr_bit32 (B : List Int) (p : Nat) : andU (be32 B p) (((1 : Int) % 4294967296)) ≠ 0 ↔ be32N B p % 2 = 1 := by
  rw [be32_eq, attr_bit _ (be32N_lt B p)]

end H4.Lemmas.C08Fn3
