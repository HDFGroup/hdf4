import H4.RleSess
import H4.Props.C05Rle
/-! Lemmas for `H4.Props.C05RleSess`: the functions around the run-length coder, as translated from crle.c, are their leaf function
    plus the test the C text makes, and every operation of the session model `H4.RleSess` keeps the session invariant `SInv`
    (the shared record is either the encoder's, `WInv`, or the decoder's, `RInv`). -/
namespace H4.Lemmas.C05RleSess
open H4 H4.Rle H4.RleSess H4.Gen.Crle H4.Gen.Fn.Crle H4.Lemmas.C05Rle H4.Props.C05Rle

theorem init_spec (fuel : Nat) (st enc pos last second off : Int) :
    let s := HCIcrle_init fuel st enc pos last second off
    s.ub = false ∧ s.oof = false ∧ s.ret = 0 ∧ s.rle_rle_state = 0 ∧ s.rle_encoding = 0 ∧ s.rle_buf_pos = 0 ∧ s.rle_last_byte = nil32 ∧
      s.rle_second_byte = nil32 ∧ s.rle_offset = 0 := by
  simp [HCIcrle_init, nil32, RLE_NIL]

theorem staccess_spec (fuel : Nat) (aid st enc pos last second off mode new_aid : Int) (h : new_aid ≠ -1) :
    let s := HCIcrle_staccess fuel aid st enc pos last second off mode new_aid
    s.ub = false ∧ s.oof = false ∧ s.ret = 0 ∧ s.rle_rle_state = 0 ∧ s.rle_encoding = 0 ∧ s.rle_buf_pos = 0 ∧ s.rle_last_byte = nil32 ∧
      s.rle_second_byte = nil32 ∧ s.rle_offset = 0 := by
  have hi := init_spec fuel st enc pos last second off
  simp only at hi
  obtain ⟨i1, i2, i3, i4, i5, i6, i7, i8, i9⟩ := hi
  simp [HCIcrle_staccess, HCIcrle_staccess.St.join, h, i1, i2, i3, i4, i5, i6, i7, i8, i9]

theorem write_spec (fuel : Nat) (ilen off enc st : Int) (buffer : List Int) (last len pos second length : Int) (data out : List Int)
    (hok : ¬ (ilen ≠ off ∧ (off ≠ 0 ∧ length ≤ ilen - off)))
    (hr : (HCIcrle_encode fuel enc st buffer last len pos second off length data out).ret ≠ -1) :
    let r := HCIcrle_encode fuel enc st buffer last len pos second off length data out
    let s := HCPcrle_write fuel ilen off enc st buffer last len pos second length data out
    s.ub = r.ub ∧ s.oof = r.oof ∧ s.ret = length ∧ s.rle_rle_state = r.rle_rle_state ∧ s.rle_buf_length = r.rle_buf_length ∧
      s.rle_buf_pos = r.rle_buf_pos ∧ s.rle_last_byte = r.rle_last_byte ∧ s.rle_second_byte = r.rle_second_byte ∧
      s.rle_offset = r.rle_offset ∧ s.rle_encoding = r.rle_encoding ∧ s.rle_buffer = r.rle_buffer ∧ s.io_out = r.io_out := by
  intro r s
  simp [r, s, HCPcrle_write, HCPcrle_write.St.join, hok, hr]

theorem read_spec (fuel : Nat) (st len last : Int) (buffer : List Int) (pos off length : Int) (data inp : List Int) (io_pos : Int)
    (hr : (HCIcrle_decode fuel st len last buffer pos off length data inp io_pos).ret ≠ -1) :
    let r := HCIcrle_decode fuel st len last buffer pos off length data inp io_pos
    let s := HCPcrle_read fuel st len last buffer pos off length data inp io_pos
    s.ub = r.ub ∧ s.oof = r.oof ∧ s.ret = length ∧ s.rle_rle_state = r.rle_rle_state ∧ s.rle_buf_length = r.rle_buf_length ∧
      s.rle_buf_pos = r.rle_buf_pos ∧ s.rle_last_byte = r.rle_last_byte ∧ s.rle_offset = r.rle_offset ∧ s.rle_buffer = r.rle_buffer ∧
      s.data = r.buf ∧ s.io_pos = r.io_pos := by
  intro r s
  simp [r, s, HCPcrle_read, HCPcrle_read.St.join, hr]

theorem endaccess_flush (fuel : Nat) (access enc st len last : Int) (buffer : List Int) (second : Int) (out : List Int)
    (ha : 0 ≤ access) (hw : access.toNat &&& 2 ≠ 0) (he : enc ≠ 0) (hst : st ≠ 0)
    (hr : (HCIcrle_term fuel st len last buffer enc second out).ret = 0) :
    let r := HCIcrle_term fuel st len last buffer enc second out
    let s := HCPcrle_endaccess fuel access enc st len last buffer second out
    s.ub = r.ub ∧ s.oof = r.oof ∧ s.ret = 0 ∧ s.io_out = r.io_out := by
  intro r s
  simp [r, s, HCPcrle_endaccess, HCPcrle_endaccess.St.join, HCPcrle_endaccess.chk, ha, hw, he, hst, hr]

theorem endaccess_noflush (fuel : Nat) (access enc st len last : Int) (buffer : List Int) (second : Int) (out : List Int)
    (ha : 0 ≤ access) (h : ¬ (access.toNat &&& 2 ≠ 0 ∧ enc ≠ 0 ∧ st ≠ 0)) :
    let s := HCPcrle_endaccess fuel access enc st len last buffer second out
    s.ub = false ∧ s.oof = false ∧ s.ret = 0 ∧ s.io_out = out := by
  intro s
  have h' : ¬ ((¬ (access.toNat &&& 2 = 0) ∧ ¬ enc = 0) ∧ ¬ st = 0) := by
    intro ⟨⟨a, b⟩, c⟩; exact h ⟨a, b, c⟩
  simp [s, HCPcrle_endaccess, HCPcrle_endaccess.chk, ha, h']

theorem enc_body_init_last (fuel : Nat) (s : HCIcrle_encode.St) (hst : s.rle_rle_state = 0) (x : Int) :
    HCIcrle_encode.loop0.body fuel { s with rle_last_byte := x } = HCIcrle_encode.loop0.body fuel s := by
  obtain ⟨length, buf_i, orig_length, c_, rle_encoding, st, last, len, pos, second, offset, buf, buffer, io_out, ub, oof, ret, done⟩ := s
  simp only at hst
  subst hst
  simp [-List.getD_eq_getElem?_getD, HCIcrle_encode.loop0.body, HCIcrle_encode.chk]

/-- `HCIcrle_encode` entered in state INIT with at least one byte to store: the old content of `last_byte` - left behind by the
    decoder when the access id turns from reading to writing - does not matter -/
theorem encode_init_last (fuel : Nat) (encoding : Int) (buffer : List Int) (last len pos second offset length : Int) (buf io_out : List Int)
    (hl : length > 0) (x : Int) :
    HCIcrle_encode (fuel + 1) encoding 0 buffer x len pos second offset length buf io_out =
      HCIcrle_encode (fuel + 1) encoding 0 buffer last len pos second offset length buf io_out := by
  rw [enc_unfold, enc_unfold]
  have hc : ∀ y, (encStart encoding 0 buffer y len pos second offset length buf io_out).length > 0 ∧
      ¬ ((encStart encoding 0 buffer y len pos second offset length buf io_out).done = true) := by
    intro y; simp [encStart, hl]
  rw [enc_isLoop.pass (hc x), enc_isLoop.pass (hc last)]
  have e : encStart encoding 0 buffer x len pos second offset length buf io_out =
      { encStart encoding 0 buffer last len pos second offset length buf io_out with rle_last_byte := x } := by
    simp [encStart]
  rw [e, enc_body_init_last _ _ (by simp [encStart])]

theorem ints_eq (l : List Byte) : ints l = bytes l := rfl

theorem put_end (file out : List Int) (fpos : Int) (h : fpos = (file.length : Int)) : put file fpos out = file ++ out := by
  subst h; simp [put]

theorem put_nil (file : List Int) (fpos : Int) : put file fpos [] = file := by simp [put]

/-- the record is the ENCODER's: related to a model encoder state `e`, the packets `em` emitted so far are the underlying element, the
    position of `info->aid` is its end, the data is what the packets expand to plus what is pending in the record, and a record that
    holds pending bytes says so (`encoding`) -/
def WInv (σ : St) (data : List Byte) : Prop :=
  ∃ (e : Enc) (em : List Pkt), EncRel e σ.st σ.len σ.pos σ.last σ.second σ.buffer ∧ Consumed e em data ∧
    σ.file = bytes (ser em) ∧ σ.fpos = (σ.file.length : Int) ∧ σ.offset = (data.length : Int) ∧ (σ.st ≠ 0 → σ.encoding ≠ 0)

/-- the record is the DECODER's: `encoding` is clear, `second_byte` is NIL (the decoder never touches it, the encoder relies on it when
    it takes over), the underlying element decodes to the data and the record + position are related to "`data` from `offset` on is
    still to come" -/
def RInv (σ : St) (data : List Byte) : Prop :=
  σ.encoding = 0 ∧ σ.second = nil32 ∧ ∃ (cs : List Byte) (k : Nat), σ.file = bytes cs ∧ dec cs = some data ∧ σ.offset = (k : Int) ∧
    k ≤ data.length ∧ DecRel cs (data.drop k) σ.st σ.len σ.last σ.pos σ.buffer σ.fpos

/-- the session invariant: `info->length` is the number of bytes written, the access id has write access, and the record is either
    the encoder's or the decoder's -/
structure SInv (σ : St) (data : List Byte) : Prop where
  length : σ.length = (data.length : Int)
  small : data.length < 2 ^ 31
  acc : 0 ≤ σ.access
  wbit : σ.access.toNat &&& 2 ≠ 0
  mode : WInv σ data ∨ RInv σ data

theorem rinv_init (σ : St) (cs data : List Byte) (hf : σ.file = bytes cs) (hd : dec cs = some data) (hb : σ.buffer.length = RLE_BUF_SIZE)
    (st enc pos last second off : Int) (h4 : st = 0) (h5 : enc = 0) (h8 : second = nil32) (h9 : off = 0) :
    RInv { σ with st := st, encoding := enc, pos := pos, last := last, second := second, offset := off, fpos := 0 } data := by
  refine ⟨h5, h8, cs, 0, hf, hd, by simp [h9], Nat.zero_le _, ?_⟩
  simp only [h4, List.drop_zero]
  exact decRel_init cs data hd σ.len _ _ σ.buffer hb

theorem start_step (σ : St) (cs data : List Byte) (mode : Int) (hf : σ.file = bytes cs) (hd : dec cs = some data)
    (hl : σ.length = (data.length : Int)) (hb : σ.buffer.length = RLE_BUF_SIZE) (ha : 0 ≤ σ.access) (hw : σ.access.toNat &&& 2 ≠ 0)
    (hsz : data.length < 2 ^ 31) :
    ∃ σ0, start σ mode 1 = some σ0 ∧ SInv σ0 data ∧ σ0.offset = 0 := by
  have h := staccess_spec 0 0 σ.st σ.encoding σ.pos σ.last σ.second σ.offset mode 1 (by decide)
  simp only at h
  generalize hs : HCIcrle_staccess 0 0 σ.st σ.encoding σ.pos σ.last σ.second σ.offset mode 1 = s at h
  obtain ⟨h1, h2, h3, h4, h5, h6, h7, h8, h9⟩ := h
  refine ⟨{ σ with st := s.rle_rle_state, encoding := s.rle_encoding, pos := s.rle_buf_pos, last := s.rle_last_byte,
                   second := s.rle_second_byte, offset := s.rle_offset, fpos := 0 }, ?_,
    ⟨hl, hsz, ha, hw, Or.inr (rinv_init σ cs data hf hd hb _ _ _ _ _ _ h4 h5 h8 h9)⟩, h9⟩
  simp only [start, hs, h1, h2, h3]; rfl

/-- a reader at the end of the data may be read as a writer -/
theorem writer_view (σ : St) (data bs : List Byte) (hmode : WInv σ data ∨ RInv σ data) (hoff : σ.offset = (data.length : Int)) (hne : bs ≠ []) :
    ∃ (e : Enc) (em : List Pkt) (last' : Int), EncRel e σ.st σ.len σ.pos last' σ.second σ.buffer ∧ Consumed e em data ∧
      σ.file = bytes (ser em) ∧ σ.fpos = (σ.file.length : Int) ∧
      HCIcrle_encode bs.length σ.encoding σ.st σ.buffer σ.last σ.len σ.pos σ.second σ.offset bs.length (bytes bs) [] =
        HCIcrle_encode bs.length σ.encoding σ.st σ.buffer last' σ.len σ.pos σ.second σ.offset bs.length (bytes bs) [] := by
  rcases hmode with ⟨e, em, h1, hc, h4, h5, -, -⟩ | ⟨r1, r2, cs, k, r3, r4, r5, r6, r7⟩
  · exact ⟨e, em, σ.last, h1, hc, h4, h5, rfl⟩
  · have hk : k = data.length := by omega
    subst hk
    rw [List.drop_length] at r7
    obtain ⟨hst, hfp⟩ := decRel_nil cs _ _ _ _ _ _ r7
    obtain ⟨em, hv, hs, he⟩ := dec_parse cs data r4
    obtain ⟨n, hn⟩ : ∃ n, bs.length = n + 1 := by
      cases bs with
      | nil => exact absurd rfl hne
      | cons b t => exact ⟨t.length, rfl⟩
    refine ⟨{}, em, nil32, ⟨r7.1, rfl, by rw [r2]; rfl, by simpa using hst⟩, ⟨init_inv, hv, by simp [pending, he]⟩, by rw [r3, hs],
      by rw [hfp, r3]; simp, ?_⟩
    rw [hst, hn]
    exact encode_init_last n σ.encoding σ.buffer nil32 σ.len σ.pos σ.second σ.offset _ (bytes bs) [] (by omega) σ.last

theorem write_step (σ : St) (data bs : List Byte) (h : SInv σ data) (hoff : σ.offset = (data.length : Int)) (hne : bs ≠ [])
    (hsz : data.length + bs.length < 2 ^ 31) :
    ∃ σ', write σ bs = some σ' ∧ SInv σ' (data ++ bs) ∧ σ'.offset = ((data ++ bs).length : Int) := by
  obtain ⟨hlen, hdsz, ha, hw, hmode⟩ := h
  obtain ⟨e, em, last', hrel, hcon, hfile, hfpos, hsame⟩ := writer_view σ data bs hmode hoff hne
  have key := HCIcrle_encode_refines e bs bs.length (Nat.le_refl _) σ.encoding σ.st σ.len σ.pos last' σ.second σ.offset σ.buffer []
    (by omega) (by omega) hrel
  simp only at key
  rw [← hsame] at key
  generalize hr : HCIcrle_encode bs.length σ.encoding σ.st σ.buffer σ.last σ.len σ.pos σ.second σ.offset bs.length (bytes bs) [] = r at key
  obtain ⟨g1, g2, g3, g4, g5, g6, g7⟩ := key
  have hok : ¬ (σ.length ≠ σ.offset ∧ (σ.offset ≠ 0 ∧ (bs.length : Int) ≤ σ.length - σ.offset)) := by
    rw [hlen, hoff]; simp
  have ws := write_spec bs.length σ.length σ.offset σ.encoding σ.st σ.buffer σ.last σ.len σ.pos σ.second bs.length (bytes bs) [] hok
    (by rw [hr, g3]; decide)
  simp only [hr] at ws
  generalize hs : HCPcrle_write bs.length σ.length σ.offset σ.encoding σ.st σ.buffer σ.last σ.len σ.pos σ.second bs.length (bytes bs) [] = s at ws
  obtain ⟨w1, w2, w3, w4, w5, w6, w7, w8, w9, w10, w11, w12⟩ := ws
  have hbl : (0 : Int) < bs.length := by
    cases bs with
    | nil => exact absurd rfl hne
    | cons b t => simp
  have hret : (s.ret == -1) = false := by rw [w3]; simp
  have hnew : s.rle_offset = ((data ++ bs).length : Int) := by rw [w9, g6, hoff]; simp
  refine ⟨{ σ with st := s.rle_rle_state, len := s.rle_buf_length, pos := s.rle_buf_pos, last := s.rle_last_byte,
                   second := s.rle_second_byte, offset := s.rle_offset, encoding := s.rle_encoding, buffer := s.rle_buffer,
                   file := put σ.file σ.fpos s.io_out, fpos := σ.fpos + s.io_out.length,
                   length := if s.rle_offset > σ.length then s.rle_offset else σ.length }, ?_, ?_, hnew⟩
  · simp only [write, ints_eq, hs, w1, w2, g1, g2, hret]; rfl
  · have hfile' : put σ.file σ.fpos s.io_out = bytes (ser (em ++ (encRun e bs).2)) := by
      rw [put_end _ _ _ hfpos, w12, g4, hfile, List.nil_append, ← bytes_append]
      simp [ser]
    refine ⟨?_, by simp; omega, ha, hw, Or.inl ⟨(encRun e bs).1, em ++ (encRun e bs).2, ?_, hcon.run bs, hfile', ?_, hnew, ?_⟩⟩
    · show (if s.rle_offset > σ.length then s.rle_offset else σ.length) = _
      rw [hnew, hlen]; simp; omega
    · show EncRel _ s.rle_rle_state s.rle_buf_length s.rle_buf_pos s.rle_last_byte s.rle_second_byte s.rle_buffer
      rw [w4, w5, w6, w7, w8, w11]; exact g5
    · show σ.fpos + (s.io_out.length : Int) = ((put σ.file σ.fpos s.io_out).length : Int)
      rw [put_end _ _ _ hfpos, hfpos]; simp
    · intro _
      show s.rle_encoding ≠ 0
      rw [w10, g7, if_neg hne]; decide

theorem decode_core (σ : St) (data : List Byte) (n k : Nat) (hdsz : data.length < 2 ^ 31) (hr : RInv σ data) (hk : σ.offset = (k : Int))
    (hle : k + n ≤ data.length) :
    let s := HCIcrle_decode n σ.st σ.len σ.last σ.buffer σ.pos σ.offset n (List.replicate n 0xA5) σ.file σ.fpos
    s.ub = false ∧ s.oof = false ∧ s.ret = 0 ∧ s.buf = bytes ((data.drop k).take n) ∧ s.rle_offset = ((k + n : Nat) : Int) ∧
      RInv { σ with st := s.rle_rle_state, len := s.rle_buf_length, last := s.rle_last_byte, buffer := s.rle_buffer, pos := s.rle_buf_pos,
                    offset := s.rle_offset, fpos := s.io_pos } data := by
  obtain ⟨r1, r2, cs, k', r3, r4, r5, r6, r7⟩ := hr
  have hkk : k' = k := by omega
  subst hkk
  have key := HCIcrle_decode_refines cs (data.drop k') n n σ.st σ.len σ.last σ.pos σ.offset σ.fpos σ.buffer (List.replicate n 0xA5)
    (Nat.le_refl _) (by omega) (by omega) (by simp) r7 (by simp; omega)
  simp only at key
  rw [← r3] at key
  intro s
  obtain ⟨g1, g2, g3, g4, g5, g6⟩ := key
  refine ⟨g1, g2, g3, by rw [g4]; simp, by rw [g5, hk]; simp, r1, r2, cs, k' + n, r3, r4, by show s.rle_offset = _; rw [g5, hk]; simp, hle, ?_⟩
  rw [← List.drop_drop]
  exact g6

theorem read_step (σ : St) (data : List Byte) (n k : Nat) (h : SInv σ data) (hk : σ.offset = (k : Int)) (hn : 0 < n)
    (hle : k + n ≤ data.length) :
    ∃ σ' out, read σ n = some (σ', out) ∧ out = bytes ((data.drop k).take n) ∧ SInv σ' data ∧ σ'.offset = ((k + n : Nat) : Int) := by
  obtain ⟨hlen, hdsz, ha, hw, hmode⟩ := h
  rcases hmode with ⟨e, em, h1, hc, h4, h5, h7, h8⟩ | hr
  · omega
  · have key := decode_core σ data n k hdsz hr hk hle
    simp only at key
    have rs := read_spec n σ.st σ.len σ.last σ.buffer σ.pos σ.offset n (List.replicate n 0xA5) σ.file σ.fpos (by rw [key.2.2.1]; decide)
    simp only at rs
    generalize hd : HCIcrle_decode n σ.st σ.len σ.last σ.buffer σ.pos σ.offset n (List.replicate n 0xA5) σ.file σ.fpos = d at key rs
    generalize hs : HCPcrle_read n σ.st σ.len σ.last σ.buffer σ.pos σ.offset n (List.replicate n 0xA5) σ.file σ.fpos = s at rs
    obtain ⟨g1, g2, g3, g4, g5, g6⟩ := key
    obtain ⟨w1, w2, w3, w4, w5, w6, w7, w8, w9, w10, w11⟩ := rs
    have hrange : ¬ (σ.offset + (n : Int) > σ.length) := by rw [hk, hlen]; omega
    have hret : (s.ret == -1) = false := by rw [w3]; simp
    refine ⟨{ σ with st := s.rle_rle_state, len := s.rle_buf_length, last := s.rle_last_byte, buffer := s.rle_buffer, pos := s.rle_buf_pos,
                     offset := s.rle_offset, fpos := s.io_pos }, s.data, ?_, by rw [w10, g4], ⟨hlen, hdsz, ha, hw, Or.inr ?_⟩,
            by show s.rle_offset = _; rw [w8, g5]⟩
    · simp only [RleSess.read, hrange, if_false, hs, w1, w2, g1, g2, hret]; rfl
    · rw [w4, w5, w6, w7, w8, w9, w11]; exact g6

theorem skip_step (σ : St) (data : List Byte) (n k : Nat) (hdsz : data.length < 2 ^ 31) (hr : RInv σ data) (hk : σ.offset = (k : Int))
    (hle : k + n ≤ data.length) :
    ∃ σ', skip σ n = some σ' ∧ RInv σ' data ∧ σ'.offset = ((k + n : Nat) : Int) ∧ σ'.length = σ.length ∧ σ'.access = σ.access := by
  have key := decode_core σ data n k hdsz hr hk hle
  simp only at key
  generalize hd : HCIcrle_decode n σ.st σ.len σ.last σ.buffer σ.pos σ.offset n (List.replicate n 0xA5) σ.file σ.fpos = d at key
  obtain ⟨g1, g2, g3, g4, g5, g6⟩ := key
  refine ⟨{ σ with st := d.rle_rle_state, len := d.rle_buf_length, last := d.rle_last_byte, buffer := d.rle_buffer, pos := d.rle_buf_pos,
                   offset := d.rle_offset, fpos := d.io_pos }, ?_, g6, g5, rfl, rfl⟩
  simp only [skip, hd, g1, g2, g3]; rfl

theorem tmp_buf_size : TMP_BUF_SIZE = 8192 := rfl

theorem forward_step (data : List Byte) (hdsz : data.length < 2 ^ 31) : ∀ (fuel : Nat) (σ : St) (k off : Nat), RInv σ data →
    σ.offset = (k : Int) → k ≤ off → off ≤ data.length → (off - k) / TMP_BUF_SIZE + 1 ≤ fuel →
    ∃ σ', forward fuel σ off = some σ' ∧ RInv σ' data ∧ σ'.offset = (off : Int) ∧ σ'.length = σ.length ∧ σ'.access = σ.access := by
  intro fuel
  induction fuel with
  | zero => intro σ k off _ _ _ _ hf; exact absurd hf (Nat.not_succ_le_zero _)
  | succ f ih =>
    intro σ k off hr hk hko hod hf
    rw [tmp_buf_size] at hf
    by_cases hc : k + 8192 < off
    · obtain ⟨σ1, s1, s2, s3, s4, s5⟩ := skip_step σ data TMP_BUF_SIZE k hdsz hr hk (by rw [tmp_buf_size]; omega)
      obtain ⟨σ2, t1, t2, t3, t4, t5⟩ := ih σ1 (k + TMP_BUF_SIZE) off s2 s3 (by rw [tmp_buf_size]; omega) hod
        (by rw [tmp_buf_size]; omega)
      refine ⟨σ2, ?_, t2, t3, by rw [t4, s4], by rw [t5, s5]⟩
      have hc' : σ.offset + ((TMP_BUF_SIZE : Nat) : Int) < (off : Int) := by rw [hk, tmp_buf_size]; omega
      simp only [forward, hc', if_true, s1, Option.bind_some]
      exact t1
    · have hc' : ¬ (σ.offset + ((TMP_BUF_SIZE : Nat) : Int) < (off : Int)) := by rw [hk, tmp_buf_size]; omega
      by_cases hlt : k < off
      · obtain ⟨σ1, s1, s2, s3, s4, s5⟩ := skip_step σ data (off - k) k hdsz hr hk (by omega)
        refine ⟨σ1, ?_, s2, by rw [s3]; congr 1; omega, s4, s5⟩
        have hlt' : σ.offset < (off : Int) := by rw [hk]; omega
        have hn : ((off : Int) - σ.offset).toNat = off - k := by rw [hk]; omega
        simp only [forward, hc', if_false, hlt', if_true, hn]
        exact s1
      · have hlt' : ¬ (σ.offset < (off : Int)) := by rw [hk]; omega
        refine ⟨σ, by simp only [forward, hc', if_false, hlt'], hr, by rw [hk]; congr 1; omega, rfl, rfl⟩

/-- the forward half of `HCPcrle_seek` when the position is the target already: nothing happens (this is all a writer may do) -/
theorem forward_same (fuel : Nat) (σ : St) (off : Nat) (h : σ.offset = (off : Int)) : forward (fuel + 1) σ off = some σ := by
  have h1 : ¬ (σ.offset + ((TMP_BUF_SIZE : Nat) : Int) < (off : Int)) := by rw [h, tmp_buf_size]; omega
  have h2 : ¬ (σ.offset < (off : Int)) := by rw [h]; omega
  simp only [forward, h1, if_false, h2]

theorem dfacc_write : H4.Gen.Hdf.DFACC_WRITE = 2 := rfl

theorem init_reader (σ : St) (cs data : List Byte) (hf : σ.file = bytes cs) (hd : dec cs = some data) (hb : σ.buffer.length = RLE_BUF_SIZE) :
    ∃ σ', reinit σ = some σ' ∧
      RInv σ' data ∧ σ'.offset = 0 ∧ σ'.length = σ.length ∧ σ'.access = σ.access := by
  have h := init_spec 0 σ.st σ.encoding σ.pos σ.last σ.second σ.offset
  simp only at h
  generalize hs : HCIcrle_init 0 σ.st σ.encoding σ.pos σ.last σ.second σ.offset = i at h
  obtain ⟨h1, h2, h3, h4, h5, h6, h7, h8, h9⟩ := h
  refine ⟨{ σ with st := i.rle_rle_state, encoding := i.rle_encoding, pos := i.rle_buf_pos, last := i.rle_last_byte,
                   second := i.rle_second_byte, offset := i.rle_offset, fpos := 0 }, ?_,
    rinv_init σ cs data hf hd hb _ _ _ _ _ _ h4 h5 h8 h9, h9, rfl, rfl⟩
  simp only [reinit, hs, h1, h2, h3]; rfl

/-- the flush the C text decides on (`HCPcrle_endaccess`, the backward branch of `HCPcrle_seek`): `HCIcrle_term` exactly on a record that
    is the encoder's and holds a packet.  Either way the element is left as a stream that decodes to the data. -/
theorem flush_spec (σ : St) (data : List Byte) (h : SInv σ data) :
    ∃ raw, dec raw = some data ∧
      (σ.encoding ≠ 0 ∧ σ.st ≠ 0 →
        let t := HCIcrle_term 0 σ.st σ.len σ.last σ.buffer σ.encoding σ.second []
        t.ub = false ∧ t.oof = false ∧ t.ret = 0 ∧ put σ.file σ.fpos t.io_out = bytes raw ∧ t.rle_buffer.length = RLE_BUF_SIZE) ∧
      (¬ (σ.encoding ≠ 0 ∧ σ.st ≠ 0) → σ.file = bytes raw ∧ σ.buffer.length = RLE_BUF_SIZE) := by
  obtain ⟨-, -, -, -, ⟨e, em, h1, hc, h4, h5, -, h8⟩ | ⟨r1, -, cs, k, r3, r4, -, -, r7⟩⟩ := h
  · by_cases hst : σ.st = 0
    · exact ⟨ser em, by simpa [encTerm, h1.st_eq_zero.mp hst] using hc.term, fun c => absurd hst c.2, fun _ => ⟨h4, h1.1⟩⟩
    · obtain ⟨g1, g2, g3, g4, g5, -⟩ := HCIcrle_term_refines e (mt h1.st_eq_zero.mpr hst) 0 σ.st σ.len σ.pos σ.last σ.second σ.encoding σ.buffer [] h1
      refine ⟨ser (em ++ encTerm e), hc.term, fun _ => ⟨g1, g2, g3, ?_, g5.1⟩, fun c => absurd ⟨h8 hst, hst⟩ c⟩
      rw [put_end _ _ _ h5, g4, h4, List.nil_append, ← bytes_append]; simp [ser]
  · exact ⟨cs, r4, fun c => absurd r1 c.1, fun _ => ⟨r3, r7.1⟩⟩

/-- **the backward half of `HCPcrle_seek`** (`offset < rle_info->offset`): a writer's pending bytes are flushed - exactly when the record
    holds any -, a reader's record is NOT flushed, and `HCIcrle_init` leaves a reader at offset 0 of an element that decodes to the data -/
theorem rewind_step (σ : St) (data : List Byte) (h : SInv σ data) :
    ∃ σ', rewind σ = some σ' ∧ RInv σ' data ∧ σ'.offset = 0 ∧ σ'.length = σ.length ∧ σ'.access = σ.access := by
  obtain ⟨raw, hd, hc⟩ := flush_spec σ data h
  have hw : σ.access.toNat &&& H4.Gen.Hdf.DFACC_WRITE ≠ 0 := h.wbit
  by_cases c : σ.encoding ≠ 0 ∧ σ.st ≠ 0
  · obtain ⟨g1, g2, g3, g4, g5⟩ := hc.1 c
    obtain ⟨σ1, hf, f1, f2, f3, f4⟩ : ∃ σ1, flush σ = some σ1 ∧ σ1.file = bytes raw ∧ σ1.buffer.length = RLE_BUF_SIZE ∧
        σ1.length = σ.length ∧ σ1.access = σ.access := by
      simp only [flush, g1, g2, g3]; exact ⟨_, rfl, g4, g5, rfl, rfl⟩
    obtain ⟨σ', i1, i2, i3, i4, i5⟩ := init_reader σ1 raw data f1 hd f2
    exact ⟨σ', by rw [rewind, if_pos ⟨hw, c⟩, hf]; exact i1, i2, i3, i4.trans f3, i5.trans f4⟩
  · obtain ⟨σ', i1, i2, i3, i4, i5⟩ := init_reader σ raw data (hc.2 c).1 hd (hc.2 c).2
    exact ⟨σ', by rw [rewind, if_neg (fun x => c x.2), Option.bind_some]; exact i1, i2, i3, i4, i5⟩

theorem seek_step (σ : St) (data : List Byte) (k off : Nat) (h : SInv σ data) (hk : σ.offset = (k : Int)) (hod : off ≤ data.length) :
    ∃ σ', seek σ off = some σ' ∧ SInv σ' data ∧ σ'.offset = (off : Int) := by
  have h0 := h
  obtain ⟨hlen, hdsz, ha, hw, hmode⟩ := h
  by_cases hb : off < k
  · obtain ⟨σ1, r1, r2, r3, r4, r5⟩ := rewind_step σ data h0
    obtain ⟨σ2, f1, f2, f3, f4, f5⟩ := forward_step data hdsz (off / TMP_BUF_SIZE + 1) σ1 0 off r2 (by rw [r3]; rfl) (Nat.zero_le _) hod
      (by simp)
    refine ⟨σ2, ?_, ⟨by rw [f4, r4]; exact hlen, hdsz, by rw [f5, r5]; exact ha, by rw [f5, r5]; exact hw, Or.inr f2⟩, f3⟩
    have hc : (off : Int) < σ.offset := by rw [hk]; omega
    simp only [seek, hc, if_true, r1, Option.bind_some]
    exact f1
  · have hc : ¬ ((off : Int) < σ.offset) := by rw [hk]; omega
    rcases hmode with ⟨e, em, h1, hc, h4, h5, h7, h8⟩ | hr
    · have hko : k = off := by omega
      subst hko
      exact ⟨σ, by simp only [seek, hc, if_false, Option.bind_some]; exact forward_same _ σ k hk, h0, hk⟩
    · obtain ⟨σ2, f1, f2, f3, f4, f5⟩ := forward_step data hdsz (off / TMP_BUF_SIZE + 1) σ k off hr hk (by omega) hod
        (by rw [tmp_buf_size]; omega)
      refine ⟨σ2, ?_, ⟨by rw [f4]; exact hlen, hdsz, by rw [f5]; exact ha, by rw [f5]; exact hw, Or.inr f2⟩, f3⟩
      simp only [seek, hc, if_false, Option.bind_some]
      exact f1

/-- **`Hendaccess`**: the underlying element is left as a stream that decodes to exactly the data - a writer's pending bytes are
    flushed, a reader's record (however far it got into a run or a literal packet) is not -/
theorem end_step (σ : St) (data : List Byte) (h : SInv σ data) : ∃ raw, RleSess.endaccess σ = some (bytes raw) ∧ dec raw = some data := by
  obtain ⟨raw, hd, hc⟩ := flush_spec σ data h
  obtain ⟨-, -, ha, hw, -⟩ := h
  refine ⟨raw, ?_, hd⟩
  by_cases c : σ.encoding ≠ 0 ∧ σ.st ≠ 0
  · obtain ⟨g1, g2, g3, g4, -⟩ := hc.1 c
    obtain ⟨f1, f2, f3, f4⟩ := endaccess_flush 0 σ.access σ.encoding σ.st σ.len σ.last σ.buffer σ.second [] ha hw c.1 c.2 g3
    simp only [RleSess.endaccess, f1, f2, f3, f4, g1, g2, g4]; rfl
  · obtain ⟨g1, g2, g3, g4⟩ := endaccess_noflush 0 σ.access σ.encoding σ.st σ.len σ.last σ.buffer σ.second [] ha (fun x => c x.2)
    simp only [RleSess.endaccess, g1, g2, g3, g4, put_nil, (hc.2 c).1]; rfl
theorem run_inv : ∀ (ops : List Op) (σ : St) (data : List Byte) (pos : Nat), SInv σ data → σ.offset = (pos : Int) →
    InScope data.length pos ops → data.length + (written ops).length < 2 ^ 31 →
    ∃ σ' rd, run σ ops = some (σ', rd) ∧ rd = bytes (expected data pos ops) ∧ SInv σ' (data ++ written ops) := by
  intro ops
  induction ops with
  | nil => intro σ data pos h _ _ _; exact ⟨σ, [], rfl, rfl, by simpa [written] using h⟩
  | cons op ops ih =>
    intro σ data pos h hp hs hsz
    cases op with
    | write bs =>
      obtain ⟨s1, s2, s3⟩ := hs
      simp only [written, List.length_append] at hsz
      obtain ⟨σ1, w1, w2, w3⟩ := write_step σ data bs h (by rw [hp, s1]) s2 (by omega)
      obtain ⟨σ2, rd, r1, r2, r3⟩ := ih σ1 (data ++ bs) (data.length + bs.length) w2 (by rw [w3]; simp)
        (by simpa using s3) (by simp; omega)
      refine ⟨σ2, rd, by simp only [run, w1, Option.bind_some, r1], by simpa [expected] using r2, ?_⟩
      simpa [written, List.append_assoc] using r3
    | seek off =>
      obtain ⟨s1, s2⟩ := hs
      obtain ⟨σ1, w1, w2, w3⟩ := seek_step σ data pos off h hp s1
      obtain ⟨σ2, rd, r1, r2, r3⟩ := ih σ1 data off w2 w3 s2 (by simpa [written] using hsz)
      exact ⟨σ2, rd, by simp only [run, w1, Option.bind_some, r1], by simpa [expected] using r2, by simpa [written] using r3⟩
    | read n =>
      obtain ⟨s1, s2, s3⟩ := hs
      obtain ⟨σ1, out, w1, w2, w3, w4⟩ := read_step σ data n pos h hp s1 s2
      obtain ⟨σ2, rd, r1, r2, r3⟩ := ih σ1 data (pos + n) w3 w4 s3 (by simpa [written] using hsz)
      refine ⟨σ2, out ++ rd, by simp only [run, w1, Option.bind_some, r1, Option.map_some], ?_, by simpa [written] using r3⟩
      rw [w2, r2, ← bytes_append]; rfl
end H4.Lemmas.C05RleSess
