import H4.Gen.Fn.Hfiledd
import H4.Lemmas.C2LBytes
import H4.Lemmas.C2LLoop
import H4.Lemmas.DDCodec
/-! Lemmas for `H4.Props.C12Fn2`: the reference-number allocator (`Hnewref`, `Htagnewref`) and the DD-block codec loops of
    `hdf/src/hfiledd.c` (`HTPsync_ddlist`, `HTPstart_ddlist`: fragments of `HTPsync` / `HTPstart`), as TRANSLATED from the C text
    (`H4.Gen.Fn.Hfiledd`, regenerated on every run), compute the hand-written model `H4.DD`.
    The bodies of the codec loops (twelve byte stores / loads with their checks) are restated over the writers and readers of `H4.C2L`
    (`enc_body`, `dec_body`, checked by the kernel against the generated definition).  Encode: the passes of the loop merge into one `wr` of
    all the bytes; the buffer is spliced once, where the room is known (`wr_room`).  Decode: each macro is one `rd` into the cell `curr_dd_ptr->f`. -/
namespace H4.Lemmas.C12Fn2
open H4 H4.Gen.Fn.Hfiledd H4.C2L

/-- the first ref `r` in `k .. k+m-1` for which the table says "no descriptor has this ref" (`HTIfind_dd` = FAIL) -/
def tblFree (tbl : List Int) (k m : Nat) : Option Nat := (List.range' k m).find? (fun r => decide (tbl.getD r 0 = -1))

theorem tblFree_succ (tbl : List Int) (k m : Nat) :
    tblFree tbl k (m + 1) = if tbl.getD k 0 = -1 then some k else tblFree tbl (k + 1) m := by
  unfold tblFree
  rw [List.range'_succ, List.find?_cons]
  by_cases hq : tbl.getD k 0 = -1
  · rw [if_pos hq]; simp only [hq, decide_true]
  · rw [if_neg hq]; simp only [hq, decide_false]

theorem isLoopN : IsLoop Hnewref.loop0 (fun s => s.i_ref ≤ 65535 ∧ ¬ (s.done ∨ s.gto ∨ s.brk)) Hnewref.loop0.body id :=
  .of_eqs (stuck := fun s => { s with oof := true }) (fun _ => rfl) (fun _ _ => rfl)

theorem Hnewref_loop (tbl : List Int) : ∀ (m fuel : Nat) (s : Hnewref.St) (k : Nat), m ≤ fuel → k + m = 65536 → 1 ≤ k →
    s.i_ref = k → s.HTIfind_dd_ret = tbl → s.done = false → s.gto = false → s.brk = false → s.oof = false →
    (Hnewref.loop0 fuel s).ub = s.ub ∧ (Hnewref.loop0 fuel s).oof = false ∧ (Hnewref.loop0 fuel s).done = false ∧
    (Hnewref.loop0 fuel s).file_rec_maxref = s.file_rec_maxref ∧
    (Hnewref.loop0 fuel s).ret_value = (match tblFree tbl k m with | some r => (r : Int) | none => s.ret_value) := by
  intro m
  induction m with
  | zero =>
    intro fuel s k _ hk _ hi _ hd hg hb ho
    rw [isLoopN.exit (fun h => by rw [hi] at h; omega)]
    simp [tblFree, ho, hd]
  | succ m ih =>
    intro fuel s k hf hk h1 hi ht hd hg hb ho
    obtain ⟨fuel, rfl⟩ : ∃ f, fuel = f + 1 := ⟨fuel - 1, by omega⟩
    have hkm : ((k : Int)) % 65536 = k := by omega
    rw [isLoopN.pass ⟨by rw [hi]; omega, by simp [hd, hg, hb]⟩, tblFree_succ]
    by_cases hq : tbl.getD k 0 = -1
    · have eb : Hnewref.loop0.body (fuel + 1) s = { s with ref := k, ret_value := k, brk := true, cnt := false } := by
        simp only [Hnewref.loop0.body, Hnewref.St.set_ref, Hnewref.St.set_brk, Hnewref.St.set_cnt, hi, hkm, ht,
          Int.toNat_natCast, hq, if_true, hd, hg, Bool.false_eq_true, or_true]
      rw [eb, isLoopN.exit (fun h => h.2 (.inr (.inr rfl))), if_pos hq]
      simp [ho, hd]
    · have eb : Hnewref.loop0.body (fuel + 1) s = { s with ref := k, cnt := false, i_ref := ((k + 1 : Nat) : Int) } := by
        have h2 : ((k : Int) + 1) % 4294967296 = ((k + 1 : Nat) : Int) := by omega
        simp only [Hnewref.loop0.body, Hnewref.St.set_ref, Hnewref.St.set_cnt, Hnewref.St.set_i_ref, hi, hkm, ht, Int.toNat_natCast, hq, if_false,
          hd, hg, hb, Bool.false_eq_true, or_false, h2]
      rw [eb, if_neg hq]
      exact ih fuel _ (k + 1) (by omega) (by omega) (by omega) rfl ht hd hg hb ho

/-- 0 is the C's "no ref" (`ret_value` as initialised): what is returned when none of the refs 1 … 65535 is free -/
theorem Hnewref_run (fuel : Nat) (hf : 65535 ≤ fuel) (file_id refcount : Int) (hrc : refcount ≠ 0) (maxref : Nat) (hm : maxref ≤ 65535)
    (tbl : List Int) :
    (Hnewref fuel file_id false refcount maxref tbl).ub = false ∧ (Hnewref fuel file_id false refcount maxref tbl).oof = false ∧
    (Hnewref fuel file_id false refcount maxref tbl).ret = (if maxref < 65535 then ((maxref + 1 : Nat) : Int) else (((tblFree tbl 1 65535).getD 0 : Nat) : Int)) ∧
    (Hnewref fuel file_id false refcount maxref tbl).file_rec_maxref = (if maxref < 65535 then ((maxref + 1 : Nat) : Int) else (maxref : Int)) := by
  by_cases hlt : maxref < 65535
  · have h1 : ((maxref : Int) < 65535) := by omega
    have h2 : ((maxref : Int) + 1) % 65536 = ((maxref + 1 : Nat) : Int) := by omega
    simp [Hnewref, hrc, h1, h2, hlt]
  · have h1 : ¬ ((maxref : Int) < 65535) := by omega
    have L := Hnewref_loop tbl 65535 fuel
      { file_id := file_id, file_rec_null := false, file_rec_refcount := refcount, file_rec_maxref := maxref, HTIfind_dd_ret := tbl, i_ref := 1 }
      1 hf rfl (Nat.le_refl _) rfl rfl rfl rfl rfl rfl
    obtain ⟨l1, l2, l3, l4, l5⟩ := L
    simp only [Hnewref, Int.reduceMod, hrc, h1, hlt, if_false, Bool.false_eq_true, or_self]
    simp only [l1, l2, l3, l4, l5, if_false, Bool.false_eq_true]
    cases tblFree tbl 1 65535 <;> simp

/-- `BASETAG(tag)` as translated: `(uint16)((~(t) & 0x8000) ? ((t) & ~0x4000) : (t))` -/
def basetagC (tag : Int) : Int := ((if (andS (-(tag) - 1) 32768) ≠ 0 then andS tag (-(16384) - 1) else tag)) % 65536

theorem bit15 (x : Nat) : x &&& 32768 = 32768 * (x / 32768 % 2) := by
  have h1 : (x &&& 32768) % 2^15 = 0 := by
    rw [Nat.and_mod_two_pow]
    have : 32768 % 2^15 = 0 := by decide
    rw [this, Nat.and_zero]
  have h2 : (x &&& 32768) >>> 15 = x / 32768 % 2 := by
    rw [Nat.shiftRight_and_distrib]
    have : 32768 >>> 15 = 1 := by decide
    rw [this, Nat.and_one_is_mod, Nat.shiftRight_eq_div_pow]
  rw [Nat.shiftRight_eq_div_pow] at h2
  omega

theorem clr14 (t : Nat) (h : t < 32768) : t &&& 4294950911 = t % 16384 := by
  have h1 : (t &&& 4294950911) % 2^14 = t % 2^14 := by
    rw [Nat.and_mod_two_pow]
    have : 4294950911 % 2^14 = 2^14 - 1 := by decide
    rw [this, Nat.and_two_pow_sub_one_eq_mod, Nat.mod_mod]
  have h2 : (t &&& 4294950911) >>> 14 = 0 := by
    rw [Nat.shiftRight_and_distrib]
    have : t >>> 14 = 0 ∨ t >>> 14 = 1 := by rw [Nat.shiftRight_eq_div_pow]; omega
    rcases this with e | e <;> rw [e] <;> decide
  rw [Nat.shiftRight_eq_div_pow] at h2
  omega

theorem basetagC_eq (t : Nat) (h : t < 65536) : basetagC (t : Int) = ((DD.baseTag t : Nat) : Int) := by
  have e1 : Int.toNat ((-(t : Int) - 1) % 4294967296) = 4294967295 - t := by omega
  have e2 : Int.toNat ((32768 : Int) % 4294967296) = 32768 := by decide
  have e3 : Int.toNat ((t : Int) % 4294967296) = t := by omega
  have e4 : Int.toNat ((-(16384 : Int) - 1) % 4294967296) = 4294950911 := by decide
  have b := bit15 (4294967295 - t)
  unfold basetagC andS andU DD.baseTag
  rw [e1, e2, e3, e4, b]
  by_cases hlt : t < 32768
  · have hb : (4294967295 - t) / 32768 % 2 = 1 := by omega
    rw [hb, clr14 t hlt]
    have hm : t % 16384 = if 16384 ≤ t ∧ t < 32768 then t - 16384 else t := by split <;> omega
    rw [← hm]
    simp only [Int.ofNat_eq_natCast, Nat.mul_one]
    rw [if_pos (by decide)]
    have : ¬ (((t % 16384 : Nat) : Int) ≥ 2147483648) := by omega
    rw [if_neg this]; omega
  · have hb : (4294967295 - t) / 32768 % 2 = 0 := by omega
    rw [hb]
    have hm : (if 16384 ≤ t ∧ t < 32768 then t - 16384 else t) = t := by split <;> omega
    rw [hm]
    simp only [Int.ofNat_eq_natCast, Nat.mul_zero]
    rw [if_neg (by decide)]
    omega

/-- each of the four columns of a DD list (tag, ref, offset, length) has at least `n` cells -/
structure Cols (T R O L : List Int) (n : Nat) : Prop where
  t : n ≤ T.length
  r : n ≤ R.length
  o : n ≤ O.length
  l : n ≤ L.length

theorem Cols.mono {T R O L : List Int} {n k : Nat} (h : Cols T R O L n) (hk : k ≤ n) : Cols T R O L k :=
  ⟨Nat.le_trans hk h.t, Nat.le_trans hk h.r, Nat.le_trans hk h.o, Nat.le_trans hk h.l⟩

theorem Cols.set {T R O L : List Int} {n : Nat} (h : Cols T R O L n) (j : Nat) (a b c d : Int) :
    Cols (T.set j a) (R.set j b) (O.set j c) (L.set j d) n :=
  ⟨(List.length_set ..).symm ▸ h.t, (List.length_set ..).symm ▸ h.r, (List.length_set ..).symm ▸ h.o, (List.length_set ..).symm ▸ h.l⟩

abbrev ESt := HTPsync_ddlist.St

def eL : Cursor ESt where
  buf := (·.tbuf)
  pos := (·.p)
  ub := (·.ub)
  setBuf := HTPsync_ddlist.St.set_tbuf
  setPos := HTPsync_ddlist.St.set_p
  chk := fun s c _ => HTPsync_ddlist.chk s c

theorem eP : eL.Plain fun s u => { s with ub := u } := {}
theorem eLaw : eL.LawfulW := eP.lawfulW

/-- the body of the loop is `DDENCODE(p, list->tag, list->ref, list->offset, list->length); i++, list++`; the operands are the cells
    `list->f` (`cellOf`), an `int32` one converted to `uint32`, each behind its index check (`idxchk`) -/
theorem enc_body (fuel : Nat) (s : ESt) : HTPsync_ddlist.loop0.body fuel s =
    (have s : ESt := wr16 eL (idxchk eL (·.list) (·.block_ddlist_tag)) (cellOf (·.list) (·.block_ddlist_tag)) s
     have s : ESt := wr16 eL (idxchk eL (·.list) (·.block_ddlist_ref)) (cellOf (·.list) (·.block_ddlist_ref)) s
     have s : ESt := wr32 eL (idxchk eL (·.list) (·.block_ddlist_offset)) (cellOf (·.list) (·.block_ddlist_offset) · % 4294967296) s
     have s : ESt := wr32 eL (idxchk eL (·.list) (·.block_ddlist_length)) (cellOf (·.list) (·.block_ddlist_length) · % 4294967296) s
     have s : ESt := HTPsync_ddlist.St.set_i s ((s.i + 1))
     HTPsync_ddlist.St.set_list s ((s.list + 1))) := by kernel_rfl

/-- the 12 bytes `DDENCODE` stores for the C values `tag`, `ref` (uint16) and `offset`, `length` (int32) -/
def ddBytesC (t r o l : Int) : List Int :=
  [t / 256 % 256, t % 256, r / 256 % 256, r % 256,
   o % 4294967296 / 2 ^ Int.toNat 24 % 256, o % 4294967296 / 2 ^ Int.toNat 16 % 256, o % 4294967296 / 2 ^ Int.toNat 8 % 256, o % 4294967296 % 256,
   l % 4294967296 / 2 ^ Int.toNat 24 % 256, l % 4294967296 / 2 ^ Int.toNat 16 % 256, l % 4294967296 / 2 ^ Int.toNat 8 % 256, l % 4294967296 % 256]

theorem ddBytesC_eq (t r o l : Int) : ddBytesC t r o l = be16I t ++ be16I r ++ be32I (o % 4294967296) ++ be32I (l % 4294967296) := by
  simp only [ddBytesC, be16I, be32I, pow8, pow16, pow24]
  rfl

theorem wr_eta (s : ESt) (vs : List Int) :
    wr eL s vs = { s with tbuf := (wr eL s vs).tbuf, p := (wr eL s vs).p, ub := (wr eL s vs).ub } := by
  have h := frames_wr (L := eL) (x := fun t => ({ t with tbuf := [], p := 0, ub := false } : ESt)) {} s vs
  have := congrArg (fun t : ESt => ({ t with tbuf := (wr eL s vs).tbuf, p := (wr eL s vs).p, ub := (wr eL s vs).ub } : ESt)) h
  exact this

/-- one pass behind the stores `acc`, whatever room `tbuf` has: the twelve bytes of descriptor `j` join `acc` under the one check of `wr` -/
theorem enc_iter (fuel : Nat) (s : ESt) (acc : List Int) (j : Nat) (hj : s.list = j)
    (hc : Cols s.block_ddlist_tag s.block_ddlist_ref s.block_ddlist_offset s.block_ddlist_length (j + 1))
    (ht : 0 ≤ s.block_ddlist_tag.getD j 0) (hrf : 0 ≤ s.block_ddlist_ref.getD j 0) :
    HTPsync_ddlist.loop0.body fuel (wr eL s acc) =
      wr eL (HTPsync_ddlist.St.set_list (HTPsync_ddlist.St.set_i s (s.i + 1)) (s.list + 1))
        (acc ++ ddBytesC (s.block_ddlist_tag.getD j 0) (s.block_ddlist_ref.getD j 0) (s.block_ddlist_offset.getD j 0)
          (s.block_ddlist_length.getD j 0)) := by
  have hn : Int.toNat s.list = j := by rw [hj]; rfl
  rw [enc_body]
  simp only []
  have hi : eL.Frames (·.list) := {}
  rw [wr16_at eLaw hi {} {} s acc j hj hc.t (by rw [cellOf, hn]; exact ht), wr16_at eLaw hi {} {} s _ j hj hc.r (by rw [cellOf, hn]; exact hrf),
    wr32_at eLaw hi {} {} s _ j hj hc.o (Int.emod_nonneg _ (by decide)), wr32_at eLaw hi {} {} s _ j hj hc.l (Int.emod_nonneg _ (by decide))]
  simp only [cellOf, hn, ddBytesC_eq, List.append_assoc]
  exact comm_wr (L := eL) (g := fun t => HTPsync_ddlist.St.set_list (HTPsync_ddlist.St.set_i t (t.i + 1)) (t.list + 1)) {} s _

def eframe (s : ESt) : ESt := { s with p := 0, tbuf := [] }

/-- the name the statements of this unit use for `H4.C2L.storeAt` (`splice_eq`) -/
def splice (T : List Int) (j : Nat) (vals : List Int) : List Int := T.take j ++ vals ++ T.drop (j + vals.length)

theorem splice_eq (T : List Int) (j : Nat) (vals : List Int) : splice T j vals = storeAt T j vals := rfl

theorem wr_room (F : ESt) (P : Nat) (hP : F.p = P) (out : List Int) (hr : P + out.length ≤ F.tbuf.length) :
    wr eL F out = { F with tbuf := storeAt F.tbuf P out, p := ((P + out.length : Nat) : Int) } := by
  obtain ⟨hu, hb, hp⟩ := wr_end eP F out P hP hr
  rw [wr_eta, show (wr eL F out).tbuf = _ from hb, show (wr eL F out).p = _ from hp, show (wr eL F out).ub = F.ub from hu]
  rfl

/-- since the state `F`, `out` has been stored at `F.p = P` onwards, nothing else changed -/
structure EAt (F : ESt) (P : Nat) (s : ESt) (out : List Int) : Prop where
  p : s.p = ((P + out.length : Nat) : Int)
  buf : s.tbuf = F.tbuf.take P ++ out ++ F.tbuf.drop (P + out.length)
  fr : eframe s = eframe F

theorem EAt.bounds {F P s out} (h : EAt F P s out) (hr : P + out.length < F.tbuf.length) : 0 ≤ s.p ∧ s.p < s.tbuf.length := by
  rw [h.buf, h.p]
  simp only [List.length_append, List.length_take, List.length_drop]
  omega

theorem EAt.wr (F : ESt) (P : Nat) (hP : F.p = P) (out : List Int) (hr : P + out.length ≤ F.tbuf.length) : EAt F P (wr eL F out) out := by
  rw [wr_room F P hP out hr]; exact ⟨rfl, rfl, rfl⟩

def encFrom (T R O L : List Int) : Nat → Nat → List Int
  | _, 0 => []
  | j, m + 1 => ddBytesC (T.getD j 0) (R.getD j 0) (O.getD j 0) (L.getD j 0) ++ encFrom T R O L (j + 1) m

theorem ddBytesC_length (t r o l : Int) : (ddBytesC t r o l).length = 12 := rfl

theorem encFrom_length (T R O L : List Int) : ∀ (m j : Nat), (encFrom T R O L j m).length = 12 * m
  | 0, _ => rfl
  | m + 1, j => by simp only [encFrom, List.length_append, ddBytesC_length, encFrom_length T R O L m (j + 1)]; omega

theorem encFrom_snoc (T R O L : List Int) : ∀ (m j : Nat),
    encFrom T R O L j (m + 1) = encFrom T R O L j m ++ ddBytesC (T.getD (j + m) 0) (R.getD (j + m) 0) (O.getD (j + m) 0) (L.getD (j + m) 0)
  | 0, j => by simp only [encFrom, List.append_nil, List.nil_append, Nat.add_zero]
  | m + 1, j => by
    rw [encFrom, encFrom_snoc T R O L m (j + 1), encFrom, List.append_assoc, Nat.add_assoc, Nat.add_comm 1 m]

theorem isLoop : IsLoop HTPsync_ddlist.loop0 (fun s => s.i < s.ndds ∧ ¬ s.gto) HTPsync_ddlist.loop0.body id :=
  .of_eqs (stuck := fun s => { s with oof := true }) (fun _ => rfl) (fun _ _ => rfl)

abbrev eat (s : ESt) (k : Nat) : ESt := HTPsync_ddlist.St.set_list (HTPsync_ddlist.St.set_i s k) k

theorem enc_loop (s : ESt) (n fuel : Nat) (hf : n ≤ fuel) (hn : s.ndds = n) (hg : s.gto = false)
    (hc : Cols s.block_ddlist_tag s.block_ddlist_ref s.block_ddlist_offset s.block_ddlist_length n)
    (pT : ∀ k, k < n → 0 ≤ s.block_ddlist_tag.getD k 0) (pR : ∀ k, k < n → 0 ≤ s.block_ddlist_ref.getD k 0) :
    HTPsync_ddlist.loop0 fuel (wr eL (eat s 0) []) =
      wr eL (eat s n) (encFrom s.block_ddlist_tag s.block_ddlist_ref s.block_ddlist_offset s.block_ddlist_length 0 n) := by
  refine isLoop.run n (fun k => wr eL (eat s k) (encFrom s.block_ddlist_tag s.block_ddlist_ref s.block_ddlist_offset s.block_ddlist_length 0 k))
    (fun k hk => ?_) ?_ (fun k f hk _ => ?_) hf
  · rw [wr_eta]
    exact ⟨by show (k : Int) < s.ndds; omega, by show ¬ s.gto = true; rw [hg]; exact Bool.false_ne_true⟩
  · rw [wr_eta]
    exact fun h => absurd h.1 (by show ¬ (n : Int) < s.ndds; omega)
  · have hs := encFrom_snoc s.block_ddlist_tag s.block_ddlist_ref s.block_ddlist_offset s.block_ddlist_length k 0
    rw [Nat.zero_add] at hs
    have e : HTPsync_ddlist.St.set_list (HTPsync_ddlist.St.set_i (eat s k) ((eat s k).i + 1)) ((eat s k).list + 1) = eat s (k + 1) := by
      show HTPsync_ddlist.St.set_list (HTPsync_ddlist.St.set_i (eat s k) ((k : Int) + 1)) ((k : Int) + 1) = _
      rw [← Int.natCast_succ]
    rw [enc_iter f (eat s k) _ k rfl (hc.mono hk) (pT k hk) (pR k hk), e, hs]

/-- the whole fragment: the loop, then `HP_write(file_rec, tbuf, ndds * DD_SZ)` -/
theorem HTPsync_ddlist_run (T R O L tbuf io_out : List Int) (n fuel : Nat) (ret_value : Int) (hf : n ≤ fuel)
    (lT : n ≤ T.length) (lR : n ≤ R.length) (lO : n ≤ O.length) (lL : n ≤ L.length)
    (pT : ∀ k, k < n → 0 ≤ T.getD k 0) (pR : ∀ k, k < n → 0 ≤ R.getD k 0) (hb : 12 * n ≤ tbuf.length) :
    HTPsync_ddlist fuel T R O L tbuf n ret_value io_out =
      { block_ddlist_tag := T, block_ddlist_ref := R, block_ddlist_offset := O, block_ddlist_length := L, ndds := n, ret_value := ret_value,
        tbuf := encFrom T R O L 0 n ++ tbuf.drop (12 * n), io_out := io_out ++ encFrom T R O L 0 n, p := ((12 * n : Nat) : Int), i := n, list := n } := by
  have hlen := encFrom_length T R O L n 0
  let s0 : ESt :=
    { block_ddlist_tag := T, block_ddlist_ref := R, block_ddlist_offset := O, block_ddlist_length := L, tbuf := tbuf, ndds := n,
      ret_value := ret_value, io_out := io_out, list := 0, p := 0, i := 0 }
  have L0 : HTPsync_ddlist.loop0 fuel (wr eL s0 []) = _ := enc_loop s0 n fuel hf rfl rfl ⟨lT, lR, lO, lL⟩ pT pR
  -- there is room for the `12 * n` bytes: the one check of `wr` passes and the buffer is spliced
  rw [show wr eL s0 [] = s0 from eLaw.chk_true s0 _ (by show (0 : Int) ≤ 0 ∧ (0 : Int) + (0 : Nat) ≤ (tbuf.length : Int); omega),
    wr_room (eat s0 n) 0 rfl _ (by show 0 + _ ≤ tbuf.length; rw [hlen]; omega), hlen] at L0
  have c1 : (0 : Int) ≤ (n : Int) * 12 := by omega
  have c3 : ¬ ((n : Int) * 12 = -1) := by omega
  have c2 : (0 : Int) ≤ 0 ∧ 0 + (n : Int) * 12 ≤ ((encFrom T R O L 0 n ++ List.drop (12 * n) tbuf).length : Int) := by
    simp only [List.length_append, List.length_drop, hlen]; omega
  have ht : Int.toNat ((n : Int) * 12) = 12 * n := by omega
  simp only [HTPsync_ddlist]
  rw [L0]
  simp only [s0, storeAt_zero, HTPsync_ddlist.chk, c1, c2, decide_true, Bool.not_true, Bool.or_false, c3, decide_false, Bool.false_eq_true, if_false,
    Int.toNat_zero, List.drop_zero, ht, hlen]
  rw [List.take_left' hlen]
  simp

/-- the C arrays of a model block (`ddlist[k].tag` …), possibly followed by more cells -/
def cTag (ds : List DD.DD) : List Int := ds.map fun d => (d.tag : Int)
def cRef (ds : List DD.DD) : List Int := ds.map fun d => (d.ref : Int)
def cOff (ds : List DD.DD) : List Int := ds.map fun d => d.off
def cLen (ds : List DD.DD) : List Int := ds.map fun d => d.len

theorem ddBytesC_model (d : DD.DD) : ddBytesC d.tag d.ref d.off d.len = ints (DD.encodeDD d) := by
  have ho : d.off % 4294967296 = ((DD.toU32 d.off : Nat) : Int) := by unfold DD.toU32; omega
  have hl : d.len % 4294967296 = ((DD.toU32 d.len : Nat) : Int) := by unfold DD.toU32; omega
  simp only [ddBytesC, DD.encodeDD, DD.be16, DD.be32, ints, List.map_cons, List.map_nil, List.cons_append, List.nil_append,
    ho, hl, Int.ofNat_eq_natCast, Int.natCast_ediv, Int.natCast_emod, Int.cast_ofNat_Int, Int.reduceToNat, Int.reducePow]

theorem encFrom_model (T R O L : List Int) : ∀ (ds : List DD.DD) (j : Nat),
    (∀ k (h : k < ds.length), T.getD (j + k) 0 = ds[k].tag ∧ R.getD (j + k) 0 = ds[k].ref ∧ O.getD (j + k) 0 = ds[k].off ∧ L.getD (j + k) 0 = ds[k].len) →
    encFrom T R O L j ds.length = ints (ds.flatMap DD.encodeDD)
  | [], _, _ => rfl
  | d :: ds, j, h => by
    obtain ⟨a, b, c, e⟩ := h 0 (by simp)
    simp only [Nat.add_zero, List.getElem_cons_zero] at a b c e
    have ih := encFrom_model T R O L ds (j + 1) (fun k hk => by
      have := h (k + 1) (by simp only [List.length_cons]; omega)
      simpa only [List.getElem_cons_succ, Nat.add_assoc, Nat.add_comm 1 k] using this)
    simp only [List.length_cons, encFrom, List.flatMap_cons, a, b, c, e, ih, ddBytesC_model]
    simp only [ints, List.map_append]

abbrev DSt := HTPstart_ddlist.St

abbrev dcols (s : DSt) (n : Nat) : Prop := Cols s.ddcurr_ddlist_tag s.ddcurr_ddlist_ref s.ddcurr_ddlist_offset s.ddcurr_ddlist_length n

def dL : Cursor DSt where
  buf := (·.tbuf)
  pos := (·.p)
  ub := (·.ub)
  setBuf := fun s b => { s with tbuf := b }
  setPos := HTPstart_ddlist.St.set_p
  chk := fun s c _ => HTPstart_ddlist.chk s c

theorem dLaw : dL.Lawful := (Cursor.Plain.lawfulW (setUb := fun s u => { s with ub := u }) {}).toLawful

/-- the member `curr_dd_ptr->f` of the descriptor being filled, `reg` the array of that member -/
abbrev dcell (reg : DSt → List Int) (setreg : DSt → List Int → DSt) : Tgt DSt := Tgt.cell (·.curr_dd_ptr) reg setreg
/-- the check in front of `curr_dd_ptr->f` -/
abbrev dpre (reg : DSt → List Int) : DSt → DSt := idxchk dL (·.curr_dd_ptr) reg

/-- what follows `DDDECODE` in the loop: `maxref`, `end_off`, the registration of a live descriptor, `i++, curr_dd_ptr++` -/
def dtail (s : DSt) : DSt :=
  have s : DSt := HTPstart_ddlist.chk s (0 ≤ s.curr_dd_ptr ∧ s.curr_dd_ptr < s.ddcurr_ddlist_ref.length)
  have s : DSt := if (s.file_rec_maxref < (s.ddcurr_ddlist_ref.getD (Int.toNat (s.curr_dd_ptr)) 0)) then
      have s : DSt := HTPstart_ddlist.chk s (0 ≤ s.curr_dd_ptr ∧ s.curr_dd_ptr < s.ddcurr_ddlist_ref.length)
      have s : DSt := HTPstart_ddlist.St.set_file_rec_maxref s ((s.ddcurr_ddlist_ref.getD (Int.toNat (s.curr_dd_ptr)) 0))
      s
    else
      s
  have s : DSt := HTPstart_ddlist.chk s (0 ≤ s.curr_dd_ptr ∧ s.curr_dd_ptr < s.ddcurr_ddlist_offset.length)
  have s : DSt := HTPstart_ddlist.chk s (0 ≤ s.curr_dd_ptr ∧ s.curr_dd_ptr < s.ddcurr_ddlist_length.length)
  have s : DSt := if (((s.ddcurr_ddlist_offset.getD (Int.toNat (s.curr_dd_ptr)) 0) + (s.ddcurr_ddlist_length.getD (Int.toNat (s.curr_dd_ptr)) 0)) > s.end_off) then
      have s : DSt := HTPstart_ddlist.chk s (0 ≤ s.curr_dd_ptr ∧ s.curr_dd_ptr < s.ddcurr_ddlist_offset.length)
      have s : DSt := HTPstart_ddlist.chk s (0 ≤ s.curr_dd_ptr ∧ s.curr_dd_ptr < s.ddcurr_ddlist_length.length)
      have s : DSt := HTPstart_ddlist.St.set_end_off s (((s.ddcurr_ddlist_offset.getD (Int.toNat (s.curr_dd_ptr)) 0) + (s.ddcurr_ddlist_length.getD (Int.toNat (s.curr_dd_ptr)) 0)))
      s
    else
      s
  have s : DSt := HTPstart_ddlist.chk s (0 ≤ s.curr_dd_ptr ∧ s.curr_dd_ptr < s.ddcurr_ddlist_tag.length)
  have s : DSt := if ((s.ddcurr_ddlist_tag.getD (Int.toNat (s.curr_dd_ptr)) 0) ≠ 1) then
      have s : DSt := if ((s.HTIregister_tag_ref_ret.getD (Int.toNat (s.curr_dd_ptr)) 0) = (- 1)) then
          have s : DSt := HTPstart_ddlist.St.set_ret_value s ((- 1))
          have s : DSt := HTPstart_ddlist.St.set_gto s (true)
          s
        else
          s
      s
    else
      s
  have s : DSt := if s.gto then s else
    have s : DSt := HTPstart_ddlist.St.set_i s ((s.i + 1))
    have s : DSt := HTPstart_ddlist.St.set_curr_dd_ptr s ((s.curr_dd_ptr + 1))
    s
  s

/-- the body of the loop is `DDDECODE(p, curr_dd_ptr->tag, …->ref, …->offset, …->length)` followed by `dtail` -/
theorem dec_body (fuel : Nat) (s : DSt) : HTPstart_ddlist.loop0.body fuel s =
    (have s : DSt := dec16uP dL (dcell (·.ddcurr_ddlist_tag) HTPstart_ddlist.St.set_ddcurr_ddlist_tag) (dpre (·.ddcurr_ddlist_tag)) s
     have s : DSt := dec16uP dL (dcell (·.ddcurr_ddlist_ref) HTPstart_ddlist.St.set_ddcurr_ddlist_ref) (dpre (·.ddcurr_ddlist_ref)) s
     have s : DSt := dec32sP dL (dcell (·.ddcurr_ddlist_offset) HTPstart_ddlist.St.set_ddcurr_ddlist_offset) (dpre (·.ddcurr_ddlist_offset)) s
     have s : DSt := dec32sP dL (dcell (·.ddcurr_ddlist_length) HTPstart_ddlist.St.set_ddcurr_ddlist_length) (dpre (·.ddcurr_ddlist_length)) s
     dtail s) := by kernel_rfl

theorem dcell_rd {reg : DSt → List Int} {setreg : DSt → List Int → DSt} (hR : dL.Reg (·.curr_dd_ptr) reg setreg) (s : DSt) (j P w : Nat)
    (v : Int) (h : s.curr_dd_ptr = j ∧ s.p = P ∧ P + w ≤ s.tbuf.length) :
    rd dL (dcell reg setreg) s w v = setreg (dL.setPos s ((P + w : Nat) : Int)) ((reg s).set j v) := by
  rw [rd_eq dLaw (hR.on dLaw j) s w v P h.2.1 h.2.2]
  show dL.setPos (setreg s ((reg s).set (Int.toNat s.curr_dd_ptr) v)) _ = _
  rw [hR.setPos_set, h.1, Int.toNat_natCast]

/-- `UINT16DECODE(p, curr_dd_ptr->f)` -/
theorem d16_step {reg : DSt → List Int} {setreg : DSt → List Int → DSt} (hR : dL.Reg (·.curr_dd_ptr) reg setreg) (s : DSt) (j P : Nat) (v : Int)
    (h : s.curr_dd_ptr = j ∧ s.p = P ∧ P + 2 ≤ s.tbuf.length) (hjl : j < (reg s).length) (hv : val16 s.tbuf P = v) :
    dec16uP dL (dcell reg setreg) (dpre reg) s = setreg (dL.setPos s ((P + 2 : Nat) : Int)) ((reg s).set j v) := by
  have e : val16 (dL.buf s) (dL.pos s) = v := by show val16 s.tbuf s.p = v; rw [h.2.1]; exact hv
  rw [dec16uP_eq dLaw (hR.on dLaw j) s ⟨h.1, hjl⟩, dcell_rd hR s j P 2 _ h, e]

/-- `INT32DECODE(p, curr_dd_ptr->f)` -/
theorem d32_step {reg : DSt → List Int} {setreg : DSt → List Int → DSt} (hR : dL.Reg (·.curr_dd_ptr) reg setreg) (s : DSt) (j P : Nat) (v : Int)
    (h : s.curr_dd_ptr = j ∧ s.p = P ∧ P + 4 ≤ s.tbuf.length) (hjl : j < (reg s).length) (hv : wrapS32 (val32 s.tbuf P) = v) :
    dec32sP dL (dcell reg setreg) (dpre reg) s = setreg (dL.setPos s ((P + 4 : Nat) : Int)) ((reg s).set j v) := by
  have e : wrapS32 (val32 (dL.buf s) (dL.pos s)) = v := by show wrapS32 (val32 s.tbuf s.p) = v; rw [h.2.1]; exact hv
  rw [dec32sP_eq dLaw (hR.on dLaw j) s ⟨h.1, hjl⟩, dcell_rd hR s j P 4 _ h, e]

theorem cell_byte {b : Nat} (h : b < 256) : (b : Int) % 256 = b := by omega

theorem wrap_ofU32 (U : Nat) (hU : U < 4294967296) : wrapS32 (U : Int) = DD.ofU32 U := by
  unfold wrapS32 DD.ofU32; split <;> omega

theorem val16_nat (buf : List Int) (P b0 b1 : Nat) (h0 : buf.getD P 0 = (b0 : Int) ∧ b0 < 256) (h1 : buf.getD (P + 1) 0 = (b1 : Int) ∧ b1 < 256) :
    val16 buf (P : Int) = ((b0 * 256 + b1 : Nat) : Int) := by
  simp only [val16, cellAt, ← Int.natCast_add, Int.toNat_natCast, Nat.add_zero, h0.1, h1.1, cell_byte h0.2, cell_byte h1.2]
  rfl

theorem val32_ofU32 (buf : List Int) (P : Nat) (bs : Nat → Nat) (h : ∀ i, i < 4 → buf.getD (P + i) 0 = (bs i : Int) ∧ bs i < 256) :
    wrapS32 (val32 buf (P : Int)) = DD.ofU32 (bs 0 * 16777216 + bs 1 * 65536 + bs 2 * 256 + bs 3) := by
  obtain ⟨c0, d0⟩ := h 0 (by omega); obtain ⟨c1, d1⟩ := h 1 (by omega)
  obtain ⟨c2, d2⟩ := h 2 (by omega); obtain ⟨c3, d3⟩ := h 3 (by omega)
  rw [← wrap_ofU32 _ (by omega)]
  simp only [val32, cellAt, ← Int.natCast_add, Int.toNat_natCast, c0, c1, c2, c3, cell_byte d0, cell_byte d1, cell_byte d2, cell_byte d3]
  rfl

/-- what `dtail` does to the scalars when `DDDECODE` delivered `tg rf of ln` for descriptor `j` -/
def dupd (s : DSt) (j : Nat) (tg rf of ln : Int) : DSt :=
  { s with file_rec_maxref := if s.file_rec_maxref < rf then rf else s.file_rec_maxref,
           end_off := if of + ln > s.end_off then of + ln else s.end_off,
           ret_value := if tg ≠ 1 ∧ s.HTIregister_tag_ref_ret.getD j 0 = -1 then -1 else s.ret_value,
           gto := decide (tg ≠ 1 ∧ s.HTIregister_tag_ref_ret.getD j 0 = -1),
           i := if tg ≠ 1 ∧ s.HTIregister_tag_ref_ret.getD j 0 = -1 then s.i else s.i + 1,
           curr_dd_ptr := if tg ≠ 1 ∧ s.HTIregister_tag_ref_ret.getD j 0 = -1 then s.curr_dd_ptr else s.curr_dd_ptr + 1 }

/-- the state after one pass that started at descriptor `j`, byte `P`, when `DDDECODE` delivered `tg rf of ln` -/
def dnext (s : DSt) (j P : Nat) (tg rf of ln : Int) : DSt :=
  { dupd s j tg rf of ln with
    ddcurr_ddlist_tag := s.ddcurr_ddlist_tag.set j tg, ddcurr_ddlist_ref := s.ddcurr_ddlist_ref.set j rf,
    ddcurr_ddlist_offset := s.ddcurr_ddlist_offset.set j of, ddcurr_ddlist_length := s.ddcurr_ddlist_length.set j ln,
    p := ((P + 12 : Nat) : Int) }

theorem dtail_eq (S : DSt) (j : Nat) (hj : S.curr_dd_ptr = j) (hg : S.gto = false) (hc : dcols S (j + 1)) :
    dtail S = dupd S j (S.ddcurr_ddlist_tag.getD j 0) (S.ddcurr_ddlist_ref.getD j 0) (S.ddcurr_ddlist_offset.getD j 0)
      (S.ddcurr_ddlist_length.getD j 0) := by
  obtain ⟨h1, h2, h3, h4⟩ := hc
  have c1 : (0 : Int) ≤ (j : Int) ∧ (j : Int) < S.ddcurr_ddlist_tag.length := by omega
  have c2 : (0 : Int) ≤ (j : Int) ∧ (j : Int) < S.ddcurr_ddlist_ref.length := by omega
  have c3 : (0 : Int) ≤ (j : Int) ∧ (j : Int) < S.ddcurr_ddlist_offset.length := by omega
  have c4 : (0 : Int) ≤ (j : Int) ∧ (j : Int) < S.ddcurr_ddlist_length.length := by omega
  by_cases q1 : S.file_rec_maxref < S.ddcurr_ddlist_ref.getD j 0 <;>
  by_cases q2 : S.ddcurr_ddlist_offset.getD j 0 + S.ddcurr_ddlist_length.getD j 0 > S.end_off <;>
  by_cases q3 : S.ddcurr_ddlist_tag.getD j 0 = 1 <;>
  by_cases q4 : S.HTIregister_tag_ref_ret.getD j 0 = -1 <;>
  simp only [dtail, dupd, HTPstart_ddlist.chk, hj, hg, Int.toNat_natCast, c1, c2, c3, c4, q1, q2, q3, q4,
    and_self, decide_true, decide_false, Bool.not_true, Bool.or_false, ↓reduceIte, ne_eq, not_true_eq_false, not_false_eq_true, 
    and_false, and_true, Bool.false_eq_true]

theorem dec_iter (fuel : Nat) (s : DSt) (j P : Nat) (bs : Nat → Nat) (hj : s.curr_dd_ptr = j) (hP : s.p = P) (hg : s.gto = false)
    (hc : dcols s (j + 1)) (hb : P + 12 ≤ s.tbuf.length)
    (hbs : ∀ k, k < 12 → s.tbuf.getD (P + k) 0 = (bs k : Int) ∧ bs k < 256) :
    HTPstart_ddlist.loop0.body fuel s =
      dnext s j P ((bs 0 * 256 + bs 1 : Nat) : Int) ((bs 2 * 256 + bs 3 : Nat) : Int)
        (DD.ofU32 (bs 4 * 16777216 + bs 5 * 65536 + bs 6 * 256 + bs 7)) (DD.ofU32 (bs 8 * 16777216 + bs 9 * 65536 + bs 10 * 256 + bs 11)) := by
  have v1 := val16_nat s.tbuf P (bs 0) (bs 1) (hbs 0 (by omega)) (hbs 1 (by omega))
  have v2 := val16_nat s.tbuf (P + 2) (bs 2) (bs 3) (hbs 2 (by omega)) (hbs 3 (by omega))
  have v3 := val32_ofU32 s.tbuf (P + 2 + 2) (fun i => bs (4 + i)) fun i hi => by
    have := hbs (4 + i) (by omega); rwa [show P + (4 + i) = P + 2 + 2 + i by omega] at this
  have v4 := val32_ofU32 s.tbuf (P + 2 + 2 + 4) (fun i => bs (8 + i)) fun i hi => by
    have := hbs (8 + i) (by omega); rwa [show P + (8 + i) = P + 2 + 2 + 4 + i by omega] at this
  rw [dec_body]
  simp only []
  -- each macro is one `rd`: its index check passes on the state the macros before have left, and `tbuf` has the twelve bytes
  rw [d16_step ?R1 s j P _ ?a1 hc.t v1]
  case R1 => exact {}
  case a1 => exact ⟨hj, hP, by omega⟩
  -- the hypotheses about the state reached are side goals: given as terms they would fix the state to `s` before the rewrite finds it
  rw [d16_step ?R2 _ j (P + 2) _ ?a2 ?l2 ?w2]
  case R2 => exact {}
  case a2 => exact ⟨hj, rfl, by show P + 2 + 2 ≤ s.tbuf.length; omega⟩
  case l2 => exact hc.r
  case w2 => exact v2
  rw [d32_step (reg := (·.ddcurr_ddlist_offset)) ?R3 _ j (P + 2 + 2) _ ?a3 ?l3 ?w3]
  case R3 => exact {}
  case a3 => exact ⟨hj, rfl, by show P + 2 + 2 + 4 ≤ s.tbuf.length; omega⟩
  case l3 => exact hc.o
  case w3 => exact v3
  rw [d32_step ?R4 _ j (P + 2 + 2 + 4) _ ?a4 ?l4 ?w4]
  case R4 => exact {}
  case a4 => exact ⟨hj, rfl, by show P + 2 + 2 + 4 + 4 ≤ s.tbuf.length; omega⟩
  case l4 => exact hc.l
  case w4 => exact v4
  rw [dtail_eq _ j ?c ?g ?b]
  case c => exact hj
  case g => exact hg
  case b => exact hc.set ..
  simp only [dL, getD_set_self _ _ _ _ hc.t, getD_set_self _ _ _ _ hc.r, getD_set_self _ _ _ _ hc.o, getD_set_self _ _ _ _ hc.l]
  rfl

/-- descriptor `j` of the byte string `bs` as `DDDECODE` delivers it -/
def cdd (bs : Nat → Nat) (j : Nat) : DD.DD :=
  ⟨bs (12 * j) * 256 + bs (12 * j + 1), bs (12 * j + 2) * 256 + bs (12 * j + 3),
   DD.ofU32 (bs (12 * j + 4) * 16777216 + bs (12 * j + 5) * 65536 + bs (12 * j + 6) * 256 + bs (12 * j + 7)),
   DD.ofU32 (bs (12 * j + 8) * 16777216 + bs (12 * j + 9) * 65536 + bs (12 * j + 10) * 256 + bs (12 * j + 11))⟩

/-- number of descriptors processed successfully (registered, or `DFTAG_NULL`) before the first failing registration -/
def ngoodL : List DD.DD → List Int → Nat
  | [], _ => 0
  | d :: ds, ans => if (d.tag : Int) ≠ 1 ∧ ans.headD 0 = -1 then 0 else 1 + ngoodL ds ans.tail
def failedL : List DD.DD → List Int → Bool
  | [], _ => false
  | d :: ds, ans => if (d.tag : Int) ≠ 1 ∧ ans.headD 0 = -1 then true else failedL ds ans.tail
/-- number of descriptors stored into the arrays: the good ones and the one whose registration failed -/
def nstoredL (ds : List DD.DD) (ans : List Int) : Nat := ngoodL ds ans + (if failedL ds ans then 1 else 0)

def maxrefC (m : Int) (ds : List DD.DD) : Int := ds.foldl (fun a d => if a < (d.ref : Int) then (d.ref : Int) else a) m
def endoffC (e : Int) (ds : List DD.DD) : Int := ds.foldl (fun a d => if d.off + d.len > a then d.off + d.len else a) e

/-- the state the loop leaves, in terms of the descriptors `D` it had to process and the answers `A` of `HTIregister_tag_ref` for them -/
def decOut (s : DSt) (j : Nat) (D : List DD.DD) (A : List Int) : DSt :=
  { s with ddcurr_ddlist_tag := splice s.ddcurr_ddlist_tag j ((D.take (nstoredL D A)).map fun d => (d.tag : Int)),
           ddcurr_ddlist_ref := splice s.ddcurr_ddlist_ref j ((D.take (nstoredL D A)).map fun d => (d.ref : Int)),
           ddcurr_ddlist_offset := splice s.ddcurr_ddlist_offset j ((D.take (nstoredL D A)).map fun d => d.off),
           ddcurr_ddlist_length := splice s.ddcurr_ddlist_length j ((D.take (nstoredL D A)).map fun d => d.len),
           p := ((12 * (j + nstoredL D A) : Nat) : Int),
           file_rec_maxref := maxrefC s.file_rec_maxref (D.take (nstoredL D A)),
           end_off := endoffC s.end_off (D.take (nstoredL D A)),
           ret_value := if failedL D A then -1 else s.ret_value,
           gto := failedL D A,
           i := s.i + (ngoodL D A : Nat),
           curr_dd_ptr := s.curr_dd_ptr + (ngoodL D A : Nat) }

theorem decOut_nil (s : DSt) (j : Nat) (A : List Int) (hg : s.gto = false) (hp : s.p = ((12 * j : Nat) : Int)) : decOut s j [] A = s := by
  cases s; cases hg; cases hp
  simp only [decOut, nstoredL, ngoodL, failedL, List.take_nil, List.map_nil, splice_eq, storeAt_nil, maxrefC, endoffC, List.foldl_nil, Bool.false_eq_true,
    if_false, Nat.add_zero, Int.natCast_zero, Int.add_zero]
  rfl

theorem decOut_cons_fail (s : DSt) (j : Nat) (d : DD.DD) (D : List DD.DD) (A : List Int) (hA : A.headD 0 = s.HTIregister_tag_ref_ret.getD j 0)
    (hf : (d.tag : Int) ≠ 1 ∧ s.HTIregister_tag_ref_ret.getD j 0 = -1)
    (hc : dcols s (j + 1)) :
    dnext s j (12 * j) (d.tag : Int) (d.ref : Int) d.off d.len = decOut s j (d :: D) A := by
  have hf' : (d.tag : Int) ≠ 1 ∧ A.headD 0 = -1 := by rw [hA]; exact hf
  have e1 : ngoodL (d :: D) A = 0 := by simp only [ngoodL, hf', ne_eq, not_false_eq_true, and_self, if_true]
  have e2 : failedL (d :: D) A = true := by simp only [failedL, hf', ne_eq, not_false_eq_true, and_self, if_true]
  have e3 : nstoredL (d :: D) A = 1 := by simp only [nstoredL, e1, e2, if_true]
  simp only [decOut, dnext, dupd, e1, e2, e3, hf, ne_eq, not_false_eq_true, and_self, if_true, decide_true, List.take_succ_cons, List.take_zero,
    List.map_cons, List.map_nil, splice_eq, storeAt_one _ _ _ hc.t, storeAt_one _ _ _ hc.r, storeAt_one _ _ _ hc.o, storeAt_one _ _ _ hc.l, maxrefC, endoffC,
    List.foldl_cons, List.foldl_nil]
  congr 1 <;> omega

theorem decOut_cons_ok (s : DSt) (j : Nat) (d : DD.DD) (D : List DD.DD) (A : List Int) (hA : A.headD 0 = s.HTIregister_tag_ref_ret.getD j 0)
    (hf : ¬ ((d.tag : Int) ≠ 1 ∧ s.HTIregister_tag_ref_ret.getD j 0 = -1))
    (hc : dcols s (j + 1)) :
    decOut (dnext s j (12 * j) (d.tag : Int) (d.ref : Int) d.off d.len) (j + 1) D A.tail = decOut s j (d :: D) A := by
  have hf' : ¬ ((d.tag : Int) ≠ 1 ∧ A.headD 0 = -1) := by rw [hA]; exact hf
  have e1 : ngoodL (d :: D) A = ngoodL D A.tail + 1 := by simp only [ngoodL, hf', if_false]; omega
  have e2 : failedL (d :: D) A = failedL D A.tail := by simp only [failedL, hf', if_false]
  have e3 : nstoredL (d :: D) A = nstoredL D A.tail + 1 := by simp only [nstoredL, e1, e2]; omega
  simp only [decOut, dnext, dupd, e1, e2, e3, hf, if_false, List.take_succ_cons, List.map_cons, splice_eq, storeAt_set _ _ _ _ hc.t, storeAt_set _ _ _ _ hc.r,
    storeAt_set _ _ _ _ hc.o, storeAt_set _ _ _ _ hc.l, maxrefC, endoffC, List.foldl_cons, decide_false]
  congr 1 <;> omega

theorem isLoopD : IsLoop HTPstart_ddlist.loop0 (fun s => s.i < s.ndds ∧ ¬ s.gto) HTPstart_ddlist.loop0.body id :=
  .of_eqs (stuck := fun s => { s with oof := true }) (fun _ => rfl) (fun _ _ => rfl)

theorem dec_loop (bs : Nat → Nat) (n : Nat) : ∀ (m fuel j : Nat) (s : DSt), m ≤ fuel → j + m = n →
    s.curr_dd_ptr = j → s.i = j → s.ndds = n → s.p = ((12 * j : Nat) : Int) → s.gto = false →
    dcols s n → 12 * n ≤ s.tbuf.length → (∀ k, k < 12 * n → s.tbuf.getD k 0 = (bs k : Int) ∧ bs k < 256) →
    HTPstart_ddlist.loop0 fuel s = decOut s j ((List.range' j m).map (cdd bs)) (s.HTIregister_tag_ref_ret.drop j) := by
  intro m
  induction m with
  | zero =>
    intro fuel j s _ hjm hc hi hn hp hg _ _ _
    rw [isLoopD.exit (fun h => by rw [hi, hn] at h; omega), List.range'_zero, List.map_nil, decOut_nil s j _ hg hp]
    rfl
  | succ m ih =>
    intro fuel j s hf hjm hc hi hn hp hg hl hb hbs
    obtain ⟨fuel, rfl⟩ : ∃ f, fuel = f + 1 := ⟨fuel - 1, by omega⟩
    have hA : (s.HTIregister_tag_ref_ret.drop j).headD 0 = s.HTIregister_tag_ref_ret.getD j 0 := by
      simp [List.headD_eq_head?_getD, List.head?_drop, List.getD_eq_getElem?_getD]
    have hT : (s.HTIregister_tag_ref_ret.drop j).tail = s.HTIregister_tag_ref_ret.drop (j + 1) := by simp [List.tail_drop]
    have it := dec_iter (fuel + 1) s j (12 * j) (fun k => bs (12 * j + k)) hc hp hg (hl.mono (by omega)) (by omega)
      (fun k hk => hbs (12 * j + k) (by omega))
    rw [isLoopD.pass ⟨by rw [hi, hn]; omega, by rw [hg]; exact Bool.false_ne_true⟩, it, List.range'_succ, List.map_cons]
    show HTPstart_ddlist.loop0 fuel (dnext s j (12 * j) ((cdd bs j).tag : Int) ((cdd bs j).ref : Int) (cdd bs j).off (cdd bs j).len) = _
    by_cases hfail : ((cdd bs j).tag : Int) ≠ 1 ∧ s.HTIregister_tag_ref_ret.getD j 0 = -1
    · rw [← decOut_cons_fail s j (cdd bs j) _ _ hA hfail (hl.mono (by omega))]
      exact isLoopD.exit (fun h => h.2 (by simp only [dnext, dupd, hfail, ne_eq, not_false_eq_true, and_self, decide_true])) _
    · rw [← decOut_cons_ok s j (cdd bs j) _ _ hA hfail (hl.mono (by omega)), hT]
      refine ih fuel (j + 1) _ (by omega) (by omega) ((if_neg hfail).trans (by rw [hc]; rfl)) ((if_neg hfail).trans (by rw [hi]; rfl)) hn rfl
        (decide_eq_false hfail) (hl.set ..) hb hbs

/-- the state in which the loop starts when `HP_read` delivered the `12 * n` bytes of the block -/
def decStart (T R O L : List Int) (maxref : Int) (tbuf : List Int) (n : Nat) (ret_value end_off : Int) (io_in : List Int) (pos : Nat)
    (tbl : List Int) : DSt :=
  { ddcurr_ddlist_tag := T, ddcurr_ddlist_ref := R, ddcurr_ddlist_offset := O, ddcurr_ddlist_length := L, file_rec_maxref := maxref,
    tbuf := (io_in.drop pos).take (12 * n) ++ tbuf.drop (12 * n), ndds := n, ret_value := ret_value, end_off := end_off, io_in := io_in,
    io_pos := ((pos + 12 * n : Nat) : Int), HTIregister_tag_ref_ret := tbl, curr_dd_ptr := 0, p := 0, i := 0 }

theorem HTPstart_ddlist_run (T R O L : List Int) (maxref : Int) (tbuf : List Int) (n fuel : Nat) (ret_value end_off : Int) (io_in : List Int)
    (pos : Nat) (tbl : List Int) (bs : Nat → Nat) (hf : n ≤ fuel)
    (l1 : n ≤ T.length) (l2 : n ≤ R.length) (l3 : n ≤ O.length) (l4 : n ≤ L.length) (hb : 12 * n ≤ tbuf.length)
    (hin : pos + 12 * n ≤ io_in.length) (hbs : ∀ k, k < 12 * n → io_in.getD (pos + k) 0 = (bs k : Int) ∧ bs k < 256) :
    HTPstart_ddlist fuel T R O L maxref tbuf n ret_value end_off io_in pos tbl =
      decOut (decStart T R O L maxref tbuf n ret_value end_off io_in pos tbl) 0 ((List.range' 0 n).map (cdd bs)) tbl := by
  have c1 : (0 : Int) ≤ (n : Int) * 12 := by omega
  have c2 : (0 : Int) ≤ 0 ∧ 0 + (n : Int) * 12 ≤ (tbuf.length : Int) := by omega
  have c4 : ¬ ((n : Int) * 12 = -1) := by omega
  have t1 : Int.toNat ((n : Int) * 12) = 12 * n := by omega
  have t2 : Int.toNat (0 + (n : Int) * 12) = 12 * n := by omega
  have t3 : (pos : Int) + (n : Int) * 12 = ((pos + 12 * n : Nat) : Int) := by omega
  have c3' : ((pos + 12 * n : Nat) : Int) ≤ (io_in.length : Int) := by omega
  have hlen : ((io_in.drop pos).take (12 * n)).length = 12 * n := by simp only [List.length_take, List.length_drop]; omega
  have S0 : HTPstart_ddlist fuel T R O L maxref tbuf n ret_value end_off io_in pos tbl =
      HTPstart_ddlist.loop0 fuel (decStart T R O L maxref tbuf n ret_value end_off io_in pos tbl) := by
    simp only [HTPstart_ddlist, HTPstart_ddlist.chk, c1, c2, c4, t1, t2, t3, c3',
      decide_true, decide_false, Bool.not_true, Bool.or_false, ↓reduceIte, Bool.false_eq_true, Int.toNat_zero, List.take_zero,
      List.nil_append, Int.toNat_natCast, decStart]
    simp
  rw [S0]
  have hget : ∀ k, k < 12 * n → (decStart T R O L maxref tbuf n ret_value end_off io_in pos tbl).tbuf.getD k 0 = (bs k : Int) ∧ bs k < 256 := by
    intro k hk
    have := hbs k hk
    refine ⟨?_, this.2⟩
    rw [← this.1]
    simp only [decStart, List.getD_eq_getElem?_getD]
    rw [List.getElem?_append_left (by rw [hlen]; exact hk), List.getElem?_take_of_lt hk, List.getElem?_drop]
  rw [dec_loop bs n n fuel 0 _ hf (by omega) rfl rfl rfl rfl rfl ⟨l1, l2, l3, l4⟩
    (by simp only [decStart, List.length_append, hlen, List.length_drop]; omega) hget]
  rfl

/-- `HP_read` fails (the stream is too short): `HGOTO_ERROR(DFE_READERROR, FAIL)`, nothing else happened -/
theorem HTPstart_ddlist_short (T R O L : List Int) (maxref : Int) (tbuf : List Int) (n fuel : Nat) (ret_value end_off : Int) (io_in : List Int)
    (pos : Nat) (tbl : List Int) (hb : 12 * n ≤ tbuf.length) (hin : io_in.length < pos + 12 * n) :
    HTPstart_ddlist fuel T R O L maxref tbuf n ret_value end_off io_in pos tbl =
      { ddcurr_ddlist_tag := T, ddcurr_ddlist_ref := R, ddcurr_ddlist_offset := O, ddcurr_ddlist_length := L, file_rec_maxref := maxref,
        tbuf := tbuf, ndds := n, ret_value := -1, end_off := end_off, io_in := io_in, io_pos := pos, HTIregister_tag_ref_ret := tbl, gto := true } := by
  have c1 : (0 : Int) ≤ (n : Int) * 12 := by omega
  have c2 : (0 : Int) ≤ 0 ∧ 0 + (n : Int) * 12 ≤ (tbuf.length : Int) := by omega
  have c3 : ¬ ((pos : Int) + (n : Int) * 12 ≤ (io_in.length : Int)) := by omega
  simp only [HTPstart_ddlist, HTPstart_ddlist.chk, c1, c2, c3,
    decide_true, Bool.not_true, Bool.or_false, ↓reduceIte]
  rfl

theorem take12 (B : List Nat) (p : Nat) (h : p + 12 ≤ B.length) :
    (B.drop p).take 12 = [B.getD p 0, B.getD (p + 1) 0, B.getD (p + 2) 0, B.getD (p + 3) 0, B.getD (p + 4) 0, B.getD (p + 5) 0,
      B.getD (p + 6) 0, B.getD (p + 7) 0, B.getD (p + 8) 0, B.getD (p + 9) 0, B.getD (p + 10) 0, B.getD (p + 11) 0] := by
  refine (List.ext_getElem (l₂ := (List.range 12).map fun i => B.getD (p + i) 0) (by simp; omega) fun i h1 h2 => ?_).trans rfl
  simp only [List.length_map, List.length_range] at h2
  simp only [List.getElem_take, List.getElem_drop, List.getElem_map, List.getElem_range, List.getD_eq_getElem?_getD]
  rw [List.getElem?_eq_getElem (by omega)]; rfl

theorem cdd_model (B : List Nat) (j : Nat) (h : 12 * j + 12 ≤ B.length) :
    cdd (fun k => B.getD k 0) j = DD.decodeDD ((B.drop (12 * j)).take 12) := by
  rw [take12 B (12 * j) h]
  simp only [cdd, DD.decodeDD, DD.rd16, DD.rd32, List.drop_succ_cons, List.drop_zero]

theorem map_cdd_model (B : List Nat) : ∀ (n j : Nat), 12 * (j + n) ≤ B.length →
    (List.range' j n).map (cdd (fun k => B.getD k 0)) = DD.decodeDDs n (B.drop (12 * j))
  | 0, _, _ => rfl
  | n + 1, j, h => by
    rw [List.range'_succ, List.map_cons, DD.decodeDDs, cdd_model B j (by omega), map_cdd_model B n (j + 1) (by omega), List.drop_drop]
    congr 2

/-- the answers `HTIregister_tag_ref` gives for the descriptors `ds` when the tag tree is `tags` at the start: `FAIL` for the first live
    descriptor whose tag/ref is already registered (answers after that are never asked for) -/
def regTable : DD.Tags → List DD.DD → List Int
  | _, [] => []
  | tags, d :: ds =>
    if d.tag = H4.Gen.Hdf.DFTAG_NULL then 0 :: regTable tags ds
    else match DD.register tags d with
      | none => [-1]
      | some tags' => 0 :: regTable tags' ds

theorem failedL_regTable : ∀ (ds : List DD.DD) (tags : DD.Tags), failedL ds (regTable tags ds) = (DD.registerAll tags ds).isNone
  | [], _ => rfl
  | d :: ds, tags => by
    have hN : H4.Gen.Hdf.DFTAG_NULL = 1 := rfl
    by_cases hd : d.tag = 1
    · simp only [failedL, DD.registerAll, hN, hd, if_true, regTable, List.tail_cons]
      exact failedL_regTable ds tags
    · have hd' : (d.tag : Int) ≠ 1 := by omega
      cases hr : DD.register tags d with
      | none => simp [failedL, regTable, DD.registerAll, hN, hd, hd', hr]
      | some t' =>
        simp only [failedL, regTable, DD.registerAll, hN, hd, hr, if_false, List.headD_cons, List.tail_cons, hd', ne_eq, not_false_eq_true, true_and]
        rw [if_neg (by decide)]
        exact failedL_regTable ds t'

theorem ngoodL_regTable : ∀ (ds : List DD.DD) (tags : DD.Tags), (DD.registerAll tags ds).isSome → ngoodL ds (regTable tags ds) = ds.length
  | [], _, _ => rfl
  | d :: ds, tags, h => by
    have hN : H4.Gen.Hdf.DFTAG_NULL = 1 := rfl
    by_cases hd : d.tag = 1
    · have : ¬ ((d.tag : Int) ≠ 1 ∧ (regTable tags (d :: ds)).headD 0 = -1) := by rw [hd]; simp
      simp only [DD.registerAll, hN, hd, if_true] at h
      have e : regTable tags (d :: ds) = 0 :: regTable tags ds := by simp only [regTable, hN, hd, if_true]
      rw [e] at this
      simp only [ngoodL, e, this, if_false, List.tail_cons, List.length_cons, ngoodL_regTable ds tags h]; omega
    · cases hr : DD.register tags d with
      | none => simp [DD.registerAll, hN, hd, hr] at h
      | some t' =>
        simp only [DD.registerAll, hN, hd, hr, if_false] at h
        simp only [ngoodL, regTable, hN, hd, hr, if_false, List.headD_cons, List.tail_cons, List.length_cons]
        rw [if_neg (by simp), ngoodL_regTable ds t' h]; omega


theorem decodeDDs_encode : ∀ (ds : List DD.DD), (∀ d ∈ ds, DD.DDRange d) → DD.decodeDDs ds.length (ds.flatMap DD.encodeDD) = ds
  | [], _ => rfl
  | d :: ds, h => by
    have hl : (DD.encodeDD d).length = 12 := DD.encodeDD_length d
    simp only [List.length_cons, List.flatMap_cons, DD.decodeDDs]
    rw [List.take_left' hl, List.drop_left' hl, DD.decode_encode_dd d (h d (by simp)), decodeDDs_encode ds (fun x hx => h x (by simp [hx]))]

theorem flatMap_encode_length (ds : List DD.DD) : (ds.flatMap DD.encodeDD).length = 12 * ds.length := by
  induction ds with
  | nil => rfl
  | cons d ds ih => simp only [List.flatMap_cons, List.length_append, DD.encodeDD_length, ih, List.length_cons]; omega

theorem encodeDD_bytes (d : DD.DD) : ∀ x ∈ DD.encodeDD d, x < 256 := by
  intro x hx
  simp only [DD.encodeDD, DD.be16, DD.be32, List.mem_append, List.mem_cons, List.not_mem_nil, or_false] at hx
  rcases hx with ((h | h) | (h | h)) | (h | h | h | h) | (h | h | h | h) <;> omega

theorem flatMap_encode_bytes (ds : List DD.DD) : ∀ x ∈ ds.flatMap DD.encodeDD, x < 256 := by
  intro x hx
  obtain ⟨d, _, hd⟩ := List.mem_flatMap.mp hx
  exact encodeDD_bytes d x hd

theorem maxrefC_nat : ∀ (ds : List DD.DD) (m : Nat),
    maxrefC (m : Int) ds = ((ds.foldl (fun m d => if m < d.ref then d.ref else m) m : Nat) : Int)
  | [], _ => rfl
  | d :: ds, m => by
    simp only [maxrefC, List.foldl_cons]
    by_cases h : m < d.ref
    · have : ((m : Int) < (d.ref : Int)) := by omega
      simp only [h, this, if_true]; exact maxrefC_nat ds d.ref
    · have : ¬ ((m : Int) < (d.ref : Int)) := by omega
      simp only [h, this, if_false]; exact maxrefC_nat ds m

end H4.Lemmas.C12Fn2
