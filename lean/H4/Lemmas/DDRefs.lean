import H4.Lemmas.DDWF
/-! # `Hnewref` and `Htagnewref` -/
namespace H4.DD
open H4.Gen.Hdf H4.Bitvect

theorem pRef_iff (k : Nat) (d : DD) : pRef k d = true ↔ isLive d = true ∧ d.ref = k := by
  simp [pRef, isLive]

theorem scanRef_isNone (blocks : List Block) (k : Nat) :
    (scanFwd (pRef k) blocks 0 0).isNone = true ↔ ∀ d ∈ liveOf (slotsOf blocks), d.ref ≠ k := by
  constructor
  · intro h
    have hn : scanFwd (pRef k) blocks 0 0 = none := by
      cases hh : scanFwd (pRef k) blocks 0 0 <;> simp_all
    have := scanFwd_none hn
    rw [sufFrom_zero_zero, List.filter_eq_nil_iff] at this
    intro d hd hk
    obtain ⟨hm, hl⟩ := mem_liveOf.mp hd
    exact this d hm ((pRef_iff k d).mpr ⟨hl, hk⟩)
  · intro h
    cases hh : scanFwd (pRef k) blocks 0 0 with
    | none => rfl
    | some q =>
      obtain ⟨hv, hp, _⟩ := scanFwd_some hh
      obtain ⟨hl, hk⟩ := (pRef_iff k _).mp hp
      exact absurd hk (h _ (mem_liveOf.mpr ⟨getDD_mem_slots hv, hl⟩))

theorem refSearch_spec (blocks : List Block) : ∀ (fuel i : Nat), 1 ≤ i →
    (refSearch blocks fuel i ≠ 0 → i ≤ refSearch blocks fuel i ∧ refSearch blocks fuel i < i + fuel ∧
      (∀ d ∈ liveOf (slotsOf blocks), d.ref ≠ refSearch blocks fuel i)) ∧
    (refSearch blocks fuel i = 0 → ∀ k, i ≤ k → k < i + fuel → ∃ d ∈ liveOf (slotsOf blocks), d.ref = k) := by
  intro fuel
  induction fuel with
  | zero => intro i _; simp [refSearch]; intro k h1 h2; omega
  | succ fuel ih =>
    intro i hi
    unfold refSearch
    by_cases hn : (scanFwd (pRef i) blocks 0 0).isNone = true
    · rw [if_pos hn]
      refine ⟨fun _ => ⟨Nat.le_refl _, by omega, (scanRef_isNone blocks i).mp hn⟩, fun h0 => by omega⟩
    · rw [if_neg hn]
      obtain ⟨h1, h2⟩ := ih (i + 1) (by omega)
      constructor
      · intro hr
        obtain ⟨a, b, c⟩ := h1 hr
        exact ⟨by omega, by omega, c⟩
      · intro hr k hk1 hk2
        by_cases hki : k = i
        · subst hki
          have : ¬ ∀ d ∈ liveOf (slotsOf blocks), d.ref ≠ k := fun h => hn ((scanRef_isNone blocks k).mpr h)
          by_cases hex : ∃ d ∈ liveOf (slotsOf blocks), d.ref = k
          · exact hex
          · exfalso; apply this; intro d hd hk; exact hex ⟨d, hd, hk⟩
        · exact h2 hr k (by omega) (by omega)

theorem hnewref_scal (s : File) : Scal s (hnewref s).2 := by
  unfold hnewref; split <;> exact {}

/-- **`Hnewref`** on a state whose `maxref` bounds every live ref (or whose counter has wrapped) -/
theorem hnewref_spec {s : File}
    (hm : s.maxref < MAX_REF → ∀ d ∈ s.live, d.ref ≤ s.maxref) :
    ((hnewref s).1 ≠ 0 → ∀ d ∈ s.live, d.ref ≠ (hnewref s).1) ∧
    ((hnewref s).1 = 0 ↔ ∀ k, 1 ≤ k → k ≤ 65535 → ∃ d ∈ s.live, d.ref = k) ∧
    (hnewref s).1 ≤ 65535 := by
  unfold hnewref
  by_cases hlt : s.maxref < MAX_REF
  · rw [if_pos hlt]
    simp only
    have hM : MAX_REF = 65535 := rfl
    refine ⟨fun _ d hd => by have := hm hlt d hd; omega, ⟨fun h => by omega, fun h => ?_⟩, by omega⟩
    exfalso
    obtain ⟨d, hd, hk⟩ := h (s.maxref + 1) (by omega) (by omega)
    have := hm hlt d hd; omega
  · rw [if_neg hlt]
    simp only
    obtain ⟨h1, h2⟩ := refSearch_spec s.blocks MAX_REF 1 (Nat.le_refl _)
    have hM : MAX_REF = 65535 := rfl
    refine ⟨fun hr => (h1 hr).2.2, ⟨fun h0 k hk1 hk2 => h2 h0 k hk1 (by omega), fun hall => ?_⟩, ?_⟩
    · by_cases hr : refSearch s.blocks MAX_REF 1 = 0
      · exact hr
      · exfalso
        obtain ⟨a, b, c⟩ := h1 hr
        obtain ⟨d, hd, hk⟩ := hall _ a (by omega)
        exact c d hd hk
    · by_cases hr : refSearch s.blocks MAX_REF 1 = 0
      · omega
      · have := (h1 hr).2.1; omega

theorem TagsOK_tput_same {tags : Tags} {l : List DD} (h : TagsOK tags l) {base : Nat} {bv bv' : BV}
    (hg : tget tags base = some bv) (hinv : bv'.Inv) (hbits : ∀ k, bv'.bit k = bv.bit k) :
    TagsOK (tput tags base bv') l := by
  constructor
  · intro b v hv
    rw [tget_tput] at hv
    split at hv
    · rename_i hb
      cases hv
      obtain ⟨_, i2, i3⟩ := h.node _ _ hg
      subst hb
      exact ⟨hinv, by rw [hbits]; exact i2, fun r hr => by rw [hbits]; exact i3 r hr⟩
    · exact h.node _ _ hv
  · intro b hv
    rw [tget_tput] at hv
    split at hv
    · cases hv
    · exact h.nonode _ hv

theorem htagnewref_none {cfg : Cfg} {s : File} {t : Nat} (h : tget s.tags (baseTag t) = none) :
    htagnewref cfg s t = (1, s) := by
  unfold htagnewref; rw [h]
theorem htagnewref_some {cfg : Cfg} {s : File} {t : Nat} {bv : BV} (h : tget s.tags (baseTag t) = some bv) :
    htagnewref cfg s t =
      (tagnewrefValue cfg bv.findNextZero.1, { s with tags := tput s.tags (baseTag t) bv.findNextZero.2 }) := by
  unfold htagnewref; rw [h]

theorem htagnewref_spec (cfg : Cfg) {s : File} (hw : WF s) (t : Nat) :
    WF (htagnewref cfg s t).2 ∧ Scal s (htagnewref cfg s t).2 ∧ (htagnewref cfg s t).2.maxref = s.maxref ∧
    ∃ z, 1 ≤ z ∧ z ≤ 65536 ∧ (∀ d ∈ s.live, keyOf d ≠ (baseTag t, z)) ∧
      (∀ k, 1 ≤ k → k < z → ∃ d ∈ s.live, keyOf d = (baseTag t, k)) ∧
      (htagnewref cfg s t).1 = tagnewrefValue cfg z := by
  cases hg : tget s.tags (baseTag t) with
  | none =>
    rw [htagnewref_none hg]
    refine ⟨hw, .refl s, rfl, 1, Nat.le_refl _, by omega, ?_, fun k h1 h2 => by omega, ?_⟩
    · intro d hd hk
      exact hw.wfl.tags.nonode _ hg d hd (by simp [keyOf] at hk; exact hk.1)
    · have hM : MAX_REF = 65535 := rfl
      unfold tagnewrefValue
      cases cfg.fixF7 <;> simp [hM]
  | some bv =>
    rw [htagnewref_some hg]
    obtain ⟨binv, b0, bspec⟩ := hw.wfl.tags.node _ _ hg
    obtain ⟨z1, z2, z3, z4⟩ := findNextZero_spec binv
    have hz1 : 1 ≤ bv.findNextZero.1 := by
      rcases Nat.eq_zero_or_pos bv.findNextZero.1 with h0 | h0
      · rw [h0, b0] at z1; cases z1
      · exact h0
    have hfresh : ∀ d ∈ s.live, keyOf d ≠ (baseTag t, bv.findNextZero.1) := by
      intro d hd hk
      have := (bspec _ hz1).mpr ⟨d, hd, hk⟩
      rw [z1] at this; cases this
    have hz2 : bv.findNextZero.1 ≤ 65536 := by
      rcases Nat.lt_or_ge 65536 bv.findNextZero.1 with h | h
      · exfalso
        obtain ⟨d, hd, hk⟩ := (bspec 65536 (by omega)).mp (z2 65536 h)
        have := (hw.wfl.live_ok d hd).2.2
        simp [keyOf] at hk; omega
      · exact h
    have hwf' : WF { s with tags := tput s.tags (baseTag t) bv.findNextZero.2 } :=
      ⟨⟨hw.wfl.live_ok, hw.wfl.nodup, TagsOK_tput_same hw.wfl.tags hg z3 z4, hw.wfl.offlen⟩, hw.noub, hw.ne, hw.slotne⟩
    exact ⟨hwf', {}, rfl, _, hz1, hz2, hfresh, fun k h1 h2 => (bspec k h1).mp (z2 k h2), rfl⟩

end H4.DD
