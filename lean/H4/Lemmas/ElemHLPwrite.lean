import H4.Lemmas.ElemDD
import H4.Lemmas.ElemHLPread
/-! `HLPwrite` against the byte-array view. Allocation only adds (`Ext`: new `DFTAG_LINKED` DDs and space at the end of the
    file, every DD and byte that was there as before), so the tables and blocks the loop allocates (`newElem_spec`,
    `newTable_spec`, `ensureTables_spec`) leave the element's blocks where they are; the loop invariant `Prog` says that the bytes
    of `[posn, p)` are written and everything else reads as at the start; `Written` / `hlpWrite_spec` add the length update. -/
namespace H4.Elem
open H4.Gen.Hdf

theorem hasKey_of_dd_keep {f f' : File} (hk : ∀ j, f.live j → f'.dd j = f.dd j) {j tag ref : Nat} (h : f.hasKey j tag ref) :
    f'.hasKey j tag ref := by
  unfold File.hasKey File.live at *
  rw [hk j h.1]; exact h

theorem blockExt_keep {f f' : File} (hk : ∀ j, f.live j → f'.dd j = f.dd j) (hw' : WFF f') {ref : Nat} {x : Nat × Nat}
    (h : f.blockExt ref = some x) : f'.blockExt ref = some x := by
  unfold File.blockExt at *
  cases hs : f.select DFTAG_LINKED ref with
  | none => rw [hs] at h; simp at h
  | some j =>
    rw [hs] at h
    have hkey := select_some f _ _ j hs
    rw [select_of_hasKey f' hw' _ _ j (hasKey_of_dd_keep hk hkey)]
    simp only at h ⊢
    rw [hk j hkey.1]
    exact h

structure Ext (f f' : File) : Prop where
  dd_keep : ∀ j, f.live j → f'.dd j = f.dd j
  rd_keep : ∀ x, rd f'.disk x = rd f.disk x
  end_le : f.endOff ≤ f'.endOff
  links : f'.links = f.links
  ndds : f'.ndds = f.ndds
  new_linked : ∀ j, f'.live j → f.live j ∨ (f'.dd j).tag = DFTAG_LINKED
  present : f'.present = f.present

theorem Ext.refl (f : File) : Ext f f := ⟨fun _ _ => rfl, fun _ => rfl, Nat.le_refl _, rfl, rfl, fun _ h => Or.inl h, rfl⟩

theorem Ext.trans {f g h : File} (a : Ext f g) (b : Ext g h) : Ext f h := by
  refine ⟨?_, ?_, Nat.le_trans a.end_le b.end_le, by rw [b.links, a.links], by rw [b.ndds, a.ndds], ?_, by rw [b.present, a.present]⟩
  · intro j hj
    have : g.live j := by unfold File.live; rw [a.dd_keep j hj]; exact hj
    rw [b.dd_keep j this, a.dd_keep j hj]
  · intro x; rw [b.rd_keep, a.rd_keep]
  · intro j hj
    rcases b.new_linked j hj with h1 | h1
    · rcases a.new_linked j h1 with h2 | h2
      · exact Or.inl h2
      · right; rw [b.dd_keep j h1]; exact h2
    · exact Or.inr h1

theorem Ext.hasKey {f f' : File} (e : Ext f f') {j tag ref : Nat} (h : f.hasKey j tag ref) : f'.hasKey j tag ref :=
  hasKey_of_dd_keep e.dd_keep h

theorem Ext.select {f f' : File} (e : Ext f f') (hw' : WFF f') {tag ref j : Nat} (h : f.select tag ref = some j) :
    f'.select tag ref = some j :=
  select_of_hasKey f' hw' tag ref j (e.hasKey (select_some f tag ref j h))

theorem Ext.blockExt {f f' : File} (e : Ext f f') (hw' : WFF f') {ref : Nat} {x : Nat × Nat} (h : f.blockExt ref = some x) :
    f'.blockExt ref = some x := blockExt_keep e.dd_keep hw' h

theorem Created.ext {f f' : File} {i ref : Nat} (h : Created f f' i DFTAG_LINKED ref) : Ext f f' :=
  ⟨fun j hj => h.dd_keep j (fun e => hj (by rw [e]; exact h.was_free)), h.rd_keep, h.end_le, h.links, h.ndds,
   fun j hj => by
     by_cases e : j = i
     · right; rw [e, h.dd_new]
     · left; unfold File.live at *; rw [← h.dd_keep j e]; exact hj,
   h.present⟩

/-- `Hstartwrite(tag, ref, n)` on an unused tag/ref -/
structure NewElem (f f' : File) (i tag ref n off : Nat) : Prop where
  ext : Ext f f'
  wff : WFF f'
  not_live : ¬ f.live i
  dd_new : f'.dd i = { tag := tag, ref := ref, ext := some (off, n) }
  off_ge : f.endOff ≤ off
  end_eq : f'.endOff = off + n
  dd_other : ∀ j, j ≠ i → f'.dd j = f.dd j

theorem newElem_spec (f : File) (hw : WFF f) (ref n : Nat) (hfresh : ∀ j, ¬ f.hasKey j DFTAG_LINKED ref) :
    let c := f.ddCreate DFTAG_LINKED ref
    let s := c.1.setLength c.2 n
    NewElem f s.1 c.2 DFTAG_LINKED ref n s.2 := by
  intro c s
  have hc : Created f c.1 c.2 DFTAG_LINKED ref := ddCreate_spec f DFTAG_LINKED ref hw.ndds_pos hw.tail0
  have hw1 : WFF c.1 := hc.wff hw hfresh
  have hs : Sized c.1 s.1 c.2 n s.2 := setLength_spec c.1 c.2 n hc.lt hw1.tail0
  have hw2 : WFF s.1 := hs.wff hw1
  refine ⟨?_, hw2, fun hh => hh hc.was_free, ?_, ?_, ?_, ?_⟩
  · refine ⟨?_, fun x => by rw [hs.rd_keep, hc.rd_keep], by rw [hs.end_eq]; have := hc.end_le; omega,
      by rw [hs.links, hc.links], by rw [hs.ndds, hc.ndds], ?_, by rw [hs.present, hc.present]⟩
    · intro j hj
      have hji : j ≠ c.2 := fun e => hj (by rw [e]; exact hc.was_free)
      rw [hs.dd_keep j hji, hc.dd_keep j hji]
    · intro j hj
      by_cases e : j = c.2
      · right; rw [e, hs.dd_new, hc.dd_new]
      · left; unfold File.live at *; rw [hs.dd_keep j e, hc.dd_keep j e] at hj; exact hj
  · rw [hs.dd_new, hc.dd_new]
  · rw [hs.off_eq]; exact hc.end_le
  · rw [hs.end_eq, hs.off_eq]
  · intro j hj; rw [hs.dd_keep j hj, hc.dd_keep j hj]


theorem blockRef_ge (li : LinkInfo) (t idx : Nat) (h : li.tables.length ≤ t) : li.blockRef t idx = 0 := by
  unfold LinkInfo.blockRef
  have : li.tables.getD t (0, []) = (0, []) := by
    rw [List.getD_eq_getElem?_getD, List.getElem?_eq_none h]; rfl
  rw [this]; rfl

theorem blockRef_idx_ge (li : LinkInfo) (t idx : Nat) (h : (li.tables.getD t (0, [])).2.length ≤ idx) : li.blockRef t idx = 0 := by
  unfold LinkInfo.blockRef
  rw [List.getD_eq_getElem?_getD (l := (li.tables.getD t (0, [])).2), List.getElem?_eq_none h]
  rfl

theorem blockRef_setBlockRef (li : LinkInfo) (t idx r t' idx' : Nat) (ht : t < li.tables.length)
    (hidx : idx < (li.tables.getD t (0, [])).2.length) :
    (li.setBlockRef t idx r).blockRef t' idx' = if t' = t ∧ idx' = idx then r else li.blockRef t' idx' := by
  unfold LinkInfo.setBlockRef LinkInfo.blockRef
  simp only [List.getD_eq_getElem?_getD, List.getElem?_set]
  by_cases h1 : t = t'
  · subst h1
    simp only [ht, if_true, Option.getD_some, true_and]
    by_cases h2 : idx = idx'
    · subst h2
      have : idx < (li.tables[t]?.getD (0, [])).2.length := by simpa [List.getD_eq_getElem?_getD] using hidx
      simp [this]
    · have : ¬ (idx' = idx) := fun e => h2 e.symm
      simp [h2, this]
  · have : ¬ (t' = t) := fun e => h1 e.symm
    simp [h1, this]

theorem setBlockRef_tables_length (li : LinkInfo) (t idx r : Nat) : (li.setBlockRef t idx r).tables.length = li.tables.length := by
  simp [LinkInfo.setBlockRef]

theorem setBlockRef_table_len (li : LinkInfo) (t idx r t' : Nat) :
    ((li.setBlockRef t idx r).tables.getD t' (0, [])).2.length = (li.tables.getD t' (0, [])).2.length := by
  unfold LinkInfo.setBlockRef
  simp only [List.getD_eq_getElem?_getD, List.getElem?_set]
  by_cases h1 : t = t'
  · subst h1
    by_cases h2 : t < li.tables.length
    · simp [h2]
    · simp [h2]
  · simp [h1]

theorem blockRef_append_zero (li : LinkInfo) (r n t idx : Nat) :
    ({ li with tables := li.tables ++ [(r, List.replicate n 0)] } : LinkInfo).blockRef t idx = li.blockRef t idx := by
  unfold LinkInfo.blockRef
  simp only [List.getD_eq_getElem?_getD, List.getElem?_append]
  split
  · rfl
  · rename_i h
    rw [List.getElem?_eq_none (Nat.le_of_not_lt h)]
    by_cases h2 : t - li.tables.length = 0
    · simp [h2, List.getElem?_replicate]; split <;> rfl
    · have : ([(r, List.replicate n (0 : Nat))] : List (Nat × List Nat))[t - li.tables.length]? = none := by
        apply List.getElem?_eq_none; simp; omega
      rw [this]


theorem pwrite_wff (f : File) (hw : WFF f) (off : Nat) (bs : Bytes) (h : off + bs.length ≤ f.endOff) : WFF (f.pwrite off bs) := by
  refine ⟨hw.ndds_pos, hw.ext_le, hw.disj, ?_, hw.uniq⟩
  intro k hk
  rw [pwrite_rd]
  have : ¬ (off ≤ k ∧ k < off + bs.length) := by
    have : f.endOff ≤ k := hk
    omega
  rw [if_neg this]
  exact hw.tail0 k hk

theorem endOff_max_noop (f : File) (x : Nat) (h : x ≤ f.endOff) : ({ f with endOff := max f.endOff x } : File) = f := by
  cases f
  simp only [File.mk.injEq, and_true, true_and]
  exact Nat.max_eq_left h

theorem pwrite_zeros_rd (f : File) (off n : Nat) (hz : ∀ x, off ≤ x → x < off + n → rd f.disk x = 0) (x : Nat) :
    rd (f.pwrite off (zeros n)).disk x = rd f.disk x := by
  rw [pwrite_rd]
  split
  · rename_i h
    rw [zeros_length] at h
    rw [hz x h.1 h.2]
    simp [zeros, List.getD_eq_getElem?_getD, List.getElem?_replicate]
    split <;> rfl
  · rfl

/-- `HLInewlink` -/
theorem newTable_spec (f : File) (hw : WFF f) (ref nb : Nat) (hfresh : ∀ j, ¬ f.hasKey j DFTAG_LINKED ref) :
    Ext f (f.newTable ref nb) ∧ WFF (f.newTable ref nb) := by
  unfold File.newTable File.putNew
  have hne := newElem_spec f hw ref (2 + 2 * nb) hfresh
  simp only at hne ⊢
  generalize hc : f.ddCreate DFTAG_LINKED ref = c at hne
  generalize hs : c.1.setLength c.2 (2 + 2 * nb) = s at hne
  obtain ⟨f2, off⟩ := s
  obtain ⟨f1, i⟩ := c
  simp only at hne ⊢
  have hlen : off + (zeros (2 + 2 * nb)).length ≤ f2.endOff := by rw [zeros_length, hne.end_eq]; omega
  have hw3 : WFF (f2.pwrite off (zeros (2 + 2 * nb))) := pwrite_wff f2 hne.wff off _ hlen
  rw [endOff_max_noop _ _ (by exact hlen)]
  refine ⟨?_, hw3⟩
  have hz : ∀ x, off ≤ x → x < off + (2 + 2 * nb) → rd f2.disk x = 0 := by
    intro x hx _
    rw [hne.ext.rd_keep]
    exact hw.tail0 x (by have := hne.off_ge; omega)
  exact ⟨fun j hj => by rw [pwrite_dd]; exact hne.ext.dd_keep j hj,
         fun x => by rw [pwrite_zeros_rd f2 off _ hz, hne.ext.rd_keep],
         hne.ext.end_le, hne.ext.links, hne.ext.ndds, hne.ext.new_linked, hne.ext.present⟩

theorem WFLs.ext {f f' : File} {li : LinkInfo} (h : WFLs f li) (e : Ext f f') (hw' : WFF f') : WFLs f' li := by
  refine ⟨h.blk_pos, h.nb_pos, h.tables_ne, h.table_len, ?_, h.inj⟩
  intro t idx ht hidx href
  obtain ⟨o, ho⟩ := h.block_ok t idx ht hidx href
  exact ⟨o, e.blockExt hw' ho⟩

theorem ensureTables_zero (f : File) (li : LinkInfo) (t : Nat) : ensureTables f li 0 t = (f, li) := rfl
theorem ensureTables_succ (f : File) (li : LinkInfo) (fuel t : Nat) :
    ensureTables f li (fuel + 1) t =
      if t < li.tables.length then (f, li)
      else
        let r := ensureTables f li fuel (t - 1)
        if t = r.2.tables.length then
          (r.1.newTable (r.1.tagNewRef DFTAG_LINKED) r.2.numBlocks,
           { r.2 with tables := r.2.tables ++ [(r.1.tagNewRef DFTAG_LINKED, List.replicate r.2.numBlocks 0)] })
        else r := rfl

structure Ensured (f : File) (li : LinkInfo) (t fuel : Nat) (r : File × LinkInfo) : Prop where
  ext : Ext f r.1
  wff : WFF r.1
  wfl : WFLs r.1 r.2
  refs : ∀ t' idx, r.2.blockRef t' idx = li.blockRef t' idx
  g1 : r.2.firstLen = li.firstLen
  g2 : r.2.blockLen = li.blockLen
  g3 : r.2.numBlocks = li.numBlocks
  g4 : r.2.length = li.length
  len_le : li.tables.length ≤ r.2.tables.length
  reach : t + 1 ≤ fuel + li.tables.length → t < r.2.tables.length

theorem ensureTables_spec : ∀ (fuel : Nat) (f : File) (li : LinkInfo) (t : Nat), WFF f → WFLs f li →
    Ensured f li t fuel (ensureTables f li fuel t) := by
  intro fuel
  induction fuel with
  | zero =>
    intro f li t hw hl
    rw [ensureTables_zero]
    exact ⟨Ext.refl f, hw, hl, fun _ _ => rfl, rfl, rfl, rfl, rfl, Nat.le_refl _, fun h => by show t < li.tables.length; omega⟩
  | succ fuel ih =>
    intro f li t hw hl
    rw [ensureTables_succ]
    by_cases hlt : t < li.tables.length
    · rw [if_pos hlt]
      exact ⟨Ext.refl f, hw, hl, fun _ _ => rfl, rfl, rfl, rfl, rfl, Nat.le_refl _, fun _ => hlt⟩
    · rw [if_neg hlt]
      have h1 := ih f li (t - 1) hw hl
      generalize ensureTables f li fuel (t - 1) = r at h1
      obtain ⟨f1, li1⟩ := r
      obtain ⟨e1, w1, l1, b1, g1, g2, g3, g4, g5, g6⟩ := h1
      simp only at e1 w1 l1 b1 g1 g2 g3 g4 g5 g6 ⊢
      by_cases heq : t = li1.tables.length
      · rw [if_pos heq]
        have hfresh := tagNewRef_fresh f1 DFTAG_LINKED
        obtain ⟨e2, w2⟩ := newTable_spec f1 w1 (f1.tagNewRef DFTAG_LINKED) li1.numBlocks hfresh
        refine ⟨e1.trans e2, w2, ?_, ?_, g1, g2, g3, g4, ?_, ?_⟩
        · have l2 := l1.ext e2 w2
          refine ⟨l2.blk_pos, l2.nb_pos, by simp, ?_, ?_, ?_⟩
          · intro t' ht'
            simp only [List.length_append, List.length_cons, List.length_nil] at ht'
            by_cases h : t' < li1.tables.length
            · have := l2.table_len t' h
              simp only [List.getD_eq_getElem?_getD, List.getElem?_append, h, if_true] at this ⊢
              exact this
            · have : t' = li1.tables.length := by omega
              subst this
              simp [List.getD_eq_getElem?_getD]
          · intro t' idx ht' hidx href
            rw [blockRef_append_zero] at href ⊢
            simp only [List.length_append, List.length_cons, List.length_nil] at ht'
            by_cases h : t' < li1.tables.length
            · exact l2.block_ok t' idx h hidx href
            · exact absurd (blockRef_ge li1 t' idx (by omega)) href
          · intro a b a' b' href heq'
            rw [blockRef_append_zero] at href heq'
            rw [blockRef_append_zero] at heq'
            exact l2.inj a b a' b' href heq'
        · intro t' idx; rw [blockRef_append_zero]; exact b1 t' idx
        · simp only [List.length_append, List.length_cons, List.length_nil]; omega
        · intro _; simp only [List.length_append, List.length_cons, List.length_nil]; omega
      · rw [if_neg heq]
        refine ⟨e1, w1, l1, b1, g1, g2, g3, g4, g5, ?_⟩
        intro h
        have hne := hl.tables_ne
        have h6 : t - 1 < li1.tables.length := g6 (by omega)
        show t < li1.tables.length
        omega


theorem blockExt_slot {f : File} {ref : Nat} {x : Nat × Nat} (h : f.blockExt ref = some x) :
    ∃ j, f.hasKey j DFTAG_LINKED ref ∧ (f.dd j).ext = some x := by
  unfold File.blockExt at h
  cases hs : f.select DFTAG_LINKED ref with
  | none => rw [hs] at h; simp at h
  | some j => rw [hs] at h; exact ⟨j, select_some f _ _ j hs, h⟩

theorem blockExt_of_slot {f : File} (hw : WFF f) {ref j : Nat} {x : Nat × Nat} (hk : f.hasKey j DFTAG_LINKED ref)
    (he : (f.dd j).ext = some x) : f.blockExt ref = some x := by
  unfold File.blockExt
  rw [select_of_hasKey f hw _ _ j hk]
  exact he

theorem WFLs.ref_block {f : File} {li : LinkInfo} (h : WFLs f li) (t idx : Nat) (href : li.blockRef t idx ≠ 0) :
    t < li.tables.length ∧ idx < li.numBlocks ∧
    ∃ o, f.blockExt (li.blockRef t idx) = some (o, blockLenOf li.firstLen li.blockLen (t * li.numBlocks + idx)) := by
  have ht : t < li.tables.length := Nat.lt_of_not_le fun h' => href (blockRef_ge li t idx h')
  have hidx : idx < li.numBlocks :=
    Nat.lt_of_not_le fun h' => href (blockRef_idx_ge li t idx (by rw [h.table_len t ht]; exact h'))
  exact ⟨ht, hidx, h.block_ok t idx ht hidx href⟩

theorem WFLs.ref_ext {f : File} {li : LinkInfo} (h : WFLs f li) (t idx : Nat) (h0 : li.blockRef t idx ≠ 0) :
    ∃ x, f.blockExt (li.blockRef t idx) = some x :=
  let ⟨_, _, _, ho⟩ := h.ref_block t idx h0
  ⟨_, ho⟩

theorem lbyte_of_blockByte {f f' : File} {li li' : LinkInfo} (hblk : 1 ≤ li.blockLen) (hnb : 1 ≤ li.numBlocks)
    (g1 : li'.firstLen = li.firstLen) (g2 : li'.blockLen = li.blockLen) (g3 : li'.numBlocks = li.numBlocks)
    (h : ∀ t idx r, idx < li.numBlocks → r < blockLenOf li.firstLen li.blockLen (t * li.numBlocks + idx) →
      f'.blockByte (li'.blockRef t idx) r = f.blockByte (li.blockRef t idx) r) (i : Nat) :
    f'.lbyte li' i = f.lbyte li i := by
  obtain ⟨t, idx, r, hidx, hr, hi⟩ := pos_block li.firstLen li.blockLen li.numBlocks i hblk hnb
  have := lbyte_block f' li' (by rw [g2]; exact hblk) t idx r (by rw [g3]; exact hidx)
    (by rw [g1, g2, g3]; exact hr)
  rw [g1, g2, g3] at this
  rw [← hi, this, lbyte_block f li hblk t idx r hidx hr]
  exact h t idx r hidx hr

theorem lbyte_congr {f f' : File} {li li' : LinkInfo} (hl : WFLs f li)
    (g1 : li'.firstLen = li.firstLen) (g2 : li'.blockLen = li.blockLen) (g3 : li'.numBlocks = li.numBlocks)
    (hrefs : ∀ t idx, li'.blockRef t idx = li.blockRef t idx)
    (hbe : ∀ t idx x, li.blockRef t idx ≠ 0 → f.blockExt (li.blockRef t idx) = some x → f'.blockExt (li.blockRef t idx) = some x)
    (hrd : ∀ t idx o l r, li.blockRef t idx ≠ 0 → f.blockExt (li.blockRef t idx) = some (o, l) → r < l →
      rd f'.disk (o + r) = rd f.disk (o + r)) (i : Nat) :
    f'.lbyte li' i = f.lbyte li i := by
  apply lbyte_of_blockByte hl.blk_pos hl.nb_pos g1 g2 g3
  intro t idx r _ hr
  rw [hrefs]
  by_cases h0 : li.blockRef t idx = 0
  · rw [h0]; rfl
  · obtain ⟨_, _, o, ho⟩ := hl.ref_block t idx h0
    rw [blockByte_of_ext h0 ho, blockByte_of_ext h0 (hbe t idx _ h0 ho)]
    exact hrd t idx o _ r h0 ho hr

theorem pwrite_blockExt (f : File) (off : Nat) (bs : Bytes) (ref : Nat) : (f.pwrite off bs).blockExt ref = f.blockExt ref := rfl

theorem WFLs.pwrite {f : File} {li : LinkInfo} (h : WFLs f li) (off : Nat) (bs : Bytes) : WFLs (f.pwrite off bs) li :=
  ⟨h.blk_pos, h.nb_pos, h.tables_ne, h.table_len, h.block_ok, h.inj⟩

/-- the blocks tile the element (`pos_block_unique`) and their extents are disjoint (`WFF.disj`, `WFLs.inj`) -/
theorem lbyte_pwrite_block {f : File} {li : LinkInfo} (hw : WFF f) (hl : WFLs f li) {t idx o : Nat}
    (href : li.blockRef t idx ≠ 0)
    (ho : f.blockExt (li.blockRef t idx) = some (o, blockLenOf li.firstLen li.blockLen (t * li.numBlocks + idx)))
    (rel : Nat) (c : Bytes) (hfit : rel + c.length ≤ blockLenOf li.firstLen li.blockLen (t * li.numBlocks + idx)) (i : Nat) :
    (f.pwrite (o + rel) c).lbyte li i =
      if blockStart li.firstLen li.blockLen (t * li.numBlocks + idx) + rel ≤ i ∧
          i < blockStart li.firstLen li.blockLen (t * li.numBlocks + idx) + rel + c.length
      then c.getD (i - (blockStart li.firstLen li.blockLen (t * li.numBlocks + idx) + rel)) 0 else f.lbyte li i := by
  obtain ⟨_, hidx, _⟩ := hl.ref_block t idx href
  obtain ⟨t', idx', r, hidx', hr, hi⟩ := pos_block li.firstLen li.blockLen li.numBlocks i hl.blk_pos hl.nb_pos
  rw [← hi, lbyte_block _ li hl.blk_pos t' idx' r hidx' hr, lbyte_block f li hl.blk_pos t' idx' r hidx' hr]
  by_cases hsame : t' = t ∧ idx' = idx
  · obtain ⟨rfl, rfl⟩ := hsame
    rw [blockByte_of_ext href ho, blockByte_of_ext href (show (f.pwrite (o + rel) c).blockExt _ = _ from ho), pwrite_rd]
    generalize blockStart li.firstLen li.blockLen (t' * li.numBlocks + idx') = B
    by_cases hin : rel ≤ r ∧ r < rel + c.length
    · rw [if_pos (by omega), if_pos (by omega)]; congr 1; omega
    · rw [if_neg (by omega), if_neg (by omega)]
  · have hout : ¬ (blockStart li.firstLen li.blockLen (t * li.numBlocks + idx) + rel ≤
          blockStart li.firstLen li.blockLen (t' * li.numBlocks + idx') + r ∧
        blockStart li.firstLen li.blockLen (t' * li.numBlocks + idx') + r <
          blockStart li.firstLen li.blockLen (t * li.numBlocks + idx) + rel + c.length) := by
      intro hin
      have := pos_block_unique li.firstLen li.blockLen li.numBlocks hl.blk_pos t' idx' r t idx
        (rel + (blockStart li.firstLen li.blockLen (t' * li.numBlocks + idx') + r -
          (blockStart li.firstLen li.blockLen (t * li.numBlocks + idx) + rel))) hidx' hidx hr (by omega) (by omega)
      exact hsame ⟨this.1, this.2.1⟩
    rw [if_neg hout]
    by_cases h0 : li.blockRef t' idx' = 0
    · rw [h0]; rfl
    · obtain ⟨_, _, o', ho'⟩ := hl.ref_block t' idx' h0
      rw [blockByte_of_ext h0 ho', blockByte_of_ext h0 (show (f.pwrite (o + rel) c).blockExt _ = _ from ho'), pwrite_rd, if_neg]
      obtain ⟨j, hjk, hje⟩ := blockExt_slot ho
      obtain ⟨j', hjk', hje'⟩ := blockExt_slot ho'
      have hjj : j ≠ j' := by
        rintro rfl
        have := hl.inj t idx t' idx' href (by rw [← hjk.2.2, ← hjk'.2.2])
        exact hsame ⟨this.1.symm, this.2.symm⟩
      have := hw.disj j j' _ _ _ _ hjj hjk.1 hjk'.1 hje hje' (o' + r)
      omega

/-- the part of `writePiece` after the block tables have been brought up to `p.tbl` -/
def writeBlock (f : File) (li : LinkInfo) (p : Piece) (bs : Bytes) : Option (File × LinkInfo) :=
  let ref := li.blockRef p.tbl p.idx
  if ref != 0 then
    match f.blockExt ref with
    | none => none
    | some (o, l) =>
      if p.rel > l ∨ p.rel + bs.length > l then none
      else some (f.pwrite (o + p.rel) bs, li)
  else
    let ref := f.tagNewRef DFTAG_LINKED
    let (f, i) := f.ddCreate DFTAG_LINKED ref
    let (f, off) := f.setLength i p.cur
    if p.rel > p.cur ∨ p.rel + bs.length > p.cur then none
    else
      let f := f.pwrite (off + p.rel) bs
      let f := { f with endOff := max f.endOff (off + p.rel + bs.length) }
      some (f, li.setBlockRef p.tbl p.idx ref)

theorem writePiece_eq (f : File) (li : LinkInfo) (p : Piece) (bs : Bytes) :
    writePiece f li p bs = writeBlock (ensureTables f li (p.tbl + 1) p.tbl).1 (ensureTables f li (p.tbl + 1) p.tbl).2 p bs := by
  -- stated as a `match` first: `rfl` on the two definitions makes the unifier compare their bodies branch by branch
  show (match ensureTables f li (p.tbl + 1) p.tbl with | (f, li) => writeBlock f li p bs) = _
  rcases ensureTables f li (p.tbl + 1) p.tbl with ⟨f1, li1⟩
  rfl

structure Prog (f0 : File) (li0 : LinkInfo) (posn : Nat) (d : Bytes) (p : Nat) (f : File) (li : LinkInfo) : Prop where
  wff0 : WFF f0
  wfl0 : WFLs f0 li0
  wff : WFF f
  wfl : WFLs f li
  g1 : li.firstLen = li0.firstLen
  g2 : li.blockLen = li0.blockLen
  g3 : li.numBlocks = li0.numBlocks
  g4 : li.length = li0.length
  dd_keep : ∀ j, f0.live j → f.dd j = f0.dd j
  end_le : f0.endOff ≤ f.endOff
  links : f.links = f0.links
  ndds : f.ndds = f0.ndds
  tables_le : li0.tables.length ≤ li.tables.length
  refs_keep : ∀ t idx, li0.blockRef t idx ≠ 0 → li.blockRef t idx = li0.blockRef t idx
  new_ext : ∀ t idx o l, li0.blockRef t idx = 0 → li.blockRef t idx ≠ 0 → f.blockExt (li.blockRef t idx) = some (o, l) → f0.endOff ≤ o
  new_fresh : ∀ t idx, li0.blockRef t idx = 0 → li.blockRef t idx ≠ 0 → ∀ j, ¬ f0.hasKey j DFTAG_LINKED (li.blockRef t idx)
  bytes : ∀ i, f.lbyte li i = if posn ≤ i ∧ i < p then d.getD (i - posn) 0 else f0.lbyte li0 i
  frame : ∀ x, x < f0.endOff →
    (∀ t idx o l, li0.blockRef t idx ≠ 0 → f0.blockExt (li0.blockRef t idx) = some (o, l) → ¬ (o ≤ x ∧ x < o + l)) →
    rd f.disk x = rd f0.disk x
  cap : posn < p → p ≤ blockStart li.firstLen li.blockLen (li.tables.length * li.numBlocks)
  new_slots : ∀ j, f.live j → f0.live j ∨ (f.dd j).tag = DFTAG_LINKED
  present : f.present = f0.present

theorem cap_mono (first blk nb L L' : Nat) (h : L ≤ L') : blockStart first blk (L * nb) ≤ blockStart first blk (L' * nb) :=
  blockStart_mono first blk _ _ (Nat.mul_le_mul_right nb h)

theorem Prog.init (f0 : File) (li0 : LinkInfo) (posn : Nat) (d : Bytes) (hw : WFF f0) (hl : WFLs f0 li0) :
    Prog f0 li0 posn d posn f0 li0 := by
  refine ⟨hw, hl, hw, hl, rfl, rfl, rfl, rfl, fun _ _ => rfl, Nat.le_refl _, rfl, rfl, Nat.le_refl _, fun _ _ _ => rfl,
    fun _ _ _ _ h0 h1 => absurd h0 h1, fun _ _ h0 h1 => absurd h0 h1, ?_, fun _ _ _ => rfl, fun h => by omega, fun _ h => Or.inl h, rfl⟩
  intro i
  rw [if_neg (by omega)]

theorem Prog.ext {f0 : File} {li0 : LinkInfo} {posn : Nat} {d : Bytes} {p : Nat} {f : File} {li : LinkInfo}
    (h : Prog f0 li0 posn d p f li) {f' : File} {li' : LinkInfo} (e : Ext f f') (hw' : WFF f') (hl' : WFLs f' li')
    (refs : ∀ t idx, li'.blockRef t idx = li.blockRef t idx)
    (g1 : li'.firstLen = li.firstLen) (g2 : li'.blockLen = li.blockLen) (g3 : li'.numBlocks = li.numBlocks)
    (g4 : li'.length = li.length) (len_le : li.tables.length ≤ li'.tables.length) :
    Prog f0 li0 posn d p f' li' := by
  have hbe : ∀ ref x, f.blockExt ref = some x → f'.blockExt ref = some x := fun ref x hx => e.blockExt hw' hx
  refine ⟨h.wff0, h.wfl0, hw', hl', by rw [g1, h.g1], by rw [g2, h.g2], by rw [g3, h.g3], by rw [g4, h.g4], ?_,
    Nat.le_trans h.end_le e.end_le, by rw [e.links, h.links], by rw [e.ndds, h.ndds],
    Nat.le_trans h.tables_le len_le, ?_, ?_, ?_, ?_, ?_, ?_, ?_, by rw [e.present, h.present]⟩
  · intro j hj
    have : f.live j := by unfold File.live; rw [h.dd_keep j hj]; exact hj
    rw [e.dd_keep j this, h.dd_keep j hj]
  · intro t' idx h0; rw [refs]; exact h.refs_keep t' idx h0
  · intro t' idx o l h0 h1 hx
    rw [refs] at h1 hx
    obtain ⟨_, _, o', ho'⟩ := h.wfl.ref_block t' idx h1
    rw [hbe _ _ ho'] at hx
    cases hx
    exact h.new_ext t' idx o _ h0 h1 ho'
  · intro t' idx h0 h1; rw [refs] at h1 ⊢; exact h.new_fresh t' idx h0 h1
  · intro i
    rw [← h.bytes i]
    exact lbyte_congr h.wfl g1 g2 g3 refs (fun _ _ x _ hx => hbe _ x hx) (fun _ _ o _ r _ _ _ => e.rd_keep (o + r)) i
  · intro x hx hn
    rw [e.rd_keep]; exact h.frame x hx hn
  · intro hp
    rw [g1, g2, g3]
    exact Nat.le_trans (h.cap hp) (cap_mono _ _ _ _ _ len_le)
  · intro j hj
    rcases e.new_linked j hj with h1 | h1
    · rcases h.new_slots j h1 with h2 | h2
      · exact Or.inl h2
      · right; rw [e.dd_keep j h1]; exact h2
    · exact Or.inr h1

theorem Prog.ensured {f0 : File} {li0 : LinkInfo} {posn : Nat} {d : Bytes} {p : Nat} {f : File} {li : LinkInfo}
    (h : Prog f0 li0 posn d p f li) {t fuel : Nat} {r : File × LinkInfo} (e : Ensured f li t fuel r) :
    Prog f0 li0 posn d p r.1 r.2 :=
  h.ext e.ext e.wff e.wfl e.refs e.g1 e.g2 e.g3 e.g4 e.len_le


theorem Prog.write {f0 : File} {li0 : LinkInfo} {posn : Nat} {d : Bytes} {p : Nat} {f : File} {li : LinkInfo}
    (P : Prog f0 li0 posn d p f li) (q : Piece) (hp : posn ≤ p)
    (hcur : q.cur = blockLenOf li.firstLen li.blockLen (q.tbl * li.numBlocks + q.idx))
    (hstart : blockStart li.firstLen li.blockLen (q.tbl * li.numBlocks + q.idx) + q.rel = p)
    (href : li.blockRef q.tbl q.idx ≠ 0) {o : Nat} (ho : f.blockExt (li.blockRef q.tbl q.idx) = some (o, q.cur))
    (c : Bytes) (hfit : q.rel + c.length ≤ q.cur) (hcd : ∀ k, k < c.length → c.getD k 0 = d.getD (p - posn + k) 0) :
    Prog f0 li0 posn d (p + c.length) (f.pwrite (o + q.rel) c) li := by
  obtain ⟨ht, hidx, _⟩ := P.wfl.ref_block q.tbl q.idx href
  obtain ⟨j, hjk, hje⟩ := blockExt_slot ho
  have hend : o + q.cur ≤ f.endOff := P.wff.ext_le j o q.cur hjk.1 hje
  refine ⟨P.wff0, P.wfl0, pwrite_wff f P.wff _ _ (by omega), P.wfl.pwrite _ _, P.g1, P.g2, P.g3, P.g4, P.dd_keep, P.end_le,
    P.links, P.ndds, P.tables_le, P.refs_keep, P.new_ext, P.new_fresh, ?_, ?_, ?_, P.new_slots, P.present⟩
  · intro i
    rw [lbyte_pwrite_block P.wff P.wfl href (hcur ▸ ho) q.rel c (hcur ▸ hfit) i, hstart, P.bytes i]
    by_cases h1 : p ≤ i ∧ i < p + c.length
    · rw [if_pos h1, if_pos (by omega), hcd (i - p) (by omega)]; congr 1; omega
    · rw [if_neg h1]
      by_cases h2 : posn ≤ i ∧ i < p
      · rw [if_pos h2, if_pos (by omega)]
      · rw [if_neg h2, if_neg (by omega)]
  · -- below the old end of file the write can only hit a block the element had from the start
    intro x hx hn
    rw [pwrite_rd]
    by_cases hin : o + q.rel ≤ x ∧ x < o + q.rel + c.length
    · exfalso
      by_cases h0 : li0.blockRef q.tbl q.idx = 0
      · have := P.new_ext q.tbl q.idx o q.cur h0 href ho
        omega
      · obtain ⟨_, _, o0, ho0⟩ := P.wfl0.ref_block q.tbl q.idx h0
        have := blockExt_keep P.dd_keep P.wff ho0
        rw [← P.refs_keep q.tbl q.idx h0, ho] at this
        simp only [Option.some.injEq, Prod.mk.injEq] at this
        exact hn q.tbl q.idx o0 _ h0 ho0 (by omega)
    · rw [if_neg hin]; exact P.frame x hx hn
  · intro _
    have h1 : q.tbl * li.numBlocks + q.idx + 1 ≤ li.tables.length * li.numBlocks := by
      have : (q.tbl + 1) * li.numBlocks ≤ li.tables.length * li.numBlocks := Nat.mul_le_mul_right _ ht
      rw [Nat.add_mul] at this
      omega
    have h2 := blockStart_mono li.firstLen li.blockLen _ _ h1
    rw [blockStart_succ, ← hcur] at h2
    omega

/-- a hole reads zeros and so does fresh space at the end of the file -/
theorem Prog.alloc {f0 : File} {li0 : LinkInfo} {posn : Nat} {d : Bytes} {p : Nat} {f : File} {li : LinkInfo}
    (P : Prog f0 li0 posn d p f li) (q : Piece) (ht : q.tbl < li.tables.length) (hidx : q.idx < li.numBlocks)
    (hcur : q.cur = blockLenOf li.firstLen li.blockLen (q.tbl * li.numBlocks + q.idx))
    (href : li.blockRef q.tbl q.idx = 0) {f2 : File} {i nr off : Nat} (hnr0 : nr ≠ 0)
    (hfresh : ∀ j, ¬ f.hasKey j DFTAG_LINKED nr) (N : NewElem f f2 i DFTAG_LINKED nr q.cur off) :
    Prog f0 li0 posn d p f2 (li.setBlockRef q.tbl q.idx nr) ∧ (li.setBlockRef q.tbl q.idx nr).blockRef q.tbl q.idx = nr ∧
      f2.blockExt nr = some (off, q.cur) := by
  have hrefs : ∀ t idx', (li.setBlockRef q.tbl q.idx nr).blockRef t idx' = if t = q.tbl ∧ idx' = q.idx then nr else li.blockRef t idx' :=
    fun t idx' => blockRef_setBlockRef li q.tbl q.idx nr t idx' ht (by rw [P.wfl.table_len q.tbl ht]; exact hidx)
  have hbnew : f2.blockExt nr = some (off, q.cur) :=
    blockExt_of_slot N.wff (by unfold File.hasKey File.live; rw [N.dd_new]; exact ⟨(by decide : DFTAG_LINKED ≠ DFTAG_NULL), rfl, rfl⟩) (by rw [N.dd_new])
  have hbold : ∀ ref x, f.blockExt ref = some x → f2.blockExt ref = some x := fun ref x hx => N.ext.blockExt N.wff hx
  have hold_ne : ∀ t idx', li.blockRef t idx' ≠ 0 → li.blockRef t idx' ≠ nr := by
    intro t idx' h0 he
    obtain ⟨_, _, o', ho'⟩ := P.wfl.ref_block t idx' h0
    obtain ⟨j', hk', _⟩ := blockExt_slot ho'
    exact hfresh j' (he ▸ hk')
  refine ⟨⟨P.wff0, P.wfl0, N.wff, ?wfls, P.g1, P.g2, P.g3, P.g4, ?ddk, Nat.le_trans P.end_le N.ext.end_le,
    by rw [N.ext.links, P.links], by rw [N.ext.ndds, P.ndds], by rw [setBlockRef_tables_length]; exact P.tables_le,
    ?rk, ?nex, ?nfr, ?byt, ?frm, ?cap, ?nsl, by rw [N.ext.present, P.present]⟩, by rw [hrefs, if_pos ⟨rfl, rfl⟩], hbnew⟩
  case wfls =>
    refine ⟨P.wfl.blk_pos, P.wfl.nb_pos, by rw [setBlockRef_tables_length]; exact P.wfl.tables_ne, ?_, ?_, ?_⟩
    · intro t ht'; rw [setBlockRef_tables_length] at ht'; rw [setBlockRef_table_len]; exact P.wfl.table_len t ht'
    · intro t idx' ht' hi' h0
      rw [setBlockRef_tables_length] at ht'
      rw [hrefs] at h0 ⊢
      by_cases hs : t = q.tbl ∧ idx' = q.idx
      · rw [if_pos hs]; obtain ⟨rfl, rfl⟩ := hs
        exact ⟨off, by rw [hbnew, hcur]; rfl⟩
      · rw [if_neg hs] at h0 ⊢
        obtain ⟨o', ho'⟩ := P.wfl.block_ok t idx' ht' hi' h0
        exact ⟨o', hbold _ _ ho'⟩
    · intro a b a' b' h0 he
      rw [hrefs] at h0 he
      rw [hrefs] at he
      by_cases hs : a = q.tbl ∧ b = q.idx
      · rw [if_pos hs] at he
        by_cases hs' : a' = q.tbl ∧ b' = q.idx
        · exact ⟨hs.1.trans hs'.1.symm, hs.2.trans hs'.2.symm⟩
        · rw [if_neg hs'] at he
          exact absurd he.symm (hold_ne a' b' (by rw [← he]; exact hnr0))
      · rw [if_neg hs] at h0 he
        by_cases hs' : a' = q.tbl ∧ b' = q.idx
        · rw [if_pos hs'] at he
          exact absurd he (hold_ne a b h0)
        · rw [if_neg hs'] at he
          exact P.wfl.inj a b a' b' h0 he
  case ddk =>
    intro j hj
    have hjl : f.live j := by unfold File.live; rw [P.dd_keep j hj]; exact hj
    rw [N.ext.dd_keep j hjl, P.dd_keep j hj]
  case rk =>
    intro t idx' h0
    rw [hrefs, if_neg, P.refs_keep t idx' h0]
    rintro ⟨rfl, rfl⟩
    exact h0 ((P.refs_keep _ _ h0).symm.trans href)
  case nex =>
    intro t idx' o l h0 h1 hx
    rw [hrefs] at h1 hx
    by_cases hs : t = q.tbl ∧ idx' = q.idx
    · rw [if_pos hs, hbnew] at hx
      cases hx
      exact Nat.le_trans P.end_le N.off_ge
    · rw [if_neg hs] at h1 hx
      obtain ⟨_, _, o', ho'⟩ := P.wfl.ref_block t idx' h1
      rw [hbold _ _ ho'] at hx
      cases hx
      exact P.new_ext t idx' o _ h0 h1 ho'
  case nfr =>
    intro t idx' h0 h1 j hk
    rw [hrefs] at h1 hk
    by_cases hs : t = q.tbl ∧ idx' = q.idx
    · rw [if_pos hs] at hk
      exact hfresh j (hasKey_of_dd_keep P.dd_keep hk)
    · rw [if_neg hs] at h1 hk
      exact P.new_fresh t idx' h0 h1 j hk
  case byt =>
    intro x
    rw [← P.bytes x]
    apply lbyte_of_blockByte (li' := li.setBlockRef q.tbl q.idx nr) P.wfl.blk_pos P.wfl.nb_pos rfl rfl rfl
    intro t idx' r _ hr
    rw [hrefs]
    by_cases hs : t = q.tbl ∧ idx' = q.idx
    · obtain ⟨rfl, rfl⟩ := hs
      rw [if_pos ⟨rfl, rfl⟩, href, blockByte_of_ext hnr0 hbnew, N.ext.rd_keep, P.wff.tail0 _ (Nat.le_trans N.off_ge (Nat.le_add_right _ _))]
      rfl
    · rw [if_neg hs]
      by_cases h0 : li.blockRef t idx' = 0
      · rw [h0]; rfl
      · obtain ⟨_, _, o', ho'⟩ := P.wfl.ref_block t idx' h0
        rw [blockByte_of_ext h0 ho', blockByte_of_ext h0 (hbold _ _ ho'), N.ext.rd_keep]
  case frm =>
    intro x hx hn
    rw [N.ext.rd_keep]; exact P.frame x hx hn
  case cap =>
    intro hp
    rw [setBlockRef_tables_length]
    exact P.cap hp
  case nsl =>
    intro j hj
    rcases N.ext.new_linked j hj with h1 | h1
    · rcases P.new_slots j h1 with h2 | h2
      · exact Or.inl h2
      · right; rw [N.ext.dd_keep j h1]; exact h2
    · exact Or.inr h1

theorem writePiece_step {f0 : File} {li0 : LinkInfo} {posn : Nat} {d : Bytes} {p : Nat} {f : File} {li : LinkInfo}
    (P : Prog f0 li0 posn d p f li) (q : Piece) (hidx : q.idx < li0.numBlocks)
    (hcur : q.cur = blockLenOf li0.firstLen li0.blockLen (q.tbl * li0.numBlocks + q.idx)) (hfit : q.rel + q.n ≤ q.cur)
    (hstart : blockStart li0.firstLen li0.blockLen (q.tbl * li0.numBlocks + q.idx) + q.rel = p) (hp : posn ≤ p)
    (c : Bytes) (hc : c.length = q.n) (hcd : ∀ k, k < q.n → c.getD k 0 = d.getD (p - posn + k) 0) :
    ∃ f' li', writePiece f li q c = some (f', li') ∧ Prog f0 li0 posn d (p + q.n) f' li' := by
  rw [writePiece_eq]
  have e := ensureTables_spec (q.tbl + 1) f li q.tbl P.wff P.wfl
  have P' := P.ensured e
  have ht : q.tbl < (ensureTables f li (q.tbl + 1) q.tbl).2.tables.length := e.reach (by omega)
  generalize ensureTables f li (q.tbl + 1) q.tbl = r at P' ht
  obtain ⟨f1, li1⟩ := r
  simp only at P' ht ⊢
  rw [← P'.g1, ← P'.g2, ← P'.g3] at hcur hstart
  rw [← P'.g3] at hidx
  rw [← hc] at hfit hcd ⊢
  have hno : ¬ (q.rel > q.cur ∨ q.rel + c.length > q.cur) := by omega
  unfold writeBlock
  by_cases href : li1.blockRef q.tbl q.idx = 0
  · have hfresh := tagNewRef_fresh f1 DFTAG_LINKED
    have hnr0 := tagNewRef_pos f1 DFTAG_LINKED
    have N := newElem_spec f1 P'.wff (f1.tagNewRef DFTAG_LINKED) q.cur hfresh
    have hb : (li1.blockRef q.tbl q.idx != 0) = false := by simp [href]
    simp only [hb, Bool.false_eq_true, if_false] at N ⊢
    generalize f1.tagNewRef DFTAG_LINKED = nr at N hfresh hnr0 ⊢
    generalize f1.ddCreate DFTAG_LINKED nr = cr at N ⊢
    obtain ⟨f2, i⟩ := cr
    generalize f2.setLength i q.cur = sl at N ⊢
    obtain ⟨f3, off⟩ := sl
    simp only [hno, if_false] at N ⊢
    obtain ⟨P2, hr2, hb2⟩ := P'.alloc q ht hidx hcur href hnr0 hfresh N
    rw [endOff_max_noop _ _ (by show off + q.rel + c.length ≤ f3.endOff; rw [N.end_eq]; omega)]
    exact ⟨_, _, rfl, P2.write q hp hcur hstart (by rw [hr2]; exact hnr0) (by rw [hr2]; exact hb2) c hfit hcd⟩
  · obtain ⟨_, _, o, ho⟩ := P'.wfl.ref_block q.tbl q.idx href
    rw [← hcur] at ho
    have hb : (li1.blockRef q.tbl q.idx != 0) = true := by simp [href]
    simp only [hb, if_true, ho, hno, if_false]
    exact ⟨_, _, rfl, P'.write q hp hcur hstart href ho c hfit hcd⟩

theorem getD_take_drop (d : Bytes) (a n k : Nat) (hk : k < n) : ((d.drop a).take n).getD k 0 = d.getD (a + k) 0 := by
  simp only [List.getD_eq_getElem?_getD, List.getElem?_take, hk, if_true, List.getElem?_drop]

theorem writePieces_spec {f0 : File} {li0 : LinkInfo} {posn : Nat} {d : Bytes} :
    ∀ (ps : List Piece) (p : Nat) (f : File) (li : LinkInfo), Prog f0 li0 posn d p f li → posn ≤ p →
      Tiles li0.firstLen li0.blockLen li0.numBlocks p ps (posn + d.length) →
      ∃ f' li', writePieces f li ps (d.drop (p - posn)) = some (f', li') ∧ Prog f0 li0 posn d (posn + d.length) f' li' := by
  intro ps
  induction ps with
  | nil =>
    intro p f li P _ ht
    simp only [Tiles] at ht
    subst ht
    exact ⟨f, li, rfl, P⟩
  | cons q rest ih =>
    intro p f li P hp ht
    simp only [Tiles] at ht
    obtain ⟨hidx, hcur, hn, hfit, hstart, hrest⟩ := ht
    have hle := tiles_le _ _ _ _ _ _ hrest
    have hc : ((d.drop (p - posn)).take q.n).length = q.n := by
      simp only [List.length_take, List.length_drop]; omega
    obtain ⟨f1, li1, h1, P1⟩ := writePiece_step P q hidx hcur hfit hstart hp _ hc
      (fun k hk => getD_take_drop d (p - posn) q.n k hk)
    obtain ⟨f2, li2, h2, P2⟩ := ih (p + q.n) f1 li1 P1 (by omega) hrest
    refine ⟨f2, li2, ?_, P2⟩
    simp only [writePieces, h1]
    rw [List.drop_drop]
    have : p - posn + q.n = p + q.n - posn := by omega
    rw [this]
    exact h2


theorem be32_length (n : Nat) : (be32 n).length = 4 := rfl

structure Written (f : File) (li : LinkInfo) (hs posn : Nat) (bs : Bytes) (f' : File) (li' : LinkInfo) : Prop where
  wff : WFF f'
  wfl : WFL f' li'
  g1 : li'.firstLen = li.firstLen
  g2 : li'.blockLen = li.blockLen
  g3 : li'.numBlocks = li.numBlocks
  len : li'.length = max li.length (posn + bs.length)
  dd_keep : ∀ j, f.live j → f'.dd j = f.dd j
  end_le : f.endOff ≤ f'.endOff
  links : f'.links = f.links
  ndds : f'.ndds = f.ndds
  refs_keep : ∀ t idx, li.blockRef t idx ≠ 0 → li'.blockRef t idx = li.blockRef t idx
  new_ext : ∀ t idx o l, li.blockRef t idx = 0 → li'.blockRef t idx ≠ 0 → f'.blockExt (li'.blockRef t idx) = some (o, l) → f.endOff ≤ o
  new_fresh : ∀ t idx, li.blockRef t idx = 0 → li'.blockRef t idx ≠ 0 → ∀ j, ¬ f.hasKey j DFTAG_LINKED (li'.blockRef t idx)
  bytes : ∀ i, f'.lbyte li' i = if posn ≤ i ∧ i < posn + bs.length then bs.getD (i - posn) 0 else f.lbyte li i
  frame : ∀ x ho hl, x < f.endOff → (f.dd hs).ext = some (ho, hl) →
    (∀ t idx o l, li.blockRef t idx ≠ 0 → f.blockExt (li.blockRef t idx) = some (o, l) → ¬ (o ≤ x ∧ x < o + l)) →
    ¬ (ho ≤ x ∧ x < ho + hl) → rd f'.disk x = rd f.disk x
  new_slots : ∀ j, f'.live j → f.live j ∨ (f'.dd j).tag = DFTAG_LINKED
  present : f'.present = f.present

/-- `HLPwrite` (`hblocks.c`), at any position: inside, at, or beyond the end (zero gap fill) -/
theorem hlpWrite_spec (f : File) (li : LinkInfo) (hw : WFF f) (hl : WFL f li) (hs posn : Nat) (bs : Bytes) (hbs : bs ≠ [])
    (hlive : f.live hs) (htag : baseTag (f.dd hs).tag ≠ DFTAG_LINKED) (ho hlen : Nat) (hext : (f.dd hs).ext = some (ho, hlen))
    (h6 : 6 ≤ hlen) :
    ∃ f' li', hlpWrite f li hs posn bs = (f', li', some bs.length) ∧ Written f li hs posn bs f' li' := by
  have hn : 1 ≤ bs.length := by cases bs with | nil => exact absurd rfl hbs | cons _ _ => simp
  unfold hlpWrite
  have h0 : ¬ (bs.length = 0) := by omega
  have hb : ¬ (li.blockLen = 0 ∨ li.numBlocks = 0) := by have := hl.blk_pos; have := hl.nb_pos; omega
  simp only [h0, hb, if_false]
  generalize hsb : startBlock li.firstLen li.blockLen posn = sb
  obtain ⟨b, rel, cur⟩ := sb
  simp only
  have P0 := Prog.init f li posn bs hw hl.toWFLs
  have e := ensureTables_spec (b / li.numBlocks + 1) f li (b / li.numBlocks) hw hl.toWFLs
  have P1 := P0.ensured e
  generalize ensureTables f li (b / li.numBlocks + 1) (b / li.numBlocks) = r at e P1
  obtain ⟨f1, li1⟩ := r
  simp only at e P1 ⊢
  have htiles := walk_tiles li.firstLen li.blockLen li.numBlocks posn bs.length hl.blk_pos hl.nb_pos hn
  obtain ⟨f2, li2, hwp, P2⟩ := writePieces_spec _ posn f1 li1 P1 (Nat.le_refl _) htiles
  rw [Nat.sub_self, List.drop_zero] at hwp
  rw [e.g1, e.g2, e.g3, hwp]
  simp only
  have hdd : f2.dd hs = f.dd hs := P2.dd_keep hs hlive
  rw [hdd, hext]
  simp only
  have h2 : ¬ (2 > hlen) := by omega
  have h6' : ¬ (6 > hlen) := by omega
  simp only [h2, h6', if_false]
  refine ⟨_, _, rfl, ?_⟩
  -- the element's blocks lie apart from the description record
  have hlive2 : f2.live hs := by unfold File.live; rw [hdd]; exact hlive
  have hhdr_le : ho + hlen ≤ f.endOff := hw.ext_le hs ho hlen hlive hext
  have hapart : ∀ t idx o l r, li2.blockRef t idx ≠ 0 → f2.blockExt (li2.blockRef t idx) = some (o, l) → r < l →
      ¬ (ho + 2 ≤ o + r ∧ o + r < ho + 2 + (be32 (max li2.length (posn + bs.length))).length) := by
    intro t idx o l r h0 hx hr
    obtain ⟨j, hjk, hje⟩ := blockExt_slot hx
    have hj : j ≠ hs := by
      intro e'
      subst e'
      have := hjk.2.1
      rw [hdd] at this
      exact htag this
    have := P2.wff.disj j hs o l ho hlen hj hjk.1 hlive2 hje (by rw [hdd]; exact hext) (o + r)
    rw [be32_length]
    omega
  have hlb : ∀ i, (f2.pwrite (ho + 2) (be32 (max li2.length (posn + bs.length)))).lbyte
      { li2 with length := max li2.length (posn + bs.length) } i = f2.lbyte li2 i := by
    intro i
    apply lbyte_congr P2.wfl rfl rfl rfl (fun _ _ => rfl) (fun _ _ _ _ hx => (pwrite_blockExt _ _ _ _).trans hx)
    intro t idx o l r h0 hx hr
    rw [pwrite_rd, if_neg (hapart t idx o l r h0 hx hr)]
  have hw3 : WFF (f2.pwrite (ho + 2) (be32 (max li2.length (posn + bs.length)))) :=
    pwrite_wff f2 P2.wff _ _ (by rw [be32_length]; have := P2.end_le; omega)
  refine ⟨hw3, ?_, P2.g1, P2.g2, P2.g3, by show max li2.length _ = _; rw [P2.g4], P2.dd_keep, P2.end_le, P2.links, P2.ndds,
    P2.refs_keep, P2.new_ext, P2.new_fresh, ?_, ?_, P2.new_slots, P2.present⟩
  · have hs' : WFLs (f2.pwrite (ho + 2) (be32 (max li2.length (posn + bs.length)))) { li2 with length := max li2.length (posn + bs.length) } := by
      have := P2.wfl.pwrite (ho + 2) (be32 (max li2.length (posn + bs.length)))
      exact ⟨this.blk_pos, this.nb_pos, this.tables_ne, this.table_len, this.block_ok, this.inj⟩
    refine ⟨hs', ?_, ?_⟩
    · show max li2.length (posn + bs.length) ≤ blockStart li2.firstLen li2.blockLen (li2.tables.length * li2.numBlocks)
      have c1 := P2.cap (by omega)
      have c2 : li2.length ≤ blockStart li2.firstLen li2.blockLen (li2.tables.length * li2.numBlocks) := by
        rw [P2.g4, P2.g1, P2.g2, P2.g3]
        exact Nat.le_trans hl.covers (cap_mono _ _ _ _ _ P2.tables_le)
      omega
    · intro i hi
      have hi' : max li2.length (posn + bs.length) ≤ i := hi
      rw [hlb, P2.bytes]
      have : ¬ (posn ≤ i ∧ i < posn + bs.length) := by omega
      rw [if_neg this]
      exact hl.zero_beyond i (by rw [P2.g4] at hi'; omega)
  · intro i; rw [hlb]; exact P2.bytes i
  · intro x ho' hl' hx hext' hn hnh
    rw [hext] at hext'
    simp only [Option.some.injEq, Prod.mk.injEq] at hext'
    rw [pwrite_rd, be32_length]
    have : ¬ (ho + 2 ≤ x ∧ x < ho + 2 + 4) := by omega
    rw [if_neg this]
    exact P2.frame x hx hn

end H4.Elem
