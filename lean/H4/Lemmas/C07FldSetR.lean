import H4.Lemmas.C07FldSetW
/-! `VSsetfields`, the read-list branch (`l5_loop`: it follows `buildRList.go`), the entry tests and the pieces around the two branches,
    the whole function in its three cases (nothing applies / write list / read list), and the result: behind `scanattrs` it computes
    the model `VS.setFieldsTok` on the C image `VsImg` of a model vdata (`sf_model`). -/
namespace H4.Lemmas.C07Fld
open H4.Gen.Fn.Dfconv H4.Gen.Fn.Vsfld H4.VData H4.Gen.Hdf H4.Gen.Vs H4.C2L H4.VsfldEnc

theorem l6_body (fuel : Nat) (s : VSsetfields.St) (hcl : SfClean s) (w : WList) (hn : ∀ f ∈ w.fields, NameOK f.name)
    (nm : String) (hnm : NameOK nm) (pad : List Int)
    (hav : s.av.getD (Int.toNat s.i) [] = chars nm ++ 0 :: pad) (hi : 0 ≤ s.i ∧ s.i < s.av.length)
    (u1 : s.vs_wlist_name = wNames w) (j0 : Nat) (hj : s.j = j0) (hj0 : j0 < w.fields.length)
    (hc : 0 ≤ s.vs_rlist_n ∧ s.vs_rlist_n < s.vs_rlist_item.length) :
    VSsetfields.loop6.body fuel s = if (w.fields.getD j0 default).name = nm then
        { s with found := 1, vs_rlist_item := s.vs_rlist_item.set (Int.toNat s.vs_rlist_n) s.j, vs_rlist_n := s.vs_rlist_n + 1, brk := true }
      else { s with j := s.j + 1, cnt := false } := by
  obtain ⟨h1, h2, h3⟩ := hcl
  obtain ⟨r, hr, hr0⟩ := strcmp_names nm (w.fields.getD j0 default).name hnm (hn _ (by simp [hj0])) pad []
  have hrow : (wNames w).getD j0 [] = chars (w.fields.getD j0 default).name ++ 0 :: [] := by simp [wNames, hj0, cstr]
  have ln : (wNames w).length = w.fields.length := by simp [wNames]
  have a2 : (0 : Int) ≤ j0 ∧ (j0 : Int) < w.fields.length := by omega
  cases s
  simp only at h1 h2 h3 hav hi u1 hj hc
  subst h1 h2 h3 u1 hj
  split
  · obtain rfl : r = 0 := hr0.mpr (by symm; assumption)
    simp only [VSsetfields.loop6.body, c2l_st, ↓reduceIte, hav, hi, hrow, hr, ln, a2, hc]
  · have hr' : ¬ r = 0 := fun h => by rename_i hne; exact hne (hr0.mp h).symm
    simp only [VSsetfields.loop6.body, c2l_st, ↓reduceIte, hav, hi, hrow, hr, ln, a2, hr']

theorem l6_scan (w : WList) (hn : ∀ f ∈ w.fields, NameOK f.name) (nm : String) (hnm : NameOK nm) (pad : List Int)
    (fuel : Nat) (s : VSsetfields.St) (hf : w.fields.length ≤ fuel) (hcl : SfClean s)
    (hav : s.av.getD (Int.toNat s.i) [] = chars nm ++ 0 :: pad) (hi : 0 ≤ s.i ∧ s.i < s.av.length)
    (u1 : s.vs_wlist_name = wNames w) (hwn : s.vs_wlist_n = w.n) (hc : 0 ≤ s.vs_rlist_n ∧ s.vs_rlist_n < s.vs_rlist_item.length) :
    match w.fields.findIdx? (·.name == nm) with
    | none => VSsetfields.loop6 fuel (s.set_j 0) = s.set_j w.fields.length
    | some d => VSsetfields.loop6 fuel (s.set_j 0) =
        { s with j := d, found := 1, vs_rlist_item := s.vs_rlist_item.set (Int.toNat s.vs_rlist_n) d, vs_rlist_n := s.vs_rlist_n + 1, brk := true } := by
  have pass : ∀ (k f : Nat) (h : k < w.fields.length), _ := fun k f h => l6_body f (s.set_j k) hcl w hn nm hnm pad hav hi u1 k rfl h hc
  exact IsLoop.first_hit (L := VSsetfields.loop6) (.of_eqs (fun _ => rfl) (fun _ _ => rfl)) w.fields (·.name == nm) (fun k => s.set_j k)
    (fun d r => r = { s with j := d, found := 1, vs_rlist_item := s.vs_rlist_item.set (Int.toNat s.vs_rlist_n) d,
                             vs_rlist_n := s.vs_rlist_n + 1, brk := true })
    (fun k hk => ⟨by show (k : Int) < s.vs_wlist_n; rw [hwn, WList.n]; omega, by show ¬ (s.gto = true ∨ s.brk = true); simp [hcl.1, hcl.2.1]⟩)
    (fun h => by have : (w.fields.length : Int) < s.vs_wlist_n := h.1; rw [hwn, WList.n] at this; omega)
    (fun k f h hp => by
      rw [pass k f h, if_neg (by simpa [h] using hp)]
      exact st_j_next s hcl.2.2 k)
    (fun d f h _ hp => by rw [pass d f h, if_pos (by simpa [h] using hp)]; exact ⟨fun hc => hc.2 (.inr rfl), rfl⟩)
    hf

theorem l5_tail (fuel : Nat) (s R : VSsetfields.St) (hR : VSsetfields.loop6 fuel ((s.set_found 0).set_j 0) = R)
    (hg : R.gto = false) (hc : R.cnt = false) :
    VSsetfields.loop5.body fuel s = if R.found = 0 then { R with brk := false, ret_value := -1, gto := true } else { R with brk := false, i := R.i + 1 } := by
  simp only [VSsetfields.loop5.body, hR]
  by_cases hf : R.found = 0 <;> cases R <;> subst hg hc <;> simp only at hf <;> simp only [c2l_st, hf, ↓reduceIte, or_false, Int.reduceNeg]
/-- as `sfFrame`, for the read-list loop -/
def rFrame (s : VSsetfields.St) : VSsetfields.St :=
  { s with found := 0, j := 0, i := 0, uj := 0, order := 0, value := 0, ret_value := 0, vs_rlist_n := 0, vs_rlist_item := [],
           vs_rlist_item_null := false, ub := false, oof := false, ret := 0, gto := false, brk := false, cnt := false }

/-- invariant of the read-list loop: the indices `items` (in order) are in `rlist.item` -/
structure RInv (ac : Nat) (s0 : VSsetfields.St) (items : List Nat) (s : VSsetfields.St) : Prop where
  fr : rFrame s = rFrame s0
  cl : SfClean s
  hub : s.ub = false
  hoof : s.oof = false
  rv : s.ret_value = -1
  hi : s.i = items.length
  hn : s.vs_rlist_n = items.length
  hl : s.vs_rlist_item.length = ac
  cells : ∀ j, j < items.length → s.vs_rlist_item.getD j 0 = ((items.getD j 0 : Nat) : Int)

structure REnv (w : WList) (names : List String) (pads : List (List Int)) (s0 : VSsetfields.St) : Prop extends AvIn names pads s0 where
  hw : ∀ f ∈ w.fields, NameOK f.name
  hwn : s0.vs_wlist_name = wNames w
  hwl : s0.vs_wlist_n = w.n

/-- the read-list loop was left by `goto done`: the items found so far stay in the read list -/
def RFail (s0 : VSsetfields.St) (items : List Nat) (r : VSsetfields.St) : Prop :=
  r.gto = true ∧ r.brk = false ∧ r.cnt = false ∧ r.ret_value = -1 ∧ rFrame r = rFrame s0 ∧ r.ub = false ∧ r.oof = false ∧ RlImg items r

theorem l5_body {w : WList} {names : List String} {pads : List (List Int)} {s0 s : VSsetfields.St} {items : List Nat}
    (E : REnv w names pads s0) (I : RInv names.length s0 items s) (hk : items.length < names.length) (fuel : Nat) (hf : w.fields.length ≤ fuel) :
    if w.fields.findIdx (·.name == names.getD items.length "") < w.fields.length
    then RInv names.length s0 (items ++ [w.fields.findIdx (·.name == names.getD items.length "")]) (VSsetfields.loop5.body fuel s)
    else RFail s0 items (VSsetfields.loop5.body fuel s) := by
  obtain ⟨h1, h2, h3⟩ := I.cl
  obtain ⟨⟨hpl, hnames, hav, hac⟩, hw, hwn, hwl⟩ := E
  have a2 : s.ac = s0.ac := congrArg (·.ac) I.fr
  have b1 : s.vs_wlist_n = s0.vs_wlist_n := congrArg (·.vs_wlist_n) I.fr
  have d1 : s.av = s0.av := congrArg (·.av) I.fr
  have d2 : s.vs_wlist_name = s0.vs_wlist_name := congrArg (·.vs_wlist_name) I.fr
  have hscan := l6_scan w hw (names.getD items.length "") (hnames _ (by simp [hk])) (pads.getD items.length []) fuel (s.set_found 0) hf ⟨h1, h2, h3⟩
    (by show s.av.getD (Int.toNat s.i) [] = _; rw [d1, hav, I.hi]; simpa using avRows_getD names pads hpl items.length hk)
    (by show 0 ≤ s.i ∧ s.i < (s.av.length : Int); rw [d1, hav, I.hi, avRows_length _ _ hpl]; omega)
    (by show s.vs_wlist_name = _; rw [d2, hwn]) (by show s.vs_wlist_n = _; rw [b1, hwl])
    (by show 0 ≤ s.vs_rlist_n ∧ s.vs_rlist_n < (s.vs_rlist_item.length : Int); rw [I.hn, I.hl]; omega)
  rw [findIdx_getD]
  cases hd : w.fields.findIdx? (·.name == names.getD items.length "") with
  | none =>
    rw [hd] at hscan
    simp only [Option.getD_none, Nat.lt_irrefl, if_false]
    rw [l5_tail fuel s _ hscan (by exact h1) (by exact h3), if_pos (by rfl)]
    exact ⟨rfl, rfl, h3, rfl, I.fr, I.hub, I.hoof, I.hn, I.cells⟩
  | some d =>
    rw [hd] at hscan
    have hdlt : d < w.fields.length := (List.findIdx?_eq_some_iff_getElem.mp hd).1
    simp only [Option.getD_some, if_pos hdlt]
    rw [l5_tail fuel s _ hscan (by exact h1) (by exact h3), if_neg (by show ¬ (1 : Int) = 0; decide)]
    refine ⟨I.fr, ⟨h1, rfl, h3⟩, I.hub, I.hoof, I.rv, ?_, ?_, ?_, ?_⟩
    · show s.i + 1 = _; rw [I.hi]; simp
    · show s.vs_rlist_n + 1 = _; rw [I.hn]; simp
    · show (s.vs_rlist_item.set _ _).length = _; simp [I.hl]
    · intro j hj
      show (s.vs_rlist_item.set (Int.toNat s.vs_rlist_n) (d : Int)).getD j 0 = _
      simp only [List.length_append, List.length_singleton] at hj
      rw [show Int.toNat s.vs_rlist_n = items.length by rw [I.hn]; simp]
      by_cases e : j = items.length
      · subst e
        rw [getD_set_self _ _ _ _ (by rw [I.hl]; exact hk)]
        simp
      · have hj' : j < items.length := by omega
        rw [getD_set_ne _ _ _ _ _ (by omega), I.cells j hj']
        simp [List.getD_eq_getElem?_getD, List.getElem?_append_left hj']

theorem l5_loop {w : WList} {names : List String} {pads : List (List Int)} {s0 : VSsetfields.St} (E : REnv w names pads s0)
    (fuel : Nat) (s : VSsetfields.St) (items : List Nat) (I : RInv names.length s0 items s) (hn : items.length ≤ names.length)
    (hf : names.length - items.length + w.fields.length ≤ fuel) :
    if (buildRList.go w (names.drop items.length) items.reverse).2 = true
    then RInv names.length s0 (buildRList.go w (names.drop items.length) items.reverse).1 (VSsetfields.loop5 fuel s) ∧
      (buildRList.go w (names.drop items.length) items.reverse).1.length = names.length
    else RFail s0 (buildRList.go w (names.drop items.length) items.reverse).1 (VSsetfields.loop5 fuel s) := by
  have ac_eq : ∀ {items t}, RInv names.length s0 items t → t.ac = names.length := fun I => by
    exact (show _ = s0.ac from congrArg (·.ac) I.fr).trans E.hac
  refine (IsLoop.of_eqs (L := VSsetfields.loop5) (fun _ => rfl) (fun _ _ => rfl)).spec (ι := List Nat ⊕ List Nat)
    (Sum.elim (fun items => names.length - items.length + w.fields.length) fun _ => 0)
    (fun i t => match i with | .inl items => RInv names.length s0 items t ∧ items.length ≤ names.length | .inr items => RFail s0 items t)
    (fun i _ r => match i with
      | .inl items => if (buildRList.go w (names.drop items.length) items.reverse).2 = true
          then RInv names.length s0 (buildRList.go w (names.drop items.length) items.reverse).1 r ∧
            (buildRList.go w (names.drop items.length) items.reverse).1.length = names.length
          else RFail s0 (buildRList.go w (names.drop items.length) items.reverse).1 r
      | .inr items => RFail s0 items r)
    ?_ fuel (.inl items) s hf ⟨I, hn⟩
  intro i t hp
  cases i with
  | inr items => exact .inl ⟨fun hc => hc.2 (.inl hp.1), hp⟩
  | inl items =>
    obtain ⟨I, hn⟩ := hp
    obtain ⟨h1, h2, h3⟩ := I.cl
    by_cases hk : items.length < names.length
    · refine .inr ⟨⟨by rw [I.hi, ac_eq I]; omega, by simp [h1, h2]⟩, fun f hf => ?_⟩
      have hb := l5_body E I hk f (by simp only [Sum.elim_inl] at hf; omega)
      have hdrop : names.drop items.length = names.getD items.length "" :: names.drop (items.length + 1) := by
        rw [List.drop_eq_getElem_cons hk]; simp [hk]
      by_cases c : w.fields.findIdx (·.name == names.getD items.length "") < w.fields.length
      · rw [if_pos c] at hb
        refine ⟨.inl (items ++ [_]), ?_, ⟨hb, by rw [List.length_append]; exact hk⟩, fun r hr => ?_⟩
        · simp only [Sum.elim_inl, List.length_append, List.length_singleton]; omega
        · simp only [List.length_append, List.length_singleton, List.reverse_append, List.reverse_singleton, List.singleton_append] at hr
          simp only [hdrop, buildRList.go, if_pos c]
          exact hr
      · rw [if_neg c] at hb
        refine ⟨.inr items, ?_, hb, fun r hr => ?_⟩
        · simp only [Sum.elim_inl, Sum.elim_inr]; omega
        · simp only [hdrop, buildRList.go, if_neg c, List.reverse_reverse, Bool.false_eq_true, if_false]
          exact hr
    · have hl : items.length = names.length := by omega
      refine .inl ⟨fun hc => by have := hc.1; rw [I.hi, ac_eq I] at this; omega, ?_⟩
      simp only [List.drop_eq_nil_of_le (Nat.le_of_eq hl.symm), buildRList.go, List.reverse_reverse, if_true]
      exact ⟨I, hl⟩

/-- the entry tests of `VSsetfields`: field list not NULL, a vdata key, instance and vdata present, `scanattrs` delivered 1 ..
    `VSFIELDMAX` names -/
def SfOk (s : VSsetfields.St) : Prop :=
  s.fields_null = false ∧ s.vkey_group = 4 ∧ s.w_null = false ∧ s.vs_null = false ∧ s.scan_ret ≠ -1 ∧ s.ac ≠ 0 ∧ s.ac ≤ 256

instance (s : VSsetfields.St) : Decidable (SfOk s) := by unfold SfOk; infer_instance

theorem SfOk.ac {s : VSsetfields.St} (h : SfOk s) : s.ac ≠ 0 ∧ s.ac ≤ 256 := ⟨h.2.2.2.2.2.1, h.2.2.2.2.2.2⟩

theorem not_sfOk_iff (s : VSsetfields.St) : ¬ SfOk s ↔ (s.fields_null = true ∨ s.vkey_group ≠ 4 ∨ s.w_null = true ∨ s.vs_null = true ∨
    s.scan_ret = -1 ∨ s.ac = 0 ∨ s.ac > 256) := by
  unfold SfOk
  cases s.fields_null <;> cases s.w_null <;> cases s.vs_null <;> simp
  omega

theorem sfChk_spec (fuel : Nat) (s : VSsetfields.St) (hcl : SfClean s) :
    sfChk fuel s = if SfOk s then { s with building := 0, ret_value := -1 } else { s with building := 0, ret_value := -1, gto := true } := by
  obtain ⟨h1, h2, h3⟩ := hcl
  simp only [sfChk, SfOk]
  by_cases c1 : s.fields_null = true
  · simp [c1, h2, h3]
  · have c1' : s.fields_null = false := by simpa using c1
    by_cases c2 : s.vkey_group = 4
    · by_cases c3 : s.w_null = true
      · simp [c1', c2, c3, h1, h2, h3]
      · have c3' : s.w_null = false := by simpa using c3
        by_cases c4 : s.vs_null = true
        · simp [c1', c2, c3', c4, h1, h2, h3]
        · have c4' : s.vs_null = false := by simpa using c4
          by_cases c5 : s.scan_ret = -1 ∨ s.ac = 0
          · have : ¬ (s.scan_ret ≠ -1 ∧ s.ac ≠ 0 ∧ s.ac ≤ 256) := by omega
            simp [c1', c2, c3', c4', c5, this, h1, h2, h3]
          · by_cases c6 : s.ac > 256
            · have : ¬ (s.scan_ret ≠ -1 ∧ s.ac ≠ 0 ∧ s.ac ≤ 256) := by omega
              simp [c1', c2, c3', c4', c5, c6, this, h1, h2, h3]
            · have : (s.scan_ret ≠ -1 ∧ s.ac ≠ 0 ∧ s.ac ≤ 256) := by omega
              simp [c1', c2, c3', c4', c6, this, h1, h2, h3]
    · simp [c1', c2, h1, h2, h3]

theorem sfBuild_gto (fuel : Nat) (s : VSsetfields.St) (h : s.gto = true) : sfBuild fuel s = s := by simp [sfBuild, h]

theorem sfBuild_skip (fuel : Nat) (s : VSsetfields.St) (h : ¬ (s.vs_access = 119 ∧ s.vs_nvertices = 0 ∧ s.vs_wlist_n = 0)) :
    sfBuild fuel s = s := by
  unfold sfBuild
  split
  · rfl
  · split
    · split
      · split
        · rename_i a b c; exact absurd ⟨a, b, c⟩ h
        · rfl
      · rfl
    · rfl

theorem sfBuild_run (fuel : Nat) (s : VSsetfields.St) (hcl : SfClean s) (h : s.vs_access = 119 ∧ s.vs_nvertices = 0 ∧ s.vs_wlist_n = 0) :
    sfBuild fuel s = sfBFin fuel (sfBOffs fuel (sfBFields fuel (sfBFlag fuel (sfBNull fuel (sfBInit fuel s))))) := by
  obtain ⟨h1, h2, h3⟩ := hcl
  unfold sfBuild
  rw [if_neg (by simp [h1, h2, h3]), if_pos h.1, if_pos h.2.1, if_pos h.2.2]

theorem sfRead_gto (fuel : Nat) (s : VSsetfields.St) (h : s.gto = true) : sfRead fuel s = s := by simp [sfRead, h]

theorem sfRead_skip (fuel : Nat) (s : VSsetfields.St) (h : ¬ (s.vs_nvertices > 0)) : sfRead fuel s = s := by
  simp only [sfRead]
  split
  · rfl
  · rfl

/-- the state behind the allocation of the read-list branch (not initialised: 170) -/
@[reducible] def rlAlloc (s : VSsetfields.St) (ac : Nat) : VSsetfields.St :=
  { s with vs_rlist_n := 0, vs_rlist_item := List.replicate ac 170, vs_rlist_item_null := false, i := 0 }

theorem sfRead_run (fuel : Nat) (s : VSsetfields.St) (hcl : SfClean s) (h : s.vs_nvertices > 0) (ac : Nat) (hac : s.ac = ac) (hle : ac < 2147483648) :
    sfRead fuel s =
      if (VSsetfields.loop5 fuel (rlAlloc s ac)).gto = true ∨ (VSsetfields.loop5 fuel (rlAlloc s ac)).cnt = true
      then VSsetfields.St.set_brk (VSsetfields.loop5 fuel (rlAlloc s ac)) false
      else { VSsetfields.St.set_brk (VSsetfields.loop5 fuel (rlAlloc s ac)) false with ret_value := 0 } := by
  obtain ⟨h1, h2, h3⟩ := hcl
  have e2 : Int.tdiv ((4 * ((ac : Int) % 18446744073709551616)) % 18446744073709551616) 4 = (ac : Int) := by
    rw [(H4.C2L.malloc_cells 4 (ac : Int) (by omega) (by omega) (by omega)).1]
  cases s
  simp only at h1 h2 h3 hac h
  subst h1 h2 h3 hac
  simp only [sfRead, e2, Bool.false_eq_true, or_self, if_false, if_pos h,
    sf_chk_true _ _ (show (0 : Int) ≤ (ac : Int) by omega), Int.toNat_natCast]
  generalize VSsetfields.loop5 fuel _ = L
  by_cases g : L.gto = true
  · simp [g]
  · have g' : L.gto = false := by simpa using g
    by_cases c : L.cnt = true
    · simp [g', c]
    · have c' : L.cnt = false := by simpa using c
      simp [g', c']

theorem sfDone_spec (fuel : Nat) (s : VSsetfields.St) :
    sfDone fuel s = if s.building ≠ 0 then
      { VSsetfields.St.set_brk (VSsetfields.loop7 fuel { s with gto := false, i := 0 }) false with vs_wlist_name := [], vs_wlist_name_null := true, vs_wlist_bptr := [], vs_wlist_bptr_null := true, vs_wlist_n := 0, vs_wlist_ivsize := 0 }
      else { s with gto := false } := by
  simp only [sfDone]
  split <;> rfl

theorem sfRet_spec (fuel : Nat) (s : VSsetfields.St) (hcl : SfClean s) : sfRet fuel s = { s with ret := s.ret_value } := by
  obtain ⟨h1, h2, h3⟩ := hcl
  simp [sfRet, h1, h2, h3]

/-- the vdata members of a state of the translated `VSsetfields` are the C image of the model vdata `v`: access mode, record count,
    write list (the five arrays inside `bptr`; `bptr`, `name` are NULL exactly when there is no field), user symbols, read list
    (`rlist.item` may be longer than `rlist.n`) -/
structure VsImg (v : VS) (s : VSsetfields.St) : Prop where
  acc : s.vs_access = 119 ↔ v.writable = true
  nv : s.vs_nvertices = v.nvertices
  wn : s.vs_wlist_n = v.w.n
  wiv : s.vs_wlist_ivsize = v.w.ivsize
  wb : s.vs_wlist_bptr = wBptr v.w
  wnm : s.vs_wlist_name = wNames v.w
  wbn : s.vs_wlist_bptr_null = v.w.fields.isEmpty
  wnn : s.vs_wlist_name_null = v.w.fields.isEmpty
  cur : v.w.fields ≠ [] → s.vs_wlist_type_i = 0 ∧ s.vs_wlist_off_i = v.w.n ∧ s.vs_wlist_isize_i = 2 * v.w.n ∧
    s.vs_wlist_order_i = 3 * v.w.n ∧ s.vs_wlist_esize_i = 4 * v.w.n
  u1 : s.vs_usym_name = nameRows v.usym
  u2 : s.vs_usym_type = typeCol v.usym
  u3 : s.vs_usym_isize = isizeCol v.usym
  u4 : s.vs_usym_order = orderCol v.usym
  un : s.vs_nusym = v.usym.length
  rn : s.vs_rlist_n = v.rlist.length
  ri : ∀ j, j < v.rlist.length → s.vs_rlist_item.getD j 0 = ((v.rlist.getD j 0 : Nat) : Int)

theorem VsImg.wl {v : VS} {s : VSsetfields.St} (I : VsImg v s) : WlImg v.w s := ⟨I.wn, I.wiv, I.wb, I.wnm, I.wbn, I.wnn, I.cur⟩
theorem VsImg.us {v : VS} {s : VSsetfields.St} (I : VsImg v s) : UsymImg v.usym s := ⟨I.u1, I.u2, I.u3, I.u4, I.un⟩
theorem VsImg.rl {v : VS} {s : VSsetfields.St} (I : VsImg v s) : RlImg v.rlist s := ⟨I.rn, I.ri⟩

theorem VsImg.of_parts {v : VS} {s : VSsetfields.St} (acc : s.vs_access = 119 ↔ v.writable = true) (nv : s.vs_nvertices = v.nvertices)
    (W : WlImg v.w s) (U : UsymImg v.usym s) (R : RlImg v.rlist s) : VsImg v s :=
  ⟨acc, nv, W.wn, W.wiv, W.wb, W.wnm, W.wbn, W.wnn, W.cur, U.u1, U.u2, U.u3, U.u4, U.un, R.rn, R.ri⟩

theorem sf_untouched (fuel : Nat) (s0 : VSsetfields.St) (hcl : SfClean s0)
    (h : ¬ SfOk s0 ∨ (¬ (s0.vs_access = 119 ∧ s0.vs_nvertices = 0 ∧ s0.vs_wlist_n = 0) ∧ ¬ (s0.vs_nvertices > 0))) :
    sfRun fuel s0 = { s0 with building := 0, ret_value := -1, ret := -1 } := by
  obtain ⟨h1, h2, h3⟩ := hcl
  rw [sfRun, sfChk_spec fuel s0 ⟨h1, h2, h3⟩]
  by_cases c : SfOk s0
  · rw [if_pos c]
    have h' := h.resolve_left (fun hn => hn c)
    rw [sfBuild_skip _ _ (by exact h'.1), sfRead_skip _ _ (by exact h'.2), sfDone_spec, if_neg (by simp),
      sfRet_spec _ _ (by exact ⟨rfl, h2, h3⟩)]
    cases s0; simp_all
  · rw [if_neg c, sfBuild_gto _ _ (by rfl), sfRead_gto _ _ (by rfl), sfDone_spec, if_neg (by simp), sfRet_spec _ _ (by exact ⟨rfl, h2, h3⟩)]
    cases s0; simp_all

theorem sfRun_ok (fuel : Nat) (s0 : VSsetfields.St) (hcl : SfClean s0) (hok : SfOk s0) :
    sfRun fuel s0 = sfRet fuel (sfDone fuel (sfRead fuel (sfBuild fuel { s0 with building := 0, ret_value := -1 }))) := by
  rw [sfRun, sfChk_spec fuel s0 hcl, if_pos hok]

theorem sf_build_case (usym : List SymDef) (names : List String) (pads : List (List Int)) (fuel : Nat) (s0 : VSsetfields.St)
    (hcl : SfClean s0) (hub : s0.ub = false) (hoof : s0.oof = false) (hok : SfOk s0)
    (hb : s0.vs_access = 119 ∧ s0.vs_nvertices = 0 ∧ s0.vs_wlist_n = 0) (N : SfIn usym names pads s0)
    (hf : names.length + usym.length + 9 ≤ fuel) :
    let r := sfRun fuel s0
    r.ub = false ∧ r.oof = false ∧ sfRest r = sfRest s0 ∧
    match buildWList usym names with
    | some w => r.ret = 0 ∧ r.vs_marked = 1 ∧ r.vs_new_h_sz = 1 ∧ WlImg w r
    | none => r.ret = -1 ∧ r.vs_marked = s0.vs_marked ∧ r.vs_new_h_sz = s0.vs_new_h_sz ∧ WlImg {} r := by
  intro r
  obtain ⟨h1, h2, h3⟩ := hcl
  have hr : r = _ := sfRun_ok fuel s0 ⟨h1, h2, h3⟩ hok
  set s1 : VSsetfields.St := { s0 with building := 0, ret_value := -1 } with hs1
  have hac := N.hac
  have hn2 : names.length ≤ 256 := by have := hok.ac.2; omega
  have hn0 : names ≠ [] := fun h => hok.ac.1 (by rw [hac, h]; rfl)
  rw [sfBuild_run fuel s1 ⟨h1, h2, h3⟩ hb] at hr
  have hin := sfBuild_inner usym names pads fuel s1 ⟨h1, h2, h3⟩ hub hoof rfl (N.of_eq rfl rfl rfl) hn0 hn2 hf
  simp only at hin
  set R := sfBFin fuel (sfBOffs fuel (sfBFields fuel (sfBFlag fuel (sfBNull fuel (sfBInit fuel s1))))) with hR
  obtain ⟨g1, g2, g3, g4, g5, g6, g7⟩ := hin
  clear hR
  clear_value R
  rw [sfRead_gto _ _ g1, sfDone_spec] at hr
  cases hbw : buildWList usym names with
  | some w =>
    rw [hbw] at g7
    simp only at g7 ⊢
    obtain ⟨q1, q2, q3, q4, W⟩ := g7
    rw [if_neg (by rw [q2]; simp), sfRet_spec _ _ (by exact ⟨rfl, g2, g3⟩)] at hr
    rw [hr]
    exact ⟨g4, g5, g6, q1, q3, q4, W.of_eq rfl⟩
  | none =>
    rw [hbw] at g7
    simp only at g7 ⊢
    obtain ⟨q1, q2, q3, q4⟩ := g7
    rw [if_pos (by rw [q2]; simp)] at hr
    rw [sf_loop7_run fuel (R.set_gto false) names.length (by omega) ((congrArg (·.ac) g6).trans hac) ⟨rfl, g2, g3⟩] at hr
    rw [sfRet_spec _ _ (by exact ⟨rfl, rfl, g3⟩)] at hr
    rw [hr]
    exact ⟨g4, g5, g6, q1, q3, q4, rfl, rfl, rfl, rfl, rfl, rfl, fun h => absurd rfl h⟩

theorem sf_read_case (w : WList) (names : List String) (pads : List (List Int)) (fuel : Nat) (s0 : VSsetfields.St)
    (hcl : SfClean s0) (hub : s0.ub = false) (hoof : s0.oof = false) (hok : SfOk s0) (hnv : s0.vs_nvertices > 0)
    (E : REnv w names pads s0) (hf : names.length + w.fields.length ≤ fuel) :
    let r := sfRun fuel s0
    r.ub = false ∧ r.oof = false ∧ rFrame r = rFrame { s0 with building := 0 } ∧
    r.ret = (if (buildRList w names).2 = true then 0 else -1) ∧ RlImg (buildRList w names).1 r := by
  intro r
  obtain ⟨h1, h2, h3⟩ := hcl
  have hr : r = _ := sfRun_ok fuel s0 ⟨h1, h2, h3⟩ hok
  set s1 : VSsetfields.St := { s0 with building := 0, ret_value := -1 } with hs1
  have hac := E.hac
  have hn2 : names.length ≤ 256 := by have := hok.ac.2; omega
  rw [sfBuild_skip fuel s1 (by intro hc; have : s0.vs_nvertices = 0 := hc.2.1; omega)] at hr
  rw [sfRead_run fuel s1 ⟨h1, h2, h3⟩ hnv names.length hac (by omega)] at hr
  set s2 : VSsetfields.St := rlAlloc s1 names.length with hs2
  have I0 : RInv names.length s2 [] s2 := ⟨rfl, ⟨h1, h2, h3⟩, hub, hoof, rfl, rfl, rfl, by show (List.replicate names.length (170 : Int)).length = _; simp,
    fun j hj => by simp at hj⟩
  have hloop := l5_loop (s0 := s2) ⟨E.toAvIn.of_eq rfl rfl, E.hw, E.hwn, E.hwl⟩ fuel s2 [] I0 (Nat.zero_le _) (by simp only [List.length_nil]; omega)
  simp only [List.length_nil, List.drop_zero, List.reverse_nil] at hloop
  have hbr : buildRList w names = buildRList.go w names [] := rfl
  rw [hbr]
  set L := VSsetfields.loop5 fuel s2 with hL
  have hfr12 : rFrame s2 = rFrame { s0 with building := 0 } := rfl
  by_cases ok : (buildRList.go w names []).2 = true
  · rw [if_pos ok] at hloop ⊢
    obtain ⟨I, hlen⟩ := hloop
    obtain ⟨k1, k2, k3⟩ := I.cl
    rw [if_neg (by rw [k1, k3]; simp), sfDone_spec] at hr
    have hbz : L.building = 0 := congrArg (·.building) I.fr
    rw [if_neg (by show ¬ (L.building ≠ 0); rw [hbz]; simp), sfRet_spec _ _ (by exact ⟨rfl, rfl, k3⟩)] at hr
    rw [hr]
    exact ⟨I.hub, I.hoof, I.fr.trans hfr12, rfl, I.hn, I.cells⟩
  · rw [if_neg ok] at hloop ⊢
    obtain ⟨g1, g2, g3, g4, g5, g6, g7, g8, g9⟩ := hloop
    rw [if_pos (Or.inl g1), sfDone_spec] at hr
    have hbz : L.building = 0 := congrArg (·.building) g5
    rw [if_neg (by show ¬ (L.building ≠ 0); rw [hbz]; simp), sfRet_spec _ _ (by exact ⟨rfl, rfl, g3⟩)] at hr
    rw [hr]
    exact ⟨g6, g7, g5.trans hfr12, g4, g8, g9⟩

theorem VsImg.untouched {v : VS} {s : VSsetfields.St} (I : VsImg v s) : VsImg v { s with building := 0, ret_value := -1, ret := -1 } :=
  ⟨I.acc, I.nv, I.wn, I.wiv, I.wb, I.wnm, I.wbn, I.wnn, I.cur, I.u1, I.u2, I.u3, I.u4, I.un, I.rn, I.ri⟩

theorem VsImg.of_rFrame {v : VS} {s r : VSsetfields.St} {items : List Nat} (I : VsImg v s) (h : rFrame r = rFrame s) (R : RlImg items r) :
    VsImg { v with rlist := items } r :=
  .of_parts ((congrArg (·.vs_access = 119) h).to_iff.trans I.acc) ((congrArg (·.vs_nvertices) h).trans I.nv) (I.wl.of_eq (congrArg wlOf h :))
    (I.us.of_eq (congrArg usOf h :)) R

/-- **`VSsetfields` (behind `scanattrs`) computes `VS.setFieldsTok`**: for every model vdata `v` whose C image the entry state `s0`
    holds, every list of names delivered by `scanattrs` -/
theorem sf_model (v : VS) (names : List String) (pads : List (List Int)) (fuel : Nat) (s0 : VSsetfields.St)
    (hus : ∀ sd ∈ v.usym, sd.Valid ∧ NameOK sd.name) (hwf : ∀ f ∈ v.w.fields, NameOK f.name) (hw0 : v.w.n = 0 → v.w.ivsize = 0)
    (hcl : SfClean s0) (hub : s0.ub = false) (hoof : s0.oof = false) (himg : VsImg v s0)
    (hin : s0.fields_null = false ∧ s0.vkey_group = 4 ∧ s0.w_null = false ∧ s0.vs_null = false ∧ s0.scan_ret ≠ -1)
    (A : AvIn names pads s0)
    (hf : names.length + v.usym.length + v.w.fields.length + 9 ≤ fuel) :
    let r := sfRun fuel s0
    r.ub = false ∧ r.oof = false ∧ r.ret = (if (v.setFieldsTok names).2 = true then 0 else -1) ∧ VsImg (v.setFieldsTok names).1 r ∧
      (if (v.writable = true ∧ v.nvertices = 0 ∧ v.w.n = 0) ∧ (v.setFieldsTok names).2 = true
       then r.vs_marked = 1 ∧ r.vs_new_h_sz = 1 else r.vs_marked = s0.vs_marked ∧ r.vs_new_h_sz = s0.vs_new_h_sz) := by
  intro r
  obtain ⟨i1, i2, i3, i4, i5⟩ := hin
  have hac := A.hac
  have hokiff : SfOk s0 ↔ ¬ (names.length = 0 ∨ names.length > VSFIELDMAX) := by
    unfold SfOk; rw [vsfieldmax]
    constructor
    · rintro ⟨_, _, _, _, _, _, _⟩; omega
    · intro h; exact ⟨i1, i2, i3, i4, i5, by omega, by omega⟩
  have hb_iff : (s0.vs_access = 119 ∧ s0.vs_nvertices = 0 ∧ s0.vs_wlist_n = 0) ↔ (v.writable = true ∧ v.nvertices = 0 ∧ v.w.n = 0) := by
    rw [himg.acc, himg.nv, himg.wn]
    constructor
    · intro h; exact ⟨h.1, by omega, by omega⟩
    · intro h; exact ⟨h.1, by omega, by omega⟩
  have hnv_iff : s0.vs_nvertices > 0 ↔ v.nvertices > 0 := by rw [himg.nv]; omega
  unfold VS.setFieldsTok
  by_cases c0 : names.length = 0 ∨ names.length > VSFIELDMAX
  · rw [if_pos c0]
    have hr : r = _ := sf_untouched fuel s0 hcl (Or.inl (fun h => hokiff.mp h c0))
    rw [hr]
    refine ⟨hub, hoof, rfl, himg.untouched, ?_⟩
    rw [if_neg (by simp)]
    exact ⟨rfl, rfl⟩
  · rw [if_neg c0]
    have hok : SfOk s0 := hokiff.mpr c0
    by_cases cb : v.writable = true ∧ v.nvertices = 0 ∧ v.w.n = 0
    · rw [if_pos cb]
      have hbc := sf_build_case v.usym names pads fuel s0 hcl hub hoof hok (hb_iff.mpr cb) ⟨A, hus, himg.us⟩ (by omega)
      simp only at hbc
      obtain ⟨g1, g2, g3, g4⟩ := hbc
      have acc : r.vs_access = 119 ↔ v.writable = true := (congrArg (·.vs_access = 119) g3).to_iff.trans himg.acc
      have nv : r.vs_nvertices = v.nvertices := (congrArg (·.vs_nvertices) g3).trans himg.nv
      have U := himg.us.of_eq (r := r) (congrArg usOf g3 :)
      have R := himg.rl.of_eq (r := r) (congrArg rlOf g3 :)
      cases hbw : buildWList v.usym names with
      | some w =>
        rw [hbw] at g4
        simp only at g4 ⊢
        obtain ⟨q1, q3, q4, W⟩ := g4
        refine ⟨g1, g2, q1, .of_parts acc nv W U R, ?_⟩
        rw [if_pos ⟨cb, trivial⟩]; exact ⟨q3, q4⟩
      | none =>
        rw [hbw] at g4
        simp only at g4 ⊢
        obtain ⟨q1, q3, q4, W⟩ := g4
        have hw : v.w = {} := by
          cases hv : v.w with
          | mk fields ivsize => rw [hv] at cb hw0; obtain rfl := List.length_eq_zero_iff.mp cb.2.2; obtain rfl : ivsize = 0 := hw0 rfl; rfl
        refine ⟨g1, g2, q1, .of_parts acc nv (hw ▸ W) U R, ?_⟩
        rw [if_neg (by simp)]; exact ⟨q3, q4⟩
    · rw [if_neg cb]
      have hnb : ¬ (s0.vs_access = 119 ∧ s0.vs_nvertices = 0 ∧ s0.vs_wlist_n = 0) := fun h => cb (hb_iff.mp h)
      by_cases cr : v.nvertices > 0
      · rw [if_pos cr]
        have hrc := sf_read_case v.w names pads fuel s0 hcl hub hoof hok (hnv_iff.mpr cr) ⟨A, hwf, himg.wnm, himg.wn⟩ (by omega)
        simp only at hrc
        obtain ⟨g1, g2, g3, g4, g5⟩ := hrc
        refine ⟨g1, g2, g4, himg.untouched.of_rFrame g3 g5, ?_⟩
        rw [if_neg (fun h => cb h.1)]
        exact ⟨congrArg (·.vs_marked) g3, congrArg (·.vs_new_h_sz) g3⟩
      · rw [if_neg cr]
        have hr : r = _ := sf_untouched fuel s0 hcl (Or.inr ⟨hnb, fun h => cr (hnv_iff.mp h)⟩)
        rw [hr]
        refine ⟨hub, hoof, rfl, himg.untouched, ?_⟩
        rw [if_neg (by simp)]
        exact ⟨rfl, rfl⟩

end H4.Lemmas.C07Fld
