import H4.Lemmas.DDSpec
/-! # Every API call refines the map specification and keeps the invariant -/
namespace H4.DD
open H4.Gen.Hdf

theorem hstartaccess_found (cfg : Cfg) {s : File} (hw : WF s) {t r : Nat} (ht0 : t ≠ 0) (hr0 : r ≠ 0) {d : DD}
    (hd : d ∈ s.live) (hk : keyOf d = (baseTag t, r)) (write : Bool) :
    ∃ q, Valid s.blocks q ∧ getDD s.blocks q = d ∧
      hstartaccess cfg s t r write =
        if (!isSpecial t) = true ∧ isSpecial d.tag = true then (Acc.special q, s)
        else (Acc.ok q (decide (d.off = INVALID_OFFSET ∧ d.len = INVALID_LENGTH)),
              { s with maxref := if d.ref > s.maxref then d.ref else s.maxref }) := by
  have hlook : ∃ q0, lookupPos s t r = some q0 ∧ getDD s.blocks q0 = d := by
    cases hq : lookupPos s t r with
    | none => exact absurd hk (lookupPos_none hw hq d hd)
    | some q0 =>
      obtain ⟨hv, hl, hkk⟩ := lookupPos_some hq
      exact ⟨q0, rfl, nodup_map_inj hw.wfl.nodup (getDD_mem_live hv hl) hd (by rw [hkk, hk])⟩
  obtain ⟨q0, hq0, hg0⟩ := hlook
  have hok := hw.wfl.live_ok d hd
  obtain ⟨q, hsel, hgq⟩ := htpSelect_of_live hw hd (t := d.tag) rfl (by omega) (by omega)
  obtain ⟨hvq, _, _⟩ := htpSelect_some hsel
  refine ⟨q, hvq, hgq, ?_⟩
  unfold hstartaccess
  rw [hfind_exact s ht0 hr0, hq0]
  simp only [Option.map_some, hg0, hsel, hgq]

theorem hstartaccess_absent (cfg : Cfg) {s : File} {t r : Nat} (ht0 : t ≠ 0) (hr0 : r ≠ 0)
    (hfree : ∀ d ∈ s.live, keyOf d ≠ (baseTag t, r)) (write : Bool) :
    hstartaccess cfg s t r write =
      if write = false then (Acc.fail, s)
      else match htpCreate cfg s t r with
        | (none, s') => (Acc.fail, s')
        | (some p, s') => (Acc.ok p true, { s' with maxref := if r > s'.maxref then r else s'.maxref }) := by
  have hlook : lookupPos s t r = none := by
    cases hq : lookupPos s t r with
    | none => rfl
    | some q0 =>
      obtain ⟨hv, hl, hkk⟩ := lookupPos_some hq
      exact absurd hkk (hfree _ (getDD_mem_live hv hl))
  have hsel : htpSelect s t r = none := by
    rw [htpSelect_eq]; split
    · rfl
    · exact hlook
  unfold hstartaccess
  rw [hfind_exact s ht0 hr0, hlook]
  simp only [Option.map_none, hsel]
  cases write
  · simp
  · simp; rfl

theorem Inv_maxref_raise {cfg : Cfg} {s : File} (h : Inv cfg s) (r : Nat) :
    Inv cfg { s with maxref := if r > s.maxref then r else s.maxref } :=
  h.of_same rfl rfl rfl rfl (Nat.le_refl _) rfl rfl (by show s.maxref ≤ if r > s.maxref then r else s.maxref; split <;> omega)

/-- `Hstartaccess` raises `maxref` once more after `HTPcreate` -/
theorem Created.raise {cfg : Cfg} {s s' : File} {tag ref : Nat} {p : Pos} (h : Created cfg s tag ref p s') (m : Nat) :
    Created cfg s tag ref p { s' with maxref := if m > s'.maxref then m else s'.maxref } := by
  have hS : Scal s' { s' with maxref := if m > s'.maxref then m else s'.maxref } := {}
  refine ⟨Inv_maxref_raise h.inv m, h.valid, h.get, h.live, h.old, Nat.le_trans h.maxref ?_, h.cache,
    fun hc => (h.mono hc).trans hS.mono, fun hc hf hA => hS.addedAt (h.added hc hf hA)⟩
  show s'.maxref ≤ if m > s'.maxref then m else s'.maxref
  split <;> omega

theorem Inv_logW {cfg : Cfg} {s : File} (h : Inv cfg s) (w : Wr) : Inv cfg (logW w s) :=
  h.of_same rfl rfl rfl rfl (Nat.le_refl _) rfl rfl (Nat.le_refl _)

theorem abs_of_slots {s s' : File} (h : s'.slots = s.slots) : s'.abs = s.abs := by
  unfold File.abs; rw [h]

def Refines (cfg : Cfg) (s : File) (op : Op) : Prop :=
  ∃ s', (step cfg s op).2 = some s' ∧ Inv cfg s' ∧ eraseOut op (step cfg s op).1 = (specStep cfg s.abs op).1 ∧
    s'.abs.Perm (specStep cfg s.abs op).2

theorem Refines.of {cfg : Cfg} {s s' : File} {op : Op} {o : Out} (hs : step cfg s op = (o, some s')) (he : eraseOut op o = o)
    (h : Inv cfg s' ∧ o = (specStep cfg s.abs op).1 ∧ s'.abs.Perm (specStep cfg s.abs op).2) : Refines cfg s op :=
  ⟨s', by rw [hs], h.1, by rw [hs, he]; exact h.2.1, h.2.2⟩

theorem Refines.of_slots {cfg : Cfg} {s s' : File} {op : Op} {o : Out} (hs : step cfg s op = (o, some s'))
    (h : Inv cfg s' ∧ s'.slots = s.slots) (ho : eraseOut op o = (specStep cfg s.abs op).1)
    (hsp : (specStep cfg s.abs op).2 = s.abs) : Refines cfg s op :=
  ⟨s', by rw [hs], h.1, by rw [hs]; exact ho, by rw [hsp, abs_of_slots h.2]⟩

theorem access_write_cases (cfg : Cfg) {s : File} (h : Inv cfg s) {base r : Nat} (hb0 : base ≠ 0)
    (hbs : isSpecial base = false) (hbl : base < 65536) (hr : r ≠ 0) (hr2 : r < 65536) (hg : guardF3 cfg s = true) :
    (∃ d ∈ s.live, keyOf d = (base, r) ∧ isSpecial d.tag = true ∧
        ∃ q, hstartaccess cfg s base r true = (Acc.special q, s)) ∨
    (∃ d ∈ s.live, keyOf d = (base, r) ∧ isSpecial d.tag = false ∧
        ∃ q s1, hstartaccess cfg s base r true = (Acc.ok q (decide (d.len = -1)), s1) ∧ Inv cfg s1 ∧
          s1.slots = s.slots ∧ Valid s1.blocks q ∧ getDD s1.blocks q = d) ∨
    ((∀ d ∈ s.live, keyOf d ≠ (base, r)) ∧ base = 1 ∧ hstartaccess cfg s base r true = (Acc.fail, s)) ∨
    ((∀ d ∈ s.live, keyOf d ≠ (base, r)) ∧ base ≠ 1 ∧
        ∃ p s1, hstartaccess cfg s base r true = (Acc.ok p true, s1) ∧ Created cfg s base r p s1) := by
  have hbb : baseTag base = base := baseTag_of_not_special hbs
  by_cases hex : ∃ d ∈ s.live, keyOf d = (base, r)
  · obtain ⟨d, hd, hk⟩ := hex
    obtain ⟨q, hvq, hgq, hacc⟩ := hstartaccess_found cfg h.wf hb0 hr hd (by rw [hbb]; exact hk) true
    by_cases hsp : isSpecial d.tag = true
    · left
      refine ⟨d, hd, hk, hsp, q, ?_⟩
      rw [hacc, if_pos ⟨by simp [hbs], hsp⟩]
    · right; left
      have hsp' : isSpecial d.tag = false := Bool.eq_false_iff.mpr hsp
      refine ⟨d, hd, hk, hsp', q, _, ?_, Inv_maxref_raise h d.ref, rfl, hvq, hgq⟩
      rw [hacc, if_neg (by simp [hsp'])]
      have hol := (h.wf.wfl.offlen d hd).1
      have : decide (d.off = INVALID_OFFSET ∧ d.len = INVALID_LENGTH) = decide (d.len = -1) := by
        simp only [INVALID_OFFSET, INVALID_LENGTH]
        congr 1
        apply propext
        constructor
        · exact fun hh => hh.2
        · exact fun hh => ⟨hol.mpr hh, hh⟩
      rw [this]
  · have hfree : ∀ d ∈ s.live, keyOf d ≠ (base, r) := fun d hd hk => hex ⟨d, hd, hk⟩
    have hacc := hstartaccess_absent cfg hb0 hr (by rw [hbb]; exact hfree) true
    rw [if_neg (by simp)] at hacc
    right; right
    by_cases hb1 : base = 1
    · left
      refine ⟨hfree, hb1, ?_⟩
      rw [hacc]
      have : htpCreate cfg s base r = (none, s) := by
        unfold htpCreate; rw [if_pos (Or.inl (by simpa [DFTAG_NULL] using hb1))]
      rw [this]
    · right
      obtain ⟨p, s', hc, hcr⟩ :=
        htpCreate_inv cfg h (tag := base) (ref := r) ⟨by omega, hbl⟩ ⟨by omega, hr2⟩ (by rw [hbb]; exact hfree) hg
      refine ⟨hfree, hb1, p, _, ?_, hcr.raise r⟩
      rw [hacc, hc]

theorem toNat_cast {l : Int} (h : 0 ≤ l) : ((l.toNat : Nat) : Int) = l := by omega

/-- the end of both writing calls once the element at `p` has its length -/
def writeTail (put : Bool) (s : File) (p : Pos) (l : Int) : Res × File :=
  if put then
    (if l ≤ 0 ∨ l > (getDD s.blocks p).len then (.fail, s) else (.num l, logW (.data (getDD s.blocks p).off.toNat l.toNat) s))
  else (.ok, s)

theorem hwrite_eq (cfg : Cfg) (s : File) (t r : Nat) (l : Int) (put : Bool) :
    (if put then hputelement cfg s t r l else hstartwriteEnd cfg s t r l) =
      (match hstartaccess cfg s (baseTag t) r true with
       | (.fail, s) => (.fail, s)
       | (.special _, s) => (.unsupported, s)
       | (.ok p newElem, s) =>
         if newElem ∧ l < 0 then (.fail, s) else writeTail put (if newElem then hsetlength s p l.toNat else s) p l) := by
  cases put
  · simp only [Bool.false_eq_true, if_false]; unfold hstartwriteEnd writeTail
    rcases hstartaccess cfg s (baseTag t) r true with ⟨_ | _ | ⟨p, _ | _⟩, s1⟩ <;> simp
  · simp only [if_true]; unfold hputelement writeTail; rfl

theorem writeTail_snd (put : Bool) (s : File) (p : Pos) (l : Int) :
    (writeTail put s p l).2 = s ∨ (writeTail put s p l).2 = logW (.data (getDD s.blocks p).off.toNat l.toNat) s := by
  unfold writeTail
  cases put
  · exact .inl rfl
  · simp only [if_true]; split
    · exact .inl rfl
    · exact .inr rfl

theorem writeTail_spec {cfg : Cfg} (put : Bool) {s : File} (h : Inv cfg s) (p : Pos) (l : Int) :
    Inv cfg (writeTail put s p l).2 ∧
    Out.ofRes (writeTail put s p l).1 = (if put then (if l ≤ 0 ∨ l > (getDD s.blocks p).len then .fail else .num l) else .ok) ∧
    (writeTail put s p l).2.abs = s.abs := by
  unfold writeTail
  cases put
  · exact ⟨h, rfl, rfl⟩
  · simp only [if_true]; split
    · exact ⟨h, rfl, rfl⟩
    · exact ⟨Inv_logW h _, rfl, rfl⟩

theorem writeTail_new {cfg : Cfg} (put : Bool) {s : File} (h : Inv cfg s) {p : Pos} (hv : Valid s.blocks p)
    (hl : isLive (getDD s.blocks p) = true) {l : Int} (hl0 : ¬ l < 0) :
    Inv cfg (writeTail put (hsetlength s p l.toNat) p l).2 ∧
    Out.ofRes (writeTail put (hsetlength s p l.toNat) p l).1 = (if put then (if l ≤ 0 then .fail else .num l) else .ok) ∧
    (writeTail put (hsetlength s p l.toNat) p l).2.abs = (hsetlength s p l.toNat).abs := by
  have r := hsetlength_inv cfg h hv hl l.toNat
  obtain ⟨i, o, a⟩ := writeTail_spec put r.inv p l
  refine ⟨i, ?_, a⟩
  rw [o, r.get]
  have : ¬ l > ((l.toNat : Nat) : Int) := by omega
  simp only [this, or_false]

theorem write_refines (cfg : Cfg) (put : Bool) {s : File} (h : Inv cfg s) {t r : Nat} {l : Int}
    (hb : baseTag t ≠ 0) (hr : r ≠ 0) (ht : t < 65536) (hr2 : r < 65536) (hg : guardF3 cfg s = true) :
    let x := if put then hputelement cfg s t r l else hstartwriteEnd cfg s t r l
    Inv cfg x.2 ∧ Out.ofRes x.1 = (specWrite s.abs (baseTag t) r l put).1 ∧
      x.2.abs.Perm (specWrite s.abs (baseTag t) r l put).2 := by
  have hbs := baseTag_not_special t
  have hbl := baseTag_lt ht
  intro x
  rw [show x = _ from hwrite_eq cfg s t r l put]
  rcases access_write_cases cfg h hb hbs hbl hr hr2 hg with
    ⟨d, hd, hk, hsp, q, hacc⟩ | ⟨d, hd, hk, hsp, q, s1, hacc, hinv1, hsl1, hv1, hg1⟩ |
    ⟨hfree, hb1, hacc⟩ | ⟨hfree, hb1, p, s1, hacc, hcr⟩
  · have hget : specGet s.abs (baseTag t, r) = some (ent d) := by rw [← hk]; exact specGet_some h.wf.wfl.nodup hd
    rw [hacc]
    simp only [specWrite, hget, ent, hsp, if_true]
    exact ⟨h, rfl, List.Perm.refl _⟩
  · have hget : specGet s.abs (baseTag t, r) = some (ent d) := by rw [← hk]; exact specGet_some h.wf.wfl.nodup hd
    have hl1 : isLive (getDD s1.blocks q) = true := by rw [hg1]; exact (mem_liveOf.mp hd).2
    have habs1 : s1.abs = s.abs := abs_of_slots hsl1
    rw [hacc]
    simp only [specWrite, hget, ent, hsp, Bool.false_eq_true, if_false]
    by_cases hnew : d.len = -1
    · simp only [hnew, decide_true, true_and, if_true]
      by_cases hl0 : l < 0
      · simp only [hl0, if_true]; exact ⟨hinv1, rfl, by rw [habs1]⟩
      · simp only [hl0, if_false]
        obtain ⟨i, o, a⟩ := writeTail_new put hinv1 hv1 hl1 hl0
        refine ⟨i, o, ?_⟩
        rw [a, (hsetlength_inv cfg hinv1 hv1 hl1 l.toNat).abs_set hinv1.wf hl1 rfl rfl, hg1, hk, habs1]
        simp only [toNat_cast (by omega : 0 ≤ l)]; exact List.Perm.refl _
    · simp only [hnew, decide_false, false_and, Bool.false_eq_true, if_false]
      obtain ⟨i, o, a⟩ := writeTail_spec put hinv1 q l
      exact ⟨i, by rw [o, hg1], by rw [a, habs1]⟩
  · have hget : specGet s.abs (baseTag t, r) = none := specGet_none hfree
    rw [hacc]
    simp only [specWrite, hget]
    simp only [hb1, DFTAG_NULL, if_true]
    exact ⟨h, rfl, List.Perm.refl _⟩
  · have hget : specGet s.abs (baseTag t, r) = none := specGet_none hfree
    have hb1' : ¬ baseTag t = DFTAG_NULL := by simpa [DFTAG_NULL] using hb1
    have hl1 : isLive (getDD s1.blocks p) = true := by rw [hcr.get]; simp [isLive, DFTAG_NULL]; exact hb1
    have hfree' : ∀ d ∈ s.live, keyOf d ≠ (baseTag (baseTag t), r) := by rw [baseTag_idem]; exact hfree
    rw [hacc]
    simp only [specWrite, hget, hb1', if_false, true_and]
    by_cases hl0 : l < 0
    · simp only [hl0, if_true]; exact ⟨hcr.inv, rfl, hcr.abs_perm⟩
    · simp only [hl0, if_false, if_true]
      obtain ⟨i, o, a⟩ := writeTail_new put hcr.inv hcr.valid hl1 hl0
      refine ⟨i, o, ?_⟩
      rw [a]
      have := hcr.abs_then_set hfree' (hsetlength_inv cfg hcr.inv hcr.valid hl1 l.toNat) (by rw [hcr.get]) (by rw [hcr.get])
      simpa only [toNat_cast (by omega : 0 ≤ l)] using this

theorem select_cases {s : File} (hw : WF s) (t r : Nat) :
    (htpSelect s t r = none ∧ ((t = 0 ∨ t = 1 ∨ r = 0) ∨ ∀ d ∈ s.live, keyOf d ≠ (baseTag t, r))) ∨
    (∃ q, htpSelect s t r = some q ∧ ¬ (t = 0 ∨ t = 1 ∨ r = 0) ∧ Valid s.blocks q ∧ isLive (getDD s.blocks q) = true ∧
      keyOf (getDD s.blocks q) = (baseTag t, r) ∧ getDD s.blocks q ∈ s.live) := by
  by_cases hwild : t = 0 ∨ t = 1 ∨ r = 0
  · exact Or.inl ⟨htpSelect_wild hwild, Or.inl hwild⟩
  · cases hsel : htpSelect s t r with
    | none => exact Or.inl ⟨rfl, Or.inr (htpSelect_none hw (by omega) (by omega) (by omega) hsel)⟩
    | some q =>
      obtain ⟨hv, hl, hk⟩ := htpSelect_some hsel
      exact Or.inr ⟨q, rfl, hwild, hv, hl, hk, getDD_mem_live hv hl⟩

/-- `Hdeldd` and `HDreuse_tagref` have one shape: refuse wildcards, look the element up, act on its descriptor; the specification
    has the same shape over `specGet`.  What is left to each is its action `act` on a live descriptor against `sact` on its entry. -/
theorem selected_refines (cfg : Cfg) {s : File} (h : Inv cfg s) (t r : Nat) (act : Pos → Bool × File) (sact : List Ent)
    (hact : ∀ q, Valid s.blocks q → isLive (getDD s.blocks q) = true → keyOf (getDD s.blocks q) = (baseTag t, r) →
      Inv cfg (act q).2 ∧ (act q).1 = true ∧ (act q).2.abs = sact) :
    let x := if t = 0 ∨ r = 0 then (false, s) else match htpSelect s t r with | none => (false, s) | some p => act p
    let y := if t = 0 ∨ r = 0 ∨ t = 1 then (Out.fail, s.abs)
      else match specGet s.abs (baseTag t, r) with | none => (Out.fail, s.abs) | some _ => (Out.ok, sact)
    Inv cfg x.2 ∧ Out.ofBool x.1 = y.1 ∧ x.2.abs.Perm y.2 := by
  intro x y
  simp only [x, y]
  by_cases h0 : t = 0 ∨ r = 0
  · rw [if_pos h0, if_pos (by omega)]
    exact ⟨h, rfl, List.Perm.refl _⟩
  · rw [if_neg h0]
    rcases select_cases h.wf t r with ⟨hsel, hwhy⟩ | ⟨q, hsel, hnw, hv, hl, hk, hm⟩
    · rw [hsel]
      simp only
      rcases hwhy with hw | hfree
      · rw [if_pos (by omega)]; exact ⟨h, rfl, List.Perm.refl _⟩
      · by_cases h1 : t = 1
        · rw [if_pos (by omega)]; exact ⟨h, rfl, List.Perm.refl _⟩
        · have hgn : specGet s.abs (baseTag t, r) = none := specGet_none hfree
          rw [if_neg (by omega), hgn]; exact ⟨h, rfl, List.Perm.refl _⟩
    · have hget : specGet s.abs (baseTag t, r) = some (ent (getDD s.blocks q)) := by
        rw [← hk]; exact specGet_some h.wf.wfl.nodup hm
      rw [hsel, if_neg (by omega), hget]
      simp only
      obtain ⟨hi, hb, ha⟩ := hact q hv hl hk
      rw [hb, ha]
      exact ⟨hi, rfl, List.Perm.refl _⟩

theorem del_refines (cfg : Cfg) {s : File} (h : Inv cfg s) (t r : Nat) (hg : guardF4 cfg s = true) : Refines cfg s (.del t r) := by
  refine .of rfl rfl (selected_refines cfg h t r (htpDelete cfg s) (specDel s.abs (baseTag t, r)) (fun q hv hl hk => ?_))
  obtain ⟨s', hd, rep⟩ := htpDelete_inv cfg h hv hl hg
  rw [hd]
  exact ⟨rep.inv, rfl, by rw [rep.abs_del h.wf hl, hk]⟩

theorem reuse_refines (cfg : Cfg) {s : File} (h : Inv cfg s) (t r : Nat) : Refines cfg s (.reuse t r) := by
  refine .of rfl rfl (selected_refines cfg h t r (fun p => (true, htpUpdate s p INVALID_OFFSET INVALID_LENGTH))
    (specSet s.abs (baseTag t, r) (-1)) (fun q hv hl hk => ?_))
  have hupd : updDD (getDD s.blocks q) INVALID_OFFSET INVALID_LENGTH =
      ⟨(getDD s.blocks q).tag, (getDD s.blocks q).ref, -1, -1⟩ := by
    simp [updDD, INVALID_OFFSET, INVALID_LENGTH]
  have rep := htpUpdate_inv cfg h hv hl INVALID_OFFSET INVALID_LENGTH (by rw [hupd]; simp [okOL])
  rw [hupd] at rep
  exact ⟨rep.inv, rfl, by rw [rep.abs_set h.wf hl rfl rfl, hk]⟩

theorem hdupdd_eq (cfg : Cfg) (s : File) (t r ot or' : Nat) : hdupdd cfg s t r ot or' =
    match htpSelect s ot or' with
    | none => (false, s)
    | some old =>
      match htpCreate cfg s t r with
      | (none, s) => (false, s)
      | (some p, s) => (true, htpUpdate s p (getDD s.blocks old).off (getDD s.blocks old).len) := rfl

theorem htpCreate_wild (cfg : Cfg) (s : File) {t r : Nat} (h : t = 0 ∨ t = 1 ∨ r = 0) : htpCreate cfg s t r = (none, s) := by
  unfold htpCreate
  rw [if_pos]
  show t = 1 ∨ t = 0 ∨ r = 0
  omega

theorem dup_refines (cfg : Cfg) {s : File} (h : Inv cfg s) (t r ot or' : Nat) (ht : t < 65536) (hr : r < 65536)
    (hg3 : guardF3 cfg s = true) (hg17 : cfg.fixF17 = true ∨ (htpSelect s t r).isNone = true) :
    Refines cfg s (.dup t r ot or') := by
  refine .of rfl rfl ?_
  rw [hdupdd_eq]
  simp only [specStep]
  rcases select_cases h.wf ot or' with ⟨hsel, hwhy⟩ | ⟨old, hsel, hnw, hvo, hlo, hko, hmo⟩
  · rw [hsel]
    simp only
    rcases hwhy with hw | hfree
    · rw [if_pos hw]; exact ⟨h, rfl, List.Perm.refl _⟩
    · by_cases hw : ot = 0 ∨ ot = 1 ∨ or' = 0
      · rw [if_pos hw]; exact ⟨h, rfl, List.Perm.refl _⟩
      · have hgn : specGet s.abs (baseTag ot, or') = none := specGet_none hfree
        rw [if_neg hw, hgn]; exact ⟨h, rfl, List.Perm.refl _⟩
  · have hgo : specGet s.abs (baseTag ot, or') = some (ent (getDD s.blocks old)) := by
      rw [← hko]; exact specGet_some h.wf.wfl.nodup hmo
    rw [hsel, if_neg hnw, hgo]
    simp only
    rcases select_cases h.wf t r with ⟨hseln, hwhyn⟩ | ⟨qn, hseln, hnwn, hvn, hln, hkn, hmn⟩
    · by_cases hwn : t = 0 ∨ t = 1 ∨ r = 0
      · rw [htpCreate_wild cfg s hwn, if_pos hwn]
        exact ⟨h, rfl, List.Perm.refl _⟩
      · have hfree : ∀ d ∈ s.live, keyOf d ≠ (baseTag t, r) := by
          rcases hwhyn with hw | hf
          · exact absurd hw hwn
          · exact hf
        have hgn : specGet s.abs (baseTag t, r) = none := specGet_none hfree
        rw [if_neg hwn, hgn]
        simp only
        obtain ⟨p, s1, hc, hcr⟩ := htpCreate_inv cfg h (tag := t) (ref := r) ⟨by omega, ht⟩ ⟨by omega, hr⟩ hfree hg3
        rw [hc]
        simp only
        rw [(hcr.old old hvo hlo).2.1]
        obtain ⟨ho1, ho2, ho3⟩ := h.wf.wfl.offlen _ hmo
        have hl1 : isLive (getDD s1.blocks p) = true := by rw [hcr.get]; simp [isLive, DFTAG_NULL]; omega
        have hupd : updDD (getDD s1.blocks p) (getDD s.blocks old).off (getDD s.blocks old).len =
            ⟨t, r, (getDD s.blocks old).off, (getDD s.blocks old).len⟩ := by
          rw [hcr.get]; unfold updDD
          have a : (getDD s.blocks old).len ≠ -2 := by omega
          have b : (getDD s.blocks old).off ≠ -2 := by omega
          simp [a, b]
        have rep := htpUpdate_inv cfg hcr.inv hcr.valid hl1 (getDD s.blocks old).off (getDD s.blocks old).len
          (by rw [hupd]; exact ⟨ho1, ho2, ho3⟩)
        rw [hupd] at rep
        exact ⟨rep.inv, rfl, hcr.abs_then_set (d' := ⟨t, r, _, _⟩) hfree rep rfl rfl⟩
    · -- the new tag/ref is in use: only the fixed code gets here (guard)
      have hf17 : cfg.fixF17 = true := by
        rcases hg17 with h17 | h17
        · exact h17
        · rw [hseln] at h17; simp at h17
      have hcr : htpCreate cfg s t r = (none, s) := by
        unfold htpCreate
        rw [if_neg (by simp only [DFTAG_NULL, DFTAG_WILDCARD, DFREF_WILDCARD]; omega)]
        have hl : (lookupDD s.tags s.blocks (baseTag t) r).isSome = true := by
          have := htpSelect_eq s t r
          rw [if_neg (by simp only [DFTAG_NULL, DFTAG_WILDCARD, DFREF_WILDCARD]; omega), hseln] at this
          unfold lookupPos at this
          rw [← this]; rfl
        rw [if_pos ⟨hf17, hl⟩]
      rw [hcr]
      have hgn : specGet s.abs (baseTag t, r) = some (ent (getDD s.blocks qn)) := by
        rw [← hkn]; exact specGet_some h.wf.wfl.nodup hmn
      rw [if_neg hnwn, hgn]
      exact ⟨h, rfl, List.Perm.refl _⟩

theorem inquire_refines (cfg : Cfg) {s : File} (h : Inv cfg s) (t r : Nat) (hb : baseTag t ≠ 0) (hr : r ≠ 0) :
    Refines cfg s (.inquire t r) := by
  have hbs := baseTag_not_special t
  have hbb : baseTag (baseTag t) = baseTag t := baseTag_idem t
  simp only [Refines, specStep]
  by_cases hex : ∃ d ∈ s.live, keyOf d = (baseTag t, r)
  · obtain ⟨d, hd, hk⟩ := hex
    obtain ⟨q, hvq, hgq, hacc⟩ := hstartaccess_found cfg h.wf hb hr hd (by rw [hbb]; exact hk) false
    have hget : specGet s.abs (baseTag t, r) = some (ent d) := by rw [← hk]; exact specGet_some h.wf.wfl.nodup hd
    rw [hget]
    by_cases hsp : isSpecial d.tag = true
    · have hq : hinquire cfg s t r = (none, true, s) := by
        unfold hinquire; rw [hacc, if_pos ⟨by simp [hbs], hsp⟩]
      simp only [step, hq, ent, hsp, if_true]
      exact ⟨s, rfl, h, rfl, List.Perm.refl _⟩
    · have hsp' : isSpecial d.tag = false := Bool.eq_false_iff.mpr hsp
      have hq : hinquire cfg s t r = (some d, false, { s with maxref := if d.ref > s.maxref then d.ref else s.maxref }) := by
        unfold hinquire; rw [hacc, if_neg (by simp [hsp'])]
        simp only
        show (some (getDD s.blocks q), false, _) = _
        rw [hgq]
      simp only [step, hq, ent, hsp', Bool.false_eq_true, if_false]
      exact ⟨_, rfl, Inv_maxref_raise h d.ref, rfl, List.Perm.refl _⟩
  · have hfree : ∀ d ∈ s.live, keyOf d ≠ (baseTag t, r) := fun d hd hk => hex ⟨d, hd, hk⟩
    have hacc := hstartaccess_absent cfg hb hr (by rw [hbb]; exact hfree) false
    rw [if_pos rfl] at hacc
    have hget : specGet s.abs (baseTag t, r) = none := specGet_none hfree
    have hq : hinquire cfg s t r = (none, false, s) := by
      unfold hinquire; rw [hacc]
    rw [hget]
    simp only [step, hq]
    exact ⟨s, rfl, h, rfl, List.Perm.refl _⟩

end H4.DD
