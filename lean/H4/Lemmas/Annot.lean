import H4.Annot
import H4.Lemmas.BigEndian
/-! C11: the annotation key macros and the payload codec; `ANIcreate_ann_tree` as a fold of `loadStep` over the elements of the type's
    tag (up to order the tree plus `fileEntries`); the `DFANgetfid` / `DFANgetfds` walk (`dfWalk`) reports the elements of the tag in DD
    order and ends (`dfWalk_from`). -/
namespace H4.Annot
open H4.Gen.Hdf H4.Gen.Mfan H4.Gen.Macros

theorem consts : AN_DATA_LABEL = 0 ∧ AN_DATA_DESC = 1 ∧ AN_FILE_LABEL = 2 ∧ AN_FILE_DESC = 3 ∧
    TAG_DATA_LABEL = DFTAG_DIL ∧ TAG_DATA_DESC = DFTAG_DIA ∧ TAG_FILE_LABEL = DFTAG_FID ∧ TAG_FILE_DESC = DFTAG_FD ∧
    DFTAG_DIL = 104 ∧ DFTAG_DIA = 105 ∧ DFTAG_FID = 100 ∧ DFTAG_FD = 101 := by decide

theorem key_eq (t r : Nat) (ht : t < 65536) (hr : r < 65536) : AN_CREATE_KEY t r = t * 65536 + r := by
  unfold AN_CREATE_KEY
  have h1 : t % 4294967296 = t := Nat.mod_eq_of_lt (by omega)
  have h2 : t &&& 65535 = t % 65536 := Nat.and_two_pow_sub_one_eq_mod t 16
  rw [h1, h2, Nat.mod_eq_of_lt ht, ← Nat.shiftLeft_add_eq_or_of_lt (by simpa using hr), Nat.shiftLeft_eq]

theorem key_parts (t r : Nat) (ht : t < 65536) (hr : r < 65536) :
    (t * 65536 + r) % 4294967296 = t * 65536 + r ∧ (t * 65536 + r) / 65536 = t ∧ (t * 65536 + r) % 65536 = r := by
  refine ⟨Nat.mod_eq_of_lt ?_, ?_, ?_⟩
  · have : t * 65536 ≤ 65535 * 65536 := Nat.mul_le_mul_right _ (Nat.le_of_lt_succ ht)
    omega
  · rw [Nat.add_comm, Nat.add_mul_div_right _ _ (by decide), Nat.div_eq_of_lt hr, Nat.zero_add]
  · rw [Nat.add_comm, Nat.add_mul_mod_self_right, Nat.mod_eq_of_lt hr]

theorem key2type_create (t r : Nat) (ht : t < 65536) (hr : r < 65536) : AN_KEY2TYPE (AN_CREATE_KEY t r) = t := by
  obtain ⟨h1, h2, _⟩ := key_parts t r ht hr
  rw [key_eq t r ht hr, AN_KEY2TYPE, h1, Nat.shiftRight_eq_div_pow, show 2 ^ 16 = 65536 from rfl, h2]
  exact Nat.mod_eq_of_lt (Nat.lt_trans ht (by decide))

theorem key2ref_create (t r : Nat) (ht : t < 65536) (hr : r < 65536) : AN_KEY2REF (AN_CREATE_KEY t r) = r := by
  obtain ⟨h1, _, h3⟩ := key_parts t r ht hr
  rw [key_eq t r ht hr, AN_KEY2REF, h1, Nat.and_two_pow_sub_one_eq_mod _ 16, show 2 ^ 16 = 65536 from rfl, h3]
  exact Nat.mod_eq_of_lt hr

theorem key_injective (t r t' r' : Nat) (ht : t < 65536) (hr : r < 65536) (ht' : t' < 65536) (hr' : r' < 65536)
    (h : AN_CREATE_KEY t r = AN_CREATE_KEY t' r') : t = t' ∧ r = r' :=
  ⟨by rw [← key2type_create t r ht hr, h, key2type_create t' r' ht' hr'],
   by rw [← key2ref_create t r ht hr, h, key2ref_create t' r' ht' hr']⟩


theorem decode_encode (t : Nat) (self target : Nat × Nat) (text : Bytes) (h1 : target.1 < 65536) (h2 : target.2 < 65536) :
    decodeAnn t self (encodeAnn t target text) = some (if isDataType t then target else self, text) := by
  unfold decodeAnn encodeAnn
  cases isDataType t
  · rfl
  · have hb : ∀ n, n < 65536 → (UInt8.ofNat (n / 256)).toNat * 256 + (UInt8.ofNat n).toNat = n := by
      intro n hn
      rw [UInt8.toNat_ofNat', UInt8.toNat_ofNat']
      exact H4.BigEndian.digits16 hn
    obtain ⟨a, b⟩ := target
    show some ((_, _), text) = _
    rw [hb a h1, hb b h2]
    rfl

theorem getPrefix (a b : Nat) (ha : a < 65536) (hb : b < 65536) (text : Bytes) :
    decodeAnn AN_DATA_LABEL (0, 0) (u16 a ++ u16 b ++ text) = some ((a, b), text) :=
  decode_encode AN_DATA_LABEL (0, 0) (a, b) text ha hb

theorem encodeAnn_drop (t : Nat) (target : Nat × Nat) (text : Bytes) :
    (encodeAnn t target text).drop (if isDataType t then 4 else 0) = text ∧
    (encodeAnn t target text).length = text.length + (if isDataType t then 4 else 0) := by
  unfold encodeAnn
  cases isDataType t <;> exact ⟨rfl, rfl⟩

theorem readSpan_fits (t : Nat) {len maxlen : Nat} (h : len < maxlen) :
    readSpan t len maxlen = (len, len + if isLabelType t then 1 else 0) := by
  unfold readSpan
  cases isLabelType t
  · exact congrArg (fun n => (n, n)) (Nat.min_eq_left (Nat.le_of_lt h))
  · exact congrArg (fun n => (n, n + 1)) (Nat.min_eq_left (Nat.le_sub_one_of_lt h))
theorem type_tag_roundtrip (t : Nat) (h : t < 4) : (tagOfType t).bind typeOfTag = some t := by
  have : t = 0 ∨ t = 1 ∨ t = 2 ∨ t = 3 := by omega
  rcases this with rfl | rfl | rfl | rfl <;> decide


/-- the walk order of the tree: keys strictly DESCENDING (`ANIanncmp` inverts the comparison), hence no key twice -/
def TreeSorted (tr : List (Nat × Entry)) : Prop := (tr.map (·.1)).Pairwise (· > ·)

/-- `tbbtdins`: the new entry goes behind the entries with greater keys and in front of the first smaller one -/
theorem treeIns_eq_some {key : Nat} {e : Entry} {tr tr' : List (Nat × Entry)} (h : treeIns key e tr = some tr') :
    ∃ pre post, tr = pre ++ post ∧ tr' = pre ++ (key, e) :: post ∧ (∀ p ∈ pre, key < p.1) ∧
      ∀ p, post.head? = some p → p.1 < key := by
  induction tr generalizing tr' with
  | nil => cases h; exact ⟨[], [], rfl, rfl, fun _ hp => (nomatch hp), fun _ hp => (nomatch hp)⟩
  | cons a t ih =>
    unfold treeIns at h
    split at h
    · cases h; exact ⟨[], a :: t, rfl, rfl, fun _ hp => (nomatch hp), fun p hp => Option.some.inj hp ▸ ‹key > a.1›⟩
    · split at h
      · cases h
      · cases hr : treeIns key e t with
        | none => rw [hr] at h; cases h
        | some t' =>
          rw [hr] at h; cases h
          obtain ⟨pre, post, rfl, rfl, h1, h2⟩ := ih hr
          refine ⟨a :: pre, post, rfl, rfl, fun p hp => ?_, h2⟩
          rcases List.mem_cons.mp hp with rfl | hp
          · omega
          · exact h1 p hp

theorem treeIns_perm {key : Nat} {e : Entry} {tr tr' : List (Nat × Entry)} (h : treeIns key e tr = some tr') :
    tr'.Perm ((key, e) :: tr) := by
  obtain ⟨pre, post, rfl, rfl, _⟩ := treeIns_eq_some h
  exact List.perm_middle

theorem treeIns_keys {key : Nat} {e : Entry} {tr tr' : List (Nat × Entry)} (h : treeIns key e tr = some tr') :
    ∀ k, k ∈ tr'.map (·.1) ↔ k = key ∨ k ∈ tr.map (·.1) :=
  fun _ => (((treeIns_perm h).map _).mem_iff).trans List.mem_cons

theorem treeIns_subset {key : Nat} {e : Entry} {tr tr' : List (Nat × Entry)} (h : treeIns key e tr = some tr') :
    (∀ p ∈ tr, p ∈ tr') ∧ (key, e) ∈ tr' :=
  ⟨fun _ hp => (treeIns_perm h).mem_iff.mpr (List.mem_cons_of_mem _ hp), (treeIns_perm h).mem_iff.mpr List.mem_cons_self⟩

theorem treeIns_sorted {key : Nat} {e : Entry} {tr tr' : List (Nat × Entry)} (hs : TreeSorted tr)
    (h : treeIns key e tr = some tr') : TreeSorted tr' := by
  obtain ⟨pre, post, rfl, rfl, h1, h2⟩ := treeIns_eq_some h
  unfold TreeSorted at hs ⊢
  rw [List.map_append, List.pairwise_append] at hs
  rw [List.map_append, List.map_cons, List.pairwise_append, List.pairwise_cons]
  -- the head of `post` is below the key, and `post` descends from its head
  have hpost : ∀ b ∈ post.map (·.1), key > b := by
    cases post with
    | nil => exact fun _ hb => (nomatch hb)
    | cons q post' =>
      intro b hb
      have hq := h2 q rfl
      rcases List.mem_cons.mp hb with rfl | hb
      · exact hq
      · exact Nat.lt_trans ((List.pairwise_cons.mp hs.2.1).1 b hb) hq
  refine ⟨hs.1, ⟨hpost, hs.2.1⟩, fun a ha b hb => ?_⟩
  rcases List.mem_cons.mp hb with rfl | hb
  · obtain ⟨p, hp, rfl⟩ := List.mem_map.mp ha
    exact h1 p hp
  · exact hs.2.2 a ha b hb

theorem treeIns_isSome {key : Nat} (e : Entry) {tr : List (Nat × Entry)} (h : key ∉ tr.map (·.1)) :
    ∃ tr', treeIns key e tr = some tr' := by
  induction tr with
  | nil => exact ⟨_, rfl⟩
  | cons a t ih =>
    obtain ⟨k', e'⟩ := a
    simp only [List.map_cons, List.mem_cons, not_or] at h
    simp only [treeIns]
    split
    · exact ⟨_, rfl⟩
    · split
      · exact absurd (by assumption) h.1
      · obtain ⟨t', ht'⟩ := ih h.2
        exact ⟨(k', e') :: t', by simp [ht']⟩

theorem treeFind_of_mem_sorted {tr : List (Nat × Entry)} (hs : TreeSorted tr) {k : Nat} {e : Entry} (h : (k, e) ∈ tr) :
    treeFind k tr = some e := by
  induction tr with
  | nil => simp at h
  | cons a t ih =>
    obtain ⟨k', e'⟩ := a
    simp only [TreeSorted, List.map_cons, List.pairwise_cons] at hs
    simp only [List.mem_cons, Prod.mk.injEq] at h
    simp only [treeFind]
    rcases h with ⟨h1, h2⟩ | h
    · simp [h1, h2]
    · have : k' > k := hs.1 k (List.mem_map.mpr ⟨(k, e), h, rfl⟩)
      have ne : ¬ k' = k := by omega
      simp only [ne, if_false]
      exact ih hs.2 h

abbrev ofTag (T : Nat) (E : List ((Nat × Nat) × Bytes)) : List ((Nat × Nat) × Bytes) := E.filter (fun p => p.1.1 == T)

theorem mem_ofTag {T : Nat} {E : List ((Nat × Nat) × Bytes)} {p : (Nat × Nat) × Bytes} : p ∈ ofTag T E ↔ p ∈ E ∧ p.1.1 = T := by
  simp [ofTag]

theorem ofTag_cons (T : Nat) (a : (Nat × Nat) × Bytes) (E : List ((Nat × Nat) × Bytes)) :
    ofTag T (a :: E) = if a.1.1 = T then a :: ofTag T E else ofTag T E := by
  by_cases h : a.1.1 = T <;> simp [ofTag, h]

/-- the tree entry `ANIcreate_ann_tree` makes of one annotation element of the type's tag (`none`: an object annotation
    shorter than its 4-byte target prefix) -/
def entryOf (t tag : Nat) (p : (Nat × Nat) × Bytes) : Option (Nat × Entry) :=
  match decodeAnn t (tag, p.1.2) p.2 with
  | none => none
  | some (target, _) => some (AN_CREATE_KEY t p.1.2, ⟨p.1.2, target.1, target.2⟩)

theorem entryOf_key {t tag : Nat} {p : (Nat × Nat) × Bytes} {e : Nat × Entry} (h : entryOf t tag p = some e) :
    e.1 = AN_CREATE_KEY t p.1.2 := by
  unfold entryOf at h
  split at h
  · cases h
  · cases h; rfl

/-- one round of the loop of `ANIcreate_ann_tree` (`tbbtdins` refuses a key the tree holds already) -/
def loadStep (t tag : Nat) (tr : List (Nat × Entry)) (p : (Nat × Nat) × Bytes) : List (Nat × Entry) :=
  match entryOf t tag p with
  | none => tr
  | some e => (treeIns e.1 e.2 tr).getD tr

theorem loadType_eq (s : AnState) (t : Nat) : loadType s t =
    if s.loaded.contains t then s else
    match tagOfType t with
    | none => s
    | some tag => { s with tree := (ofTag tag s.elems).foldl (loadStep t tag) s.tree, loaded := t :: s.loaded } := by
  unfold loadType
  by_cases hl : s.loaded.contains t = true
  · rw [if_pos hl, if_pos hl]
  · rw [if_neg hl, if_neg hl]
    cases tagOfType t with
    | none => rfl
    | some tag =>
      refine congrArg (fun f => ({ s with tree := (ofTag tag s.elems).foldl f s.tree, loaded := t :: s.loaded } : AnState)) ?_
      funext tr p
      unfold loadStep entryOf
      cases decodeAnn t (tag, p.1.2) p.2 <;> rfl

theorem loadFold_sorted (t tag : Nat) (es : List ((Nat × Nat) × Bytes)) (tr : List (Nat × Entry)) (hs : TreeSorted tr) :
    TreeSorted (es.foldl (loadStep t tag) tr) := by
  induction es generalizing tr with
  | nil => exact hs
  | cons a rest ih =>
    refine ih _ ?_
    unfold loadStep
    split
    · exact hs
    · next e _ =>
      cases hr : treeIns e.1 e.2 tr with
      | none => exact hs
      | some tr' => exact treeIns_sorted hs hr

theorem loadType_sorted (s : AnState) (t : Nat) (hs : TreeSorted s.tree) : TreeSorted (loadType s t).tree := by
  rw [loadType_eq]
  split
  · exact hs
  · split
    · exact hs
    · exact loadFold_sorted _ _ _ _ hs

theorem loadType_elems (s : AnState) (t : Nat) : (loadType s t).elems = s.elems := by
  rw [loadType_eq]
  split
  · rfl
  · split <;> rfl

theorem tagOfType_ne_null {t tag : Nat} (h : tagOfType t = some tag) : tag ≠ DFTAG_NULL := by
  revert h
  unfold tagOfType
  repeat' refine iteInduction (motive := fun r => r = some tag → tag ≠ DFTAG_NULL) (fun _ e => Option.some.inj e ▸ by decide) fun _ => ?_
  exact fun h => nomatch h

theorem elemLook_elemSet (k k' : Nat × Nat) (v : Bytes) (l : List ((Nat × Nat) × Bytes)) :
    elemLook k' (elemSet k v l) = if k' = k then (elemLook k l).map (fun _ => v) else elemLook k' l := by
  induction l with
  | nil => simp [elemSet, elemLook]
  | cons a t ih =>
    obtain ⟨ka, va⟩ := a
    simp only [elemSet]
    by_cases h : ka = k
    · subst h
      simp only [if_true, elemLook]
      by_cases h2 : ka = k'
      · simp [h2]
      · simp [h2, Ne.symm h2]
    · simp only [h, if_false, elemLook, ih]
      by_cases h2 : ka = k'
      · have : ¬ k' = k := fun e => h (h2.trans e)
        simp [h2, this]
      · simp [h2]

theorem elemLook_elemFill (k k' : Nat × Nat) (v : Bytes) (l : List ((Nat × Nat) × Bytes))
    (hk' : k'.1 ≠ DFTAG_NULL) (hn : elemLook k l = none) :
    elemLook k' (elemFill k v l) = if k' = k then some v else elemLook k' l := by
  induction l with
  | nil =>
    simp only [elemFill, elemLook]
    by_cases h : k = k'
    · simp [h]
    · simp [h, Ne.symm h]
  | cons a t ih =>
    obtain ⟨ka, va⟩ := a
    simp only [elemLook] at hn
    have hka : ¬ ka = k := by
      intro e; simp [e] at hn
    simp only [hka, if_false] at hn
    simp only [elemFill]
    by_cases hz : ka.1 = DFTAG_NULL
    · have hne : ¬ ka = k' := fun e => hk' (e ▸ hz)
      simp only [hz, if_true, elemLook, hne, if_false]
      by_cases h : k = k'
      · simp [h]
      · simp [h, Ne.symm h]
    · simp only [hz, if_false, elemLook, ih hn]
      by_cases h2 : ka = k'
      · have : ¬ k' = k := fun e => hka (h2.trans e)
        simp [h2, this]
      · simp [h2]

/-- a DD with tag `DFTAG_NULL` is a free DD, not an element -/
theorem elemLook_elemPut (k k' : Nat × Nat) (v : Bytes) (l : List ((Nat × Nat) × Bytes)) (hk' : k'.1 ≠ DFTAG_NULL) :
    elemLook k' (elemPut k v l) = if k' = k then some v else elemLook k' l := by
  unfold elemPut
  cases h : elemLook k l with
  | none => simpa [h] using elemLook_elemFill k k' v l hk' h
  | some b => simp [elemLook_elemSet, h]


def fileEntries (elems : List ((Nat × Nat) × Bytes)) (t : Nat) : List (Nat × Entry) :=
  match tagOfType t with
  | none => []
  | some tag => (elems.filter (fun p => p.1.1 == tag)).filterMap (entryOf t tag)

def Dist (E : List ((Nat × Nat) × Bytes)) : Prop := E.Pairwise (fun p q => p.1.1 ≠ DFTAG_NULL → p.1 ≠ q.1)

def FileOk (elems : List ((Nat × Nat) × Bytes)) : Prop :=
  elems.Pairwise (fun p q => p.1.1 ≠ DFTAG_NULL → p.1 ≠ q.1) ∧ ∀ p ∈ elems, p.1.2 < 65536

theorem FileOk.dist {elems : List ((Nat × Nat) × Bytes)} (h : FileOk elems) : Dist elems := h.1

theorem elemLook_of_mem {E : List ((Nat × Nat) × Bytes)} (D : Dist E) {p : (Nat × Nat) × Bytes} (hp : p ∈ E)
    (hn : p.1.1 ≠ DFTAG_NULL) : elemLook p.1 E = some p.2 := by
  induction E with
  | nil => simp at hp
  | cons a E' ih =>
    obtain ⟨ka, va⟩ := a
    obtain ⟨ha, D'⟩ := List.pairwise_cons.mp D
    simp only [elemLook]
    rcases List.mem_cons.mp hp with rfl | hp'
    · simp
    · by_cases h : ka = p.1
      · exact absurd h (ha p hp' (by simpa [h] using hn))
      · simp only [h, if_false]; exact ih D' hp'

theorem elemLook_none_of_forall {k : Nat × Nat} {l : List ((Nat × Nat) × Bytes)} (h : ∀ q ∈ l, q.1 ≠ k) : elemLook k l = none := by
  induction l with
  | nil => rfl
  | cons a t ih =>
    obtain ⟨ka, va⟩ := a
    have h1 : ¬ ka = k := h (ka, va) List.mem_cons_self
    simp only [elemLook, h1, if_false]
    exact ih (fun q hq => h q (List.mem_cons_of_mem _ hq))

theorem elemLook_elemDel (k k' : Nat × Nat) (l : List ((Nat × Nat) × Bytes)) (D : Dist l) (hk : k.1 ≠ DFTAG_NULL)
    (hk' : k'.1 ≠ DFTAG_NULL) : elemLook k' (elemDel k l) = if k' = k then none else elemLook k' l := by
  induction l with
  | nil => simp [elemDel, elemLook]
  | cons a t ih =>
    obtain ⟨ka, va⟩ := a
    obtain ⟨ha, D'⟩ := List.pairwise_cons.mp D
    simp only [elemDel]
    by_cases h : ka = k
    · subst h
      have hne : ¬ (DFTAG_NULL, 0) = k' := fun e => hk' (by rw [← e])
      simp only [if_true, elemLook, hne, if_false]
      by_cases h2 : ka = k'
      · subst h2
        simp only [if_true]
        exact elemLook_none_of_forall (fun q hq e => ha q hq hk e.symm)
      · simp [h2, Ne.symm h2]
    · simp only [h, if_false, elemLook, ih D']
      by_cases h2 : ka = k'
      · have : ¬ k' = k := fun e => h (h2.trans e)
        simp [h2, this]
      · simp [h2]

theorem loadFold_perm (t tag : Nat) (ht : t < 65536) (es : List ((Nat × Nat) × Bytes)) (tr : List (Nat × Entry))
    (hr : ∀ p ∈ es, p.1.2 < 65536) (hnd : es.Pairwise (fun p q => p.1.2 ≠ q.1.2))
    (hfresh : ∀ p ∈ es, AN_CREATE_KEY t p.1.2 ∉ tr.map (·.1)) :
    (es.foldl (loadStep t tag) tr).Perm (tr ++ es.filterMap (entryOf t tag)) := by
  induction es generalizing tr with
  | nil => simp
  | cons a rest ih =>
    simp only [List.foldl_cons, List.filterMap_cons]
    have hr' : ∀ p ∈ rest, p.1.2 < 65536 := fun p hp => hr p (List.mem_cons_of_mem _ hp)
    have hnd' := (List.pairwise_cons.mp hnd).2
    have hne := (List.pairwise_cons.mp hnd).1
    unfold loadStep
    cases he : entryOf t tag a with
    | none => exact ih tr hr' hnd' (fun p hp => hfresh p (List.mem_cons_of_mem _ hp))
    | some e =>
      have hk := entryOf_key he
      obtain ⟨tr', htr'⟩ := treeIns_isSome e.2 (hk ▸ hfresh a List.mem_cons_self)
      simp only [htr', Option.getD_some]
      -- the entry just inserted has the key of `a`, and no later element has `a`'s ref
      have hfresh' : ∀ p ∈ rest, AN_CREATE_KEY t p.1.2 ∉ tr'.map (·.1) := by
        intro p hp hmem
        rcases (treeIns_keys htr' _).mp hmem with h1 | h1
        · have := (key_injective t p.1.2 t a.1.2 ht (hr' p hp) ht (hr a List.mem_cons_self) (h1.trans hk)).2
          exact hne p hp this.symm
        · exact hfresh p (List.mem_cons_of_mem _ hp) h1
      refine (ih tr' hr' hnd' hfresh').trans ?_
      exact ((treeIns_perm htr').append_right _).trans List.perm_middle.symm

theorem fileEntries_type (elems : List ((Nat × Nat) × Bytes)) (hok : FileOk elems) (t : Nat) (ht : t < 4) :
    ∀ x ∈ fileEntries elems t, AN_KEY2TYPE x.1 = t := by
  intro x hx
  unfold fileEntries at hx
  cases htag : tagOfType t with
  | none => simp [htag] at hx
  | some tag =>
    simp only [htag, List.mem_filterMap, List.mem_filter] at hx
    obtain ⟨p, ⟨hp, _⟩, he⟩ := hx
    rw [entryOf_key he]
    exact key2type_create t p.1.2 (by omega) (hok.2 p hp)

theorem loadType_perm (s : AnState) (t : Nat) (ht : t < 4) (hnl : s.loaded.contains t = false) (hok : FileOk s.elems)
    (hno : ∀ k ∈ s.tree.map (·.1), AN_KEY2TYPE k ≠ t) :
    (loadType s t).tree.Perm (s.tree ++ fileEntries s.elems t) ∧ (loadType s t).loaded = t :: s.loaded ∧
    (loadType s t).elems = s.elems := by
  have h4 : t = 0 ∨ t = 1 ∨ t = 2 ∨ t = 3 := by omega
  obtain ⟨tag, htag⟩ : ∃ tag, tagOfType t = some tag := by
    rcases h4 with rfl | rfl | rfl | rfl <;> exact ⟨_, rfl⟩
  rw [loadType_eq]
  unfold fileEntries
  simp only [hnl, htag, Bool.false_eq_true, if_false, and_self, and_true]
  apply loadFold_perm t tag (by omega)
  · intro p hp; exact hok.2 p (mem_ofTag.mp hp).1
  · -- among the elements of one tag, distinct tag/refs are distinct refs
    refine (hok.dist.sublist List.filter_sublist).imp_of_mem ?_
    intro a b ha hb hab heq
    have e1 := (mem_ofTag.mp ha).2
    exact hab (e1 ▸ tagOfType_ne_null htag) (Prod.ext (e1.trans (mem_ofTag.mp hb).2.symm) heq)
  · intro p hp hmem
    exact hno _ hmem (key2type_create t p.1.2 (by omega) (hok.2 p (mem_ofTag.mp hp).1))

theorem filter_type_fileEntries (elems : List ((Nat × Nat) × Bytes)) (hok : FileOk elems) (t t' : Nat) (ht : t < 4) :
    (fileEntries elems t).filter (fun p => AN_KEY2TYPE p.1 == t') = if t = t' then fileEntries elems t else [] := by
  by_cases h : t = t'
  · subst h
    simp only [if_true]
    exact List.filter_eq_self.mpr (fun x hx => by simp [fileEntries_type elems hok t ht x hx])
  · simp only [h, if_false]
    refine List.filter_eq_nil_iff.mpr (fun x hx => ?_)
    simp [fileEntries_type elems hok t ht x hx, h]

theorem loads_perm (ts : List Nat) (hts : ∀ t ∈ ts, t < 4) (hnd : ts.Nodup) (s : AnState) (hok : FileOk s.elems)
    (hl : ∀ t ∈ ts, s.loaded.contains t = false) (hno : ∀ x ∈ s.tree, AN_KEY2TYPE x.1 ∉ ts) :
    (ts.foldl loadType s).tree.Perm (s.tree ++ ts.flatMap (fileEntries s.elems)) := by
  induction ts generalizing s with
  | nil => simp
  | cons t r ih =>
    obtain ⟨hnt, hnd'⟩ := List.nodup_cons.mp hnd
    have ht := hts t List.mem_cons_self
    obtain ⟨hp, hld, hel⟩ := loadType_perm s t ht (hl t List.mem_cons_self) hok fun k hk => by
      obtain ⟨x, hx, rfl⟩ := List.mem_map.mp hk
      exact fun e => hno x hx (e ▸ List.mem_cons_self)
    -- the types still to come are not loaded after `t` is, and what `t` brought in has type `t`, which is not among them
    have := ih (fun t' h => hts t' (List.mem_cons_of_mem _ h)) hnd' (loadType s t) (hel ▸ hok)
      (fun t' h => by
        rw [hld, List.contains_cons, hl t' (List.mem_cons_of_mem _ h), Bool.or_false]
        exact beq_eq_false_iff_ne.mpr fun e => hnt (e ▸ h))
      (fun x hx hxr => by
        rcases List.mem_append.mp (hp.mem_iff.mp hx) with hx | hx
        · exact hno x hx (List.mem_cons_of_mem _ hxr)
        · exact hnt (fileEntries_type s.elems hok t ht x hx ▸ hxr))
    rw [hel] at this
    simpa only [List.foldl_cons, List.flatMap_cons, List.append_assoc] using this.trans (hp.append_right _)


/-- the documented loop over the file labels / file descriptions of a file,
    `for (first = 1; DFANgetfidlen(f, first) != FAIL; first = 0) DFANgetfid(f, buf, maxlen, first);`
    run for at most `fuel` rounds: the (length, text) pairs it reports -/
def dfWalk (t maxlen : Nat) : Nat → AnState → Nat → List (Int × Out)
  | 0, _, _ => []
  | fuel + 1, s, first =>
    match step s (.dfflen t first) with
    | (s1, .int l) =>
      (l, (step s1 (.dffget t first maxlen)).2) :: dfWalk t maxlen fuel (step s1 (.dffget t first maxlen)).1 0
    | _ => []

theorem setNext_elems (s : AnState) (t r : Nat) (d : Bool) : (setNext s t r d).elems = s.elems := by
  unfold setNext; split <;> rfl

theorem nextOf_setNext (s : AnState) (t r : Nat) (d : Bool) : nextOf (setNext s t r d) t = r := by
  by_cases h : t = AN_FILE_LABEL <;> simp [nextOf, setNext, h]

theorem doneOf_setNext (s : AnState) (t r : Nat) (d : Bool) : doneOf (setNext s t r d) t = d := by
  by_cases h : t = AN_FILE_LABEL <;> simp [doneOf, setNext, h]

theorem setNext_tree (s : AnState) (t r : Nat) (d : Bool) : (setNext s t r d).tree = s.tree := by
  unfold setNext; split <;> rfl

theorem startRead_wild (T : Nat) (E : List ((Nat × Nat) × Bytes)) :
    startRead T DFREF_WILDCARD E = (ofTag T E)[0]? := by
  rw [startRead, if_pos rfl, ← List.head?_eq_getElem?, List.head?_filter]

theorem startRead_ref {E : List ((Nat × Nat) × Bytes)} (D : Dist E) {p : (Nat × Nat) × Bytes} (hp : p ∈ E) {T : Nat}
    (hT : p.1.1 = T) (hn : T ≠ DFTAG_NULL) (hr : p.1.2 ≠ 0) : startRead T p.1.2 E = some p := by
  have h0 : ¬ p.1.2 = DFREF_WILDCARD := hr
  have hk : (T, p.1.2) = p.1 := by rw [← hT]
  simp only [startRead, h0, if_false, hk, elemLook_of_mem D hp (hT ▸ hn), Option.map_some]

theorem afterRef_filter (T : Nat) (hn : T ≠ DFTAG_NULL) : ∀ (E : List ((Nat × Nat) × Bytes)), Dist E →
    ∀ (i : Nat) (p : (Nat × Nat) × Bytes), (ofTag T E)[i]? = some p →
    afterRef T p.1.2 E = ((ofTag T E)[i + 1]?).map (·.1.2) := by
  intro E
  induction E with
  | nil => intro _ i p h; simp at h
  | cons a E' ih =>
    intro D i p h
    obtain ⟨ha, D'⟩ := List.pairwise_cons.mp D
    by_cases hta : a.1.1 = T
    · rw [ofTag_cons, if_pos hta] at h ⊢
      cases i with
      | zero =>
        simp only [List.getElem?_cons_zero, Option.some.injEq] at h
        subst h
        have hc : a.1 = (T, a.1.2) := by rw [← hta]
        simp only [afterRef]
        rw [if_pos hc]
        simp only [List.getElem?_cons_succ, ← List.head?_eq_getElem?, List.head?_filter]
      | succ i' =>
        simp only [List.getElem?_cons_succ] at h ⊢
        obtain ⟨hpE, hpT⟩ := mem_ofTag.mp (List.mem_of_getElem? h)
        have hne : ¬ a.1 = (T, p.1.2) := by
          have := ha p hpE (hta ▸ hn)
          rwa [← hpT]
        simp only [afterRef, hne, if_false]
        exact ih D' i' p h
    · rw [ofTag_cons, if_neg hta] at h ⊢
      have hne : ¬ a.1 = (T, p.1.2) := fun e => hta (by rw [e])
      simp only [afterRef, hne, if_false]
      exact ih D' i p h

def Going (s : AnState) (t first : Nat) : Prop := first = 1 ∨ doneOf s t = false

theorem Going.not_done {s : AnState} {t first : Nat} (hg : Going s t first) : ¬ (first ≠ 1 ∧ doneOf s t = true) := by
  rintro ⟨h1, h2⟩
  rcases hg with hg | hg
  · exact h1 hg
  · rw [hg] at h2; cases h2

theorem step_dfflen_some {s : AnState} {t T first : Nat} (hT : tagOfType t = some T) (hd : isDataType t = false)
    (hg : Going s t first) {p : (Nat × Nat) × Bytes}
    (h : startRead T (if first = 1 then DFREF_WILDCARD else nextOf s t) s.elems = some p) :
    step s (.dfflen t first) = (setNext s t p.1.2 false, .int p.2.length) := by
  simp only [step, hT, hd, Bool.false_eq_true, if_false, if_neg hg.not_done, h]

theorem step_dfflen_done {s : AnState} {t T first : Nat} (hT : tagOfType t = some T) (hd : isDataType t = false)
    (h1 : first ≠ 1) (h2 : doneOf s t = true) : step s (.dfflen t first) = (s, .fail) := by
  simp only [step, hT, hd, Bool.false_eq_true, if_false, if_pos (And.intro h1 h2)]

theorem step_dfflen_none {s : AnState} {t T first : Nat} (hT : tagOfType t = some T) (hd : isDataType t = false)
    (h : startRead T (if first = 1 then DFREF_WILDCARD else nextOf s t) s.elems = none) :
    step s (.dfflen t first) = (s, .fail) := by
  simp only [step, hT, hd, Bool.false_eq_true, if_false, h]
  split <;> rfl

theorem step_dffget_some {s : AnState} {t T first maxlen : Nat} (hT : tagOfType t = some T) (hd : isDataType t = false)
    (hg : Going s t first) {p : (Nat × Nat) × Bytes}
    (h : startRead T (if first = 1 then DFREF_WILDCARD else nextOf s t) s.elems = some p) :
    step s (.dffget t first maxlen) =
      (match afterRef T p.1.2 s.elems with
       | some r => setNext s t r false
       | none => setNext s t ((p.1.2 + 1) % 65536) true, .bytes (clipF p.2 maxlen)) := by
  simp only [step, hT, hd, if_neg hg.not_done, h, if_false, Bool.false_eq_true]
  cases afterRef T p.1.2 s.elems <;> rfl

def walkItem (maxlen : Nat) (p : (Nat × Nat) × Bytes) : Int × Out := ((p.2.length : Int), .bytes (clipF p.2 maxlen))

/-- `i`: the index of the element the next round reports, `k`: the number still to come. Of the first round (`first = 1`, `i = 0`) nothing
    is assumed; later the two C variables name element `i` (`nextOf`, `doneOf`). Induction on `k`: one round is `step_dfflen_some` then
    `step_dffget_some`; by `afterRef_filter` the ref kept for the next round is that of element `i + 1`. -/
theorem dfWalk_from (t T maxlen : Nat) (hT : tagOfType t = some T) (hd : isDataType t = false)
    (E : List ((Nat × Nat) × Bytes)) (D : Dist E) (hpos : ∀ p ∈ E, p.1.1 = T → p.1.2 ≠ 0) :
    ∀ (k i : Nat) (s : AnState) (first fuel : Nat), s.elems = E → i + k = (ofTag T E).length → k < fuel →
      (first = 1 → i = 0) →
      (first ≠ 1 → (k = 0 → doneOf s t = true) ∧
        ∀ p, (ofTag T E)[i]? = some p → doneOf s t = false ∧ nextOf s t = p.1.2) →
      dfWalk t maxlen fuel s first = ((ofTag T E).drop i).map (walkItem maxlen) := by
  have hn : T ≠ DFTAG_NULL := tagOfType_ne_null hT
  intro k
  induction k with
  | zero =>
    intro i s first fuel hs hik hf h1 h0
    obtain ⟨fuel', rfl⟩ : ∃ f', fuel = f' + 1 := ⟨fuel - 1, by omega⟩
    have hdrop : (ofTag T E).drop i = [] := List.drop_eq_nil_iff.mpr (by omega)
    have hfail : step s (.dfflen t first) = (s, .fail) := by
      by_cases hf1 : first = 1
      · have hi := h1 hf1
        apply step_dfflen_none hT hd
        simp only [hf1, if_true, hs, startRead_wild]
        exact List.getElem?_eq_none_iff.mpr (by omega)
      · exact step_dfflen_done hT hd hf1 ((h0 hf1).1 rfl)
    simp only [dfWalk, hfail, hdrop, List.map_nil]
  | succ k ih =>
    intro i s first fuel hs hik hf h1 h0
    obtain ⟨fuel', rfl⟩ : ∃ f', fuel = f' + 1 := ⟨fuel - 1, by omega⟩
    have hi : i < (ofTag T E).length := by omega
    obtain ⟨p, hp⟩ : ∃ p, (ofTag T E)[i]? = some p := ⟨_, List.getElem?_eq_getElem hi⟩
    obtain ⟨hpE, hpT⟩ := mem_ofTag.mp (List.mem_of_getElem? hp)
    have hlook : ∀ s' : AnState, s'.elems = E → (first ≠ 1 → nextOf s' t = p.1.2) →
        startRead T (if first = 1 then DFREF_WILDCARD else nextOf s' t) s'.elems = some p := by
      intro s' hs' hnx
      by_cases hf1 : first = 1
      · have hi0 := h1 hf1
        subst hi0
        simp only [hf1, if_true, hs', startRead_wild, hp]
      · simp only [hf1, if_false, hs', hnx hf1]
        exact startRead_ref D hpE hpT hn (hpos p hpE hpT)
    have hg1 : Going s t first := by
      by_cases hf1 : first = 1
      · exact Or.inl hf1
      · exact Or.inr ((h0 hf1).2 p hp).1
    have hl1 := hlook s hs (fun hf1 => ((h0 hf1).2 p hp).2)
    have hs1 : (setNext s t p.1.2 false).elems = E := by rw [setNext_elems, hs]
    have hg2 : Going (setNext s t p.1.2 false) t first := Or.inr (doneOf_setNext s t p.1.2 false)
    have hl2 := hlook (setNext s t p.1.2 false) hs1 (fun _ => nextOf_setNext s t p.1.2 false)
    have hdrop : (ofTag T E).drop i = p :: (ofTag T E).drop (i + 1) := by
      obtain ⟨h, rfl⟩ := List.getElem?_eq_some_iff.mp hp
      exact List.drop_eq_getElem_cons h
    have hafter := afterRef_filter T hn E D i p hp
    simp only [dfWalk, step_dfflen_some hT hd hg1 hl1, step_dffget_some hT hd hg2 hl2, hdrop, List.map_cons, walkItem, hs1]
    congr 1
    rw [hafter]
    apply ih (i + 1) _ 0 fuel'
    · cases (ofTag T E)[i + 1]? <;> simp only [Option.map] <;> rw [setNext_elems, hs1]
    · omega
    · omega
    · intro h; exact absurd h (by decide)
    · intro _
      constructor
      · intro hk0
        have hnone : (ofTag T E)[i + 1]? = none := List.getElem?_eq_none_iff.mpr (by omega)
        simp only [hnone, Option.map_none, doneOf_setNext]
      · intro q hq
        simp only [hq, Option.map_some, doneOf_setNext, nextOf_setNext, and_self]

theorem mem_elemDel {k : Nat × Nat} {l : List ((Nat × Nat) × Bytes)} {q : (Nat × Nat) × Bytes} (h : q ∈ elemDel k l) :
    q ∈ l ∨ q = ((DFTAG_NULL, 0), []) := by
  induction l with
  | nil => simp [elemDel] at h
  | cons a t ih =>
    obtain ⟨ka, va⟩ := a
    simp only [elemDel] at h
    split at h
    · rcases List.mem_cons.mp h with h | h
      · exact Or.inr h
      · exact Or.inl (List.mem_cons_of_mem _ h)
    · rcases List.mem_cons.mp h with h | h
      · exact Or.inl (h ▸ List.mem_cons_self)
      · rcases ih h with h | h
        · exact Or.inl (List.mem_cons_of_mem _ h)
        · exact Or.inr h

theorem dist_elemDel (k : Nat × Nat) {l : List ((Nat × Nat) × Bytes)} (D : Dist l) : Dist (elemDel k l) := by
  induction l with
  | nil => simp [elemDel, Dist]
  | cons a t ih =>
    obtain ⟨ka, va⟩ := a
    obtain ⟨ha, D'⟩ := List.pairwise_cons.mp D
    simp only [elemDel]
    split
    · exact List.pairwise_cons.mpr ⟨fun q _ hq => absurd rfl hq, D'⟩
    · refine List.pairwise_cons.mpr ⟨fun q hq hn => ?_, ih D'⟩
      rcases mem_elemDel hq with hq | rfl
      · exact ha q hq hn
      · exact fun e => hn (by rw [e])

theorem fileOk_elemDel (k : Nat × Nat) {l : List ((Nat × Nat) × Bytes)} (hok : FileOk l) : FileOk (elemDel k l) := by
  refine ⟨dist_elemDel k hok.1, fun q hq => ?_⟩
  rcases mem_elemDel hq with hq | rfl
  · exact hok.2 q hq
  · decide

theorem filter_elemDel (k : Nat × Nat) (l : List ((Nat × Nat) × Bytes)) (D : Dist l) (hk : k.1 ≠ DFTAG_NULL) (T : Nat)
    (hT : T ≠ DFTAG_NULL) :
    ofTag T (elemDel k l) = (ofTag T l).filter (fun p => p.1 != k) := by
  induction l with
  | nil => simp [elemDel]
  | cons a t ih =>
    obtain ⟨ka, va⟩ := a
    obtain ⟨ha, D'⟩ := List.pairwise_cons.mp D
    simp only [elemDel]
    by_cases h : ka = k
    · subst h
      have hnt : ¬ DFTAG_NULL = T := fun e => hT e.symm
      have hrest : (ofTag T t).filter (fun p => p.1 != ka) = ofTag T t :=
        List.filter_eq_self.mpr (fun q hq => by
          have := ha q (mem_ofTag.mp hq).1 hk
          simpa using fun e => this e.symm)
      by_cases hkt : ka.1 = T <;> simp [hnt, hkt, hrest]
    · have ih' := ih D'
      by_cases hkt : ka.1 = T <;> simp [h, hkt, ih']

end H4.Annot
