import H4.Lemmas.ElemOps
/-! The calls that name an element by tag/ref: `Hstartaccess`, `Hstartwrite` (= `Hstartaccess(DFACC_RDWR)` followed by
    `Hsetlength` when the element is new), `Hdeldd`, `HLcreate` (a new linked-block element, or an existing contiguous element
    re-registered as linked blocks). -/
namespace H4.Elem

theorem open_handle_ok (w : World) (hw : WFW w) (h fi : Nat) (hfi : fi < w.files.length)
    (a : Acc) (haf : a.file = fi) (hposn : a.posn = 0)
    (hH : WFH w a) :
    Eff w ((w.setFile fi { w.file fi with attach := (w.file fi).attach + 1 }).setAcc h a) fi ((w.file fi).keyOf a.slot)
      ((abs w).elem fi ((w.file fi).keyOf a.slot)) h (some { file := fi, key := (w.file fi).keyOf a.slot, pos := 0 }) := by
  refine ⟨?_, ?_⟩
  · apply hw.update fi hfi _ ((hw.files fi).attach _) (coh_attach (hw.coh fi) _) h a haf
    · subst haf; exact ⟨hH.live, hH.user, hH.special_iff, hH.new_of_none, hH.special_new, hH.blk⟩
    · intro _ _ _ _ _; exact ⟨rfl, rfl, id⟩
  · have := abs_update fi hfi { w.file fi with attach := (w.file fi).attach + 1 } h a haf
      ((w.file fi).keyOf a.slot) ((w.file fi).elem ((w.file fi).keyOf a.slot).1 ((w.file fi).keyOf a.slot).2) rfl rfl
      (fun _ _ _ => rfl) (fun _ _ _ _ _ => rfl)
    rw [hposn] at this
    exact this

theorem startaccess_eff (w : World) (hw : WFW w) (h fi tag ref : Nat) (wr app : Bool)
    (hsafe : OpSafe w (.startaccess h fi tag ref wr app)) :
    step w (.startaccess h fi tag ref wr app) = (w, .fail) ∨
    ∃ a, (step w (.startaccess h fi tag ref wr app)).2 = .ok ∧ (step w (.startaccess h fi tag ref wr app)).1.acc h = some a ∧
      a.canWrite = wr ∧
      (a.newElem = true → (((step w (.startaccess h fi tag ref wr app)).1.file a.file).dd a.slot).ext = none) ∧
      Eff w (step w (.startaccess h fi tag ref wr app)).1 fi (tag, ref) (some (((abs w).elem fi (tag, ref)).getD none)) h
        (some { file := fi, key := (tag, ref), pos := 0 }) := by
  obtain ⟨hnone, hu⟩ := hsafe
  -- `hr` follows the branches of `hstartaccess`; `subst hr` then puts the world a branch builds into the goal
  generalize hr : step w (.startaccess h fi tag ref wr app) = r
  simp only [step, hstartaccess] at hr
  by_cases hop' : (w.file fi).isOpen = false
  · rw [if_pos (by simp [hop'])] at hr; exact Or.inl hr.symm
  have hop : (w.file fi).isOpen = true := by simpa using hop'
  have hfi := file_lt_of_open w fi hop
  rw [if_neg (by simp [hop])] at hr
  by_cases hwrt : (wr && !(w.file fi).writable) = true
  · rw [if_pos hwrt] at hr; exact Or.inl hr.symm
  rw [if_neg hwrt] at hr
  have hE := hw.files fi
  have hbase : baseTag tag = tag := userKey_base hu
  cases hsel : (w.file fi).select tag ref with
  | none =>
    simp only [hsel] at hr
    by_cases hwr' : wr = false
    · rw [if_pos (by simp [hwr'])] at hr; exact Or.inl hr.symm
    have hwr : wr = true := by simpa using hwr'
    rw [if_neg (by simp [hwr])] at hr
    have hfresh : ∀ j, ¬ (w.file fi).hasKey j tag ref := select_none _ _ _ hsel
    have C := ddCreate_spec (w.file fi) tag ref hE.ndds_pos hE.tail0
    have hC1 := coh_ddCreate (hw.coh fi) tag ref
    generalize hc : (w.file fi).ddCreate tag ref = c at C hC1 hr
    obtain ⟨f1, i⟩ := c
    simp only at C hC1 hr
    subst hr
    have hel : (abs w).elem fi (tag, ref) = none := by rw [abs_elem]; unfold File.elem; rw [hsel]; rfl
    rw [hel]
    refine Or.inr ⟨_, rfl, acc_update .., rfl, fun _ => ?_,
      elemSet_world w hw h fi hfi none (tag, ref) none _ i ((C.elemSet hE hu hfresh).attach _) (coh_attach hC1 _) hu nofun
        { file := fi, slot := i, appendable := app, newElem := true, canWrite := wr } rfl rfl
        (by show false = isSpecial (f1.dd i).tag; rw [C.dd_new]; exact hu.1.symm) nofun default_blk (fun _ => rfl)⟩
    rw [file_update_same w fi hfi]
    show (f1.dd i).ext = none
    rw [C.dd_new]
  | some i =>
    simp only [hsel] at hr
    have hk := select_some _ _ _ i hsel
    have hkey : (w.file fi).keyOf i = (tag, ref) := by
      unfold File.keyOf; rw [hk.2.1, hk.2.2, hbase]
    have hel : (abs w).elem fi (tag, ref) = some ((w.file fi).slotBytes i) := by
      rw [abs_elem]; unfold File.elem; rw [hsel]; rfl
    by_cases hsp : isSpecial ((w.file fi).dd i).tag = true
    · obtain ⟨li, ho, hl, hlink, hwl, _, _⟩ := hE.linked_ok i hk.1 hsp
      have hlink' : (w.file fi).link (baseTag ((w.file fi).dd i).tag, ((w.file fi).dd i).ref) = some li := hlink
      rw [if_pos hsp] at hr
      simp only [hlink'] at hr
      subst hr
      have E := open_handle_ok w hw h fi hfi
        { file := fi, slot := i, appendable := app, canWrite := wr, special := true, blockSize := li.blockLen, numBlocks := li.numBlocks }
        rfl rfl ⟨hk.1, by rw [hkey]; exact hu, hsp.symm, fun hh => absurd (show true = false from hh) (by decide), fun _ => rfl, hwl.blk_pos, hwl.nb_pos⟩
      rw [hel]
      rw [hkey, hel] at E
      exact Or.inr ⟨_, rfl, by rw [acc_setAcc, if_pos rfl], rfl, fun c => absurd (show false = true from c) (by decide), E⟩
    · have hsp0 : isSpecial ((w.file fi).dd i).tag = false := by simpa using hsp
      rw [if_neg hsp] at hr
      subst hr
      have E := open_handle_ok w hw h fi hfi
        { file := fi, slot := i, appendable := app, newElem := ((w.file fi).dd i).ext.isNone, canWrite := wr }
        rfl rfl ⟨hk.1, by rw [hkey]; exact hu, hsp0.symm, fun _ hx => by
          show ((w.file fi).dd i).ext.isNone = true
          have hx' : ((w.file fi).dd i).ext = none := hx
          rw [hx']; rfl, fun hh => absurd (show false = true from hh) (by decide), default_blk⟩
      rw [hel]
      rw [hkey, hel] at E
      refine Or.inr ⟨_, rfl, by rw [acc_setAcc, if_pos rfl], rfl, fun c => ?_, E⟩
      rw [file_setAcc, file_setFile_same w fi _ hfi]
      show ((w.file fi).dd i).ext = none
      have c' : ((w.file fi).dd i).ext.isNone = true := c
      cases hx : ((w.file fi).dd i).ext with
      | none => rfl
      | some p => rw [hx] at c'; cases c'

theorem stepSim_startaccess (w : World) (hw : WFW w) (h fi tag ref : Nat) (wr app : Bool)
    (hsafe : OpSafe w (.startaccess h fi tag ref wr app)) : StepSim w (.startaccess h fi tag ref wr app) := by
  rcases startaccess_eff w hw h fi tag ref wr app hsafe with hf | ⟨a, hr, _, _, _, E⟩
  · exact ResOK.of_fail hw hf
  · refine E.resOK fun v hv => ?_
    rw [hr, ← hv.2.1 fi (tag, ref) hsafe.2]
    refine ⟨_, by simp only [specStep, userKey_base hsafe.2]; exact rfl, ?_⟩
    cases he : v.elem fi (tag, ref) with
    | none => exact Eqv.refl _
    | some x => rw [if_neg (fun c => by cases c)]; exact View.eqv_setHnd _ h _ he

theorem stepSim_startwrite (w : World) (hw : WFW w) (h fi tag ref len : Nat)
    (hsafe : OpSafe w (.startwrite h fi tag ref len)) : StepSim w (.startwrite h fi tag ref len) := by
  have hu := hsafe.2
  have hbase : baseTag tag = tag := userKey_base hu
  have hst : step w (.startwrite h fi tag ref len) = hstartwrite w h fi tag ref len := rfl
  rcases startaccess_eff w hw h fi tag ref true false hsafe with hf | ⟨a, hr, ha, hcw, hnewx, E⟩
  · exact ResOK.of_fail hw (by
      rw [hst]; unfold hstartwrite; rw [show hstartaccess w h fi tag ref true false = (w, .fail) from hf])
  generalize hs1 : step w (.startaccess h fi tag ref true false) = s1 at hr ha hnewx E
  obtain ⟨w1, r1⟩ := s1
  simp only at hr ha hnewx E
  subst hr
  have hs1' : hstartaccess w h fi tag ref true false = (w1, .ok) := hs1
  obtain ⟨haf, hak, hap⟩ := E.acc ha
  have he1 := handle_elem w1 E.wfw h a ha
  rw [hak, haf, E.elem hu] at he1
  have hh := E.wfw.handles h a ha
  cases hne : a.newElem with
  | false =>
    have hstep : step w (.startwrite h fi tag ref len) = (w1, .ok) := by
      rw [hst]; unfold hstartwrite; rw [hs1']; simp only [ha, hne]; rfl
    have hsome : ∃ b, (w1.file a.file).slotBytes a.slot = some b := by
      cases hsp : a.special with
      | true =>
        have hsp' := hh.special_iff; rw [hsp] at hsp'
        obtain ⟨li, _, _, hlink, _⟩ := (E.wfw.files a.file).linked_ok a.slot hh.live hsp'.symm
        rw [slotBytes_special _ _ hsp'.symm, hlink]; exact ⟨_, rfl⟩
      | false =>
        have hsp' := hh.special_iff; rw [hsp] at hsp'
        rw [slotBytes_plain _ _ hsp'.symm]
        cases hx' : ((w1.file a.file).dd a.slot).ext with
        | none => have := hh.new_of_none hsp hx'; rw [hne] at this; cases this
        | some p => exact ⟨_, rfl⟩
    obtain ⟨b, hb⟩ := hsome
    rw [haf] at hb
    rw [hb] at he1
    have hw_el : (abs w).elem fi (tag, ref) = some (some b) := by
      cases c : (abs w).elem fi (tag, ref) with
      | none => rw [c] at he1; cases he1
      | some x => rw [c] at he1; exact congrArg some (Option.some.inj he1)
    rw [hw_el] at E
    unfold StepSim
    rw [hstep]
    refine Eff.resOK (r := (_, _)) E fun v hv => ?_
    have hv_el : v.elem fi (tag, ref) = some (some b) := by rw [hv.2.1 _ _ hu]; exact hw_el
    exact ⟨_, by simp only [specStep, hbase, hv_el], View.eqv_setHnd v h _ hv_el⟩
  | true =>
    have hsp : a.special = false := by
      cases hs : a.special with
      | false => rfl
      | true => have := hh.special_new hs; rw [hne] at this; cases this
    have hx0 : ((w1.file a.file).dd a.slot).ext = none := hnewx hne
    have hstep : step w (.startwrite h fi tag ref len) =
        ((w1.setFile a.file ((w1.file a.file).setLength a.slot len).1).setAcc h { a with newElem := false }, .ok) := by
      rw [hst]; unfold hstartwrite; rw [hs1']; simp only [ha, hne, if_true]
      -- `HIrefresh_new` finds nothing to do on the record `Hstartaccess` has just made
      have hrf : w1.refresh h = w1 := by
        unfold World.refresh; rw [ha]; simp only
        have : a.refresh (w1.file a.file) = a := by
          unfold Acc.refresh; rw [if_neg (fun c => c.2.2 hx0)]
        rw [if_pos this]
      unfold hsetlength
      rw [hrf]
      unfold hsetlengthCore
      simp only [ha, hne, hcw]
      rfl
    have E2 : Eff w1 (step w (.startwrite h fi tag ref len)).1 fi (tag, ref) (some (some (zeros len))) h
        (some { file := fi, key := (tag, ref), pos := 0 }) := by
      rw [hstep, ← hak, ← hap]; rw [← haf]; exact setLength_world w1 E.wfw h a ha hsp len a.appendable
    have hw_el : (abs w).elem fi (tag, ref) = none ∨ (abs w).elem fi (tag, ref) = some none := by
      rw [slotBytes_plain _ _ (by rw [← haf, ← hh.special_iff]; exact hsp), show ((w1.file fi).dd a.slot).ext = none from haf ▸ hx0] at he1
      cases c : (abs w).elem fi (tag, ref) with
      | none => exact Or.inl rfl
      | some x => rw [c] at he1; exact Or.inr (congrArg some (Option.some.inj he1))
    have E3 := E.trans E2
    unfold StepSim
    rw [hstep] at E3 ⊢
    refine Eff.resOK (r := (_, _)) E3 fun v hv => ⟨_, ?_, Eqv.refl _⟩
    have hv_el := hv.2.1 fi (tag, ref) hu
    rcases hw_el with c | c <;> rw [c] at hv_el <;> simp only [specStep, hbase, hv_el]

theorem stepSim_deldd (w : World) (hw : WFW w) (fi tag ref : Nat) (hsafe : OpSafe w (.deldd fi tag ref)) :
    StepSim w (.deldd fi tag ref) := by
  obtain ⟨hu, hnoh⟩ := hsafe
  have hbase : baseTag tag = tag := userKey_base hu
  unfold StepSim
  simp only [step, hdeldd]
  by_cases hop' : (w.file fi).isOpen = false
  · rw [if_pos (by simp [hop'])]; exact ResOK.fail hw _
  have hop : (w.file fi).isOpen = true := by simpa using hop'
  have hfi := file_lt_of_open w fi hop
  rw [if_neg (by simp [hop])]
  cases hsel : (w.file fi).select tag ref with
  | none => exact ResOK.fail hw _
  | some i =>
    have hk := select_some _ _ _ i hsel
    have hE := hw.files fi
    have hil := live_lt _ i hk.1
    have hkey : (w.file fi).keyOf i = (tag, ref) := keyOf_of_hasKey (k := (tag, ref)) hu hk
    have hbt : baseTag ((w.file fi).dd i).tag = tag := by rw [hk.2.1, hbase]
    have D := ddDelete_spec (w.file fi) hE i hk.1 (by rw [hbt]; exact hu.2.1)
    have hnoi := hnoh i hsel
    have hkeep : ∀ h a, w.acc h = some a → a.file = fi → ((w.file fi).ddDelete i).dd a.slot = (w.file fi).dd a.slot :=
      fun h a ha e => D.dd_keep _ (fun es => hnoi h a ha ⟨e, es⟩)
    exact ⟨hw.setFile fi hfi _ D.wfe (coh_ddDelete (hw.coh fi) i hil) hkeep,
      fun v hv => ⟨v.setElem fi (tag, ref) none, by simp only [specStep, hbase],
        Eqv.trans (Eqv.setElem hv _ _ _) (abs_setFile_elem fi hfi _ (tag, ref) none D.present (D.elem_none hE.toWFF hk)
          (fun k' hu' hne => D.elem_frame hu' (hkey ▸ hne)) (fun h a ha e => keyOf_eq (hkeep h a ha e)))⟩⟩

theorem stepSim_hlcreate (w : World) (hw : WFW w) (h fi tag ref blen nblk : Nat)
    (hsafe : OpSafe w (.hlcreate h fi tag ref blen nblk)) : StepSim w (.hlcreate h fi tag ref blen nblk) := by
  obtain ⟨hnone, hu, hb, hn, hnoh⟩ := hsafe
  have hbase : baseTag tag = tag := userKey_base hu
  have hnsp : isSpecial tag = false := hu.1
  by_cases hguard : (!(w.file fi).isOpen || !(w.file fi).writable || isSpecial tag) = true
  · exact ResOK.of_fail hw (by simp only [step, hlcreate]; rw [if_pos hguard])
  have hop : (w.file fi).isOpen = true := by
    cases ho : (w.file fi).isOpen with
    | true => rfl
    | false => rw [ho] at hguard; simp at hguard
  have hfi := file_lt_of_open w fi hop
  have hE := hw.files fi
  have hCoh := hw.coh fi
  -- the three ways `mk` is reached all end in `elemSet_world`
  have hfinish : ∀ (old : Option Nat) (B : Bytes) (f' : File) (s' : Nat),
      Replaced (w.file fi) old (tag, ref) B f' s' → Coh f' →
      (∀ i, old = some i → NoHandleOn w fi i ∧ (w.file fi).hasKey i tag ref) →
      step w (.hlcreate h fi tag ref blen nblk) =
        ((w.setFile fi { f' with attach := f'.attach + 1 }).setAcc h { file := fi, slot := s', canWrite := true, special := true }, .ok) →
      (match (abs w).elem fi (tag, ref) with
       | none | some none => B = []
       | some (some b) => B = b) →
      StepSim w (.hlcreate h fi tag ref blen nblk) := by
    intro old B f' s' R hC hold hstep hB
    have E := elemSet_world w hw h fi hfi old (tag, ref) _ _ s' (R.elemSet.attach (f'.attach + 1)) (coh_attach hC _) hu
      (fun i e => ⟨(hold i e).2, fun h' a'' _ ha'' => (hold i e).1 h' a'' ha''⟩)
      { file := fi, slot := s', canWrite := true, special := true } rfl rfl R.special'.symm (fun _ => rfl) default_blk nofun
    unfold StepSim
    rw [hstep]
    refine Eff.resOK (r := (_, _)) E fun v hv => ?_
    have hve := hv.2.1 fi (tag, ref) hu
    cases hel : (abs w).elem fi (tag, ref) with
    | none =>
      rw [hel] at hB hve; simp only at hB; subst hB
      exact ⟨_, by simp only [specStep, hbase, hve], Eqv.refl _⟩
    | some e =>
      cases e with
      | none =>
        rw [hel] at hB hve; simp only at hB; subst hB
        exact ⟨_, by simp only [specStep, hbase, hve], Eqv.refl _⟩
      | some b =>
        rw [hel] at hB hve; simp only at hB; subst hB
        exact ⟨_, by simp only [specStep, hbase, hve], View.eqv_setHnd v h _ hve⟩
  cases hsel : (w.file fi).select tag ref with
  | none =>
    have hfresh : ∀ j, ¬ (w.file fi).hasKey j tag ref := select_none _ _ _ hsel
    apply hfinish none [] _ _ (mkLinked_replaced (w.file fi) hE tag ref blen nblk hnsp hu.2.2.2.2 hu.2.1 hfresh hb hn)
      (coh_mkLinked hCoh tag ref blen nblk)
      (fun i e => by cases e)
    · simp only [step, hlcreate]
      rw [if_neg hguard]
      simp only [hsel, hbase]
      rfl
    · have : (abs w).elem fi (tag, ref) = none := by rw [abs_elem]; unfold File.elem; rw [hsel]; rfl
      rw [this]
  | some i =>
    have hk := select_some _ _ _ i hsel
    have hil := live_lt _ i hk.1
    have hkey : (w.file fi).keyOf i = (tag, ref) := keyOf_of_hasKey (k := (tag, ref)) hu hk
    have hel : (abs w).elem fi (tag, ref) = some ((w.file fi).slotBytes i) := by
      rw [abs_elem]; unfold File.elem; rw [hsel]; rfl
    by_cases hsp : isSpecial ((w.file fi).dd i).tag = true
    · exact ResOK.of_fail hw (by
        simp only [step, hlcreate]; rw [if_neg hguard]; simp only [hsel]; rw [if_pos hsp])
    have hsp0 : isSpecial ((w.file fi).dd i).tag = false := by simpa using hsp
    have htag : ((w.file fi).dd i).tag = tag := by
      have := hk.2.1; rw [baseTag_not_special _ hsp0, hbase] at this; exact this
    have href : ((w.file fi).dd i).ref = ref := hk.2.2
    have hnoi := hnoh i hsel
    cases hx : ((w.file fi).dd i).ext with
    | none =>
      -- the DD without data is dropped, then the element is created as above
      have D := ddDelete_spec (w.file fi) hE i hk.1 (by rw [htag, hbase]; exact hu.2.1)
      have M := mkLinked_spec ((w.file fi).ddDelete i) D.wfe tag ref blen nblk hnsp hu.2.2.2.2 hu.2.1 (D.fresh hE.toWFF hk.1 hk) hb hn
      apply hfinish (some i) [] _ _ ⟨M.wfe, M.live', M.special', M.key', M.bytes, ?_, ?_, by rw [M.present, D.present]⟩
        (coh_mkLinked (coh_ddDelete hCoh i hil) tag ref blen nblk)
        (fun i' e => by cases e; exact ⟨hnoi, hk⟩)
      · simp only [step, hlcreate]
        rw [if_neg hguard]
        simp only [hsel]
        rw [if_neg hsp]
        simp only [hx, hbase]
        rfl
      · rw [hel, slotBytes_plain _ _ hsp0, hx]; rfl
      · intro x hxl hxo
        have hxi : x ≠ i := fun e => hxo (by rw [e])
        have h1 := M.others x ((D.live x).mpr ⟨hxl, hxi⟩)
        exact ⟨by rw [h1.1, D.dd_keep x hxi], by rw [h1.2]; exact D.bytes x hxl hxi⟩
      · intro x hxl
        rcases M.new_slots x hxl with c | c | c
        · obtain ⟨c1, c2⟩ := (D.live x).mp c
          exact Or.inl ⟨c1, fun e => c2 (Option.some.inj e).symm⟩
        · exact Or.inr (Or.inl c)
        · exact Or.inr (Or.inr c)
    | some e =>
      obtain ⟨o, l⟩ := e
      -- the data becomes the first block: `HLconvert`'s tail
      have C := convertTail_replaced (w.file fi) hE i o l blen nblk hk.1 hsp0 (by rw [htag]; exact hu.2.2.2.2)
        (by rw [htag]; exact hu.2.1) hx hb hn
      have hCC := coh_convertTail hCoh i ((w.file fi).dd i) o l blen nblk hil
      apply hfinish (some i) ((w.file fi).bytesAt o l) _ _ (hkey ▸ C) hCC
        (fun i' e => by cases e; exact ⟨hnoi, hk⟩)
      · simp only [step, hlcreate]
        rw [if_neg hguard]
        simp only [hsel]
        rw [if_neg hsp]
        simp only [hx]
        unfold File.convertTail
        simp only [htag, href]
      · rw [hel, slotBytes_plain _ _ hsp0, hx]
        rfl

end H4.Elem
