import H4.Gen.Fn.Hcomp
import H4.Format
import H4.CompHdr
import H4.Lemmas.FormatU8s
/-! `HCPencode_header` / `HCPdecode_header` of `hdf/src/hcomp.c` as translated from the C text (`H4.Gen.Fn.Hcomp`) against the hand-written
    codec `H4.Format.encodeCoderInfo / decodeCoderInfo`.  Each function is restated as a composition of the macro combinators of `H4.C2L`;
    the kernel checks the restatement against the generated definition (`HCPencode_header_phases`, `HCPdecode_header_phases`). -/
namespace H4.Lemmas.C02HdrFn
open H4 H4.Format H4.Gen.Hdf H4.Gen.Fmt H4.Gen.Fn.Hcomp H4.C2L H4.CompHdr

def encL : Cursor ESt where
  buf := (·.p)
  pos := (·.p_i)
  ub := (·.ub)
  setBuf := HCPencode_header.St.set_p
  setPos := HCPencode_header.St.set_p_i
  chk := fun s c _ => HCPencode_header.chk s c

theorem encP : encL.Plain fun s u => { s with ub := u } := {}
theorem encLaw : encL.LawfulW := encP.lawfulW

/-- `case COMP_CODE_NBIT:` (operands read from the state at entry: no store of the function changes them) -/
def nbitW (s : ESt) : ESt :=
  have t : ESt := enc32 encL s ((s.c_info_nbit_nt) % 4294967296)
  have t : ESt := enc16 encL t ((s.c_info_nbit_sign_ext) % 65536) ((s.c_info_nbit_sign_ext) % 65536)
  have t : ESt := enc16 encL t ((s.c_info_nbit_fill_one) % 65536) ((s.c_info_nbit_fill_one) % 65536)
  have t : ESt := enc32 encL t ((s.c_info_nbit_start_bit) % 4294967296)
  have t : ESt := enc32 encL t ((s.c_info_nbit_bit_len) % 4294967296)
  t

/-- `case COMP_CODE_SKPHUFF:` -/
def skpW (s : ESt) : ESt :=
  have s : ESt := if (s.c_info_skphuff_skp_size < 1) then
      have s : ESt := HCPencode_header.St.set_ret s ((- 1))
      have s : ESt := HCPencode_header.St.set_done s (true)
      s
    else
      s
  have s : ESt := if s.done ∨ s.gto then s else
    enc32 encL s ((s.c_info_skphuff_skp_size) % 4294967296)
  have s : ESt := if s.done ∨ s.gto then s else
    enc32 encL s ((s.c_info_skphuff_skp_size) % 4294967296)
  s

/-- `case COMP_CODE_DEFLATE:` -/
def deflW (s : ESt) : ESt :=
  have s : ESt := if ((s.c_info_deflate_level < 0) ∨ (s.c_info_deflate_level > 9)) then
      have s : ESt := HCPencode_header.St.set_ret s ((- 1))
      have s : ESt := HCPencode_header.St.set_done s (true)
      s
    else
      s
  have s : ESt := if s.done ∨ s.gto then s else
    enc16 encL s ((s.c_info_deflate_level) % 65536) ((s.c_info_deflate_level) % 65536)
  s

/-- `case COMP_CODE_SZIP:` -/
def szipW (s : ESt) : ESt :=
  have t : ESt := enc32 encL s ((s.c_info_szip_pixels) % 4294967296)
  have t : ESt := enc32 encL t ((s.c_info_szip_pixels_per_scanline) % 4294967296)
  have t : ESt := enc32 encL t ((orS s.c_info_szip_options_mask 65536) % 4294967296)
  have t : ESt := pbyte encL t ((s.c_info_szip_bits_per_pixel) % 256)
  have t : ESt := pbyte encL t ((s.c_info_szip_pixels_per_block) % 256)
  t

/-- `case COMP_CODE_IMCOMP:` -/
def imcompW (s : ESt) : ESt :=
  have s : ESt := HCPencode_header.St.set_ret s ((- 1))
  have s : ESt := HCPencode_header.St.set_done s (true)
  s

/-- `ret_value = SUCCEED; if (p == NULL || m_info == NULL || c_info == NULL) HGOTO_ERROR(DFE_ARGS, FAIL);` -/
def preW (s : ESt) : ESt :=
  have s : ESt := HCPencode_header.St.set_ret_value s (0)
  have s : ESt := if ((False ∨ (s.m_info_null = true)) ∨ (s.c_info_null = true)) then
      have s : ESt := HCPencode_header.St.set_ret_value s ((- 1))
      have s : ESt := HCPencode_header.St.set_gto s (true)
      s
    else
      s
  s

/-- the two type fields; `switch (model_type) { default: break; }` -/
def hdrW (s : ESt) : ESt :=
  have s : ESt := if s.done ∨ s.gto then s else
    enc16 encL s ((s.model_type) % 65536) ((s.model_type) % 65536)
  have s : ESt := if s.done ∨ s.gto then s else
    enc16 encL s ((s.coder_type) % 65536) ((s.coder_type) % 65536)
  have s : ESt := if s.done ∨ s.gto then s else
    s
  s

/-- `switch (coder_type)` -/
def swW (s : ESt) : ESt :=
  if s.done ∨ s.gto then s else
    let sw : Int := s.coder_type
    if sw = ((2) % 4294967296) then nbitW s
    else if sw = ((3) % 4294967296) then skpW s
    else if sw = ((4) % 4294967296) then deflW s
    else if sw = ((5) % 4294967296) then szipW s
    else if sw = ((12) % 4294967296) then imcompW s
    else s

/-- `done: return ret_value;` -/
def finW (s : ESt) : ESt :=
  if s.done then s else
    have s : ESt := HCPencode_header.St.set_gto s (false)
    have s : ESt := HCPencode_header.St.set_ret s (s.ret_value)
    have s : ESt := HCPencode_header.St.set_done s (true)
    s

def encBody (s : ESt) : ESt := finW (swW (hdrW (preW s)))

def encInit (p : List Int) (model_type : Int) (m_info_null : Bool) (coder_type : Int) (c_info_null : Bool) (c : CInfo) : ESt :=
  { p := p, model_type := model_type, m_info_null := m_info_null, coder_type := coder_type, c_info_null := c_info_null,
    c_info_nbit_nt := c.nt, c_info_nbit_sign_ext := c.sign_ext, c_info_nbit_fill_one := c.fill_one,
    c_info_nbit_start_bit := c.start_bit, c_info_nbit_bit_len := c.bit_len, c_info_skphuff_skp_size := c.skp_size,
    c_info_deflate_level := c.level, c_info_szip_pixels := c.pixels, c_info_szip_pixels_per_scanline := c.pixels_per_scanline,
    c_info_szip_options_mask := c.options_mask, c_info_szip_bits_per_pixel := c.bits_per_pixel,
    c_info_szip_pixels_per_block := c.pixels_per_block }

/-- **the restatement is the generated definition** (kernel check: any change of the translated C text that is not a change of
    these phases breaks it) -/
theorem HCPencode_header_phases (fuel : Nat) (p : List Int) (model_type : Int) (m_info_null : Bool) (coder_type : Int)
    (c_info_null : Bool) (c : CInfo) :
    HCPencode_headerC fuel p model_type m_info_null coder_type c_info_null c =
      encBody (encInit p model_type m_info_null coder_type c_info_null c) := by
  kernel_rfl

theorem be16I_length (x : Int) : (be16I x).length = 2 := rfl
theorem be32I_length (x : Int) : (be32I x).length = 4 := rfl

def nbitB (c : CInfo) : List Int :=
  be32I (c.nt % 4294967296) ++ be16I (c.sign_ext % 65536) ++ be16I (c.fill_one % 65536) ++ be32I (c.start_bit % 4294967296) ++
    be32I (c.bit_len % 4294967296)
def skpB (c : CInfo) : List Int := be32I (c.skp_size % 4294967296) ++ be32I (c.skp_size % 4294967296)
def deflB (c : CInfo) : List Int := be16I (c.level % 65536)
def szipB (c : CInfo) : List Int :=
  be32I (c.pixels % 4294967296) ++ be32I (c.pixels_per_scanline % 4294967296) ++ be32I ((orS c.options_mask 65536) % 4294967296) ++
    [c.bits_per_pixel % 256] ++ [c.pixels_per_block % 256]

theorem nbitW_eq (s : ESt) : nbitW s = wr encL s (nbitB (cinfoOf s)) := by
  unfold nbitW
  simp only []
  rw [enc32_wr encLaw s _ (by omega), enc16_wr encLaw _ _ _ (by omega) rfl, enc16_wr encLaw _ _ _ (by omega) rfl,
    enc32_wr encLaw _ _ (by omega), enc32_wr encLaw _ _ (by omega), wr_wr encLaw, wr_wr encLaw, wr_wr encLaw, wr_wr encLaw]
  rfl

theorem szipW_eq (s : ESt) : szipW s = wr encL s (szipB (cinfoOf s)) := by
  unfold szipW
  simp only []
  rw [enc32_wr encLaw s _ (by omega), enc32_wr encLaw _ _ (by omega), enc32_wr encLaw _ _ (by omega), pbyte_wr encLaw, pbyte_wr encLaw,
    wr_wr encLaw, wr_wr encLaw, wr_wr encLaw, wr_wr encLaw]
  rfl

theorem putN_struct (s : ESt) (vs : List Int) :
    putN encL s vs = { s with p := setsFrom s.p s.p_i vs, p_i := s.p_i + vs.length } := by
  induction vs generalizing s with
  | nil => simp [putN, setsFrom]
  | cons v vs ih =>
    rw [putN_cons, ih]
    simp only [put, encL, HCPencode_header.St.set_p, HCPencode_header.St.set_p_i, setsFrom, List.length_cons]
    congr 1
    omega

theorem ret_putN (s : ESt) (vs : List Int) : (putN encL s vs).ret = s.ret := frame_putN encL (·.ret) (fun _ _ => rfl) (fun _ _ => rfl) s vs

theorem done_wr (s : ESt) (vs : List Int) : (wr encL s vs).done = s.done := frames_wr (L := encL) (x := (·.done)) {} s vs
theorem gto_wr (s : ESt) (vs : List Int) : (wr encL s vs).gto = s.gto := frames_wr (L := encL) (x := (·.gto)) {} s vs

theorem preW_ok (s : ESt) (h1 : s.m_info_null = false) (h2 : s.c_info_null = false) : preW s = { s with ret_value := 0 } := by
  simp only [preW, HCPencode_header.St.set_ret_value, h1, h2, Bool.false_eq_true, or_self, if_false]

theorem preW_null (s : ESt) (h : s.m_info_null = true ∨ s.c_info_null = true) : preW s = { s with ret_value := -1, gto := true } := by
  have c : (False ∨ (s.m_info_null = true)) ∨ (s.c_info_null = true) := by
    rcases h with h | h <;> simp only [h, or_true, true_or]
  simp only [preW, HCPencode_header.St.set_ret_value, HCPencode_header.St.set_gto]
  rw [if_pos c]

theorem hdrW_ok (s : ESt) (hd : s.done = false) (hg : s.gto = false) :
    hdrW s = wr encL s (be16I s.model_type ++ be16I s.coder_type) := by
  unfold hdrW
  simp only [hd, hg, Bool.false_eq_true, or_self, if_false]
  rw [enc16_wr encLaw s _ _ (by omega) rfl]
  simp only [done_wr, gto_wr, frames_wr (L := encL) (x := (·.coder_type)) {}, hd, hg, Bool.false_eq_true, or_self, if_false]
  rw [enc16_wr encLaw _ _ _ (by omega) rfl, wr_wr encLaw, be16I_mod, be16I_mod]
  simp only [ite_self]

theorem hdrW_skip (s : ESt) (hg : s.gto = true) : hdrW s = s := by
  unfold hdrW
  simp only [hg, or_true, if_true]

theorem swW_skip (s : ESt) (hg : s.gto = true) : swW s = s := by
  unfold swW
  simp only [hg, or_true, if_true]

def finS (s : ESt) : ESt := { s with gto := false, ret := s.ret_value, done := true }

theorem finW_ok (s : ESt) (hd : s.done = false) : finW s = finS s := by
  simp only [finW, finS, hd, Bool.false_eq_true, if_false, HCPencode_header.St.set_done]

theorem finW_done (s : ESt) (hd : s.done = true) : finW s = s := by
  simp only [finW, hd, if_true]

theorem skpW_ok (s : ESt) (hd : s.done = false) (hg : s.gto = false) (h : ¬ s.c_info_skphuff_skp_size < 1) :
    skpW s = wr encL s (skpB (cinfoOf s)) := by
  unfold skpW
  simp only [h, if_false, hd, hg, Bool.false_eq_true, or_self]
  rw [enc32_wr encLaw s _ (by omega)]
  simp only [done_wr, gto_wr, frames_wr (L := encL) (x := (·.c_info_skphuff_skp_size)) {}, hd, hg, Bool.false_eq_true, or_self, if_false]
  rw [enc32_wr encLaw _ _ (by omega), wr_wr encLaw]
  rfl

theorem skpW_fail (s : ESt) (h : s.c_info_skphuff_skp_size < 1) : skpW s = { s with ret := -1, done := true } := by
  unfold skpW
  simp only [h, if_true, HCPencode_header.St.set_done, true_or]

theorem deflW_ok (s : ESt) (hd : s.done = false) (hg : s.gto = false) (h : ¬ (s.c_info_deflate_level < 0 ∨ s.c_info_deflate_level > 9)) :
    deflW s = wr encL s (deflB (cinfoOf s)) := by
  unfold deflW
  simp only [h, if_false, hd, hg, Bool.false_eq_true, or_self]
  rw [enc16_wr encLaw s _ _ (by omega) rfl]
  rfl

theorem deflW_fail (s : ESt) (h : s.c_info_deflate_level < 0 ∨ s.c_info_deflate_level > 9) : deflW s = { s with ret := -1, done := true } := by
  unfold deflW
  simp only [h, if_true, HCPencode_header.St.set_done, true_or]

theorem ofS32_cast (i : Int) : ((ofS32 i : Nat) : Int) = i % 4294967296 := by
  unfold ofS32
  omega

theorem u8s_encS32 (i : Int) : u8s (encS32 i) = be32I (i % 4294967296) := by
  rw [encS32, u8s_enc32, ofS32_cast]

theorem ofS32_toS32_ofS32 (i : Int) : ofS32 (toS32 (ofS32 i)) = ofS32 i := ofS32_toS32 _ (ofS32_lt i)

theorem u8s_enc8 (n : Nat) : u8s (Format.enc8 n) = [(n : Int) % 256] := by
  simp only [Format.enc8, u8s_cons, u8s_nil, u8_toInt]

theorem toNat_mod_cast (x : Int) (m : Int) (hm : 0 < m) : (((x % m).toNat : Nat) : Int) = x % m := by
  have := Int.emod_nonneg x (Int.ne_of_gt hm)
  omega

/-- `(uint32)(options_mask | SZ_H4_REV_2)` is the 32-bit pattern of the mask with that bit set -/
theorem szmask_cast (m : Int) : (((ofS32 m ||| szRev2 : Nat)) : Int) = (orS m 65536) % 4294967296 := by
  have hlt : ofS32 m < 2 ^ 32 := by unfold ofS32; omega
  have h2 : ofS32 m ||| szRev2 < 2 ^ 32 := Nat.or_lt_two_pow hlt (by decide)
  have e : orU m 65536 = ((ofS32 m ||| szRev2 : Nat) : Int) := by
    unfold orU ofS32 szRev2
    have : Int.toNat ((65536 : Int) % 4294967296) = 65536 := by decide
    rw [this]
    rfl
  unfold orS
  rw [e]
  split <;> omega

theorem consts : (COMP_CODE_NONE : Nat) = 0 ∧ COMP_CODE_RLE = 1 ∧ COMP_CODE_NBIT = 2 ∧ COMP_CODE_SKPHUFF = 3 ∧ COMP_CODE_DEFLATE = 4 ∧
    COMP_CODE_SZIP = 5 ∧ COMP_CODE_IMCOMP = 12 := by decide

def hdrB (mt ct : Int) : List Int := be16I mt ++ be16I ct

/-- the parameter bytes `HCPencode_header` stores for coder type `ct` -/
def paramB (ct : Int) (c : CInfo) : List Int :=
  if ct = 2 then nbitB c else if ct = 3 then skpB c else if ct = 4 then deflB c else if ct = 5 then szipB c else []

theorem hdrB_length (mt ct : Int) : (hdrB mt ct).length = 4 := rfl
theorem nbitB_length (c : CInfo) : (nbitB c).length = 16 := rfl
theorem skpB_length (c : CInfo) : (skpB c).length = 8 := rfl
theorem deflB_length (c : CInfo) : (deflB c).length = 2 := rfl
theorem szipB_length (c : CInfo) : (szipB c).length = 14 := rfl

theorem paramB_2 (c : CInfo) : paramB 2 c = nbitB c := rfl
theorem paramB_3 (c : CInfo) : paramB 3 c = skpB c := rfl
theorem paramB_4 (c : CInfo) : paramB 4 c = deflB c := rfl
theorem paramB_5 (c : CInfo) : paramB 5 c = szipB c := rfl
theorem paramB_other (ct : Int) (c : CInfo) (h2 : ct ≠ 2) (h3 : ct ≠ 3) (h4 : ct ≠ 4) (h5 : ct ≠ 5) : paramB ct c = [] := by
  simp only [paramB, h2, h3, h4, h5, if_false]

theorem coderOf_2 (c : CInfo) : coderOf 2 c = .nbit c.nt (c.sign_ext % 65536).toNat (c.fill_one % 65536).toNat c.start_bit c.bit_len := rfl
theorem coderOf_3 (c : CInfo) : coderOf 3 c = .skphuff (ofS32 c.skp_size) (ofS32 c.skp_size) := rfl
theorem coderOf_4 (c : CInfo) : coderOf 4 c = .deflate (c.level % 65536).toNat := rfl
theorem coderOf_5 (c : CInfo) : coderOf 5 c =
    .szip (ofS32 c.pixels) (ofS32 c.pixels_per_scanline) (ofS32 c.options_mask ||| szRev2) (c.bits_per_pixel % 256).toNat (c.pixels_per_block % 256).toNat := rfl
theorem coderOf_0 (c : CInfo) : coderOf 0 c = .none := rfl
theorem coderOf_1 (c : CInfo) : coderOf 1 c = .rle := rfl
theorem coderOf_other (ct : Int) (c : CInfo) (h0 : ct ≠ 0) (h1 : ct ≠ 1) (h2 : ct ≠ 2) (h3 : ct ≠ 3) (h4 : ct ≠ 4) (h5 : ct ≠ 5) :
    coderOf ct c = .other ct.toNat := by
  unfold coderOf
  simp [COMP_CODE_NONE, COMP_CODE_RLE, COMP_CODE_NBIT, COMP_CODE_SKPHUFF, COMP_CODE_DEFLATE, COMP_CODE_SZIP, h0, h1, h2, h3, h4, h5]

theorem ite_ind {α : Type} (P : α → Prop) (c : Prop) [Decidable c] (x y : α) (hx : c → P x) (hy : ¬ c → P y) :
    P (if c then x else y) := by
  by_cases h : c
  · rw [if_pos h]; exact hx h
  · rw [if_neg h]; exact hy h

theorem coderOf_code (ct : Int) (c : CInfo) (hc : 0 ≤ ct) : ((coderOf ct c).code : Int) = ct := by
  unfold coderOf
  iterate 6 refine ite_ind (fun x : Coder => (x.code : Int) = ct) _ _ _ Eq.symm fun _ => ?_
  exact Int.toNat_of_nonneg hc

theorem model_bytes (mt ct : Int) (c : CInfo) (hm : 0 ≤ mt) (hc : 0 ≤ ct) :
    u8s (encodeCoderInfo ⟨mt.toNat, coderOf ct c⟩) = hdrB mt ct ++ paramB ct c := by
  have hmt : ((mt.toNat : Nat) : Int) = mt := by omega
  simp only [encodeCoderInfo, u8s_append, u8s_enc16, coderOf_code ct c hc, hmt, hdrB, List.append_assoc]
  congr 2
  by_cases h2 : ct = 2
  · subst h2
    simp only [coderOf_2, paramB, if_true, encodeCoderParams, u8s_append, u8s_encS32, u8s_enc16, nbitB, toNat_mod_cast _ 65536 (by decide)]
  by_cases h3 : ct = 3
  · subst h3
    simp only [coderOf_3, paramB, encodeCoderParams, u8s_append, u8s_enc32, ofS32_cast, skpB]
    rfl
  by_cases h4 : ct = 4
  · subst h4
    simp only [coderOf_4, paramB, encodeCoderParams, u8s_enc16, deflB, toNat_mod_cast _ 65536 (by decide)]
    rfl
  by_cases h5 : ct = 5
  · subst h5
    simp only [coderOf_5, paramB, encodeCoderParams, u8s_append, u8s_enc32, u8s_enc8, ofS32_cast, szipB, szmask_cast, toNat_mod_cast _ 256 (by decide),
      Int.emod_emod, List.append_assoc]
    rfl
  by_cases h0 : ct = 0
  · subst h0; rfl
  by_cases h1 : ct = 1
  · subst h1; rfl
  rw [coderOf_other ct c h0 h1 h2 h3 h4 h5, paramB_other ct c h2 h3 h4 h5]
  rfl

theorem swW_at (s : ESt) (hd : s.done = false) (hg : s.gto = false) :
    swW s = if s.coder_type = 2 then nbitW s else if s.coder_type = 3 then skpW s else if s.coder_type = 4 then deflW s
      else if s.coder_type = 5 then szipW s else if s.coder_type = 12 then imcompW s else s := by
  unfold swW
  simp only [hd, hg, Bool.false_eq_true, or_self, if_false, Int.reduceMod]

theorem swW_ok (s : ESt) (a : List Int) (hd : s.done = false) (hg : s.gto = false) (hf : ¬ EncFails s.coder_type (cinfoOf s)) :
    swW (wr encL s a) = wr encL s (a ++ paramB s.coder_type (cinfoOf s)) := by
  obtain ⟨t, ht⟩ : ∃ t, t = wr encL s a := ⟨_, rfl⟩
  have hct : t.coder_type = s.coder_type := by rw [ht]; exact frames_wr (L := encL) (x := (·.coder_type)) {} s a
  have hci : cinfoOf t = cinfoOf s := by rw [ht]; exact frames_wr (L := encL) (x := cinfoOf) {} s a
  have hdt : t.done = false := by rw [ht, done_wr]; exact hd
  have hgt : t.gto = false := by rw [ht, gto_wr]; exact hg
  have key : ∀ X, wr encL t X = wr encL s (a ++ X) := fun X => by rw [ht, wr_wr encLaw]
  rw [← ht, swW_at t hdt hgt, hct, ← hci]
  rw [← hci] at hf
  generalize s.coder_type = ct at hf ⊢
  by_cases h2 : ct = 2
  · subst h2
    rw [if_pos rfl, paramB_2, nbitW_eq t, key]
  by_cases h3 : ct = 3
  · subst h3
    rw [if_neg (by decide), if_pos rfl, paramB_3, skpW_ok t hdt hgt (fun h => hf (Or.inl ⟨rfl, h⟩)), key]
  by_cases h4 : ct = 4
  · subst h4
    rw [if_neg (by decide), if_neg (by decide), if_pos rfl, paramB_4, deflW_ok t hdt hgt (fun h => hf (Or.inr (Or.inl ⟨rfl, h⟩))), key]
  by_cases h5 : ct = 5
  · subst h5
    rw [if_neg (by decide), if_neg (by decide), if_neg (by decide), if_pos rfl, paramB_5, szipW_eq t, key]
  have h12 : ct ≠ 12 := fun h => hf (Or.inr (Or.inr (by rw [h]; rfl)))
  rw [if_neg h2, if_neg h3, if_neg h4, if_neg h5, if_neg h12, paramB_other ct _ h2 h3 h4 h5, List.append_nil, ht]

theorem swW_fail (t : ESt) (hd : t.done = false) (hg : t.gto = false) (hf : EncFails t.coder_type (cinfoOf t)) :
    swW t = { t with ret := -1, done := true } := by
  rw [swW_at t hd hg]
  rcases hf with ⟨h, h'⟩ | ⟨h, h'⟩ | h
  · have h3 : t.coder_type = 3 := h
    rw [if_neg (by rw [h3]; decide), if_pos h3, skpW_fail t h']
  · have h4 : t.coder_type = 4 := h
    rw [if_neg (by rw [h4]; decide), if_neg (by rw [h4]; decide), if_pos h4, deflW_fail t h']
  · have h12 : t.coder_type = 12 := h
    rw [if_neg (by rw [h12]; decide), if_neg (by rw [h12]; decide), if_neg (by rw [h12]; decide), if_neg (by rw [h12]; decide), if_pos h12]
    rfl

/-- the state in front of the header stores when no argument is NULL -/
def hdrS (p : List Int) (mt ct : Int) (c : CInfo) : ESt := { encInit p mt false ct false c with ret_value := 0 }

theorem enc_body (fuel : Nat) (p : List Int) (mt ct : Int) (c : CInfo) :
    HCPencode_headerC fuel p mt false ct false c = finW (swW (wr encL (hdrS p mt ct c) (hdrB mt ct))) := by
  rw [HCPencode_header_phases, encBody, preW_ok _ rfl rfl]
  exact congrArg (fun t => finW (swW t)) (hdrW_ok _ rfl rfl)

theorem encode_ok (fuel : Nat) (p : List Int) (mt ct : Int) (c : CInfo) (hf : ¬ EncFails ct c)
    (hb : (hdrB mt ct ++ paramB ct c).length ≤ p.length) :
    let s := HCPencode_headerC fuel p mt false ct false c
    s.ub = false ∧ s.oof = false ∧ s.ret = 0 ∧ s.p_i = ((hdrB mt ct ++ paramB ct c).length : Nat) ∧
      s.p = hdrB mt ct ++ paramB ct c ++ p.drop (hdrB mt ct ++ paramB ct c).length := by
  obtain ⟨S, hS⟩ : ∃ S, S = hdrS p mt ct c := ⟨_, rfl⟩
  obtain ⟨B, hB⟩ : ∃ B, B = hdrB mt ct ++ paramB ct c := ⟨_, rfl⟩
  have sw : swW (wr encL S (hdrB mt ct)) = wr encL S B := by rw [hS, hB]; exact swW_ok (hdrS p mt ct c) _ rfl rfl hf
  have hp : encL.buf S = p := by rw [hS]; rfl
  obtain ⟨hub, hbuf, hpos⟩ := wr_end encP S B 0 (by rw [hS]; rfl) (by rw [hp, Nat.zero_add, hB]; exact hb)
  rw [enc_body fuel p mt ct c, ← hS, sw, finW_ok _ (by rw [done_wr, hS]; rfl), ← hB]
  rw [hp, storeAt_zero] at hbuf
  rw [Nat.zero_add] at hpos
  exact ⟨hub.trans (by rw [hS]; rfl), (frames_wr (L := encL) (x := (·.oof)) {} S B).trans (by rw [hS]; rfl),
    (frames_wr (L := encL) (x := (·.ret_value)) {} S B).trans (by rw [hS]; rfl), hpos, hbuf⟩

theorem encode_fail (fuel : Nat) (p : List Int) (mt ct : Int) (c : CInfo) (hf : EncFails ct c)
    (hb : 4 ≤ p.length) :
    let s := HCPencode_headerC fuel p mt false ct false c
    s.ub = false ∧ s.oof = false ∧ s.ret = -1 ∧ s.p = hdrB mt ct ++ p.drop 4 := by
  obtain ⟨S, hS⟩ : ∃ S, S = hdrS p mt ct c := ⟨_, rfl⟩
  have hp : encL.buf S = p := by rw [hS]; rfl
  obtain ⟨hub, hbuf, _⟩ := wr_end encP S (hdrB mt ct) 0 (by rw [hS]; rfl) (by rw [hp]; exact hb)
  have hf' : EncFails (wr encL S (hdrB mt ct)).coder_type (cinfoOf (wr encL S (hdrB mt ct))) := by
    rw [frames_wr (L := encL) (x := (·.coder_type)) {}, frames_wr (L := encL) (x := cinfoOf) {}, hS]; exact hf
  rw [enc_body fuel p mt ct c, ← hS, swW_fail _ (by rw [done_wr, hS]; rfl) (by rw [gto_wr, hS]; rfl) hf', finW_done _ rfl]
  rw [hp, storeAt_zero] at hbuf
  exact ⟨hub.trans (by rw [hS]; rfl), (frames_wr (L := encL) (x := (·.oof)) {} S _).trans (by rw [hS]; rfl), rfl, hbuf⟩

theorem encode_null (fuel : Nat) (p : List Int) (mt ct : Int) (c : CInfo) (mn cn : Bool) (h : mn = true ∨ cn = true) :
    let s := HCPencode_headerC fuel p mt mn ct cn c
    s.ub = false ∧ s.oof = false ∧ s.ret = -1 ∧ s.p = p := by
  rw [HCPencode_header_phases, encBody, preW_null _ h, hdrW_skip _ rfl, swW_skip _ rfl, finW_ok _ rfl]
  exact ⟨rfl, rfl, rfl, rfl⟩

def decL : Cursor DSt where
  buf := (·.p)
  pos := (·.p_i)
  ub := (·.ub)
  setBuf := fun s b => { s with p := b }
  setPos := HCPdecode_header.St.set_p_i
  chk := fun s c _ => HCPdecode_header.chk s c

theorem decLaw : decL.Lawful := (Cursor.Plain.lawfulW (setUb := fun s u => { s with ub := u }) {}).toLawful

@[reducible] def tM : Tgt DSt := ⟨(·.m_type), HCPdecode_header.St.set_m_type⟩
@[reducible] def tC : Tgt DSt := ⟨(·.c_type), HCPdecode_header.St.set_c_type⟩
@[reducible] def tNt : Tgt DSt := ⟨(·.c_info_nbit_nt), HCPdecode_header.St.set_c_info_nbit_nt⟩
@[reducible] def tSext : Tgt DSt := ⟨(·.s_ext), HCPdecode_header.St.set_s_ext⟩
@[reducible] def tFone : Tgt DSt := ⟨(·.f_one), HCPdecode_header.St.set_f_one⟩
@[reducible] def tMoff : Tgt DSt := ⟨(·.m_off), HCPdecode_header.St.set_m_off⟩
@[reducible] def tMlen : Tgt DSt := ⟨(·.m_len), HCPdecode_header.St.set_m_len⟩
@[reducible] def tSkp : Tgt DSt := ⟨(·.skp_size), HCPdecode_header.St.set_skp_size⟩
@[reducible] def tCsz : Tgt DSt := ⟨(·.comp_size), HCPdecode_header.St.set_comp_size⟩
@[reducible] def tLvl : Tgt DSt := ⟨(·.level), HCPdecode_header.St.set_level⟩
@[reducible] def tBuf : Tgt DSt := ⟨(·.buf), HCPdecode_header.St.set_buf⟩
@[reducible] def tBpp : Tgt DSt := ⟨(·.c_info_szip_bits_per_pixel), HCPdecode_header.St.set_c_info_szip_bits_per_pixel⟩
@[reducible] def tPpb : Tgt DSt := ⟨(·.c_info_szip_pixels_per_block), HCPdecode_header.St.set_c_info_szip_pixels_per_block⟩

theorem tM_law : tM.Lawful decL := by tgt_law
theorem tC_law : tC.Lawful decL := by tgt_law
theorem tNt_law : tNt.Lawful decL := by tgt_law
theorem tSext_law : tSext.Lawful decL := by tgt_law
theorem tFone_law : tFone.Lawful decL := by tgt_law
theorem tMoff_law : tMoff.Lawful decL := by tgt_law
theorem tMlen_law : tMlen.Lawful decL := by tgt_law
theorem tSkp_law : tSkp.Lawful decL := by tgt_law
theorem tCsz_law : tCsz.Lawful decL := by tgt_law
theorem tLvl_law : tLvl.Lawful decL := by tgt_law
theorem tBuf_law : tBuf.Lawful decL := by tgt_law
theorem tBpp_law : tBpp.Lawful decL := by tgt_law
theorem tPpb_law : tPpb.Lawful decL := by tgt_law

/-- `ret_value = SUCCEED; if (p == NULL || model_type == NULL || m_info == NULL || coder_type == NULL || c_info == NULL) …` -/
def preR (s : DSt) : DSt :=
  have s : DSt := HCPdecode_header.St.set_ret_value s (0)
  have s : DSt := if ((((False ∨ (s.model_type_null = true)) ∨ (s.m_info_null = true)) ∨ (s.coder_type_null = true)) ∨ (s.c_info_null = true)) then
      have s : DSt := HCPdecode_header.St.set_ret_value s ((- 1))
      have s : DSt := HCPdecode_header.St.set_gto s (true)
      s
    else
      s
  s

/-- the two type fields, stored through `model_type` / `coder_type`; `switch (*model_type) { default: break; }` -/
def hdrR (s : DSt) : DSt :=
  have s : DSt := if s.done ∨ s.gto then s else
    dec16u decL tM s
  have s : DSt := if s.done ∨ s.gto then s else
    have s : DSt := HCPdecode_header.chk s (0 < s.model_type.length)
    have s : DSt := HCPdecode_header.St.set_model_type s (s.model_type.set (Int.toNat (0)) (s.m_type))
    s
  have s : DSt := if s.done ∨ s.gto then s else
    dec16u decL tC s
  have s : DSt := if s.done ∨ s.gto then s else
    have s : DSt := HCPdecode_header.chk s (0 < s.coder_type.length)
    have s : DSt := HCPdecode_header.St.set_coder_type s (s.coder_type.set (Int.toNat (0)) (s.c_type))
    s
  have s : DSt := if s.done ∨ s.gto then s else
    have s : DSt := HCPdecode_header.chk s (0 < s.model_type.length)
    s
  s

/-- `case COMP_CODE_NBIT:` -/
def nbitR (s : DSt) : DSt :=
  have s : DSt := dec32s decL tNt s
  have s : DSt := dec16u decL tSext s
  have s : DSt := HCPdecode_header.St.set_c_info_nbit_sign_ext s (s.s_ext)
  have s : DSt := dec16u decL tFone s
  have s : DSt := HCPdecode_header.St.set_c_info_nbit_fill_one s (s.f_one)
  have s : DSt := dec32s decL tMoff s
  have s : DSt := HCPdecode_header.St.set_c_info_nbit_start_bit s (s.m_off)
  have s : DSt := dec32s decL tMlen s
  have s : DSt := HCPdecode_header.St.set_c_info_nbit_bit_len s (s.m_len)
  s

/-- `case COMP_CODE_SKPHUFF:` -/
def skpR (s : DSt) : DSt :=
  have s : DSt := dec32u decL tSkp s
  have s : DSt := dec32u decL tCsz s
  have s : DSt := HCPdecode_header.St.set_c_info_skphuff_skp_size s (wrapS32 s.skp_size)
  s

/-- `case COMP_CODE_DEFLATE:` -/
def deflR (s : DSt) : DSt :=
  have s : DSt := dec16u decL tLvl s
  have s : DSt := HCPdecode_header.St.set_c_info_deflate_level s (s.level)
  s

/-- `case COMP_CODE_SZIP:` -/
def szipR (s : DSt) : DSt :=
  have s : DSt := dec32u decL tBuf s
  have s : DSt := HCPdecode_header.St.set_c_info_szip_pixels s (wrapS32 s.buf)
  have s : DSt := dec32u decL tBuf s
  have s : DSt := HCPdecode_header.St.set_c_info_szip_pixels_per_scanline s (wrapS32 s.buf)
  have s : DSt := dec32u decL tBuf s
  have s : DSt := HCPdecode_header.St.set_c_info_szip_options_mask s (wrapS32 s.buf)
  have s : DSt := dbyte decL tBpp s
  have s : DSt := dbyte decL tPpb s
  s

/-- `switch (*coder_type)` -/
def swR (s : DSt) : DSt :=
  if s.done ∨ s.gto then s else
    have s : DSt := HCPdecode_header.chk s (0 < s.coder_type.length)
    let sw : Int := (s.coder_type.getD (Int.toNat (0)) 0)
    if sw = ((2) % 4294967296) then nbitR s
    else if sw = ((3) % 4294967296) then skpR s
    else if sw = ((4) % 4294967296) then deflR s
    else if sw = ((5) % 4294967296) then szipR s
    else s

/-- `done: return ret_value;` -/
def finR (s : DSt) : DSt :=
  if s.done then s else
    have s : DSt := HCPdecode_header.St.set_gto s (false)
    have s : DSt := HCPdecode_header.St.set_ret s (s.ret_value)
    have s : DSt := HCPdecode_header.St.set_done s (true)
    s

def decBody (s : DSt) : DSt := finR (swR (hdrR (preR s)))

def decInit (p : List Int) (model_type_null : Bool) (model_type : List Int) (m_info_null coder_type_null : Bool)
    (coder_type : List Int) (c_info_null : Bool) (c : CInfo) : DSt :=
  { p := p, model_type_null := model_type_null, model_type := model_type, m_info_null := m_info_null,
    coder_type_null := coder_type_null, coder_type := coder_type, c_info_null := c_info_null,
    c_info_nbit_nt := c.nt, c_info_nbit_sign_ext := c.sign_ext, c_info_nbit_fill_one := c.fill_one,
    c_info_nbit_start_bit := c.start_bit, c_info_nbit_bit_len := c.bit_len, c_info_skphuff_skp_size := c.skp_size,
    c_info_deflate_level := c.level, c_info_szip_pixels := c.pixels, c_info_szip_pixels_per_scanline := c.pixels_per_scanline,
    c_info_szip_options_mask := c.options_mask, c_info_szip_bits_per_pixel := c.bits_per_pixel,
    c_info_szip_pixels_per_block := c.pixels_per_block }

theorem HCPdecode_header_phases (fuel : Nat) (p : List Int) (mtn : Bool) (mt : List Int) (min ctn : Bool) (ct : List Int) (cin : Bool)
    (c : CInfo) :
    HCPdecode_headerC fuel p mtn mt min ctn ct cin c = decBody (decInit p mtn mt min ctn ct cin c) := by
  kernel_rfl

/-- parameter bytes the reader consumes for the coder type `code` -/
def needOf (code : Int) : Nat := if code = 2 then 16 else if code = 3 then 8 else if code = 4 then 2 else if code = 5 then 14 else 0

/-- `*c_info` after `HCPdecode_header` has read the record in `p` (cells `p[4 ..]` are the parameters): only the members of the coder
    found in the record are assigned -/
def cinfoAfter (p : List Int) (code : Int) (c : CInfo) : CInfo :=
  if code = 2 then
    { c with nt := wrapS32 (val32 p 4), sign_ext := val16 p 8, fill_one := val16 p 10, start_bit := wrapS32 (val32 p 12),
             bit_len := wrapS32 (val32 p 16) }
  else if code = 3 then { c with skp_size := wrapS32 (val32 p 4) }
  else if code = 4 then { c with level := val16 p 4 }
  else if code = 5 then
    { c with pixels := wrapS32 (val32 p 4), pixels_per_scanline := wrapS32 (val32 p 8), options_mask := wrapS32 (val32 p 12),
             bits_per_pixel := p.getD 16 0, pixels_per_block := p.getD 17 0 }
  else c

theorem set0_getD (l : List Int) (v : Int) (h : 0 < l.length) : (l.set 0 v).getD 0 0 = v := by
  cases l with
  | nil => exact absurd h (by decide)
  | cons a t => rfl

/-- the translated `HCPdecode_header` on non-NULL arguments, for EVERY buffer `p` (any length, any cells) -/
theorem dec_eval (fuel : Nat) (p mt ct : List Int) (c : CInfo) (hmt : 0 < mt.length) (hct : 0 < ct.length) :
    let s := HCPdecode_headerC fuel p false mt false false ct false c
    s.ub = !decide (4 + needOf (val16 p 2) ≤ p.length) ∧ s.oof = false ∧ s.ret = 0 ∧ s.p_i = ((4 + needOf (val16 p 2) : Nat) : Int) ∧
      s.model_type = mt.set 0 (val16 p 0) ∧ s.coder_type = ct.set 0 (val16 p 2) ∧ cinfoOfD s = cinfoAfter p (val16 p 2) c := by
  rw [HCPdecode_header_phases]
  have hsw : ∀ v, (ct.set 0 v).getD 0 0 = v := fun v => set0_getD ct v hct
  have k : val16 p 2 = 2 ∨ val16 p 2 = 3 ∨ val16 p 2 = 4 ∨ val16 p 2 = 5 ∨
      (¬ val16 p 2 = 2 ∧ ¬ val16 p 2 = 3 ∧ ¬ val16 p 2 = 4 ∧ ¬ val16 p 2 = 5) := by omega
  -- every DECODE macro is rewritten to one `rd` before `decL` is unfolded (`↓`: afterwards the rule does not match)
  simp only [decBody, hdrR, preR, decInit, ↓ dec16u_eq decLaw tM_law, ↓ dec16u_eq decLaw tC_law, rd, decL, HCPdecode_header.chk,
    Bool.false_eq_true, or_self, ↓reduceIte, Bool.false_or, Int.reduceAdd, Int.reduceToNat,
    Int.cast_ofNat_Int, List.length_set, decide_true, Bool.not_true, Bool.or_false, hmt, hct]
  rcases k with h | h | h | h | ⟨h2, h3, h4, h5⟩
  all_goals
    simp only [finR, swR, nbitR, skpR, deflR, szipR, cinfoOfD, needOf, cinfoAfter, ↓ dec32s_eq decLaw tNt_law,
      ↓ dec16u_eq decLaw tSext_law, ↓ dec16u_eq decLaw tFone_law, ↓ dec32s_eq decLaw tMoff_law, ↓ dec32s_eq decLaw tMlen_law,
      ↓ dec32u_eq decLaw tSkp_law, ↓ dec32u_eq decLaw tCsz_law, ↓ dec16u_eq decLaw tLvl_law, ↓ dec32u_eq decLaw tBuf_law,
      ↓ dbyte_eq decLaw tBpp_law, ↓ dbyte_eq decLaw tPpb_law, rd, decL, HCPdecode_header.chk, Bool.false_eq_true, or_self,
      ↓reduceIte, and_true, Int.reduceMod, Int.reduceAdd, Int.reduceEq, Int.reduceToNat, Int.cast_ofNat_Int,
      Nat.reduceAdd, List.length_set, decide_true, Bool.not_true, Bool.or_false, *]
    rw [Bool.eq_iff_iff]
    simp only [Bool.or_eq_true, Bool.not_eq_true', decide_eq_false_iff_not]
    omega

theorem preR_null (s : DSt) (h : s.model_type_null = true ∨ s.m_info_null = true ∨ s.coder_type_null = true ∨ s.c_info_null = true) :
    preR s = { s with ret_value := -1, gto := true } := by
  have c0 : ((((False ∨ (s.model_type_null = true)) ∨ (s.m_info_null = true)) ∨ (s.coder_type_null = true)) ∨ (s.c_info_null = true)) := by
    rcases h with h | h | h | h <;> simp only [h, or_true, true_or]
  simp only [preR, HCPdecode_header.St.set_ret_value, HCPdecode_header.St.set_gto]
  rw [if_pos c0]

theorem hdrR_skip (s : DSt) (hg : s.gto = true) : hdrR s = s := by
  unfold hdrR
  simp only [hg, or_true, if_true]

theorem swR_skip (s : DSt) (hg : s.gto = true) : swR s = s := by
  unfold swR
  simp only [hg, or_true, if_true]

theorem dec_null (fuel : Nat) (p mt ct : List Int) (c : CInfo) (mtn min ctn cin : Bool) (h : mtn = true ∨ min = true ∨ ctn = true ∨ cin = true) :
    let s := HCPdecode_headerC fuel p mtn mt min ctn ct cin c
    s.ub = false ∧ s.oof = false ∧ s.ret = -1 ∧ s.model_type = mt ∧ s.coder_type = ct ∧ cinfoOfD s = c := by
  rw [HCPdecode_header_phases, decBody, preR_null _ h, hdrR_skip _ rfl, swR_skip _ rfl]
  exact ⟨rfl, rfl, rfl, rfl, rfl, rfl⟩

theorem needOf_cast (n : Nat) : needOf (n : Int) = needN n := by
  simp only [needOf, needN, COMP_CODE_NBIT, COMP_CODE_SKPHUFF, COMP_CODE_DEFLATE, COMP_CODE_SZIP]
  norm_cast

theorem coderAtB_code (b : Bytes) (n : Nat) : (coderAtB b n).code = n := by
  unfold coderAtB
  iterate 6 refine ite_ind (fun x : Coder => x.code = n) _ _ _ Eq.symm fun _ => ?_
  rfl

theorem needN_le (n : Nat) : needN n ≤ 16 := by
  unfold needN
  iterate 4 refine ite_ind (· ≤ 16) _ _ _ (fun _ => by decide) fun _ => ?_
  decide

theorem cinfoAfter_apply (b : Bytes) (n : Nat) (c : CInfo) : cinfoAfter (u8s b) (n : Int) c = applyCoder (coderAtB b n) c := by
  have v32 : ∀ k : Nat, wrapS32 (val32 (u8s b) (k : Int)) = toS32 (nv32 b k) := fun k => by
    rw [val32_u8s, toS32_wrap _ (nv32_lt b k)]
  have v16 : ∀ k : Nat, val16 (u8s b) (k : Int) = (nv16 b k : Int) := val16_u8s b
  have g : ∀ k : Nat, (u8s b).getD k 0 = (nv8 b k : Int) := fun k => by rw [u8s_getD]; rfl
  unfold cinfoAfter coderAtB
  simp only [COMP_CODE_NONE, COMP_CODE_RLE, COMP_CODE_NBIT, COMP_CODE_SKPHUFF, COMP_CODE_DEFLATE, COMP_CODE_SZIP]
  by_cases h2 : n = 2
  · subst h2
    have := v32 4; have := v16 8; have := v16 10; have := v32 12; have := v32 16
    simp_all [applyCoder]
  by_cases h3 : n = 3
  · subst h3
    have := v32 4
    simp_all [applyCoder]
  by_cases h4 : n = 4
  · subst h4
    have := v16 4
    simp_all [applyCoder]
  by_cases h5 : n = 5
  · subst h5
    have := v32 4; have := v32 8; have := v32 12; have := g 16; have := g 17
    simp_all [applyCoder]
  norm_cast
  simp only [h2, h3, h4, h5, if_false]
  by_cases h0 : n = 0
  · subst h0; rfl
  by_cases h1 : n = 1
  · subst h1; rfl
  simp only [h0, h1, if_false, applyCoder]

end H4.Lemmas.C02HdrFn
