import H4.Lemmas.ElemRefine
/-! A decidable (Boolean) version of the side conditions, sound for `Safe`: lets concrete histories be checked by
    evaluation, so that the hypotheses of the refinement theorem are seen to be satisfiable on non-trivial input. -/
namespace H4.Elem
open H4.Gen.Hdf

def userKeyB (k : Nat × Nat) : Bool :=
  !isSpecial k.1 && k.1 != DFTAG_LINKED && k.1 != DFTAG_NULL && k.1 != DFTAG_VERSION && decide (k.1 < H4.Gen.Elem.SPECIAL_TAG_BIT)

def noHandleInB (w : World) (fi : Nat) : Bool := w.accs.all fun p => p.2.file != fi
def noHandleOnB (w : World) (fi s : Nat) : Bool := w.accs.all fun p => !(p.2.file == fi && p.2.slot == s)
def aloneB (w : World) (h : Nat) : Bool :=
  match w.acc h with
  | none => true
  | some a => w.accs.all fun p => !(p.2.file == a.file && p.2.slot == a.slot) || p.1 == h
def notLastB (w : World) (a : Acc) : Bool :=
  decide (ddLen ((w.file a.file).dd a.slot) + ddOff ((w.file a.file).dd a.slot) ≠ (w.file a.file).endOff)

def mayPromoteB (w : World) (h : Nat) : Bool :=
  match w.acc h with
  | none => false
  | some a => !a.special && a.appendable && notLastB w a

def opSafeB (w : World) : Op → Bool
  | .open fi mode _ =>
    noHandleInB w fi &&
    (!(w.file fi).present || mode == DFACC_CREATE ||
      (!((w.file fi).dirtyEnd || (w.file fi).blkDirty.any id) &&
       ((w.file fi).disk.drop (endOffOf (w.file fi).ndds (w.file fi).blkOff (w.file fi).mem)).all (· == 0)))
  | .close fi => noHandleInB w fi
  | .startaccess h _ tag ref _ _ => (w.acc h).isNone && userKeyB (tag, ref)
  | .startwrite h _ tag ref _ => (w.acc h).isNone && userKeyB (tag, ref)
  | .hlcreate h fi tag ref blen nblk =>
    (w.acc h).isNone && userKeyB (tag, ref) && decide (1 ≤ blen) && decide (1 ≤ nblk) &&
    (match (w.file fi).select tag ref with
     | some s => noHandleOnB w fi s
     | none => true)
  | .hlconvert h blen nblk => decide (1 ≤ blen) && decide (1 ≤ nblk) && aloneB w h
  | .seek h _ _ => aloneB w h || !mayPromoteB w h
  | .write h bs => !bs.isEmpty && (aloneB w h || !mayPromoteB w h)
  | .deldd fi tag ref =>
    userKeyB (tag, ref) && (match (w.file fi).select tag ref with | some s => noHandleOnB w fi s | none => true)
  | _ => true

def safeB (w : World) : List Op → Bool
  | [] => true
  | op :: ops => opSafeB w op && safeB (step w op).1 ops

theorem acc_mem (w : World) (h : Nat) (a : Acc) (ha : w.acc h = some a) : (h, a) ∈ w.accs := by
  unfold World.acc at ha
  cases hf : w.accs.find? (fun p => p.1 == h) with
  | none => rw [hf] at ha; cases ha
  | some p =>
    rw [hf] at ha
    simp only [Option.map_some, Option.some.injEq] at ha
    have hm := List.mem_of_find?_eq_some hf
    have hp := List.find?_some hf
    simp only [beq_iff_eq] at hp
    obtain ⟨p1, p2⟩ := p
    simp only at ha hp
    subst ha hp
    exact hm

theorem userKeyB_sound (k : Nat × Nat) (h : userKeyB k = true) : UserKey k := by
  simp only [userKeyB, Bool.and_eq_true, Bool.not_eq_true', bne_iff_ne, ne_eq, decide_eq_true_eq] at h
  obtain ⟨⟨⟨⟨h1, h2⟩, h3⟩, h4⟩, h5⟩ := h
  exact ⟨h1, h2, h3, h4, h5⟩

theorem noHandleInB_sound (w : World) (fi : Nat) (h : noHandleInB w fi = true) : NoHandleIn w fi := by
  intro h' a ha
  have := List.all_eq_true.mp h _ (acc_mem w h' a ha)
  simpa using this

theorem noHandleOnB_sound (w : World) (fi s : Nat) (h : noHandleOnB w fi s = true) : NoHandleOn w fi s := by
  intro h' a ha hc
  have := List.all_eq_true.mp h _ (acc_mem w h' a ha)
  simp only [Bool.not_eq_true', Bool.and_eq_false_iff, beq_eq_false_iff_ne, ne_eq] at this
  rcases this with c | c
  · exact c hc.1
  · exact c hc.2

theorem aloneB_sound (w : World) (h : Nat) (hb : aloneB w h = true) : Alone w h := by
  intro a ha h' a' ha' ef es
  unfold aloneB at hb
  rw [ha] at hb
  have := List.all_eq_true.mp hb _ (acc_mem w h' a' ha')
  simp only [Bool.or_eq_true, Bool.not_eq_true', Bool.and_eq_false_iff, beq_eq_false_iff_ne, ne_eq, beq_iff_eq] at this
  rcases this with (c | c) | c
  · exact absurd ef c
  · exact absurd es c
  · exact c

theorem opSafeB_sound (w : World) (op : Op) (h : opSafeB w op = true) : OpSafe w op := by
  cases op with
  | «open» fi mode ndds =>
    simp only [opSafeB, Bool.and_eq_true, Bool.or_eq_true, Bool.not_eq_true', beq_iff_eq] at h
    obtain ⟨h1, h2⟩ := h
    refine ⟨noHandleInB_sound w fi h1, ?_⟩
    intro hp hm
    rcases h2 with (c | c) | c
    · rw [hp] at c; cases c
    · exact absurd c hm
    · refine ⟨c.1, ?_⟩
      intro k hk
      have hall := List.all_eq_true.mp c.2
      unfold rd
      by_cases hlt : k < (w.file fi).disk.length
      · have hm : (w.file fi).disk[k] ∈ (w.file fi).disk.drop (endOffOf (w.file fi).ndds (w.file fi).blkOff (w.file fi).mem) := by
          rw [List.mem_iff_getElem]
          refine ⟨k - endOffOf (w.file fi).ndds (w.file fi).blkOff (w.file fi).mem, by simp; omega, ?_⟩
          simp only [List.getElem_drop]
          congr 1; omega
        have := hall _ hm
        simp only [beq_iff_eq] at this
        simp [List.getD_eq_getElem?_getD, hlt, this]
      · simp [List.getD_eq_getElem?_getD, List.getElem?_eq_none (Nat.le_of_not_lt hlt)]
  | close fi => exact noHandleInB_sound w fi h
  | startaccess h' fi tag ref wr app =>
    simp only [opSafeB, Bool.and_eq_true, Option.isNone_iff_eq_none] at h
    exact ⟨h.1, userKeyB_sound _ h.2⟩
  | startwrite h' fi tag ref len =>
    simp only [opSafeB, Bool.and_eq_true, Option.isNone_iff_eq_none] at h
    exact ⟨h.1, userKeyB_sound _ h.2⟩
  | setlength h' len => trivial
  | hlcreate h' fi tag ref blen nblk =>
    simp only [opSafeB, Bool.and_eq_true, Option.isNone_iff_eq_none, decide_eq_true_eq] at h
    obtain ⟨⟨⟨⟨h1, h2⟩, h3⟩, h4⟩, h5⟩ := h
    refine ⟨h1, userKeyB_sound _ h2, h3, h4, ?_⟩
    intro s hs
    rw [hs] at h5
    exact noHandleOnB_sound w fi s h5
  | hlconvert h' blen nblk =>
    simp only [opSafeB, Bool.and_eq_true, decide_eq_true_eq] at h
    exact ⟨h.1.1, h.1.2, aloneB_sound w h' h.2⟩
  | setblockinfo h' blen nblk => trivial
  | appendable h' => trivial
  | seek h' off origin =>
    intro a ha hsp happ _ hnl
    simp only [opSafeB, Bool.or_eq_true, Bool.not_eq_true'] at h
    rcases h with h | h
    · exact aloneB_sound w h' h
    · exfalso
      have hnl' : notLastB w a = true := by unfold notLastB; exact decide_eq_true hnl
      simp [mayPromoteB, ha, hsp, happ, hnl'] at h
  | tell h' => trivial
  | inquire h' => trivial
  | read h' n => trivial
  | write h' bs =>
    simp only [opSafeB, Bool.and_eq_true, Bool.or_eq_true, Bool.not_eq_true', List.isEmpty_eq_false_iff] at h
    refine ⟨h.1, ?_⟩
    intro a ha hsp _ happ _ hnl
    rcases h.2 with h2 | h2
    · exact aloneB_sound w h' h2
    · exfalso
      have hnl' : notLastB w a = true := by unfold notLastB; exact decide_eq_true hnl
      simp [mayPromoteB, ha, hsp, happ, hnl'] at h2
  | trunc h' n => trivial
  | endaccess h' => trivial
  | deldd fi tag ref =>
    simp only [opSafeB, Bool.and_eq_true] at h
    refine ⟨userKeyB_sound _ h.1, ?_⟩
    intro s hs
    have h2 := h.2
    rw [hs] at h2
    exact noHandleOnB_sound w fi s h2

theorem safeB_sound (ops : List Op) : ∀ w, safeB w ops = true → Safe w ops := by
  induction ops with
  | nil => intro _ _; trivial
  | cons op ops ih =>
    intro w h
    simp only [safeB, Bool.and_eq_true] at h
    exact ⟨opSafeB_sound w op h.1, ih _ h.2⟩

end H4.Elem
