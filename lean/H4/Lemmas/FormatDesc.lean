import H4.Lemmas.FormatWF
/-! Lemmas for the old-style descriptive records of the independent format reader (C02): codec laws of `DFTAG_NT`, `DFTAG_SDD`,
`DFTAG_ID` / `DFTAG_LD` / `DFTAG_MD` and the label / unit / format string records, and what "no complaint" means for a
dimension record.  Core-only. -/
namespace H4.Format
open H4.Gen.Hdf
attribute [local congr] Option.bind_congr_left Option.bind_congr_left'

def NT.InRange (n : NT) : Prop := n.version < 256 ∧ n.type < 256 ∧ n.width < 256 ∧ n.cls < 256

theorem decodeNT_encode (n : NT) (h : n.InRange) : decodeNT (encodeNT n) = some n := by
  obtain ⟨h1, h2, h3, h4⟩ := h
  obtain ⟨v, t, w, c⟩ := n
  simp only at h1 h2 h3 h4
  simp only [encodeNT, enc8, List.cons_append, List.nil_append, decodeNT, UInt8.toNat_ofNat', Option.some.injEq, NT.mk.injEq]
  omega

theorem encodeNT_length (n : NT) : (encodeNT n).length = 4 := rfl

theorem encodeNT_decode (b : Bytes) (n : NT) (h : decodeNT b = some n) : encodeNT n = b := by
  match b, h with
  | [a, b', c, d], h =>
    simp only [decodeNT, Option.some.injEq] at h
    subst h
    simp [encodeNT, enc8]

theorem getS32s_flatMap (l : List Int) (h : ∀ x ∈ l, S32 x) (r : Bytes) :
    getS32s l.length (l.flatMap encS32 ++ r) = some (l, r) :=
  H4.BigEndian.many_roundtrip (fun _ => rfl) (fun _ a _ _ _ ha e => by
    simp only [getS32s, getS32_encS32 a ha, e, Option.bind_eq_bind, Option.bind_some]) l h r

def SDD.InRange (s : SDD) : Prop :=
  s.dims.length < 65536 ∧ (∀ d ∈ s.dims, S32 d) ∧ s.dataNT.1 < 65536 ∧ s.dataNT.2 < 65536 ∧
  s.scaleNTs.length = s.dims.length ∧ ∀ p ∈ s.scaleNTs, p.1 < 65536 ∧ p.2 < 65536

theorem decodeSDD_encode (s : SDD) (h : s.InRange) : decodeSDD (encodeSDD s) = some s := by
  obtain ⟨h1, h2, h3, h4, h5, h6⟩ := h
  have e := getPairs16_encode s.scaleNTs h6 []
  rw [List.append_nil, h5] at e
  have e' : getPairs16 s.dims.length (s.scaleNTs.flatMap encPair) = some (s.scaleNTs, []) := e
  simp only [decodeSDD, encodeSDD, encPair, List.append_assoc, get16_enc16 _ h1, getS32s_flatMap _ h2, get16_enc16 _ h3,
    get16_enc16 _ h4, Option.bind_eq_bind, Option.bind_some]
  simp only [e', Option.bind_some, List.isEmpty_nil, if_true]

/-- the length the writers compute: 2 + 4·rank + 4·(rank + 1) -/
theorem encodeSDD_length (s : SDD) (h : s.scaleNTs.length = s.dims.length) :
    (encodeSDD s).length = 2 + 4 * s.dims.length + 4 * (s.dims.length + 1) := by
  simp only [encodeSDD, List.length_append, enc16_length, H4.BigEndian.length_flatMap_const _ encS32 4 encS32_length,
    H4.BigEndian.length_flatMap_const _ encPair 4 (fun _ => rfl), h, show (encPair s.dataNT).length = 4 from rfl]
  omega

def ImgDesc.InRange (d : ImgDesc) : Prop :=
  S32 d.xdim ∧ S32 d.ydim ∧ d.ntTag < 65536 ∧ d.ntRef < 65536 ∧ S16 d.ncomps ∧ S16 d.interlace ∧ d.compTag < 65536 ∧ d.compRef < 65536

theorem decodeImgDesc_encode (d : ImgDesc) (h : d.InRange) : decodeImgDesc (encodeImgDesc d) = some d := by
  obtain ⟨h1, h2, h3, h4, h5, h6, h7, h8⟩ := h
  have e := at_end (get16_enc16 d.compRef h8)
  simp only [decodeImgDesc, encodeImgDesc, List.append_assoc, getS32_encS32 _ h1, getS32_encS32 _ h2, get16_enc16 _ h3,
    get16_enc16 _ h4, getS16_encS16 _ h5, getS16_encS16 _ h6, get16_enc16 _ h7, e, Option.bind_eq_bind, Option.bind_some,
    List.isEmpty_nil, if_true]

theorem encodeImgDesc_length (d : ImgDesc) : (encodeImgDesc d).length = 20 := by
  simp only [encodeImgDesc, List.length_append, encS32_length, enc16_length, encS16_length]

theorem decodeStrs_encode (l : List Bytes) (h : ∀ s ∈ l, (0 : UInt8) ∉ s) : decodeStrs (encodeStrs l) = some l := by
  unfold decodeStrs
  have step : ∀ (s : Bytes), (0 : UInt8) ∉ s → ∀ (cur rest : Bytes),
      decodeStrsAux (s ++ [0] ++ rest) cur = (decodeStrsAux rest []).map ((cur.reverse ++ s) :: ·) := by
    intro s
    induction s with
    | nil => intro _ cur rest; simp [decodeStrsAux]
    | cons c t ih =>
      intro hs cur rest
      have hc : c ≠ 0 := fun hc => hs (by simp [hc])
      have ht : (0 : UInt8) ∉ t := fun hm => hs (by simp [hm])
      simp only [List.cons_append, List.append_assoc, decodeStrsAux, hc, if_false]
      have := ih ht (c :: cur) rest
      simp only [List.append_assoc, List.reverse_cons] at this
      simpa using this
  induction l with
  | nil => simp [encodeStrs, decodeStrsAux]
  | cons a t ih =>
    have ha := h a (by simp)
    have ht := ih (fun s hs => h s (by simp [hs]))
    have := step a ha [] (encodeStrs t)
    simp only [encodeStrs, List.flatMap_cons] at this ht ⊢
    rw [this, ht]
    simp

theorem decodeFile_desc {b : ByteArray} {c : FileContent} (h : decodeFile b = .ok c) : descComplaints c.elems c.vgs = [] := by
  obtain ⟨_, _, _, _, _, _, _, _, hd⟩ := decodeFile_ok h
  exact hd

theorem flatMap_nil_of_mem {α β} {f : α → List β} {l : List α} (h : l.flatMap f = []) {a : α} (ha : a ∈ l) : f a = [] := by
  rw [List.flatMap_eq_nil_iff] at h
  exact h a ha

theorem elemComplaints_nil {elems : List Elem} {vgs : List (Nat × VG)} (h : descComplaints elems vgs = []) {e : Elem} (he : e ∈ elems) :
    elemComplaints elems e = [] := by
  unfold descComplaints at h
  exact flatMap_nil_of_mem (List.append_eq_nil_iff.mp h).1 he

theorem vgComplaints_nil {elems : List Elem} {vgs : List (Nat × VG)} (h : descComplaints elems vgs = []) {p : Nat × VG} (hp : p ∈ vgs) :
    vgComplaints elems p = [] := by
  unfold descComplaints at h
  exact flatMap_nil_of_mem (List.append_eq_nil_iff.mp h).2 hp

theorem checkSDD_nil {elems : List Elem} {who : String} {ms : List (Nat × Nat)} (h : checkSDGroup elems who ms = []) {r : Nat}
    (hr : (DFTAG_SDD, r) ∈ ms) : checkSDD elems who ms r = [] := by
  unfold checkSDGroup at h
  have hm : (DFTAG_SDD, r) ∈ ms.filter (fun m => m.1 == DFTAG_SDD) := by simp [hr]
  exact flatMap_nil_of_mem h hm

theorem checkNT_nil {elems : List Elem} {who : String} {tag ref : Nat} (h : (checkNT elems who tag ref).1 = []) :
    tag = DFTAG_NT ∧ ∃ e bs n sz, elemOf elems tag ref = some e ∧ e.ldata.data.map (·.toList) = some bs ∧ decodeNT bs = some n ∧
      ntOK n = some sz ∧ checkNT elems who tag ref = ([], some sz) := by
  unfold checkNT at h ⊢
  split at h
  · cases h
  · rename_i ht
    refine ⟨Decidable.of_not_not ht, ?_⟩
    rw [if_neg ht]
    split at h
    · cases h
    · rename_i e he
      split at h
      · cases h
      · rename_i bs hbs
        split at h
        · cases h
        · rename_i n hn
          split at h
          · rename_i sz hsz
            exact ⟨e, bs, n, sz, he, hbs, hn, hsz, rfl⟩
          · cases h

theorem checkNT_ok {elems : List Elem} {who : String} {tag ref sz : Nat} (h : checkNT elems who tag ref = ([], some sz)) :
    tag = DFTAG_NT ∧ ∃ e bs n, elemOf elems tag ref = some e ∧ e.ldata.data.map (·.toList) = some bs ∧ decodeNT bs = some n ∧ ntOK n = some sz := by
  obtain ⟨ht, e, bs, n, sz', h1, h2, h3, h4, h5⟩ := checkNT_nil (by rw [h])
  rw [h] at h5; injection h5 with _ h5; injection h5 with h5
  exact ⟨ht, e, bs, n, h1, h2, h3, h5 ▸ h4⟩

theorem checkNT_nil_size {elems : List Elem} {who : String} {tag ref : Nat} (h : (checkNT elems who tag ref).1 = []) :
    ∃ sz, checkNT elems who tag ref = ([], some sz) := by
  obtain ⟨_, _, _, _, sz, _, _, _, _, e⟩ := checkNT_nil h
  exact ⟨sz, e⟩

/-- **soundness of the `sdd` clause**: when a data-set group raises no complaint, each dimension record it names that is in the file
    decodes; no dimension size is negative; the number type of the data and of every scale is a well-formed `DFTAG_NT`; and when the
    group names a data element that has been written, product(dimension sizes) · size(number type) is EXACTLY the logical length of
    that element — a reader that follows group → dimension record → data neither reads past the data nor leaves part of it unread -/
theorem checkSDD_sound {elems : List Elem} {who : String} {ms : List (Nat × Nat)} {r : Nat} {se : Elem}
    (h : checkSDD elems who ms r = []) (hse : elemOf elems DFTAG_SDD r = some se) :
    ∃ bs s sz, se.ldata.data.map (·.toList) = some bs ∧ decodeSDD bs = some s ∧ (∀ d ∈ s.dims, 0 ≤ d) ∧
      (∃ w, checkNT elems w s.dataNT.1 s.dataNT.2 = ([], some sz)) ∧
      (∀ p ∈ s.scaleNTs, ∃ w sz', checkNT elems w p.1 p.2 = ([], some sz')) ∧
      (∀ dt dr de, memberOf ms [DFTAG_SD] = some (dt, dr) → writtenElem elems DFTAG_SD dr = some de →
        de.ldata.len = prod (s.dims.map (·.toNat)) * sz) := by
  unfold checkSDD at h
  rw [hse] at h
  simp only at h
  split at h
  · simp at h
  · rename_i bs hbs
    split at h
    · simp at h
    · rename_i s hs
      simp only [List.append_eq_nil_iff] at h
      obtain ⟨⟨⟨⟨hd, hnt⟩, hsc⟩, hdata⟩, _⟩ := h
      obtain ⟨sz, hsz⟩ := checkNT_nil_size hnt
      refine ⟨bs, s, sz, hbs, hs, ?_, ⟨_, hsz⟩, ?_, ?_⟩
      · intro d hdm
        by_cases hneg : s.dims.any (· < 0) = true
        · simp [hneg] at hd
        · simp only [List.any_eq_true, decide_eq_true_eq, not_exists, not_and, Int.not_lt] at hneg
          exact hneg d hdm
      · intro p hp
        have := flatMap_nil_of_mem hsc hp
        obtain ⟨sz', hsz'⟩ := checkNT_nil_size this
        exact ⟨_, sz', hsz'⟩
      · intro dt dr de hmem hw
        rw [hsz, hmem] at hdata
        simp only [hw] at hdata
        split at hdata
        · assumption
        · simp at hdata

theorem checkImgDesc_nil {elems : List Elem} {who : String} {ms : List (Nat × Nat)} (h : checkRIGroup elems who ms = []) {r : Nat}
    (hr : (DFTAG_ID, r) ∈ ms) : checkImgDesc elems who ms DFTAG_ID r [DFTAG_RI, DFTAG_CI] = [] := by
  unfold checkRIGroup at h
  have hm : (DFTAG_ID, r) ∈ ms.filter (fun m => m.1 == DFTAG_ID) := by simp [hr]
  exact flatMap_nil_of_mem (List.append_eq_nil_iff.mp (List.append_eq_nil_iff.mp h).1).1 hm

/-- the number type a raster dimension record names: none (0/0: 8-bit values) or a well-formed `DFTAG_NT` -/
def imgNT (elems : List Elem) (who : String) (d : ImgDesc) : List Complaint × Option Nat :=
  if d.ntTag = 0 ∨ d.ntRef = 0 then ([], some 1) else checkNT elems who d.ntTag d.ntRef

/-- **soundness of the `id` clause**: when an image / palette dimension record raises no complaint it decodes (20 bytes), its sizes are
    not negative, it has at least one component and an interlace of 0..2, and — for an image stored without one of the old raster
    compression schemes — the data element of the group, once it holds pixels, holds EXACTLY xdim · ydim · components · size(number type)
    bytes (logical length: the special compressed / chunked elements of the GR interface included) -/
theorem checkImgDesc_sound {elems : List Elem} {who : String} {ms : List (Nat × Nat)} {tag ref : Nat} {dataTags : List Nat} {ie : Elem}
    (h : checkImgDesc elems who ms tag ref dataTags = []) (hie : elemOf elems tag ref = some ie) :
    ∃ bs d, ie.ldata.data.map (·.toList) = some bs ∧ decodeImgDesc bs = some d ∧
      0 ≤ d.xdim ∧ 0 ≤ d.ydim ∧ 1 ≤ d.ncomps ∧ 0 ≤ d.interlace ∧ d.interlace ≤ 2 ∧
      ((d.compTag = 0 ∨ d.compTag = DFTAG_NULL) → ∃ w sz, imgNT elems w d = ([], some sz) ∧
        ∀ dt dr de, memberOf ms dataTags = some (dt, dr) → writtenElem elems dt dr = some de →
          de.ldata.len = d.xdim.toNat * d.ydim.toNat * d.ncomps.toNat * sz ∨ de.ldata.len = 0) := by
  unfold checkImgDesc at h
  rw [hie] at h
  simp only at h
  split at h
  · simp at h
  · rename_i bs hbs
    split at h
    · simp at h
    · rename_i d hd
      simp only [List.append_eq_nil_iff] at h
      obtain ⟨⟨hshape, hnt⟩, hdata⟩ := h
      have hs : ¬ (d.xdim < 0 ∨ d.ydim < 0 ∨ d.ncomps < 1 ∨ d.interlace < 0 ∨ d.interlace > (H4.Gen.FmtDesc.DFIL_PLANE : Nat)) := by
        intro hc; simp [hc] at hshape
      have hpl : ((H4.Gen.FmtDesc.DFIL_PLANE : Nat) : Int) = 2 := by decide
      rw [hpl] at hs
      refine ⟨bs, d, hbs, hd, by omega, by omega, by omega, by omega, by omega, ?_⟩
      intro hcomp
      have hnt' : (imgNT elems s!"{who} dimension record {tag}/{ref}" d).1 = [] := hnt
      have hsz : ∃ sz, imgNT elems s!"{who} dimension record {tag}/{ref}" d = ([], some sz) := by
        unfold imgNT at hnt' ⊢
        split
        · exact ⟨1, rfl⟩
        · rename_i hn
          simp only [hn, if_false] at hnt'
          exact checkNT_nil_size hnt'
      obtain ⟨sz, hsz⟩ := hsz
      refine ⟨_, sz, hsz, ?_⟩
      intro dt dr de hmem hw
      have hsz' : (if d.ntTag = 0 ∨ d.ntRef = 0 then (([] : List Complaint), some 1) else checkNT elems s!"{who} dimension record {tag}/{ref}" d.ntTag d.ntRef) = ([], some sz) := hsz
      rw [if_pos hcomp, hsz', hmem] at hdata
      simp only [hw] at hdata
      split at hdata
      · assumption
      · simp at hdata

end H4.Format
