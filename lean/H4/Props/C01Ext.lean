import H4.Lemmas.ExtElem
/-! # C01, external elements — the data of an element lives at `extern_offset` of a separate file (property theorems)

Model: `H4/ExtElem.lean` (`hextelt.c`: `HXcreate`, `HXPseek`, `HXPread`, `HXPwrite`, `HXPinquire`; the special information is
shared by all access records on the element and survives close/reopen).  Tied to the C by engine `ext`
(`harness/e_ext.c`): several elements in one external file at different offsets, interleaved read and write ids.
Not modelled: the stdio stream mode (`HXPwrite`'s reopen-for-writing path has the effect of the plain path: that is what the
tie checks), file-name resolution (`HXsetdir`, `HXsetcreatedir`), `HXcreate` on elements that are already special. -/
namespace H4.Props.C01Ext
open H4.Elem H4.ExtElem H4.Gen.Hdf

/-- **ext_write_spec**: a write through a read/write id on an external element succeeds with count `|bs|`; in all external
    files exactly the bytes `[extern_offset + posn, extern_offset + posn + |bs|)` of the element's file change (to `bs`);
    the element's length becomes `max len (posn + |bs|)`, no other element's description changes; the id's position
    advances, no other id moves. -/
theorem ext_write_spec (w : XWorld) (h : Nat) (bs : Bytes) (a : XAcc) (x : XElem) (ha : w.acc h = some a)
    (hcw : a.canWrite = true) (hx : w.elem a.elem = some x) :
    (xwrite w h bs).2 = .num bs.length ∧
    (∀ g y, rd ((xwrite w h bs).1.file g) y =
      if g = x.file ∧ x.off + a.posn ≤ y ∧ y < x.off + a.posn + bs.length then bs.getD (y - (x.off + a.posn)) 0 else rd (w.file g) y) ∧
    (∀ e, (xwrite w h bs).1.elem e = if e = a.elem then some { x with len := max x.len (a.posn + bs.length) } else w.elem e) ∧
    (∀ h', (xwrite w h bs).1.acc h' = if h' = h then some { a with posn := a.posn + bs.length } else w.acc h') :=
  xwrite_effect w h bs a x ha hcw hx

/-- **ext_disjoint_noninterference**: elements at disjoint extents of one external file (or in different files) do not
    interfere: a write through any id on one element leaves the description and every byte of the other as they were.
    (This is the statement the seeded change c01b breaks in the C: its retry path writes at `posn` instead of
    `extern_offset + posn`.) -/
theorem ext_disjoint_noninterference (w : XWorld) (h : Nat) (bs : Bytes) (a : XAcc) (x : XElem) (ha : w.acc h = some a)
    (hcw : a.canWrite = true) (hx : w.elem a.elem = some x) (e2 : Nat) (x2 : XElem) (h2 : w.elem e2 = some x2)
    (hne : e2 ≠ a.elem)
    (hdisj : x2.file ≠ x.file ∨ x2.off + x2.len ≤ x.off + a.posn ∨ x.off + a.posn + bs.length ≤ x2.off) :
    (xwrite w h bs).1.elem e2 = some x2 ∧ (xwrite w h bs).1.bytes x2 = w.bytes x2 := by
  obtain ⟨_, hf, he, _⟩ := xwrite_effect w h bs a x ha hcw hx
  refine ⟨by rw [he, if_neg hne]; exact h2, ?_⟩
  unfold XWorld.bytes
  apply List.map_congr_left
  intro i hi
  have hi : i < x2.len := List.mem_range.mp hi
  rw [hf]
  have : ¬ (x2.file = x.file ∧ x.off + a.posn ≤ x2.off + i ∧ x2.off + i < x.off + a.posn + bs.length) := by
    intro c
    rcases hdisj with d | d | d
    · exact d c.1
    · omega
    · omega
  rw [if_neg this]

/-- **ext_write_bytes**: the element written is the byte array with `bs` written at `posn` (overwrite, extend); the gap
    between the old length and `posn`, if any, is whatever the external file holds there — zeros when it holds zeros -/
theorem ext_write_bytes (w : XWorld) (h : Nat) (bs : Bytes) (a : XAcc) (x : XElem) (ha : w.acc h = some a)
    (hcw : a.canWrite = true) (hx : w.elem a.elem = some x)
    (hgap : ∀ i, x.len ≤ i → i < a.posn → rd (w.file x.file) (x.off + i) = 0) :
    (xwrite w h bs).1.bytes { x with len := max x.len (a.posn + bs.length) } = specWrite (w.bytes x) a.posn bs := by
  obtain ⟨_, hf, _, _⟩ := xwrite_effect w h bs a x ha hcw hx
  show (List.range (max x.len (a.posn + bs.length))).map (fun i => rd ((xwrite w h bs).1.file x.file) (x.off + i)) =
    specWrite ((List.range x.len).map (fun i => rd (w.file x.file) (x.off + i))) a.posn bs
  apply specWrite_range _ _ x.len a.posn bs hgap
  intro i
  rw [hf]
  by_cases c : a.posn ≤ i ∧ i < a.posn + bs.length
  · rw [if_pos ⟨rfl, by omega, by omega⟩, if_pos c]; congr 1; omega
  · rw [if_neg (fun d => c ⟨by omega, by omega⟩), if_neg c]

/-- **ext_read_spec**: a read that does not fail changes no byte and no description, returns exactly `readCount` bytes,
    namely the element's bytes at the position (found at `extern_offset + posn` of the external file), and advances the
    position by the count -/
theorem ext_read_spec (w : XWorld) (h : Nat) (n : Int) (bs : Bytes) (hr : (xread w h n).2 = .data bs) :
    ∃ a x, w.acc h = some a ∧ w.elem a.elem = some x ∧ 0 ≤ n ∧
      bs = specRead (w.bytes x) a.posn (readCount x.len a.posn n.toNat) ∧
      (∀ g, (xread w h n).1.file g = w.file g) ∧ (∀ e, (xread w h n).1.elem e = w.elem e) ∧
      (xread w h n).1.acc h = some { a with posn := a.posn + readCount x.len a.posn n.toNat } := by
  obtain ⟨a, x, ha, hx, hn, hb, hfile, hel, hacc⟩ := xread_effect w h n bs hr
  refine ⟨a, x, ha, hx, hn, ?_, hfile, hel, hacc⟩
  rw [hb]
  unfold XWorld.bytes
  rw [specRead_range _ _ _ _ (readCount_fits _ _ _)]
  simp only [Nat.add_assoc]

/-- rooms: every element `e` owns `[off, off + cap e)` of its external file, rooms in one file are disjoint, an element's
    bytes lie in its room and the rest of the room holds zeros -/
structure Rooms (w : XWorld) (cap : Nat → Nat) : Prop where
  inside : ∀ e x, w.elem e = some x → x.len ≤ cap e
  tail0 : ∀ e x, w.elem e = some x → ∀ i, x.len ≤ i → i < cap e → rd (w.file x.file) (x.off + i) = 0
  disj : ∀ e1 e2 x1 x2, e1 ≠ e2 → w.elem e1 = some x1 → w.elem e2 = some x2 → x1.file = x2.file →
    x1.off + cap e1 ≤ x2.off ∨ x2.off + cap e2 ≤ x1.off

/-- **ext_refines_bytes**: with every element in a room of its own, a write that stays inside the room of its element is
    `specWrite` on that element's byte string (zero gap fill included), leaves every other element's byte string and
    description untouched, and keeps the rooms (so the statement applies again to the next write). One `HXPwrite`; no theorem
    here runs over histories, and creation of an element (which needs a room of its own) is not covered -/
theorem ext_refines_bytes (w : XWorld) (cap : Nat → Nat) (hR : Rooms w cap) (h : Nat) (bs : Bytes) (a : XAcc) (x : XElem)
    (ha : w.acc h = some a) (hcw : a.canWrite = true) (hx : w.elem a.elem = some x) (hfit : a.posn + bs.length ≤ cap a.elem) :
    (xwrite w h bs).1.bytes { x with len := max x.len (a.posn + bs.length) } = specWrite (w.bytes x) a.posn bs ∧
    (∀ e2 x2, e2 ≠ a.elem → w.elem e2 = some x2 → (xwrite w h bs).1.elem e2 = some x2 ∧ (xwrite w h bs).1.bytes x2 = w.bytes x2) ∧
    Rooms (xwrite w h bs).1 cap := by
  have hother : ∀ e2 x2, e2 ≠ a.elem → w.elem e2 = some x2 →
      x2.file ≠ x.file ∨ x2.off + cap e2 ≤ x.off + a.posn ∨ x.off + a.posn + bs.length ≤ x2.off := by
    intro e2 x2 hne h2
    by_cases c : x2.file = x.file
    · rcases hR.disj e2 a.elem x2 x hne h2 hx c with d | d
      · exact Or.inr (Or.inl (by omega))
      · exact Or.inr (Or.inr (by omega))
    · exact Or.inl c
  refine ⟨ext_write_bytes w h bs a x ha hcw hx (fun i h1 h2 => hR.tail0 a.elem x hx i h1 (by omega)), ?_, ?_⟩
  · intro e2 x2 hne h2
    have hl := hR.inside e2 x2 h2
    apply ext_disjoint_noninterference w h bs a x ha hcw hx e2 x2 h2 hne
    rcases hother e2 x2 hne h2 with d | d | d
    · exact Or.inl d
    · exact Or.inr (Or.inl (by omega))
    · exact Or.inr (Or.inr d)
  · obtain ⟨_, hf, he, _⟩ := xwrite_effect w h bs a x ha hcw hx
    have hin := hR.inside a.elem x hx
    refine ⟨?_, ?_, ?_⟩
    · intro e y hy
      rw [he] at hy
      by_cases c : e = a.elem
      · rw [if_pos c] at hy; cases hy; rw [c]; show max x.len (a.posn + bs.length) ≤ _; omega
      · rw [if_neg c] at hy; exact hR.inside e y hy
    · intro e y hy i h1 h2
      rw [he] at hy
      rw [hf]
      by_cases c : e = a.elem
      · rw [if_pos c] at hy; cases hy
        rw [c] at h2
        have h1' : max x.len (a.posn + bs.length) ≤ i := h1
        show (if x.file = x.file ∧ x.off + a.posn ≤ x.off + i ∧ x.off + i < x.off + a.posn + bs.length then _
          else rd (w.file x.file) (x.off + i)) = 0
        rw [if_neg (fun d => by omega)]
        exact hR.tail0 a.elem x hx i (by omega) h2
      · rw [if_neg c] at hy
        have : ¬ (y.file = x.file ∧ x.off + a.posn ≤ y.off + i ∧ y.off + i < x.off + a.posn + bs.length) := by
          intro d
          rcases hother e y c hy with q | q | q
          · exact q d.1
          · omega
          · omega
        rw [if_neg this]
        exact hR.tail0 e y hy i h1 h2
    · intro e1 e2 y1 y2 hne h1 h2 hfile
      rw [he] at h1 h2
      have k1 : ∃ z1, w.elem e1 = some z1 ∧ z1.file = y1.file ∧ z1.off = y1.off := by
        by_cases c : e1 = a.elem
        · rw [if_pos c] at h1; cases h1; exact ⟨x, by rw [c]; exact hx, rfl, rfl⟩
        · rw [if_neg c] at h1; exact ⟨y1, h1, rfl, rfl⟩
      have k2 : ∃ z2, w.elem e2 = some z2 ∧ z2.file = y2.file ∧ z2.off = y2.off := by
        by_cases c : e2 = a.elem
        · rw [if_pos c] at h2; cases h2; exact ⟨x, by rw [c]; exact hx, rfl, rfl⟩
        · rw [if_neg c] at h2; exact ⟨y2, h2, rfl, rfl⟩
      obtain ⟨z1, a1, b1, c1⟩ := k1
      obtain ⟨z2, a2, b2, c2⟩ := k2
      have := hR.disj e1 e2 z1 z2 hne a1 a2 (by rw [b1, b2]; exact hfile)
      rw [c1, c2] at this; exact this

/-- non-vacuity: two elements in one external file (rooms `[4,20)` and `[32,64)`), a reader and a writer id on the
    second one; the write at position 6 of the second element lands at byte 38 of the file and the first element keeps
    its bytes -/
def demoX : XWorld :=
  (((xcreate {} 1 0 0 4 0 [1, 2, 3, 4]).1 |> fun w => (xcreate w 2 1 0 32 8 []).1) |> fun w => (xopen w 3 1 false).1)
    |> fun w => (xseek w 2 6 DF_START).1

example : (xwrite demoX 2 [9, 9]).1.file 0 =
    [0, 0, 0, 0, 1, 2, 3, 4, 0, 0, 0, 0, 0, 0, 0, 0, 0, 0, 0, 0, 0, 0, 0, 0, 0, 0, 0, 0, 0, 0, 0, 0, 0, 0, 0, 0, 0, 0, 9, 9] := by decide
example : (xread (xwrite demoX 2 [9, 9]).1 3 0).2 = .data [0, 0, 0, 0, 0, 0, 9, 9] := by decide

/-- the rooms of `demoX`: 16 bytes at offset 4 for element 0, 32 bytes at offset 32 for element 1 -/
def demoCap (e : Nat) : Nat := if e = 0 then 16 else 32

theorem demoX_elem (e : Nat) : demoX.elem e =
    if e = 1 then some { file := 0, off := 32, len := 8 } else if e = 0 then some { file := 0, off := 4, len := 4 } else none := by
  have h : demoX.elems = [(1, { file := 0, off := 32, len := 8 }), (0, { file := 0, off := 4, len := 4 })] := by decide
  unfold XWorld.elem
  rw [h]
  by_cases c1 : e = 1
  · subst c1; rfl
  · by_cases c0 : e = 0
    · subst c0; rfl
    · have a1 : ((1 : Nat) == e) = false := by simp; exact fun x => c1 x.symm
      have a0 : ((0 : Nat) == e) = false := by simp; exact fun x => c0 x.symm
      simp [List.find?, a1, a0, c1, c0]

/-- non-vacuity of `ext_refines_bytes`: its hypotheses hold for `demoX`, the write id 2 (position 6 of element 1) and any
    two bytes -/
example : Rooms demoX demoCap := by
  have hfile : demoX.file 0 = [0, 0, 0, 0, 1, 2, 3, 4] := by decide
  have hz : ∀ y, 8 ≤ y → rd (demoX.file 0) y = 0 := by
    intro y hy; rw [hfile]; unfold rd
    rw [List.getD_eq_getElem?_getD, List.getElem?_eq_none (by simp; omega)]; rfl
  refine ⟨?_, ?_, ?_⟩
  · intro e x hx
    rw [demoX_elem] at hx
    unfold demoCap
    by_cases c1 : e = 1
    · subst c1; simp at hx; subst hx; simp
    · by_cases c0 : e = 0
      · subst c0; simp at hx; subst hx; simp
      · simp [c1, c0] at hx
  · intro e x hx i h1 _
    rw [demoX_elem] at hx
    by_cases c1 : e = 1
    · subst c1; simp at hx; subst hx; exact hz _ (by simp; omega)
    · by_cases c0 : e = 0
      · subst c0; simp at hx; subst hx; exact hz _ (by simp at h1 ⊢; omega)
      · simp [c1, c0] at hx
  · intro e1 e2 x1 x2 hne h1 h2 _
    rw [demoX_elem] at h1 h2
    unfold demoCap
    by_cases a1 : e1 = 1 <;> by_cases a0 : e1 = 0 <;> by_cases b1 : e2 = 1 <;> by_cases b0 : e2 = 0 <;>
      simp [a1, a0, b1, b0] at h1 h2 <;> (try omega) <;> (try (subst h1; subst h2; simp_all))

example : demoX.acc 2 = some { elem := 1, posn := 6, canWrite := true } := by decide

end H4.Props.C01Ext
