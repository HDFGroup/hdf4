import H4.Props.C10
import H4.Lemmas.AttrSD
/-!
# C10 — part 2: predefined attributes, name/index/reference tables, the persistence codec, and how the SD / GR / VS
machines tied to the C by engine `attr` relate to the attribute-list machine `H4.Attr.put` of part 1.

Where the code as it is does NOT satisfy the property (known findings), the theorem carries the excluded situation as an
explicit hypothesis, is named `…_partial`, and a concrete witness of the failure is proved next to it.
-/
namespace H4.Props.C10
open H4.Attr H4.Gen.Attr

/-! ## persistence codec (the on-disk form of the MODEL; that `cdf.c` writes this form is Tie B only) -/

theorem tables : ntSize DFNT_CHAR = some 1 ∧ unmap DFNT_CHAR = some NC_CHAR := by decide

/-- **decodeAttrs ∘ encodeAttrs = id** on storable attributes (name ≤ VSNAMELENMAX, at least one value, value of
    `count * size` bytes) — for EVERY number type, including the character types other than DFNT_CHAR. -/
theorem decode_encode_attr (a : Attr) (h : Storable a = true) : decodeAttr (encodeAttr a) = a := by
  simp only [Storable, Bool.and_eq_true, decide_eq_true_eq] at h
  obtain ⟨⟨hname, hpos⟩, hval⟩ := h
  have htake : a.name.take VSNAMELENMAX = a.name := List.take_of_length_le hname
  cases hs : ntSize a.nt with
  | none => rw [hs] at hval; cases hval
  | some sz =>
    rw [hs] at hval
    have hval : a.val.length = a.count * sz := beq_iff_eq.mp hval
    obtain ⟨name, nt, count, val⟩ := a
    dsimp only at *
    by_cases hc : nt = DFNT_CHAR
    · subst hc
      cases tables.1.symm.trans hs
      have hcond : unmap DFNT_CHAR = some NC_CHAR ∧ (count > 1 ∨ 1 ≤ 1) := ⟨tables.2, Or.inr (Nat.le_refl 1)⟩
      simp only [encodeAttr, if_true, decodeAttr, hcond, and_self, tables.1, Option.getD_some, Nat.mul_one, htake]
      rw [List.take_of_length_le (Nat.le_of_eq (hval.trans (Nat.mul_one _)))]
    · simp only [encodeAttr, hc, if_false, decodeAttr, hs, Option.getD_some, Nat.mul_one, htake]
      by_cases hcond : unmap nt = some NC_CHAR ∧ (1 > 1 ∨ count ≤ 1)
      · have hc1 : count = 1 := by omega
        subst hc1
        rw [if_pos hcond, List.take_of_length_le (Nat.le_of_eq hval)]
      · rw [if_neg hcond, List.take_of_length_le (Nat.le_of_eq hval)]

theorem decode_encode_attrs (l : AList) (h : ∀ a ∈ l, Storable a = true) : decodeAttrs (encodeAttrs l) = l := by
  unfold decodeAttrs encodeAttrs
  rw [List.map_map]
  exact (List.map_congr_left fun a ha => decode_encode_attr a (h a ha)).trans (List.map_id' l)

example : Storable ⟨[117, 110, 105, 116, 115], DFNT_CHAR, 3, [109, 47, 115]⟩ = true := by decide +kernel
example : Storable ⟨[120], 22, 2, [1, 2, 3, 4]⟩ = true := by decide +kernel

/-- the character types other than DFNT_CHAR keep their count (they lost it before the reader was repaired) -/
example : decodeAttrs (encodeAttrs [⟨[97], DFNT_UCHAR, 5, [1, 2, 3, 4, 5]⟩]) = [⟨[97], DFNT_UCHAR, 5, [1, 2, 3, 4, 5]⟩] := by decide +kernel
example : decodeAttrs (encodeAttrs [⟨[97], DFNT_CHAR + DFNT_LITEND, 3, [1, 2, 3]⟩]) = [⟨[97], DFNT_CHAR + DFNT_LITEND, 3, [1, 2, 3]⟩] := by decide +kernel
/-- a name that does not fit a Vdata name would still be cut by the disk form: `SDsetattr` refuses it (`sd_setattr_is_put`) -/
example : ((decodeAttrs (encodeAttrs [⟨List.replicate 65 120, 24, 1, [0, 0, 0, 1]⟩])).map (·.name.length)) = [64] := by decide +kernel


/-- `SDnametoindex` returns the FIRST dataset with that name -/
theorem nametoindex_first (rows : List ObjRow) (n : Bytes) (i : Nat) :
    nameToIndex rows n = some i ↔
      (∃ r, rows[i]? = some r ∧ r.name = n) ∧ ∀ j, j < i → ∀ r, rows[j]? = some r → r.name ≠ n := by
  unfold nameToIndex
  rw [findIdx?_some_iff]
  simp only [beq_iff_eq, beq_eq_false_iff_ne]

/-- `SDnametoindices` lists exactly the datasets with that name, in ascending index order, each once -/
theorem nametoindices_spec (rows : List ObjRow) (n : Bytes) :
    (∀ i, i ∈ nameToIndices rows n ↔ ∃ r, rows[i]? = some r ∧ r.name = n) ∧
    (nameToIndices rows n).Pairwise (· < ·) := by
  constructor
  · intro i
    simp only [nameToIndices, List.mem_filter, List.mem_range, beq_iff_eq]
    constructor
    · intro ⟨hi, hn⟩
      refine ⟨rows[i], by simp [hi], ?_⟩
      simpa [List.getD_eq_getElem?_getD, hi] using hn
    · intro ⟨r, hr, hn⟩
      exact ⟨(List.getElem?_eq_some_iff.mp hr).1, by rw [getD_of_getElem? hr]; exact hn⟩
  · unfold nameToIndices
    exact List.Pairwise.filter _ (List.pairwise_lt_range)

/-- **nametoindex_idtoref_reftoindex**: on the live dataset list with pairwise distinct reference numbers (what `Hnewref`
    guarantees; checked by the engine) index → ref → index and ref → index → ref are the identity, i.e. `SDidtoref` and
    `SDreftoindex` are mutually inverse bijections between `{0..n-1}` and the set of live refs; with distinct names the
    same holds for `SDnametoindex`. -/
theorem nametoindex_idtoref_reftoindex (rows : List ObjRow) (hnd : (rows.map (·.ref)).Nodup) :
    (∀ i, i < rows.length → (idToRef rows i).bind (refToIndex rows) = some i) ∧
    (∀ r i, refToIndex rows r = some i → idToRef rows i = some r ∧ i < rows.length) ∧
    ((rows.map (·.name)).Nodup → ∀ i r, rows[i]? = some r → nameToIndex rows r.name = some i) := by
  refine ⟨fun i hi => ?_, fun r i h => ?_, fun hn i r hr => findIdx?_of_nodup (fun r : ObjRow => r.name) hn hr⟩
  · rw [idToRef, List.getElem?_eq_getElem hi]
    exact findIdx?_of_nodup (fun r : ObjRow => r.ref) hnd (List.getElem?_eq_getElem hi)
  · obtain ⟨⟨a, ha, hpa⟩, _⟩ := (findIdx?_some_iff _ _ _).mp h
    exact ⟨by rw [idToRef, ha]; exact congrArg some (beq_iff_eq.mp hpa), (List.getElem?_eq_some_iff.mp ha).1⟩

example : refToIndex [⟨[118], 2⟩, ⟨[120], 5⟩, ⟨[118], 7⟩] 7 = some 2 ∧ nameToIndex [⟨[118], 2⟩, ⟨[120], 5⟩, ⟨[118], 7⟩] [118] = some 0
    ∧ nameToIndices [⟨[118], 2⟩, ⟨[120], 5⟩, ⟨[118], 7⟩] [118] = [0, 2] := by decide +kernel


open H4.AttrSD in
/-- **predefined_roundtrip** (`SDsetdatastrs` → `SDgetdatastrs`, with the partial-NULL conventions): for any four optional
    strings (of any length: the setter restricts the attribute names, which are fixed here, not the values) on a dataset whose
    list has room, the call succeeds; afterwards each of "long_name", "units", "format", "coordsys" holds the string
    given if it was non-NULL and non-empty (type DFNT_CHAR, count = strlen), and is UNCHANGED if the argument was NULL
    or ""; no other attribute changes. -/
theorem predefined_roundtrip (al : AList) (l u f c : Option Bytes) (hroom : al.length + 4 ≤ H4_MAX_NC_ATTRS) :
    let r := sdiPutAll al (datastrsPuts l u f c)
    r.2 = true ∧
    (∀ p ∈ [(nLongName, l), (nUnits, u), (nFormat, f), (nCoordSys, c)],
      getByName r.1 p.1 = match p.2 with
        | some (ch :: t) => some ⟨p.1, DFNT_CHAR, (ch :: t).length, ch :: t⟩
        | _ => getByName al p.1) ∧
    (∀ n, n ∉ [nLongName, nUnits, nFormat, nCoordSys] → getByName r.1 n = getByName al n) := by
  intro r
  have hflat : datastrsPuts l u f c = [(nLongName, l), (nUnits, u), (nFormat, f), (nCoordSys, c)].flatMap fun p => strAttr p.1 p.2 := by
    simp only [datastrsPuts, List.flatMap_cons, List.flatMap_nil, List.append_nil, List.append_assoc]
  obtain ⟨h1, h2, h3⟩ := strPuts_spec [(nLongName, l), (nUnits, u), (nFormat, f), (nCoordSys, c)] al
    predef_names_distinct.1 (by decide : ∀ n ∈ [nLongName, nUnits, nFormat, nCoordSys], n.length ≤ H4_MAX_NC_NAME) hroom
  rw [← hflat] at h1 h2 h3
  refine ⟨h1, fun p hp => (h2 p hp).trans ?_, h3⟩
  obtain ⟨nm, s⟩ := p
  match s with
  | none => rfl
  | some [] => rfl
  | some (_ :: _) => rfl

/-- the reading side: a stored string without NUL comes back as the C string when the buffer is longer than it;
    a missing attribute gives the empty string -/
theorem getstr_roundtrip (al : AList) (nm s old : Bytes) (len : Nat)
    (hget : getByName al nm = some ⟨nm, DFNT_CHAR, s.length, s⟩) (hnul : ∀ b ∈ s, b ≠ 0) (hlen : s.length < len) :
    cstr (getStrImg al nm len old) = s := by
  have hpos : ∀ b ∈ s, (b != 0) = true := fun b hb => bne_iff_ne.mpr (hnul b hb)
  have hs : s.takeWhile (· != 0) = s := by
    have := List.takeWhile_append_of_pos (l₂ := []) hpos
    rwa [List.append_nil, List.takeWhile_nil, List.append_nil] at this
  simp only [getStrImg, hget, hlen, if_true, strncpyImg, List.take_length, hs, Nat.sub_self,
    List.replicate_zero, List.append_nil, overlay, cstr, List.append_assoc]
  rw [List.takeWhile_append_of_pos hpos]
  exact List.append_nil s

theorem getstr_missing (al : AList) (nm old : Bytes) (len : Nat) (hget : getByName al nm = none) :
    cstr (getStrImg al nm len old) = [] := by
  simp [getStrImg, hget, overlay, cstr]

open H4.AttrSD in
/-- `SDsetcal` → `SDgetcal`, `SDsetrange` → `SDgetrange`, `SDsetfillvalue` → `SDgetfillvalue` as `put`s of fixed names -/
theorem predefined_roundtrip_cal (al : AList) (cal cale ioff ioffe nt : Bytes) (hroom : al.length + 5 ≤ H4_MAX_NC_ATTRS) :
    let r := sdiPutAll al (calPuts cal cale ioff ioffe nt)
    r.2 = true ∧
    getByName r.1 nScaleFactor = some ⟨nScaleFactor, DFNT_FLOAT64, 1, cal⟩ ∧
    getByName r.1 nScaleFactorErr = some ⟨nScaleFactorErr, DFNT_FLOAT64, 1, cale⟩ ∧
    getByName r.1 nAddOffset = some ⟨nAddOffset, DFNT_FLOAT64, 1, ioff⟩ ∧
    getByName r.1 nAddOffsetErr = some ⟨nAddOffsetErr, DFNT_FLOAT64, 1, ioffe⟩ ∧
    getByName r.1 nCalibratedNt = some ⟨nCalibratedNt, DFNT_INT32, 1, nt⟩ := by
  intro r
  have hok : ∀ p ∈ calPuts cal cale ioff ioffe nt, p.name.length ≤ H4_MAX_NC_NAME ∧ (unmap p.nt).isSome = true := by
    intro p hp
    simp only [calPuts, List.mem_cons, List.mem_nil_iff, or_false] at hp
    rcases hp with h | h | h | h | h <;> subst h <;> refine ⟨?_, ?_⟩ <;> dsimp only <;> decide
  obtain ⟨h1, h2, _⟩ := sdiPutAll_spec (calPuts cal cale ioff ioffe nt) al hok predef_names_distinct.2 hroom
  exact ⟨h1, h2 _ (.head _), h2 _ (.tail _ (.head _)), h2 _ (.tail _ (.tail _ (.head _))),
    h2 _ (.tail _ (.tail _ (.tail _ (.head _)))), h2 _ (.tail _ (.tail _ (.tail _ (.tail _ (.head _)))))⟩

theorem predefined_roundtrip_range_fill (al : AList) (vnt : Nat) (pmax pmin fv : Bytes)
    (hroom : al.length < H4_MAX_NC_ATTRS) :
    (∃ l', put .sd al (rangePut vnt pmax pmin) = some l' ∧
        getByName l' nValidRange = some ⟨nValidRange, vnt, 2, pmin ++ pmax⟩) ∧
    (∃ l', put .sd al (fillPut vnt fv) = some l' ∧ getByName l' nFillValue = some ⟨nFillValue, vnt, 1, fv⟩) := by
  have gen : ∀ a : Attr, ∃ l', put .sd al a = some l' ∧ getByName l' a.name = some a := by
    intro a
    obtain ⟨l', hl'⟩ := put_sd_some al a hroom
    obtain ⟨_, _, _, _, hg⟩ := aput_get .sd al l' a hl'
    exact ⟨l', hl', hg⟩
  exact ⟨gen (rangePut vnt pmax pmin), gen (fillPut vnt fv)⟩

example : (AttrSD.sdiPutAll [] (datastrsPuts (some [84]) none (some []) (some [75]))).1
    = [⟨nLongName, DFNT_CHAR, 1, [84]⟩, ⟨nCoordSys, DFNT_CHAR, 1, [75]⟩] := by decide +kernel


open H4.AttrSD in
/-- `SDsetattr` on the file object: argument checks, then exactly `put .sd` on the global list (`NC_HDIRTY` on success) -/
theorem sd_setattr_is_put (f : File) (name : Bytes) (nt : Nat) (count : Int) (val : Bytes)
    (hopen : f.isOpen = true) (hrw : f.rdwr = true) (hnat : nt / DFNT_NATIVE % 2 = 0) (hargs : argsOk nt count = true)
    (hname : name.length ≤ VSNAMELENMAX) :
    sdSetAttr f .file name nt count val =
      match put .sd f.gattrs ⟨name, nt, count.toNat, val⟩ with
      | some l' => ({ f with gattrs := l', dirty := true }, .ok)
      | none => (f, .fail) := by
  have hsz : (ntSize nt).isSome = true := by
    unfold argsOk at hargs
    split at hargs
    · cases hargs
    · rename_i h; rw [h]; rfl
  have hle : VSNAMELENMAX ≤ H4_MAX_NC_NAME := by decide
  have h2 : ¬ name.length > VSNAMELENMAX := by omega
  have h0 : (nt / DFNT_NATIVE % 2 == 1) = false := by simp [hnat]
  simp only [sdSetAttr, hopen, hrw, Bool.not_true, Bool.false_eq_true, if_false, h0, hargs, apFromId, attrsAt, h2, setAttrsAt,
    sdiPut_eq_put (a := ⟨name, nt, count.toNat, val⟩) f.gattrs (by dsimp only; omega) (unmap_isSome_of_ntSize hsz hnat)]
  cases put .sd f.gattrs ⟨name, nt, count.toNat, val⟩ <;> rfl

open H4.AttrSD in
/-- what `SDsetattr` refuses outright, leaving the state as it was: a file opened read-only (SDend would drop the change
    silently) and a name that a Vdata name cannot hold (it would come back truncated) -/
theorem sd_setattr_refuses (f : File) (name : Bytes) (nt : Nat) (count : Int) (val : Bytes)
    (h : f.rdwr = false ∨ VSNAMELENMAX < name.length) :
    sdSetAttr f .file name nt count val = (f, .fail) := by
  unfold sdSetAttr
  refine ite_eq_left_iff.mpr fun _ => ite_eq_left_iff.mpr fun _ => ite_eq_left_iff.mpr fun _ =>
    ite_eq_left_iff.mpr fun hrw => ?_
  rcases h with h | h
  · rw [h] at hrw; exact absurd rfl hrw
  · exact if_pos h

open H4.AttrGR in
/-- **GR is the list machine**: for legal arguments (known type, count within the Vdata limits, a name that fits a field
    name, value of `count * size` bytes) `GRsetattr` on a writable file succeeds exactly when `put .gr` does, and what the
    API then shows is the result of `put .gr` — whether the value is cached or written straight to its Vdata, and
    whether or not the attribute had been written before. -/
theorem gr_put_refines (l : List GAttr) (name : Bytes) (nt : Nat) (count : Int) (val : Bytes)
    (hargs : argsOk nt count = true) (hname : name.length ≤ FIELDNAMELENMAX)
    (hval : val.length = count.toNat * (ntSize nt).getD 0) :
    (grPut l name nt count val).map views = put .gr (views l) ⟨name, nt, count.toNat, val⟩ := by
  unfold grPut
  rw [hargs, if_neg (by decide), if_neg (Nat.not_lt.mpr hname)]
  dsimp only
  have hdisk : ∀ old, (overwrite val old).take (count.toNat * (ntSize nt).getD 0) = val := fun old => hval ▸ take_overwrite val old
  cases hf : find name (views l) with
  | none =>
    rw [put_new hf]
    rw [show room Kind.gr (views l) = true from rfl, if_pos rfl]
    dsimp only
    split <;> refine congrArg some ((List.map_append ..).trans (congrArg (views l ++ [·]) ?_))
    · rfl
    · exact congrArg (Attr.mk name nt count.toNat) (hdisk none)
  | some i =>
    obtain ⟨b, hb, hbn⟩ := find_name hf
    obtain ⟨g, hg, rfl⟩ : ∃ g, l[i]? = some g ∧ g.view = b := by
      rw [views, List.getElem?_map] at hb
      exact Option.map_eq_some_iff.mp hb
    have hgd : l.getD i default = g := getD_of_getElem? hg
    have hvd : (views l).getD i default = g.view := getD_of_getElem? hb
    rw [put_found hf, hvd]
    dsimp only
    rw [hgd]
    obtain ⟨gname, gnt, glen, gdata, gdisk, gm, gn⟩ := g
    cases hbn
    by_cases hnt : nt = gnt
    · subst hnt
      simp only [bne_self_eq_false, Bool.false_eq_true, if_false, compatible, GAttr.view, beq_self_eq_true, if_true]
      split <;> refine congrArg some ((views_set ..).trans (congrArg ((views l).set i) ?_))
      · exact congrArg (Attr.mk gname nt count.toNat) (hdisk gdisk)
      · rfl
    · have h1 : (nt != gnt) = true := bne_iff_ne.mpr hnt
      have h2 : (gnt == nt) = false := beq_eq_false_iff_ne.mpr (Ne.symm hnt)
      simp only [h1, if_true, compatible, GAttr.view, h2, Bool.false_eq_true, if_false, Option.map_none]

open H4.AttrGR in
/-- an attribute set earlier in the session and only cached so far can be re-set above the caching threshold
    (before the repair of `GRsetattr` the call FAILed) -/
example : (grPut [⟨[97], 20, 10, some (List.replicate 10 0), none, true, true⟩] [97] 20 3000 (List.replicate 3000 0)).isSome = true := by
  decide +kernel

open H4.AttrGR in
/-- `GRsetattr` refuses a file opened read-only and a name that a Vdata field name cannot hold -/
theorem gr_setattr_refuses (f : File) (o : Option Nat) (name : Bytes) (nt : Nat) (count : Int) (val : Bytes)
    (h : f.writable = false ∨ FIELDNAMELENMAX < name.length) :
    grSetAttr f o name nt count val = (f, .fail) := by
  unfold grSetAttr
  refine ite_eq_left_iff.mpr fun _ => ?_
  split
  · rfl
  · refine ite_eq_left_iff.mpr fun hw => ?_
    rcases h with h | h
    · rw [h] at hw; exact absurd rfl hw
    · have : grPut ‹_› name nt count val = none := by
        unfold grPut
        exact ite_eq_left_iff.mpr fun _ => if_pos h
      rw [this]


open H4.AttrVS in
/-- **VS refines the list machine, field by field** (for every name): a successful `VSsetattr` on
    field `fx` is `put .vs`, on the attributes of that field, of the attribute as it is stored (name cut to
    VSNAMELENMAX — lookups compare names the same way, so a long name is found again and never duplicated), and the
    attributes of every other field (and of the Vdata itself) are untouched: the per-field namespaces are independent
    although the C keeps one list. -/
theorem vs_put_refines (al al' : List (Int × Attr)) (fx : Int) (a : Attr) (count : Int)
    (h : vsPut al fx a count = some al') :
    put .vs (view al fx) (stored a) = some (view al' fx) ∧ ∀ g, g ≠ fx → view al' g = view al g := by
  unfold vsPut at h
  cases hf : find (stored a).name (view al fx) with
  | some k =>
    rw [hf] at h
    simp only at h
    obtain ⟨b, hb, hbn⟩ := find_name hf
    have hgd : (view al fx).getD k default = b := getD_of_getElem? hb
    rw [hgd] at h
    split at h
    · rename_i hc
      cases hp : posOf al fx k with
      | none => simp [hp] at h
      | some p =>
        simp only [hp, Option.map_some, Option.some.injEq] at h
        subst h
        have hv := (posOf_go_spec fx (stored a) al k 0 p hp).2
        have hax : ({ a with name := b.name } : Attr) = stored a := by
          simp only [stored] at hbn ⊢
          rw [hbn]
        rw [hax]
        have hc' : compatible .vs b (stored a) = true := by simpa [compatible, stored] using hc
        refine ⟨?_, fun g hg => (hv g).trans (if_neg hg)⟩
        rw [put_found hf, hgd, hc']
        exact congrArg some ((hv fx).trans (if_pos rfl)).symm
    · cases h
  | none =>
    rw [hf] at h
    simp only at h
    split at h
    · cases h
      constructor
      · rw [put_new hf]; simp [room, view_append]
      · intro g hg; simp [view_append, hg]
    · cases h

open H4.AttrVS in
/-- a name of 65 characters is stored with 64, found again under the long name, and a second set REPLACES the value
    (before the repair it was never found again and every set added a duplicate) -/
example : (vgPut [] ⟨List.replicate 65 107, 20, 1, [1]⟩ 1).bind (fun l => (vgPut l ⟨List.replicate 65 107, 20, 1, [2]⟩ 1).map (·.map (fun x => (x.name.length, x.val))))
    = some [(64, [2])] := by decide +kernel


open H4.AttrSD in
/-- **sd_attrs_survive_reopen**: whatever the history that led to the in-memory state `f`, if `SDend` can write it
    (`save f = some d`), then after `SDstart` the file has the same number of variables in the same order, each with the
    same number type, kind, reference number and scale data; every dataset keeps its name (a coordinate variable follows
    the name of its dimension); and every attribute list whose entries are `Storable` — name ≤ VSNAMELENMAX, value of
    `count * size` bytes, which is all `SDsetattr` and the predefined setters ever store — comes back exactly
    (names, types, counts, values, indices), for every number type; likewise the file attributes. -/
theorem sd_attrs_survive_reopen (f : File) (d : Disk) (h : save f = some d) :
    (openF { f with disk := d } true).vars.length = f.vars.length ∧
    (∀ (i : Nat) (v : Var), f.vars[i]? = some v → ∃ v' : Var, (openF { f with disk := d } true).vars[i]? = some v' ∧
        (v.vtype ≠ IS_CRDVAR → v'.name = v.name) ∧ v'.hdftype = v.hdftype ∧ v'.vtype = v.vtype ∧ v'.ref = v.ref ∧
        v'.hasData = v.hasData ∧ v'.scale = v.scale ∧ ((∀ a ∈ v.attrs, Storable a = true) → v'.attrs = v.attrs)) ∧
    ((∀ a ∈ f.gattrs, Storable a = true) → (openF { f with disk := d } true).gattrs = f.gattrs) := by
  simp only [save, Option.bind_eq_bind] at h
  obtain ⟨vs, hm, hd⟩ := Option.bind_eq_some_iff.mp h
  simp only [Option.some.injEq] at hd
  subst hd
  obtain ⟨hlen, hpt⟩ := mapM_option_spec _ _ _ hm
  refine ⟨hlen.trans (List.length_map ..), ?_, ?_⟩
  · intro i v hv
    -- the variable as `hdf_write_dim` may have renamed it
    obtain ⟨w, hw, hwv⟩ : ∃ w : Var, (renameCoordVars f.slots (f.slots.map fun o => f.objs.getD o default)
        (saveDims (f.slots.map fun o => f.objs.getD o default)).2 f.vars)[i]? = some w ∧
        (v.vtype ≠ IS_CRDVAR → w.name = v.name) ∧ w.hdftype = v.hdftype ∧ w.vtype = v.vtype ∧ w.ref = v.ref ∧
        w.hasData = v.hasData ∧ w.scale = v.scale ∧ w.attrs = v.attrs ∧ w.dims = v.dims := by
      simp only [renameCoordVars, List.getElem?_map, hv, Option.map_some]
      refine ⟨_, rfl, ?_⟩
      split
      · split
        · rename_i hc
          simp only [Bool.and_eq_true, beq_iff_eq] at hc
          refine ⟨fun hne => absurd hc.1.1.1 hne, rfl, rfl, rfl, rfl, rfl, rfl, rfl⟩
        · exact ⟨fun _ => rfl, rfl, rfl, rfl, rfl, rfl, rfl, rfl⟩
      · exact ⟨fun _ => rfl, rfl, rfl, rfl, rfl, rfl, rfl, rfl⟩
    obtain ⟨v', hv', hsv⟩ := hpt i w hw
    refine ⟨v', hv', ?_⟩
    simp only [saveVar, Option.bind_eq_bind] at hsv
    obtain ⟨ds, _, hds⟩ := Option.bind_eq_some_iff.mp hsv
    simp only [Option.some.injEq] at hds
    subst hds
    obtain ⟨h1, h2, h3, h4, h5, h6, h7, _⟩ := hwv
    refine ⟨h1, h2, h3, h4, h5, h6, ?_⟩
    intro hst
    simp only [h7]
    exact decode_encode_attrs v.attrs hst
  · exact decode_encode_attrs f.gattrs

def fdName (n : Nat) : Bytes := nFakeDim ++ AttrSD.dec n

/-- two rank-2 datasets whose first dimensions are shared under the name "x", and a coordinate variable with one
    attribute on the unnamed second dimension of the second dataset ("fakeDim3") -/
def orphanWitness : AttrSD.File :=
  { isOpen := true, rdwr := true, dirty := true, slots := [0, 1, 0, 3]
    objs := [⟨[120], 2⟩, ⟨fdName 1, 3⟩, ⟨fdName 2, 2⟩, ⟨fdName 3, 3⟩]
    vars := [⟨[118, 48], 20, [0, 1], [], IS_SDSVAR, 2, false, []⟩, ⟨[118, 49], 20, [2, 3], [], IS_SDSVAR, 3, false, []⟩,
             ⟨fdName 3, 5, [3], [⟨nLongName, DFNT_CHAR, 1, [108]⟩], IS_CRDVAR, 4, false, []⟩] }

/-- after save/load that dimension is called "fakeDim2" — and so is its coordinate variable, which keeps its attribute
    (before the repair the variable stayed "fakeDim3" and the dimension lost its metadata) -/
example : (AttrSD.save orphanWitness).map (fun d => (d.dims.map (·.name), d.vars.map (·.dims), d.vars.map (·.name), d.vars.map (·.attrs.length)))
    = some ([[120], fdName 1, fdName 2], [[0, 1], [0, 2], [2]], [[118, 48], [118, 49], fdName 2], [0, 0, 1]) := by
  decide +kernel

/-- a user's dimension name that merely starts with "fakeDim" is not renumbered -/
example : (AttrSD.saveDims [⟨nFakeDim ++ [101, 110], 2⟩, ⟨fdName 7, 3⟩]).1.map (·.name) = [nFakeDim ++ [101, 110], fdName 1] := by
  decide +kernel

open H4.AttrGR in
/-- **gr_attr_survives_reopen_partial**: an attribute as the API shows it before `GRend` is what `GRstart` shows after reopen,
    provided its name fits a field name (FIELDNAMELENMAX), its value has `len * size` bytes (size > 0), and its Vdata on
    disk is not LONGER than the new value, i.e. it was not re-set with fewer values after it had been written (known
    finding `gr-attr-shrink-not-persisted`).  The two states a GR attribute can be in during a session:
    cached and modified (`data = some`, written by GRend) or only on disk (`data = none`). -/
theorem gr_attr_survives_reopen_partial (g : GAttr) (sz : Nat)
    (hname : g.name.length ≤ FIELDNAMELENMAX) (hsz : ntSize g.nt = some sz) (hpos : 0 < sz)
    (hstate : (g.dataMod = true ∧ ∃ dat, g.data = some dat ∧ dat.length = g.len * sz ∧ ∀ d, g.disk = some d → d.length ≤ dat.length) ∨
              (g.dataMod = false ∧ g.data = none ∧ ∃ d, g.disk = some d ∧ d.length = g.len * sz)) :
    (loadAttr ((flush [g]).getD 0 default)).view = g.view := by
  simp only [flush, List.map_cons, List.map_nil, List.getD_cons_zero]
  have htake : g.name.take FIELDNAMELENMAX = g.name := List.take_of_length_le hname
  rcases hstate with ⟨hm, dat, hdat, hlen, hns⟩ | ⟨hm, hnone, d, hd, hlen⟩
  · have hov : overwrite dat g.disk = dat := by
      cases hd : g.disk with
      | none => rfl
      | some d => simp [overwrite, List.drop_eq_nil_of_le (hns d hd)]
    have hdiv : dat.length / sz = g.len := by rw [hlen]; exact Nat.mul_div_cancel _ hpos
    simp only [hm, if_true, hdat, Option.getD_some, hov, loadAttr, hsz, GAttr.view, htake, hdiv]
    congr 1
    rw [← hlen]; simp
  · have hdiv : d.length / sz = g.len := by rw [hlen]; exact Nat.mul_div_cancel _ hpos
    simp only [hm, Bool.false_eq_true, if_false, loadAttr, hd, Option.getD_some, hsz, GAttr.view, htake, hnone, hdiv]

open H4.AttrGR in
/-- witness of the excluded case: an int32 attribute of 4 values on disk, re-set to 2 values, comes back with 4 -/
example :
    let g : GAttr := ⟨[97], 24, 2, some [9, 0, 0, 0, 8, 0, 0, 0], some [1, 0, 0, 0, 2, 0, 0, 0, 3, 0, 0, 0, 4, 0, 0, 0], true, false⟩
    (loadAttr ((flush [g]).getD 0 default)).view = ⟨[97], 24, 4, [9, 0, 0, 0, 8, 0, 0, 0, 3, 0, 0, 0, 4, 0, 0, 0]⟩ := by
  decide +kernel

section dirty
open H4.AttrSD

/-- the calls of the SD interface that change attributes or descriptive metadata -/
inductive SdSetter
  | create (name : Bytes) (nt : Nat) (sizes : List Nat)
  | attr (o : Obj) (name : Bytes) (nt : Nat) (count : Int) (val : Bytes)
  | dataStrs (i : Nat) (l u fm c : Option Bytes)
  | cal (i : Nat) (cal cale ioff ioffe nt : Bytes)
  | range (i : Nat) (pmax pmin : Bytes)
  | fill (i : Nat) (val : Bytes)
  | dimName (slot : Nat) (name : Bytes)
  | dimStrs (slot : Nat) (l u fm : Option Bytes)
  | dimScale (slot count nt : Nat) (buf : Bytes)

def SdSetter.run (f : AttrSD.File) : SdSetter → AttrSD.File × AttrSD.Out
  | .create n nt sz => sdCreate f n nt sz
  | .attr o n nt c v => sdSetAttr f o n nt c v
  | .dataStrs i l u fm c => sdSetDataStrs f i l u fm c
  | .cal i a b c d e => sdSetCal f i a b c d e
  | .range i mx mn => sdSetRange f i mx mn
  | .fill i v => sdSetFill f i v
  | .dimName s n => sdSetDimName f s n
  | .dimStrs s l u fm => sdSetDimStrs f s l u fm
  | .dimScale s c nt b => sdSetDimScale f s c nt b

/-- `SDsetdatastrs(id, NULL, NULL, NULL, NULL)` asks for nothing -/
def SdSetter.asksNothing : SdSetter → Bool
  | .dataStrs _ none none none none => true
  | _ => false

/-- **sd_setter_marks_header_modified**: every call of the SD interface that sets an attribute or a piece of descriptive
    metadata (`SDcreate`, `SDsetattr` on a file / dataset / dimension, `SDsetdatastrs`, `SDsetcal`, `SDsetrange`,
    `SDsetfillvalue`, `SDsetdimname`, `SDsetdimstrs`, `SDsetdimscale`), on ANY state and with ANY arguments, when it does not
    FAIL leaves the file open, writable and with NC_HDIRTY set - by itself, whatever else the session does or does not do.
    (`SDsetdatastrs` with four NULL pointers asks for nothing and is the one exception.) -/
theorem sd_setter_marks_header_modified (f : AttrSD.File) (s : SdSetter) (hn : s.asksNothing = false)
    (h : (s.run f).2 ≠ .fail) : Written (s.run f).1 := by
  refine (?_ : Marks (s.run f)) h
  cases s with
  | create n nt sz => exact create_marks f n nt sz
  | attr o n nt c v => exact setattr_marks f o n nt c v
  | dataStrs i l u fm c =>
    refine datastrs_marks f i l u fm c ?_
    cases l <;> cases u <;> cases fm <;> cases c <;> first | rfl | cases hn
  | cal i a b c d e => exact cal_marks f i a b c d e
  | range i mx mn => exact range_marks f i mx mn
  | fill i v => exact fill_marks f i v
  | dimName s n => exact dimname_marks f s n
  | dimStrs s l u fm => exact dimstrs_marks f s l u fm
  | dimScale s c nt b => exact dimscale_marks f s c nt b

/-- ... and ONLY such a state: without the mark the file stays as it was, whatever the session holds in memory.
    This is why the previous theorem is needed for "everything survives close and reopen". -/
theorem close_unmarked (f : AttrSD.File) (ho : f.isOpen = true) (hd : f.dirty = false) :
    close f = ({ disk := f.disk }, .ok) := by
  simp [close, ho, hd]

/-- **sd_single_setter_survives_reopen**: a session may consist of ONE successful setter call and `SDend`; the next
    `SDstart` then shows the state the session had after that call, in the sense of `sd_attrs_survive_reopen`: same
    variables in the same order with their number types (for a coordinate variable: the type of the dimension scale),
    kinds, references, scale data, and every storable attribute list. -/
theorem sd_single_setter_survives_reopen (f : AttrSD.File) (s : SdSetter) (hn : s.asksNothing = false)
    (h : (s.run f).2 ≠ .fail) (d : Disk) (hs : save (s.run f).1 = some d) :
    (close (s.run f).1).2 = .ok ∧
    (openF (close (s.run f).1).1 true).vars.length = (s.run f).1.vars.length ∧
    (∀ (i : Nat) (v : Var), (s.run f).1.vars[i]? = some v → ∃ v' : Var, (openF (close (s.run f).1).1 true).vars[i]? = some v' ∧
        (v.vtype ≠ IS_CRDVAR → v'.name = v.name) ∧ v'.hdftype = v.hdftype ∧ v'.vtype = v.vtype ∧ v'.ref = v.ref ∧
        v'.hasData = v.hasData ∧ v'.scale = v.scale ∧ ((∀ a ∈ v.attrs, Storable a = true) → v'.attrs = v.attrs)) ∧
    ((∀ a ∈ (s.run f).1.gattrs, Storable a = true) → (openF (close (s.run f).1).1 true).gattrs = (s.run f).1.gattrs) := by
  have hc := close_written _ d (sd_setter_marks_header_modified f s hn h) hs
  have ho : openF (close (s.run f).1).1 true = openF { (s.run f).1 with disk := d } true := by
    rw [hc]; simp [openF]
  rw [ho, hc]
  exact ⟨rfl, sd_attrs_survive_reopen (s.run f).1 d hs⟩

/-- a file as a first session left it: dataset "v" (int16, 2 values) on dimension "x", whose scale is {1, 2} as int16 -/
def scaleWitness : AttrSD.File :=
  let d : Disk := { dims := [⟨[120], 2⟩]
                    vars := [⟨[118], 22, [0], [], IS_SDSVAR, 2, false, []⟩, ⟨[120], 22, [0], [], IS_CRDVAR, 3, true, [0, 1, 0, 2]⟩] }
  openF { disk := d } true

/-- the only call of the second session: the scale is re-set as uint16 {40000, 60000} (same element size) -/
def scaleRetype : SdSetter := .dimScale 0 2 23 [0x9c, 0x40, 0xea, 0x60]

example : scaleRetype.asksNothing = false ∧ (scaleRetype.run scaleWitness).2 ≠ .fail ∧
    (save (scaleRetype.run scaleWitness).1).isSome = true := by decide +kernel

/-- after `SDend` and `SDstart` the scale has the new type and the new values ... -/
example : ((openF (close (scaleRetype.run scaleWitness).1).1 false).vars.map fun v => (v.hdftype, v.scale))
    = [(22, []), (23, [0x9c, 0x40, 0xea, 0x60])] := by decide +kernel

/-- ... whereas the same session WITHOUT the mark on the header would leave the old type on disk (in the C the new bytes
    are in the data element already: 40000 would be read back as int16 -25536) -/
example : ((openF (close { (scaleRetype.run scaleWitness).1 with dirty := false }).1 false).vars.map (·.hdftype)) = [22, 22] := by
  decide +kernel

end dirty
end H4.Props.C10
