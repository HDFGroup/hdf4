import H4.Lemmas.SkpHuff
import H4.SkpHuffIO
import H4.Props.C05Bits
/-! # C05 — the skipping-Huffman coder (`cskphuff.c`) round-trips every byte stream (property theorems) -/
namespace H4.Props.C05
open H4.SkpHuff

set_option linter.unusedVariables false in
/-- skipping Huffman: for every `skip_size ≥ 1` and every byte string `bs`, the bits written by
    `HCIcskphuff_encode` on a fresh element, followed by any padding (the zero bits `Hendbitaccess`
    flushes, or anything else), decode through `HCIcskphuff_decode` to exactly `bs` when `|bs|` bytes
    are read back.  (`hs` is the C precondition `skip_size ≥ 1` — `% skip_size`; the model is total and
    the proof does not need it.) -/
theorem skphuff_bits_roundtrip (skip : Nat) (hs : 1 ≤ skip) (bs : List UInt8) (pad : List Bool) :
    decodeBits skip (encodeBits skip bs ++ pad) bs.length = some bs :=
  decRun_encRun skip bs _ 0 pad (initTrees_WF skip)

/-- the `Hbitwrite(count, data)` calls made by the 32-bit word stack of `HCIcskphuff_encode` put exactly
    the bit stream `encodeBits` on the element -/
theorem skphuff_fields_bits (skip : Nat) (bs : List UInt8) :
    H4.Bits.fieldsBits (encodeFields skip bs) = encodeBits skip bs :=
  fieldsBits_encRunF skip bs _ _

/-- the per-symbol facts behind the round trip: splaying preserves well-formedness, and on a well-formed
    tree the decoder walk inverts the encoder climb -/
theorem skphuff_symbol (t : Tree) (h : WF t) (s : Nat) (hs : s < 256) (rest : List Bool) :
    decSym t (encSym t s ++ rest) = some (s, rest) ∧ WF (splay t s) :=
  ⟨decSym_encSym t h s hs rest, splay_WF t s h hs⟩

/-- non-vacuity: the theorem instantiated on a concrete stream -/
example : decodeBits 3 (encodeBits 3 [1, 2, 3, 1, 2, 3, 200, 255, 0, 1, 2, 3] ++ [false, false, false])
    12 = some [1, 2, 3, 1, 2, 3, 200, 255, 0, 1, 2, 3] :=
  skphuff_bits_roundtrip 3 (by decide) [1, 2, 3, 1, 2, 3, 200, 255, 0, 1, 2, 3] [false, false, false]

example : H4.Bits.fieldsBits (encodeFields 2 [7, 7, 7, 9]) = encodeBits 2 [7, 7, 7, 9] :=
  skphuff_fields_bits 2 [7, 7, 7, 9]

/-- the `Hbitwrite(count, data)` calls of the anchor run below, evaluated on maps (`runFM`, `encodeFields_eq`) -/
theorem anchor_fields : encodeFields 2 [18, 18, 18, 3, 6, 15, 0, 3] =
    [(9, 274), (9, 274), (5, 30), (8, 195), (8, 198), (7, 39), (6, 16), (4, 6)] := by
  rw [encodeFields_eq]; decide +kernel

/-- anchor to the real coder: the DFTAG_COMPRESSED bytes the library (`HCcreate` with COMP_CODE_SKPHUFF,
    `skp_size = 2`, `Hwrite` of these 8 bytes, `Hendaccess`) stores are the zero-padded model stream,
    and the decoder model reads them back -/
example : H4.Bits.packZero (encodeBits 2 [18, 18, 18, 3, 6, 15, 0, 3]) = [137, 68, 189, 135, 140, 157, 6] := by
  rw [← skphuff_fields_bits, anchor_fields]; decide +kernel

example : decodeBits 2 (H4.Bits.bytesBits [137, 68, 189, 135, 140, 157, 6]) 8 =
    some [18, 18, 18, 3, 6, 15, 0, 3] := by
  have e : H4.Bits.bytesBits [137, 68, 189, 135, 140, 157, 6] = encodeBits 2 [18, 18, 18, 3, 6, 15, 0, 3] ++ [] := by
    rw [← skphuff_fields_bits, anchor_fields]; decide +kernel
  rw [e]; exact skphuff_bits_roundtrip 2 (by decide) _ []

example : encodeFields 1 [3, 3, 3, 200] = [(9, 259), (5, 30), (3, 4), (12, 2376)] := by
  rw [encodeFields_eq]; decide +kernel

/-- `skphuff_roundtrip`: `compress skip bs` = the bytes `HCIcskphuff_encode`'s `Hbitwrite` calls leave in the element after
    `Hendbitaccess(aid, 0)` (model `H4.BitIO.pack`); `decompress skip raw n` = `HCIcskphuff_decode` on the bit stream of the
    raw bytes (each `Hbitread(aid, 1, ·)` delivers the next bit of `bytesBits raw`: `bitread_refines`).
    For every skip size ≥ 1 and EVERY byte stream, the bytes stored through the real bit layer
    (buffering, block flushes, final-byte padding included) decode to exactly the bytes written. -/
theorem skphuff_roundtrip (skip : Nat) (hs : 1 ≤ skip) (bs : List UInt8) :
    decompress skip (compress skip bs) bs.length = some bs := by
  unfold decompress compress
  obtain ⟨⟨k, _, ht⟩, _⟩ := bitwrite_refines (encodeFields skip bs) (encRunF_valid skip bs _ _) false
  rw [ht, skphuff_fields_bits]
  exact skphuff_bits_roundtrip skip hs bs (List.replicate k false)

example : decompress 2 (compress 2 [18, 18, 18, 3, 6, 15, 0, 3]) 8 = some [18, 18, 18, 3, 6, 15, 0, 3] :=
  skphuff_roundtrip 2 (by decide) _

/-- the model's compressed bytes for the anchor input are the bytes the real library stores -/
example : compress 2 [18, 18, 18, 3, 6, 15, 0, 3] = [137, 68, 189, 135, 140, 157, 6] := by
  rw [compress, anchor_fields]; decide +kernel

/-! ## codes longer than one / two words of the encoder's bit stack (33 .. 256 bits)

    `HCIcskphuff_encode` collects the bits of one code leaf-to-ROOT in 32-bit words (`output_bits[0]` = the 32 bits nearest the
    leaf) and pops them top word first.  The model's stack is a list, so nothing in it depends on the number of words; the
    statements below are for every tree and every code length. -/

/-- for EVERY tree and symbol (any depth: 1, 2, 3, ... 8 stack words): the `Hbitwrite(count, data)` calls of one code are at most
    one partly filled word (the top of the stack) followed by full 32-bit words only; written in that order they are exactly the
    ROOT-to-leaf path `encSym`; their counts add up to the path length; and a code of `n` bits takes `⌈n/32⌉` calls. -/
theorem skphuff_code_any_length (t : Tree) (s : Nat) :
    (∃ top full : List (Nat × Nat), encFields t s = top ++ full ∧ top.length ≤ 1 ∧
        (∀ f ∈ top, 1 ≤ f.1 ∧ f.1 < 32) ∧ (∀ f ∈ full, f.1 = 32)) ∧
    H4.Bits.fieldsBits (encFields t s) = encSym t s ∧
    codeBits t s = (encSym t s).length ∧
    codeWords t s = (codeBits t s + 31) / 32 :=
  ⟨encFields_shape t s, fieldsBits_encFields t s, codeBits_eq t s, codeWords_eq t s⟩

/-- a well-formed tree of (nearly) the greatest possible depth, to instantiate the statements in the deep region: a caterpillar
    `0 → 1 → 2 → ... → 255`; inner node `j` (1..254) carries the leaf of symbol `j-1` and inner node `j+1`, the leaf on the left
    unless `3 ∣ j`; node 255 carries the leaves of 254 and 255.  The code of symbol `s ≤ 253` has `s + 2` bits. -/
def deepTree : Tree where
  left := ((List.range 256).map fun j =>
    if j = 0 then 0 else if j = 255 then 510 else if j % 3 = 0 then j + 1 else 255 + j).toArray
  right := ((List.range 256).map fun j =>
    if j = 0 then 1 else if j = 255 then 511 else if j % 3 = 0 then 255 + j else j + 1).toArray
  up := ((List.range 513).map fun x =>
    if x = 0 then 0 else if x < 256 then x - 1 else if x = 512 then 0 else if x = 511 then 255 else x - 255).toArray

theorem deepTree_maps : deepTree.maps =
    ⟨fun j => if j < 256 then (if j = 0 then 0 else if j = 255 then 510 else if j % 3 = 0 then j + 1 else 255 + j) else 0,
     fun j => if j < 256 then (if j = 0 then 1 else if j = 255 then 511 else if j % 3 = 0 then 255 + j else j + 1) else 0,
     fun x => if x < 513 then
       (if x = 0 then 0 else if x < 256 then x - 1 else if x = 512 then 0 else if x = 511 then 255 else x - 255) else 0⟩ :=
  congr (congr (congrArg Maps.mk (funext fun j => rd_ofFn 256 _ j)) (funext fun j => rd_ofFn 256 _ j)) (funext fun x => rd_ofFn 513 _ x)

theorem deepTree_WF : WF deepTree := by
  refine WF.of_maps (by simp [deepTree]) (by simp [deepTree]) (by simp [deepTree]) ?_
  rw [deepTree_maps]
  refine ⟨?_, ?_, ?_, ?_, ?_, ?_, ?_, id, ?_⟩ <;> intro x hx <;> grind

/-- a 72-bit code (3 stack words) on `deepTree`: the calls are `Hbitwrite(8, word 2)`, `Hbitwrite(32, word 1)`,
    `Hbitwrite(32, word 0)` - the partly filled TOP word first, then the full words in DESCENDING stack order (word 0 = the 32 bits
    nearest the leaf: `...DA` = leaf 70 is a left child, its parent 71 a right child, 70 a left child, ...) -/
example : encFields deepTree 70 = [(8, 0xED), (32, 0xB6DB6DB6), (32, 0xDB6DB6DA)] := by
  rw [fields_maps, deepTree_maps]; decide +kernel

example : codeBits deepTree 70 = 72 ∧ codeWords deepTree 70 = 3 := by
  rw [codeBits, codeWords, fields_maps, deepTree_maps]; decide +kernel

/-- the longest codes of `deepTree`: 255 bits = 31 + 7·32 (8 words) and 256 bits = 8 full words, the top word empty -/
example : (encFields deepTree 253).map (·.1) = [31, 32, 32, 32, 32, 32, 32, 32] ∧
    (encFields deepTree 255).map (·.1) = [32, 32, 32, 32, 32, 32, 32, 32] := by
  rw [fields_maps, fields_maps, deepTree_maps]; decide +kernel

/-- the round-trip facts instantiated on codes of 72, 255 and 256 bits (hypotheses satisfied by `deepTree_WF`) -/
example (rest : List Bool) : decSym deepTree (H4.Bits.fieldsBits (encFields deepTree 70) ++ rest) = some (70, rest) := by
  rw [(skphuff_code_any_length deepTree 70).2.1]
  exact (skphuff_symbol deepTree deepTree_WF 70 (by decide) rest).1

example (rest : List Bool) : decSym deepTree (encSym deepTree 253 ++ rest) = some (253, rest) ∧
    decSym deepTree (encSym deepTree 255 ++ rest) = some (255, rest) :=
  ⟨(skphuff_symbol deepTree deepTree_WF 253 (by decide) rest).1, (skphuff_symbol deepTree deepTree_WF 255 (by decide) rest).1⟩

end H4.Props.C05
