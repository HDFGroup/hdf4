import H4.Lemmas.C03Fn
/-! C03, function-level Tie A: `NCvcmaxcontig` of `mfhdf/src/putget.c` as translated statement by statement from the CURRENT C text
    (`H4.Gen.Fn.Putget`, written by gen/c2lean.py on every run: pointer cursors `shp/edp/orp/boundary` are indices, `unsigned long`
    arithmetic is `% 2^64`) computes the hand-written model: `Slab.maxContig` (its own control flow), and for an in-range request on a
    fixed-size variable exactly the index `Slab.cut` at which `Slab.runs` - the model all C03 theorems are about - stops enumerating and
    issues one contiguous request.  The translated code never indexes outside `shape/origin/edges` (`ub = false`) and its loop
    terminates (`oof = false` with fuel = rank).  A change of the C text changes the generated definitions; these theorems are
    re-checked against them. -/
namespace H4.Props.C03Fn
open H4.Slab H4.C2L H4.Gen.Fn.Putget H4.Lemmas.C03Fn

/-- `boundary` of `NCvcmaxcontig`: 1 for a record variable (`IS_RECVAR`: `shape[0] = 0`), 0 for a fixed-size variable -/
def boundaryOf (shape : List Nat) : Nat := if shape.getD 0 0 = 0 then 1 else 0

/-- **General refinement.**  For every rank ≥ 1 and every `shape/origin/edges` of that rank with values below 2^63 whose start
    coordinates are inside the scanned extents (what `NCcoordck` established before the call), the translated `NCvcmaxcontig`
    returns what the model `Slab.maxContig` returns (`none` = NULL), with no undefined behaviour and a terminating loop. -/
theorem NCvcmaxcontig_refines (shape origin edges : List Nat) (recsize len fuel : Nat) (hne : shape ≠ [])
    (hl2 : origin.length = shape.length) (hl3 : edges.length = shape.length) (hS : Small shape) (hE : Small edges)
    (hO : ∀ j, boundaryOf shape ≤ j → j < shape.length → origin.getD j 0 ≤ shape.getD j 0) (hf : shape.length ≤ fuel) :
    let s := NCvcmaxcontig fuel recsize false (ints shape) shape.length len (ints origin) (ints edges)
    s.ub = false ∧ s.oof = false ∧ s.done = true ∧
    match maxContig recsize len shape origin edges with
    | none => s.retnull = true
    | some k => s.retnull = false ∧ s.ret = (k : Int) := by
  intro s
  have hpos : 0 < shape.length := List.length_pos_iff.mpr hne
  obtain ⟨a, b, c⟩ := entry_safe_nat shape origin edges recsize len fuel hpos hl2 hl3 hf
  refine ⟨a, b, c, ?_⟩
  rw [maxContig_eq recsize len shape origin edges hne]
  by_cases he : shape.getD 0 0 = 0 ∧ shape.length = 1 ∧ recsize ≤ len
  · rw [if_pos he]; exact (entry_early shape origin edges recsize len fuel he.2.1 he.1 he.2.2).2.2.2
  · rw [if_neg he]; exact (entry_spec shape origin edges recsize len fuel hpos hl2 hl3 hS hE he hO hf).2

/-- the hypotheses are satisfiable and the translated code runs: 4x5x6 variable, start (1,0,0), edges (2,3,6): answer index 1 -/
example : Small [4, 5, 6] ∧ Small [2, 3, 6] ∧
    (let s := NCvcmaxcontig 3 0 false (ints [4, 5, 6]) 3 0 (ints [1, 0, 0]) (ints [2, 3, 6])
     s.ub = false ∧ s.oof = false ∧ s.retnull = false ∧ s.ret = 1 ∧ maxContig 0 0 [4, 5, 6] [1, 0, 0] [2, 3, 6] = some 1) := by decide +kernel

/-- **(a) fixed-size variable, in-range request.**  The translated `NCvcmaxcontig` returns (no NULL, no undefined behaviour, loop
    terminates) the index `Slab.cut shape start edges`: the place where the model's `runs` stops enumerating. -/
theorem NCvcmaxcontig_fixed_inrange (shape start edges : List Nat) (recsize len fuel : Nat) (hne : shape ≠ [])
    (h0 : shape.getD 0 0 ≠ 0) (hr : inRange shape start edges) (hS : Small shape) (hf : shape.length ≤ fuel) :
    let s := NCvcmaxcontig fuel recsize false (ints shape) shape.length len (ints start) (ints edges)
    s.ub = false ∧ s.oof = false ∧ s.retnull = false ∧ s.ret = (cut shape start edges : Nat) := by
  intro s
  obtain ⟨hl2, hl3⟩ := inRange_length shape start edges hr
  have hE := small_of_inRange shape start edges hr hS
  have hO : ∀ j, boundaryOf shape ≤ j → j < shape.length → start.getD j 0 ≤ shape.getD j 0 := by
    intro j _ hj
    have := inRange_getD shape start edges hr j hj
    omega
  have key := NCvcmaxcontig_refines shape start edges recsize len fuel hne hl2 hl3 hS hE hO hf
  have hsc : maxContig recsize len shape start edges = some (cut shape start edges) := by
    rw [maxContig_eq _ _ _ _ _ hne, if_neg (fun h => h0 h.1), if_neg h0]
    exact scan_eq_cut shape start edges hr shape.length (Nat.le_refl _) (by simp [full])
  simp only [hsc] at key
  exact ⟨key.1, key.2.1, key.2.2.2.1, key.2.2.2.2⟩

/-- **(a, characterisation) what `Slab.cut` is.**  For an in-range request `k = cut shape start edges` is the largest index whose edge is
    shorter than the extent, else 0: every later dimension is taken whole (`edges[j] = shape[j]`, `start[j] = 0`) - in the model's words
    `full` holds from `k+1` on - and unless `k = 0` dimension `k` itself is not (`edges[k] < shape[k]`, `full` fails from `k` on). -/
theorem cut_char (shape start edges : List Nat) (hne : shape ≠ []) (hr : inRange shape start edges) :
    let k := cut shape start edges
    k < shape.length ∧
    (∀ j, k < j → j < shape.length → edges.getD j 0 = shape.getD j 0 ∧ start.getD j 0 = 0) ∧
    (k = 0 ∨ edges.getD k 0 < shape.getD k 0) ∧
    full (shape.drop (k + 1)) (start.drop (k + 1)) (edges.drop (k + 1)) = true ∧
    (0 < k → full (shape.drop k) (start.drop k) (edges.drop k) = false) := by
  intro k
  have hk : k < shape.length := cut_lt shape start edges hr hne
  obtain ⟨f1, f2⟩ := cut_full shape start edges hr
  refine ⟨hk, ?_, ?_, f1, f2⟩
  · intro j hj1 hj2
    exact (full_drop_getD shape start edges hr (k + 1) f1 j hj1 hj2).symm
  · by_cases hk0 : k = 0
    · exact Or.inl hk0
    · right
      have hnf := f2 (by omega)
      rw [full_drop_step shape start edges hr k hk] at hnf
      have f1' : full (shape.drop (k + 1)) (start.drop (k + 1)) (edges.drop (k + 1)) = true := f1
      rw [f1'] at hnf
      have hin := inRange_getD shape start edges hr k hk
      simp only [Bool.and_true, Bool.and_eq_false_iff, beq_eq_false_iff_ne, ne_eq] at hnf
      omega

/-- **(a, tie to the model's decision.)**  `NCvario` driven by the pointer the translated `NCvcmaxcontig` returns (`Slab.runsAt`:
    ripple counter over the dimensions before it, one request of `edges[k]*edges[k+1]*…` elements at `NC_varoffset` of each coordinate)
    issues exactly the requests of `Slab.runs` - the model of `vario_runs` and of every C03 theorem that follows from it. -/
theorem NCvcmaxcontig_is_runs_decision (shape start edges : List Nat) (recsize len fuel base : Nat) (hne : shape ≠ [])
    (h0 : shape.getD 0 0 ≠ 0) (hr : inRange shape start edges) (hS : Small shape) (hf : shape.length ≤ fuel) :
    let s := NCvcmaxcontig fuel recsize false (ints shape) shape.length len (ints start) (ints edges)
    s.ub = false ∧ s.oof = false ∧ s.retnull = false ∧
    runs shape start edges base = runsAt s.ret.toNat shape start edges base := by
  intro s
  obtain ⟨a, b, c, d⟩ := NCvcmaxcontig_fixed_inrange shape start edges recsize len fuel hne h0 hr hS hf
  refine ⟨a, b, c, ?_⟩
  rw [show s.ret = _ from d, Int.toNat_natCast]
  exact runs_eq_runsAt_cut shape start edges hr base

/-- the hypotheses are satisfiable and the translated code runs: 4x5x6, start (1,2,0), edges (2,3,6) -> index 1, two requests of 18 -/
example : inRange [4, 5, 6] [1, 2, 0] [2, 3, 6] ∧ Small [4, 5, 6] ∧
    (let s := NCvcmaxcontig 3 7 false (ints [4, 5, 6]) 3 9 (ints [1, 2, 0]) (ints [2, 3, 6])
     s.ub = false ∧ s.oof = false ∧ s.retnull = false ∧ s.ret = 1 ∧ cut [4, 5, 6] [1, 2, 0] [2, 3, 6] = 1 ∧
     runsAt s.ret.toNat [4, 5, 6] [1, 2, 0] [2, 3, 6] 0 = [(42, 18), (72, 18)] ∧
     runs [4, 5, 6] [1, 2, 0] [2, 3, 6] 0 = [(42, 18), (72, 18)]) := by decide +kernel

/-- **(b) refusal.**  An edge that does not fit between the start coordinate and the extent (`edges[j] > shape[j] - origin[j]`) at an
    index the scan reaches (`j ≥ boundary`, every later dimension in range and taken whole, so that no `break` happens before) makes the
    translated `NCvcmaxcontig` return NULL - for fixed-size and for record variables - without undefined behaviour. -/
theorem NCvcmaxcontig_refuses (shape origin edges : List Nat) (recsize len fuel j : Nat) (hne : shape ≠ [])
    (hl2 : origin.length = shape.length) (hl3 : edges.length = shape.length) (hS : Small shape) (hE : Small edges)
    (hO : ∀ i, boundaryOf shape ≤ i → i < shape.length → origin.getD i 0 ≤ shape.getD i 0)
    (hnotearly : ¬ (shape.getD 0 0 = 0 ∧ shape.length = 1 ∧ recsize ≤ len))
    (hj1 : boundaryOf shape ≤ j) (hj2 : j < shape.length)
    (hsuf : ∀ i, j < i → i < shape.length → origin.getD i 0 + edges.getD i 0 ≤ shape.getD i 0 ∧ shape.getD i 0 ≤ edges.getD i 0)
    (hbad : shape.getD j 0 - origin.getD j 0 < edges.getD j 0) (hf : shape.length ≤ fuel) :
    let s := NCvcmaxcontig fuel recsize false (ints shape) shape.length len (ints origin) (ints edges)
    s.ub = false ∧ s.oof = false ∧ s.retnull = true := by
  intro s
  have key := NCvcmaxcontig_refines shape origin edges recsize len fuel hne hl2 hl3 hS hE hO hf
  have hsc : maxContig recsize len shape origin edges = none := by
    rw [maxContig_eq _ _ _ _ _ hne, if_neg hnotearly]
    exact scan_none shape origin edges _ j hj1 hsuf hbad shape.length hj2 (Nat.le_refl _)
  simp only [hsc] at key
  exact ⟨key.1, key.2.1, key.2.2.2⟩

/-- the hypotheses are satisfiable and the translated code runs: 4x5x6, start (0,3,0), edges (4,3,6): 3 > 5 - 3 in dimension 1 -/
example : Small [4, 5, 6] ∧ Small [4, 3, 6] ∧ boundaryOf [4, 5, 6] = 0 ∧
    (let s := NCvcmaxcontig 3 0 false (ints [4, 5, 6]) 3 0 (ints [0, 3, 0]) (ints [4, 3, 6])
     s.ub = false ∧ s.oof = false ∧ s.retnull = true) := by decide +kernel

/-- **(c) record variable, general branch.**  `shape[0] = 0` (and not the one-dimensional only record variable): `boundary = shape + 1`,
    dimension 0 is never scanned, the answer is the model's scan down to index 1 (`edges + 1` when every fixed dimension is taken whole;
    one past the end for a one-dimensional variable). -/
theorem NCvcmaxcontig_record (shape origin edges : List Nat) (recsize len fuel : Nat) (hne : shape ≠ [])
    (h0 : shape.getD 0 0 = 0) (h1 : ¬ (shape.length = 1 ∧ recsize ≤ len))
    (hl2 : origin.length = shape.length) (hl3 : edges.length = shape.length) (hS : Small shape) (hE : Small edges)
    (hO : ∀ j, 1 ≤ j → j < shape.length → origin.getD j 0 ≤ shape.getD j 0) (hf : shape.length ≤ fuel) :
    let s := NCvcmaxcontig fuel recsize false (ints shape) shape.length len (ints origin) (ints edges)
    s.ub = false ∧ s.oof = false ∧ s.boundary = 1 ∧
    match maxContigScan shape origin edges 1 shape.length with
    | none => s.retnull = true
    | some k => s.retnull = false ∧ s.ret = (k : Int) ∧ 1 ≤ k := by
  intro s
  have hpos : 0 < shape.length := List.length_pos_iff.mpr hne
  obtain ⟨a, b, _⟩ := entry_safe_nat shape origin edges recsize len fuel hpos hl2 hl3 hf
  obtain ⟨d, e⟩ := entry_spec shape origin edges recsize len fuel hpos hl2 hl3 hS hE (fun h => h1 h.2) (by rw [if_pos h0]; exact hO) hf
  rw [if_pos h0] at d e
  refine ⟨a, b, d, ?_⟩
  cases hsc : maxContigScan shape origin edges 1 shape.length with
  | none => rw [hsc] at e; exact e
  | some k =>
    rw [hsc] at e
    exact ⟨e.1, e.2, scan_ge shape origin edges 1 shape.length k hsc⟩

/-- **(c) record variable, early return.**  The one-dimensional only record variable (`shape[0] = 0`, rank 1, `recsize ≤ len`) answers
    `edges` itself, whatever the request is (no hypothesis on `origin`, `edges`), without running the loop. -/
theorem NCvcmaxcontig_only_record (shape origin edges : List Nat) (recsize len fuel : Nat)
    (hn : shape.length = 1) (h0 : shape.getD 0 0 = 0) (h1 : recsize ≤ len) :
    let s := NCvcmaxcontig fuel recsize false (ints shape) shape.length len (ints origin) (ints edges)
    s.ub = false ∧ s.oof = false ∧ s.done = true ∧ s.retnull = false ∧ s.ret = 0 :=
  entry_early shape origin edges recsize len fuel hn h0 h1

/-- the translated code runs on record variables: (0,5,6) with the fixed dimensions whole -> `edges + 1`; rank 1 not the only record
    variable -> one past the end; rank 1 only record variable -> `edges` -/
example :
    (let s := NCvcmaxcontig 3 40 false (ints [0, 5, 6]) 3 30 (ints [7, 0, 0]) (ints [2, 5, 6])
     s.ub = false ∧ s.oof = false ∧ s.boundary = 1 ∧ s.retnull = false ∧ s.ret = 1) ∧
    (let s := NCvcmaxcontig 1 40 false (ints [0]) 1 30 (ints [7]) (ints [2])
     s.ub = false ∧ s.oof = false ∧ s.boundary = 1 ∧ s.retnull = false ∧ s.ret = 1) ∧
    (let s := NCvcmaxcontig 0 30 false (ints [0]) 1 30 (ints [7]) (ints [2])
     s.ub = false ∧ s.oof = false ∧ s.retnull = false ∧ s.ret = 0) := by decide +kernel

/-- **(b, general) never undefined behaviour.**  For EVERY content of `shape/origin/edges` (any integers: negative edges, start
    coordinates beyond the extent, values up to 2^64), every `recsize`, `len`: with the three arrays of the variable's rank ≥ 1 the
    translated `NCvcmaxcontig` never indexes outside them, its loop ends within `rank` passes and it returns (a pointer or NULL). -/
theorem NCvcmaxcontig_safe (shape origin edges : List Int) (recsize len : Int) (fuel : Nat) (hne : shape ≠ [])
    (hl2 : origin.length = shape.length) (hl3 : edges.length = shape.length) (hf : shape.length ≤ fuel) :
    let s := NCvcmaxcontig fuel recsize false shape shape.length len origin edges
    s.ub = false ∧ s.oof = false ∧ s.done = true :=
  entry_safe shape origin edges recsize len fuel (List.length_pos_iff.mpr hne) hl2 hl3 hf

/-- the translated code runs on values outside every other theorem's hypotheses: a negative edge is refused, a start coordinate beyond
    the extent wraps around in `unsigned long` (and is NOT refused: `NCcoordck` has to come first) -/
example :
    (let s := NCvcmaxcontig 2 0 false [4, 5] 2 0 [0, 0] [4, -1]
     s.ub = false ∧ s.oof = false ∧ s.done = true ∧ s.retnull = true) ∧
    (let s := NCvcmaxcontig 2 0 false [4, 5] 2 0 [0, 7] [4, 1]
     s.ub = false ∧ s.oof = false ∧ s.done = true ∧ s.retnull = false ∧ s.ret = 1) := by decide +kernel

end H4.Props.C03Fn
