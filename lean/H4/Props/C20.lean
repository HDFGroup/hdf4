import H4.Lemmas.Limits
import H4.Lemmas.LimitsMisc
import H4.Props.C08
/-! # C20 — requests beyond what the format can represent fail and leave everything consistent (property theorems)

Model: `H4/Limits.lean`.  `head` is the configuration of /repo's HEAD (range checks in `HPgetdiskblock`, commit
bffe1fd, and in `Hwrite`, commit 905f433).  All statements about HEAD quantify over every operation list and every
argument value that is an `int32` (the C parameters are `int32`). -/
namespace H4.Props.C20
open H4.Limits H4.Gen.Hdf


def In32 (x : Int) : Prop := -2147483648 ≤ x ∧ x ≤ 2147483647
instance (x : Int) : Decidable (In32 x) := by unfold In32; exact inferInstance

/-- the arguments of an operation are values of the C parameter type `int32` -/
def Op.In32 : Op → Prop
  | .reserve _ _ l => C20.In32 l
  | .append _ _ p n => C20.In32 p ∧ C20.In32 n
  | .write _ _ p n => C20.In32 p ∧ C20.In32 n
  | .sync => True
  | .reopen => True

instance (o : Op) : Decidable (Op.In32 o) := by cases o <;> unfold Op.In32 <;> exact inferInstance

theorem step_wf (c : Cfg) (hA : c.fixA = true) (hB : c.fixB = true) (s : St) (h : WF32 s) (o : Op) (ho : Op.In32 o) :
    WF32 (step c s o).1 := by
  cases o with
  | reserve t r l => exact reserve_wf hA h t r l
  | append t r p n => exact access_wf hB h true t r n ho.1.2
  | write t r p n => exact access_wf hB h false t r n ho.1.2
  | sync => exact h
  | reopen => exact reopen_wf h

/-- **no_wrap**: from a well-formed file state (end of file in `[0, 2^31-2]`, every descriptor extent and DD block
    inside `[0, end of file]`), EVERY sequence of element reservations (`Hstartwrite` of new elements, any length),
    appending writes after a seek to any position, in-place writes, `Hsync` and close/reopen, with any `int32`
    arguments, in either DD caching mode, leaves a well-formed state: `f_end_off` never wraps, no descriptor ever
    gets a negative offset or an end beyond 2^31-2. -/
theorem no_wrap (c : Cfg) (hA : c.fixA = true) (hB : c.fixB = true) (ops : List Op) (hops : ∀ o ∈ ops, Op.In32 o)
    (s : St) (h : WF32 s) : WF32 (run c s ops).1 := by
  induction ops generalizing s with
  | nil => exact h
  | cons o os ih =>
    simp only [run]
    exact ih (fun o' ho' => hops o' (List.mem_cons_of_mem _ ho')) _ (step_wf c hA hB s h o (hops o (List.mem_cons_self ..)))

/-- HEAD, as a corollary -/
theorem no_wrap_head (ops : List Op) (hops : ∀ o ∈ ops, Op.In32 o) (s : St) (h : WF32 s) : WF32 (run head s ops).1 :=
  no_wrap head rfl rfl ops hops s h

/-- `s1` with a second descriptor whose offset lies beyond the end of file: not a `WF32` state; no statement below speaks of it -/
def s0 : St := { endOff := 294, ndds := 16, free := 14, blocks := [4], dds := [⟨30, 1, 202, 92⟩, ⟨1000, 1, 4000, 0⟩] }
/-- a freshly created file with 16 descriptors per block, after its version element -/
def s1 : St := { endOff := 294, ndds := 16, free := 14, blocks := [4], dds := [⟨30, 1, 202, 92⟩] }

theorem s1_wf : WF32 s1 := by
  refine ⟨by decide, by decide, by decide, ?_, ?_⟩
  · intro d hd
    simp only [s1, List.mem_singleton] at hd
    subst hd
    exact Or.inr ⟨by decide, by decide, by decide⟩
  · intro b hb
    simp only [s1, List.mem_singleton] at hb
    subst hb
    exact ⟨by decide, by decide⟩

/-- non-vacuity: a history that reaches the limit exactly, is refused twice and appends up to the last byte -/
example : (run head s1 [.reserve 1000 1 2147483336, .reserve 1000 2 16, .append 1000 2 16 8, .append 1000 2 10 6, .reserve 1000 3 16, .reopen]).2
    = [.ok, .ok, .fail, .wrote 6, .fail, .ok]
  ∧ (run head s1 [.reserve 1000 1 2147483336, .reserve 1000 2 16]).1.endOff = 2147483646 := by decide +kernel

/-- **limit_rejected** (`HPgetdiskblock`): a block that would move the end of file beyond 2^31-2 is refused -/
theorem limit_rejected_block (c : Cfg) (hA : c.fixA = true) (s : St) (h : WF32 s) (n : Int) (moveto : Bool)
    (hbig : s.endOff + n > maxEnd) : getdiskblock c s n moveto = none :=
  getdiskblock_rejected hA h moveto hbig

/-- and exactly those: a non-negative size that fits is granted at the old end of file, which moves by the exact sum -/
theorem limit_exact_block (c : Cfg) (hA : c.fixA = true) (s : St) (h : WF32 s) (n : Int) (moveto : Bool)
    (h0 : 0 ≤ n) : (getdiskblock c s n moveto).isSome = true ↔ s.endOff + n ≤ maxEnd := by
  rw [getdiskblock_eq hA h]
  split
  · exact ⟨fun _ => ‹_ ∧ _›.2, fun _ => rfl⟩
  · exact ⟨fun hs => (nomatch hs), fun hfit => absurd (And.intro h0 hfit) ‹_›⟩

/-- **limit_rejected** (`Hstartwrite`): with a free descriptor at hand, reserving a new element that does not fit
    returns FAIL; the end of file, the DD blocks and every existing descriptor are unchanged — the only trace is
    the new descriptor WITHOUT data (offset = length = -1), exactly as after `Hstartaccess` without a write. -/
theorem limit_rejected_reserve (c : Cfg) (hA : c.fixA = true) (s : St) (h : WF32 s) (tag ref : Nat) (len : Int)
    (hnew : findDD s tag ref = none) (hfree : s.free ≠ 0) (hbig : s.endOff + len > maxEnd) :
    reserve c s tag ref len =
      ({ s with free := s.free - 1, dds := s.dds ++ [{ tag, ref, off := INVALID_OFFSET, len := INVALID_LENGTH }] }, false) := by
  unfold reserve
  simp only [hnew, htpCreate, hfree, if_false, Option.map_some, setlength]
  rw [getdiskblock_rejected hA (h.snocInvalid _ tag ref) false hbig]

/-- when not even the DD block for the new descriptor fits, nothing at all changes -/
theorem limit_rejected_reserve_noblock (c : Cfg) (hA : c.fixA = true) (s : St) (h : WF32 s) (tag ref : Nat) (len : Int)
    (hnew : findDD s tag ref = none) (hfree : s.free = 0) (hbig : s.endOff + blockSize s.ndds > maxEnd) :
    reserve c s tag ref len = (s, false) := by
  unfold reserve
  simp only [hnew, htpCreate, hfree, if_true, newBlock]
  rw [getdiskblock_rejected hA h true hbig]
  rfl

/-- **limit_rejected** (`Hwrite`): a write (appending or not) on an element with data that would end beyond 2^31-2
    in the file returns FAIL and the state is exactly the state before -/
theorem limit_rejected_write (c : Cfg) (hB : c.fixB = true) (s : St) (h : WF32 s) (d : DD) (hd : d ∈ s.dds)
    (hv : d.invalid = false) (appendable : Bool) (posn n : Int) (hp : 0 ≤ posn ∧ posn ≤ 2147483647) (hn : 0 < n)
    (hbig : d.off + posn + n > maxEnd) : hwrite c s d appendable posn n = (s, .fail) :=
  hwrite_rejected hB h hd hv appendable hp.1 hp.2 hn hbig

/-- **a failing operation changes nothing** (HEAD): whenever `append`, `write`, `sync` or `reopen` report failure
    the state is the state before; a failing `reserve` changes neither the end of file beyond a DD block nor any
    descriptor that has data. -/
theorem fail_leaves_state (c : Cfg) (hA : c.fixA = true) (hB : c.fixB = true) (s : St) (h : WF32 s) (o : Op) (ho : Op.In32 o)
    (hf : (step c s o).2 = .fail) :
    (step c s o).1 = s ∨
    (∃ t r l, o = .reserve t r l ∧ (step c s o).1.dds.filter (fun d => !d.invalid) = s.dds.filter (fun d => !d.invalid)
       ∧ ((step c s o).1.endOff = s.endOff ∨ (s.free = 0 ∧ (step c s o).1.endOff = s.endOff + blockSize s.ndds))) := by
  -- `append` / `write`: nothing happened, or it was an `Hwrite`, which in exact integers FAILs only before it changes anything
  have acc : ∀ app t r p n, In32 p → ((access app c s t r p n).2.toRes = .fail) → (access app c s t r p n).1 = s := by
    intro app t r p n hp hf
    rcases access_cases app c s t r p n with e | e | ⟨d, hd, hv, hp0, e⟩ <;> rw [e] at hf ⊢
    rw [hwrite_eq hB h hd hv app hp0 hp.2] at hf ⊢
    exact hwriteZ_fail (by revert hf; cases (hwriteZ s d app p n).2 <;> first | exact fun _ => rfl | exact fun hf => nomatch hf)
  cases o with
  | sync => exact Or.inl rfl
  | reopen =>
    left
    simp only [step, reopen] at hf ⊢
    split at hf
    · cases hf
    · rename_i hs; rw [if_neg hs]
  | append t r p n => exact Or.inl (acc true t r p n ho.1 hf)
  | write t r p n => exact Or.inl (acc false t r p n ho.1 hf)
  | reserve t r l =>
    have hset : ∀ s1, (setlength c s1 t r l).2 = false → (setlength c s1 t r l).1 = s1 := by
      intro s1
      unfold setlength
      split
      · exact fun _ => rfl
      · exact fun hf => nomatch hf
    have hfl : ∀ (b : Bool), (if b = true then Res.ok else Res.fail) = Res.fail → b = false := by
      intro b; cases b <;> first | exact fun _ => rfl | exact fun hf => nomatch hf
    simp only [step] at hf ⊢
    replace hf := hfl _ hf
    revert hf
    unfold reserve
    split
    · split
      · exact fun _ => Or.inl rfl
      · rename_i s1 hc
        intro hf
        obtain ⟨_, hend, hdds⟩ := htpCreate_wf hA h t r hc
        rw [hset s1 hf, hdds, List.filter_append]
        exact Or.inr ⟨t, r, l, rfl, List.append_nil _, hend⟩
    · split
      · exact fun hf => Or.inl (hset s hf)
      · exact fun hf => nomatch hf

/-- **allocations never overlap existing data**: the extent `Hsetlength` assigns is exactly
    `[old end of file, old end of file + len)`; by `WF32` every existing descriptor extent and DD block ends at or
    before the old end of file. -/
theorem granted_extent_is_fresh (c : Cfg) (hA : c.fixA = true) (s s' : St) (h : WF32 s) (tag ref : Nat) (len : Int)
    (hg : setlength c s tag ref len = (s', true)) :
    s' = updateDD { s with endOff := s.endOff + len } tag ref s.endOff len ∧ 0 ≤ len ∧ s.endOff + len ≤ maxEnd
      ∧ (∀ d ∈ s.dds, d.okUpTo s.endOff) ∧ (∀ b ∈ s.blocks, b + blockSize s.ndds ≤ s.endOff) := by
  unfold setlength at hg
  split at hg
  · simp at hg
  · rename_i off s2 hgd
    obtain ⟨ho, hn0, hfit, hs2⟩ := getdiskblock_some hA h hgd
    simp only [Prod.mk.injEq, and_true] at hg
    subst hs2; subst ho
    exact ⟨hg.symm, hn0, hfit, h.dds_ok, fun b hb => (h.blocks_ok b hb).2⟩

/-- likewise a new DD block is placed exactly at the old end of file -/
theorem new_block_is_fresh (c : Cfg) (hA : c.fixA = true) (s s' : St) (h : WF32 s) (hn : newBlock c s = some s') :
    s'.blocks = s.blocks ++ [s.endOff] ∧ s'.endOff = s.endOff + blockSize s.ndds ∧ s'.endOff ≤ maxEnd := by
  obtain ⟨hw, he, _, _, _, hb⟩ := newBlock_wf hA h hn
  exact ⟨hb, he, hw.end_hi⟩

/-- after close and reopen the recomputed end of file never exceeds the one before (nothing is placed beyond it) -/
theorem reopen_end_le (s : St) (h : WF32 s) : (reopen head s).1.endOff ≤ s.endOff := reopenEnd_le h


def asis : Cfg := { fixA := false, fixB := false }
def fixAonly : Cfg := { fixA := true, fixB := false }

/-- **F11** (before bffe1fd): `Hstartwrite(fid, tag, ref, 0x7fffffff)` on a fresh file succeeds, `f_end_off` wraps to
    -2147483355, the next element gets that negative offset and the flush at close fails -/
theorem asis_reserve_wraps :
    let r := run asis s1 [.reserve 1000 1 2147483647, .reserve 1000 2 4, .sync]
    r.2 = [.ok, .ok, .fail] ∧ r.1.endOff = -2147483351 ∧ findDD r.1 1000 2 = some ⟨1000, 2, -2147483355, 4⟩ := by decide +kernel

/-- so the unfixed code does not keep the invariant -/
theorem asis_not_wf : ¬ WF32 (run asis s1 [.reserve 1000 1 2147483647]).1 := by
  intro h; have := h.end_lo; revert this; decide

/-- the same request on HEAD -/
example : (run head s1 [.reserve 1000 1 2147483647, .reserve 1000 2 4, .sync]).2 = [.fail, .ok, .ok]
    ∧ findDD (run head s1 [.reserve 1000 1 2147483647, .reserve 1000 2 4]).1 1000 2 = some ⟨1000, 2, 294, 4⟩ := by decide +kernel

/-- **second site** (after bffe1fd, before 905f433): the range check in `HPgetdiskblock` alone does not stop the
    appending `Hwrite`: the last element grows past 2^31-1, its descriptor ends beyond the int32 range and after
    reopen the end of file is computed BELOW the element (the next allocation lands on top of it) -/
theorem fixA_alone_append_wraps :
    let s := (run fixAonly s1 [.reserve 1000 1 2147483342, .reserve 1000 2 8]).1
    let r := run fixAonly s [.append 1000 2 8 8, .reopen]
    s.endOff = 2147483644 ∧ r.2 = [.wrote 8, .ok] ∧ findDD r.1 1000 2 = some ⟨1000, 2, 2147483636, 16⟩ ∧ r.1.endOff = 2147483636 := by
  decide +kernel

example : (run head (run head s1 [.reserve 1000 1 2147483342, .reserve 1000 2 8]).1 [.append 1000 2 8 8, .reopen]).2 = [.fail, .ok] := by
  decide +kernel


/-- with the proposed range check in `HLPwrite`, position and length of a linked-block element stay non-negative
    int32 values and every byte reported written lies inside the element (`posn ≤ len` after a write), for every
    seek/write history with int32 arguments -/
theorem ll_no_wrap (l : LL) (h : 0 ≤ l.posn ∧ l.posn ≤ 2147483647 ∧ 0 ≤ l.len ∧ l.len ≤ 2147483647) (n : Int)
    (l' : LL) (hw : llWrite true l n = some l') :
    l'.posn = l.posn + n ∧ l'.posn ≤ l'.len ∧ l.len ≤ l'.len ∧ 0 ≤ l'.posn ∧ l'.len ≤ 2147483647 := by
  rw [llWrite_eq l ⟨h.1, h.2.1⟩] at hw
  split at hw
  · cases hw
    refine ⟨rfl, ?_, ?_, by dsimp only; omega, ?_⟩ <;> dsimp only <;> split <;> omega
  · cases hw

theorem ll_limit_rejected (l : LL) (h : 0 ≤ l.posn ∧ l.posn ≤ 2147483647) (n : Int) (hbig : l.posn + n > 2147483647) :
    llWrite true l n = none := by
  rw [llWrite_eq l h, if_neg (by omega)]

/-- before a1a5790 (`llWrite false`: no check; `llWrite true` is HEAD): 40 bytes written at position 0x7ffffff0 of an 8-byte element are reported written, the length
    stays 8 and the position becomes negative (finding `limits-linked-length-wrap`) -/
example : llWrite false ⟨8, 2147483632⟩ 40 = some ⟨8, -2147483624⟩ ∧ llWrite true ⟨8, 2147483632⟩ 40 = none
    ∧ llWrite true ⟨8, 2147483632⟩ 15 = some ⟨2147483647, 2147483647⟩ := by decide +kernel


/-- **`Htagnewref` returns 0 ("none") iff no ref of the tag in `1 .. 65535` is free** -/
theorem tagnewref_zero_iff (used : Nat → Bool) :
    tagnewref used = 0 ↔ ∀ r, 1 ≤ r → r ≤ 65535 → used r = true := by
  unfold tagnewref
  cases hf : firstFree used 1 with
  | none => simpa using firstFree_none.mp hf
  | some r =>
    obtain ⟨h1, h2, h3⟩ := firstFree_some hf
    simp only [Option.getD_some]
    constructor
    · intro h0; omega
    · intro hall; have := hall r h1 h2; rw [h3] at this; cases this

/-- and a non-zero answer is the smallest ref of the tag that is not in use -/
theorem tagnewref_fresh (used : Nat → Bool) (h : tagnewref used ≠ 0) :
    used (tagnewref used) = false ∧ 1 ≤ tagnewref used ∧ tagnewref used ≤ 65535
      ∧ ∀ q, 1 ≤ q → q < tagnewref used → used q = true := by
  unfold tagnewref at h ⊢
  cases hf : firstFree used 1 with
  | none => simp [hf] at h
  | some r =>
    obtain ⟨h1, h2, h3⟩ := firstFree_some hf
    simp only [Option.getD_some]
    exact ⟨h3, h1, h2, firstFree_min hf⟩

/-- before b11c62e (F7): 0 was returned already when every ref in `1 .. 65534` was in use -/
theorem tagnewrefOld_zero_iff (used : Nat → Bool) :
    tagnewrefOld used = 0 ↔ ∀ r, 1 ≤ r → r ≤ 65534 → used r = true := by
  unfold tagnewrefOld
  cases hf : firstFree used 1 with
  | none =>
    have := firstFree_none.mp hf
    simp only [Option.getD_none, show MAX_REF = 65535 from rfl]
    constructor
    · intro _ r h1 h2; exact this r h1 (by omega)
    · intro _; decide
  | some r =>
    obtain ⟨h1, h2, h3⟩ := firstFree_some hf
    have hmin := firstFree_min hf
    simp only [Option.getD_some]
    have hr : r % 65536 = r := by omega
    rw [hr]
    constructor
    · intro h0 q hq1 hq2
      split at h0
      · rename_i h65; exact hmin q hq1 (by omega)
      · omega
    · intro hall
      split
      · rfl
      · rename_i hne
        have := hall r h1 (by omega)
        rw [h3] at this; cases this

/-- the separating input for F7: refs 1 .. 65534 in use, 65535 free -/
example : tagnewrefOld (fun r => decide (r ≤ 65534)) = 0 ∧ tagnewref (fun r => decide (r ≤ 65534)) = 65535 := by
  constructor
  · exact (tagnewrefOld_zero_iff _).mpr (fun r _ h2 => by simpa using h2)
  · unfold tagnewref
    cases hf : firstFree (fun r => decide (r ≤ 65534)) 1 with
    | none => have := firstFree_none.mp hf 65535 (by omega) (by omega); simp at this
    | some r =>
      obtain ⟨h1, h2, h3⟩ := firstFree_some hf
      simp only [decide_eq_false_iff_not] at h3
      simp only [Option.getD_some]; omega

/-- `Hnewref`: 0 is returned iff `maxref` has reached 65535 and every ref `1 .. 65535` is in use by some tag;
    a non-zero answer beyond `maxref` is `maxref + 1`, otherwise it is a ref no tag uses -/
theorem newref_zero_iff (maxref : Nat) (used : Nat → Bool) :
    (newref maxref used).1 = 0 ↔ maxref ≥ 65535 ∧ ∀ r, 1 ≤ r → r ≤ 65535 → used r = true := by
  unfold newref
  rw [show MAX_REF = 65535 from rfl]
  split
  · exact ⟨fun h => (nomatch h), fun h => absurd h.1 (Nat.not_le.mpr ‹_›)⟩
  · exact (tagnewref_zero_iff used).trans ⟨fun h => ⟨Nat.not_lt.mp ‹_›, h⟩, fun h => h.2⟩

theorem newref_fresh (maxref : Nat) (used : Nat → Bool) (hmax : ∀ r, maxref < r → used r = false)
    (h : (newref maxref used).1 ≠ 0) :
    used (newref maxref used).1 = false ∧ 1 ≤ (newref maxref used).1 ∧ (newref maxref used).1 ≤ 65535 ∧ (newref maxref used).2 ≤ 65535
      ∨ maxref > 65535 := by
  unfold newref at h ⊢
  rw [show MAX_REF = 65535 from rfl] at h ⊢
  split
  · exact .inl ⟨hmax _ (Nat.lt_succ_self _), Nat.succ_le_succ (Nat.zero_le _), ‹_›, ‹_›⟩
  · rw [if_neg ‹_›] at h
    obtain ⟨h3, h1, h2, _⟩ := tagnewref_fresh used h
    by_cases h65 : maxref = 65535
    · exact .inl ⟨h3, h1, h2, Nat.le_of_eq h65⟩
    · exact .inr (by omega)

example : (newref 65535 (fun r => decide (r ≤ 65535) && r != 4916)).1 = 4916 := by
  unfold newref
  simp only [show MAX_REF = 65535 from rfl, Nat.lt_irrefl, if_false]
  cases hf : firstFree (fun r => decide (r ≤ 65535) && r != 4916) 1 with
  | none => have := firstFree_none.mp hf 4916 (by omega) (by omega); simp at this
  | some r =>
    obtain ⟨h1, h2, h3⟩ := firstFree_some hf
    simp only [Bool.and_eq_false_imp, decide_eq_true_eq, bne_eq_false_iff_eq] at h3
    simp only [Option.getD_some]; exact h3 h2

/-- the descriptors-per-block count of a new file is a positive `int16` whatever `int16` was asked for (so the block size
    `6 + 12 * ndds` is at most 393210 bytes), and a request is refused only when it is negative -/
theorem nddsEff_fits16 (req : Int) (h : -32768 ≤ req ∧ req ≤ 32767) :
    (req < 0 → nddsEff req = none) ∧ (0 ≤ req → ∃ n, nddsEff req = some n ∧ 4 ≤ n ∧ n ≤ 32767 ∧ (4 ≤ req → (n : Int) = req)) := by
  unfold nddsEff
  refine ⟨fun hn => if_pos hn, fun hp => ?_⟩
  rw [if_neg (Int.not_lt.mpr hp)]
  let P : Option Nat → Prop := fun r => ∃ n : Nat, r = some n ∧ 4 ≤ n ∧ n ≤ 32767 ∧ (4 ≤ req → (n : Int) = req)
  refine iteInduction (motive := P) (fun h0 => ⟨16, rfl, by decide, by decide, fun h4 => by omega⟩) fun _ => ?_
  refine iteInduction (motive := P) (fun h4 => ⟨4, rfl, by decide, by decide, fun h4' => absurd h4' (Int.not_le.mpr h4)⟩)
    fun h4 => ⟨req.toNat, rfl, ?_, by omega, fun _ => Int.toNat_of_nonneg hp⟩
  have h4' : (4 : Int) ≤ req := Int.not_lt.mp h4
  omega

example : nddsEff 32767 = some 32767 ∧ nddsEff 0 = some 16 ∧ nddsEff 3 = some 4 ∧ nddsEff (-1) = none := by decide +kernel


/-- deleting a descriptor never brings a reference number INTO use -/
theorem refDel_inUse {s : RefSt} {r x : Nat} (hx : (refDel s r).inUse x = true) : s.inUse x = true := by
  obtain ⟨p, hp, h1, h2⟩ := (inUse_iff _ x).mp hx
  obtain ⟨q, hq, h3, h4⟩ := delRun_sub s.used r p hp
  exact (inUse_iff s x).mpr ⟨q, hq, by omega, by omega⟩

/-- **what `Hnewref` hands out is in use by NO descriptor**, whatever the history: on every state that satisfies the
    invariant a non-zero answer is a 16-bit number, not 0, carried by no descriptor of any tag -/
theorem refAlloc_fresh {s : RefSt} (h : RefInv s) (n : Nat) (hr : (refAlloc s n).1 ≠ 0) :
    s.inUse (refAlloc s n).1 = false ∧ 1 ≤ (refAlloc s n).1 ∧ (refAlloc s n).1 ≤ 65535 := by
  rw [(refAlloc_eq s n).1] at hr ⊢
  have hmax : ∀ r, s.maxref < r → s.inUse r = false := fun r hlt =>
    Bool.eq_false_iff.mpr fun hu => Nat.not_le.mpr hlt (inUse_bounds h hu).2
  rcases newref_fresh s.maxref s.inUse hmax hr with ⟨a, b, c, _⟩ | hbig
  · exact ⟨a, b, c⟩
  · exact absurd h.1 (Nat.not_le.mpr hbig)

/-- **exhaustion is refused, and only exhaustion**: the answer is 0 iff every number 1 .. 65535 is in use -/
theorem refAlloc_zero_iff {s : RefSt} (h : RefInv s) (n : Nat) :
    (refAlloc s n).1 = 0 ↔ ∀ r, 1 ≤ r → r ≤ 65535 → s.inUse r = true := by
  rw [(refAlloc_eq s n).1, newref_zero_iff]
  exact ⟨fun h0 => h0.2, fun hall => ⟨(inUse_bounds h (hall 65535 (by decide) (Nat.le_refl _))).2, hall⟩⟩

/-- a refused request changes nothing -/
theorem refAlloc_zero_state (s : RefSt) (n : Nat) (h0 : (refAlloc s n).1 = 0) : (refAlloc s n).2 = s := by
  rw [(refAlloc_eq s n).1] at h0
  rw [(refAlloc_eq s n).2, if_pos h0]

theorem refAlloc_inv {s : RefSt} (h : RefInv s) (n : Nat) : RefInv (refAlloc s n).2 := by
  by_cases h0 : (refAlloc s n).1 = 0
  · rw [refAlloc_zero_state s n h0]; exact h
  · obtain ⟨_, h1, h2⟩ := refAlloc_fresh h n h0
    rw [(refAlloc_eq s n).1] at h0 h1 h2
    rw [(refAlloc_eq s n).2, if_neg h0]
    have hm : s.maxref ≤ (newref s.maxref s.inUse).2 ∧ (newref s.maxref s.inUse).2 ≤ 65535 := by
      unfold newref
      rw [show MAX_REF = 65535 from rfl]
      split
      · exact ⟨Nat.le_succ _, ‹_›⟩
      · exact ⟨Nat.le_refl _, h.1⟩
    exact refPutN_inv (s := { s with maxref := (newref s.maxref s.inUse).2 })
      ⟨hm.2, fun p hp => ⟨(h.2 p hp).1, Nat.le_trans (h.2 p hp).2 hm.1⟩⟩ h1 h2 n

/-- **the order of the descriptors in the DD list does not matter**: two files whose descriptors carry the same
    reference numbers get the same answer -/
theorem refAlloc_perm {s t : RefSt} (hm : s.maxref = t.maxref) (hp : s.used.Perm t.used) (n : Nat) :
    (refAlloc s n).1 = (refAlloc t n).1 := by
  have hu : s.inUse = t.inUse := funext fun r => hp.any_eq
  rw [(refAlloc_eq s n).1, (refAlloc_eq t n).1, hm, hu]

/-- two objects created one after the other (the first one written: `n ≥ 1` descriptors) never share a number -/
theorem refAlloc_twice_distinct {s : RefSt} (h : RefInv s) (n m : Nat) (hn : 1 ≤ n)
    (h1 : (refAlloc s n).1 ≠ 0) (h2 : (refAlloc (refAlloc s n).2 m).1 ≠ 0) :
    (refAlloc (refAlloc s n).2 m).1 ≠ (refAlloc s n).1 := by
  intro heq
  have hf := (refAlloc_fresh (refAlloc_inv h n) m h2).1
  rw [heq] at hf
  have hin : (refAlloc s n).2.inUse (refAlloc s n).1 = true := by
    rw [inUse_iff, refAlloc_used]
    refine ⟨((refAlloc s n).1, (refAlloc s n).1), ?_, Nat.le_refl _, Nat.le_refl _⟩
    simp only [h1, if_false, List.mem_append, List.mem_replicate]
    right; exact ⟨by omega, trivial⟩
  rw [hin] at hf; cases hf

/-- a creation carries 16-bit reference numbers, 0 excluded -/
def RefOp.Ok : RefOp → Prop
  | .put lo hi => 1 ≤ lo ∧ hi ≤ 65535
  | _ => True

/-- every state reached from a state with the invariant by creations with 16-bit numbers, deletions and allocations
    has the invariant: no counter leaves its 16 bits -/
theorem refRun_inv (ops : List RefOp) (hops : ∀ o ∈ ops, RefOp.Ok o) {s : RefSt} (h : RefInv s) : RefInv (refRun s ops).2 := by
  induction ops generalizing s with
  | nil => exact h
  | cons o os ih =>
    have ho := hops o (by simp)
    have hs : RefInv (refStep s o).2 := by
      cases o with
      | put lo hi => exact refPut_inv h ho.1 ho.2
      | del r => exact refDel_inv h r
      | alloc n => exact refAlloc_inv h n
    exact ih (fun o' ho' => hops o' (by simp [ho'])) hs

/-- as the code is: after the counter saturated, a number handed out for an object that is NOT yet written
    (`n = 0`) is handed out again by the next call (finding `limits-wrap-ref-handed-out-twice`) -/
theorem refAlloc_unwritten_repeats (s : RefSt) (hm : s.maxref ≥ 65535) :
    (refAlloc (refAlloc s 0).2 0).1 = (refAlloc s 0).1 := by
  have hs : (refAlloc s 0).2 = s := by
    unfold refAlloc newref
    simp only [show MAX_REF = 65535 from rfl, show ¬ s.maxref < 65535 by omega, if_false, refPutN]
    split <;> rfl
  rw [hs]

example : RefInv ⟨65535, [(1, 1), (5, 5), (3, 4), (2, 2), (65535, 65535)]⟩ := by
  refine ⟨by decide, ?_⟩; intro p hp; simp at hp; rcases hp with h | h | h | h | h <;> subst h <;> decide

/-- a file with history: the descriptors are NOT in ascending order of their numbers, 65535 is in use, 6 and 9 are free.
    The next three objects get 6, 9 and 10 .. and an exhausted file refuses, unchanged -/
example : (refRun ⟨65535, [(7, 8), (65535, 65535), (3, 5), (1, 2), (4, 4)]⟩ [.alloc 2, .alloc 1, .del 4, .alloc 0, .alloc 1]).1 = [6, 9, 0, 10, 10] := by
  decide +kernel

example : (refAlloc ⟨65535, [(2, 65535), (1, 1)]⟩ 2) = (0, ⟨65535, [(2, 65535), (1, 1)]⟩) := by
  have h : RefInv ⟨65535, [(2, 65535), (1, 1)]⟩ := by
    refine ⟨by decide, ?_⟩; intro p hp; simp at hp; rcases hp with h | h <;> subst h <;> decide
  have h0 : (refAlloc ⟨65535, [(2, 65535), (1, 1)]⟩ 2).1 = 0 := by
    rw [refAlloc_zero_iff h]
    intro r h1 h2
    rw [inUse_iff]
    by_cases hr : r = 1
    · exact ⟨(1, 1), by simp, by simp [hr], by simp [hr]⟩
    · exact ⟨(2, 65535), by simp, by simp; omega, by simp; omega⟩
  exact Prod.ext h0 (refAlloc_zero_state _ _ h0)

/-- the `uint16` member count of a Vgroup (`nvelt`): the model's accept predicate, and the C08 theorem that the
    modelled `vinsertpair` refuses the 65536th member of ANY well-formed vgroup and changes nothing -/
theorem vg_member_limit (n : Nat) : vinsertOk n = true ↔ n < 65535 := by
  simp [vinsertOk, show H4.Gen.Limits.UINT16_MAX = 65535 from rfl]

theorem vg_full_insert_fails (m : H4.VGroup.Mem) (h : m.OK) (hn : m.members.length = 65535) (t r : Nat) :
    H4.VGroup.vinsertpair m t r = none ∧ (H4.Props.C08.runMem m [.ins t r]).1 = m ∧ (H4.Props.C08.runMem m [.ins t r]).2 = [-1] :=
  H4.Props.C08.vg_full_insert_fails m h hn t r


/-- `VSfdefine`: accepted iff `1 ≤ order ≤ MAX_ORDER` and `isize * order ≤ MAX_FIELD_SIZE` — for EVERY order, also
    those whose product would not fit an `int16`/`uint16` -/
theorem fdefine_accept_iff (isize : Nat) (order : Int) :
    fdefineOk (some isize) order = true ↔ 1 ≤ order ∧ order ≤ 65535 ∧ (isize : Int) * order ≤ 65535 := by
  simp only [fdefineOk, show MAX_ORDER = 65535 from rfl, show MAX_FIELD_SIZE = 65535 from rfl]
  split
  · rename_i h; simp only [Bool.or_eq_true, decide_eq_true_eq] at h; constructor
    · intro hh; cases hh
    · intro ⟨a, b, _⟩; omega
  · rename_i h; simp only [Bool.or_eq_true, decide_eq_true_eq, not_or] at h
    simp only [Bool.not_eq_true', decide_eq_false_iff_not]
    constructor
    · intro hh; exact ⟨by omega, by omega, by omega⟩
    · intro ⟨_, _, c⟩; omega

theorem fdefine_unknown_type (order : Int) : fdefineOk none order = false := by
  simp only [fdefineOk]; split <;> rfl

/-- the stored `uint16` fields cannot wrap: an accepted definition has order and size that fit 16 bits -/
theorem fdefine_fits16 (isize : Nat) (order : Int) (h : fdefineOk (some isize) order = true) :
    0 ≤ order ∧ order < 65536 ∧ (isize : Int) * order < 65536 := by
  have := (fdefine_accept_iff isize order).mp h; omega

example : fdefineOk (some 8) 8191 = true ∧ fdefineOk (some 8) 8192 = false ∧ fdefineOk (some 1) 65535 = true
    ∧ fdefineOk (some 1) 65536 = false ∧ fdefineOk (some 4) 0 = false ∧ fdefineOk (some 2) (-2147483648) = false := by decide +kernel

/-- `VSsetfields` on an empty vdata: accepted iff there are 1 .. `VSFIELDMAX` names and the record size
    (`ivsize`, a `uint16`) stays ≤ `MAX_FIELD_SIZE` -/
theorem setfields_accept_iff (sizes : List Nat) :
    (setfields sizes).1 = true ↔ 1 ≤ sizes.length ∧ sizes.length ≤ 256 ∧ sizes.sum ≤ 65535 := by
  rw [setfields_eq]
  split
  · exact ⟨fun _ => ‹_›, fun _ => rfl⟩
  · exact ⟨fun h => (nomatch h), fun h => absurd h ‹_›⟩

/-- an accepted list is taken completely and the record size is the exact sum (no 16-bit wrap) -/
theorem setfields_accepted (sizes : List Nat) (h : (setfields sizes).1 = true) :
    (setfields sizes).2.1 = sizes.length ∧ (setfields sizes).2.2 = sizes.sum ∧ sizes.sum < 65536 := by
  rw [setfields_eq] at h ⊢
  split at h
  · rw [if_pos ‹_›]; exact ⟨rfl, rfl, Nat.lt_succ_of_le ‹_ ∧ _ ∧ _›.2.2⟩
  · cases h

/-- **a refused field list changes nothing**: whatever the reason for the refusal (no name, too many names, a
    field or the record beyond `MAX_FIELD_SIZE`, at any position of the list) the write list is empty afterwards
    (`wlist.n = 0`, `wlist.ivsize = 0`), so the vdata can be given another list -/
theorem setfields_refused_clean (sizes : List Nat) (h : (setfields sizes).1 = false) :
    (setfields sizes).2 = (0, 0) := by
  rw [setfields_eq] at h ⊢
  split at h
  · cases h
  · rw [if_neg ‹_›]

theorem setfields_count_le (sizes : List Nat) : (setfields sizes).2.1 ≤ sizes.length := by
  rw [setfields_eq]
  split
  · exact Nat.le_refl _
  · exact Nat.zero_le _

/-- the separating input for the repair: before it the first two fields stayed in the write list -/
example : setfields [40000, 20000, 10000, 5] = (false, 0, 0) ∧ setfieldsV false [40000, 20000, 10000, 5] = (false, 2, 60000)
    ∧ setfields [5, 40000] = (true, 2, 40005) := by decide +kernel
example : setfields (List.replicate 256 255) = (true, 256, 65280) ∧ (setfields (List.replicate 257 1)).1 = false := by
  constructor <;> decide +kernel

/-- `scanattrs` (HEAD): the static token tables `symptr[VSFIELDMAX + 1]` / `sym[VSFIELDMAX][..]` are never indexed
    beyond their ends, whatever the number of names -/
theorem scanattrs_in_bounds (n : Nat) (a b : Nat) (h : scanattrsSlots true n = some (a, b)) :
    a ≤ VSFIELDMAX + 1 ∧ b ≤ VSFIELDMAX := by
  unfold scanattrsSlots at h
  split at h
  · cases h
  · rename_i hh
    simp only [Bool.true_and, decide_eq_true_eq] at hh
    simp only [Option.some.injEq, Prod.mk.injEq] at h
    omega

/-- before commit 9759786 a legal list of exactly `VSFIELDMAX` names wrote `symptr[256]` of a 256-entry table -/
example : scanattrsSlots false 256 = some (257, 256) ∧ scanattrsSlots false 1000 = some (1001, 1000)
    ∧ scanattrsSlots true 256 = some (257, 256) ∧ scanattrsSlots true 257 = none := by decide +kernel


/-- what is kept is always a prefix of the name given: no byte of the name is altered, nothing is invented -/
theorem stored_prefix (a : NameApi) (n s : Name) (h : nameStored a n = some s) : s <+: n := by
  cases a
  case vsname | vsclass | field => cases h; exact List.take_prefix _ _
  all_goals rw [(refuse_eq_some.mp h).2]; exact List.prefix_refl _

theorem vgRecordName_id (n : Name) (h : n.length ≤ 65535) : vgRecordName n = n := by
  unfold vgRecordName
  rw [Nat.mod_eq_of_lt (by omega), List.take_length]

/-- **Vgroup names and classes (`Vsetname`, `Vsetclass`) are accepted iff they fit the 16-bit length field
    of the vgroup record** … -/
theorem vgname_accept_iff (a : NameApi) (ha : a = .vgname ∨ a = .vgclass) (n : Name) :
    (nameStored a n).isSome = true ↔ n.length ≤ 65535 := by
  rcases ha with rfl | rfl <;> exact refuse_isSome.trans Nat.not_lt

/-- **image names (`GRcreate`) are accepted iff `GRgetiminfo` can hand them back in a `char[H4_MAX_GR_NAME]`**
    (since the repair of finding `gr-name-unbounded`; before, names up to 65535 characters were accepted and every
    reader with the documented buffer overflowed) -/
theorem grname_accept_iff (n : Name) : (nameStored .grname n).isSome = true ↔ n.length ≤ 255 :=
  refuse_isSome.trans (Nat.not_le.trans Nat.lt_succ_iff)

/-- an accepted image name and its terminator fit the documented buffer -/
theorem grname_fits_buffer (n s : Name) (h : nameStored .grname n = some s) : s = n ∧ (copyTrunc n.length n).length ≤ H4.Gen.Limits.H4_MAX_GR_NAME := by
  obtain ⟨hc, rfl⟩ := refuse_eq_some.mp h
  refine ⟨rfl, ?_⟩
  rw [copyTrunc, List.length_append, List.take_length]
  exact Nat.not_le.mp hc

/-- … **and every accepted one survives close and reopen unchanged** (before the repair names of 65536
    characters and more were accepted and came back modulo 65536: `vgRecordName_length`) -/
theorem vgname_roundtrip (a : NameApi) (ha : a = .vgname ∨ a = .vgclass ∨ a = .grname) (n : Name) :
    nameReopened a n = nameStored a n := by
  have key : ∀ {c : Prop} [Decidable c], (¬c → n.length ≤ 65535) →
      (if c then none else some n : Option Name).map vgRecordName = if c then none else some n := by
    intro c _ hc
    split
    · rfl
    · exact congrArg some (vgRecordName_id n (hc ‹_›))
  rcases ha with rfl | rfl | rfl
  · exact key Nat.le_of_not_lt
  · exact key Nat.le_of_not_lt
  · exact key fun h => by have := Nat.not_le.mp h; have : H4.Gen.Limits.H4_MAX_GR_NAME = 256 := rfl; omega

theorem reopened_prefix (a : NameApi) (n s : Name) (h : nameReopened a n = some s) : s <+: n := by
  have key : nameReopened a n = nameStored a n := by
    cases a <;> first | rfl | exact vgname_roundtrip _ (by decide) n
  rw [key] at h
  exact stored_prefix a n s h

/-- the fixed buffers: `VSsetname`/`VSsetclass` put at most `VSNAMELENMAX + 1 = sizeof vsname` bytes (terminator
    included) into the vdata record, field names at most `FIELDNAMELENMAX + 1` into a `scanattrs` row; SD names that
    are accepted have at most `H4_MAX_NC_NAME` characters, vgroup-backed names at most 65535 and are kept whole -/
theorem stored_length_le (a : NameApi) (n s : Name) (h : nameStored a n = some s) :
    match a with
    | .vsname | .vsclass => s.length ≤ VSNAMELENMAX ∧ (copyTrunc VSNAMELENMAX n).length ≤ H4.Gen.Limits.SIZEOF_VSNAME
    | .field => s.length ≤ FIELDNAMELENMAX ∧ (copyTrunc FIELDNAMELENMAX n).length ≤ FIELDNAMELENMAX + 1
    | .sdname | .dimname | .attrname => s.length ≤ H4_MAX_NC_NAME
    | .vgname | .vgclass => s = n ∧ n.length ≤ H4.Gen.Limits.UINT16_MAX
    | .grname => s = n ∧ n.length < H4.Gen.Limits.H4_MAX_GR_NAME := by
  have cut : ∀ k, ((n.take k).length ≤ k ∧ (copyTrunc k n).length ≤ k + 1) := fun k => by
    rw [copyTrunc, List.length_append, List.length_take]; exact ⟨Nat.min_le_left .., Nat.succ_le_succ (Nat.min_le_left ..)⟩
  cases a
  case vsname | vsclass | field => cases h; exact cut _
  all_goals
    obtain ⟨hc, rfl⟩ := refuse_eq_some.mp h
    first
      | exact ⟨rfl, Nat.not_lt.mp hc⟩
      | exact ⟨rfl, Nat.not_le.mp hc⟩
      | exact Nat.not_lt.mp hc
      | exact Nat.le_trans (Nat.not_lt.mp hc) (by decide)

/-- SD names: accepted iff at most `H4_MAX_NC_NAME` characters -/
theorem sdname_accept_iff (n : Name) : (nameStored .sdname n).isSome = true ↔ n.length ≤ 256 :=
  refuse_isSome.trans Nat.not_lt

/-- SD attribute names: `SDsetattr` accepts a name iff a vdata name can hold it (`VSNAMELENMAX` characters), and every
    accepted name survives close/reopen unchanged (before the repair longer names were accepted and came back truncated:
    finding `limits-attrname-truncated`) -/
theorem attrname_accept_iff (n : Name) : (nameStored .attrname n).isSome = true ↔ n.length ≤ 64 :=
  refuse_isSome.trans Nat.not_lt

theorem attrname_roundtrip (n : Name) : nameReopened .attrname n = nameStored .attrname n := rfl

/-- what `vpackvg` makes of a name that is NOT refused first (the code before the repair accepted it):
    its length modulo 2^16 -/
theorem vgRecordName_length (n : Name) : (vgRecordName n).length = n.length % 65536 := by
  unfold vgRecordName
  rw [List.length_take]
  have := Nat.mod_le n.length 65536
  omega

example : (vgRecordName (List.replicate 70000 97)).length = 4464 := by
  rw [vgRecordName_length, List.length_replicate]

example : nameStored .vgname (List.replicate 65536 97) = none ∧ (nameStored .grname (List.replicate 255 97)).isSome = true := by
  constructor
  · have h := vgname_accept_iff .vgname (Or.inl rfl) (List.replicate 65536 97)
    rw [List.length_replicate] at h
    cases hs : nameStored .vgname (List.replicate 65536 97) with
    | none => rfl
    | some x => rw [hs] at h; have := h.mp rfl; omega
  · rw [grname_accept_iff, List.length_replicate]; omega

example : nameStored .sdname (List.replicate 257 97) = none ∧ (nameStored .sdname (List.replicate 256 97)).isSome = true := by
  constructor
  · have h := sdname_accept_iff (List.replicate 257 97)
    rw [List.length_replicate] at h
    cases hs : nameStored .sdname (List.replicate 257 97) with
    | none => rfl
    | some x => rw [hs] at h; have := h.mp rfl; omega
  · rw [sdname_accept_iff, List.length_replicate]; omega


/-- the counts of data sets per file and of attributes per list never pass their documented maxima, however many
    requests are made, and a request below the maximum is accepted -/
theorem sdvar_accept_iff (count : Nat) : sdvarOk count = true ↔ count < 5000 := by
  unfold sdvarOk; simp [show H4_MAX_NC_VARS = 5000 from rfl]

theorem sdattr_accept_iff (count : Nat) : sdattrOk count = true ↔ count < 3000 := by
  unfold sdattrOk; simp [show H4_MAX_NC_ATTRS = 3000 from rfl]

theorem sdvar_never_beyond (count n : Nat) (h : count ≤ 5000) : countRun sdvarOk count n = min (count + n) 5000 :=
  countRun_eq sdvarOk 5000 sdvar_accept_iff count n h

theorem sdattr_never_beyond (count n : Nat) (h : count ≤ 3000) : countRun sdattrOk count n = min (count + n) 3000 :=
  countRun_eq sdattrOk 3000 sdattr_accept_iff count n h

example : countRun sdvarOk 4998 5 = 5000 ∧ sdvarOk 4999 = true ∧ sdvarOk 5000 = false ∧ sdattrOk 2999 = true ∧ sdattrOk 3000 = false := by
  decide +kernel

theorem sdrank_accept_iff (rank : Nat) : sdrankOk rank = true ↔ rank ≤ 32 := by
  simp [sdrankOk, show H4_MAX_VAR_DIMS = 32 from rfl]

/-- `NC_reset_maxopenfiles` (HEAD, commit 6275b7e) keeps every open file in its slot: an id is valid afterwards iff
    it was valid before, for every request and every system limit -/
theorem reset_keeps_ids (sys : Nat) (t : Tab) (h : Tab.WF t) (req : Int) (id : Nat) :
    tabValid (resetMax sys t req).1 id = tabValid t id := by
  unfold resetMax
  refine iteInduction (motive := fun r : Tab × Int => tabValid r.1 id = tabValid t id) (fun _ => rfl) fun _ => ?_
  dsimp only
  refine iteInduction (motive := fun r : Tab × Int => tabValid r.1 id = tabValid t id) (fun hal => ?_) fun _ => ?_
  · -- nothing is open in an unallocated table
    have := (h.unalloc (by simpa using hal)).2.1
    unfold tabValid
    dsimp only
    rw [this]; rfl
  · refine iteInduction (motive := fun r : Tab × Int => tabValid r.1 id = tabValid t id) (fun _ => rfl) fun _ => ?_
    unfold tabValid
    dsimp only
    by_cases hid : id < t.ncdf
    · rw [getD_take_append_replicate _ _ _ (by omega)]
    · rw [decide_eq_false hid]; rfl

/-- and the table invariant is kept -/
theorem reset_wf (sys : Nat) (hsys : 0 < sys) (t : Tab) (h : Tab.WF t) (req : Int) : Tab.WF (resetMax sys t req).1 := by
  unfold resetMax
  refine iteInduction (motive := fun r : Tab × Int => Tab.WF r.1) (fun _ => h) fun _ => ?_
  dsimp only
  refine iteInduction (motive := fun r : Tab × Int => Tab.WF r.1) (fun hal => ?_) fun hal => ?_
  · have hu := h.unalloc (by simpa using hal)
    have hsz : 0 < (if req.toNat = 0 then t.maxOpen else req.toNat) := by
      split
      · exact h.pos
      · omega
    revert hsz
    generalize (if req.toNat = 0 then t.maxOpen else req.toNat) = sz
    intro hsz
    refine ⟨fun hf => (nomatch hf), fun _ => (List.length_replicate ..).symm, ?_, fun i _ => ?_, ?_, hsz⟩ <;> dsimp only
    · rw [hu.2.1]; exact Nat.zero_le _
    · rw [List.getD_eq_getElem?_getD, List.getElem?_replicate]; split <;> rfl
    · rw [hu.2.2, List.count_replicate]; rfl
  · refine iteInduction (motive := fun r : Tab × Int => Tab.WF r.1) (fun _ => h) fun _ => ?_
    have halt : t.alloc = true := by simpa using hal
    have hsz := h.size halt
    have hp := h.pos; have hn := h.ncdf_le
    generalize ha : max t.ncdf (min req.toNat sys) = a
    have hncdf : t.ncdf ≤ a := by omega
    have hpos : 0 < a := by omega
    have hlen : (t.slots.take a ++ List.replicate (a - (t.slots.take a).length) false).length = a := by
      rw [List.length_append, List.length_replicate, List.length_take]; omega
    refine ⟨fun hf => absurd (halt.symm.trans hf) (by decide), fun _ => hlen.symm, by dsimp only; omega, fun i hi => ?_, ?_, hpos⟩
    · dsimp only
      by_cases hia : i < a
      · rw [getD_take_append_replicate _ _ _ hia]; exact h.beyond i hi
      · rw [List.getD_eq_getElem?_getD, List.getElem?_eq_none (by omega)]; rfl
    · dsimp only
      rw [List.count_append, List.count_replicate, count_take_of_beyond fun i hi => h.beyond i (by omega)]
      exact h.count

example : let t := (tabOpen 100 (tabOpen 100 (tabOpen 100 (tabInit 100)).1).1).1
    let t2 := (tabClose t 0).1
    (resetMax 100 t2 64).2 = 64 ∧ tabValid (resetMax 100 t2 64).1 1 = true ∧ tabValid (resetMax 100 t2 64).1 2 = true
      ∧ tabValid (resetMax 100 t2 64).1 0 = false ∧ (resetMax 100 t2 2).2 = 32 ∧ (resetMax 100 t2 3).2 = 3 := by
  decide +kernel

end H4.Props.C20
