import H4.Lemmas.Tiles
import H4.Lemmas.ToolsParse
import H4.Lemmas.ToolsLayout
import H4.Props.C03
/-! # C18 — hrepack preserves content while changing only layout (property theorems)

The hyperslab (strip-mine) copy of `copy_sds` visits every cell exactly once, hence equals the whole copy; the layout decision
(`options_get_info` + the rules around it in `copy_sds` / `copy_gr`); the option grammar of `hrepack_parse.c`; which vgroups / vdatas
are copied (`is_reserved` is an exact match on the class; every other user object arrives). -/
namespace H4.Props.C18
open H4.Tools H4.Slab H4.Gen.Tools

/-- **tiles_partition.** For every rank, every shape (extents ≥ 1) and every strip-mine shape (sizes ≥ 1), the
    `(hs_offset, hs_size)` pairs produced by the `elmtno` / carry loop of `copy_sds`, expanded to their cells, are a
    permutation of all cells of the index space: every cell is copied exactly once. -/
theorem tiles_partition (dims sm : List Nat) (hv : Valid dims sm) :
    ((tiles dims sm).flatMap fun t => cells t.1 t.2).Perm (cells (zeros dims) dims) := by
  rw [tiles_eq_grid dims sm hv]
  exact grid_cells_perm dims sm hv

/-- the same for the strip-mine sizes `copy_sds` computes itself from the buffer size and the element size -/
theorem copy_tiles_partition (bufsize eltsz : Nat) (dims : List Nat) (he : 1 ≤ eltsz) (hb : eltsz ≤ bufsize)
    (hd : ∀ d ∈ dims, 1 ≤ d) :
    ((copyTiles bufsize eltsz dims).flatMap fun t => cells t.1 t.2).Perm (cells (zeros dims) dims) :=
  tiles_partition dims _ (smSize_valid bufsize eltsz he hb dims hd).1

/-- a strip-mine tile never exceeds the buffer: `sm_nbytes ≤ H4TOOLS_BUFSIZE` -/
theorem strip_mine_fits (bufsize eltsz : Nat) (dims : List Nat) (he : 1 ≤ eltsz) (hb : eltsz ≤ bufsize)
    (hd : ∀ d ∈ dims, 1 ≤ d) : (smSize bufsize eltsz dims).2 ≤ bufsize :=
  (smSize_valid bufsize eltsz he hb dims hd).2.2

example : Valid [3, 4, 5] [2, 3, 2] := by decide
example : (tiles [3, 4] [2, 3]) = [([0, 0], [2, 3]), ([0, 3], [2, 1]), ([2, 0], [1, 3]), ([2, 3], [1, 1])] := by decide
example : copyTiles 10 2 [3, 4] = [([0, 0], [1, 4]), ([1, 0], [1, 4]), ([2, 0], [1, 4])] := by decide

open H4.Props.C03

/-- the write requests of the hyperslab copy: each tile is written with the source values of its cells -/
def tileOps {α} (src : Arr α) (ts : List (List Nat × List Nat)) : List (Op α) :=
  ts.map fun t => Op.write t.1 t.2 ((cells t.1 t.2).map src)

theorem assign_src {α} (src : Arr α) : ∀ (cs : List (List Nat)) (a : Arr α) (c : List Nat),
    (a c = src c ∨ c ∈ cs) → assign a cs (cs.map src) c = src c := by
  intro cs
  induction cs with
  | nil => intro a c h; rcases h with h | h
           · simpa [assign] using h
           · simp at h
  | cons c0 cs ih =>
    intro a c h
    simp only [List.map_cons, assign]
    apply ih
    by_cases e : c = c0
    · left; subst e; simp [upd]
    · rcases h with h | h
      · left; simp [upd, e, h]
      · right; simpa [e] using h

theorem runArr_tileOps {α} (src : Arr α) : ∀ (ts : List (List Nat × List Nat)) (a : Arr α) (c : List Nat),
    (a c = src c ∨ c ∈ ts.flatMap fun t => cells t.1 t.2) → (runArr a (tileOps src ts)).1 c = src c := by
  intro ts
  induction ts with
  | nil => intro a c h; rcases h with h | h
           · simpa [tileOps, runArr] using h
           · simp at h
  | cons t ts ih =>
    intro a c h
    simp only [tileOps, List.map_cons, runArr, stepArr]
    apply ih
    simp only [List.flatMap_cons, List.mem_append] at h
    rcases h with h | h | h
    · left; exact assign_src src _ a c (Or.inl h)
    · left; exact assign_src src _ a c (Or.inr h)
    · right; exact h

/-- **tiled copy = whole copy.** Copy a dataset `src` into a destination image through the hyperslab loop of
    `copy_sds` (one `SDwritedata` per tile, executed by `NCvario`'s run decomposition, C03) or through one whole
    `SDwritedata`: in both cases the destination image has the right length and holds, for every in-range cell,
    the source value; so the two images agree on every cell. Any rank, shape, strip-mine shape, initial destination. -/
theorem tiled_copy_eq_whole_copy {α} (d : α) (dims sm : List Nat) (hv : Valid dims sm) (src : Arr α)
    (img0 : List α) (a0 : Arr α) (hrep : Rep d dims img0 a0) :
    let tiled := (runImg d dims img0 (tileOps src (tiles dims sm))).1
    let whole := (runImg d dims img0 [Op.write (zeros dims) dims ((cells (zeros dims) dims).map src)]).1
    tiled.length = prod dims ∧ whole.length = prod dims ∧
    ∀ c, inB dims c → tiled.getD (offset dims c) d = src c ∧ whole.getD (offset dims c) d = src c := by
  intro tiled whole
  have hvalid : ∀ op ∈ tileOps src (tiles dims sm), op.Valid dims := by
    intro op hop
    simp only [tileOps, List.mem_map] at hop
    obtain ⟨t, ht, rfl⟩ := hop
    rw [tiles_eq_grid dims sm hv] at ht
    exact ⟨(grid_mem dims sm hv t ht).1, by simp⟩
  have hvalid2 : ∀ op ∈ [Op.write (zeros dims) dims ((cells (zeros dims) dims).map src)], op.Valid dims := by
    intro op hop
    simp only [List.mem_singleton] at hop
    subst hop
    exact ⟨inRange_zeros dims, by simp⟩
  obtain ⟨_, r1⟩ := slab_refines_array d dims _ img0 a0 hvalid hrep
  obtain ⟨_, r2⟩ := slab_refines_array d dims _ img0 a0 hvalid2 hrep
  refine ⟨r1.1, r2.1, ?_⟩
  intro c hc
  have hmem := mem_cells_of_inB dims c hc
  constructor
  · rw [r1.2 c hc]
    apply runArr_tileOps
    right
    exact (tiles_partition dims sm hv).mem_iff.mpr hmem
  · rw [r2.2 c hc]
    have := runArr_tileOps src [(zeros dims, dims)] a0 c (Or.inr (by simpa using hmem))
    simpa [tileOps] using this

/-- a layout the library can represent: not chunked / chunked / chunked+compressed; a chunked layout without the
    compression flag reports no coder, one with the flag reports a coder; an unchunked layout has no chunk lengths -/
def WFLayout (l : Layout) : Prop :=
  (l.flags = HDF_NONE ∨ l.flags = HDF_CHUNK ∨ l.flags = (HDF_CHUNK ||| HDF_COMP)) ∧
  (l.flags = HDF_CHUNK → l.comp = COMP_CODE_NONE) ∧
  (l.flags = (HDF_CHUNK ||| HDF_COMP) → l.comp ≠ COMP_CODE_NONE) ∧
  (l.flags = HDF_NONE → l.lens = [])

theorem chunkedLayout_wf (s : LState) (r : Bool) : WFLayout (chunkedLayout s r) := by
  unfold chunkedLayout
  split
  · rename_i h; refine ⟨Or.inr (Or.inr rfl), ?_, fun _ => h.2, ?_⟩ <;> simp [HDF_CHUNK, HDF_COMP, HDF_NONE]
  · refine ⟨Or.inr (Or.inl rfl), fun _ => rfl, ?_, ?_⟩ <;> simp [HDF_CHUNK, HDF_COMP, HDF_NONE]

theorem plain_wf (c i : Int) (r : Bool) : WFLayout ⟨HDF_NONE, c, i, [], r⟩ := by
  refine ⟨Or.inl rfl, ?_, ?_, fun _ => rfl⟩ <;> simp [HDF_CHUNK, HDF_COMP, HDF_NONE]

theorem chunkedLayout_flags (s : LState) (r : Bool) : (chunkedLayout s r).flags ≠ 0 := by
  unfold chunkedLayout; split <;> simp [HDF_CHUNK, HDF_COMP]

theorem chunkedLayout_comp_zero (s : LState) (r : Bool) (h : isChunkComp s.flags = true → s.ccomp = 0) :
    (chunkedLayout s r).comp = 0 := by
  unfold chunkedLayout
  by_cases hc : isChunkComp s.flags = true
  · simp [hc, h hc, COMP_CODE_NONE]
  · simp [hc, COMP_CODE_NONE]

/-- size in bytes as `copy_sds` / `copy_gr` compute it (`nelms * eltsz`) -/
def objSize (ob : Obj) : Int := (prodN ob.dims * ob.eltsz : Nat)

/-- how `copy_sds` / `copy_gr` create the output object from the OUT values `s` of `options_get_info` (after the
    "objects too small" reset): contiguous without coder; chunked as `s` says; contiguous with the coder of `s`, which is
    reached only when the threshold test `small` fails -/
def Outcome (small : Prop) (s : LState) (l : Layout) : Prop :=
  (∃ r, l = ⟨HDF_NONE, COMP_CODE_NONE, 0, [], r⟩) ∨
  ((s.flags = HDF_CHUNK ∨ isChunkComp s.flags = true) ∧ l = chunkedLayout s false) ∨
  (s.flags = HDF_NONE ∧ ¬ small ∧ ∃ r, l = ⟨HDF_NONE, s.comp, paramOf s.comp s.info, [], r⟩)

/-- every accepted `copy_sds` decision is an `Outcome` of what `options_get_info` returned (an empty dataset is created
    contiguous without asking) -/
theorem sdsDecide_ok {o : Options} {ob : Obj} {l : Layout} (h : sdsDecide o ob = .ok l) :
    (∃ r, l = ⟨HDF_NONE, COMP_CODE_NONE, 0, [], r⟩) ∨
    ∃ hv s, optionsGetInfo o (initState ob) ob.rank ob.path = .ok hv s ∧
      Outcome (objSize ob < o.threshold)
        (if hv = 1 ∧ objSize ob < o.threshold then { s with flags := ob.flags, comp := ob.comp } else s) l := by
  unfold sdsDecide at h
  -- the three entry tests by hand: `split at h` re-simplifies the whole remaining body each time
  by_cases he : ob.empty = true
  · rw [if_pos he] at h; cases h; exact Or.inl ⟨_, rfl⟩
  by_cases h1 : isChunkComp ob.flags ∧ ¬(ob.comp = COMP_CODE_RLE ∨ ob.comp = COMP_CODE_SKPHUFF ∨ ob.comp = COMP_CODE_DEFLATE)
  · rw [if_neg he, if_pos h1] at h; cases h
  by_cases h2 : ¬(ob.comp = COMP_CODE_NONE ∨ ob.comp = COMP_CODE_RLE ∨ ob.comp = COMP_CODE_NBIT ∨ ob.comp = COMP_CODE_SZIP
            ∨ ob.comp = COMP_CODE_SKPHUFF ∨ ob.comp = COMP_CODE_DEFLATE)
  · rw [if_neg he, if_neg h1, if_pos h2] at h; cases h
  rw [if_neg he, if_neg h1, if_neg h2] at h
  split at h
  · cases h
  rename_i hv s hg
  refine Or.inr ⟨hv, s, hg, ?_⟩
  extract_lets size s1 at h
  change Outcome (size < o.threshold) s1 l
  clear_value s1 size
  split at h
  · cases h
  split at h
  · rename_i hch
    split at h
    · cases h; exact Or.inl ⟨_, rfl⟩
    split at h
    · cases h
    split at h
    · cases h
    · cases h; exact Or.inr (Or.inl ⟨hch, rfl⟩)
  split at h
  · rename_i hno
    split at h
    · cases h; exact Or.inl ⟨_, rfl⟩
    rename_i hbig
    split at h <;> cases h
    · exact Or.inl ⟨_, rfl⟩
    · exact Or.inr (Or.inr ⟨hno.1, hbig, _, rfl⟩)
  · cases h; exact Or.inl ⟨_, rfl⟩

/-- the same for `copy_gr`, whose threshold test also asks for `have_info` ≠ 0 -/
theorem grDecide_ok {o : Options} {ob : Obj} {l : Layout} (h : grDecide o ob = .ok l) :
    ∃ hv s, optionsGetInfo o (initState ob) ob.rank ob.path = .ok hv s ∧
      Outcome (hv ≠ 0 ∧ objSize ob < o.threshold)
        (if hv ≠ 0 ∧ objSize ob < o.threshold then { s with flags := ob.flags, comp := ob.comp } else s) l := by
  unfold grDecide at h
  split at h
  · cases h
  rename_i hv s hg
  refine ⟨hv, s, hg, ?_⟩
  extract_lets size small s1 at h
  change Outcome small s1 l
  clear_value s1
  split at h
  · rename_i hch
    split at h
    · cases h
    split at h
    · cases h
    · cases h; exact Or.inr (Or.inl ⟨hch, rfl⟩)
  split at h
  · rename_i hno
    split at h
    · cases h; exact Or.inl ⟨_, rfl⟩
    rename_i hbig
    split at h <;> cases h
    · exact Or.inr (Or.inr ⟨hno.1, hbig, _, rfl⟩)
    · exact Or.inl ⟨_, rfl⟩
  · cases h; exact Or.inl ⟨_, rfl⟩

theorem Outcome.wf {small : Prop} {s : LState} {l : Layout} (h : Outcome small s l) : WFLayout l := by
  rcases h with ⟨r, rfl⟩ | ⟨-, rfl⟩ | ⟨-, -, r, rfl⟩
  · exact plain_wf _ _ _
  · exact chunkedLayout_wf _ _
  · exact plain_wf _ _ _

theorem Outcome.comp_none {small reset : Prop} [Decidable reset] {ob : Obj} {s : LState} {l : Layout} (hr : reset → small)
    (hcomp : s.comp = COMP_CODE_NONE) (hcc : isChunkComp s.flags = true → s.ccomp = COMP_CODE_NONE)
    (hin : isChunkComp ob.flags = false)
    (ho : Outcome small (if reset then { s with flags := ob.flags, comp := ob.comp } else s) l) : l.comp = COMP_CODE_NONE := by
  rcases ho with ⟨r, rfl⟩ | ⟨-, rfl⟩ | ⟨-, hbig, r, rfl⟩
  · rfl
  · apply chunkedLayout_comp_zero
    split
    · intro hf; rw [hin] at hf; cases hf
    · exact hcc
  · rw [if_neg fun hc => hbig (hr hc)]; exact hcomp

theorem Outcome.unchunked {small : Prop} {s : LState} {l : Layout} (hf : s.flags = HDF_NONE) (ho : Outcome small s l) :
    l.flags = HDF_NONE := by
  rcases ho with ⟨r, rfl⟩ | ⟨hch, -⟩ | ⟨-, -, r, rfl⟩
  · rfl
  · rw [hf] at hch; exact absurd hch (by decide)
  · rfl

/-- **decision_total.** Every object of the input file gets exactly one decision (`decide_` is a total function of the
    parsed options and the object): either the copy is refused (`fail`: hrepack exits 1) or one well-formed layout. -/
theorem decision_total (o : Options) (ob : Obj) :
    decide_ o ob = .fail ∨ ∃ l, decide_ o ob = .ok l ∧ WFLayout l := by
  unfold decide_
  split
  · cases h : sdsDecide o ob with
    | fail => exact Or.inl rfl
    | ok l =>
      refine Or.inr ⟨l, rfl, ?_⟩
      rcases sdsDecide_ok h with ⟨r, rfl⟩ | ⟨_, _, _, ho⟩
      · exact plain_wf _ _ _
      · exact ho.wf
  · cases h : grDecide o ob with
    | fail => exact Or.inl rfl
    | ok l =>
      obtain ⟨_, _, _, ho⟩ := grDecide_ok h
      exact Or.inr ⟨l, rfl, ho.wf⟩
  · exact Or.inr ⟨_, rfl, plain_wf _ _ _⟩

/-- **explicit_object_wins (compression).** Whenever no `-t "*:..."` is in force, an object that has an entry with a coder in the option table
    (being named in a `-t` option does not always give one) gets exactly the coder of ITS entry (`have_info` = 1), whatever `-c "*:..."` says and whatever the
    input layout was. -/
theorem explicit_object_wins (o : Options) (s : LState) (rank : Nat) (path : Str) (e : PackInfo)
    (hno : o.allComp = false) (he : getObject path o.tbl = some e) (hc : e.comp.type ≥ 0)
    (hv : Nat) (s' : LState) (h : optionsGetInfo o s rank path = .ok hv s') :
    hv = 1 ∧ s'.comp = e.comp.type ∧ s'.info = e.comp.info := by
  obtain ⟨h1, h2, -⟩ := optionsGetInfo_ok h
  simpa [h1, hno, he, compReq, hc] using h2

/-- **explicit_object_wins (chunking).** Whenever no `-c "*:..."` is in force, an object whose entry of the option table has chunk
    lengths of its own rank is chunked with exactly those lengths. -/
theorem explicit_chunk_wins (o : Options) (s : LState) (rank : Nat) (path : Str) (e : PackInfo)
    (hno : o.allChunk = false) (he : getObject path o.tbl = some e) (hr : e.chunk.rank = (rank : Int)) (hpos : 0 < rank)
    (hv : Nat) (s' : LState) (h : optionsGetInfo o s rank path = .ok hv s') :
    s'.lens = e.chunk.lens ∧ (s'.flags = HDF_CHUNK ∨ s'.flags = (HDF_CHUNK ||| HDF_COMP)) := by
  obtain ⟨-, -, h3, h4⟩ := optionsGetInfo_ok h
  have hs : chunkStage o s rank path = { s with flags := HDF_CHUNK, lens := e.chunk.lens } := by
    have : ¬ (rank : Int) = -2 := by omega
    simp [chunkStage, hno, he, hr, this, hpos]
  rw [hs] at h3 h4
  exact ⟨h3, h4.elim (fun h => Or.inl h.1) (fun h => Or.inr h.2.1)⟩

/-- `have_info` is 1 exactly for a named object outside the all/all case, else 0 -/
theorem have_info_iff (o : Options) (s : LState) (rank : Nat) (path : Str) (hv : Nat) (s' : LState)
    (h : optionsGetInfo o s rank path = .ok hv s') :
    hv = if (getObject path o.tbl).isSome ∧ ¬(o.allChunk = true ∧ o.allComp = true) then 1 else 0 :=
  (optionsGetInfo_ok h).1

/-- **none_means_none (chunking), at the level of `options_get_info`.** `-c "<obj>:NONE"` without a global `-c`, or the
    global `-c "*:NONE"` (since commit 48a8fb3), reset the chunk flags to HDF_NONE. -/
theorem none_means_none_chunk (o : Options) (s : LState) (rank : Nat) (path : Str)
    (hn : (o.allChunk = false ∧ ∃ e, getObject path o.tbl = some e ∧ e.chunk.rank = -2) ∨ (o.allChunk = true ∧ o.chunkG.rank = -2))
    (hv : Nat) (s' : LState) (h : optionsGetInfo o s rank path = .ok hv s') : s'.flags = HDF_NONE := by
  obtain ⟨-, -, -, h4⟩ := optionsGetInfo_ok h
  have hs : (chunkStage o s rank path).flags = HDF_NONE := by
    rcases hn with ⟨hno, e, he, hr⟩ | ⟨hall, hr⟩ <;> simp [chunkStage, *]
  rw [hs] at h4
  exact h4.elim (·.1) fun h => absurd h.1 (by decide)

/-- **threshold_respected (datasets).** What holds exactly: a dataset smaller than the `-m` threshold that is NOT
    chunked in the output is not compressed in the output, for every option combination and every input layout
    (both threshold tests of `copy_sds`). For chunked outputs the threshold is not consulted at all when the request
    comes from `*` options (see the counterexample below). -/
theorem threshold_respected (o : Options) (ob : Obj) (l : Layout) (hsmall : objSize ob < o.threshold)
    (h : sdsDecide o ob = .ok l) (hf : l.flags = HDF_NONE) : l.comp = COMP_CODE_NONE := by
  rcases sdsDecide_ok h with ⟨r, rfl⟩ | ⟨_, _, _, ⟨r, rfl⟩ | ⟨-, rfl⟩ | ⟨-, hbig, -⟩⟩
  · rfl
  · rfl
  · exact absurd hf (chunkedLayout_flags _ _)
  · exact absurd hsmall hbig

/-- for an explicitly named small dataset that was not chunked in the input nothing is changed at all:
    not chunked, not compressed (it is even DEcompressed if it was compressed) -/
theorem threshold_respected_named (o : Options) (ob : Obj) (l : Layout) (e : PackInfo) (hsmall : objSize ob < o.threshold)
    (hnamed : getObject ob.path o.tbl = some e) (hnot44 : ¬(o.allChunk = true ∧ o.allComp = true)) (hin : ob.flags = HDF_NONE)
    (h : sdsDecide o ob = .ok l) : l.flags = HDF_NONE ∧ l.comp = COMP_CODE_NONE := by
  rcases sdsDecide_ok h with ⟨r, rfl⟩ | ⟨hv, s, hg, ho⟩
  · exact ⟨rfl, rfl⟩
  have hv1 : hv = 1 := by rw [have_info_iff _ _ _ _ _ _ hg, hnamed]; simp [hnot44]
  rw [if_pos ⟨hv1, hsmall⟩] at ho
  rcases ho with ⟨r, rfl⟩ | ⟨hch, -⟩ | ⟨-, hbig, -⟩
  · exact ⟨rfl, rfl⟩
  · rw [show ({ s with flags := ob.flags, comp := ob.comp } : LState).flags = HDF_NONE from hin] at hch
    exact absurd hch (by decide)
  · exact absurd hsmall hbig

/-- **threshold_respected (images).** `copy_gr` consults the threshold only when `have_info` ≠ 0, i.e. for images named
    in an option: such a small image that is not chunked in the output is not compressed. -/
theorem threshold_respected_gr (o : Options) (ob : Obj) (l : Layout) (e : PackInfo) (hsmall : objSize ob < o.threshold)
    (hnamed : getObject ob.path o.tbl = some e) (hnot44 : ¬(o.allChunk = true ∧ o.allComp = true))
    (h : grDecide o ob = .ok l) (hf : l.flags = HDF_NONE) : l.comp = COMP_CODE_NONE := by
  obtain ⟨hv, s, hg, ho⟩ := grDecide_ok h
  have hv1 : hv = 1 := by rw [have_info_iff _ _ _ _ _ _ hg, hnamed]; simp [hnot44]
  rcases ho with ⟨r, rfl⟩ | ⟨-, rfl⟩ | ⟨-, hbig, -⟩
  · rfl
  · exact absurd hf (chunkedLayout_flags _ _)
  · exact absurd ⟨by omega, hsmall⟩ hbig

/-- `-t "<obj>:NONE"` at the level of `options_get_info`: the coder becomes NONE; a chunk-level coder survives only if
    it was the input's own (`flags` already HDF_CHUNK|HDF_COMP and no `-c` for the object) -/
theorem none_comp_getinfo (o : Options) (s : LState) (rank : Nat) (path : Str) (e : PackInfo)
    (hno : o.allComp = false) (he : getObject path o.tbl = some e) (hc : e.comp.type = COMP_CODE_NONE)
    (hv : Nat) (s' : LState) (h : optionsGetInfo o s rank path = .ok hv s') :
    s'.comp = COMP_CODE_NONE ∧ (isChunkComp s'.flags = true → s'.ccomp = COMP_CODE_NONE ∨ isChunkComp s.flags = true) := by
  obtain ⟨hc', -⟩ := (explicit_object_wins o s rank path e hno he (by rw [hc]; decide) hv s' h).2
  obtain ⟨-, -, -, h4⟩ := optionsGetInfo_ok h
  refine ⟨hc'.trans hc, fun hf => ?_⟩
  rcases h4 with ⟨h4, -⟩ | ⟨-, -, h4⟩
  · right
    rw [h4] at hf
    rcases chunkStage_flags o s rank path with h | h | h <;> rw [h] at hf
    · exact hf
    all_goals exact absurd hf (by decide)
  · left; rw [h4, hc', hc]

/-- **none_means_none (compression).** An object named in `-t "<obj>:NONE"` (no global `-t`) whose input is not stored
    as compressed chunks is written without compression, whatever the other options and the threshold are.
    (For an input that IS chunked+compressed and gets no `-c`, hrepack keeps the compressed chunks: see the example.) -/
theorem none_means_none (o : Options) (ob : Obj) (e : PackInfo) (l : Layout)
    (hno : o.allComp = false) (he : getObject ob.path o.tbl = some e) (hc : e.comp.type = COMP_CODE_NONE)
    (hin : isChunkComp ob.flags = false) (h : decide_ o ob = .ok l) : l.comp = COMP_CODE_NONE := by
  have key : ∀ {hv s}, optionsGetInfo o (initState ob) ob.rank ob.path = .ok hv s →
      s.comp = COMP_CODE_NONE ∧ (isChunkComp s.flags = true → s.ccomp = COMP_CODE_NONE) := fun hg =>
    let ⟨h1, h2⟩ := none_comp_getinfo o _ _ _ e hno he hc _ _ hg
    ⟨h1, fun hf => (h2 hf).resolve_right (by rw [show (initState ob).flags = ob.flags from rfl, hin]; decide)⟩
  unfold decide_ at h
  split at h
  · rcases sdsDecide_ok h with ⟨r, rfl⟩ | ⟨hv, s, hg, ho⟩
    · rfl
    · exact ho.comp_none (·.2) (key hg).1 (key hg).2 hin
  · obtain ⟨hv, s, hg, ho⟩ := grDecide_ok h
    exact ho.comp_none id (key hg).1 (key hg).2 hin
  · cases h; rfl

/-- **none_means_none (chunking).** `-c "<obj>:NONE"` (no global `-c`) or `-c "*:NONE"`: a dataset / image that is not
    below the threshold is written unchunked. -/
theorem none_means_unchunked (o : Options) (ob : Obj) (l : Layout)
    (hn : (o.allChunk = false ∧ ∃ e, getObject ob.path o.tbl = some e ∧ e.chunk.rank = -2) ∨ (o.allChunk = true ∧ o.chunkG.rank = -2))
    (hbig : ¬ objSize ob < o.threshold) (h : decide_ o ob = .ok l) : l.flags = HDF_NONE := by
  unfold decide_ at h
  split at h
  · rcases sdsDecide_ok h with ⟨r, rfl⟩ | ⟨hv, s, hg, ho⟩
    · rfl
    · rw [if_neg fun hc => hbig hc.2] at ho
      exact ho.unchunked (none_means_none_chunk o _ _ _ hn hv s hg)
  · obtain ⟨hv, s, hg, ho⟩ := grDecide_ok h
    rw [if_neg fun hc => hbig hc.2] at ho
    exact ho.unchunked (none_means_none_chunk o _ _ _ hn hv s hg)
  · cases h; rfl


/-! ### what does NOT hold (the precise limits of the statements above, as executable counterexamples) -/

/-- options of `hrepack -t "*:GZIP 6" -c "*:2x2"` -/
def optsGlobal : Options := (mainLoop ["-t".toList, "*:GZIP 6".toList, "-c".toList, "*:2x2".toList] {}).getD {}
/-- a 4x4 one-byte dataset (16 bytes, far below the default 1024-byte threshold), stored contiguously -/
def tinySds : Obj := { kind := .sds, path := "a".toList, rank := 2, dims := [4, 4], eltsz := 1 }

/-- the threshold is NOT consulted for chunked output requested through `*` options: the tiny dataset is chunked AND compressed -/
example : objSize tinySds < optsGlobal.threshold ∧ sdsDecide optsGlobal tinySds = .ok ⟨3, 4, 6, [2, 2], false⟩ := by decide +kernel

/-- images: with `-t "*:RLE"` alone (`have_info` = 0) a tiny image IS compressed, a tiny dataset is not -/
example : grDecide ((mainLoop ["-t".toList, "*:RLE".toList] {}).getD {}) { tinySds with kind := .gr } = .ok ⟨0, 1, 0, [], false⟩
    ∧ sdsDecide ((mainLoop ["-t".toList, "*:RLE".toList] {}).getD {}) tinySds = .ok ⟨0, 0, 0, [], false⟩ := by decide +kernel

/-- `-t "a:NONE"` does NOT uncompress a dataset stored as compressed chunks (no `-c` for it): hypothesis `hin` of
    `none_means_none` is necessary -/
example : sdsDecide ((mainLoop ["-t".toList, "a:NONE".toList, "-m".toList, "0".toList] {}).getD {})
      { tinySds with flags := 3, comp := 4, info := 6, lens := [2, 2] } = .ok ⟨3, 4, 6, [2, 2], false⟩ := by decide +kernel

/-- an explicit `-t "a:NONE"` LOSES against a later `-t "*:RLE"` (hypothesis `hno` of `explicit_object_wins`) -/
example : sdsDecide ((mainLoop ["-t".toList, "a:NONE".toList, "-t".toList, "*:RLE".toList, "-m".toList, "0".toList] {}).getD {}) tinySds
      = .ok ⟨0, 1, 0, [], false⟩ := by decide +kernel

/-- an explicit request wins against the global chunking, and the two combine: chunked 2x2 + the object's own coder -/
example : sdsDecide ((mainLoop ["-c".toList, "*:2x2".toList, "-t".toList, "a:HUFF 1".toList, "-m".toList, "0".toList] {}).getD {}) tinySds
      = .ok ⟨3, 3, 1, [2, 2], false⟩ := by decide +kernel

/-- an unlimited dataset loses its unlimited dimension when a coder is requested, even if the threshold then cancels the
    compression (known finding `sds-unlimited-lost`) -/
example : sdsDecide ((mainLoop ["-t".toList, "*:RLE".toList] {}).getD {}) { tinySds with isrec := true } = .ok ⟨0, 0, 0, [], false⟩ := by decide +kernel

/-- hypotheses of the theorems above are satisfiable -/
example : getObject "a".toList ((mainLoop ["-t".toList, "a:NONE".toList] {}).getD {}).tbl = some ⟨"a".toList, ⟨0, -1⟩, ⟨-1, []⟩⟩ := by decide +kernel
example : runStatus ["-t".toList, "a:GZIP 1".toList, "-c".toList, "a:2x2".toList] [tinySds] = .ok := by decide +kernel
example : runStatus ["-c".toList, "a:2x2x2".toList] [tinySds] = .fail := by decide +kernel      -- chunk rank does not match
example : runStatus ["-t".toList, "b:RLE".toList] [tinySds] = .fail := by decide +kernel        -- <b> not found
example : runStatus ["-t".toList, "a:RLE".toList, "-t".toList, "*:RLE".toList] [tinySds] = .fail := by decide +kernel  -- print_options
example : runStatus ["-t".toList, "*:RLE".toList, "-t".toList, "a:RLE".toList] [tinySds] = .usage := by decide +kernel

/-- a compression request the usage text describes: `NONE`, `RLE`, `HUFF <skip 1..9999>`, `GZIP <level 0..9>`,
    `JPEG <quality 0..100>` (`info` stays at its initial -1 when the coder takes no parameter) -/
def GoodComp (c : Comp) : Prop :=
  (c.type = COMP_CODE_NONE ∧ c.info = -1) ∨ (c.type = COMP_CODE_RLE ∧ c.info = -1) ∨
  (c.type = COMP_CODE_SKPHUFF ∧ 1 ≤ c.info ∧ c.info ≤ 9999) ∨ (c.type = COMP_CODE_DEFLATE ∧ 0 ≤ c.info ∧ c.info ≤ 9) ∨
  (c.type = COMP_CODE_JPEG ∧ 0 ≤ c.info ∧ c.info ≤ 100)

/-- the value part: printing a well-formed request and scanning it returns the request, and the parameter check accepts it -/
theorem compValue_roundtrip (c : Comp) (h : GoodComp c) :
    compValue (compValueStr c) [] = some c ∧ compParamOk c = true ∧ ':' ∉ compValueStr c ∧ ',' ∉ compValueStr c ∧ compValueStr c ≠ [] := by
  obtain ⟨t, i⟩ := c
  rcases h with ⟨h1, h2⟩ | ⟨h1, h2⟩ | ⟨h1, h2, h3⟩ | ⟨h1, h2, h3⟩ | ⟨h1, h2, h3⟩ <;> simp only at h1 h2 <;> subst h1
  · subst h2; decide
  · subst h2; decide
  all_goals
    simp only at h3
    obtain ⟨n, rfl⟩ : ∃ n : Nat, i = n := ⟨i.toNat, by omega⟩
  · exact compValue_roundtrip_param "HUFF".toList _ n (by simp [compValueStr, compName, COMP_CODE_RLE, COMP_CODE_SKPHUFF])
      (by decide) (by decide) (by decide) (by decide) (by omega) (by simp [compOfName, COMP_CODE_SKPHUFF])
      (by simp [compParamOk, COMP_CODE_SKPHUFF]; omega)
  · exact compValue_roundtrip_param "GZIP".toList _ n
      (by simp [compValueStr, compName, COMP_CODE_RLE, COMP_CODE_SKPHUFF, COMP_CODE_DEFLATE])
      (by decide) (by decide) (by decide) (by decide) (by omega) (by simp [compOfName, COMP_CODE_DEFLATE])
      (by simp [compParamOk, COMP_CODE_SKPHUFF, COMP_CODE_DEFLATE]; omega)
  · exact compValue_roundtrip_param "JPEG".toList _ n
      (by simp [compValueStr, compName, COMP_CODE_RLE, COMP_CODE_SKPHUFF, COMP_CODE_DEFLATE, COMP_CODE_JPEG])
      (by decide) (by decide) (by decide) (by decide) (by omega) (by simp [compOfName, COMP_CODE_JPEG])
      (by simp [compParamOk, COMP_CODE_SKPHUFF, COMP_CODE_DEFLATE, COMP_CODE_JPEG]; omega)

/-- **parse_comp round trip.** For every non-empty list of representable object names (non-empty, no `,` or `:`,
    shorter than `H4_MAX_NC_NAME`-1) and every well-formed request, `parse_comp` applied to the printed option
    `<names>:<type>[ <parameter>]` returns exactly the names and the request. -/
theorem parse_comp_roundtrip (names : List Str) (c : Comp) (hne : names ≠ [])
    (hg : ∀ n ∈ names, GoodName n ∧ ':' ∉ n) (hc : GoodComp c) :
    parseComp (showComp names c) = some (names.length, names, c) := by
  obtain ⟨h1, h2, h3, h4, h5⟩ := compValue_roundtrip c hc
  obtain ⟨e1, e2, e3, e4, e5, e6, e7⟩ := option_split names _ hne (fun n hn => (hg n hn).1) h3 h4 h5
  simp only [parseComp, showComp, e1, e2, e3, e4, e5, e6, e7, h1, h2, if_true, Bool.false_eq_true, if_false]

example : parseComp (showComp ["grp/a".toList, "b".toList] ⟨COMP_CODE_DEFLATE, 6⟩) = some (2, ["grp/a".toList, "b".toList], ⟨4, 6⟩) := by decide +kernel

/-- a chunk request the usage text describes: `NONE`, or 1..32 (`H4_MAX_VAR_DIMS`) lengths, each 1 .. 99 999 999 -/
def GoodChunk (ck : Chunk) : Prop :=
  (ck.rank = -2 ∧ ck.lens = []) ∨
  (ck.lens ≠ [] ∧ ck.lens.length ≤ H4_MAX_VAR_DIMS ∧ ck.rank = (ck.lens.length : Nat) ∧ ∀ n ∈ ck.lens, 1 ≤ n ∧ n < 10 ^ 8)

/-- **parse_chunk round trip.** -/
theorem parse_chunk_roundtrip (names : List Str) (ck : Chunk) (hne : names ≠ [])
    (hg : ∀ n ∈ names, GoodName n ∧ ':' ∉ n) (hc : GoodChunk ck) :
    parseChunk (showChunk names ck) = some (names.length, names, ck) := by
  have hval : chunkValue (chunkValueStr ck) [] [] = some ck ∧ ':' ∉ chunkValueStr ck ∧ ',' ∉ chunkValueStr ck ∧ chunkValueStr ck ≠ [] := by
    obtain ⟨r, l⟩ := ck
    rcases hc with ⟨h1, h2⟩ | ⟨h1, hroom, h2, h3⟩ <;> simp only at h1 h2
    · subst h1; subst h2; decide
    · subst h2
      have hr : ¬ ((l.length : Int) = -2) := by omega
      simp only [chunkValueStr, hr, if_false]
      have := chunkValue_joinDims l [] h1 h3 (by simpa using hroom)
      simp only [List.nil_append] at this
      exact ⟨this, (joinDims_chars l).1, (joinDims_chars l).2, joinDims_ne_nil l h1⟩
  obtain ⟨h1, h3, h4, h5⟩ := hval
  obtain ⟨e1, e2, e3, e4, e5, e6, e7⟩ := option_split names _ hne (fun n hn => (hg n hn).1) h3 h4 h5
  simp only [parseChunk, showChunk, e1, e2, e3, e4, e5, e6, e7, h1, Bool.false_eq_true, if_false]

example : parseChunk (showChunk ["sds1".toList] ⟨3, [10, 200, 3]⟩) = some (1, ["sds1".toList], ⟨3, [10, 200, 3]⟩) := by decide +kernel
example : showChunk ["sds1".toList] ⟨3, [10, 200, 3]⟩ = "sds1:10x200x3".toList := by decide +kernel

/-- missing `:` -/
theorem parse_comp_rejects_no_colon (s : Str) (h : ':' ∉ s) : parseComp s = none := by
  unfold parseComp; rw [lastColon_none s h]

theorem parse_chunk_rejects_no_colon (s : Str) (h : ':' ∉ s) : parseChunk s = none := by
  unfold parseChunk; rw [lastColon_none s h]

/-- nothing after the (last) `:` -/
theorem parse_comp_rejects_empty_value (a : Str) : parseComp (a ++ [':']) = none := by
  unfold parseComp
  rw [lastColon_split a [] (by simp)]
  simp only [List.take_left']
  cases namesLoop a [] <;> simp

theorem parse_chunk_rejects_empty_value (a : Str) : parseChunk (a ++ [':']) = none := by
  unfold parseChunk
  rw [lastColon_split a [] (by simp)]
  simp only [List.take_left']
  cases namesLoop a [] <;> simp

/-- a coder name of `SCOMP_SZ` (10) characters or more is rejected instead of overflowing `scomp` (commit a29fdb9) -/
theorem comp_rejects_long_name : ∀ (nm sc rest : Str), (∀ c ∈ nm, c ≠ ' ') → SCOMP_SZ - 1 ≤ (sc ++ nm).length → rest ≠ [] →
    compValue (nm ++ rest) sc = none := by
  intro nm
  induction nm with
  | nil =>
    intro sc rest _ hl hr
    obtain ⟨y, ys, rfl⟩ := List.exists_cons_of_ne_nil hr
    have : sc.length ≥ SCOMP_SZ - 1 := by simpa using hl
    simp [compValue, this]
  | cons c cs ih =>
    intro sc rest hn hl hr
    by_cases hlen : sc.length ≥ SCOMP_SZ - 1
    · simp [compValue, hlen]
    · have hc := hn c (by simp)
      have hne : cs ++ rest ≠ [] := by simp [hr]
      obtain ⟨y, ys, hy⟩ := List.exists_cons_of_ne_nil hne
      rw [List.cons_append, hy]
      rw [compValue_cons]
      simp only [hlen, hc, if_false]
      rw [← hy]
      exact ih (sc ++ [c]) rest (fun x hx => hn x (by simp [hx])) (by simp at hl ⊢; omega) hr

/-- more than `STYPE_SZ`-1 (4) parameter digits, or a non-digit in the parameter, is rejected -/
theorem comp_rejects_bad_param (sc ds : Str) (h : ds.all Char.isDigit = false ∨ STYPE_SZ - 1 < ds.length) :
    compValue (' ' :: ds) sc = none := by
  rw [compValue_cons]
  by_cases hl : sc.length ≥ SCOMP_SZ - 1
  · exact if_pos hl
  · rw [if_neg hl, if_pos rfl]
    apply if_neg
    rw [Bool.and_eq_true, Bool.and_eq_true, decide_eq_true_eq]
    rintro ⟨⟨h1, h2⟩, -⟩
    rcases h with h | h
    · rw [h] at h1; cases h1
    · omega

-- the remaining rejection branches of `parse_comp`, one instance each
example : parseComp "a:LZW".toList = none := by decide +kernel               -- invalid compression type
example : parseComp "a:RLE 1".toList = none := by decide +kernel             -- extra parameter in RLE
example : parseComp "a:HUFF".toList = none := by decide +kernel              -- missing parameter (HUFF)
example : parseComp "a:GZIP".toList = none := by decide +kernel              -- missing parameter (GZIP)
example : parseComp "a:JPEG".toList = none := by decide +kernel              -- missing parameter (JPEG)
example : parseComp "a:HUFF 0".toList = none := by decide +kernel            -- invalid parameter (skip size <= 0)
example : parseComp "a:GZIP 10".toList = none := by decide +kernel           -- invalid parameter (level > 9)
example : parseComp "a:JPEG 101".toList = none := by decide +kernel          -- invalid parameter (quality > 100)
example : parseComp "a:SZIP 8,NN".toList = none := by decide +kernel         -- SZIP not available in this build
example : parseComp "a:GZIP 1x".toList = none := by decide +kernel           -- parameter not digit
example : parseComp "a:GZIP 12345".toList = none := by decide +kernel        -- parameter does not fit in stype[5]
example : parseComp "a:ABCDEFGHIJ".toList = none := by decide +kernel        -- name does not fit in scomp[10]
example : parseComp "a:NONE 7".toList = some (1, [['a']], ⟨0, 7⟩) := by decide +kernel  -- NOT rejected: NONE swallows a parameter
example : parseComp "a:GZIP ".toList = some (1, [['a']], ⟨4, 0⟩) := by decide +kernel   -- NOT rejected: empty parameter = 0
-- rejection branches of `parse_chunk`
example : parseChunk "a:2y2".toList = none := by decide +kernel              -- invalid character
example : parseChunk "a:2x0".toList = none := by decide +kernel              -- zero length
example : parseChunk "a:0".toList = none := by decide
example : parseChunk "a:NON".toList = none := by decide +kernel              -- atoi("NON") = 0
example : parseChunk "a:2x".toList = none := by decide +kernel               -- nothing after the last 'x' (chunk_rank unset before a29fdb9)
example : parseChunk "a:1234567890".toList = none := by decide +kernel       -- does not fit in sdim[10]
example : parseChunk "a:2xNONE".toList = some (1, [['a']], ⟨-2, []⟩) := by decide +kernel  -- NOT rejected
example : parseChunk "a:2N".toList = some (1, [['a']], ⟨1, [2]⟩) := by decide +kernel      -- NOT rejected: atoi stops at 'N'

/-- the values the statements below rely on, checked against the generated constants -/
theorem reserved_consts : reservedClasses.length = IS_RESERVED_NCLASSES ∧ reservedPrefix.length = IS_RESERVED_PREFIX_LEN := by decide

/-- `is_reserved` answers yes for exactly the listed names and for every string that begins with the chunk-table prefix -/
theorem isReserved_iff (c : Str) : isReserved c = true ↔ c ∈ reservedClasses ∨ reservedPrefix <+: c := by
  have hl : reservedPrefix.take IS_RESERVED_PREFIX_LEN = reservedPrefix := by decide
  have hn : IS_RESERVED_PREFIX_LEN = reservedPrefix.length := by decide
  unfold isReserved
  rw [Bool.or_eq_true, List.contains_iff_mem, hl, beq_iff_eq, hn, eq_comm, ← List.prefix_iff_eq_take]

theorem reserved_no_proper_prefix : ∀ n ∈ reservedClasses, ∀ m ∈ reservedClasses, n.isPrefixOf m = true → n = m := by decide

theorem reserved_head : ∀ n ∈ reservedClasses, n ≠ [] ∧ n.head? ≠ reservedPrefix.head? := by decide

theorem prefix_head {p c : Str} (h : p <+: c) (hp : p ≠ []) : c.head? = p.head? := by
  obtain ⟨t, rfl⟩ := h
  cases p with
  | nil => exact absurd rfl hp
  | cons a p' => rfl

/-- EXACT match: a reserved class name followed by anything at all is a user's class -/
theorem isReserved_suffix (n s : Str) (hn : n ∈ reservedClasses) (hs : s ≠ []) : isReserved (n ++ s) = false := by
  rw [Bool.eq_false_iff]
  intro h
  rcases (isReserved_iff _).1 h with hm | hp
  · have := reserved_no_proper_prefix n hn _ hm (List.isPrefixOf_iff_prefix.2 ⟨s, rfl⟩)
    have : n ++ s = n ++ [] := by simpa using this.symm
    exact hs (List.append_cancel_left this)
  · obtain ⟨hne, hh⟩ := reserved_head n hn
    have h1 := prefix_head hp (by decide)
    cases n with
    | nil => exact hne rfl
    | cons a n' => exact hh (by simpa using h1)

/-- a proper prefix of a reserved class name is a user's class -/
theorem isReserved_proper_prefix : ∀ n ∈ reservedClasses, ∀ k < n.length, isReserved (n.take k) = false := by decide

def lower (s : Str) : Str := s.map Char.toLower

theorem reserved_case_distinct : ∀ n ∈ reservedClasses, ∀ m ∈ reservedClasses, lower n = lower m → n = m := by decide

theorem reserved_lower_head : ∀ n ∈ reservedClasses, (lower n).head? ≠ (lower reservedPrefix).head? := by decide

/-- the comparison is case sensitive: a string that differs from a reserved name only in the case of letters is a user's class -/
theorem isReserved_other_case (n c : Str) (hn : n ∈ reservedClasses) (hc : c ≠ n) (hl : lower c = lower n) : isReserved c = false := by
  rw [Bool.eq_false_iff]
  intro h
  rcases (isReserved_iff _).1 h with hm | hp
  · exact hc (reserved_case_distinct c hm n hn hl)
  · obtain ⟨t, rfl⟩ := hp
    apply reserved_lower_head n hn
    rw [← hl]
    simp [lower, reservedPrefix, cstr, IS_RESERVED_PREFIX]

theorem isReserved_empty : isReserved [] = false := by decide

/-- an internal name in the NAME field does not make a vgroup internal (except `GR_NAME`), and never a vdata -/
theorem keepVgroup_of_user_class (name cls : Str) (hc : isReserved cls = false) (hn : name ≠ cstr GR_NAME_CHARS) : keepVgroup name cls = true := by
  simp [keepVgroup, hc, hn]

theorem keepVdata_of_user_class (lone : Bool) (cls : Str) (hc : isReserved cls = false) : keepVdata lone cls = true := by
  simp [keepVdata, hc]

theorem keepVdata_in_vgroup (cls : Str) : keepVdata false cls = true := by simp [keepVdata]

/-- a node hrepack must treat as the user's: class not reserved; a vgroup is not named like the GR vgroup -/
def UserNode (n : VNode) : Prop := isReserved n.cls = false ∧ (n.isVg = true → n.name ≠ cstr GR_NAME_CHARS)

theorem nodeKept_user (flags : List Bool) (n : VNode) (hu : UserNode n)
    (hp : ∀ p, n.parent = some p → flags.getD p false = true) : nodeKept flags n = true := by
  unfold nodeKept
  cases hpar : n.parent with
  | none =>
    cases hv : n.isVg with
    | true => simpa using keepVgroup_of_user_class _ _ hu.1 (hu.2 hv)
    | false => simpa using keepVdata_of_user_class true _ hu.1
  | some p =>
    have this : flags[p]?.getD false = true := by simpa [List.getD_eq_getElem?_getD] using hp p hpar
    cases hv : n.isVg with
    | true => simp [this, keepVgroup_of_user_class _ _ hu.1 (hu.2 hv)]
    | false => simp [this, keepVdata_in_vgroup]

theorem keptFlagsFrom_all (nodes : List VNode) : ∀ (k : Nat), (∀ n ∈ nodes, UserNode n) →
    (∀ i (h : i < nodes.length) p, nodes[i].parent = some p → p < k + i) →
    keptFlagsFrom nodes (List.replicate k true) = List.replicate (k + nodes.length) true := by
  induction nodes with
  | nil => intro k _ _; simp [keptFlagsFrom]
  | cons n ns ih =>
    intro k hu hp
    have hk : nodeKept (List.replicate k true) n = true := by
      apply nodeKept_user _ _ (hu n (by simp))
      intro p hpar
      have : p < k := by simpa using hp 0 (by simp) p (by simpa using hpar)
      simp [List.getD_eq_getElem?_getD, this]
    have hr : List.replicate k true ++ [true] = List.replicate (k + 1) true := by
      rw [List.replicate_succ', ]
    simp only [keptFlagsFrom, hk, hr]
    rw [ih (k + 1) (fun m hm => hu m (by simp [hm]))]
    · simp; omega
    · intro i h p hpar
      have := hp (i + 1) (by simpa using h) p (by simpa using hpar)
      omega

/-- every user vgroup and vdata is created in the output, whatever their names and classes look like, as long as no class
    is one `is_reserved` lists and no vgroup is named `GR_NAME` -/
theorem all_user_objects_copied (nodes : List VNode) (hu : ∀ n ∈ nodes, UserNode n)
    (hp : ∀ i (h : i < nodes.length) p, nodes[i].parent = some p → p < i) :
    keptFlags nodes = List.replicate nodes.length true := by
  have := keptFlagsFrom_all nodes 0 hu (by simpa using hp)
  simpa [keptFlags] using this

/-- and a vgroup whose class IS one of the listed names is left out, with everything reached only through it -/
theorem reserved_vgroup_dropped (flags : List Bool) (name cls : Str) (par : Option Nat) (h : isReserved cls = true) :
    nodeKept flags ⟨true, name, cls, par⟩ = false := by
  cases par <;> simp [nodeKept, keepVgroup, h]

theorem member_of_dropped_vgroup_dropped (flags : List Bool) (n : VNode) (p : Nat) (hp : n.parent = some p) (hf : flags.getD p false = false) :
    nodeKept flags n = false := by
  have hf' : flags[p]?.getD false = false := by simpa [List.getD_eq_getElem?_getD] using hf
  simp [nodeKept, hp, hf']

/-- the seeded family: classes that only BEGIN like an internal class -/
example : keptFlags [⟨true, "calibration".toList, "Var0.0.1".toList, none⟩, ⟨false, "coefficients".toList, "Coeff".toList, some 0⟩,
                     ⟨true, "lookup".toList, "CDF0.0-index".toList, some 0⟩, ⟨false, "lone_steps".toList, "DimVal0.12".toList, none⟩,
                     ⟨false, "lone_notes".toList, "Attr0.0_user".toList, none⟩, ⟨true, "Var0.0".toList, "var0.0".toList, none⟩,
                     ⟨true, "g".toList, "RIG0.".toList, some 5⟩, ⟨false, "v".toList, [], none⟩] = List.replicate 8 true := by decide
/-- and what is left out today (known finding `user-object-with-library-class-dropped`) -/
example : keptFlags [⟨true, "g".toList, "Var0.0".toList, none⟩, ⟨false, "m".toList, "x".toList, some 0⟩, ⟨true, "RIG0.0".toList, "mine".toList, none⟩,
                     ⟨false, "t".toList, "_HDF_CHK_TBL_7".toList, none⟩, ⟨false, "t2".toList, "Attr0.0".toList, some 2⟩] = [false, false, false, false, false] := by decide
example : UserNode ⟨true, "Attr0.0".toList, "RIATTR0.0N ".toList, none⟩ := ⟨by decide, fun _ => by decide⟩

example : isReserved ("Var0.0".toList ++ ".1".toList) = false := isReserved_suffix _ _ (by decide) (by decide)
example : isReserved "var0.0".toList = false := isReserved_other_case "Var0.0".toList _ (by decide) (by decide) (by decide)
example : isReserved ("DimVal0.0".toList.take 8) = false := isReserved_proper_prefix _ (by decide) 8 (by decide)
example : isReserved "_HDF_CHK_TBL_0".toList = true ∧ isReserved "_HDF_CHK_TBL".toList = false ∧ isReserved "RIATTR0.0C".toList = true := by decide

end H4.Props.C18
