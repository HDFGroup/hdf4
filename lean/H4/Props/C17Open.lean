import H4.Props.C17
import H4.DDOpen
import H4.Gen.Src
/-! # C17, the premise "default descriptor caching": the state of the file record at the start of the adding session

`H4.Props.C17.append_only_before_flush` holds from ANY state of an open file whose record has `cache = true`.
`append_only_after_open` discharges that hypothesis for a session that is the only user of the file (`hreopen`:
`Hclose` then `Hopen`, `cache = default_cache`).  Here it is discharged for a session whose `Hopen` finds the record of the
path ALREADY IN USE - a reader or a writer of the same process still has the file open (same entry of the file-id group,
`refcount > 1`), interfaces may be started on it, `Hcache` may have been called before.

Tie: `hopen_text` states the Tie-A fact about the text of `Hopen`; engine `crash` prints the flags of the real `filerec_t`
after each of these calls and at the first write of every session, `h4model` recomputes them with `OpenTab.step`. -/
namespace H4.Props.C17
open H4.DD

/-- Tie A: the text of `Hopen` has exactly one assignment to `file_rec->cache`, the statement `file_rec->cache = default_cache;` -/
theorem hopen_text : H4.Gen.Src.HOPEN_CACHE_IS_DEFAULT = true := by decide

/-- `static int default_cache = TRUE` -/
theorem default_cache_on : defaultCache = true := by decide

/-- **hopenAgain_keeps**: `Hopen` of a path whose record is in use keeps the invariant, every descriptor, `f_end_off` and the
    caching mode of the record -/
theorem hopenAgain_keeps (cfg : Cfg) {s : File} (h : Inv cfg s) (u : Bool) :
    Inv cfg (hopenAgain s u) ∧ (hopenAgain s u).slots = s.slots ∧ (hopenAgain s u).fEnd = s.fEnd ∧
      (hopenAgain s u).cache = s.cache := by
  unfold hopenAgain
  cases u with
  | false => exact ⟨h, rfl, rfl, rfl⟩
  | true =>
    obtain ⟨hi, hsl⟩ := hiSync_inv cfg h
    exact ⟨hi, hsl, hiSync_fEnd s, hiSync_cache s⟩

/-- the projection to the flags commutes with the second open: `OpenTab.step (.open w)` on a record in use is what `hopenAgain`
    does to `cache` -/
theorem hopenAgain_flags (s : File) (wr : Bool) (rc : Nat) (w : Bool) (t : OpenTab) (ht : t.frec = some (flagsOf s wr rc)) :
    (t.step (.open w)).frec = some (flagsOf (hopenAgain s (w && !wr)) (wr || w) (rc + 1)) := by
  unfold OpenTab.step
  rw [ht]
  simp only [flagsOf]
  have : (hopenAgain s (w && !wr)).cache = s.cache := by
    unfold hopenAgain; split
    · exact hiSync_cache s
    · rfl
  rw [this]

/-- **append_only_second_id**: a record in use with `cache = true` (whoever opened it first, read-only or for writing, whatever
    is pending) is opened through one more id and the adding calls of a session run: every physical write they issue
    starts at or beyond `f_end_off` of the record; caching stays on. -/
theorem append_only_second_id (cfg : Cfg) {s : File} (h : Inv cfg s) (hc : s.cache = true) (u : Bool) (ops : List Op)
    (hg : guarded cfg (hopenAgain s u) ops = true) (ha : addingOnly cfg (hopenAgain s u) ops = true) :
    ∃ s', (run cfg (hopenAgain s u) ops).2 = some s' ∧ s'.cache = true ∧
      ∃ ws, s'.chronLog = (hopenAgain s u).chronLog ++ ws ∧ ∀ w ∈ ws, s.fEnd ≤ w.off := by
  obtain ⟨hi, _, hf, hca⟩ := hopenAgain_keeps cfg h u
  obtain ⟨s', hs', hc', ws, hl, hw⟩ := append_only_before_flush cfg hi (by rw [hca, hc]) ops hg ha
  exact ⟨s', hs', hc', ws, hl, fun w hw' => by rw [← hf]; exact hw w hw'⟩

/-- `Hopen` of a record in use on which nothing is pending writes nothing -/
theorem hopenAgain_log_clean {s : File} (hcl : ∀ b ∈ s.blocks, b.dirty = false) (u : Bool) :
    (hopenAgain s u).log = s.log := by
  unfold hopenAgain
  cases u with
  | false => rfl
  | true =>
    simp only [if_true]
    unfold hiSync
    split
    · show (htpSync s).log = s.log
      unfold htpSync
      simp [syncWrites_clean s.blocks hcl]
    · rfl

/-- **append_only_reader_first**: the file is opened by one id (`Hopen`: the directory is read, nothing pending, the log is
    empty) and then once more for the adding session (with or without the upgrade to write access).  `f_end_off` at the
    first open bounds every stored descriptor block and element extent, and EVERY physical write up to the end of the
    adding calls - the second `Hopen` included - starts at or beyond it. -/
theorem append_only_reader_first (cfg : Cfg) {s s0 : File} (h : Inv cfg s) (ho : hreopen cfg s = some s0) (u : Bool) (ops : List Op)
    (hg : guarded cfg (hopenAgain s0 u) ops = true) (ha : addingOnly cfg (hopenAgain s0 u) ops = true) :
    ExtOK s0 ∧ ∃ s', (run cfg (hopenAgain s0 u) ops).2 = some s' ∧ s'.cache = true ∧ ∀ w ∈ s'.chronLog, s0.fEnd ≤ w.off := by
  obtain ⟨hinv0, hext, hc0, hcl, hl0, _⟩ := open_end_bounds cfg h ho
  have hc : s0.cache = true := by rw [hc0]; decide
  obtain ⟨s', hs', hc', ws, hl, hw⟩ := append_only_second_id cfg hinv0 hc u ops hg ha
  refine ⟨hext, s', hs', hc', ?_⟩
  intro w hwm
  rw [hl] at hwm
  unfold File.chronLog at hwm
  rw [hopenAgain_log_clean hcl u, hl0] at hwm
  simp at hwm
  exact hw w hwm

/-- the invariant: `default_cache` is on and the record, if there is one, has caching on -/
def CacheOn (t : OpenTab) : Prop := t.defCache = true ∧ ∀ r, t.frec = some r → r.cache = true

theorem step_cacheOn (t : OpenTab) (op : OOp) (hop : op.turnsOff = false) (h : CacheOn t) : CacheOn (t.step op) := by
  obtain ⟨hd, hr⟩ := h
  cases op with
  | «open» w =>
    cases hrec : t.frec with
    | none =>
      have e : t.step (.open w) = { t with frec := some { refcount := 1, write := w, cache := t.defCache } } := by
        simp [OpenTab.step, hrec]
      rw [e]
      exact ⟨hd, fun r hr' => by cases hr'; exact hd⟩
    | some r0 =>
      have e : t.step (.open w) = { t with frec := some { r0 with refcount := r0.refcount + 1, write := r0.write || w } } := by
        simp [OpenTab.step, hrec]
      rw [e]
      exact ⟨hd, fun r hr' => by cases hr'; exact hr r0 hrec⟩
  | close =>
    cases hrec : t.frec with
    | none =>
      have e : t.step .close = t := by simp [OpenTab.step, hrec]
      rw [e]; exact ⟨hd, hr⟩
    | some r0 =>
      by_cases hle : r0.refcount ≤ 1
      · have e : t.step .close = { t with frec := none } := by simp [OpenTab.step, hrec, hle]
        rw [e]; exact ⟨hd, fun r hr' => by cases hr'⟩
      · have e : t.step .close = { t with frec := some { r0 with refcount := r0.refcount - 1 } } := by
          simp [OpenTab.step, hrec, hle]
        rw [e]; exact ⟨hd, fun r hr' => by cases hr'; exact hr r0 hrec⟩
  | cache on =>
    cases on with
    | false => simp [OOp.turnsOff] at hop
    | true =>
      cases hrec : t.frec with
      | none =>
        have e : t.step (.cache true) = t := by simp [OpenTab.step, hrec]
        rw [e]; exact ⟨hd, hr⟩
      | some r0 =>
        have e : t.step (.cache true) = { t with frec := some { r0 with cache := true } } := by simp [OpenTab.step, hrec]
        rw [e]; exact ⟨hd, fun r hr' => by cases hr'; rfl⟩
  | cacheAll on =>
    cases on with
    | false => simp [OOp.turnsOff] at hop
    | true => exact ⟨rfl, hr⟩

/-- **cache_default_unless_switched_off**: from a table where caching is on, along every sequence of `Hopen` (read-only or for
    writing, record in use or not) / `Hclose` / `Hcache(id, TRUE)` / `Hcache(CACHE_ALL_FILES, TRUE)` calls caching is on for
    the record whenever it exists -/
theorem cache_default_unless_switched_off (ops : List OOp) : ∀ (t : OpenTab), CacheOn t → (∀ op ∈ ops, op.turnsOff = false) →
    CacheOn (t.run ops) := by
  induction ops with
  | nil => intro t h _; exact h
  | cons op rest ih =>
    intro t h hops
    unfold OpenTab.run
    simp only [List.foldl_cons]
    exact ih (t.step op) (step_cacheOn t op (hops op (by simp)) h) (fun o ho => hops o (by simp [ho]))

/-- **session_cache_on**: from the start of the process (`default_cache` as compiled, no record), after any such sequence of
    calls, the session's own `Hopen` for writing yields a record with `cache = true` - the hypothesis of
    `append_only_before_flush` / `append_only_second_id` - whether it finds the record in use (by a reader or a writer) or not -/
theorem session_cache_on (ops : List OOp) (hops : ∀ op ∈ ops, op.turnsOff = false) :
    ∃ r, (((({} : OpenTab).run ops).step (.open true)).frec = some r) ∧ r.cache = true ∧ r.write = true ∧ 0 < r.refcount := by
  have h0 : CacheOn ({} : OpenTab) := ⟨default_cache_on, fun r hr => by cases hr⟩
  have h1 := cache_default_unless_switched_off ops {} h0 hops
  have h2 := step_cacheOn _ (.open true) rfl h1
  generalize ({} : OpenTab).run ops = t at *
  cases hrec : t.frec with
  | none =>
    have e : t.step (.open true) = { t with frec := some { refcount := 1, write := true, cache := t.defCache } } := by
      simp [OpenTab.step, hrec]
    rw [e] at h2 ⊢
    exact ⟨_, rfl, h2.2 _ rfl, rfl, Nat.lt_succ_self 0⟩
  | some r0 =>
    have e : t.step (.open true) = { t with frec := some { r0 with refcount := r0.refcount + 1, write := r0.write || true } } := by
      simp [OpenTab.step, hrec]
    rw [e] at h2 ⊢
    exact ⟨_, rfl, h2.2 _ rfl, by simp, Nat.succ_pos _⟩

/-- a reader first, then the session's open for writing: same record, `refcount = 2`, write access, caching on -/
example : (((({} : OpenTab).run [.open false]).step (.open true)).frec) = some ⟨2, true, true⟩ := by decide
/-- … also through an earlier session that was closed again, an idle writer and an `Hcache` off/on cycle on a reader -/
example : (((({} : OpenTab).run [.open false, .close, .open true, .open false, .cache false, .cache true]).step (.open true)).frec)
    = some ⟨3, true, true⟩ := by decide
/-- the hypothesis is needed: after `Hcache(id, FALSE)` the session does run uncached (outside the property) -/
example : (((({} : OpenTab).run [.open false, .cache false]).step (.open true)).frec) = some ⟨2, true, false⟩ := by decide
/-- the hypotheses of `session_cache_on` on a concrete non-trivial history -/
example : ∀ op ∈ [OOp.open false, .open false, .close, .cacheAll true, .cache true, .open true, .close], op.turnsOff = false := by decide

/-- `append_only_reader_first` on a concrete history: a file with `ndds = 4` holding 3 elements, opened by a reader, then opened
    for writing by the session (upgrade), 5 new descriptors (a new DD block): all 8 writes lie at or beyond the old `f_end_off` -/
example : (let s0 := (run currentCfg (hopenCreate currentCfg 4) [.put 100 1 4, .put 100 2 4, .put 100 3 4, .reopen]).2.get!
    let s1 := hopenAgain s0 true
    let s := (run currentCfg s1 [.put 101 1 3, .put 101 2 3, .dup 101 3 101 1, .put 101 4 1, .put 101 5 1]).2.get!
    (guarded currentCfg s1 [.put 101 1 3, .put 101 2 3, .dup 101 3 101 1, .put 101 4 1, .put 101 5 1] &&
     addingOnly currentCfg s1 [.put 101 1 3, .put 101 2 3, .dup 101 3 101 1, .put 101 4 1, .put 101 5 1] &&
     s.cache && s.chronLog.all (fun w => decide (s0.fEnd ≤ w.off)), s.chronLog.length)) = (true, 8) := by decide +kernel

end H4.Props.C17
