import H4.Lemmas.FormatWF
import H4.Lemmas.FormatDesc
import H4.Lemmas.VGroupCodec
import H4.Props.C05
/-! # C02 — every file the library closes is a well-formed, independently readable HDF4 file (property theorems)

Two families.

**Codec laws** for every record format for which the independent reader `H4.Format` defines an encoder next to its
decoder: the decoder inverts the encoder on every value the record can hold (all uint16 / uint32 / int16 / int32 field
values).  These are what make the reader a *reader of the documented layout*: a writer that follows the layout is read back
exactly.

**Structural theorems** about the reader as a decision procedure: whatever `decodeFile` accepts satisfies `WFFile` (the
clauses of the property: magic, acyclic in-bounds chain of descriptor blocks that is exactly what the bytes say, no tag 0,
no duplicate tag/ref, every extent inside the file, no overlap unless equal extents), and the chain walk needs no more fuel
than the file has bytes.  For the old-style descriptive records (`DFTAG_NT`, `DFTAG_SDD`, `DFTAG_ID` / `DFTAG_LD`) that the DFSD / DFR8 /
DF24 / DFGR interfaces define and the SD and GR interfaces keep up to date: whatever `decodeFile` accepts has, in every `DFTAG_NDG` /
`DFTAG_SDG` / `DFTAG_RIG` group, dimension records that decode, name well-formed number types and describe EXACTLY as many bytes as the
data element of the same group holds (`sdd_consistent`, `id_consistent`).

The per-file part of the property (V/SD/GR/AN writers emit consistent cross references; the library reads the same content;
the raw-location queries agree) is translation validation: engine `fmt` (harness/e_fmt.c) runs `h4model read` on every file. -/
namespace H4.Props.C02
open H4.Format H4.Gen.Hdf

/-- 16-bit fields: decode ∘ encode = id for all 65536 values -/
theorem be16_roundtrip (n : Nat) (h : n < 65536) (r : Bytes) : get16 (enc16 n ++ r) = some (n, r) := get16_enc16 n h r
/-- 32-bit fields: decode ∘ encode = id for all 2^32 values -/
theorem be32_roundtrip (n : Nat) (h : n < 4294967296) (r : Bytes) : get32 (enc32 n ++ r) = some (n, r) := get32_enc32 n h r
/-- signed 32-bit fields (offset, length, …): all of int32 -/
theorem s32_roundtrip (i : Int) (h1 : -2147483648 ≤ i) (h2 : i < 2147483648) (r : Bytes) :
    getS32 (encS32 i ++ r) = some (i, r) := getS32_encS32 i ⟨h1, h2⟩ r
/-- signed 16-bit fields: all of int16 -/
theorem s16_roundtrip (i : Int) (h1 : -32768 ≤ i) (h2 : i < 32768) (r : Bytes) :
    getS16 (encS16 i ++ r) = some (i, r) := getS16_encS16 i ⟨h1, h2⟩ r

/-- the other direction: encode ∘ decode = id on every pair of bytes -/
theorem enc16_be16 (a b : UInt8) : enc16 (be16 a b) = [a, b] := by
  obtain ⟨h1, h2⟩ := ofNat_mul_add a.toNat b
  simp only [enc16, be16, h1, h2, UInt8.ofNat_toNat]

/-- encode ∘ decode = id on every four bytes -/
theorem enc32_be32 (a b c d : UInt8) : enc32 (be32 a b c d) = [a, b, c, d] := by
  obtain ⟨h1, h2⟩ := ofNat_mul_add ((a.toNat * 256 + b.toNat) * 256 + c.toNat) d
  obtain ⟨h3, h4⟩ := ofNat_mul_add (a.toNat * 256 + b.toNat) c
  obtain ⟨h5, h6⟩ := ofNat_mul_add a.toNat b
  simp only [enc32, be32, show (16777216 : Nat) = 256 * 256 * 256 from rfl, show (65536 : Nat) = 256 * 256 from rfl,
    ← Nat.div_div_eq_div_mul, h1, h2, h3, h4, h5, h6, UInt8.ofNat_toNat]

example : get32 (enc32 0xfffffffe ++ [7]) = some (0xfffffffe, [7]) := by decide
example : getS32 (encS32 (-1)) = some (-1, []) := by decide

/-- data descriptor: every tag, ref (uint16) and offset, length (int32, including the -1 of an element that was
    created but never written) -/
theorem decodeDD_encodeDD (d : DD) (h : d.InRange) : decodeDD (encodeDD d) = some d := H4.Format.decodeDD_encodeDD d h
example : (⟨1963, 8, -1, -1⟩ : DD).InRange := by unfold DD.InRange; decide
example : decodeDD (encodeDD ⟨17386, 65535, 2147483647, -2147483648⟩) = some ⟨17386, 65535, 2147483647, -2147483648⟩ := by decide

/-- DD block header (number of descriptors, offset of the next block) -/
theorem decodeBlockHdr_encodeBlockHdr (h : BlockHdr) (w : h.InRange) : decodeBlockHdr (encodeBlockHdr h) = some h :=
  decodeBlockHdr_encode h w
example : (⟨16, 0⟩ : BlockHdr).InRange := by unfold BlockHdr.InRange; decide

/-- the descriptor array of a DD block of any size -/
theorem decodeDDs_encodeDDs (l : List DD) (h : ∀ d ∈ l, d.InRange) : decodeDDs l.length (encodeDDs l) = some l :=
  H4.Format.decodeDDs_encodeDDs l h
example : decodeDDs 2 (encodeDDs [⟨30, 1, 58, 92⟩, ⟨1, 0, -1, -1⟩]) = some [⟨30, 1, 58, 92⟩, ⟨1, 0, -1, -1⟩] := by decide

/-- linked-block description record -/
theorem decodeLBDR_encodeLBDR (h : LBDR) (w : h.InRange) : decodeLBDR (encodeLBDR h) = some h := decodeLBDR_encode h w
example : (⟨200, 64, 3, 1⟩ : LBDR).InRange := by unfold LBDR.InRange S32; decide

/-- linked-block table with any number of block references -/
theorem decodeLinkTable_encodeLinkTable (t : LinkTable) (w : t.InRange) :
    decodeLinkTable t.refs.length (encodeLinkTable t) = some t := decodeLinkTable_encode t w
example : decodeLinkTable 3 (encodeLinkTable ⟨5, [2, 0, 4]⟩) = some ⟨5, [2, 0, 4]⟩ := by decide

/-- external element description record (any file name) -/
theorem decodeExtHdr_encodeExtHdr (h : ExtHdr) (w : h.InRange) : decodeExtHdr (encodeExtHdr h) = some h := decodeExtHdr_encode h w
example : decodeExtHdr (encodeExtHdr ⟨300, 17, [0x61, 0x2e, 0x64]⟩) = some ⟨300, 17, [0x61, 0x2e, 0x64]⟩ := by decide

/-- model/coder part of a compression header, for EVERY coder (none, rle, nbit, skphuff, deflate, szip, parameterless others),
    followed by arbitrary bytes -/
theorem decodeCoderInfo_encodeCoderInfo (c : CoderInfo) (h : c.InRange) (r : Bytes) :
    decodeCoderInfo (encodeCoderInfo c ++ r) = some (c, r) := decodeCoderInfo_encode c h r

/-- compressed element description record, for every coder -/
theorem decodeCompHdr_encodeCompHdr (h : CompHdr) (w : h.InRange) : decodeCompHdr (encodeCompHdr h) = some h :=
  decodeCompHdr_encode h w
example : decodeCompHdr (encodeCompHdr ⟨0, 2000, 1, ⟨0, .rle⟩⟩) = some ⟨0, 2000, 1, ⟨0, .rle⟩⟩ := by decide
example : decodeCompHdr (encodeCompHdr ⟨0, 1500, 2, ⟨0, .deflate 6⟩⟩) = some ⟨0, 1500, 2, ⟨0, .deflate 6⟩⟩ := by decide
example : decodeCompHdr (encodeCompHdr ⟨0, 9, 3, ⟨0, .nbit 21 0 1 6 5⟩⟩) = some ⟨0, 9, 3, ⟨0, .nbit 21 0 1 6 5⟩⟩ := by decide
example : decodeCompHdr (encodeCompHdr ⟨0, 9, 3, ⟨0, .skphuff 4 4⟩⟩) = some ⟨0, 9, 3, ⟨0, .skphuff 4 4⟩⟩ := by decide
example : decodeCompHdr (encodeCompHdr ⟨0, 9, 3, ⟨0, .szip 16 8 137 8 4⟩⟩) = some ⟨0, 9, 3, ⟨0, .szip 16 8 137 8 4⟩⟩ := by decide

/-- chunked element description record: any rank, any fill value, with and without the compression header -/
theorem decodeChunkHdr_encodeChunkHdr (h : ChunkHdr) (w : h.InRange) : decodeChunkHdr (encodeChunkHdr h) = some h :=
  decodeChunkHdr_encode h w
example : decodeChunkHdr (encodeChunkHdr ⟨61, 0, 3, 90, 16, 4, 1962, 25, 1, 0, [⟨1, 10, 4⟩, ⟨1, 9, 4⟩], [0, 0, 0, 0], some ⟨0, .deflate 3⟩⟩) =
    some ⟨61, 0, 3, 90, 16, 4, 1962, 25, 1, 0, [⟨1, 10, 4⟩, ⟨1, 9, 4⟩], [0, 0, 0, 0], some ⟨0, .deflate 3⟩⟩ := by decide +kernel

/-- Vdata header: `vunpackvs (vpackvs v) = some v` for every header `vpackvs` can represent (any number of fields and
    attributes, version 3 without and version 4 with the flags word, the historical extra byte included) -/
theorem vunpackvs_vpackvs (v : VH) (h : v.WF) : vunpackvs (vpackvs v) = some v := H4.Format.vunpackvs_vpackvs v h
example : vunpackvs (vpackvs ⟨0, 20, 12, [⟨24, 4, 0, 1, [0x61]⟩, ⟨5, 8, 4, 2, [0x62]⟩], [0x74], [0x63], 0, 0, 4, 0, 1, [⟨-1, 1962, 9⟩, ⟨1, 1962, 10⟩]⟩) =
    some ⟨0, 20, 12, [⟨24, 4, 0, 1, [0x61]⟩, ⟨5, 8, 4, 2, [0x62]⟩], [0x74], [0x63], 0, 0, 4, 0, 1, [⟨-1, 1962, 9⟩, ⟨1, 1962, 10⟩]⟩ := by decide +kernel

/-- Vgroup record, for the independent reader's own `vunpackvg` against the layout `vpackvg` writes -/
theorem vunpackvg_vpackvg (g : VG) (h : g.WF) : H4.Format.vunpackvg (H4.Format.vpackvg g) = some g := H4.Format.vunpackvg_vpackvg g h
example : H4.Format.vunpackvg (H4.Format.vpackvg ⟨[(1962, 7), (1000, 1)], [0x67], [], 0, 0, 4, 0, 1, [(1962, 11)]⟩) =
    some ⟨[(1962, 7), (1000, 1)], [0x67], [], 0, 0, 4, 0, 1, [(1962, 11)]⟩ := by decide

/-- the Vgroup codec law of the WRITER's model (C08, `H4/VGroup.lean`), cited here: it is the same layout -/
theorem vgroup_writer_model_roundtrip (g : H4.VGroup.VG) (h : g.WFmem) :
    H4.VGroup.vunpackvg (H4.VGroup.vpackvg g) = some g.norm := H4.VGroup.vunpackvg_vpackvg g h

/-- version record -/
theorem decodeVersion_encodeVersion (v : Version) (h : v.WF) : decodeVersion (encodeVersion v) = some v := decodeVersion_encode v h

/-- number type record: every version / type / width / class byte -/
theorem decodeNT_encodeNT (n : NT) (h : n.InRange) : decodeNT (encodeNT n) = some n := decodeNT_encode n h
/-- and the other direction: a 4-byte element is the record of exactly the number type it decodes to -/
theorem encodeNT_decodeNT (b : Bytes) (n : NT) (h : decodeNT b = some n) : encodeNT n = b := encodeNT_decode b n h
example : decodeNT (encodeNT ⟨1, 24, 32, 1⟩) = some ⟨1, 24, 32, 1⟩ := by decide +kernel
example : decodeNT [1, 24, 32] = none := by decide +kernel

/-- dimension record of a scientific data set: any rank (uint16), every int32 dimension size, every tag/ref of the rank + 1
    number types -/
theorem decodeSDD_encodeSDD (s : SDD) (h : s.InRange) : decodeSDD (encodeSDD s) = some s := decodeSDD_encode s h
/-- its length is the one `DFSDIputndg` / `hdf_write_var` compute -/
theorem encodeSDD_length (s : SDD) (h : s.scaleNTs.length = s.dims.length) :
    (encodeSDD s).length = 2 + 4 * s.dims.length + 4 * (s.dims.length + 1) := H4.Format.encodeSDD_length s h
example : (⟨[2147483647, 0, 7], (106, 5), [(106, 5), (106, 5), (106, 65535)]⟩ : SDD).InRange := by
  unfold SDD.InRange S32; decide
example : decodeSDD (encodeSDD ⟨[5, 4], (106, 3), [(106, 3), (106, 3)]⟩) = some ⟨[5, 4], (106, 3), [(106, 3), (106, 3)]⟩ := by decide +kernel
/-- a record that is cut short, or has bytes left over, is not a dimension record -/
example : decodeSDD ((encodeSDD ⟨[5, 4], (106, 3), [(106, 3), (106, 3)]⟩).dropLast) = none := by decide +kernel
example : decodeSDD (encodeSDD ⟨[5, 4], (106, 3), [(106, 3), (106, 3)]⟩ ++ [0]) = none := by decide +kernel

/-- image / palette / matte dimension record: every int32 size, int16 component count and interlace, uint16 tag/refs -/
theorem decodeImgDesc_encodeImgDesc (d : ImgDesc) (h : d.InRange) : decodeImgDesc (encodeImgDesc d) = some d :=
  decodeImgDesc_encode d h
example : (⟨256, 1, 0, 0, 3, 0, 0, 0⟩ : ImgDesc).InRange := by unfold ImgDesc.InRange S32 S16; decide
example : decodeImgDesc (encodeImgDesc ⟨12, 7, 106, 2, 3, 2, 11, 2⟩) = some ⟨12, 7, 106, 2, 3, 2, 11, 2⟩ := by decide +kernel

/-- label / unit / format records: any number of strings that do not contain the terminator -/
theorem decodeStrs_encodeStrs (l : List Bytes) (h : ∀ s ∈ l, (0 : UInt8) ∉ s) : decodeStrs (encodeStrs l) = some l :=
  decodeStrs_encode l h
example : decodeStrs (encodeStrs [[0x61, 0x62], [], [0x63]]) = some [[0x61, 0x62], [], [0x63]] := by decide +kernel
example : decodeStrs [0x61, 0, 0x62] = none := by decide +kernel

/-- the reader expands RLE payloads with `rleTake`, which stops after the uncompressed length (stale bytes may follow the
    packets of a rewritten element).  On every stream the decoder of C05 accepts — in particular on everything the
    encoder writes, by `H4.Props.C05.rle_roundtrip` — it returns exactly the first `n` bytes of that decoder's output. -/
theorem rleTake_eq_dec (s out : List UInt8) (n : Nat) (h : H4.Rle.dec s = some out) (hn : n ≤ out.length) :
    rleTake n s = some (out.take n) := H4.Format.rleTake_eq_dec s out n h hn

/-- hence: reading back what the library's encoder wrote for `bs` (followed by nothing) gives `bs` -/
theorem rleTake_compress (bs : List UInt8) : rleTake bs.length (H4.Rle.compress bs) = some bs := by
  have := H4.Format.rleTake_eq_dec _ _ bs.length (H4.Props.C05.rle_roundtrip bs) (Nat.le_refl _)
  simpa using this

/-- the case found by the engine: a run packet followed by the stale tail of an older, longer stream -/
example : rleTake 20 [0x91, 0x07, 0xec, 0xed, 0xee] = some (List.replicate 20 0x07) := by decide

/-- the clauses of the property that concern the file structure, stated on the bytes `b` and the content `c` the reader returned -/
structure WFFile (b : ByteArray) (c : FileContent) : Prop where
  /-- magic number `0e 03 13 01` -/
  magic : magicOK b = true
  size_eq : c.size = b.size
  /-- the chain starts right after the magic number … -/
  chain_head : c.blocks.head?.map (·.off) = some MAGICLEN
  /-- … every block names its successor, the last one has next = 0 … -/
  chain_linked : LinkedP c.blocks
  /-- … no block offset occurs twice (acyclic) … -/
  chain_acyclic : (c.blocks.map (·.off)).Nodup
  /-- … every block has at least one descriptor and lies inside the file … -/
  chain_inbounds : ∀ k ∈ c.blocks, 0 < k.ndds ∧ k.off + (NDDS_SZ + OFFSET_SZ) + DD_SZ * k.ndds ≤ b.size ∧ k.dds.length = k.ndds
  /-- … and is exactly what the bytes at its offset decode to -/
  chain_faithful : ∀ k ∈ c.blocks, readBlock b k.off = .ok k
  /-- the descriptors are the non-NULL descriptors of the chain, in file order -/
  dds_eq : c.dds = liveDDs c.blocks
  /-- tag 0 and ref 0 do not occur -/
  tags : ∀ d ∈ c.dds, d.tag ≠ 0 ∧ d.ref ≠ 0
  /-- no two descriptors name the same object (a tag and its special version are the same object) -/
  nodup : c.dds.Pairwise (fun x y => ¬ (baseTag x.tag = baseTag y.tag ∧ x.ref = y.ref))
  /-- every extent is the documented "not written yet" pair (-1, -1) or lies inside the file -/
  extents : ∀ d ∈ c.dds, (d.off = -1 ∧ d.len = -1) ∨ (0 ≤ d.off ∧ 0 ≤ d.len ∧ d.off + d.len ≤ (b.size : Int))
  /-- file header, DD blocks and non-empty elements do not overlap, except elements with EQUAL extents (`Hdupdd` aliases) -/
  nooverlap : (regions c.blocks c.dds).Pairwise (fun x y =>
    x.off + x.len ≤ y.off ∨ y.off + y.len ≤ x.off ∨ (x.elem = true ∧ y.elem = true ∧ x.off = y.off ∧ x.len = y.len))
  /-- every descriptor was read as an element (special headers, block tables, chunk tables, … all resolved) -/
  elems_dds : c.elems.map (·.dd) = c.dds
  /-- every member and every attribute of every Vgroup names an existing descriptor (or a declared virtual tag) -/
  vg_xref : ∀ p ∈ c.vgs, (∀ m ∈ p.2.members, m.1 ∈ virtualTags ∨ (findDD c.dds m.1 m.2).isSome = true) ∧
    (∀ m ∈ p.2.attrs, (findDD c.dds m.1 m.2).isSome = true)
  /-- every attribute of every Vdata names an existing descriptor -/
  vh_xref : ∀ p ∈ c.vhs, ∀ a ∈ p.2.attrs, (findDD c.dds a.atag a.aref).isSome = true
  /-- the old-style descriptive records raise no complaint: every number type, dimension record and image dimension record named by a
      `DFTAG_NDG` / `DFTAG_SDG` / `DFTAG_RIG` group or a `Var0.0` / `RI0.0` Vgroup decodes and agrees with the length of the data element
      of the same group (`sdd_consistent` below spells this out for data sets) -/
  desc : descComplaints c.elems c.vgs = []

/-- **soundness of the reader as a decision procedure**: every file `decodeFile` accepts is well formed -/
theorem decodeFile_wf (b : ByteArray) (c : FileContent) (h : decodeFile b = .ok c) : WFFile b c := by
  obtain ⟨raw, hr, -, -, e1, e2, e3, hfin, hdesc⟩ := decodeFile_ok h
  obtain ⟨f1, f2, f3⟩ := (finalOK_iff c).mp hfin
  obtain ⟨blocks, hc, k1, k2, k3, k4, k5, rfl⟩ := readRaw_ok hr
  obtain ⟨hm, hw⟩ := readChain_ok hc
  simp only at e1 e2 e3
  obtain ⟨c1, c2, c3, c4⟩ := (chainOK_iff _ _).mp k1
  have hinv := (walk_spec b _ _ _ (walkInv_nil b)).1 _ hw
  refine ⟨hm, e1, ?_, ?_, ?_, ?_, ?_, by rw [e2, e3], ?_, ?_, ?_, ?_, f1, f2, f3, hdesc⟩
  · rw [e2]; exact c1
  · rw [e2]; exact c2
  · rw [e2]; exact c4
  · rw [e2]; exact c3
  · rw [e2]; exact fun k hk => hinv.1 k (List.mem_reverse.mpr hk)
  · rw [e3]; exact (tagsOK_iff _).mp k2
  · rw [e3]; exact (noDupKeys_iff _).mp k3
  · rw [e3]; exact (extentsOK_iff _ _).mp k4
  · rw [e2, e3]; exact (noOverlap_iff _).mp k5

/-- **an accepted file's dimension records are consistent with its data**: for every `DFTAG_NDG` / `DFTAG_SDG` group of a file the
    reader accepts and every `DFTAG_SDD` the group names that is in the file: the record decodes (rank, sizes, rank + 1 number types),
    no size is negative, the data's and every scale's number type is a well-formed 4-byte `DFTAG_NT` of a type `DFKNTsize` knows, and
    when the group names a data element `DFTAG_SD` that has been written then
    `product(sizes) · size(number type) = logical length of that element`.
    This is the clause a record variable's SDD that claims the file-wide record count violates. -/
theorem sdd_consistent (b : ByteArray) (c : FileContent) (h : decodeFile b = .ok c)
    (e : Elem) (he : e ∈ c.elems) (htag : e.dd.tag = H4.Gen.Hdf.DFTAG_NDG ∨ e.dd.tag = DFTAG_SDG)
    (ms : List (Nat × Nat)) (hms : (e.ldata.data.map (·.toList)).bind decodeGroup = some ms)
    (r : Nat) (hr : (DFTAG_SDD, r) ∈ ms) (se : Elem) (hse : elemOf c.elems DFTAG_SDD r = some se) :
    ∃ bs s sz, se.ldata.data.map (·.toList) = some bs ∧ decodeSDD bs = some s ∧ (∀ d ∈ s.dims, 0 ≤ d) ∧
      (∃ w, checkNT c.elems w s.dataNT.1 s.dataNT.2 = ([], some sz)) ∧
      (∀ p ∈ s.scaleNTs, ∃ w sz', checkNT c.elems w p.1 p.2 = ([], some sz')) ∧
      (∀ dt dr de, memberOf ms [DFTAG_SD] = some (dt, dr) → writtenElem c.elems DFTAG_SD dr = some de →
        de.ldata.len = prod (s.dims.map (·.toNat)) * sz) := by
  have h0 := elemComplaints_nil (decodeFile_desc h) he
  unfold elemComplaints at h0
  rw [if_pos htag, hms] at h0
  exact checkSDD_sound (checkSDD_nil h0 hr) hse

/-- **an accepted file's image dimension records are consistent with its pixels**: for every `DFTAG_RIG` group of a file the reader
    accepts and every `DFTAG_ID` the group names that is in the file: the record decodes (20 bytes), sizes ≥ 0, components ≥ 1,
    interlace 0..2, and for an image without one of the old raster compression schemes the image element of the group is either
    without pixels (length 0) or holds exactly xdim · ydim · components · size(number type) bytes -/
theorem id_consistent (b : ByteArray) (c : FileContent) (h : decodeFile b = .ok c)
    (e : Elem) (he : e ∈ c.elems) (htag : e.dd.tag = DFTAG_RIG)
    (ms : List (Nat × Nat)) (hms : (e.ldata.data.map (·.toList)).bind decodeGroup = some ms)
    (r : Nat) (hr : (DFTAG_ID, r) ∈ ms) (ie : Elem) (hie : elemOf c.elems DFTAG_ID r = some ie) :
    ∃ bs d, ie.ldata.data.map (·.toList) = some bs ∧ decodeImgDesc bs = some d ∧
      0 ≤ d.xdim ∧ 0 ≤ d.ydim ∧ 1 ≤ d.ncomps ∧ 0 ≤ d.interlace ∧ d.interlace ≤ 2 ∧
      ((d.compTag = 0 ∨ d.compTag = DFTAG_NULL) → ∃ w sz, imgNT c.elems w d = ([], some sz) ∧
        ∀ dt dr de, memberOf ms [DFTAG_RI, DFTAG_CI] = some (dt, dr) → writtenElem c.elems dt dr = some de →
          de.ldata.len = d.xdim.toNat * d.ydim.toNat * d.ncomps.toNat * sz ∨ de.ldata.len = 0) := by
  have h0 := elemComplaints_nil (decodeFile_desc h) he
  unfold elemComplaints at h0
  have hn : ¬ (e.dd.tag = H4.Gen.Hdf.DFTAG_NDG ∨ e.dd.tag = DFTAG_SDG) := by rw [htag]; decide
  rw [if_neg hn, if_pos htag, hms] at h0
  exact checkImgDesc_sound (checkImgDesc_nil h0 hr) hie

/-- an 8-bit image of 3 x 2 pixels with its RIG: accepted with 6 bytes of pixels and without pixels, rejected (clause `id`) with 5 -/
def rigElems (pixels : Bytes) : List Elem :=
  let plain (tag ref : Nat) (bs : Bytes) : Elem := ⟨⟨tag, ref, 100, bs.length⟩, .plain, ⟨bs.length, some ⟨bs.toArray⟩⟩, [], []⟩
  [plain 106 1 (encodeNT ⟨1, 21, 8, 0⟩),
   plain 300 1 (encodeImgDesc ⟨3, 2, 106, 1, 1, 0, 0, 0⟩),
   plain 302 1 pixels,
   plain 306 1 (enc16 300 ++ enc16 1 ++ enc16 302 ++ enc16 1)]
example : descComplaints (rigElems [1, 2, 3, 4, 5, 6]) [] = [] := by decide +kernel
example : descComplaints (rigElems []) [] = [] := by decide +kernel
example : (descComplaints (rigElems [1, 2, 3, 4, 5]) []).map (·.1) = ["id"] := by decide +kernel

/-- the clause `sdd` accepts and rejects (on the list of elements: no whole file is built).  `recElems n` = the descriptive part of a file with one record variable:
    number type int16 (106/5), dimension record 701/5 claiming `n` records, data element 702/6 of 4 bytes (2 records), group 720/4 -/
def recElems (n : Int) : List Elem :=
  let plain (tag ref : Nat) (bs : Bytes) : Elem := ⟨⟨tag, ref, 100, bs.length⟩, .plain, ⟨bs.length, some ⟨bs.toArray⟩⟩, [], []⟩
  [plain 106 5 (encodeNT ⟨1, 22, 16, 1⟩),
   plain 701 5 (encodeSDD ⟨[n], (106, 5), [(106, 5)]⟩),
   plain 702 6 [0, 1, 0, 2],
   plain 720 4 (enc16 702 ++ enc16 6 ++ enc16 106 ++ enc16 5 ++ enc16 701 ++ enc16 5 ++ enc16 721 ++ enc16 5)]
/-- the variable's own record count: accepted -/
example : descComplaints (recElems 2) [] = [] := by decide +kernel
/-- the record count of a longer variable of the same file (the dimension record describes 10 bytes, the data element holds 4): rejected
    with clause `sdd` -/
example : (descComplaints (recElems 5) []).map (·.1) = ["sdd"] := by decide +kernel
/-- a number type whose width is not that of its type: clause `nt` -/
example : ((checkNT [⟨⟨106, 5, 100, 4⟩, .plain, ⟨4, some ⟨#[1, 22, 32, 1]⟩⟩, [], []⟩] "x" 106 5).1).map (·.1) = ["nt"] := by decide +kernel

/-- non-vacuity: a 30-byte file (magic, one block of two descriptors, one of them a 2-byte element) is accepted,
    hence well formed -/
def tinyFile : ByteArray :=
  ⟨#[0x0e, 0x03, 0x13, 0x01,  0x00, 0x02, 0, 0, 0, 0,
     0x0b, 0xb8, 0x00, 0x01, 0, 0, 0, 34, 0, 0, 0, 2,   0x00, 0x01, 0x00, 0x00, 0xff, 0xff, 0xff, 0xff, 0xff, 0xff, 0xff, 0xff,
     0xaa, 0xbb]⟩
example : (decodeFile tinyFile).toOption.map (fun c => (c.size, c.dds)) = some (36, [⟨3000, 1, 34, 2⟩]) := by decide +kernel

/-- **the chain walk never runs out of fuel**: with fuel = file length, the walk along the chain of descriptor blocks (`readChain`)
    answers `ok` or a named format error, never `fuel` (that a cycle is reported as a chain error is the example at the end) -/
theorem chain_terminates (b : ByteArray) : readChain b ≠ .error .fuel := by
  unfold readChain
  split
  · rename_i hm
    have := magicOK_size hm
    exact (walk_spec b b.size MAGICLEN [] (walkInv_nil b)).2 (by simp) (by simp only [MAGICLEN] at this; omega)
  · simp [bad]

/-- the structural part of the reader (magic, chain, descriptors, the structural clauses) never answers `fuel` -/
theorem readRaw_ne_fuel (b : ByteArray) : readRaw b ≠ .error .fuel := by
  rcases readRaw_cases b with ⟨e, he, hr⟩ | ⟨blocks, _, ⟨c, m, hb⟩ | ⟨_, _, _, _, _, ho⟩⟩
  · rw [hr]
    intro h
    injection h with h
    exact chain_terminates b (h ▸ he)
  · rw [hb]
    intro h
    cases h
  · rw [ho]
    intro h
    cases h

/- Full statement (not proved): `decodeFile b ≠ .error .fuel`.  What is missing is the observation that `readElem` and
   `readRecords` only ever fail with `.bad …` (their own recursion is bounded by `maxNest` and by list lengths and
   reports exhaustion as `bad "special"` / `bad "linked"`); `.fuel` is constructed in `walk` only.  The proof is a case
   split over every branch of `readElem`. -/

/-- a cycle is detected, not followed: a block whose `next` points to itself is rejected with a chain error -/
def cyclicFile : ByteArray :=
  ⟨#[0x0e, 0x03, 0x13, 0x01,  0x00, 0x01, 0, 0, 0, 4,   0x00, 0x01, 0x00, 0x00, 0xff, 0xff, 0xff, 0xff, 0xff, 0xff, 0xff, 0xff]⟩
example : (match readChain cyclicFile with | .error (.bad c _) => c | _ => "") = "chain" := by decide +kernel

end H4.Props.C02
