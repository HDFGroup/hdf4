import H4.Lemmas.Interlace
/-! # C09 — raster images: interlace conversion (`GRIil_convert`, `hdf/src/mfgr.c`) — property theorems

`GRwriteimage`/`GRreadimage`/`GRwritelut`/`GRreadlut` pass the caller's buffer through `GRIil_convert`
whenever the requested interlace differs from the stored one. These theorems say that, for every image
size, component count and element size, that routine is exactly the re-indexing between the three
textbook layouts, that it loses nothing, and that conversions compose. -/
namespace H4.Props.C09
open H4.Interlace

/-- Each of the three interlace address maps is a bijection from the in-range coordinates
    `{(x,y,c) | x < W, y < H, c < ncomp}` onto `[0, W·H·ncomp)`: it lands in the range, is injective,
    and `coordOf` is a two-sided inverse. -/
theorem il_addr_bij (il : Il) (W H ncomp : Nat) :
    (∀ p : Coord, p.InRange W H ncomp → ilAddr il W H ncomp p < W * H * ncomp) ∧
    (∀ p q : Coord, p.InRange W H ncomp → q.InRange W H ncomp →
        ilAddr il W H ncomp p = ilAddr il W H ncomp q → p = q) ∧
    (∀ a, a < W * H * ncomp → (coordOf il W H ncomp a).InRange W H ncomp ∧ ilAddr il W H ncomp (coordOf il W H ncomp a) = a) ∧
    (∀ p : Coord, p.InRange W H ncomp → coordOf il W H ncomp (ilAddr il W H ncomp p) = p) := by
  refine ⟨fun p hp => ilAddr_lt il hp, fun p q hp hq h => ilAddr_inj il hp hq h,
    fun a ha => ⟨coordOf_inRange il ha, ilAddr_coordOf il a⟩, fun p hp => ?_⟩
  exact ilAddr_inj il (coordOf_inRange il (ilAddr_lt il hp)) hp (ilAddr_coordOf il _)

example : ilAddr .line 4 3 2 ⟨3, 1, 1⟩ = 15 ∧ coordOf .line 4 3 2 15 = ⟨3, 1, 1⟩ ∧
    ilAddr .pixel 4 3 2 ⟨3, 1, 1⟩ = 15 ∧ ilAddr .component 4 3 2 ⟨3, 1, 1⟩ = 19 := by decide

/-- **Closed form of the pointer-increment loops.** For all dimensions (including degenerate ones), all
    component counts, all element sizes and all 9 `(inil, outil)` pairs — the 3 pairs `inil = outil` are a
    single `memcpy` in the C — the executable loop model of `GRIil_convert` leaves the output buffer's length
    unchanged and puts, for every in-range coordinate `p`, the `csz` bytes found at element `ilAddr a p` of
    the input at element `ilAddr b p` of the output. By `il_addr_bij` this determines every output byte. -/
theorem il_convert_closed (a b : Il) (W H ncomp csz : Nat) (inb outb : List Byte)
    (hi : inb.length = csz * (W * H * ncomp)) (ho : outb.length = csz * (W * H * ncomp)) :
    (convert a b W H ncomp csz inb outb).length = csz * (W * H * ncomp) ∧
    ∀ p : Coord, p.InRange W H ncomp →
      slice (convert a b W H ncomp csz inb outb) (csz * ilAddr b W H ncomp p) csz
        = slice inb (csz * ilAddr a W H ncomp p) csz :=
  ⟨by rw [length_convert, ho], fun _ hp => convert_slice a b hi ho hp⟩

example : convert .pixel .component 2 2 3 1 [0, 1, 2, 10, 11, 12, 20, 21, 22, 30, 31, 32] (List.replicate 12 0)
    = [0, 10, 20, 30, 1, 11, 21, 31, 2, 12, 22, 32] := by decide +kernel

theorem ext_via (c : Il) {W H ncomp csz : Nat} {r r' : List Byte}
    (hr : r.length = csz * (W * H * ncomp)) (hr' : r'.length = csz * (W * H * ncomp))
    (h : ∀ p : Coord, p.InRange W H ncomp →
      slice r (csz * ilAddr c W H ncomp p) csz = slice r' (csz * ilAddr c W H ncomp p) csz) : r = r' := by
  apply chunk_ext hr hr'
  intro q hq
  have := h _ (coordOf_inRange c hq)
  rwa [ilAddr_coordOf] at this

/-- **Composition**: converting `a → b` and then `b → c` is converting `a → c`, whatever the prior contents
    of the three output buffers. -/
theorem il_convert_compose (a b c : Il) (W H ncomp csz : Nat) (img o1 o2 o3 : List Byte)
    (hi : img.length = csz * (W * H * ncomp)) (h1 : o1.length = csz * (W * H * ncomp))
    (h2 : o2.length = csz * (W * H * ncomp)) (h3 : o3.length = csz * (W * H * ncomp)) :
    convert b c W H ncomp csz (convert a b W H ncomp csz img o1) o2 = convert a c W H ncomp csz img o3 := by
  have hm : (convert a b W H ncomp csz img o1).length = csz * (W * H * ncomp) := by rw [length_convert, h1]
  apply ext_via c (by rw [length_convert, h2]) (by rw [length_convert, h3])
  intro p hp
  rw [convert_slice b c hm h2 hp, convert_slice a b hi h1 hp, convert_slice a c hi h3 hp]

/-- **Round trip**: for every image byte list of the right length, `convert b a (convert a b img) = img`. -/
theorem il_convert_roundtrip (a b : Il) (W H ncomp csz : Nat) (img o1 o2 : List Byte)
    (hi : img.length = csz * (W * H * ncomp)) (h1 : o1.length = csz * (W * H * ncomp))
    (h2 : o2.length = csz * (W * H * ncomp)) :
    convert b a W H ncomp csz (convert a b W H ncomp csz img o1) o2 = img := by
  have hm : (convert a b W H ncomp csz img o1).length = csz * (W * H * ncomp) := by rw [length_convert, h1]
  apply ext_via a (by rw [length_convert, h2]) hi
  intro p hp
  rw [convert_slice b a hm h2 hp, convert_slice a b hi h1 hp]

/-- the result does not depend on what the output buffer held before the call -/
theorem il_convert_outbuf_irrelevant (a b : Il) (W H ncomp csz : Nat) (img o1 o2 : List Byte)
    (hi : img.length = csz * (W * H * ncomp)) (h1 : o1.length = csz * (W * H * ncomp))
    (h2 : o2.length = csz * (W * H * ncomp)) :
    convert a b W H ncomp csz img o1 = convert a b W H ncomp csz img o2 := by
  apply ext_via b (by rw [length_convert, h1]) (by rw [length_convert, h2])
  intro p hp
  rw [convert_slice a b hi h1 hp, convert_slice a b hi h2 hp]

/-- the same-interlace call is the identity (`memcpy`) -/
theorem il_convert_same (a : Il) (W H ncomp csz : Nat) (img o : List Byte)
    (hi : img.length = csz * (W * H * ncomp)) (ho : o.length = csz * (W * H * ncomp)) :
    convert a a W H ncomp csz img o = img := by
  apply ext_via a (by rw [length_convert, ho]) hi
  intro p hp
  rw [convert_slice a a hi ho hp]

/-- non-vacuity of the hypotheses: a 3×2 image, 2 components of 2 bytes, LINE → COMPONENT → LINE -/
example :
    let img : List Byte := (List.range 24).map UInt8.ofNat
    img.length = 2 * (3 * 2 * 2) ∧
    convert .component .line 3 2 2 2 (convert .line .component 3 2 2 2 img (List.replicate 24 0)) (List.replicate 24 7) = img ∧
    convert .line .component 3 2 2 2 img (List.replicate 24 0) ≠ img := by decide +kernel

end H4.Props.C09
