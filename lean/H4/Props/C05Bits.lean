import H4.Lemmas.BitIO
/-! # C05 (bit-granular element I/O, `hbitio.c`) — property theorems

The model `H4.BitIO` is the `bitrec_t` state machine over the bytes of the underlying element
(buffer of `BITBUF_SIZE` bytes, `bits`/`count` registers, block flushes, `Hendbitaccess`).
`pack fs fb` = `Hstartbitwrite` on a new element (length 0, then `Hbitappendable`), `Hbitwrite(id, w, v)` for every `(w, v) ∈ fs`, `Hendbitaccess(id, fb)`;
`unpack e ws` = `Hstartbitread` on element `e`, `Hbitread(id, w, &v)` for every `w ∈ ws`.
Bit streams are `List Bool`, most significant bit first (`H4.Bits`). -/
namespace H4.Props.C05
open H4.Bits H4.BitIO

/-- widths accepted by the theorems: every field is 1..32 bits wide (values are arbitrary naturals; only the low 32 bits
    reach `Hbitwrite`, which keeps the low `w` of them) -/
def ValidFields (fs : List (Nat × Nat)) : Prop := ∀ f ∈ fs, 1 ≤ f.1 ∧ f.1 ≤ 32
def ValidWidths (ws : List Nat) : Prop := ∀ w ∈ ws, 1 ≤ w ∧ w ≤ 32
instance (fs) : Decidable (ValidFields fs) := by unfold ValidFields; infer_instance
instance (ws) : Decidable (ValidWidths ws) := by unfold ValidWidths; infer_instance

/-- For ALL field lists (any number of fields, widths 1..32, any values, ANY stream length) and either
    flush bit `fb`, the bytes stored by `Hstartbitwrite` on a new element (length 0, `Hbitappendable`), sequential `Hbitwrite`s and `Hendbitaccess(id, fb)` are
    exactly the MSB-first concatenation of the low `w` bits of each value, completed to a byte boundary with `k < 8` copies of
    the flush bit - nothing else is stored: the element is `⌈bits/8⌉` bytes long.
    (It holds of hbitio.c as repaired by `bits-pad-flushbit1` / `bits-pad-stale` and `bits-len-tail`: padding with ones, and streams
    beyond `BITBUF_SIZE` bytes.) -/
theorem bitwrite_refines (fs : List (Nat × Nat)) (hv : ValidFields fs) (fb : Bool) :
    (∃ k, k < 8 ∧ bytesBits (pack fs (some fb)) = fieldsBits fs ++ List.replicate k fb) ∧
    (pack fs (some fb)).length = ((fieldsBits fs).length + 7) / 8 := by
  obtain ⟨a0, s0⟩ := startWrite_ok
  obtain ⟨a1, s1⟩ := writeFields_ok fs _ a0 hv
  rw [s0, List.nil_append] at s1
  have e1 := endAccess_ok a1 fb
  have e2 := endAccess_length a1 fb
  rw [s1] at e1 e2
  exact ⟨e1, e2⟩

theorem sum_widths (fs : List (Nat × Nat)) : (fs.map Prod.fst).sum = (fieldsBits fs).length :=
  (length_fieldsBits fs).symm

/-- non-vacuity / sample: fields crossing byte boundaries, zero and one padding -/
example : pack [(3, 5), (8, 255), (32, 0xDEADBEEF), (1, 1)] (some false) = [0xBF, 0xFB, 0xD5, 0xB7, 0xDD, 0xF0] := by
  decide +kernel
example : pack [(3, 5), (8, 255), (32, 0xDEADBEEF), (1, 1)] (some true) = [0xBF, 0xFB, 0xD5, 0xB7, 0xDD, 0xFF] := by
  decide +kernel

example : ValidFields [(3, 5), (8, 255), (32, 0xDEADBEEF), (1, 1)] := by decide

/-- a stream one buffer long plus three bits (the case those repairs are about: no stale padding, no stale tail beyond the buffer):
    4096 bytes of ones followed by three zero bits are stored as 4097 bytes, the last one `0x00` -/
example : (pack (List.replicate 1024 (32, 0xFFFFFFFF) ++ [(3, 0)]) (some false)).length = 4097 ∧
    (pack (List.replicate 1024 (32, 0xFFFFFFFF) ++ [(3, 0)]) (some false))[4096]? = some 0x00 := by
  have hv : ValidFields (List.replicate 1024 (32, 0xFFFFFFFF) ++ [(3, 0)]) := by
    intro f hf
    rcases List.mem_append.mp hf with h | h
    · rw [(List.mem_replicate.mp h).2]; decide
    · rw [List.mem_singleton.mp h]; decide
  obtain ⟨⟨k, _, hb⟩, hl⟩ := bitwrite_refines _ hv false
  have hA : (fieldsBits (List.replicate 1024 (32, 0xFFFFFFFF))).length = 1024 * 32 := by
    rw [← sum_widths, List.map_replicate, List.sum_replicate_nat]
  generalize List.replicate 1024 (32, 0xFFFFFFFF) = ones at hb hl hA ⊢
  generalize pack (ones ++ [(3, 0)]) (some false) = p at hb hl ⊢
  rw [fieldsBits_append, List.length_append, hA] at hl
  rw [fieldsBits_append, List.append_assoc] at hb
  have hl' : p.length = 4097 := hl
  refine ⟨hl', ?_⟩
  -- the last byte holds the three zero bits of the last field and the padding
  have hk5 : k = 5 := by
    have := congrArg List.length hb
    simp only [length_bytesBits, hl', List.length_append, hA, List.length_replicate] at this
    simp [fieldsBits] at this
    omega
  subst hk5
  rw [List.getElem?_eq_getElem (by omega)]
  congr 1
  apply UInt8.toNat_inj.mp
  rw [byte_of_bits _ _ (by omega), hb, List.drop_left' hA]
  rfl

/-- For ALL element contents and ALL width lists (each 1..32) whose total does not exceed the
    bits stored, sequential `Hbitread`s return the successive MSB-first fields of the element's bit stream
    (buffer refills every `BITBUF_SIZE` bytes included). -/
theorem bitread_refines (e : List UInt8) (ws : List Nat) (hv : ValidWidths ws) (hsum : ws.sum ≤ 8 * e.length) :
    unpack e ws = some (takeFields (bytesBits e) ws) := by
  obtain ⟨i, junk, a⟩ := startRead_ok e
  unfold unpack
  rw [readFields_ok ws _ i hv (by rw [a]; simp; omega), a, takeFields_append _ _ _ (by simpa using hsum)]

example : unpack [0xBF, 0xFB, 0xD5, 0xB7, 0xDD, 0xF0] [3, 8, 32, 1] = some [5, 255, 0xDEADBEEF, 1] := by
  decide +kernel

theorem pack_fields (fs : List (Nat × Nat)) (hv : ValidFields fs) (fb : Bool) :
    ValidWidths (fs.map Prod.fst) ∧ (fs.map Prod.fst).sum ≤ 8 * (pack fs (some fb)).length ∧
      takeFields (bytesBits (pack fs (some fb))) (fs.map Prod.fst) = fs.map fun f => f.2 % 2 ^ f.1 := by
  obtain ⟨⟨k, _, ht⟩, _⟩ := bitwrite_refines fs hv fb
  refine ⟨?_, ?_, ?_⟩
  · intro w hw
    obtain ⟨f, hf, rfl⟩ := List.mem_map.mp hw
    exact hv f hf
  · have := congrArg List.length ht
    simp at this
    rw [sum_widths]; omega
  · rw [ht, takeFields_append _ _ _ (by rw [sum_widths]; exact Nat.le_refl _), takeFields_fieldsBits]

/-- Whatever sequence of fields (widths 1..32) is written to a new element, reading the same
    width sequence back returns the low `w` bits of every value — for every width sequence, every stream length
    (including streams longer than the 4096-byte buffer) and either flush bit. -/
theorem bit_roundtrip (fs : List (Nat × Nat)) (hv : ValidFields fs) (fb : Bool) :
    unpack (pack fs (some fb)) (fs.map Prod.fst) = some (fs.map fun f => f.2 % 2 ^ f.1) := by
  obtain ⟨hv', hlen, ht⟩ := pack_fields fs hv fb
  rw [bitread_refines _ _ hv' hlen, ht]

/-- Partial coverage of `Hbitseek`: on a read bit id of an element that fits one buffer block
    (≤ 4096 bytes), `Hbitseek(id, B, b)` followed by any sequence of `Hbitread`s returns the fields of the element's bit
    stream with the first `8·B + b` bits dropped — seek-then-read = read of the dropped bit list.
    What the model's seek / merge / switch MEANS for the bit stream is not proved beyond this (Tie B + the shadow-bit-array oracle of
    engine `bits`, op `script`): seeks after other operations, seeks between blocks, seeks and merges in write mode (`HIbitflush`
    middle-of-dataset branch) and the read↔write switches (`HIwrite2read`, `HIread2write`; the latter repaired, finding `bits-r2w-*`:
    regression anchors below).  That the C text of all of these computes the model is `Props/C05BitsFn`. -/
theorem seek_read_refines (e : List UInt8) (B b : Nat) (ws : List Nat) (hlen : e.length ≤ 4096) (hB : B < e.length) (hb : b < 8)
    (hv : ValidWidths ws) (hsum : 8 * B + b + ws.sum ≤ 8 * e.length) :
    (bitseek (startRead e) B b).2 = true ∧
    readFields (bitseek (startRead e) B b).1 ws = some (takeFields ((bytesBits e).drop (8 * B + b)) ws) := by
  obtain ⟨ok, i, junk, a⟩ := seek_fresh_ok e B b hlen hB hb
  refine ⟨ok, ?_⟩
  rw [readFields_ok ws _ i hv (by rw [a]; simp; omega), a, takeFields_append _ _ _ (by simp; omega)]

example : readFields (bitseek (startRead [0xAB, 0xCD, 0xEF]) 1 4).1 [8, 4] = some [0xDE, 0xF] := by decide +kernel

/-! Regression anchors for the repaired read→write switch (`HIread2write`, finding `bits-r2w-*`; reproductions p4.c a/b/g):
    element `ab cd ef 01` opened with `Hstartbitwrite`. -/
/-- byte-aligned: read 8 bits, write 8 bits -/
example : endAccess (bitwrite (bitread (startWrite (some [0xAB, 0xCD, 0xEF, 0x01])) 8).1 8 0x12).1 (some false)
    = [0xAB, 0x12, 0xEF, 0x01] := by decide +kernel
/-- inside a byte: read 4 bits, write 8 bits -/
example : endAccess (bitwrite (bitread (startWrite (some [0xAB, 0xCD, 0xEF, 0x01])) 4).1 8 0x12).1 (some false)
    = [0xA1, 0x2D, 0xEF, 0x01] := by decide +kernel
/-- read, seek, write -/
example : endAccess (bitwrite (bitseek (bitread (startWrite (some [0xAB, 0xCD, 0xEF, 0x01])) 8).1 1 0).1 8 0x12).1 (some false)
    = [0xAB, 0x12, 0xEF, 0x01] := by decide +kernel
/-- read up to the end, then append 12 bits: the element grows by two bytes, the last one zero-padded -/
example : endAccess (bitwrite (bitread (startWrite (some [0xAB, 0xCD])) 16).1 12 0xFFF).1 (some false)
    = [0xAB, 0xCD, 0xFF, 0xF0] := by decide +kernel

end H4.Props.C05
