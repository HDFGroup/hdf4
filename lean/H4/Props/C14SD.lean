import H4.AttrSD
/-! # C14 at the SD interface — write requests through a read-only SD handle

Model: `H4.AttrSD` (the SD file machine of `mfsd.c`, tied to the C by engines `attr` (C10) and `ro` (C14, part B: the `sd.*`
lines).  `f.rdwr = false` is the state `SDstart(path, DFACC_READ)` leaves.  A write request is any `Mut` with ANY arguments:
fresh names and values, the value that is stored already, a dimension name that is in use by another dimension of the same
size (the "shared dimension" short way out of `SDsetdimname`), of another size, an index that selects nothing, count 0,
`NULL` strings … — the theorems quantify over all of them.  The position of the `NC_RDWR` test matters: `sdSetDimNameLate` and
`sdSetAttrLate` (the order `mfsd.c` had before the repair) have it below the lookup of the name (`late_test_accepts`,
`late_setattr_adds_variable`). -/
namespace H4.Props.C14SD
open H4.Attr H4.AttrSD H4.Gen.Attr

theorem ite_left_of_else {α} {c : Prop} [Decidable c] {a b : α} (h : b = a) : (if c then a else b) = a := by
  rw [h, ite_self]

theorem create_ro (f : File) (h : f.rdwr = false) (n : Bytes) (nt : Nat) (sz : List Nat) : sdCreate f n nt sz = (f, .fail) := by
  unfold sdCreate; simp [h]

theorem withVar_ro (f : File) (i : Nat) (k : Var → File × Out) (hk : ∀ v, k v = (f, .fail)) : withVar f i k = (f, .fail) := by
  unfold withVar
  split
  · rfl
  · split
    · rfl
    · exact hk _

theorem datastrs_ro (f : File) (h : f.rdwr = false) (i : Nat) (l u fm c : Option Bytes) : sdSetDataStrs f i l u fm c = (f, .fail) := by
  unfold sdSetDataStrs; exact withVar_ro f i _ (by intro v; simp [h])

theorem cal_ro (f : File) (h : f.rdwr = false) (i : Nat) (a b c d e : Bytes) : sdSetCal f i a b c d e = (f, .fail) := by
  unfold sdSetCal; exact withVar_ro f i _ (by intro v; simp [h])

theorem range_ro (f : File) (h : f.rdwr = false) (i : Nat) (mx mn : Bytes) : sdSetRange f i mx mn = (f, .fail) := by
  unfold sdSetRange; exact withVar_ro f i _ (by intro v; simp [h])

theorem fill_ro (f : File) (h : f.rdwr = false) (i : Nat) (v : Bytes) : sdSetFill f i v = (f, .fail) := by
  unfold sdSetFill; exact withVar_ro f i _ (by intro v; simp [h])

/-- `SDsetdimname`: whatever the name — fresh, the dimension's own, in use by a dimension of the same or of another size -/
theorem dimname_ro (f : File) (h : f.rdwr = false) (s : Nat) (n : Bytes) : sdSetDimName f s n = (f, .fail) := by
  unfold sdSetDimName; simp [h]

theorem dimstrs_ro (f : File) (h : f.rdwr = false) (s : Nat) (l u fm : Option Bytes) : sdSetDimStrs f s l u fm = (f, .fail) := by
  unfold sdSetDimStrs
  refine ite_left_of_else ?_
  cases dimOf f s
  · rfl
  · exact if_pos (by simp [h])

theorem dimscale_ro (f : File) (h : f.rdwr = false) (s c nt : Nat) (b : Bytes) : sdSetDimScale f s c nt b = (f, .fail) := by
  unfold sdSetDimScale
  refine ite_left_of_else ?_
  cases dimOf f s
  · rfl
  · exact if_pos (by simp [h])

/-- `SDsetattr` on the file, on a data set, on a dimension (whether or not the dimension has a coordinate variable): the
    test stands before `SDIapfromid` -/
theorem setattr_ro (f : File) (h : f.rdwr = false) (o : Obj) (n : Bytes) (nt : Nat) (c : Int) (v : Bytes) :
    sdSetAttr f o n nt c v = (f, .fail) :=
  ite_left_of_else <| ite_left_of_else <| ite_left_of_else <| if_pos (by simp [h])

/-- **refusal and frame**: through a read-only SD handle every write request of the model returns `FAIL`, whatever its
    arguments, and leaves the session exactly as it was: names, dimension table, variables, attribute lists, scales, flags -/
theorem sd_readonly_step (f : File) (h : f.rdwr = false) (m : Mut) : m.apply f = (f, .fail) := by
  cases m with
  | create n nt sz => exact create_ro f h n nt sz
  | setAttr o n nt c v => exact setattr_ro f h o n nt c v
  | setDataStrs i l u fm c => exact datastrs_ro f h i l u fm c
  | setCal i a b c d e => exact cal_ro f h i a b c d e
  | setRange i mx mn => exact range_ro f h i mx mn
  | setFill i v => exact fill_ro f h i v
  | setDimName s n => exact dimname_ro f h s n
  | setDimStrs s l u fm => exact dimstrs_ro f h s l u fm
  | setDimScale s c nt b => exact dimscale_ro f h s c nt b

theorem sd_readonly_refuses (f : File) (h : f.rdwr = false) (m : Mut) : (m.apply f).2 = .fail := by
  rw [sd_readonly_step f h m]

theorem sd_readonly_frame (f : File) (h : f.rdwr = false) (m : Mut) : (m.apply f).1 = f := by
  rw [sd_readonly_step f h m]

/-- any session of write requests through a read-only handle: every call refused, the state untouched -/
theorem sd_readonly_session (f : File) (h : f.rdwr = false) (ms : List Mut) :
    runMuts f ms = (f, ms.map fun _ => .fail) := by
  induction ms with
  | nil => rfl
  | cons m t ih => simp only [runMuts, sd_readonly_step f h m, ih, List.map_cons]

/-- … hence every inquiry (`SDdiminfo`, `SDgetinfo`, `SDattrinfo`, `SDreadattr`, `SDgetfillvalue`, `SDfileinfo`, … any
    function of the session state) answers after the session what it answered before -/
theorem sd_readonly_view {α : Type} (view : File → α) (f : File) (h : f.rdwr = false) (ms : List Mut) :
    view (runMuts f ms).1 = view f := by
  rw [sd_readonly_session f h ms]

/-- a handle from `SDstart(DFACC_READ)` is read-only whatever the file holds, so the above applies to every opened file -/
theorem openF_readonly (f : File) : (openF f false).rdwr = false := rfl

/-- a file as `SDstart(DFACC_READ)` finds it: data set "a" on dimensions "x" (4) and "fakeDim1" (6), data set "b" on "fakeDim2" (4)
    and "fakeDim3" (6): four distinct dimensions, two pairs of equal size; "a" has an attribute; "x" has a coordinate variable -/
def sample : File :=
  openF { disk := { dims := [⟨[120], 4⟩, ⟨nFakeDim ++ [49], 6⟩, ⟨nFakeDim ++ [50], 4⟩, ⟨nFakeDim ++ [51], 6⟩],
                    vars := [{ name := [97], hdftype := 22, dims := [0, 1], attrs := [⟨[115], 5, 1, [0, 0, 32, 64]⟩], vtype := IS_SDSVAR, ref := 2, hasData := true, scale := [] },
                             { name := [98], hdftype := 22, dims := [2, 3], attrs := [], vtype := IS_SDSVAR, ref := 3, hasData := true, scale := [] },
                             { name := [120], hdftype := 24, dims := [0], attrs := [], vtype := IS_CRDVAR, ref := 4, hasData := true, scale := [1, 0, 0, 0, 2, 0, 0, 0, 3, 0, 0, 0, 4, 0, 0, 0] }],
                    gattrs := [⟨[116], 4, 2, [104, 105]⟩] } } false

example : sample.rdwr = false ∧ sample.isOpen = true := by decide

/-- a session that uses every argument class: the name of another dimension of the same size, the dimension's own name, a
    name of another size, a slot that does not exist, the empty name, the stored attribute again (data set, file), count 0, a
    new attribute on a dimension without and with coordinate variable, the stored scale again, count 0, NULL strings, the
    stored fill value's size, a data set that exists -/
def quietSession : List Mut :=
  [.setDimName 2 [120], .setDimName 0 [120], .setDimName 2 (nFakeDim ++ [49]), .setDimName 9 [120], .setDimName 2 [],
   .setAttr (.var 0) [115] 5 1 [0, 0, 32, 64], .setAttr .file [116] 4 2 [104, 105], .setAttr (.var 0) [115] 5 0 [],
   .setAttr (.dim 1) [113] 5 1 [0, 0, 0, 0], .setAttr (.dim 0) [113] 5 1 [0, 0, 0, 0],
   .setDimScale 0 4 24 [1, 0, 0, 0, 2, 0, 0, 0, 3, 0, 0, 0, 4, 0, 0, 0], .setDimScale 0 0 24 [], .setDimStrs 0 none none none,
   .setDataStrs 0 none none none none, .setFill 0 [0, 0], .setRange 0 [9, 0] [1, 0], .create [97] 22 [4, 6]]

/-- computed, independently of the theorems: all refused, and the inquiries answer as before -/
example : (runMuts sample quietSession).2 = quietSession.map fun _ => .fail := by decide

example : (sdDimInfo (runMuts sample quietSession).1 2).2 = .items [.hex (nFakeDim ++ [50]), .int 4, .int 0, .int 0] ∧
          (sdDimInfo sample 2).2 = .items [.hex (nFakeDim ++ [50]), .int 4, .int 0, .int 0] ∧
          (sdFileInfo (runMuts sample quietSession).1).2 = .items [.int 3, .int 1] ∧
          (sdFileInfo sample).2 = .items [.int 3, .int 1] := by decide

/-- `late_test_accepts`: with the `NC_RDWR` test below the "name in use" loop, a read-only session ACCEPTS the name of another
    dimension of the same size ("x", size 4, for the first dimension of "b") and `SDdiminfo` shows the new name for the rest of
    the session — while a fresh name, the name of a dimension of another size and a bad id are refused exactly as before, so a
    check that tries fresh names only cannot tell the two orders apart. -/
theorem late_test_accepts :
    (sdSetDimNameLate sample 2 [120]).2 = .ok ∧
    (sdDimInfo (sdSetDimNameLate sample 2 [120]).1 2).2 = .items [.hex [120], .int 4, .int 24, .int 0] ∧
    (sdSetDimNameLate sample 2 [110, 101, 119]).2 = .fail ∧
    (sdSetDimNameLate sample 3 [120]).2 = .fail ∧
    (sdSetDimNameLate sample 9 [120]).2 = .fail ∧
    (sdSetDimName sample 2 [120]).2 = .fail := by decide

/-- on a writable session the two orders agree for every argument: the re-ordering is invisible to any test that writes -/
theorem late_test_same_when_writable (f : File) (h : f.rdwr = true) (s : Nat) (n : Bytes) :
    sdSetDimNameLate f s n = sdSetDimName f s n := by
  simp only [sdSetDimNameLate, sdSetDimName, h, Bool.not_true, Bool.false_eq_true, if_false]

/-- `late_setattr_adds_variable`: with the test below the attribute-list lookup a read-only session still refuses
    `SDsetattr(dimension id, …)`, but the refused call has appended an empty coordinate variable for a dimension that had
    none: `SDfileinfo` counts 4 variables instead of 3 (a dimension that has its variable, a data set or the file: no change) -/
theorem late_setattr_adds_variable :
    (sdSetAttrLate sample (.dim 1) [113] 5 1 [0, 0, 0, 0]).2 = .fail ∧
    (sdFileInfo (sdSetAttrLate sample (.dim 1) [113] 5 1 [0, 0, 0, 0]).1).2 = .items [.int 4, .int 1] ∧
    (sdFileInfo (sdSetAttrLate sample (.dim 0) [113] 5 1 [0, 0, 0, 0]).1).2 = .items [.int 3, .int 1] ∧
    (sdFileInfo (sdSetAttrLate sample (.var 0) [113] 5 1 [0, 0, 0, 0]).1).2 = .items [.int 3, .int 1] ∧
    (sdFileInfo (sdSetAttr sample (.dim 1) [113] 5 1 [0, 0, 0, 0]).1).2 = .items [.int 3, .int 1] := by decide

/-- on a writable session the two orders of `SDsetattr` agree for every argument -/
theorem late_setattr_same_when_writable (f : File) (h : f.rdwr = true) (o : Obj) (n : Bytes) (nt : Nat) (c : Int) (v : Bytes) :
    sdSetAttrLate f o n nt c v = sdSetAttr f o n nt c v := by
  simp only [sdSetAttrLate, sdSetAttr, h, Bool.not_true, Bool.false_eq_true, if_false]

end H4.Props.C14SD
