import H4.Lemmas.C01FnSeek
import H4.Lemmas.C01FnModel
/-! # C01, function level — the ordinary-element paths of the access-record functions of `hdf/src/hfile.c`, as TRANSLATED from the C text

`H4.Gen.Fn.Hfile2` is regenerated from `hdf/src/hfile.c` of /repo's current tree on every run (`gen/c2lean.py`, statement by statement):
`HIrefresh_new`, `Hinquire`, `Hseek`, `Hread`, `Hsetlength`, `Hwrite`, `Htrunc` (whole functions).

**How the C state is presented.**  `access_rec` (`HIaid2rec(aid)`) and `file_rec` (`HIfid2rec(access_rec->file_id)`) are OBJECTS outside the
function: their members are entry fields (`access_rec_posn`, `access_rec_appendable`, `access_rec_new_elem`, `access_rec_access`,
`access_rec_special`, `access_rec_block_size`, …, `file_rec_refcount`, `file_rec_f_end_off`, `file_rec_f_cur_off`), `access_rec_null` /
`file_rec_null` say that the resolver returned NULL; a dereference while the flag is set is recorded in `ub`.  The special-element dispatch
`(*access_rec->special_func->f)(…)` is outside the translated text: reaching it is recorded in `ub`; all theorems are about `special = 0`.

**Assumed callee behaviour (trusted base; `call_specs` of unit `Hfile2` in `gen/gen.py`, printed in the doc comment of every definition).**
Every call appends `[code, integer arguments]` to the log `calls`, returns an entry parameter, and - unless it FAILs (-1) - has these effects:
* `HTPinquire(ddid, ptag, pref, poff, plen)` (code 1) stores the descriptor fields `dd_tag`, `dd_ref`, `dd_off`, `dd_len` (state fields)
  through its non-NULL arguments;
* `HTPupdate(ddid, off, len)` (2) sets `dd_off` / `dd_len` (`-2` = keep) and raises `f_end_off` to `off + len` (last statement of `HTIupdate_dd`);
* `HPseek(file_rec, off)` (3) sets `f_cur_off := off`; `HP_read` (4) / `HP_write` (5) advance it by the byte count;
* `HPgetdiskblock(file_rec, size, moveto)` (7) returns its parameter (theorems: FAIL or the old end of file) and advances `f_end_off` by `size`;
* `HLconvert(aid, block_size, num_blocks)` (6) and the calls `Hseek` (8) / `Hwrite` (9) on the converted element return their parameter
  (their effect on the record - it becomes special - is outside the state: after a promotion the record is not compared, and the answer of
  the call on the converted element is an assumption: `Hseek_refines` takes it to succeed, `Hwrite_refines` to be what the model answers).
  So on that path the theorems compare the call log only.
`Hwrite` calls the translated `Hsetlength`; `Hread` / `Hwrite` / `Hsetlength` call the translated `HIrefresh_new`.

**Shape of the theorems.**  For every model world `w`, handle `h` with `w.acc h = some a`, `a.special = false`, and every argument, the
translated function is run on the encoding of `a`, of the descriptor `d = (w.file a.file).dd a.slot` (`ddOff d`, `ddLen d`: `-1` = no
extent yet) and of the file (`endOff`); the conclusion compares `ub`, `oof`, the result (`resCode`), the new position / flags
(`access_rec_*`), descriptor and end of file (`ddView`) and the call log with what the model computes: `hread` of `H4.Elem` and `hseekI`,
`htruncI` of `H4.ElemFn` for EVERY `int32` argument; `hsetlength` of `H4.Elem` at `length.toNat` (a negative length is the case `blk = -1` of
`Hsetlength_refines`, stated there in full) and `hwrite` of `H4.Elem` on a byte list, so for lengths ≥ 0 (`H4.ElemFn.hsetlengthI` and
`H4.ElemFn.hwriteNeg`, the models of the two functions on negative lengths that the driver runs, are named by no theorem here).  So the C01
theorems about `H4.Elem` (forward simulation to growable byte arrays, `H4.Props.C01`) speak about the functions as they are written in `hfile.c`.

`int32` arithmetic: the translator does not wrap signed sums (signed overflow is undefined behaviour in C).  After 34ac7b8 (`Hread`),
7739a98 (`Hseek`), c61e7e0 (`Hwrite`) the functions form no sum that can leave the `int32` range on arguments in range, but for `posn + data_off` handed to `HPseek` in `Hread` (before them
`Hread(aid, INT32_MAX)` overran the caller's buffer; before 20ed5b8 `Htrunc(aid, -5)` stored a negative length).
`Hseek` dereferences `file_rec` without `BADFREC` on its appendable path (kernel-checked `example` below: `ub` with `file_rec_null`). -/
namespace H4.Props.C01Fn
open H4 H4.Elem H4.Gen.Fn.Hfile2 H4.Gen.Hdf H4.Lemmas.C01Fn

/-- the model refuses the conversion to linked blocks (`HLconvert` FAILs) -/
def convRefused (a : Acc) (f : File) : Prop := f.writable = false ∨ ((f.dd a.slot).ext = none ∧ a.canWrite = false)

-- the two tactics `sk` and `hseek_tree` are not used by the proofs below
local macro "sk" "[" ts:Lean.Parser.Tactic.simpLemma,* "]" : tactic =>
  `(tactic| simp [Hseek, Hseek.chk, hseek, resCode, b2i, acc_setAcc, hseekI, seekPromotes, seekOff, fits32, cINQ, cCONV, cRESEEK, convRefused, $ts,*])

-- the case tree of `Hseek` once the origin is fixed and the position `off` is in range (facts `hfit`, `cf` in the context)
set_option hygiene false in
local macro "hseek_tree" off:term : tactic => `(tactic| (
    by_cases h1 : $off = a.posn
    · sk [s, r, hw, hs, c0, c1, c2, hf, hd, hon, hfit, cf, hp', hl', h1]
    · by_cases h2 : $off < 0
      · sk [s, r, hw, hs, c0, c1, c2, hf, hd, hon, hfit, cf, hp', hl', h1, h2] <;> omega
      · cases happ : a.appendable
        · by_cases h3 : $off > ddLen d
          · sk [s, r, hw, hs, c0, c1, c2, hf, hd, hon, hfit, cf, hp', hl', h1, h2, h3, happ]
          · sk [s, r, hw, hs, c0, c1, c2, hf, hd, hon, hfit, cf, hp', hl', h1, h2, h3, happ] <;> omega
        · by_cases h3 : $off ≥ ddLen d
          · by_cases h4 : ddLen d + ddOff d = f.endOff
            · sk [s, r, hw, hs, c0, c1, c2, hf, hd, hon, hfit, cf, hp', hl', h1, h2, h3, h4, happ] <;> omega
            · rcases hcv with hc | hc
              · have hr := hconv.mp hc
                simp only [convRefused, hd] at hr
                sk [s, r, hw, hs, c0, c1, c2, hf, hd, hon, hfit, cf, hp', hl', h1, h2, h3, h4, happ, hc, hr] <;> omega
              · have hr : ¬ convRefused a f := fun x => hc (hconv.mpr x)
                simp only [convRefused, hd] at hr
                sk [s, r, hw, hs, c0, c1, c2, hf, hd, hon, hfit, cf, hp', hl', h1, h2, h3, h4, happ, hc, hr] <;> omega
          · sk [s, r, hw, hs, c0, c1, c2, hf, hd, hon, hfit, cf, hp', hl', h1, h2, h3, happ] <;> omega))

/-- **`Hseek` refines `hseek`** on an ordinary access record, for every `int32` offset and every origin `≥ 0` (`hseekI`): same result, same new
    position and `appendable` flag, refused exactly when the model refuses; a position that does not fit an `int32` is refused before anything
    else (7739a98).  `conv` is the answer of `HLconvert` on the promotion path (FAIL exactly when the model refuses the conversion), the seek
    on the converted element is assumed to succeed (`HLPseek` accepts every position `≥ 0`).  After a promotion (`seekPromotes`) the flag is
    not compared: the C record keeps `appendable`, the model's converted record has cleared it. -/
theorem Hseek_refines (w : World) (h : Nat) (a : Acc) (hw : w.acc h = some a) (hs : a.special = false)
    (offset : Int) (origin : Nat) (aid ddid tag ref conv : Int) (calls : List (List Int))
    (hoff : fits32 offset) (hposn : (a.posn : Int) ≤ 2147483647) (hlen : ddLen ((w.file a.file).dd a.slot) ≤ 2147483647)
    (hconv : conv = -1 ↔ convRefused a (w.file a.file)) :
    let f := w.file a.file
    let d := f.dd a.slot
    let s := Hseek 0 aid offset origin false 0 0 ddid calls tag ref (ddOff d) (ddLen d) a.posn (b2i a.appendable) f.endOff false conv
      a.blockSize a.numBlocks 0
    let r := hseekI w h offset origin
    s.ub = false ∧ s.oof = false ∧ s.ret = resCode r.2 ∧
    (r.1.acc h).map (fun a' => (a'.posn : Int)) = some s.access_rec_posn ∧
    (seekPromotes a f offset origin ∨ (r.1.acc h).map (fun a' => b2i a'.appendable) = some s.access_rec_appendable) ∧
    s.calls = calls ++ (if origin ≤ 2 then [[cINQ, ddid]] else []) ++
      (if seekPromotes a f offset origin then
         [[cCONV, aid, a.blockSize, a.numBlocks]] ++ (if conv = -1 then [] else [[cRESEEK, aid, offset, origin]]) else []) := by
  intro f d s r
  have hf : w.file a.file = f := rfl
  have hd : f.dd a.slot = d := rfl
  clear_value d f
  rw [hf] at hconv hlen
  rw [hd] at hlen
  obtain ⟨c0, c1, c2, -, -, -⟩ := consts
  have hlr : -1 ≤ ddLen d := by rcases ddLen_cases d with ⟨_, hl, _⟩ | ⟨o, l, _, hl, _⟩ <;> omega
  by_cases ho : origin ≤ 2
  · obtain ⟨off, hso⟩ : ∃ off, seekOff a d offset origin = off := ⟨_, rfl⟩
    have hm := hseekI_plain w h a hw hs offset origin ho f hf d hd off hso
    have hsp := seekPromotes_iff (f := f) (show seekOff a (f.dd a.slot) offset origin = off by rw [hd]; exact hso)
    rw [hd] at hsp
    -- the C text as the same chain of tests as the model
    have e : s = _ := Sk.head_eq (ho := show (origin : Int) = 0 ∨ (origin : Int) = 1 ∨ (origin : Int) = 2 by omega) ..
    simp only [Sk.overflows_iff (show (origin : Int) = 0 ∨ (origin : Int) = 1 ∨ (origin : Int) = 2 by omega) hoff ⟨Int.natCast_nonneg _, hposn⟩ ⟨hlr, hlen⟩,
      seekOff_int, hso] at e
    rw [Sk.tree_chain _ (by rfl) (by rfl) (by rfl) (by rfl) (by show (0 : Int) ≠ -1; decide)] at e
    simp only [Sk.init, b2i_eq_zero, b2i_ne_zero] at e
    by_cases hfit : fits32 off
    · rw [if_neg (fun x => x hfit)] at e hm
      by_cases h1 : off = a.posn
      · rw [if_pos h1] at e hm
        simp [e, r, hm, hw, ho, hsp, h1, resCode, b2i, cINQ]
      · rw [if_neg h1] at e hm
        by_cases h2 : off < 0 ∨ (a.appendable = false ∧ off > ddLen d)
        · rw [if_pos h2] at e hm
          have hp : ¬ (0 ≤ off ∧ a.appendable = true ∧ off ≥ ddLen d ∧ ddLen d + ddOff d ≠ f.endOff) := fun x => by
            rcases h2 with h2 | ⟨h2, -⟩
            · omega
            · rw [x.2.1] at h2; cases h2
          simp [e, r, hm, hw, ho, hsp, hp, resCode, cINQ]
        · rw [if_neg h2] at e hm
          have h0 : 0 ≤ off := by omega
          by_cases h3 : a.appendable = true ∧ off ≥ ddLen d ∧ ddLen d + ddOff d ≠ f.endOff
          · rw [if_pos h3] at e hm
            by_cases hc : conv = -1
            · rw [if_pos (by simpa only [convRefused, hd] using hconv.mp hc)] at hm
              simp [e, r, hm, ho, hsp, hfit, h1, h0, h3, hc, resCode, cINQ, acc_setAcc]
            · rw [if_neg (by simpa only [convRefused, hd] using fun x => hc (hconv.mpr x))] at hm
              simp [e, r, hm, ho, hsp, hfit, h1, h0, h3, hc, resCode, cINQ, acc_setAcc]
              omega
          · rw [if_neg h3] at e hm
            simp [e, r, hm, ho, hsp, h3, resCode, cINQ, acc_setAcc]
            omega
    · rw [if_pos hfit] at e hm
      simp [e, r, hm, hw, ho, hsp, hfit, resCode, cINQ]
  · have e3 : (origin : Int) ≠ 0 ∧ (origin : Int) ≠ 1 ∧ (origin : Int) ≠ 2 := by omega
    have e : s = _ := Sk.head_origin (h := e3) ..
    have hm : r = (w, .fail) := by
      have : ¬ ((origin : Int) < 0) := by omega
      have e4 : origin ≠ 0 ∧ origin ≠ 1 ∧ origin ≠ 2 := by omega
      simp [r, hseekI, hseek, hw, hs, this, ho, c0, c1, c2, e4]
    have e2 : ¬ seekPromotes a f offset origin := fun x => ho x.1
    simp [e, hm, hw, ho, e2, resCode, b2i, Sk.init]

/-- an origin below 0 is refused before anything is looked at (`Sk.head_origin` says it of every origin that is none of `DF_START`,
    `DF_CURRENT`, `DF_END`): whatever the record, the descriptor and the answers of the layer below (`hseekI` answers `fail` and keeps the world) -/
theorem Hseek_negative_origin (offset origin aid spec inq ddid tag ref doff dlen posn app eoff conv bsz nb re : Int) (nullF : Bool)
    (calls : List (List Int)) (ho : origin < 0) :
    let s := Hseek 0 aid offset origin false spec inq ddid calls tag ref doff dlen posn app eoff nullF conv bsz nb re
    s.ub = false ∧ s.oof = false ∧ s.ret = -1 ∧ s.access_rec_posn = posn ∧ s.access_rec_appendable = app ∧ s.calls = calls := by
  intro s
  have e : s = _ := Sk.head_origin (h := ⟨by omega, by omega, by omega⟩) ..
  simp [e, Sk.init]

/-- the access record after `HIrefresh_new` -/
theorem HIrefresh_new_refines (a : Acc) (f : File) (hs : a.special = false) (ddid tag ref : Int) (calls : List (List Int)) :
    let d := f.dd a.slot
    let s := HIrefresh_new 0 (b2i a.newElem) 0 ddid 0 calls tag ref (ddOff d) (ddLen d)
    s.ub = false ∧ s.oof = false ∧ s.access_rec_new_elem = b2i (a.refresh f).newElem ∧
    s.calls = calls ++ (if a.newElem = true then [[cINQ, ddid]] else []) := by
  intro d s
  have e : s = _ := HIrefresh_new_bool 0 a.newElem ddid tag ref (ddOff d) (ddLen d) calls
  rw [e]
  refine ⟨rfl, rfl, ?_, rfl⟩
  -- new afterwards exactly when the descriptor has no extent
  rcases ddLen_cases d with ⟨he, hl, ho⟩ | ⟨o, l, he, hl, ho⟩ <;> cases hn : a.newElem <;>
    simp [Acc.refresh, hs, hn, he, hl, ho, b2i, d] <;> omega

local macro "rd" "[" ts:Lean.Parser.Tactic.simpLemma,* "]" : tactic =>
  `(tactic| simp [Hread, Hread.chk, Hread.St.join, HIrefresh_new_bool, hread, hreadCore, refresh_acc, refresh_file,
      resCode, b2i, acc_setAcc, readLen, cINQ, cSEEK, cREAD, $ts,*])

/-- **`Hread` refines `hread`** on an ordinary record, for every `int32` length, where the file is open and `HPseek` succeeds: the bytes asked
    of `HP_read` are `readLen` (0 = to the end, clipped at the end, 34ac7b8), FAIL exactly when the model's `hpRead` fails (`hrd`); `hne`: a
    record that is not new belongs to an element with an extent. -/
theorem Hread_refines (w : World) (h : Nat) (a : Acc) (hw : w.acc h = some a) (hs : a.special = false)
    (length : Int) (aid ddid tag ref refc seekr cur readr : Int) (calls : List (List Int))
    (hopen : refc ≠ 0) (hseekr : seekr ≠ -1)
    (hne : a.newElem = false → ((w.file a.file).dd a.slot).ext ≠ none)
    (hrd : readr = -1 ↔ (w.file a.file).hpRead ((ddOff ((w.file a.file).dd a.slot)).toNat + a.posn)
        (readLen a ((w.file a.file).dd a.slot) length).toNat = none) :
    let f := w.file a.file
    let d := f.dd a.slot
    let s := Hread 0 aid length false false (b2i a.newElem) 0 ddid 0 calls tag ref (ddOff d) (ddLen d) false refc seekr a.posn cur readr
    let r := hread w h length
    s.ub = false ∧ s.oof = false ∧ s.ret = resCode r.2 ∧
    (r.1.acc h).map (fun a' => (a'.posn : Int)) = some s.access_rec_posn ∧
    (r.1.acc h).map (fun a' => b2i a'.newElem) = some s.access_rec_new_elem ∧
    s.calls = calls ++ (if a.newElem = true then [[cINQ, ddid]] else []) ++
      (if d.ext = none ∨ length < 0 then [] else
        [[cINQ, ddid], [cSEEK, a.posn + ddOff d], [cREAD, readLen a d length]]) := by
  intro f d s r
  have hf : w.file a.file = f := rfl
  have hd : f.dd a.slot = d := rfl
  clear_value d f
  rw [hf, hd] at hne hrd
  rcases ddLen_cases d with ⟨he, hl, ho⟩ | ⟨o, l, he, hl, ho⟩
  · have hn : a.newElem = true := by
      cases hn : a.newElem
      · exact absurd he (hne hn)
      · rfl
    have hrf : a.refresh f = a := by simp [Acc.refresh, hd, he]
    rd [HIrefresh_new_eq, s, r, hw, hf, he, hl, ho, hrf, hn]
  · have hrf : a.refresh f = { a with newElem := false } := by
      cases hn : a.newElem <;> simp [Acc.refresh, hd, he, hs, hn]
      cases a; simp_all
    by_cases h1 : length < 0
    · rd [s, r, hw, hs, hf, he, hl, ho, hrf, h1, hopen]
    · -- `n`: the byte count handed to HP_read / hpRead
      obtain ⟨n, hn⟩ : ∃ n : Nat, readLen a d length = n :=
        ⟨_, (Int.toNat_of_nonneg (by simp [readLen]; omega)).symm⟩
      simp only [he, h1, ho, hn, reduceCtorEq, false_or, if_false]
      rw [hn, ho] at hrd
      simp only [Int.toNat_natCast] at hrd
      have hnn : ¬ ((n : Int) < 0) := by omega
      have hp0 : f.hpRead (o + a.posn) 0 = some [] := by simp [File.hpRead, diskRead]
      by_cases hc : length = 0 ∨ length + a.posn > l
      · have hcC : length = 0 ∨ length > (l : Int) - a.posn := by omega
        simp only [readLen, hl, if_pos hc] at hn
        rcases (show (l : Int) - a.posn < 0 ∨ (l : Int) - a.posn = n by omega) with hneg | heq
        · obtain rfl : n = 0 := by omega
          have hr : readr ≠ -1 := fun x => by rw [hrd.mp x] at hp0; cases hp0
          rd [s, r, hw, hs, hf, hd, hl, ho, hrf, h1, hopen, hseekr, hc, hcC, hneg, hr] <;> omega
        · have hge : ¬ ((l : Int) - a.posn < 0) := by omega
          have hcC2 : length = 0 ∨ (n : Int) < length := by omega
          cases hp : f.hpRead (o + a.posn) n with
          | none =>
            have hr : readr = -1 := hrd.mpr hp
            rd [s, r, hw, hs, hf, hd, hl, ho, hrf, h1, hopen, hseekr, hc, hcC2, heq, hr, hp, hnn] <;> omega
          | some bs =>
            have hr : readr ≠ -1 := fun x => by rw [hrd.mp x] at hp; cases hp
            rd [s, r, hw, hs, hf, hd, hl, ho, hrf, h1, hopen, hseekr, hc, hcC2, heq, hr, hp, hnn] <;> omega
      · simp only [readLen, hl, if_neg hc] at hn
        obtain rfl : length = n := by omega
        have hc' : ¬ (n = 0 ∨ (l : Int) < ↑n + ↑a.posn) := by omega
        have hcC : ¬ (n = 0 ∨ (l : Int) - ↑a.posn < ↑n) := by omega
        cases hp : f.hpRead (o + a.posn) n with
        | none =>
          have hr : readr = -1 := hrd.mpr hp
          rd [s, r, hw, hs, hf, hd, hl, ho, hrf, h1, hopen, hseekr, hc', hcC, hr, hp] <;> omega
        | some bs =>
          have hr : readr ≠ -1 := fun x => by rw [hrd.mp x] at hp; cases hp
          rd [s, r, hw, hs, hf, hd, hl, ho, hrf, h1, hopen, hseekr, hc', hcC, hr, hp] <;> omega

local macro "tr" "[" ts:Lean.Parser.Tactic.simpLemma,* "]" : tactic =>
  `(tactic| simp [Htrunc, Htrunc.chk, htruncI, htrunc, resCode, b2i, acc_setAcc, cINQ, cUPD, ddView, file_setAcc, $ts,*])

/-- **`Htrunc` refines `htruncI`** on an ordinary record, for every `int32` length (a negative one is refused, 20ed5b8): result, position
    (pulled back to the new end), descriptor and end of file; `HTPupdate` is taken to succeed. -/
theorem Htrunc_refines (w : World) (h : Nat) (a : Acc) (hw : w.acc h = some a) (hs : a.special = false)
    (trunc_len : Int) (aid ddid tag ref eoff : Int) (acc : Nat) (calls : List (List Int)) (hacc : WriteBit acc a)
    (hfi : a.file < w.files.length) (hsl : a.slot < (w.file a.file).mem.length) (heoff : eoff = (w.file a.file).endOff) :
    let f := w.file a.file
    let d := f.dd a.slot
    let s := Htrunc 0 aid trunc_len false acc 0 0 ddid calls tag ref (ddOff d) (ddLen d) 0 eoff a.posn
    let r := htruncI w h trunc_len
    s.ub = false ∧ s.oof = false ∧ s.ret = resCode r.2 ∧
    (r.1.acc h).map (fun a' => (a'.posn : Int)) = some s.access_rec_posn ∧
    ddView (r.1.file a.file) a.slot = (s.dd_off, s.dd_len, s.file_rec_f_end_off) ∧
    s.calls = calls ++ (if a.canWrite = true ∧ 0 ≤ trunc_len then [[cINQ, ddid]] else []) ++
      (if a.canWrite = true ∧ 0 ≤ trunc_len ∧ trunc_len < ddLen d then [[cUPD, ddid, -2, trunc_len]] else []) := by
  intro f d s r
  have hf : w.file a.file = f := rfl
  have hd : f.dd a.slot = d := rfl
  clear_value d f
  rw [hf] at hsl heoff
  subst heoff
  rcases hacc.cases with ⟨hcw, hb⟩ | ⟨hcw, hb⟩
  · by_cases h0 : trunc_len < 0
    · tr [s, r, hw, hf, hd, hcw, hb, h0]
    · tr [s, r, hw, hf, hd, hcw, hb, h0]
  · by_cases h0 : trunc_len < 0
    · tr [s, r, hw, hf, hd, hcw, hb, h0]; omega
    · obtain ⟨n, rfl⟩ := Int.eq_ofNat_of_zero_le (show 0 ≤ trunc_len by omega)
      rcases ddLen_cases d with ⟨he, hl, ho⟩ | ⟨o, l, he, hl, ho⟩
      · have h1 : ¬ ((-1 : Int) > (n : Int)) := by omega
        have h1' : ¬ ((n : Int) < -1) := by omega
        tr [s, r, hw, hs, hf, hd, hcw, hb, h0, hl, ho, h1]
      · by_cases h1 : (l : Int) > n
        · have h2 : n < l := by omega
          by_cases h3 : n < a.posn
          · tr [s, r, hw, hs, hf, hd, hcw, hb, h0, he, h1, h3, file_setFile_same, hfi, ddSetExt_dd, ddSetExt_endOff, hsl, ddLen, ddOff]
            constructor <;> (try split) <;> omega
          · tr [s, r, hw, hs, hf, hd, hcw, hb, h0, he, h1, h3, file_setFile_same, hfi, ddSetExt_dd, ddSetExt_endOff, hsl, ddLen, ddOff]
            constructor <;> (try split) <;> omega
        · have h2 : ¬ (n < l) := by omega
          tr [s, r, hw, hs, hf, hd, hcw, hb, h0, hl, ho, h1]

local macro "sl" "[" ts:Lean.Parser.Tactic.simpLemma,* "]" : tactic =>
  `(tactic| simp [Hsetlength, Hsetlength.chk, Hsetlength.St.join, HIrefresh_new_eq, hsetlength, hsetlengthCore, refresh_acc,
      refresh_file, Acc.refresh, resCode, b2i, acc_setAcc, cINQ, cUPD, cBLOCK, ddView, file_setAcc, $ts,*])

/-- **`Hsetlength` refines `hsetlength`**; `blk` is the answer of `HPgetdiskblock(file_rec, length, FALSE)`: FAIL, or the old end of file.
    The model's allocation cannot fail, so for `blk = -1` there is nothing in it to compare with: the statement puts "`HIrefresh_new` has
    run, FAIL" in its place. -/
theorem Hsetlength_refines (w : World) (h : Nat) (a : Acc) (hw : w.acc h = some a) (hs : a.special = false)
    (length : Int) (aid ddid tag ref refc blk : Int) (acc : Nat) (calls : List (List Int)) (hacc : WriteBit acc a)
    (hopen : refc ≠ 0) (hfi : a.file < w.files.length) (hsl : a.slot < (w.file a.file).mem.length)
    (hblk : blk = -1 ∨ (0 ≤ length ∧ blk = (w.file a.file).endOff)) :
    let f := w.file a.file
    let d := f.dd a.slot
    let s := Hsetlength 0 aid length false (b2i a.newElem) 0 ddid 0 calls tag ref (ddOff d) (ddLen d) acc false refc blk f.endOff 0
    let r := if blk = -1 then (w.refresh h, Res.fail) else hsetlength w h length.toNat
    s.ub = false ∧ s.oof = false ∧ s.ret = resCode r.2 ∧
    (r.1.acc h).map (fun a' => b2i a'.newElem) = some s.access_rec_new_elem ∧
    ddView (r.1.file a.file) a.slot = (s.dd_off, s.dd_len, s.file_rec_f_end_off) ∧
    s.calls = calls ++ (if a.newElem = true then [[cINQ, ddid]] else []) ++
      (if a.newElem = true ∧ d.ext = none ∧ a.canWrite = true then
        [[cBLOCK, length, 0]] ++ (if blk = -1 then [] else [[cUPD, ddid, blk, length]]) else []) := by
  intro f d s r
  have hf : w.file a.file = f := rfl
  have hd : f.dd a.slot = d := rfl
  clear_value d f
  rw [hf] at hsl hblk
  have hb := hacc.cases
  cases hn : a.newElem
  · rcases hblk with hk | ⟨h0, hk⟩ <;> rcases ddLen_cases d with ⟨he, hl, ho⟩ | ⟨o, l, he, hl, ho⟩ <;>
      sl [s, r, hw, hs, hf, hd, hn, he, hl, ho, hk]
  · rcases ddLen_cases d with ⟨he, hl, ho⟩ | ⟨o, l, he, hl, ho⟩
    · rcases hb with ⟨hcw, hbit⟩ | ⟨hcw, hbit⟩
      · rcases hblk with hk | ⟨h0, hk⟩ <;> sl [s, r, hw, hs, hf, hd, hn, he, hl, ho, hk, hcw, hbit]
      · rcases hblk with hk | ⟨h0, hk⟩
        · sl [s, r, hw, hs, hf, hd, hn, he, hl, ho, hk, hopen, hcw, hbit]
        · obtain ⟨n, rfl⟩ := Int.eq_ofNat_of_zero_le h0
          have hfi' : a.file < (w.refresh h).files.length := by rw [refresh_files]; exact hfi
          have hv := setLength_view (w.refresh h) a.file a.slot n f hfi' hsl
          obtain ⟨c1, c2, c3, c4, c5, c6, c7, c8⟩ := Hsetlength_new 0 aid n ddid tag ref refc f.endOff acc calls hbit hopen
            (Int.natCast_nonneg _) (Int.natCast_nonneg _)
          simp [s, r, hn, hl, ho, hk, c1, c2, c3, c4, c5, c6, c7, c8, hsetlength, hsetlengthCore, refresh_acc, refresh_file, Acc.refresh, hw, hs, hf, hd,
            he, hcw, hv, resCode, b2i, acc_setAcc, file_setAcc]
    · rcases hblk with hk | ⟨h0, hk⟩ <;> sl [s, r, hw, hs, hf, hd, hn, he, hl, ho, hk]

/-- a file with one element (tag 100, ref 1) of 8 bytes at offset 10, the last thing in the file (end of file 18) -/
def exF : File := { present := true, isOpen := true, writable := true, disk := List.replicate 18 7, endOff := 18,
                    mem := [{ tag := 100, ref := 1, ext := some (10, 8) }], dsk := [{ tag := 100, ref := 1, ext := some (10, 8) }] }
/-- a writable access record on it, positioned at byte 2 -/
def exA : Acc := { file := 0, slot := 0, posn := 2, canWrite := true }
def exW : World := { files := [exF], accs := [(1, exA)] }

-- `Hseek(aid, 3, DF_START)`: hypotheses of `Hseek_refines` hold, the translated code and the model move to position 3
example : exW.acc 1 = some exA ∧ exA.special = false ∧ fits32 3 ∧ (exA.posn : Int) ≤ 2147483647 ∧
    ddLen ((exW.file exA.file).dd exA.slot) ≤ 2147483647 := by decide +kernel
example : let s := Hseek 0 7 3 0 false 0 0 5 [] 100 1 10 8 2 0 18 false 0 4096 16 0
    s.ub = false ∧ s.ret = 0 ∧ s.access_rec_posn = 3 ∧ s.calls = [[1, 5]] ∧ (hseekI exW 1 3 0).2 = Res.ok := by decide +kernel
-- a position that does not fit an int32 (7739a98): refused by both
example : (Hseek 0 7 2147483647 1 false 0 0 5 [] 100 1 10 8 2 0 18 false 0 4096 16 0).ret = -1 ∧
    (hseekI exW 1 2147483647 1).2 = Res.fail := by decide +kernel
-- the file record is dereferenced without a NULL test on the appendable path: with `file_rec_null = true` the translation reports undefined behaviour
example : (Hseek 0 7 9 0 false 0 0 5 [] 100 1 10 8 2 1 18 true 0 4096 16 0).ub = true := by decide +kernel

-- `Hread(aid, 100, buf)` at position 2 of the 8-byte element: clipped to 6 bytes at offset 12
example : let s := Hread 0 7 100 false false 0 0 5 0 [] 100 1 10 8 false 1 0 2 0 0
    s.ub = false ∧ s.ret = 6 ∧ s.access_rec_posn = 8 ∧ s.calls = [[1, 5], [3, 12], [4, 6]] ∧
    readLen exA (exF.dd 0) 100 = 6 := by decide +kernel
-- `Hread(aid, INT32_MAX, buf)`: clipped too (34ac7b8: the sum `length + posn` is not formed)
example : (Hread 0 7 2147483647 false false 0 0 5 0 [] 100 1 10 8 false 1 0 2 0 0).ret = 6 := by decide +kernel

-- `Htrunc(aid, 3)`: length 3, position 2 stays; `Htrunc(aid, -5)`: refused (20ed5b8), nothing logged but nothing changed
example : let s := Htrunc 0 7 3 false 3 0 0 5 [] 100 1 10 8 0 18 2
    s.ub = false ∧ s.ret = 3 ∧ s.dd_len = 3 ∧ s.access_rec_posn = 2 ∧ s.calls = [[1, 5], [2, 5, -2, 3]] ∧ WriteBit 3 exA := by decide +kernel
example : let s := Htrunc 0 7 (-5) false 3 0 0 5 [] 100 1 10 8 0 18 2
    s.ret = -1 ∧ s.dd_len = 8 ∧ s.access_rec_posn = 2 ∧ s.calls = [] ∧ (htruncI exW 1 (-5)).2 = Res.fail := by decide +kernel

-- `Hsetlength(aid, 4)` on a new element of a file that ends at 18: extent (18, 4), end of file 22
example : let s := Hsetlength 0 7 4 false 1 0 5 0 [] 100 1 (-1) (-1) 3 false 1 18 18 0
    s.ub = false ∧ s.ret = 0 ∧ s.access_rec_new_elem = 0 ∧ s.dd_off = 18 ∧ s.dd_len = 4 ∧ s.file_rec_f_end_off = 22 ∧
    s.calls = [[1, 5], [7, 4, 0], [2, 5, 18, 4]] := by decide +kernel

end H4.Props.C01Fn
