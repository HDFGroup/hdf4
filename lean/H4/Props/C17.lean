import H4.Lemmas.DDAdded
import H4.Lemmas.DDFlush
import H4.DDConfig
/-! # C17 — a crash while adding objects never damages what was already in the file (DD-directory level)

Built on the C12 model `H4.DD`, extended with the ordered log of physical writes (`File.log`, kinds `Wr`: block header,
`nextoffset` patch, whole DD list, single descriptor, element data, reservation byte), at the granularity the C issues
them: `HTIupdate_dd` = one 12-byte write, `HTInew_dd_block` = header write + DD-list write (+ reservation byte and
`nextoffset` patch when not caching), `HTPsync` = per dirty block, head to tail, one header write then one DD-list write.

A *session* starts with `Hopen` (state `s0`, DD caching on by default) and consists of adding calls (`adds`): `Hputelement`
/ `Hstartwrite` of tag/refs that do not exist, `Hdupdd` to a new tag/ref, and read-only calls; no delete, no rewrite, no
`Hsync`/`Hcache`/`Hclose` (those are the flush). -/
namespace H4.Props.C17
open H4.DD H4.Gen.Hdf

/-- everything stored lies below `f_end_off`: every DD block and every element extent -/
def ExtOK (s : File) : Prop :=
  (∀ b ∈ s.blocks, b.myoff + (NDDS_SZ + OFFSET_SZ) + b.dds.length * DD_SZ ≤ s.fEnd) ∧
  (∀ d ∈ s.slots, d.off + d.len ≤ (s.fEnd : Int))

/-- **right after `Hopen`** the end-of-file offset the library computes bounds every DD block and every element extent -/
theorem open_end_bounds (cfg : Cfg) {s s0 : File} (h : Inv cfg s) (ho : hreopen cfg s = some s0) :
    Inv cfg s0 ∧ ExtOK s0 ∧ s0.cache = defaultCache ∧ (∀ b ∈ s0.blocks, b.dirty = false) ∧ s0.log = [] ∧ s0.abs.Perm s.abs := by
  obtain ⟨s', hs', hinv', hperm, hb, hf, hc, hl⟩ := hreopen_inv cfg h
  rw [ho] at hs'
  cases hs'
  refine ⟨hinv', ⟨?_, ?_⟩, hc, ?_, hl, hperm⟩
  · rw [hf]; exact (endOff_spec s0.blocks).1
  · intro d hd
    obtain ⟨b, hbm, hdb⟩ := List.mem_flatMap.mp hd
    rw [hf]; exact (endOff_spec s0.blocks).2 b hbm d hdb
  · rw [hb]
    intro b hbm
    obtain ⟨b0, _, rfl⟩ := List.mem_map.mp hbm
    rfl

/-- **append_only_before_flush**: from any state of an open file with DD caching on, along any history of adding calls
    (every step guarded, see `H4.DD.guard`; holds for every `Cfg`, in particular for the code as it is), every physical
    write issued starts at or beyond `f_end_off` of the starting state; caching stays on. -/
theorem append_only_before_flush (cfg : Cfg) {s0 : File} (h : Inv cfg s0) (hc : s0.cache = true) (ops : List Op)
    (hg : guarded cfg s0 ops = true) (ha : addingOnly cfg s0 ops = true) :
    ∃ s', (run cfg s0 ops).2 = some s' ∧ s'.cache = true ∧
      ∃ ws, s'.chronLog = s0.chronLog ++ ws ∧ ∀ w ∈ ws, s0.fEnd ≤ w.off := by
  obtain ⟨s', hs', _, hm, _⟩ := adding_history cfg ops s0 h hc hg ha
  obtain ⟨hc', _, ⟨ws, hl, ho⟩, _⟩ := hm
  refine ⟨s', hs', by rw [hc', hc], ws.reverse, ?_, fun w hw => ho w (List.mem_reverse.mp hw)⟩
  unfold File.chronLog
  rw [hl, List.reverse_append]

/-- … and at the start of a session (right after `Hopen`) that offset bounds every descriptor block and every element
    extent of the file, the write log is empty and nothing is pending: so every write of an adding session lies beyond
    everything previously stored. -/
theorem append_only_after_open (cfg : Cfg) {s s0 : File} (h : Inv cfg s) (ho : hreopen cfg s = some s0) (ops : List Op)
    (hg : guarded cfg s0 ops = true) (ha : addingOnly cfg s0 ops = true) :
    ExtOK s0 ∧ ∃ s', (run cfg s0 ops).2 = some s' ∧ ∀ w ∈ s'.chronLog, s0.fEnd ≤ w.off := by
  obtain ⟨hinv0, hext, hc0, _, hl0, _⟩ := open_end_bounds cfg h ho
  have hc : s0.cache = true := by rw [hc0]; decide
  obtain ⟨s', hs', _, ws, hl, hw⟩ := append_only_before_flush cfg hinv0 hc ops hg ha
  refine ⟨hext, s', hs', ?_⟩
  intro w hwm
  rw [hl] at hwm
  unfold File.chronLog at hwm
  rw [hl0] at hwm
  simp at hwm
  exact hw w hwm

/-- **flush_prefix_safe**: a session starts in a state with nothing pending (as `Hopen`, `Hsync` or `Hclose` leave it),
    DD caching on, and only adds (with the fix of F3/F3′ in: `fixF3`).  Take the state `s'` it reaches and ANY prefix (the
    first `j` writes) of the physical writes of the flush `HTPsync` would issue: the DD chain read from the resulting image
    as `HTPstart` reads it decodes, contains every descriptor that was live at the start of the session, unchanged
    (tag, ref, offset, length), and contains no live descriptor that is not in the directory in memory. -/
theorem flush_prefix_safe (cfg : Cfg) (hfix : cfg.fixF3 = true) {s0 : File} (h : Inv cfg s0) (hc : s0.cache = true)
    (hclean : ∀ b ∈ s0.blocks, b.dirty = false) (ops : List Op)
    (hg : guarded cfg s0 ops = true) (ha : addingOnly cfg s0 ops = true) :
    ∃ s', (run cfg s0 ops).2 = some s' ∧ ∀ j, ∃ chain,
      decodeBlocks (applyWrs s'.disk ((syncWrites s'.blocks).take j)) = some chain ∧
      (∀ x ∈ s0.live, x ∈ liveOf (slotsOf chain)) ∧ (∀ x ∈ liveOf (slotsOf chain), x ∈ s'.live) := by
  obtain ⟨s', hs', hinv', hm, hadd⟩ := adding_history cfg ops s0 h hc hg ha
  have hadd' := hadd hfix (added_of_clean h.wf h.disk hclean)
  refine ⟨s', hs', fun j => ?_⟩
  obtain ⟨chain, _, hchain, h1, h2⟩ := flush_any_safe cfg hinv' hadd' _ (fun _ hw => List.mem_of_mem_take hw)
  -- the chain on disk before the flush is the directory as it was at the start of the session
  rw [hm.cut_old h.disk hclean] at h1
  exact ⟨chain, hchain, h1, h2⟩

/-- on this history the complete flush, replayed write by write (`applyWrs` over `syncWrites`), gives the disk image the model's
    `htpSync` computes; checked here by evaluation only: no theorem states it for every state -/
example : (let s := (run currentCfg (hopenCreate currentCfg 4) [.put 100 1 4, .put 100 2 4, .put 100 3 4, .put 100 4 4, .put 100 5 4]).2.get!
    decide (applyWrs s.disk (syncWrites s.blocks) = (htpSync s).disk)) = true := by decide +kernel

/-- a session on a reopened file with `ndds = 4` that adds 5 elements (a new DD block is needed): all 7 prefixes of the 6 flush
    writes decode and keep the 4 old descriptors -/
example : (let s0 := (run currentCfg (hopenCreate currentCfg 4) [.put 100 1 4, .put 100 2 4, .put 100 3 4, .reopen]).2.get!
    let s := (run currentCfg s0 [.put 101 1 3, .put 101 2 3, .dup 101 3 101 1, .put 101 4 1, .put 101 5 1]).2.get!
    (List.range ((syncWrites s.blocks).length + 1)).map (fun j =>
      match decodeBlocks (applyWrs s.disk ((syncWrites s.blocks).take j)) with
      | none => 0
      | some chain => (liveOf (slotsOf chain)).length)) = [4, 4, 4, 4, 8, 8, 9] := by decide +kernel

/-- before the fix of F3′ (`Cfg.asIs`, caching on) the new block's header was not on disk when its predecessor was linked
    to it: after the first two writes of the flush the file did not open -/
example : (let s0 := (run Cfg.asIs (hopenCreate Cfg.asIs 4) [.put 100 1 4, .put 100 2 4, .put 100 3 4, .reopen]).2.get!
    let s := (run Cfg.asIs s0 [.put 101 1 3, .put 101 2 3]).2.get!
    (decodeBlocks (applyWrs s.disk ((syncWrites s.blocks).take 1))).isSome) = false := by decide +kernel

example : (let s0 := (run currentCfg (hopenCreate currentCfg 4) [.put 100 1 4, .put 100 2 4, .put 100 3 4, .reopen]).2.get!
    guarded currentCfg s0 [.put 101 1 3, .put 101 2 3, .dup 101 3 101 1, .put 101 4 1, .put 101 5 1] &&
    addingOnly currentCfg s0 [.put 101 1 3, .put 101 2 3, .dup 101 3 101 1, .put 101 4 1, .put 101 5 1]) = true := by
  decide +kernel

end H4.Props.C17
