import H4.Lemmas.C01FnInq
/-! # C01, function level — `Hinquire` of `hdf/src/hfile.c` as TRANSLATED from the C text (see `H4.Props.C01Fn` for the conventions) -/
namespace H4.Props.C01Fn
open H4 H4.Elem H4.Gen.Fn.Hfile2 H4.Gen.Hdf H4.Lemmas.C01Fn

/-- **`Hinquire` refines `hinquire`** on an ordinary record, for every pattern of NULL / non-NULL among its eight output pointers: a non-NULL
    one (one cell at least) receives the value in cell 0 (`outCell`), and the only call is `HTPinquire`, taken to succeed. -/
theorem Hinquire_refines (w : World) (h : Nat) (a : Acc) (hw : w.acc h = some a) (hs : a.special = false)
    (aid ddid tag ref fid acc : Int) (calls : List (List Int))
    (nfid ntag nref nlen noff nposn nacc nspec : Bool) (pfid ptag pref plen poff pposn pacc pspec : List Int)
    (h1 : nfid = false → 0 < pfid.length) (h2 : ntag = false → 0 < ptag.length) (h3 : nref = false → 0 < pref.length)
    (h4 : nlen = false → 0 < plen.length) (h5 : noff = false → 0 < poff.length) (h6 : nposn = false → 0 < pposn.length)
    (h7 : nacc = false → 0 < pacc.length) (h8 : nspec = false → 0 < pspec.length) :
    let f := w.file a.file
    let d := f.dd a.slot
    let s := Hinquire 0 aid nfid pfid ptag ntag pref nref plen nlen poff noff nposn pposn nacc pacc nspec pspec false 0 fid 0 ddid calls
      tag ref (ddOff d) (ddLen d) a.posn acc
    s.ub = false ∧ s.oof = false ∧ s.ret = 0 ∧
    (hinquire w h).2 = .info (ddLen d) (ddOff d) a.posn 0 ∧
    s.plength = outCell nlen plen (ddLen d) ∧ s.poffset = outCell noff poff (ddOff d) ∧ s.pposn = outCell nposn pposn a.posn ∧
    s.pspecial = outCell nspec pspec 0 ∧ s.ptag = outCell ntag ptag tag ∧ s.pref = outCell nref pref ref ∧
    s.pfile_id = outCell nfid pfid fid ∧ s.paccess = outCell nacc pacc ((acc + 32768) % 65536 - 32768) ∧
    s.calls = calls ++ [[cINQ, ddid]] := by
  intro f d s
  have e : s = _ := Inq.cut ..
  rw [Inq.entry_eq _ rfl rfl rfl rfl, Inq.fileId_eq _ rfl rfl rfl h1, Inq.dd_eq _ rfl rfl rfl rfl h2 h3 h5 h4, Inq.posn_eq _ rfl rfl rfl h6,
    Inq.access_eq _ rfl rfl rfl h7, Inq.special_eq _ rfl rfl h8, Inq.exit_eq _ rfl] at e
  simp [e, hinquire, hw, hs, f, d]

-- what engine elem asks: length, offset, position, special code
example : let s := Hinquire 0 7 true [] [] true [] true [0] false [0] false false [0] true [] false [0] false 0 3 0 5 [] 100 1 10 8 2 3
    s.ub = false ∧ s.ret = 0 ∧ s.plength = [8] ∧ s.poffset = [10] ∧ s.pposn = [2] ∧ s.pspecial = [0] ∧ s.calls = [[1, 5]] := by decide +kernel

end H4.Props.C01Fn
