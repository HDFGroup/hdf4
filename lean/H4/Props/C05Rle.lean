import H4.Lemmas.C05Rle
import H4.Props.C05
/-! C05, function-level Tie A for `hdf/src/crle.c`: `HCIcrle_encode`, `HCIcrle_term` and `HCIcrle_decode` as translated statement by
    statement from the CURRENT C text (`H4.Gen.Fn.Crle`, written by gen/c2lean.py on every run; `switch` on the coder state, the
    `rle_info` record as fields `rle_*`, `HDputc`/`Hwrite` appending to the region `io_out`, `HDgetc`/`Hread` consuming `io_in` at
    `io_pos`) compute exactly the hand-written model `H4.Rle` that the C05 theorem `rle_roundtrip` is about - for every input of any
    length, from every coder state related to a model state - and never index outside a buffer (`ub = false`) and terminate
    (`oof = false`).  `bytes` converts a model byte string (`List UInt8`) into the `uint8` array the translated code sees (`List Int`).
    A change of the C text changes the generated definitions; these theorems are re-checked against them. -/
namespace H4.Props.C05Rle
open H4 H4.Rle H4.Gen.Crle H4.Gen.Fn.Crle H4.Lemmas.C05Rle

/-- **`HCIcrle_encode`** as translated from crle.c: for EVERY input `bs` and EVERY coder record related (`EncRel`, see
    `H4.Lemmas.C05Rle`) to a model encoder state `e` - whatever was written before, whatever the output stream `io_out` holds - the C
    code reads only inside `buf`, writes only inside `rle_info->buffer` (`ub = false`), terminates (fuel = number of bytes), returns
    SUCCEED, has appended to the underlying element exactly the serialised packets the model's `encRun e bs` emits, leaves a record
    related to the model's resulting state, has advanced `offset` by the length and has set `encoding` iff it was given a byte.
    `_hlen`, `_hoff` are the C-side ranges (`length`, `offset` are `int32`; the translation computes in unbounded integers). -/
theorem HCIcrle_encode_refines (e : Enc) (bs : List Byte) (fuel : Nat) (hf : bs.length ≤ fuel)
    (encoding st len pos last second offset : Int) (buffer io_out : List Int)
    (_hlen : bs.length < 2 ^ 31) (_hoff : offset + bs.length < 2 ^ 31)
    (hrel : EncRel e st len pos last second buffer) :
    let s := HCIcrle_encode fuel encoding st buffer last len pos second offset bs.length (bytes bs) io_out
    s.ub = false ∧ s.oof = false ∧ s.ret = 0 ∧ s.io_out = io_out ++ bytes (ser (encRun e bs).2) ∧
      EncRel (encRun e bs).1 s.rle_rle_state s.rle_buf_length s.rle_buf_pos s.rle_last_byte s.rle_second_byte s.rle_buffer ∧
      s.rle_offset = offset + bs.length ∧ s.rle_encoding = (if bs = [] then encoding else 1) := by
  intro s
  have hs : s = encFinish (HCIcrle_encode.loop0 fuel (encStart encoding st buffer last len pos second offset bs.length (bytes bs) io_out)) :=
    enc_unfold ..
  obtain ⟨h1, h2, h3, h4, h5, h6, h7, h8, h9⟩ := enc_loop bs bs e fuel
    (encStart encoding st buffer last len pos second offset bs.length (bytes bs) io_out) 0 hf rfl rfl rfl rfl rfl rfl rfl hrel
  rw [hs, encFinish_of_not_done h3]
  refine ⟨h1, h2, rfl, h4, h5, ?_, ?_⟩
  · simp only [h6, h7]; rfl
  · refine Eq.trans h8 ?_
    simp only [encStart]
    cases bs <;> simp

/-- the hypotheses are satisfiable and the translated code runs: a literal, a run of four cut by the end of the call -/
example :
    EncRel {} 0 0 0 nil32 nil32 (List.replicate 128 0) ∧
    (let s := HCIcrle_encode 6 0 0 (List.replicate 128 0) nil32 0 0 nil32 0 6 (bytes [1, 2, 7, 7, 7, 7]) []
     s.ub = false ∧ s.oof = false ∧ s.ret = 0 ∧ s.io_out = [1, 1, 2] ∧ s.rle_rle_state = 1 ∧ s.rle_buf_length = 4 ∧ s.rle_last_byte = 7 ∧
       s.rle_offset = 6 ∧ s.rle_encoding = 1) ∧
    (encRun {} [1, 2, 7, 7, 7, 7]).2 = [Pkt.mix [1, 2]] := by
  unfold EncRel; decide +kernel

/-- **`HCIcrle_term`** as translated from crle.c, in state RUN or MIX (the callers `HCPcrle_endaccess` / `HCPcrle_seek` test
    `rle_state != RLE_INIT` first): writes exactly the model's final packet `encTerm e`, stays inside `rle_info->buffer`, returns SUCCEED
    and resets the record to the model's initial state `{}` (`encoding = FALSE`, `last_byte = second_byte = RLE_NIL`). -/
theorem HCIcrle_term_refines (e : Enc) (hmode : e.mode ≠ .init) (fuel : Nat) (st len pos last second encoding : Int)
    (buffer io_out : List Int) (hrel : EncRel e st len pos last second buffer) :
    let s := HCIcrle_term fuel st len last buffer encoding second io_out
    s.ub = false ∧ s.oof = false ∧ s.ret = 0 ∧ s.io_out = io_out ++ bytes (ser (encTerm e)) ∧
      EncRel {} s.rle_rle_state s.rle_buf_length pos s.rle_last_byte s.rle_second_byte s.rle_buffer ∧ s.rle_encoding = 0 := by
  obtain ⟨c1, c2, c3, c4, c5, c6⟩ := consts
  obtain ⟨mode, ebuf, elen, elast, esecond⟩ := e
  obtain ⟨hbl, hlast, hsecond, hm⟩ := hrel
  simp only at hbl hlast hsecond hm hmode
  rw [c3] at hbl
  cases mode with
  | init => exact absurd rfl hmode
  | run =>
    simp only at hm
    obtain ⟨hst, hlen, h3, h130, hsome⟩ := hm
    rw [c4] at h3
    obtain ⟨v, rfl⟩ := Option.isSome_iff_exists.mp hsome
    subst hst hlen hlast
    have h3i : (3 : Int) ≤ (elen : Int) := Int.ofNat_le.mpr h3
    simp [HCIcrle_term, HCIcrle_term.chk, putc_ok', hbl, encTerm, EncRel, ser, bytes_ser_run, c3, h3i, nil32_eq]
  | mix =>
    simp only at hm
    obtain ⟨hst, hlen, hpos, h1, h128, hbuflen, hbuf⟩ := hm
    rw [c6] at h1; rw [c3] at h128
    subst hst hlen hpos
    have hf3 : (elen : Int) ≤ 128 := Int.ofNat_le.mpr (Nat.le_of_lt h128)
    simp [HCIcrle_term, HCIcrle_term.chk, putc_ok', hbl, encTerm, EncRel, ser,
      bytes_ser_mix ebuf ((elen : Int) - 1) (by rw [hbuflen, Int.sub_add_cancel]) (Int.sub_nonneg_of_le (Int.ofNat_le.mpr h1)),
      c3, not_neg_one (Int.natCast_nonneg elen), hf3, hbuf, nil32_eq]

/-- in state INIT `HCIcrle_term` fails (`default:` branch) without writing or changing anything - the model's `encTerm` emits nothing there -/
theorem HCIcrle_term_init (fuel : Nat) (len last second encoding : Int) (buffer io_out : List Int) :
    let s := HCIcrle_term fuel 0 len last buffer encoding second io_out
    s.ub = false ∧ s.oof = false ∧ s.ret = -1 ∧ s.io_out = io_out ∧ s.rle_rle_state = 0 ∧ s.rle_buf_length = len ∧
      s.rle_last_byte = last ∧ s.rle_second_byte = second ∧ s.rle_buffer = buffer ∧ s.rle_encoding = encoding := by
  simp [HCIcrle_term]

/-- the hypotheses are satisfiable and the translated code runs: a pending run of 4 sevens is flushed as `0x81 0x07` -/
example :
    EncRel { mode := .run, len := 4, last := some 7, second := some 7 } 1 4 2 7 7 (List.replicate 128 0) ∧
    (let s := HCIcrle_term 0 1 4 7 (List.replicate 128 0) 1 7 [1, 1, 2]
     s.ub = false ∧ s.ret = 0 ∧ s.io_out = [1, 1, 2, 129, 7] ∧ s.rle_rle_state = 0 ∧ s.rle_last_byte = nil32 ∧ s.rle_encoding = 0) := by
  unfold EncRel; decide +kernel

/-- the `comp_coder_rle_info_t` record together with the bytes written so far to the underlying DFTAG_COMPRESSED element -/
structure Rec where
  st : Int
  len : Int
  pos : Int
  last : Int
  second : Int
  offset : Int
  encoding : Int
  buffer : List Int
  io : List Int

/-- what `HCIcrle_init` (crle.c) stores: `rle_state = RLE_INIT`, `encoding = FALSE`, `buf_pos = 0`, `last_byte = second_byte =
    (unsigned)RLE_NIL`, `offset = 0`; `buf_length` and the buffer are left as they are; the element is empty -/
def initRec (len : Int) (buffer : List Int) : Rec :=
  { st := 0, len := len, pos := 0, last := nil32, second := nil32, offset := 0, encoding := 0, buffer := buffer, io := [] }

/-- one `HCPcrle_write` = one call of the TRANSLATED `HCIcrle_encode` on the record; `none` = ub / out of fuel / FAIL -/
def writeCall (r : Rec) (bs : List Byte) : Option Rec :=
  let s := HCIcrle_encode bs.length r.encoding r.st r.buffer r.last r.len r.pos r.second r.offset bs.length (bytes bs) r.io
  if s.ub || s.oof || s.ret != 0 then none
  else some { st := s.rle_rle_state, len := s.rle_buf_length, pos := s.rle_buf_pos, last := s.rle_last_byte, second := s.rle_second_byte,
              offset := s.rle_offset, encoding := s.rle_encoding, buffer := s.rle_buffer, io := s.io_out }

def writeCalls : Rec → List (List Byte) → Option Rec
  | r, [] => some r
  | r, p :: ps => (writeCall r p).bind fun r' => writeCalls r' ps

/-- `HCPcrle_endaccess`: `if (rle_info->encoding && rle_info->rle_state != RLE_INIT) HCIcrle_term(info)` on the TRANSLATED
    `HCIcrle_term`; the result is the content of the underlying element -/
def endaccess (r : Rec) : Option (List Int) :=
  if r.encoding ≠ 0 ∧ r.st ≠ 0 then
    let s := HCIcrle_term 0 r.st r.len r.last r.buffer r.encoding r.second r.io
    if s.ub || s.oof || s.ret != 0 then none else some s.io_out
  else some r.io

/-- the relation kept between two calls: the record is related to the model state reached, everything the model emitted is in the
    element, and a record that holds pending bytes has `encoding` set -/
def RecRel (e : Enc) (emitted : List Pkt) (r : Rec) : Prop :=
  EncRel e r.st r.len r.pos r.last r.second r.buffer ∧ r.io = bytes (ser emitted) ∧ (r.st ≠ 0 → r.encoding = 1)

theorem writeCall_rel (e : Enc) (em : List Pkt) (r : Rec) (bs : List Byte) (hl : bs.length < 2 ^ 31) (ho : r.offset + bs.length < 2 ^ 31)
    (h : RecRel e em r) :
    ∃ r', writeCall r bs = some r' ∧ RecRel (encRun e bs).1 (em ++ (encRun e bs).2) r' ∧ r'.offset = r.offset + bs.length := by
  obtain ⟨h1, h2, h3⟩ := h
  have key := HCIcrle_encode_refines e bs bs.length (Nat.le_refl _) r.encoding r.st r.len r.pos r.last r.second
    r.offset r.buffer r.io hl ho h1
  simp only at key
  generalize hs : HCIcrle_encode bs.length r.encoding r.st r.buffer r.last r.len r.pos r.second r.offset bs.length (bytes bs) r.io = s at key
  obtain ⟨g1, g2, g3, g4, g5, g6, g7⟩ := key
  refine ⟨{ st := s.rle_rle_state, len := s.rle_buf_length, pos := s.rle_buf_pos, last := s.rle_last_byte, second := s.rle_second_byte,
            offset := s.rle_offset, encoding := s.rle_encoding, buffer := s.rle_buffer, io := s.io_out }, ?_, ⟨g5, ?_, ?_⟩, g6⟩
  · simp only [writeCall, hs, g1, g2, g3]; rfl
  · simp only [g4, h2, ser, List.flatMap_append, bytes_append]
  · intro hst
    simp only [g7]
    cases bs with
    | nil =>
      simp only [↓reduceIte]
      apply h3
      intro h0
      apply hst
      obtain ⟨-, -, -, hm⟩ := g5
      obtain ⟨-, -, -, hm0⟩ := h1
      simp only [encRun] at hm
      revert hm hm0
      cases e.mode <;> simp <;> omega
    | cons b bs => simp

theorem writeCalls_rel : ∀ (pieces : List (List Byte)) (e : Enc) (em : List Pkt) (r : Rec), RecRel e em r → 0 ≤ r.offset →
    r.offset + pieces.flatten.length < 2 ^ 31 →
    ∃ r', writeCalls r pieces = some r' ∧ RecRel (encRun e pieces.flatten).1 (em ++ (encRun e pieces.flatten).2) r' ∧
      r'.offset = r.offset + pieces.flatten.length := by
  intro pieces
  induction pieces with
  | nil => intro e em r h _ _; exact ⟨r, rfl, by simpa [encRun] using h, by simp⟩
  | cons p ps ih =>
    intro e em r h h0 hl
    simp only [List.flatten_cons, List.length_append] at hl
    obtain ⟨r1, w1, rel1, o1⟩ := writeCall_rel e em r p (by omega) (by omega) h
    obtain ⟨r2, w2, rel2, o2⟩ := ih (encRun e p).1 (em ++ (encRun e p).2) r1 rel1 (by omega) (by omega)
    refine ⟨r2, by simp only [writeCalls, w1, Option.bind_some, w2], ?_, ?_⟩
    · simpa [encRun_append, List.append_assoc] using rel2
    · simp only [List.flatten_cons, List.length_append]; omega

theorem endaccess_rel (e : Enc) (em : List Pkt) (r : Rec) (h : RecRel e em r) : endaccess r = some (bytes (ser (em ++ encTerm e))) := by
  obtain ⟨h1, h2, h3⟩ := h
  by_cases hst : r.st = 0
  · simp [endaccess, hst, h2, encTerm, h1.st_eq_zero.mp hst]
  · have hm : e.mode ≠ .init := mt h1.st_eq_zero.mpr hst
    have key := HCIcrle_term_refines e hm 0 r.st r.len r.pos r.last r.second r.encoding r.buffer r.io h1
    simp only at key
    obtain ⟨g1, g2, g3, g4, -, -⟩ := key
    have he : r.encoding ≠ 0 := by rw [h3 hst]; decide
    simp only [endaccess, ne_eq, he, not_false_eq_true, hst, and_self, ↓reduceIte, g1, g2, g3, g4]
    simp only [h2, ser, List.flatMap_append, bytes_append]
    rfl

/-- **the bytes the C TEXT stores for an element**: starting from the record `HCIcrle_init` sets up, ANY sequence of write calls
    (`pieces`: any partition of the data, empty pieces included) through the translated `HCIcrle_encode`, followed by the flush of
    `HCPcrle_endaccess` through the translated `HCIcrle_term`, runs without undefined behaviour and without failure and leaves in the
    underlying element exactly `Rle.compress` of the concatenated data - the byte string `rle_roundtrip` is about.
    In particular the result does not depend on how the data is split over the calls. -/
theorem crle_compress_refines (pieces : List (List Byte)) (len0 : Int) (buffer : List Int) (hb : buffer.length = RLE_BUF_SIZE)
    (hlen : pieces.flatten.length < 2 ^ 31) :
    (writeCalls (initRec len0 buffer) pieces).bind endaccess = some (bytes (compress pieces.flatten)) := by
  have hrel : RecRel {} [] (initRec len0 buffer) := by
    refine ⟨⟨hb, rfl, rfl, rfl⟩, rfl, ?_⟩
    intro h; exact absurd rfl h
  obtain ⟨r', w, rel, -⟩ := writeCalls_rel pieces {} [] (initRec len0 buffer) hrel (by simp [initRec]) (by simp only [initRec]; omega)
  rw [w, Option.bind_some, endaccess_rel _ _ _ rel]
  simp [compress, encode]

/-- the same for the element written in ONE call: the C text stores `Rle.compress bs`, which `rle_roundtrip` decodes back to `bs` -/
theorem crle_single_write_roundtrip (bs : List Byte) (len0 : Int) (buffer : List Int) (hb : buffer.length = RLE_BUF_SIZE)
    (hlen : bs.length < 2 ^ 31) :
    ∃ raw, (writeCalls (initRec len0 buffer) [bs]).bind endaccess = some (bytes raw) ∧ dec raw = some bs :=
  ⟨compress bs, by simpa using crle_compress_refines [bs] len0 buffer hb (by simpa using hlen), H4.Props.C05.rle_roundtrip bs⟩

/-- split independence, stated on the translated code alone: two partitions of the same data leave the same bytes in the element -/
theorem crle_split_independent (p q : List (List Byte)) (len0 len1 : Int) (b0 b1 : List Int) (h0 : b0.length = RLE_BUF_SIZE)
    (h1 : b1.length = RLE_BUF_SIZE) (hpq : p.flatten = q.flatten) (hlen : p.flatten.length < 2 ^ 31) :
    (writeCalls (initRec len0 b0) p).bind endaccess = (writeCalls (initRec len1 b1) q).bind endaccess := by
  rw [crle_compress_refines p len0 b0 h0 hlen, crle_compress_refines q len1 b1 h1 (hpq ▸ hlen), hpq]

/-- the translated code runs: three write calls (one of them empty), a run crossing a call boundary, flush -/
example :
    (writeCalls (initRec 0 (List.replicate 128 0)) [[1, 2, 7], [], [7, 7, 7, 3]]).bind endaccess = some [1, 1, 2, 129, 7, 0, 3] ∧
    bytes (compress [1, 2, 7, 7, 7, 7, 3]) = [1, 1, 2, 129, 7, 0, 3] := by
  decide +kernel

/-- **`HCIcrle_decode`** as translated from crle.c, ANY call of a read sequence: the record and the position in the underlying element are
    related (`DecRel`, see `H4.Lemmas.C05Rle`) to "the bytes still to come are `rem`" - `rem` = the rest of a partly delivered packet
    followed by what the model's `decFuel` makes of the compressed stream `cs` from `io_pos` on.  Asked for `n ≤ |rem|` bytes the C code
    stays inside `buf`, `rle_info->buffer` and the input (`ub = false`), terminates (fuel = `n`), returns SUCCEED, has stored exactly the
    first `n` bytes of `rem` in `buf` (the bytes behind them untouched), has advanced `offset` by `n` and leaves a record related to
    `rem.drop n` - so the next call continues where this one stopped.  `_hoff`, `hn`: C-side ranges of `offset`, `length` (`int32`). -/
theorem HCIcrle_decode_refines (cs rem : List Byte) (n fuel : Nat) (st len last pos offset io_pos : Int) (buffer out : List Int)
    (hf : n ≤ fuel) (hn : n < 2 ^ 31) (_hoff : offset + n < 2 ^ 31) (hout : n ≤ out.length)
    (hrel : DecRel cs rem st len last pos buffer io_pos) (hle : n ≤ rem.length) :
    let s := HCIcrle_decode fuel st len last buffer pos offset n out (bytes cs) io_pos
    s.ub = false ∧ s.oof = false ∧ s.ret = 0 ∧ s.buf = bytes (rem.take n) ++ out.drop n ∧ s.rle_offset = offset + n ∧
      DecRel cs (rem.drop n) s.rle_rle_state s.rle_buf_length s.rle_last_byte s.rle_buf_pos s.rle_buffer s.io_pos := by
  intro s
  have hs : s = decFinish (HCIcrle_decode.loop0 fuel (decStart st len last buffer pos offset n out (bytes cs) io_pos)) := dec_unfold ..
  obtain ⟨h1, h2, h3, h4, h5, h6, -⟩ := dec_loop cs fuel n (decStart st len last buffer pos offset n out (bytes cs) io_pos) rem [] out 0
    hf rfl rfl rfl rfl hn rfl rfl rfl hout rfl hrel
  obtain ⟨g1, g2, g3, g4⟩ := h6 hle
  rw [hs, decFinish_of_not_done g1]
  refine ⟨h1, h2, rfl, by simpa using g3, ?_, g4⟩
  simp only [h3, h4]; rfl

/-- **end of the input**: asked for more than is left (`|rem| < n`), the translated `HCIcrle_decode` delivers all of `rem` and then returns
    FAIL (-1) - the translation's `HDgetc` fails in state INIT at a packet boundary (the library's answers 255 at the end of the element) -, still without leaving any buffer and without running out of fuel -/
theorem HCIcrle_decode_eof (cs rem : List Byte) (n fuel : Nat) (st len last pos offset io_pos : Int) (buffer out : List Int)
    (hf : n ≤ fuel) (hn : n < 2 ^ 31) (hout : n ≤ out.length)
    (hrel : DecRel cs rem st len last pos buffer io_pos) (hlt : rem.length < n) :
    let s := HCIcrle_decode fuel st len last buffer pos offset n out (bytes cs) io_pos
    s.ub = false ∧ s.oof = false ∧ s.ret = -1 ∧ s.buf = bytes rem ++ out.drop rem.length := by
  intro s
  have hs : s = decFinish (HCIcrle_decode.loop0 fuel (decStart st len last buffer pos offset n out (bytes cs) io_pos)) := dec_unfold ..
  obtain ⟨h1, h2, h3, h4, h5, -, h7⟩ := dec_loop cs fuel n (decStart st len last buffer pos offset n out (bytes cs) io_pos) rem [] out 0
    hf rfl rfl rfl rfl hn rfl rfl rfl hout rfl hrel
  obtain ⟨g1, g2, g3⟩ := h7 hlt
  rw [hs, decFinish_of_done g1]
  exact ⟨h1, h2, g2, by simpa using g3⟩

/-- **the first read of an element** (record as `HCIcrle_init` leaves it: state INIT, position 0; `buf_length`, `last_byte`, `buf_pos`, the
    buffer content arbitrary): for EVERY compressed stream `cs` the model's `dec` accepts and every request `n ≤ |dec cs|`, the translated
    `HCIcrle_decode` delivers the first `n` bytes of `dec cs` -/
theorem HCIcrle_decode_first (cs plain : List Byte) (hdec : dec cs = some plain) (n : Nat) (len last pos : Int) (buffer out : List Int)
    (hb : buffer.length = RLE_BUF_SIZE) (hn : n < 2 ^ 31) (hout : n ≤ out.length) (hle : n ≤ plain.length) :
    let s := HCIcrle_decode n 0 len last buffer pos 0 n out (bytes cs) 0
    s.ub = false ∧ s.oof = false ∧ s.ret = 0 ∧ s.buf = bytes (plain.take n) ++ out.drop n ∧ s.rle_offset = n ∧
      DecRel cs (plain.drop n) s.rle_rle_state s.rle_buf_length s.rle_last_byte s.rle_buf_pos s.rle_buffer s.io_pos := by
  have h := HCIcrle_decode_refines cs plain n n 0 len last pos 0 0 buffer out (Nat.le_refl _) hn (by omega) hout
    (decRel_init cs plain hdec len last pos buffer hb) hle
  simpa using h

/-- the hypotheses are satisfiable and the translated code runs: the stream of the encoder example, 5 of its 7 bytes are asked for - the
    call stops inside the run, the record keeps the one pending seven -; a second call for 3 bytes hits the end of the input after 2 -/
example :
    dec [1, 1, 2, 129, 7, 0, 3] = some [1, 2, 7, 7, 7, 7, 3] ∧
    (let s := HCIcrle_decode 5 0 0 0 (List.replicate 128 0) 0 0 5 (List.replicate 6 0xA5) (bytes [1, 1, 2, 129, 7, 0, 3]) 0
     s.ub = false ∧ s.oof = false ∧ s.ret = 0 ∧ s.buf = [1, 2, 7, 7, 7, 0xA5] ∧ s.rle_rle_state = 1 ∧ s.rle_buf_length = 1 ∧ s.io_pos = 5) ∧
    (let s := HCIcrle_decode 3 1 1 7 (List.replicate 128 0) 2 5 3 (List.replicate 3 0xA5) (bytes [1, 1, 2, 129, 7, 0, 3]) 5
     s.ub = false ∧ s.oof = false ∧ s.ret = -1 ∧ s.buf = [7, 3, 0xA5]) := by
  decide +kernel

/-- the decoder side of the `comp_coder_rle_info_t` record and the position in the underlying element -/
structure DRec where
  st : Int
  len : Int
  last : Int
  pos : Int
  offset : Int
  io_pos : Int
  buffer : List Int

def drecOf (s : HCIcrle_decode.St) : DRec :=
  { st := s.rle_rle_state, len := s.rle_buf_length, last := s.rle_last_byte, pos := s.rle_buf_pos, offset := s.rle_offset,
    io_pos := s.io_pos, buffer := s.rle_buffer }

/-- one `HCPcrle_read(length = n)` = one call of the TRANSLATED `HCIcrle_decode` into a fresh `n`-byte buffer; `none` = ub / out of fuel / FAIL -/
def readCall (cs : List Byte) (r : DRec) (n : Nat) : Option (DRec × List Int) :=
  let s := HCIcrle_decode n r.st r.len r.last r.buffer r.pos r.offset n (List.replicate n 0) (bytes cs) r.io_pos
  if s.ub || s.oof || s.ret != 0 then none
  else some (drecOf s, s.buf)

def readCalls (cs : List Byte) : DRec → List Nat → Option (List Int)
  | _, [] => some []
  | r, n :: ns => (readCall cs r n).bind fun p => (readCalls cs p.1 ns).map (p.2 ++ ·)

theorem readCalls_rel (cs : List Byte) : ∀ (lens : List Nat) (rem : List Byte) (r : DRec),
    DecRel cs rem r.st r.len r.last r.pos r.buffer r.io_pos → lens.sum ≤ rem.length → 0 ≤ r.offset → r.offset + lens.sum < 2 ^ 31 →
    readCalls cs r lens = some (bytes (rem.take lens.sum)) := by
  intro lens
  induction lens with
  | nil => intro rem r _ _ _ _; simp [readCalls]
  | cons n ns ih =>
    intro rem r hrel hsum h0 hoff
    simp only [List.sum_cons] at hsum hoff
    have key := HCIcrle_decode_refines cs rem n n r.st r.len r.last r.pos r.offset r.io_pos r.buffer (List.replicate n 0) (Nat.le_refl _)
      (by omega) (by omega) (by simp) hrel (by omega)
    simp only at key
    generalize hs : HCIcrle_decode n r.st r.len r.last r.buffer r.pos r.offset n (List.replicate n 0) (bytes cs) r.io_pos = s at key
    obtain ⟨g1, g2, g3, g4, g5, g6⟩ := key
    have hcall : readCall cs r n = some (drecOf s, s.buf) := by
      simp only [readCall, hs, g1, g2, g3]; rfl
    have hnext := ih (rem.drop n) (drecOf s) g6 (by simp; omega) (by simp only [drecOf, g5]; omega) (by simp only [drecOf, g5]; omega)
    simp only [readCalls, hcall, Option.bind_some, hnext, Option.map_some, g4, List.sum_cons]
    simp [← bytes_append, ← List.take_add]

/-- **the bytes the C TEXT delivers for an element**: for every compressed stream `cs` the model's `dec` accepts (in particular every
    `compress bs`), starting from the record `HCIcrle_init` sets up, ANY sequence of read calls (`lens`: any partition of any prefix of the
    data, zero-length reads included) through the translated `HCIcrle_decode` runs without undefined behaviour and without failure and
    delivers, concatenated, exactly the corresponding prefix of `dec cs` -/
theorem crle_read_refines (cs plain : List Byte) (hdec : dec cs = some plain) (lens : List Nat) (len last pos : Int) (buffer : List Int)
    (hb : buffer.length = RLE_BUF_SIZE) (hsum : lens.sum ≤ plain.length) (hlen : plain.length < 2 ^ 31) :
    readCalls cs { st := 0, len := len, last := last, pos := pos, offset := 0, io_pos := 0, buffer := buffer } lens =
      some (bytes (plain.take lens.sum)) :=
  readCalls_rel cs lens plain _ (decRel_init cs plain hdec len last pos buffer hb) hsum (Int.le_refl _) (by simp only; omega)

/-- reading past the end: once everything has been delivered (`rem = []`) every further read of `n > 0` bytes returns FAIL (with the failing `HDgetc` of the translation, see `HCIcrle_decode_eof`) - and a read
    sequence that asks for more than `|dec cs|` bytes in total fails at the call that crosses the end (`readCalls = none`) -/
theorem crle_read_eof (cs rem : List Byte) (r : DRec) (n : Nat) (hrel : DecRel cs rem r.st r.len r.last r.pos r.buffer r.io_pos)
    (hn : n < 2 ^ 31) (hlt : rem.length < n) (ns : List Nat) :
    (HCIcrle_decode n r.st r.len r.last r.buffer r.pos r.offset n (List.replicate n 0) (bytes cs) r.io_pos).ret = -1 ∧
    readCalls cs r (n :: ns) = none := by
  have key := HCIcrle_decode_eof cs rem n n r.st r.len r.last r.pos r.offset r.io_pos r.buffer (List.replicate n 0) (Nat.le_refl _) hn
    (by simp) hrel hlt
  simp only at key
  obtain ⟨g1, g2, g3, -⟩ := key
  refine ⟨g3, ?_⟩
  simp only [readCalls, readCall, g1, g2, g3]
  rfl

/-- write, flush, read back - all three through the translated C functions: the bytes read are the bytes written, for every data, every
    partition into write calls and every partition into read calls (`rle_roundtrip` transferred to the C text) -/
theorem crle_write_read_roundtrip (pieces : List (List Byte)) (lens : List Nat) (len0 len1 last pos : Int) (b0 b1 : List Int)
    (h0 : b0.length = RLE_BUF_SIZE) (h1 : b1.length = RLE_BUF_SIZE) (hlen : pieces.flatten.length < 2 ^ 31)
    (hsum : lens.sum = pieces.flatten.length) :
    ∃ raw : List Byte, (writeCalls (initRec len0 b0) pieces).bind endaccess = some (bytes raw) ∧
      readCalls raw { st := 0, len := len1, last := last, pos := pos, offset := 0, io_pos := 0, buffer := b1 } lens =
        some (bytes pieces.flatten) := by
  refine ⟨compress pieces.flatten, crle_compress_refines pieces len0 b0 h0 hlen, ?_⟩
  rw [crle_read_refines _ _ (H4.Props.C05.rle_roundtrip pieces.flatten) lens len1 last pos b1 h1 (by omega) hlen, hsum, List.take_length]

/-- the translated code runs: written in three calls, read back in four (one of them of length 0) -/
example :
    (writeCalls (initRec 0 (List.replicate 128 0)) [[1, 2, 7], [], [7, 7, 7, 3]]).bind endaccess = some (bytes [1, 1, 2, 129, 7, 0, 3]) ∧
    readCalls [1, 1, 2, 129, 7, 0, 3] { st := 0, len := 0, last := 0, pos := 0, offset := 0, io_pos := 0, buffer := List.replicate 128 0 }
      [1, 3, 0, 3] = some [1, 2, 7, 7, 7, 7, 3] := by
  decide +kernel

end H4.Props.C05Rle
