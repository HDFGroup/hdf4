import H4.Lemmas.C15RecFn
import H4.Props.C15
/-! C15 / C02, function-level Tie A: the 20-byte image-dimension record DFTAG_ID / DFTAG_LD of the GR interface, on the C TEXT of
    `hdf/src/mfgr.c` as translated by gen/c2lean.py on every run (`H4.Gen.Fn.MfgrRec`), against the codec `H4.Codecs.encode_mfgr` /
    `decode_mfgr` that the C15 record theorems (`dim_roundtrip`, `dim_dfgr_to_mfgr`, `dim_mfgr_to_old`, `dim_dfr8_to_mfgr`) are about.
    `GRIupdatemeta_id` is a FRAGMENT of `GRIupdatemeta`: the eight ENCODE macros between two marker statements; the cursor `p` and the
    members of `img_ptr->img_dim` it reads are its parameters.  `Decode_diminfo` has no length parameter: its callers in
    `GRIget_image_list` read the element with `Hgetelement` into the 64-byte array `GRtbuf` and pass that.
    NOT covered here: the DFGR side (the `DFGRaddrig` / `DFGRgetrig` blocks: the proofs are not done) and the DFTAG_SDD pair. -/
namespace H4.Props.C15RecFn
open H4 H4.Codecs H4.Gen.Codecs H4.C2L H4.Lemmas.C15RecFn
open H4.Lemmas.C02HdrFn (nv8 nv16 nv32 nv8_lt nv16_lt nv32_lt val16_u8s val32_u8s)

/-- **the block of `GRIupdatemeta` that builds the image's DFTAG_ID record writes the model's record** — for EVERY record `r`
    (`xdim`, `ydim`, `ncomps`: any C integers — both sides keep the low 32 / 32 / 16 bits; tags and refs: naturals, i.e. `uint16`
    members), every buffer with 20 cells from the cursor on.  The interlace written is `MFGR_INTERLACE_PIXEL` whatever the image
    was created with (`encode_mfgr`).  No store outside the 20 bytes, no undefined behaviour. -/
theorem GRIupdatemeta_id_refines (fuel : Nat) (p : List Int) (r : DimRec) (hb : 20 ≤ p.length) :
    let s := GRIupdatemeta_idC fuel p r.xdim r.ydim r.ntTag r.ntRef r.ncomps r.compTag r.compRef
    s.ub = false ∧ s.oof = false ∧ s.p_i = 20 ∧ s.p = u8s (encode_mfgr r) ++ p.drop 20 :=
  wr_run fuel p r hb _ rfl

/-- the translated block runs (kernel evaluation of the generated definition): 300 x 2, three components, NT 106/5 -/
example :
    let s := GRIupdatemeta_idC 0 (List.replicate 22 (-1)) 300 2 106 5 3 0 0
    s.ub = false ∧ s.p = [0, 0, 1, 44, 0, 0, 0, 2, 0, 106, 0, 5, 0, 3, 0, 0, 0, 0, 0, 0, -1, -1] ∧
      s.p.take 20 = u8s (encode_mfgr ⟨300, 2, 106, 5, 3, 2, 0, 0⟩) := by decide +kernel

/-- **`Decode_diminfo` as translated from mfgr.c computes the model's reader — on EVERY buffer** `b` (any length, any bytes) and any
    previous contents of `*dim_info`: the model's `none` (fewer than 20 bytes) ⇔ the C reads behind the buffer (`ub = true`);
    otherwise every member of `*dim_info` that the function assigns is the model's field. -/
theorem Decode_diminfo_refines (fuel : Nat) (b : List UInt8) (a0 a1 a2 a3 a4 a5 a6 a7 : Int) :
    let s := Decode_diminfoC fuel (u8s b) a0 a1 a2 a3 a4 a5 a6 a7
    s.oof = false ∧
      match decode_mfgr b with
      | none => s.ub = true
      | some r =>
          s.ub = false ∧ s.p_i = 20 ∧ s.dim_info_xdim = r.xdim ∧ s.dim_info_ydim = r.ydim ∧ s.dim_info_nt_tag = r.ntTag ∧
            s.dim_info_nt_ref = r.ntRef ∧ s.dim_info_ncomps = r.ncomps ∧ s.dim_info_il = r.il ∧ s.dim_info_comp_tag = r.compTag ∧
            s.dim_info_comp_ref = r.compRef := by
  intro s
  obtain ⟨h1, h2, h3, h4, h5, h6, h7, h8, h9, h10, h11⟩ := rd_eval fuel (u8s b) a0 a1 a2 a3 a4 a5 a6 a7
  rw [u8s_length] at h1
  refine ⟨h2, ?_⟩
  rw [decode_mfgr_eq]
  by_cases hl : 20 ≤ b.length
  · rw [if_pos hl]
    have v32 : ∀ k : Nat, wrapS32 (val32 (u8s b) (k : Int)) = Codecs.toS32 (nv32 b k) := fun k => by
      rw [val32_u8s, toS32_wrap _ (nv32_lt b k)]
    have v16s : ∀ k : Nat, wrapS16 (val16 (u8s b) (k : Int)) = Codecs.toS16 (nv16 b k) := fun k => by
      rw [val16_u8s, toS16_wrap _ (nv16_lt b k)]
    exact ⟨by rw [h1]; simp [hl], h3, h4.trans (v32 0), h5.trans (v32 4), h6.trans (val16_u8s b 8), h7.trans (val16_u8s b 10),
      h8.trans (v16s 12), h9.trans (v16s 14), h10.trans (val16_u8s b 16), h11.trans (val16_u8s b 18)⟩
  · rw [if_neg hl]
    show s.ub = true
    rw [h1]; simp [hl]

/-- the translated reader runs (kernel evaluation): a 20-byte record with a negative component count and interlace 2 -/
example :
    let b : List UInt8 := [0, 0, 1, 44, 255, 255, 255, 254, 0, 106, 0, 5, 255, 253, 0, 2, 0, 11, 0, 9]
    let s := Decode_diminfoC 0 (u8s b) 0 0 0 0 0 0 0 0
    decode_mfgr b = some ⟨300, -2, 106, 5, -3, 2, 11, 9⟩ ∧ s.ub = false ∧ s.dim_info_xdim = 300 ∧ s.dim_info_ydim = -2 ∧
      s.dim_info_ncomps = -3 ∧ s.dim_info_il = 2 ∧ s.dim_info_comp_tag = 11 ∧ s.dim_info_comp_ref = 9 := by decide +kernel

/-- 19 bytes: the model rejects, the C reads behind the buffer -/
example :
    let b : List UInt8 := List.replicate 19 1
    decode_mfgr b = none ∧ (Decode_diminfoC 0 (u8s b) 0 0 0 0 0 0 0 0).ub = true := by decide +kernel

/-- **GR → GR on the C texts**: the record the translated block of `GRIupdatemeta` stores in a byte buffer is decoded by the
    translated `Decode_diminfo` to the same dimensions, number-type and compression tag/refs and component count, with the interlace
    `MFGR_INTERLACE_PIXEL` (for every record in the ranges the format holds, `DimRec.InRange`) — `H4.Props.C15.dim_roundtrip`
    transferred to the C text through the two refinements. -/
theorem GR_id_roundtrip (fuel : Nat) (pb : List UInt8) (r : DimRec) (hr : r.InRange) (hb : 20 ≤ pb.length) (a0 a1 a2 a3 a4 a5 a6 a7 : Int)
    (w : WSt) (hw : w = GRIupdatemeta_idC fuel (u8s pb) r.xdim r.ydim r.ntTag r.ntRef r.ncomps r.compTag r.compRef)
    (d : RSt) (hd : d = Decode_diminfoC fuel w.p a0 a1 a2 a3 a4 a5 a6 a7) :
    w.ub = false ∧ d.ub = false ∧ d.dim_info_xdim = r.xdim ∧ d.dim_info_ydim = r.ydim ∧ d.dim_info_nt_tag = r.ntTag ∧
      d.dim_info_nt_ref = r.ntRef ∧ d.dim_info_ncomps = r.ncomps ∧ d.dim_info_il = (MFGR_INTERLACE_PIXEL : Int) ∧
      d.dim_info_comp_tag = r.compTag ∧ d.dim_info_comp_ref = r.compRef := by
  obtain ⟨w1, _, _, w4⟩ := wr_run fuel (u8s pb) r (by rw [u8s_length]; exact hb) w hw
  have hp : w.p = u8s (encode_mfgr r ++ pb.drop 20) := by
    rw [w4, u8s_append, u8s_drop]
  have h2 := Decode_diminfo_refines fuel (encode_mfgr r ++ pb.drop 20) a0 a1 a2 a3 a4 a5 a6 a7
  simp only [] at h2
  rw [← hp, ← hd] at h2
  have hr' : DimRec.InRange { r with il := MFGR_INTERLACE_PIXEL } := by
    obtain ⟨r1, r2, r3, r4, r5, _, r7, r8⟩ := hr
    exact ⟨r1, r2, r3, r4, r5, (show I16 ((MFGR_INTERLACE_PIXEL : Nat) : Int) from by decide), r7, r8⟩
  have hm : decode_mfgr (encode_mfgr r ++ pb.drop 20) = some { r with il := MFGR_INTERLACE_PIXEL } :=
    (decode_mfgr_append _ _).trans (H4.Props.C15.dim_roundtrip _ hr')
  rw [hm] at h2
  obtain ⟨_, d1, _, d3, d4, d5, d6, d7, d8, d9, d10⟩ := h2
  exact ⟨w1, d1, d3, d4, d5, d6, d7, d8, d9, d10⟩

end H4.Props.C15RecFn
