import H4.Lemmas.Slab
/-! # C03 — SDS hyperslab reads and writes behave as an n-dimensional array (property theorems)

Rank is a list length: nothing below bounds the rank, the extents, or the number of operations. -/
namespace H4.Props.C03
open H4.Slab

/-- `NC_varoffset` is injective on in-range coordinates: distinct cells never share storage. -/
theorem varOffset_inj (shape c1 c2 : List Nat) (h1 : inB shape c1) (h2 : inB shape c2)
    (h : offset shape c1 = offset shape c2) : c1 = c2 := offset_inj shape c1 c2 h1 h2 h

/-- ... and stays inside the variable's storage. -/
theorem varOffset_lt (shape c : List Nat) (h : inB shape c) : offset shape c < prod shape := offset_lt shape c h

/-- The requests `NCvario` issues (max-contiguous rule + ripple counter), expanded to element offsets,
    enumerate the slab's cells exactly once, in row-major order, for every rank, shape, start and edges. -/
theorem vario_runs (shape start edges : List Nat) (h : inRange shape start edges) :
    expandRuns (runs shape start edges 0) = (cells start edges).map (offset shape) := by
  have := runs_cells shape start edges 0 h
  simpa using this

/-- The requests `NCgenio`'s odometer issues visit `start + i·stride` in row-major order (unit-stride fast
    path in the last dimension included). -/
theorem genio_visits_strided_cells (start stride count : List Nat) (h0 : start ≠ [])
    (h1 : stride.length = start.length) (h2 : count.length = start.length) :
    (genioReqs start stride count).flatMap (fun r => cells r.1 r.2) = scells start stride count :=
  genio_cells start stride count h0 h1 h2

/-- with all strides 1 the strided cells are the plain slab cells (fast path = slow path) -/
theorem unit_stride_same_cells (start stride count : List Nat) (h : stride.all (· == 1) = true)
    (h1 : stride.length = start.length) (h2 : count.length = start.length) :
    scells start stride count = cells start count := scells_unit start stride count h h1 h2

/-- reference n-d array -/
abbrev Arr (α : Type) := List Nat → α

def upd {α} (a : Arr α) (c : List Nat) (v : α) : Arr α := fun c' => if c' = c then v else a c'

/-- assign `vals` to the cells `cs`, in order -/
def assign {α} (a : Arr α) : List (List Nat) → List α → Arr α
  | c :: cs, v :: vs => assign (upd a c v) cs vs
  | _, _ => a

theorem assign_not_mem {α} : ∀ (cs : List (List Nat)) (vs : List α) (a : Arr α) (c : List Nat), c ∉ cs →
    assign a cs vs c = a c := by
  intro cs
  induction cs with
  | nil => intro vs a c _; cases vs <;> rfl
  | cons c' cs ih =>
    intro vs a c hc
    cases vs with
    | nil => rfl
    | cons v vs =>
      simp only [List.mem_cons, not_or] at hc
      simp only [assign]
      rw [ih vs _ c hc.2]
      simp [upd, hc.1]

theorem assign_map_self {α} : ∀ (cs : List (List Nat)) (vs : List α) (a : Arr α), cs.Nodup → vs.length = cs.length →
    cs.map (assign a cs vs) = vs := by
  intro cs
  induction cs with
  | nil => intro vs a _ hl; cases vs <;> simp_all
  | cons c cs ih =>
    intro vs a hnd hl
    cases vs with
    | nil => simp at hl
    | cons v vs =>
      obtain ⟨hc, hnd'⟩ := List.nodup_cons.mp hnd
      simp only [List.map_cons, assign]
      rw [assign_not_mem cs vs _ c hc]
      congr 1
      · simp [upd]
      · exact ih vs _ hnd' (by simpa using hl)

inductive Op (α : Type) where
  | write (start edges : List Nat) (vals : List α)
  | read (start edges : List Nat)

/-- a request the library accepts: inside the shape, one value per cell -/
def Op.Valid {α} (shape : List Nat) : Op α → Prop
  | .write s e vals => inRange shape s e ∧ vals.length = (cells s e).length
  | .read s e => inRange shape s e

/-- implementation side: flat element image, `NCvario` runs -/
def stepImg {α} (d : α) (shape : List Nat) (img : List α) : Op α → List α × List α
  | .write s e vals => (writeSlab shape s e vals img, [])
  | .read s e => (img, readSlab d shape s e img)

/-- specification side: n-d array, selection in row-major order -/
def stepArr {α} (a : Arr α) : Op α → Arr α × List α
  | .write s e vals => (assign a (cells s e) vals, [])
  | .read s e => (a, (cells s e).map a)

def runImg {α} (d : α) (shape : List Nat) : List α → List (Op α) → List α × List (List α)
  | img, [] => (img, [])
  | img, op :: ops =>
    let (img', o) := stepImg d shape img op
    let (img'', os) := runImg d shape img' ops
    (img'', o :: os)

def runArr {α} : Arr α → List (Op α) → Arr α × List (List α)
  | a, [] => (a, [])
  | a, op :: ops =>
    let (a', o) := stepArr a op
    let (a'', os) := runArr a' ops
    (a'', o :: os)

/-- the image represents the array on every in-range coordinate -/
def Rep {α} (d : α) (shape : List Nat) (img : List α) (a : Arr α) : Prop :=
  img.length = prod shape ∧ ∀ c, inB shape c → img.getD (offset shape c) d = a c

theorem writeAt_assign {α} (d : α) (shape : List Nat) :
    ∀ (cs : List (List Nat)) (vals : List α) (img : List α) (a : Arr α),
    (∀ c ∈ cs, inB shape c) → Rep d shape img a →
    Rep d shape (writeAt img (cs.map (offset shape)) vals) (assign a cs vals) := by
  intro cs
  induction cs with
  | nil => intro vals img a _ h; cases vals <;> simpa [writeAt, assign] using h
  | cons c cs ih =>
    intro vals img a hin h
    cases vals with
    | nil => simpa [writeAt, assign] using h
    | cons v vs =>
      simp only [List.map_cons, writeAt, assign]
      apply ih vs _ _ (fun x hx => hin x (by simp [hx]))
      obtain ⟨hl, hr⟩ := h
      refine ⟨by simp [hl], ?_⟩
      intro c' hc'
      have hc : inB shape c := hin c (by simp)
      have hlt : offset shape c < img.length := by rw [hl]; exact offset_lt shape c hc
      by_cases e : c' = c
      · subst e
        simp [upd, List.getD_eq_getElem?_getD, hlt]
      · have hne : offset shape c ≠ offset shape c' := fun h' => e (offset_inj shape c' c hc' hc h'.symm)
        simp [upd, e, List.getD_eq_getElem?_getD, hne]
        simpa [List.getD_eq_getElem?_getD] using hr c' hc'

/-- One step: a write through `NCvario`'s runs is the array assignment; a read returns the selected cells. -/
theorem step_refines {α} (d : α) (shape : List Nat) (img : List α) (a : Arr α) (op : Op α)
    (hv : op.Valid shape) (h : Rep d shape img a) :
    Rep d shape (stepImg d shape img op).1 (stepArr a op).1 ∧ (stepImg d shape img op).2 = (stepArr a op).2 := by
  cases op with
  | write s e vals =>
    obtain ⟨hr, _⟩ := hv
    simp only [stepImg, stepArr, writeSlab, and_true]
    rw [vario_runs shape s e hr]
    exact writeAt_assign d shape _ vals img a (cells_inB shape s e hr) h
  | read s e =>
    simp only [stepImg, stepArr, readSlab, readAt]
    refine ⟨h, ?_⟩
    rw [vario_runs shape s e hv]
    rw [List.map_map]
    apply List.map_congr_left
    intro c hc
    exact h.2 c (cells_inB shape s e hv c hc)

/-- **Main refinement.** For every rank and shape, every initial image and every finite sequence of valid
    hyperslab writes and reads, the values returned by the reads computed on the flat image through
    `NCvario`'s run decomposition equal those of the reference n-dimensional array, and the final image still
    represents the final array (so the statement composes across sessions). -/
theorem slab_refines_array {α} (d : α) (shape : List Nat) :
    ∀ (ops : List (Op α)) (img : List α) (a : Arr α), (∀ op ∈ ops, op.Valid shape) → Rep d shape img a →
    (runImg d shape img ops).2 = (runArr a ops).2 ∧ Rep d shape (runImg d shape img ops).1 (runArr a ops).1 := by
  intro ops
  induction ops with
  | nil => intro img a _ h; simp [runImg, runArr, h]
  | cons op ops ih =>
    intro img a hv h
    obtain ⟨h1, h2⟩ := step_refines d shape img a op (hv op (by simp)) h
    obtain ⟨g1, g2⟩ := ih _ _ (fun o ho => hv o (by simp [ho])) h1
    simp only [runImg, runArr]
    exact ⟨by rw [h2, g1], g2⟩

/-- last write wins: after a valid write, reading the same slab returns the values written ... -/
theorem write_read_same_slab {α} (d : α) (shape start edges : List Nat) (vals : List α) (img : List α)
    (hr : inRange shape start edges) (hl : img.length = prod shape) (hv : vals.length = (cells start edges).length) :
    readSlab d shape start edges (writeSlab shape start edges vals img) = vals := by
  simp only [readSlab, writeSlab]
  rw [vario_runs shape start edges hr]
  exact readAt_writeAt_coords d (cells_inB shape start edges hr) (cells_nodup start edges) hl hv

/-- ... and nothing else moves: every in-range cell outside the slab keeps its content. -/
theorem write_frame {α} (d : α) (shape start edges : List Nat) (vals : List α) (img : List α)
    (hr : inRange shape start edges) (c : List Nat) (hc : inB shape c) (hout : c ∉ cells start edges) :
    (writeSlab shape start edges vals img).getD (offset shape c) d = img.getD (offset shape c) d := by
  simp only [writeSlab]
  rw [vario_runs shape start edges hr]
  exact writeAt_coords_outside d (cells_inB shape start edges hr) img vals hc hout

example : inRange [4, 3, 5] [1, 1, 0] [2, 2, 5] := by decide
example : expandRuns (runs [4, 3, 5] [1, 1, 0] [2, 2, 5] 0) = [20, 21, 22, 23, 24, 25, 26, 27, 28, 29, 35, 36, 37, 38, 39, 40, 41, 42, 43, 44] := by decide
example : (Op.write [1, 0] [1, 2] [7, 8] : Op Nat).Valid [2, 2] := by
  refine ⟨by decide, by decide⟩
example : (runImg 0 [2, 2] [0, 0, 0, 0] [.write [1, 0] [1, 2] [7, 8], .read [0, 1] [2, 1]]).2 = [[], [0, 8]] := by decide

end H4.Props.C03
