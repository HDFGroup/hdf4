import H4.Lemmas.C08Fn
import H4.Lemmas.VGroupCodec
/-! C08, function-level Tie A: `vpackvg` of `hdf/src/vgp.c`, as translated statement by statement from the CURRENT C text
    (`H4.Gen.Fn.Vgp`, written by gen/c2lean.py on every run), writes exactly the `DFTAG_VG` record of the hand-written model
    `H4.VGroup.vpackvgF true` (= `H4.VGroup.vpackvg` on every Vgroup the format can represent, `fixed3_changes_nothing_wf`),
    which is the record the C08 codec theorems (`H4.Props.C08.vpackvg_roundtrip` …) are about; it stores nothing outside
    `buf[0 .. *size)`, leaves the rest of `buf` alone, sets `*size` to the record length (with the historical extra byte),
    applies the model's version rule to `vg->version`, never indexes outside a region (`ub = false`) and its loops terminate
    (`oof = false`).  A change of the C text changes the generated definition; these theorems are re-checked against it. -/
namespace H4.Props.C08Fn
open H4 H4.VGroup H4.Gen.Hdf H4.C2L H4.Lemmas.C08Fn

/-- a `char *` argument: `NULL` for `none` (the region is then never read: any `pad`), otherwise the bytes, the terminating
    NUL and whatever follows it in memory -/
def cstring (nm : Option Bytes) (pad : List Int) : List Int :=
  match nm with
  | none => pad
  | some b => bytesI b ++ 0 :: pad

theorem cstring_arg (nm : Option Bytes) (pad : List Int) : StrArg nm nm.isNone (cstring nm pad) := by
  cases nm with
  | none => rfl
  | some b => exact ⟨rfl, pad, rfl⟩

/-- what the translated C needs of its arguments when they describe the model Vgroup `g` (all decidable):
    * `nvelt` is a `uint16`; names are C strings shorter than 65536 bytes (so that `(uint16)strlen` loses nothing);
    * `flags` is a `uint32`, `version` a 16-bit pattern (the type of the model's member; `vpackvg_refines` does not use this clause),
      `nattrs` (read only under `VG_ATTR_SET`) a non-negative `int32`;
    * `more` and the version WRITTEN (`packVersion g`: 4 if flags are set and the version is below 4) are non-negative as
      `int16`: their low byte is produced by `(i) & 0xff` on a signed operand, which the translator treats as undefined for
      negative values (the high byte goes through `(uintn)` and is fine).
    Tags, refs, `extag`, `exref` need no bound: both sides truncate to 16 bits alike. -/
def Pre (g : VG) : Prop :=
  g.members.length < 65536 ∧ NameMemOK g.name ∧ NameMemOK g.cls ∧ g.flags < 4294967296 ∧ g.version < 65536 ∧
  packVersion g < 32768 ∧ g.more < 32768 ∧ (g.flags &&& VG_ATTR_SET ≠ 0 → g.attrs.length < 2147483648)

instance (g : VG) : Decidable (Pre g) := by unfold Pre; infer_instance

theorem pre_of_wf (g : VG) (hw : g.WFfixmem) (hv : g.version < 32768) (hm : g.more < 32768) : Pre g := by
  have hpv := packVersion_wf g hw
  obtain ⟨a1, _, a3, a4, _, _, _, a8, _, _, a11, a12, _⟩ := hw
  exact ⟨a1, a3, a4, a11, a8, by rw [hpv]; exact hv, hm, fun x => (a12 x).1⟩

/-- **`vpackvg` as translated from vgp.c computes the model's record** — for EVERY Vgroup `g` that satisfies `Pre`
    (any number of members and attributes, any names), every caller buffer and every content of the unused array tails.

    Arguments of the C function: `vg->nvelt = |members|`, `vg->tag[]`/`vg->ref[]` hold the members followed by arbitrary
    cells `tpad`/`rpad` (the arrays have `msize ≥ nvelt` cells), `vg->vgname`/`vg->vgclass` are `cstring`s,
    `vg->version` is the `int16` value of the model's 16-bit pattern, `vg->nattrs = |attrs|`, `vg->alist[].atag/.aref`
    hold the attributes followed by `atpad`/`arpad`, `size` is any non-empty region (`int32 *size`).
    C-level preconditions: `buf` has at least `|vpackvgF true g|` cells — that is the record INCLUDING the historical
    extra byte (`*bb = 0` after the `more` field) and it also covers the terminating NUL that `strcpy` stores behind each
    name (it lands on the first byte of the following field) — and `fuel` bounds the two loop counts.
    Result: no undefined behaviour, all loops terminate, `buf` = the model's record followed by the caller's bytes
    beyond it, `*size` = the record length, `vg->version` = the model's version rule, return value `SUCCEED`. -/
theorem vpackvg_refines (g : VG) (hp : Pre g) (fuel : Nat) (hf1 : g.members.length ≤ fuel)
    (hf2 : g.flags &&& VG_ATTR_SET ≠ 0 → g.attrs.length ≤ fuel)
    (tpad rpad npad cpad atpad arpad buf size : List Int)
    (hbuf : (vpackvgF true g).length ≤ buf.length) (hsize : 0 < size.length) :
    let s := vpackvgC fuel (g.members.length : Int) (ints (g.members.map (·.1)) ++ tpad) (ints (g.members.map (·.2)) ++ rpad)
      g.name.isNone (cstring g.name npad) g.cls.isNone (cstring g.cls cpad) (g.extag : Int) (g.exref : Int) (g.flags : Int)
      (toI16 g.version) (g.attrs.length : Int) (ints (g.attrs.map (·.1)) ++ atpad) (ints (g.attrs.map (·.2)) ++ arpad)
      (g.more : Int) buf size
    s.ub = false ∧ s.oof = false ∧
      s.buf = bytesI (vpackvgF true g) ++ buf.drop (vpackvgF true g).length ∧
      s.size = size.set 0 ((vpackvgF true g).length : Int) ∧
      s.vg_version = toI16 (packVersion g) ∧ s.ret = 0 := by
  obtain ⟨h1, h2, h3, h4, _, h6, h7, h8⟩ := hp
  intro s
  rw [show s = _ from vpackvg_phases ..]
  exact run_at g fuel _ ⟨rfl, ⟨tpad, rfl⟩, ⟨rpad, rfl⟩, cstring_arg _ _, cstring_arg _ _, rfl, rfl, rfl, rfl, rfl,
    fun x => ⟨rfl, h8 x, ⟨atpad, rfl⟩, ⟨arpad, rfl⟩⟩⟩ rfl rfl (by omega) h2 h3 h4 h6 h7 hf1 hf2 hbuf hsize

/-- the hypotheses are satisfiable and the translated code runs (kernel evaluation of the generated definition):
    two members, a name, no class, version 3 -/
example :
    let g : VG := { members := [(1965, 2), (1962, 3)], name := some [65, 66], version := 3, more := 7 }
    Pre g ∧ (vpackvgF true g).length = 25 ∧
    let s := vpackvgC 2 2 [1965, 1962, 9] [2, 3] false [65, 66, 0, 99] true [] 0 0 0 3 0 [] [] 7 (List.replicate 27 (-1)) [0]
    s.ub = false ∧ s.oof = false ∧ s.buf = bytesI (vpackvgF true g) ++ [-1, -1] ∧ s.size = [25] ∧ s.vg_version = 3 := by
  decide +kernel

/-- flags and attributes: the version is bumped from 3 to 4, the flags word, `nattrs` and the attribute list are written -/
example :
    let g : VG := { members := [(720, 65535)], cls := some [67], version := 3, flags := 1, attrs := [(1962, 5), (1962, 6)] }
    Pre g ∧ packVersion g = 4 ∧
    let s := vpackvgC 2 1 [720] [65535] true [] false [67, 0] 0 0 1 3 2 [1962, 1962] [5, 6] 0 (List.replicate 40 0) [0]
    s.ub = false ∧ s.oof = false ∧ s.buf.take 36 = bytesI (vpackvgF true g) ∧ s.size = [36] ∧ s.vg_version = 4 := by
  decide +kernel

/-- the same run through the theorem -/
example :
    let g : VG := { members := [(720, 65535)], cls := some [67], version := 3, flags := 1, attrs := [(1962, 5), (1962, 6)] }
    let s := vpackvgC 2 1 [720] [65535] true [] false [67, 0] 0 0 1 3 2 [1962, 1962] [5, 6] 0 (List.replicate 40 0) [0]
    s.ub = false ∧ s.buf = bytesI (vpackvgF true g) ++ (List.replicate 40 0).drop (vpackvgF true g).length :=
  have h := vpackvg_refines { members := [(720, 65535)], cls := some [67], version := 3, flags := 1, attrs := [(1962, 5), (1962, 6)] }
    (by decide) 2 (by decide) (by decide) [] [] [] [] [] [] (List.replicate 40 0) [0] (by decide) (by decide)
  ⟨h.1, h.2.2.1⟩

/-- **on every Vgroup the format represents** (`VG.WFmem`, the hypothesis of the C08 record theorems) the translated C
    writes the record `H4.VGroup.vpackvg g` of the model and leaves `vg->version` as it is.  Beyond `WFmem` only the
    sign conditions of `Pre` remain (`more`, `version` non-negative as `int16`). -/
theorem vpackvg_refines_wf (g : VG) (hw : g.WFmem) (hv : g.version < 32768) (hm : g.more < 32768)
    (fuel : Nat) (hf1 : g.members.length ≤ fuel) (hf2 : g.attrs.length ≤ fuel)
    (tpad rpad npad cpad atpad arpad buf size : List Int)
    (hbuf : (VGroup.vpackvg g).length ≤ buf.length) (hsize : 0 < size.length) :
    let s := vpackvgC fuel (g.members.length : Int) (ints (g.members.map (·.1)) ++ tpad) (ints (g.members.map (·.2)) ++ rpad)
      g.name.isNone (cstring g.name npad) g.cls.isNone (cstring g.cls cpad) (g.extag : Int) (g.exref : Int) (g.flags : Int)
      (toI16 g.version) (g.attrs.length : Int) (ints (g.attrs.map (·.1)) ++ atpad) (ints (g.attrs.map (·.2)) ++ arpad)
      (g.more : Int) buf size
    s.ub = false ∧ s.oof = false ∧
      s.buf = bytesI (VGroup.vpackvg g) ++ buf.drop (VGroup.vpackvg g).length ∧
      s.size = size.set 0 ((VGroup.vpackvg g).length : Int) ∧
      s.vg_version = toI16 g.version ∧ s.ret = 0 := by
  have e := vpackvgF_eq_of_wfmem true g hw
  have hpv := packVersion_wf g hw.fix
  have hp := pre_of_wf g hw.fix hv hm
  have h := vpackvg_refines g hp fuel hf1 (fun _ => hf2) tpad rpad npad cpad atpad arpad buf size (by rw [e]; exact hbuf) hsize
  rw [e, hpv] at h
  exact h

/-- **the C08 record round trip holds for the bytes the C text writes**: for every Vgroup the fixed format can represent
    (`VG.WFfix`: version 4 may come without flags) the first `*size` bytes of `buf` after the translated `vpackvg` are a
    record that the model's `vunpackvg` reads back as `g` (`H4.Props.C08.vpackvg_roundtrip_fixed3` transferred to the C text). -/
theorem vpackvg_c_roundtrip (g : VG) (hw : g.WFfix) (hv : g.version < 32768) (hm : g.more < 32768)
    (fuel : Nat) (hf1 : g.members.length ≤ fuel) (hf2 : g.attrs.length ≤ fuel)
    (tpad rpad npad cpad atpad arpad buf size : List Int)
    (hbuf : (vpackvgF true g).length ≤ buf.length) (hsize : 0 < size.length) :
    let s := vpackvgC fuel (g.members.length : Int) (ints (g.members.map (·.1)) ++ tpad) (ints (g.members.map (·.2)) ++ rpad)
      g.name.isNone (cstring g.name npad) g.cls.isNone (cstring g.cls cpad) (g.extag : Int) (g.exref : Int) (g.flags : Int)
      (toI16 g.version) (g.attrs.length : Int) (ints (g.attrs.map (·.1)) ++ atpad) (ints (g.attrs.map (·.2)) ++ arpad)
      (g.more : Int) buf size
    s.ub = false ∧ s.oof = false ∧
      ∃ rec : Bytes, s.buf.take (s.size.getD 0 0).toNat = bytesI rec ∧ vunpackvg rec = some g := by
  have hp := pre_of_wf g hw.1 hv hm
  obtain ⟨r1, r2, r3, r4, _, _⟩ := vpackvg_refines g hp fuel hf1 (fun _ => hf2) tpad rpad npad cpad atpad arpad buf size hbuf hsize
  refine ⟨r1, r2, vpackvgF true g, ?_, ?_⟩
  · rw [r3, r4, take_size _ _ _ hsize]
  · have := vunpackvg_vpackvgF true g hw.1 (fun e => by cases e)
    rw [this]
    obtain ⟨_, h1, h2⟩ := hw
    cases g; simp_all [VG.norm, normName_of_ne]

/-- version 4 without flags: the C text writes the flags word (the test `vg->flags || vg->version == VSET_NEW_VERSION` of vgp.c) — its
    record is `vpackvgF true g`, not `vpackvgF false g`, and it reads back -/
example :
    let g : VG := { members := [(1000, 8)], name := some [112], version := 4, flags := 0, more := 1 }
    let s := vpackvgC 1 1 [1000] [8] false [112, 0] true [] 0 0 0 4 0 [] [] 1 (List.replicate 24 0) [0]
    g.WFfix ∧ s.ub = false ∧ s.buf.take 24 = bytesI (vpackvgF true g) ∧ s.buf.take 20 ≠ bytesI (vpackvgF false g) ∧
      vunpackvg (vpackvgF true g) = some g := by decide +kernel

end H4.Props.C08Fn
