import H4.Lemmas.C12Fn2
import H4.Props.C12Fn
import H4.Props.C20
/-! # C12 / C20, function level — the reference-number allocator and the DD-block codec of `hdf/src/hfiledd.c`, as TRANSLATED from the C text

`H4.Gen.Fn.Hfiledd` is regenerated from `hdf/src/hfiledd.c` of /repo's current tree on every run (`gen/c2lean.py`, statement by statement):

* `Hnewref`, `Htagnewref` — whole functions.  `file_rec` (what `HIfid2rec(file_id)` = `HAatom_group` / `HAatom_object` yields) and the node of
  the tag tree that `tbbtdfind` finds are OBJECTS outside the function: their members are entry parameters (`file_rec_maxref`,
  `file_rec_refcount`, `tip_ptr_b_*` = the `bv_struct` of the node), `file_rec_null` / `tip_ptr_null` say that the call returned NULL.
  `Htagnewref` CALLS the translated `bv_find_next_zero` of unit `Bitvect2` (the theorems of `H4.Props.C12Fn` apply to that very definition).
* `HTPsync_ddlist`, `HTPstart_ddlist` — FRAGMENTS of `HTPsync` / `HTPstart`: the statements that serialise the `dd_t` records of one block into
  `tbuf` and hand them to `HP_write`, resp. `HP_read` the bytes of a block and parse them into the `dd_t` records, maintaining `maxref` and
  `end_off` and registering every live tag/ref.  `list` / `curr_dd_ptr` are cursors over the array of structs `block->ddlist`
  (`ddlist[k].tag` is cell `k` of the region `…_ddlist_tag`); the variables of the enclosing function the fragment reads are entry parameters.

**Assumed callee behaviour (trusted base; `assume_calls` / `object_calls` / `io` of the unit in `gen/gen.py`)**
* `HAatom_group`, `HAatom_object`, `tbbtdfind` return a pointer (or NULL) and do not modify the file record / bit vectors.
* `HTIfind_dd(file_rec, DFTAG_WILDCARD, ref, &dd_ptr /* = NULL */, DF_FORWARD)` leaves the modelled state unchanged and its result depends only
  on `ref`: the table `HTIfind_dd_ret` (entry parameter).  The theorems take ANY table and a predicate `used` with
  `table[r] = FAIL ↔ ¬ used r` for `1 ≤ r ≤ 65535` (for the model file: `used r` = some live descriptor has ref `r`, `hnewref_table`).
* `HTIregister_tag_ref(file_rec, curr_dd_ptr)` leaves the modelled state unchanged (the tag tree is outside it) and answers from the table
  `HTIregister_tag_ref_ret`, indexed by the position of the descriptor in the block.  The theorems hold for ANY table; `regTable tags ds` is the
  table the model's `register` produces, and with it the C loop fails exactly when the model's `registerAll` does.
* `HP_write(file_rec, buf, n)` appends `buf[0..n)` to the output stream and returns `n` (I/O failures belong to C16);
  `HP_read(file_rec, buf, n)` delivers the next `n` bytes of the input stream or FAILs (nothing changes) when fewer are left.
* the store `curr_dd_ptr->blk = ddcurr` (back pointer) is outside the modelled state.

Ranges.  `ndds` is any length (`int16` in `HTPsync`, `int` from an `int16` in `HTPstart`: the theorems cover 1..65535 and beyond; the products
`ndds * DD_SZ` are below 2^31 for every `int16`).  Tags/refs are `uint16`, offsets/lengths `int32` (`DDRange`).  The statements about the decoder
hold for EVERY byte string, not only for encoded blocks.  What they say about the C text has one limit: `offset + length` in `HTPstart`
(hfiledd.c:244-245) is an `int32` addition of two values read from the file; for a descriptor with `offset + length ≥ 2^31` (or `< -2^31`) it
overflows, which is undefined behaviour in C.  The translator neither wraps nor checks signed 32-bit arithmetic (its assumption "no signed
overflow", header of `gen/c2lean.py`), so the `ub` flag does not record this and `end_off` becomes the unbounded sum: the twelve bytes
`0 30 0 5 7f ff ff ff 7f ff ff ff` leave `ub = false`, `end_off = 4294967294`.  `ub = false` below means that no check of the translator
fails (every access in bounds); the translated fragment is the C fragment on the blocks of `decode_sum_in_range`, which names the inputs
for which the addition is defined (every block the library writes is one). -/
namespace H4.Props.C12Fn2
open H4 H4.Bitvect H4.Lemmas.C12Fn2 H4.Gen.Fn.Hfiledd H4.C2L H4.Props.C12Fn H4.Gen.Hdf

/-- the table `HTIfind_dd` answers from agrees with the in-use predicate `used` on the refs `1 .. 65535` -/
def TableOf (tbl : List Int) (used : Nat → Bool) : Prop := ∀ r, 1 ≤ r → r ≤ 65535 → (tbl.getD r 0 = -1 ↔ used r = false)

theorem find_congr {α} (p q : α → Bool) : ∀ (l : List α), (∀ x ∈ l, p x = q x) → l.find? p = l.find? q
  | [], _ => rfl
  | a :: l, h => by
    rw [List.find?_cons, List.find?_cons, h a (by simp), find_congr p q l (fun x hx => h x (by simp [hx]))]

theorem tblFree_firstFree (tbl : List Int) (used : Nat → Bool) (h : TableOf tbl used) : tblFree tbl 1 65535 = Limits.firstFree used 1 := by
  unfold tblFree Limits.firstFree
  have hM : MAX_REF + 1 - 1 = 65535 := rfl
  rw [hM]
  apply find_congr
  intro r hr
  obtain ⟨h1, h2⟩ := List.mem_range'_1.mp hr
  have := h r h1 (by omega)
  cases hu : used r <;> simp_all

/-- **`Hnewref` refines the model `Limits.newref`** (C12 `hnewref`, C20 "no wrap-around"): on a valid file record whose `maxref` is a `uint16`,
    for every in-use predicate: no undefined behaviour, the search loop ends within 65535 iterations, the value returned and the new `maxref`
    are the model's — `maxref + 1` while `maxref < MAX_REF`, then the first ref of `1 .. 65535` that no descriptor uses, 0 when there is none -/
theorem Hnewref_refines (maxref : Nat) (hm : maxref ≤ 65535) (used : Nat → Bool) (tbl : List Int) (ht : TableOf tbl used)
    (fuel : Nat) (hf : 65535 ≤ fuel) (file_id refcount : Int) (hrc : refcount ≠ 0) :
    let s := Hnewref fuel file_id false refcount maxref tbl
    s.ub = false ∧ s.oof = false ∧ s.ret = ((Limits.newref maxref used).1 : Nat) ∧ s.file_rec_maxref = ((Limits.newref maxref used).2 : Nat) := by
  obtain ⟨k1, k2, k3, k4⟩ := Hnewref_run fuel hf file_id refcount hrc maxref hm tbl
  refine ⟨k1, k2, ?_, ?_⟩
  · rw [k3, tblFree_firstFree tbl used ht]
    unfold Limits.newref
    have hM : MAX_REF = 65535 := rfl
    rw [hM]
    split <;> rfl
  · rw [k4]
    unfold Limits.newref
    have hM : MAX_REF = 65535 := rfl
    rw [hM]
    split <;> rfl

/-- `maxref` below the limit: the increment; at the limit with refs 1, 2 in use: the search finds 3; everything in the table in use
    (a table that ends is "in use" beyond its end): 0 -/
example : (Hnewref 65535 7 false 1 41 []).ret = 42 ∧ (Hnewref 65535 7 false 1 41 []).file_rec_maxref = 42 ∧
    (Hnewref 65535 7 false 1 65534 []).ret = 65535 ∧
    (Hnewref 65535 7 false 1 65535 [0, 0, 0, -1, -1]).ret = 3 ∧ (Hnewref 65535 7 false 1 65535 [0, 0, 0, -1, -1]).file_rec_maxref = 65535 ∧
    (Hnewref 65535 7 false 1 65535 [0, 0, 0, -1, -1]).ub = false ∧ (Hnewref 65535 7 false 1 65535 [0, 0, 0, -1, -1]).oof = false := by decide +kernel

/-- **never a ref in use, 0 exactly at exhaustion, never beyond 65535** (C12 `hnewref_fresh`, C20 `newref_fresh`): when `maxref` bounds the refs in use
    (the invariant `HTPstart` / `HTPcreate` maintain) a non-zero answer is not in use; the answer is 0 iff `maxref` is at the limit and every ref
    `1 .. 65535` is in use; `maxref` never decreases and never leaves the `uint16` range -/
theorem Hnewref_fresh (maxref : Nat) (hm : maxref ≤ 65535) (used : Nat → Bool) (hmax : ∀ r, maxref < r → used r = false)
    (tbl : List Int) (ht : TableOf tbl used) (fuel : Nat) (hf : 65535 ≤ fuel) (file_id refcount : Int) (hrc : refcount ≠ 0) :
    let s := Hnewref fuel file_id false refcount maxref tbl
    ∃ r : Nat, s.ret = r ∧ r ≤ 65535 ∧ (r ≠ 0 → used r = false) ∧ (r = 0 ↔ maxref = 65535 ∧ ∀ q, 1 ≤ q → q ≤ 65535 → used q = true) ∧
      ∃ m' : Nat, s.file_rec_maxref = m' ∧ maxref ≤ m' ∧ m' ≤ 65535 := by
  obtain ⟨_, _, k3, k4⟩ := Hnewref_refines maxref hm used tbl ht fuel hf file_id refcount hrc
  refine ⟨_, k3, ?_, ?_, ?_, _, k4, ?_, ?_⟩
  · by_cases h0 : (Limits.newref maxref used).1 = 0
    · omega
    · rcases C20.newref_fresh maxref used hmax h0 with ⟨_, _, h, _⟩ | h <;> omega
  · intro h0
    rcases C20.newref_fresh maxref used hmax h0 with ⟨h, _⟩ | h
    · exact h
    · omega
  · rw [C20.newref_zero_iff]
    constructor
    · rintro ⟨a, b⟩; exact ⟨by omega, b⟩
    · rintro ⟨a, b⟩; exact ⟨by omega, b⟩
  · unfold Limits.newref; split <;> simp only <;> omega
  · unfold Limits.newref
    have hM : MAX_REF = 65535 := rfl
    rw [hM]; split <;> simp only <;> omega

/-- `BADFREC(file_rec)`: no file record behind the id, or one that is not open: `DFREF_NONE`, `maxref` untouched -/
theorem Hnewref_badfile (fuel : Nat) (file_id refcount maxref : Int) (fnull : Bool) (hbad : fnull = true ∨ refcount = 0) (tbl : List Int) :
    let s := Hnewref fuel file_id fnull refcount maxref tbl
    s.ub = false ∧ s.oof = false ∧ s.ret = 0 ∧ s.file_rec_maxref = maxref := by
  simp [Hnewref, hbad]
example : (Hnewref 0 7 true 1 41 []).ret = 0 ∧ (Hnewref 0 7 false 0 41 []).ret = 0 := by decide +kernel

/-- the table of the model file: `HTIfind_dd(file_rec, DFTAG_WILDCARD, r, &NULL, DF_FORWARD)` on the file `f` of `H4.DD` is
    `scanFwd (pRef r) f.blocks 0 0` (`htiFindDD`, wildcard-tag branch) -/
def hnewref_table (f : DD.File) : List Int :=
  (List.range 65536).map fun r => if (DD.scanFwd (DD.pRef r) f.blocks 0 0).isNone then -1 else 0

theorem hnewref_table_of (f : DD.File) : TableOf (hnewref_table f) (fun r => !(DD.scanFwd (DD.pRef r) f.blocks 0 0).isNone) := by
  intro r h1 h2
  have hr : (List.range 65536)[r]? = some r := List.getElem?_range (by omega)
  simp only [hnewref_table, List.getD_eq_getElem?_getD, List.getElem?_map, hr, Option.map_some, Option.getD_some]
  cases (DD.scanFwd (DD.pRef r) f.blocks 0 0).isNone <;> simp

theorem refSearch_firstFree (blocks : List DD.Block) : ∀ (m k : Nat), k + m = 65536 →
    DD.refSearch blocks m k = ((List.range' k m).find? (fun r => !(!(DD.scanFwd (DD.pRef r) blocks 0 0).isNone))).getD 0
  | 0, _, _ => rfl
  | m + 1, k, h => by
    rw [DD.refSearch, List.range'_succ, List.find?_cons]
    cases hn : (DD.scanFwd (DD.pRef k) blocks 0 0).isNone
    · simp only [Bool.not_false, Bool.not_true, Bool.false_eq_true, if_false]
      exact refSearch_firstFree blocks m (k + 1) (by omega)
    · simp only [Bool.not_true, Bool.not_false, if_true, Option.getD_some]

/-- **`Hnewref` refines `DD.hnewref`** — the model the C12 theorems (`hnewref_fresh`, `hnewref_spec`) are about: value returned and new
    `maxref` for every model file whose `maxref` is a `uint16` -/
theorem Hnewref_refines_dd (f : DD.File) (hm : f.maxref ≤ 65535) (fuel : Nat) (hf : 65535 ≤ fuel) (file_id refcount : Int) (hrc : refcount ≠ 0) :
    let s := Hnewref fuel file_id false refcount f.maxref (hnewref_table f)
    s.ub = false ∧ s.oof = false ∧ s.ret = ((DD.hnewref f).1 : Nat) ∧ s.file_rec_maxref = ((DD.hnewref f).2.maxref : Nat) := by
  obtain ⟨k1, k2, k3, k4⟩ := Hnewref_refines f.maxref hm _ _ (hnewref_table_of f) fuel hf file_id refcount hrc
  refine ⟨k1, k2, ?_, ?_⟩
  · rw [k3]
    unfold Limits.newref DD.hnewref
    split
    · rfl
    · simp only
      have hM : MAX_REF = 65535 := rfl
      rw [hM, refSearch_firstFree f.blocks 65535 1 rfl]
      rfl
  · rw [k4]
    unfold Limits.newref DD.hnewref
    split <;> rfl

/-- **`Htagnewref`, the tag has a node in the tag tree** (`tbbtdfind` found it): through `BVRel` the value returned is the model's
    `tagnewrefValue` of the lowest clear bit (`DD.htagnewref`, code after the F7 repair: 0 when that bit lies beyond `MAX_REF`), the key handed
    to `tbbtdfind` is `BASETAG(tag)`, and the node's bit vector again represents the model's -/
theorem Htagnewref_refines (m : BV) (bu as lz : Int) (buf : List Int) (h : BVRel m bu as lz buf) (fuel : Nat) (hf : m.bitsUsed / 8 ≤ fuel)
    (h1 : m.bitsUsed < 2147483647) (file_id refcount : Int) (hrc : refcount ≠ 0) (tag : Nat) (htag : tag < 65536) :
    let s := Htagnewref fuel file_id tag false refcount false false false bu lz buf as
    s.ub = false ∧ s.oof = false ∧ s.base_tag = (DD.baseTag tag : Nat) ∧ s.ret = ((DD.tagnewrefValue DD.Cfg.fixed m.findNextZero.1 : Nat) : Int) ∧
      BVRel m.findNextZero.2 s.tip_ptr_b_bits_used s.tip_ptr_b_array_size s.tip_ptr_b_last_zero s.tip_ptr_b_buffer := by
  obtain ⟨k1, k2, k3, k4⟩ := bv_find_next_zero_refines m bu as lz buf h fuel hf h1
  have hne : ¬ ((m.findNextZero.1 : Int) = -1) := by omega
  simp only [Htagnewref, Htagnewref.St.join, hrc, k1, k2, k3, hne, Bool.false_eq_true, or_self, if_false,
    decide_false, Bool.or_false, Int.reduceMod, true_and]
  refine ⟨basetagC_eq tag htag, ?_, k4⟩
  unfold DD.tagnewrefValue
  simp only [DD.Cfg.fixed, if_true]
  have hM : MAX_REF = 65535 := rfl
  rw [hM]
  by_cases hz : m.findNextZero.1 > 65535
  · have : ((m.findNextZero.1 : Int) > 65535) := by omega
    simp [hz, this]
  · have : ¬ ((m.findNextZero.1 : Int) > 65535) := by omega
    simp only [hz, this, if_false]
    omega

set_option maxRecDepth 100000 in
/-- refs 0 .. 10 of tag 720 (special version 17104 = 720 | 0x4000) in use: 11; the vector full up to bit 15 is extended through `bv_set` -/
example : (Htagnewref 2 7 17104 false 1 false false false 20 0 [255, 7, 0] 3).ret = 11 ∧
    (Htagnewref 2 7 17104 false 1 false false false 20 0 [255, 7, 0] 3).base_tag = 720 ∧
    (Htagnewref 2 7 720 false 1 false false false 16 0 [255, 255, 0] 3).ret = 16 ∧
    (Htagnewref 2 7 720 false 1 false false false 16 0 [255, 255, 0] 3).tip_ptr_b_bits_used = 17 ∧
    (Htagnewref 2 7 720 false 1 false false false 16 0 [255, 255, 0] 3).ub = false := by decide +kernel

/-- **… on the C text the answer is the LOWEST ref of the tag that is not in use, 0 exactly when `1 .. 65535` are all in use**
    (`bv_find_next_zero_spec` transferred; bit 0 of every vector in the tag tree is set: ref 0 is never handed out) -/
theorem Htagnewref_c_spec (m : BV) (hi : m.Inv) (h0 : m.bit 0 = true) (fuel : Nat) (hf : m.bitsUsed / 8 ≤ fuel) (h1 : m.bitsUsed < 2147483647)
    (file_id refcount : Int) (hrc : refcount ≠ 0) (tag : Nat) (htag : tag < 65536) :
    let s := Htagnewref fuel file_id tag false refcount false false false m.bitsUsed m.lastZero (ints m.buf) m.arraySize
    s.ub = false ∧ s.oof = false ∧ ∃ r : Nat, s.ret = r ∧ r ≤ 65535 ∧
      (r ≠ 0 → m.bit r = false ∧ ∀ q, q < r → m.bit q = true) ∧ (r = 0 ↔ ∀ q, q ≤ 65535 → m.bit q = true) := by
  obtain ⟨k1, k2, _, k4, _⟩ := Htagnewref_refines m _ _ _ _ (BVRel.of_inv hi) fuel hf h1 file_id refcount hrc tag htag
  obtain ⟨p1, p2, _, _⟩ := C12.bv_find_next_zero_spec hi
  refine ⟨k1, k2, _, k4, ?_, ?_, ?_⟩
  all_goals
    unfold DD.tagnewrefValue
    simp only [DD.Cfg.fixed, if_true, show MAX_REF = 65535 from rfl]
  · split <;> omega
  · intro hr
    split at hr
    · omega
    · rename_i hz
      rw [if_neg hz]; exact ⟨p1, p2⟩
  · constructor
    · intro hr q hq
      split at hr
      · exact p2 q (by omega)
      · rename_i hz
        have : m.findNextZero.1 = 0 := hr
        rw [this] at p1; rw [h0] at p1; cases p1
    · intro hall
      split
      · rfl
      · rename_i hz
        have := hall m.findNextZero.1 (by omega)
        rw [p1] at this; cases this

/-- **`Htagnewref`, no node for the base tag** (`tbbtdfind` = NULL): the first ref, 1; nothing touched -/
theorem Htagnewref_none (fuel : Nat) (file_id refcount : Int) (hrc : refcount ≠ 0) (tag : Nat) (htag : tag < 65536) (bn bbn : Bool)
    (bu as lz : Int) (buf : List Int) :
    let s := Htagnewref fuel file_id tag false refcount true bn bbn bu lz buf as
    s.ub = false ∧ s.oof = false ∧ s.base_tag = (DD.baseTag tag : Nat) ∧ s.ret = 1 ∧
      s.tip_ptr_b_bits_used = bu ∧ s.tip_ptr_b_array_size = as ∧ s.tip_ptr_b_last_zero = lz ∧ s.tip_ptr_b_buffer = buf := by
  simp only [Htagnewref, hrc, Bool.false_eq_true, or_self, ↓reduceIte,
    Int.reduceMod, true_and, and_true]
  exact basetagC_eq tag htag
example : (Htagnewref 0 7 306 false 1 true true true 0 0 [] 0).ret = 1 := by decide +kernel

/-- `BADFREC(file_rec)`: `DFREF_NONE` (0), nothing touched -/
theorem Htagnewref_badfile (fuel : Nat) (file_id refcount : Int) (fnull : Bool) (hbad : fnull = true ∨ refcount = 0) (tag : Int) (tn bn bbn : Bool)
    (bu as lz : Int) (buf : List Int) :
    let s := Htagnewref fuel file_id tag fnull refcount tn bn bbn bu lz buf as
    s.ub = false ∧ s.oof = false ∧ s.ret = 0 ∧
      s.tip_ptr_b_bits_used = bu ∧ s.tip_ptr_b_array_size = as ∧ s.tip_ptr_b_last_zero = lz ∧ s.tip_ptr_b_buffer = buf := by
  simp only [Htagnewref, hbad, Bool.false_eq_true, or_true, if_false, if_true,
    Int.reduceMod, and_true]

/-- **`Htagnewref` refines `DD.htagnewref`** (the model of the C12 theorems `htagnewref_fresh` / `htagnewref_spec`): for a model file whose tag
    tree maps `BASETAG(tag)` to `bv` (C side: the node found, its `bv_struct` related to `bv`) or to nothing (C side: `tbbtdfind` = NULL) -/
theorem Htagnewref_refines_dd (f : DD.File) (tag : Nat) (htag : tag < 65536) (fuel : Nat) (file_id refcount : Int) (hrc : refcount ≠ 0) :
    (∀ bv bu as lz buf, DD.tget f.tags (DD.baseTag tag) = some bv → BVRel bv bu as lz buf → bv.bitsUsed / 8 ≤ fuel → bv.bitsUsed < 2147483647 →
      let s := Htagnewref fuel file_id tag false refcount false false false bu lz buf as
      s.ub = false ∧ s.oof = false ∧ s.ret = ((DD.htagnewref DD.Cfg.fixed f tag).1 : Nat) ∧
        ∃ bv', DD.tget (DD.htagnewref DD.Cfg.fixed f tag).2.tags (DD.baseTag tag) = some bv' ∧
          BVRel bv' s.tip_ptr_b_bits_used s.tip_ptr_b_array_size s.tip_ptr_b_last_zero s.tip_ptr_b_buffer) ∧
    (DD.tget f.tags (DD.baseTag tag) = none →
      (Htagnewref fuel file_id tag false refcount true false false 0 0 [] 0).ret = ((DD.htagnewref DD.Cfg.fixed f tag).1 : Nat) ∧
        (DD.htagnewref DD.Cfg.fixed f tag).2 = f) := by
  constructor
  · intro bv bu as lz buf hg hrel hf h1
    obtain ⟨k1, k2, _, k4, k5⟩ := Htagnewref_refines bv bu as lz buf hrel fuel hf h1 file_id refcount hrc tag htag
    rw [DD.htagnewref_some hg]
    exact ⟨k1, k2, k4, _, by simp only [DD.tget_tput, if_true], k5⟩
  · intro hg
    rw [DD.htagnewref_none hg]
    exact ⟨(Htagnewref_none fuel file_id refcount hrc tag htag false false 0 0 0 []).2.2.2.1, rfl⟩

/-- **`dd_block_encode_refines`**: for EVERY block `ds` of descriptors in range (any length: 1 .. 65535 and beyond), the arrays `ddlist[k].tag …`
    possibly longer than the block, a buffer of at least `12 * ndds` bytes: no undefined behaviour, the loop ends, the buffer starts with the
    model's bytes `ds.flatMap encodeDD` (`encodeBlock` without its header) and keeps its tail, exactly these bytes are handed to `HP_write`,
    no `goto done`, `ret_value` as on entry -/
theorem dd_block_encode_refines (ds : List DD.DD) (hr : ∀ d ∈ ds, DD.DDRange d) (pT pR pO pL tbuf io_out : List Int) (fuel : Nat) (ret_value : Int)
    (hf : ds.length ≤ fuel) (hb : 12 * ds.length ≤ tbuf.length) :
    let s := HTPsync_ddlist fuel (cTag ds ++ pT) (cRef ds ++ pR) (cOff ds ++ pO) (cLen ds ++ pL) tbuf ds.length ret_value io_out
    s.ub = false ∧ s.oof = false ∧ s.gto = false ∧ s.ret_value = ret_value ∧
      s.tbuf = ints (ds.flatMap DD.encodeDD) ++ tbuf.drop (12 * ds.length) ∧ s.io_out = io_out ++ ints (ds.flatMap DD.encodeDD) := by
  have g : ∀ k (h : k < ds.length), (cTag ds ++ pT).getD (0 + k) 0 = ds[k].tag ∧ (cRef ds ++ pR).getD (0 + k) 0 = ds[k].ref ∧
      (cOff ds ++ pO).getD (0 + k) 0 = ds[k].off ∧ (cLen ds ++ pL).getD (0 + k) 0 = ds[k].len := by
    intro k hk
    simp only [Nat.zero_add, List.getD_eq_getElem?_getD, cTag, cRef, cOff, cLen]
    rw [List.getElem?_append_left (by simpa using hk), List.getElem?_append_left (by simpa using hk), List.getElem?_append_left (by simpa using hk),
      List.getElem?_append_left (by simpa using hk)]
    simp [hk]
  have e := HTPsync_ddlist_run (cTag ds ++ pT) (cRef ds ++ pR) (cOff ds ++ pO) (cLen ds ++ pL) tbuf io_out ds.length fuel ret_value hf
    (by simp [cTag]) (by simp [cRef]) (by simp [cOff]) (by simp [cLen])
    (fun k hk => by rw [← Nat.zero_add k, (g k hk).1]; omega) (fun k hk => by rw [← Nat.zero_add k, (g k hk).2.1]; omega) hb
  rw [encFrom_model _ _ _ _ ds 0 g] at e
  simp only [e, and_self]

set_option maxRecDepth 100000 in
/-- a live descriptor, the NIL descriptor (offset and length -1) and a descriptor with the extreme `int32` values -/
example : (HTPsync_ddlist 3 [30, 1, 17386] [1, 65535, 65535] [58, -1, 2147483647] [92, -1, -2147483648] (List.replicate 40 170) 3 0 [7]).tbuf =
      [0, 30, 0, 1, 0, 0, 0, 58, 0, 0, 0, 92,  0, 1, 255, 255, 255, 255, 255, 255, 255, 255, 255, 255,
       67, 234, 255, 255, 127, 255, 255, 255, 128, 0, 0, 0,  170, 170, 170, 170] ∧
    (HTPsync_ddlist 3 [30, 1, 17386] [1, 65535, 65535] [58, -1, 2147483647] [92, -1, -2147483648] (List.replicate 40 170) 3 0 [7]).io_out.length = 37 ∧
    (HTPsync_ddlist 3 [30, 1, 17386] [1, 65535, 65535] [58, -1, 2147483647] [92, -1, -2147483648] (List.replicate 40 170) 3 0 [7]).ub = false ∧
    (∀ d ∈ [(⟨30, 1, 58, 92⟩ : DD.DD), ⟨1, 65535, -1, -1⟩, ⟨17386, 65535, 2147483647, -2147483648⟩], DD.DDRange d) := by
  refine ⟨by decide +kernel, by decide +kernel, by decide +kernel, ?_⟩
  intro d hd
  simp only [List.mem_cons, List.not_mem_nil, or_false] at hd
  rcases hd with rfl | rfl | rfl <;> (unfold DD.DDRange; decide +kernel)

/-- the stream holds the bytes `B` at position `pos` -/
def StreamAt (io_in : List Int) (pos : Nat) (B : List Nat) : Prop :=
  pos + B.length ≤ io_in.length ∧ ∀ k, k < B.length → io_in.getD (pos + k) 0 = ((B.getD k 0 : Nat) : Int)

/-- **`dd_block_decode_refines`**: for EVERY byte string `B` of `12 * n` bytes on the input stream (any `n`), any previous contents of the
    arrays and of `tbuf`, any answers `tbl` of `HTIregister_tag_ref`: the translated fragment ends in exactly the state `decOut …` — the
    descriptors `decodeDDs n B` of the model stored into the arrays up to and including the first live one whose registration fails,
    `maxref` / `end_off` raised over those, `ret_value = FAIL` and `goto done` iff a registration failed — no check of the translator
    fails (`ub = false`: every access in bounds; the `int32` sum `offset + length` is not among its checks, see the head comment) and the
    fuel suffices -/
theorem dd_block_decode_refines (B : List Nat) (hB : ∀ x ∈ B, x < 256) (n : Nat) (hn : B.length = 12 * n) (T R O L : List Int) (maxref : Int)
    (tbuf : List Int) (fuel : Nat) (ret_value end_off : Int) (io_in : List Int) (pos : Nat) (tbl : List Int) (hf : n ≤ fuel)
    (l1 : n ≤ T.length) (l2 : n ≤ R.length) (l3 : n ≤ O.length) (l4 : n ≤ L.length) (hb : 12 * n ≤ tbuf.length) (hs : StreamAt io_in pos B) :
    let s := HTPstart_ddlist fuel T R O L maxref tbuf n ret_value end_off io_in pos tbl
    s = decOut (decStart T R O L maxref tbuf n ret_value end_off io_in pos tbl) 0 (DD.decodeDDs n B) tbl ∧ s.ub = false ∧ s.oof = false := by
  have hbs : ∀ k, k < 12 * n → io_in.getD (pos + k) 0 = (((fun k => B.getD k 0) k : Nat) : Int) ∧ (fun k => B.getD k 0) k < 256 := by
    intro k hk
    refine ⟨hs.2 k (by omega), ?_⟩
    simp only [List.getD_eq_getElem?_getD, List.getElem?_eq_getElem (by omega : k < B.length), Option.getD_some]
    exact hB _ (List.getElem_mem _)
  have e := HTPstart_ddlist_run T R O L maxref tbuf n fuel ret_value end_off io_in pos tbl (fun k => B.getD k 0) hf l1 l2 l3 l4 hb
    (by have := hs.1; omega) hbs
  rw [map_cdd_model B n 0 (by omega), Nat.mul_zero, List.drop_zero] at e
  exact ⟨e, by rw [e]; rfl, by rw [e]; rfl⟩

/-- `HP_read` fails (fewer than `12 * n` bytes left): `ret_value = FAIL`, `goto done`, nothing else changed -/
theorem dd_block_decode_short (T R O L : List Int) (maxref : Int) (tbuf : List Int) (n fuel : Nat) (ret_value end_off : Int) (io_in : List Int)
    (pos : Nat) (tbl : List Int) (hb : 12 * n ≤ tbuf.length) (hin : io_in.length < pos + 12 * n) :
    let s := HTPstart_ddlist fuel T R O L maxref tbuf n ret_value end_off io_in pos tbl
    s.ub = false ∧ s.oof = false ∧ s.gto = true ∧ s.ret_value = -1 ∧ s.ddcurr_ddlist_tag = T ∧ s.ddcurr_ddlist_ref = R ∧
      s.ddcurr_ddlist_offset = O ∧ s.ddcurr_ddlist_length = L ∧ s.file_rec_maxref = maxref ∧ s.end_off = end_off ∧ s.io_pos = pos := by
  simp only [HTPstart_ddlist_short T R O L maxref tbuf n fuel ret_value end_off io_in pos tbl hb hin, and_self]

/-- **every registration succeeds**: the arrays hold the model's descriptors (then their old cells), `maxref` and `end_off` are the folds of
    `HTPstart` (`DD.htpStart`: `maxref`; `DD.endOff`: the inner fold), `i = curr_dd_ptr = n`, `12 * n` bytes consumed -/
theorem dd_block_decode_ok (B : List Nat) (hB : ∀ x ∈ B, x < 256) (n : Nat) (hn : B.length = 12 * n) (T R O L : List Int) (maxref : Nat)
    (tbuf : List Int) (fuel : Nat) (ret_value end_off : Int) (io_in : List Int) (pos : Nat) (tbl : List Int) (hf : n ≤ fuel)
    (l1 : n ≤ T.length) (l2 : n ≤ R.length) (l3 : n ≤ O.length) (l4 : n ≤ L.length) (hb : 12 * n ≤ tbuf.length) (hs : StreamAt io_in pos B)
    (hok : failedL (DD.decodeDDs n B) tbl = false) (hall : ngoodL (DD.decodeDDs n B) tbl = n) :
    let s := HTPstart_ddlist fuel T R O L maxref tbuf n ret_value end_off io_in pos tbl
    let ds := DD.decodeDDs n B
    s.ub = false ∧ s.oof = false ∧ s.gto = false ∧ s.ret_value = ret_value ∧
      s.ddcurr_ddlist_tag = cTag ds ++ T.drop n ∧ s.ddcurr_ddlist_ref = cRef ds ++ R.drop n ∧
      s.ddcurr_ddlist_offset = cOff ds ++ O.drop n ∧ s.ddcurr_ddlist_length = cLen ds ++ L.drop n ∧
      s.file_rec_maxref = ((ds.foldl (fun m d => if m < d.ref then d.ref else m) maxref : Nat) : Int) ∧
      s.end_off = ds.foldl (fun e d => if d.off + d.len > e then d.off + d.len else e) end_off ∧
      s.i = n ∧ s.curr_dd_ptr = n ∧ s.io_pos = ((pos + 12 * n : Nat) : Int) := by
  obtain ⟨e, k1, k2⟩ := dd_block_decode_refines B hB n hn T R O L maxref tbuf fuel ret_value end_off io_in pos tbl hf l1 l2 l3 l4 hb hs
  have hlen := DD.decodeDDs_length n B
  have hst : nstoredL (DD.decodeDDs n B) tbl = n := by simp only [nstoredL, hok, hall, Bool.false_eq_true, if_false, Nat.add_zero]
  have htk : List.take n (DD.decodeDDs n B) = DD.decodeDDs n B := List.take_of_length_le (by omega)
  refine ⟨k1, k2, ?_⟩
  simp only [e, decOut, decStart, hst, hok, hall, htk, Bool.false_eq_true, if_false, splice, List.take_zero, List.nil_append, List.length_map, hlen,
    Nat.zero_add, maxrefC_nat, endoffC, cTag, cRef, cOff, cLen, Int.zero_add, and_self]

/-- **with the answers the model's `register` gives** (`regTable tags ds`): the C loop takes `goto done` with `ret_value = FAIL` exactly when
    the model's `registerAll tags ds` (the loop of `DD.htpStart`) fails; when it succeeds all `n` descriptors are processed -/
theorem dd_block_decode_registerAll (B : List Nat) (hB : ∀ x ∈ B, x < 256) (n : Nat) (hn : B.length = 12 * n) (T R O L : List Int) (maxref : Int)
    (tbuf : List Int) (fuel : Nat) (ret_value end_off : Int) (io_in : List Int) (pos : Nat) (tags : DD.Tags) (hf : n ≤ fuel)
    (l1 : n ≤ T.length) (l2 : n ≤ R.length) (l3 : n ≤ O.length) (l4 : n ≤ L.length) (hb : 12 * n ≤ tbuf.length) (hs : StreamAt io_in pos B)
    (ds : List DD.DD) (hds : ds = DD.decodeDDs n B) :
    let s := HTPstart_ddlist fuel T R O L maxref tbuf n ret_value end_off io_in pos (regTable tags ds)
    s.ub = false ∧ s.oof = false ∧ s.gto = (DD.registerAll tags ds).isNone ∧ s.ret_value = (if (DD.registerAll tags ds).isNone then -1 else ret_value) ∧
      ((DD.registerAll tags ds).isSome → s.i = n ∧ s.ddcurr_ddlist_tag = cTag ds ++ T.drop n) := by
  obtain ⟨e, k1, k2⟩ := dd_block_decode_refines B hB n hn T R O L maxref tbuf fuel ret_value end_off io_in pos (regTable tags ds) hf l1 l2 l3 l4 hb hs
  rw [← hds] at e
  have hfl := failedL_regTable ds tags
  refine ⟨k1, k2, ?_, ?_, ?_⟩
  · rw [e]; simp only [decOut, hfl]
  · rw [e]; simp only [decOut, decStart, hfl]
  · intro hsome
    have hnone : (DD.registerAll tags ds).isNone = false := by rw [Option.isNone_eq_false_iff]; exact hsome
    have hlen : ds.length = n := hds ▸ DD.decodeDDs_length n B
    have hg := ngoodL_regTable ds tags hsome
    have hst : nstoredL ds (regTable tags ds) = n := by simp only [nstoredL, hfl, hnone, hg, hlen, Bool.false_eq_true, if_false, Nat.add_zero]
    have htk : List.take n ds = ds := List.take_of_length_le (by omega)
    constructor
    · rw [e]; simp only [decOut, decStart, hg, hlen, Int.zero_add]
    · rw [e]
      simp only [decOut, decStart, hst, htk, splice, List.take_zero, List.nil_append, List.length_map, hlen, Nat.zero_add, cTag]

/-- the inputs for which the C addition `offset + length` of `HTPstart` is defined (no `int32` overflow); every block the library writes
    satisfies it (`DD.bumpEnd` keeps `offset + length ≤ f_end_off`) -/
def decode_sum_in_range (ds : List DD.DD) : Prop := ∀ d ∈ ds, -2147483648 ≤ d.off + d.len ∧ d.off + d.len < 2147483648

set_option maxRecDepth 100000 in
/-- two descriptors from their bytes: a live one (offset 58 length 92, registered) and the NIL descriptor; and the same block when the
    registration of the first one fails: only the first is stored, `goto done` -/
example :
    (HTPstart_ddlist 2 [9, 9] [9, 9] [9, 9] [9, 9] 0 (List.replicate 24 170) 2 0 6 ([1, 2] ++ [0, 30, 0, 5, 0, 0, 0, 58, 0, 0, 0, 92,
        0, 1, 255, 255, 255, 255, 255, 255, 255, 255, 255, 255]) 2 [0, 0]).ddcurr_ddlist_tag = [30, 1] ∧
    (HTPstart_ddlist 2 [9, 9] [9, 9] [9, 9] [9, 9] 0 (List.replicate 24 170) 2 0 6 ([1, 2] ++ [0, 30, 0, 5, 0, 0, 0, 58, 0, 0, 0, 92,
        0, 1, 255, 255, 255, 255, 255, 255, 255, 255, 255, 255]) 2 [0, 0]).ddcurr_ddlist_offset = [58, -1] ∧
    (HTPstart_ddlist 2 [9, 9] [9, 9] [9, 9] [9, 9] 0 (List.replicate 24 170) 2 0 6 ([1, 2] ++ [0, 30, 0, 5, 0, 0, 0, 58, 0, 0, 0, 92,
        0, 1, 255, 255, 255, 255, 255, 255, 255, 255, 255, 255]) 2 [0, 0]).file_rec_maxref = 65535 ∧
    (HTPstart_ddlist 2 [9, 9] [9, 9] [9, 9] [9, 9] 0 (List.replicate 24 170) 2 0 6 ([1, 2] ++ [0, 30, 0, 5, 0, 0, 0, 58, 0, 0, 0, 92,
        0, 1, 255, 255, 255, 255, 255, 255, 255, 255, 255, 255]) 2 [0, 0]).end_off = 150 ∧
    (HTPstart_ddlist 2 [9, 9] [9, 9] [9, 9] [9, 9] 0 (List.replicate 24 170) 2 0 6 ([1, 2] ++ [0, 30, 0, 5, 0, 0, 0, 58, 0, 0, 0, 92,
        0, 1, 255, 255, 255, 255, 255, 255, 255, 255, 255, 255]) 2 [0, 0]).ub = false ∧
    (HTPstart_ddlist 2 [9, 9] [9, 9] [9, 9] [9, 9] 0 (List.replicate 24 170) 2 0 6 ([1, 2] ++ [0, 30, 0, 5, 0, 0, 0, 58, 0, 0, 0, 92,
        0, 1, 255, 255, 255, 255, 255, 255, 255, 255, 255, 255]) 2 [-1, 0]).ddcurr_ddlist_tag = [30, 9] ∧
    (HTPstart_ddlist 2 [9, 9] [9, 9] [9, 9] [9, 9] 0 (List.replicate 24 170) 2 0 6 ([1, 2] ++ [0, 30, 0, 5, 0, 0, 0, 58, 0, 0, 0, 92,
        0, 1, 255, 255, 255, 255, 255, 255, 255, 255, 255, 255]) 2 [-1, 0]).gto = true := by decide +kernel

/-- **`dd_block_c_roundtrip`**: what the translated loop of `HTPsync` hands to `HP_write` for a block `ds` (every descriptor in range, any
    length), read back by the translated loop of `HTPstart` (every registration succeeding), is `ds` again — tag, ref, offset and length of
    every descriptor — and `maxref` is the largest ref seen.  `decodeBlock (encodeBlock b) = b` of the model, about the C text. -/
theorem dd_block_c_roundtrip (ds : List DD.DD) (hr : ∀ d ∈ ds, DD.DDRange d) (tbuf1 tbuf2 T R O L : List Int) (fuel : Nat) (hf : ds.length ≤ fuel)
    (hb1 : 12 * ds.length ≤ tbuf1.length) (hb2 : 12 * ds.length ≤ tbuf2.length)
    (l1 : T.length = ds.length) (l2 : R.length = ds.length) (l3 : O.length = ds.length) (l4 : L.length = ds.length)
    (maxref : Nat) (ret_value end_off : Int) (tbl : List Int) (hok : failedL ds tbl = false) (hall : ngoodL ds tbl = ds.length) :
    let w := HTPsync_ddlist fuel (cTag ds) (cRef ds) (cOff ds) (cLen ds) tbuf1 ds.length 0 []
    let s := HTPstart_ddlist fuel T R O L maxref tbuf2 ds.length ret_value end_off w.io_out 0 tbl
    w.ub = false ∧ w.oof = false ∧ s.ub = false ∧ s.oof = false ∧ s.gto = false ∧
      s.ddcurr_ddlist_tag = cTag ds ∧ s.ddcurr_ddlist_ref = cRef ds ∧ s.ddcurr_ddlist_offset = cOff ds ∧ s.ddcurr_ddlist_length = cLen ds ∧
      s.file_rec_maxref = ((ds.foldl (fun m d => if m < d.ref then d.ref else m) maxref : Nat) : Int) := by
  intro w s
  obtain ⟨w1, w2, _, _, _, w6⟩ := dd_block_encode_refines ds hr [] [] [] [] tbuf1 [] fuel 0 hf hb1
  simp only [List.append_nil, List.nil_append] at w1 w2 w6
  have hB := flatMap_encode_bytes ds
  have hn := flatMap_encode_length ds
  have hdec := decodeDDs_encode ds hr
  have hst : StreamAt w.io_out 0 (ds.flatMap DD.encodeDD) := by
    show StreamAt (HTPsync_ddlist fuel (cTag ds) (cRef ds) (cOff ds) (cLen ds) tbuf1 ds.length 0 []).io_out 0 _
    rw [w6]
    refine ⟨by simp [ints], fun k hk => ?_⟩
    simp only [Nat.zero_add, H4.C2L.ints_getD_nat]
  obtain ⟨k1, k2, k3, _, k5, k6, k7, k8, k9, _⟩ := dd_block_decode_ok (ds.flatMap DD.encodeDD) hB ds.length hn T R O L maxref tbuf2 fuel
    ret_value end_off w.io_out 0 tbl hf (by omega) (by omega) (by omega) (by omega) hb2 hst (by rw [hdec]; exact hok) (by rw [hdec]; exact hall)
  rw [hdec] at k5 k6 k7 k8 k9
  have d1 : T.drop ds.length = [] := List.drop_of_length_le (by omega)
  have d2 : R.drop ds.length = [] := List.drop_of_length_le (by omega)
  have d3 : O.drop ds.length = [] := List.drop_of_length_le (by omega)
  have d4 : L.drop ds.length = [] := List.drop_of_length_le (by omega)
  rw [d1, List.append_nil] at k5
  rw [d2, List.append_nil] at k6
  rw [d3, List.append_nil] at k7
  rw [d4, List.append_nil] at k8
  exact ⟨w1, w2, k1, k2, k3, k5, k6, k7, k8, k9⟩

end H4.Props.C12Fn2
