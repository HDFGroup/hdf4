import H4.Lemmas.HPIO
/-! # C16 — I/O failures are reported, never silently swallowed (property theorems on the physical I/O layer)

The statements quantify over ALL operation histories and ALL fault schedules (every primitive may fail; a failed read or write leaves an
arbitrary stream position, a failed seek does not move the stream).  The API-level part of C16 (workloads × every stdio call index) is decided by
exhaustive fault enumeration on the implementation (engine `fault`), see DESIGN.md. -/
namespace H4.Props.C16
open H4.HPIO

/-- the position cache may be trusted: whenever `last_op` is not UNKNOWN the stream really is at `f_cur_off` -/
def Inv (h : HP) : Prop := h.last ≠ .unknown → h.s.pos = h.cur

theorem inv_opened (d : List Byte) : Inv (opened d) := by simp [Inv, opened]

theorem seek_inv (h : HP) (off : Nat) (f : Option Fault) (hi : Inv h) : Inv (hpSeek h off f).1 := by
  by_cases need : h.cur ≠ off ∨ h.last = .unknown
  · cases f
    · simp [hpSeek, need, Inv]
    · simpa [hpSeek, need] using hi
  · simpa [hpSeek, need] using hi

/-- `HP_read` keeps the invariant, the zero-delivery branch included (it ends with `last_op = UNKNOWN`) -/
theorem readZ_inv (h : HP) (n : Nat) (zok : Bool) (fs fr : Option Fault) (hi : Inv h) : Inv (hpReadZ h n zok fs fr).1 := by
  obtain ⟨⟨d, p⟩, c, l⟩ := h
  by_cases need : l = .write ∨ l = .unknown
  · cases fs <;> cases fr <;> simp [hpReadZ, hpSeek, need, Inv]
    split
    · simp
    · split <;> simp
  · have hp : p = c := hi fun e => need (.inr e)
    cases fr <;> simp [hpReadZ, need, Inv, hp]
    split
    · simp
    · split <;> simp

theorem read_inv (h : HP) (n : Nat) (fs fr : Option Fault) (hi : Inv h) : Inv (hpRead true h n fs fr).1 :=
  H4.Lemmas.C16Fn.hpReadZ_false h n fs fr ▸ readZ_inv h n false fs fr hi

theorem write_inv (h : HP) (bs : List Byte) (fs fw : Option Fault) (hi : Inv h) : Inv (hpWrite true h bs fs fw).1 := by
  obtain ⟨⟨d, p⟩, c, l⟩ := h
  by_cases need : l = .read ∨ l = .unknown
  · cases fs <;> cases fw <;> simp [hpWrite, hpSeek, need, Inv]
  · have hp : p = c := hi fun e => need (.inr e)
    cases fw <;> simp [hpWrite, need, Inv, hp]

theorem step_inv (h : HP) (op : Op) (hi : Inv h) : Inv (step true h op).1 := by
  cases op with
  | seek off f => simpa [step] using seek_inv h off f hi
  | read n fs fr =>
    have := read_inv h n fs fr hi
    simp only [step]; split <;> simp_all
  | write bs fs fw => simpa [step] using write_inv h bs fs fw hi

/-- **Position-cache soundness**, every history, every fault schedule: the invariant holds in every reachable state. -/
theorem cache_sound (d : List Byte) (ops : List Op) : Inv (run true (opened d) ops).1 := by
  suffices ∀ h, Inv h → Inv (run true h ops).1 from this _ (inv_opened d)
  induction ops with
  | nil => intro h hi; simpa [run] using hi
  | cons op ops ih => intro h hi; simp only [run]; exact ih _ (step_inv h op hi)

/-- **A failing primitive is reported**: when the `fseek` of `HPseek` fails, the call returns FAIL -/
theorem seek_fault_reported (h : HP) (off : Nat) (f : Fault) (hneed : h.cur ≠ off ∨ h.last = .unknown) :
    (hpSeek h off (some f)).2 = false := by simp [hpSeek, hneed]

/-- ... when the `fread` of `HP_read` fails (whatever its implied `fseek` did: `fs` is arbitrary; a failing IMPLIED `fseek` is not the subject here) -/
theorem read_fault_reported (fixed : Bool) (h : HP) (n : Nat) (fs : Option Fault) (f : Fault) :
    (hpRead fixed h n fs (some f)).2 = none := by
  unfold hpRead; split <;> (split <;> simp_all)

/-- ... when the `fwrite` of `HP_write` fails -/
theorem write_fault_reported (fixed : Bool) (h : HP) (bs : List Byte) (fs : Option Fault) (f : Fault) :
    (hpWrite fixed h bs fs (some f)).2 = false := by
  unfold hpWrite; split <;> (split <;> simp_all)

/-- a fault-free `HPseek off` from a state with a sound cache: stream and cache stand at `off`, and `last_op` is trusted -/
theorem seek_lands (h : HP) (hi : Inv h) (off : Nat) :
    ∃ l, l ≠ .unknown ∧ hpSeek h off none = (⟨⟨h.s.data, off⟩, off, l⟩, true) := by
  obtain ⟨⟨d, p⟩, c, l⟩ := h
  by_cases hn : c ≠ off ∨ l = .unknown
  · exact ⟨.seek, by simp, by simp [hpSeek, hn]⟩
  · simp only [not_or, ne_eq, Classical.not_not] at hn
    obtain ⟨rfl, hl⟩ := hn
    obtain rfl : p = c := hi hl
    exact ⟨l, hl, by simp [hpSeek, hl]⟩

/-- **Writes land where requested** — from ANY state with a sound cache (so after ANY history with ANY faults): a fault-free `HPseek off`
    followed by a fault-free `HP_write bs` reports success, and the file afterwards is the old file with `bs` at offset `off`. -/
theorem write_lands_of_inv (h : HP) (hi : Inv h) (off : Nat) (bs : List Byte) :
    let h1 := (hpSeek h off none).1
    (hpWrite true h1 bs none none).2 = true ∧ (hpWrite true h1 bs none none).1.s.data = overwrite h.s.data off bs := by
  obtain ⟨l, hl, e⟩ := seek_lands h hi off
  rw [e]
  cases l <;> simp [hpWrite, hpSeek] at hl ⊢

set_option linter.unusedVariables false in
theorem write_lands (h : HP) (hi : Inv h) (off : Nat) (bs : List Byte)
    (hs : (hpSeek h off none).2 = true) :
    let h1 := (hpSeek h off none).1
    (hpWrite true h1 bs none none).2 = true ∧ (hpWrite true h1 bs none none).1.s.data = overwrite h.s.data off bs :=
  write_lands_of_inv h hi off bs

/-- successful reads return the bytes at the requested offset -/
theorem read_lands (h : HP) (hi : Inv h) (off n : Nat) (bs : List Byte)
    (hr : (hpRead true (hpSeek h off none).1 n none none).2 = some bs) :
    bs = (h.s.data.drop off).take n := by
  obtain ⟨l, hl, e⟩ := seek_lands h hi off
  rw [e] at hr
  cases l <;> simp [hpRead, hpSeek] at hl hr <;> split at hr <;> simp_all

/-- The defect repaired by c81ac94, as a theorem about the OLD code (`fixed = false`): there is a history in which a
    failed read is followed by a seek+write that both report success and the bytes land at the wrong offset. -/
theorem old_code_misplaces_write :
    ∃ (d : List Byte) (ops : List Op), (run false (opened d) ops).2 = [.ok, .fail, .ok, .ok] ∧
      (run false (opened d) ops).1.s.data ≠ overwrite d 1 [9] := by
  refine ⟨[1, 2, 3, 4], [.seek 1 none, .read 8 none none, .seek 1 none, .write [9] none none], ?_, ?_⟩ <;> decide

/-- ... and the same history on the repaired code puts the byte where it belongs -/
example : (run true (opened [1, 2, 3, 4]) [.seek 1 none, .read 8 none none, .seek 1 none, .write [9] none none]).1.s.data
    = overwrite [1, 2, 3, 4] 1 [9] := by decide

end H4.Props.C16
