import H4.Lemmas.Attr
/-!
# C10 — attributes and descriptive metadata (property theorems, part 1: the attribute-list machine)

All statements quantify over every attribute list, every attribute (any name, number type, count, value bytes)
and every operation sequence.  `Kind` selects the interface rule: `.sd` (SDIputattr: replace may change type/count,
limit H4_MAX_NC_ATTRS), `.gr` (GRsetattr: number type fixed), `.vs` (VSsetattr/Vsetattr: type and count fixed).
The per-interface machines of `H4.AttrSD/AttrGR/AttrVS` (tied to the C by engine `attr`) are built on `put`;
the theorems relating them to `put` are in `H4.Props.C10Files`.
-/
namespace H4.Props.C10
open H4.Attr H4.Gen.Attr

/-- the constants the proofs rely on, as regenerated from the headers -/
theorem consts : H4_MAX_NC_ATTRS = 3000 ∧ VSNAMELENMAX = 64 ∧ DFNT_CHAR = 4 ∧ NC_CHAR = 2 := by decide +kernel

/-- **aput_get**: after a successful set, the attribute is found by name, at an index below the count, and both
    the by-index and the by-name query return exactly the type, count and value that were set. -/
theorem aput_get (k : Kind) (l l' : AList) (a : Attr) (h : put k l a = some l') :
    ∃ i, find a.name l' = some i ∧ i < l'.length ∧ nth l' i = some a ∧ getByName l' a.name = some a := by
  have hfind : find a.name l' = some ((find a.name l).getD l.length) := by rw [find_put h, if_pos rfl]
  exact ⟨_, hfind, find_lt hfind, nth_put_self h, by rw [getByName_put h, if_pos rfl]⟩

example : ∃ i, find [97] [⟨[98], 24, 1, [0, 0, 0, 1]⟩, ⟨[97], 5, 2, [1, 2, 3, 4, 5, 6, 7, 8]⟩] = some i := ⟨1, by decide⟩

/-- **aput_replace_keeps_index**: re-setting an existing name keeps its index and the number of attributes -/
theorem aput_replace_keeps_index (k : Kind) (l l' : AList) (a : Attr) (i : Nat)
    (hf : find a.name l = some i) (h : put k l a = some l') :
    find a.name l' = some i ∧ l'.length = l.length ∧ nth l' i = some a := by
  have hn := nth_put_self h
  rw [hf] at hn
  exact ⟨by rw [find_put h, if_pos rfl, hf]; rfl, by rw [length_put h, hf]; rfl, hn⟩

/-- a new name gets the next free index (indices are insertion ordered) -/
theorem aput_new_index (k : Kind) (l l' : AList) (a : Attr)
    (hf : find a.name l = none) (h : put k l a = some l') :
    find a.name l' = some l.length ∧ l'.length = l.length + 1 := by
  exact ⟨by rw [find_put h, if_pos rfl, hf]; rfl, by rw [length_put h, hf]; rfl⟩

/-- **aput_frame**: a set (successful or not) leaves every other attribute untouched: same index, same type, count,
    value; lookups of other names are unchanged. -/
theorem aput_frame (k : Kind) (l : AList) (a : Attr) :
    (∀ j b, nth l j = some b → b.name ≠ a.name → nth (putS k l a) j = some b) ∧
    (∀ n, n ≠ a.name → find n (putS k l a) = find n l ∧ getByName (putS k l a) n = getByName l n) := by
  unfold putS
  cases h : put k l a with
  | none => exact ⟨fun j b hb _ => hb, fun n _ => ⟨rfl, rfl⟩⟩
  | some l' =>
    rw [Option.getD_some]
    exact ⟨fun j b hb hne => nth_put_other h hb hne,
      fun n hn => ⟨by rw [find_put h, if_neg hn], by rw [getByName_put h, if_neg hn]⟩⟩

/-- a failed set changes nothing at all -/
theorem aput_fail_unchanged (k : Kind) (l : AList) (a : Attr) (h : put k l a = none) : putS k l a = l := by
  simp [putS, h]

/-- **aput_count_limit** (single step): SD refuses a NEW name exactly when the list already holds H4_MAX_NC_ATTRS
    entries (and leaves the list as it was); replacing an existing name is still possible when the list is full. -/
theorem aput_count_limit (l : AList) (a : Attr) (hf : find a.name l = none) :
    (put .sd l a = none ↔ H4_MAX_NC_ATTRS ≤ l.length) ∧
    (H4_MAX_NC_ATTRS ≤ l.length → putS .sd l a = l) := by
  rw [put_new hf]
  simp only [room, putS]
  constructor
  · by_cases h : l.length < H4_MAX_NC_ATTRS <;> simp [h] <;> omega
  · intro h
    have : ¬ l.length < H4_MAX_NC_ATTRS := by omega
    simp [put_new hf, room, this]

theorem aput_full_replace (l : AList) (a : Attr) (i : Nat) (hf : find a.name l = some i) :
    put .sd l a = some (l.set i a) := by
  rw [put_found hf]; simp [compatible]

/-- **aput_count_limit** for ALL operation sequences: starting from the empty list (or any list within the limit), no
    sequence of SD sets ever produces more than H4_MAX_NC_ATTRS attributes. -/
theorem aput_count_limit_all (ops : List Attr) (l : AList) (h : l.length ≤ H4_MAX_NC_ATTRS) :
    (ops.foldl (putS .sd) l).length ≤ H4_MAX_NC_ATTRS := by
  induction ops generalizing l with
  | nil => exact h
  | cons a t ih =>
    refine ih _ ?_
    unfold putS
    cases hp : put .sd l a with
    | none => exact h
    | some l' =>
      rw [Option.getD_some, length_put hp]
      cases hf : find a.name l with
      | some i => exact h
      | none =>
        rw [put_new hf] at hp
        split at hp
        · rename_i hr
          have : l.length < H4_MAX_NC_ATTRS := of_decide_eq_true hr
          exact this
        · cases hp

/-- the hypothesis `H4_MAX_NC_ATTRS ≤ l.length` of `aput_count_limit` can be met -/
example : H4_MAX_NC_ATTRS ≤ (List.replicate 3000 (default : Attr)).length := by
  rw [List.length_replicate]; exact Nat.le_refl _

/-- **vsattr_fixed_type_count**: VSsetattr/Vsetattr on an existing name with a different number type or a
    different count FAILs and the old attribute (type, count, value, index) stays. -/
theorem vsattr_fixed_type_count (l : AList) (a old : Attr) (i : Nat)
    (hf : find a.name l = some i) (hold : nth l i = some old)
    (hdiff : old.nt ≠ a.nt ∨ old.count ≠ a.count) :
    put .vs l a = none ∧ putS .vs l a = l ∧ getByName (putS .vs l a) a.name = some old := by
  have hd : l.getD i default = old := getD_of_getElem? hold
  have hp : put .vs l a = none := by
    rw [put_found hf, hd]
    rcases hdiff with h | h <;> simp [compatible, h]
  refine ⟨hp, by simp [putS, hp], ?_⟩
  simp [putS, hp, getByName, hf, hold]

/-- ... and with the same type and count the value is replaced in place -/
theorem vsattr_same_type_count (l : AList) (a old : Attr) (i : Nat)
    (hf : find a.name l = some i) (hold : nth l i = some old)
    (hnt : old.nt = a.nt) (hc : old.count = a.count) :
    put .vs l a = some (l.set i a) := by
  have hd : l.getD i default = old := getD_of_getElem? hold
  rw [put_found hf, hd]; simp [compatible, hnt, hc]

/-- GRsetattr: the number type of an existing attribute cannot be changed (the count can) -/
theorem grattr_fixed_type (l : AList) (a old : Attr) (i : Nat)
    (hf : find a.name l = some i) (hold : nth l i = some old) :
    (old.nt ≠ a.nt → put .gr l a = none ∧ getByName (putS .gr l a) a.name = some old) ∧
    (old.nt = a.nt → put .gr l a = some (l.set i a)) := by
  have hd : l.getD i default = old := getD_of_getElem? hold
  constructor
  · intro h
    have hp : put .gr l a = none := by rw [put_found hf, hd]; simp [compatible, h]
    exact ⟨hp, by simp [putS, hp, getByName, hf, hold]⟩
  · intro h
    rw [put_found hf, hd]; simp [compatible, h]

example : put .vs [⟨[97], 24, 1, [0, 0, 0, 1]⟩] ⟨[97], 24, 2, [0, 0, 0, 1, 0, 0, 0, 2]⟩ = none := by decide +kernel
example : put .gr [⟨[97], 24, 1, [0, 0, 0, 1]⟩] ⟨[97], 24, 2, [0, 0, 0, 1, 0, 0, 0, 2]⟩
    = some [⟨[97], 24, 2, [0, 0, 0, 1, 0, 0, 0, 2]⟩] := by decide +kernel


inductive Op
  | set (a : Attr)          -- SDsetattr / GRsetattr / VSsetattr / Vsetattr
  | byIndex (i : Nat)       -- SDattrinfo+SDreadattr / GRattrinfo+GRgetattr / Vattrinfo+Vgetattr
  | byName (n : Bytes)      -- find + info + read
  | findIx (n : Bytes)      -- SDfindattr / GRfindattr / Vfindattr
  | count                   -- nattrs

inductive Out
  | ok | fail
  | attr (a : Option Attr)
  | idx (i : Option Nat)
  | num (n : Nat)
deriving DecidableEq

/-- the implementation machine: a list -/
def step (k : Kind) (l : AList) : Op → AList × Out
  | .set a => match put k l a with
    | some l' => (l', .ok)
    | none => (l, .fail)
  | .byIndex i => (l, .attr (nth l i))
  | .byName n => (l, .attr (getByName l n))
  | .findIx n => (l, .idx (find n l))
  | .count => (l, .num l.length)

def run (k : Kind) : AList → List Op → AList × List Out
  | l, [] => (l, [])
  | l, o :: t => let (l1, out) := step k l o; let (l2, outs) := run k l1 t; (l2, out :: outs)

/-- the specification: a finite map name ⇀ attribute together with the order in which names were first set -/
structure Spec where
  order : List Bytes
  m : Bytes → Option Attr

def Spec.empty : Spec := ⟨[], fun _ => none⟩

def specRoom (k : Kind) (s : Spec) : Bool :=
  match k with
  | .sd => s.order.length < H4_MAX_NC_ATTRS
  | _ => true

def specStep (k : Kind) (s : Spec) : Op → Spec × Out
  | .set a => match s.m a.name with
    | some old => if compatible k old a then (⟨s.order, fun n => if n = a.name then some a else s.m n⟩, .ok) else (s, .fail)
    | none => if specRoom k s then (⟨s.order ++ [a.name], fun n => if n = a.name then some a else s.m n⟩, .ok) else (s, .fail)
  | .byIndex i => (s, .attr ((s.order[i]?).bind s.m))
  | .byName n => (s, .attr (s.m n))
  | .findIx n => (s, .idx (s.order.idxOf? n))
  | .count => (s, .num s.order.length)

def specRun (k : Kind) : Spec → List Op → Spec × List Out
  | s, [] => (s, [])
  | s, o :: t => let (s1, out) := specStep k s o; let (s2, outs) := specRun k s1 t; (s2, out :: outs)

/-- abstraction relation: the list represents the map, names are distinct, order = list order -/
def Abs (l : AList) (s : Spec) : Prop :=
  (l.map (·.name)).Nodup ∧ s.order = l.map (·.name) ∧ ∀ n, s.m n = getByName l n

theorem step_refines (k : Kind) (l : AList) (s : Spec) (o : Op) (h : Abs l s) :
    (step k l o).2 = (specStep k s o).2 ∧ Abs (step k l o).1 (specStep k s o).1 := by
  obtain ⟨hnd, hord, hm⟩ := h
  cases o with
  | count => simp [step, specStep, hord, Abs, hnd, hm]
  | findIx n => simp [step, specStep, hord, idxOf?_names, Abs, hnd, hm]
  | byName n => simp [step, specStep, hm, Abs, hnd, hord]
  | byIndex i =>
    refine ⟨?_, ⟨hnd, hord, hm⟩⟩
    simp only [step, specStep, hord, List.getElem?_map]
    cases hi : l[i]? with
    | none => simp [nth, hi]
    | some b =>
      simp only [Option.map_some, Option.bind_some, hm, getByName, find_of_nodup hnd hi, nth, hi]
  | set a =>
    simp only [step, specStep]
    rw [hm a.name]
    -- the map is updated exactly when the list is (`getByName_put`), with the same test in both machines
    have upd : ∀ l', put k l a = some l' → ∀ order, order = l'.map (·.name) →
        Abs l' ⟨order, fun n => if n = a.name then some a else s.m n⟩ :=
      fun l' hp order ho => ⟨put_nodup hnd hp, ho, fun n => by rw [getByName_put hp, ← hm]⟩
    cases hf : find a.name l with
    | some i =>
      obtain ⟨b, hb, hbn⟩ := find_name hf
      have hgb : getByName l a.name = some b := by rw [getByName, hf]; exact hb
      have hd : l.getD i default = b := getD_of_getElem? hb
      rw [hgb, put_found hf, hd]
      by_cases hc : compatible k b a = true
      · simp only [hc, if_true]
        have hp : put k l a = some (l.set i a) := by rw [put_found hf, hd, if_pos hc]
        exact ⟨trivial, upd _ hp _ (by rw [put_names hp, hf]; exact hord)⟩
      · simp only [hc]
        exact ⟨rfl, hnd, hord, hm⟩
    | none =>
      have hgb : getByName l a.name = none := by rw [getByName, hf]; rfl
      have hroom : specRoom k s = room k l := by
        cases k <;> simp [specRoom, room, hord]
      rw [hgb, put_new hf, hroom]
      by_cases hr : room k l = true
      · simp only [hr, if_true]
        have hp : put k l a = some (l ++ [a]) := by rw [put_new hf, if_pos hr]
        exact ⟨trivial, upd _ hp _ (by rw [put_names hp, hf, hord]; rfl)⟩
      · simp only [hr]
        exact ⟨rfl, hnd, hord, hm⟩

/-- **attr_list_refines_map**: for EVERY operation sequence (sets with any names, types, counts, values, interleaved
    with queries by index, by name, find, count), under each interface rule, the list machine started from the empty
    list returns exactly the outputs of the finite-map specification with insertion-ordered indices, and its final
    state represents the specification's final state. -/
theorem attr_list_refines_map (k : Kind) (ops : List Op) :
    (run k [] ops).2 = (specRun k Spec.empty ops).2 ∧ Abs (run k [] ops).1 (specRun k Spec.empty ops).1 := by
  have key : ∀ (ops : List Op) (l : AList) (s : Spec), Abs l s →
      (run k l ops).2 = (specRun k s ops).2 ∧ Abs (run k l ops).1 (specRun k s ops).1 := by
    intro ops
    induction ops with
    | nil => intro l s h; exact ⟨rfl, h⟩
    | cons o t ih =>
      intro l s h
      obtain ⟨h1, h2⟩ := step_refines k l s o h
      obtain ⟨h3, h4⟩ := ih _ _ h2
      simp only [run, specRun]
      exact ⟨by rw [h1, h3], h4⟩
  exact key ops [] Spec.empty ⟨by simp, rfl, fun n => by simp [Spec.empty, getByName, find]⟩

example : (run .vs [] [.set ⟨[97], 24, 1, [1, 0, 0, 0]⟩, .set ⟨[97, 98], 5, 1, [0, 0, 128, 63]⟩,
      .set ⟨[97], 24, 2, [1, 0, 0, 0, 2, 0, 0, 0]⟩, .findIx [97, 98], .byIndex 0]).2
    = [.ok, .ok, .fail, .idx (some 1), .attr (some ⟨[97], 24, 1, [1, 0, 0, 0]⟩)] := by decide +kernel

/-- consequence for every history: names stay pairwise distinct, so index ↔ name is a bijection on the live attributes -/
theorem names_distinct_always (k : Kind) (ops : List Op) : ((run k [] ops).1.map (·.name)).Nodup :=
  (attr_list_refines_map k ops).2.1

theorem index_name_bijection (k : Kind) (ops : List Op) (i : Nat) (a : Attr)
    (h : nth (run k [] ops).1 i = some a) : find a.name (run k [] ops).1 = some i :=
  find_of_nodup (names_distinct_always k ops) h

end H4.Props.C10
