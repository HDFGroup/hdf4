import H4.Lemmas.Handles
import H4.Props.C13Atom
/-! # C13 (file level) — files cannot be closed under their access elements, repeated opens share one view, teardown is complete

Model: `H4.Handles` (the `filerec_t` table and the access records of `hfile.c` over the specification of the atom layer).
Every theorem is about ALL interleavings `ops : List Op` of `Hopen / Hclose / Hstartaccess / Hendaccess /` inquiries on file and
access ids, run from the state after `HIstart`, with any ids as arguments (live, released, never issued, of the other kind).

* `cfg.kindChecked` is the fact Tie A reads from `hfile_priv.h`: the H entry points resolve an id only if it is of the right
  group (`HIfid2rec` / `HIaid2rec`, fix a10afb7).  The invariants are proved for such a configuration (`current_checked`: the
  current source).  Without the test an id of the other kind is RESOLVED and its object is read as the wrong record type:
  `unchecked_kind_confuses` (this was a real defect: SEGV in `Hendaccess(file id)`, `Hread(file id)`).
* `cfg.closeChecksAids` (generated too): `Hclose` refuses a file id through which access elements are still attached, whatever
  other ids keep the file open.  With it no attach count is ever lost: `attach_eq_live_aids` (attach = number of attached
  access records, exactly) and `endaccess_of_live_aid_succeeds`.  Without it (the source before the repair) `Hclose` of such
  an id succeeds while another id keeps the file open, the later `Hendaccess` fails on the dead file id without `attach--` and
  the file can never be closed again: `close_under_aid_leaks_attach`; `attach_eq_live_aids_plus_leaked` is the statement that
  holds for both configurations.
* `cfg.spPerFileId` (generated too, from `HPcompare_accrec_tagref`): the special information of an element — and the access
  elements that information holds ITSELF (chunk-table Vdata of a chunked element, data element of a compressed one) — is shared
  between the access records of ONE file id only.  Section "special elements": histories with such elements are histories of
  the H calls above (`spRun_is_history`), so every invariant holds for them; with the flag every order of release over two ids
  of one file is balanced (`shared_chunk_info_release_orders`); without it (`share_across_ids_blocks_close`) the information's
  own access element stays attached through the first id after the caller has ended everything it started through that id.
* atom ids are not reissued as long as fewer than 2^28 file ids were handed out (`H4.Props.C13`: `make_atom_wraps`); the
  theorems about `attach` and those that rest on them (`attach_eq_live_aids_plus_leaked`, `no_attach_lost`, `attach_eq_live_aids`,
  `endaccess_of_live_aid_succeeds`, `close_with_aids_fails_reachable`, `failed_call_keeps_handles`, `sp_histories_keep_invariants`) carry
  that bound, the others do not need it. -/
namespace H4.Props.C13Files
open H4.Handles H4.Gen.Atom H4.Gen.Hdf H4.Gen.Macros
open H4.Atom (group_MAKE_ATOM)

/-- the current source checks the kind of every id at the H entry points -/
theorem current_checked : Cfg.current.kindChecked = true ∧ Cfg.current.closeChecksAids = true ∧ Cfg.current.spPerFileId = true := by decide +kernel

abbrev after (cfg : Cfg) (ops : List Op) : World := run cfg World.init ops

theorem reach (cfg : Cfg) (hk : cfg.kindChecked = true) (ops : List Op) : Reach cfg (after cfg ops) :=
  run_reach cfg hk ops World.init (init_reach cfg)

theorem after_nextid (cfg : Cfg) {ops : List Op} (hn : ops.length < 2 ^ 28) : (after cfg ops).fidg.nextid ≤ 2 ^ 28 :=
  Nat.le_trans (run_nextid cfg World.init ops) (by simpa [World.init] using Nat.le_of_lt hn)

/-- `handles_atoms_refine`: the ids of the file table ARE ids of the atom layer.  After every history the two groups of the world
    are the state of `H4.Atom`'s specification machine after the atom calls the history made (`trace`), and on that trace the
    model of `atom.c` itself (hash tables, chains, free list, 4-entry cache with its promotions) returns call by call what the
    specification returns (`H4.Props.C13.run_refines_map`), provided the trace is admissible (fewer than 2^28 registrations). -/
theorem handles_atoms_refine (cfg : Cfg) (ops : List Op) :
    (after cfg ops).atoms = H4.Atom.srunS H4.Atom.SState.init (after cfg ops).trace ∧
    (H4.Atom.adm H4.Atom.State.init (after cfg ops).trace = true →
      H4.Atom.SRun H4.Atom.SState.init (after cfg ops).trace (H4.Atom.runR H4.Atom.State.init (after cfg ops).trace)) :=
  ⟨(run_inv cfg ops (fun w op _ => (step_trans cfg w op).traceOk) _ init_traceOk).eq, H4.Props.C13.run_refines_map _⟩

/-- `refcount_eq_live_fids`: after every history, the reference count of every file record is exactly the number of live file
    ids that designate it, and is at least 1 (a record without ids does not exist). -/
theorem refcount_eq_live_fids (cfg : Cfg) (hk : cfg.kindChecked = true) (ops : List Op) :
    ∀ e ∈ (after cfg ops).frecs, e.2.refcount = (liveFids (after cfg ops)).countP (fun i => i.obj == e.1) ∧ 1 ≤ e.2.refcount :=
  (reach cfg hk ops).wf.toWFF.count

/-- `attach_eq_live_aids_plus_leaked` (any configuration): attach = number of access records attached to the record + number of
    counts lost by failed `Hendaccess` calls; every access record has exactly one live access id. -/
theorem attach_eq_live_aids_plus_leaked (cfg : Cfg) (hk : cfg.kindChecked = true) (ops : List Op) (hn : ops.length < 2 ^ 28) :
    (∀ e ∈ (after cfg ops).frecs,
        e.2.attach = (after cfg ops).arecs.countP (fun a => a.2.file == e.1) + (after cfg ops).leaked.countP (fun x => x == e.1)) ∧
    (∀ a ∈ (after cfg ops).arecs, (liveAids (after cfg ops)).countP (fun i => i.obj == a.1) = 1) :=
  ⟨((reach cfg hk ops).att (after_nextid cfg hn)).1.att, fun a ha => ((reach cfg hk ops).wf.toWFS.count a ha).1.symm⟩

/-- `no_attach_lost`: with the per-id test of `Hclose` nothing is ever leaked, and every access record was started through a
    file id that is still live -/
theorem no_attach_lost (cfg : Cfg) (hk : cfg.kindChecked = true) (hc : cfg.closeChecksAids = true) (ops : List Op)
    (hn : ops.length < 2 ^ 28) :
    (after cfg ops).leaked = [] ∧ ∀ a ∈ (after cfg ops).arecs, ∃ i ∈ liveFids (after cfg ops), i.id = a.2.fileId :=
  let h := ((reach cfg hk ops).att (after_nextid cfg hn)).2 hc
  ⟨h.noleak, h.alive⟩

/-- `attach_eq_live_aids`: the attach counter of every file record is EXACTLY the number of access records attached to it, and
    every access record has exactly one live access id. -/
theorem attach_eq_live_aids (cfg : Cfg) (hk : cfg.kindChecked = true) (hc : cfg.closeChecksAids = true) (ops : List Op)
    (hn : ops.length < 2 ^ 28) :
    (∀ e ∈ (after cfg ops).frecs, e.2.attach = (after cfg ops).arecs.countP (fun a => a.2.file == e.1)) ∧
    (∀ a ∈ (after cfg ops).arecs, (liveAids (after cfg ops)).countP (fun i => i.obj == a.1) = 1) := by
  have h := attach_eq_live_aids_plus_leaked cfg hk ops hn
  have hl := (no_attach_lost cfg hk hc ops hn).1
  refine ⟨fun e he => ?_, h.2⟩
  have := h.1 e he
  rw [hl] at this
  simpa using this

/-- `endaccess_of_live_aid_succeeds`: `Hendaccess` of an id that designates an access record never takes the failing branch:
    it returns SUCCEED (the repair makes the failure `BADFREC(file_rec)` unreachable) -/
theorem endaccess_of_live_aid_succeeds (cfg : Cfg) (hk : cfg.kindChecked = true) (hc : cfg.closeChecksAids = true) (ops : List Op)
    (hn : ops.length < 2 ^ 28) (id q : Nat) (a : ARec) (hl : lookA cfg (after cfg ops) id = .acc q a) :
    (step cfg (after cfg ops) (.endaccess id)).2 = .ok := by
  obtain ⟨ha, ho⟩ := (reach cfg hk ops).att (after_nextid cfg hn)
  obtain ⟨p, r, hlf⟩ := endAccess_lookF hk (reach cfg hk ops).wf ha (ho hc) hl
  simp only [step, endAccess, hl, hlf]

/-- every live access id designates an access record, every live file id a file record -/
theorem live_ids_designate (cfg : Cfg) (hk : cfg.kindChecked = true) (ops : List Op) :
    (∀ i ∈ liveFids (after cfg ops), ∃ e ∈ (after cfg ops).frecs, e.1 = i.obj) ∧
    (∀ i ∈ liveAids (after cfg ops), ∃ a ∈ (after cfg ops).arecs, a.1 = i.obj) :=
  ⟨fun i hi => List.mem_map.mp ((reach cfg hk ops).wf.toWFF.obj i hi), fun i hi => List.mem_map.mp ((reach cfg hk ops).wf.toWFS.obj i hi)⟩

/-- `nextread_keeps_counters`: `Hnextread` never changes the file table — whatever kinds of element the access record leaves and
    reaches and whether or not a further match exists, `refcount`, `attach` and all registrations are as before (so a file stays
    protected by a walking access element exactly as by a resting one). -/
theorem nextread_keeps_counters (cfg : Cfg) (w : World) (id : Nat) (found : Bool) : (step cfg w (.nextread id found)).1 = w :=
  nextRead_state cfg w id found

/-- `close_with_aids_fails_and_preserves`: in ANY state, `Hclose` of the last file id of a record that still has access
    elements attached returns FAIL and changes nothing at all — the file stays open and usable (every later call sees the
    same world). -/
theorem close_with_aids_fails_and_preserves (cfg : Cfg) (w : World) (id p : Nat) (r : FRec)
    (hl : lookF cfg w id = .file p r) (h1 : r.refcount = 1) (ha : 0 < r.attach) :
    hclose cfg w id = (w, .fail) := by
  unfold hclose hcloseRec
  simp only [hl, h1, ha]
  split <;> simp

/-- … and, with the invariant, this is exactly the case "last id of the file, some access element still open" -/
theorem close_with_aids_fails_reachable (cfg : Cfg) (hk : cfg.kindChecked = true) (ops : List Op) (hn : ops.length < 2 ^ 28)
    (id p : Nat) (r : FRec) (hl : lookF cfg (after cfg ops) id = .file p r)
    (hone : (liveFids (after cfg ops)).countP (fun i => i.obj == p) = 1)
    (hacc : 0 < (after cfg ops).arecs.countP (fun a => a.2.file == p)) :
    step cfg (after cfg ops) (.hclose id) = (after cfg ops, .fail) := by
  obtain ⟨_, _, hmem⟩ := lookF_file hk hl
  have h1 := (refcount_eq_live_fids cfg hk ops (p, r) hmem).1
  have h2 := (attach_eq_live_aids_plus_leaked cfg hk ops hn).1 (p, r) hmem
  simp only [] at h1 h2
  exact close_with_aids_fails_and_preserves cfg _ id p r hl (by rw [h1]; exact hone) (by omega)

/-- in every reachable state no two file records have the same path -/
theorem one_record_per_path (cfg : Cfg) (hk : cfg.kindChecked = true) (ops : List Op) :
    ((after cfg ops).frecs.map (·.2.path)).Nodup := (reach cfg hk ops).wf.toWFF.paths

/-- `repeated_open_shares_file`: an `Hopen` of a path that is open returns an id that designates the EXISTING record (with
    `one_record_per_path`: one consistent view of the file); no record is added.  The record's reference count is the number of ids that
    designate it (`refcount_eq_live_fids`). -/
theorem repeated_open_shares_file (w : World) (path acc p : Nat) (r : FRec) (osOk : Bool)
    (hacc : acc &&& DFACC_ALL = acc) (hcreate : acc ≠ DFACC_CREATE)
    (hfound : findRec w path = some p) (hget : getF w p = some r) :
    (hopen w path acc osOk).2 = .id (fidNew w) ∧
    aObj (hopen w path acc osOk).1 (fidNew w) = p ∧
    (hopen w path acc osOk).1.frecs.map (·.1) = w.frecs.map (·.1) := by
  have h1 : (acc &&& DFACC_ALL != acc) = false := by simp [hacc]
  have h2 : (acc == DFACC_CREATE) = false := by simpa using hcreate
  have hres : hopen w path acc osOk =
      (regF (setF w p { r with refcount := r.refcount + 1, access := reopenAccess r acc }) p, .id (fidNew w)) := by
    unfold hopen
    simp only [h1, Bool.false_eq_true, if_false, hfound, hget, h2]
  rw [hres]
  refine ⟨rfl, ?_, by simp [regF]⟩
  unfold aObj grpOf
  have hg : ATOM_TO_GROUP (MAKE_ATOM FIDGROUP w.fidg.nextid) = FIDGROUP := group_MAKE_ATOM FIDGROUP _ (by decide)
  simp only [fidNew, regF, setF_fidg, hg, if_true, List.find?_cons, beq_self_eq_true, Option.map_some, Option.getD_some]

/-- `full_teardown_is_init`: once every file id is released no file record is left, and once every access id is released no
    access record is left: the table is the initial one (the atom groups keep only their counters, see
    `H4.Props.C13.destroy_then_init_clean` for those). -/
theorem full_teardown_is_init (cfg : Cfg) (hk : cfg.kindChecked = true) (ops : List Op)
    (hf : liveFids (after cfg ops) = []) (ha : liveAids (after cfg ops) = []) :
    (after cfg ops).frecs = World.init.frecs ∧ (after cfg ops).arecs = World.init.arecs := by
  have hw := (reach cfg hk ops).wf
  have hF := hw.toWFF.toTab
  have hA : Tab .. := hw.toWFS
  rw [show (after cfg ops).fidg.live = [] from hf] at hF
  rw [show (after cfg ops).aidg.live = [] from ha] at hA
  exact ⟨hF.recs_nil, hA.recs_nil⟩

/-! ## failed entry points: every other handle of the process is untouched

The family "a call that FAILS changes nothing another handle can see".  In the model every failing branch of every call returns the
world it was given, with two exceptions that the theorems name: `Hendaccess` of a live access id whose file id is dead (unreachable
in a source with the per-id test of `Hclose`: `endaccess_of_live_aid_succeeds`), and the use count of the DD atom group after a
failed `HTPstart` inside `Hopen` (`ddAfterFailedStart`, read from the source by Tie A).  The DD group holds the DD id behind EVERY
access element of EVERY open file: it must exist as long as any file record does (`dd_group_outlives_files`). -/

/-- `failed_open_keeps_handles`: an `Hopen` that cannot succeed — whatever else is open, whatever stage it gives up at (operating
    system, magic number, DD blocks), whatever the access mode — returns FAIL and leaves both id maps, every file record (refcount,
    attach, access), every access record and the pointer counter exactly as they were; the use count of DDGROUP is unchanged
    unless the failure is inside `HTPstart`, where it becomes `ddAfterFailedStart`. -/
theorem failed_open_keeps_handles (w : World) (path acc : Nat) (st : OpenStage) (hf : (hopenBad w path acc st).2 = .fail) :
    (hopenBad w path acc st).1 = setDd w (hopenBad w path acc st).1.ddUse ∧
    ((hopenBad w path acc st).1.ddUse = w.ddUse ∨
      (st = .dd ∧ (hopenBad w path acc st).1.ddUse = ddAfterFailedStart w.ddUse)) := by
  have t := step_trans Cfg.current w (.hopenbad path acc st)
  simp only [step] at t
  rw [hf] at t
  generalize (hopenBad w path acc st).1 = w' at t ⊢
  cases t with
  | same => exact ⟨rfl, .inl rfl⟩
  | failedStart => exact ⟨rfl, .inr ⟨rfl, rfl⟩⟩

/-- … and it always fails when the path is not open and the file is not made anew -/
theorem bad_open_fails (w : World) (path acc : Nat) (st : OpenStage) (hnone : findRec w path = none) (hc : acc ≠ DFACC_CREATE) :
    (hopenBad w path acc st).2 = .fail := by
  have h2 : (acc == DFACC_CREATE) = false := by simpa using hc
  unfold hopenBad
  split
  · rfl
  · simp only [hnone, h2, Bool.false_eq_true, if_false]
    cases st <;> rfl

/-- `failed_step_keeps_handles` (any state, any configuration): a call of the file table that returns FAIL leaves the world as it
    was — except for the DD use count (above) and except `Hendaccess` of an id that does designate an access record. -/
theorem failed_step_keeps_handles (cfg : Cfg) (w : World) (op : Op) (hf : (step cfg w op).2 = .fail)
    (hend : ∀ id, op = .endaccess id → ∀ q a, lookA cfg w id ≠ .acc q a) :
    (step cfg w op).1 = setDd w (step cfg w op).1.ddUse := by
  have t := step_trans cfg w op
  rw [hf] at t
  generalize (step cfg w op).1 = w' at t ⊢
  cases t with
  | same => rfl
  | failedStart => rfl
  | endLeak hl => exact absurd hl (hend _ rfl _ _)

/-- `failed_call_keeps_handles`: after EVERY history (source with the kind test and the per-id test of `Hclose`), whatever is open
    — one file, two, several, with any number of access elements — a call that returns FAIL (an `Hopen` of a damaged file, of a
    directory, with a bad mode; `Hstartaccess` on a missing or unreadable element; a stale or foreign id given to anything) leaves
    every id, every record and every counter of the file table exactly as it was.  Only the DD use count may differ. -/
theorem failed_call_keeps_handles (cfg : Cfg) (hk : cfg.kindChecked = true) (hc : cfg.closeChecksAids = true) (ops : List Op)
    (hn : ops.length < 2 ^ 28) (op : Op) (hf : (step cfg (after cfg ops) op).2 = .fail) :
    (step cfg (after cfg ops) op).1 = setDd (after cfg ops) (step cfg (after cfg ops) op).1.ddUse := by
  apply failed_step_keeps_handles cfg _ op hf
  intro id hop q a hl
  subst hop
  rw [endaccess_of_live_aid_succeeds cfg hk hc ops hn id q a hl] at hf
  cases hf

/-- the fact about the CURRENT source the next theorems stand on (Tie A: `H4.Gen.Src`): `HTPstart` takes the DD group before it
    reads, or nothing gives a use back after a failed start.  A source that takes the group only after reading AND ends the DD list
    of a failed start makes this `decide` fail. -/
theorem current_failed_start_balanced :
    (H4.Gen.Src.HTPSTART_TAKES_DDGROUP_FIRST ||
      !(H4.Gen.Src.HOPEN_ENDS_DDLIST_OF_FAILED_START || H4.Gen.Src.HTPSTART_FAILURE_RELEASES_DDGROUP)) = true := by decide +kernel

/-- a failed `HTPstart` never takes a use of the DD group away from the files that are open -/
theorem failed_start_keeps_dd_group (n : Nat) : n ≤ ddAfterFailedStart n := by
  have h := current_failed_start_balanced
  unfold ddAfterFailedStart ddAfterFailedStartOf
  generalize H4.Gen.Src.HTPSTART_TAKES_DDGROUP_FIRST = a at *
  generalize (H4.Gen.Src.HOPEN_ENDS_DDLIST_OF_FAILED_START || H4.Gen.Src.HTPSTART_FAILURE_RELEASES_DDGROUP) = b at *
  cases a <;> cases b <;> simp at h ⊢ <;> omega

/-- `failed_start_takes_use_of_another_file` (a source that takes the DD group only AFTER the DD blocks are read and whose `Hopen`
    ends the DD list of a failed start; engine keys `ids-dd-group-use-below-open-files`, `ids-failed-call-disturbs-live-handle`):
    with one file open, one failed `Hopen` of a damaged file brings the use count to 0 — the group is destroyed under the open file. -/
theorem failed_start_takes_use_of_another_file : ddAfterFailedStartOf false true 1 = 0 ∧ ddAfterFailedStartOf false true 2 = 1 := by decide +kernel

/-- one step: the DD use count stays ≥ the number of file records; and it stays EQUAL when the step is not a failed `HTPstart`
    that moves the count -/
theorem step_dd (cfg : Cfg) (hk : cfg.kindChecked = true) (w : World) (op : Op) (hw : WF w) :
    (w.frecs.length ≤ w.ddUse → (step cfg w op).1.frecs.length ≤ (step cfg w op).1.ddUse) ∧
    ((∀ p a, op = .hopenbad p a .dd → ddAfterFailedStart w.ddUse = w.ddUse) → w.frecs.length = w.ddUse →
      (step cfg w op).1.frecs.length = (step cfg w op).1.ddUse) := by
  have t := step_trans cfg w op
  generalize (step cfg w op).1 = w', (step cfg w op).2 = res at t ⊢
  -- a transition moves both numbers together, or neither
  have both {n m n' m' : Nat} (h : (n' = n ∧ m' = m) ∨ (n' = n + 1 ∧ m' = m + 1) ∨ (n' + 1 = n ∧ m' = m - 1)) :
      (n ≤ m → n' ≤ m') ∧ (n = m → n' = m') := by omega
  have same {w' : World} (hf : w'.frecs.length = w.frecs.length) (hd : w'.ddUse = w.ddUse) :
      (w.frecs.length ≤ w.ddUse → w'.frecs.length ≤ w'.ddUse) ∧ (w.frecs.length = w.ddUse → w'.frecs.length = w'.ddUse) :=
    both (.inl ⟨hf, hd⟩)
  have close {id p : Nat} {r : FRec} (hl : lookF cfg w id = .file p r) :=
    let ⟨hg, _, hget⟩ := lookF_file hk hl
    And.intro hg (filter_key_length w.frecs hw.toWFF.keys hget)
  suffices h : (w.frecs.length ≤ w.ddUse → w'.frecs.length ≤ w'.ddUse) ∧ (w.frecs.length = w.ddUse → w'.frecs.length = w'.ddUse) ∨
      ∃ p a, op = .hopenbad p a .dd ∧ w'.frecs = w.frecs ∧ w'.ddUse = ddAfterFailedStart w.ddUse by
    rcases h with h | ⟨p, a, rfl, hf, hd⟩
    · exact ⟨h.1, fun _ => h.2⟩
    · have := failed_start_keeps_dd_group w.ddUse
      rw [hf, hd]
      exact ⟨fun h => Nat.le_trans h this, fun hdd h => by rw [hdd p a rfl]; exact h⟩
  cases t with
  | failedStart => exact .inr ⟨_, _, rfl, rfl, rfl⟩
  | same => exact .inl (same rfl rfl)
  | openShared | start => exact .inl (same (by simp [regF, regA, setF]) rfl)
  | openNew => exact .inl (both (.inr (.inl ⟨by simp [regF, setDd], rfl⟩)))
  | closeLast hl =>
    obtain ⟨hg, hlen⟩ := close hl
    exact .inl (both (.inr (.inr ⟨by simpa [setDd, aRem_fid _ _ hg, delF] using hlen, rfl⟩)))
  | closeShared hl =>
    obtain ⟨hg, _⟩ := close hl
    exact .inl (same (by simp [aRem_fid _ _ hg, setF]) (by simp [aRem_fid _ _ hg, setF]))
  | endOk hl | endLeak hl =>
    obtain ⟨hg, _⟩ := lookA_acc hk hl
    exact .inl (same (by simp [aRem_aid _ _ hg, setF, delA]) (by simp [aRem_aid _ _ hg, setF, delA]))

/-- `dd_group_outlives_files`: after EVERY history — failed opens of damaged files at any point, with one, two or several other
    files open — the use count of the DD atom group is at least the number of file records: the group, and with it the DD id of
    every access element of every open file, exists as long as any file is open. -/
theorem dd_group_outlives_files (cfg : Cfg) (hk : cfg.kindChecked = true) (ops : List Op) :
    (after cfg ops).frecs.length ≤ (after cfg ops).ddUse :=
  (run_inv (P := fun w => WF w ∧ w.frecs.length ≤ w.ddUse) cfg ops
    (fun w op _ h => ⟨step_wf cfg hk w op h.1, (step_dd cfg hk w op h.1).1 h.2⟩) _ ⟨init_wf, by simp [World.init]⟩).2

/-- `dd_use_is_open_files`: a history in which no `Hopen` fails inside `HTPstart` (or any history at all, for a source whose failed
    start leaves the count alone) leaves the use count EXACTLY at the number of open files; once every file id is released it is 0,
    the initial state (with `full_teardown_is_init`).  In the current source every failed `HTPstart` adds one use that is never
    given back (`ddAfterFailedStart n = n + 1`; engine statistic `failed_open_keeps_dd_use`): nothing observable follows from it —
    the group is never destroyed, its hash table stays allocated. -/
theorem dd_use_is_open_files (cfg : Cfg) (hk : cfg.kindChecked = true) (ops : List Op)
    (hdd : (∀ n, ddAfterFailedStart n = n) ∨ ∀ op ∈ ops, ∀ p a, op ≠ .hopenbad p a .dd) :
    (after cfg ops).frecs.length = (after cfg ops).ddUse :=
  (run_inv (P := fun w => WF w ∧ w.frecs.length = w.ddUse) cfg ops
    (fun w op ho h => ⟨step_wf cfg hk w op h.1, (step_dd cfg hk w op h.1).2
      (fun p a hop => hdd.elim (fun h1 => h1 _) fun h2 => absurd hop (h2 op ho p a)) h.2⟩) _ ⟨init_wf, by simp [World.init]⟩).2

def fid (k : Nat) : Nat := MAKE_ATOM FIDGROUP k
def aid (k : Nat) : Nat := MAKE_ATOM AIDGROUP k

/-- one file with an access element; a damaged file fails to open (inside `HTPstart`), a directory fails to open, a bad mode is
    refused, an unreadable element is refused: every id keeps working, everything is released, a fresh open succeeds -/
example : results ⟨true, true, true⟩ World.init [.hopen 7 DFACC_READ true, .startaccess (fid 0) true false,
      .hopenbad 9 DFACC_READ .dd, .useaid (aid 0), .usefid (fid 0), .hopenbad 10 DFACC_RDWR .os, .hopenbad 11 8 .magic,
      .startaccess (fid 0) false false, .useaid (aid 0), .endaccess (aid 0), .hclose (fid 0), .hopen 7 DFACC_READ true]
    = [.id (fid 0), .id (aid 0), .fail, .ok, .ok, .fail, .fail, .fail, .ok, .ok, .ok, .id (fid 1)] ∧
    (run ⟨true, true, true⟩ World.init [.hopen 7 DFACC_READ true, .startaccess (fid 0) true false,
      .hopenbad 9 DFACC_READ .dd, .endaccess (aid 0), .hclose (fid 0)]).ddUse = ddAfterFailedStart 1 - 1 := by decide +kernel

example : ∀ op ∈ [Op.hopen 7 DFACC_READ true, .hopenbad 9 DFACC_READ .magic, .hclose (fid 0)], ∀ p a, op ≠ .hopenbad p a .dd := by
  intro op hop p a; simp at hop; rcases hop with rfl | rfl | rfl <;> simp

/-- nested opens of one path, an access element, close refused while it is attached, then full teardown -/
example : results ⟨true, true, true⟩ World.init [.hopen 7 DFACC_READ true, .hopen 7 DFACC_RDWR true, .startaccess (fid 1) true true,
      .hclose (fid 0), .hclose (fid 1), .useaid (aid 0), .endaccess (aid 0), .endaccess (aid 0), .hclose (fid 1), .usefid (fid 1),
      .hopen 7 DFACC_READ true]
    = [.id (fid 0), .id (fid 1), .id (aid 0), .ok, .fail, .ok, .ok, .fail, .ok, .fail, .id (fid 2)] := by decide +kernel

/-- `close_under_aid_refused`: two ids of one file; an access element is started through the first; `Hclose` of the FIRST id is
    REFUSED (the element must be ended first) and everything stays usable; after `Hendaccess` both ids close. -/
theorem close_under_aid_refused :
    results ⟨true, true, true⟩ World.init [.hopen 7 DFACC_READ true, .hopen 7 DFACC_READ true, .startaccess (fid 0) true false, .hclose (fid 0),
      .useaid (aid 0), .endaccess (aid 0), .hclose (fid 0), .hclose (fid 1)]
      = [.id (fid 0), .id (fid 1), .id (aid 0), .fail, .ok, .ok, .ok, .ok] := by decide +kernel

/-- `close_under_aid_leaks_attach` (the source BEFORE the repair, `closeChecksAids = false`; engine key
    `ids-close-under-aid-leaks-attach`): `Hclose` of the first id succeeds (the second keeps the file open); the later
    `Hendaccess` FAILS (its file id is dead) and does not decrement `attach`; the last `Hclose` then fails for ever. -/
theorem close_under_aid_leaks_attach :
    results ⟨true, false, true⟩ World.init [.hopen 7 DFACC_READ true, .hopen 7 DFACC_READ true, .startaccess (fid 0) true false, .hclose (fid 0),
      .endaccess (aid 0), .hclose (fid 1), .hclose (fid 1)]
      = [.id (fid 0), .id (fid 1), .id (aid 0), .ok, .fail, .fail, .fail] ∧
    (run ⟨true, false, true⟩ World.init [.hopen 7 DFACC_READ true, .hopen 7 DFACC_READ true, .startaccess (fid 0) true false, .hclose (fid 0),
      .endaccess (aid 0)]).leaked = [1] := by decide +kernel

/-- without the kind test an access id given to `Hclose` (or a file id given to `Hendaccess`) is resolved and its object would be
    read as the wrong record type; with the test both calls FAIL -/
theorem unchecked_kind_confuses :
    results ⟨false, true, true⟩ World.init [.hopen 7 DFACC_READ true, .startaccess (fid 0) true false, .hclose (aid 0), .endaccess (fid 0)]
      = [.id (fid 0), .id (aid 0), .confused, .confused] ∧
    results ⟨true, true, true⟩ World.init [.hopen 7 DFACC_READ true, .startaccess (fid 0) true false, .hclose (aid 0), .endaccess (fid 0)]
      = [.id (fid 0), .id (aid 0), .fail, .fail] := by decide +kernel

/-- `spRun_is_history`: whatever special elements a history touches (chunked, compressed, linked, with the access elements their
    information records start and end on their own), the file table it leaves is the one left by a history of plain
    `Hopen / Hclose / Hstartaccess / Hendaccess` calls — the calls the special code makes, in its order (`expandAll`). -/
theorem spRun_is_history (cfg : Cfg) (sw : SpWorld) (sops : List SpOp) :
    (spRun cfg sw sops).w = run cfg sw.w (expandAll cfg sw sops) := by
  induction sops generalizing sw with
  | nil => rfl
  | cons op t ih =>
    simp only [spRun, expandAll, run_append]
    rw [ih]
    rfl

abbrev afterSp (cfg : Cfg) (sops : List SpOp) : World := (spRun cfg SpWorld.init sops).w

/-- `sp_histories_keep_invariants`: … hence for ALL histories with special elements, any ids, any order of release: the reference
    count of every file record is the number of its live file ids, its attach counter is EXACTLY the number of access records
    attached to it — the caller's and the ones the special information holds — every one of them has exactly one live access
    id and was started through a file id that is still live, nothing is leaked, and once every id is released the table is the
    initial one (no state is retained that affects a later `Hopen`). -/
theorem sp_histories_keep_invariants (cfg : Cfg) (hk : cfg.kindChecked = true) (hc : cfg.closeChecksAids = true) (sops : List SpOp)
    (hn : (expandAll cfg SpWorld.init sops).length < 2 ^ 28) :
    (∀ e ∈ (afterSp cfg sops).frecs, e.2.refcount = (liveFids (afterSp cfg sops)).countP (fun i => i.obj == e.1) ∧
        e.2.attach = (afterSp cfg sops).arecs.countP (fun a => a.2.file == e.1)) ∧
    (∀ a ∈ (afterSp cfg sops).arecs, (liveAids (afterSp cfg sops)).countP (fun i => i.obj == a.1) = 1 ∧
        ∃ i ∈ liveFids (afterSp cfg sops), i.id = a.2.fileId) ∧
    (afterSp cfg sops).leaked = [] ∧
    (liveFids (afterSp cfg sops) = [] → liveAids (afterSp cfg sops) = [] →
        (afterSp cfg sops).frecs = [] ∧ (afterSp cfg sops).arecs = []) := by
  have e : afterSp cfg sops = after cfg (expandAll cfg SpWorld.init sops) := spRun_is_history cfg SpWorld.init sops
  rw [e]
  have h1 := refcount_eq_live_fids cfg hk (expandAll cfg SpWorld.init sops)
  have h2 := attach_eq_live_aids cfg hk hc (expandAll cfg SpWorld.init sops) hn
  have h3 := no_attach_lost cfg hk hc (expandAll cfg SpWorld.init sops) hn
  refine ⟨fun e he => ⟨(h1 e he).1, h2.1 e he⟩, fun a ha => ⟨h2.2 a ha, h3.2 a ha⟩, h3.1, fun hf ha => ?_⟩
  exact full_teardown_is_init cfg hk (expandAll cfg SpWorld.init sops) hf ha

/-- the access elements an information record starts itself go through the file id of the `Hstartaccess` call that read it -/
theorem expand_start_through_callers_id (cfg : Cfg) (sw : SpWorld) (id elem : Nat) (kind : SpKind) (found write : Bool) :
    ∀ op ∈ expand cfg sw (.startsp id elem kind found write), ∃ f w, op = .startaccess id f w := by
  intro op hop
  simp only [expand] at hop
  split at hop
  · split at hop
    · simp only [List.mem_singleton] at hop; exact ⟨_, _, hop⟩
    · simp only [List.mem_append, List.mem_replicate, List.mem_singleton] at hop
      rcases hop with ⟨_, h⟩ | h <;> exact ⟨_, _, h⟩
  · simp only [List.mem_singleton] at hop; exact ⟨_, _, hop⟩

/- FULL STATEMENT, NOT PROVED (the two theorems below are its instances on the histories the seeded regression c13d needs; the
   engine checks it on the implementation with the keys ids-close-refused-without-own-aid / ids-state-retained-after-release):

     theorem inner_held_through_a_users_file_id (cfg) (hk : cfg.kindChecked) (hp : cfg.spPerFileId) (sops : List SpOp)
         (polite : no `.endsp a` / `.prim (.endaccess a)` of the history names an id of some `g.inner` of the state it is run in) :
       ∀ g ∈ (spRun cfg SpWorld.init sops).infos, g.users ≠ [] ∧
         ∀ x ∈ g.users ++ g.inner, ∃ q a, lookA cfg (spRun cfg SpWorld.init sops).w x = .acc q a ∧ a.fileId = g.fileId

   i.e. an access element the library holds itself is always attached through a file id through which the CALLER has one
   attached (so `Hclose` of an id is refused only for elements of the caller), and when the caller has ended all of its own,
   none of the library's is left.  Missing: uniqueness of access ids across information records (freshness of `aidNew` against
   every recorded id) carried through `List.modify` / `eraseIdx` of `updInfos`. -/

/-- the chunked element 6 of a file opened twice (ids `fid 0`, `fid 1`), one access element through each id, plus a second one
    through the first id that SHARES the information (attach 2 + 1 + 2 = 5: two chunk-table Vdatas, three records of the caller).
    Every `Hclose` is refused exactly while the CALLER has an access element attached through that id, every `Hendaccess`
    succeeds in either order, the counters return to 0, both ids close, and `Hopen(DFACC_CREATE)` of the path succeeds. -/
theorem shared_chunk_info_release_orders :
    spResults ⟨true, true, true⟩ SpWorld.init
      [.prim (.hopen 7 DFACC_READ true), .prim (.hopen 7 DFACC_READ true),
       .startsp (fid 0) 6 .chunked true false, .startsp (fid 1) 6 .chunked true false, .startsp (fid 0) 6 .chunked true false,
       -- first opened, first ended
       .endsp (aid 1), .prim (.hclose (fid 0)), .endsp (aid 4), .prim (.hclose (fid 0)), .prim (.hclose (fid 1)),
       .endsp (aid 3), .prim (.hclose (fid 1)), .prim (.hopen 7 DFACC_CREATE true)]
      = [.id (fid 0), .id (fid 1), .id (aid 1), .id (aid 3), .id (aid 4),
         .ok, .fail, .ok, .ok, .fail, .ok, .ok, .id (fid 2)] ∧
    spResults ⟨true, true, true⟩ SpWorld.init
      [.prim (.hopen 7 DFACC_READ true), .prim (.hopen 7 DFACC_READ true),
       .startsp (fid 0) 6 .chunked true false, .startsp (fid 1) 6 .chunked true false,
       -- last opened, first ended
       .endsp (aid 3), .prim (.hclose (fid 1)), .prim (.hclose (fid 0)), .endsp (aid 1), .prim (.hclose (fid 0)),
       .prim (.hopen 7 DFACC_CREATE true)]
      = [.id (fid 0), .id (fid 1), .id (aid 1), .id (aid 3), .ok, .ok, .fail, .ok, .ok, .id (fid 2)] ∧
    ((spRun ⟨true, true, true⟩ SpWorld.init
      [.prim (.hopen 7 DFACC_READ true), .prim (.hopen 7 DFACC_READ true),
       .startsp (fid 0) 6 .chunked true false, .startsp (fid 1) 6 .chunked true false, .startsp (fid 0) 6 .chunked true false]).w.frecs.map
        (·.2.attach)) = [5] := by decide +kernel

/-- `share_across_ids_blocks_close` (a source whose `HPcompare_accrec_tagref` does not compare the file ids, `spPerFileId = false`;
    engine keys `ids-close-refused-without-own-aid`, `ids-state-retained-after-release`): the access element started through the
    second id shares the information read through the first (attach 3, not 4).  When the caller has ended everything it started
    through the FIRST id, `Hclose` of that id is still refused: the information's own access element is attached through it and
    lives as long as the other id's access element does. -/
theorem share_across_ids_blocks_close :
    spResults ⟨true, true, false⟩ SpWorld.init
      [.prim (.hopen 7 DFACC_READ true), .prim (.hopen 7 DFACC_READ true),
       .startsp (fid 0) 6 .chunked true false, .startsp (fid 1) 6 .chunked true false,
       .endsp (aid 1), .prim (.hclose (fid 0))]
      = [.id (fid 0), .id (fid 1), .id (aid 1), .id (aid 2), .ok, .fail] ∧
    -- … with the test the same calls end with a successful close
    spResults ⟨true, true, true⟩ SpWorld.init
      [.prim (.hopen 7 DFACC_READ true), .prim (.hopen 7 DFACC_READ true),
       .startsp (fid 0) 6 .chunked true false, .startsp (fid 1) 6 .chunked true false,
       .endsp (aid 1), .prim (.hclose (fid 0))]
      = [.id (fid 0), .id (fid 1), .id (aid 1), .id (aid 3), .ok, .ok] := by decide +kernel

/-- a compressed element: the information is private to the access record, each holds one access element of its own -/
example : (spRun ⟨true, true, true⟩ SpWorld.init
      [.prim (.hopen 7 DFACC_READ true), .startsp (fid 0) 4 .comp true false, .startsp (fid 0) 4 .comp true false]).w.frecs.map
        (·.2.attach) = [4] := by decide +kernel

/-! ## SD ids: id = slot << 20 | kind << 16 | index, on the expressions extracted from `mfsd.c` (`H4.Gen.Src`) -/

section sd
open H4.Gen.Src H4.Gen.Sdid

/-- `sdid_unpack_pack`: the id `SDselect` builds from the id `SDstart` returned for netCDF slot `c` and the data set index `i`
    unpacks (`SDIhandle_from_id`, `SDIget_var`) to exactly (slot, kind, index) = (c, SDSTYPE, i).  Slots are 12 bits, indices 16. -/
theorem sdid_unpack_pack (c i : Nat) (hc : c < 4096) (hi : i < 65536) :
    sdidUnpack (sdSdsId (sdFileId c) i) = (c, SDSTYPE, i) := by
  unfold sdSdsId sdFileId
  rw [SDSELECT_ID_eq c i hc hi]
  exact unpack_pack c 4 i hc (by decide) hi

/-- the file id itself: (slot, kind, low bits) = (c, CDFTYPE, c) -/
theorem sdid_unpack_file (c : Nat) (hc : c < 4096) : sdidUnpack (sdFileId c) = (c, CDFTYPE, c) := by
  unfold sdFileId
  rw [SDSTART_ID_eq c hc]
  exact unpack_pack c 6 c hc (by decide) (by omega)

/-- the id `SDcreate` returns for the new variable number `i` is the id `SDselect` would return for it -/
theorem sdid_create_eq_select (c i : Nat) (hc : c < 4096) (hi : i < 65536) : sdCreateId (sdFileId c) i = sdSdsId (sdFileId c) i := by
  unfold sdCreateId sdSdsId sdFileId
  rw [SDSELECT_ID_eq c i hc hi, SDSTART_ID_eq c hc]
  unfold SDCREATE_ID_BASE
  simp only [Nat.shiftLeft_eq]
  omega

/-- a dimension id made from an SDS id: (slot, kind, index) = (c, DIMTYPE, d) -/
theorem sdid_unpack_dim (c i d : Nat) (hc : c < 4096) (hi : i < 65536) (hd : d < 65536) :
    sdidUnpack (sdDimId (sdSdsId (sdFileId c) i) d) = (c, DIMTYPE, d) := by
  unfold sdDimId sdSdsId sdFileId
  rw [SDSELECT_ID_eq c i hc hi, SDGETDIMID_ID_eq c i d hc hi hd]
  exact unpack_pack c 5 d hc (by decide) hd

/-- `wrong_kind_rejected`: `SDIhandle_from_id(id, typ)` returns NULL for every id whose kind field is not `typ`, whatever is
    open; in particular an SDS id or a dimension id where a file id is expected, a file id where an SDS id is expected … -/
theorem wrong_kind_rejected (isOpen : Nat → Bool) (id typ : Nat) (h : SDID_KIND id ≠ typ) : sdHandleFromId isOpen id typ = none := by
  unfold sdHandleFromId
  split
  · rfl
  · have : (SDID_KIND id != typ) = true := by simpa using h
    simp [this]

theorem sds_id_is_not_a_file_id (isOpen : Nat → Bool) (c i : Nat) (hc : c < 4096) (hi : i < 65536) :
    sdHandleFromId isOpen (sdSdsId (sdFileId c) i) CDFTYPE = none ∧ sdHandleFromId isOpen (sdFileId c) SDSTYPE = none ∧
    sdHandleFromId isOpen (sdSdsId (sdFileId c) i) DIMTYPE = none := by
  have h1 := congrArg (fun t => t.2.1) (sdid_unpack_pack c i hc hi)
  have h2 := congrArg (fun t => t.2.1) (sdid_unpack_file c hc)
  simp only [sdidUnpack] at h1 h2
  refine ⟨wrong_kind_rejected _ _ _ ?_, wrong_kind_rejected _ _ _ ?_, wrong_kind_rejected _ _ _ ?_⟩
  · rw [h1]; decide
  · rw [h2]; decide
  · rw [h1]; decide

/-- a right-kind id of an open slot is accepted and yields the slot -/
theorem right_kind_accepted (isOpen : Nat → Bool) (c i : Nat) (hc : c < 4096) (hi : i < 65536) (ho : isOpen c = true) :
    sdHandleFromId isOpen (sdSdsId (sdFileId c) i) SDSTYPE = some c := by
  have h := sdid_unpack_pack c i hc hi
  have h1 := congrArg (fun t => t.2.1) h
  have h0 := congrArg (fun t => t.1) h
  simp only [sdidUnpack] at h1 h0
  unfold sdHandleFromId
  have hne : (sdSdsId (sdFileId c) i == H4.Gen.Atom.FAIL_ATOM) = false := by
    have : sdSdsId (sdFileId c) i = c * 2 ^ 20 + 4 * 2 ^ 16 + i := by unfold sdSdsId sdFileId; exact SDSELECT_ID_eq c i hc hi
    rw [this]
    have : H4.Gen.Atom.FAIL_ATOM = 4294967295 := rfl
    rw [this]; simp; omega
  simp [hne, h1, h0, ho]

/-- KNOWN BY-DESIGN FINDING (engine key `sd-stale-id-aliases`): an SD id is a function of (slot, kind, index) only — it carries no
    generation.  Whatever happened in between (`SDendaccess`, `SDend` followed by `SDstart` of ANOTHER file that gets the same
    slot), the value an old id has is the value the library hands out for the object now at that slot and index. -/
theorem sd_id_has_no_generation (c i : Nat) : ∀ session₁ session₂ : Nat, (fun (_ : Nat) => sdSdsId (sdFileId c) i) session₁ =
    (fun (_ : Nat) => sdSdsId (sdFileId c) i) session₂ := fun _ _ => rfl

/-- the 16-bit index field is not protected: a (hypothetical) data set number 65536 would carry into the kind field and make
    the id a dimension id (`H4_MAX_NC_VARS` = 5000 keeps real indices far below) -/
theorem sdid_index_overflow : (sdidUnpack (sdSdsId (sdFileId 0) 65536)).2.1 = DIMTYPE := by decide +kernel

example : sdidUnpack (sdSdsId (sdFileId 3) 7) = (3, 4, 7) := by decide +kernel

end sd

end H4.Props.C13Files
