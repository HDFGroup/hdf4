import H4.Lemmas.C05BitsFn2
import H4.Props.C05Bits
/-! C05, function-level Tie A for the bit-I/O layer `hdf/src/hbitio.c`: `Hbitwrite`, `HIbitflush` (with the flush of
    `Hendbitaccess`) and `Hbitread` as translated statement by statement from the CURRENT C text (`H4.Gen.Fn.Hbitio2`, written by
    gen/c2lean.py on every run: the `bitrec_t` found by the atom lookup as fields `rec_*`, `bytep` / `bytez` as cursors into the
    4096-byte buffer `bytea`, `Hread` / `Hwrite` / `Hseek` on one random-access element `io_elt` at `io_epos`) compute exactly the
    hand-written model `H4.BitIO` that the C05 theorems `bitwrite_refines`, `bitread_refines`, `bit_roundtrip` are about - for every
    record related (`BitRel`) to a model state, every count, every data word - and never index outside the buffer (`ub = false`) and
    terminate (`oof = false`).  `St.toC` (in `H4.BitIOFn`) is the C view of a model state: the integer members, the buffer `bytea` with
    the cursors as indices, the element with its position; `cBitwrite` / `cBitread` / `cBitflush` / `cEnd` run ONE translated call on
    such a record.  A change of the C text changes the generated definitions; these theorems are re-checked against them.

    Covered: `Hbitwrite` in write mode on every path (count <= 0 / no write access: FAIL; count > 32 clipped; bits merged into the bit
    buffer; byte completed, whole bytes, rest to the bit buffer; the buffer-full path with `Hwrite` of the block and the pre-read of the
    next block of an existing element); `HIbitflush` in write mode (flush bit 0 / 1 / leave, middle-of-dataset merge, write-out or not);
    `Hbitread` in read mode on every path (bit buffer only, whole bytes with refills, last partial byte, end of data with a short
    count, `count <= 0`); `Hbitseek` in both modes (inside the block / load of another block, with the flush in write mode);
    `HIwrite2read` and `HIread2write`; and `Hbitread` / `Hbitwrite` started in the other mode (switch first) - these last ones
    (`…_w2r_refines_partial`, `…_r2w_refines_partial`) under explicit conditions on the MODEL's state (the switch succeeds, the block that
    `Hbitseek` loads fits the buffer, the cursor ends inside the buffered bytes), which a geometry invariant of the whole record
    (element position = block offset, `byte_offset = block_offset + cursor`, element length against `max_offset`) would discharge;
    `BitRel` does not carry it.  The cross-run of engine `bits` compares the whole record after every call on all of these paths. -/
namespace H4.Props.C05BitsFn
open H4 H4.Bits H4.BitIO H4.Gen.Hbitio H4.Gen.Fn.Hbitio2 H4.Lemmas.C05BitsFn H4.Props.C05

/-- the relation between the C record (`bitrec_t` members + buffer + underlying element) and a model state: the record is the C view of
    the state, and the state satisfies the representation invariant `Inv` (the zipper of the model agrees with `bytep`, the cursors are
    inside the 4096-byte buffer - in write mode strictly inside the block -, `count <= 8`, in write mode `1 <= count` and write access,
    `bits` is a byte, no undefined behaviour / H-layer failure has been recorded) -/
def BitRel (c : CRec) (m : St) : Prop := c = m.toC ∧ Inv m

/-- the value `Hbitwrite` / `Hbitseek` style calls return for a model result -/
def retOf (count : Int) : Option Nat → Int
  | some _ => count
  | none => -1

/-- **`Hbitwrite`** as translated from hbitio.c, on a bit file in WRITE mode (`_partial`: a call in read mode, which first switches with
    `HIread2write`, is the subject of `Hbitwrite_r2w_refines_partial` - full statement: the same without `hw`).  For EVERY record related to a model state, EVERY
    `count` (`<= 0`: FAIL; `> 32`: clipped to 32, the return value is still `count`) and EVERY data word: no undefined behaviour, the
    loop terminates within `callFuel` passes, the return value is the model's (`count`, or FAIL without write access), and the record
    afterwards is related to the model's state after `bitwrite` - including the buffer-full path (`Hwrite` of the 4096-byte block,
    `block_offset` advanced, pre-read of the next block when the element is longer). -/
theorem Hbitwrite_refines_partial (c : CRec) (m : St) (hrel : BitRel c m) (hw : m.wMode = true) (count : Int) (data : Nat)
    (hd : data < 2 ^ 32) (fuel : Nat) (hf : callFuel ≤ fuel) :
    let o := cBitwrite fuel c count data
    let r := bitwrite m count.toNat data
    o.ub = false ∧ o.oof = false ∧ o.ret = retOf count r.2 ∧ BitRel o.crec r.1 ∧ r.1.wMode = true := by
  obtain ⟨rfl, hinv⟩ := hrel
  obtain ⟨h1, h2, h3, h4, h5, h6⟩ := Hbitwrite_w m hinv hw count data hd fuel (by unfold callFuel at hf; omega)
  refine ⟨h1, h2, ?_, ⟨h3, h5⟩, h6⟩
  rw [h4]; cases (bitwrite m count.toNat data).2 <;> rfl

/-- for a count 1..32 with write access the call returns `count` (the model's `bitwrite` does) -/
theorem Hbitwrite_ret (c : CRec) (m : St) (hrel : BitRel c m) (hw : m.wMode = true) (count data : Nat) (hc1 : 1 ≤ count)
    (hc : count ≤ 32) (hd : data < 2 ^ 32) (fuel : Nat) (hf : callFuel ≤ fuel) :
    (cBitwrite fuel c count data).ret = count ∧ bitwrite m count data = (bitwriteCore m count data, some count) := by
  obtain ⟨rfl, hinv⟩ := hrel
  obtain ⟨_, _, _, h4, _, _⟩ := Hbitwrite_w m hinv hw count data hd fuel (by unfold callFuel at hf; omega)
  simp only [Int.toNat_natCast] at h4
  have he := bitwrite_w_eq m hw (hinv.wacc hw) count data hc1 hc hd (bitwriteCore_inv hinv hw count data hc1 hc).noErr
  rw [he] at h4
  exact ⟨h4, he⟩

/-- the hypotheses are satisfiable and the translated code runs: a fresh element, 12 bits written in write mode -/
example :
    BitRel (startWrite none).toC (startWrite none) ∧
    (let o := cBitwrite callFuel (startWrite none).toC 12 0xABC
     o.ub = false ∧ o.oof = false ∧ o.ret = 12 ∧ o.crec.count = 4 ∧ o.crec.bits = 0xC0 ∧ o.crec.bytep = 1 ∧
       o.crec.bytea.getD 0 0 = 0xAB ∧ o.crec = (bitwrite (startWrite none) 12 0xABC).1.toC) := by
  have hinv := startWrite_ok.1.inv
  have hrun : (let o := cBitwrite callFuel (startWrite none).toC 12 0xABC
      o.ub = false ∧ o.oof = false ∧ o.ret = 12 ∧ o.crec.count = 4 ∧ o.crec.bits = 0xC0 ∧ o.crec.bytep = 1 ∧
        o.crec.bytea.getD 0 0 = 0xAB) := by set_option maxRecDepth 100000 in decide +kernel
  obtain ⟨r1, r2, r3, r4, r5, r6, r7⟩ := hrun
  exact ⟨⟨rfl, hinv⟩, r1, r2, r3, r4, r5, r6, r7, (Hbitwrite_w _ hinv rfl 12 0xABC (by decide) callFuel (by decide)).2.2.1⟩

/-- **`HIbitflush`** as translated from hbitio.c, in write mode: for EVERY related record, EVERY flush bit (`some false` = 0,
    `some true` = 1, `none` = -1: leave the pending bits to be merged) and with or without `writeout`: no undefined behaviour, SUCCEED,
    and the record afterwards is the C view of the model's `bitflush` - the last byte completed through (the translated) `Hbitwrite` when
    the cursor is at the end of the data, merged into the byte under the cursor otherwise, then `MIN(bytez - bytea, max_offset -
    block_offset)` bytes of the buffer written to the element.  `Rep` (not `Inv`): after a merge the cursor may stand at the end of the
    block, "this routine does not leave the bitfile in a position to continue I/O". -/
theorem HIbitflush_refines (c : CRec) (m : St) (hrel : BitRel c m) (hw : m.wMode = true) (fb : Option Bool) (wo : Bool)
    (fuel : Nat) (hf : callFuel ≤ fuel) :
    let o := cBitflush fuel c (flushArg fb) (if wo then 1 else 0)
    let m' := bitflush m fb wo
    o.ub = false ∧ o.oof = false ∧ o.ret = 0 ∧ o.crec = m'.toC ∧ Rep m' ∧ m'.wMode = true := by
  obtain ⟨rfl, hinv⟩ := hrel
  obtain ⟨h1, h2, h3, h4, h5, h6, _⟩ := HIbitflush_w m hinv hw fb wo fuel (by unfold callFuel at hf; omega)
  exact ⟨h1, h2, h3, h4, h5, h6⟩

/-- the flush part of **`Hendbitaccess`** (`if (mode == 'w') HIbitflush(rec, flushbit, TRUE)`) on the translated `HIbitflush` leaves
    exactly the element bytes of the model's `endAccess` -/
theorem Hendbitaccess_refines (c : CRec) (m : St) (hrel : BitRel c m) (fb : Option Bool) (fuel : Nat) (hf : callFuel ≤ fuel) :
    let o := cEnd fuel c fb
    o.ub = false ∧ o.oof = false ∧ o.ret = 0 ∧ o.crec.elt = ints (endAccess m fb) := by
  obtain ⟨rfl, hinv⟩ := hrel
  cases hw : m.wMode with
  | true =>
    have hm : m.toC.mode = 119 := by show modeChar m.wMode = 119; rw [hw]; rfl
    obtain ⟨h1, h2, h3, h4, _, _, _⟩ := HIbitflush_w m hinv hw fb true fuel (by unfold callFuel at hf; omega)
    simp only [cEnd, hm, if_true, endAccess, hw]
    refine ⟨h1, h2, h3, ?_⟩
    have := congrArg CRec.elt h4
    exact this
  | false =>
    have hm : ¬ (m.toC.mode = 119) := by show ¬ (modeChar m.wMode = 119); rw [hw]; decide
    simp only [cEnd, hm, if_false, endAccess, hw, Bool.false_eq_true]
    simp [St.toC]

/-- the translated code runs: 12 bits pending in the bit buffer, `Hendbitaccess(id, 1)` completes the byte with ones -/
example :
    (let o := cEnd callFuel (bitwrite (startWrite none) 12 0xABC).1.toC (some true)
     o.ub = false ∧ o.oof = false ∧ o.ret = 0 ∧ o.crec.elt = [0xAB, 0xCF]) := by
  set_option maxRecDepth 100000 in decide +kernel

/-- **`Hbitread`** as translated from hbitio.c, on a bit file in READ mode (`_partial`: a call in write mode, which first switches with
    `HIwrite2read`, is the subject of `Hbitread_w2r_refines_partial` - full statement: the same without `hr`).  For EVERY related record and EVERY `count`
    (`<= 0`: FAIL, `*data` untouched; `> 32`: clipped): no undefined behaviour, termination, and the return value, the data word and the
    record afterwards are the model's `bitread` - served from the bit buffer, whole bytes with a refill (`Hread` of up to 4096 bytes)
    whenever the buffer is exhausted, the last partial byte whose unused bits stay in the bit buffer, and the end of the data
    (`Hread` delivers 0 bytes, or the element is new): the bits gathered so far are returned with the short count. -/
theorem Hbitread_refines_partial (c : CRec) (m : St) (hrel : BitRel c m) (hr : m.wMode = false) (count d0 : Int)
    (fuel : Nat) (hf : callFuel ≤ fuel) :
    let o := cBitread fuel c count d0
    let r := bitread m count.toNat
    o.1.ub = false ∧ o.1.oof = false ∧ rdOut o d0 r.2 ∧ BitRel o.1.crec r.1 ∧ r.1.wMode = false := by
  obtain ⟨rfl, hinv⟩ := hrel
  obtain ⟨h1, h2, h3, h4, h5⟩ := Hbitread_r m (hinv.rdInv hr) count d0 fuel (by unfold callFuel at hf; omega)
  exact ⟨h1, h2, h4, ⟨h3, h5.inv⟩, h5.rMode⟩

/-- the hypotheses are satisfiable and the translated code runs: 12 bits read across a byte boundary, then the end of the data -/
example :
    BitRel (startRead [0xAB, 0xCD]).toC (startRead [0xAB, 0xCD]) ∧
    (let o := cBitread callFuel (startRead [0xAB, 0xCD]).toC 12 0
     o.1.ub = false ∧ o.1.oof = false ∧ o.1.ret = 12 ∧ o.2 = 0xABC ∧ o.1.crec.count = 4 ∧ o.1.crec.bits = 0xCD ∧
       (let o2 := cBitread callFuel o.1.crec 12 0
        o2.1.ub = false ∧ o2.1.ret = 4 ∧ o2.2 = 0xD00)) := by
  refine ⟨⟨rfl, (rdInv_startRead _).inv⟩, by set_option maxRecDepth 100000 in decide +kernel⟩

/-- **`Hbitseek`** as translated from hbitio.c (with the variant `HIbitflush_m` of `HIbitflush` it calls in write mode), in READ and in
    WRITE mode, for a position inside the buffered block or with the load of another block: for EVERY related record (in read mode the
    representation part `Rep` of the invariant is enough) and EVERY `(byte_offset, bit_offset)`: no undefined behaviour, the return value
    is the model's (FAIL for `bit_offset > 7`, `byte_offset > max_offset`, or when `Hread` of the new block fails on a new element), and
    after SUCCEED the record is the C view of the model's state, which again satisfies the invariant in write mode.
    `hfit` is what the C code needs when it loads another block: `Hread` is asked for `MIN(max_offset - seek_pos, BITBUF_SIZE)` bytes and
    a length of 0 means "to the end of the element", so the element must not be more than a buffer longer than `max_offset`
    (`seekPre m B` = the state after the flush `Hbitseek` does first in write mode).  Negative arguments (FAIL) are not representable
    in the model. -/
theorem Hbitseek_refines (c : CRec) (m : St) (hc : c = m.toC) (hrep : Rep m) (hwi : m.wMode = true → Inv m) (B b : Nat)
    (hfit : (B < m.blockOff ∨ B ≥ m.blockOff + BITBUF_SIZE) → (seekPre m B).elem.length ≤ (seekPre m B).maxOff + 4096)
    (fuel : Nat) :
    let o := cBitseek fuel c B b
    let r := bitseek m B b
    o.ub = false ∧ o.oof = false ∧ o.ret = (if r.2 then 0 else -1) ∧
    (r.2 = true → o.crec = r.1.toC ∧ Rep r.1 ∧ r.1.wMode = m.wMode ∧ (m.wMode = true → BitRel o.crec r.1)) := by
  subst hc
  obtain ⟨h1, h2, h3, h4⟩ := Hbitseek_main m hrep hwi B b hfit fuel
  refine ⟨h1, h2, h3, fun hok => ?_⟩
  obtain ⟨e1, e⟩ := h4 hok
  exact ⟨e1, e.rep, e.mode, fun hw => ⟨e1, e.inv hw⟩⟩

/-- the translated code runs: a seek into the middle of a byte in read mode, then a read -/
example :
    (let o := cBitseek callFuel (startRead [0xAB, 0xCD, 0xEF]).toC 1 4
     o.ub = false ∧ o.ret = 0 ∧ o.crec.count = 4 ∧ o.crec.bits = 0xCD ∧ o.crec.bytep = 2 ∧
       (cBitread callFuel o.crec 8 0).2 = 0xDE) := by
  set_option maxRecDepth 100000 in decide +kernel

/-- **`HIwrite2read`** as translated from hbitio.c: on EVERY related record in write mode the pending bits are merged into the buffer,
    the buffer is written out (the translated `HIbitflush(rec, -1, TRUE)`), `block_offset = (int32)LONG_MIN` (0 on this host), `mode = 'r'`
    and the position is taken again as a reader (the translated `Hbitseek`); the record afterwards is the C view of the model's
    `write2read`.  `hfit`: as for `Hbitseek`, on the flushed state `w2rMid m`. -/
theorem HIwrite2read_refines (c : CRec) (m : St) (hrel : BitRel c m) (hw : m.wMode = true)
    (hfit : (m.byteOff < (w2rMid m).blockOff ∨ m.byteOff ≥ (w2rMid m).blockOff + BITBUF_SIZE) →
      (w2rMid m).elem.length ≤ (w2rMid m).maxOff + 4096)
    (fuel : Nat) (hf : callFuel ≤ fuel) :
    let o := cWrite2read fuel c
    let ok := (bitseek (w2rMid m) m.byteOff (BITNUM - m.count)).2
    o.ub = false ∧ o.oof = false ∧ o.ret = (if ok then 0 else -1) ∧
    (ok = true → o.crec = (write2read m).toC ∧ Rep (write2read m) ∧ (write2read m).wMode = false) := by
  obtain ⟨rfl, hinv⟩ := hrel
  obtain ⟨h1, h2, h3, h4⟩ := HIwrite2read_main m hinv hw hfit fuel (by unfold callFuel at hf; omega)
  refine ⟨h1, h2, h3, fun hok => ?_⟩
  obtain ⟨e1, e2, e3, _, _⟩ := h4 hok
  exact ⟨e1, e2, e3⟩

/-- **`Hbitread` on a bit file in WRITE mode** (the write->read switch `HIwrite2read` first), `_partial`: three conditions on the MODEL's
    states are hypotheses - `hfit` (see `Hbitseek_refines`), `hok` (the switch succeeds: it fails only when `Hread` fails on a new
    element; then the C code, since fix b24c929, returns FAIL while the model goes on) and `hple` (after the switch the cursor is not
    behind the end of the buffered bytes).  They would follow from a geometry invariant (element position = block offset, element
    length against `max_offset`, `byte_offset = block_offset + cursor`) that `BitRel` does not carry.  Under them: no undefined
    behaviour, and the return value, the data word and the record afterwards are the model's `bitread`. -/
theorem Hbitread_w2r_refines_partial (c : CRec) (m : St) (hrel : BitRel c m) (hw : m.wMode = true)
    (hfit : (m.byteOff < (w2rMid m).blockOff ∨ m.byteOff ≥ (w2rMid m).blockOff + BITBUF_SIZE) →
      (w2rMid m).elem.length ≤ (w2rMid m).maxOff + 4096)
    (hok : (bitseek (w2rMid m) m.byteOff (BITNUM - m.count)).2 = true)
    (hple : (write2read m).bytep ≤ (write2read m).bytez)
    (count d0 : Int) (hc : 0 < count) (fuel : Nat) (hf : callFuel ≤ fuel) :
    let o := cBitread fuel c count d0
    let r := bitread m count.toNat
    o.1.ub = false ∧ o.1.oof = false ∧ rdOut o d0 r.2 ∧ BitRel o.1.crec r.1 ∧ r.1.wMode = false := by
  obtain ⟨rfl, hinv⟩ := hrel
  have hf3 : 3 ≤ fuel := by unfold callFuel at hf; omega
  obtain ⟨_, _, _, k4⟩ := HIwrite2read_main m hinv hw hfit fuel hf3
  obtain ⟨_, e2, e3, _, _⟩ := k4 hok
  rw [cBitread_switch m hinv hw hfit hok count d0 hc fuel hf3, bitread_switch m hw e3 count.toNat (by omega)]
  obtain ⟨h1, h2, h3, h4, h5⟩ := Hbitread_r (write2read m) ⟨e2, e3, hple⟩ count d0 fuel (by unfold callFuel at hf; omega)
  exact ⟨h1, h2, h4, ⟨h3, h5.inv⟩, h5.rMode⟩

/-- the hypotheses are satisfiable and the translated code runs: 32 bits written, `Hbitseek` back to the start (still in write mode),
    then 12 bits read back through the switch -/
example :
    (let m := (bitwrite (bitwrite (startWrite none) 12 0xABC).1 20 0x12345).1
     let m2 := (bitseek m 0 0).1
     BitRel m2.toC m2 ∧ m2.wMode = true ∧ (bitseek (w2rMid m2) m2.byteOff (BITNUM - m2.count)).2 = true ∧
       (write2read m2).bytep ≤ (write2read m2).bytez ∧
       (let o := cBitread callFuel m2.toC 12 0
        o.1.ub = false ∧ o.1.ret = 12 ∧ o.2 = 0xABC ∧ o.1.crec.mode = 114)) := by
  refine ⟨?_, by set_option maxRecDepth 100000 in decide +kernel⟩
  obtain ⟨h, _⟩ := startWrite_ok
  obtain ⟨a1, _⟩ := bitwriteCore_ok h 12 (0xABC % 2 ^ 32) (by decide) (by decide)
  obtain ⟨b1, _⟩ := bitwriteCore_ok a1 20 (0x12345 % 2 ^ 32) (by decide) (by decide)
  have hinv : Inv (bitwrite (bitwrite (startWrite none) 12 0xABC).1 20 0x12345).1 := by
    rw [bitwrite_eq h 12 0xABC (by decide) (by decide), bitwrite_eq a1 20 0x12345 (by decide) (by decide)]
    exact b1.inv
  have hk := Hbitseek_main _ hinv.rep (fun _ => hinv) 0 0 (fun h => absurd h (by decide +kernel)) callFuel
  exact ⟨rfl, (hk.2.2.2 (by decide +kernel)).2.inv (by decide +kernel)⟩

/-- **`HIread2write`** as translated from hbitio.c: on EVERY record in read mode (with write access) whose C view is faithful (`Rep`),
    the translated `Hbitseek` goes to the byte that takes the next bit (a partly read byte is the one to write into), the cursor steps back
    onto it, the bits already read are kept in the bit buffer, the whole buffer becomes the write window, `mode = 'w'`, and the element
    position returns to the block start; the record afterwards is related (`BitRel`, write-mode invariant included) to the model's
    `read2write`.  `hpos`: a partly read byte has been fetched (the C `pos--` does not go below 0); `hfit` as for `Hbitseek`. -/
theorem HIread2write_refines (c : CRec) (m : St) (hc : c = m.toC) (hrep : Rep m) (hr : m.wMode = false) (hacc : m.wAccess = true)
    (hpos : m.count > 0 → 1 ≤ m.blockOff + m.bytep)
    (hfit : ((r2wPos m).1 < m.blockOff ∨ (r2wPos m).1 ≥ m.blockOff + BITBUF_SIZE) → m.elem.length ≤ m.maxOff + 4096)
    (fuel : Nat) :
    let o := cRead2write fuel c
    let r := read2write m
    o.ub = false ∧ o.oof = false ∧ o.ret = (if r.2 then 0 else -1) ∧ (r.2 = true → BitRel o.crec r.1 ∧ r.1.wMode = true) := by
  subst hc
  obtain ⟨h1, h2, h3, h4⟩ := HIread2write_main m hrep hr hacc hpos hfit fuel
  refine ⟨h1, h2, h3, fun hok => ?_⟩
  obtain ⟨e1, e2, e3, _⟩ := h4 hok
  exact ⟨⟨e1, e2⟩, e3⟩

/-- **`Hbitwrite` on a bit file in READ mode** (the read->write switch `HIread2write` first), `_partial`: conditions on the MODEL's state
    are hypotheses - `hpos`, `hfit` (see `HIread2write_refines`) and `hok` (the switch succeeds).  Under them, for every count > 0 and
    every data word: no undefined behaviour, and the return value and the record afterwards are the model's `bitwrite`. -/
theorem Hbitwrite_r2w_refines_partial (c : CRec) (m : St) (hrel : BitRel c m) (hr : m.wMode = false) (hacc : m.wAccess = true)
    (hpos : m.count > 0 → 1 ≤ m.blockOff + m.bytep)
    (hfit : ((r2wPos m).1 < m.blockOff ∨ (r2wPos m).1 ≥ m.blockOff + BITBUF_SIZE) → m.elem.length ≤ m.maxOff + 4096)
    (hok : (read2write m).2 = true) (count : Int) (hc : 0 < count) (data : Nat) (hd : data < 2 ^ 32)
    (fuel : Nat) (hf : callFuel ≤ fuel) :
    let o := cBitwrite fuel c count data
    let r := bitwrite m count.toNat data
    o.ub = false ∧ o.oof = false ∧ o.ret = retOf count r.2 ∧ BitRel o.crec r.1 ∧ r.1.wMode = true := by
  obtain ⟨rfl, hinv⟩ := hrel
  obtain ⟨_, _, _, k4⟩ := HIread2write_main m hinv.rep hr hacc hpos hfit fuel
  obtain ⟨_, e2, e3, e4⟩ := k4 hok
  rw [cBitwrite_switch m hinv.rep hr hacc hpos hfit hok count data hc fuel,
    bitwrite_switch m hr hacc hok e3 e4 count.toNat data (by omega)]
  exact Hbitwrite_refines_partial _ _ ⟨rfl, e2⟩ e3 count data hd fuel hf

/-- the hypotheses are satisfiable and the translated code runs: an element `ab cd ef 01` opened for writing, 4 bits read, 8 bits
    written into the middle of the first two bytes (the regression anchor of C05Bits on the translated functions) -/
example :
    (let m := (bitread (startWrite (some [0xAB, 0xCD, 0xEF, 0x01])) 4).1
     m.wMode = false ∧ m.wAccess = true ∧ (read2write m).2 = true ∧
       (let o := cBitwrite callFuel m.toC 8 0x12
        o.ub = false ∧ o.ret = 8 ∧ (cEnd callFuel o.crec (some false)).crec.elt = [0xA1, 0x2D, 0xEF, 0x01])) := by
  set_option maxRecDepth 100000 in decide +kernel

/-! ## a whole element on the C text: any partition of a bit stream into `Hbitwrite` calls, `Hendbitaccess`, then `Hbitread` calls -/

/-- a sequence of translated `Hbitwrite(id, w, v)` calls, the record carried from call to call; `none` = a call had undefined
    behaviour / ran out of fuel / did not return its count -/
def cWrites : CRec → List (Nat × Nat) → Option CRec
  | r, [] => some r
  | r, (w, v) :: fs =>
    let o := cBitwrite callFuel r w ((v % 2 ^ 32 : Nat) : Int)
    if o.ub || o.oof || o.ret != w then none else cWrites o.crec fs

/-- a sequence of translated `Hbitread(id, w, &v)` calls; the values read -/
def cReads : CRec → List Nat → Option (List Int)
  | _, [] => some []
  | r, w :: ws =>
    let o := cBitread callFuel r w 0
    if o.1.ub || o.1.oof || o.1.ret != w then none else (cReads o.1.crec ws).map (o.2 :: ·)

/-- `Hstartbitwrite` on a new element (the model's state, seen from C), the translated `Hbitwrite` calls, the translated flush of
    `Hendbitaccess(id, fb)`: the bytes of the element -/
def cPack (fs : List (Nat × Nat)) (fb : Bool) : Option (List Int) :=
  (cWrites (startWrite none).toC fs).bind fun r =>
    let o := cEnd callFuel r (some fb)
    if o.ub || o.oof || o.ret != 0 then none else some o.crec.elt

/-- `Hstartbitread` on the element `e` (the model's state, seen from C) and the translated `Hbitread` calls -/
def cUnpack (e : List Byte) (ws : List Nat) : Option (List Int) := cReads (startRead e).toC ws

theorem cWrites_refines : ∀ (fs : List (Nat × Nat)) (s : St), Appending s → ValidFields fs →
    cWrites s.toC fs = some (writeFields s fs).toC := by
  intro fs
  induction fs with
  | nil => intro s _ _; rfl
  | cons f fs ih =>
    intro s h hv
    obtain ⟨w, v⟩ := f
    have hw := hv (w, v) (by simp)
    have hd : v % 2 ^ 32 < 2 ^ 32 := Nat.mod_lt _ (by decide)
    obtain ⟨k1, k2, k3, k4, k5, _⟩ := Hbitwrite_w s h.inv h.w.wMode (w : Int) (v % 2 ^ 32) hd callFuel (by decide)
    simp only [Int.toNat_natCast] at k3 k4 k5
    have he : bitwrite s w (v % 2 ^ 32) = bitwrite s w v := by
      rw [bitwrite_eq h w v hw.1 hw.2, bitwrite_eq h w (v % 2 ^ 32) hw.1 hw.2, Nat.mod_mod]
    rw [he, bitwrite_eq h w v hw.1 hw.2] at k3 k4
    simp only [cWrites, writeFields, k1, k2, k4, Bool.or_false, bne_self_eq_false, Bool.false_eq_true, if_false, k3]
    rw [bitwrite_eq h w v hw.1 hw.2]
    exact ih _ (bitwriteCore_ok h w (v % 2 ^ 32) hw.1 hw.2).1 (fun f hf => hv f (by simp [hf]))

/-- **the write side on the C text**: for ALL field lists (widths 1..32, any values, any stream length - the buffer is written out every
    4096 bytes) and either flush bit, the translated `Hbitwrite` calls followed by the translated flush of `Hendbitaccess` store exactly
    the bytes of the model's `pack` - which `bitwrite_refines` (C05) characterises as the MSB-first concatenation of the fields completed
    with copies of the flush bit -/
theorem cPack_refines (fs : List (Nat × Nat)) (hv : ValidFields fs) (fb : Bool) : cPack fs fb = some (ints (pack fs (some fb))) := by
  obtain ⟨a0, _⟩ := startWrite_ok
  obtain ⟨a1, _⟩ := writeFields_ok fs _ a0 hv
  have hinv := a1.inv
  obtain ⟨e1, e2, e3, e4⟩ := Hendbitaccess_refines _ _ ⟨rfl, hinv⟩ (some fb) callFuel (Nat.le_refl _)
  simp only [cPack, cWrites_refines fs _ a0 hv, Option.bind_some, e1, e2, e3, Bool.or_false, bne_self_eq_false,
    Bool.false_eq_true, if_false, e4, pack]

theorem cReads_refines : ∀ (ws : List Nat) (s : St), H4.BitIO.RInv s → s.bits < 256 → ValidWidths ws → ws.sum ≤ (avail s).length →
    cReads s.toC ws = some ((takeFields (avail s) ws).map fun (v : Nat) => (v : Int)) := by
  intro ws
  induction ws with
  | nil => intro s _ _ _ _; rfl
  | cons w ws ih =>
    intro s h hi hv hsum
    simp only [List.sum_cons] at hsum
    have hw := hv w (by simp)
    obtain ⟨s', e, i, a⟩ := bitread_ok h w hw.1 hw.2 (by omega)
    obtain ⟨k1, k2, k3, k4, k5⟩ := Hbitread_r s (h.rdInv hi) (w : Int) 0 callFuel (by decide)
    simp only [Int.toNat_natCast, e] at k3 k4 k5
    obtain ⟨k4a, k4b⟩ := k4
    simp only [cReads, k1, k2, k4a, Bool.or_false, bne_self_eq_false, Bool.false_eq_true, if_false, k3, takeFields, List.map_cons]
    rw [ih s' i k5.rep.bits (fun x hx => hv x (by simp [hx])) (by rw [a]; simp; omega), a, k4b]
    rfl

/-- **the read side on the C text**: for ALL element contents and ALL width lists (each 1..32) whose total does not exceed the bits
    stored, the translated `Hbitread` calls return the values of the model's `unpack` (the successive MSB-first fields of the element's
    bit stream, `bitread_refines` of C05) -/
theorem cUnpack_refines (e : List Byte) (ws : List Nat) (hv : ValidWidths ws) (hsum : ws.sum ≤ 8 * e.length) :
    cUnpack e ws = some ((takeFields (bytesBits e) ws).map fun (v : Nat) => (v : Int)) := by
  obtain ⟨i, junk, a⟩ := startRead_ok e
  unfold cUnpack
  rw [cReads_refines ws _ i (by rw [startRead_bits]; decide) hv (by rw [a]; simp; omega), a, takeFields_append _ _ _ (by simpa using hsum)]

/-- **round trip on the C text**: whatever sequence of fields (widths 1..32, any values, any number: streams longer than the 4096-byte
    buffer included) is written by the translated `Hbitwrite` to a new element and closed by the translated flush of `Hendbitaccess` with
    either flush bit, the translated `Hbitread` calls with the same widths return the low `w` bits of every value - the C05 theorem
    `bit_roundtrip` transferred to the translated C functions -/
theorem c_roundtrip (fs : List (Nat × Nat)) (hv : ValidFields fs) (fb : Bool) :
    ∃ e : List Byte, cPack fs fb = some (ints e) ∧
      cUnpack e (fs.map Prod.fst) = some (fs.map fun f => ((f.2 % 2 ^ f.1 : Nat) : Int)) := by
  obtain ⟨hv', hlen, ht⟩ := pack_fields fs hv fb
  exact ⟨_, cPack_refines fs hv fb, by rw [cUnpack_refines _ _ hv' hlen, ht]; simp⟩

/-- the translated code runs: fields crossing byte boundaries, padding with ones, and back -/
example : cPack [(3, 5), (8, 255), (32, 0xDEADBEEF), (1, 1)] true = some [0xBF, 0xFB, 0xD5, 0xB7, 0xDD, 0xFF] ∧
    cUnpack [0xBF, 0xFB, 0xD5, 0xB7, 0xDD, 0xFF] [3, 8, 32, 1] = some [5, 255, 0xDEADBEEF, 1] := by
  set_option maxRecDepth 100000 in decide +kernel

end H4.Props.C05BitsFn
