import H4.Lemmas.VGroupRefine
import H4.Lemmas.VGroupAnswers
/-! # C08 — Vgroups: ordered member lists, names/classes, the per-file graph, lone sets, iteration, persistence

Implementation model: `H4.VGroup` (`vgp.c`, `vg.c`).  Reference model: `H4.VGroup.Graph`/`gstep` (`H4/VGraph.lean`). -/
namespace H4.Props.C08
open H4.VGroup H4.Gen.Hdf

/-- the generated constants the proofs rely on (Tie A) -/
theorem consts : MAXNVELT = 64 ∧ DFTAG_VG = 1965 ∧ DFTAG_VH = 1962 ∧ VSDESCTAG = 1962 ∧ DFTAG_NULL = 1 ∧
    VSET_VERSION = 3 ∧ VSET_NEW_VERSION = 4 ∧ VG_ATTR_SET = 1 ∧ MAX_REF = 65535 := H4.VGroup.consts

/-- the two operations that change the member arrays -/
inductive MemOp where
  | ins (t r : Nat)      -- `Vaddtagref` / `Vinsert` → `vinsertpair`
  | del (t r : Nat)      -- `Vdeletetagref`
deriving Repr, DecidableEq

/-- implementation: arrays with `msize` doubling and the uint16 counter; outputs = returned count (or -1 = FAIL for an
    insertion into a full Vgroup) / success flag of a deletion -/
def runMem (m : Mem) : List MemOp → Mem × List Int
  | [] => (m, [])
  | .ins t r :: ops =>
    match vinsertpair m t r with
    | some p => let q := runMem p.1 ops; (q.1, (p.2 : Int) :: q.2)
    | none => let q := runMem m ops; (q.1, -1 :: q.2)
  | .del t r :: ops =>
    match vdeletetagref m t r with
    | some m' => let q := runMem m' ops; (q.1, 1 :: q.2)
    | none => let q := runMem m ops; (q.1, 0 :: q.2)

/-- reference: a list of at most MAX_REF = 65535 members; insert = snoc (refused when full, list unchanged),
    delete = erase the first occurrence (the order of the others is kept) -/
def runList (l : List Pair) : List MemOp → List Pair × List Int
  | [] => (l, [])
  | .ins t r :: ops =>
    if l.length = MAX_REF then let q := runList l ops; (q.1, -1 :: q.2)
    else let q := runList (l ++ [(t, r)]) ops; (q.1, ((l.length + 1 : Nat) : Int) :: q.2)
  | .del t r :: ops =>
    if (t, r) ∈ l then let q := runList (l.erase (t, r)) ops; (q.1, 1 :: q.2)
    else let q := runList l ops; (q.1, 0 :: q.2)

theorem runMem_refines (ops : List MemOp) (m : Mem) (h : m.OK) :
    (runMem m ops).1.members = (runList m.members ops).1 ∧ (runMem m ops).2 = (runList m.members ops).2 ∧
    (runMem m ops).1.OK := by
  induction ops generalizing m with
  | nil => exact ⟨rfl, rfl, h⟩
  | cons op rest ih =>
    cases op with
    | ins t r =>
      have hs := vinsertpair_spec h t r
      cases e : vinsertpair m t r with
      | none =>
        rw [e] at hs
        obtain ⟨i1, i2, i3⟩ := ih m h
        simp only [runMem, runList, e, show m.members.length = MAX_REF from hs, if_true]
        exact ⟨i1, by rw [i2], i3⟩
      | some p =>
        rw [e] at hs
        obtain ⟨hl, a, b, c'⟩ := hs
        obtain ⟨i1, i2, i3⟩ := ih p.1 c'
        simp only [runMem, runList, e, hl, if_false]
        rw [← a]
        exact ⟨i1, by rw [b, i2], i3⟩
    | del t r =>
      have hd := vdeletetagref_erase h t r
      cases hv : vdeletetagref m t r with
      | none =>
        rw [hv] at hd
        obtain ⟨i1, i2, i3⟩ := ih m h
        simp only [runMem, runList, hv, hd, if_false]
        exact ⟨i1, by rw [i2], i3⟩
      | some m' =>
        rw [hv] at hd
        obtain ⟨d1, d2, d3⟩ := hd
        obtain ⟨i1, i2, i3⟩ := ih m' d3
        simp only [runMem, runList, hv, d1, if_true]
        rw [← d2]
        exact ⟨i1, by rw [i2], i3⟩

/-- **Members refine a list — full strength** (EVERY history of insertions and deletions on a new Vgroup, of any
    length, whatever growth steps 64 → 128 → … → 65536 it crosses): the arrays hold exactly the reference list —
    insertion appends, deletion removes the first occurrence and keeps the order of the rest, an insertion into a
    Vgroup that already has 65535 members fails and changes nothing — and every returned count/flag agrees.

    History: up to /repo dc883d2 `vinsertpair` incremented the uint16 `nvelt` unconditionally; the 65536th insertion
    wrapped it to 0 and the Vgroup silently lost all members (finding F12 / key `vg-nvelt-wrap`). -/
theorem vg_members_refine_list (ops : List MemOp) :
    (runMem Mem.fresh ops).1.members = (runList [] ops).1 ∧ (runMem Mem.fresh ops).2 = (runList [] ops).2 := by
  have := runMem_refines ops Mem.fresh Mem.fresh_ok
  rw [Mem.fresh_members] at this
  exact ⟨this.1, this.2.1⟩

example : (runMem Mem.fresh [.ins 1965 2, .ins 1962 3, .ins 1965 2, .del 1965 2, .del 7 7]).1.members = [(1962, 3), (1965, 2)] := by
  decide

/-- the readers agree with the list, for every well-formed array state -/
theorem vg_readers_agree (m : Mem) (h : m.OK) (t r n i : Nat) :
    (vinqtagref m t r = true ↔ (t, r) ∈ m.members) ∧ vntagrefs m = m.members.length ∧
    vgettagrefs m n = m.members.take n ∧ vgettagref m (i : Int) = m.members[i]? ∧
    vnrefs m t = (m.members.filter (fun p => p.1 == t)).length :=
  ⟨vinqtagref_mem m t r, vntagrefs_length h, vgettagrefs_take m n, vgettagref_get h i, rfl⟩

/-- growth steps never drop or reorder members -/
theorem vg_growth_keeps_members (m : Mem) (h : m.OK) : m.grow.members = m.members ∧ m.grow.OK :=
  ⟨Mem.grow_members h, (Mem.grow_ok h).1⟩

example : (Mem.grow ⟨64, 64, List.replicate 64 (5, 6)⟩).msize = 128 := by decide

/-- at the limit: ANY Vgroup with 65535 members refuses the next insertion and keeps every member -/
theorem vg_full_insert_fails (m : Mem) (h : m.OK) (hn : m.members.length = 65535) (t r : Nat) :
    vinsertpair m t r = none ∧ (runMem m [.ins t r]).1 = m ∧ (runMem m [.ins t r]).2 = [-1] := by
  rw [Mem.members_length h] at hn
  have e := vinsertpair_full hn t r
  simp [runMem, e]

/-- **Record round trip**: for every well-formed Vgroup (any member count < 65536, any name/class byte strings of
    length 1..65535 without NUL or absent, any extag/exref/more, version 2/3 without flags or version 4 with flags
    and, if `VG_ATTR_SET`, any attribute list) `vunpackvg (vpackvg g) = some g`. -/
theorem vpackvg_roundtrip (g : VG) (h : g.WF) : vunpackvg (vpackvg g) = some g := by
  rw [vunpackvg_vpackvg g h.1, VG.norm_of_ne h.2.1 h.2.2]

/-- **Record round trip with the fix of finding 3** (`vpackvgF true`: the flags word is written whenever the version is
    VSET_NEW_VERSION, as /repo's `vpackvg` does since de44643): the clause "no flags ⇒ not version 4" of `VG.WF` is not needed — every Vgroup that
    `vunpackvg` can produce from a well-formed record packs back to a record that unpacks to itself. -/
theorem vpackvg_roundtrip_fixed3 (g : VG) (h : g.WFfix) : vunpackvg (vpackvgF true g) = some g := by
  rw [vunpackvg_vpackvgF true g h.1 (fun e => by cases e), VG.norm_of_ne h.2.1 h.2.2]

/-- the witness that separates the two: version 4, flags 0 (legal on disk; `more` odd).  Packed without the fix
    (`vpackvgF false`) the record has no flags word and `vunpackvg` runs off its end; packed with it, it round-trips. -/
example : let g : VG := { members := [(1000, 8)], name := some [112], version := 4, flags := 0, more := 1 }
    g.WFfix ∧ ¬ g.WF ∧ vunpackvg (vpackvgF false g) = none ∧ vunpackvg (vpackvgF true g) = some g := by decide

/-- on every Vgroup that `vpackvg` (= `vpackvgF false`) represents faithfully, the fix changes no byte of the record -/
theorem fixed3_changes_nothing_wf (g : VG) (h : g.WFmem) : vpackvgF true g = vpackvg g := vpackvgF_eq_of_wfmem true g h

/-- the in-memory variant: an empty name/class (`Vsetname(h, "")`) comes back as "no name" and nothing else changes -/
theorem vpackvg_roundtrip_mem (g : VG) (h : g.WFmem) : vunpackvg (vpackvg g) = some g.norm :=
  vunpackvg_vpackvg g h

/-- non-vacuity: members with duplicates, a name, a class, version 4 with the attribute flag and two attributes -/
example : VG.WF { members := [(1965, 2), (1962, 3), (1965, 2), (720, 65535)], name := some [65, 66], cls := some [67],
                  extag := 1, exref := 2, version := 4, more := 0, flags := 1, attrs := [(1962, 9), (1962, 10)] } := by
  decide

example : vunpackvg (vpackvg { members := [(1965, 2), (1962, 3)], name := some [65], version := 3 }) =
    some { members := [(1965, 2), (1962, 3)], name := some [65], version := 3 } := by decide

/-- the exact bytes of a small record (version 3): nvelt, tags, refs, name, class, extag, exref, version, more, 0 -/
example : vpackvg { members := [(1965, 2)], name := some [65], version := 3 } =
    [0, 1, 7, 173, 0, 2, 0, 1, 65, 0, 0, 0, 0, 0, 0, 0, 3, 0, 0, 0] := by decide

/-- **Refinement of the reference graph, from any start**: the history may begin in any file state `f0` that has the file
    invariant, and the final state has it again.  In particular from the empty file under either record writer,
    `{ fixed3 := b }` (`inv_empty b`): /repo's `vpackvg` writes the flags word of every version-4 record since de44643, which is
    `fixed3 := true`, the configuration the engine runs the model in; `{}` is `fixed3 := false`. -/
theorem vg_refines_graph_from (f0 : File) (hI : Inv f0) (hG : GraphInv f0.abs) (ops : List Op)
    (h : admissibleHist f0.abs ops = true) :
    (run f0 ops).2 = (grun f0.abs ops).2 ∧ (run f0 ops).1.abs = (grun f0.abs ops).1 ∧ Inv (run f0 ops).1 :=
  sim_run ops f0 hI hG h

example (ops : List Op) (h : admissibleHist {} ops = true) : (run { fixed3 := true } ops).2 = (grun {} ops).2 :=
  (vg_refines_graph_from _ (inv_empty true) ginv_empty ops h).1

/-- **Refinement of the reference graph** — for every history of `Vattach(-1)`, `Vattach`, `Vdetach`, `Vsetname`,
    `Vsetclass`, `Vaddtagref`, `Vinsert`, `Vdeletetagref`, `Vsetattr`, `Vdelete`, `VSdelete`, Vdata creation,
    `Vend/Vstart`, and all queries, starting from an empty file and admissible at every step
    (`admissible`: names below 65536 bytes, `Vsetattr` only below 2^31 - 1 attributes, `Vdelete` only of detached Vgroups, reopen only
    with all handles detached;
    member counts are NOT bounded: a full Vgroup refuses further members in both models):
    every answer of the implementation model equals the answer of the reference graph, and the abstraction of the
    final implementation state IS the final reference graph (ordered member lists, names, classes, attribute lists,
    sets of Vgroups and Vdatas, handles) — through open handles and across detach/reopen alike.

    The four hypotheses exclude undefined behaviour of the C code (use of a freed VGROUP), names of 65536 bytes or more (the
    16-bit length field: the C refuses them, the model does not), an attribute count beyond its `int32` field, and changes lost by `Vend` with
    attached handles. -/
theorem vg_refines_graph_partial (ops : List Op) (h : admissibleHist {} ops = true) :
    (run {} ops).2 = (grun {} ops).2 ∧ (run {} ops).1.abs = (grun {} ops).1 := by
  have := vg_refines_graph_from {} (inv_empty false) ginv_empty ops h
  exact ⟨this.1, this.2.1⟩

/-- a non-trivial admissible history: two Vgroups, a Vdata, members, a rename, detach, reopen, queries -/
example : admissibleHist {} [.new 0 2, .vsnew 3, .new 1 4, .setname 0 [65, 66], .insertvg 0 1, .insertvs 0 3,
    .addtagref 0 720 9, .addtagref 0 720 9, .deltagref 0 720 9, .detach 0, .detach 1, .reopen, .attach 0 2 false,
    .gettagrefs 0 10, .getname 0, .vlone, .vslone, .getid (-1), .getid 2, .find [65, 66]] = true := by decide

example : (run {} [.new 0 2, .vsnew 3, .new 1 4, .setname 0 [65, 66], .insertvg 0 1, .insertvs 0 3,
    .addtagref 0 720 9, .addtagref 0 720 9, .deltagref 0 720 9, .detach 0, .detach 1, .reopen, .attach 0 2 false,
    .gettagrefs 0 10, .getname 0, .vlone, .vslone, .getid (-1), .getid 2, .find [65, 66]]).2.drop 13 =
    [.pairs [(1965, 4), (1962, 3), (720, 9)], .bytes [65, 66], .nats [2], .nats [], .int 2, .int 4, .int 2] := by decide

/-- every state reached by an admissible history keeps the file invariant: the Vgroup table is in strictly ascending
    ref order, every unmarked Vgroup is on disk exactly as `vpackvg` renders it, nothing else is on disk -/
theorem vg_reachable_inv (ops : List Op) (h : admissibleHist {} ops = true) : Inv (run {} ops).1 :=
  (vg_refines_graph_from {} (inv_empty false) ginv_empty ops h).2.2

/-- **`Vlone`** answers exactly the existing Vgroups that are a member (with tag DFTAG_VG) of no Vgroup,
    in ascending ref order, each once. -/
theorem vlone_exact (s : File) (hs : KSorted s.vgs) (l : List Nat) (h : (step s .vlone).2 = .nats l) :
    (∀ r, r ∈ l ↔ r ∈ akeys s.vgs ∧ ∀ e ∈ s.vgs, (DFTAG_VG, r) ∉ e.2.mem.members) ∧ l.Pairwise (· < ·) := by
  have e : (step s .vlone).2 = .nats (loneOf (·.mem.members) DFTAG_VG (akeys s.vgs) s.vgs) := rfl
  rw [e] at h
  injection h with h
  subst h
  exact ⟨fun r => loneOf_mem _ _ _ _ r, List.Pairwise.sublist (loneOf_sublist _ _ _ _) hs⟩

/-- **`VSlone`** answers exactly the existing Vdatas that are a member (with tag DFTAG_VH) of no Vgroup,
    in the order of the Vdata table. -/
theorem vslone_exact (s : File) (l : List Nat) (h : (step s .vslone).2 = .nats l) :
    (∀ r, r ∈ l ↔ r ∈ s.vds ∧ ∀ e ∈ s.vgs, (DFTAG_VH, r) ∉ e.2.mem.members) ∧ l.Sublist s.vds := by
  have e : (step s .vslone).2 = .nats (loneOf (·.mem.members) DFTAG_VH s.vds s.vgs) := rfl
  rw [e] at h
  injection h with h
  subst h
  exact ⟨fun r => loneOf_mem _ _ _ _ r, loneOf_sublist _ _ _ _⟩

/-- **`Vgetid` iteration**: in every reachable state, starting from -1 and feeding each answer back in visits
    exactly the refs of the existing Vgroups, each once, in ascending order, and then fails. -/
theorem vgetid_visits_all_ascending (ops : List Op) (h : admissibleHist {} ops = true) :
    let s := (run {} ops).1
    walk (akeys s.vgs) ((akeys s.vgs).length + 1) (-1) = akeys s.vgs ∧ (akeys s.vgs).Pairwise (· < ·) ∧
    ∀ id, (step s (.getid id)).2 = getidIn (akeys s.vgs) id := by
  have hs := (vg_reachable_inv ops h).2.1
  exact ⟨getid_walk _ hs, hs, fun _ => rfl⟩

example : walk [2, 4, 9] 4 (-1) = [2, 4, 9] := by decide

/-- **name set/get**: a successful `Vsetname` is what `Vgetname`/`Vgetnamelen` then report through the same handle
    (any length; only the bytes before the first NUL count, as for every C string) -/
theorem setname_getname (s : File) (slot : Nat) (n : Bytes) (h : (step s (.setname slot n)).2 = .ok) :
    (step (step s (.setname slot n)).1 (.getname slot)).2 = .bytes (cstr n) ∧
    (step (step s (.setname slot n)).1 (.getnamelen slot)).2 = .int (((cstr n).length % 65536 : Nat) : Int) := by
  obtain ⟨r, g, h1, h2, h3⟩ := setname_ok_inv h
  constructor
  · simp only [step]
    rw [withSlot_then h1 h2]; simp [h3, nameOut]
  · simp only [step]
    rw [withSlot_then h1 h2]; simp [h3, lenOut]

theorem setclass_getclass (s : File) (slot : Nat) (n : Bytes) (h : (step s (.setclass slot n)).2 = .ok) :
    (step (step s (.setclass slot n)).1 (.getclass slot)).2 = .bytes (cstr n) ∧
    (step (step s (.setclass slot n)).1 (.getclasslen slot)).2 = .int (((cstr n).length % 65536 : Nat) : Int) := by
  obtain ⟨r, g, h1, h2, h3⟩ := setclass_ok_inv h
  constructor
  · simp only [step]
    rw [withSlot_then h1 h2]; simp [h3, nameOut]
  · simp only [step]
    rw [withSlot_then h1 h2]; simp [h3, lenOut]

example : (step (step (step {} (.new 0 2)).1 (.setname 0 (List.replicate 70 65))).1 (.getnamelen 0)).2 = .int 70 := by
  decide

/-- **persistence**: after an admissible history that ends with every handle detached, `Vend`/`Vstart` (which reads
    every DFTAG_VG record back through `vunpackvg`) reproduces every Vgroup: same refs, same ordered member lists,
    same classes/names (an empty string reads back as "not set"), same attribute lists. -/
theorem vg_persist (ops : List Op) (h : admissibleHist {} (ops ++ [.reopen]) = true) :
    (run {} (ops ++ [.reopen])).1.abs.vgs = (grun {} ops).1.vgs.map (fun e => (e.1, e.2.reopened)) ∧
    (run {} (ops ++ [.reopen])).2.getLast? = some .ok := by
  have hr := vg_refines_graph_partial (ops ++ [.reopen]) h
  obtain ⟨g1, g2⟩ := grun_append {} ops [.reopen]
  rw [hr.2, hr.1, g1, g2]
  simp [grun, gstep]

end H4.Props.C08
