import H4.Lemmas.C05RleSess
/-! C05, run-length coder, MIXED SESSIONS on one access id: sequential writes, forward and backward seeks, partial reads and `Hendaccess`
    in any order, through the functions of crle.c as TRANSLATED from the current C text (`H4.Gen.Fn.Crle`: `HCIcrle_staccess`,
    `HCIcrle_init`, `HCPcrle_write` -> `HCIcrle_encode`, `HCPcrle_read` -> `HCIcrle_decode`, `HCPcrle_endaccess` -> `HCIcrle_term`) and
    the hand model of `HCPcrle_seek` over the translated `HCIcrle_term` / `HCIcrle_init` / `HCIcrle_decode` (`H4.RleSess`, tied to the
    compiled C by the `T rle sess` lines of engine comp).

    The encoder and the decoder share ONE record and ONE position in the underlying element; the flag `encoding` says whose the record
    is.  `session_roundtrip`: started on a record with ARBITRARY content, every in-scope history succeeds, every read delivers the
    bytes written so far, and after `Hendaccess` the underlying element decodes (model decoder `H4.Rle.dec`, to which `HCIcrle_decode`
    is tied by `H4.Props.C05Rle.crle_read_refines`) to exactly the bytes written - wherever the writes ended (in a run, in a literal
    packet, exactly on a forced flush), wherever the reads stopped, whatever was sought.
    A change of where `encoding` is set, cleared or tested changes the generated definitions and these proofs are re-checked. -/
namespace H4.Props.C05RleSess
open H4 H4.Rle H4.RleSess H4.Gen.Crle H4.Gen.Fn.Crle H4.Lemmas.C05Rle H4.Lemmas.C05RleSess

/-- **`HCIcrle_init`** (crle.c, translated): from ANY record - the access record's `special_info` is a fresh `malloc` block when
    `HCIcrle_staccess` calls it, and the encoder's or the decoder's leftovers when the backward branch of `HCPcrle_seek` does - it leaves
    `rle_state = RLE_INIT`, `encoding = FALSE`, `buf_pos = 0`, `last_byte = second_byte = (unsigned)RLE_NIL`, `offset = 0`, returns
    SUCCEED, no undefined behaviour -/
theorem HCIcrle_init_refines (fuel : Nat) (st enc pos last second off : Int) :
    let s := HCIcrle_init fuel st enc pos last second off
    s.ub = false ∧ s.oof = false ∧ s.ret = 0 ∧ s.rle_rle_state = 0 ∧ s.rle_encoding = 0 ∧ s.rle_buf_pos = 0 ∧ s.rle_last_byte = nil32 ∧
      s.rle_second_byte = nil32 ∧ s.rle_offset = 0 :=
  init_spec fuel st enc pos last second off

/-- the record of `H4.Props.C05Rle.initRec` (on which `crle_compress_refines` and the other whole-element theorems start) IS what the
    translated `HCIcrle_init` leaves, whatever was there before -/
theorem initRec_is_HCIcrle_init (fuel : Nat) (st enc pos last second off len : Int) (buffer : List Int) :
    let s := HCIcrle_init fuel st enc pos last second off
    H4.Props.C05Rle.initRec len buffer =
      { st := s.rle_rle_state, len := len, pos := s.rle_buf_pos, last := s.rle_last_byte, second := s.rle_second_byte,
        offset := s.rle_offset, encoding := s.rle_encoding, buffer := buffer, io := [] } := by
  obtain ⟨-, -, -, h4, h5, h6, h7, h8, h9⟩ := init_spec fuel st enc pos last second off
  simp only [H4.Props.C05Rle.initRec, h4, h5, h6, h7, h8, h9]

/-- **`HCIcrle_staccess`** (translated; `new_aid` = what `Hstartread` / `Hstartaccess` returned, not FAIL): the record of `HCIcrle_init` -/
theorem HCIcrle_staccess_refines (fuel : Nat) (aid st enc pos last second off mode new_aid : Int) (h : new_aid ≠ -1) :
    let s := HCIcrle_staccess fuel aid st enc pos last second off mode new_aid
    s.ub = false ∧ s.oof = false ∧ s.ret = 0 ∧ s.rle_rle_state = 0 ∧ s.rle_encoding = 0 ∧ s.rle_buf_pos = 0 ∧ s.rle_last_byte = nil32 ∧
      s.rle_second_byte = nil32 ∧ s.rle_offset = 0 :=
  staccess_spec fuel aid st enc pos last second off mode new_aid h

/-- **`HCPcrle_endaccess`** (translated), the flush decision: with write access the coder is flushed (`HCIcrle_term`) exactly when
    `encoding` is set and the state is RUN or MIX; otherwise nothing is written - in particular never from a record the DECODER owns
    (`encoding = 0`), however far a read got into a run or a literal packet -/
theorem HCPcrle_endaccess_refines (fuel : Nat) (access enc st len last : Int) (buffer : List Int) (second : Int) (out : List Int)
    (ha : 0 ≤ access) (hw : access.toNat &&& 2 ≠ 0) :
    let s := HCPcrle_endaccess fuel access enc st len last buffer second out
    let t := HCIcrle_term fuel st len last buffer enc second out
    (enc ≠ 0 ∧ st ≠ 0 → t.ret = 0 → s.ub = t.ub ∧ s.oof = t.oof ∧ s.ret = 0 ∧ s.io_out = t.io_out) ∧
    (¬ (enc ≠ 0 ∧ st ≠ 0) → s.ub = false ∧ s.oof = false ∧ s.ret = 0 ∧ s.io_out = out) := by
  refine ⟨fun ⟨he, hst⟩ hr => endaccess_flush fuel access enc st len last buffer second out ha hw he hst hr, fun h => ?_⟩
  exact endaccess_noflush fuel access enc st len last buffer second out ha (fun ⟨_, b, c⟩ => h ⟨b, c⟩)

/-- the flush of `H4.Props.C05Rle.endaccess` (the whole-element theorems end with it) IS the translated `HCPcrle_endaccess` on an access
    record with write access (`hterm`: in state RUN / MIX `HCIcrle_term` returns SUCCEED - `HCIcrle_term_refines` shows that for every
    record related to a model encoder state) -/
theorem endaccess_is_HCPcrle_endaccess (r : H4.Props.C05Rle.Rec) (access : Int) (ha : 0 ≤ access) (hw : access.toNat &&& 2 ≠ 0)
    (hterm : r.encoding ≠ 0 ∧ r.st ≠ 0 → (HCIcrle_term 0 r.st r.len r.last r.buffer r.encoding r.second r.io).ret = 0) :
    let s := HCPcrle_endaccess 0 access r.encoding r.st r.len r.last r.buffer r.second r.io
    H4.Props.C05Rle.endaccess r = if s.ub || s.oof || s.ret != 0 then none else some s.io_out := by
  intro s
  by_cases h : r.encoding ≠ 0 ∧ r.st ≠ 0
  · have hr := hterm h
    obtain ⟨f1, f2, f3, f4⟩ := endaccess_flush 0 access r.encoding r.st r.len r.last r.buffer r.second r.io ha hw h.1 h.2 hr
    rw [H4.Props.C05Rle.endaccess, if_pos h]
    simp only [s, f1, f2, f3, f4, hr]
  · obtain ⟨f1, f2, f3, f4⟩ := endaccess_noflush 0 access r.encoding r.st r.len r.last r.buffer r.second r.io ha (fun ⟨_, b, c⟩ => h ⟨b, c⟩)
    rw [H4.Props.C05Rle.endaccess, if_neg h]
    simp only [s, f1, f2, f3, f4]
    rfl

/-- **`HCPcrle_write`** (translated): an append (`info->length = rle_info->offset`) is handed to `HCIcrle_encode` unchanged -/
theorem HCPcrle_write_refines (fuel : Nat) (off enc st : Int) (buffer : List Int) (last len pos second length : Int) (data out : List Int)
    (hr : (HCIcrle_encode fuel enc st buffer last len pos second off length data out).ret ≠ -1) :
    let r := HCIcrle_encode fuel enc st buffer last len pos second off length data out
    let s := HCPcrle_write fuel off off enc st buffer last len pos second length data out
    s.ub = r.ub ∧ s.oof = r.oof ∧ s.ret = length ∧ s.rle_rle_state = r.rle_rle_state ∧ s.rle_buf_length = r.rle_buf_length ∧
      s.rle_buf_pos = r.rle_buf_pos ∧ s.rle_last_byte = r.rle_last_byte ∧ s.rle_second_byte = r.rle_second_byte ∧
      s.rle_offset = r.rle_offset ∧ s.rle_encoding = r.rle_encoding ∧ s.rle_buffer = r.rle_buffer ∧ s.io_out = r.io_out :=
  write_spec fuel off off enc st buffer last len pos second length data out (by simp) hr

/-- **`HCPcrle_read`** (translated): `HCIcrle_decode` on the same record -/
theorem HCPcrle_read_refines (fuel : Nat) (st len last : Int) (buffer : List Int) (pos off length : Int) (data inp : List Int) (io_pos : Int)
    (hr : (HCIcrle_decode fuel st len last buffer pos off length data inp io_pos).ret ≠ -1) :
    let r := HCIcrle_decode fuel st len last buffer pos off length data inp io_pos
    let s := HCPcrle_read fuel st len last buffer pos off length data inp io_pos
    s.ub = r.ub ∧ s.oof = r.oof ∧ s.ret = length ∧ s.rle_rle_state = r.rle_rle_state ∧ s.rle_buf_length = r.rle_buf_length ∧
      s.rle_buf_pos = r.rle_buf_pos ∧ s.rle_last_byte = r.rle_last_byte ∧ s.rle_offset = r.rle_offset ∧ s.rle_buffer = r.rle_buffer ∧
      s.data = r.buf ∧ s.io_pos = r.io_pos :=
  read_spec fuel st len last buffer pos off length data inp io_pos hr

/-- **C05 for mixed sessions on one access id.**  `σ`: the access record before `HCIcrle_staccess` - the coder record (`st`, `len`,
    `pos`, `last`, `second`, `offset`, `encoding`, the position `fpos`) holds ANYTHING, the 128-byte buffer anything; the underlying
    element `σ.file` is any stream the model's decoder accepts (`[]` for a new element), `σ.length` its uncompressed length, the access
    word has DFACC_WRITE.  `ops`: ANY history of non-empty appends, seeks to any offset inside the data (forward, backward, onto the
    spot) and non-empty reads inside the data (`InScope`), in any order and number, of any sizes (total below 2^31, the range of
    `int32`).  Then every call succeeds without undefined behaviour, the reads deliver - concatenated - exactly the bytes written so far
    at their positions (`expected`), and `Hendaccess` leaves an underlying element that decodes to exactly `data ++ written ops`. -/
theorem session_roundtrip (σ : St) (cs data : List Byte) (mode : Int) (ops : List Op)
    (hfile : σ.file = bytes cs) (hdec : dec cs = some data) (hlen : σ.length = (data.length : Int))
    (hbuf : σ.buffer.length = RLE_BUF_SIZE) (hacc : 0 ≤ σ.access) (hw : σ.access.toNat &&& H4.Gen.Hdf.DFACC_WRITE ≠ 0)
    (hin : InScope data.length 0 ops) (hsz : data.length + (written ops).length < 2 ^ 31) :
    ∃ raw : List Byte, session σ mode ops = some (bytes raw, bytes (expected data 0 ops)) ∧ dec raw = some (data ++ written ops) := by
  obtain ⟨σ0, s1, s2, s3⟩ := start_step σ cs data mode hfile hdec hlen hbuf hacc (by rw [← dfacc_write]; exact hw) (by omega)
  obtain ⟨σ1, rd, r1, r2, r3⟩ := run_inv ops σ0 data 0 s2 (by rw [s3]; rfl) hin hsz
  obtain ⟨raw, e1, e2⟩ := end_step σ1 _ r3
  exact ⟨raw, by simp only [session, s1, Option.bind_some, r1, e1, Option.map_some, r2], e2⟩

/-- a NEW element (`HCcreate`): what is read back after the session is what the session wrote -/
theorem session_roundtrip_new (σ : St) (mode : Int) (ops : List Op) (hfile : σ.file = []) (hlen : σ.length = 0)
    (hbuf : σ.buffer.length = RLE_BUF_SIZE) (hacc : 0 ≤ σ.access) (hw : σ.access.toNat &&& H4.Gen.Hdf.DFACC_WRITE ≠ 0)
    (hin : InScope 0 0 ops) (hsz : (written ops).length < 2 ^ 31) :
    ∃ raw : List Byte, session σ mode ops = some (bytes raw, bytes (expected [] 0 ops)) ∧ dec raw = some (written ops) := by
  have h := session_roundtrip σ [] [] mode ops (by simpa using hfile) (by decide) (by simpa using hlen) hbuf hacc hw (by simpa using hin)
    (by simpa using hsz)
  simpa using h

/-- the session and a fresh reader (`H4.Props.C05Rle.readCalls`, any partition into read calls) together, all on the translated code:
    after the session the element is READ BACK as the bytes written -/
theorem session_then_read_back (σ : St) (cs data : List Byte) (mode : Int) (ops : List Op) (lens : List Nat) (len1 last pos : Int)
    (b1 : List Int) (hfile : σ.file = bytes cs) (hdec : dec cs = some data) (hlen : σ.length = (data.length : Int))
    (hbuf : σ.buffer.length = RLE_BUF_SIZE) (hacc : 0 ≤ σ.access) (hw : σ.access.toNat &&& H4.Gen.Hdf.DFACC_WRITE ≠ 0)
    (hin : InScope data.length 0 ops) (hsz : data.length + (written ops).length < 2 ^ 31) (h1 : b1.length = RLE_BUF_SIZE)
    (hsum : lens.sum = data.length + (written ops).length) :
    ∃ raw : List Byte, (session σ mode ops).map (·.1) = some (bytes raw) ∧
      H4.Props.C05Rle.readCalls raw { st := 0, len := len1, last := last, pos := pos, offset := 0, io_pos := 0, buffer := b1 } lens =
        some (bytes (data ++ written ops)) := by
  obtain ⟨raw, h, hd⟩ := session_roundtrip σ cs data mode ops hfile hdec hlen hbuf hacc hw hin hsz
  refine ⟨raw, by rw [h]; rfl, ?_⟩
  rw [H4.Props.C05Rle.crle_read_refines raw _ hd lens len1 last pos b1 h1 (by simp; omega) (by simp; omega), hsum]
  congr 2
  rw [← List.length_append, List.take_length]

/-- the hypotheses are satisfiable and the translated code runs, on the turn-round the flag `encoding` exists for: the record starts
    with garbage (`encoding = 1`, state MIX); 130 equal bytes are written - the encoder is forced to flush at the last one and is back in
    state INIT with `encoding` still set -; the access id seeks back to 0 and reads 20 bytes - the decoder is now inside the run -;
    one more byte is appended after a seek to the end, the access id seeks back again and reads 131 bytes; `Hendaccess`.
    The element holds the run packet and the one-byte literal, nothing else. -/
example :
    InScope 0 0 [Op.write (List.replicate 130 7), .seek 0, .read 20, .seek 130, .write [9], .seek 1, .read 130] ∧
    session { st := 2, len := 77, pos := 99, last := 65, second := 65, offset := 12345, encoding := 1,
              buffer := List.replicate 128 0xA5, file := [], fpos := 4, length := 0, access := 3 } 2
        [Op.write (List.replicate 130 7), .seek 0, .read 20, .seek 130, .write [9], .seek 1, .read 130] =
      some ([255, 7, 0, 9], List.replicate 20 7 ++ (List.replicate 129 7 ++ [9])) ∧
    dec [255, 7, 0, 9] = some (List.replicate 130 7 ++ [9]) := by
  refine ⟨by simp [InScope], by decide +kernel, by decide +kernel⟩

end H4.Props.C05RleSess
