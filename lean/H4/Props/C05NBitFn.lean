import H4.Lemmas.C05NBitFnDec
import H4.Props.C05NBit
/-! C05, function-level Tie A for `hdf/src/cnbit.c`: `HCIcnbit_init`, `HCIcnbit_encode` and `HCIcnbit_decode` as translated statement by
    statement from the CURRENT C text (`H4.Gen.Fn.Cnbit`, written by gen/c2lean.py on every run: the `nbit_info` record as fields `nbit_*`,
    the array of structs `mask_info[]` as one region per field, the struct pointer that walks over it as an index, `Hbitwrite` appending
    the pair (count, data) to the region `io_out`, `Hbitread` consuming bits of `io_in` at `io_pos`, `HDmemfill`/`memset`/`memcpy` as
    builtins) compute exactly the hand-written model `H4.NBit` that the C05 theorems `nbit_projection` / `nbit_element_roundtrip` are about -
    for every `nt_size` the arrays can hold (1 … `NBIT_MASK_SIZE` = 16, not only the sizes 1, 2, 4, 8 of the number types), every
    `mask_off`/`mask_len` in range, both flags, every data length and every coder record carried over from earlier calls - and never
    index outside an array (`ub = false`) and terminate (`oof = false`).  `bytes` converts a model byte string (`List UInt8`) into the
    `uint8` array the translated code sees (`List Int`).  A change of the C text changes the generated definitions; these theorems are
    re-checked against them. -/
namespace H4.Props.C05NBitFn
open H4.NBit H4.Bits H4.BitIO H4.Gen.Cnbit H4.Gen.Fn.Cnbit H4.Lemmas.C05NBitFn
open H4.Lemmas.C05Rle (bytes)


/-- **`HCIcnbit_init`** as translated from cnbit.c, for EVERY configuration in range (`InRange`: `nt_size ≤ NBIT_MASK_SIZE` = 16 - every size
    the arrays can hold, not only 1, 2, 4, 8 -, `1 ≤ mask_len ≤ mask_off + 1 ≤ 8·nt_size`), both `fill_one` values, whatever the record held
    before (`bp bl np off`, the four arrays), provided `Hbitseek` succeeds (`seek ≠ FAIL`; the translation takes its result as a parameter):
    the C code stays inside `mask_buf`, `mask_info[]` and `mask_arr8`, shifts only by valid counts (`ub = false`), terminates
    (fuel = `nt_size`), returns SUCCEED, resets `buf_pos = NBIT_BUF_SIZE`, `buf_len = 0`, `nt_pos = 0`, `offset = 0`, and leaves in
    `mask_info[0 .. nt_size)` EXACTLY the model's table `maskInfos c` (offset / length / mask of every byte), zeros in the entries above
    (the `memset`), and in `mask_buf[0 .. nt_size)` exactly the model's `maskBuf c` (the cells above untouched) - so the tables the
    encoder and the decoder work with are related to the model by `TabRel`. -/
theorem HCIcnbit_init_refines (c : Cfg) (hr : InRange c) (fuel : Nat) (hf : c.ntSize ≤ fuel) (bp bl np off : Int) (mbuf offs lens masks : List Int)
    (hmb : mbuf.length = NBIT_MASK_SIZE) (ho : offs.length = NBIT_MASK_SIZE) (hl : lens.length = NBIT_MASK_SIZE) (hm : masks.length = NBIT_MASK_SIZE)
    (seek : Int) (hseek : seek ≠ -1) :
    let s := HCIcnbit_init fuel bp bl np off mbuf (b2i c.fillOne) c.ntSize c.maskOff c.maskLen offs lens masks seek
    s.ub = false ∧ s.oof = false ∧ s.ret = 0 ∧ s.nbit_buf_pos = NBIT_BUF_SIZE ∧ s.nbit_buf_len = 0 ∧ s.nbit_nt_pos = 0 ∧ s.nbit_offset = 0 ∧
      s.nbit_mask_info_offset = (maskInfos c).map (fun m => (m.offset : Int)) ++ List.replicate (NBIT_MASK_SIZE - c.ntSize) 0 ∧
      s.nbit_mask_info_length = (maskInfos c).map (fun m => (m.length : Int)) ++ List.replicate (NBIT_MASK_SIZE - c.ntSize) 0 ∧
      s.nbit_mask_info_mask = (maskInfos c).map (fun m => (m.mask : Int)) ++ List.replicate (NBIT_MASK_SIZE - c.ntSize) 0 ∧
      s.nbit_mask_buf = (maskBuf c).map (fun (x : Nat) => (x : Int)) ++ mbuf.drop c.ntSize ∧
      TabRel c s.nbit_mask_info_offset s.nbit_mask_info_length s.nbit_mask_info_mask := by
  intro s
  obtain ⟨h1, h2, h3, h4, h5, h6, h7, h8, h9, h10, h11⟩ := init_main c hr fuel hf bp bl np off mbuf offs lens masks hmb ho hl hm seek hseek
  refine ⟨h1, h2, h3, h4, h5, h6, h7, h8, h9, h10, h11, ?_⟩
  rw [h8, h9, h10]
  exact tabRel_of_init c hr.1

/-- when `Hbitseek` fails `HCIcnbit_init` returns FAIL and has not touched the record -/
theorem HCIcnbit_init_seekfail (fuel : Nat) (bp bl np off fill n moff mlen : Int) (mbuf offs lens masks : List Int) :
    let s := HCIcnbit_init fuel bp bl np off mbuf fill n moff mlen offs lens masks (-1)
    s.ub = false ∧ s.oof = false ∧ s.ret = -1 ∧ s.nbit_buf_pos = bp ∧ s.nbit_buf_len = bl ∧ s.nbit_nt_pos = np ∧ s.nbit_offset = off ∧
      s.nbit_mask_buf = mbuf ∧ s.nbit_mask_info_offset = offs ∧ s.nbit_mask_info_length = lens ∧ s.nbit_mask_info_mask = masks := by
  simp [HCIcnbit_init]

/-- the hypotheses are satisfiable and the translated code runs: an `int16` with bits 9..4 kept, filled with ones -/
example :
    InRange { ntSize := 2, signExt := true, fillOne := true, maskOff := 9, maskLen := 6 } ∧
    (let s := HCIcnbit_init 2 3 9 1 77 (List.replicate 16 0x5A) 1 2 9 6 (List.replicate 16 7) (List.replicate 16 7) (List.replicate 16 7) 0
     s.ub = false ∧ s.oof = false ∧ s.ret = 0 ∧ s.nbit_buf_pos = 1024 ∧ s.nbit_mask_info_offset.take 3 = [1, 7, 0] ∧
       s.nbit_mask_info_length.take 3 = [2, 4, 0] ∧ s.nbit_mask_info_mask.take 3 = [3, 240, 0] ∧ s.nbit_mask_buf.take 3 = [252, 15, 0x5A]) ∧
    (maskInfos { ntSize := 2, signExt := true, fillOne := true, maskOff := 9, maskLen := 6 }).map (fun m => (m.offset, m.length, m.mask)) =
      [(1, 2, 3), (7, 4, 240)] := by
  decide +kernel

/-! ### parameters outside the range: `HCIcnbit_init` never refuses them (it has no parameter check; `SDsetnbitdataset` only rejects
    `start_bit < 0` and `bit_len ≤ 0`, and a file read back supplies whatever its header says) - some are silently accepted with a table
    for a different bit field, the others are undefined behaviour.  Witnesses on the translated code: -/

/-- `nt_size = 17 > NBIT_MASK_SIZE`: the `memset` of `mask_buf` runs over the end of the 16-byte array (`ub`) -/
example : (HCIcnbit_init 17 0 0 0 0 (List.replicate 16 0) 0 17 7 8 (List.replicate 16 0) (List.replicate 16 0) (List.replicate 16 0) 0).ub = true := by
  decide +kernel

/-- `mask_off = 20 ≥ 8·nt_size`, `mask_len = 2`: `mask_arr8[(top_bit - mask_bot) + 1]` is read at index -11 (`ub`) -/
example : (HCIcnbit_init 1 0 0 0 0 (List.replicate 16 0) 0 1 20 2 (List.replicate 16 0) (List.replicate 16 0) (List.replicate 16 0) 0).ub = true := by
  decide +kernel

/-- `mask_off = 9 ≥ 8·nt_size`, `mask_len = 3` is ACCEPTED without any undefined behaviour: the table describes the 1-bit field `7..7` -/
example :
    (let s := HCIcnbit_init 1 0 0 0 0 (List.replicate 16 0) 0 1 9 3 (List.replicate 16 0) (List.replicate 16 0) (List.replicate 16 0) 0
     s.ub = false ∧ s.ret = 0 ∧ s.nbit_mask_info_offset.take 1 = [7] ∧ s.nbit_mask_info_length.take 1 = [1] ∧ s.nbit_mask_info_mask.take 1 = [128]) := by
  decide +kernel

/-- `mask_len = 0` is accepted too: a table with an empty field (`length = 0` everywhere: nothing is ever written or read);
    `mask_len = 8 > mask_off + 1 = 4` is accepted as the field `3..0` -/
example :
    (let s := HCIcnbit_init 1 0 0 0 0 (List.replicate 16 0) 0 1 7 0 (List.replicate 16 0) (List.replicate 16 0) (List.replicate 16 0) 0
     s.ub = false ∧ s.ret = 0 ∧ s.nbit_mask_info_length.take 1 = [0]) ∧
    (let s := HCIcnbit_init 1 0 0 0 0 (List.replicate 16 0) 0 1 3 8 (List.replicate 16 0) (List.replicate 16 0) (List.replicate 16 0) 0
     s.ub = false ∧ s.ret = 0 ∧ s.nbit_mask_info_offset.take 1 = [3] ∧ s.nbit_mask_info_length.take 1 = [4] ∧ s.nbit_mask_info_mask.take 1 = [15]) := by
  decide +kernel


/-- **`HCIcnbit_encode`** as translated from cnbit.c: for EVERY configuration in range (`InRange`: `nt_size ≤ 16`,
    `1 ≤ mask_len ≤ mask_off + 1 ≤ 8·nt_size`), EVERY data `bs` of any length and EVERY position `nt_pos = pos` inside a value left by
    earlier calls, with the tables of the record holding the model's mask table (`TabRel`, what `HCIcnbit_init` builds) - whatever
    `io_out` holds - the C code reads only inside `buf` and the tables and shifts only by valid counts (`ub = false`), terminates
    (fuel = number of bytes), returns SUCCEED, has made exactly the `Hbitwrite(aid, count, data)` calls of the model's `encode c pos bs`
    (`pairs`: two cells per call), leaves `nt_pos` where the model leaves it, has advanced `offset` by the length and has not touched
    the tables.  `_hlen`, `_hoff`: C-side ranges of `length`, `offset` (`int32`; the translation computes in unbounded integers). -/
theorem HCIcnbit_encode_refines (c : Cfg) (hr : InRange c) (bs : List UInt8) (pos fuel : Nat) (hf : bs.length ≤ fuel) (hpos : pos < c.ntSize)
    (offs lens masks io_out : List Int) (offset : Int) (htab : TabRel c offs lens masks)
    (_hlen : bs.length < 2 ^ 31) (_hoff : offset + bs.length < 2 ^ 31) :
    let s := HCIcnbit_encode fuel pos lens masks offs c.ntSize offset bs.length (bytes bs) io_out
    s.ub = false ∧ s.oof = false ∧ s.ret = 0 ∧ s.io_out = io_out ++ pairs (encode c pos bs).1 ∧ s.nbit_nt_pos = ((encode c pos bs).2 : Int) ∧
      s.nbit_offset = offset + bs.length ∧ s.nbit_mask_info_offset = offs ∧ s.nbit_mask_info_length = lens ∧ s.nbit_mask_info_mask = masks := by
  intro s
  have k := enc_loop c (mi_shape c hr.field) fuel (bs, [], pos)
    { nbit_nt_pos := pos, nbit_mask_info_length := lens, nbit_mask_info_mask := masks, nbit_mask_info_offset := offs, nbit_nt_size := c.ntSize,
      nbit_offset := offset, length := bs.length, buf := bytes bs, io_out := io_out, mask_info := pos, orig_length := bs.length }
    hf { tab := htab, pos_lt := hpos }
  have hs : s = HCIcnbit_encode fuel pos lens masks offs c.ntSize offset bs.length (bytes bs) io_out := rfl
  simp only [HCIcnbit_encode] at hs
  rw [hs]
  exact ⟨k.ub, k.oof, rfl, k.io_out, k.nt_pos, by simp only [k.offset, k.orig_length], k.offs, k.lens, k.masks⟩

/-- the hypotheses are satisfiable and the translated code runs: the `int16` table of the `HCIcnbit_init` example, two values written in
    two calls that cut the second value -/
example :
    InRange { ntSize := 2, signExt := true, fillOne := true, maskOff := 9, maskLen := 6 } ∧
    (let s := HCIcnbit_encode 3 0 ([2, 4] ++ List.replicate 14 0) ([3, 240] ++ List.replicate 14 0) ([1, 7] ++ List.replicate 14 0) 2 0 3
       (bytes [0x03, 0xff, 0x02]) []
     s.ub = false ∧ s.oof = false ∧ s.ret = 0 ∧ s.io_out = [2, 3, 4, 15, 2, 2] ∧ s.nbit_nt_pos = 1 ∧ s.nbit_offset = 3) ∧
    (encode { ntSize := 2, signExt := true, fillOne := true, maskOff := 9, maskLen := 6 } 0 [0x03, 0xff, 0x02]) = ([(2, 3), (4, 15), (2, 2)], 1) := by
  decide +kernel


/-- **`HCIcnbit_decode`** as translated from cnbit.c, ANY call of a read sequence: the decoder side of the record and the position in the
    bit stream of the underlying element are related (`DecRel`, see `H4.Lemmas.C05NBitFn`) to a model decoder `d` - whatever the expansion
    buffer holds, wherever `buf_pos`/`buf_len` stand after earlier calls (also in the middle of a value) - and the element still holds the
    bits of the items this call expands (`itemsRead`, computed from `buf_pos`, `buf_len` and the length alone; `itemWidths c` = the
    `Hbitread` widths of one item).  Asked for ANY `n` bytes the C code stays inside `buf`, the expansion buffer, `mask_buf`, the mask table
    and the bit stream, shifts only by valid counts (`ub = false`), terminates (`oof = false`; every loop gets the fuel of the entry point:
    `n + 1040` is enough), returns SUCCEED, has stored in `buf` exactly the `n` bytes of the model's `decode` (the bytes behind them
    untouched), has advanced `offset` by `n`, has not touched `mask_buf`, the mask table and the bit stream, and leaves a record related to
    the model's resulting decoder - so the next call continues where this one stopped.  The C variable `sign_bit` starts at 0 in every call: the model is run with `sign := false`.
    `sign_ext` may be any non-zero value for "true" (`if (nbit_info->sign_ext)`); `fill_one` must be 0 or 1 (the C compares it with `TRUE`
    and with the sign bit).  For every `nt_size ≤ 16`, every `mask_off`/`mask_len` in range.  `_hn31`, `_hoff`: C-side ranges of `length`, `offset`
    (`int32`; the translation computes in unbounded integers); `hn` follows from `hr`. -/
theorem HCIcnbit_decode_refines (c : Cfg) (hr : InRange c) (hn : 0 < c.ntSize) (d : Dec) (n fuel : Nat) (hf : n + 1040 ≤ fuel)
    (buf_pos buf_len sign_ext offset io_pos : Int) (buffer mask_buf offs lens masks io_in out : List Int)
    (hse : (sign_ext ≠ 0) ↔ c.signExt = true) (_hn31 : n < 2 ^ 31) (_hoff : offset + n < 2 ^ 31) (hout : n ≤ out.length)
    (hrel : DecRel c d buf_pos buf_len buffer mask_buf offs lens masks io_in io_pos)
    (hbits : itemsRead c (n + 1) d.bufPos d.bufLen n * (itemWidths c).sum ≤ (avail d.st).length) :
    let s := HCIcnbit_decode fuel c.maskOff c.ntSize buf_pos buf_len buffer mask_buf sign_ext lens offs masks (b2i c.fillOne) offset n out io_in io_pos
    let r := decode c { d with sign := false } n
    s.ub = false ∧ s.oof = false ∧ s.ret = 0 ∧ s.buf = bytes r.2 ++ out.drop n ∧ r.2.length = n ∧ s.nbit_offset = offset + n ∧
      DecRel c r.1 s.nbit_buf_pos s.nbit_buf_len s.nbit_buffer s.nbit_mask_buf s.nbit_mask_info_offset s.nbit_mask_info_length s.nbit_mask_info_mask
        s.io_in s.io_pos ∧ r.1.fail = d.fail ∧
      s.nbit_mask_buf = mask_buf ∧ s.nbit_mask_info_offset = offs ∧ s.nbit_mask_info_length = lens ∧ s.nbit_mask_info_mask = masks ∧ s.io_in = io_in :=
  dec_main c hr d n fuel hf buf_pos buf_len sign_ext offset io_pos buffer mask_buf offs lens masks io_in out hse hout hrel hbits

/-- the translated code runs, on calls that cut values: the `int16` configuration of the examples above (bits 9..4, sign-extended, zero fill), the
    stream `111111 100000` (the values `03ff`, `0200`); asked for 3 bytes the C code expands one item, delivers `ff f0`, re-fills with the second
    item and delivers its first byte (`buf_pos = 1`, `buf_len = 2`); the next call for 1 byte takes `00` from the buffer without reading -/
example :
    (let s := HCIcnbit_decode 1043 9 2 1024 0 (List.replicate 1024 0xBE) ([0, 0] ++ List.replicate 14 0x5A) 1 ([2, 4] ++ List.replicate 14 0)
       ([1, 7] ++ List.replicate 14 0) ([3, 240] ++ List.replicate 14 0) 0 0 3 [0xA5, 0xA5, 0xA5, 0xA5] [1, 1, 1, 1, 1, 1, 1, 0, 0, 0, 0, 0] 0
     s.ub = false ∧ s.oof = false ∧ s.ret = 0 ∧ s.buf = [0xff, 0xf0, 0xfe, 0xA5] ∧ s.io_pos = 12 ∧ s.nbit_buf_pos = 1 ∧ s.nbit_buf_len = 2 ∧
       s.nbit_offset = 3 ∧ s.nbit_buffer.take 3 = [0xfe, 0x00, 0xBE]) ∧
    (let s := HCIcnbit_decode 1041 9 2 1 2 ([0xfe, 0x00] ++ List.replicate 1022 0xBE) ([0, 0] ++ List.replicate 14 0x5A) 1 ([2, 4] ++ List.replicate 14 0)
       ([1, 7] ++ List.replicate 14 0) ([3, 240] ++ List.replicate 14 0) 0 3 1 [0xA5] [1, 1, 1, 1, 1, 1, 1, 0, 0, 0, 0, 0] 12
     s.ub = false ∧ s.oof = false ∧ s.ret = 0 ∧ s.buf = [0x00] ∧ s.io_pos = 12 ∧ s.nbit_buf_pos = 2 ∧ s.nbit_offset = 4) := by
  decide +kernel

/-- **the first read of an element**: the record as `HCIcnbit_init` leaves it (`buf_pos = NBIT_BUF_SIZE`, `buf_len = 0`, the tables of the
    model; the expansion buffer holding anything: `stale`), the bit stream = the bits of the raw bytes `raw` of the element - is related to
    the model's decoder on `startRead raw` -/
theorem decRel_start (c : Cfg) (raw stale : List UInt8) (hst : stale.length = NBIT_BUF_SIZE) (mask_buf offs lens masks : List Int)
    (htab : TabRel c offs lens masks) (hml : mask_buf.length = NBIT_MASK_SIZE)
    (hmb : ∀ t, t < c.ntSize → mask_buf.getD t 0 = (((maskBuf c).getD t 0 : Nat) : Int)) :
    DecRel c { st := startRead raw, buffer := stale } NBIT_BUF_SIZE 0 (bytes stale) mask_buf offs lens masks (bitsI (bytesBits raw)) 0 :=
  ⟨rfl, hst, rfl, rfl, Nat.zero_le _, htab, hml, hmb, (startRead_ok raw).1, ⟨0, rfl, Nat.zero_le _, by rw [List.drop_zero, avail_startRead]⟩⟩


/-- the `comp_coder_nbit_info_t` record: the state fields and the arrays (the parameters `nt_size`, `mask_off`, … come from `Cfg`) -/
structure Rec where
  bufPos : Int
  bufLen : Int
  ntPos : Int
  offset : Int
  buffer : List Int
  maskBuf : List Int
  offs : List Int
  lens : List Int
  masks : List Int

/-- `HCIcnbit_init` (translated) on a record holding anything, `Hbitseek` succeeding; `none` = ub / out of fuel / FAIL -/
def initCall (c : Cfg) (r : Rec) : Option Rec :=
  let s := HCIcnbit_init c.ntSize r.bufPos r.bufLen r.ntPos r.offset r.maskBuf (b2i c.fillOne) c.ntSize c.maskOff c.maskLen r.offs r.lens r.masks 0
  if s.ub || s.oof || s.ret != 0 then none
  else some { r with bufPos := s.nbit_buf_pos, bufLen := s.nbit_buf_len, ntPos := s.nbit_nt_pos, offset := s.nbit_offset, maskBuf := s.nbit_mask_buf,
                     offs := s.nbit_mask_info_offset, lens := s.nbit_mask_info_length, masks := s.nbit_mask_info_mask }

/-- one `HCPcnbit_write` = one call of the TRANSLATED `HCIcnbit_encode`; result: the record and the `Hbitwrite` calls made -/
def writeCall (c : Cfg) (r : Rec) (bs : List UInt8) : Option (Rec × List Int) :=
  let s := HCIcnbit_encode bs.length r.ntPos r.lens r.masks r.offs c.ntSize r.offset bs.length (bytes bs) []
  if s.ub || s.oof || s.ret != 0 then none else some ({ r with ntPos := s.nbit_nt_pos, offset := s.nbit_offset }, s.io_out)

def writeCalls (c : Cfg) : Rec → List (List UInt8) → Option (Rec × List Int)
  | r, [] => some (r, [])
  | r, p :: ps => (writeCall c r p).bind fun a => (writeCalls c a.1 ps).map fun b => (b.1, a.2 ++ b.2)

/-- one `HCPcnbit_read(length = n)` = one call of the TRANSLATED `HCIcnbit_decode` into a fresh `n`-byte buffer, on the bit stream `io_in` from
    position `io_pos`; result: the record, the new position, the bytes delivered -/
def readCall (c : Cfg) (se : Int) (io_in : List Int) (r : Rec) (io_pos : Int) (n : Nat) : Option (Rec × Int × List Int) :=
  let s := HCIcnbit_decode (n + 1040) c.maskOff c.ntSize r.bufPos r.bufLen r.buffer r.maskBuf se r.lens r.offs r.masks (b2i c.fillOne) r.offset n
    (List.replicate n 0) io_in io_pos
  if s.ub || s.oof || s.ret != 0 then none
  else some ({ r with bufPos := s.nbit_buf_pos, bufLen := s.nbit_buf_len, buffer := s.nbit_buffer, offset := s.nbit_offset }, s.io_pos, s.buf)

def readCalls (c : Cfg) (se : Int) (io_in : List Int) : Rec → Int → List Nat → Option (List (List Int))
  | _, _, [] => some []
  | r, p, n :: ns => (readCall c se io_in r p n).bind fun a => (readCalls c se io_in a.1 a.2.1 ns).map fun b => a.2.2 :: b

/-- the arrays of the record have the sizes of `comp_coder_nbit_info_t`, the expansion buffer holds bytes -/
def Rec.WF (r : Rec) : Prop :=
  (∃ stale : List UInt8, stale.length = NBIT_BUF_SIZE ∧ r.buffer = bytes stale) ∧ r.maskBuf.length = NBIT_MASK_SIZE ∧
  r.offs.length = NBIT_MASK_SIZE ∧ r.lens.length = NBIT_MASK_SIZE ∧ r.masks.length = NBIT_MASK_SIZE

theorem initCall_ok (c : Cfg) (hr : InRange c) (r : Rec) (hwf : r.WF) :
    ∃ r', initCall c r = some r' ∧ r'.bufPos = NBIT_BUF_SIZE ∧ r'.bufLen = 0 ∧ r'.ntPos = 0 ∧ r'.offset = 0 ∧ r'.buffer = r.buffer ∧
      TabRel c r'.offs r'.lens r'.masks ∧ r'.maskBuf.length = NBIT_MASK_SIZE ∧
      (∀ t, t < c.ntSize → r'.maskBuf.getD t 0 = (((maskBuf c).getD t 0 : Nat) : Int)) := by
  obtain ⟨_, w2, w3, w4, w5⟩ := hwf
  have key := HCIcnbit_init_refines c hr c.ntSize (Nat.le_refl _) r.bufPos r.bufLen r.ntPos r.offset r.maskBuf r.offs r.lens r.masks w2 w3 w4 w5 0 (by decide)
  simp only at key
  generalize hs : HCIcnbit_init c.ntSize r.bufPos r.bufLen r.ntPos r.offset r.maskBuf (b2i c.fillOne) c.ntSize c.maskOff c.maskLen r.offs r.lens r.masks 0 = s at key
  obtain ⟨k1, k2, k3, k4, k5, k6, k7, k8, k9, k10, k11, k12⟩ := key
  refine ⟨{ r with bufPos := s.nbit_buf_pos, bufLen := s.nbit_buf_len, ntPos := s.nbit_nt_pos, offset := s.nbit_offset, maskBuf := s.nbit_mask_buf,
                     offs := s.nbit_mask_info_offset, lens := s.nbit_mask_info_length, masks := s.nbit_mask_info_mask },
    by simp only [initCall, hs, k1, k2, k3]; rfl, k4, k5, k6, k7, rfl, k12, ?_, ?_⟩
  · show s.nbit_mask_buf.length = _
    rw [k11]; simp [length_maskBuf, w2]
    have := hr.1; omega
  · intro t ht
    show s.nbit_mask_buf.getD t 0 = _
    rw [k11, List.getD_eq_getElem?_getD, List.getElem?_append_left (by simp [length_maskBuf]; exact ht)]
    simp [List.getD_eq_getElem?_getD, List.getElem?_map]
    cases (maskBuf c)[t]? <;> simp

theorem writeCalls_ok (c : Cfg) (hr : InRange c) : ∀ (pieces : List (List UInt8)) (r : Rec) (pos : Nat), pos < c.ntSize → r.ntPos = (pos : Int) →
    TabRel c r.offs r.lens r.masks → 0 ≤ r.offset → r.offset + pieces.flatten.length < 2 ^ 31 →
    ∃ r', writeCalls c r pieces = some (r', pairs (encode c pos pieces.flatten).1) ∧ r'.ntPos = ((encode c pos pieces.flatten).2 : Int) ∧
      r'.offset = r.offset + pieces.flatten.length ∧ r'.offs = r.offs ∧ r'.lens = r.lens ∧ r'.masks = r.masks ∧ r'.buffer = r.buffer ∧
      r'.maskBuf = r.maskBuf ∧ r'.bufPos = r.bufPos ∧ r'.bufLen = r.bufLen := by
  intro pieces
  induction pieces with
  | nil => intro r pos _ hp _ _ _; exact ⟨r, by simp [writeCalls, encode], by simpa [encode] using hp, by simp, rfl, rfl, rfl, rfl, rfl, rfl, rfl⟩
  | cons p ps ih =>
    intro r pos hpos hp htab ho hlen
    simp only [List.flatten_cons, List.length_append] at hlen
    have key := HCIcnbit_encode_refines c hr p pos p.length (Nat.le_refl _) hpos r.offs r.lens r.masks [] r.offset htab (by omega) (by omega)
    dsimp only at key
    rw [← hp] at key
    generalize hs : HCIcnbit_encode p.length r.ntPos r.lens r.masks r.offs c.ntSize r.offset p.length (bytes p) [] = s at key
    obtain ⟨k1, k2, k3, k4, k5, k6, k7, k8, k9⟩ := key
    have hn0 : 0 < c.ntSize := by omega
    have hpos' : (encode c pos p).2 < c.ntSize := by rw [encode_pos c p pos hpos]; exact Nat.mod_lt _ hn0
    obtain ⟨r2, w2, q1, q2, q3, q4, q5, q6, q7, q8, q9⟩ := ih { r with ntPos := s.nbit_nt_pos, offset := s.nbit_offset } (encode c pos p).2 hpos' k5 htab
      (by show 0 ≤ s.nbit_offset; rw [k6]; omega) (by show s.nbit_offset + _ < _; rw [k6]; omega)
    refine ⟨r2, ?_, ?_, ?_, q3, q4, q5, q6, q7, q8, q9⟩
    · have hw : writeCall c r p = some ({ r with ntPos := s.nbit_nt_pos, offset := s.nbit_offset }, s.io_out) := by
        simp only [writeCall, hs, k1, k2, k3]; rfl
      simp only [writeCalls, hw, Option.bind_some, w2, Option.map_some, List.flatten_cons, encode_append, pairs_append, k4, List.nil_append]
    · rw [q1]; simp only [List.flatten_cons, encode_append]
    · rw [q2]; simp only [List.flatten_cons, List.length_append, k6]; push_cast; omega

/-- **the `Hbitwrite` calls the C TEXT makes for an element**: from ANY record (arrays of the right sizes), the translated `HCIcnbit_init`
    followed by ANY sequence of write calls (`pieces`: any partition of the data, also one that cuts values, empty pieces included) through the
    translated `HCIcnbit_encode` runs without undefined behaviour and without failure and makes exactly the calls of the model's
    `encode c 0` on the concatenated data - the fields `nbit_projection` / `nbit_element_roundtrip` are about.  The result does not depend
    on how the data is split over the calls. -/
theorem cnbit_write_refines (c : Cfg) (hr : InRange c) (hn : 0 < c.ntSize) (r : Rec) (hwf : r.WF) (pieces : List (List UInt8))
    (_hlen : pieces.flatten.length < 2 ^ 31) :
    ((initCall c r).bind fun r' => (writeCalls c r' pieces).map (·.2)) = some (pairs (encode c 0 pieces.flatten).1) := by
  obtain ⟨r1, e1, i1, i2, i3, i4, i5, i6, i7, i8⟩ := initCall_ok c hr r hwf
  obtain ⟨r2, e2, _⟩ := writeCalls_ok c hr pieces r1 0 hn (by rw [i3]; rfl) i6 (by rw [i4]; decide) (by rw [i4]; omega)
  rw [e1, Option.bind_some, e2]; rfl

theorem readCall_ok (c : Cfg) (hr : InRange c) (se : Int) (hse : (se ≠ 0) ↔ c.signExt = true) (io_in : List Int) (d : Dec) (r : Rec)
    (io_pos : Int) (n : Nat) (hrel : DecRel c d r.bufPos r.bufLen r.buffer r.maskBuf r.offs r.lens r.masks io_in io_pos)
    (hb : itemsRead c (n + 1) d.bufPos d.bufLen n * (itemWidths c).sum ≤ (avail d.st).length) :
    ∃ (r' : Rec) (p' : Int), readCall c se io_in r io_pos n = some (r', p', bytes (decode c { d with sign := false } n).2) ∧
      DecRel c (decode c { d with sign := false } n).1 r'.bufPos r'.bufLen r'.buffer r'.maskBuf r'.offs r'.lens r'.masks io_in p' := by
  have key := dec_main c hr d n (n + 1040) (Nat.le_refl _) r.bufPos r.bufLen se r.offset io_pos r.buffer r.maskBuf r.offs r.lens r.masks io_in
    (List.replicate n 0) hse (by simp) hrel hb
  dsimp only at key
  generalize hs : HCIcnbit_decode (n + 1040) c.maskOff c.ntSize r.bufPos r.bufLen r.buffer r.maskBuf se r.lens r.offs r.masks (b2i c.fillOne)
    r.offset (n : Int) (List.replicate n 0) io_in io_pos = s at key
  obtain ⟨k1, k2, k3, k4, k5, k6, k7, k8, k9, k10, k11, k12, k13⟩ := key
  rw [k9, k10, k11, k12, k13] at k7
  refine ⟨{ r with bufPos := s.nbit_buf_pos, bufLen := s.nbit_buf_len, buffer := s.nbit_buffer, offset := s.nbit_offset }, s.io_pos, ?_, k7⟩
  simp only [readCall, hs, k1, k2, k3, k4]
  simp

theorem length_valueFields (c : Cfg) (hv : c.Field) : ∀ (vs : List (List UInt8)), (∀ v ∈ vs, v.length = c.ntSize) →
    (fieldsBits (valueFields c vs)).length = vs.length * (itemWidths c).sum := by
  intro vs
  induction vs with
  | nil => intro _; simp [valueFields_nil]
  | cons v vs ih =>
    intro h
    have hl := h v (by simp)
    obtain ⟨_, p2, _⟩ := H4.Props.C05.nbit_projection_any c hv v hl false
    rw [valueFields_cons, fieldsBits_append, List.length_append, ih (fun w hw => h w (by simp [hw])), ← H4.Props.C05.sum_widths, p2, List.length_cons, Nat.add_mul]
    omega

theorem readCalls_values (c : Cfg) (hr : InRange c) (se : Int) (hse : (se ≠ 0) ↔ c.signExt = true) (io_in : List Int) :
    ∀ (chunks : List (List (List UInt8))) (d : Dec) (r : Rec) (io_pos : Int) (tail : List Bool),
    (∀ ch ∈ chunks, ∀ v ∈ ch, v.length = c.ntSize) → DecRel c d r.bufPos r.bufLen r.buffer r.maskBuf r.offs r.lens r.masks io_in io_pos →
    d.bufLen ≤ d.bufPos → avail d.st = fieldsBits (valueFields c chunks.flatten) ++ tail →
    readCalls c se io_in r io_pos (chunks.map fun ch => ch.length * c.ntSize) = some (chunks.map fun ch => bytes (ch.map (project c)).flatten) := by
  have hn := hr.field.pos
  intro chunks
  induction chunks with
  | nil => intro d r io_pos tail _ _ _ _; rfl
  | cons ch chs ih =>
    intro d r io_pos tail hvs hrel hex hav
    have hch := hvs ch (by simp)
    simp only [List.flatten_cons, valueFields_append, fieldsBits_append, List.append_assoc] at hav
    obtain ⟨d', m1, m2, m3, m4⟩ := H4.Props.C05.decodeLoop_ok c hr.field (ch.length * c.ntSize + 1) ch { d with sign := false } [] _ (by
        have := Nat.le_mul_of_pos_right ch.length hn; omega) hch hrel.rinv hex hav
    have hbits : itemsRead c (ch.length * c.ntSize + 1) d.bufPos d.bufLen (ch.length * c.ntSize) * (itemWidths c).sum ≤ (avail d.st).length := by
      rw [itemsRead_whole c hn _ _ _ _ (by omega) hex, hav, List.length_append, length_valueFields c hr.field ch hch]; omega
    obtain ⟨r', p', hcall, hrel'⟩ := readCall_ok c hr se hse io_in d r io_pos _ hrel hbits
    have hdec : decode c { d with sign := false } (ch.length * c.ntSize) = (d', (ch.map (project c)).flatten) := by
      unfold decode; rw [m1, List.nil_append]
    rw [hdec] at hcall hrel'
    simp only [List.map_cons, readCalls, hcall, Option.bind_some, ih d' r' p' tail (fun ch' hc' => hvs ch' (by simp [hc'])) hrel' m3 m4, Option.map_some]

/-- the model's answer to a sequence of `HCPcnbit_read` calls: `decode` per call, the C variable `sign_bit` starting at 0 in each -/
def decodeCalls (c : Cfg) : Dec → List Nat → List (List UInt8)
  | _, [] => []
  | d, n :: ns => (decode c { d with sign := false } n).2 :: decodeCalls c (decode c { d with sign := false } n).1 ns

/-- every call of the sequence finds the bits of the items it expands -/
def CallsOK (c : Cfg) : Dec → List Nat → Prop
  | _, [] => True
  | d, n :: ns => itemsRead c (n + 1) d.bufPos d.bufLen n * (itemWidths c).sum ≤ (avail d.st).length ∧ CallsOK c (decode c { d with sign := false } n).1 ns

/-- **any partition of a read into calls** (`lens`: any byte counts, also ones that cut values, zero-length reads included): as long as
    the element holds the bits of the items expanded, the translated `HCIcnbit_decode` calls deliver, call by call, exactly what the model's
    `decode` delivers - the expansion buffer, `buf_pos` and `buf_len` carried in the record from call to call -/
theorem cnbit_read_refines (c : Cfg) (hr : InRange c) (hn : 0 < c.ntSize) (se : Int) (hse : (se ≠ 0) ↔ c.signExt = true) (io_in : List Int) :
    ∀ (lens : List Nat) (d : Dec) (r : Rec) (io_pos : Int), DecRel c d r.bufPos r.bufLen r.buffer r.maskBuf r.offs r.lens r.masks io_in io_pos →
    CallsOK c d lens → readCalls c se io_in r io_pos lens = some ((decodeCalls c d lens).map bytes) := by
  intro lens
  induction lens with
  | nil => intro d r io_pos _ _; rfl
  | cons n ns ih =>
    intro d r io_pos hrel hok
    obtain ⟨hb, hok'⟩ := hok
    obtain ⟨r', p', hcall, hrel'⟩ := readCall_ok c hr se hse io_in d r io_pos n hrel hb
    simp only [readCalls, hcall, Option.bind_some, ih _ r' p' hrel' hok', Option.map_some, decodeCalls, List.map_cons]

/-- `cnbit_read_values` for every value size the arrays can hold (`nt_size ≤ NBIT_MASK_SIZE`) -/
theorem cnbit_read_values_any (c : Cfg) (hr : InRange c) (se : Int) (hse : (se ≠ 0) ↔ c.signExt = true) (r : Rec) (hwf : r.WF)
    (chunks : List (List (List UInt8))) (hvs : ∀ ch ∈ chunks, ∀ v ∈ ch, v.length = c.ntSize) :
    ((initCall c r).bind fun r' => readCalls c se (bitsI (bytesBits (compress c chunks.flatten.flatten))) r' 0 (chunks.map fun ch => ch.length * c.ntSize)) =
      some (chunks.map fun ch => bytes (ch.map (project c)).flatten) := by
  obtain ⟨r1, e1, i1, i2, i3, i4, i5, i6, i7, i8⟩ := initCall_ok c hr r hwf
  obtain ⟨⟨stale, hs1, hs2⟩, _⟩ := hwf
  obtain ⟨kpad, hav⟩ := H4.Props.C05.avail_compress c hr.field chunks.flatten fun v hv' => by
    obtain ⟨ch, hch, hvc⟩ := List.mem_flatten.mp hv'
    exact hvs ch hch v hvc
  have hrel := decRel_start c (compress c chunks.flatten.flatten) stale hs1 r1.maskBuf r1.offs r1.lens r1.masks i6 i7 i8
  rw [e1, Option.bind_some]
  exact readCalls_values c hr se hse _ chunks { st := startRead (compress c chunks.flatten.flatten), buffer := stale } r1 0 _ hvs
    (by rw [i1, i2, i5, hs2]; exact hrel) (by simp) hav

/-- **the bytes the C TEXT delivers for an element of whole values**: `raw` = the bytes the bit layer stores for the `Hbitwrite` calls of the
    values `chunks.flatten` (`BitIO.pack`, proved against hbitio.c by C05 `bit_roundtrip`), the bit stream = the bits of `raw`.  From ANY
    record (arrays of the right sizes, the expansion buffer holding anything) the translated `HCIcnbit_init` followed by ANY sequence of read
    calls of whole values (`chunks` groups the values by call: any sizes, also larger than the 1024-byte expansion buffer, growing or
    shrinking) through the translated `HCIcnbit_decode` runs without undefined behaviour and without failure and delivers in every call
    exactly the documented projection (`project`, the specification on bit lists) of its values -/
theorem cnbit_read_values (c : Cfg) (hv : c.Valid) (se : Int) (hse : (se ≠ 0) ↔ c.signExt = true) (r : Rec) (hwf : r.WF)
    (chunks : List (List (List UInt8))) (hvs : ∀ ch ∈ chunks, ∀ v ∈ ch, v.length = c.ntSize) :
    ((initCall c r).bind fun r' => readCalls c se (bitsI (bytesBits (compress c chunks.flatten.flatten))) r' 0 (chunks.map fun ch => ch.length * c.ntSize)) =
      some (chunks.map fun ch => bytes (ch.map (project c)).flatten) :=
  cnbit_read_values_any c (inRange_of_valid hv) se hse r hwf chunks hvs

/-- `cnbit_write_read_roundtrip` for every value size the arrays can hold -/
theorem cnbit_write_read_roundtrip_any (c : Cfg) (hr : InRange c) (se : Int) (hse : (se ≠ 0) ↔ c.signExt = true) (rw rr : Rec) (hw : rw.WF) (hrr : rr.WF)
    (chunks : List (List (List UInt8))) (hvs : ∀ ch ∈ chunks, ∀ v ∈ ch, v.length = c.ntSize)
    (pieces : List (List UInt8)) (hp : pieces.flatten = chunks.flatten.flatten) (hlen : pieces.flatten.length < 2 ^ 31) :
    ∃ F : List (Nat × Nat), ((initCall c rw).bind fun r' => (writeCalls c r' pieces).map (·.2)) = some (pairs F) ∧
      ((initCall c rr).bind fun r' => readCalls c se (bitsI (bytesBits (H4.BitIO.pack F (some false)))) r' 0 (chunks.map fun ch => ch.length * c.ntSize)) =
        some (chunks.map fun ch => bytes (ch.map (project c)).flatten) := by
  have hn := hr.field.pos
  refine ⟨(encode c 0 pieces.flatten).1, cnbit_write_refines c hr hn rw hw pieces hlen, ?_⟩
  have := cnbit_read_values_any c hr se hse rr hrr chunks hvs
  rw [hp]
  exact this

/-- **write, then read back - all through the translated C functions**: for every valid configuration (sizes 1, 2, 4, 8; every
    `start_bit`/`bit_len`; both flags), every sequence of whole values, EVERY partition of the data into write calls (also one that cuts
    values) and EVERY grouping of the values into read calls: the translated `HCIcnbit_init` + `HCIcnbit_encode` calls make the `Hbitwrite`
    calls `F`, and the translated `HCIcnbit_init` + `HCIcnbit_decode` calls on the bits of the bytes the bit layer stores for `F` deliver the
    documented projection of the values written - `nbit_element_roundtrip` transferred to the C text (`decode (encode x) = x` on the kept
    bits, the dropped bits filled as documented) -/
theorem cnbit_write_read_roundtrip (c : Cfg) (hv : c.Valid) (se : Int) (hse : (se ≠ 0) ↔ c.signExt = true) (rw rr : Rec) (hw : rw.WF) (hrr : rr.WF)
    (chunks : List (List (List UInt8))) (hvs : ∀ ch ∈ chunks, ∀ v ∈ ch, v.length = c.ntSize)
    (pieces : List (List UInt8)) (hp : pieces.flatten = chunks.flatten.flatten) (hlen : pieces.flatten.length < 2 ^ 31) :
    ∃ F : List (Nat × Nat), ((initCall c rw).bind fun r' => (writeCalls c r' pieces).map (·.2)) = some (pairs F) ∧
      ((initCall c rr).bind fun r' => readCalls c se (bitsI (bytesBits (H4.BitIO.pack F (some false)))) r' 0 (chunks.map fun ch => ch.length * c.ntSize)) =
        some (chunks.map fun ch => bytes (ch.map (project c)).flatten) :=
  cnbit_write_read_roundtrip_any c (inRange_of_valid hv) se hse rw rr hw hrr chunks hvs pieces hp hlen


/-- the translated code runs, end to end: an `int16` element with bits 9..4 kept, sign-extended, filled with zeros; two values written in three
    calls (one cutting a value, one empty), the `Hbitwrite` calls are `(2,3) (4,15) (2,2) (4,0)`, i.e. the bytes `fe 00`; read back in two
    calls; the model says the same -/
example :
    (let c : Cfg := { ntSize := 2, signExt := true, fillOne := false, maskOff := 9, maskLen := 6 }
     let r : Rec := { bufPos := 3, bufLen := 9, ntPos := 1, offset := 77, buffer := List.replicate 1024 0xBE, maskBuf := List.replicate 16 0x5A,
                      offs := List.replicate 16 7, lens := List.replicate 16 7, masks := List.replicate 16 7 }
     ((initCall c r).bind fun r' => (writeCalls c r' [[0x03], [], [0xff, 0x02, 0x00]]).map (·.2)) = some [2, 3, 4, 15, 2, 2, 4, 0] ∧
     H4.BitIO.pack [(2, 3), (4, 15), (2, 2), (4, 0)] (some false) = [0xfe, 0x00] ∧
     ((initCall c r).bind fun r' => readCalls c 1 (bitsI (bytesBits [0xfe, 0x00])) r' 0 [2, 2]) = some [[0xff, 0xf0], [0xfe, 0x00]] ∧
     project c [0x03, 0xff] = [0xff, 0xf0] ∧ project c [0x02, 0x00] = [0xfe, 0x00]) := by
  decide +kernel

end H4.Props.C05NBitFn
