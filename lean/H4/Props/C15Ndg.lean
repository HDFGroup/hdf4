import H4.NdgAttrs
/-! # C15 — annotations and strings of an old-style data set, as the SD interface presents them

    `H4.NdgAttrs.ndgCharAttrs` is tied to the real `hdf_read_ndgs` by the `xapi` engine (`T xapi ndgattrs`, inputs read
    through AN and the H layer, outputs through SDattrinfo/SDreadattr).  Proved here about that model: every description and
    every label is presented, at a fixed position and under a fixed name, with exactly its own bytes and length, whatever
    the number, the lengths and the order of the other annotations (`hdf_read_ndgs` itself has room for 100 attributes per data set). -/
namespace H4.Props.C15Ndg
open H4.NdgAttrs H4.Gen.NdgAttrs

/-- the names are the ones the headers define (Tie A pins them on every run) -/
theorem consts : NAME_REMARKS = "remarks".toList.map Char.toNat ∧ NAME_ANNO_LABEL = "anno_label".toList.map Char.toNat ∧
    NAME_LONG_NAME = "long_name".toList.map Char.toNat ∧ NAME_UNITS = "units".toList.map Char.toNat ∧
    NAME_FORMAT = "format".toList.map Char.toNat ∧ NAME_COORDSYS = "coordsys".toList.map Char.toNat := by decide +kernel

/-- a text without NUL is presented whole -/
theorem cstr_nul_free (t : Bytes) (h : ∀ b ∈ t, b ≠ 0) : cstr t = t := by
  unfold cstr
  induction t with
  | nil => rfl
  | cons a l ih =>
    have ha : (a != 0) = true := by simpa using h a (by simp)
    rw [List.takeWhile_cons, ha]; simp only [↓reduceIte]
    rw [ih (fun b hb => h b (by simp [hb]))]

/-- in general what is presented is the part before the first NUL: never longer than the text, never bytes of another text -/
theorem cstr_prefix (t : Bytes) : cstr t <+: t := List.takeWhile_prefix _

/-- the k-th annotation of a kind becomes the k-th attribute of that kind and depends on its own text only -/
theorem annAttrs_getElem (base : List Nat) (l : List Bytes) (i : Nat) :
    (annAttrs base l)[i]? = l[i]?.map fun t => ⟨nameOf base (i + 1), cstr t⟩ := by
  unfold annAttrs; rw [List.getElem?_mapIdx]

theorem annAttrs_length (base : List Nat) (l : List Bytes) : (annAttrs base l).length = l.length := by
  unfold annAttrs; simp

theorem desc_attr (g : Ndg) (i : Nat) (h : i < g.descs.length) :
    (ndgCharAttrs g)[(strAttr NAME_COORDSYS g.sdc).length + i]? = some ⟨nameOf NAME_REMARKS (i + 1), cstr g.descs[i]⟩ := by
  unfold ndgCharAttrs
  rw [List.getElem?_append_right (Nat.le_add_right _ _), Nat.add_sub_cancel_left,
    List.getElem?_append_left (by rw [annAttrs_length]; exact h), annAttrs_getElem, List.getElem?_eq_getElem h]
  rfl

theorem label_attr (g : Ndg) (j : Nat) (h : j < g.labels.length) :
    (ndgCharAttrs g)[(strAttr NAME_COORDSYS g.sdc).length + g.descs.length + j]? = some ⟨nameOf NAME_ANNO_LABEL (j + 1), cstr g.labels[j]⟩ := by
  unfold ndgCharAttrs
  rw [Nat.add_assoc, List.getElem?_append_right (Nat.le_add_right _ _), Nat.add_sub_cancel_left,
    List.getElem?_append_right (by rw [annAttrs_length]; exact Nat.le_add_right _ _), annAttrs_length, Nat.add_sub_cancel_left,
    List.getElem?_append_left (by rw [annAttrs_length]; exact h), annAttrs_getElem, List.getElem?_eq_getElem h]
  rfl

/-- **Every description is presented**: description `i` (in `ANannlist` order, free of NUL bytes) is the attribute at position
    `[coordsys] + i`, named `remarks-<i+1>`, with exactly the bytes and the length AN returns — in the model for any number of
    descriptions and labels, of any lengths in any order. -/
theorem desc_presented (g : Ndg) (i : Nat) (h : i < g.descs.length) (hn : ∀ b ∈ g.descs[i], b ≠ 0) :
    (ndgCharAttrs g)[(strAttr NAME_COORDSYS g.sdc).length + i]? = some ⟨nameOf NAME_REMARKS (i + 1), g.descs[i]⟩ := by
  rw [desc_attr g i h, cstr_nul_free _ hn]

/-- **Every label is presented**: label `j` is the attribute at position `[coordsys] + #descriptions + j`, named `anno_label-<j+1>` -/
theorem label_presented (g : Ndg) (j : Nat) (h : j < g.labels.length) (hn : ∀ b ∈ g.labels[j], b ≠ 0) :
    (ndgCharAttrs g)[(strAttr NAME_COORDSYS g.sdc).length + g.descs.length + j]? = some ⟨nameOf NAME_ANNO_LABEL (j + 1), g.labels[j]⟩ := by
  rw [label_attr g j h, cstr_nul_free _ hn]

/-- what SD shows for description `i` does not depend on any other annotation (nor on anything else of the data set): two data
    sets that agree on description `i` show the same attribute for it -/
theorem desc_independent (g g' : Ndg) (i : Nat) (h : i < g.descs.length) (h' : i < g'.descs.length)
    (he : g.descs[i] = g'.descs[i]) :
    (ndgCharAttrs g)[(strAttr NAME_COORDSYS g.sdc).length + i]? = (ndgCharAttrs g')[(strAttr NAME_COORDSYS g'.sdc).length + i]? := by
  rw [desc_attr g i h, desc_attr g' i h', he]

/-- nothing but the strings and annotations becomes a character attribute: their number -/
theorem char_attr_count (g : Ndg) :
    (ndgCharAttrs g).length = (strAttr NAME_COORDSYS g.sdc).length + g.descs.length + g.labels.length +
      (strAttr NAME_LONG_NAME g.sdl).length + (strAttr NAME_UNITS g.sdu).length + (strAttr NAME_FORMAT g.sdf).length := by
  unfold ndgCharAttrs; simp only [List.length_append, annAttrs_length]; omega

/-- a data or dimension string is an attribute exactly when it is not empty -/
theorem strAttr_length (name : List Nat) (s : Bytes) : (strAttr name s).length = if cstr s = [] then 0 else 1 := by
  unfold strAttr; split <;> simp

/- the hypotheses are satisfiable, the statements are not vacuous: a longer description listed before a shorter one
   (the order in which a reused, non-cleared buffer would leak the tail of the first into the second) -/
example : ndgCharAttrs ⟨[99, 0], [[81, 67, 32, 102, 108, 97, 103, 10, 111, 107], [81, 67]], [[76]], [108, 0, 0, 0], [], []⟩ =
    [⟨NAME_COORDSYS, [99]⟩, ⟨nameOf NAME_REMARKS 1, [81, 67, 32, 102, 108, 97, 103, 10, 111, 107]⟩, ⟨nameOf NAME_REMARKS 2, [81, 67]⟩,
     ⟨nameOf NAME_ANNO_LABEL 1, [76]⟩, ⟨NAME_LONG_NAME, [108]⟩] := by decide +kernel
example : nameOf NAME_REMARKS 12 = "remarks-12".toList.map Char.toNat := by decide +kernel
example : ∀ b ∈ ([81, 67] : Bytes), b ≠ 0 := by decide +kernel

end H4.Props.C15Ndg
