import H4.Lemmas.VsUnpackResult
import H4.Props.C07Fn
import H4.Props.C02
/-! C07 / C02, function-level Tie A, DECODE side: `vunpackvs` of `hdf/src/vio.c`, as translated statement by statement from the
    CURRENT C text (`H4.Gen.Fn.Vio3`, written by gen/c2lean.py on every run), against the independent reader
    `H4.Format.vunpackvs` of the DFTAG_VH record (the reader `H4.Props.C02.vunpackvs_vpackvs` is about).

    * `vunpackvs_refines`: for EVERY buffer (a record of any length that the reader accepts, followed by anything) that satisfies
      `Pre`, the translated C never indexes outside a region, its eight loops terminate, it returns SUCCEED and leaves exactly the
      reader's header in `*vs`.
    * `vunpackvs_c_roundtrip`: translated `vunpackvs` ∘ translated `vpackvs` = identity on every header the format represents.
    * OBSERVATION: like `vunpackvg`, the C function has no length check; see the examples at the end (a truncated record makes the
      translated code read outside the buffer, a `vsname` longer than the fixed array makes it WRITE outside the array). -/
namespace H4.Props.C07Fn3
open H4 H4.Gen.Hdf H4.C2L H4.Lemmas.C07Fn3
open H4.Format hiding S32 S16
open H4.Lemmas.C08Fn (bytesI bytesI_length)
open H4.Lemmas.C08Fn3 (w16 be16 be16_eq be32N be32_eq vals vals_eq valsN fill_zero' drop_take_bytesI takeWhile_bytesI)
open H4.Gen.Fn.Vio3 (vunpackvs.St)

/-- what the C code needs of an accepted header beyond the reader's own checks: a version up to 4 (a higher one makes it read
    nothing), field names and `vsname` / `vsclass` shorter than 32768 bytes (their length prefix is read as `int16`), `vsname` and
    `vsclass` - up to their first NUL - fitting the fixed arrays of `*vs` (`nameCap`, `clsCap` cells) with the terminator, a
    non-negative attribute count -/
def Pre (v : VH) (nameCap clsCap : Nat) : Prop :=
  v.version ≤ 4 ∧ (∀ f ∈ v.fields, f.name.length < 32768) ∧ v.name.length < 32768 ∧ v.cls.length < 32768 ∧
  (cstr v.name).length < nameCap ∧ (cstr v.cls).length < clsCap ∧ (v.flags % 2 = 1 → v.attrs.length < 2147483648)

instance (v : VH) (a b : Nat) : Decidable (Pre v a b) := by unfold Pre; infer_instance

/-- the field table of `*vs` after the call (`M` = `map_from_old_types`, `D` = `DFKNTsize`) -/
def Table (M D : Int → Int) (v : VH) (s : St) : Prop :=
  if v.fields = [] then
    s.vs_wlist_bptr_null = true ∧ s.vs_wlist_type_null = true ∧ s.vs_wlist_off_null = true ∧ s.vs_wlist_isize_null = true ∧
      s.vs_wlist_order_null = true ∧ s.vs_wlist_esize_null = true ∧ s.vs_wlist_name_null = true
  else
    let n := v.fields.length
    let types := if v.version ≤ 2 then (v.fields.map (·.type)).map M else v.fields.map (·.type)
    s.vs_wlist_bptr_null = false ∧ s.vs_wlist_type_null = false ∧ s.vs_wlist_off_null = false ∧ s.vs_wlist_isize_null = false ∧
      s.vs_wlist_order_null = false ∧ s.vs_wlist_esize_null = false ∧ s.vs_wlist_name_null = false ∧
      s.vs_wlist_type = 0 ∧ s.vs_wlist_off = (n : Int) ∧ s.vs_wlist_isize = ((2 * n : Nat) : Int) ∧ s.vs_wlist_order = ((3 * n : Nat) : Int) ∧
      s.vs_wlist_esize = ((4 * n : Nat) : Int) ∧
      s.vs_wlist_bptr = types ++ ints (v.fields.map (·.off)) ++ ints (v.fields.map (·.isize)) ++ ints (v.fields.map (·.order)) ++
        esizes D types (ints (v.fields.map (·.order))) n ∧
      s.vs_wlist_name = v.fields.map fun f => bytesI (cstr f.name) ++ 0 :: List.replicate (f.name.length - (cstr f.name).length) 170

/-- the version-4 fields of `*vs` after the call (`a` = the state before: what is not in the record is not assigned) -/
def V4 (v : VH) (a s : St) : Prop :=
  if v.version = 4 then
    s.vs_flags = (v.flags : Int) ∧
    (if v.flags % 2 = 1 then
       s.vs_nattrs = (v.attrs.length : Int) ∧ s.vs_alist_null = false ∧ s.vs_alist_findex = v.attrs.map (·.findex) ∧
         s.vs_alist_atag = ints (v.attrs.map (·.atag)) ∧ s.vs_alist_aref = ints (v.attrs.map (·.aref))
     else s.vs_nattrs = a.vs_nattrs ∧ s.vs_alist_null = a.vs_alist_null ∧ s.vs_alist_findex = a.vs_alist_findex ∧
       s.vs_alist_atag = a.vs_alist_atag ∧ s.vs_alist_aref = a.vs_alist_aref)
  else s.vs_flags = a.vs_flags ∧ s.vs_nattrs = a.vs_nattrs ∧ s.vs_alist_null = a.vs_alist_null ∧ s.vs_alist_findex = a.vs_alist_findex ∧
    s.vs_alist_atag = a.vs_alist_atag ∧ s.vs_alist_aref = a.vs_alist_aref

/-- **`vunpackvs` as translated from vio.c computes the header the independent reader returns** - for EVERY record `rec` (any
    length, any bytes) that `H4.Format.vunpackvs` accepts as `v` and that satisfies `Pre` (what the C code needs beyond the
    reader's checks), followed in the buffer by anything (`tail`), with `len = |rec|`; `a` = the state of `*vs` before the call
    (`vsname` / `vsclass` are its fixed arrays, everything else is overwritten or, where the record has no such field, kept);
    `M` = `map_from_old_types`, `D` = `DFKNTsize` (any functions); `fuel ≥ |rec|` bounds the eight loop counts.
    Result: no access outside a region, the loops terminate, SUCCEED, and `*vs` holds `v`: the scalar fields, the field table
    (`Table`: one block of `5 n` cells = types, offsets, isizes, orders, esizes with the five cursors into it, the names as C
    strings in fresh rows), `vsname` / `vsclass` as C strings at the start of their arrays, `extag`, `exref`, the version-4 fields
    (`V4`). -/
theorem vunpackvs_refines (M D : Int → Int) (rec : Bytes) (tail : List Int) (v : VH) (hv : Format.vunpackvs rec = some v) (a : St)
    (hbuf : a.buf = bytesI rec ++ tail) (hlen : a.len = (rec.length : Int)) (hp : Pre v a.vs_vsname.length a.vs_vsclass.length)
    (fuel : Nat) (hf : rec.length ≤ fuel) :
    let s := vunpackvsC M D fuel a
    s.ub = false ∧ s.oof = false ∧ s.ret = 0 ∧ s.vs_version = v.version ∧ s.vs_more = v.more ∧ s.vs_interlace = v.interlace ∧
      s.vs_nvertices = v.nvert ∧ s.vs_wlist_ivsize = (v.ivsize : Int) ∧ s.vs_wlist_n = (v.fields.length : Int) ∧ Table M D v s ∧
      s.vs_vsname = bytesI (cstr v.name) ++ 0 :: a.vs_vsname.drop ((cstr v.name).length + 1) ∧
      s.vs_vsclass = bytesI (cstr v.cls) ++ 0 :: a.vs_vsclass.drop ((cstr v.cls).length + 1) ∧
      s.vs_extag = (v.extag : Int) ∧ s.vs_exref = (v.exref : Int) ∧ V4 v a s := by
  intro s
  obtain ⟨p1, p2, p3, p4, p5, p6, p7⟩ := hp
  have acc := vunpackvs_inv rec tail v hv
  generalize hB : bytesI rec ++ tail = B at acc hbuf
  have hBl : rec.length ≤ B.length := by rw [← hB]; simp
  have hs : s = run M D fuel (st0 a) := vunpackvs_phases M D fuel a
  have hi : Init B rec.length (st0 a) := ⟨hbuf, hlen, rfl, rfl, rfl, rfl⟩
  have hpos : pNm B = 10 + 8 * nfN B ∧ pVn B = namePos B (pNm B) (nfN B) ∧ pVc B = pVn B + 2 + lVn B ∧ pEx B = pVc B + 2 + lVc B := ⟨rfl, rfl, rfl, rfl⟩
  have hmono := namePos_mono B (pNm B) 0 (nfN B) (by omega)
  have hp0 : namePos B (pNm B) 0 = pNm B := rfl
  have hin := acc.inside
  obtain ⟨z0, z1, z2, z3, z4, z5⟩ := zipFields_length (nfN B) ((vals B 10 2 (nfN B)).map w16) (valsN B (10 + 2 * nfN B) 2 (nfN B))
    (valsN B (10 + 2 * nfN B + 2 * nfN B) 2 (nfN B)) (valsN B (10 + 2 * nfN B + 2 * nfN B + 2 * nfN B) 2 (nfN B)) (namesAt rec B (pNm B) (nfN B))
    (by simp) (by simp) (by simp) (by simp) (namesAt_length _ _ _ _)
  rw [← acc.fields] at z0 z1 z2 z3 z4 z5
  have hnm : v.name.length = lVn B := by rw [acc.name]; simp only [List.length_take, List.length_drop]; omega
  have hcl : v.cls.length = lVc B := by rw [acc.cls]; simp only [List.length_take, List.length_drop]; omega
  have hnames : ∀ t, t < nfN B → nameLen B (pNm B) t < 32768 := by
    intro t ht
    obtain ⟨g1, g2⟩ := namesAt_getElem rec B (pNm B) (nfN B) t ht (by show pVn B ≤ _; omega)
    have hmem : (v.fields[t]'(by rw [z0]; exact ht)) ∈ v.fields := List.getElem_mem _
    have := p2 _ hmem
    have e : (v.fields[t]'(by rw [z0]; exact ht)).name = (namesAt rec B (pNm B) (nfN B))[t]'(by rw [namesAt_length]; exact ht) := by
      have := congrArg (fun l => l[t]?) z5
      simp only [List.getElem?_map] at this
      rw [List.getElem?_eq_getElem (by rw [z0]; exact ht), List.getElem?_eq_getElem (by rw [namesAt_length]; exact ht)] at this
      simpa using this
    rw [e, g1, g2] at this
    exact this
  have hk : HeadOK B (SPre B rec.length (st0 a)) := by
    refine ⟨acc.nf, hnames, by rw [← hnm]; exact p3, by rw [← hcl]; exact p4, by omega, ?_, ?_, ?_, ?_⟩
    · show _ + 1 ≤ a.vs_vsname.length
      rw [← hB, drop_take_bytesI rec tail _ _ (by rw [hB]; omega), takeWhile_bytesI, bytesI_length, hB, ← acc.name]; exact p5
    · show _ + 1 ≤ a.vs_vsclass.length
      rw [← hB, drop_take_bytesI rec tail _ _ (by rw [hB]; omega), takeWhile_bytesI, bytesI_length, hB, ← acc.cls]; exact p6
    · show _ = w16 (be16 B (rec.length - 5)); rw [acc.midv, acc.version]
    · show _ = w16 (be16 B (rec.length - 3)); rw [acc.midm, acc.more]
  have hver4 : w16 (be16 B (rec.length - 5)) = 4 → v.version = 4 := fun h => by rw [acc.version]; exact h
  obtain ⟨r, r1, r2, r3⟩ := run_ok M D hi fuel acc.len5 hBl (by rw [← acc.version]; exact p1) hk
    (fun h4 => by
      obtain ⟨t1, t2, t3, _⟩ := acc.v4 (hver4 h4)
      refine ⟨by omega, fun hb => ?_⟩
      have hodd : v.flags % 2 = 1 := by rw [t2]; exact hb
      obtain ⟨u1, u2, u3⟩ := t3 hodd
      have e12 : pEx B + 8 + 4 = pEx B + 12 := by omega
      rw [e12]
      have hal : v.attrs.length = be32N B (pEx B + 12) := by rw [u3, attrsAt_length]
      exact ⟨by rw [← hal]; exact p7 hodd, by omega, by omega⟩)
    (by omega)
  rw [← hs] at r
  have hn : (v.fields.length : Int) = (nfN B : Int) := by rw [z0]
  obtain ⟨k1, k2, k3, k4, k5, k6, k7⟩ := SFin_head M D B rec.length (st0 a)
  refine ⟨by rw [r]; exact r1, by rw [r]; exact r2, by rw [r, r3, k3], by rw [r, k1, acc.version], by rw [r, k2, acc.more],
    by rw [r, k4, acc.il], by rw [r, k5, acc.nv], by rw [r, k6, acc.ivs, be16_eq], by rw [r, k7, hn], ?_, ?_, ?_,
    by rw [r, SFin_extag, acc.extag, be16_eq], by rw [r, SFin_exref, acc.exref, be16_eq], ?_⟩
  · rw [r]
    simp only [Table]
    by_cases hf0 : v.fields = []
    · rw [if_pos hf0]
      have h0 : nfN B = 0 := by rw [← z0, hf0]; rfl
      exact SFin_nofields M D B rec.length (st0 a) h0
    · rw [if_neg hf0]
      have h0 : nfN B ≠ 0 := by
        intro e; rw [← z0] at e; exact hf0 (List.eq_nil_of_length_eq_zero e)
      obtain ⟨f1, f2, f3, f4, f5, f6, f7, f8, f9, f10, f11, f12, f13⟩ := SFin_fields M D B rec.length (st0 a) h0
      have hb := SFin_block M D B rec.length (st0 a) h0
      have eT : typesAt B = v.fields.map (·.type) := z1.symm
      have eO : offsAt B = ints (v.fields.map (·.off)) := by rw [z3]; exact vals_eq _ _ _ _
      have eI : isizesAt B = ints (v.fields.map (·.isize)) := by rw [z2]; exact vals_eq _ _ _ _
      have eR : ordersAt B = ints (v.fields.map (·.order)) := by rw [z4]; exact vals_eq _ _ _ _
      rw [eT, eO, eI, eR, ← acc.version, ← z0] at hb
      rw [← z0] at f9 f10 f11 f12
      refine ⟨f1, f2, f3, f4, f5, f6, f7, f8, f9, f10, f11, f12, hb, ?_⟩
      rw [f13, ← hB, rowsAt_names rec tail _ _ (by rw [hB]; show pVn B ≤ _; omega), hB, ← z5, List.map_map]
      rfl
  · rw [r, SFin_vsname, ← hB, cstrInto_eq rec tail _ _ _ (by rw [hB]; omega), hB, ← acc.name]; rfl
  · rw [r, SFin_vsclass, ← hB, cstrInto_eq rec tail _ _ _ (by rw [hB]; omega), hB, ← acc.cls]; rfl
  · rw [r]
    simp only [V4]
    by_cases h4 : v.version = 4
    · rw [if_pos h4]
      have h4' : w16 (be16 B (rec.length - 5)) = 4 := by rw [← acc.version]; exact h4
      obtain ⟨t1, t2, t3, t4⟩ := acc.v4 h4
      refine ⟨by rw [SFin_flags4 M D B _ _ h4', t2, be32_eq], ?_⟩
      by_cases hodd : v.flags % 2 = 1
      · rw [if_pos hodd]
        obtain ⟨u1, u2, u3⟩ := t3 hodd
        have hbit : be32N B (pEx B + 8) % 2 = 1 := by rw [← t2]; exact hodd
        obtain ⟨w1, w2, w3, w4, w5⟩ := SFin_attrs M D B rec.length (st0 a) h4' hbit
        have e12 : pEx B + 8 + 4 = pEx B + 12 := by omega
        have e16 : pEx B + 8 + 8 = pEx B + 16 := by omega
        rw [e12] at w1 w3 w4 w5
        rw [e16] at w3 w4 w5
        have hal : v.attrs.length = be32N B (pEx B + 12) := by rw [u3, attrsAt_length]
        refine ⟨by rw [w1, hal], w2, ?_, ?_, ?_⟩
        · rw [w3, vals32_attrs, ← u3, fill_zero' _ _ (by rw [← hal]; simp)]
        · rw [w4, vals_atag, ← u3, fill_zero' _ _ (by rw [← hal]; simp [ints])]
        · rw [w5, vals_aref, ← u3, fill_zero' _ _ (by rw [← hal]; simp [ints])]
      · rw [if_neg hodd]
        have hbit : ¬ be32N B (pEx B + 8) % 2 = 1 := by rw [← t2]; exact hodd
        let f (t : St) := (t.vs_nattrs, t.vs_alist_null, t.vs_alist_findex, t.vs_alist_atag, t.vs_alist_aref)
        have h := SFin_noattr f M D B rec.length (st0 a) h4' hbit (Smid_keep f B _ _)
        simp only [f, Prod.mk.injEq] at h
        exact h
    · rw [if_neg h4]
      have h4' : w16 (be16 B (rec.length - 5)) ≠ 4 := by rw [← acc.version]; exact h4
      let f (t : St) := (t.vs_flags, t.vs_nattrs, t.vs_alist_null, t.vs_alist_findex, t.vs_alist_atag, t.vs_alist_aref)
      have h := SFin_v3 f M D B rec.length (st0 a) h4' (Smid_keep f B _ _)
      simp only [f, Prod.mk.injEq] at h
      exact h

/-- a zeroed `*vs` (what `VSIget_vdata_node` hands to `VSPgetinfo`): every pointer NULL, `vsname` / `vsclass` arrays of
    `VSNAMELENMAX + 1` zero bytes -/
def zeroed (buf : List Int) (len : Int) : St :=
  { vs_version := 0, vs_more := 0, vs_interlace := 0, vs_nvertices := 0, vs_wlist_ivsize := 0, vs_wlist_n := 0, vs_wlist_bptr_null := true,
    vs_wlist_type_null := true, vs_wlist_off_null := true, vs_wlist_isize_null := true, vs_wlist_order_null := true, vs_wlist_esize_null := true,
    vs_wlist_name_null := true, vs_wlist_bptr := [], vs_wlist_type := 0, vs_wlist_off := 0, vs_wlist_isize := 0, vs_wlist_order := 0,
    vs_wlist_esize := 0, vs_wlist_name := [], vs_vsname := List.replicate 65 0, vs_vsclass := List.replicate 65 0, vs_extag := 0, vs_exref := 0,
    vs_flags := 0, vs_nattrs := 0, vs_alist_null := true, vs_alist_findex := [], vs_alist_atag := [], vs_alist_aref := [], buf := buf, len := len }

example :
    let v : VH := ⟨0, 20, 12, [⟨24, 4, 0, 1, [0x61]⟩, ⟨5, 8, 4, 2, [0x62, 0x63]⟩], [0x74], [0x63], 0, 0, 4, 0, 1, [⟨-1, 1962, 9⟩, ⟨1, 1962, 10⟩]⟩
    let rc := Format.vpackvs v
    Format.vunpackvs rc = some v ∧ rc.length = 76 ∧
    let s := vunpackvsC (fun t => t) (fun _ => 4) 76 (zeroed (bytesI rc ++ [9]) 76)
    s.ub = false ∧ s.oof = false ∧ s.ret = 0 ∧ s.vs_version = 4 ∧ s.vs_wlist_n = 2 ∧ s.vs_wlist_bptr = [24, 5, 0, 4, 4, 8, 1, 2, 4, 8] ∧
      s.vs_wlist_name = [[0x61, 0], [0x62, 0x63, 0]] ∧ s.vs_vsname.take 3 = [0x74, 0, 0] ∧ s.vs_flags = 1 ∧ s.vs_nattrs = 2 ∧
      s.vs_alist_findex = [-1, 1] ∧ s.vs_alist_aref = [9, 10] := by
  decide +kernel
theorem cstr_of_nameOK (b : Bytes) (h : H4.Lemmas.C07Fn.NameOK b) : cstr b = b := by
  simp only [cstr]
  have : ∀ l : Bytes, (0 : UInt8) ∉ l → l.takeWhile (· ≠ 0) = l := by
    intro l
    induction l with
    | nil => intro _; rfl
    | cons x xs ih =>
      intro hl
      have hx : x ≠ 0 := fun e => hl (by simp [e])
      simp only [List.takeWhile_cons, ne_eq, hx, not_false_eq_true, decide_true, if_true, ih (fun e => hl (List.mem_cons_of_mem _ e))]
  exact this b h.2

/-- **translated `vunpackvs` ∘ translated `vpackvs` = identity** on every header the format represents (`VH.WF`) whose names are
    C strings (`C07Fn.Pre`, the precondition of `vpackvs_refines`), with a version up to 4 and `vsname` / `vsclass` shorter than
    the arrays of the receiving `*vs`: the record that the C text of `vpackvs` writes into `buf`, handed with the `*size` it
    stored to the C text of `vunpackvs` (on any `*vs` = `a`), is read back without undefined behaviour as the header that was
    packed. -/
theorem vunpackvs_c_roundtrip (M D : Int → Int) (v : VH) (hw : v.WF) (hp : C07Fn.Pre v) (hv : v.version ≤ 4)
    (fuel : Nat) (hf1 : v.fields.length ≤ fuel) (hf2 : v.flags % 2 = 1 → v.attrs.length ≤ fuel)
    (tpad ipad opad dpad rowpad : List Int) (rows : List (List Int)) (npad cpad fpad atpad arpad buf size : List Int)
    (hbuf : (Format.vpackvs v).length ≤ buf.length) (hsize : 0 < size.length)
    (fuel' : Nat) (hf3 : (Format.vpackvs v).length ≤ fuel') (a : St) (hn : v.name.length < a.vs_vsname.length) (hc : v.cls.length < a.vs_vsclass.length) :
    let sp := H4.Lemmas.C07Fn.vpackvsC fuel v.interlace v.nvert (v.ivsize : Int) (v.fields.length : Int) (v.fields.map (·.type) ++ tpad)
      (ints (v.fields.map (·.isize)) ++ ipad) (ints (v.fields.map (·.off)) ++ opad) (ints (v.fields.map (·.order)) ++ dpad)
      (v.fields.map (fun f => bytesI f.name ++ 0 :: rowpad) ++ rows) (bytesI v.name ++ 0 :: npad) (bytesI v.cls ++ 0 :: cpad)
      (v.extag : Int) (v.exref : Int) v.version v.more (v.flags : Int) (v.attrs.length : Int) (v.attrs.map (·.findex) ++ fpad)
      (ints (v.attrs.map (·.atag)) ++ atpad) (ints (v.attrs.map (·.aref)) ++ arpad) buf size
    let su := vunpackvsC M D fuel' { a with buf := sp.buf, len := sp.size.getD 0 0 }
    sp.ub = false ∧ sp.oof = false ∧ su.ub = false ∧ su.oof = false ∧ su.ret = 0 ∧ su.vs_version = v.version ∧ su.vs_more = v.more ∧
      su.vs_interlace = v.interlace ∧ su.vs_nvertices = v.nvert ∧ su.vs_wlist_ivsize = (v.ivsize : Int) ∧ su.vs_wlist_n = (v.fields.length : Int) ∧
      Table M D v su ∧ su.vs_vsname = bytesI v.name ++ 0 :: a.vs_vsname.drop (v.name.length + 1) ∧
      su.vs_vsclass = bytesI v.cls ++ 0 :: a.vs_vsclass.drop (v.cls.length + 1) ∧ su.vs_extag = (v.extag : Int) ∧ su.vs_exref = (v.exref : Int) ∧
      V4 v a su := by
  intro sp su
  obtain ⟨p1, p2, p3, p4, _⟩ := C07Fn.vpackvs_refines v hp fuel hf1 hf2 tpad ipad opad dpad rowpad rows npad cpad fpad atpad arpad buf size hbuf hsize
  have hlen : sp.size.getD 0 0 = ((Format.vpackvs v).length : Int) := by
    show (H4.Lemmas.C07Fn.vpackvsC _ _ _ _ _ _ _ _ _ _ _ _ _ _ _ _ _ _ _ _ _ _ _).size.getD 0 0 = _
    rw [p4]
    cases size with
    | nil => exact absurd hsize (by decide)
    | cons x t => simp
  obtain ⟨q1, q2, q3, q4, q5, q6⟩ := hp
  have cn := cstr_of_nameOK v.name q3
  have cc := cstr_of_nameOK v.cls q4
  have hrt : Format.vunpackvs (Format.vpackvs v) = some v := C02.vunpackvs_vpackvs v hw
  have hpre : Pre v a.vs_vsname.length a.vs_vsclass.length :=
    ⟨hv, fun f hf => (q2 f hf).1, q3.1, q4.1, by rw [cn]; exact hn, by rw [cc]; exact hc, q6⟩
  have h := vunpackvs_refines M D (Format.vpackvs v) (buf.drop (Format.vpackvs v).length) v hrt
    { a with buf := sp.buf, len := sp.size.getD 0 0 }
    (by show sp.buf = _; show (H4.Lemmas.C07Fn.vpackvsC _ _ _ _ _ _ _ _ _ _ _ _ _ _ _ _ _ _ _ _ _ _ _).buf = _; rw [p3])
    (by show sp.size.getD 0 0 = _; exact hlen) hpre fuel' hf3
  obtain ⟨u1, u2, u3, u4, u5, u6, u7, u8, u9, u10, u11, u12, u13, u14, u15⟩ := h
  rw [cn] at u11
  rw [cc] at u12
  exact ⟨p1, p2, u1, u2, u3, u4, u5, u6, u7, u8, u9, u10, u11, u12, u13, u14, u15⟩

/-- OBSERVATION (memory safety on crafted records, not one of the 20 properties): `vunpackvs` has no length check.
    (1) a record cut short: the reader refuses it, the translated C reads outside the buffer;
    (2) a record the reader ACCEPTS whose `vsname` has 70 bytes: `HIstrncpy(vs->vsname, …, 71)` stores behind the 65-byte array
        (`Pre` excludes it: the library itself never writes such a name, VSsetname truncates to VSNAMELENMAX) -/
example :
    let v : VH := ⟨0, 20, 12, [⟨24, 4, 0, 1, [0x61]⟩], [0x74], [0x63], 0, 0, 3, 0, 0, []⟩
    let rc := (Format.vpackvs v).take 20
    Format.vunpackvs rc = none ∧ (vunpackvsC (fun t => t) (fun _ => 4) 30 (zeroed (bytesI rc) 20)).ub = true ∧
    let w : VH := ⟨0, 0, 0, [], List.replicate 70 0x41, [], 0, 0, 3, 0, 0, []⟩
    Format.vunpackvs (Format.vpackvs w) = some w ∧ ¬ Pre w 65 65 ∧
      (vunpackvsC (fun t => t) (fun _ => 4) 100 (zeroed (bytesI (Format.vpackvs w)) (Format.vpackvs w).length)).ub = true := by
  decide +kernel

end H4.Props.C07Fn3
