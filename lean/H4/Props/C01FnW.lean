import H4.Lemmas.C01FnW
/-! # C01 / C20, function level — `Hwrite` of `hdf/src/hfile.c` as TRANSLATED from the C text (see `H4.Props.C01Fn` for the conventions) -/
namespace H4.Props.C01Fn
open H4 H4.Elem H4.Gen.Fn.Hfile2 H4.Gen.Hdf H4.Lemmas.C01Fn

/-- offset of the element's data as the write sees it: a new element is placed at the end of the file first -/
def writeOff (f : File) (d : DD) : Int := if d.ext = none then (f.endOff : Int) else ddOff d

/-- **`Hwrite` refines `hwrite`** on an ordinary record with or without an extent, where the layer below succeeds (`HPseek`, `HP_write`,
    `HTPupdate`, `HPgetdiskblock` = the old end of file), the write stays below offset 2^31-2 (`hfit`; beyond it see `C20Fn`) and the fuel
    covers the zero fill (`hfuel`): result, position, flags, descriptor, end of file, and the exact call log `writeCalls`.  `conv` is the answer
    of `HLconvert`, `rew` that of the write on the converted element, ASSUMED to be what the model answers (`hrew`): on the promotion path
    the result is therefore an input and the record is not compared (first disjunct); what the theorem says there is the call log. -/
theorem Hwrite_refines (w : World) (h : Nat) (a : Acc) (hw : w.acc h = some a) (hs : a.special = false)
    (bs : Bytes) (aid ddid tag ref refc cur conv rew : Int) (acc fuel : Nat) (calls : List (List Int)) (hacc : WriteBit acc a)
    (hopen : refc ≠ 0) (hfi : a.file < w.files.length) (hsl : a.slot < (w.file a.file).mem.length)
    (hne : a.newElem = false → ((w.file a.file).dd a.slot).ext ≠ none)
    (hfuel : (a.posn + 511) / 512 ≤ fuel)
    (hfit : (bs.length : Int) + writeOff (w.file a.file) ((w.file a.file).dd a.slot) + a.posn ≤ 2147483646)
    (hconv : conv = -1 ↔ (w.file a.file).writable = false)
    (hrew : rew = resCode (hwrite w h bs).2) :
    let f := w.file a.file
    let d := f.dd a.slot
    let s := Hwrite fuel aid bs.length false false acc 0 false refc (b2i a.newElem) ddid 0 calls tag ref (ddOff d) (ddLen d) f.endOff f.endOff 0
      (b2i a.appendable) a.posn conv a.blockSize a.numBlocks rew 0 cur 0
    let r := hwrite w h bs
    s.ub = false ∧ s.oof = false ∧ s.ret = resCode r.2 ∧
    ((∃ c ∈ s.calls, c.head? = some cREWRITE) ∨
      (accView r.1 h = some (s.access_rec_posn, s.access_rec_appendable, s.access_rec_new_elem) ∧
       ddView (r.1.file a.file) a.slot = (s.dd_off, s.dd_len, s.file_rec_f_end_off))) ∧
    s.calls = calls ++ (if a.canWrite = true then (if a.newElem = true then [[cINQ, ddid]] else []) ++ writeCalls aid ddid conv a f bs.length else []) := by
  intro f d s r
  have hf : w.file a.file = f := rfl
  have hd : f.dd a.slot = d := rfl
  clear_value d f
  rw [hf] at hsl hne hfit hconv
  rw [hd] at hne hfit
  rcases hacc.cases with ⟨hcw, hbit⟩ | ⟨hcw, hbit⟩
  · have hm : hwrite w h bs = (w, .fail) := by unfold hwrite; simp [hw, hcw]
    have e : s = _ := Wr.entry_denied (hbit := hbit) ..
    simp [e, Wr.init, r, hm, hw, hf, hd, hcw, resCode, accView, ddView, -List.reduceReplicate]
  · have hfi' : a.file < (w.refresh h).files.length := by rw [refresh_files]; exact hfi
    rcases ddLen_cases d with ⟨he, hl, ho⟩ | ⟨o, l, he, hl, ho⟩
    · have hn : a.newElem = true := by
        cases hx : a.newElem
        · exact absurd he (hne hx)
        · rfl
      have hm := hwrite_new w h a hw hs hcw bs hn (by rw [hf, hd]; exact he)
      rw [hf] at hm
      obtain ⟨f1e, f1end, f1mem, f1wr⟩ := setLength_facts f a.slot bs.length hsl
      have hwo : writeOff f d = f.endOff := by simp [writeOff, he]
      rw [hwo] at hfit
      have e : s = _ := Wr.entry_new (hbit := hbit) (hr := hopen) (hne := by rw [hn]; rfl) (ho := ho) (hl := hl) (hb := rfl)
        (he := Int.natCast_nonneg _) (hlen := Int.natCast_nonneg _) ..
      rw [← Int.natCast_add, ← f1end] at e
      have := Wr.look_refines_plain (w.refresh h) h a bs fuel aid acc refc ddid tag ref _ conv rew cur true _ _ _ _ s r e hm hrew hfi' hfuel f1e
        (by rw [f1mem]; exact hsl) (by rw [f1wr]; exact hconv) hfit
      simpa [writeCalls, hd, he, hcw, hn, f1end, -List.reduceReplicate] using this
    · have hm := hwrite_old w h a hw hs hcw bs o l (by rw [hf, hd]; exact he)
      rw [hf] at hm
      have hwo : writeOff f d = o := by simp [writeOff, he, ho]
      rw [hwo] at hfit
      have e : s = _ := Wr.entry_old (hbit := hbit) (hr := hopen) (ne := a.newElem) (ho := show ddOff d ≠ -1 by rw [ho]; omega) ..
      rw [hl, ho] at e
      have := Wr.look_refines_plain (w.refresh h) h a bs fuel aid acc refc ddid tag ref _ conv rew cur a.appendable f o l _ s r e hm hrew hfi' hfuel
        (by rw [hd]; exact he) hsl hconv hfit
      simpa [writeCalls, hd, he, hcw, -List.reduceReplicate] using this

-- the 8-byte element at offset 10 (end of file 18), position 2: an in-place `Hwrite` of 3 bytes = `HPseek(12)`, `HP_write(3)`
set_option maxRecDepth 16000 in
example : let s := Hwrite 1 7 3 false false 3 0 false 1 0 5 0 [] 100 1 10 8 18 18 0 0 2 0 4096 16 3 0 0 0
    s.ub = false ∧ s.oof = false ∧ s.ret = 3 ∧ s.access_rec_posn = 5 ∧ s.dd_len = 8 ∧ s.file_rec_f_end_off = 18 ∧
    s.calls = [[1, 5], [3, 12], [5, 3]] := by decide +kernel
-- appendable, positioned at 10 (2 bytes beyond the end), last in the file: zero fill `HPseek(18)`, `HP_write(2)`; new length 13; the transfer
set_option maxRecDepth 16000 in
example : let s := Hwrite 1 7 3 false false 3 0 false 1 0 5 0 [] 100 1 10 8 18 18 0 1 10 0 4096 16 3 0 0 0
    s.ub = false ∧ s.oof = false ∧ s.ret = 3 ∧ s.access_rec_posn = 13 ∧ s.dd_len = 13 ∧ s.file_rec_f_end_off = 23 ∧
    s.calls = [[1, 5], [3, 18], [5, 2], [2, 5, -2, 13], [3, 20], [5, 3]] := by decide +kernel
-- appendable but NOT last in the file (end of file 40): promotion `HLconvert(aid, 4096, 16)`, then the write on the converted element
set_option maxRecDepth 16000 in
example : let s := Hwrite 1 7 3 false false 3 0 false 1 0 5 0 [] 100 1 10 8 40 40 0 1 7 0 4096 16 3 0 0 0
    s.ret = 3 ∧ s.calls = [[1, 5], [6, 7, 4096, 16], [9, 7, 3]] := by decide +kernel
-- a new element (no extent) in a file that ends at 18: `Hsetlength(3)` first, then the transfer at offset 18
set_option maxRecDepth 16000 in
example : let s := Hwrite 1 7 3 false false 3 0 false 1 1 5 0 [] 100 1 (-1) (-1) 18 18 0 0 0 0 4096 16 3 0 0 0
    s.ub = false ∧ s.ret = 3 ∧ s.access_rec_new_elem = 0 ∧ s.access_rec_appendable = 1 ∧ s.dd_off = 18 ∧ s.dd_len = 3 ∧
    s.file_rec_f_end_off = 21 ∧ s.calls = [[1, 5], [1, 5], [7, 3, 0], [2, 5, 18, 3], [1, 5], [3, 18], [5, 3]] := by decide +kernel

end H4.Props.C01Fn
