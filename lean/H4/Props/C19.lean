import H4.Lemmas.ToolsDiff
import H4.Lemmas.Slab
/-! # C19 — inspection tools report what is in the file (property theorems)

`hdiff`: the element test of `array_diff` (`differs`), its counting loop, the object matching of `hdiff.c:match` and the
exit status; `hdp`: dump order; `hdfimport`: shape rule, and the loop over the input files of one run (type / shape / reader of every
file are those of the file alone).  Statements are about the code AS IT IS: several of them say
precisely where the tool is blind (see the `example`s). -/
namespace H4.Props.C19
open H4.Tools H4.Slab

theorem wrapS_zero (bits : Nat) (h : 0 < bits) : wrapS bits 0 = 0 := by
  unfold wrapS
  have : (0 : Int) < (2 : Int) ^ bits / 2 := by
    have h2 : (2 : Int) ^ bits = 2 ^ (bits - 1) * 2 := by
      rw [← Int.pow_succ]; congr 1; omega
    rw [h2, Int.mul_ediv_cancel _ (by decide)]
    exact Int.pow_pos (by decide)
  simp [this]

/-- **differs_refl.** No value differs from itself: for every number type, every non-negative `-t` limit and every
    non-negative `-p` limit (of the model; hdiff converts `-t` to `int` for the integer types: below 2^31 only; the usage text requires positive values; with a negative limit `array_diff` reports
    equal values as different). -/
theorem differs_refl (t : NT) (o : DiffOpts) (a : Int) (ht : 0 ≤ o.tl8) (hp : 0 ≤ o.pr8) : differs t o a a = false := by
  unfold differs
  simp only
  split
  · split
    · simp; omega
    · rename_i h0
      have : ((stored t a) - (stored t a)).natAbs = 0 := by omega
      rw [this]
      have : (0 : Int) ≤ o.pr8 * ((stored t a).natAbs : Int) := Int.mul_nonneg hp (by omega)
      simp; omega
  · rw [absDiff_self]
    have := absLimit_nonneg t o ht
    simp; omega

example : differs .i8 { tl8 := -8 } 5 5 = true := by decide   -- a negative limit breaks reflexivity

/-- **differs_symm (absolute criterion).** Without `-p`, `|a-b| > limit` does not depend on the order of the files. -/
theorem differs_symm (t : NT) (o : DiffOpts) (a b : Int) (hp : o.pr8 = 0) : differs t o a b = differs t o b a := by
  unfold differs
  simp [hp, absDiff_comm t a b]

/-- **The relative criterion is asymmetric**: `|(b-a)/a| > p` divides by the value of the FIRST file.
    Exact statement: with `A`, `B` the stored values and `p = pr8/8 > 0`, the pair is reported in the order (a,b) but not
    in the order (b,a) exactly when either `A ≠ 0 ≠ B` and `p·|A| < |B-A| ≤ p·|B|`, or `A = 0 ≠ B` and `p ≥ 1`
    ("not comparable" one way, `|A-B|/|B| = 1 ≤ p` the other way). -/
theorem differs_rel_asym_iff (t : NT) (o : DiffOpts) (a b : Int) (hp : 0 < o.pr8) :
    (differs t o a b = true ∧ differs t o b a = false) ↔
      ((stored t a ≠ 0 ∧ stored t b ≠ 0 ∧ o.pr8 * (stored t a).natAbs < ((stored t b) - (stored t a)).natAbs * 8
          ∧ ((stored t b) - (stored t a)).natAbs * 8 ≤ o.pr8 * (stored t b).natAbs)
       ∨ (stored t a = 0 ∧ stored t b ≠ 0 ∧ 8 ≤ o.pr8)) := by
  have hne : o.pr8 ≠ 0 := by omega
  unfold differs
  simp only [hne, ne_eq, not_false_eq_true, if_true]
  generalize stored t a = A
  generalize stored t b = B
  have hsw : (A - B).natAbs = (B - A).natAbs := by omega
  by_cases ha : A = 0 <;> by_cases hb : B = 0
  · subst ha; subst hb; simp <;> omega
  · subst ha
    have hpos : (0 : Int) < (B.natAbs : Int) := by omega
    have key : ((B.natAbs : Int) * 8 ≤ o.pr8 * (B.natAbs : Int)) ↔ 8 ≤ o.pr8 := by
      rw [Int.mul_comm (B.natAbs : Int) 8]
      constructor
      · intro h; exact Int.le_of_mul_le_mul_right h hpos
      · intro h; exact Int.mul_le_mul_of_nonneg_right h (by omega)
    simp [hb, key]
  · subst hb
    simp [ha]
  · simp only [ha, hb, if_false, hsw]
    simp

/-- a concrete instance: 10 vs 20 with `-p 0.75` is a difference, 20 vs 10 is not -/
example : differs .i32 { pr8 := 6 } 10 20 = true ∧ differs .i32 { pr8 := 6 } 20 10 = false := by decide

/-- the relative criterion IS symmetric on pairs of equal magnitude -/
theorem differs_rel_symm_of_abs_eq (t : NT) (o : DiffOpts) (a b : Int) (hp : 0 < o.pr8)
    (h : (stored t a).natAbs = (stored t b).natAbs) : differs t o a b = differs t o b a := by
  have hne : o.pr8 ≠ 0 := by omega
  have hsw : ((stored t a) - (stored t b)).natAbs = ((stored t b) - (stored t a)).natAbs := by omega
  unfold differs
  simp only [hne, ne_eq, not_false_eq_true, if_true]
  by_cases ha : stored t a = 0
  · have hb : stored t b = 0 := by omega
    simp [ha, hb]
  · have hb : stored t b ≠ 0 := by omega
    simp [ha, hb, hsw, h]

/-- `-t` is ignored as soon as `-p` is given -/
theorem rel_overrides_abs (t : NT) (o : DiffOpts) (a b : Int) (hp : o.pr8 ≠ 0) (tl : Int) :
    differs t { o with tl8 := tl } a b = differs t o a b := by
  unfold differs; simp [hp]

/-- since commit 64e275a the differences are not narrowed any more: these pairs used to compare EQUAL
    (`(int8)abs(-200)` = -56, `(int16)abs(-40000)` < 0) -/
example : differs .i8 {} (-100) 100 = true ∧ differs .u8 {} 127 128 = true ∧ differs .i16 {} (-20000) 20000 = true
    ∧ differs .u16 {} 32767 32768 = true := by decide
example : differs .u8 {} 127 126 = true ∧ differs .i16 {} 5 6 = true ∧ differs .f32 { tl8 := 8 } 0 9 = true ∧ differs .f32 { tl8 := 8 } 0 8 = false := by decide
example : differs .i32 {} (-2147483648) 2147483647 = true := by decide   -- saturated, not overflowed

/-- **with the default options hdiff's element test is exact**: a pair is passed over iff the two stored values are equal
    (every number type; floating-point values in eighths) -/
theorem differs_default_exact (t : NT) (a b : Int) : differs t {} a b = false ↔ stored t a = stored t b := by
  unfold differs
  have hl : absLimit t {} = 0 := by cases t <;> rfl
  simp only [ne_eq, not_true_eq_false, if_false, hl, decide_eq_false_iff_not]
  cases t <;> simp only [absDiff] <;> (try split) <;> omega

/-- ... hence any change of a stored value is flagged, in both orders of the files -/
theorem single_change_flagged (t : NT) (a b : Int) (h : stored t a ≠ stored t b) :
    differs t {} a b = true ∧ differs t {} b a = true :=
  flagged_of_exact (differs t {}) (stored t) (differs_default_exact t) a b h

/-- the number of printed lines never exceeds the number of differences -/
theorem printed_le (t : NT) (o : DiffOpts) : ∀ (l1 l2 : List Int) (n pr : Nat), pr ≤ n →
    (arrayDiffLoop t o l1 l2 n pr).2 ≤ (arrayDiffLoop t o l1 l2 n pr).1 := by
  intro l1
  induction l1 with
  | nil => intro l2 n pr h; simpa [arrayDiffLoop] using h
  | cons a as ih =>
    intro l2 n pr h
    cases l2 with
    | nil => simpa [arrayDiffLoop] using h
    | cons b bs =>
      simp only [arrayDiffLoop]
      split
      · split
        · exact ih bs _ _ (by omega)
        · exact ih bs _ _ (by omega)
      · exact ih bs _ _ h

example : arrayDiff .i32 { maxErr := 1 } [1, 2, 3, 4] [1, 9, 9, 4] = (2, 1) := by decide
example : arrayDiff .i32 { maxErr := 0, pr8 := 8 } [0, 2] [5, 2] = (1, 1) := by decide   -- "not comparable" is printed whatever -e says

/-! ## the element test on the whole IEEE value domain (NaN, ±Inf, -0.0)

`differsV` / `arrayDiffV` are what the tie replays (`T tools adiff` / `hdiff` lines carry `nan`, `inf`, `-inf`, `-0`);
on finite values they are the `differs` / `arrayDiff` of the sections above. -/

theorem differsV_fin (t : NT) (o : DiffOpts) (a b : Int) : differsV t o (.fin a) (.fin b) = differs t o a b := by
  cases t <;> try rfl
  all_goals
    simp only [differsV, differsF, differs, perF, FV.isZero, FV.sub, FV.abs, FV.gt, absQuot, perGt, stored, absDiff, absLimit, oneIsNan, FV.isNan, bne_self_eq_false, Bool.or_false]
    by_cases hp : o.pr8 = 0
    · simp [hp]
    · by_cases ha : a = 0
      · by_cases hb : b = 0 <;> simp [hp, ha, hb]
      · simp [hp, ha]

theorem arrayDiffLoopV_fin (t : NT) (o : DiffOpts) : ∀ (l1 l2 : List Int) (n pr : Nat),
    arrayDiffLoopV t o (l1.map .fin) (l2.map .fin) n pr = arrayDiffLoop t o l1 l2 n pr := by
  intro l1
  induction l1 with
  | nil => intro l2 n pr; simp [arrayDiffLoopV, arrayDiffLoop]
  | cons a as ih =>
    intro l2 n pr
    cases l2 with
    | nil => simp [arrayDiffLoopV, arrayDiffLoop]
    | cons b bs =>
      simp only [List.map_cons, arrayDiffLoopV, arrayDiffLoop, differsV_fin, notComparableV_fin, ih]

/-- **refinement**: on buffers without special values the loop over `FV` is the loop of the sections above, so every
    statement proved there holds for what the tie replays -/
theorem arrayDiffV_fin (t : NT) (o : DiffOpts) (l1 l2 : List Int) :
    arrayDiffV t o (l1.map .fin) (l2.map .fin) = arrayDiff t o l1 l2 := arrayDiffLoopV_fin t o l1 l2 0 0

/-- **differsV_refl.** No element differs from itself, WHATEVER it holds: a finite number, a NaN (`fabs(NaN - NaN)` is a
    NaN, and a NaN is not greater than the limit), `+Inf` / `-Inf` (`Inf - Inf` is a NaN as well).  Every number type, every
    non-negative `-t` / `-p` limit. -/
theorem differsV_refl (t : NT) (o : DiffOpts) (a : FV) (ht : 0 ≤ o.tl8) (hp : 0 ≤ o.pr8) : differsV t o a a = false := by
  cases a with
  | fin v => rw [differsV_fin]; exact differs_refl t o v ht hp
  | nan | pinf | ninf => cases t <;> simp [differsV, differsF, perF, FV.isZero, FV.sub, FV.abs, FV.gt, absQuot, perGt, oneIsNan, FV.isNan]

/-- **array_diff is reflexive on every buffer**: a buffer compared with itself (or with a bit-identical one: the model
    does not see more than the values) gives `n_diff = 0` and prints nothing - also when it holds NaN / ±Inf -/
theorem arrayDiffV_self (t : NT) (o : DiffOpts) (ht : 0 ≤ o.tl8) (hp : 0 ≤ o.pr8) : ∀ (l : List FV) (n pr : Nat),
    arrayDiffLoopV t o l l n pr = (n, pr) := by
  intro l
  induction l with
  | nil => intro n pr; rfl
  | cons a as ih => intro n pr; simp only [arrayDiffLoopV, differsV_refl t o a ht hp]; exact ih n pr

example : differsV .f64 { tl8 := 4 } .nan .nan = false ∧ differsV .f32 { pr8 := 4 } .pinf .pinf = false
    ∧ differsV .f32 { pr8 := 4 } .ninf .ninf = false := by decide   -- the hypotheses of differsV_refl hold for real option sets
example : arrayDiffV .f64 { maxErr := 1 } [.fin 8, .pinf, .nan, .fin 0] [.fin 8, .ninf, .fin 8, .ninf] = (3, 1) := by decide  -- NaN ↔ 1.0 counted
example : arrayDiffV .f32 {} [.nan, .pinf, .ninf, .fin 0, .fin (-3)] [.nan, .pinf, .ninf, .fin 0, .fin (-3)] = (0, 0) := by decide

/-- **differsV_symm (absolute criterion)**: without `-p` the verdict does not depend on the order of the files, special
    values included -/
theorem differsV_symm (t : NT) (o : DiffOpts) (a b : FV) (hp : o.pr8 = 0) : differsV t o a b = differsV t o b a := by
  cases t
  case f32 | f64 => simp only [differsV, differsF, hp, ne_eq, not_true_eq_false, if_false, FV.sub_abs_comm a b, oneIsNan, bne_comm (a := a.isNan)]
  all_goals
    cases a <;> cases b <;> simp only [differsV]
    exact differs_symm _ o _ _ hp

example : differsV .f32 {} (.fin 0) .pinf = differsV .f32 {} .pinf (.fin 0) := differsV_symm _ _ _ _ rfl

/-- **what the default test (no `-t`, no `-p`) of the floating-point branches lets pass**: a pair is NOT counted exactly when
    the two elements hold the same value.  (Before fix 27db4d9 a NaN on one side was let pass too: `fabs(NaN - x) > limit` is
    false; finding `hdiff-nan-difference-not-greater-than-limit`, now fixed with `ONE_IS_NAN`.) -/
theorem differsF_default_iff (a b : FV) : differsF {} a b = false ↔ a = b := by
  cases a <;> cases b <;> simp [differsF, FV.sub, FV.abs, FV.gt, oneIsNan, FV.isNan]
  omega

/-- ... so a single changed element is flagged in both orders, whatever the two values are: number ↔ other number,
    number ↔ ±Inf, +Inf ↔ -Inf, number / ±Inf ↔ NaN -/
theorem single_change_flaggedF (a b : FV) (h : a ≠ b) :
    differsF {} a b = true ∧ differsF {} b a = true :=
  flagged_of_exact (differsF {}) id differsF_default_iff a b h

/-- a NaN in exactly one file is a difference for every `-t` limit and every `-p` ratio, in both orders ... -/
theorem nan_always_differs (o : DiffOpts) (b : FV) (hb : b ≠ .nan) :
    differsF o .nan b = true ∧ differsF o b .nan = true := by
  cases b <;> simp_all [differsF, oneIsNan, FV.isNan] <;> (split <;> simp)

/-- ... and two NaNs are equal content for every option -/
theorem nan_nan_equal (o : DiffOpts) : differsF o .nan .nan = false := by
  simp [differsF, oneIsNan, FV.isNan, perF, FV.isZero, FV.sub, FV.abs, FV.gt, absQuot, perGt]

example : differsF {} .nan (.fin 8) = true ∧ differsF {} (.fin 8) .nan = true := by decide      -- NaN ↔ 1.0 : reported
example : differsF {} .pinf .ninf = true ∧ differsF {} .pinf (.fin 8) = true ∧ differsF {} .pinf .pinf = false := by decide
example : differsF { pr8 := 4 } .pinf .ninf = false ∧ differsF { pr8 := 4 } (.fin 8) .pinf = true := by decide  -- -p: (B-A)/A = Inf/Inf

theorem cap_only_printingV (t : NT) (o : DiffOpts) (m1 m2 : Nat) (l1 l2 : List FV) :
    (arrayDiffV t { o with maxErr := m1 } l1 l2).1 = (arrayDiffV t { o with maxErr := m2 } l1 l2).1 :=
  loopV_fst_cap t o m1 m2 l1 l2 0 0 0

/-- **the `-e` cap affects only how many differences are printed, never the verdict**: `n_diff` (hence the exit status)
    is the same for every cap (`cap_only_printingV` on buffers without special values). -/
theorem cap_only_printing (t : NT) (o : DiffOpts) (m1 m2 : Nat) (l1 l2 : List Int) :
    (arrayDiff t { o with maxErr := m1 } l1 l2).1 = (arrayDiff t { o with maxErr := m2 } l1 l2).1 := by
  rw [← arrayDiffV_fin, ← arrayDiffV_fin]
  exact cap_only_printingV t o m1 m2 _ _

/-- **exit_code_iff.** On the model of the top-level code (`hdiff()` + `match()` + `main`), the exit status is 0 exactly when
    no object present in BOTH match-table rows reports a difference, the dimension comparison reports none and the global
    attributes report none. Objects present in only one file do not enter the verdict at all. -/
theorem exit_code_iff (pd : Str → Nat) (l1 l2 : List Str) (dd gd : Nat) :
    exitCode pd l1 l2 dd gd = 0 ↔
      ((∀ e ∈ matchTable l1 l2, e.2.1 = true → e.2.2 = true → pd e.1 = 0) ∧ dd = 0 ∧ gd = 0) := by
  unfold exitCode matchFound
  constructor
  · intro h
    split at h
    · rename_i hs
      have h0 : (List.map (fun e => if (e.2.1 && e.2.2) = true then pd e.1 else 0) (matchTable l1 l2)).sum = 0 := by omega
      refine ⟨?_, by omega, by omega⟩
      intro e he h1 h2
      have := List.sum_eq_zero_iff_forall_eq_nat.mp h0 _ (List.mem_map.mpr ⟨e, he, rfl⟩)
      simpa [h1, h2] using this
    · simp at h
  · rintro ⟨h, hd, hg⟩
    have h0 : (List.map (fun e => if (e.2.1 && e.2.2) = true then pd e.1 else 0) (matchTable l1 l2)).sum = 0 := by
      apply List.sum_eq_zero_iff_forall_eq_nat.mpr
      intro x hx
      obtain ⟨e, he, rfl⟩ := List.mem_map.mp hx
      cases h1 : e.2.1 <;> cases h2 : e.2.2 <;> simp
      exact h e he h1 h2
    rw [h0, hd, hg]; rfl

/-- an object that exists only in the second file is NOT a difference for hdiff (exit status 0) -/
example : exitCode (fun _ => 0) [['a']] [['a'], ['b']] 0 0 = 0 := by decide
/-- the merge assumes sorted names: with the same two objects listed in different (traversal) orders, `a` is never compared,
    so even a differing `a` gives exit status 0 -/
example : matchTable [['z'], ['a']] [['a'], ['z']] = [(['a'], false, true), (['z'], true, true), (['a'], true, false)] := by decide
example : exitCode (fun n => if n = ['a'] then 7 else 0) [['z'], ['a']] [['a'], ['z']] 0 0 = 0 := by decide

theorem strcmp_eq : ∀ (a b : Str), strcmp a b = .eq ↔ a = b := by
  intro a
  induction a with
  | nil => intro b; cases b <;> simp [strcmp]
  | cons x xs ih =>
    intro b
    cases b with
    | nil => simp [strcmp]
    | cons y ys =>
      simp only [strcmp]
      split
      · rename_i h; simp; intro e; subst e; omega
      · split
        · rename_i h; simp; intro e; subst e; omega
        · rename_i h1 h2
          have e : x.toNat = y.toNat := by omega
          have : x = y := by rw [← Char.ofNat_toNat x, ← Char.ofNat_toNat y, e]
          subst this; simp [ih ys]

/-- **hdiff F F exits 0** on the model of the top-level code, for a dataset holding any values (NaN / ±Inf included) and
    any non-negative `-t` / `-p` (integer types in hdiff itself: `-t` below 2^31) -/
theorem hdiff_self_exit0 (t : NT) (o : DiffOpts) (ht : 0 ≤ o.tl8) (hp : 0 ≤ o.pr8) (l : List FV) (nm : Str) :
    exitCode (fun _ => (arrayDiffV t o l l).1) [nm] [nm] 0 0 = 0 := by
  unfold arrayDiffV
  rw [arrayDiffV_self t o ht hp]
  simp [exitCode, matchFound, matchTable, matchLoop, (strcmp_eq nm nm).mpr rfl]

theorem strcmp_swap : ∀ (a b : Str), strcmp a b = .lt ↔ strcmp b a = .gt := by
  intro a
  induction a with
  | nil => intro b; cases b <;> simp [strcmp]
  | cons x xs ih =>
    intro b
    cases b with
    | nil => simp [strcmp]
    | cons y ys =>
      simp only [strcmp]
      by_cases h1 : x.toNat < y.toNat
      · have : ¬ (y.toNat < x.toNat) := by omega
        simp [h1, this]
      · by_cases h2 : x.toNat > y.toNat
        · simp [h1, h2]
        · simp [h1, h2, ih ys]

theorem strcmp_trans : ∀ (a b c : Str), strcmp a b = .lt → strcmp b c = .lt → strcmp a c = .lt := by
  intro a
  induction a with
  | nil => intro b c h1 h2; cases b <;> cases c <;> simp_all [strcmp]
  | cons x xs ih =>
    intro b c h1 h2
    cases b with
    | nil => simp [strcmp] at h1
    | cons y ys =>
      cases c with
      | nil => simp [strcmp] at h2
      | cons z zs =>
        simp only [strcmp] at h1 h2 ⊢
        by_cases hxy : x.toNat < y.toNat
        · by_cases hyz : y.toNat < z.toNat
          · have : x.toNat < z.toNat := by omega
            simp [this]
          · by_cases hyz2 : y.toNat > z.toNat
            · simp [hyz, hyz2] at h2
            · have : x.toNat < z.toNat := by omega
              simp [this]
        · by_cases hxy2 : x.toNat > y.toNat
          · simp [hxy, hxy2] at h1
          · simp only [hxy, hxy2, if_false] at h1
            by_cases hyz : y.toNat < z.toNat
            · have : x.toNat < z.toNat := by omega
              simp [this]
            · by_cases hyz2 : y.toNat > z.toNat
              · simp [hyz, hyz2] at h2
              · simp only [hyz, hyz2, if_false] at h2
                have e1 : ¬ (x.toNat < z.toNat) := by omega
                have e2 : ¬ (x.toNat > z.toNat) := by omega
                simp only [e1, e2, if_false]
                exact ih ys zs h1 h2

/-- strictly increasing in `strcmp` order -/
def SortedS (l : List Str) : Prop := l.Pairwise fun a b => strcmp a b = .lt

theorem not_mem_of_lt_all (n : Str) (l : List Str) (h : ∀ x ∈ l, strcmp n x = .lt) : n ∉ l := by
  intro hm
  have := h n hm
  rw [(strcmp_eq n n).mpr rfl] at this
  cases this

/-- **match_sorted_complete.** If both object lists are strictly sorted by name, the rows of the match table flagged for
    both files are exactly the names the two files have in common (so every common object is compared). -/
theorem match_sorted_complete : ∀ (fuel : Nat) (l1 l2 : List Str), l1.length + l2.length < fuel → SortedS l1 → SortedS l2 →
    ∀ n, (n, true, true) ∈ matchLoop fuel l1 l2 ↔ (n ∈ l1 ∧ n ∈ l2) := by
  intro fuel
  induction fuel with
  | zero => intro l1 l2 h; omega
  | succ fuel ih =>
    intro l1 l2 hf s1 s2 n
    cases l1 with
    | nil => cases l2 <;> simp [matchLoop]
    | cons a as =>
      cases l2 with
      | nil => simp [matchLoop]
      | cons b bs =>
        have sa := List.pairwise_cons.mp s1
        have sb := List.pairwise_cons.mp s2
        simp only [matchLoop]
        cases hc : strcmp a b with
        | eq =>
          have hab : a = b := (strcmp_eq a b).mp hc
          subst hab
          simp only [List.mem_cons, Prod.mk.injEq, and_true]
          rw [ih as bs (by simp at hf; omega) sa.2 sb.2 n]
          constructor
          · rintro (h | ⟨h1, h2⟩)
            · exact ⟨Or.inl h, Or.inl h⟩
            · exact ⟨Or.inr h1, Or.inr h2⟩
          · rintro ⟨h1 | h1, h2 | h2⟩
            · exact Or.inl h1
            · exact Or.inl h1
            · exact Or.inl h2
            · exact Or.inr ⟨h1, h2⟩
        | lt =>
          have hnot : a ∉ b :: bs := by
            apply not_mem_of_lt_all
            intro x hx
            rcases List.mem_cons.mp hx with rfl | hx
            · exact hc
            · exact strcmp_trans a b x hc (sb.1 x hx)
          simp only [List.mem_cons (b := (_, _, _)), Prod.mk.injEq, Bool.true_eq_false, and_false, false_or]
          rw [ih as (b :: bs) (by simp at hf ⊢; omega) sa.2 s2 n]
          constructor
          · rintro ⟨h1, h2⟩; exact ⟨List.mem_cons_of_mem _ h1, h2⟩
          · rintro ⟨h1, h2⟩
            rcases List.mem_cons.mp h1 with rfl | h1
            · exact absurd h2 hnot
            · exact ⟨h1, h2⟩
        | gt =>
          have hc' : strcmp b a = .lt := (strcmp_swap b a).mpr hc
          have hnot : b ∉ a :: as := by
            apply not_mem_of_lt_all
            intro x hx
            rcases List.mem_cons.mp hx with rfl | hx
            · exact hc'
            · exact strcmp_trans b a x hc' (sa.1 x hx)
          simp only [List.mem_cons (b := (_, _, _)), Prod.mk.injEq, Bool.true_eq_false, and_false, false_and, false_or]
          rw [ih (a :: as) bs (by simp at hf ⊢; omega) s1 sb.2 n]
          constructor
          · rintro ⟨h1, h2⟩; exact ⟨h1, List.mem_cons_of_mem _ h2⟩
          · rintro ⟨h1, h2⟩
            rcases List.mem_cons.mp h2 with rfl | h2
            · exact absurd h1 hnot
            · exact ⟨h1, h2⟩

theorem match_table_sorted (l1 l2 : List Str) (s1 : SortedS l1) (s2 : SortedS l2) (n : Str) :
    (n, true, true) ∈ matchTable l1 l2 ↔ (n ∈ l1 ∧ n ∈ l2) :=
  match_sorted_complete _ l1 l2 (by omega) s1 s2 n

example : SortedS ["grp0".toList, "grp0/sds1".toList, "img0".toList, "sds0".toList] := by
  unfold SortedS; decide

/-- **dump order = row major.** The k-th value printed by `hdp dumpsds -d` / `dumpgr -d` (`dumpgr`: one whole-object read; `dumpsds`: one read per row of
    the fastest dimension, rows in odometer order; buffer printed front to back) is the element whose row-major offset is k: `dumpIndices` enumerates the cells in exactly the
    order of their offsets 0, 1, 2, ... -/
theorem dump_rowmajor (dims : List Nat) : (dumpIndices dims).map (offset dims) = List.range (prod dims) :=
  full_cells dims _ dims (full_zeros dims) (inRange_zeros dims)

theorem dump_kth (dims : List Nat) (k : Nat) (hk : k < prod dims) :
    ((dumpIndices dims)[k]?).map (offset dims) = some k := by
  have h := dump_rowmajor dims
  have : ((dumpIndices dims).map (offset dims))[k]? = some k := by rw [h]; simp [hk]
  simpa using this

example : dumpIndices [2, 3] = [[0, 0], [0, 1], [0, 2], [1, 0], [1, 1], [1, 2]] := by decide

/-- **import_shape.** The header `nplanes nrows ncols` is rejected iff `ncols < 2`, `nrows < 2` or `nplanes < 1`; otherwise the
    SDS has rank 3 `[nplanes, nrows, ncols]` when `nplanes > 1` and rank 2 `[nrows, ncols]` when `nplanes = 1` (slowest dimension
    first, so the data "ordered by rows, then by planes" are in row-major order of that shape). -/
theorem import_shape (np nr nc : Int) :
    (importShape np nr nc = none ↔ (nc < 2 ∨ nr < 2 ∨ np < 1)) ∧
    (2 ≤ nc → 2 ≤ nr → 1 < np → importShape np nr nc = some [np, nr, nc]) ∧
    (2 ≤ nc → 2 ≤ nr → np = 1 → importShape np nr nc = some [nr, nc]) := by
  unfold importShape
  refine ⟨?_, ?_, ?_⟩
  · by_cases hc : nc < 2 ∨ nr < 2 ∨ np < 1
    · simp [hc]
    · simp only [hc, if_false, iff_false]
      split <;> simp
  · intro h1 h2 h3
    have hc : ¬ (nc < 2 ∨ nr < 2 ∨ np < 1) := by omega
    have : np > 1 := by omega
    simp [hc, this]
  · intro h1 h2 h3
    have hc : ¬ (nc < 2 ∨ nr < 2 ∨ np < 1) := by omega
    have : ¬ (np > 1) := by omega
    simp [hc, this]

/-- the number of values consumed (`dims[0]*dims[1]*dims[2]`) equals the number of elements of the SDS for every accepted header -/
theorem import_count (np nr nc : Int) (s : List Int) (h : importShape np nr nc = some s) :
    s.foldl (· * ·) 1 = nc * nr * np := by
  unfold importShape at h
  split at h
  · cases h
  · rename_i hc
    split at h
    · cases h; simp [List.foldl]; rw [Int.mul_comm np nr, Int.mul_comm (nr * np) nc, Int.mul_assoc]
    · cases h
      have : np = 1 := by omega
      subst this; simp [List.foldl]; rw [Int.mul_comm]

example : importShape 1 3 4 = some [3, 4] ∧ importShape 2 3 4 = some [2, 3, 4] ∧ importShape 2 1 4 = none ∧ importShape 0 3 4 = none := by decide

/-! ## hdfimport: one run over several input files

`process` uses one input descriptor for all the files of the command line.  The statements below are about the loop as it
is written: whatever the descriptor holds when a pass begins (`fl` is arbitrary, also for the first file: the descriptor is
an uninitialised local), every file is read with the reader its own format asks for, gets the type and shape it would get
alone, and a run is refused exactly when one of its files is. -/

/-- the one flag `gtype` raises for a format (none for the integer formats) -/
def impFlagsOf : ImpFmt → ImpFlags
  | .text => { isText := true }
  | .fp32 => { isFp32 := true }
  | .fp64 => { isFp64 := true }
  | .hdf => { isHdf := true }
  | _ => {}

/-- SDS type the manual promises -/
def impDocType : ImpFmt → Option ImpOut → Option ImpOut
  | .text, o => some (o.getD .fp32)
  | .fp64, none => some .fp32
  | .fp64, some .fp64 => some .fp64
  | .fp64, some _ => none
  | .fp32, none => some .fp32
  | .in32, none => some .int32
  | .in16, none => some .int16
  | .in08, none => some .int8
  | .hdf, o => some (o.getD .fp32)
  | _, some _ => none

theorem gtype_spec (fmt : ImpFmt) (opt : Option ImpOut) :
    match gtype {} fmt opt with
    | none => impDocType fmt opt = none
    | some (fl', out) => fl' = impFlagsOf fmt ∧ impReader fl' out = fmt.layout ∧ some (impSdsType out) = impDocType fmt opt := by
  cases fmt <;> rcases opt with _ | o <;> (try cases o) <;> simp [gtype, impDocType, impFlagsOf, impReader, impSdsType, ImpFmt.layout]

theorem import_pass_spec (fl : ImpFlags) (f : ImpFile) (fl' : ImpFlags) (r : ImpRes) (h : impPass fl f = some (fl', r)) :
    fl' = impFlagsOf f.fmt ∧ r.rd = f.fmt.layout ∧ some r.ty = impDocType f.fmt f.opt ∧
    importShape f.np f.nr f.nc = some r.shape := by
  have g := gtype_spec f.fmt f.opt
  simp only [impPass, impReset] at h
  cases hg : gtype {} f.fmt f.opt with
  | none => simp [hg] at h
  | some p =>
    cases hs : importShape f.np f.nr f.nc with
    | none => simp [hg, hs] at h
    | some sh =>
      simp only [hg, hs, Option.some.injEq, Prod.mk.injEq] at h g
      obtain ⟨rfl, rfl⟩ := h
      exact ⟨g.1, g.2.1, g.2.2, rfl⟩

theorem import_pass_refused_iff (fl : ImpFlags) (f : ImpFile) :
    impPass fl f = none ↔ (impDocType f.fmt f.opt = none ∨ importShape f.np f.nr f.nc = none) := by
  have g := gtype_spec f.fmt f.opt
  simp only [impPass, impReset]
  cases hg : gtype {} f.fmt f.opt with
  | none => simp [hg] at g ⊢; exact Or.inl g
  | some p =>
    simp only [hg] at g
    cases hs : importShape f.np f.nr f.nc <;> simp [← g.2.2]

theorem import_run_independent (fl : ImpFlags) (fs : List ImpFile) :
    importRun fl fs = fs.mapM (fun f => (impPass {} f).map (·.2)) := by
  induction fs generalizing fl with
  | nil => rfl
  | cons f rest ih =>
    rw [importRun, import_pass_initial fl f, List.mapM_cons]
    cases h : impPass {} f with
    | none => simp
    | some p =>
      obtain ⟨fl', r⟩ := p
      simp only [ih fl', Option.map_some]
      cases hr : rest.mapM (fun f => (impPass {} f).map (·.2)) <;> simp

theorem import_run_reader (fl : ImpFlags) (fs : List ImpFile) (rs : List ImpRes) (h : importRun fl fs = some rs) :
    rs.map (·.rd) = fs.map (·.fmt.layout) :=
  import_run_map _ _ (fun fl f fl' r hp => (import_pass_spec fl f fl' r hp).2.1) fl fs rs h

theorem import_run_results (fl : ImpFlags) (fs : List ImpFile) (rs : List ImpRes) (h : importRun fl fs = some rs) :
    rs.map (fun r => (some r.ty, some r.shape)) = fs.map (fun f => (impDocType f.fmt f.opt, importShape f.np f.nr f.nc)) :=
  import_run_map _ _ (fun fl f fl' r hp => by have := import_pass_spec fl f fl' r hp; rw [this.2.2.1, this.2.2.2]) fl fs rs h

theorem import_run_refused_iff (fl : ImpFlags) (fs : List ImpFile) :
    importRun fl fs = none ↔ ∃ f ∈ fs, impDocType f.fmt f.opt = none ∨ importShape f.np f.nr f.nc = none := by
  induction fs generalizing fl with
  | nil => simp [importRun]
  | cons f rest ih =>
    rw [importRun]
    cases hp : impPass fl f with
    | none =>
      have := (import_pass_refused_iff fl f).1 hp
      simp [this]
    | some p =>
      obtain ⟨fl', r⟩ := p
      have hn : ¬ (impDocType f.fmt f.opt = none ∨ importShape f.np f.nr f.nc = none) := by
        intro hc; have := (import_pass_refused_iff fl f).2 hc; simp [hp] at this
      simp only [Option.map_eq_none_iff, ih fl', List.mem_cons, exists_eq_or_imp, hn, false_or]

/-- hypotheses are satisfiable: an FP32 file followed by an FP64 file (imported as FLOAT32) followed by a text file -/
example : importRun {} [⟨.fp32, none, 1, 3, 4⟩, ⟨.fp64, none, 1, 4, 5⟩, ⟨.text, some .int16, 2, 2, 3⟩] =
    some [⟨.fp32, [3, 4], .raw 4⟩, ⟨.fp32, [4, 5], .raw 8⟩, ⟨.int16, [2, 2, 3], .scan⟩] := by decide

/-- the per-pass reset is what the statements rest on: with the FP32 flag of an earlier file still up, `gfloat` takes an FP64
    file four bytes at a time, and with the TEXT flag still up every binary file is scanned as text -/
example : impReader { isFp32 := true, isFp64 := true } (some .fp32) = .raw 4 ∧
    impReader { isText := true, isFp32 := true } (some .fp32) = .scan ∧
    ImpFmt.fp64.layout = .raw 8 := by decide

end H4.Props.C19
