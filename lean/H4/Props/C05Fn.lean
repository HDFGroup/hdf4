import H4.Lemmas.C05Fn
/-! C05, function-level Tie A: `HCIcskphuff_splay` of `hdf/src/cskphuff.c` as translated statement by statement from the CURRENT
    C text (`H4.Gen.Fn.Cskphuff`, written by gen/c2lean.py on every run) computes exactly the hand-written model
    `H4.SkpHuff.splay` that the C05 skipping-Huffman theorems (`H4.Props.C05Skp`) are about, on every well-formed tree and every
    byte; it never indexes outside `left[SUCCMAX]`, `right[SUCCMAX]`, `up[TWICEMAX]` (`ub = false`) and its do-while loop
    terminates (`oof = false`).  A change of the C text changes the generated definition; these theorems are re-checked against it. -/
namespace H4.Props.C05Fn
open H4 H4.SkpHuff H4.Gen.Cskphuff H4.Gen.Fn.Cskphuff H4.C2L H4.Lemmas.C05Fn

/-- `HCIcskphuff_splay` as translated from cskphuff.c computes the model's `splay`.

    Regions: `left[skip_pos]`, `right[skip_pos]` (`unsigned[SUCCMAX]`) and `up[skip_pos]` (`uint8[TWICEMAX]`) of the C code are the
    three arrays of the model tree (`ints ·.toList`: the same naturals seen as C integers); `skip` (= `skip_pos`, which only selects the
    rows) is arbitrary.  Hypotheses: `WF t` (`H4.SkpHuff.WF`, the invariant `splay_WF`/`WF_init` establish for every tree the coder
    ever holds) and `plain < 256` (`uint8`).  `WF` contains what the C code relies on for its `uint8 c, d`: every `up` entry of the
    nodes `0..511` is `< 256` (`WFf.upLt`), so the C's narrowing to `uint8` loses nothing (the translator reads `c`, `d` from a
    `uint8` region and emits no `% 256`; the model's `% 256` vanish under `upLt`); `up[512]` is never read or written.
    Fuel: any `fuel ≥ 255` (`TWICEMAX`, which the callers pass, in particular): the walk to ROOT has at most 512 steps and every iteration
    makes two; one iteration is made before `loop0` is entered. -/
theorem HCIcskphuff_splay_refines (t : Tree) (hw : WF t) (plain : Nat) (hp : plain < 256) (skip : Int)
    (fuel : Nat) (hf : 255 ≤ fuel) :
    let s := HCIcskphuff_splay fuel skip (ints t.left.toList) (ints t.right.toList) (ints t.up.toList) plain
    s.ub = false ∧ s.oof = false ∧
      s.skphuff_info_left = ints (splay t plain).left.toList ∧
      s.skphuff_info_right = ints (splay t plain).right.toList ∧
      s.skphuff_info_up = ints (splay t plain).up.toList :=
  splay_fn t hw plain hp skip fuel hf

/-- the hypotheses are satisfiable: the freshly initialised tree of `HCIcskphuff_init` and the tree after two splays -/
example : let s := HCIcskphuff_splay TWICEMAX 0 (ints Tree.init.left.toList) (ints Tree.init.right.toList) (ints Tree.init.up.toList) 65
    s.ub = false ∧ s.oof = false ∧ s.skphuff_info_left = ints (splay Tree.init 65).left.toList ∧
      s.skphuff_info_right = ints (splay Tree.init 65).right.toList ∧ s.skphuff_info_up = ints (splay Tree.init 65).up.toList :=
  HCIcskphuff_splay_refines Tree.init WF_init 65 (by decide) 0 TWICEMAX (by decide)

example : let t := splay (splay Tree.init 65) 200
    let s := HCIcskphuff_splay 255 3 (ints t.left.toList) (ints t.right.toList) (ints t.up.toList) 65
    s.ub = false ∧ s.oof = false ∧ s.skphuff_info_up = ints (splay t 65).up.toList :=
  have hw := splay_WF _ 200 (splay_WF _ 65 WF_init (by decide)) (by decide)
  have h := HCIcskphuff_splay_refines _ hw 65 (by decide) 3 255 (by decide)
  ⟨h.1, h.2.1, h.2.2.2.2⟩

/-- the translated code runs (kernel evaluation of the generated definition on the initial tree, byte 65:
    node 321 is semi-rotated up 4 times) and writes what the model writes -/
example : (HCIcskphuff_splay TWICEMAX 0 (ints Tree.init.left.toList) (ints Tree.init.right.toList) (ints Tree.init.up.toList) 65).skphuff_info_up
    = ints (splay Tree.init 65).up.toList := by decide +kernel

example : (HCIcskphuff_splay TWICEMAX 0 (ints Tree.init.left.toList) (ints Tree.init.right.toList) (ints Tree.init.up.toList) 65).ub = false :=
  (HCIcskphuff_splay_refines Tree.init WF_init 65 (by decide) 0 TWICEMAX (by decide)).1

/-- the translated function applied to a sequence of bytes, the three rows threaded through (what the `while (length > 0)` loops of
    `HCIcskphuff_encode` / `HCIcskphuff_decode` do to one tree); `none` as soon as a call reports undefined behaviour or runs out of fuel -/
def runC (fuel : Nat) : List Int → List Int → List Int → List Nat → Option (List Int × List Int × List Int)
  | l, r, u, [] => some (l, r, u)
  | l, r, u, p :: ps =>
    let s := HCIcskphuff_splay fuel 0 l r u p
    if s.ub || s.oof then none else runC fuel s.skphuff_info_left s.skphuff_info_right s.skphuff_info_up ps

/-- iterating the translated C function over any byte string, from any well-formed tree, stays free of undefined behaviour,
    always terminates, and yields the rows of the model's iterated `splay` -/
theorem HCIcskphuff_splay_run_refines (ps : List Nat) (hps : ∀ p ∈ ps, p < 256) : ∀ (t : Tree), WF t →
    runC TWICEMAX (ints t.left.toList) (ints t.right.toList) (ints t.up.toList) ps =
      some (ints (ps.foldl splay t).left.toList, ints (ps.foldl splay t).right.toList, ints (ps.foldl splay t).up.toList) := by
  induction ps with
  | nil => intro t _; rfl
  | cons p ps ih =>
    intro t hw
    have hp : p < 256 := hps p (by simp)
    obtain ⟨h1, h2, h3, h4, h5⟩ := HCIcskphuff_splay_refines t hw p hp 0 TWICEMAX (by decide)
    simp only [runC, h1, h2, h3, h4, h5, Bool.or_self, Bool.false_eq_true, ↓reduceIte, List.foldl_cons]
    exact ih (fun q hq => hps q (by simp [hq])) _ (splay_WF t p hw hp)

/-- from the tree `HCIcskphuff_init` builds -/
theorem HCIcskphuff_splay_run_init (ps : List Nat) (hps : ∀ p ∈ ps, p < 256) :
    runC TWICEMAX (ints Tree.init.left.toList) (ints Tree.init.right.toList) (ints Tree.init.up.toList) ps =
      some (ints (ps.foldl splay Tree.init).left.toList, ints (ps.foldl splay Tree.init).right.toList,
        ints (ps.foldl splay Tree.init).up.toList) :=
  HCIcskphuff_splay_run_refines ps hps Tree.init WF_init

example : (runC TWICEMAX (ints Tree.init.left.toList) (ints Tree.init.right.toList) (ints Tree.init.up.toList) [3, 3, 200, 3]).isSome = true := by
  rw [HCIcskphuff_splay_run_init _ (by decide)]; rfl

end H4.Props.C05Fn
