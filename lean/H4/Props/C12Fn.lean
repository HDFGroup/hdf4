import H4.Lemmas.C12Fn
import H4.Props.C12
/-! # C12, function level — `bv_get`, `bv_set`, `bv_find_next_zero` of `hdf/src/bitvect.c`, as TRANSLATED from the C text, compute the model `H4.Bitvect`

`H4.Gen.Fn.Bitvect2` is regenerated from `hdf/src/bitvect.c` of /repo's current tree on every run (`gen/c2lean.py`, statement by statement).
The struct parameter `b` is the fields `b_null`, `b_bits_used`, `b_array_size`, `b_last_zero` and the memory region `b_buffer`
(`b_buffer_null` answers `b->buffer == NULL`); `realloc` resizes the region and leaves the poison value 170 in the new cells until the C's own
`memset` clears them; the static tables are the generated `H4.Gen.Bitvect.bv_bit_value / bv_first_zero / bv_bit_mask`; `& | ~` are two's
complement at 32 bits, a store into the `bv_base` (= `uint8`) buffer reduces modulo 256; `bv_find_next_zero` CALLS the translated `bv_set`.

The hand model `H4.Bitvect.BV` keeps the same four fields, the buffer as a `List Nat` of bytes.  The abstraction is `BVRel`: the C fields are
the casts of the model's, the C buffer is `ints m.buf` (`List.map Int.ofNat`), and the model satisfies `Shape` — the part of `BV.Inv` the C
needs in order to run without undefined behaviour: `array_size` is the length of the buffer, `bits_used ≤ 8 * array_size`, every cell is a
byte, `last_zero ≤ bits_used / 8` (otherwise `b->buffer[i]` in the slush-bits branch of `bv_find_next_zero` could lie outside the buffer).

For EVERY related state the theorems give: no undefined behaviour, no loop out of fuel, the C return value is the model's, and the resulting
C fields are again related to the model's result — all branches (`bv_set`: inside `bits_used` / inside the allocated block / growth by whole
chunks with `realloc` + `memset`, clearing with and without lowering `last_zero`, setting; `bv_find_next_zero`: a byte with a zero bit before
`bytes_used` / the slush bits of the last partial byte / extension by one bit through the call of `bv_set`).  So `bv_find_next_zero_spec`
and `bv_set_get_spec` of `H4.Props.C12` are statements about the C text (`bv_find_next_zero_c_spec`, `bv_set_get_c_spec`).

Range hypotheses: `bit_num < 2^31 - 1` (`bits_used = bit_num + 1` must be an `int32`; the translator does not wrap signed arithmetic, and
`(size_t)(array_size + num_chunks * BV_CHUNK_SIZE)` is the identity only below 2^64); for `bv_find_next_zero` the same for `bits_used`
(the extension sets bit `bits_used`).  `set_sizes_int32` shows the sizes computed stay in `int32`.  `realloc` failure is not modelled. -/
namespace H4.Props.C12Fn
open H4 H4.Bitvect H4.Lemmas.C12Fn H4.Gen.Fn.Bitvect2 H4.C2L

/-- the representation invariant of the model theorems implies the shape the C needs -/
theorem BVRel.of_inv {m : BV} (h : m.Inv) : BVRel m m.bitsUsed m.arraySize m.lastZero (ints m.buf) :=
  ⟨Shape.of_inv h, rfl, rfl, rfl, rfl⟩

/-- what `bv_new(-1)` returns -/
example : BVRel BV.new 128 64 0 (List.replicate 64 0) := ⟨Shape.of_inv new_inv, rfl, rfl, rfl, by decide +kernel⟩

/-- **`bv_set` refines `BV.set`**: every branch, every `value` (`BV_FALSE` clears, anything else sets) -/
theorem bv_set_refines (m : BV) (bits_used array_size last_zero : Int) (buffer : List Int)
    (h : BVRel m bits_used array_size last_zero buffer) (fuel : Nat) (bit_num value : Int) (h0 : 0 ≤ bit_num) (h1 : bit_num < 2147483647) :
    let s := bv_set fuel false bits_used array_size buffer last_zero bit_num value
    s.ub = false ∧ s.oof = false ∧ s.ret = 0 ∧
      BVRel (m.set bit_num.toNat (decide (value ≠ 0))) s.b_bits_used s.b_array_size s.b_last_zero s.b_buffer := by
  obtain ⟨hs, rfl, rfl, rfl, rfl⟩ := h
  obtain ⟨n, rfl⟩ := Int.eq_ofNat_of_zero_le h0
  exact set_run fuel m hs n (by omega) value

set_option maxRecDepth 100000 in
/-- growth by two chunks (`realloc` + `memset`): bit 1100 of a fresh 128-bit vector -/
example : BVRel BV.new 128 64 0 (List.replicate 64 0) ∧
    (bv_set 0 false 128 64 (List.replicate 64 0) 0 1100 1).ub = false ∧ (bv_set 0 false 128 64 (List.replicate 64 0) 0 1100 1).ret = 0 ∧
    (bv_set 0 false 128 64 (List.replicate 64 0) 0 1100 1).b_bits_used = 1101 ∧
    (bv_set 0 false 128 64 (List.replicate 64 0) 0 1100 1).b_array_size = 192 ∧
    (bv_set 0 false 128 64 (List.replicate 64 0) 0 1100 1).b_buffer = List.replicate 137 0 ++ [16] ++ List.replicate 54 0 :=
  ⟨⟨Shape.of_inv new_inv, rfl, rfl, rfl, by decide +kernel⟩, by decide +kernel⟩

/-- `b == NULL` or `bit_num < 0`: `FAIL`, nothing changed -/
theorem bv_set_fails (fuel : Nat) (b_null : Bool) (bits_used array_size last_zero : Int) (buffer : List Int) (bit_num value : Int)
    (h : b_null = true ∨ bit_num < 0) :
    let s := bv_set fuel b_null bits_used array_size buffer last_zero bit_num value
    s.ub = false ∧ s.oof = false ∧ s.ret = -1 ∧ s.b_bits_used = bits_used ∧ s.b_array_size = array_size ∧ s.b_last_zero = last_zero ∧
      s.b_buffer = buffer := by
  simp [bv_set, h]
example : (bv_set 0 false 128 64 (List.replicate 64 0) 0 (-1) 1).ret = -1 := by decide +kernel

/-- the sizes `bv_set` computes stay within `int32` when its inputs are: no signed overflow in `bit_num + 1` and
    `array_size + num_chunks * BV_CHUNK_SIZE` (the translator's "no signed overflow" assumption holds here) -/
theorem set_sizes_int32 (m : BV) (n : Nat) (v : Bool) (hn : n < 2147483647) (hb : m.bitsUsed ≤ 2147483647) (ha : m.arraySize ≤ 2147483647) :
    (m.set n v).bitsUsed ≤ 2147483647 ∧ (m.set n v).arraySize ≤ 2147483647 := by
  have := set_bounds m n v
  omega

/-- **`bv_get` refines `BV.get`** (0 beyond `bits_used`), the vector is unchanged -/
theorem bv_get_refines (m : BV) (bits_used array_size last_zero : Int) (buffer : List Int)
    (h : BVRel m bits_used array_size last_zero buffer) (fuel : Nat) (bit_num : Int) (h0 : 0 ≤ bit_num) :
    let s := bv_get fuel false false bits_used buffer bit_num
    s.ub = false ∧ s.oof = false ∧ s.ret = m.get bit_num.toNat ∧ s.b_bits_used = bits_used ∧ s.b_buffer = buffer := by
  obtain ⟨hs, rfl, rfl, rfl, rfl⟩ := h
  obtain ⟨n, rfl⟩ := Int.eq_ofNat_of_zero_le h0
  exact get_run fuel m hs n

example : (bv_get 0 false false 20 [0, 0, 16] 20).ret = 0 ∧ (bv_get 0 false false 21 [0, 0, 16] 20).ret = 1 ∧
    (bv_get 0 false false 21 [0, 0, 16] 19).ret = 0 := by decide +kernel

/-- `b == NULL`, `b->buffer == NULL` or `bit_num < 0`: `FAIL`, nothing changed -/
theorem bv_get_fails (fuel : Nat) (b_null b_buffer_null : Bool) (bits_used : Int) (buffer : List Int) (bit_num : Int)
    (h : b_null = true ∨ b_buffer_null = true ∨ bit_num < 0) :
    let s := bv_get fuel b_null b_buffer_null bits_used buffer bit_num
    s.ub = false ∧ s.oof = false ∧ s.ret = -1 ∧ s.b_bits_used = bits_used ∧ s.b_buffer = buffer := by
  have h' : (b_null = true ∨ b_buffer_null = true) ∨ bit_num < 0 := by
    rcases h with h | h | h <;> simp [h]
  simp [bv_get, h']

/-- **`bv_find_next_zero` refines `BV.findNextZero`**: the three exits; `fuel` bounds the scan over the full bytes -/
theorem bv_find_next_zero_refines (m : BV) (bits_used array_size last_zero : Int) (buffer : List Int)
    (h : BVRel m bits_used array_size last_zero buffer) (fuel : Nat) (hf : m.bitsUsed / 8 ≤ fuel) (h1 : m.bitsUsed < 2147483647) :
    let s := bv_find_next_zero fuel false false bits_used last_zero buffer array_size
    s.ub = false ∧ s.oof = false ∧ s.ret = m.findNextZero.1 ∧
      BVRel m.findNextZero.2 s.b_bits_used s.b_array_size s.b_last_zero s.b_buffer := by
  obtain ⟨hs, rfl, rfl, rfl, rfl⟩ := h
  exact fz_run fuel m hs hf h1

set_option maxRecDepth 100000 in
/-- a full byte is skipped and the zero bit is found in the second byte; 12 bits in use, all set: the slush bits `15 & mask[4]` are not 255,
    `first_zero[15] = 4` gives bit 12 = `bits_used` without extending; 16 bits in use, all set: the vector is extended by one bit through
    the call of `bv_set` -/
example : (bv_find_next_zero 2 false false 20 0 [255, 7, 0] 3).ret = 11 ∧ (bv_find_next_zero 2 false false 20 0 [255, 7, 0] 3).b_last_zero = 1 ∧
    (bv_find_next_zero 2 false false 12 0 [255, 15, 0] 3).ret = 12 ∧ (bv_find_next_zero 2 false false 12 0 [255, 15, 0] 3).b_bits_used = 12 ∧
    (bv_find_next_zero 2 false false 16 0 [255, 255, 0] 3).ret = 16 ∧ (bv_find_next_zero 2 false false 16 0 [255, 255, 0] 3).b_bits_used = 17 ∧
    (bv_find_next_zero 2 false false 16 0 [255, 255, 0] 3).ub = false ∧ (bv_find_next_zero 2 false false 16 0 [255, 255, 0] 3).oof = false := by
  decide +kernel

/-- `b == NULL` or `b->buffer == NULL`: `FAIL`, nothing changed -/
theorem bv_find_next_zero_fails (fuel : Nat) (b_null b_buffer_null : Bool) (bits_used array_size last_zero : Int) (buffer : List Int)
    (h : b_null = true ∨ b_buffer_null = true) :
    let s := bv_find_next_zero fuel b_null b_buffer_null bits_used last_zero buffer array_size
    s.ub = false ∧ s.oof = false ∧ s.ret = -1 ∧ s.b_bits_used = bits_used ∧ s.b_array_size = array_size ∧ s.b_last_zero = last_zero ∧
      s.b_buffer = buffer := by
  simp [bv_find_next_zero, h]

/-- **`bv_find_next_zero_spec` of the C text**: on a well-formed vector the translated `bv_find_next_zero` returns the LOWEST clear bit
    (every bit below it is set), and the vector it leaves represents a well-formed model vector with the same bits -/
theorem bv_find_next_zero_c_spec (m : BV) (hi : m.Inv) (fuel : Nat) (hf : m.bitsUsed / 8 ≤ fuel) (h1 : m.bitsUsed < 2147483647) :
    let s := bv_find_next_zero fuel false false m.bitsUsed m.lastZero (ints m.buf) m.arraySize
    s.ub = false ∧ s.oof = false ∧ ∃ k : Nat, s.ret = k ∧ m.bit k = false ∧ (∀ j, j < k → m.bit j = true) ∧
      ∃ m' : BV, m'.Inv ∧ BVRel m' s.b_bits_used s.b_array_size s.b_last_zero s.b_buffer ∧ ∀ j, m'.bit j = m.bit j := by
  obtain ⟨k1, k2, k3, k4⟩ := bv_find_next_zero_refines m _ _ _ _ (BVRel.of_inv hi) fuel hf h1
  obtain ⟨p1, p2, p3, p4⟩ := C12.bv_find_next_zero_spec hi
  exact ⟨k1, k2, _, k3, p1, p2, _, p3, k4, p4⟩

/-- **`bv_set_get_spec` of the C text**: after the translated `bv_set(b, k, value)` the translated `bv_get(b, j)` returns `value != 0` at
    `j = k` and what it returned before everywhere else -/
theorem bv_set_get_c_spec (m : BV) (hi : m.Inv) (fuel : Nat) (k j : Nat) (value : Int) (hk : k < 2147483647) :
    let s := bv_set fuel false m.bitsUsed m.arraySize (ints m.buf) m.lastZero k value
    (bv_get fuel false false s.b_bits_used s.b_buffer j).ret =
      if j = k then (if value ≠ 0 then 1 else 0) else (bv_get fuel false false m.bitsUsed (ints m.buf) j).ret := by
  intro s
  obtain ⟨_, _, _, hr⟩ := bv_set_refines m _ _ _ _ (BVRel.of_inv hi) fuel k value (by omega) (by omega)
  obtain ⟨_, _, g1, _⟩ := bv_get_refines _ _ _ _ _ hr fuel j (by omega)
  obtain ⟨_, _, g2, _⟩ := bv_get_refines m _ _ _ _ (BVRel.of_inv hi) fuel j (by omega)
  rw [g1, g2]
  simp only [Int.toNat_natCast]
  rw [(C12.bv_set_get_spec hi k (decide (value ≠ 0))).2 j]
  by_cases hjk : j = k <;> by_cases hv : value = 0 <;> simp [hjk, hv]

end H4.Props.C12Fn
