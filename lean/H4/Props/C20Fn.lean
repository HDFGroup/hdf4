import H4.Lemmas.C01FnW
import H4.Lemmas.Limits
/-! # C20, function level — the range test of `Hwrite` (`hdf/src/hfile.c`, commit c61e7e0) on the TRANSLATED C text

`H4.Gen.Fn.Hfile2.Hwrite` is regenerated from /repo's current `hfile.c` on every run (see `H4.Props.C01Fn` for the conventions: the access
record and the file record are objects, the layer below is a set of assumed calls with written contracts and a call log).

* `Hwrite_overflow_refused` — the clause "a write that would end beyond offset 2^31-2 of the file is refused and changes nothing", for every
  extent, position, flag and every answer of the layer below.
* `Hwrite_refines_limits` — on every element that has an extent the translated function computes the C20 allocation model `Limits.hwrite head`
  (result, new descriptor length, new end of file; `convert` = the promotion call is reached), so `H4.Props.C20.no_wrap` and its companions
  speak about the C text.  The `int32` sums of the model (`wrap32`) are in range under the stated hypotheses.

The other range tests of the layer (`HPgetdiskblock`, bffe1fd / ec9dd8a) are inside an assumed call here; `Hseek`'s refusal of a position that
does not fit an `int32` (7739a98) and `Htrunc`'s refusal of a negative length (20ed5b8) are part of `H4.Props.C01Fn.Hseek_refines` /
`Htrunc_refines`. -/
namespace H4.Props.C20Fn
open H4 H4.Elem H4.Gen.Fn.Hfile2 H4.Gen.Hdf H4.Lemmas.C01Fn

/-- **C20, `Hwrite` (c61e7e0)**: a write that would end beyond offset 2^31-2 of the file is REFUSED, for every element that has an extent
    `(o, l)`, every position, every flag and every answer of the layer below: the result is FAIL, position, flags, descriptor and end of
    file are what they were, and nothing but the two `HTPinquire` calls happened (no `HPseek`, `HP_write`, `HTPupdate`, `HLconvert`). -/
theorem Hwrite_overflow_refused (n posn o l : Nat) (newE app : Bool) (aid ddid tag ref refc cur conv rew eoff blk upd seekr wrr bsz nb : Int)
    (acc fuel : Nat) (calls : List (List Int)) (hbit : ¬ (acc &&& 2 = 0)) (hopen : refc ≠ 0) (hn : 0 < n)
    (hbig : (n : Int) + o + posn > 2147483646) :
    let s := Hwrite fuel aid n false false acc 0 false refc (b2i newE) ddid 0 calls tag ref o l blk eoff upd (b2i app) posn conv bsz nb rew seekr cur wrr
    s.ub = false ∧ s.oof = false ∧ s.ret = -1 ∧ s.access_rec_posn = posn ∧ s.access_rec_appendable = b2i app ∧
    s.dd_off = o ∧ s.dd_len = l ∧ s.file_rec_f_end_off = eoff ∧
    s.calls = calls ++ (if newE = true then [[cINQ, ddid]] else []) ++ [[cINQ, ddid]] := by
  intro s
  have h1 : (0 : Int) < n := by omega
  have h3 : 2147483646 - (o : Int) - posn < n := by omega
  have e : s = _ := Wr.entry_old (hbit := hbit) (hr := hopen) (ne := newE) (ho := show (o : Int) ≠ -1 by omega) ..
  rw [Wr.look_refused (h := .inl ⟨⟨h1, Int.natCast_nonneg o⟩, h3⟩)] at e
  simp [e, Wr.ready, Wr.init, -List.reduceReplicate]

set_option linter.unusedVariables false in
open H4.Limits in
/-- **`Hwrite` computes the C20 allocation model `Limits.hwrite`** (configuration `head`) on an element that has an extent, for every `int32`
    length: refused when the model refuses (including the range test c61e7e0), promotion exactly when the model says `convert`, else the
    count, the new length of the descriptor and the new end of file of the model.  All `int32` sums the model forms with `wrap32` are in
    range under these hypotheses, so its two's-complement arithmetic and the translator's exact arithmetic agree. -/
theorem Hwrite_refines_limits (st : Limits.St) (d : Limits.DD) (app : Bool) (posn o l : Nat) (n : Int)
    (aid ddid tag ref refc cur conv rew blk bsz nb : Int) (acc fuel : Nat) (calls : List (List Int))
    (hbit : ¬ (acc &&& 2 = 0)) (hopen : refc ≠ 0) (hdo : d.off = o) (hdl : d.len = l)
    (hn : -2147483648 ≤ n ∧ n ≤ 2147483647) (hposn : (posn : Int) ≤ 2147483647) (hend : 0 ≤ st.endOff ∧ st.endOff ≤ 2147483646)
    (hext : (o : Int) + l ≤ 2147483647) (hfuel : (posn + 511) / 512 ≤ fuel) (hrew : rew ≠ -1) (hconv : conv ≠ -1) :
    let s := Hwrite fuel aid n false false acc 0 false refc 0 ddid 0 calls tag ref o l blk st.endOff 0 (b2i app) posn conv bsz nb rew 0 cur 0
    let r := Limits.hwrite head st d app posn n
    s.ub = false ∧ s.oof = false ∧
    (match r.2 with
     | .fail => s.ret = -1 ∧ s.file_rec_f_end_off = st.endOff ∧ s.dd_len = l
     | .wrote k => s.ret = k ∧ s.file_rec_f_end_off = r.1.endOff ∧
                   s.dd_len = (if app = true ∧ n + posn > l then (posn : Int) + n else l) ∧ s.access_rec_posn = posn + n
     | .convert => ∃ c ∈ s.calls, c.head? = some cCONV) := by
  intro s r
  have e : s = _ := Wr.entry_old (hbit := hbit) (hr := hopen) (ne := false) (ho := show (o : Int) ≠ -1 by omega) ..
  have w1 := wrap_room posn o hposn (by omega)
  by_cases hR1 : 0 < n ∧ 2147483646 - (o : Int) - posn < n
  · have hm : r = (st, WRes.fail) := by simp [r, Limits.hwrite, head, hdo, w1, hR1.1, hR1.2]
    rw [Wr.look_refused (h := .inl ⟨⟨hR1.1, Int.natCast_nonneg o⟩, hR1.2⟩)] at e
    simp [hm, e, Wr.ready, Wr.init, -List.reduceReplicate]
  · have w2 : wrap32 (n + posn) = n + posn := wrap32_id (by omega) (by omega)
    by_cases hn0 : n ≤ 0
    · have hm : r = (st, WRes.fail) := by simp [r, Limits.hwrite, head, hdo, hdl, w1, w2, hn0]
      rw [Wr.look_refused (h := .inr (.inl hn0))] at e
      simp [hm, e, Wr.ready, Wr.init, -List.reduceReplicate]
    · obtain ⟨k, rfl⟩ := Int.eq_ofNat_of_zero_le (show 0 ≤ n by omega)
      obtain ⟨E, hE⟩ := Int.eq_ofNat_of_zero_le hend.1
      obtain ⟨m1, m2⟩ := limits_hwrite_pos st d app posn o l k E hdo hdl hE hposn hext (by omega) (by omega)
      have hW := congrArg Wr.obs e
      clear e
      rw [hE, Wr.look_eval (hfit := by omega) (hfu := hfuel)] at hW
      simp only [Wr.obs, Wr.Obs.mk.injEq, PlainOut.ext_iff] at hW
      obtain ⟨hub, hoof, ⟨hret, hpos, -, hlen, hend⟩, -, -, hcalls⟩ := hW
      refine ⟨hub, hoof, ?_⟩
      change match (Limits.hwrite head st d app posn k).2 with
        | .fail => _ | .wrote k' => _ ∧ s.file_rec_f_end_off = (Limits.hwrite head st d app posn k).1.endOff ∧ _ | .convert => _
      rw [m1, m2, hret, hpos, hlen, hend, hcalls]
      by_cases h1 : k = 0 ∨ (app = false ∧ k + posn > l)
      · simp only [plainOut, if_pos h1, hE, and_self]
      · by_cases h2 : app = true ∧ k + posn > l ∧ l + o ≠ E
        · simp only [if_neg h1, if_pos h2]
          exact ⟨[cCONV, aid, bsz, nb], by simp [plainRows, h2, -List.reduceReplicate]; exact .inr fun x => h1 (.inl x), rfl⟩
        · have hg : ((k : Int) + posn > l) = (k + posn > l) := by rw [← Int.natCast_add]; exact propext Int.ofNat_lt
          simp only [plainOut, if_neg h1, if_neg h2, hg, Int.natCast_add, true_and]

-- an element at offset 2147483000: a 1000-byte write at position 0 would end beyond 2^31-2: refused, no call below but the inquiry
example : let s := Hwrite 1 7 1000 false false 3 0 false 1 0 5 0 [] 100 1 2147483000 8 0 2147483008 0 1 0 0 4096 16 0 0 0 0
    s.ub = false ∧ s.ret = -1 ∧ s.calls = [[1, 5]] ∧ s.file_rec_f_end_off = 2147483008 := by decide +kernel
end H4.Props.C20Fn
