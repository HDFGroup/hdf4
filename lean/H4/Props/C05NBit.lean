import H4.Lemmas.NBit
import H4.Props.C05Bits
/-! # C05 (n-bit coder, `cnbit.c`) — property theorems

The coder sees every value as its `nt_size` bytes in FILE order (big-endian for the standard number types: byte 0 is the most
significant), so values are `List UInt8` and bit lists are most-significant-bit first.
`encode c 0 data` is the list of `Hbitwrite(aid, length, bits)` calls of `HCIcnbit_encode`; `decItem c words` is the inner loop of
`HCIcnbit_decode` applied to the words `Hbitread(aid, length, ·)` returned; `projectBits` is the documented projection stated on
the value's bit list alone (no masks). -/
namespace H4.Props.C05
open H4.Bits H4.NBit H4.BitIO


theorem encode_valid (c : Cfg) (hc : c.Field) : ∀ (xs : List UInt8) (pos : Nat), ValidFields (encode c pos xs).1 := by
  intro xs
  induction xs with
  | nil => intro pos f hf; simp [encode] at hf
  | cons x xs ih =>
    intro pos f hf
    simp only [encode, List.mem_append] at hf
    rcases hf with hf | hf
    · exact encByte_valid (shape_getD c hc pos) x f hf
    · exact ih _ f hf

/-- what `nbit_projection` says, for every value size `nt_size ≥ 1` (not only the sizes 1, 2, 4, 8 of `Cfg.Valid`) -/
theorem nbit_projection_any (c : Cfg) (h : c.Field) (v : List UInt8) (hlen : v.length = c.ntSize) (prev : Bool) :
    ValidFields (encode c 0 v).1 ∧
    (encode c 0 v).1.map Prod.fst = itemWidths c ∧
    (decItem c ((encode c 0 v).1.map fun f => f.2 % 2 ^ f.1) prev).1 = project c v := by
  obtain ⟨e1, e2⟩ := encode_vals c v 0 (by omega)
  rw [List.drop_zero] at e1 e2
  refine ⟨encode_valid c h v 0, ?_, ?_⟩
  · rw [e2, hlen, ← length_maskInfos c, List.take_length]; rfl
  · rw [e1]
    have hp := decItem_projection c h v hlen prev
    unfold project
    rw [← hp]
    have hl : v.length = (decItem c (itemVals (maskInfos c) v) prev).1.length := by rw [length_decItem c v hlen prev, hlen]
    rw [hl, bitsBytes_bytesBits]


/-- `nbit_projection`.  For every number-type size `nt_size ∈ {1,2,4,8}` (all sizes `DFKNTsize` returns), every
    `start_bit`/`bit_len` with `0 ≤ bit_len-1 ≤ start_bit < 8·nt_size`, both `sign_ext` and both `fill_one` flags and EVERY value
    `v` (its `nt_size` bytes in file order):
    * the `Hbitwrite` calls the encoder makes for `v` are valid fields (1..32 bits) whose widths are exactly the widths the
      decoder reads for one item, and
    * feeding the decoder the words the bit layer returns for them (`bit_roundtrip`: the low `w` bits of each) yields exactly the
      documented projection: field kept, bits below filled with `fill_one`, bits above filled with `fill_one` or, when
      sign-extending, with the top bit of the field.  (`prev` is the stale C variable `sign_bit`: irrelevant.) -/
theorem nbit_projection (c : Cfg) (hv : c.Valid) (v : List UInt8) (hlen : v.length = c.ntSize) (prev : Bool) :
    ValidFields (encode c 0 v).1 ∧
    (encode c 0 v).1.map Prod.fst = itemWidths c ∧
    (decItem c ((encode c 0 v).1.map fun f => f.2 % 2 ^ f.1) prev).1 = project c v :=
  nbit_projection_any c hv.field v hlen prev

/-- the projection as a statement on bit lists (what `nbit_projection` says, without packing back to bytes) -/
theorem nbit_projection_bits (c : Cfg) (hv : c.Valid) (v : List UInt8) (hlen : v.length = c.ntSize) (prev : Bool) :
    bytesBits (decItem c ((encode c 0 v).1.map fun f => f.2 % 2 ^ f.1) prev).1 = projectBits c (bytesBits v) := by
  rw [(encode_vals c v 0 (by omega)).1, List.drop_zero]
  exact decItem_projection c hv.field v hlen prev

/-- the encoder is a per-byte fold: ANY partition of the data into `Hwrite` calls produces the same `Hbitwrite` calls -/
theorem nbit_encode_partition (c : Cfg) (xs ys : List UInt8) (pos : Nat) :
    (encode c pos (xs ++ ys)).1 = (encode c pos xs).1 ++ (encode c (encode c pos xs).2 ys).1 := by
  rw [encode_append]

/-- non-vacuity: a valid 16-bit configuration, and the projection of a concrete value
    (`0x03ff`, field = bits 9..4 = `111111`, sign-extended, zero fill: `0xfff0`) -/
example : ({ ntSize := 2, signExt := true, fillOne := false, maskOff := 9, maskLen := 6 } : Cfg).Valid := by decide
example : project { ntSize := 2, signExt := true, fillOne := false, maskOff := 9, maskLen := 6 } [0x03, 0xff] = [0xff, 0xf0] := by
  decide +kernel
example : (decItem { ntSize := 2, signExt := true, fillOne := false, maskOff := 9, maskLen := 6 }
    ((encode { ntSize := 2, signExt := true, fillOne := false, maskOff := 9, maskLen := 6 } 0 [0x03, 0xff]).1.map fun f => f.2 % 2 ^ f.1)).1
    = [0xff, 0xf0] := by decide +kernel

/-- reads that do not end on a boundary of the expansion buffer (known finding `nbit-read-partition`): a 4-byte read followed by an
    8-byte read of an `int32` element written as 01..0c; the second read re-fills for value #2 and does not deliver the bytes the
    buffer held before (`0xbe` here), because `HCIcnbit_decode` tracks how many expanded bytes the buffer holds (`buf_len`) -/
example : readBack { ntSize := 4, signExt := false, fillOne := false, maskOff := 31, maskLen := 32 }
    (compress { ntSize := 4, signExt := false, fillOne := false, maskOff := 31, maskLen := 32 } [1, 2, 3, 4, 5, 6, 7, 8, 9, 10, 11, 12])
    [4, 8] 0xbe = [[1, 2, 3, 4], [5, 6, 7, 8, 9, 10, 11, 12]] := by decide +kernel

/-- the same element read in one call is delivered correctly (whole path through the bit layer) -/
example : readBack { ntSize := 4, signExt := false, fillOne := false, maskOff := 31, maskLen := 32 }
    (compress { ntSize := 4, signExt := false, fillOne := false, maskOff := 31, maskLen := 32 } [1, 2, 3, 4, 5, 6, 7, 8, 9, 10, 11, 12])
    [12] 0xbe = [[1, 2, 3, 4, 5, 6, 7, 8, 9, 10, 11, 12]] := by decide +kernel



theorem refillItems_ok (c : Cfg) (hv : c.Field) : ∀ (vs : List (List UInt8)) (st : St) (sg : Bool) (tail : List Bool),
    (∀ v ∈ vs, v.length = c.ntSize) → RInv st → avail st = fieldsBits (vs.map fun v => (encode c 0 v).1).flatten ++ tail →
    ∃ st' sg', refillItems c vs.length st sg = some ((vs.map (project c)).flatten, st', sg') ∧ RInv st' ∧ avail st' = tail := by
  intro vs
  induction vs with
  | nil => intro st sg tail _ hr ha; exact ⟨st, sg, rfl, hr, by simpa [fieldsBits] using ha⟩
  | cons v vs ih =>
    intro st sg tail h hr ha
    have hlen := h v (by simp)
    obtain ⟨p1, p2, p3⟩ := nbit_projection_any c hv v hlen sg
    simp only [List.map_cons, List.flatten_cons, fieldsBits_append, List.append_assoc] at ha
    have hsum : (itemWidths c).sum = (fieldsBits (encode c 0 v).1).length := by rw [← p2, sum_widths]
    have hvw : ∀ w ∈ itemWidths c, 1 ≤ w ∧ w ≤ 32 := by
      rw [← p2]; intro w hw
      obtain ⟨f, hf, rfl⟩ := List.mem_map.mp hw
      exact p1 f hf
    obtain ⟨st1, e1, r1, a1⟩ := readFieldsS_ok (itemWidths c) st hr hvw (by rw [ha, hsum]; simp)
    rw [ha, hsum, List.drop_append_of_le_length (Nat.le_refl _), List.drop_of_length_le (Nat.le_refl _), List.nil_append] at a1
    have hvals : takeFields (fieldsBits (encode c 0 v).1 ++ (fieldsBits (vs.map fun v => (encode c 0 v).1).flatten ++ tail)) (itemWidths c) =
        (encode c 0 v).1.map fun f => f.2 % 2 ^ f.1 := by
      rw [takeFields_append _ _ _ (by rw [hsum]; exact Nat.le_refl _), ← p2, takeFields_fieldsBits]
    rw [ha, hvals] at e1
    obtain ⟨st', sg', e2, r2, a2⟩ := ih st1 (decItem c ((encode c 0 v).1.map fun f => f.2 % 2 ^ f.1) sg).2 tail
      (fun w hw => h w (by simp [hw])) r1 a1
    refine ⟨st', sg', ?_, r2, a2⟩
    simp only [List.length_cons, refillItems, e1, e2, List.map_cons, List.flatten_cons]
    rw [p3]

theorem decodeLoop_ok (c : Cfg) (hv : c.Field) : ∀ (fuel : Nat) (vs : List (List UInt8)) (d : Dec) (acc : List UInt8) (tail : List Bool),
    vs.length < fuel → (∀ v ∈ vs, v.length = c.ntSize) → RInv d.st → d.bufLen ≤ d.bufPos →
    avail d.st = fieldsBits (valueFields c vs) ++ tail →
    ∃ d', decodeLoop c fuel d (vs.length * c.ntSize) acc = (d', acc ++ (vs.map (project c)).flatten) ∧
      RInv d'.st ∧ d'.bufLen ≤ d'.bufPos ∧ avail d'.st = tail := by
  have hn := hv.pos
  intro fuel
  induction fuel with
  | zero => intro vs d acc tail h; omega
  | succ fuel ih =>
    intro vs d acc tail hf hvs hr hb ha
    unfold decodeLoop
    by_cases h0 : vs.length * c.ntSize = 0
    · have : vs = [] := by
        cases vs with
        | nil => rfl
        | cons v vs => exact absurd h0 (Nat.ne_of_gt (Nat.mul_pos (by simp) hn))
      subst this
      simp only [List.length_nil, Nat.zero_mul, if_true]
      exact ⟨d, by simp, hr, hb, by simpa [valueFields_nil, fieldsBits] using ha⟩
    · rw [if_neg h0]
      have hk : 0 < vs.length := by
        cases vs with
        | nil => simp at h0
        | cons v vs => simp
      have hk1le := (H4.Lemmas.C05NBitFn.refillCount_whole c hn vs.length).2 hk
      generalize hk1 : H4.Lemmas.C05NBitFn.refillCount c (vs.length * c.ntSize) = k1 at hk1le
      change max _ 1 = k1 at hk1
      rw [hk1]
      have hsplit : vs = vs.take k1 ++ vs.drop k1 := (List.take_append_drop k1 vs).symm
      have hl1 : (vs.take k1).length = k1 := by rw [List.length_take]; omega
      have ha1 : avail d.st = fieldsBits (valueFields c (vs.take k1)) ++ (fieldsBits (valueFields c (vs.drop k1)) ++ tail) := by
        rw [ha]; conv => lhs; rw [hsplit]
        rw [valueFields_append, fieldsBits_append, List.append_assoc]
      obtain ⟨st', sg', e, r', a'⟩ := refillItems_ok c hv (vs.take k1) d.st d.sign _
        (fun v hv' => hvs v (List.mem_of_mem_take hv')) hr ha1
      rw [hl1] at e
      have hlen1 := length_projects c (vs.take k1) (fun v hv' => hvs v (List.mem_of_mem_take hv'))
      rw [hl1] at hlen1
      have hbp : d.bufPos ≥ d.bufLen := hb
      simp only [hbp, if_true, e, Nat.sub_zero]
      generalize hI : ((vs.take k1).map (project c)).flatten = items at *
      have hle : k1 * c.ntSize ≤ vs.length * c.ntSize := Nat.mul_le_mul_right _ hk1le
      have hcopy : (if vs.length * c.ntSize > k1 * c.ntSize then k1 * c.ntSize else vs.length * c.ntSize) = k1 * c.ntSize := by
        split <;> omega
      rw [hcopy]
      have htake : List.take (k1 * c.ntSize) (List.drop 0 (items ++ List.drop items.length d.buffer)) = items := by
        rw [List.drop_zero, List.take_append_of_le_length (by omega), List.take_of_length_le (by omega)]
      rw [htake]
      have hrem : vs.length * c.ntSize - k1 * c.ntSize = (vs.drop k1).length * c.ntSize := by
        rw [List.length_drop, Nat.sub_mul]
      rw [hrem]
      obtain ⟨d', e2, r2, b2, a2⟩ := ih (vs.drop k1)
        { st := st', buffer := items ++ List.drop items.length d.buffer, bufPos := 0 + k1 * c.ntSize, bufLen := k1 * c.ntSize, sign := sg', fail := d.fail }
        (acc ++ items) tail (by rw [List.length_drop]; omega) (fun v hv' => hvs v (List.mem_of_mem_drop hv')) r' (by simp) a'
      refine ⟨d', ?_, r2, b2, a2⟩
      rw [e2, List.append_assoc]
      congr 1
      rw [← hI]
      conv => rhs; rw [hsplit]
      simp only [List.map_append, List.flatten_append, List.map_take, List.map_drop]

theorem avail_compress (c : Cfg) (hv : c.Field) (vs : List (List UInt8)) (hall : ∀ v ∈ vs, v.length = c.ntSize) :
    ∃ kpad, avail (startRead (compress c vs.flatten)) = fieldsBits (valueFields c vs) ++ List.replicate kpad false := by
  obtain ⟨f1, _⟩ := encode_values c hv.pos vs hall
  obtain ⟨⟨kpad, _, ht⟩, _⟩ := bitwrite_refines _ (encode_valid c hv vs.flatten 0) false
  exact ⟨kpad, by rw [H4.Lemmas.C05NBitFn.avail_startRead]; unfold compress valueFields; rw [ht, f1]⟩

/-- `nbit_element_roundtrip` for every value size `nt_size ≥ 1` -/
theorem nbit_element_roundtrip_any (c : Cfg) (hv : c.Field) (chunks : List (List (List UInt8)))
    (hvs : ∀ ch ∈ chunks, ∀ v ∈ ch, v.length = c.ntSize) (stale : UInt8) :
    readBack c (compress c chunks.flatten.flatten) (chunks.map fun ch => ch.length * c.ntSize) stale =
      chunks.map fun ch => (ch.map (project c)).flatten := by
  have hn := hv.pos
  obtain ⟨kpad, ha'⟩ := avail_compress c hv chunks.flatten fun v hv' => by
    obtain ⟨ch, hch, hvc⟩ := List.mem_flatten.mp hv'
    exact hvs ch hch v hvc
  have key : ∀ (chs : List (List (List UInt8))) (d : Dec) (tail : List Bool),
      (∀ ch ∈ chs, ∀ v ∈ ch, v.length = c.ntSize) → RInv d.st → d.bufLen ≤ d.bufPos →
      avail d.st = fieldsBits (valueFields c chs.flatten) ++ tail →
      runOps c d ((chs.map fun ch => ch.length * c.ntSize).map .read) = chs.map fun ch => (ch.map (project c)).flatten := by
    intro chs
    induction chs with
    | nil => intro d tail _ _ _ _; rfl
    | cons ch chs ih =>
      intro d tail h hr hb hav
      simp only [List.flatten_cons, valueFields_append, fieldsBits_append, List.append_assoc] at hav
      obtain ⟨d', e, r', b', a'⟩ := decodeLoop_ok c hv (ch.length * c.ntSize + 1) ch d [] _
        (by have := Nat.le_mul_of_pos_right ch.length hn; omega) (h ch (by simp)) hr hb hav
      simp only [List.map_cons, runOps, decode, e, List.nil_append]
      rw [ih d' tail (fun ch' hc' => h ch' (by simp [hc'])) r' b' a']
  unfold readBack decodeAll
  exact key chunks _ _ hvs (startRead_ok _).1 (by simp) ha'

/-- `nbit_element_roundtrip`: the whole path, for ANY partition into whole-value transfers.  An element written with any
    sequence of whole values (through the real bit layer: `Hbitwrite`s, buffering, `Hendbitaccess`) and read back from the start
    with any sequence of `Hread`s of whole values - `chunks` groups the values by read; reads of any size, also larger than the
    1024-byte expansion buffer, growing or shrinking - returns in every read the documented projection of its values, whatever
    the expansion buffer held before (`stale`).  The write side is partition-independent as well (`nbit_encode_partition`). -/
theorem nbit_element_roundtrip (c : Cfg) (hv : c.Valid) (chunks : List (List (List UInt8)))
    (hvs : ∀ ch ∈ chunks, ∀ v ∈ ch, v.length = c.ntSize) (stale : UInt8) :
    readBack c (compress c chunks.flatten.flatten) (chunks.map fun ch => ch.length * c.ntSize) stale =
      chunks.map fun ch => (ch.map (project c)).flatten :=
  nbit_element_roundtrip_any c hv.field chunks hvs stale

example : readBack { ntSize := 2, signExt := true, fillOne := false, maskOff := 9, maskLen := 6 }
    (compress { ntSize := 2, signExt := true, fillOne := false, maskOff := 9, maskLen := 6 } [0x03, 0xff, 0x02, 0x00]) [4] 0xbe
    = [[0xff, 0xf0, 0xfe, 0x00]] := by decide +kernel

end H4.Props.C05
