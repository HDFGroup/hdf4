import H4.Lemmas.C16Fn
import H4.Props.C16
/-! # C16, function level (Tie A): the physical I/O layer of `hdf/src/hfile.c` AS TRANSLATED from the current C text
    (`H4.Gen.Fn.Hfile`: `HPseek`, `HP_read`, `HP_write`, generated by gen/c2lean.py) computes the hand model `H4.HPIO`
    that `H4.Props.C16` is about - for EVERY outcome of every stdio call.

    How the stdio calls are treated.  The translator does not interpret `fseek` / `fread` / `ferror` / `fwrite` (the expansions of
    `HI_SEEK`, `HI_READ_AVAIL`, `HI_WRITE`): each call takes its RESULT from a tape given at entry (`io_res`, cell `io_cnt`) and
    appends the record `[code, argument, result]` to `io_log`.  So
      * `H4.Lemmas.C16Fn.HPseek_spec / HP_write_spec / HP_read_spec` hold for every tape: never undefined behaviour, and return value,
        `f_cur_off`, `last_op`, the requests issued, the buffer are the closed forms `seekOut / writeOut / readOut`;
      * the theorems below relate a run to the world through `H4.HPWorld.serve`, the stdio contract (stated there):
        `serve w err log payload input faults = some w'` says that the logged results are what the contract allows for the logged requests
        on stream `w` under the fault schedule `faults`, and that `w'` is the stream afterwards.
    `*_refines`: for every model state, every tape and every fault schedule the tape is consistent with, the C function returns what
    the hand model's step returns on that fault schedule, leaves `f_cur_off` / `last_op` as the model does, and the world's stream is the
    model's.  `*_inv`, `cache_sound_C`: the invariant of `H4.Props.C16.cache_sound` restated (`InvC`: on the record `h.cur`, `opCode h.last`
    and the stream `h.s` of a model state `h` it is `C16.Inv h`, by cases on `h.last`) and proved on the C text directly, for ANY `last_op : Int`, any
    buffer cells, `bytes = 0` and any fault list, which `*_refines` do not cover. -/
namespace H4.Props.C16Fn
open H4.Gen.Fn.Hfile H4.HPIO H4.HPWorld H4.Lemmas.C16Fn H4.Props.C16

/-- the request `HPseek` issues (none when the cached position is trusted and equal to `off`) -/
def seekReq (h : HP) (off : Nat) (r : Int) : List Int := if h.cur ≠ off ∨ h.last = .unknown then [cSeek, off, r] else []

/-- the requests `HP_write` issues -/
def writeReq (h : HP) (n : Nat) (tape : List Int) (cnt : Int) : List Int :=
  if h.last = .read ∨ h.last = .unknown then
    [cSeek, (h.cur : Int), tape.getD cnt.toNat 0] ++ (if tape.getD cnt.toNat 0 = 0 then [cWrite, (n : Int), tape.getD (cnt + 1).toNat 0] else [])
  else [cWrite, (n : Int), tape.getD cnt.toNat 0]
/-- ... and the bytes they carry -/
def writePayload (h : HP) (bs : List Byte) (tape : List Int) (cnt : Int) : List Int :=
  if (h.last = .read ∨ h.last = .unknown) ∧ tape.getD cnt.toNat 0 ≠ 0 then [] else toInts bs

/-- the requests `HP_read` issues -/
def readReq (h : HP) (n : Nat) (tape : List Int) (cnt : Int) : List Int :=
  if h.last = .write ∨ h.last = .unknown then
    [cSeek, (h.cur : Int), tape.getD cnt.toNat 0] ++
      (if tape.getD cnt.toNat 0 = 0 then [cRead, (n : Int), tape.getD (cnt + 1).toNat 0, cFerror, 0, tape.getD (cnt + 1 + 1).toNat 0] else [])
  else [cRead, (n : Int), tape.getD cnt.toNat 0, cFerror, 0, tape.getD (cnt + 1).toNat 0]

section
/- Each leaf of the three refinement proofs evaluates the requests of the closed form (they are `seekReq` / `writeReq` / `readReq`), evaluates
   `serve` on them, evaluates the model's step, and compares; the `simp` calls name the closed form, the requests and the model step they
   unfold, these are the evaluation rules. -/
attribute [local simp] rwFaults serve_seek serve_write serve_nil codes opCode_eq opc Int.natCast_inj

/-- **`HPseek` refines `hpSeek`.**  For every model state `h` (the C record holds `h.cur` and the code of `h.last`), every offset, EVERY
    tape: no undefined behaviour, the requests issued are `seekReq` (one `fseek(off, SEEK_SET)` unless the cache is trusted and already at
    `off`); and for every fault outcome `fs` of that request that the tape is consistent with under the stdio contract (`serve … = some w'`):
    return value, `f_cur_off`, `last_op` are those of the model's step on `fs`, and the world's stream is the model's. -/
theorem HPseek_refines (fuel : Nat) (h : HP) (off : Nat) (tape : List Int) (cnt : Int) (log : List Int)
    (fs : Option Fault) (err : Bool) (w' : Stream) :
    let s := HPseek fuel h.cur (opCode h.last) off tape cnt log
    let m := hpSeek h off fs
    let req := seekReq h off (tape.getD cnt.toNat 0)
    s.ub = false ∧ s.oof = false ∧ s.io_log = log ++ req ∧
    (serve h.s err req [] [] [fs] = some w' →
      s.ret = (if m.2 then 0 else -1) ∧ s.file_rec_f_cur_off = m.1.cur ∧ s.file_rec_last_op = opCode m.1.last ∧ w' = m.1.s) := by
  intro s m req
  obtain ⟨k1, k2, k3, k4, k5, -, k7⟩ := HPseek_spec fuel h.cur (opCode h.last) off tape cnt log
  simp only [s, m, req, k3, k4, k5, k7]
  refine ⟨k1, k2, ?_⟩
  -- the cases are the branches of the closed form and of the model: is a seek due, did `fseek` answer 0, did the world fault
  -- `eq_comm (b := w')`: the contract yields `x = w'`, the claim reads `w' = x`
  by_cases need : h.cur ≠ off ∨ h.last = .unknown <;> by_cases hr : tape[cnt.toNat]?.getD 0 = 0 <;> cases fs <;>
    simp [seekOut, seekReq, hpSeek, *, eq_comm (b := w')]

/-- **`HP_write` refines `hpWrite true`** (`fixed = true`).  Every model state, every byte string shorter than 2^31, EVERY tape:
    no undefined behaviour; the requests issued are `writeReq` (the `fseek` to `f_cur_off` that stdio requires after a read / with an
    unknown position, then - when that worked - the `fwrite`), their payload `writePayload`; and for every fault schedule (`fs` for the
    implied seek, `fw` for the write) the tape is consistent with: return value, `f_cur_off`, `last_op` and the world's stream (file bytes
    and position) are the model's step on that schedule.  (A "fault" of a zero-length `fwrite` has no consistent tape: C cannot see it.) -/
theorem HP_write_refines (fuel : Nat) (h : HP) (bs : List Byte) (tape : List Int) (cnt : Int) (log out : List Int)
    (fs fw : Option Fault) (err : Bool) (w' : Stream) (hn : bs.length < 2147483648) :
    let s := HP_write fuel (opCode h.last) h.cur (toInts bs) bs.length tape cnt log out
    let m := hpWrite true h bs fs fw
    let req := writeReq h bs.length tape cnt
    let pay := writePayload h bs tape cnt
    s.ub = false ∧ s.oof = false ∧ s.io_log = log ++ req ∧ s.io_out = out ++ pay ∧
    (serve h.s err req pay [] (rwFaults (h.last = .read ∨ h.last = .unknown) fs fw) = some w' →
      s.ret = (if m.2 then 0 else -1) ∧ s.file_rec_f_cur_off = m.1.cur ∧ s.file_rec_last_op = opCode m.1.last ∧ w' = m.1.s) := by
  intro s m req pay
  obtain ⟨k1, k2, k3, k4, k5, -, k7, k8⟩ := HP_write_spec fuel (opCode h.last) h.cur (toInts bs) bs.length tape cnt log out
    (by omega) (by omega) (by simp)
  simp only [s, m, req, pay, k3, k4, k5, k7, k8]
  refine ⟨k1, k2, ?_⟩
  obtain ⟨r0, hr0⟩ : ∃ r0, tape[cnt.toNat]?.getD 0 = r0 := ⟨_, rfl⟩
  obtain ⟨r1, hr1⟩ : ∃ r1, tape[(cnt + 1).toNat]?.getD 0 = r1 := ⟨_, rfl⟩
  by_cases need : h.last = .read ∨ h.last = .unknown
  · by_cases hr : r0 = 0
    · by_cases hw : r1 = bs.length <;> cases fs <;> cases fw <;> simp [writeOut, seekOut, writeReq, writePayload, hpWrite, hpSeek, *, eq_comm (b := w'), eq_comm (a := (bs.length : Int))]
    · cases fs <;> simp [writeOut, seekOut, writeReq, writePayload, hpWrite, hpSeek, *, eq_comm (b := w')]
  · by_cases hw : r0 = bs.length <;> cases fw <;> simp [writeOut, writeReq, writePayload, hpWrite, *, eq_comm (b := w'), eq_comm (a := (bs.length : Int))]

/-- **`HP_read` refines `hpReadZ`** (= `hpRead true` of `H4.Props.C16` when the record is not in the zero-delivery state, `readZ_false`).
    Every model state, every `0 < n < 2^31`, every `cache` / `dirty` / `f_end_off`, a buffer of at least `n` cells, EVERY tape: no
    undefined behaviour, the requests issued are `readReq` (implied `fseek`, `fread`, `ferror`); and for every fault schedule the tape is
    consistent with: return value, `f_cur_off`, `last_op` are the model's, the world's file bytes are the model's, its position is the
    model's whenever the model trusts it (the exception: a fault-free short read from a position BEYOND the end of the file leaves the
    stream there, the model says "at the end"; `last_op` is UNKNOWN then), and on SUCCEED the first `n` buffer cells are the model's bytes.
    `0 < n` is needed: `HP_read` of 0 bytes at a position beyond the end of the file succeeds in C (`fread` delivers 0 = bytes) and fails
    in the model (`HP_read_zero_beyond_eof`); `HP_read_spec` / `HP_read_inv` / `HP_read_reports` cover `n = 0` too. -/
theorem HP_read_refines (fuel : Nat) (h : HP) (n : Nat) (cache dirty endoff : Int) (buf tape : List Int) (cnt : Int) (log inp : List Int)
    (pos : Int) (fs fr : Option Fault) (err : Bool) (w' : Stream)
    (hn0 : 0 < n) (hn : n < 2147483648) (hbuf : n ≤ buf.length) (hd : 0 ≤ dirty) :
    let s := HP_read fuel (opCode h.last) h.cur cache dirty endoff buf n tape cnt log inp pos
    let zok := decide (cache ≠ 0 ∧ dirty.toNat &&& H4.Gen.Hpio.FILE_END_DIRTY ≠ 0 ∧ (n : Int) ≤ endoff - h.cur)
    let m := hpReadZ h n zok fs fr
    let req := readReq h n tape cnt
    s.ub = false ∧ s.oof = false ∧ s.io_log = log ++ req ∧
    (serve h.s err req [] (inp.drop pos.toNat) (rwFaults (h.last = .write ∨ h.last = .unknown) fs fr) = some w' →
      s.ret = (if m.2.isSome then 0 else -1) ∧ s.file_rec_f_cur_off = m.1.cur ∧ s.file_rec_last_op = opCode m.1.last ∧
      w'.data = m.1.s.data ∧ (w'.pos = m.1.s.pos ∨ (m.1.last = .unknown ∧ m.1.s.data.length < w'.pos)) ∧
      ∀ bs, m.2 = some bs → s.buf.take n = toInts bs) := by
  obtain ⟨⟨d, p⟩, c, l⟩ := h
  intro s zok m req
  obtain ⟨k1, k2, k3, k4, k5, -, k7, k8, -⟩ := HP_read_spec fuel (opCode l) c cache dirty endoff buf n tape cnt log inp pos
    (by omega) (by omega) (by omega) hd
  simp only [s, m, req, zok, k3, k4, k5, k7, k8]
  refine ⟨k1, k2, ?_⟩
  obtain ⟨r0, hr0⟩ : ∃ r0, tape[cnt.toNat]?.getD 0 = r0 := ⟨_, rfl⟩
  by_cases need : l = .write ∨ l = .unknown
  · by_cases hr : r0 = 0
    · cases fs with
      | some f => simp [readOut, seekOut, readReq, need, hr0, hr]
      | none =>
        refine ⟨by simp [readOut, seekOut, readReq, need, hr0, hr], fun hs => ?_⟩
        have := readTail_ok d c c .seek (.inl rfl) n cache dirty endoff buf inp pos _ _ none fr err w' hn0 hn
          (by simpa [readOut, seekOut, readReq, need, hr0, hr] using hs)
        simpa [readOut, seekOut, readReq, need, hr0, hr, hpReadZ_seek_ok ⟨⟨d, p⟩, c, l⟩ n _ none fr need] using this
    · cases fs <;> simp [readOut, seekOut, readReq, need, hr0, hr, hpReadZ, hpSeek] <;> rintro rfl <;> simp
  · refine ⟨by simp [readOut, readReq, need], fun hs => ?_⟩
    have := readTail_ok d p c l (by cases l <;> simp at need ⊢) n cache dirty endoff buf inp pos _ _ fs fr err w' hn0 hn
      (by simpa [readOut, seekOut, readReq, need] using hs)
    simpa [readOut, seekOut, readReq, need] using this
end

/-- the deviation behind `0 < n`: record says SEEK at 5, the file has 2 bytes, the stream stands at 5; a read of 0 bytes -/
theorem HP_read_zero_beyond_eof :
    (HP_read 0 (opCode .seek) 5 0 0 0 [] 0 [0, 0] 0 [] [] 0).ret = 0 ∧
    serve ⟨[1, 2], 5⟩ false (HP_read 0 (opCode .seek) 5 0 0 0 [] 0 [0, 0] 0 [] [] 0).io_log [] [] [none] = some ⟨[1, 2], 5⟩ ∧
    (hpRead true ⟨⟨[1, 2], 5⟩, 5, .seek⟩ 0 none none).2 = none := by decide

/-- the invariant of `H4.Props.C16` on the C record and the world: a `last_op` other than UNKNOWN vouches for `f_cur_off` -/
def InvC (cur last : Int) (w : Stream) : Prop := last ≠ (H4.Gen.Hpio.H4_OP_UNKNOWN : Int) → (w.pos : Int) = cur

/-- one call of the translated `HPseek` keeps the invariant: any record and stream that satisfy it, any offset, ANY tape and ANY fault
    schedule under which the contract accepts the requests the call logged -/
theorem HPseek_inv (fuel : Nat) (cur last off : Int) (tape : List Int) (cnt : Int) (log : List Int)
    (w : Stream) (err : Bool) (faults : List (Option Fault)) (w' : Stream) (hi : InvC cur last w) :
    let s := HPseek fuel cur last off tape cnt log
    ∀ newlog, s.io_log = log ++ newlog → serve w err newlog [] [] faults = some w' →
      InvC s.file_rec_f_cur_off s.file_rec_last_op w' := by
  intro s newlog hlog hs
  obtain ⟨-, -, -, k4, k5, -, k7⟩ := HPseek_spec fuel cur last off tape cnt log
  obtain rfl := List.append_cancel_left (hlog.symm.trans k7)
  simp only [s, k4, k5]
  revert hs
  unfold seekOut
  simp only
  split
  · split
    · rename_i h0
      intro hs _
      obtain ⟨h0, hs⟩ := serve_seek_ok (h0 ▸ hs)
      obtain rfl := Option.some.inj ((serve_nil ..).symm.trans hs)
      simp; omega
    · rename_i h0
      intro hs
      obtain rfl := serve_seek_failed h0 hs
      exact hi
  · intro hs
    obtain rfl := Option.some.inj ((serve_nil ..).symm.trans hs)
    exact hi

/-- one call of the translated `HP_write` keeps the invariant (a buffer of `bytes` cells, `0 <= bytes < 2^31`) -/
theorem HP_write_inv (fuel : Nat) (last cur : Int) (buf : List Int) (bytes : Int) (tape : List Int) (cnt : Int) (log out : List Int)
    (w : Stream) (err : Bool) (faults : List (Option Fault)) (w' : Stream)
    (hb : 0 ≤ bytes) (hbi : bytes < 2147483648) (hbuf : bytes ≤ buf.length) (hi : InvC cur last w) :
    let s := HP_write fuel last cur buf bytes tape cnt log out
    ∀ newlog payload, s.io_log = log ++ newlog → s.io_out = out ++ payload → serve w err newlog payload [] faults = some w' →
      InvC s.file_rec_f_cur_off s.file_rec_last_op w' := by
  intro s newlog payload hlog hout hs
  obtain ⟨-, -, -, k4, k5, -, k7, k8⟩ := HP_write_spec fuel last cur buf bytes tape cnt log out hb hbi hbuf
  obtain rfl := List.append_cancel_left (hlog.symm.trans k7)
  obtain rfl := List.append_cancel_left (hout.symm.trans k8)
  simp only [s, k4, k5]
  intro hl
  obtain ⟨hc, hlog⟩ := writeOut_last last cur buf bytes tape cnt (by simpa [consts] using hl)
  rw [hc]
  rw [hlog] at hs
  obtain ⟨p, _, hp, hs⟩ := serve_seek_prefix (fun hn => hi (by simpa [consts] using fun h => hn (.inr h))) hs
  have := serve_write_ok hs
  simp only at this
  omega

/-- one call of the translated `HP_read` keeps the invariant (any `bytes >= 0`, any cache / dirty / f_end_off, any delivered bytes) -/
theorem HP_read_inv (fuel : Nat) (last cur cache dirty endoff : Int) (buf : List Int) (bytes : Int) (tape : List Int) (cnt : Int)
    (log inp : List Int) (pos : Int) (w : Stream) (err : Bool) (faults : List (Option Fault)) (input : List Int) (w' : Stream)
    (hb : 0 ≤ bytes) (hbi : bytes < 2147483648) (hbuf : bytes ≤ buf.length) (hd : 0 ≤ dirty) (hi : InvC cur last w) :
    let s := HP_read fuel last cur cache dirty endoff buf bytes tape cnt log inp pos
    ∀ newlog, s.io_log = log ++ newlog → serve w err newlog [] input faults = some w' →
      InvC s.file_rec_f_cur_off s.file_rec_last_op w' := by
  intro s newlog hlog hs
  obtain ⟨-, -, -, k4, k5, -, k7, -⟩ := HP_read_spec fuel last cur cache dirty endoff buf bytes tape cnt log inp pos hb hbi hbuf hd
  obtain rfl := List.append_cancel_left (hlog.symm.trans k7)
  simp only [s, k4, k5]
  intro hl
  obtain ⟨hw, -, hc, -, hlog⟩ := readOut_last last cur cache dirty endoff buf bytes tape cnt inp pos (by simpa [consts] using hl)
  rw [hc]
  rw [hlog] at hs
  obtain ⟨p, _, hp, hs⟩ := serve_seek_prefix (fun hn => hi (by simpa [consts] using fun h => hn (.inr h))) hs
  obtain ⟨h1, h2, h3⟩ := serve_read_ok hs
  have := wrap32_small _ bytes h1 (by omega) hbi hw
  simp only at h3
  omega

/-- the states (C record: `f_cur_off`, `last_op`; world: the stream) reachable from a freshly opened file by ANY history of calls of
    the translated `HPseek` / `HP_read` / `HP_write`, with ANY arguments the C code admits, ANY result tape that the stdio contract
    allows under ANY fault schedule -/
inductive Reach : Int → Int → Stream → Prop
  | opened (d : List Byte) : Reach 0 (H4.Gen.Hpio.H4_OP_UNKNOWN : Int) ⟨d, 0⟩
  | seek {cur last : Int} {w : Stream} (hr : Reach cur last w) (fuel : Nat) (off : Int) (tape : List Int) (cnt : Int) (log : List Int)
      (err : Bool) (faults : List (Option Fault)) (w' : Stream)
      (hs : serve w err ((HPseek fuel cur last off tape cnt log).io_log.drop log.length) [] [] faults = some w') :
      Reach (HPseek fuel cur last off tape cnt log).file_rec_f_cur_off (HPseek fuel cur last off tape cnt log).file_rec_last_op w'
  | write {cur last : Int} {w : Stream} (hr : Reach cur last w) (fuel : Nat) (buf : List Int) (bytes : Int) (tape : List Int) (cnt : Int)
      (log out : List Int) (err : Bool) (faults : List (Option Fault)) (w' : Stream)
      (hb : 0 ≤ bytes) (hbi : bytes < 2147483648) (hbuf : bytes ≤ buf.length)
      (hs : serve w err ((HP_write fuel last cur buf bytes tape cnt log out).io_log.drop log.length)
              ((HP_write fuel last cur buf bytes tape cnt log out).io_out.drop out.length) [] faults = some w') :
      Reach (HP_write fuel last cur buf bytes tape cnt log out).file_rec_f_cur_off (HP_write fuel last cur buf bytes tape cnt log out).file_rec_last_op w'
  | read {cur last : Int} {w : Stream} (hr : Reach cur last w) (fuel : Nat) (cache dirty endoff : Int) (buf : List Int) (bytes : Int)
      (tape : List Int) (cnt : Int) (log inp : List Int) (pos : Int) (err : Bool) (faults : List (Option Fault)) (input : List Int) (w' : Stream)
      (hb : 0 ≤ bytes) (hbi : bytes < 2147483648) (hbuf : bytes ≤ buf.length) (hd : 0 ≤ dirty)
      (hs : serve w err ((HP_read fuel last cur cache dirty endoff buf bytes tape cnt log inp pos).io_log.drop log.length) [] input faults = some w') :
      Reach (HP_read fuel last cur cache dirty endoff buf bytes tape cnt log inp pos).file_rec_f_cur_off
        (HP_read fuel last cur cache dirty endoff buf bytes tape cnt log inp pos).file_rec_last_op w'

/-- **Position-cache soundness on the C text**: in every reachable state, a `last_op` other than `H4_OP_UNKNOWN` means the stream
    really stands at `f_cur_off` (given the stdio contract `serve`). -/
theorem cache_sound_C {cur last : Int} {w : Stream} (h : Reach cur last w) : InvC cur last w := by
  induction h with
  | opened d => simp [InvC]
  | @seek cur last _ hr fuel off tape cnt log err faults w' hs ih =>
    have k := (HPseek_spec fuel cur last off tape cnt log).2.2.2.2.2.2
    exact HPseek_inv fuel _ _ off tape cnt log _ err faults w' ih _ (by rw [k, List.drop_left]) hs
  | @write cur last _ hr fuel buf bytes tape cnt log out err faults w' hb hbi hbuf hs ih =>
    have k := (HP_write_spec fuel last cur buf bytes tape cnt log out hb hbi hbuf).2.2.2.2.2.2
    exact HP_write_inv fuel _ _ buf bytes tape cnt log out _ err faults w' hb hbi hbuf ih _ _
      (by rw [k.1, List.drop_left]) (by rw [k.2, List.drop_left]) hs
  | @read cur last _ hr fuel cache dirty endoff buf bytes tape cnt log inp pos err faults input w' hb hbi hbuf hd hs ih =>
    have k := (HP_read_spec fuel last cur cache dirty endoff buf bytes tape cnt log inp pos hb hbi hbuf hd).2.2.2.2.2.2.1
    exact HP_read_inv fuel _ _ cache dirty endoff buf bytes tape cnt log inp pos _ err faults input w' hb hbi hbuf hd ih _
      (by rw [k, List.drop_left]) hs

/-- `HPseek`: when the `fseek` it issues fails, it returns FAIL - and leaves `f_cur_off` AND `last_op` as they were (it does not
    reset `last_op` to UNKNOWN; `HP_read` / `HP_write` do that themselves before they call it) -/
theorem HPseek_failed_fseek (fuel : Nat) (cur last off : Int) (tape : List Int) (cnt : Int) (log : List Int)
    (hneed : cur ≠ off ∨ last = 0) (hf : tape.getD cnt.toNat 0 ≠ 0) :
    let s := HPseek fuel cur last off tape cnt log
    s.ret = -1 ∧ s.file_rec_f_cur_off = cur ∧ s.file_rec_last_op = last := by
  intro s
  obtain ⟨_, _, k3, k4, k5, _, _⟩ := HPseek_spec fuel cur last off tape cnt log
  simp only [s, k3, k4, k5]
  simp only [List.getD_eq_getElem?_getD] at hf
  simp [seekOut, hneed, hf]

/-- `HPseek` returns SUCCEED exactly when it issued no `fseek` or the `fseek` answered 0 -/
theorem HPseek_reports (fuel : Nat) (cur last off : Int) (tape : List Int) (cnt : Int) (log : List Int) :
    let s := HPseek fuel cur last off tape cnt log
    (s.ret = 0 ∨ s.ret = -1) ∧ (s.ret = 0 ↔ (¬(cur ≠ off ∨ last = 0) ∨ tape.getD cnt.toNat 0 = 0)) := by
  intro s
  obtain ⟨_, _, k3, _⟩ := HPseek_spec fuel cur last off tape cnt log
  simp only [s, k3]
  by_cases h1 : cur ≠ off ∨ last = 0 <;> by_cases h2 : tape[cnt.toNat]?.getD 0 = 0 <;> simp [seekOut, h1, h2]

/-- `HP_write` returns SUCCEED exactly when every stdio call it made succeeded (`fseek` answered 0, `fwrite` wrote all `bytes`);
    whenever it returns FAIL, `last_op` is UNKNOWN - the next operation seeks again -/
theorem HP_write_reports (fuel : Nat) (last cur : Int) (buf : List Int) (bytes : Int) (tape : List Int) (cnt : Int) (log out : List Int)
    (hb : 0 ≤ bytes) (hbi : bytes < 2147483648) (hbuf : bytes ≤ buf.length) :
    let s := HP_write fuel last cur buf bytes tape cnt log out
    (s.ret = 0 ∨ s.ret = -1) ∧ (s.ret = -1 → s.file_rec_last_op = (H4.Gen.Hpio.H4_OP_UNKNOWN : Int)) ∧
    (s.ret = 0 ↔ (if last = 3 ∨ last = 0 then tape.getD cnt.toNat 0 = 0 ∧ tape.getD (cnt + 1).toNat 0 = bytes
                  else tape.getD cnt.toNat 0 = bytes)) := by
  intro s
  obtain ⟨_, _, k3, _, k5, _⟩ := HP_write_spec fuel last cur buf bytes tape cnt log out hb hbi hbuf
  simp only [s, k3, k5]
  obtain ⟨r0, hr0⟩ : ∃ r0, tape[cnt.toNat]?.getD 0 = r0 := ⟨_, rfl⟩
  obtain ⟨r1, hr1⟩ : ∃ r1, tape[(cnt + 1).toNat]?.getD 0 = r1 := ⟨_, rfl⟩
  by_cases h1 : last = 3 ∨ last = 0
  · by_cases h2 : r0 = 0
    · by_cases h3 : r1 = bytes <;> simp [writeOut, seekOut, consts, *, eq_comm (a := bytes)]
    · simp [writeOut, seekOut, consts, *]
  · by_cases h3 : r0 = bytes <;> simp [writeOut, consts, *, eq_comm (a := bytes)]

/-- `HP_read`: SUCCEED means that the `fseek` (if one was issued) answered 0, `ferror` answered 0 and `fread` delivered between 0 and
    `bytes` bytes; `last_op = READ` afterwards means it delivered all of them; FAIL always leaves `last_op` UNKNOWN -/
theorem HP_read_reports (fuel : Nat) (last cur cache dirty endoff : Int) (buf : List Int) (bytes : Int) (tape : List Int) (cnt : Int)
    (log inp : List Int) (pos : Int) (hb : 0 ≤ bytes) (hbi : bytes < 2147483648) (hbuf : bytes ≤ buf.length) (hd : 0 ≤ dirty) :
    let s := HP_read fuel last cur cache dirty endoff buf bytes tape cnt log inp pos
    let c1 := if last = 2 ∨ last = 0 then cnt + 1 else cnt
    (s.ret = 0 ∨ s.ret = -1) ∧ (s.ret = -1 → s.file_rec_last_op = (H4.Gen.Hpio.H4_OP_UNKNOWN : Int)) ∧
    (s.ret = 0 → ((last = 2 ∨ last = 0) → tape.getD cnt.toNat 0 = 0) ∧ tape.getD (c1 + 1).toNat 0 = 0 ∧
       0 ≤ wrap32 (tape.getD c1.toNat 0) ∧ wrap32 (tape.getD c1.toNat 0) ≤ bytes) ∧
    (s.file_rec_last_op = (H4.Gen.Hpio.H4_OP_READ : Int) → s.ret = 0 ∧ wrap32 (tape.getD c1.toNat 0) = bytes) := by
  intro s c1
  obtain ⟨-, -, k3, -, k5, -⟩ := HP_read_spec fuel last cur cache dirty endoff buf bytes tape cnt log inp pos hb hbi hbuf hd
  simp only [s, c1, k3, k5]
  by_cases h1 : last = 2 ∨ last = 0
  · by_cases h2 : tape[cnt.toNat]?.getD 0 = 0
    · simpa [readOut, seekOut, h1, h2, consts] using
        readTail_reports cur cache dirty endoff buf bytes (tape.getD (cnt + 1).toNat 0) (tape.getD (cnt + 1 + 1).toNat 0) inp pos
    · simp [readOut, seekOut, h1, h2, consts]
  · simpa [readOut, seekOut, h1, consts] using
      readTail_reports cur cache dirty endoff buf bytes (tape.getD cnt.toNat 0) (tape.getD (cnt + 1).toNat 0) inp pos

theorem readZ_inv (h : HP) (n : Nat) (zok : Bool) (fs fr : Option Fault) (hi : C16.Inv h) : C16.Inv (hpReadZ h n zok fs fr).1 :=
  C16.readZ_inv h n zok fs fr hi

/-- with `zok = false` (no cache, or the end of the file not dirty, or a request beyond `f_end_off`) `hpReadZ` IS the `hpRead` of the
    theorems of `H4.Props.C16` -/
theorem readZ_false (h : HP) (n : Nat) (fs fr : Option Fault) : hpReadZ h n false fs fr = hpRead true h n fs fr := hpReadZ_false h n fs fr

/-- what the C text does NOT guarantee: a failed `fseek` inside `HPseek` is reported, but `last_op` keeps vouching for `f_cur_off`.
    If a failed `fseek` could move the stream (the contract clause A of `serve` says it cannot), the invariant would be lost:
    here the record says READ at 4, the failed seek to 9 left the stream at 7. -/
theorem failed_fseek_that_moves_breaks_inv :
    ∃ (cur last off : Int) (tape : List Int) (w w' : Stream),
      InvC cur last w ∧ w'.data = w.data ∧
      (HPseek 0 cur last off tape 0 []).ret = -1 ∧ (HPseek 0 cur last off tape 0 []).io_log = [cSeek, off, -1] ∧
      ¬ InvC (HPseek 0 cur last off tape 0 []).file_rec_f_cur_off (HPseek 0 cur last off tape 0 []).file_rec_last_op w' := by
  refine ⟨4, 3, 9, [-1], ⟨[1, 2, 3, 4, 5, 6, 7, 8, 9, 10], 4⟩, ⟨[1, 2, 3, 4, 5, 6, 7, 8, 9, 10], 7⟩, ?_, rfl, by decide, by decide, ?_⟩
  · simp [InvC]
  · have e1 : (HPseek 0 4 3 9 [-1] 0 []).file_rec_f_cur_off = 4 := by decide
    have e2 : (HPseek 0 4 3 9 [-1] 0 []).file_rec_last_op = 3 := by decide
    simp [InvC, e1, e2, consts]

/-- `H4.Props.C16.write_lands` transferred to the C text: from ANY state in which the position cache is sound, when the translated
    `HPseek off` and then the translated `HP_write bs` run against a world that serves their requests without faults, both return
    SUCCEED and the file afterwards is the old file with `bs` at offset `off`. -/
theorem write_lands_C (fuel : Nat) (h : HP) (hi : C16.Inv h) (off : Nat) (bs : List Byte) (hn : bs.length < 2147483648)
    (tape1 tape2 : List Int) (cnt1 cnt2 : Int) (log1 log2 out : List Int) (err : Bool) (w1 w2 : Stream) :
    let s1 := HPseek fuel h.cur (opCode h.last) off tape1 cnt1 log1
    let h1 := (hpSeek h off none).1
    let s2 := HP_write fuel s1.file_rec_last_op s1.file_rec_f_cur_off (toInts bs) bs.length tape2 cnt2 log2 out
    serve h.s err (seekReq h off (tape1.getD cnt1.toNat 0)) [] [] [none] = some w1 →
    serve w1 err (writeReq h1 bs.length tape2 cnt2) (writePayload h1 bs tape2 cnt2) []
        (rwFaults (h1.last = .read ∨ h1.last = .unknown) none none) = some w2 →
    s1.ret = 0 ∧ s2.ret = 0 ∧ w2.data = overwrite h.s.data off bs := by
  intro s1 h1 s2 hs1 hs2
  obtain ⟨_, _, _, hA⟩ := HPseek_refines fuel h off tape1 cnt1 log1 none err w1
  obtain ⟨a1, a2, a3, a4⟩ := hA hs1
  obtain ⟨_, _, _, _, hB⟩ := HP_write_refines fuel h1 bs tape2 cnt2 log2 out none none err w2 hn
  rw [a4] at hs2
  obtain ⟨b1, -, -, b4⟩ := hB hs2
  obtain ⟨_, -, hok⟩ := seek_lands h hi off
  obtain ⟨c1, c2⟩ := write_lands_of_inv h hi off bs
  refine ⟨?_, ?_, ?_⟩
  · simpa [hok] using a1
  · simp only [s2, s1] at a2 a3 ⊢; rw [a2, a3]; simpa [h1, c1] using b1
  · rw [b4]; exact c2

/-- `H4.Props.C16.read_lands` transferred to the C text: after the translated `HPseek off`, a translated `HP_read` of `n` bytes that
    returns SUCCEED (world without faults, file record without the zero-delivery state: cache off) has put the `n` bytes at offset
    `off` of the file into the caller's buffer. -/
theorem read_lands_C (fuel : Nat) (h : HP) (hi : C16.Inv h) (off n : Nat) (hn0 : 0 < n) (hn : n < 2147483648)
    (dirty endoff : Int) (hd : 0 ≤ dirty) (buf : List Int) (hbuf : n ≤ buf.length)
    (tape1 tape2 : List Int) (cnt1 cnt2 : Int) (log1 log2 inp : List Int) (pos : Int) (err : Bool) (w1 w2 : Stream) :
    let s1 := HPseek fuel h.cur (opCode h.last) off tape1 cnt1 log1
    let h1 := (hpSeek h off none).1
    let s2 := HP_read fuel s1.file_rec_last_op s1.file_rec_f_cur_off 0 dirty endoff buf n tape2 cnt2 log2 inp pos
    serve h.s err (seekReq h off (tape1.getD cnt1.toNat 0)) [] [] [none] = some w1 →
    serve w1 err (readReq h1 n tape2 cnt2) [] (inp.drop pos.toNat)
        (rwFaults (h1.last = .write ∨ h1.last = .unknown) none none) = some w2 →
    s2.ret = 0 → s2.buf.take n = toInts ((h.s.data.drop off).take n) := by
  intro s1 h1 s2 hs1 hs2 hret
  obtain ⟨_, _, _, hA⟩ := HPseek_refines fuel h off tape1 cnt1 log1 none err w1
  obtain ⟨-, a2, a3, a4⟩ := hA hs1
  obtain ⟨_, _, _, hB⟩ := HP_read_refines fuel h1 n 0 dirty endoff buf tape2 cnt2 log2 inp pos none none err w2 hn0 hn hbuf hd
  rw [a4] at hs2
  obtain ⟨b1, _, _, _, _, b6⟩ := hB hs2
  simp only [s2, s1] at a2 a3 hret ⊢
  rw [a2, a3] at hret ⊢
  simp only [ne_eq, not_true_eq_false, false_and, decide_false, hpReadZ_false] at b1 b6
  rw [b1] at hret
  cases hm : (hpRead true h1 n none none).2 with
  | none => simp [hm] at hret
  | some bs =>
    rw [b6 bs hm, read_lands h hi off n bs hm]

/-- HPseek on a trusted cache at the same offset issues nothing; elsewhere it issues one fseek -/
example : (HPseek 0 5 1 5 [] 0 []).io_log = [] ∧ (HPseek 0 5 1 5 [] 0 []).ret = 0 := by decide
example : let s := HPseek 0 5 1 8 [0] 0 []
    s.ub = false ∧ s.ret = 0 ∧ s.file_rec_f_cur_off = 8 ∧ s.file_rec_last_op = 1 ∧ s.io_log = [1, 8, 0] ∧ s.io_cnt = 1 := by decide
/-- write after read: the seek that stdio requires is issued first; the tape [0, 2] is what the world answers without faults -/
example : let s := HP_write 0 3 2 [7, 8] 2 [0, 2] 0 [] []
    s.ub = false ∧ s.ret = 0 ∧ s.file_rec_f_cur_off = 4 ∧ s.file_rec_last_op = 2 ∧ s.io_log = [1, 2, 0, 3, 2, 2] ∧ s.io_out = [7, 8] := by decide
example : serve ⟨[1, 2, 3, 4, 5], 0⟩ false [1, 2, 0, 3, 2, 2] [7, 8] [] [none, none] = some ⟨[1, 2, 7, 8, 5], 4⟩ := by decide
/-- the same call when the fwrite is short (1 of 2 bytes): FAIL, last_op UNKNOWN, f_cur_off not advanced -/
example : let s := HP_write 0 3 2 [7, 8] 2 [0, 1] 0 [] []
    s.ub = false ∧ s.ret = -1 ∧ s.file_rec_f_cur_off = 2 ∧ s.file_rec_last_op = 0 := by decide
example : serve ⟨[1, 2, 3, 4, 5], 0⟩ false [1, 2, 0, 3, 2, 1] [7, 8] [] [none, some ⟨9, 1⟩] = some ⟨[1, 2, 7, 4, 5], 9⟩ := by decide
/-- read after write: seek, fread, ferror; full read -/
example : let s := HP_read 0 2 1 0 0 0 [0, 0, 0] 3 [0, 3, 0] 0 [] [2, 3, 4] 0
    s.ub = false ∧ s.ret = 0 ∧ s.file_rec_f_cur_off = 4 ∧ s.file_rec_last_op = 3 ∧ s.io_log = [1, 1, 0, 2, 3, 3, 4, 0, 0] ∧ s.buf = [2, 3, 4] := by decide
example : serve ⟨[1, 2, 3, 4, 5], 0⟩ false [1, 1, 0, 2, 3, 3, 4, 0, 0] [] [2, 3, 4] [none, none] = some ⟨[1, 2, 3, 4, 5], 4⟩ := by decide
/-- the file ends inside the request, cache on and FILE_END_DIRTY, below f_end_off: zeros are delivered, last_op UNKNOWN -/
example : let s := HP_read 0 1 3 1 2 10 [9, 9, 9, 9] 4 [2, 0] 0 [] [4, 5] 0
    s.ub = false ∧ s.ret = 0 ∧ s.file_rec_f_cur_off = 7 ∧ s.file_rec_last_op = 0 ∧ s.buf = [4, 5, 0, 0] := by decide
/-- ... and without the cache it is a failure -/
example : let s := HP_read 0 1 3 0 2 10 [9, 9, 9, 9] 4 [2, 0] 0 [] [4, 5] 0
    s.ub = false ∧ s.ret = -1 ∧ s.file_rec_f_cur_off = 3 ∧ s.file_rec_last_op = 0 := by decide
/-- a buffer that is too small is undefined behaviour in C, and the translation says so -/
example : (HP_read 0 1 3 0 0 10 [9] 4 [2, 0] 0 [] [4, 5] 0).ub = true := by decide

attribute [local simp] HPgetdiskblock.chk HPgetdiskblock.St.join HIextend_file.St.join HPseek_ok HP_write1_ok

/-- `HPfreediskblock` does nothing and says SUCCEED -/
theorem HPfreediskblock_spec (fuel : Nat) (off size : Int) :
    (HPfreediskblock fuel off size).ret = 0 ∧ (HPfreediskblock fuel off size).ub = false ∧ (HPfreediskblock fuel off size).oof = false := by
  simp [HPfreediskblock]

/-- `HIextend_file` IS `HPseek(f_end_off)` followed (when that succeeded) by `HP_write` of one zero byte: the translated text composes
    the two translated functions on the same tape and log, so `HPseek_refines` / `HP_write_refines` / the `_inv` theorems apply to its
    two steps. Never undefined behaviour. -/
theorem HIextend_file_comp (fuel : Nat) (cur last endoff : Int) (tape : List Int) (cnt : Int) (log out : List Int) :
    let s := HIextend_file fuel cur last endoff tape cnt log out
    let s1 := HPseek fuel cur last endoff tape cnt log
    let s2 := HP_write fuel s1.file_rec_last_op s1.file_rec_f_cur_off [0] 1 tape s1.io_cnt s1.io_log out
    s.ub = false ∧ s.oof = false ∧
    (if s1.ret = -1 then
       s.ret = -1 ∧ s.file_rec_f_cur_off = s1.file_rec_f_cur_off ∧ s.file_rec_last_op = s1.file_rec_last_op ∧ s.io_log = s1.io_log ∧
       s.io_cnt = s1.io_cnt ∧ s.io_out = out
     else
       s.ret = s2.ret ∧ s.file_rec_f_cur_off = s2.file_rec_f_cur_off ∧ s.file_rec_last_op = s2.file_rec_last_op ∧ s.io_log = s2.io_log ∧
       s.io_cnt = s2.io_cnt ∧ s.io_out = s2.io_out) := by
  intro s s1 s2
  have hb := (HP_write_reports fuel s1.file_rec_last_op s1.file_rec_f_cur_off [0] 1 tape s1.io_cnt s1.io_log out (by omega) (by omega) (by simp)).1
  simp only [s, s1, s2] at hb ⊢
  by_cases h1 : (HPseek fuel cur last endoff tape cnt log).ret = -1
  · simp [HIextend_file, h1]
  · rcases hb with h2 | h2 <;> simp [HIextend_file, h1, h2]

/-- `HPgetdiskblock`, the allocation contract on the C text (every tape): never undefined behaviour; it answers FAIL or the OLD
    `f_end_off` (space is handed out strictly at the end of the file); on FAIL `f_end_off` is unchanged, otherwise it has grown by
    exactly `block_size` and stays below 2^31 - 1; bad arguments are refused before any I/O. -/
theorem HPgetdiskblock_alloc (fuel : Nat) (null : Bool) (endoff cache dirty cur last bsize moveto : Int) (tape : List Int) (cnt : Int)
    (log out : List Int) (hd : 0 ≤ dirty) (he : 0 ≤ endoff) :
    let s := HPgetdiskblock fuel null endoff cache dirty cur last bsize moveto tape cnt log out
    s.ub = false ∧ s.oof = false ∧ (s.ret = -1 ∨ s.ret = endoff) ∧
    (s.ret = -1 → s.file_rec_f_end_off = endoff) ∧
    (s.ret ≠ -1 → null = false ∧ 0 ≤ bsize ∧ endoff + bsize < 2147483647 ∧ s.file_rec_f_end_off = endoff + bsize) ∧
    (null = true ∨ bsize < 0 ∨ bsize ≥ 2147483647 - endoff → s.ret = -1 ∧ s.io_log = log ∧ s.io_out = out) := by
  intro s
  by_cases h1 : null = true ∨ bsize < 0
  · simp [s, HPgetdiskblock, h1]
  have hn : null = false := by simpa using fun h => h1 (.inl h)
  have hb0 : ¬bsize < 0 := fun h => h1 (.inr h)
  by_cases h2 : 2147483647 - endoff ≤ bsize
  · simp [s, HPgetdiskblock, hn, hb0, h2]
  -- `hd`: `dirty |= FILE_END_DIRTY` (cache on) is translated for non-negative operands only; `he`: the answer `endoff` must not read as FAIL
  -- the calls it may make: `HPseek` to the last byte of the block and `HP_write` of one zero (cache off), `HPseek` to the block (`moveto`)
  -- each call is named by a variable with an equation, so that `simp` sees it as an atom in the cases on its answer and the translated
  -- `HPseek` / `HP_write` are not unfolded inside `HPgetdiskblock` (only their `ub` / `oof`, `HPseek_ok`, `HP_write1_ok`, are used)
  obtain ⟨A, hA⟩ : ∃ A, A = HPseek fuel cur last (endoff + bsize - 1) tape cnt log := ⟨_, rfl⟩
  obtain ⟨B, hB⟩ : ∃ B, B = HP_write fuel A.file_rec_last_op A.file_rec_f_cur_off [0] 1 tape A.io_cnt A.io_log out := ⟨_, rfl⟩
  obtain ⟨C, hC⟩ : ∃ C, C = HPseek fuel B.file_rec_f_cur_off B.file_rec_last_op endoff tape B.io_cnt B.io_log := ⟨_, rfl⟩
  obtain ⟨D, hD⟩ : ∃ D, D = HPseek fuel cur last endoff tape cnt log := ⟨_, rfl⟩
  by_cases h3 : 0 < bsize
  · by_cases h4 : cache = 0
    · by_cases hAr : A.ret = -1
      · subst hA
        simp [s, HPgetdiskblock, *]
      · by_cases hBr : B.ret = -1
        · subst hA hB
          simp [s, HPgetdiskblock, *]
        · by_cases hm : moveto = 1
          · by_cases hCr : C.ret = -1 <;> subst hA hB hC <;> simp [s, HPgetdiskblock, *] <;> omega
          · subst hA hB
            simp [s, HPgetdiskblock, *]
            omega
    · by_cases hm : moveto = 1
      · by_cases hDr : D.ret = -1 <;> subst hD <;> simp [s, HPgetdiskblock, *] <;> omega
      · simp [s, HPgetdiskblock, *]
        omega
  · by_cases hm : moveto = 1
    · by_cases hDr : D.ret = -1 <;> subst hD <;> simp [s, HPgetdiskblock, *] <;> omega
    · simp [s, HPgetdiskblock, *]
      omega

end H4.Props.C16Fn
