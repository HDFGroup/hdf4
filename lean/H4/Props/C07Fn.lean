import H4.Lemmas.C07Fn
import H4.Lemmas.Format
/-! C07, function-level Tie A: `vpackvs` of `hdf/src/vio.c`, as translated statement by statement from the CURRENT C text
    (`H4.Gen.Fn.Vio`, written by gen/c2lean.py on every run), writes exactly the `DFTAG_VH` record of the hand-written model
    `H4.Format.vpackvs` (the record `H4.Props.C02.vunpackvs_vpackvs` is about: the Vdata header that carries the write list of
    C07 across `Hclose`/`Hopen`); it leaves the bytes of `buf` behind the record alone, sets `*size` to the record length (with
    the historical extra byte), never indexes outside a region (`ub = false`) and its six loops terminate (`oof = false`).
    A change of the C text changes the generated definition; these theorems are re-checked against it. -/
namespace H4.Props.C07Fn
open H4 H4.Format H4.C2L H4.Lemmas.C07Fn
open H4.Lemmas.C08Fn (bytesI)

/-- what the translated C needs of its arguments when they describe the model header `v` (all decidable):
    `wlist.n` and `nattrs` (read only under `VS_ATTR_SET`) are non-negative `int`s, `flags` is a `uint32`, every name (fields,
    `vsname`, `vsclass`) is a C string (no NUL inside) shorter than 32768 bytes, so that `slen = (int16)strlen(…)` is the
    length and `bb += slen` moves forward.  The integer fields (`interlace`, `nvertices`, types, `version`, `more`, `findex`,
    `ivsize`, sizes, offsets, orders, tags, refs) need no bound: both sides keep the low 16 / 32 bits. -/
def Pre (v : VH) : Prop :=
  v.fields.length < 2147483648 ∧ (∀ f ∈ v.fields, NameOK f.name) ∧ NameOK v.name ∧ NameOK v.cls ∧ v.flags < 4294967296 ∧
  (v.flags % 2 = 1 → v.attrs.length < 2147483648)

instance (v : VH) : Decidable (Pre v) := by unfold Pre; infer_instance

/-- **`vpackvs` as translated from vio.c computes the model's record** — for EVERY header `v` that satisfies `Pre` (any
    number of fields and attributes, any names), every caller buffer and every content of the unused array tails.

    Arguments of the C function: `vs->wlist.n = |fields|`; `wlist.type[]`, `isize[]`, `off[]`, `order[]` hold the per-field
    values followed by arbitrary cells (`tpad` …); `wlist.name[]` holds one NUL-terminated row per field (each followed by
    `rowpad`) and arbitrary further rows; `vsname`/`vsclass` are NUL-terminated and followed by `npad`/`cpad` (the C arrays
    have `VSNAMELENMAX + 1` cells); `nattrs = |attrs|`, `alist[].findex/.atag/.aref` hold the attributes followed by arbitrary
    cells; `size` is any non-empty region.
    C-level preconditions: `buf` has at least `|vpackvs v|` cells — the record INCLUDING the historical extra byte, which also
    covers the NUL that every `strcpy` stores behind a name (it lands on the first byte of the following field) — and `fuel`
    bounds the loop counts.
    Result: no undefined behaviour, all loops terminate, `buf` = the model's record followed by the caller's bytes beyond it,
    `*size` = the record length, return value `SUCCEED`. -/
theorem vpackvs_refines (v : VH) (hp : Pre v) (fuel : Nat) (hf1 : v.fields.length ≤ fuel)
    (hf2 : v.flags % 2 = 1 → v.attrs.length ≤ fuel)
    (tpad ipad opad dpad rowpad : List Int) (rows : List (List Int)) (npad cpad fpad atpad arpad buf size : List Int)
    (hbuf : (Format.vpackvs v).length ≤ buf.length) (hsize : 0 < size.length) :
    let s := vpackvsC fuel v.interlace v.nvert (v.ivsize : Int) (v.fields.length : Int) (v.fields.map (·.type) ++ tpad)
      (ints (v.fields.map (·.isize)) ++ ipad) (ints (v.fields.map (·.off)) ++ opad) (ints (v.fields.map (·.order)) ++ dpad)
      (v.fields.map (fun f => bytesI f.name ++ 0 :: rowpad) ++ rows) (bytesI v.name ++ 0 :: npad) (bytesI v.cls ++ 0 :: cpad)
      (v.extag : Int) (v.exref : Int) v.version v.more (v.flags : Int) (v.attrs.length : Int) (v.attrs.map (·.findex) ++ fpad)
      (ints (v.attrs.map (·.atag)) ++ atpad) (ints (v.attrs.map (·.aref)) ++ arpad) buf size
    s.ub = false ∧ s.oof = false ∧
      s.buf = bytesI (Format.vpackvs v) ++ buf.drop (Format.vpackvs v).length ∧
      s.size = size.set 0 ((Format.vpackvs v).length : Int) ∧ s.ret = 0 := by
  obtain ⟨h1, h2, h3, h4, h5, h6⟩ := hp
  intro s
  rw [show s = _ from vpackvs_phases ..]
  exact run_at v rowpad fuel _ ⟨rfl, rfl, rfl, rfl, ⟨_, rfl⟩, ⟨_, rfl⟩, ⟨_, rfl⟩, ⟨_, rfl⟩, ⟨_, rfl⟩, ⟨_, rfl⟩, ⟨_, rfl⟩, rfl, rfl,
    rfl, rfl, rfl, rfl, ⟨_, rfl⟩, ⟨_, rfl⟩, ⟨_, rfl⟩⟩ rfl rfl h2 h3 h4 hf1 hf2 hbuf hsize

/-- the hypotheses are satisfiable and the translated code runs (kernel evaluation of the generated definition): two fields,
    version 4 with the flags word and two attributes -/
example :
    let v : VH := ⟨0, 20, 12, [⟨24, 4, 0, 1, [0x61]⟩, ⟨5, 8, 4, 2, [0x62, 0x63]⟩], [0x74], [0x63], 0, 0, 4, 0, 1, [⟨-1, 1962, 9⟩, ⟨1, 1962, 10⟩]⟩
    Pre v ∧ (Format.vpackvs v).length = 76 ∧
    let s := vpackvsC 2 0 20 12 2 [24, 5] [4, 8, 77] [0, 4] [1, 2] [[0x61, 0], [0x62, 0x63, 0], [9]] [0x74, 0, 5] [0x63, 0] 0 0 4 0 1 2
      [-1, 1] [1962, 1962] [9, 10] (List.replicate 78 (-1)) [0]
    s.ub = false ∧ s.oof = false ∧ s.buf = bytesI (Format.vpackvs v) ++ [-1, -1] ∧ s.size = [76] := by
  decide +kernel

/-- a Vdata without fields (the loops are skipped), negative `interlace`/`version`: `INT16ENCODE` keeps the low 16 bits -/
example :
    let v : VH := ⟨-2, -1, 0, [], [], [0x41], 7, 65535, -3, 1, 0, []⟩
    Pre v ∧
    let s := vpackvsC 0 (-2) (-1) 0 0 [] [] [] [] [] [0] [0x41, 0] 7 65535 (-3) 1 0 0 [] [] [] (List.replicate 30 9) [0]
    s.ub = false ∧ s.oof = false ∧ s.buf.take (Format.vpackvs v).length = bytesI (Format.vpackvs v) ∧
      s.size = [((Format.vpackvs v).length : Int)] := by
  decide +kernel

/-- the same run as the first example through the theorem -/
example :
    let v : VH := ⟨0, 20, 12, [⟨24, 4, 0, 1, [0x61]⟩, ⟨5, 8, 4, 2, [0x62, 0x63]⟩], [0x74], [0x63], 0, 0, 4, 0, 1, [⟨-1, 1962, 9⟩, ⟨1, 1962, 10⟩]⟩
    let s := vpackvsC 2 0 20 12 2 [24, 5] [4, 8, 77] [0, 4] [1, 2] [[0x61, 0], [0x62, 0x63, 0], [9]] [0x74, 0, 5] [0x63, 0] 0 0 4 0 1 2
      [-1, 1] [1962, 1962] [9, 10] (List.replicate 78 (-1)) [0]
    s.ub = false ∧ s.buf = bytesI (Format.vpackvs v) ++ (List.replicate 78 (-1)).drop (Format.vpackvs v).length :=
  have h := vpackvs_refines ⟨0, 20, 12, [⟨24, 4, 0, 1, [0x61]⟩, ⟨5, 8, 4, 2, [0x62, 0x63]⟩], [0x74], [0x63], 0, 0, 4, 0, 1, [⟨-1, 1962, 9⟩, ⟨1, 1962, 10⟩]⟩
    (by decide) 2 (by decide) (by decide) [] [77] [] [] [] [[9]] [5] [] [] [] [] (List.replicate 78 (-1)) [0] (by decide) (by decide)
  ⟨h.1, h.2.2.1⟩

/-- **the C02 Vdata-header round trip holds for the bytes the C text writes**: for every header the format represents
    (`VH.WF`, the hypothesis of `H4.Props.C02.vunpackvs_vpackvs`) whose names are C strings (`Pre`), the first `*size` bytes of
    `buf` after the translated `vpackvs` are a record that the model's `vunpackvs` reads back as `v`. -/
theorem vpackvs_c_roundtrip (v : VH) (hw : v.WF) (hp : Pre v) (fuel : Nat) (hf1 : v.fields.length ≤ fuel)
    (hf2 : v.attrs.length ≤ fuel)
    (tpad ipad opad dpad rowpad : List Int) (rows : List (List Int)) (npad cpad fpad atpad arpad buf size : List Int)
    (hbuf : (Format.vpackvs v).length ≤ buf.length) (hsize : 0 < size.length) :
    let s := vpackvsC fuel v.interlace v.nvert (v.ivsize : Int) (v.fields.length : Int) (v.fields.map (·.type) ++ tpad)
      (ints (v.fields.map (·.isize)) ++ ipad) (ints (v.fields.map (·.off)) ++ opad) (ints (v.fields.map (·.order)) ++ dpad)
      (v.fields.map (fun f => bytesI f.name ++ 0 :: rowpad) ++ rows) (bytesI v.name ++ 0 :: npad) (bytesI v.cls ++ 0 :: cpad)
      (v.extag : Int) (v.exref : Int) v.version v.more (v.flags : Int) (v.attrs.length : Int) (v.attrs.map (·.findex) ++ fpad)
      (ints (v.attrs.map (·.atag)) ++ atpad) (ints (v.attrs.map (·.aref)) ++ arpad) buf size
    s.ub = false ∧ s.oof = false ∧
      ∃ rec : Bytes, s.buf.take (s.size.getD 0 0).toNat = bytesI rec ∧ vunpackvs rec = some v := by
  obtain ⟨r1, r2, r3, r4, _⟩ := vpackvs_refines v hp fuel hf1 (fun _ => hf2) tpad ipad opad dpad rowpad rows npad cpad fpad atpad arpad
    buf size hbuf hsize
  refine ⟨r1, r2, Format.vpackvs v, ?_, Format.vunpackvs_vpackvs v hw⟩
  rw [r3, r4, H4.Lemmas.C08Fn.take_size _ _ _ hsize]

end H4.Props.C07Fn
