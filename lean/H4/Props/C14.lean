import H4.Lemmas.ReadOnly
/-! # C14 — read-only access never alters a file

Model: `H4.ReadOnly` (the H layer's access control and every path to a physical write: `hfile.c`, `hfiledd.c`, entry checks of
`hblocks.c`, `hextelt.c`, `hcomp.c`, `hchunks.c`).  A session is ANY list of operations `ops : List Op` over the H API
(`Hopen Hclose Hcache Hsync Hstartaccess Hstartread Hstartwrite Hsetlength Happendable Hseek Hread Hwrite Htrunc Hendaccess
Hgetelement Hputelement Hlength Hexist Hdeldd Hdupdd HDreuse_tagref HLcreate HLconvert HXcreate HCcreate HMCcreate`) with any
arguments (valid, stale or never-issued ids included).

* `cfg : Cfg` are the access-control facts Tie A reads from the source text; `cfg.guarded` = `Hdeldd`, `Hdupdd`,
  `HDreuse_tagref`, `Hsetlength` test `DFACC_WRITE`.  The theorems hold for every guarded `cfg`; `current_guarded` shows the
  current source is guarded; `unguarded_*` show each test is NECESSARY (the statement is false without it — these were real
  defects of /repo, repaired by `fix:` commits 5bad8f5, 605d701, b02f6b5).
* "read-only" is a property of the file RECORD (all file ids of one path share it, as in `Hopen`): `RO s` = the record has no
  `DFACC_WRITE` and no access record carries it.  A session keeps it as long as no `Hopen` asks for write access
  (`Op.opensForWrite`); `write_access_only_by_open` is the converse.
* the write log records write REQUESTS (`HP_write` calls), also those stdio would refuse: "log unchanged" is stronger than
  "bytes unchanged" and does not rely on the `"rb"` stream mode.

ASSUMPTION (not proved, checked by engine `ro` on the implementation): the V / VS / SD / GR / AN interfaces reach the HDF file
and its external files only through the H operations modelled here. -/
namespace H4.Props.C14
open H4.ReadOnly H4.Gen.Hdf

/-- the current source has all four DD-layer access tests, and `Hopen` records the write access gained by a reopen -/
theorem current_guarded : Cfg.current.guarded = true ∧ Cfg.current.reopenSetsAccess = true ∧ Cfg.current.hlRefusesZero = true := by decide +kernel

/-- Tie A anchor for `hpRead`: the source's `HP_read` delivers zeros for space reserved in this session under DD caching
    (`FILE_END_DIRTY`, range below `f_end_off`) and reports every other short read (af826f2); `hpRead` is written for that text -/
theorem current_read_zero_fills_reserved : H4.Gen.Src.HPREAD_ZERO_FILLS_RESERVED = true := by decide +kernel

/-- space reserved in this session (beyond the bytes on disk, below `f_end_off`, DD caching on) reads as zeros; a range that is
    not below `f_end_off` is an error (next theorem).  `hpRead` returns bytes only: reading cannot change the file. -/
theorem hpRead_reserved_is_zeros (s : State) (off n : Nat) (hn : n ≠ 0) (hd : s.f.disk.length ≤ off)
    (hc : s.f.cache = true) (hdirty : s.f.dirty &&& H4.Gen.RO.FILE_END_DIRTY ≠ 0) (he : off + n ≤ s.f.endOff) :
    hpRead s off n = some (List.replicate n 0) := by
  have h1 : ¬ (off + n ≤ s.f.disk.length) := by omega
  have h2 : s.f.disk.drop off = [] := List.drop_eq_nil_of_le hd
  simp [hpRead, hn, h1, hc, hdirty, he, h2]

theorem hpRead_beyond_end_fails (s : State) (off n : Nat) (hn : n ≠ 0) (hd : s.f.disk.length < off + n) (he : s.f.endOff < off + n) :
    hpRead s off n = none := by
  have h1 : ¬ (off + n ≤ s.f.disk.length) := by omega
  have h2 : ¬ (off + n ≤ s.f.endOff) := by omega
  simp [hpRead, hn, h1, h2]

theorem closed_inv (disk : Bytes) (exts : List (Nat × Bytes)) : Inv (State.closed disk exts) :=
  ⟨⟨by simp [State.closed, canWrite], by intro a ha; simp [State.closed] at ha⟩, rfl, by intro b hb; simp [State.closed] at hb⟩

/-- `readonly_step`: on a read-only record with nothing to flush, ANY call that is not an `Hopen` for writing leaves the bytes
    of the file, the write log and the external files as they are, keeps the record read-only, and — if it is a call that
    would have to write data or create an object — returns `FAIL`. -/
theorem readonly_step (cfg : Cfg) (hg : cfg.guarded = true) (s : State) (op : Op) (hi : Inv s) (hop : op.opensForWrite = false) :
    ((step cfg s op).1.f.disk = s.f.disk ∧ (step cfg s op).1.log = s.log ∧ (step cfg s op).1.exts = s.exts) ∧
    Inv (step cfg s op).1 ∧ (op.isMutating = true → (step cfg s op).2 = .fail) :=
  let h := step_ro cfg hg s op hi hop
  ⟨⟨h.1.disk, h.1.log, h.1.exts⟩, h.2⟩

/-- no call of the session is an `Hopen` that asks for `DFACC_WRITE` -/
def NoWriteOpen (ops : List Op) : Prop := ∀ op ∈ ops, op.opensForWrite = false

theorem NoWriteOpen.cons_hopen {acc : Nat} (hacc : acc &&& DFACC_WRITE = 0) {ops : List Op} (hops : NoWriteOpen ops) :
    NoWriteOpen (.hopen acc :: ops) := by
  intro op hop
  rcases List.mem_cons.mp hop with rfl | h
  · simp [Op.opensForWrite, hacc]
  · exact hops op h

theorem run_inv (cfg : Cfg) (hg : cfg.guarded = true) (s : State) (ops : List Op) (hi : Inv s) (hops : NoWriteOpen ops) :
    Same s (run cfg s ops) ∧ Inv (run cfg s ops) := by
  induction ops generalizing s with
  | nil => exact ⟨Same.refl _, hi⟩
  | cons op ops ih =>
    have h1 := step_ro cfg hg s op hi (hops op List.mem_cons_self)
    have h2 := ih (step cfg s op).1 h1.2.1 (fun o ho => hops o (List.mem_cons_of_mem _ ho))
    exact ⟨h1.1.trans h2.1, h2.2⟩

/-- `readonly_frame`: a file opened without `DFACC_WRITE`: after ANY sequence of calls (none of which reopens it for
    writing) not a single byte of the file or of an external file has changed and the write log is still empty — not even a
    write request was issued.  `disk`, `exts` are arbitrary (the file need not even be a valid HDF file). -/
theorem readonly_frame (cfg : Cfg) (hg : cfg.guarded = true) (disk : Bytes) (exts : List (Nat × Bytes)) (acc : Nat)
    (hacc : acc &&& DFACC_WRITE = 0) (ops : List Op) (hops : NoWriteOpen ops) :
    let s := run cfg (State.closed disk exts) (.hopen acc :: ops)
    s.f.disk = disk ∧ s.exts = exts ∧ s.log = [] := by
  intro s
  have h := run_inv cfg hg (State.closed disk exts) (.hopen acc :: ops) (closed_inv disk exts) (hops.cons_hopen hacc)
  exact ⟨h.1.disk, h.1.exts, h.1.log⟩

/-- the same from any read-only state reached earlier (several file ids, access records attached, cache on or off …) -/
theorem readonly_frame_from (cfg : Cfg) (hg : cfg.guarded = true) (s : State) (hi : Inv s) (ops : List Op) (hops : NoWriteOpen ops) :
    (run cfg s ops).f.disk = s.f.disk ∧ (run cfg s ops).exts = s.exts ∧ (run cfg s ops).log = s.log :=
  let h := run_inv cfg hg s ops hi hops
  ⟨h.1.disk, h.1.exts, h.1.log⟩

/-- `readonly_refuses`: in such a session EVERY call that would have to write data or create a stored object returns `FAIL`,
    wherever it occurs (`pre` = the calls before it). -/
theorem readonly_refuses (cfg : Cfg) (hg : cfg.guarded = true) (disk : Bytes) (exts : List (Nat × Bytes)) (acc : Nat)
    (hacc : acc &&& DFACC_WRITE = 0) (pre : List Op) (hpre : NoWriteOpen pre) (op : Op) (hm : op.isMutating = true) :
    (step cfg (run cfg (State.closed disk exts) (.hopen acc :: pre)) op).2 = .fail := by
  have h := run_inv cfg hg (State.closed disk exts) (.hopen acc :: pre) (closed_inv disk exts) (hpre.cons_hopen hacc)
  exact (step_mutating_ro cfg hg _ op h.2.1 hm).1

/-- `log_empty`: the write log of a read-only session is empty at every point of the session -/
theorem log_empty (cfg : Cfg) (hg : cfg.guarded = true) (disk : Bytes) (exts : List (Nat × Bytes)) (acc : Nat)
    (hacc : acc &&& DFACC_WRITE = 0) (pre post : List Op) (h : NoWriteOpen (pre ++ post)) :
    (run cfg (State.closed disk exts) (.hopen acc :: pre)).log = [] :=
  (readonly_frame cfg hg disk exts acc hacc pre (fun o ho => h o (List.mem_append_left _ ho))).2.2

/-- `write_access_only_by_open`: the record of a read-only session can become writable only through an `Hopen` that asks for
    `DFACC_WRITE` (contrapositive of the invariant) -/
theorem write_access_only_by_open (cfg : Cfg) (hg : cfg.guarded = true) (s : State) (op : Op) (hi : Inv s)
    (hw : canWrite (step cfg s op).1.f = true) : op.opensForWrite = true := by
  cases h : op.opensForWrite with
  | true => rfl
  | false =>
    have := (step_ro cfg hg s op hi h).2.1.1.1
    rw [this] at hw; exact absurd hw (by simp)

theorem readonly_frame_current (disk : Bytes) (exts : List (Nat × Bytes)) (acc : Nat) (hacc : acc &&& DFACC_WRITE = 0)
    (ops : List Op) (hops : NoWriteOpen ops) :
    let s := run Cfg.current (State.closed disk exts) (.hopen acc :: ops)
    s.f.disk = disk ∧ s.exts = exts ∧ s.log = [] :=
  readonly_frame Cfg.current current_guarded.1 disk exts acc hacc ops hops

theorem readonly_refuses_current (disk : Bytes) (exts : List (Nat × Bytes)) (acc : Nat) (hacc : acc &&& DFACC_WRITE = 0)
    (pre : List Op) (hpre : NoWriteOpen pre) (op : Op) (hm : op.isMutating = true) :
    (step Cfg.current (run Cfg.current (State.closed disk exts) (.hopen acc :: pre)) op).2 = .fail :=
  readonly_refuses Cfg.current current_guarded.1 disk exts acc hacc pre hpre op hm

/-- `rw_open_close_noop`: `Hopen` of a closed file in ANY mode (`DFACC_RDWR` included) followed by `Hclose` of the id it returned:
    every byte of the file is as before, no write was even requested, the external files are untouched.  Hence every content
    abstraction of the bytes (`decode disk`) is unchanged.  No hypothesis on the file's version record is needed:
    `HIcheckfileversion` runs inside `Hopen`'s own `HIread_version` and `HIread_version` then clears `version.modified`, so
    a bare open/close never reaches `HIupdate_version` (see `hopen_closed`). -/
theorem rw_open_close_noop (cfg : Cfg) (disk : Bytes) (exts : List (Nat × Bytes)) (acc fid : Nat) :
    let s1 := (hopen cfg (State.closed disk exts) acc).1
    let s2 := (hclose cfg s1 fid).1
    s2.f.disk = disk ∧ s2.log = [] ∧ s2.exts = exts := by
  intro s1 s2
  have h1 := hopen_closed cfg disk exts acc
  have h2 := hclose_same cfg s1 fid h1.2.2 h1.2.1
  have h := h1.1.trans h2
  exact ⟨h.disk, h.log, h.exts⟩

/-- any content abstraction agrees before and after -/
theorem rw_open_close_content {α : Type} (decode : Bytes → α) (cfg : Cfg) (disk : Bytes) (exts : List (Nat × Bytes)) (acc fid : Nat) :
    decode (hclose cfg (hopen cfg (State.closed disk exts) acc).1 fid).1.f.disk = decode disk := by
  rw [(rw_open_close_noop cfg disk exts acc fid).1]

/-- `rw_reads_noop`: open in any mode, then ANY sequence of reading / inquiring calls, then close: bytes, write log and external
    files are unchanged — PROVIDED `Hopen` found the file's version record (`verSet` = `version_set` is then TRUE when `Hopen`
    returns, because `Hopen`'s own `HIread_version` went through `Hstartaccess` -> `HIcheckfileversion`).  This is the exact
    condition: `HIcheckfileversion` never compares the FILE's version with the library's (it runs before the record is
    decoded); what matters is only whether a `DFTAG_VERSION`/1 element exists.  Without one the first later `Hstartaccess` marks
    the version modified and `Hclose` appends a version record: `rw_read_without_version_appends`. -/
theorem rw_reads_noop (cfg : Cfg) (disk : Bytes) (exts : List (Nat × Bytes)) (acc fid : Nat) (ops : List Op)
    (hops : ∀ op ∈ ops, op.isReadClass = true)
    (hv : (hopen cfg (State.closed disk exts) acc).1.f.verSet = true) :
    let s1 := (hopen cfg (State.closed disk exts) acc).1
    let s3 := (hclose cfg (run cfg s1 ops) fid).1
    s3.f.disk = disk ∧ s3.log = [] ∧ s3.exts = exts := by
  intro s1 s3
  have h1 := hopen_closed cfg disk exts acc
  have hq := run_read_quiet cfg s1 ops hops
  have hver := hq.ver hv h1.2.2
  have h2 := hclose_same cfg (run cfg s1 ops) fid hver.2 (hq.clean h1.2.1)
  have h := (h1.1.trans hq.same).trans h2
  exact ⟨h.disk, h.log, h.exts⟩

/-- a 38-byte HDF file WITHOUT a version record: magic, one DD block of 2 descriptors, element (1000,1) = "abcd" at offset 34 -/
def tiny : Bytes := [14, 3, 19, 1,  0, 2, 0, 0, 0, 0,  3, 232, 0, 1, 0, 0, 0, 34, 0, 0, 0, 4,  0, 1, 0, 0, 255, 255, 255, 255, 255, 255, 255, 255,
  97, 98, 99, 100]

/-- the same with the library's version record (`DFTAG_VERSION`/1, 92 bytes at offset 34) in the second descriptor -/
def tinyV : Bytes := [14, 3, 19, 1,  0, 2, 0, 0, 0, 0,  3, 232, 0, 1, 0, 0, 0, 126, 0, 0, 0, 4,  0, 30, 0, 1, 0, 0, 0, 34, 0, 0, 0, 92] ++
  H4.Gen.RO.LIBVER_BYTES.map UInt8.ofNat ++ [97, 98, 99, 100]

/-- a read-only session on `tiny`: reads succeed, `Hdeldd`, `Hputelement`, `Hstartwrite`, `Hdupdd`, `HLcreate` are refused, the
    close succeeds (hypotheses of `readonly_frame`/`readonly_refuses` instantiated on a non-trivial session) -/
example : results Cfg.current (State.closed tiny) [.hopen DFACC_READ, .startread 0 1000 1, .read 0 0, .deldd 0 1000 1,
      .putelement 0 1200 1 [1, 2], .startwrite 0 1000 1 4, .dupdd 0 1200 1 1000 1, .hlcreate 0 1200 1 16 2, .write 0 [9],
      .endaccess 0, .hclose 0]
    = [.id 0, .id 0, .num 4, .fail, .fail, .fail, .fail, .fail, .fail, .ok, .ok] := by decide +kernel

example : NoWriteOpen [.startread 0 1000 1, .read 0 0, .deldd 0 1000 1, .putelement 0 1200 1 [1, 2], .hopen DFACC_READ, .hclose 0] := by
  intro op hop; simp at hop; rcases hop with rfl | rfl | rfl | rfl | rfl | rfl <;> decide

/-- the version record is found on `tinyV`, in either mode -/
example : (hopen Cfg.current (State.closed tinyV) DFACC_RDWR).1.f.verSet = true ∧
          (hopen Cfg.current (State.closed tinyV) DFACC_RDWR).2 = .id 0 := by decide +kernel

/-- … so a writable session that only reads leaves it byte-identical (instance of `rw_reads_noop`, computed) -/
example : (run Cfg.current (State.closed tinyV) [.hopen DFACC_RDWR, .startread 0 1000 1, .read 1 0, .endaccess 1, .hclose 0]).f.disk = tinyV ∧
          (run Cfg.current (State.closed tinyV) [.hopen DFACC_RDWR, .startread 0 1000 1, .read 1 0, .endaccess 1, .hclose 0]).log = [] := by decide +kernel

/-- `rw_read_without_version_appends`: the hypothesis of `rw_reads_noop` is needed.  On `tiny` (no version record) a writable
    session that makes one `Hstartread`/`Hendaccess` issues 4 writes at close (`HIupdate_version`: a new DD block, the version
    element, the link of the DD chain) and the file grows from 38 to 131 bytes; its first 10 bytes and the old element
    are as before. -/
theorem rw_read_without_version_appends :
    let s := run Cfg.current (State.closed tiny) [.hopen DFACC_RDWR, .startread 0 1000 1, .endaccess 0, .hclose 0]
    s.log.length = 4 ∧ s.f.disk.length = 131 ∧ s.f.disk.take 6 = tiny.take 6 ∧ (s.f.disk.drop 34).take 4 = [97, 98, 99, 100] := by decide +kernel

/-- … while the bare open/close of the same file writes nothing (instance of `rw_open_close_noop`) -/
example : (run Cfg.current (State.closed tiny) [.hopen DFACC_RDWR, .hclose 0]).f.disk = tiny ∧
          (run Cfg.current (State.closed tiny) [.hopen DFACC_RDWR, .hclose 0]).log = [] := by decide +kernel

/-! ## each access test is necessary (the refusal theorem is FALSE for an unguarded configuration)

These four configurations are what /repo's source said before the `fix:` commits 5bad8f5 (`Hdeldd`, `Hdupdd`, `HDreuse_tagref`)
and 605d701 (`Hsetlength`): on a handle opened `DFACC_READ` the calls return SUCCEED, change the DD list in memory, and the
`Hclose` that follows FAILS because its flush is refused by the read-only stream (the write log shows the request). -/

def allChecks : Cfg := ⟨true, true, true, true, true, true⟩

theorem unguarded_deldd_accepts :
    results { allChecks with hdelddChecks := false } (State.closed tiny) [.hopen DFACC_READ, .deldd 0 1000 1, .hexist 0 1000 1, .hclose 0]
      = [.id 0, .ok, .fail, .fail] ∧
    (run { allChecks with hdelddChecks := false } (State.closed tiny) [.hopen DFACC_READ, .deldd 0 1000 1, .hclose 0]).log ≠ [] := by decide +kernel

theorem unguarded_dupdd_accepts :
    results { allChecks with hdupddChecks := false } (State.closed tiny) [.hopen DFACC_READ, .dupdd 0 1200 1 1000 1, .hexist 0 1200 1, .hclose 0]
      = [.id 0, .ok, .ok, .fail] := by decide +kernel

theorem unguarded_reuse_accepts :
    results { allChecks with hreuseChecks := false } (State.closed tiny) [.hopen DFACC_READ, .reuse 0 1000 1, .hlength 0 1000 1, .hclose 0]
      = [.id 0, .ok, .num (-1), .fail] := by decide +kernel

/-- a file whose element (1000,1) has no data yet (offset and length INVALID, as `Hstartaccess(write)`+`Hendaccess` leaves it) -/
def tinyNew : Bytes := [14, 3, 19, 1,  0, 2, 0, 0, 0, 0,  3, 232, 0, 1, 255, 255, 255, 255, 255, 255, 255, 255,  0, 1, 0, 0, 255, 255, 255, 255, 255, 255, 255, 255]

theorem unguarded_setlength_accepts :
    results { allChecks with hsetlengthChecks := false } (State.closed tinyNew) [.hopen DFACC_READ, .startread 0 1000 1, .setlength 0 10, .endaccess 0, .hclose 0]
      = [.id 0, .id 0, .ok, .ok, .fail] := by decide +kernel

/-- with the test, the same calls are refused and the close succeeds -/
example : results allChecks (State.closed tinyNew) [.hopen DFACC_READ, .startread 0 1000 1, .setlength 0 10, .endaccess 0, .hclose 0]
      = [.id 0, .id 0, .fail, .ok, .ok] := by decide +kernel

/-- `Hopen` for writing of a record that is open read-only: with the access update (fix b02f6b5) the new handle can write;
    without it `Hputelement` through the handle that was opened `DFACC_RDWR` is refused. -/
theorem reopen_for_write :
    results allChecks (State.closed tiny) [.hopen DFACC_READ, .hopen DFACC_RDWR, .putelement 1 1200 1 [1, 2]] = [.id 0, .id 1, .num 2] ∧
    results { allChecks with reopenSetsAccess := false } (State.closed tiny) [.hopen DFACC_READ, .hopen DFACC_RDWR, .putelement 1 1200 1 [1, 2]]
      = [.id 0, .id 1, .fail] := by decide +kernel

end H4.Props.C14
