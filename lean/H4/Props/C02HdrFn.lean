import H4.Lemmas.C02HdrFn
/-! C02 / C05, function-level Tie A: `HCPencode_header` and `HCPdecode_header` of `hdf/src/hcomp.c` — the model/coder part of the
    description record of a compressed element (`DFTAG_COMPRESSED` special header, and the compression "specialness" header of a
    chunked element) — as translated statement by statement from the CURRENT C text (`H4.Gen.Fn.Hcomp`, written by gen/c2lean.py on
    every run), compute the hand-written codec `H4.Format.encodeCoderInfo` / `H4.Format.decodeCoderInfo`, which is the codec the C02
    reader theorems (`H4.Props.C02.decodeCompHdr_encodeCompHdr` …) and the C05 chunk-header theorems are about.

    The caller `HCIread_header` guarantees NO length: it passes `local_ptbuf + 10` of a block of exactly the element's length (as recorded in
    the file's DD), so a description record shorter than `14 + parameter bytes` makes the C read behind the block (observation with
    reproduction `repro/fmt/comphdr_short.c`; outside the 20 properties). -/
namespace H4.Props.C02HdrFn
open H4 H4.Format H4.Gen.Hdf H4.Gen.Fmt H4.C2L H4.CompHdr H4.Lemmas.C02HdrFn

/-- **`HCPencode_header` as translated from hcomp.c writes the model's record** — for EVERY `model_type ≥ 0`, `coder_type ≥ 0` (the
    enums are unsigned), every value of the `comp_info` members (`c`; no range condition: both sides keep the low 16 / 32 / 8 bits),
    every caller buffer `p` that has room for the record.  `coderOf ct c` is the model coder the arguments denote (skphuff: the unit
    size written twice; szip: `SZ_H4_REV_2` or-ed into the options mask).
    Result: no undefined behaviour, SUCCEED, the cursor stands behind the record, `p` = the record followed by the caller's bytes. -/
theorem HCPencode_header_refines (fuel : Nat) (p : List Int) (mt ct : Int) (c : CInfo) (hm : 0 ≤ mt) (hc : 0 ≤ ct)
    (hf : ¬ EncFails ct c) (hb : (encodeCoderInfo ⟨mt.toNat, coderOf ct c⟩).length ≤ p.length) :
    let s := HCPencode_headerC fuel p mt false ct false c
    let r := encodeCoderInfo ⟨mt.toNat, coderOf ct c⟩
    s.ub = false ∧ s.oof = false ∧ s.ret = 0 ∧ s.p_i = r.length ∧ s.p = u8s r ++ p.drop r.length := by
  intro s r
  have hm' := model_bytes mt ct c hm hc
  have hl : r.length = (hdrB mt ct ++ paramB ct c).length := by rw [← hm', u8s_length]
  obtain ⟨h1, h2, h3, h4, h5⟩ := encode_ok fuel p mt ct c hf (hl ▸ hb)
  exact ⟨h1, h2, h3, by rw [h4, hl], by rw [h5, hm', hl]⟩

/-- the hypotheses are satisfiable and the translated code runs (kernel evaluation of the generated definition): deflate level 6 -/
example :
    let s := HCPencode_headerC 0 (List.replicate 8 (-1)) 0 false 4 false { level := 6 }
    ¬ EncFails 4 { level := 6 } ∧ s.ub = false ∧ s.ret = 0 ∧ s.p = [0, 0, 0, 4, 0, 6, -1, -1] ∧
      u8s (encodeCoderInfo ⟨0, coderOf 4 { level := 6 }⟩) = [0, 0, 0, 4, 0, 6] := by decide +kernel

/-- n-bit with a negative number type pattern and a negative start bit: all 20 bytes -/
example :
    let c : CInfo := { nt := -2, sign_ext := 1, fill_one := 65537, start_bit := -1, bit_len := 7 }
    let s := HCPencode_headerC 0 (List.replicate 20 0) 0 false 2 false c
    s.ub = false ∧ s.ret = 0 ∧ s.p = u8s (encodeCoderInfo ⟨0, coderOf 2 c⟩) ∧
      s.p = [0, 0, 0, 2, 255, 255, 255, 254, 0, 1, 0, 1, 255, 255, 255, 255, 0, 0, 0, 7] := by decide +kernel

/-- **when `HCPencode_header` returns FAIL** (`EncFails`: skipping Huffman with a unit size below 1, deflate with a level outside
    0..9, IMCOMP): the two type fields HAVE been stored, nothing else -/
theorem HCPencode_header_fails (fuel : Nat) (p : List Int) (mt ct : Int) (c : CInfo) (hm : 0 ≤ mt) (hc : 0 ≤ ct)
    (hf : EncFails ct c) (hb : 4 ≤ p.length) :
    let s := HCPencode_headerC fuel p mt false ct false c
    s.ub = false ∧ s.oof = false ∧ s.ret = -1 ∧ s.p = u8s (Format.enc16 mt.toNat ++ Format.enc16 ct.toNat) ++ p.drop 4 := by
  intro s
  obtain ⟨h1, h2, h3, h4⟩ := encode_fail fuel p mt ct c hf hb
  refine ⟨h1, h2, h3, ?_⟩
  rw [h4, u8s_append, u8s_enc16, u8s_enc16]
  have e1 : ((mt.toNat : Nat) : Int) = mt := by omega
  have e2 : ((ct.toNat : Nat) : Int) = ct := by omega
  rw [e1, e2]
  rfl

example :
    let s := HCPencode_headerC 0 [9, 9, 9, 9, 9] 0 false 4 false { level := 10 }
    EncFails 4 { level := 10 } ∧ s.ret = -1 ∧ s.p = [0, 0, 0, 4, 9] := by decide +kernel

/-- the three failure cases are the only ones: every other argument combination succeeds (`HCPencode_header_refines`) -/
theorem EncFails_iff (ct : Int) (c : CInfo) :
    EncFails ct c ↔ (ct = 3 ∧ c.skp_size < 1) ∨ (ct = 4 ∧ (c.level < 0 ∨ 9 < c.level)) ∨ ct = 12 := by
  unfold EncFails
  simp only [COMP_CODE_SKPHUFF, COMP_CODE_DEFLATE, COMP_CODE_IMCOMP]
  rfl

/-- a NULL `m_info` / `c_info`: FAIL, the buffer is untouched -/
theorem HCPencode_header_null (fuel : Nat) (p : List Int) (mt ct : Int) (c : CInfo) (mn cn : Bool) (h : mn = true ∨ cn = true) :
    let s := HCPencode_headerC fuel p mt mn ct cn c
    s.ub = false ∧ s.oof = false ∧ s.ret = -1 ∧ s.p = p :=
  encode_null fuel p mt ct c mn cn h

/-- **`HCPdecode_header` as translated from hcomp.c computes the model's decoder — on EVERY input buffer** `b` (any length, any
    bytes), any previous contents `c` of `*c_info`, any non-empty `model_type` / `coder_type` result cells:
    * the model rejects the record (`none`: shorter than the two type fields plus the parameter bytes of the coder type found in it)
      ⇔ the C reads behind the buffer (`ub = true`);
    * otherwise no undefined behaviour, the cursor has consumed what the model consumed, `*model_type` and `*coder_type` are the
      model's (ANY value: an unknown coder or model type is not an error, it has no parameters), and `*c_info` is the previous
      contents with the members of the decoded coder overwritten (`applyCoder`; `CInfo` keeps the members of the C union apart).
    The C never fails on non-NULL arguments (`ret = SUCCEED`) and has no loop (`oof = false`). -/
theorem HCPdecode_header_refines (fuel : Nat) (b : Bytes) (mt ct : List Int) (c : CInfo) (hmt : 0 < mt.length) (hct : 0 < ct.length) :
    let s := HCPdecode_headerC fuel (u8s b) false mt false false ct false c
    s.oof = false ∧ s.ret = 0 ∧
      match decodeCoderInfo b with
      | none => s.ub = true
      | some (ci, rest) =>
          s.ub = false ∧ s.p_i = ((b.length - rest.length : Nat) : Int) ∧ s.model_type = mt.set 0 (ci.model : Int) ∧
            s.coder_type = ct.set 0 (ci.coder.code : Int) ∧ cinfoOfD s = applyCoder ci.coder c := by
  intro s
  obtain ⟨h1, h2, h3, h4, h5, h6, h7⟩ := dec_eval fuel (u8s b) mt ct c hmt hct
  have e2 : val16 (u8s b) 2 = (nv16 b 2 : Int) := val16_u8s b 2
  have e0 : val16 (u8s b) 0 = (nv16 b 0 : Int) := val16_u8s b 0
  rw [e2, needOf_cast] at h1 h4
  rw [e2] at h6 h7
  rw [e0] at h5
  rw [u8s_length] at h1
  refine ⟨h2, h3, ?_⟩
  rw [decodeCoderInfo_eq]
  by_cases hl : 4 + needN (nv16 b 2) ≤ b.length
  · rw [if_pos hl]
    refine ⟨?_, ?_, h5, ?_, ?_⟩
    · show s.ub = false
      rw [h1]; simp [hl]
    · show s.p_i = _
      rw [h4, List.length_drop, show b.length - (b.length - (4 + needN (nv16 b 2))) = 4 + needN (nv16 b 2) by omega]
    · show s.coder_type = _
      rw [h6, coderAtB_code]
    · show cinfoOfD s = _
      rw [h7, cinfoAfter_apply]
  · rw [if_neg hl]
    show s.ub = true
    rw [h1]; simp [hl]

/-- the translated reader runs (kernel evaluation): a deflate header followed by two more bytes -/
example :
    let b : Bytes := [0, 0, 0, 4, 0, 6, 7, 7]
    let s := HCPdecode_headerC 0 (u8s b) false [99] false false [99] false {}
    decodeCoderInfo b = some (⟨0, .deflate 6⟩, [7, 7]) ∧ s.ub = false ∧ s.p_i = 6 ∧ s.model_type = [0] ∧ s.coder_type = [4] ∧
      cinfoOfD s = { level := 6 } := by decide +kernel

/-- a truncated n-bit header (13 of 20 bytes): the model rejects it, the C reads behind the buffer -/
example :
    let b : Bytes := [0, 0, 0, 2, 0, 0, 0, 24, 0, 0, 0, 0, 0]
    let s := HCPdecode_headerC 0 (u8s b) false [0] false false [0] false {}
    decodeCoderInfo b = none ∧ s.ub = true := by decide +kernel

/-- an unknown coder type (7 = JPEG; any other value alike) and an unknown model type: accepted without parameters -/
example :
    let b : Bytes := [1, 2, 0, 7]
    let s := HCPdecode_headerC 0 (u8s b) false [0] false false [0] false {}
    decodeCoderInfo b = some (⟨258, .other 7⟩, []) ∧ s.ub = false ∧ s.ret = 0 ∧ s.model_type = [258] ∧ s.coder_type = [7] := by
  decide +kernel

/-- the exact length the reader needs: `4 + needN code`, `code` = bytes 2..3 of the record -/
theorem HCPdecode_header_ub_iff (fuel : Nat) (b : Bytes) (mt ct : List Int) (c : CInfo) (hmt : 0 < mt.length) (hct : 0 < ct.length) :
    (HCPdecode_headerC fuel (u8s b) false mt false false ct false c).ub = true ↔ b.length < 4 + needN (nv16 b 2) := by
  obtain ⟨h1, _⟩ := dec_eval fuel (u8s b) mt ct c hmt hct
  have e2 : val16 (u8s b) 2 = (nv16 b 2 : Int) := val16_u8s b 2
  rw [h1, u8s_length, e2, needOf_cast]
  simp

/-- **no read behind a buffer of 20 bytes** (two type fields + the largest parameter block): whatever the bytes are.
    `HCIread_header` does NOT establish this (it passes `local_ptbuf + 10` of a block whose length is the element length recorded in
    the file and tests nothing) — see the header of this file. -/
theorem HCPdecode_header_safe (fuel : Nat) (b : Bytes) (mt ct : List Int) (c : CInfo) (hmt : 0 < mt.length) (hct : 0 < ct.length)
    (hb : 20 ≤ b.length) : (HCPdecode_headerC fuel (u8s b) false mt false false ct false c).ub = false := by
  have h := needN_le (nv16 b 2)
  exact Bool.eq_false_iff.mpr fun hu => absurd ((HCPdecode_header_ub_iff fuel b mt ct c hmt hct).mp hu) (by omega)

/-- a NULL argument: FAIL, nothing is read or stored -/
theorem HCPdecode_header_null (fuel : Nat) (p mt ct : List Int) (c : CInfo) (mtn min ctn cin : Bool)
    (h : mtn = true ∨ min = true ∨ ctn = true ∨ cin = true) :
    let s := HCPdecode_headerC fuel p mtn mt min ctn ct cin c
    s.ub = false ∧ s.oof = false ∧ s.ret = -1 ∧ s.model_type = mt ∧ s.coder_type = ct ∧ cinfoOfD s = c :=
  dec_null fuel p mt ct c mtn min ctn cin h

/-- **decode ∘ encode = id on the C texts**: `HCPencode_header` (translated) writes into a byte buffer `pb`, then `HCPdecode_header`
    (translated) reads that buffer: it returns the model type, the coder type, and `*c_info` = the previous contents `c0` with the
    members of the coder overwritten by what was encoded (`applyCoder (coderOf ct c)`: the values of `c` whenever they are in the
    ranges the format can hold — `CoderInfo.InRange`, decidable; skphuff/szip `int` members as their 32-bit patterns; szip's mask
    with `SZ_H4_REV_2` set).  Proved through the model's round trip `H4.Format.decodeCoderInfo_encode` and the two refinements. -/
theorem HCP_header_roundtrip (fuel : Nat) (pb : Bytes) (mt ct : Int) (c c0 : CInfo) (mtr ctr : List Int)
    (hm : 0 ≤ mt) (hc : 0 ≤ ct) (hf : ¬ EncFails ct c) (hr : CoderInfo.InRange ⟨mt.toNat, coderOf ct c⟩)
    (hb : (encodeCoderInfo ⟨mt.toNat, coderOf ct c⟩).length ≤ pb.length) (hmt : 0 < mtr.length) (hct : 0 < ctr.length)
    (e : ESt) (he : e = HCPencode_headerC fuel (u8s pb) mt false ct false c)
    (d : DSt) (hd : d = HCPdecode_headerC fuel e.p false mtr false false ctr false c0) :
    e.ub = false ∧ e.ret = 0 ∧ d.ub = false ∧ d.ret = 0 ∧ d.p_i = e.p_i ∧
      d.model_type = mtr.set 0 mt ∧ d.coder_type = ctr.set 0 ((coderOf ct c).code : Int) ∧ cinfoOfD d = applyCoder (coderOf ct c) c0 := by
  have h := HCPencode_header_refines fuel (u8s pb) mt ct c hm hc hf (by rw [u8s_length]; exact hb)
  simp only [] at h
  rw [← he] at h
  obtain ⟨e1, _, e3, e4, e5⟩ := h
  generalize hrec : encodeCoderInfo ⟨mt.toNat, coderOf ct c⟩ = r at *
  have hp : e.p = u8s (r ++ pb.drop r.length) := by
    rw [e5, u8s_append, u8s_drop]
  have h2 := HCPdecode_header_refines fuel (r ++ pb.drop r.length) mtr ctr c0 hmt hct
  simp only [] at h2
  rw [← hp, ← hd] at h2
  obtain ⟨_, d2, d3⟩ := h2
  rw [← hrec, decodeCoderInfo_encode _ hr] at d3
  obtain ⟨d4, d5, d6, d7, d8⟩ := d3
  have hmt' : ((mt.toNat : Nat) : Int) = mt := by omega
  refine ⟨e1, e3, d4, d2, ?_, ?_, d7, d8⟩
  · rw [d5, e4, hrec]
    congr 1
    simp only [List.length_append, List.length_drop]
    omega
  · rw [d6]
    show mtr.set 0 ((mt.toNat : Nat) : Int) = _
    rw [hmt']

def exSzip : CInfo := { pixels := 1024, pixels_per_scanline := 32, options_mask := 132, bits_per_pixel := 8, pixels_per_block := 16 }

-- the round trip runs on the translated texts (kernel evaluation): szip parameters, the mask comes back with `SZ_H4_REV_2`
example :
    let e := HCPencode_headerC 0 (List.replicate 24 0) 0 false 5 false exSzip
    let d := HCPdecode_headerC 0 e.p false [0] false false [0] false {}
    d.ub = false ∧ d.coder_type = [5] ∧ cinfoOfD d = { exSzip with options_mask := 132 + 65536 } := by decide +kernel

/-- … and the hypotheses of the theorem hold for these arguments -/
example : ¬ EncFails 5 exSzip ∧ CoderInfo.InRange ⟨0, coderOf 5 exSzip⟩ :=
  ⟨by decide, by decide, by decide, by decide, by decide, by decide, by decide⟩

end H4.Props.C02HdrFn
