import H4.Lemmas.Chunk
/-! # C04 — storage layout never changes the data: chunk address arithmetic of `hchunks.c` (property theorems)

All statements hold for EVERY rank ≥ 1 (rank = list length), every `dims` and `cdims` with positive entries — chunk
lengths that divide, do not divide, equal or exceed the dimension — and every `nt_size > 0`.
`dd = mkDims dims cdims` is the `DIM_REC` array `HMCcreate`/`HMCIstaccess` build.
Units: positions `p`, `pos`, lengths `len`, `k` and seeks are BYTES; `e`, `arr`, `sbi`, `spb` are ELEMENT indices.

hchunks.c as modelled (it has the repairs of the findings `chunk-unaligned-access` and `chunk-write-past-end`):
 * a transfer may start at ANY byte position and have ANY length (`elem_off = relative_posn % nt_size` is honoured by the
   `HMCPread`/`HMCPwrite` loops): no statement carries an alignment hypothesis;
 * a write that would end past the (fixed-size) element is REFUSED by `HMCPwrite` before anything is modified
   (`hmcpWrite_spec`); reads are clamped by `HMCPread`. The pure piece walk `walk` itself wraps past the end, hence
   `pos + len ≤ Π dims · nt_size` is the hypothesis of the statements about `walk`/`writePieces` on their own. -/
namespace H4.Props.C04
open H4.Chunk

/-- rank ≥ 1, one chunk length per dimension, all entries > 0, `nt_size > 0` -/
def GeomOK (dims cdims : List Nat) (nt : Nat) : Prop :=
  dims ≠ [] ∧ dims.length = cdims.length ∧ AllPos dims ∧ AllPos cdims ∧ 0 < nt

instance (dims cdims : List Nat) (nt : Nat) : Decidable (GeomOK dims cdims nt) := by
  unfold GeomOK; infer_instance

theorem GeomOK.dd {dims cdims : List Nat} {nt : Nat} (hg : GeomOK dims cdims nt) :
    DDWF (mkDims dims cdims) ∧ mkDims dims cdims ≠ [] ∧ dimsOf (mkDims dims cdims) = dims ∧
    cdimsOf (mkDims dims cdims) = cdims ∧ 0 < nt := by
  obtain ⟨h1, h2, h3, h4, h5⟩ := hg
  obtain ⟨a, b, c⟩ := mkDims_spec h2 h3 h4
  refine ⟨a, ?_, b, c, h5⟩
  intro hnil
  rw [hnil] at b
  exact h1 b.symm

/-- `DIM_REC` set-up of `HMCcreate`: `num_chunks = ⌈dim/chunk⌉` and the chunks tile the dimension with a last chunk
    of `last_chunk_length ∈ (0, chunk_length]` real elements (the rest of that chunk is "ghost") -/
theorem dimrec_setup {d c : Nat} (hd : 0 < d) (hc : 0 < c) :
    (mkDimRec d c).dimLength = d ∧ (mkDimRec d c).chunkLength = c ∧ 0 < (mkDimRec d c).numChunks ∧
    ((mkDimRec d c).numChunks - 1) * c < d ∧ d ≤ (mkDimRec d c).numChunks * c ∧
    0 < (mkDimRec d c).lastChunkLength ∧ (mkDimRec d c).lastChunkLength ≤ c ∧
    ((mkDimRec d c).numChunks - 1) * c + (mkDimRec d c).lastChunkLength = d := by
  obtain ⟨⟨w1, w2, w3, w4, w5⟩, wd, wc⟩ := mkDimRec_wf hd hc
  rw [wc] at w3 w5
  rw [wd] at w5
  refine ⟨wd, wc, w4, by omega, ?_, w2, w3, w5⟩
  obtain ⟨n, hn⟩ : ∃ n, (mkDimRec d c).numChunks = n + 1 := ⟨(mkDimRec d c).numChunks - 1, by omega⟩
  rw [hn] at w5 ⊢
  simp only [Nat.add_sub_cancel] at w5
  have := Nat.add_one_mul n c
  omega

example : mkDimRec 10 4 = { dimLength := 10, chunkLength := 4, numChunks := 3, lastChunkLength := 2 } := by decide +kernel
example : mkDimRec 3 5 = { dimLength := 3, chunkLength := 5, numChunks := 1, lastChunkLength := 3 } := by decide +kernel

/-- chunk number of element `e` (`update_chunk_indices_seek` + `calculate_chunk_num`) -/
def chunkNum (dims cdims : List Nat) (nt e : Nat) : Nat := chunkNumAt (mkDims dims cdims) nt (e * nt)
/-- byte offset of element `e` inside its chunk buffer (`update_chunk_indices_seek` + `calculate_seek_in_chunk`) -/
def seekInChunk (dims cdims : List Nat) (nt e : Nat) : Nat := seekAt (mkDims dims cdims) nt (e * nt)

/-- distinct elements get distinct (chunk number, seek in chunk) pairs; the chunk number is below `Π num_chunks` and the
    whole element lies inside the `Π cdims · nt_size` bytes of a chunk buffer (a chunk always occupies a full
    buffer, also when it is a partial "ghost" chunk at the edge). -/
theorem chunk_addr_inj {dims cdims : List Nat} {nt : Nat} (hg : GeomOK dims cdims nt) :
    (∀ e1 e2, e1 < dims.prod → e2 < dims.prod → e1 ≠ e2 →
      (chunkNum dims cdims nt e1, seekInChunk dims cdims nt e1) ≠ (chunkNum dims cdims nt e2, seekInChunk dims cdims nt e2)) ∧
    (∀ e, e < dims.prod →
      chunkNum dims cdims nt e < (nchunksOf (mkDims dims cdims)).prod ∧
      seekInChunk dims cdims nt e % nt = 0 ∧ seekInChunk dims cdims nt e + nt ≤ cdims.prod * nt) := by
  obtain ⟨hw, hne, hD, hC, hnt⟩ := hg.dd
  obtain ⟨pD, pC, pN⟩ := ddwf_pos hw
  constructor
  · intro e1 e2 h1 h2 hne12 heq
    apply hne12
    obtain ⟨hc, hs⟩ := Prod.mk.inj heq
    simp only [chunkNum, seekInChunk, chunkNumAt, seekAt, updateChunkIndicesSeek, calculateSeekInChunk,
      Nat.mul_div_cancel _ hnt] at hc hs
    exact elem_addr_inj hw (by rw [hD]; exact h1) (by rw [hD]; exact h2) hc (Nat.eq_of_mul_eq_mul_right hnt hs)
  · intro e he
    simp only [chunkNum, seekInChunk, chunkNumAt, seekAt, updateChunkIndicesSeek, calculateSeekInChunk,
      calculateChunkNum, Nat.mul_div_cancel _ hnt, ucisLoop_eq]
    obtain ⟨hb, _⟩ := digits_spec pD e
    obtain ⟨sb, pb⟩ := sbi_spb_below hw hb
    have l1 := lin_lt sb
    have l2 := lin_lt pb
    have hC' : List.map (fun x => x.chunkLength) (mkDims dims cdims) = cdims := hC
    rw [hC] at l2
    refine ⟨l1, Nat.mul_mod_left _ _, ?_⟩
    rw [hC']
    calc _ = ((lin cdims (spbOf (mkDims dims cdims) (digits (dimsOf (mkDims dims cdims)) e).2)).2 + 1) * nt := by grind
      _ ≤ cdims.prod * nt := Nat.mul_le_mul_right _ l2

/-- 2-D, 5×7 in 2×3 chunks (neither divides): all 35 elements get distinct in-range addresses -/
example : GeomOK [5, 7] [2, 3] 4 := by decide +kernel
example : ((List.range 35).map fun e => (chunkNum [5, 7] [2, 3] 4 e, seekInChunk [5, 7] [2, 3] 4 e)).Nodup := by decide +kernel

/-- The piece length `calculate_chunk_for_chunk(len + elem_off, …) - elem_off` used by the loops at ANY byte position
    `p` (`elem_off = p % nt_size`) with bytes remaining (`done < len`): positive, at most what remains, does not cross the
    end of the current chunk row of the fastest dimension nor the end of that dimension (partial last chunk), is the
    LONGEST such prefix, and its bytes occupy consecutive addresses of ONE chunk buffer: byte `p + j` lives at
    `(chunk_num, seek + elem_off + j)`. -/
theorem chunk_piece_contiguous {dims cdims : List Nat} {nt : Nat} (hg : GeomOK dims cdims nt)
    (p len done : Nat) (hrem : done < len) :
    let dd := mkDims dims cdims
    let ix := updateChunkIndicesSeek dd nt p
    let dl := dd.getLastD default                 -- fastest dimension
    let a := (p / nt) % dl.dimLength              -- array index in the fastest dimension
    let off := p % nt                             -- elem_off
    ∃ k : Nat, calculateChunkForChunk dd nt (len + off) done ix.1 ix.2 - (off : Int) = (k : Int) ∧
      0 < k ∧ k ≤ len - done ∧
      (a % dl.chunkLength) * nt + off + k ≤ dl.chunkLength * nt ∧
      a * nt + off + k ≤ dl.dimLength * nt ∧
      (k = len - done ∨ (a % dl.chunkLength) * nt + off + k = dl.chunkLength * nt ∨ a * nt + off + k = dl.dimLength * nt) ∧
      ∀ j, j < k → byteAddr dd nt (p + j) = (chunkNumAt dd nt p, seekAt dd nt p + off + j) := by
  dsimp only
  obtain ⟨hw, hne, _, _, hnt⟩ := hg.dd
  obtain ⟨_, r2, r3, rm⟩ := rowRem_facts hw hne (p / nt)
  obtain ⟨k, hk, k1, k2, k3, k4⟩ := piece_len hw hne hnt p len done hrem
  refine ⟨k, hk, k1, k2, ?_, ?_, ?_, fun j hj => byteAddr_add hw hne hnt (by omega)⟩
  all_goals
    have m2 := Nat.mul_le_mul_right nt r2
    have m3 := Nat.mul_le_mul_right nt r3
    rw [Nat.add_mul] at m2 m3
  · omega
  · omega
  · rcases k4 with k4 | k4
    · exact Or.inl k4
    · rcases rm with rm | rm
      · have := congrArg (· * nt) rm
        simp only [Nat.add_mul] at this
        exact Or.inr (Or.inl (by omega))
      · have := congrArg (· * nt) rm
        simp only [Nat.add_mul] at this
        exact Or.inr (Or.inr (by omega))

/-- 3×7 array of 2-byte elements in 2×3 chunks, at element (1,6) (last, partial chunk of the row: 1 element left):
    a 20-byte transfer gets a 2-byte piece -/
example : calculateChunkForChunk (mkDims [3, 7] [2, 3]) 2 20 0
    (updateChunkIndicesSeek (mkDims [3, 7] [2, 3]) 2 26).1 (updateChunkIndicesSeek (mkDims [3, 7] [2, 3]) 2 26).2 = 2 := by decide +kernel

/-- The `HMCPread`/`HMCPwrite` loop for a transfer of `len` bytes (ANY `len`) at ANY byte position
    `pos` (element-aligned or not): the pieces cover the byte range `[pos, pos+len)` exactly once and in order, every piece is non-empty, and the
    chunk-buffer addresses the `memcpy`s touch, in order, are exactly the addresses of bytes `pos, pos+1, …` of the
    element. (No upper bound on `pos + len` is needed for THIS statement: past the end `byteAddr` itself wraps, which
    is what the C does; the bound is needed for injectivity, see `chunked_refines_bytes`.) -/
theorem chunk_walk_tiles {dims cdims : List Nat} {nt : Nat} (hg : GeomOK dims cdims nt)
    (pos len : Nat) :
    let dd := mkDims dims cdims
    let ps := walk dd nt pos len
    ps.flatMap (fun pc => List.range' pc.pos pc.size) = List.range' pos len ∧
    ps.flatMap Piece.addrs = (List.range' pos len).map (byteAddr dd nt) ∧
    (∀ pc ∈ ps, 0 < pc.size) ∧ (ps.map (·.size)).sum = len := by
  intro dd ps
  obtain ⟨hw, hne, _, _, hnt⟩ := hg.dd
  have ht := walk_tiles hw hne hnt pos len
  exact ⟨tiles_positions ht, tiles_addrs ht, tiles_pos ht, tiles_sizes ht⟩

/-- 5×7 bytes in 2×3 chunks, 20 bytes from position 4: nine pieces, cut at every chunk-row end and at the row end -/
example : (walk (mkDims [5, 7] [2, 3]) 1 4 20).map (fun pc => (pc.pos, pc.chunk, pc.seek, pc.size)) =
    [(4, 1, 1, 2), (6, 2, 0, 1), (7, 0, 3, 3), (10, 1, 3, 3), (13, 2, 3, 1), (14, 3, 0, 3), (17, 4, 0, 3), (20, 5, 0, 1), (21, 3, 3, 3)] := by
  decide +kernel

/-- `Hseek(pos); Hwrite(data)` -/
structure WriteOp where
  pos : Nat
  data : List UInt8

/-- ends inside the element (any start, any length; `HMCPwrite` refuses the others, see `hmcpWrite_spec`) -/
def WriteOp.OK (dims : List Nat) (nt : Nat) (w : WriteOp) : Prop :=
  w.pos + w.data.length ≤ dims.prod * nt

instance (dims : List Nat) (nt : Nat) (w : WriteOp) : Decidable (w.OK dims nt) := by
  unfold WriteOp.OK; infer_instance

/-- the chunk buffers after a sequence of writes through the `HMCPwrite` piece walk -/
def runChunked (dd : List DimRec) (nt : Nat) (st : Store) (ops : List WriteOp) : Store :=
  ops.foldl (fun st w => writePieces st (walk dd nt w.pos w.data.length) w.data) st

/-- SPEC: the same writes on a flat byte array -/
def runFlat (f : Nat → UInt8) (ops : List WriteOp) : Nat → UInt8 :=
  ops.foldl (fun f w => flatWrite f w.pos w.data) f

def lastWrite : List WriteOp → Nat → Option UInt8
  | [], _ => none
  | w :: ws, q =>
    match lastWrite ws q with
    | some b => some b
    | none => if w.pos ≤ q ∧ q < w.pos + w.data.length then some (w.data.getD (q - w.pos) 0) else none

/-- the flat array holds, at every position, the byte of the LAST write covering it, else the initial (fill) byte -/
theorem runFlat_last_write (f : Nat → UInt8) (ops : List WriteOp) (q : Nat) :
    runFlat f ops q = (lastWrite ops q).getD (f q) := by
  induction ops generalizing f with
  | nil => rfl
  | cons w ws ih =>
    show runFlat (flatWrite f w.pos w.data) ws q = _
    rw [ih, lastWrite]
    cases lastWrite ws q with
    | some b => rfl
    | none =>
      simp only [Option.getD_none, flatWrite]
      split <;> rfl

/-- writes that end inside the element keep the chunk buffers and the flat array in step -/
theorem runChunked_sim {dd : List DimRec} (hw : DDWF dd) (hne : dd ≠ []) {nt : Nat} (hnt : 0 < nt) :
    ∀ (ops : List WriteOp) (st : Store) (f : Nat → UInt8), (∀ w ∈ ops, w.pos + w.data.length ≤ (dimsOf dd).prod * nt) →
    Sim dd nt ((dimsOf dd).prod * nt) st f → Sim dd nt ((dimsOf dd).prod * nt) (runChunked dd nt st ops) (runFlat f ops)
  | [], _, _, _, hs => hs
  | w :: ws, _, _, hok, hs => runChunked_sim hw hne hnt ws _ _ (fun x hx => hok x (List.mem_cons_of_mem _ hx))
      (write_sim hw hnt (walk_tiles hw hne hnt w.pos w.data.length) (hok w List.mem_cons_self) hs)

/-- **Chunked storage behaves as the same byte array as contiguous storage.**
    Start from a never-written element (every chunk reads as the fill pattern), perform ANY sequence of writes through
    the `HMCPwrite` piece walk into the map chunk number ↦ chunk buffer, then read ANY range back through the
    `HMCPread` piece walk: the result is what the same writes leave in a flat byte array, i.e. the last written byte
    at each position and the fill byte where nothing was written (`runFlat_last_write`). For every rank, every
    dims/cdims (dividing or not), every `nt_size`, every start position (aligned or not) and length; transfers end inside
    the element (`HMCPwrite` refuses the others: `hmcpWrite_spec`, `chunked_element_refines_flat`). -/
theorem chunked_refines_bytes {dims cdims : List Nat} {nt : Nat} (hg : GeomOK dims cdims nt)
    (fill : List UInt8) (hf : fill.length ∣ nt)
    (ops : List WriteOp) (hops : ∀ w ∈ ops, w.OK dims nt)
    (rpos rlen : Nat) (hr : rpos + rlen ≤ dims.prod * nt) :
    readPieces (runChunked (mkDims dims cdims) nt (initStore fill) ops) (walk (mkDims dims cdims) nt rpos rlen)
      = (List.range' rpos rlen).map (runFlat (fillAt fill) ops) := by
  obtain ⟨hw, hne, hD, _, hnt⟩ := hg.dd
  rw [← hD] at hr hops
  exact read_sim (runChunked_sim hw hne hnt ops _ _ hops (sim_init hf)) (walk_tiles hw hne hnt rpos rlen) hr

/-- non-vacuity: 3×5 array of 2-byte elements in 2×2 chunks (neither divides), two overlapping writes crossing
    chunk and row boundaries, read back across the whole element -/
example : GeomOK [3, 5] [2, 2] 2 ∧ (∀ w ∈ [WriteOp.mk 4 [1, 2, 3, 4, 5, 6, 7, 8, 9, 10, 11, 12, 13], WriteOp.mk 12 [21, 22, 23]],
    w.OK [3, 5] 2) := by decide +kernel
example : readPieces (runChunked (mkDims [3, 5] [2, 2]) 2 (initStore [0xAA, 0xBB])
      [⟨4, [1, 2, 3, 4, 5, 6, 7, 8, 9, 10, 11, 12, 13]⟩, ⟨12, [21, 22, 23]⟩]) (walk (mkDims [3, 5] [2, 2]) 2 0 30)
    = [0xAA, 0xBB, 0xAA, 0xBB, 1, 2, 3, 4, 5, 6, 7, 8, 21, 22, 23, 12, 13, 0xBB, 0xAA, 0xBB, 0xAA, 0xBB, 0xAA, 0xBB,
       0xAA, 0xBB, 0xAA, 0xBB, 0xAA, 0xBB] := by decide +kernel

/-- geometry carried by an access record is the one `HMCcreate` builds -/
def ElemOK (e : Elem) : Prop :=
  DDWF e.dd ∧ e.dd ≠ [] ∧ 0 < e.ntSize ∧ e.length = (dimsOf e.dd).prod

/-- the `Hseek` origins used by `HMCPseek`, as generated from hdf.h (Tie A) -/
theorem consts : H4.Gen.Hdf.DF_START = 0 ∧ H4.Gen.Hdf.DF_CURRENT = 1 ∧ H4.Gen.Hdf.DF_END = 2 := by decide

/-- where a seek lands (may be negative): `DF_START` (0) / `DF_CURRENT` (1) / `DF_END` (2) -/
def seekTarget (total posn : Nat) (off : Int) (origin : Nat) : Int :=
  if origin = 1 then off + posn else if origin = 2 then off + total else off

theorem hmcpSeek_eq (e : Elem) (off : Int) (origin : Nat) :
    hmcpSeek e off origin =
      if seekTarget e.totalBytes e.posn off origin < 0 then none
      else some { e with posn := (seekTarget e.totalBytes e.posn off origin).toNat } := by
  unfold hmcpSeek seekTarget
  by_cases h1 : origin = 1
  · subst h1; simp [H4.Gen.Hdf.DF_CURRENT, H4.Gen.Hdf.DF_END]
  · by_cases h2 : origin = 2
    · subst h2; simp [H4.Gen.Hdf.DF_CURRENT, H4.Gen.Hdf.DF_END]
    · simp [H4.Gen.Hdf.DF_CURRENT, H4.Gen.Hdf.DF_END, h1, h2]

/-- `HMCPseek`: `DF_START`/`DF_CURRENT`/`DF_END` (end = `length·nt_size`); only a negative result fails;
    nothing but `posn` changes -/
theorem hmcpSeek_spec (e : Elem) (offset : Int) :
    (hmcpSeek e offset 0 = if offset < 0 then none else some { e with posn := offset.toNat }) ∧
    (hmcpSeek e offset 1 = if offset + e.posn < 0 then none else some { e with posn := (offset + e.posn).toNat }) ∧
    (hmcpSeek e offset 2 = if offset + e.totalBytes < 0 then none
                           else some { e with posn := (offset + e.totalBytes).toNat }) :=
  ⟨hmcpSeek_eq e offset 0, hmcpSeek_eq e offset 1, hmcpSeek_eq e offset 2⟩

/-- `HMCPwrite`, every case: an empty write or one that would end past the element end FAILS and nothing changes
    (`none`: the state is simply not replaced); every other write — at ANY byte position — writes all of `data`,
    advances `posn` by its length and keeps the refinement of the flat array -/
theorem hmcpWrite_spec {e : Elem} (he : ElemOK e) {f : Nat → UInt8}
    (hs : Sim e.dd e.ntSize e.totalBytes e.store f) (data : List UInt8) :
    if data = [] ∨ e.posn + data.length > e.totalBytes then hmcpWrite e data = none
    else ∃ e', hmcpWrite e data = some (data.length, e') ∧ e'.posn = e.posn + data.length ∧
      e'.dd = e.dd ∧ e'.ntSize = e.ntSize ∧ e'.length = e.length ∧
      Sim e.dd e.ntSize e.totalBytes e'.store (flatWrite f e.posn data) := by
  obtain ⟨hw, hnn, hnt, hl⟩ := he
  by_cases hbad : data = [] ∨ e.posn + data.length > e.totalBytes
  · simp only [hbad, if_true]
    rcases hbad with h0 | h1
    · simp [hmcpWrite, h0]
    · have : (data.length : Int) > (e.totalBytes : Int) - e.posn := by omega
      simp only [hmcpWrite, this, if_true]
      split <;> rfl
  · simp only [hbad, if_false]
    have hne : data ≠ [] := fun h => hbad (Or.inl h)
    have hr : e.posn + data.length ≤ e.totalBytes := by omega
    have ht := walk_tiles hw hnn hnt e.posn data.length
    have hsz := tiles_sizes ht
    have hlen : (data.length == 0) = false := by
      cases data with
      | nil => exact absurd rfl hne
      | cons _ _ => rfl
    have hin : ¬ ((data.length : Int) > (e.totalBytes : Int) - e.posn) := by omega
    refine ⟨{ e with store := writePieces e.store (walk e.dd e.ntSize e.posn data.length) data,
                     posn := e.posn + data.length }, ?_, rfl, rfl, rfl, rfl, ?_⟩
    · simp only [hmcpWrite, hlen, Bool.false_eq_true, if_false, hin, hsz]
    · have hT : e.totalBytes = (dimsOf e.dd).prod * e.ntSize := by simp only [Elem.totalBytes, hl]
      rw [hT] at hs hr ⊢
      exact write_sim hw hnt ht hr hs

/-- number of bytes `HMCPread(length)` delivers from position `posn` of an element of `total` bytes:
    `length == 0` means "to the end", a request past the end is clamped, nothing at/after the end -/
def readCount (total posn : Nat) (length : Int) : Nat :=
  if length = 0 ∨ (posn : Int) + length > total then total - posn else length.toNat

/-- `HMCPread`, every case: a negative length FAILS; otherwise — at ANY byte position, also at/after the end — the
    bytes delivered are those of the flat array at `[posn, posn+n)`, `n = readCount …`, and `posn` advances by `n` -/
theorem hmcpRead_spec {e : Elem} (he : ElemOK e) {f : Nat → UInt8}
    (hs : Sim e.dd e.ntSize e.totalBytes e.store f) (length : Int) :
    hmcpRead e length =
      if length < 0 then none
      else some ((List.range' e.posn (readCount e.totalBytes e.posn length)).map f,
                 { e with posn := e.posn + readCount e.totalBytes e.posn length }) := by
  obtain ⟨hw, hnn, hnt, hl⟩ := he
  by_cases hneg : length < 0
  · simp [hmcpRead, hneg]
  · have hn : ((if ((e.posn : Int) + (if (length == 0) = true then (e.totalBytes : Int) - e.posn else length)
          > e.totalBytes) then (e.totalBytes : Int) - e.posn
        else (if (length == 0) = true then (e.totalBytes : Int) - e.posn else length)) : Int).toNat
        = readCount e.totalBytes e.posn length := by
      simp only [readCount, beq_iff_eq]
      by_cases h0 : length = 0
      · subst h0; simp <;> omega
      · simp only [h0, if_false, false_or]
        by_cases hgt : (e.posn : Int) + length > e.totalBytes
        · simp only [hgt, if_true]; omega
        · simp only [hgt, if_false]
    have hle : e.posn + readCount e.totalBytes e.posn length ≤ e.totalBytes ∨ readCount e.totalBytes e.posn length = 0 := by
      simp only [readCount]; split <;> omega
    have ht := walk_tiles hw hnn hnt e.posn (readCount e.totalBytes e.posn length)
    simp only [hmcpRead, hneg, if_false, hn, tiles_sizes ht]
    rcases hle with hle | h0
    · rw [read_sim hs ht hle]
    · rw [h0]; rfl

inductive Op where
  | seek (offset : Int) (origin : Nat)     -- `Hseek`, origin 0/1/2 = DF_START/DF_CURRENT/DF_END
  | write (data : List UInt8)              -- `Hwrite`
  | read (length : Int)                    -- `Hread`

inductive Out where
  | posn (n : Nat)
  | wrote (n : Nat)
  | bytes (l : List UInt8)
  | fail
deriving DecidableEq

/-- the chunked element (model of `HMCPseek`/`HMCPwrite`/`HMCPread`) -/
def elemStep (e : Elem) : Op → Elem × Out
  | .seek off origin => match hmcpSeek e off origin with
    | some e' => (e', .posn e'.posn)
    | none => (e, .fail)
  | .write data => match hmcpWrite e data with
    | some (n, e') => (e', .wrote n)
    | none => (e, .fail)
  | .read len => match hmcpRead e len with
    | some (l, e') => (e', .bytes l)
    | none => (e, .fail)

/-- SPEC: a fixed-size flat byte array of `total` bytes with a position -/
structure Flat where
  f : Nat → UInt8
  posn : Nat

def flatStep (total : Nat) (s : Flat) : Op → Flat × Out
  | .seek off origin =>
    let o := seekTarget total s.posn off origin
    if o < 0 then (s, .fail) else ({ s with posn := o.toNat }, .posn o.toNat)
  | .write data =>
    if data = [] ∨ s.posn + data.length > total then (s, .fail)
    else ({ f := flatWrite s.f s.posn data, posn := s.posn + data.length }, .wrote data.length)
  | .read len =>
    if len < 0 then (s, .fail)
    else ({ s with posn := s.posn + readCount total s.posn len },
          .bytes ((List.range' s.posn (readCount total s.posn len)).map s.f))

def runElem (e : Elem) : List Op → List Out
  | [] => []
  | op :: ops => (elemStep e op).2 :: runElem (elemStep e op).1 ops

def runFlatOps (total : Nat) (s : Flat) : List Op → List Out
  | [] => []
  | op :: ops => (flatStep total s op).2 :: runFlatOps total (flatStep total s op).1 ops

/-- **Every** sequence of `Hseek`/`Hwrite`/`Hread` calls — any origin and offset, any position (aligned or not, inside
    or past the end), any length (zero, negative, past the end) — returns on the chunked element exactly what it returns
    on a fixed-size flat byte array: writes that do not fit fail and change nothing, reads are clamped. -/
theorem chunked_element_refines_flat (ops : List Op) : ∀ {e : Elem} {s : Flat}, ElemOK e →
    Sim e.dd e.ntSize e.totalBytes e.store s.f → e.posn = s.posn →
    runElem e ops = runFlatOps e.totalBytes s ops := by
  induction ops with
  | nil => intros; rfl
  | cons op ops ih =>
    intro e s he hs hp
    have key : (elemStep e op).2 = (flatStep e.totalBytes s op).2 ∧ ElemOK (elemStep e op).1 ∧
        (elemStep e op).1.totalBytes = e.totalBytes ∧
        Sim (elemStep e op).1.dd (elemStep e op).1.ntSize e.totalBytes (elemStep e op).1.store
          (flatStep e.totalBytes s op).1.f ∧
        (elemStep e op).1.posn = (flatStep e.totalBytes s op).1.posn := by
      cases op with
      | seek off origin =>
        simp only [elemStep, flatStep, hmcpSeek_eq, ← hp]
        by_cases hn : seekTarget e.totalBytes e.posn off origin < 0
        · simp only [hn, if_true]
          exact ⟨trivial, he, trivial, hs, hp⟩
        · simp only [hn, if_false]
          exact ⟨trivial, he, rfl, hs, trivial⟩
      | write data =>
        have hw := hmcpWrite_spec he hs data
        simp only [elemStep, flatStep, ← hp]
        by_cases hbad : data = [] ∨ e.posn + data.length > e.totalBytes
        · simp only [hbad, if_true] at hw ⊢
          rw [hw]; exact ⟨rfl, he, rfl, hs, hp⟩
        · simp only [hbad, if_false] at hw ⊢
          obtain ⟨e', h1, h2, h3, h4, h5, h6⟩ := hw
          rw [h1]
          refine ⟨rfl, ?_, ?_, ?_, h2⟩
          · obtain ⟨a, b, c, d⟩ := he
            exact ⟨h3 ▸ a, h3 ▸ b, h4 ▸ c, by rw [h5, h3]; exact d⟩
          · simp only [Elem.totalBytes, h4, h5]
          · rw [h3, h4]; exact h6
      | read len =>
        have hr := hmcpRead_spec he hs len
        simp only [elemStep, flatStep, ← hp]
        by_cases hneg : len < 0
        · simp only [hneg, if_true] at hr ⊢
          rw [hr]; exact ⟨rfl, he, rfl, hs, hp⟩
        · simp only [hneg, if_false] at hr ⊢
          rw [hr]
          exact ⟨rfl, he, rfl, hs, rfl⟩
    obtain ⟨k1, k2, k3, k4, k5⟩ := key
    show (elemStep e op).2 :: runElem (elemStep e op).1 ops = (flatStep e.totalBytes s op).2 :: runFlatOps e.totalBytes _ ops
    rw [k1, ih k2 (by rw [k3]; exact k4) k5, k3]

/-- in-range array indices → byte seek → `update_chunk_indices_seek` gives a real (non-ghost) chunk cell, and
    `compute_chunk_to_array` brings the array indices back -/
theorem array_chunk_roundtrip {dims cdims : List Nat} {nt : Nat} (hg : GeomOK dims cdims nt)
    (arr : List Nat) (ha : Below arr dims) :
    CoordOK (mkDims dims cdims)
      (updateChunkIndicesSeek (mkDims dims cdims) nt (computeArrayToSeek (mkDims dims cdims) nt arr)).1
      (updateChunkIndicesSeek (mkDims dims cdims) nt (computeArrayToSeek (mkDims dims cdims) nt arr)).2 ∧
    computeChunkToArray (mkDims dims cdims)
      (updateChunkIndicesSeek (mkDims dims cdims) nt (computeArrayToSeek (mkDims dims cdims) nt arr)).1
      (updateChunkIndicesSeek (mkDims dims cdims) nt (computeArrayToSeek (mkDims dims cdims) nt arr)).2 = arr := by
  obtain ⟨hw, _, hD, _, hnt⟩ := hg.dd
  have ha' : Below arr (dimsOf (mkDims dims cdims)) := by rw [hD]; exact ha
  rw [ucis_of_array hw hnt ha']
  exact ⟨coord_of_array hw ha', c2a_of_array hw ha'⟩

/-- a real chunk cell → `compute_chunk_to_array` gives in-range array indices, and seeking there gives the cell back -/
theorem chunk_array_roundtrip {dims cdims : List Nat} {nt : Nat} (hg : GeomOK dims cdims nt)
    (sbi spb : List Nat) (hc : CoordOK (mkDims dims cdims) sbi spb) :
    Below (computeChunkToArray (mkDims dims cdims) sbi spb) dims ∧
    updateChunkIndicesSeek (mkDims dims cdims) nt
      (computeArrayToSeek (mkDims dims cdims) nt (computeChunkToArray (mkDims dims cdims) sbi spb)) = (sbi, spb) := by
  obtain ⟨hw, _, hD, _, hnt⟩ := hg.dd
  obtain ⟨hb, h1, h2⟩ := array_of_coord hw hc
  exact ⟨by have := hb; rw [hD] at this; exact this, by rw [ucis_of_array hw hnt hb, h1, h2]⟩

/-- element number → indices → array → seek is the identity (in bytes) -/
theorem seek_array_roundtrip {dims cdims : List Nat} {nt : Nat} (hg : GeomOK dims cdims nt) (e : Nat) (he : e < dims.prod) :
    computeArrayToSeek (mkDims dims cdims) nt
      (computeChunkToArray (mkDims dims cdims) (updateChunkIndicesSeek (mkDims dims cdims) nt (e * nt)).1
        (updateChunkIndicesSeek (mkDims dims cdims) nt (e * nt)).2) = e * nt := by
  obtain ⟨hw, _, hD, _, hnt⟩ := hg.dd
  have pD := (ddwf_pos hw).1
  have hv : computeArrayToSeek (mkDims dims cdims) nt (digits (dimsOf (mkDims dims cdims)) e).2 = e * nt :=
    congrArg (· * nt) (digits_of_lt pD (by rw [hD]; exact he)).2
  rw [← hv, ucis_of_array hw hnt (digits_spec pD e).1, c2a_of_array hw (digits_spec pD e).1]

example : GeomOK [4, 7, 3] [3, 2, 5] 8 ∧ Below [3, 6, 2] [4, 7, 3] ∧
    CoordOK (mkDims [4, 7, 3] [3, 2, 5]) [1, 3, 0] [0, 0, 2] := by decide +kernel
/-- a GHOST cell (position 2 in the last chunk of a 4-long dimension cut in 3s, which holds 1 real element) is clamped
    by `compute_chunk_to_array` to index 4 = one past the end: ghost cells correspond to no array element -/
example : ¬ CoordOK (mkDims [4] [3]) [1] [2] ∧ computeChunkToArray (mkDims [4] [3]) [1] [2] = [4] := by decide +kernel

/-- position left in `access_rec->posn` by `HMCreadChunk`/`HMCwriteChunk(origin)`: the byte position of the first
    element of that chunk (`origin[i] · chunk_length[i]` in every dimension) -/
theorem chunk_io_posn {dims cdims : List Nat} {nt : Nat} (hg : GeomOK dims cdims nt) (origin : List Nat)
    (hl : origin.length = dims.length) :
    chunkIOPosn (mkDims dims cdims) nt cdims.prod origin =
      computeArrayToSeek (mkDims dims cdims) nt (List.zipWith (· * ·) origin cdims) := by
  obtain ⟨hw, hne, hD, hC, hnt⟩ := hg.dd
  obtain ⟨_, pC, _⟩ := ddwf_pos hw
  have hlen : (mkDims dims cdims).length = dims.length := by
    have := congrArg List.length hD; simpa using this
  have h1 := uspcLoop_mul_prod (mkDims dims cdims) pC 1
  rw [Nat.one_mul, hC] at h1
  unfold chunkIOPosn updateSeekPosChunk
  rw [Nat.mul_div_cancel _ hnt, h1]
  simp only []
  rw [c2a_zero _ _ (by rw [hlen]; exact hl), hC]

example : chunkIOPosn (mkDims [5, 7] [2, 3]) 4 6 [2, 1] = (4 * 7 + 3) * 4 := by decide +kernel

/-- unaligned start: 4 elements of 4 bytes in chunks of 2 (a chunk row = 8 bytes); reading 4 bytes from byte 2
    touches the buffer bytes of positions 2..5 (hchunks.c before its repair: 0..3): ONE piece of 4 bytes at seek 0 + elem_off 2 -/
example : (walk (mkDims [4] [2]) 4 2 4).flatMap Piece.addrs = (List.range' 2 4).map (byteAddr (mkDims [4] [2]) 4) ∧
    (walk (mkDims [4] [2]) 4 2 4).map (fun pc => (pc.pos, pc.chunk, pc.seek, pc.size)) = [(2, 0, 2, 4)] := by decide +kernel

/-- unaligned start crossing a chunk-row end: 3 bytes left in the row, then aligned pieces -/
example : (walk (mkDims [4] [2]) 4 5 9).map (fun pc => (pc.pos, pc.chunk, pc.seek, pc.size)) = [(5, 0, 5, 3), (8, 1, 0, 6)] := by
  decide +kernel

/-- past the end: a 16-byte element at position 16 refuses an 8-byte write (hchunks.c before its repair returned 8 and
    overwrote bytes 0..7), also one straddling the end; a write ending exactly at the end succeeds -/
example :
    let e : Elem := { dd := mkDims [4] [2], ntSize := 4, length := 4, store := initStore [0], posn := 16 }
    hmcpWrite e [1, 2, 3, 4, 5, 6, 7, 8] = none ∧ hmcpWrite { e with posn := 12 } [1, 2, 3, 4, 5, 6, 7, 8] = none ∧
    (hmcpWrite { e with posn := 9 } [1, 2, 3, 4, 5, 6, 7]).map (·.1) = some 7 := by decide +kernel

/-- `chunked_element_refines_flat` on a concrete history: unaligned write, refused write past the end, read to the end -/
example :
    let e : Elem := { dd := mkDims [3, 5] [2, 2], ntSize := 2, length := 15, store := initStore [0xAA, 0xBB] }
    runElem e [.seek 3 0, .write [1, 2, 3, 4, 5], .seek (-2) 2, .write [9, 9, 9], .seek 1 0, .read 9, .read 0, .read (-1)]
      = [.posn 3, .wrote 5, .posn 28, .fail, .posn 1, .bytes [0xBB, 0xAA, 1, 2, 3, 4, 5, 0xAA, 0xBB],
         .bytes [0xAA, 0xBB, 0xAA, 0xBB, 0xAA, 0xBB, 0xAA, 0xBB, 0xAA, 0xBB, 0xAA, 0xBB, 0xAA, 0xBB, 0xAA, 0xBB, 0xAA, 0xBB,
                 0xAA, 0xBB], .fail] := by decide +kernel

end H4.Props.C04
