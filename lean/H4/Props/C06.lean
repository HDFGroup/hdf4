import H4.Lemmas.Conv
/-! # C06 — number-type conversion is exact, byte-order-correct and mode-independent (property theorems)

The conversion routines are data-independent position permutations inside each element, so every statement
below holds for EVERY bit pattern of every width (NaN payloads, denormals, ...) with no enumeration. -/
namespace H4.Props.C06
open H4.Conv

/-- **Mode independence.** Contiguous, strided, out-of-place and in-place conversions all deliver, in every
    destination element, the per-element transform of the ORIGINAL source element — for any element size,
    count, strides and offsets for which destination element `j` does not meet source/destination element
    `i ≠ j` (true for disjoint buffers with stride ≥ size, and for the in-place call). -/
theorem convert_elementwise (esz : Nat) (swap : Bool) (n so ss dO ds : Nat) (mem : List Byte)
    (hb : InBounds esz n so ss dO ds mem.length) (hc : NoClash esz n so ss dO ds) (i : Nat) (hi : i < n) :
    readN (conv esz swap n so ss dO ds mem) (dO + i * ds) esz = tr swap (readN mem (so + i * ss) esz) :=
  conv_elem esz swap n so ss dO ds mem hb hc i hi

/-- Nothing outside the destination elements is modified (gaps between strided elements, the source buffer
    of an out-of-place call, bytes before/after). -/
theorem convert_frame (esz : Nat) (swap : Bool) (n so ss dO ds : Nat) (mem : List Byte) (p m : Nat)
    (hb : InBounds esz n so ss dO ds mem.length) (hd : ∀ j, j < n → Disj (dO + j * ds) esz p m) :
    readN (conv esz swap n so ss dO ds mem) p m = readN mem p m :=
  conv_frame esz swap n so ss dO ds mem p m hb hd

/-- in place = out of place: the in-place call (`source == dest`, equal strides ≥ size) yields in element `i`
    exactly what an out-of-place call yields in its destination element `i`. -/
theorem inplace_eq_outofplace (esz : Nat) (swap : Bool) (n o st dO ds : Nat) (mem : List Byte)
    (hst : esz ≤ st) (hb1 : InBounds esz n o st o st mem.length)
    (hb2 : InBounds esz n o st dO ds mem.length) (hc2 : NoClash esz n o st dO ds) (i : Nat) (hi : i < n) :
    readN (conv esz swap n o st o st mem) (o + i * st) esz = readN (conv esz swap n o st dO ds mem) (dO + i * ds) esz := by
  rw [conv_elem esz swap n o st o st mem hb1 (noClash_inplace hst) i hi, conv_elem esz swap n o st dO ds mem hb2 hc2 i hi]

/-- **Round trip**: memory → file → memory returns the original bit pattern of every element. -/
theorem tr_involutive (swap : Bool) (e : List Byte) : tr swap (tr swap e) = e := by
  unfold tr; cases swap <;> simp

/-- **Byte order**: a swapped (standard, big-endian) element in the file is the big-endian representation of
    the value whose little-endian bytes were in memory; an unswapped one keeps the memory order. -/
theorem file_order_bigendian (e : List Byte) : beValue (tr true e) = leValue e := by
  simp [tr, beValue_reverse]

theorem file_order_native (e : List Byte) : tr false e = e := by simp [tr]

/-- `DFKconvert` with `num = 0` is refused -/
theorem convert_zero_refused (esz : Nat) (swap : Bool) (so ss dO ds : Nat) (mem : List Byte) :
    convert esz swap 0 so ss dO ds mem = none := by simp [convert]

/-- stride 0/0 (fast path) equals the generic strided loop with stride = element size -/
theorem fast_path_eq_strided (esz : Nat) (swap : Bool) (n so dO : Nat) (mem : List Byte) (hn : n ≠ 0) (he : esz ≠ 0) :
    convert esz swap n so 0 dO 0 mem = convert esz swap n so esz dO esz mem := by
  simp [convert, hn, he]


/-! ## the number-type table (generated by CALLING `DFKNTsize`/`DFKconvert` for every type code, Tie A) -/

/-- flavour bits of a number-type code (`hntdefs.h`): `DFNT_NATIVE` = 4096, `DFNT_CUSTOM` = 8192, `DFNT_LITEND` = 16384 -/
def isStandard (nt : Nat) : Bool := nt < 4096
def baseType (nt : Nat) : Nat := nt % 4096

/-- designated element size of a base type: 8-bit (UCHAR8 3, CHAR8 4, INT8 20, UINT8 21), 16-bit (INT16 22, UINT16 23),
    32-bit (INT32 24, UINT32 25, FLOAT32 5), 64-bit (FLOAT64 6) -/
def designatedSize (b : Nat) : Nat :=
  if b = 3 ∨ b = 4 ∨ b = 20 ∨ b = 21 then 1 else if b = 22 ∨ b = 23 then 2 else if b = 24 ∨ b = 25 ∨ b = 5 then 4 else if b = 6 then 8 else 0

/-- **every supported type, every flavour** (the whole generated table, checked by the kernel): the element size the library
    reports is the designated size of the base type, and on this (little-endian) host the library reverses the bytes of an
    element exactly for the STANDARD flavour of the multi-byte types: native and little-endian flavours are stored as they
    are in memory, standard ones big-endian (`file_order_bigendian`). -/
theorem table_sizes_and_order :
    ∀ r ∈ H4.Gen.Conv.table, r.2.1 = designatedSize (baseType r.1) ∧ r.2.1 ≠ 0 ∧
      (r.2.2 = 1 ↔ (isStandard r.1 = true ∧ 1 < r.2.1)) ∧ (r.2.2 = 0 ∨ r.2.2 = 1) := by
  decide

/-- the three flavours of all ten base types are present (30 rows) and no code appears twice -/
theorem table_complete :
    (H4.Gen.Conv.table.map (·.1)).Nodup ∧
    ∀ b ∈ [3, 4, 20, 21, 22, 23, 24, 25, 5, 6], ∀ f ∈ [0, 4096, 16384], (lookup (f + b)).isSome = true := by
  decide

/-- **round trip for every supported number type**: converting an element memory → file → memory returns the original
    bit pattern, whatever the value (NaN payloads, denormals, every 2^8/2^16/2^32/2^64 pattern) -/
theorem roundtrip_every_type (nt esz : Nat) (swap : Bool) (h : lookup nt = some (esz, swap)) (e : List Byte) :
    tr swap (tr swap e) = e := tr_involutive swap e

theorem lookup_swap {nt esz : Nat} {swap : Bool} (h : lookup nt = some (esz, swap)) : swap = true ↔ (isStandard nt = true ∧ 1 < esz) := by
  simp only [lookup, Option.map_eq_some_iff, Prod.mk.injEq] at h
  obtain ⟨r, hr, rfl, rfl⟩ := h
  have p := List.find?_some hr
  simp only [beq_iff_eq] at p
  simpa [p] using (table_sizes_and_order r (List.mem_of_find?_eq_some hr)).2.2.1

/-- **same stored bytes through any flavour-consistent reader**: two types with the same flavour and size transform alike -/
theorem same_flavour_same_bytes (nt nt' esz : Nat) (swap swap' : Bool) (h : lookup nt = some (esz, swap))
    (h' : lookup nt' = some (esz, swap')) (hf : isStandard nt = isStandard nt') (e : List Byte) : tr swap e = tr swap' e := by
  rw [Bool.eq_iff_iff.mpr ((lookup_swap h).trans (hf ▸ (lookup_swap h').symm))]

/-! non-vacuity: an in-place 2-byte swap of 3 elements with stride 3, and an out-of-place one -/
example : InBounds 2 3 1 3 1 3 12 ∧ NoClash 2 3 1 3 1 3 := by
  constructor
  · intro i hi; omega
  · exact noClash_inplace (by omega)
example : conv 2 true 3 1 3 1 3 [0, 1, 2, 9, 3, 4, 9, 5, 6, 9, 9, 9] = [0, 2, 1, 9, 4, 3, 9, 6, 5, 9, 9, 9] := by decide
example : conv 4 true 2 0 4 8 4 [1, 2, 3, 4, 5, 6, 7, 8, 0, 0, 0, 0, 0, 0, 0, 0] = [1, 2, 3, 4, 5, 6, 7, 8, 4, 3, 2, 1, 8, 7, 6, 5] := by decide

end H4.Props.C06
