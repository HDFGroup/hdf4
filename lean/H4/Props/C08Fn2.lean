import H4.Gen.Fn.Vgp2
import H4.Lemmas.VGroupMem
import H4.Lemmas.C2L
/-! C08 (and the member limit of C20), function-level Tie A for `vinsertpair` of `hdf/src/vgp.c`, as translated statement by statement
    from the CURRENT C text (`H4.Gen.Fn.Vgp2`, written by gen/c2lean.py on every run): the member arrays `vg->tag` / `vg->ref` are regions
    of 16-bit cells, `realloc` doubles them (new cells poisoned with 170, `vg_tag_null` / `vg_ref_null` answer the NULL tests after it),
    `vg->nvelt++` wraps modulo 65536, `HGOTO_ERROR` is `ret_value = FAIL; goto done`.

    The theorem says that this text computes the hand-written model `H4.VGroup.vinsertpair` (the one `vg_member_limit`,
    `vg_full_insert_fails`, `vinsertpair_full`, `vinsertpair_snoc` are about): the model keeps ONE list of `(tag, ref)` cells, the C two
    parallel arrays; cells at and beyond `nvelt` are indeterminate on both sides and are not compared. -/
namespace H4.Props.C08Fn2
open H4 H4.VGroup H4.Gen.Hdf H4.C2L

/-- a member array after the growth step of `vinsertpair`: doubled when full, the new cells hold `pad` -/
def grown {α} (nv ms : Nat) (l : List α) (pad : α) : List α := if nv ≥ ms then l ++ List.replicate ms pad else l

theorem grown_length {α} (nv ms : Nat) (l : List α) (pad : α) (hl : l.length = ms) :
    (grown nv ms l pad).length = if nv ≥ ms then 2 * ms else ms := by
  unfold grown; split <;> simp [hl]; omega

theorem grown_take {α} (nv ms : Nat) (l : List α) (pad : α) (h : nv ≤ l.length) : (grown nv ms l pad).take nv = l.take nv := by
  unfold grown; split
  · exact List.take_append_of_le_length h
  · rfl

theorem vip_eq (fuel nv ms : Nat) (marked tag ref : Int) (tg rf : List Int) (hnv : nv < 65535) (hle : nv ≤ ms) (h0 : 0 < ms)
    (hlt : tg.length = ms) (hlr : rf.length = ms) :
    H4.Gen.Fn.Vgp2.vinsertpair fuel nv ms tg rf false false marked tag ref =
      { tag := tag, ref := ref, ret_value := ((nv + 1 : Nat) : Int), vg_nvelt := ((nv + 1 : Nat) : Int),
        vg_msize := ((if nv ≥ ms then 2 * ms else ms : Nat) : Int), vg_marked := 1, vg_tag_null := false, vg_ref_null := false,
        vg_tag := (grown nv ms tg 170).set nv tag, vg_ref := (grown nv ms rf 170).set nv ref, ret := ((nv + 1 : Nat) : Int),
        done := true } := by
  have hne : ¬ ((nv : Int) = 65535) := by omega
  have hmodi : ((nv : Int) + 1) % 65536 = ((nv + 1 : Nat) : Int) := by omega
  by_cases hg : nv ≥ ms
  · obtain rfl : nv = ms := by omega
    have e1 : Int.tdiv ((((((nv : Int) * 2)) % 18446744073709551616) * 2) % 18446744073709551616) 2 = (nv : Int) * 2 := by
      rw [Int.emod_eq_of_lt (by omega) (by omega), Int.emod_eq_of_lt (by omega) (by omega), Int.mul_tdiv_cancel _ (by omega)]
    have e2 : ((nv : Int) * 2).toNat = nv * 2 := by omega
    have et : tg.take (nv * 2) = tg := List.take_of_length_le (by omega)
    have er : rf.take (nv * 2) = rf := List.take_of_length_le (by omega)
    have e3 : nv * 2 - nv = nv := by omega
    simp [H4.Gen.Fn.Vgp2.vinsertpair, H4.Gen.Fn.Vgp2.vinsertpair.chk, grown, hne, hmodi, e1, e2, et, er, hlt, hlr, e3]
    omega
  · have hgi : (nv : Int) < (ms : Int) := by omega
    simp [H4.Gen.Fn.Vgp2.vinsertpair, H4.Gen.Fn.Vgp2.vinsertpair.chk, grown, hg, hne, hgi, hmodi, hlt, hlr]

/-- **`vinsertpair` as translated from vgp.c computes the model's `vinsertpair`** — for every member state `m` satisfying the
    representation invariant `Mem.OK` (array length = `msize ≥ 1`, `nvelt ≤ msize`, `nvelt < 65536`), every two arrays `tg`, `rf` of
    `msize` cells whose first `nvelt` cells are the model's members (anything beyond), every pair `(t, r)` of `uint16` and both `realloc`s
    succeeding: no undefined behaviour (both stores inside the — possibly just doubled — arrays), and
    * at 65535 members: `FAIL`, counter, size, both arrays and the `marked` flag untouched (the model's `none`);
    * otherwise: the value returned is the model's position, `nvelt` / `msize` are the model's, both arrays have `msize` cells and their
      first `nvelt` cells are the model's members, `marked = TRUE`. -/
theorem vinsertpair_refines (m : Mem) (hok : m.OK) (t r : Nat) (_ht : t < 65536) (_hr : r < 65536) (marked : Int) (fuel : Nat)
    (tg rf : List Int) (hlt : tg.length = m.msize) (hlr : rf.length = m.msize)
    (htg : tg.take m.nvelt = ints (m.members.map Prod.fst)) (hrf : rf.take m.nvelt = ints (m.members.map Prod.snd)) :
    let s := H4.Gen.Fn.Vgp2.vinsertpair fuel m.nvelt m.msize tg rf false false marked t r
    s.ub = false ∧ s.oof = false ∧
    match H4.VGroup.vinsertpair m t r with
    | none => m.nvelt = 65535 ∧ s.ret = -1 ∧ s.vg_nvelt = m.nvelt ∧ s.vg_msize = m.msize ∧ s.vg_tag = tg ∧ s.vg_ref = rf ∧ s.vg_marked = marked
    | some (m', pos) => s.ret = pos ∧ s.vg_nvelt = m'.nvelt ∧ s.vg_msize = m'.msize ∧ s.vg_tag.length = m'.msize ∧ s.vg_ref.length = m'.msize ∧
        s.vg_tag.take m'.nvelt = ints (m'.members.map Prod.fst) ∧ s.vg_ref.take m'.nvelt = ints (m'.members.map Prod.snd) ∧
        s.vg_marked = 1 ∧ m'.members = m.members ++ [(t, r)] := by
  obtain ⟨nv, ms, arr⟩ := m
  obtain ⟨h1, h2, h3, h4⟩ := hok
  simp only at h1 h2 h3 h4 hlt hlr htg hrf
  have c : MAX_REF = 65535 := by decide
  by_cases hfull : nv = 65535
  · subst hfull
    simp [H4.VGroup.vinsertpair, c, H4.Gen.Fn.Vgp2.vinsertpair]
  · have hmod : (nv + 1) % 65536 = nv + 1 := Nat.mod_eq_of_lt (by omega)
    have hm : H4.VGroup.vinsertpair ⟨nv, ms, arr⟩ t r =
        some (⟨nv + 1, if nv ≥ ms then 2 * ms else ms, (grown nv ms arr (0, 0)).set nv (t, r)⟩, nv + 1) := by
      simp only [H4.VGroup.vinsertpair, Mem.grow, c, hfull, grown, if_false]
      split <;> simp only [hmod]
    have hlt' : nv < if nv ≥ ms then 2 * ms else ms := by split <;> omega
    have k : ∀ {α} (l : List α) (pad x : α), l.length = ms →
        ((grown nv ms l pad).set nv x).take (nv + 1) = l.take nv ++ [x] := fun l pad x hl => by
      rw [take_set_succ _ _ _ (by rw [grown_length nv ms l pad hl]; exact hlt'), grown_take nv ms l pad (by omega)]
    intro s
    rw [hm, show s = _ from vip_eq fuel nv ms marked t r tg rf (by omega) h2 h3 hlt hlr]
    simp only [Mem.members, List.length_set, grown_length nv ms tg 170 hlt, grown_length nv ms rf 170 hlr]
    rw [k tg 170 (t : Int) hlt, k rf 170 (r : Int) hlr, k arr (0, 0) (t, r) h1]
    rw [Mem.members] at htg hrf
    refine ⟨trivial, trivial, trivial, trivial, trivial, trivial, trivial, ?_, ?_, trivial, rfl⟩
    · rw [htg]; simp [ints]
    · rw [hrf]; simp [ints]

/-- the hypotheses are satisfiable and the translated code runs: an insertion that has to double two full 2-cell arrays -/
example :
    let m : Mem := ⟨2, 2, [(1965, 3), (1962, 4)]⟩
    m.OK ∧
    (let s := H4.Gen.Fn.Vgp2.vinsertpair 0 2 2 [1965, 1962] [3, 4] false false 0 720 9
     s.ub = false ∧ s.ret = 3 ∧ s.vg_nvelt = 3 ∧ s.vg_msize = 4 ∧ s.vg_tag = [1965, 1962, 720, 170] ∧ s.vg_ref = [3, 4, 9, 170] ∧ s.vg_marked = 1) ∧
    H4.VGroup.vinsertpair m 720 9 = some (⟨3, 4, [(1965, 3), (1962, 4), (720, 9), (0, 0)]⟩, 3) := by decide

/-- the member limit on the C text: a Vgroup with 65535 members refuses the insertion and is left exactly as it was -/
theorem vinsertpair_full_c (fuel : Nat) (msize marked tag ref : Int) (tg rf : List Int) (tn rn : Bool) :
    let s := H4.Gen.Fn.Vgp2.vinsertpair fuel 65535 msize tg rf tn rn marked tag ref
    s.ub = false ∧ s.ret = -1 ∧ s.vg_nvelt = 65535 ∧ s.vg_msize = msize ∧ s.vg_tag = tg ∧ s.vg_ref = rf ∧ s.vg_marked = marked := by
  simp [H4.Gen.Fn.Vgp2.vinsertpair]

end H4.Props.C08Fn2
