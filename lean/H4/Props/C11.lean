import H4.Lemmas.Annot
/-! # C11 — annotations: keys, payload codec, per-object lists, rewrite, read buffers

Model: `H4.Annot` (`mfan.c`, `dfan.c`); the key macros are the generated translations in `H4.Gen.Macros`. -/
namespace H4.Props.C11
open H4.Annot H4.Gen.Hdf H4.Gen.Mfan H4.Gen.Macros

theorem consts : AN_DATA_LABEL = 0 ∧ AN_DATA_DESC = 1 ∧ AN_FILE_LABEL = 2 ∧ AN_FILE_DESC = 3 ∧
    TAG_DATA_LABEL = DFTAG_DIL ∧ TAG_DATA_DESC = DFTAG_DIA ∧ TAG_FILE_LABEL = DFTAG_FID ∧ TAG_FILE_DESC = DFTAG_FD ∧
    DFTAG_DIL = 104 ∧ DFTAG_DIA = 105 ∧ DFTAG_FID = 100 ∧ DFTAG_FD = 101 := H4.Annot.consts


/-- `AN_KEY2TYPE (AN_CREATE_KEY t r) = t` for the four annotation types and every 16-bit ref
    (`key2type_create`, which this cites, has it for every `t < 65536`) -/
theorem an_key2type_create (t r : Nat) (ht : t < 4) (hr : r < 65536) : AN_KEY2TYPE (AN_CREATE_KEY t r) = t :=
  key2type_create t r (by omega) hr

theorem an_key2ref_create (t r : Nat) (ht : t < 4) (hr : r < 65536) : AN_KEY2REF (AN_CREATE_KEY t r) = r :=
  key2ref_create t r (by omega) hr

/-- the key is injective on (type, ref) -/
theorem an_key_injective (t r t' r' : Nat) (ht : t < 4) (hr : r < 65536) (ht' : t' < 4) (hr' : r' < 65536)
    (h : AN_CREATE_KEY t r = AN_CREATE_KEY t' r') : t = t' ∧ r = r' :=
  key_injective t r t' r' (by omega) hr (by omega) hr' h

example : AN_CREATE_KEY 3 65535 = 262143 ∧ AN_KEY2TYPE 262143 = 3 ∧ AN_KEY2REF 262143 = 65535 := by decide +kernel

/-- `ANtag2atype (ANatype2tag t) = t`: an annotation id resolves to the same (tag, ref) it was found by -/
theorem ann_type_tag_roundtrip (t : Nat) (h : t < 4) : (tagOfType t).bind typeOfTag = some t := type_tag_roundtrip t h


/-- object labels/descriptions: 4-byte big-endian target prefix + text; file labels/descriptions: the text alone.
    Any bytes (embedded NULs included), any length. -/
theorem ann_payload_roundtrip (t : Nat) (self target : Nat × Nat) (text : Bytes) (h1 : target.1 < 65536) (h2 : target.2 < 65536) :
    decodeAnn t self (encodeAnn t target text) = some (if isDataType t then target else self, text) :=
  decode_encode t self target text h1 h2

example : encodeAnn AN_DATA_DESC (720, 3) [65, 0, 66] = [2, 208, 0, 3, 65, 0, 66] ∧
    decodeAnn AN_DATA_DESC (105, 1) [2, 208, 0, 3, 65, 0, 66] = some ((720, 3), [65, 0, 66]) ∧
    encodeAnn AN_FILE_LABEL (100, 1) [65, 66] = [65, 66] := by decide +kernel


/-- every operation keeps the tree walk order strictly descending by key (no key twice) -/
theorem tree_sorted_step (s : AnState) (op : Op) (h : TreeSorted s.tree) : TreeSorted (step s op).1.tree := by
  have ite : ∀ {c : Prop} [Decidable c] {a b : AnState × Out}, TreeSorted a.1.tree → TreeSorted b.1.tree →
      TreeSorted (if c then a else b).1.tree :=
    fun ha hb => iteInduction (motive := fun X : AnState × Out => TreeSorted X.1.tree) (fun _ => ha) fun _ => hb
  cases op with
  | start => simp [step, TreeSorted]
  | endan => simp [step, TreeSorted]
  | restart => simpa [step] using h
  | hput tag ref b => simpa [step] using h
  | hdel tag ref => exact ite h h
  | fileinfo =>
    simp only [step]
    exact loadType_sorted _ _ (loadType_sorted _ _ (loadType_sorted _ _ (loadType_sorted _ _ h)))
  | create t etag eref annref =>
    simp only [step]
    split
    · exact h
    · rename_i tag _
      generalize (if isDataType t = true then (etag % 65536, eref % 65536) else (tag, annref)) = target
      refine iteInduction (motive := fun X : AnState × Out => TreeSorted X.1.tree) (fun _ => h) fun _ => ?_
      split
      · exact loadType_sorted _ _ h
      · exact treeIns_sorted (loadType_sorted _ _ h) ‹_›
  | writeann t annref text => simp only [step]; refine ite h ?_; split <;> exact h
  | readann t annref maxlen => simp only [step]; split; exact h; split <;> exact h
  | annlen t annref => simp only [step]; split; exact h; split <;> exact h
  | numann t etag eref => exact ite h (loadType_sorted _ _ h)
  | annlist t etag eref => exact ite h (loadType_sorted _ _ h)
  | select t index => simp only [step]; split <;> exact loadType_sorted _ _ h
  | gettagref t index => simp only [step]; split <;> exact loadType_sorted _ _ h
  | tagref2id tag ref =>
    simp only [step]; split
    · exact h
    · split <;> exact loadType_sorted _ _ h
  | rawelem tag ref => simp only [step]; split <;> exact h
  | dfput t etag eref annref text => simp only [step]; split; exact h; exact ite h h
  | dfget t etag eref maxlen => simp only [step]; split; exact h; split; exact h; split <;> exact h
  | dfgetlen t etag eref => simp only [step]; split; exact h; split; exact h; split <;> exact h
  | dfaddf t annref text => simp only [step]; split <;> exact h
  | dfflen t first =>
    simp only [step]; split; exact h; refine ite h (ite h ?_); split; exact h; rw [setNext_tree]; exact h
  | dffget t first maxlen =>
    simp only [step]; split; exact h; refine ite h (ite h ?_); split; exact h
    split <;> (rw [setNext_tree]; exact h)
  | dflablist tag listsize maxlen startpos => exact ite h h

/-- the entries `ANannlist`/`ANnumann` select from a tree -/
def annlistOf (tr : List (Nat × Entry)) (t etag eref : Nat) : List (Nat × Entry) :=
  (ofType t tr).filter (fun p => p.2.elmtag == etag && p.2.elmref == eref)

/-- **`ANannlist`**: the list is exactly the annotations of the given type in the tree whose target is (tag, ref);
    each once; in the tree's walk order, which is DESCENDING key — i.e. descending annotation ref, newest first when
    refs are handed out in increasing order (`ANIanncmp` inverts the comparison) — not creation order. -/
theorem annlist_filter (tr : List (Nat × Entry)) (h : TreeSorted tr) (t etag eref : Nat) :
    (∀ p, p ∈ annlistOf tr t etag eref ↔ p ∈ tr ∧ AN_KEY2TYPE p.1 = t ∧ p.2.elmtag = etag ∧ p.2.elmref = eref) ∧
    ((annlistOf tr t etag eref).map (·.1)).Pairwise (· > ·) := by
  constructor
  · intro p
    simp only [annlistOf, ofType, List.mem_filter, beq_iff_eq, Bool.and_eq_true]
    constructor
    · rintro ⟨⟨a, b⟩, c, d⟩; exact ⟨a, b, c, d⟩
    · rintro ⟨a, b, c, d⟩; exact ⟨⟨a, b⟩, c, d⟩
  · have s1 : (annlistOf tr t etag eref).Sublist tr :=
      List.Sublist.trans List.filter_sublist List.filter_sublist
    exact List.Pairwise.sublist (List.Sublist.map _ s1) h

/-- what the model's `annlist` operation answers is `annlistOf` of the (loaded) tree -/
theorem annlist_step (s : AnState) (t etag eref : Nat) (hd : isDataType t = true) :
    (step s (.annlist t etag eref)).2 = .nats ((annlistOf (loadType s t).tree t etag eref).map (·.2.annref)) := by
  simp [step, hd, annlistOf]

example : (step { tree := [(AN_CREATE_KEY 0 3, ⟨3, 720, 1⟩), (AN_CREATE_KEY 0 2, ⟨2, 720, 2⟩), (AN_CREATE_KEY 0 1, ⟨1, 720, 1⟩)],
                  loaded := [0] } (.annlist 0 720 1)).2 = .nats [3, 1] := by decide +kernel


/-- **rewriting an annotation keeps its identity**: `ANwriteann` on an existing annotation (any new length) leaves the
    trees (hence type, ref, id, target) unchanged, leaves every other element untouched (every real tag/ref: a DD with
    tag `DFTAG_NULL` is a free DD, which a NEW annotation's element may take), and the new text is what
    `ANreadann` (with a large enough buffer) and `ANannlen` report. -/
theorem rewrite_keeps_identity (s : AnState) (t annref tag : Nat) (e : Entry) (text : Bytes)
    (ht : tagOfType t = some tag) (hf : treeFind (AN_CREATE_KEY t annref) s.tree = some e)
    (h1 : e.elmtag < 65536) (h2 : e.elmref < 65536) (hne : text ≠ []) :
    let s' := (step s (.writeann t annref text)).1
    s'.tree = s.tree ∧ s'.loaded = s.loaded ∧
    (∀ k, k.1 ≠ DFTAG_NULL → k ≠ (tag, annref) → elemLook k s'.elems = elemLook k s.elems) ∧
    (elemLook (tag, annref) s'.elems).bind (decodeAnn t (tag, annref)) =
      some (if isDataType t then (e.elmtag, e.elmref) else (tag, annref), text) ∧
    (step s' (.annlen t annref)).2 = .int text.length ∧
    ∀ maxlen, text.length < maxlen → (step s' (.readann t annref maxlen)).2 = .read text (text.length + if isLabelType t then 1 else 0) := by
  have hs : (step s (.writeann t annref text)).1 =
      { s with elems := elemPut (tag, annref) (encodeAnn t (e.elmtag, e.elmref) text) s.elems } := by
    simp [step, ht, hf, hne]
  have hnn : (tag, annref).1 ≠ DFTAG_NULL := tagOfType_ne_null ht
  obtain ⟨hdrop, hlen⟩ := encodeAnn_drop t (e.elmtag, e.elmref) text
  simp only
  rw [hs]
  refine ⟨rfl, rfl, fun k hkn hk => ?_, ?_, ?_, fun maxlen hm => ?_⟩
  · rw [elemLook_elemPut _ _ _ _ hkn, if_neg hk]
  · rw [elemLook_elemPut _ _ _ _ hnn, if_pos rfl]
    exact decode_encode t (tag, annref) (e.elmtag, e.elmref) text h1 h2
  · simp only [step, ht, elemLook_elemPut _ _ _ _ hnn, if_true, hlen]
    split <;> simp
  · simp only [step, ht, elemLook_elemPut _ _ _ _ hnn, if_true, hlen, hdrop, Nat.add_sub_cancel, readSpan_fits t hm,
      List.take_length]


/-- **reads stay inside the caller's buffer — full strength**: for EVERY text length and EVERY `maxlen` (labels need
    room for their terminating NUL, `maxlen ≥ 1`; descriptions any `maxlen ≥ 0`) `ANreadann`/`DFANgetlabel`/`DFANgetdesc`
    write at most `maxlen` bytes, and return the first `min len (maxlen − 1)` resp. `min len maxlen` bytes of the text.
    History: before /repo d625c61 a label read with `maxlen = 1` (description: 0) passed the clipped length 0 to `Hread`
    (= "to the end") and the whole text was written into the buffer. -/
theorem readann_within_buffer (t len maxlen : Nat) (h : isLabelType t = true → 1 ≤ maxlen) :
    (readSpan t len maxlen).2 ≤ maxlen ∧
    (readSpan t len maxlen).1 = (if isLabelType t then min len (maxlen - 1) else min len maxlen) := by
  unfold readSpan
  by_cases hl : isLabelType t = true
  · have := h hl
    simp [hl]; omega
  · simp [hl]; omega

example : readSpan AN_DATA_LABEL 22 1 = (0, 1) ∧ readSpan AN_DATA_DESC 22 0 = (0, 0) ∧ readSpan AN_FILE_LABEL 5 100 = (5, 6) := by decide +kernel


/-- **`ANcreate`/`ANcreatef` never hide existing annotations**: in whatever state of the session the call is made
    (in particular as the very first annotation call, with no tree loaded), the type's tree afterwards contains every
    entry that loading the type from the file yields, plus — on success — the new one; and the type counts as loaded.
    History: before /repo d4a30b4 `ANIaddentry` created the tree EMPTY when it was not loaded yet, so all existing
    annotations of the type were invisible until `ANend` (finding `an-create-hides`). -/
theorem create_keeps_existing (s : AnState) (t etag eref annref : Nat) :
    let s' := (step s (.create t etag eref annref)).1
    (∀ p ∈ (loadType s t).tree, p ∈ s'.tree) ∨ (step s (.create t etag eref annref)).2 = .fail ∧ s'.tree = s.tree := by
  simp only [step]
  split
  · exact .inr ⟨rfl, rfl⟩
  · rename_i tag _
    generalize (if isDataType t = true then (etag % 65536, eref % 65536) else (tag, annref)) = target
    refine iteInduction (motive := fun X : AnState × Out => (∀ p ∈ (loadType s t).tree, p ∈ X.1.tree) ∨ X.2 = .fail ∧ X.1.tree = s.tree)
      (fun _ => .inr ⟨rfl, rfl⟩) fun _ => ?_
    split
    · exact .inl fun p hp => hp
    · exact .inl fun p hp => (treeIns_subset ‹_›).1 p hp

/-- the input of finding `an-create-hides`: a file with two object labels; `ANcreate` + `ANwriteann` of a third as the
    first calls of the session; `ANfileinfo` reports three, and `ANannlist` lists all of them -/
theorem create_first_sees_existing :
    let file : AnState := { elems := [((104, 1), [3, 232, 0, 5, 65]), ((104, 2), [3, 232, 0, 5, 66])] }
    let s := (step (step file (.create 0 1000 5 3)).1 (.writeann 0 3 [67])).1
    (step s .fileinfo).2 = .nats [0, 0, 3, 0] ∧ (step s (.annlist 0 1000 5)).2 = .nats [3, 2, 1] := by
  decide +kernel


/-- `ANwriteann` with an empty text fails and changes nothing: no element (not even the 4-byte target prefix) appears -/
theorem write_empty_refused (s : AnState) (t annref : Nat) : step s (.writeann t annref []) = (s, .fail) := by
  simp [step]

example :
    let s := (step (step {} .fileinfo).1 (.create 0 1000 5 1)).1
    (step s (.writeann 0 1 [])).2 = .fail ∧ (step (step s (.writeann 0 1 [])).1 (.rawelem 104 1)).2 = .fail := by
  decide +kernel

/-! ## several sessions on a file that stays open (`ANend`, then `ANstart` again on a file id of the same file record)

The four trees, the annotation atoms and the four counts live in the `filerec_t`, which outlives `ANend` as long as a file
id of the file is open.  `ANend` must therefore put EVERY type back to "not built" — otherwise the next session on the
open file answers from the previous session's tree of that type: it misses what was written in between through
`DFANaddfid`/`DFANaddfds`/`Hputelement`, and its ids still name the file id that built them. -/

/-- **`ANend` forgets all four types; `ANstart` adds nothing**: whatever the session held (any tree, any set of loaded
    types), afterwards no type counts as loaded and no tree entry is left — for every type, the file descriptions included -/
theorem endan_forgets_every_type (s : AnState) :
    step s .endan = ({ s with tree := [], loaded := [] }, .ok) ∧
    (∀ t, countType (step s .endan).1 t = 0 ∧ (step s .endan).1.loaded.contains t = false) ∧
    step (step s .endan).1 .restart = ((step s .endan).1, .ok) :=
  ⟨rfl, fun _ => ⟨rfl, rfl⟩, rfl⟩

/-- **the next session lists exactly what the file holds — every type**: after `ANend` + `ANstart` on the open file,
    whatever the previous session had in its trees, building the tree of type `t` (what `ANfileinfo`, `ANselect`,
    `ANnumann`, `ANannlist`, `ANtagref2id`, `ANcreate` do first) yields exactly the annotations of that type that exist in
    the file NOW, each once: in particular those written after the previous session loaded the type. -/
theorem next_session_lists_the_file (s : AnState) (hok : FileOk s.elems) (t : Nat) (ht : t < 4) :
    let s0 := (step (step s .endan).1 .restart).1
    (ofType t (loadType s0 t).tree).Perm (fileEntries s.elems t) ∧
    countType (loadType s0 t) t = (fileEntries s.elems t).length := by
  have h := (loadType_perm { s with tree := [], loaded := [] } t ht rfl hok (by simp)).1
  simp only [List.nil_append] at h
  have hp : (ofType t (loadType { s with tree := [], loaded := [] } t).tree).Perm (fileEntries s.elems t) := by
    have := h.filter (fun p => AN_KEY2TYPE p.1 == t)
    rwa [filter_type_fileEntries s.elems hok t t ht, if_pos rfl] at this
  exact ⟨hp, hp.length_eq⟩

/-- **`ANfileinfo` of the next session counts the file, all four types**: after `ANend` + `ANstart` on the open file the
    four numbers are the numbers of file labels, file descriptions, object labels and object descriptions that exist in
    the file, independent of the trees and counts of the session before. -/
theorem next_session_fileinfo_counts_the_file (s : AnState) (hok : FileOk s.elems) :
    (step (step (step s .endan).1 .restart).1 .fileinfo).2 =
      .nats [(fileEntries s.elems AN_FILE_LABEL).length, (fileEntries s.elems AN_FILE_DESC).length,
             (fileEntries s.elems AN_DATA_LABEL).length, (fileEntries s.elems AN_DATA_DESC).length] := by
  have p := loads_perm [AN_FILE_LABEL, AN_FILE_DESC, AN_DATA_LABEL, AN_DATA_DESC] (by decide) (by decide)
    { s with tree := [], loaded := [] } hok (fun _ _ => rfl) (fun _ h => nomatch h)
  replace p := (List.nil_append _ ▸ p : List.Perm _ ([AN_FILE_LABEL, AN_FILE_DESC, AN_DATA_LABEL, AN_DATA_DESC].flatMap (fileEntries s.elems)))
  have cnt (t' : Nat) := (p.filter (fun p => AN_KEY2TYPE p.1 == t')).length_eq
  simp only [List.flatMap_cons, List.flatMap_nil, List.append_nil, List.filter_append,
    filter_type_fileEntries _ hok _ _ (show AN_FILE_LABEL < 4 by decide), filter_type_fileEntries _ hok _ _ (show AN_FILE_DESC < 4 by decide),
    filter_type_fileEntries _ hok _ _ (show AN_DATA_LABEL < 4 by decide), filter_type_fileEntries _ hok _ _ (show AN_DATA_DESC < 4 by decide)] at cnt
  -- `foldl` is unfolded in the counts only: unfolding it in the permutation itself makes the kernel compare the two spellings of
  -- the loaded state by unfolding `loadType`
  simp only [List.foldl_cons, List.foldl_nil] at cnt
  show Out.nats _ = _
  simp only [step, countType, ofType]
  rw [cnt, cnt, cnt, cnt]
  have c : AN_DATA_LABEL = 0 ∧ AN_DATA_DESC = 1 ∧ AN_FILE_LABEL = 2 ∧ AN_FILE_DESC = 3 := by decide
  simp [c.1, c.2.1, c.2.2.1, c.2.2.2]

/-- the hypotheses are satisfiable and the statement bites: a session that saw two file descriptions and one file label;
    `ANend`; a file description and a file label added through the open file id (`DFANaddfds`, `DFANaddfid`), an object
    label through `Hputelement`; the next session on the open file counts and lists all of them -/
example :
    let file : AnState := { elems := [((101, 1), [65]), ((100, 1), [66]), ((101, 2), [67])] }
    let s1 := (step (step file .start).1 .fileinfo).1
    let s2 := (step (step (step (step s1 .endan).1 (.dfaddf 3 3 [68])).1 (.dfaddf 2 2 [69])).1 (.hput 104 1 [2, 208, 0, 1, 70])).1
    let s3 := (step s2 .restart).1
    (step s1 .fileinfo).2 = .nats [1, 2, 0, 0] ∧ (step s3 .fileinfo).2 = .nats [2, 3, 1, 0] ∧
    (step s3 (.select 3 0)).2 = .int 3 ∧ (step s3 (.annlist 0 720 1)).2 = .nats [1] ∧
    fileEntries s2.elems 3 = [(AN_CREATE_KEY 3 1, ⟨1, 101, 1⟩), (AN_CREATE_KEY 3 2, ⟨2, 101, 2⟩), (AN_CREATE_KEY 3 3, ⟨3, 101, 3⟩)] := by
  decide +kernel

example : FileOk [((101, 1), [65]), ((100, 1), [66]), ((101, 2), [67])] := by
  refine ⟨by decide, ?_⟩
  intro p hp
  simp only [List.mem_cons, List.not_mem_nil, or_false] at hp
  rcases hp with rfl | rfl | rfl <;> decide

/-! ## enumerations whatever the reference numbers are

A file written once through `ANcreatef`/`DFANaddfid` has file labels with refs 1, 2, 3, … in DD order.  Nothing makes that
last: `Hdeldd` (the only deletion HDF4 offers) leaves gaps and free DDs, `Htagnewref` hands a deleted ref out again, the
new element takes the first free DD — in front of older ones — and any writer may choose its refs (`Hnewref`, explicit
refs).  The statements below are about EVERY DD list: no assumption on which refs are present or in which order. -/

/-- **`Hdeldd` deletes exactly one annotation**: the tag/ref is gone, every other element is what and where it was (the
    elements of every tag keep their DD order), the DD list stays well formed, no tree is touched. -/
theorem hdel_deletes_exactly (s : AnState) (tag ref : Nat) (hok : FileOk s.elems) (hn : tag ≠ DFTAG_NULL)
    (hex : (elemLook (tag, ref) s.elems).isSome) :
    let s' := (step s (.hdel tag ref)).1
    (step s (.hdel tag ref)).2 = .ok ∧ FileOk s'.elems ∧ s'.tree = s.tree ∧
    elemLook (tag, ref) s'.elems = none ∧
    (∀ k, k.1 ≠ DFTAG_NULL → k ≠ (tag, ref) → elemLook k s'.elems = elemLook k s.elems) ∧
    ∀ T, T ≠ DFTAG_NULL →
      s'.elems.filter (fun p => p.1.1 == T) = (s.elems.filter (fun p => p.1.1 == T)).filter (fun p => p.1 != (tag, ref)) := by
  have hnone : ¬ (elemLook (tag, ref) s.elems).isNone := by
    cases h : elemLook (tag, ref) s.elems with
    | none => simp [h] at hex
    | some b => simp
  have hs : step s (.hdel tag ref) = ({ s with elems := elemDel (tag, ref) s.elems }, .ok) := by
    simp only [step]; rw [if_neg (by simp only [hn, false_or]; exact hnone)]
  simp only
  rw [hs]
  refine ⟨rfl, fileOk_elemDel _ hok, rfl, ?_, ?_, ?_⟩
  · simpa using elemLook_elemDel (tag, ref) (tag, ref) s.elems hok.dist hn hn
  · intro k hk hne
    simpa [hne] using elemLook_elemDel (tag, ref) k s.elems hok.dist hn hk
  · intro T hT
    exact filter_elemDel (tag, ref) s.elems hok.dist hn T hT

/-- **the `DFANgetfidlen`/`DFANgetfid` walk (file labels) and the `DFANgetfdslen`/`DFANgetfds` walk (file descriptions)
    list exactly the file annotations that exist** — each once, in DD order, with its length and its text (clipped to
    `maxlen - 1`), and then the walk ENDS (the result has as many entries as the file has annotations of the type, however
    long the loop is allowed to run) — for EVERY well-formed DD list: any refs (65535 included), gaps, any order, any other
    elements and free DDs in between, and whatever `Next_label_ref`/`Next_desc_ref`/`Label_walk_done`/`Desc_walk_done`
    held before (`s` is arbitrary; `hpos`: 0 is not a reference number, `HTPcreate` refuses it).
    History: before /repo 358eba8 the end of the walk was encoded in `Next_???_ref` itself (ref of the last annotation in
    DD order + 1, mod 2¹⁶); when that marker was 0 or the ref of an annotation of the type the walk went round for ever
    (finding `dfan-walk-endless`; the two files of `dfan_walk_ends_*` below). -/
theorem dfan_walk_lists_the_file (s : AnState) (t T : Nat) (ht : t = AN_FILE_LABEL ∨ t = AN_FILE_DESC)
    (hT : tagOfType t = some T) (hok : FileOk s.elems) (hpos : ∀ p ∈ s.elems, p.1.1 = T → p.1.2 ≠ 0)
    (maxlen fuel : Nat) (hf : (s.elems.filter (fun p => p.1.1 == T)).length < fuel) :
    dfWalk t maxlen fuel s 1 = (s.elems.filter (fun p => p.1.1 == T)).map (walkItem maxlen) := by
  have hd : isDataType t = false := by rcases ht with rfl | rfl <;> decide
  have h := dfWalk_from t T maxlen hT hd s.elems hok.dist hpos _ 0 s 1 fuel rfl (by simp) hf (fun _ => rfl)
    (fun h => absurd rfl h)
  simpa using h

/-- with a buffer larger than the text the walk reports the whole text -/
theorem walkItem_full (maxlen : Nat) (p : (Nat × Nat) × Bytes) (h : p.2.length < maxlen) :
    walkItem maxlen p = ((p.2.length : Int), .bytes p.2) := by
  have : min (min p.2.length maxlen) (maxlen - 1) = p.2.length := by omega
  simp [walkItem, clipF, this]

/-- the hypotheses are satisfiable and the statement bites: file labels with refs 5, 9, 7 in DD order (sparse, not
    ascending), a free DD and other elements in between, stale walk state (marked done by a walk of another file); the
    walk lists the three and ends.  After `Hdeldd` of the middle one it lists the two that are left, the next `AN`
    session counts two, and a new label (ref 6) takes the free DD in front of label 7. -/
example :
    let s : AnState := { elems := [((30, 1), [1]), ((100, 5), [65]), ((1, 0), []), ((100, 9), [66, 67]), ((101, 2), [70]), ((100, 7), [68])],
                         nextLab := 9, nextDesc := 3, labDone := true }
    let s' := (step s (.hdel 100 9)).1
    dfWalk 2 64 10 s 1 = [(1, .bytes [65]), (2, .bytes [66, 67]), (1, .bytes [68])] ∧
    dfWalk 2 64 10 s' 1 = [(1, .bytes [65]), (1, .bytes [68])] ∧
    (step (step s' .start).1 .fileinfo).2 = .nats [2, 1, 0, 0] ∧
    (step s' (.hput 100 6 [71])).1.elems.map (·.1) = [(30, 1), (100, 5), (100, 6), (1, 0), (101, 2), (100, 7)] := by
  decide +kernel

example :
    let E : List ((Nat × Nat) × Bytes) := [((30, 1), [1]), ((100, 5), [65]), ((1, 0), []), ((100, 9), [66, 67]), ((101, 2), [70]), ((100, 7), [68])]
    FileOk E ∧ (∀ p ∈ E, p.1.1 = 100 → p.1.2 ≠ 0) := ⟨⟨by decide, by decide⟩, by decide⟩

/-- **refs out of DD order**: two file labels whose DD order is ref 2, ref 1 — what `DFANaddfid` ×2, `Hdeldd` of the
    first, another object taking the free DD, `DFANaddfid` produce.  The walk reports the two and ends (before /repo
    358eba8 the marker after ref 1 was 2, a live ref, and the loop reported the two labels again and again). -/
theorem dfan_walk_ends_refs_out_of_order :
    let s : AnState := { elems := [((30, 1), [1]), ((1000, 1), [120]), ((100, 2), [66]), ((100, 1), [67])] }
    dfWalk 2 64 7 s 1 = [(1, .bytes [66]), (1, .bytes [67])] := by
  decide +kernel

/-- **last ref 65535**: the walk ends (before /repo 358eba8 the marker wrapped to 0 = `DFREF_WILDCARD` and the walk
    started again) -/
theorem dfan_walk_ends_ref_65535 :
    let s : AnState := { elems := [((101, 7), [65]), ((101, 65535), [66])] }
    dfWalk 3 64 5 s 1 = [(1, .bytes [65]), (1, .bytes [66])] := by
  decide +kernel

/-- **`DFANlablist` with room for the terminating NUL only** lists the refs and empty labels: no text byte is read
    (before /repo 380b3fd the whole label was written into the caller's buffer — finding `dfan-lablist-overrun`) -/
theorem lablist_maxlen1_reads_nothing :
    let s : AnState := { elems := [((1000, 1), [111]), ((1000, 2), [111]), ((104, 1), [3, 232, 0, 1, 65, 66, 67]), ((104, 2), [3, 232, 0, 2, 68])] }
    (step s (.dflablist 1000 2 1 1)).2 = .lablist [1, 2] [[], []] ∧
    (step s (.dflablist 1000 2 3 1)).2 = .lablist [1, 2] [[65, 66], [68]] := by
  decide +kernel

end H4.Props.C11
