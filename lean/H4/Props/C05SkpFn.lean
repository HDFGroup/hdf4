import H4.Lemmas.C05SkpFn
import H4.Props.C05Skp
/-! C05, function-level Tie A for the skipping-Huffman coder: `HCIcskphuff_encode` and `HCIcskphuff_decode` of `hdf/src/cskphuff.c`, as
    translated statement by statement from the CURRENT C text (`H4.Gen.Fn.Cskphuff`, written by gen/c2lean.py on every run; both call the
    translated `HCIcskphuff_splay`), compute exactly the hand-written model (`H4.SkpHuff.encRunF`, `decRun`, `splay`) the C05 theorems
    (`H4.Props.C05Skp`: `skphuff_roundtrip`, `skphuff_code_any_length`, …) are about - for every skip size, every list of well-formed
    trees, every lane, every byte string / bit stream - and never index outside `output_bits[64]`, `bit_count[64]`, the rows
    `left/right[skip_pos][SUCCMAX]`, `up[skip_pos][TWICEMAX]`, `buf` (`ub = false`); all loops terminate within the stated fuel
    (`oof = false`).

    Conventions (see `H4.Lemmas.C05SkpFn`): `rowsL/rowsR/rowsU ts` = the arrays of rows `skphuff_info->left/right/up` holding the model's
    trees `ts` (`ints` images of the three arrays of each tree); `bytes bs` = the caller's `uint8` buffer; `flat fs` = the cells the
    `Hbitwrite(aid, count, data)` calls append to region `io_out` (`count, data` per call); `bitsI bits` = region `io_in`, one cell 0/1 per
    bit (`Hbitread(aid, 1, &bit)` takes the next cell, FAIL at the end); `runTrees skip ts pos bs` = the model's trees after the run. -/
namespace H4.Props.C05SkpFn
open H4 H4.SkpHuff H4.Gen.Cskphuff H4.Gen.Fn.Cskphuff H4.C2L H4.Lemmas.C05Fn H4.Lemmas.C05SkpFn

set_option linter.unusedVariables false in
/-- `HCIcskphuff_encode` as translated from cskphuff.c computes the model's `encRunF`.

    For every skip size ≥ 1, every list `ts` of `skip` well-formed trees (`H4.SkpHuff.WF`: the invariant `WF_init` / `splay_WF` establish
    for every tree the coder ever holds), every lane `pos < skip`, every byte string `bs` (`length` is an `int32`: `< 2^31`), every previous
    content `out0` of the output and every `offset`: no undefined behaviour, all four loops terminate, `ret = SUCCEED`, the `Hbitwrite`
    calls are exactly `encRunF skip ts pos bs` (codes of any length: 1 … 16 words of the bit stack, the partly filled top word first),
    the rows are the model's trees after the run, `skip_pos` and `offset` are advanced.
    Fuel: `bs.length + 511`.  (The translator passes the REMAINING fuel of `while (length > 0)` to the inner loops and to the call of
    `HCIcskphuff_splay`; with `k` bytes left it is ≥ `k + 511`.  The climb to ROOT has ≤ 512 steps - one inline, ≤ 511 in `loop1`;
    the pops ≤ 17 - one inline; the splay needs 255.)
    Memory safety of the bit stack: after `k` steps of the climb the stack holds `k` bits = `k / 32` full words below `stack_ptr`
    (`eloop1_rel`); `k ≤ 512` because the walk `a, up[a], …` of a well-formed tree reaches ROOT within 512 steps (`bounded_rank`); hence
    `stack_ptr ≤ 16 < 64 = SKPHUFF_MAX_CHAR / 4 + 1` at every access to `output_bits` / `bit_count` (part of `ub = false`). -/
theorem HCIcskphuff_encode_refines (skip : Nat) (hs : 1 ≤ skip) (ts : List Tree) (hts : ts.length = skip) (hw : ∀ t ∈ ts, WF t)
    (pos : Nat) (hpos : pos < skip) (bs : List UInt8) (hlen : bs.length < 2 ^ 31) (out0 : List Int) (off : Int)
    (fuel : Nat) (hf : bs.length + 511 ≤ fuel) :
    let s := HCIcskphuff_encode fuel pos (rowsU ts) (rowsR ts) (rowsL ts) skip off bs.length (bytes bs) out0
    s.ub = false ∧ s.oof = false ∧ s.ret = 0 ∧
      s.io_out = out0 ++ flat (encRunF skip ts pos bs) ∧
      s.skphuff_info_left = rowsL (runTrees skip ts pos bs) ∧
      s.skphuff_info_right = rowsR (runTrees skip ts pos bs) ∧
      s.skphuff_info_up = rowsU (runTrees skip ts pos bs) ∧
      s.skphuff_info_skip_pos = ((pos + bs.length) % skip : Nat) ∧
      s.skphuff_info_offset = off + bs.length := by
  have rep64 : List.replicate 64 (0 : Int) = ints (List.replicate 64 0) := by decide
  have h0 : EInv ({ skphuff_info_skip_pos := pos, skphuff_info_up := rowsU ts, skphuff_info_right := rowsR ts, skphuff_info_left := rowsL ts, skphuff_info_skip_size := skip, skphuff_info_offset := off, length := bs.length, buf := bytes bs, io_out := out0, output_bits := List.replicate 64 0, bit_count := List.replicate 64 0, orig_length := bs.length } : HCIcskphuff_encode.St) skip ts pos bs 0 out0 off bs.length :=
    ⟨rfl, rfl, rfl, by omega, rfl, rfl, rfl, rfl, rfl, rfl, ⟨List.replicate 64 0, rep64, by decide⟩, ⟨List.replicate 64 0, rep64, by decide⟩,
      rfl, rfl, rfl, rfl, rfl⟩
  have h := eloop0_rel skip bs off bs.length bs.length fuel _ ts pos 0 out0 (by omega) h0 (by omega) ⟨hw, hts, hpos⟩
  simp only [List.drop_zero] at h
  simp only [HCIcskphuff_encode, HCIcskphuff_encode.St.set_orig_length]
  generalize HCIcskphuff_encode.loop0 fuel _ = s1 at h ⊢
  simp only [h.done, Bool.false_eq_true, ↓reduceIte]
  exact ⟨h.ub, h.oof, trivial, h.out, h.left, h.right, h.up, h.pos, by rw [h.off, h.olen]⟩

/-- the code lengths behind the fuel and the stack bound: on a well-formed tree every code has at most 512 bits, i.e. at most 16
    `Hbitwrite` calls / full words of the bit stack (`stack_ptr ≤ 16`; `output_bits[]`, `bit_count[]` have 64 cells) -/
theorem skphuff_code_le_512 (t : Tree) (hw : WF t) (s : Nat) (hs : s < 256) : codeBits t s ≤ 512 ∧ codeWords t s ≤ 16 := by
  have hb : codeBits t s ≤ 512 := codeBits_eq t s ▸ encSym_length_le t hw s hs
  exact ⟨hb, by rw [codeWords_eq]; omega⟩

/-- the hypotheses are satisfiable and the translated code runs: a fresh element with `skip_size = 2` (`HCIcskphuff_init`), 4 bytes
    (kernel evaluation of the generated definitions: two inner loops and a call of the translated splay per byte) -/
example :
    let s := HCIcskphuff_encode 515 0 (rowsU (initTrees 2)) (rowsR (initTrees 2)) (rowsL (initTrees 2)) 2 0 4 (bytes [18, 18, 3, 18]) []
    s.ub = false ∧ s.oof = false ∧ s.ret = 0 ∧ s.io_out = flat (encRunF 2 (initTrees 2) 0 [18, 18, 3, 18]) ∧
      s.skphuff_info_up = rowsU (runTrees 2 (initTrees 2) 0 [18, 18, 3, 18]) ∧ s.skphuff_info_skip_pos = 0 := by
  decide +kernel

example : flat (encRunF 2 (initTrees 2) 0 [18, 18, 3, 18]) = [9, 274, 9, 274, 8, 195, 5, 30] := by
  rw [← encodeFields, encodeFields_eq]; decide +kernel

/-- the theorem instantiated on the same input -/
example :
    let s := HCIcskphuff_encode 515 (0 : Nat) (rowsU (initTrees 2)) (rowsR (initTrees 2)) (rowsL (initTrees 2)) (2 : Nat) 0
      (([18, 18, 3, 18] : List UInt8).length) (bytes [18, 18, 3, 18]) []
    s.ub = false ∧ s.oof = false ∧ s.ret = 0 ∧ s.io_out = [] ++ flat (encRunF 2 (initTrees 2) 0 [18, 18, 3, 18]) :=
  have h := HCIcskphuff_encode_refines 2 (by decide) (initTrees 2) rfl
    (initTrees_WF _) 0 (by decide) [18, 18, 3, 18] (by decide) [] 0 515 (by decide)
  ⟨h.1, h.2.1, h.2.2.1, h.2.2.2.1⟩

/-- codes of more than 32 and more than 64 bits (2 and 3 words of the bit stack) through the TRANSLATED encoder: `deepTree`
    (`H4.Props.C05`, well-formed, depth 256); symbol 70 has a 72-bit code (`Hbitwrite(8, word 2); Hbitwrite(32, word 1);
    Hbitwrite(32, word 0)`: the partly filled TOP word first, then the full words in descending stack order), symbol 40 a 42-bit code -/
example :
    let s := HCIcskphuff_encode 513 0 (rowsU [H4.Props.C05.deepTree]) (rowsR [H4.Props.C05.deepTree]) (rowsL [H4.Props.C05.deepTree]) 1 0 1
      (bytes [70]) []
    s.ub = false ∧ s.oof = false ∧ s.io_out = [8, 0xED, 32, 0xB6DB6DB6, 32, 0xDB6DB6DA] ∧
      s.io_out = flat (encRunF 1 [H4.Props.C05.deepTree] 0 [70]) := by
  have h := HCIcskphuff_encode_refines 1 (by decide) [H4.Props.C05.deepTree] rfl (by simp [H4.Props.C05.deepTree_WF]) 0 (by decide)
    [70] (by decide) [] 0 513 (by decide)
  have e : flat (encRunF 1 [H4.Props.C05.deepTree] 0 [70]) = [8, 0xED, 32, 0xB6DB6DB6, 32, 0xDB6DB6DA] := by
    rw [runFM_eq _ _ _ _ (by simp [H4.Props.C05.deepTree_WF]), List.map, H4.Props.C05.deepTree_maps]
    decide +kernel
  obtain ⟨h1, h2, -, h4, -⟩ := h
  rw [List.nil_append] at h4
  exact ⟨h1, h2, h4.trans e, h4⟩

example :
    let s := HCIcskphuff_encode 513 0 (rowsU [H4.Props.C05.deepTree]) (rowsR [H4.Props.C05.deepTree]) (rowsL [H4.Props.C05.deepTree]) 1 0 1
      (bytes [40]) []
    s.ub = false ∧ s.oof = false ∧ s.io_out = [10, 0x3B6, 32, 0xDB6DB6DA] ∧ s.io_out = flat (encRunF 1 [H4.Props.C05.deepTree] 0 [40]) := by
  have h := HCIcskphuff_encode_refines 1 (by decide) [H4.Props.C05.deepTree] rfl (by simp [H4.Props.C05.deepTree_WF]) 0 (by decide)
    [40] (by decide) [] 0 513 (by decide)
  have e : flat (encRunF 1 [H4.Props.C05.deepTree] 0 [40]) = [10, 0x3B6, 32, 0xDB6DB6DA] := by
    rw [runFM_eq _ _ _ _ (by simp [H4.Props.C05.deepTree_WF]), List.map, H4.Props.C05.deepTree_maps]
    decide +kernel
  obtain ⟨h1, h2, -, h4, -⟩ := h
  rw [List.nil_append] at h4
  exact ⟨h1, h2, h4.trans e, h4⟩

set_option linter.unusedVariables false in
/-- `HCIcskphuff_decode` as translated from cskphuff.c computes the model's `decRun` on every bit stream the model accepts.

    `bits` = the whole input (region `io_in = bitsI bits`), `p ≤ |bits|` the position of the bit-id (`io_pos`), `n` the number of bytes
    wanted (`int32`), `B` the caller's buffer (`n ≤ |B|`, any content).  If `decRun skip ts pos (bits.drop p) n = some out`: no undefined
    behaviour, the loops terminate, `ret = SUCCEED`, `buf` = `out` followed by the untouched rest of `B`, the rows are the model's trees
    after `out`, `skip_pos`/`offset` advanced, and `io_pos` has advanced by exactly the bits the model consumed (`decRunR` = `decRun`
    returning also the unread bits, `decRunR_fst`).
    Fuel: `n + (|bits| - p) + 254`: one unit per byte, and for the inner `do … while (a <= SKPHUFF_MAX_CHAR)` one per bit read
    (NOT ≤ 512 per byte: node 0 is its own left child in the trees of `HCIcskphuff_init`, so a run of 0 bits at ROOT is consumed without
    progress - by the model as by the C code), 255 for the splay call. -/
theorem HCIcskphuff_decode_refines (skip : Nat) (hs : 1 ≤ skip) (ts : List Tree) (hts : ts.length = skip) (hw : ∀ t ∈ ts, WF t)
    (pos : Nat) (hpos : pos < skip) (bits : List Bool) (p : Nat) (hp : p ≤ bits.length) (n : Nat) (hn : n < 2 ^ 31)
    (B : List Int) (hB : n ≤ B.length) (off : Int) (fuel : Nat) (hf : n + (bits.length - p) + 254 ≤ fuel)
    (out : List UInt8) (hm : decRun skip ts pos (bits.drop p) n = some out) :
    let s := HCIcskphuff_decode fuel pos (rowsL ts) (rowsR ts) (rowsU ts) skip off n B (bitsI bits) p
    s.ub = false ∧ s.oof = false ∧ s.ret = 0 ∧
      s.buf = bytes out ++ B.drop n ∧
      s.skphuff_info_left = rowsL (runTrees skip ts pos out) ∧
      s.skphuff_info_right = rowsR (runTrees skip ts pos out) ∧
      s.skphuff_info_up = rowsU (runTrees skip ts pos out) ∧
      s.skphuff_info_skip_pos = ((pos + n) % skip : Nat) ∧
      s.skphuff_info_offset = off + n ∧
      ∃ rest, decRunR skip ts pos (bits.drop p) n = some (out, rest) ∧ s.io_pos = ((bits.length - rest.length : Nat) : Int) := by
  have h := decode_rel skip ts pos ⟨hw, hts, hpos⟩ bits p hp n B hB off fuel hf
  have hr := decRunR_fst skip n ts pos (bits.drop p)
  rw [hm] at hr
  obtain ⟨⟨out', rest⟩, hd, rfl⟩ := Option.map_eq_some_iff.mp hr
  simp only [hd] at h
  obtain ⟨h1, h2, h3, h4, h5, h6, h7, h8, h9, h10⟩ := h
  exact ⟨h1, h2, h3, h4, h5, h6, h7, h8, h9, rest, hd, h10⟩

set_option linter.unusedVariables false in
/-- at the end of the input: when the model runs out of bits (`decRun … = none`: the only way it fails), so does the translated function -
    its `Hbitread` returns FAIL (hbitio.c's returns a short count at the end of the data), `HRETURN_ERROR(DFE_CDECODE, FAIL)`: `ret = FAIL`, still without undefined behaviour and within the fuel -/
theorem HCIcskphuff_decode_fails (skip : Nat) (hs : 1 ≤ skip) (ts : List Tree) (hts : ts.length = skip) (hw : ∀ t ∈ ts, WF t)
    (pos : Nat) (hpos : pos < skip) (bits : List Bool) (p : Nat) (hp : p ≤ bits.length) (n : Nat) (hn : n < 2 ^ 31)
    (B : List Int) (hB : n ≤ B.length) (off : Int) (fuel : Nat) (hf : n + (bits.length - p) + 254 ≤ fuel)
    (hm : decRun skip ts pos (bits.drop p) n = none) :
    let s := HCIcskphuff_decode fuel pos (rowsL ts) (rowsR ts) (rowsU ts) skip off n B (bitsI bits) p
    s.ub = false ∧ s.oof = false ∧ s.ret = -1 := by
  have h := decode_rel skip ts pos ⟨hw, hts, hpos⟩ bits p hp n B hB off fuel hf
  have hr := decRunR_fst skip n ts pos (bits.drop p)
  rw [hm, Option.map_eq_none_iff] at hr
  simpa only [hr] using h

/-- the translated decoder runs: the bit stream of the encoder example above (`[9,274, 9,274, 8,195, 5,30]` expanded MSB first) plus
    three padding bits gives the four bytes back and stops after 31 bits -/
example :
    let s := HCIcskphuff_decode 300 0 (rowsL (initTrees 2)) (rowsR (initTrees 2)) (rowsU (initTrees 2)) 2 0 4 [7, 7, 7, 7, 7]
      (expandPairs [9, 274, 9, 274, 8, 195, 5, 30] ++ [0, 0, 0]) 0
    s.ub = false ∧ s.oof = false ∧ s.ret = 0 ∧ s.buf = [18, 18, 3, 18, 7] ∧ s.io_pos = 31 := by
  decide +kernel

/-- … and FAIL when a fifth byte is asked for -/
example :
    let s := HCIcskphuff_decode 300 0 (rowsL (initTrees 2)) (rowsR (initTrees 2)) (rowsU (initTrees 2)) 2 0 5 [7, 7, 7, 7, 7]
      (expandPairs [9, 274, 9, 274, 8, 195, 5, 30] ++ [0, 0, 0]) 0
    s.ub = false ∧ s.oof = false ∧ s.ret = -1 := by
  decide +kernel

/-- translated encode, then translated decode on the bit fields it produced, returns the bytes.

    The only hand model left between the two functions is the bit packing of hbitio.c: `expandPairs` turns each `Hbitwrite(count, data)`
    cell pair into `count` bit cells, most significant first - what `Hbitwrite` stores and `Hbitread(aid, 1, ·)` delivers
    (`bitwrite_refines` / `bitread_refines` of `H4.Props.C05Bits`); `pad` = whatever follows in the element (the zero bits of
    `Hendbitaccess`, or anything else).  From ANY well-formed coder state (`ts`, `pos`), for every byte string: both functions run without
    undefined behaviour, return SUCCEED, the decoder's buffer holds `bs`, and both leave the same trees and lane - so reading and
    writing can go on in step. -/
theorem skphuff_roundtrip_fn (skip : Nat) (hs : 1 ≤ skip) (ts : List Tree) (hts : ts.length = skip) (hw : ∀ t ∈ ts, WF t)
    (pos : Nat) (hpos : pos < skip) (bs : List UInt8) (hlen : bs.length < 2 ^ 31) (B : List Int) (hB : bs.length ≤ B.length)
    (pad : List Bool) (off off' : Int) (fe fd : Nat) (hfe : bs.length + 511 ≤ fe)
    (hfd : bs.length + ((encRun skip ts pos bs).length + pad.length) + 254 ≤ fd) :
    let e := HCIcskphuff_encode fe pos (rowsU ts) (rowsR ts) (rowsL ts) skip off bs.length (bytes bs) []
    let d := HCIcskphuff_decode fd pos (rowsL ts) (rowsR ts) (rowsU ts) skip off' bs.length B (expandPairs e.io_out ++ bitsI pad) 0
    e.ub = false ∧ e.oof = false ∧ e.ret = 0 ∧ d.ub = false ∧ d.oof = false ∧ d.ret = 0 ∧
      d.buf = bytes bs ++ B.drop bs.length ∧
      d.skphuff_info_left = e.skphuff_info_left ∧ d.skphuff_info_right = e.skphuff_info_right ∧
      d.skphuff_info_up = e.skphuff_info_up ∧ d.skphuff_info_skip_pos = e.skphuff_info_skip_pos := by
  obtain ⟨e1, e2, e3, e4, e5, e6, e7, e8, -⟩ := HCIcskphuff_encode_refines skip hs ts hts hw pos hpos bs hlen [] off fe hfe
  have hio : expandPairs (HCIcskphuff_encode fe pos (rowsU ts) (rowsR ts) (rowsL ts) skip off bs.length (bytes bs) []).io_out ++ bitsI pad
      = bitsI (encRun skip ts pos bs ++ pad) := by
    rw [e4, List.nil_append, expandPairs_flat, fieldsBits_encRunF, bitsI_append]
  have hm := decRun_encRun skip bs ts pos pad hw
  obtain ⟨d1, d2, d3, d4, d5, d6, d7, d8, -, -⟩ := HCIcskphuff_decode_refines skip hs ts hts hw pos hpos (encRun skip ts pos bs ++ pad) 0
    (by omega) bs.length hlen B hB off' fd (by simpa using hfd) bs (by simpa using hm)
  simp only [hio]
  exact ⟨e1, e2, e3, d1, d2, d3, d4, d5.trans e5.symm, d6.trans e6.symm, d7.trans e7.symm, d8.trans e8.symm⟩

/-- the instance the library produces: a fresh element (`HCIcskphuff_init`: `initTrees skip`, lane 0) -/
theorem skphuff_roundtrip_fn_init (skip : Nat) (hs : 1 ≤ skip) (bs : List UInt8) (hlen : bs.length < 2 ^ 31) (B : List Int)
    (hB : bs.length ≤ B.length) (pad : List Bool) (fe fd : Nat) (hfe : bs.length + 511 ≤ fe)
    (hfd : bs.length + ((encodeBits skip bs).length + pad.length) + 254 ≤ fd) :
    let T := initTrees skip
    let e := HCIcskphuff_encode fe 0 (rowsU T) (rowsR T) (rowsL T) skip 0 bs.length (bytes bs) []
    let d := HCIcskphuff_decode fd 0 (rowsL T) (rowsR T) (rowsU T) skip 0 bs.length B (expandPairs e.io_out ++ bitsI pad) 0
    e.ub = false ∧ e.oof = false ∧ e.ret = 0 ∧ d.ub = false ∧ d.oof = false ∧ d.ret = 0 ∧ d.buf = bytes bs ++ B.drop bs.length := by
  have h := skphuff_roundtrip_fn skip hs (initTrees skip) (by simp [initTrees])
    (initTrees_WF _) 0 (by omega) bs hlen B hB pad 0 0 fe fd hfe hfd
  exact ⟨h.1, h.2.1, h.2.2.1, h.2.2.2.1, h.2.2.2.2.1, h.2.2.2.2.2.1, h.2.2.2.2.2.2.1⟩

/-- instantiated (hypotheses satisfiable): 12 bytes, skip 3, three padding bits -/
example :
    let T := initTrees 3
    let e := HCIcskphuff_encode 1000 0 (rowsU T) (rowsR T) (rowsL T) (3 : Nat) 0 (([1, 2, 3, 1, 2, 3, 200, 255, 0, 1, 2, 3] : List UInt8).length)
      (bytes [1, 2, 3, 1, 2, 3, 200, 255, 0, 1, 2, 3]) []
    let d := HCIcskphuff_decode 7000 0 (rowsL T) (rowsR T) (rowsU T) (3 : Nat) 0 (([1, 2, 3, 1, 2, 3, 200, 255, 0, 1, 2, 3] : List UInt8).length)
      (List.replicate 12 0) (expandPairs e.io_out ++ bitsI [false, false, false]) 0
    e.ub = false ∧ e.oof = false ∧ e.ret = 0 ∧ d.ub = false ∧ d.oof = false ∧ d.ret = 0 ∧
      d.buf = bytes [1, 2, 3, 1, 2, 3, 200, 255, 0, 1, 2, 3] ++ (List.replicate 12 0).drop 12 :=
  skphuff_roundtrip_fn_init 3 (by decide) [1, 2, 3, 1, 2, 3, 200, 255, 0, 1, 2, 3] (by decide) (List.replicate 12 0) (by decide)
    [false, false, false] 1000 7000 (by decide) (encodeBits_fuel 3 _ _ 7000 (by decide))

end H4.Props.C05SkpFn
