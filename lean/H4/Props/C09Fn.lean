import H4.Lemmas.C09FnTop
import H4.Props.C09
/-! C09, function-level Tie A for `GRIil_convert` of `hdf/src/mfgr.c`, as translated statement by statement from the CURRENT C text
    (`H4.Gen.Fn.Mfgr`, written by gen/c2lean.py on every run): `inbuf` / `outbuf` are ADDRESSES into one flat byte memory `mem`, the six
    `malloc`ed arrays are blocks (poison-filled until the C stores into them; the two pointer arrays hold flat addresses; `HDmalloc` never
    returns NULL: the six `if (p == NULL) HGOTO_ERROR(DFE_NOSPACE, FAIL)` are translated as never taken), the two
    `switch` statements are if-chains, `HGOTO_ERROR` is `ret_value = FAIL; goto done`, `DFKNTsize(…)` is the parameter `comp_size_nt`,
    every `memcpy` records an out-of-bounds or overlapping copy as undefined behaviour, `size_t` / `unsigned` arithmetic is reduced
    modulo 2^64 / 2^32.

    The theorems say that this text computes exactly the hand-written loop model `H4.Interlace.convert` that the C09 theorems
    (`il_addr_bij`, `il_convert_closed`, `il_convert_roundtrip`, `il_convert_compose`, …) are about: for every image geometry, every
    memory and every two disjoint placements of the image in it.  `bytes` converts bytes (`List UInt8`) to the `uint8` memory the translated
    code sees (`List Int`); `splice m off n o` is `m` with the `n` bytes at `off` replaced by `o`; `slice m off n` are the `n` bytes at `off`.

    Fuel: every loop of the translation draws on one budget that its enclosing loops have already used (line `i`, pixel `j` leave
    `fuel - i - j` to the component loop), so `H + W + ncomp` is what is asked. -/
namespace H4.Props.C09Fn
open H4 H4.Interlace H4.Gen.Fn.Mfgr H4.C2L H4.Lemmas.C09Fn

/-- **`GRIil_convert` as translated from mfgr.c computes the model `convert`** — for all 9 interlace pairs `(a, b)`, all dimensions
    `W, H ≥ 0` (`int32`), `ncomp ≥ 1` components of `csz ≥ 1` bytes (`Fits`: the image has fewer than 2^31 bytes and the two `(int32)` casts
    of the pixel and line increments are value preserving), every memory `m` and every two DISJOINT placements of the image inside it
    (`Placed`): no undefined behaviour (every `memcpy` inside the two placements, source and destination apart, every block index in
    range), termination, `SUCCEED`, and the memory afterwards is `m` with the output placement replaced by the model's conversion of the
    input placement's bytes (the prior content of the output placement being the model's `outb`). The `inil == outil` pairs take the
    single-`memcpy` path. -/
theorem GRIil_convert_refines (a b : Il) (W H ncomp csz : Nat) (nt : Int) (m : List Byte) (inOff outOff fuel : Nat)
    (hf : Fits W H ncomp csz) (hp : Placed m inOff outOff (W * H * ncomp * csz)) (hfuel : H + W + ncomp ≤ fuel) :
    let N := W * H * ncomp * csz
    let s := GRIil_convert fuel inOff (bytes m) (a.code : Nat) outOff (b.code : Nat) (ints [W, H]) ncomp nt csz
    s.ub = false ∧ s.oof = false ∧ s.ret = 0 ∧
      s.mem = bytes (splice m outOff N (convert a b W H ncomp csz (slice m inOff N) (slice m outOff N))) := by
  intro N s
  by_cases hab : a = b
  · subst hab
    obtain ⟨h1, h2, h3, h4⟩ := run_same hf ((a.code : Nat) : Int) nt m inOff outOff fuel hp.hin hp.hout
    have hN : csz * (W * H * ncomp) = N := by show _ = W * H * ncomp * csz; rw [Nat.mul_comm]
    refine ⟨?_, h2, h3, ?_⟩
    · rw [h1]
      have := hp.hdisj
      simp only [Bool.not_eq_false', decide_eq_true_eq]
      show outOff + N ≤ inOff ∨ inOff + N ≤ outOff ∨ N = 0
      omega
    · rw [h4, H4.Props.C09.il_convert_same a W H ncomp csz _ _ (by rw [hN]; exact length_slice hp.hin) (by rw [hN]; exact length_slice hp.hout)]
  · exact run_ne hf hab nt m inOff outOff fuel hp hfuel

/-- a 2×2 image of 2 one-byte components at address 0, PIXEL → COMPONENT into the placement at address 8 of a 17-byte memory -/
example :
    let m : List Byte := [0, 1, 10, 11, 20, 21, 30, 31] ++ List.replicate 8 7 ++ [9]
    Fits 2 2 2 1 ∧ Placed m 0 8 8 ∧
    (let s := GRIil_convert 6 0 (bytes m) 0 8 2 (ints [2, 2]) 2 3 1
     s.ub = false ∧ s.oof = false ∧ s.ret = 0 ∧ s.mem = [0, 1, 10, 11, 20, 21, 30, 31, 0, 10, 20, 30, 1, 11, 21, 31, 9]) := by
  refine ⟨by decide, ⟨by decide, by decide, by decide⟩, by decide +kernel⟩

/-- **Frame and content**: nothing outside the output placement changes — in particular the input placement is intact — the memory keeps
    its length, and the output placement holds exactly the model's conversion. -/
theorem GRIil_convert_frame (a b : Il) (W H ncomp csz : Nat) (nt : Int) (m : List Byte) (inOff outOff fuel : Nat)
    (hf : Fits W H ncomp csz) (hp : Placed m inOff outOff (W * H * ncomp * csz)) (hfuel : H + W + ncomp ≤ fuel) :
    let N := W * H * ncomp * csz
    let s := GRIil_convert fuel inOff (bytes m) (a.code : Nat) outOff (b.code : Nat) (ints [W, H]) ncomp nt csz
    s.mem.length = m.length ∧
    (∀ q, q < outOff ∨ outOff + N ≤ q → s.mem[q]? = (bytes m)[q]?) ∧
    (s.mem.drop outOff).take N = bytes (convert a b W H ncomp csz (slice m inOff N) (slice m outOff N)) ∧
    (s.mem.drop inOff).take N = bytes (slice m inOff N) := by
  intro N s
  obtain ⟨_, _, _, h4⟩ := GRIil_convert_refines a b W H ncomp csz nt m inOff outOff fuel hf hp hfuel
  have hl : (convert a b W H ncomp csz (slice m inOff N) (slice m outOff N)).length = N := by
    rw [length_convert]; exact length_slice hp.hout
  have hm : s.mem = bytes (splice m outOff N (convert a b W H ncomp csz (slice m inOff N) (slice m outOff N))) := h4
  refine ⟨?_, ?_, ?_, ?_⟩
  · rw [hm, bytes_length, length_splice hl hp.hout]
  · intro q hq
    rw [hm]
    simp only [bytes, List.getElem?_map]
    rw [getElem?_splice hl hp.hout, if_neg (by omega)]
  · rw [hm, ← bytes_drop, ← bytes_take]
    congr 1
    have := slice_splice_same (m := m) (off := outOff) hl hp.hout
    exact this
  · rw [hm, ← bytes_drop, ← bytes_take]
    congr 1
    have hd := hp.hdisj
    exact slice_splice_disj hl hp.hout (by omega)

/-- **The `inil == outil` path needs non-overlap**: for one interlace code on both sides (valid or not — the C does not look) and two
    in-bounds placements, the translated function reports undefined behaviour EXACTLY when the two placements of a non-empty image
    overlap (`memcpy` on overlapping objects); it still returns `SUCCEED`. -/
theorem GRIil_convert_same_ub (il nt : Int) (W H ncomp csz : Nat) (m : List Byte) (inOff outOff fuel : Nat) (hf : Fits W H ncomp csz)
    (hin : inOff + W * H * ncomp * csz ≤ m.length) (hout : outOff + W * H * ncomp * csz ≤ m.length) :
    let N := W * H * ncomp * csz
    let s := GRIil_convert fuel inOff (bytes m) il outOff il (ints [W, H]) ncomp nt csz
    (s.ub = true ↔ (N ≠ 0 ∧ inOff < outOff + N ∧ outOff < inOff + N)) ∧ s.oof = false ∧ s.ret = 0 := by
  intro N s
  obtain ⟨h1, h2, h3, _⟩ := run_same hf il nt m inOff outOff fuel hin hout
  refine ⟨?_, h2, h3⟩
  rw [h1]
  simp only [Bool.not_eq_true', decide_eq_false_iff_not]
  show ¬ (outOff + N ≤ inOff ∨ inOff + N ≤ outOff ∨ N = 0) ↔ _
  omega

/-- an image copied onto itself shifted by one byte: the translated code flags the overlapping `memcpy` -/
example : (GRIil_convert 0 0 (bytes [1, 2, 3, 4, 5]) 1 1 1 (ints [2, 2]) 1 3 1).ub = true ∧
    (GRIil_convert 0 0 (bytes [1, 2, 3, 4, 5, 6, 7, 8]) 1 4 1 (ints [2, 2]) 1 3 1).ub = false := by decide +kernel

/-- **An invalid interlace code** (`default:` of either `switch`; two different codes of which at least one is not 0, 1, 2): `FAIL`,
    the memory is untouched, no undefined behaviour (the blocks are allocated and, for a valid `inil`, the input arrays filled). -/
theorem GRIil_convert_invalid (inbuf outbuf inil outil nt : Int) (mem : List Int) (W H ncomp csz fuel : Nat) (hne : inil ≠ outil)
    (hbad : ¬ (inil = 0 ∨ inil = 1 ∨ inil = 2) ∨ ¬ (outil = 0 ∨ outil = 1 ∨ outil = 2))
    (hn : 1 ≤ ncomp) (hc : 1 ≤ csz) (hpix : csz * ncomp < 2147483648) (hfuel : ncomp ≤ fuel) :
    let s := GRIil_convert fuel inbuf mem inil outbuf outil (ints [W, H]) ncomp nt csz
    s.ub = false ∧ s.oof = false ∧ s.ret = -1 ∧ s.mem = mem := by
  exact run_bad inbuf outbuf inil outil nt mem (ints [W, H]) ncomp csz fuel hne hbad (pix_bounds hn hc hpix).1 (pix_bounds hn hc hpix).2 hpix
    (by simp) hfuel

example : let s := GRIil_convert 2 0 (bytes [1, 2, 3, 4, 0, 0, 0, 0]) 1 4 3 (ints [2, 1]) 2 3 1
    s.ub = false ∧ s.oof = false ∧ s.ret = -1 ∧ s.mem = bytes [1, 2, 3, 4, 0, 0, 0, 0] := by decide +kernel

/-- **The C09 theorems transfer to the C text** (here `il_convert_roundtrip`): converting `a → b` from placement `p0` into `p1` and then
    `b → a` from `p1` into a third placement `p2` (which may be `p0` again) by two runs of the translated `GRIil_convert` leaves the
    original image bytes at `p2`, whatever the three placements held before — without undefined behaviour. -/
theorem GRIil_convert_roundtrip (a b : Il) (W H ncomp csz : Nat) (nt : Int) (m : List Byte) (p0 p1 p2 fuel : Nat)
    (hf : Fits W H ncomp csz) (h01 : Placed m p0 p1 (W * H * ncomp * csz)) (h12 : Placed m p1 p2 (W * H * ncomp * csz))
    (hfuel : H + W + ncomp ≤ fuel) :
    let N := W * H * ncomp * csz
    let s1 := GRIil_convert fuel p0 (bytes m) (a.code : Nat) p1 (b.code : Nat) (ints [W, H]) ncomp nt csz
    let s2 := GRIil_convert fuel p1 s1.mem (b.code : Nat) p2 (a.code : Nat) (ints [W, H]) ncomp nt csz
    s1.ub = false ∧ s2.ub = false ∧ s1.oof = false ∧ s2.oof = false ∧ s1.ret = 0 ∧ s2.ret = 0 ∧
      (s2.mem.drop p2).take N = bytes (slice m p0 N) := by
  intro N s1 s2
  obtain ⟨a1, a2, a3, a4⟩ := GRIil_convert_refines a b W H ncomp csz nt m p0 p1 fuel hf h01 hfuel
  have hl1 : (convert a b W H ncomp csz (slice m p0 N) (slice m p1 N)).length = N := by
    rw [length_convert]; exact length_slice h01.hout
  have hm1 : s1.mem = bytes (splice m p1 N (convert a b W H ncomp csz (slice m p0 N) (slice m p1 N))) := a4
  have hlen : (splice m p1 N (convert a b W H ncomp csz (slice m p0 N) (slice m p1 N))).length = m.length := length_splice hl1 h01.hout
  have h12' : Placed (splice m p1 N (convert a b W H ncomp csz (slice m p0 N) (slice m p1 N))) p1 p2 N :=
    ⟨by rw [hlen]; exact h12.hin, by rw [hlen]; exact h12.hout, h12.hdisj⟩
  have hs2 : s2 = GRIil_convert fuel p1 (bytes (splice m p1 N (convert a b W H ncomp csz (slice m p0 N) (slice m p1 N)))) (b.code : Nat) p2 (a.code : Nat)
      (ints [W, H]) ncomp nt csz := by show GRIil_convert fuel p1 s1.mem _ _ _ _ _ _ _ = _; rw [hm1]
  obtain ⟨b1, b2, b3, b4⟩ := GRIil_convert_frame b a W H ncomp csz nt _ p1 p2 fuel hf h12' hfuel
  obtain ⟨c1, c2, c3, _⟩ := GRIil_convert_refines b a W H ncomp csz nt _ p1 p2 fuel hf h12' hfuel
  rw [← hs2] at b3 c1 c2 c3
  refine ⟨a1, c1, a2, c2, a3, c3, ?_⟩
  have hN : csz * (W * H * ncomp) = N := by show _ = W * H * ncomp * csz; rw [Nat.mul_comm]
  rw [b3, slice_splice_same hl1 h01.hout]
  congr 1
  exact H4.Props.C09.il_convert_roundtrip a b W H ncomp csz _ _ _ (by rw [hN]; exact length_slice h01.hin)
    (by rw [hN]; exact length_slice h01.hout) (by rw [hN]; exact length_slice h12'.hout)

end H4.Props.C09Fn
