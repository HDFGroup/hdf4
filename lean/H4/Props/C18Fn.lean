import H4.Lemmas.C18FnChunk
import H4.Lemmas.C18FnComp
import H4.Gen.Src
/-! # C18 — function-level Tie A for hrepack's option code (`mfhdf/hrepack/hrepack_parse.c`, `hrepack_utils.c`)

The functions as TRANSLATED from the C text of /repo (`gen/c2lean.py`: `H4.Gen.Fn.Repack.parse_comp`, `parse_chunk`,
`H4.Gen.Fn.Repack2.is_reserved`) compute the hand-written model of `H4.Tools` (`parseComp`, `parseChunk`, `isReserved`) the
theorems of `H4.Props.C18` are about - for EVERY NUL-terminated argument string: any length below 2^31, any bytes.

* a string is the region `bs ++ 0 :: rest` (`bs` = the `char` cells before the NUL, `CStr bs`: values -128..127, none 0; `rest` = whatever
  follows in the caller's buffer); the model sees `toStr bs` (cell -> the character with that `unsigned char` code);
* the functions never leave their regions: `ub = false` covers every access to `str`, to the local token buffers `obj[256]`, `scomp[10]`,
  `stype[5]`, `smask[3]`, `sdim[10]` (which start POISONED, so nothing relies on zeroed stack memory), to the malloc'ed object list, to
  `*n_objs`, `*chunk_rank` and the caller's `chunk_lengths[H4_MAX_VAR_DIMS]`; `strcmp` / `atoi` never read past a NUL, `atoi` never
  overflows, `isdigit` never sees a value outside `unsigned char`;
* a rejected string makes the C function `return NULL` (`retnull = true`; the fixed code has no `exit`);
* an accepted string gives the model's object names (row i of the list = the i-th name and its NUL), `*n_objs` = the number of names,
  the coder / parameter resp. `*chunk_rank` and the chunk lengths.  -/
namespace H4.Props.C18Fn
open H4.Tools H4.Gen.Tools H4.C18Fn

open H4.Gen.Fn.Repack2 in
/-- **`is_reserved` refines `isReserved`**: for every class string the translated function returns 1 exactly when the model says
    "reserved", and no `strcmp` / `strncmp` reads past the NUL of the class (the literals end with their own). -/
theorem is_reserved_refines (fuel : Nat) (cls rest : List Int) (hc : CStr cls) :
    let s := is_reserved fuel false (cls ++ 0 :: rest)
    s.ub = false ∧ s.oof = false ∧ s.ret = (if isReserved (toStr cls) then 1 else 0) := by
  obtain ⟨r0, h0, e0⟩ := strcmp_lit cls rest hc IS_RESERVED_CLASS_0 (by decide)
  obtain ⟨r1, h1, e1⟩ := strcmp_lit cls rest hc IS_RESERVED_CLASS_1 (by decide)
  obtain ⟨r2, h2, e2⟩ := strcmp_lit cls rest hc IS_RESERVED_CLASS_2 (by decide)
  obtain ⟨r3, h3, e3⟩ := strcmp_lit cls rest hc IS_RESERVED_CLASS_3 (by decide)
  obtain ⟨r4, h4, e4⟩ := strcmp_lit cls rest hc IS_RESERVED_CLASS_4 (by decide)
  obtain ⟨r5, h5, e5⟩ := strcmp_lit cls rest hc IS_RESERVED_CLASS_5 (by decide)
  obtain ⟨r6, h6, e6⟩ := strcmp_lit cls rest hc IS_RESERVED_CLASS_6 (by decide)
  obtain ⟨r7, h7, e7⟩ := strcmp_lit cls rest hc IS_RESERVED_CLASS_7 (by decide)
  obtain ⟨r8, h8, e8⟩ := strcmp_lit cls rest hc IS_RESERVED_CLASS_8 (by decide)
  obtain ⟨r9, h9, e9⟩ := strcmp_lit cls rest hc IS_RESERVED_CLASS_9 (by decide)
  obtain ⟨r10, h10, e10⟩ := strcmp_lit cls rest hc IS_RESERVED_CLASS_10 (by decide)
  obtain ⟨rp, hp, ep⟩ := strncmp_lit IS_RESERVED_PREFIX_LEN cls rest hc IS_RESERVED_PREFIX (by decide)
  simp only [lit, IS_RESERVED_CLASS_0, IS_RESERVED_CLASS_1, IS_RESERVED_CLASS_2, IS_RESERVED_CLASS_3, IS_RESERVED_CLASS_4, IS_RESERVED_CLASS_5,
    IS_RESERVED_CLASS_6, IS_RESERVED_CLASS_7, IS_RESERVED_CLASS_8, IS_RESERVED_CLASS_9, IS_RESERVED_CLASS_10, IS_RESERVED_PREFIX,
    IS_RESERVED_PREFIX_LEN, List.map_cons, List.map_nil, List.cons_append, List.nil_append, Int.ofNat_eq_natCast, Int.cast_ofNat_Int]
    at h0 h1 h2 h3 h4 h5 h6 h7 h8 h9 h10 hp
  have hlen : Int.toNat (13 % 18446744073709551616) = 13 := by decide
  simp only [is_reserved, is_reserved.chk, h0, h1, h2, h3, h4, h5, h6, h7, h8, h9, h10, hp, hlen, Option.isSome_some, Option.getD_some,
    or_true, decide_true, Bool.not_true, Bool.or_false, true_and, if_true,
    apply_ite is_reserved.St.vgroup_class, apply_ite is_reserved.St.ub, apply_ite is_reserved.St.oof, apply_ite is_reserved.St.ret,
    apply_ite is_reserved.St.ret_, apply_ite is_reserved.St.vgroup_class_null, ite_self]
  refine ⟨by decide, ?_⟩
  have hres : isReserved (toStr cls) = true ↔
      (rp = 0 ∨ (((((((((r0 = 0 ∨ r1 = 0) ∨ r2 = 0) ∨ r3 = 0) ∨ r4 = 0) ∨ r5 = 0) ∨ r6 = 0) ∨ r7 = 0) ∨ r8 = 0) ∨ r9 = 0) ∨ r10 = 0) := by
    rw [e0, e1, e2, e3, e4, e5, e6, e7, e8, e9, e10, ep]
    simp only [isReserved, reservedClasses, reservedPrefix, List.contains_cons, List.contains_nil, Bool.or_eq_true, beq_iff_eq, Bool.or_false]
    constructor
    · rintro (h | h)
      · right; rcases h with h | h | h | h | h | h | h | h | h | h | h <;> simp [h]
      · left; exact h
    · rintro (h | h)
      · right; exact h
      · left; rcases h with ((((((((((h | h) | h) | h) | h) | h) | h) | h) | h) | h) | h) <;> simp [h]
  by_cases hr : isReserved (toStr cls) = true
  · rw [if_pos hr]
    rcases hres.mp hr with h | h
    · rw [if_pos h]
    · by_cases hp0 : rp = 0
      · rw [if_pos hp0]
      · rw [if_neg hp0, if_pos h]
  · rw [if_neg hr]
    have := fun h => hr (hres.mpr h)
    rw [if_neg (fun h => this (Or.inl h)), if_neg (fun h => this (Or.inr h))]

/-- the same for the NULL class pointer: not reserved, nothing is read -/
theorem is_reserved_null (fuel : Nat) (mem : List Int) :
    let s := H4.Gen.Fn.Repack2.is_reserved fuel true mem
    s.ub = false ∧ s.ret = 0 := by
  simp [H4.Gen.Fn.Repack2.is_reserved]

example : CStr [82, 73, 71, 48, 46, 48] ∧ (H4.Gen.Fn.Repack2.is_reserved 0 false ([82, 73, 71, 48, 46, 48] ++ 0 :: [7, 7])).ret = 1 := by decide +kernel
example : (H4.Gen.Fn.Repack2.is_reserved 0 false ([95, 72, 68, 70, 95, 67, 72, 75, 95, 84, 66, 76, 95, 55, 0])).ret = 1 := by decide +kernel
example : (H4.Gen.Fn.Repack2.is_reserved 0 false ([82, 73, 71, 48, 46, 0])).ret = 0 := by decide +kernel

open H4.Gen.Fn.Repack in
/-- **`parse_chunk` refines `parseChunk`.**  Preconditions = what the C function needs from its caller: a NUL-terminated string shorter
    than 2^31 (`end_obj`, `len` are `int`s), one cell behind `n_objs` and `chunk_rank`, `H4_MAX_VAR_DIMS` (32) cells behind
    `chunk_lengths` (`hrepack_addchunk` passes `int32 chunk_lengths[H4_MAX_VAR_DIMS]`), fuel for the longest loop.
    Then for EVERY such string: no undefined behaviour, every loop ends, the function returns, and
    * `parseChunk` rejects  ->  the C function returns NULL;
    * `parseChunk` accepts with `(n, names, ck)`  ->  `ChunkOut`: the list is returned (not NULL), `*n_objs = n = names.length`, the block has
      `n` rows of 256 cells, row `i` holds `names[i]` and its NUL, `*chunk_rank = ck.rank`, and unless `NONE` was given the first `rank`
      cells of `chunk_lengths` are `ck.lens`. -/
theorem parse_chunk_refines (fuel : Nat) (bs rest n_objs cl cr : List Int) (hbs : CStr bs) (hlen : bs.length < 2 ^ 31) (hf : bs.length ≤ fuel)
    (hno : 0 < n_objs.length) (hcl : H4_MAX_VAR_DIMS ≤ cl.length) (hcr : 0 < cr.length) :
    have s := parse_chunk fuel (bs ++ 0 :: rest) n_objs cl cr
    s.ub = false ∧ s.oof = false ∧ s.done = true ∧
    (match parseChunk (toStr bs) with
     | none => s.retnull = true
     | some (n, names, ck) => ChunkOut s n_objs cr n names ck) :=
  parse_chunk_main fuel bs rest n_objs cl cr hbs hlen hf hno hcl hcr _ rfl

-- "a,b:2x3": the hypotheses are satisfiable, the translated code runs and gives the model's answer
example : CStr [97, 44, 98, 58, 50, 120, 51] ∧
    (let s := H4.Gen.Fn.Repack.parse_chunk 7 ([97, 44, 98, 58, 50, 120, 51] ++ 0 :: [9]) [-7] (List.replicate 32 (-5)) [-99]
     s.ub = false ∧ s.retnull = false ∧ s.n_objs = [2] ∧ s.chunk_rank = [2] ∧ s.chunk_lengths.take 2 = [2, 3] ∧
     cstrAt s.obj_list_blk 0 = [97] ∧ cstrAt s.obj_list_blk 256 = [98]) := by decide +kernel
example : parseChunk (toStr [97, 44, 98, 58, 50, 120, 51]) = some (2, [['a'], ['b']], ⟨2, [2, 3]⟩) := by decide +kernel
-- the strings behind the fixed defects are refused inside the buffers: 33 lengths (5787e18), ":2" and "a,:2" (b6f2d28), a byte >= 0x80 (1ed2b56)
example : (let s := H4.Gen.Fn.Repack.parse_chunk 70 ([97, 58] ++ (List.replicate 32 [49, 120]).flatten ++ [49] ++ 0 :: []) [-7] (List.replicate 32 (-5)) [-99]
     s.ub = false ∧ s.retnull = true) := by decide +kernel
example : (H4.Gen.Fn.Repack.parse_chunk 5 ([58, 50] ++ 0 :: []) [-7] (List.replicate 32 (-5)) [-99]).ub = false ∧
    (H4.Gen.Fn.Repack.parse_chunk 5 ([58, 50] ++ 0 :: []) [-7] (List.replicate 32 (-5)) [-99]).retnull = true ∧
    (H4.Gen.Fn.Repack.parse_chunk 5 ([97, 44, 58, 50] ++ 0 :: []) [-7] (List.replicate 32 (-5)) [-99]).retnull = true ∧
    (H4.Gen.Fn.Repack.parse_chunk 5 ([97, 58, -23] ++ 0 :: []) [-7] (List.replicate 32 (-5)) [-99]).ub = false := by decide +kernel

open H4.Gen.Fn.Repack in
/-- **`parse_comp` refines `parseComp`.**  Preconditions = what the C function needs from its caller: a NUL-terminated string shorter
    than 2^31, one cell behind `n_objs`, `comp->info` = -1 on entry (`hrepack_addcomp`: `memset(&comp, FAIL, sizeof(comp_info_t))`; the
    function leaves it alone when the coder takes no parameter, and the model says -1 then), fuel for the longest loop; `comp->type` and
    `comp->szip_mode` may hold anything.  Then for EVERY such string - SZIP requests included, whose scanner runs inside `stype[5]` /
    `smask[3]` before the request is refused: no undefined behaviour, every loop ends, the function returns, and
    * `parseComp` rejects  ->  the C function returns NULL;
    * `parseComp` accepts with `(n, names, c)`  ->  `CompOut`: the list is returned (not NULL), `*n_objs = n = names.length`, the block has
      `n` rows of 256 cells, row `i` holds `names[i]` and its NUL, `comp->type = c.type`, `comp->info = c.info`. -/
theorem parse_comp_refines (fuel : Nat) (bs rest n_objs : List Int) (szm ty : Int) (hbs : CStr bs) (hlen : bs.length < 2 ^ 31)
    (hf : bs.length ≤ fuel) (hno : 0 < n_objs.length) :
    have s := parse_comp fuel (bs ++ 0 :: rest) n_objs szm (-1) ty
    s.ub = false ∧ s.oof = false ∧ s.done = true ∧
    (match parseComp (toStr bs) with
     | none => s.retnull = true
     | some (n, names, c) => CompOut s n_objs n names c) :=
  parse_comp_main fuel bs rest n_objs szm ty hbs hlen hf hno _ rfl

-- "a:GZIP 6"
example : CStr [97, 58, 71, 90, 73, 80, 32, 54] ∧
    (let s := H4.Gen.Fn.Repack.parse_comp 8 ([97, 58, 71, 90, 73, 80, 32, 54] ++ 0 :: []) [-7] (-1) (-1) 4294967295
     s.ub = false ∧ s.retnull = false ∧ s.n_objs = [1] ∧ s.comp_type = 4 ∧ s.comp_info = 6 ∧ cstrAt s.obj_list_blk 0 = [97]) := by decide +kernel
-- "a:SZIP ,ECAB" (the string that overflowed smask[] before 6a32560): refused, inside the buffers
example : (let s := H4.Gen.Fn.Repack.parse_comp 12 ([97, 58, 83, 90, 73, 80, 32, 44, 69, 67, 65, 66] ++ 0 :: []) [-7] (-1) (-1) 4294967295
     s.ub = false ∧ s.retnull = true) := by decide +kernel

/-- the object-name count of the model (`H4.Tools.addComp` / `addChunk` enter `names.take n` into the option table): for every accepted
    string `n` IS the number of names - the C function never announces an entry it did not write (commit b6f2d28).  A fact about the
    model alone (`H4.Tools.parseComp_count`, every string); the hypotheses on the C side are not used. -/
theorem parse_comp_count (fuel : Nat) (bs rest n_objs : List Int) (szm ty : Int) (hbs : CStr bs) (hlen : bs.length < 2 ^ 31)
    (hf : bs.length ≤ fuel) (hno : 0 < n_objs.length) (n : Nat) (names : List Str) (c : Comp) (h : parseComp (toStr bs) = some (n, names, c)) :
    names.length = n :=
  parseComp_count _ n names c h

/-- `read_info` (the `-f` option file, `hrepack.c`) and its two stack buffers: the widest token `fscanf(fp, "%<w>s", stype)` can store, and
    its NUL, fit in `stype[]`; both copy loops test the index against `sizeof(info)` before they store (Tie A: `READ_INFO_TOKEN_WIDTH`, `READ_INFO_STYPE_SZ` are read from the source text,
    `H4.Gen.Src.READ_INFO_BOUNDS_VALUE` is the presence of the two tests; commit 6ab7877) -/
theorem read_info_buffers : READ_INFO_TOKEN_WIDTH + 1 ≤ READ_INFO_STYPE_SZ ∧ H4.Gen.Src.READ_INFO_BOUNDS_VALUE = true := by decide

example : (readInfo 5 "-t \"a:RLE\" -c \"a:2\"".toList {}).isSome = true := by decide +kernel
example : readInfo 5 "ABCDEFGHIJKLMNOP \"a:RLE\"".toList {} = none := by decide +kernel   -- a token of more than 9 characters
-- a quoted value of READ_INFO_SZ characters is refused before it is looked at (`a:RLE` padded with blanks in front parses otherwise)
example : readInfo 5 ("-t \"".toList ++ List.replicate (READ_INFO_SZ - 5) ' ' ++ "a:RLE\"".toList) {} = none := by decide +kernel

end H4.Props.C18Fn
