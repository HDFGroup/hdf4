import H4.Lemmas.C03Fn2
/-! C03 (and the overflow side of C20), function-level Tie A, second part: the shape and index arithmetic of the SD/netCDF layer.
    `NC_var_shape` of `mfhdf/src/var.c`, `NCcoordck` and `NC_varoffset` of `mfhdf/src/putget.c`, as translated statement by statement from
    the CURRENT C text (`H4.Gen.Fn.Var`, `H4.Gen.Fn.Putget2`, written by gen/c2lean.py on every run), compute the hand-written model
    `H4.VarShape` (row-major strides × element size = `Slab.offset` in bytes, the record-dimension rules), with no undefined behaviour and
    terminating loops.  The C's `unsigned long` arithmetic is the model's modulo 2^64: `stored_exact_iff` says exactly when nothing wraps.
    A change of the C text changes the generated definitions; these theorems are re-checked against them.

    Parameters that stand for what the translator cannot express (listed in the generated doc comments):
    * `NC_var_shape`: `dims_values` = the array of `NC_dim *` (only its length matters), `dims_values_size` = the `size` members of the
      pointed-to dimensions; `shape_blk` / `dsizes_blk` are the blocks the function allocates, `var_shape_seat` / `var_dsizes_seat` say that
      `var->shape` / `var->dsizes` were re-seated to them; `malloc` never fails.
    * `NCcoordck`: the results of `nc_API`, `hdf_get_vp_aid`, `NC_findattr` (NULL or not), `Hseek`, `DFKconvert`, `Hwrite`, `hdf_xdr_setpos`,
      `NCfillrecord`, `xdr_numrecs` are entry parameters (the fill-on-extend I/O is ASSUMED to succeed: `IoOk`).
    * `NC_varoffset`: the `CDF_FILE` groups of its two switches are not translated (reaching them sets `ub`). -/
namespace H4.Props.C03Fn2
open H4.Slab H4.VarShape H4.C2L H4.Gen.Fn.Putget2 H4.Gen.Fn.Var H4.Lemmas.C03Fn2

/-- **`NC_var_shape_refines`.**  For every rank ≤ H4_MAX_VAR_DIMS, every list of dimension ids (any `int` values) and every table of
    dimension sizes (non-negative `int32`), element size `xszof = var->HDFsize` (non-negative `int32`), file kind and type, the translated
    `NC_var_shape` never indexes outside `assoc->values`, `dims->values` or the two blocks it allocates, its loops terminate within `rank`
    passes, and it leaves what the model `varShapeC` says: `-1` and an untouched variable when a dimension id is refused, else the rank,
    `shape[i] = size of dimension ids[i]`, `dsizes[i] = (xszof * shape[i+1] * … * shape[n-1]) mod 2^64` = the model's row-major strides × the
    element size, and `len = (xszof * Π shape) mod 2^64` (record dimension counting as 1), rounded up to a multiple of 4 for BYTE/CHAR/SHORT
    in a non-HDF file (that addition is modulo 2^64 too). -/
theorem NC_var_shape_refines (ids : List Int) (dimsizes : List Nat) (xszof ft ty : Nat) (len0 : Int) (dv : List Int) (sn : Bool) (fuel : Nat)
    (hI : Ids32 ids) (hD : Dims31 dimsizes) (hrank : ids.length ≤ H4.Gen.Ncvar.H4_MAX_VAR_DIMS) (hdl : dimsizes.length < 4294967296)
    (hdv : dv.length = dimsizes.length) (hx : xszof < 2147483648) (hf : ids.length ≤ fuel) :
    let s := NC_var_shape fuel xszof ids.length len0 ids sn ft ty false dimsizes.length dv (ints dimsizes)
    s.ub = false ∧ s.oof = false ∧
    match varShapeC dimsizes ids xszof ft ty with
    | none => s.ret = -1 ∧ s.var_shape_seat = false ∧ s.var_dsizes_seat = false ∧ s.var_len = len0
    | some c => s.ret = ids.length ∧ s.var_shape_seat = !ids.isEmpty ∧ s.var_dsizes_seat = !ids.isEmpty ∧
        s.shape_blk = ints c.shape ∧ s.dsizes_blk = ints c.dsizes ∧ s.var_len = (c.len : Int) := by
  have key := vs_entry ids dimsizes xszof ft ty len0 dv fuel sn hI hD (by simp only [H4.Gen.Ncvar.H4_MAX_VAR_DIMS] at hrank; omega) hdl hdv hx hf
  unfold varShapeC
  cases hsh : shapeOf dimsizes true ids <;> rw [hsh] at key <;> exact key

/-- the hypotheses are satisfiable and the translated code runs: dimensions of sizes 0 (unlimited), 5, 6, 3; an `int16` record variable over
    dimensions (0, 1, 3) in a netCDF file: shape (0,5,3), dsizes (30,6,2), len 30 rounded up to 32; over (1, 0): refused -/
example : Ids32 [0, 1, 3] ∧ Dims31 [0, 5, 6, 3] ∧
    (let s := NC_var_shape 3 2 3 77 [0, 1, 3] true 0 3 false 4 [0, 0, 0, 0] (ints [0, 5, 6, 3])
     s.ub = false ∧ s.oof = false ∧ s.ret = 3 ∧ s.shape_blk = [0, 5, 3] ∧ s.dsizes_blk = [30, 6, 2] ∧ s.var_len = 32 ∧
     varShapeC [0, 5, 6, 3] [0, 1, 3] 2 0 3 = some ⟨[0, 5, 3], [30, 6, 2], 32⟩) ∧
    (let s := NC_var_shape 2 2 2 77 [1, 0] true 0 3 false 4 [0, 0, 0, 0] (ints [0, 5, 6, 3])
     s.ub = false ∧ s.oof = false ∧ s.ret = -1 ∧ s.var_len = 77 ∧ varShapeC [0, 5, 6, 3] [1, 0] 2 0 3 = none) := by decide +kernel

/-- **when the `unsigned long` arithmetic wraps.**  For a shape `NC_var_shape` accepts, the stored `dsizes` and `len` are the unbounded
    model's (`varShape`: strides × element size, product of the extents, rounded) exactly when the rounded length fits: `roundLen (xszof * Π shape) < 2^64`. -/
theorem stored_exact_iff (dimsizes : List Nat) (ids : List Int) (xszof ft ty : Nat) (S : List Nat) (hsh : shapeOf dimsizes true ids = some S) :
    varShapeC dimsizes ids xszof ft ty = varShape dimsizes ids xszof ft ty ↔ roundLen ft ty (varLen xszof S) < W := by
  have hp : ∀ k, 1 ≤ k → k < S.length → S.getD k 0 ≠ 0 := fun k h1 h2 => shapeOf_pos dimsizes ids true S hsh k h2 (Or.inr h1)
  have key := stored_eq_iff xszof ft ty S hp
  simp only [varShapeC, varShape, hsh, Option.map_some, Option.some.injEq, Compiled.mk.injEq, true_and]
  exact key

/-- **the C accepts shapes whose byte count wraps** (relevant to C20): four dimensions of 65536 elements of 4 bytes are 2^66 bytes;
    `NC_var_shape` returns the rank (success) with `len = 0` and `dsizes = (2^50, 2^34, 2^18, 4)`: nothing in it (nor in `ncvardef`) tests the
    products.  The model says so (`varShapeC ≠ varShape`), the translated C text does it. -/
example :
    (let s := NC_var_shape 4 4 4 0 [0, 1, 2, 3] true 1 4 false 4 [0, 0, 0, 0] (ints [65536, 65536, 65536, 65536])
     s.ub = false ∧ s.oof = false ∧ s.ret = 4 ∧ s.var_len = 0 ∧ s.dsizes_blk = [1125899906842624, 17179869184, 262144, 4]) ∧
    varLen 4 [65536, 65536, 65536, 65536] = 73786976294838206464 ∧
    varShapeC [65536, 65536, 65536, 65536] [0, 1, 2, 3] 4 1 4 ≠ varShape [65536, 65536, 65536, 65536] [0, 1, 2, 3] 4 1 4 := by decide +kernel

/-- **`NC_varoffset_refines`.**  For every variable of rank ≥ 1 whose `dsizes` are what `NC_var_shape` stored for its shape (`dsC`: strides ×
    element size, modulo 2^64) and every coordinate vector of that rank (any non-negative values: also outside the extents), in an HDF or a
    netCDF file, the translated `NC_varoffset` returns the model's byte offset `varOffset` modulo 2^64 - for an HDF file
    `Slab.offset shape coords * xszof` - reads inside `dsizes` / `coords` only and its loop terminates. -/
theorem NC_varoffset_refines (shape coords : List Nat) (xszof ft begin recsize fuel : Nat) (hne : shape ≠ [])
    (hC : coords.length = shape.length) (hft : ft = H4.Gen.Ncvar.netCDF_FILE ∨ ft = H4.Gen.Ncvar.HDF_FILE) (hf : shape.length ≤ fuel) :
    let s := NC_varoffset fuel ft recsize shape.length begin false (ints shape) (ints (dsC xszof shape)) (ints coords)
    s.ub = false ∧ s.oof = false ∧ s.done = true ∧ s.ret = ((varOffset ft begin recsize xszof shape coords % W : Nat) : Int) := by
  intro s
  have hpos : 0 < shape.length := List.length_pos_iff.mpr hne
  obtain ⟨a, b, c, d⟩ := vo_entry shape (dsC xszof shape) coords ft begin recsize fuel hpos (dsC_length xszof shape) hC hf hft
  refine ⟨a, b, c, ?_⟩
  rw [show s.ret = _ from d, voRaw_model ft begin recsize xszof shape coords hpos hC hft]

/-- **in-range coordinates, nothing wrapped: the exact model offset.**  Fixed-size or record variable in an HDF file, coordinates inside the
    extents (`Slab.inB`: what `NCcoordck` lets through for a fixed-size variable), `xszof * Π shape < 2^64`: the translated `NC_varoffset` returns
    exactly `Slab.offset shape coords * xszof` - so `Slab.offset_inj` / `offset_lt` (C03: distinct cells never share storage, every cell
    lies inside the variable) hold for the offsets the C computes. -/
theorem NC_varoffset_inrange (shape coords : List Nat) (xszof fuel : Nat) (hne : shape ≠ []) (hin : inB shape coords)
    (hC : coords.length = shape.length) (hfit : prod shape * xszof < W) (hf : shape.length ≤ fuel) :
    let s := NC_varoffset fuel H4.Gen.Ncvar.HDF_FILE 0 shape.length 0 false (ints shape) (ints (dsC xszof shape)) (ints coords)
    s.ub = false ∧ s.oof = false ∧ s.ret = ((offset shape coords * xszof : Nat) : Int) ∧ offset shape coords * xszof < prod shape * xszof ∨ xszof = 0 := by
  intro s
  by_cases hx : xszof = 0
  · exact Or.inr hx
  · left
    obtain ⟨a, b, _, d⟩ := NC_varoffset_refines shape coords xszof H4.Gen.Ncvar.HDF_FILE 0 0 fuel hne hC (Or.inr rfl) hf
    have hlt := offset_lt shape coords hin
    have hm : offset shape coords * xszof < prod shape * xszof := Nat.mul_lt_mul_of_pos_right hlt (by omega)
    refine ⟨a, b, ?_, hm⟩
    have : varOffset H4.Gen.Ncvar.HDF_FILE 0 0 xszof shape coords = offset shape coords * xszof := by
      cases shape with
      | nil => exact absurd rfl hne
      | cons a t => simp [varOffset]
    rw [this, Nat.mod_eq_of_lt (by omega)] at d
    exact d

/-- the hypotheses are satisfiable and the translated code runs: 4x5x6 `int32`, coordinates (1,2,3): (1*30 + 2*6 + 3) * 4 = 180 bytes;
    the record variable (0,5,6) at record 7 in an HDF file: (7*30 + 2*6 + 3) * 4 = 900; in a netCDF file with `begin` 100, `recsize` 1000:
    100 + 7*1000 + (2*6+3)*4 = 7160 -/
example : dsC 4 [4, 5, 6] = [120, 24, 4] ∧ inB [4, 5, 6] [1, 2, 3] ∧
    (let s := NC_varoffset 3 1 0 3 0 false (ints [4, 5, 6]) (ints (dsC 4 [4, 5, 6])) (ints [1, 2, 3])
     s.ub = false ∧ s.oof = false ∧ s.ret = 180 ∧ varOffset 1 0 0 4 [4, 5, 6] [1, 2, 3] = 180 ∧ offset [4, 5, 6] [1, 2, 3] * 4 = 180) ∧
    (let s := NC_varoffset 3 1 0 3 0 false (ints [0, 5, 6]) (ints (dsC 4 [0, 5, 6])) (ints [7, 2, 3])
     s.ub = false ∧ s.oof = false ∧ s.ret = 900 ∧ varOffset 1 0 0 4 [0, 5, 6] [7, 2, 3] = 900) ∧
    (let s := NC_varoffset 3 0 1000 3 100 false (ints [0, 5, 6]) (ints (dsC 4 [0, 5, 6])) (ints [7, 2, 3])
     s.ub = false ∧ s.oof = false ∧ s.ret = 7160 ∧ varOffset 0 100 1000 4 [0, 5, 6] [7, 2, 3] = 7160) := by decide +kernel

/-- **`NCcoordck_refines`.**  For every variable of rank ≥ 1 and every coordinate vector of that rank (any `long` values: negative, beyond the
    extents), every file kind, direction (`x_op`), caller kind (`nc_API`), flags and record counts, with the fill-on-extend I/O assumed to
    succeed (`IoOk`) and `vp->HDFsize` a positive `int32` (the fill path divides by it): the translated `NCcoordck` answers TRUE exactly
    when the model `coordck` accepts - a fixed-size variable: every coordinate inside its extent; a record variable: `coords[0] ≥ 0` without
    upper bound when writing (the record dimension grows), the other coordinates inside their extents, reads refused beyond the record count -
    and leaves the model's `vp->numrecs`, `handle->numrecs`, `handle->flags`; it never reads outside `shape` / `coords` (`ub = false`) and its
    loops terminate (fuel: the rank, and the number of records to fill). -/
theorem NCcoordck_refines (shape : List Nat) (coords : List Int) (ft xop hnum flags : Nat)
    (vnum aid len hdfsize szof ncapi getaid seek conv wr setpos fillrec xdrn : Int) (fillattrNull : Bool) (fuel : Nat)
    (hne : shape ≠ []) (hC : coords.length = shape.length) (hh : hnum < 4294967296) (hF : flags < 4294967296) (hv : 0 ≤ vnum)
    (io : IoOk aid getaid seek conv wr setpos fillrec xdrn) (hsz : 0 < hdfsize) (hsz2 : hdfsize < 2147483648)
    (hf1 : shape.length ≤ fuel) (hf2 : (coords.getD 0 0 + 1).toNat ≤ fuel) :
    let s := NCcoordck fuel ft xop hnum flags false (ints shape) shape.length vnum aid len hdfsize szof coords ncapi getaid fillattrNull
      seek conv wr setpos fillrec xdrn
    let m := coordck ft (decide (xop = H4.Gen.Ncvar.XDR_ENCODE)) (decide (ncapi ≠ 0)) flags vnum hnum shape coords
    s.ub = false ∧ s.oof = false ∧ s.ret = (if m.ok then 1 else 0) ∧ s.vp_numrecs = m.vpNumrecs ∧
      s.handle_numrecs = (m.hNumrecs : Int) ∧ s.handle_flags = (m.flags : Int) := by
  exact ck_entry shape coords ft xop hnum flags vnum aid len hdfsize szof ncapi getaid seek conv wr setpos fillrec xdrn fillattrNull fuel
    (List.length_pos_iff.mpr hne) hC hh hF hv io hsz hsz2 hf1 hf2

-- `hh`, `hF`, `hv`, `io`, `hsz`, `hsz2`, `hf2` are the hypotheses of `NCcoordck_refines`; a fixed-size variable needs none of them (`ck_fixed`)
/-- **fixed-size variable: `NCcoordck` accepts exactly the coordinates inside the shape** (`Slab.inB`, the hypothesis of `offset_inj`,
    `offset_lt` and of the slab theorems of C03), whatever the file kind, direction and flags are, and changes no record count. -/
theorem NCcoordck_fixed_iff (shape coords : List Nat) (ft xop hnum flags : Nat)
    (vnum aid len hdfsize szof ncapi getaid seek conv wr setpos fillrec xdrn : Int) (fillattrNull : Bool) (fuel : Nat)
    (hne : shape ≠ []) (h0 : shape.getD 0 0 ≠ 0) (hC : coords.length = shape.length) (hh : hnum < 4294967296) (hF : flags < 4294967296) (hv : 0 ≤ vnum)
    (io : IoOk aid getaid seek conv wr setpos fillrec xdrn) (hsz : 0 < hdfsize) (hsz2 : hdfsize < 2147483648)
    (hf1 : shape.length ≤ fuel) (hf2 : (((coords.map Int.ofNat).getD 0 0) + 1).toNat ≤ fuel) :
    let s := NCcoordck fuel ft xop hnum flags false (ints shape) shape.length vnum aid len hdfsize szof (coords.map Int.ofNat) ncapi getaid
      fillattrNull seek conv wr setpos fillrec xdrn
    s.ub = false ∧ s.oof = false ∧ (s.ret = 1 ↔ inB shape coords) ∧ (s.ret = 0 ∨ s.ret = 1) ∧
      s.vp_numrecs = vnum ∧ s.handle_numrecs = hnum ∧ s.handle_flags = flags := by
  obtain ⟨a, b, c, d, e, f, g⟩ := ck_fixed shape (coords.map Int.ofNat) ft xop hnum flags vnum aid len hdfsize szof ncapi getaid seek conv
    wr setpos fillrec xdrn fillattrNull fuel (List.length_pos_iff.mpr hne) h0 (by simpa using hC) hf1
  exact ⟨a, b, c.trans (inExtents_iff_inB shape coords hC), d, e, f, g⟩

/-- the hypotheses are satisfiable and the translated code runs.  Fixed 4x5x6: (3,4,5) accepted, (3,5,5) and (-1,0,0) refused.
    Record variable (0,5,6) in an HDF file with 2 records (file: 2), writing record 5 with fill: accepted, 6 records, NC_NDIRTY set, 4 fill
    records written; reading record 5 through the SD API: refused; a netCDF file, writing record 5 with NC_NSYNC: 6 records, flags clean. -/
example : IoOk 7 0 0 0 0 1 1 1 ∧
    (let s := NCcoordck 6 1 0 0 0 false (ints [4, 5, 6]) 3 0 7 480 4 4 [3, 4, 5] 0 0 true 0 0 0 1 1 1
     s.ub = false ∧ s.oof = false ∧ s.ret = 1 ∧ (coordck 1 true false 0 0 0 [4, 5, 6] [3, 4, 5]).ok = true) ∧
    (let s := NCcoordck 6 1 0 0 0 false (ints [4, 5, 6]) 3 0 7 480 4 4 [3, 5, 5] 0 0 true 0 0 0 1 1 1
     s.ub = false ∧ s.oof = false ∧ s.ret = 0 ∧ (coordck 1 true false 0 0 0 [4, 5, 6] [3, 5, 5]).ok = false) ∧
    (let s := NCcoordck 6 1 0 0 0 false (ints [4, 5, 6]) 3 0 7 480 4 4 [-1, 0, 0] 0 0 true 0 0 0 1 1 1
     s.ub = false ∧ s.oof = false ∧ s.ret = 0) ∧
    (let s := NCcoordck 6 1 0 2 0 false (ints [0, 5, 6]) 3 2 7 120 4 4 [5, 4, 5] 0 0 true 0 0 0 1 1 1
     s.ub = false ∧ s.oof = false ∧ s.ret = 1 ∧ s.vp_numrecs = 6 ∧ s.handle_numrecs = 6 ∧ s.handle_flags = 64 ∧
     coordck 1 true false 0 2 2 [0, 5, 6] [5, 4, 5] = ⟨true, 6, 6, 64⟩) ∧
    (let s := NCcoordck 6 1 1 2 0 false (ints [0, 5, 6]) 3 2 7 120 4 4 [5, 4, 5] 0 0 true 0 0 0 1 1 1
     s.ub = false ∧ s.oof = false ∧ s.ret = 0 ∧ s.vp_numrecs = 2 ∧ (coordck 1 false false 0 2 2 [0, 5, 6] [5, 4, 5]).ok = false) ∧
    (let s := NCcoordck 6 0 0 2 16 false (ints [0, 5, 6]) 3 0 7 120 4 4 [5, 4, 5] 0 0 true 0 0 0 1 1 1
     s.ub = false ∧ s.oof = false ∧ s.ret = 1 ∧ s.handle_numrecs = 6 ∧ s.handle_flags = 16 ∧
     coordck 0 true false 16 0 2 [0, 5, 6] [5, 4, 5] = ⟨true, 0, 6, 16⟩) := by decide +kernel

end H4.Props.C03Fn2
