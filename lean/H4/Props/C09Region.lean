import H4.Lemmas.GRegion
import H4.Lemmas.GRPixelBytes
import H4.Lemmas.GRBook
import H4.Props.C03
import H4.Props.C09
/-! C09, raster images: region / stride / fill / palette (`GRwriteimage`, `GRreadimage`, `GRwritelut`, `GRreadlut`, `hdf/src/mfgr.c`):
    property theorems, for all image sizes, component counts, element sizes, rectangles and strides. The interlace permutation itself
    (`GRIil_convert`) is `H4.Props.C09`.  `Variant` (in the model) says which `fix:` commit of /repo each of its flags mirrors:
    `Variant.current` is the source as modelled, `Variant.legacy` the source before those commits, kept for the counter-witnesses. -/
namespace H4.Props.C09Region
open H4.Slab H4.GRegion H4.Interlace
open H4.Props.C03 (Arr assign Rep writeAt_assign assign_map_self)

/-- a request `GRwriteimage`/`GRreadimage` accept (both argument checks pass) -/
def Valid (W H : Nat) (r : Req) : Prop := r.sane = true ∧ r.inImage W H = true

instance (W H : Nat) (r : Req) : Decidable (Valid W H r) := by unfold Valid; infer_instance

/-- the selected pixels as coordinates `[y, x]`, in the order of the caller's (pixel-interlaced) buffer -/
def cellsOf (r : Req) : List (List Nat) := scells r.start r.stride r.count

/-- **Addressing**: every branch of the plain path – whole-image fast path, one transfer per line of a solid
    block, one transfer per pixel when sub-sampling, with their `img_offset`/`local_offset` accumulators –
    touches exactly `NC_varoffset`-style offsets `y·W + x` of the selected cells, once each, in buffer order.
    Holds for every request, valid or not. -/
theorem gr_addressing (W H : Nat) (r : Req) : ioOffsets W H r = (cellsOf r).map (offset (shape W H)) :=
  ioOffsets_eq W H r

example : ioOffsets 10 10 ⟨1, 2, 3, 2, 3, 2⟩ = [21, 24, 27, 41, 44, 47] := by decide
example : ioRuns 10 10 ⟨1, 2, 1, 1, 3, 2⟩ = [(21, 3), (31, 3)] ∧ ioRuns 4 2 ⟨0, 0, 1, 1, 4, 2⟩ = [(0, 8)] := by decide

/-- **Argument checks** (`Variant.rangeCheck`; overflow-safe division form) accept exactly the selections whose
    last column/row `start + (count-1)·stride` lies inside the image, with `stride, count ≥ 1`. -/
theorem gr_valid_iff (W H : Nat) (r : Req) : Valid W H r ↔ sInRange (shape W H) r.start r.stride r.count :=
  valid_iff_sInRange W H r

example : Valid 10 10 ⟨0, 0, 1, 3, 10, 4⟩ ∧ ¬ Valid 10 10 ⟨0, 0, 1, 3, 10, 5⟩ ∧ ¬ Valid 4 4 ⟨2, 1, 1, 1, 4, 1⟩ := by decide

/-- **Out-of-range requests fail and change nothing** (code with the range check): both calls return `FAIL`;
    the model has no other effect than its result, so the image is untouched. -/
theorem gr_out_of_range_refused {α} (v : Variant) (hv : v.rangeCheck = true) (W H : Nat) (f d : α) (r : Req)
    (vals : List α) (st : Store α) (h : ¬ Valid W H r) :
    grWrite v W H f r vals st = none ∧ grRead v W H d r st = none := refused v hv W H f d r vals st h

/-- `Variant.legacy` (no `rangeCheck`): a write reaching over the right edge was accepted and overwrote the first
    pixels of the NEXT line: 4×4 image, start (2,1), count (4,1) -/
example : (grWrite Variant.legacy 4 4 0 ⟨2, 1, 1, 1, 4, 1⟩ [7, 7, 7, 7] { elem := some (List.replicate 16 1) }).map (·.elem)
    = some (some [1, 1, 1, 1, 1, 1, 7, 7, 7, 7, 1, 1, 1, 1, 1, 1]) := by decide +kernel
example : grWrite Variant.current 4 4 0 ⟨2, 1, 1, 1, 4, 1⟩ [7, 7, 7, 7] { elem := some (List.replicate 16 1) } = none := by decide

theorem cellsOf_inB {W H : Nat} {r : Req} (hval : Valid W H r) : ∀ c ∈ cellsOf r, inB (shape W H) c := sel_in hval.1 hval.2

theorem cellsOf_nodup {W H : Nat} {r : Req} (hval : Valid W H r) : (cellsOf r).Nodup :=
  scells_nodup _ _ _ _ ((valid_iff_sInRange W H r).mp hval)

theorem cellsOf_length (r : Req) : (cellsOf r).length = r.cx * r.cy :=
  (scells_length r.start r.stride r.count rfl rfl).trans (by simp [Req.count, prod, Nat.mul_comm])

theorem getD_fill {α} (W H : Nat) (f d : α) {c : List Nat} (hc : inB (shape W H) c) :
    (List.replicate (W * H) f).getD (offset (shape W H) c) d = f := by
  have hlt : offset (shape W H) c < W * H := by rw [← prod_shape]; exact offset_lt _ _ hc
  simp [List.getD_eq_getElem?_getD, hlt]

/-- **Read after write.** For every image size, every valid region and stride, every buffer of the right
    length, whatever the image held before (existing full-size element, or no data yet): the write succeeds,
    the store stays well-formed, reading the same selection returns the buffer, and every pixel outside the
    selection keeps the value it had (for a new image: the value of the all-fill image). `hv`: `Variant.f15Fixed`, or a solid
    block (the solid branch is the same in both variants). -/
theorem gr_write_read {α} (v : Variant) (W H : Nat) (f d : α) (r : Req) (vals : List α) (st : Store α)
    (hv : v.f15Fixed = true ∨ r.solid = true) (hval : Valid W H r) (hl : vals.length = r.cx * r.cy)
    (hwf : st.WF W H) :
    ∃ st', grWrite v W H f r vals st = some st' ∧ st'.WF W H ∧
      grRead v W H d r st' = some (.inr vals) ∧
      ∀ c, inB (shape W H) c → c ∉ cellsOf r →
        (base f W H st').getD (offset (shape W H) c) d = (base f W H st).getD (offset (shape W H) c) d := by
  have hbl := base_length f W H st hwf
  refine ⟨_, grWrite_eq v W H f r vals st hv hval.1 hval.2 hl hwf, ?_, ?_, fun c hc hout =>
    writeAt_coords_outside d (cellsOf_inB hval) _ vals hc hout⟩
  · simp [Store.WF, writeAt_length, hbl]
  · rw [grRead_eq v W H d r _ hval.1 hval.2 _ rfl (by simp [writeAt_length, hbl])]
    exact congrArg (some ∘ Sum.inr) (readAt_writeAt_coords d (cellsOf_inB hval) (cellsOf_nodup hval)
      (hbl.trans (prod_shape W H).symm) (by rw [cellsOf_length, hl]))

example : Valid 5 4 ⟨1, 0, 2, 3, 2, 2⟩ ∧
    grWrite Variant.current 5 4 0 ⟨1, 0, 2, 3, 2, 2⟩ [6, 7, 8, 9] ({} : Store Nat)
      = some { elem := some [0, 6, 0, 7, 0, 0, 0, 0, 0, 0, 0, 0, 0, 0, 0, 0, 8, 0, 9, 0] } := by decide +kernel

/-- The first partial write of an image without data, under `Variant.f15Fixed` or for a solid block: the element is the all-fill image with the buffer stored at the selected pixels. -/
theorem first_write_fill {α} (v : Variant) (W H : Nat) (f d : α) (r : Req) (vals : List α)
    (hv : v.f15Fixed = true ∨ r.solid = true) (hval : Valid W H r) (hl : vals.length = r.cx * r.cy) :
    ∃ e, grWrite v W H f r vals { elem := none, fillImg := true } = some { elem := some e, fillImg := true } ∧
      e.length = W * H ∧
      (∀ k (hk : k < (cellsOf r).length), e.getD (offset (shape W H) ((cellsOf r)[k])) d = vals.getD k d) ∧
      (∀ c, inB (shape W H) c → c ∉ cellsOf r → e.getD (offset (shape W H) c) d = f) := by
  refine ⟨_, grWrite_eq v W H f r vals _ hv hval.1 hval.2 hl rfl, by simp [base, writeAt_length], fun k hk => ?_, fun c hc hout => ?_⟩
  · exact writeAt_coords_getD d (cellsOf_inB hval) (cellsOf_nodup hval) (by simp [base, prod_shape]) (by rw [cellsOf_length, hl]) k hk
  · exact (writeAt_coords_outside d (cellsOf_inB hval) _ vals hc hout).trans (getD_fill W H f d hc)

/-- **First-write fill** (`Variant.f15Fixed`; `fi` is `fill_img`, which `Variant.lateFill` gives loaded images too). After the first `GRwriteimage`
    to an image without data – whole, solid or sub-sampled, created in this session or loaded from the file –
    the element has exactly `W·H` pixels, the `k`-th selected pixel holds the `k`-th buffer pixel and EVERY
    never-written pixel of the image holds the fill pixel `f`. -/
theorem gr_first_write_fill {α} (v : Variant) (hv : v.f15Fixed = true) (W H : Nat) (f d : α) (r : Req)
    (vals : List α) (fi : Bool) (hfi : fi = true) (hval : Valid W H r) (hl : vals.length = r.cx * r.cy) :
    ∃ e, grWrite v W H f r vals { elem := none, fillImg := fi } = some { elem := some e, fillImg := fi } ∧
      e.length = W * H ∧
      (∀ k (hk : k < (cellsOf r).length), e.getD (offset (shape W H) ((cellsOf r)[k])) d = vals.getD k d) ∧
      (∀ c, inB (shape W H) c → c ∉ cellsOf r → e.getD (offset (shape W H) c) d = f) := by
  subst hfi
  exact first_write_fill v W H f d r vals (Or.inl hv) hval hl

set_option maxRecDepth 8000 in
/-- the F15 witness on the current code: 10×10 image, fill 238, first write start (0,0) stride (1,3) count (10,3):
    the element has all 100 pixels and line 9 holds the fill value -/
example : ((grWrite Variant.current 10 10 238 ⟨0, 0, 1, 3, 10, 3⟩ (List.replicate 30 17) ({} : Store Nat)).bind (·.elem)).map
    (fun e => (e.length, e.drop 90)) = some (100, List.replicate 10 238) := by decide +kernel

/-- `gr_first_write_fill` for `Variant.legacy` (no `f15Fixed`) holds for solid blocks only (`gr_first_write_fill_partial`):
    the full statement (any stride) is false there – see the counter-witnesses below. -/
theorem gr_first_write_fill_partial {α} (W H : Nat) (f d : α) (r : Req) (vals : List α)
    (hsol : r.solid = true) (hval : Valid W H r) (hl : vals.length = r.cx * r.cy) :
    ∃ e, grWrite Variant.legacy W H f r vals { elem := none, fillImg := true }
        = some { elem := some e, fillImg := true } ∧ e.length = W * H ∧
      (∀ c, inB (shape W H) c → c ∉ cellsOf r → e.getD (offset (shape W H) c) d = f) := by
  obtain ⟨e, h1, h2, _, h4⟩ := first_write_fill Variant.legacy W H f d r vals (Or.inr hsol) hval hl
  exact ⟨e, h1, h2, h4⟩

set_option maxRecDepth 8000 in
/-- **F15 on `Variant.legacy`** (no `f15Fixed`): the same request leaves an element of 90 pixels –
    line 9 of the image does not exist (the C then hands back uninitialised heap bytes for it) – and with
    `count_y = 4` the element is 120 pixels long, 20 more than the image. So `gr_first_write_fill` is false for
    `Variant.legacy`: pixel (x=0, y=9) is in range, never written, and not stored at all. -/
example : ((grWrite Variant.legacy 10 10 238 ⟨0, 0, 1, 3, 10, 3⟩ (List.replicate 30 17) ({} : Store Nat)).bind (·.elem)).map
    (fun e => (e.length, e[offset (shape 10 10) [9, 0]]?)) = some (90, none) := by decide +kernel
set_option maxRecDepth 8000 in
example : ((grWrite Variant.legacy 10 10 238 ⟨0, 0, 1, 3, 10, 4⟩ (List.replicate 40 17) ({} : Store Nat)).bind (·.elem)).map
    (·.length) = some 120 := by decide +kernel
set_option maxRecDepth 8000 in
example : ¬ ∃ e, grWrite Variant.legacy 10 10 238 ⟨0, 0, 1, 3, 10, 3⟩ (List.replicate 30 17) ({} : Store Nat)
    = some { elem := some e, fillImg := true } ∧ e.length = 10 * 10 := by
  intro ⟨e, h, hl⟩
  have : (grWrite Variant.legacy 10 10 238 ⟨0, 0, 1, 3, 10, 3⟩ (List.replicate 30 17) ({} : Store Nat)).bind (·.elem)
      = some e := by rw [h]; rfl
  have h2 : ((grWrite Variant.legacy 10 10 238 ⟨0, 0, 1, 3, 10, 3⟩ (List.replicate 30 17) ({} : Store Nat)).bind (·.elem)).map
      (·.length) = some 90 := by decide +kernel
  rw [this] at h2
  simp at h2; omega

/-- `Variant.legacy` (no `lateFill`): an image created without data in an earlier session
    (`fill_img` cleared by the loader) refused every partial first write -/
example : grWrite Variant.legacy 4 4 0 ⟨1, 1, 1, 1, 2, 2⟩ [1, 2, 3, 4] ({ elem := none, fillImg := false } : Store Nat) = none ∧
    (grWrite Variant.current 4 4 0 ⟨1, 1, 1, 1, 2, 2⟩ [1, 2, 3, 4] ({ elem := none, fillImg := true } : Store Nat)).isSome = true := by decide

inductive Op (α : Type) where
  | write (r : Req) (vals : List α)
  | read (r : Req)

/-- a request the library accepts: inside the image, one buffer pixel per selected pixel -/
def OpValid {α} (W H : Nat) : Op α → Prop
  | .write r vals => Valid W H r ∧ vals.length = r.cx * r.cy
  | .read r => Valid W H r

/-- writes of solid blocks (and all reads): the requests for which `Variant.legacy` is right as well -/
def Op.Solid {α} : Op α → Prop
  | .write r _ => r.solid = true
  | .read _ => True

/-- implementation side: the data element (or its absence), `GRwriteimage`/`GRreadimage`; a failing write
    leaves the store as it is, a failing read delivers nothing; without data a read delivers fill pixels -/
def stepImg {α} (v : Variant) (W H : Nat) (f : α) (st : Store α) : Op α → Store α × List α
  | .write r vals => ((grWrite v W H f r vals st).getD st, [])
  | .read r =>
    (st, match grRead v W H f r st with
         | some (.inr px) => px
         | some (.inl n) => List.replicate n f
         | none => [])

/-- specification side: an `H × W` array of pixels indexed `[y, x]`, selection in row-major order -/
def stepArr {α} (a : Arr α) : Op α → Arr α × List α
  | .write r vals => (assign a (cellsOf r) vals, [])
  | .read r => (a, (cellsOf r).map a)

def runImg {α} (v : Variant) (W H : Nat) (f : α) : Store α → List (Op α) → Store α × List (List α)
  | st, [] => (st, [])
  | st, op :: ops =>
    let (st', o) := stepImg v W H f st op
    let (st'', os) := runImg v W H f st' ops
    (st'', o :: os)

def runArr {α} : Arr α → List (Op α) → Arr α × List (List α)
  | a, [] => (a, [])
  | a, op :: ops =>
    let (a', o) := stepArr a op
    let (a'', os) := runArr a' ops
    (a'', o :: os)

/-- the store represents the array: well-formed, and the element – for an image without data, the all-fill
    image its first write will create – holds `a [y, x]` at `y·W + x` -/
def RepSt {α} (f : α) (W H : Nat) (st : Store α) (a : Arr α) : Prop :=
  st.WF W H ∧ Rep f (shape W H) (base f W H st) a

/-- a new image (`GRcreate`, or loaded without data, `Variant.lateFill`) represents the constant-fill array -/
theorem new_image_rep {α} (f : α) (W H : Nat) : RepSt f W H ({} : Store α) (fun _ => f) :=
  ⟨rfl, by simp [base, prod_shape], fun _ hc => getD_fill W H f f hc⟩

theorem grRead_rep {α} (v : Variant) (W H : Nat) (f : α) (st : Store α) (a : Arr α) (r : Req) (hval : Valid W H r)
    (h : RepSt f W H st a) :
    ∃ x, grRead v W H f r st = some x ∧
      (match x with | .inr px => px | .inl n => List.replicate n f) = (cellsOf r).map a := by
  obtain ⟨hwf, hrep⟩ := h
  obtain ⟨hs, hi⟩ := hval
  cases he : st.elem with
  | none =>
    refine ⟨_, grRead_none v W H f r st hs hi he, ?_⟩
    simp only
    rw [← cellsOf_length r, ← List.map_const']
    apply List.map_congr_left
    intro c hc
    rw [← hrep.2 c (cellsOf_inB ⟨hs, hi⟩ c hc), base, he]
    exact (getD_fill W H f f (cellsOf_inB ⟨hs, hi⟩ c hc)).symm
  | some e =>
    refine ⟨_, grRead_eq v W H f r st hs hi e he (by simpa [Store.WF, he] using hwf), ?_⟩
    simp only [readAt]
    rw [List.map_map]
    apply List.map_congr_left
    intro c hc
    simpa [base, he] using hrep.2 c (cellsOf_inB ⟨hs, hi⟩ c hc)

theorem step_refines {α} (v : Variant) (W H : Nat) (f : α) (st : Store α) (a : Arr α) (op : Op α)
    (hv : v.f15Fixed = true ∨ op.Solid) (hval : OpValid W H op) (h : RepSt f W H st a) :
    RepSt f W H (stepImg v W H f st op).1 (stepArr a op).1 ∧ (stepImg v W H f st op).2 = (stepArr a op).2 := by
  obtain ⟨hwf, hrep⟩ := h
  cases op with
  | write r vals =>
    obtain ⟨⟨hs, hi⟩, hl⟩ := hval
    simp only [stepImg, stepArr, and_true]
    rw [grWrite_eq v W H f r vals st hv hs hi hl hwf]
    simp only [Option.getD_some]
    refine ⟨by simp [Store.WF, writeAt_length, base_length f W H st hwf], ?_⟩
    simp only [base, Option.getD_some]
    exact writeAt_assign f (shape W H) _ vals _ a (cellsOf_inB ⟨hs, hi⟩) hrep
  | read r =>
    obtain ⟨x, hx, hx'⟩ := grRead_rep v W H f st a r hval ⟨hwf, hrep⟩
    simp only [stepImg, stepArr, hx]
    exact ⟨⟨hwf, hrep⟩, by cases x <;> exact hx'⟩

/-- **Main refinement.** For every image size, every fill pixel, and every finite sequence of valid region
    writes and (strided) reads – starting from a store that represents some array, in particular from a NEW image,
    which represents the constant-fill array (`new_image_rep`) – the pixels delivered by `GRreadimage` through the
    C addressing (including the seek-free first write with its fill lines) are those of the reference `H × W`
    array, and the final store represents the final array (so the statement composes across sessions).
    `hv`: `Variant.f15Fixed`, or only solid-block writes. -/
theorem gr_refines_array {α} (v : Variant) (W H : Nat) (f : α) :
    ∀ (ops : List (Op α)) (st : Store α) (a : Arr α),
    (v.f15Fixed = true ∨ ∀ op ∈ ops, op.Solid) → (∀ op ∈ ops, OpValid W H op) → RepSt f W H st a →
    (runImg v W H f st ops).2 = (runArr a ops).2 ∧ RepSt f W H (runImg v W H f st ops).1 (runArr a ops).1 := by
  intro ops
  induction ops with
  | nil => intro st a _ _ h; simp [runImg, runArr, h]
  | cons op ops ih =>
    intro st a hv hval h
    have hv1 : v.f15Fixed = true ∨ op.Solid := hv.imp id (fun g => g op (by simp))
    have hv2 : v.f15Fixed = true ∨ ∀ o ∈ ops, o.Solid := hv.imp id (fun g o ho => g o (by simp [ho]))
    obtain ⟨h1, h2⟩ := step_refines v W H f st a op hv1 (hval op (by simp)) h
    obtain ⟨g1, g2⟩ := ih _ _ hv2 (fun o ho => hval o (by simp [ho])) h1
    simp only [runImg, runArr]
    exact ⟨by rw [h2, g1], g2⟩

/-- the same for a NEW image on the current code: the reads see the fill value wherever nothing was written -/
theorem gr_new_image_refines_array {α} (W H : Nat) (f : α) (ops : List (Op α)) (hval : ∀ op ∈ ops, OpValid W H op) :
    (runImg Variant.current W H f {} ops).2 = (runArr (fun _ => f) ops).2 :=
  (gr_refines_array Variant.current W H f ops {} _ (Or.inl rfl) hval (new_image_rep f W H)).1

example : OpValid 5 4 (Op.write ⟨1, 0, 2, 3, 2, 2⟩ [6, 7, 8, 9] : Op Nat) ∧ OpValid 5 4 (Op.read ⟨0, 3, 1, 1, 5, 1⟩ : Op Nat) := by
  refine ⟨⟨by decide, by decide⟩, ?_⟩
  show Valid 5 4 _
  decide
example : (runImg Variant.current 5 4 0 {} [.read ⟨0, 0, 4, 1, 2, 1⟩, .write ⟨1, 0, 2, 3, 2, 2⟩ [6, 7, 8, 9], .read ⟨0, 3, 1, 1, 5, 1⟩,
    .write ⟨3, 3, 1, 1, 2, 1⟩ [1, 2], .read ⟨1, 0, 2, 3, 2, 2⟩]).2 = [[0, 0], [], [0, 8, 0, 9, 0], [], [6, 7, 8, 1]] := by decide +kernel

/-- the C skips `GRIil_convert` when the two interlaces are equal (`p` fails only then): calling it anyway makes no difference -/
theorem convert_or_skip (a b : Il) (W H ncomp csz : Nat) (d z : List UInt8) (hd : d.length = csz * (W * H * ncomp))
    (hz : z.length = csz * (W * H * ncomp)) {p : Prop} [Decidable p] (hp : ¬ p → a = b) :
    (if p then convert a b W H ncomp csz d z else d) = convert a b W H ncomp csz d z := by
  by_cases h : p
  · rw [if_pos h]
  · obtain rfl := hp h
    rw [if_neg h, H4.Props.C09.il_convert_same a W H ncomp csz d z hd hz]

/-- **`GRreadimage` = `GRIil_convert`(PIXEL → requested) ∘ pixel-interlaced read.** Whatever the request and
    the state, the result is the pixel-interlaced buffer (`readPixelBuf`: region read + `DFKconvert`) pushed through
    the interlace conversion of `H4.Props.C09`; for `im_il = PIXEL` the C skips the call and `il_convert_same`
    says that makes no difference. `hlen`: the buffer has the size the caller allocated. -/
theorem gr_read_interlace (v : Variant) (ri : RI) (r : Req)
    (hlen : ∀ buf, readPixelBuf v ri r = some buf → buf.length = ri.csz * (r.cx * r.cy * ri.ncomp)) :
    GRreadimage v ri r = (readPixelBuf v ri r).map
      (fun buf => convert .pixel ri.imIl r.cx r.cy ri.ncomp ri.csz buf (List.replicate buf.length 0)) := by
  unfold GRreadimage
  cases hb : readPixelBuf v ri r with
  | none => rfl
  | some buf =>
    exact congrArg some (convert_or_skip .pixel ri.imIl _ _ _ _ buf _ (hlen buf hb) (by simp [hlen buf hb]) fun h => (not_not.mp h).symm)

/-- reading in interlace `b` is reading in interlace `a` followed by `convert a b` (any two of the three) -/
theorem gr_read_interlace_change (v : Variant) (ri : RI) (r : Req) (a b : Il)
    (hlen : ∀ buf, readPixelBuf v ri r = some buf → buf.length = ri.csz * (r.cx * r.cy * ri.ncomp)) :
    GRreadimage v (GRreqimageil ri b) r = (GRreadimage v (GRreqimageil ri a) r).map
      (fun buf => convert a b r.cx r.cy ri.ncomp ri.csz buf (List.replicate buf.length 0)) := by
  have e : ∀ il, readPixelBuf v (GRreqimageil ri il) r = readPixelBuf v ri r := fun _ => rfl
  rw [gr_read_interlace v (GRreqimageil ri b) r (by intro buf hb; rw [e] at hb; exact hlen buf hb),
    gr_read_interlace v (GRreqimageil ri a) r (by intro buf hb; rw [e] at hb; exact hlen buf hb), e, e]
  cases hb : readPixelBuf v ri r with
  | none => rfl
  | some buf =>
    have hl := hlen buf hb
    simp only [Option.map_some, GRreqimageil, length_convert, List.length_replicate]
    congr 1
    exact (H4.Props.C09.il_convert_compose .pixel a b _ _ _ _ buf _ _ _ hl (by simp [hl]) (by simp [hl]) (by simp [hl])).symm

/-- well-formed image record: positive sizes, a full-size element (or none, with `fill_img`) -/
def RIWF (ri : RI) : Prop := 0 < ri.csz ∧ 0 < ri.ncomp ∧ ri.st.WF ri.W ri.H

/-- **Write then read, bytes in – bytes out.** Image of any size/ncomp/element size with or without data;
    any valid region and stride; the caller's buffer `data` laid out in the interlace `a` given to `GRcreate`;
    then `GRwriteimage` succeeds and, for every interlace `b` requested with `GRreqimageil`, `GRreadimage` of the
    same selection returns exactly `convert a b data`, i.e. the same components re-laid out – through
    `GRIil_convert`, `DFKconvert` to disk order, the region write (incl. the first-write fill path), the region
    read and `DFKconvert` back. -/
theorem gr_write_read_bytes (v : Variant) (ri : RI) (r : Req) (data : List UInt8) (b : Il)
    (hv : v.f15Fixed = true ∨ r.solid = true) (hwf : RIWF ri) (hval : Valid ri.W ri.H r)
    (hl : data.length = ri.csz * (r.cx * r.cy * ri.ncomp)) :
    ∃ ri', GRwriteimage v ri r data = some ri' ∧ RIWF ri' ∧
      GRreadimage v (GRreqimageil ri' b) r
        = some (convert ri.il b r.cx r.cy ri.ncomp ri.csz data (List.replicate data.length 0)) := by
  obtain ⟨hc, hn, hst⟩ := hwf
  have hpsz : 0 < ri.psz := Nat.mul_pos hn hc
  let P := convert ri.il .pixel r.cx r.cy ri.ncomp ri.csz data (List.replicate data.length 0)
  have hPlen : P.length = ri.csz * (r.cx * r.cy * ri.ncomp) := by simp [P, hl]
  have hPB : (if ri.il ≠ .pixel then convert ri.il .pixel r.cx r.cy ri.ncomp ri.csz data (List.replicate data.length 0) else data) = P :=
    convert_or_skip ri.il .pixel _ _ _ _ data _ hl (by simp [hl]) not_not.mp
  have hDlen : (dfk ri.csz ri.swap P).length = (r.cx * r.cy) * ri.psz := by
    rw [dfk_length _ hc, hPlen, RI.psz]
    rw [Nat.mul_comm ri.csz, Nat.mul_assoc]
  obtain ⟨hpl, hpu⟩ := chunks_uniform ri.psz hpsz (r.cx * r.cy) _ hDlen
  obtain ⟨st', hw, hwf', hr, _⟩ := gr_write_read v ri.W ri.H ri.fillDisk [] r (chunks ri.psz (dfk ri.csz ri.swap P)) ri.st
    hv hval hpl hst
  refine ⟨{ ri with st := st' }, ?_, ⟨hc, hn, hwf'⟩, ?_⟩
  · simp only [GRwriteimage, hPB, hw, Option.map_some]
  · have hbuf : readPixelBuf v { ri with st := st' } r = some P := by
      simp only [readPixelBuf, hr, Option.map_some]
      rw [flatten_chunks ri.psz hpsz _ _ (Nat.le_refl _)]
      rw [dfk_dfk ri.csz hc ri.swap (r.cx * r.cy * ri.ncomp) P (by rw [hPlen, Nat.mul_comm])]
    have hbuf' : readPixelBuf v (GRreqimageil { ri with st := st' } b) r = some P := hbuf
    rw [gr_read_interlace v _ r (by intro buf hb; rw [hbuf'] at hb; cases hb; exact hPlen), hbuf']
    simp only [Option.map_some, GRreqimageil]
    congr 1
    exact H4.Props.C09.il_convert_compose ri.il .pixel b _ _ _ _ data _ _ _ hl (by simp [hl]) (by simp [hPlen]) (by simp [hl])

/-- the number types the harness uses: the ten base codes, plain, `|DFNT_LITEND`, `|DFNT_NATIVE` -/
def grNts : List Nat :=
  H4.Gen.Gr.NT_CODES ++ H4.Gen.Gr.NT_CODES.map (· + H4.Gen.Hdf.DFNT_LITEND) ++ H4.Gen.Gr.NT_CODES.map (· + H4.Gen.Hdf.DFNT_NATIVE)

/-- **Number type through the NT record** (`Variant.ntFlagsKept`): for every base type, plain, little-endian or native,
    the type `GRIget_image_list` reconstructs selects the same `DFKconvert` behaviour (element size, swap or not)
    as the type given to `GRcreate`; plain and little-endian types come back unchanged, a native type comes back as
    its alias on this host (same machine subclass). -/
theorem nt_record_roundtrip :
    (∀ nt ∈ grNts, H4.Conv.lookup (ntLoad (ntRecord Variant.current nt).1 (ntRecord Variant.current nt).2) = H4.Conv.lookup nt) ∧
    (∀ nt ∈ grNts, isNative nt = false → ntLoad (ntRecord Variant.current nt).1 (ntRecord Variant.current nt).2 = nt) := by
  decide +kernel

/-- `Variant.legacy` (no `ntFlagsKept`): a little-endian `int16` image came back as big-endian `int16`,
    i.e. `DFKconvert` byte-swapped what had been stored unswapped -/
example : H4.Conv.lookup (H4.Gen.Hdf.DFNT_INT16 + H4.Gen.Hdf.DFNT_LITEND) = some (2, false) ∧
    H4.Conv.lookup (ntLoad (ntRecord Variant.legacy (H4.Gen.Hdf.DFNT_INT16 + H4.Gen.Hdf.DFNT_LITEND)).1
      (ntRecord Variant.legacy (H4.Gen.Hdf.DFNT_INT16 + H4.Gen.Hdf.DFNT_LITEND)).2) = some (2, true) := by decide

/-- **Reopen.** `GRendaccess; GRend; Hclose; Hopen; GRstart; GRselect` keeps the data element, `FILL_ATTR` and the
    palette; when the reconstructed number type converts like the original one (`nt_record_roundtrip`: always, for
    the current code), every `GRreadimage` returns what it returned before with the interlace request reset to PIXEL. -/
theorem gr_reopen_preserves (v : Variant) (ri : RI) (r : Req)
    (hnt : H4.Conv.lookup (ntLoad (ntRecord v ri.nt).1 (ntRecord v ri.nt).2) = some (ri.csz, ri.swap)) :
    (reopen v ri).st.elem = ri.st.elem ∧ (reopen v ri).fill = ri.fill ∧ (reopen v ri).lut = ri.lut ∧
    GRreadimage v (reopen v ri) r = GRreadimage v (GRreqimageil ri .pixel) r := by
  refine ⟨rfl, rfl, rfl, ?_⟩
  unfold reopen
  simp only [hnt, Option.getD_some]
  rfl

/-- **Chunking** (`GRsetchunk` before the first write): the chunked element exists at once and represents the
    constant-fill array, so `gr_refines_array` applies from there (every write takes the plain path; unwritten
    pixels come from the chunk layer's fill value = the disk form of the fill pixel). -/
theorem gr_setchunk_rep (ri : RI) : RepSt ri.fillDisk ri.W ri.H (GRsetchunk ri).st (fun _ => ri.fillDisk) :=
  ⟨by simp [GRsetchunk, Store.WF], by simp [GRsetchunk, base, prod_shape], fun _ hc => getD_fill ri.W ri.H _ _ hc⟩

/-- **Palette round trip.** A 256×3 `uint8` pixel-interlaced palette is accepted; `GRreadlut` returns it re-laid
    out in the interlace requested with `GRreqlutil` (identically for PIXEL); it survives reopen; `GRgetlutinfo`
    reports 3 components, 256 entries. -/
theorem lut_write_read (v : Variant) (ri : RI) (data buf : List UInt8) (hl : data.length = 768) (b : Il) :
    ∃ ri', GRwritelut ri 3 true H4.Gen.Hdf.MFGR_INTERLACE_PIXEL 256 data = some ri' ∧
      GRreadlut { ri' with lutIl := b } buf = convert .pixel b 1 256 3 1 data (List.replicate 768 0) ∧
      GRreadlut { ri' with lutIl := .pixel } buf = data ∧
      GRreadlut (reopen v ri') buf = data ∧
      (GRgetlutinfo ri').1 = 3 ∧ (GRgetlutinfo ri').2.2 = (0, 256) := by
  have htake : data.take 768 = data := List.take_of_length_le (by omega)
  have hw : GRwritelut ri 3 true H4.Gen.Hdf.MFGR_INTERLACE_PIXEL 256 data
      = some { ri with lut := some data, lutNt := if ri.lut.isSome then ri.lutNt else H4.Gen.Hdf.DFNT_UINT8 } := by
    simp [GRwritelut, htake]
  refine ⟨_, hw, ?_, ?_, ?_, ?_⟩
  · simp only [GRreadlut, hl]
    exact convert_or_skip .pixel b 1 256 3 1 data _ (by simp [hl]) (by rw [List.length_replicate]) fun h => (not_not.mp h).symm
  · simp [GRreadlut]
  · simp [GRreadlut, reopen]
  · simp [GRgetlutinfo, H4.Gen.Hdf.MFGR_INTERLACE_PIXEL]

/-- every other palette shape is refused (`DFE_UNSUPPORTED`) and nothing changes -/
theorem lut_unsupported_refused (ri : RI) (ncomps : Nat) (u8 : Bool) (il n : Nat) (data : List UInt8)
    (h : ¬ (ncomps = 3 ∧ u8 = true ∧ il = H4.Gen.Hdf.MFGR_INTERLACE_PIXEL ∧ n = 256)) :
    GRwritelut ri ncomps u8 il n data = none := by
  simp [GRwritelut, h]

/-- without a palette `GRreadlut` leaves the caller's buffer alone and `GRgetlutinfo` reports none -/
theorem lut_absent (ri : RI) (buf : List UInt8) (h : ri.lut = none) :
    GRreadlut ri buf = buf ∧ GRgetlutinfo ri = (0, 0, -1, 0) := by
  simp [GRreadlut, GRgetlutinfo, h]

/-! ## several RI ids on one image: ids are views of one image state

`GRcreate`/`GRselect` hand out atoms for one `ri_info_t`. The model (`Book`, `Img` in `H4.GRegion`) takes the decision
"the image has data" (`new_image`, `image_data`) from `img_tag/ref`, `data_modified` and `Hlength` – exactly the three
things the C looks at – while the element itself is the logical content. `Coherent` is the invariant that makes the
two agree; every call preserves it (`step_ids_refines`), hence `gr_ids_are_views`. -/

/-- calls on ONE image through handles `k` (reopen = release every id, `GRend`, `Hclose`, `Hopen`, `GRstart`) -/
inductive IdOp (α : Type) where
  | select (k : Nat)
  | endaccess (k : Nat)
  | setcompress (k : Nat)
  | write (k : Nat) (r : Req) (vals : List α)
  | read (k : Nat) (r : Req)
  | reopen

def IdOp.Valid {α} (W H : Nat) : IdOp α → Prop
  | .write _ r vals => C09Region.Valid W H r ∧ vals.length = r.cx * r.cy
  | .read _ r => C09Region.Valid W H r
  | _ => True

/-- implementation side: `Img` (element + `ri_info_t` bookkeeping); `none` = `FAIL` -/
def stepIds {α} (v : Variant) (W H : Nat) (f : α) (im : Img α) : IdOp α → Img α × Option (List α)
  | .select k =>
    match im.bk.select k with
    | some b => ({ im with bk := b }, some [])
    | none => (im, none)
  | .endaccess k =>
    match im.bk.endaccess k with
    | some b => ({ im with bk := b }, some [])
    | none => (im, none)
  | .setcompress k =>
    if im.bk.ids.contains k then
      match im.bk.setcompress with
      | some b => ({ im with bk := b }, some [])
      | none => (im, none)
    else (im, none)
  | .write k r vals => ((im.write v W H f k r vals).1, if (im.write v W H f k r vals).2 then some [] else none)
  | .read k r =>
    ((im.read v W H f k r).1, (im.read v W H f k r).2.map fun
      | .inr px => px
      | .inl n => List.replicate n f)
  | .reopen => (im.reopen v, some [])

/-- specification side: the open handles, "is compressed", and ONE `H × W` array whatever handle is used -/
structure Ref (α : Type) where
  ids : List Nat
  comp : Bool
  a : Arr α

def stepRef {α} (s : Ref α) : IdOp α → Ref α × Option (List α)
  | .select k => if s.ids.contains k then (s, none) else ({ s with ids := k :: s.ids }, some [])
  | .endaccess k => if s.ids.contains k then ({ s with ids := s.ids.erase k }, some []) else (s, none)
  | .setcompress k => if s.ids.contains k && !s.comp then ({ s with comp := true }, some []) else (s, none)
  | .write k r vals => if s.ids.contains k then ({ s with a := assign s.a (cellsOf r) vals }, some []) else (s, none)
  | .read k r => if s.ids.contains k then (s, some ((cellsOf r).map s.a)) else (s, none)
  | .reopen => ({ s with ids := [] }, some [])

def runIds {α} (v : Variant) (W H : Nat) (f : α) : Img α → List (IdOp α) → Img α × List (Option (List α))
  | im, [] => (im, [])
  | im, op :: ops =>
    let (im', o) := stepIds v W H f im op
    let (im'', os) := runIds v W H f im' ops
    (im'', o :: os)

def runRef {α} : Ref α → List (IdOp α) → Ref α × List (Option (List α))
  | s, [] => (s, [])
  | s, op :: ops =>
    let (s', o) := stepRef s op
    let (s'', os) := runRef s' ops
    (s'', o :: os)

/-- same open handles, same compression flag, bookkeeping coherent with the element, element represents the array -/
def Sim {α} (f : α) (W H : Nat) (im : Img α) (s : Ref α) : Prop :=
  im.bk.ids = s.ids ∧ im.bk.buffered = s.comp ∧ Coherent im.st im.bk ∧ RepSt f W H im.st s.a

theorem step_ids_refines {α} (v : Variant) (hv : v.f15Fixed = true) (hlf : v.lateFill = true) (W H : Nat) (f : α)
    (im : Img α) (s : Ref α) (op : IdOp α) (hval : op.Valid W H) (h : Sim f W H im s) :
    Sim f W H (stepIds v W H f im op).1 (stepRef s op).1 ∧ (stepIds v W H f im op).2 = (stepRef s op).2 := by
  obtain ⟨hids, hcomp, hco, hrep⟩ := h
  cases op with
  | select k =>
    simp only [stepIds, stepRef, Book.select, hids]
    cases s.ids.contains k
    · exact ⟨⟨rfl, hcomp, hco, hrep⟩, rfl⟩
    · exact ⟨⟨hids, hcomp, hco, hrep⟩, rfl⟩
  | endaccess k =>
    simp only [stepIds, stepRef, Book.endaccess, hids]
    cases s.ids.contains k <;> simp only [Bool.not_true, Bool.not_false, Bool.false_eq_true, ↓reduceIte]
    · exact ⟨⟨hids, hcomp, hco, hrep⟩, trivial⟩
    · refine ⟨⟨?_, ?_, ?_, hrep⟩, trivial⟩ <;> split
      exacts [rfl, rfl, hcomp, hcomp, coherent_closeAid _ _ hco, hco]
  | setcompress k =>
    simp only [stepIds, stepRef, Book.setcompress, hids, hcomp]
    cases s.ids.contains k <;> cases hc : s.comp
    · exact ⟨⟨hids, hcomp, hco, hrep⟩, rfl⟩
    · exact ⟨⟨hids, hcomp, hco, hrep⟩, rfl⟩
    · have h0 := coherent_closeAid _ _ hco
      exact ⟨⟨hids, rfl, ⟨h0.1, h0.2.1, h0.2.2.1, fun he => ⟨rfl, (h0.2.2.2 he).2⟩⟩, hrep⟩, rfl⟩
    · exact ⟨⟨hids, hcomp, hco, hrep⟩, rfl⟩
  | write k r vals =>
    obtain ⟨⟨hs, hi⟩, hl⟩ := hval
    simp only [stepIds, stepRef]
    rw [← hids]
    cases hk : im.bk.ids.contains k with
    | false =>
      simp only [Img.write, hk, Bool.not_false, if_true, Bool.false_eq_true, if_false]
      exact ⟨⟨hids, hcomp, hco, hrep⟩, trivial⟩
    | true =>
      obtain ⟨hwf, hr⟩ := hrep
      have hw := grWrite_eq v W H f r vals im.st (Or.inl hv) hs hi hl hwf
      obtain ⟨cg, tg, ig, bg⟩ := coherent_getaid im.st im.bk true hco
      simp only [Img.write, hk, Bool.not_true, Bool.false_eq_true, if_false, hs, hi, Bool.and_false, Bool.or_false,
        view_eq im hco, hw, if_true]
      have hst := step_refines v W H f im.st s.a (.write r vals) (Or.inl hv) ⟨⟨hs, hi⟩, hl⟩ ⟨hwf, hr⟩
      simp only [stepImg, stepArr, hw, Option.getD_some, and_true] at hst
      refine ⟨⟨?_, ?_, coherent_wrote _ _ tg rfl, hst⟩, trivial⟩
      · simp [Book.wrote, ig]
      · simp [Book.wrote, bg, hcomp]
  | read k r =>
    obtain ⟨hs, hi⟩ := hval
    simp only [stepIds, stepRef]
    rw [← hids]
    cases hk : im.bk.ids.contains k with
    | false =>
      simp only [Img.read, hk, Bool.not_false, if_true, Bool.false_eq_true, if_false, Option.map_none]
      exact ⟨⟨hids, hcomp, hco, hrep⟩, trivial⟩
    | true =>
      obtain ⟨x, hx, hx'⟩ := grRead_rep v W H f im.st s.a r ⟨hs, hi⟩ hrep
      simp only [Img.read, hk, Bool.not_true, Bool.false_eq_true, if_false, hs, hi, Bool.and_false, Bool.or_false,
        view_eq im hco, if_true, hx]
      constructor
      · split
        · obtain ⟨cg, _, ig, bg⟩ := coherent_getaid im.st im.bk false hco
          exact ⟨by simp [ig, hids], by simp [bg, hcomp], cg, hrep⟩
        · exact ⟨hids, hcomp, hco, hrep⟩
      · cases x <;> exact congrArg some hx'
  | reopen =>
    simp only [stepIds, stepRef, Img.reopen]
    refine ⟨⟨rfl, ?_, coherent_reopened v _ _ hco, ?_⟩, trivial⟩
    · show im.bk.reopened.buffered = s.comp
      simp [Book.reopened, Book.closeAid, hcomp]
    · obtain ⟨hwf, hr⟩ := hrep
      refine ⟨?_, hr⟩
      unfold Store.WF at *
      cases he : im.st.elem <;> simp_all

/-- **Ids are views of one image.** For every image size and fill pixel, every finite sequence of `GRselect`,
    `GRendaccess`, `GRsetcompress`, valid region writes and (strided) reads THROUGH ANY HANDLE, and reopen – starting from
    any state whose bookkeeping agrees with its element (`Sim`; in particular a new image, `new_image_sim`) – every call
    returns what the reference machine returns: one `H × W` array per image whatever id is used, a set of open handles,
    `FAIL` exactly for calls through a handle that is not open (and a second `GRsetcompress`). So a read through any open
    id returns the pixels last written through any id – also for data that so far exist only in the buffer of a
    compressed element, also after the id that wrote them was released, also for the first write of a new image – and
    never-written pixels are the fill pixel. The decision "the image has data" is taken from `tagSet`/`data_modified`/
    `Hlength` as the C takes it (`Book.hasData`), not from the element. -/
theorem gr_ids_are_views {α} (v : Variant) (hv : v.f15Fixed = true) (hlf : v.lateFill = true) (W H : Nat) (f : α) :
    ∀ (ops : List (IdOp α)) (im : Img α) (s : Ref α), (∀ op ∈ ops, op.Valid W H) → Sim f W H im s →
    (runIds v W H f im ops).2 = (runRef s ops).2 ∧ Sim f W H (runIds v W H f im ops).1 (runRef s ops).1 := by
  intro ops
  induction ops with
  | nil => intro im s _ h; simp [runIds, runRef, h]
  | cons op ops ih =>
    intro im s hval h
    obtain ⟨h1, h2⟩ := step_ids_refines v hv hlf W H f im s op (hval op (by simp)) h
    obtain ⟨g1, g2⟩ := ih _ _ (fun o ho => hval o (by simp [ho])) h1
    simp only [runIds, runRef]
    exact ⟨by rw [h2, g1], g2⟩

/-- a new image (`GRcreate`: one id, no tag/ref, no access id, `data_modified = FALSE`) is the all-fill array -/
theorem new_image_sim {α} (f : α) (W H k : Nat) :
    Sim f W H ({ bk := { ids := [k] } } : Img α) { ids := [k], comp := false, a := fun _ => f } :=
  ⟨rfl, rfl, ⟨by simp, by simp, by simp, by simp⟩, new_image_rep f W H⟩

/-- the bookkeeping and the element agree in every reachable state: `new_image` is computed right -/
theorem gr_hasData_iff_element {α} (v : Variant) (hv : v.f15Fixed = true) (hlf : v.lateFill = true) (W H k : Nat) (f : α)
    (ops : List (IdOp α)) (hval : ∀ op ∈ ops, op.Valid W H) :
    (runIds v W H f ({ bk := { ids := [k] } } : Img α) ops).1.bk.hasData
      = (runIds v W H f ({ bk := { ids := [k] } } : Img α) ops).1.st.elem.isSome :=
  hasData_eq _ _ (gr_ids_are_views v hv hlf W H f ops _ _ hval (new_image_sim f W H k)).2.2.2.1

/-- **Write through one id, release it, read through another** (the access id stays open: a compressed image is still
    only in its buffer): the read returns the written pixels. Any coherent state, any two distinct open handles. -/
theorem gr_write_release_read {α} (v : Variant) (hv : v.f15Fixed = true) (hlf : v.lateFill = true) (W H : Nat) (f : α)
    (im : Img α) (s : Ref α) (h : Sim f W H im s) (k1 k2 : Nat) (hne : k1 ≠ k2) (h1 : s.ids.contains k1 = true)
    (h2 : s.ids.contains k2 = true) (r : Req) (vals : List α) (hval : Valid W H r) (hl : vals.length = r.cx * r.cy) :
    (runIds v W H f im [.write k1 r vals, .endaccess k1, .read k2 r]).2 = [some [], some [], some vals] := by
  have hops : ∀ op ∈ [IdOp.write k1 r vals, .endaccess k1, .read k2 r], op.Valid W H := by
    intro op ho
    simp only [List.mem_cons, List.not_mem_nil, or_false] at ho
    rcases ho with rfl | rfl | rfl
    exacts [⟨hval, hl⟩, trivial, hval]
  rw [(gr_ids_are_views v hv hlf W H f _ im s hops h).1]
  have hk2 : (s.ids.erase k1).contains k2 = true := by
    simp only [List.contains_eq_mem, decide_eq_true_eq] at *
    exact (List.mem_erase_of_ne (Ne.symm hne)).mpr h2
  simp only [runRef, stepRef, h1, hk2, if_true]
  rw [assign_map_self (cellsOf r) vals s.a (cellsOf_nodup hval) (by rw [cellsOf_length, hl])]

example : (∀ op ∈ [IdOp.select 1, .setcompress 1, .write 0 ⟨1, 0, 2, 3, 2, 2⟩ [6, 7, 8, 9], .endaccess 0, .read 1 ⟨0, 3, 1, 1, 5, 1⟩],
    op.Valid (α := Nat) 5 4) := by
  intro op ho
  simp only [List.mem_cons, List.not_mem_nil, or_false] at ho
  rcases ho with rfl | rfl | rfl | rfl | rfl
  · trivial
  · trivial
  · exact ⟨by decide, by decide⟩
  · trivial
  · show Valid 5 4 _
    decide

/-- new 5×4 image, compressed through a second id; first (strided) write through id 0, id 0 released while the data are
    still in the coder's buffer; id 1 reads them, writes more, the released id is refused, a third id of the next
    session reads everything -/
example : (runIds Variant.current 5 4 0 ({ bk := { ids := [0] } } : Img Nat)
    [.select 1, .setcompress 1, .write 0 ⟨1, 0, 2, 3, 2, 2⟩ [6, 7, 8, 9], .endaccess 0, .read 1 ⟨0, 3, 1, 1, 5, 1⟩,
     .write 1 ⟨3, 3, 1, 1, 2, 1⟩ [1, 2], .read 0 ⟨0, 3, 1, 1, 5, 1⟩, .reopen, .read 1 ⟨0, 0, 1, 1, 1, 1⟩, .select 2,
     .read 2 ⟨1, 0, 2, 3, 2, 2⟩]).2
    = [some [], some [], some [], some [], some [0, 8, 0, 9, 0], some [], none, some [], none, some [], some [6, 7, 8, 1]] := by
  decide +kernel

/-- WHAT-IF, not the code: a `GRendaccess` that also cleared `data_modified` ("nothing is left pending"). -/
def endaccessClearing (k : Nat) (b : Book) : Option Book := (b.endaccess k).map fun b' => { b' with dataModified := false }

/-- …then `Coherent` (hence `gr_ids_are_views`) breaks as soon as one of two ids of a compressed new image is released
    after the first write: the element exists (in the buffer), the bookkeeping says "no data", and the other id reads
    fill pixels instead of the pixels written. With the real `Book.endaccess` the same read returns the data. -/
example :
    let im0 : Img Nat := { bk := { ids := [0, 1], buffered := true, tagSet := true, aid := true, aidW := true } }
    let im1 := (im0.write Variant.current 2 2 0 0 ⟨0, 0, 1, 1, 2, 1⟩ [5, 6]).1
    let bad : Img Nat := { im1 with bk := (endaccessClearing 0 im1.bk).getD im1.bk }
    let good : Img Nat := { im1 with bk := (im1.bk.endaccess 0).getD im1.bk }
    bad.st.elem = some [5, 6, 0, 0] ∧ bad.bk.hasData = false ∧
    (bad.read Variant.current 2 2 0 1 ⟨0, 0, 1, 1, 2, 1⟩).2 = some (.inl 2) ∧
    good.bk.hasData = true ∧ (good.read Variant.current 2 2 0 1 ⟨0, 0, 1, 1, 2, 1⟩).2 = some (.inr [5, 6]) := by
  decide +kernel

/-- **The id-taking calls are the plain calls.** With coherent bookkeeping and an open handle, `GRwriteimage`/`GRreadimage`
    through that handle do to the image exactly what the single-id model functions do (so `gr_write_read_bytes`,
    `gr_read_interlace`, … hold through every id); only the bookkeeping moves, and it stays coherent. -/
theorem gr_id_calls_eq (v : Variant) (ri : RI) (k : Nat) (r : Req) (data : List UInt8) (hco : Coherent ri.st ri.bk)
    (hk : ri.bk.ids.contains k = true) (hval : Valid ri.W ri.H r) :
    (GRwriteimageId v ri k r data).2 = (GRwriteimage v ri r data).isSome ∧
    (∀ ri', GRwriteimage v ri r data = some ri' →
      (GRwriteimageId v ri k r data).1 = { ri' with bk := (ri.bk.getaid true).wrote } ∧
      (ri'.st.elem.isSome = true → Coherent ri'.st (ri.bk.getaid true).wrote)) ∧
    (GRreadimageId v ri k r).2 = GRreadimage v ri r ∧ (GRreadimageId v ri k r).1.st = ri.st ∧
    Coherent ri.st (GRreadimageId v ri k r).1.bk := by
  obtain ⟨hs, hi⟩ := hval
  have hview : ri.view = ri := by
    unfold RI.view
    rw [view_eq ⟨ri.st, ri.bk⟩ hco]
  simp only [GRwriteimageId, GRreadimageId, hk, hs, hi, hview, Bool.not_true, Bool.false_eq_true, if_false, Bool.and_false, Bool.or_false,
    true_and]
  refine ⟨by cases GRwriteimage v ri r data <;> rfl, fun ri' hw => ?_, ?_⟩
  · rw [hw]
    exact ⟨rfl, coherent_wrote _ _ (coherent_getaid ri.st ri.bk true hco).2.1⟩
  · split
    · exact (coherent_getaid ri.st ri.bk false hco).1
    · exact hco

/-- a call through a handle that is not open fails and changes nothing -/
theorem gr_closed_id_refused (v : Variant) (ri : RI) (k : Nat) (r : Req) (data : List UInt8) (hk : ri.bk.ids.contains k = false) :
    GRwriteimageId v ri k r data = (ri, false) ∧ GRreadimageId v ri k r = (ri, none) := by
  simp only [GRwriteimageId, GRreadimageId, hk, Bool.not_false, if_true, and_self]

end H4.Props.C09Region
