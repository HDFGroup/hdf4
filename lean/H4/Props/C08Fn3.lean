import H4.Lemmas.VgUnpackRun
import H4.Lemmas.VgUnpackReader
import H4.Props.C08Fn
import H4.Props.C08
/-! C08 / C02, function-level Tie A, DECODE side: `vunpackvg` of `hdf/src/vgp.c`, as translated statement by statement from the
    CURRENT C text (`H4.Gen.Fn.Vgp3`, written by gen/c2lean.py on every run), against the hand-written reader
    `H4.VGroup.vunpackvg` that the C08 codec theorems (`H4.Props.C08.vpackvg_roundtrip` …) are about.

    * `vunpackvg_refines`: for EVERY buffer (`rec` of any length followed by any `tail`, e.g. the stale rest of the static
      `Vgbuf`) that the reader accepts (`vunpackvg rec = some g`) the translated C never indexes outside a region, terminates,
      returns SUCCEED and leaves exactly `g` in `*vg` (`Body`, `V4`).
    * `vunpackvg_c_roundtrip`: translated `vunpackvg` ∘ translated `vpackvg` = identity on every Vgroup the format represents.
    * OBSERVATION, the example at the end (witness inputs; the general statement is not proved, the cross-run tests it): the C function has NO length check.  When the reader refuses a record
      (`none` = "the C code would read outside `buf[0..len)`") and the buffer ends with the record, the translated code does
      read outside the buffer (`ub = true`) - a memory-safety observation on crafted / truncated files (repro/vgroup/vg_trunc.c) -
      except for a negative attribute count, where the allocation fails and the function returns FAIL. -/
namespace H4.Props.C08Fn3
open H4 H4.VGroup H4.Gen.Hdf H4.C2L H4.Lemmas.C08Fn3
open H4.Lemmas.C08Fn (bytesI StrArg vpackvgC)
open H4.Gen.Fn.Vgp3 (vunpackvg.St)

theorem consts : MAXNVELT = 64 ∧ VSET_NEW_VERSION = 4 ∧ VG_ATTR_SET = 1 := by decide

/-- `*vg` after the call holds the members, names and expansion tag/ref of `g`: `nvelt`, `msize = max nvelt MAXNVELT`, two
    fresh arrays of `msize` cells whose first `nvelt` cells are the tags / refs (the rest is indeterminate: poison 170),
    name and class as C strings in fresh blocks (or NULL), `extag`, `exref` -/
structure Body (g : VG) (s : St) : Prop where
  nvelt : s.vg_nvelt = (g.members.length : Int)
  msize : s.vg_msize = ((max g.members.length MAXNVELT : Nat) : Int)
  tag : s.vg_tag = ints (g.members.map (·.1)) ++ List.replicate (max g.members.length MAXNVELT - g.members.length) 170
  ref : s.vg_ref = ints (g.members.map (·.2)) ++ List.replicate (max g.members.length MAXNVELT - g.members.length) 170
  tag_nn : s.vg_tag_null = false
  ref_nn : s.vg_ref_null = false
  name : StrArg g.name s.vg_vgname_null s.vg_vgname
  cls : StrArg g.cls s.vg_vgclass_null s.vg_vgclass
  extag : s.vg_extag = (g.extag : Int)
  exref : s.vg_exref = (g.exref : Int)

theorem strArg_of (rec : Bytes) (tail : List Int) (p l : Nat) (null : Bool) (str : List Int)
    (hn : null = decide (l = 0)) (hs : l ≠ 0 → str = strAt (bytesI rec ++ tail) p l) (hl : p + l ≤ rec.length) :
    StrArg (if l = 0 then none else some (nameAt rec p l)) null str := by
  by_cases h0 : l = 0
  · simp only [h0, if_true, StrArg]; simp [hn, h0]
  · simp only [if_neg h0, StrArg]
    refine ⟨by simp [hn, h0], List.replicate (l - (nameAt rec p l).length) 170, ?_⟩
    rw [hs h0, SStr_arg rec tail p l hl]

theorem body_of (rec : Bytes) (tail : List Int) (s : St) (hb : pE (bytesI rec ++ tail) + 4 ≤ rec.length) :
    Body (baseVG rec (bytesI rec ++ tail)) (Sb9 (bytesI rec ++ tail) s) := by
  generalize hB : bytesI rec ++ tail = B at hb ⊢
  have hpos : pN B = 2 + 4 * nvN B ∧ pC B = pN B + 2 + lN B ∧ pE B = pC B + 2 + lC B := ⟨rfl, rfl, rfl⟩
  have hm : (baseVG rec B).members.length = nvN B := by simp [baseVG]
  have h1 : (baseVG rec B).members.map (·.1) = valsN B 2 2 (nvN B) := map_fst_zip_eq _ _ (by simp)
  have h2 : (baseVG rec B).members.map (·.2) = valsN B (2 + 2 * nvN B) 2 (nvN B) := map_snd_zip_eq _ _ (by simp)
  obtain ⟨n1, n2⟩ := Sb9_name B s
  obtain ⟨c1, c2⟩ := Sb9_class B s
  refine ⟨?_, ?_, ?_, ?_, Sb9_tag_null B s, Sb9_ref_null B s, ?_, ?_, ?_, ?_⟩
  · rw [Sb9_nvelt, hm]
  · rw [Sb9_msize, hm, consts.1]
  · rw [Sb9_tag, hm, h1, consts.1, vals_eq, fill_zero (nvN B) _ _ (by simp)]
  · rw [Sb9_ref, hm, h2, consts.1, vals_eq, fill_zero (nvN B) _ _ (by simp)]
  · subst hB
    exact strArg_of rec tail _ _ _ _ n1 n2 (by omega)
  · subst hB
    exact strArg_of rec tail _ _ _ _ c1 c2 (by omega)
  · rw [Sb9_extag, be16_eq]; rfl
  · rw [Sb9_exref, be16_eq]; rfl

/-- the version-4 part of `*vg` (`fl0 …` = what the members held before the call: the C code assigns `flags` only for version 4 and
    `nattrs` / `alist` only under `VG_ATTR_SET`; `VPgetinfo` passes a zeroed node) -/
def V4 (g : VG) (s : St) (fl0 na0 : Int) (an0 : Bool) (at0 ar0 : List Int) : Prop :=
  if toI16 g.version = VSET_NEW_VERSION then
    s.vg_flags = (g.flags : Int) ∧
    (if g.flags &&& VG_ATTR_SET ≠ 0 then
       s.vg_nattrs = (g.attrs.length : Int) ∧ s.vg_alist_null = false ∧ s.vg_alist_atag = ints (g.attrs.map (·.1)) ∧
         s.vg_alist_aref = ints (g.attrs.map (·.2))
     else g.attrs = [] ∧ s.vg_nattrs = na0 ∧ s.vg_alist_null = an0 ∧ s.vg_alist_atag = at0 ∧ s.vg_alist_aref = ar0)
  else g.flags = 0 ∧ g.attrs = [] ∧ s.vg_flags = fl0 ∧ s.vg_nattrs = na0 ∧ s.vg_alist_null = an0 ∧ s.vg_alist_atag = at0 ∧
    s.vg_alist_aref = ar0

theorem init0 (version more nvelt msize : Int) (tagnull : Bool) (tag : List Int) (refnull : Bool) (ref : List Int) (nnull : Bool)
    (nstr : List Int) (cnull : Bool) (cstr : List Int) (extag exref flags nattrs : Int) (anull : Bool) (atag aref : List Int)
    (buf : List Int) (L : Nat) :
    Init buf L (st0 version more nvelt msize tagnull tag refnull ref nnull nstr cnull cstr extag exref flags nattrs anull atag aref buf L) :=
  ⟨rfl, rfl, rfl, rfl, rfl, rfl⟩

theorem and_one (f : Nat) : f &&& VG_ATTR_SET ≠ 0 ↔ f % 2 = 1 := by
  rw [consts.2.2, Nat.and_one_is_mod]; omega

/-- **`vunpackvg` as translated from vgp.c computes the model's Vgroup** - for EVERY record `rec` (any length, any bytes) that
    the hand-written reader accepts, followed in the buffer by anything (`tail`), with `len = |rec|`, and whatever `*vg` held
    before (`v0 … ar0`).  `fuel ≥ |rec|` bounds the three loop counts.
    Result: no access outside a region (`buf`, the fresh arrays and strings), the loops terminate, the function returns SUCCEED,
    `vg->version` / `vg->more` are the `int16` values of the model's patterns; for a version ≤ 4 the members, names, `extag`,
    `exref` (`Body`) and the version-4 fields (`V4`) are the model's; for a version above 4 nothing else is assigned and the
    model's Vgroup is empty. -/
theorem vunpackvg_refines (rec : Bytes) (tail : List Int) (g : VG) (hg : VGroup.vunpackvg rec = some g) (fuel : Nat)
    (hf : rec.length ≤ fuel) (v0 m0 n0 ms0 : Int) (tn0 : Bool) (t0 : List Int) (rn0 : Bool) (r0 : List Int) (nn0 : Bool)
    (ns0 : List Int) (cn0 : Bool) (cs0 : List Int) (et0 er0 fl0 na0 : Int) (an0 : Bool) (at0 ar0 : List Int) :
    let s := vunpackvgC fuel v0 m0 n0 ms0 tn0 t0 rn0 r0 nn0 ns0 cn0 cs0 et0 er0 fl0 na0 an0 at0 ar0 (bytesI rec ++ tail) rec.length
    s.ub = false ∧ s.oof = false ∧ s.ret = 0 ∧ s.vg_version = toI16 g.version ∧ s.vg_more = toI16 g.more ∧
      (toI16 g.version ≤ 4 → Body g s ∧ V4 g s fl0 na0 an0 at0 ar0) ∧
      (¬ toI16 g.version ≤ 4 → g = { version := g.version, more := g.more } ∧ s.vg_nvelt = n0 ∧ s.vg_msize = ms0 ∧
        s.vg_tag_null = tn0 ∧ s.vg_tag = t0 ∧ s.vg_ref_null = rn0 ∧ s.vg_ref = r0 ∧ s.vg_vgname_null = nn0 ∧ s.vg_vgname = ns0 ∧
        s.vg_vgclass_null = cn0 ∧ s.vg_vgclass = cs0 ∧ s.vg_extag = et0 ∧ s.vg_exref = er0 ∧ s.vg_flags = fl0 ∧
        s.vg_nattrs = na0 ∧ s.vg_alist_null = an0 ∧ s.vg_alist_atag = at0 ∧ s.vg_alist_aref = ar0) := by
  intro s
  have hs : s = run fuel (st0 v0 m0 n0 ms0 tn0 t0 rn0 r0 nn0 ns0 cn0 cs0 et0 er0 fl0 na0 an0 at0 ar0 (bytesI rec ++ tail) rec.length) :=
    vunpackvg_phases _ _ _ _ _ _ _ _ _ _ _ _ _ _ _ _ _ _ _ _ _ _
  have hi := init0 v0 m0 n0 ms0 tn0 t0 rn0 r0 nn0 ns0 cn0 cs0 et0 er0 fl0 na0 an0 at0 ar0 (bytesI rec ++ tail) rec.length
  -- what the case analysis needs of the state after `exref`, taken before that state and the buffer become variables
  obtain ⟨x1, x2, x3, x4, x5, x6, x7, x8⟩ := Sb9_keep (bytesI rec ++ tail) rec.length
    (st0 v0 m0 n0 ms0 tn0 t0 rn0 r0 nn0 ns0 cn0 cs0 et0 er0 fl0 na0 an0 at0 ar0 (bytesI rec ++ tail) rec.length)
  have hb9 := body_of rec tail (SPre (bytesI rec ++ tail) rec.length
    (st0 v0 m0 n0 ms0 tn0 t0 rn0 r0 nn0 ns0 cn0 cs0 et0 er0 fl0 na0 an0 at0 ar0 (bytesI rec ++ tail) rec.length))
  replace x4 : _ = fl0 := x4
  replace x5 : _ = na0 := x5
  replace x6 : _ = an0 := x6
  replace x7 : _ = at0 := x7
  replace x8 : _ = ar0 := x8
  have hhi : ∀ t : St, t = Epi (SPre (bytesI rec ++ tail) rec.length
      (st0 v0 m0 n0 ms0 tn0 t0 rn0 r0 nn0 ns0 cn0 cs0 et0 er0 fl0 na0 an0 at0 ar0 (bytesI rec ++ tail) rec.length)) →
      t.vg_nvelt = n0 ∧ t.vg_msize = ms0 ∧ t.vg_tag_null = tn0 ∧ t.vg_tag = t0 ∧ t.vg_ref_null = rn0 ∧ t.vg_ref = r0 ∧ t.vg_vgname_null = nn0 ∧
        t.vg_vgname = ns0 ∧ t.vg_vgclass_null = cn0 ∧ t.vg_vgclass = cs0 ∧ t.vg_extag = et0 ∧ t.vg_exref = er0 ∧ t.vg_flags = fl0 ∧
        t.vg_nattrs = na0 ∧ t.vg_alist_null = an0 ∧ t.vg_alist_atag = at0 ∧ t.vg_alist_aref = ar0 :=
    fun _ e => e ▸ ⟨rfl, rfl, rfl, rfl, rfl, rfl, rfl, rfl, rfl, rfl, rfl, rfl, rfl, rfl, rfl, rfl, rfl⟩
  generalize st0 v0 m0 n0 ms0 tn0 t0 rn0 r0 nn0 ns0 cn0 cs0 et0 er0 fl0 na0 an0 at0 ar0 (bytesI rec ++ tail) rec.length = S0
    at hs hi x1 x2 x3 x4 x5 x6 x7 x8 hb9 hhi
  have hBl : (bytesI rec ++ tail).length = rec.length + tail.length := by simp
  generalize hB : bytesI rec ++ tail = B at hs hi hBl x1 x2 x3 x4 x5 x6 x7 x8 hb9 hhi
  have hpos : pN B = 2 + 4 * nvN B ∧ pC B = pN B + 2 + lN B ∧ pE B = pC B + 2 + lC B := ⟨rfl, rfl, rfl⟩
  have hnv := be16N_lt B 0
  have tv := toI16_w16 B (rec.length - 5)
  have tm := toI16_w16 B (rec.length - 3)
  obtain ⟨h5, ⟨hv, rfl⟩ | ⟨hv, hE, hg⟩⟩ := vunpackvg_inv rec tail g hg B hB
  · obtain ⟨r, r1, r2, r3⟩ := run_hi hi fuel h5 (by omega) (by rw [← tv]; exact hv)
    rw [← hs] at r
    rw [r]
    exact ⟨r1, r2, r3, tv.symm, tm.symm, fun h => absurd h hv, fun _ => ⟨rfl, hhi _ rfl⟩⟩
  have hb9 := hb9 (by omega)
  generalize hX : Sb9 B (SPre B rec.length S0) = X at x1 x2 x3 x4 x5 x6 x7 x8 hb9
  have hv' : w16 (be16 B (rec.length - 5)) ≤ 4 := by rw [← tv]; exact hv
  obtain ⟨hv4, rfl⟩ | ⟨hv4, hE8, hg⟩ := hg
  · obtain ⟨r, r1, r2, r3⟩ := run_old hi fuel h5 (by omega) hv' (by rw [← tv]; rw [consts.2.1] at hv4; exact hv4) (by omega) (by omega)
    rw [← hs, hX] at r
    rw [hX] at r1 r2
    rw [r]
    exact ⟨r1, r2, x3, x1.trans tv.symm, x2.trans tm.symm,
      fun _ => ⟨⟨hb9.nvelt, hb9.msize, hb9.tag, hb9.ref, hb9.tag_nn, hb9.ref_nn, hb9.name, hb9.cls, hb9.extag, hb9.exref⟩,
        (if_neg hv4).mpr ⟨rfl, rfl, x4, x5, x6, x7, x8⟩⟩, fun h => absurd hv h⟩
  have hv4' : w16 (be16 B (rec.length - 5)) = 4 := by rw [← tv]; rw [consts.2.1] at hv4; exact hv4
  obtain ⟨hat, rfl⟩ | ⟨hat, hna, hEp, rfl⟩ := hg
  · obtain ⟨r, r1, r2, r3⟩ := run_v4 hi fuel h5 (by omega) hv4' (by omega) (by have := and_one (be32N B (pE B + 4)); omega) (by omega)
    rw [← hs] at r r1 r2 r3
    rw [hX] at r
    refine ⟨r1, r2, r3, ?_⟩
    rw [r]
    exact ⟨x1.trans tv.symm, x2.trans tm.symm,
      fun _ => ⟨⟨hb9.nvelt, hb9.msize, hb9.tag, hb9.ref, hb9.tag_nn, hb9.ref_nn, hb9.name, hb9.cls, hb9.extag, hb9.exref⟩,
        (if_pos hv4).mpr ⟨be32_eq B _, (if_neg hat).mpr ⟨rfl, x5, x6, x7, x8⟩⟩⟩, fun h => absurd hv h⟩
  · obtain ⟨r, r1, r2, r3⟩ := run_attr hi fuel h5 (by omega) hv4' ((and_one _).mp hat) hna (by omega) (by omega) (by omega)
    rw [← hs] at r r1 r2 r3
    rw [hX] at r
    refine ⟨r1, r2, r3, ?_⟩
    rw [r]
    have e12 : pE B + 4 + 8 = pE B + 12 := by omega
    have e14 : pE B + 4 + 8 + 2 = pE B + 12 + 2 := by omega
    refine ⟨x1.trans tv.symm, x2.trans tm.symm,
      fun _ => ⟨⟨hb9.nvelt, hb9.msize, hb9.tag, hb9.ref, hb9.tag_nn, hb9.ref_nn, hb9.name, hb9.cls, hb9.extag, hb9.exref⟩,
        (if_pos hv4).mpr ⟨be32_eq B _, (if_pos hat).mpr ⟨?_, rfl, ?_, ?_⟩⟩⟩, fun h => absurd hv h⟩
    · show ((be32N B (pE B + 8) : Nat) : Int) = _; simp [pairsN]
    · show fill (List.replicate _ 170) 0 (vals B (pE B + 4 + 8) 4 _) = _
      rw [e12, vals_eq, fill_zero' _ _ (by simp), ← (pairsN_unzip B _ _).1]
    · show fill (List.replicate _ 170) 0 (vals B (pE B + 4 + 8 + 2) 4 _) = _
      rw [e14, vals_eq, fill_zero' _ _ (by simp), ← (pairsN_unzip B _ _).2]

/-- the hypotheses are satisfiable and the translated code runs (kernel evaluation of the generated definition): a version-4
    record with two members, a name, no class, flags 1 and two attributes, followed by two stale bytes; `*vg` zeroed -/
example :
    let g : VG := { members := [(1965, 2), (1962, 3)], name := some [65, 66], version := 4, more := 7, flags := 1,
                    attrs := [(1962, 5), (1962, 65535)] }
    let rc := vpackvgF true g
    VGroup.vunpackvg rc = some g ∧ rc.length = 41 ∧
    let s := vunpackvgC 41 0 0 0 0 true [] true [] true [] true [] 0 0 0 0 true [] [] (bytesI rc ++ [9, 9]) 41
    s.ub = false ∧ s.oof = false ∧ s.ret = 0 ∧ s.vg_version = 4 ∧ s.vg_more = 7 ∧ s.vg_nvelt = 2 ∧ s.vg_msize = 64 ∧
      s.vg_tag.take 3 = [1965, 1962, 170] ∧ s.vg_ref.take 3 = [2, 3, 170] ∧ s.vg_vgname = [65, 66, 0] ∧ s.vg_vgname_null = false ∧
      s.vg_vgclass_null = true ∧ s.vg_flags = 1 ∧ s.vg_nattrs = 2 ∧ s.vg_alist_atag = [1962, 1962] ∧ s.vg_alist_aref = [5, 65535] := by
  decide +kernel

/-- the same run through the theorem -/
example :
    let g : VG := { members := [(1965, 2), (1962, 3)], name := some [65, 66], version := 4, more := 7, flags := 1,
                    attrs := [(1962, 5), (1962, 65535)] }
    let s := vunpackvgC 41 0 0 0 0 true [] true [] true [] true [] 0 0 0 0 true [] [] (bytesI (vpackvgF true g) ++ [9, 9]) 41
    s.ub = false ∧ Body g s :=
  have h := vunpackvg_refines (vpackvgF true { members := [(1965, 2), (1962, 3)], name := some [65, 66], version := 4, more := 7, flags := 1, attrs := [(1962, 5), (1962, 65535)] })
    [9, 9] _ (by decide) 41 (by decide)
    0 0 0 0 true [] true [] true [] true [] 0 0 0 0 true [] []
  ⟨h.1, (h.2.2.2.2.2.1 (by decide)).1⟩

/-- a name with a NUL inside (the reader stops there), a version above 4 (nothing but version and more is read) -/
example :
    let r1 : Bytes := [0, 0, 0, 3, 65, 0, 66, 0, 0, 0, 0, 0, 0, 0, 3, 0, 0, 0]
    let s1 := vunpackvgC 18 0 0 0 0 true [] true [] true [] true [] 0 0 0 0 true [] [] (bytesI r1) 18
    VGroup.vunpackvg r1 = some { name := some [65], version := 3 } ∧ s1.ub = false ∧ s1.vg_vgname = [65, 0, 170, 170] ∧
    let r2 : Bytes := [255, 255, 1, 2, 3, 0, 5, 0, 9, 0]
    let s2 := vunpackvgC 10 0 0 0 0 true [] true [] true [] true [] 0 0 0 0 true [] [] (bytesI r2) 10
    VGroup.vunpackvg r2 = some { version := 5, more := 9 } ∧ s2.ub = false ∧ s2.ret = 0 ∧ s2.vg_version = 5 ∧ s2.vg_more = 9 ∧
      s2.vg_tag_null = true := by
  decide +kernel

/-- **translated `vunpackvg` ∘ translated `vpackvg` = identity** on every Vgroup the record format represents (`VG.WFfix`, with
    `version` and `more` non-negative as `int16`: the precondition of `vpackvg_refines`): the record that the C text of `vpackvg`
    writes into `buf` (any caller buffer that is long enough), handed with the `*size` it stored to the C text of `vunpackvg`
    (on any previous content `v0 … ar0` of `*vg`), is read back without undefined behaviour as the Vgroup that was packed. -/
theorem vunpackvg_c_roundtrip (g : VG) (hw : g.WFfix) (hv : g.version < 32768) (hm : g.more < 32768)
    (fuel : Nat) (hf1 : g.members.length ≤ fuel) (hf2 : g.attrs.length ≤ fuel)
    (tpad rpad npad cpad atpad arpad buf size : List Int)
    (hbuf : (vpackvgF true g).length ≤ buf.length) (hsize : 0 < size.length)
    (fuel' : Nat) (hf3 : (vpackvgF true g).length ≤ fuel')
    (v0 m0 n0 ms0 : Int) (tn0 : Bool) (t0 : List Int) (rn0 : Bool) (r0 : List Int) (nn0 : Bool)
    (ns0 : List Int) (cn0 : Bool) (cs0 : List Int) (et0 er0 fl0 na0 : Int) (an0 : Bool) (at0 ar0 : List Int) :
    let sp := vpackvgC fuel (g.members.length : Int) (ints (g.members.map (·.1)) ++ tpad) (ints (g.members.map (·.2)) ++ rpad)
      g.name.isNone (C08Fn.cstring g.name npad) g.cls.isNone (C08Fn.cstring g.cls cpad) (g.extag : Int) (g.exref : Int) (g.flags : Int)
      (toI16 g.version) (g.attrs.length : Int) (ints (g.attrs.map (·.1)) ++ atpad) (ints (g.attrs.map (·.2)) ++ arpad)
      (g.more : Int) buf size
    let su := vunpackvgC fuel' v0 m0 n0 ms0 tn0 t0 rn0 r0 nn0 ns0 cn0 cs0 et0 er0 fl0 na0 an0 at0 ar0 sp.buf (sp.size.getD 0 0)
    sp.ub = false ∧ sp.oof = false ∧ su.ub = false ∧ su.oof = false ∧ su.ret = 0 ∧
      su.vg_version = toI16 g.version ∧ su.vg_more = (g.more : Int) ∧ Body g su ∧ V4 g su fl0 na0 an0 at0 ar0 := by
  intro sp su
  have hpv : packVersion g = g.version := by
    obtain ⟨⟨_, _, _, _, _, _, _, _, _, hf, _⟩, _⟩ := hw
    simp only [packVersion]
    split
    · rename_i h
      rw [hf h.1] at h
      exact absurd h.2 (by decide)
    · rfl
  have hp : C08Fn.Pre g := by
    obtain ⟨⟨a1, _, a3, a4, _, _, _, a8, _, _, a12, a13, _⟩, _⟩ := hw
    exact ⟨a1, a3, a4, a12, a8, by rw [hpv]; exact hv, hm, fun x => (a13 x).1⟩
  obtain ⟨p1, p2, p3, p4, _, _⟩ := C08Fn.vpackvg_refines g hp fuel hf1 (fun _ => hf2) tpad rpad npad cpad atpad arpad buf size hbuf hsize
  have hlen : sp.size.getD 0 0 = ((vpackvgF true g).length : Int) := by
    show (vpackvgC _ _ _ _ _ _ _ _ _ _ _ _ _ _ _ _ _ _).size.getD 0 0 = _
    rw [p4]
    cases size with
    | nil => exact absurd hsize (by decide)
    | cons a t => simp
  have hrt : VGroup.vunpackvg (vpackvgF true g) = some g := C08.vpackvg_roundtrip_fixed3 g hw
  have h := vunpackvg_refines (vpackvgF true g) (buf.drop (vpackvgF true g).length) g hrt fuel' hf3
    v0 m0 n0 ms0 tn0 t0 rn0 r0 nn0 ns0 cn0 cs0 et0 er0 fl0 na0 an0 at0 ar0
  have e : su = vunpackvgC fuel' v0 m0 n0 ms0 tn0 t0 rn0 r0 nn0 ns0 cn0 cs0 et0 er0 fl0 na0 an0 at0 ar0
      (bytesI (vpackvgF true g) ++ buf.drop (vpackvgF true g).length) ((vpackvgF true g).length : Int) := by
    show vunpackvgC _ _ _ _ _ _ _ _ _ _ _ _ _ _ _ _ _ _ _ _ sp.buf (sp.size.getD 0 0) = _
    rw [hlen]
    show vunpackvgC _ _ _ _ _ _ _ _ _ _ _ _ _ _ _ _ _ _ _ _ (vpackvgC _ _ _ _ _ _ _ _ _ _ _ _ _ _ _ _ _ _).buf _ = _
    rw [p3]
  rw [← e] at h
  obtain ⟨u1, u2, u3, u4, u5, u6, _⟩ := h
  have hle : toI16 g.version ≤ 4 := hw.1.2.2.2.2.2.2.2.2.1
  have hmore : toI16 g.more = (g.more : Int) := by
    simp only [toI16]; split <;> omega
  exact ⟨p1, p2, u1, u2, u3, u4, by rw [u5, hmore], (u6 hle).1, (u6 hle).2⟩

/-- OBSERVATION (memory safety on crafted records, not one of the 20 properties): `vunpackvg` has no length check; where the reader
    answers `none` the translated C text reads outside `buf[0..len)` (`ub = true`) or - for a negative attribute count - returns FAIL.
    Witnesses (on a zeroed `*vg`, the buffer ending with the record): (1) a record cut after its first 8 bytes, (2) the intact
    record with the member count raised from 2 to 258, (3) three bytes (shorter than the trailer: `&buf[len - 5]` lies before the
    buffer), (4) `nattrs = -1`: refused inside the record.  repro/vgroup/vg_trunc.c shows (1) and (2) on the compiled library. -/
example :
    let g : VG := { members := [(1965, 2), (1962, 3)], name := some [65, 66], version := 4, more := 7, flags := 1,
                    attrs := [(1962, 5), (1962, 65535)] }
    let rc := vpackvgF true g
    let z (b : Bytes) := vunpackvgC (b.length + 1) 0 0 0 0 true [] true [] true [] true [] 0 0 0 0 true [] [] (bytesI b) b.length
    VGroup.vunpackvg (rc.take 8) = none ∧ (z (rc.take 8)).ub = true ∧
    VGroup.vunpackvg (1 :: rc.drop 1) = none ∧ (z (1 :: rc.drop 1)).ub = true ∧
    VGroup.vunpackvg [0, 4, 0] = none ∧ (z [0, 4, 0]).ub = true ∧
    (let b := rc.take 24 ++ [255, 255, 255, 255] ++ rc.drop 28
     VGroup.vunpackvg b = none ∧ (z b).ub = false ∧ (z b).ret = -1) := by
  decide +kernel

end H4.Props.C08Fn3
