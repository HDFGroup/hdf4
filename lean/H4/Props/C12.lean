import H4.Lemmas.DDInit
import H4.Lemmas.DDCodec
import H4.DDConfig
/-! # C12 — the tag/ref directory (property theorems)

Model: `H4.DD` (hfiledd.c + the hfile.c callers) and `H4.Bitvect` (bitvect.c).  `Cfg` has one flag per confirmed defect
(false = the defective code, true = the fix). `Cfg.asIs` = the code before any fix; `Cfg.fixed` = all fixes in;
`H4.DD.currentCfg` = /repo today = `Cfg.fixed` (F3 fda7a17, F17 e50dd65, F4 5bd49ce, F5 e99f658, F6 1740592, F7 b11c62e)
is what Tie B checks. The defective variants stay in the model as the documented counter-witnesses below.

* Theorems named `…_partial` hold for EVERY `Cfg` (in particular `Cfg.asIs`); what they exclude is stated as the explicit,
  decidable hypothesis `guarded cfg s ops` (see `H4.DD.guard`: API preconditions + the configurations of F3/F4/F17),
  or as a hypothesis on the state.
* Theorems without the suffix are the FULL statements; they are proved for `Cfg.fixed` (the model of the fixed code) and,
  where the as-is code violates them, the `example : ¬ …` next to them refutes them for `Cfg.asIs` at a concrete witness.

A history starts from `hopenCreate cfg ndds`, the file `Hopen(path, DFACC_CREATE, ndds)` leaves (any `ndds`; `HTPinit`
raises it to `MIN_NDDS`), holding the library's version element `(DFTAG_VERSION, 1)`. -/
namespace H4.Props.C12
open H4.DD H4.Bitvect H4.Gen.Hdf

/-- the constants the proofs rely on, equal to the generated values; the three `*_SHAPE_OK` flags say that Tie A checked
    the arithmetic form of `BASETAG`/`SPECIALTAG`/`MKSPECIALTAG` used by the model on all 65536 tags -/
theorem consts :
    MAGICLEN = 4 ∧ DD_SZ = 12 ∧ NDDS_SZ = 2 ∧ OFFSET_SZ = 4 ∧ MIN_NDDS = 4 ∧ DEF_NDDS = 16 ∧ MAX_REF = 65535 ∧
    DFTAG_NULL = 1 ∧ DFTAG_WILDCARD = 0 ∧ DFREF_WILDCARD = 0 ∧ INVALID_OFFSET = -1 ∧ INVALID_LENGTH = -1 ∧
    H4.DD.DFTAG_FREE = 108 ∧ H4.Gen.DDTie.UINT16_FAIL = 65535 ∧
    H4.Gen.DDTie.BASETAG_SHAPE_OK = 1 ∧ H4.Gen.DDTie.SPECIALTAG_SHAPE_OK = 1 ∧ H4.Gen.DDTie.MKSPECIALTAG_SHAPE_OK = 1 := by
  decide

/-- **dd_refines_map (partial, every `Cfg`)**: along any guarded history the file never fails to reopen, the result of
    every call equals the specification's (offsets and fresh-ref values erased, they are not determined by a map), and the
    live `(tag, ref, length)` entries are exactly those of the map `runMap` computes — any number of DD blocks,
    any `ndds`, caching on, off or toggled. -/
theorem dd_refines_map_partial (cfg : Cfg) (ndds : Nat) (ops : List Op)
    (hg : guarded cfg (hopenCreate cfg ndds) ops = true) :
    ∃ s', (run cfg (hopenCreate cfg ndds) ops).2 = some s' ∧
      eraseOuts ops (run cfg (hopenCreate cfg ndds) ops).1 =
        (runMap cfg [(DFTAG_VERSION, 1, (LIBVER_LEN : Int))] ops).1 ∧
      s'.abs.Perm (runMap cfg [(DFTAG_VERSION, 1, (LIBVER_LEN : Int))] ops).2 := by
  obtain ⟨hi, habs⟩ := hopenCreate_inv cfg ndds
  obtain ⟨s', h1, _, h3, h4⟩ := run_refines cfg ops _ _ hi (by rw [habs]) hg
  exact ⟨s', h1, h3, h4⟩

/-- **dd_refines_map (full)**: for the fixed code the only hypotheses left are `dom`: the API preconditions
    (16-bit tags/refs, no wildcard where a single element is addressed) and no `append`, `Hnumber(DFTAG_NULL)`, `Hexist(DFTAG_NULL, wildcard)`. -/
theorem dd_refines_map (ndds : Nat) (ops : List Op) (hd : ∀ op ∈ ops, dom op = true) :
    ∃ s', (run Cfg.fixed (hopenCreate Cfg.fixed ndds) ops).2 = some s' ∧
      eraseOuts ops (run Cfg.fixed (hopenCreate Cfg.fixed ndds) ops).1 =
        (runMap Cfg.fixed [(DFTAG_VERSION, 1, (LIBVER_LEN : Int))] ops).1 ∧
      s'.abs.Perm (runMap Cfg.fixed [(DFTAG_VERSION, 1, (LIBVER_LEN : Int))] ops).2 :=
  dd_refines_map_partial Cfg.fixed ndds ops (guarded_of_dom ops _ hd)

/-- hypotheses satisfiable / theorem not vacuous: a history over two DD blocks with a delete, a duplicate onto the
    special variant of a tag, a reuse and a reopen, caching toggled -/
example : guarded Cfg.fixed (hopenCreate Cfg.fixed 4)
    [.cache false, .put 100 1 4, .put 100 2 7, .put 101 65535 3, .put 100 3 1, .del 100 2, .dup 16484 9 100 1,
     .cache true, .reuse 100 3, .put 100 3 5, .reopen, .exist 100 9, .number 100] = true := by decide +kernel
example : (run Cfg.fixed (hopenCreate Cfg.fixed 4)
    [.cache false, .put 100 1 4, .put 100 2 7, .put 101 65535 3, .put 100 3 1, .del 100 2, .dup 16484 9 100 1,
     .cache true, .reuse 100 3, .put 100 3 5, .reopen, .exist 100 9, .number 100]).1 =
    [.ok, .num 4, .num 7, .num 3, .num 1, .ok, .ok, .ok, .ok, .num 5, .ok, .ok, .cnt 3 false] := by decide +kernel

/-- F4 refutes the full statement for the code as it is: with caching off a deleted entry is back after a reopen -/
example : ¬ (∃ s', (run Cfg.asIs (hopenCreate Cfg.asIs 4) [.cache false, .put 100 1 4, .del 100 1, .reopen]).2 = some s' ∧
      s'.abs.Perm (runMap Cfg.asIs [(DFTAG_VERSION, 1, (LIBVER_LEN : Int))] [.cache false, .put 100 1 4, .del 100 1, .reopen]).2) := by
  have h : (run Cfg.asIs (hopenCreate Cfg.asIs 4) [.cache false, .put 100 1 4, .del 100 1, .reopen]).2.map File.abs =
      some [(30, 1, 92), (100, 1, 4)] := by decide +kernel
  have h2 : (runMap Cfg.asIs [(DFTAG_VERSION, 1, (LIBVER_LEN : Int))] [.cache false, .put 100 1 4, .del 100 1, .reopen]).2 =
      [(30, 1, 92)] := by decide +kernel
  rintro ⟨s', hs, hp⟩
  rw [hs] at h
  simp only [Option.map_some, Option.some.injEq] at h
  rw [h, h2] at hp
  have := hp.length_eq
  simp at this

/-- … and (with F3 and F17 already fixed, F4 not: /repo between e50dd65 and 5bd49ce) the stale descriptor of such a deletion
    could make the file unopenable: `(100,3)` is deleted, created again in the slot freed by `(100,1)`, and is then twice on disk -/
example : (run { Cfg.asIs with fixF3 := true, fixF17 := true } (hopenCreate { Cfg.asIs with fixF3 := true, fixF17 := true } 8)
    [.cache false, .put 100 1 4, .put 100 2 4, .put 100 3 4, .del 100 1, .del 100 3, .put 100 3 4, .reopen]).2 = none := by
  decide +kernel
example : (run Cfg.fixed (hopenCreate Cfg.fixed 8)
    [.cache false, .put 100 1 4, .put 100 2 4, .put 100 3 4, .del 100 1, .del 100 3, .put 100 3 4, .reopen]).2.isSome = true := by
  decide +kernel

/-- F3 (before commit fda7a17) refuted it too: with caching off the fifth element needs a second DD block and the file
    could not be reopened; today's /repo (`currentCfg`) reopens it -/
example : (run Cfg.asIs (hopenCreate Cfg.asIs 4)
    [.cache false, .put 100 1 4, .put 100 2 4, .put 100 3 4, .put 100 4 4, .reopen]).2 = none := by decide +kernel
example : (run currentCfg (hopenCreate currentCfg 4)
    [.cache false, .put 100 1 4, .put 100 2 4, .put 100 3 4, .put 100 4 4, .reopen]).2.isSome = true := by decide +kernel

/-- F17: `Hdupdd` onto a tag/ref in use leaves a second descriptor with that tag/ref in the blocks and frees the tag's
    dynarray (`ub`), instead of failing cleanly -/
example : ((run Cfg.asIs (hopenCreate Cfg.asIs 16) [.put 100 1 4, .put 100 2 4, .dup 100 2 100 1]).2.map
    (fun s => (s.ub, (s.live.filter (fun d => d.tag == 100 && d.ref == 2)).length))) = some (true, 2) := by decide +kernel
example : ((run Cfg.fixed (hopenCreate Cfg.fixed 16) [.put 100 1 4, .put 100 2 4, .dup 100 2 100 1]).2.map
    (fun s => (s.ub, (s.live.filter (fun d => d.tag == 100 && d.ref == 2)).length))) = some (false, 1) := by decide +kernel

/-- the states guarded histories reach satisfy the invariant -/
theorem reach_inv (cfg : Cfg) (ndds : Nat) (ops : List Op) (hg : guarded cfg (hopenCreate cfg ndds) ops = true) :
    ∃ s', (run cfg (hopenCreate cfg ndds) ops).2 = some s' ∧ Inv cfg s' := by
  obtain ⟨hi, habs⟩ := hopenCreate_inv cfg ndds
  obtain ⟨s', h1, h2, _⟩ := run_refines cfg ops _ _ hi (List.Perm.refl _) hg
  exact ⟨s', h1, h2⟩

/-- **persist (partial, every `Cfg`)**: after any guarded history, what `HTPstart` decodes from the flushed disk image
    (following the `nextoffset` chain from offset `MAGICLEN`) is exactly the in-memory block chain — in both cache modes. -/
theorem persist_partial (cfg : Cfg) (ndds : Nat) (ops : List Op) (hg : guarded cfg (hopenCreate cfg ndds) ops = true) :
    ∃ s', (run cfg (hopenCreate cfg ndds) ops).2 = some s' ∧
      decodeBlocks (syncedDisk s') = some (s'.blocks.map clean) := by
  obtain ⟨s', h1, hi⟩ := reach_inv cfg ndds ops hg
  exact ⟨s', h1, decode_synced hi.wf hi.disk⟩

/-- **persist (full)** for the fixed code -/
theorem persist (ndds : Nat) (ops : List Op) (hd : ∀ op ∈ ops, dom op = true) :
    ∃ s', (run Cfg.fixed (hopenCreate Cfg.fixed ndds) ops).2 = some s' ∧
      decodeBlocks (syncedDisk s') = some (s'.blocks.map clean) :=
  persist_partial Cfg.fixed ndds ops (guarded_of_dom ops _ hd)

/-- with caching off the disk is in step WITHOUT any flush: every block is clean and the disk block is its mirror -/
theorem persist_write_through (cfg : Cfg) {s : File} (h : Inv cfg s) (hc : s.cache = false) :
    decodeBlocks s.disk = some (s.blocks.map clean) := by
  have hcl := no_dirty_of_not_cached h.disk (Or.inl hc)
  have : s.disk = (hclose s).disk := by rw [hclose_disk h.disk, disk_eq_mirror_of_clean h.disk hcl]
  rw [this]
  exact decode_synced h.wf h.disk

/-- F3 (as is): a block created with caching off has all-zero descriptors on disk, memory has NIL descriptors -/
example : ((run Cfg.asIs (hopenCreate Cfg.asIs 4)
    [.cache false, .put 100 1 4, .put 100 2 4, .put 100 3 4, .put 100 4 4]).2.map
    (fun s => decide (decodeBlocks (syncedDisk s) = some (s.blocks.map clean)))) = some false := by decide +kernel

/-- what a wildcard search `(st, sr)` should report: the live descriptors with that tag (or its special variant) / ref -/
def wanted (s : File) (st sr : Nat) : List DD := s.live.filter (findMatch st sr)

theorem wanted_nodup {cfg : Cfg} {s : File} (h : Inv cfg s) (st sr : Nat) : (wanted s st sr).Nodup :=
  (List.Pairwise.of_map _ (fun _ _ hne e => hne (congrArg _ e)) h.wf.wfl.nodup).filter _

/-- **find_forward_enumerates**: iterating `Hfind(st, sr, DF_FORWARD)` from the start (at least one of `st`, `sr` a
    wildcard) returns exactly the matching live entries, in chain order — hence each once. Holds for every `Cfg`. -/
theorem find_forward_enumerates (cfg : Cfg) {s : File} (h : Inv cfg s) {st sr : Nat} (hw : st = 0 ∨ sr = 0) (h1 : st ≠ 1)
    {fuel : Nat} (hf : s.slots.length < fuel) :
    iterFind s st sr .fwd fuel 0 0 = wanted s st sr ∧ (iterFind s st sr .fwd fuel 0 0).Nodup := by
  have e : iterFind s st sr .fwd fuel 0 0 = wanted s st sr := by
    rw [iterFind_fwd h.wf hw h1 hf, filter_findMatch_live]; rfl
  exact ⟨e, e ▸ wanted_nodup h st sr⟩

/-- **find_backward_enumerates** -/
theorem find_backward_enumerates (cfg : Cfg) {s : File} (h : Inv cfg s) {st sr : Nat} (hw : st = 0 ∨ sr = 0) (h1 : st ≠ 1)
    {fuel : Nat} (hf : s.slots.length < fuel) :
    iterFind s st sr .bwd fuel 0 0 = (wanted s st sr).reverse ∧ (iterFind s st sr .bwd fuel 0 0).Nodup := by
  have e : iterFind s st sr .bwd fuel 0 0 = (wanted s st sr).reverse := by
    rw [iterFind_bwd h.wf hw h1 hf, filter_findMatch_live]; rfl
  exact ⟨e, e ▸ (List.reverse_perm _).nodup_iff.mpr (wanted_nodup h st sr)⟩

example : iterFind (run Cfg.fixed (hopenCreate Cfg.fixed 4)
      [.put 100 1 4, .put 101 2 7, .put 100 3 3, .put 100 4 1, .del 100 3, .dup 16484 9 100 1]).2.get!
      100 0 .fwd 20 0 0 = [⟨100, 1, 150, 4⟩, ⟨16484, 9, 150, 4⟩, ⟨100, 4, 218, 1⟩] := by decide +kernel

/-- **hnumber_exact (full)**: with the F5 fix `Hnumber(tag)` is the number of live entries with that tag or its special
    variant, and `HTIcount_dd` never reads outside a block — odd or even `ndds`. -/
theorem hnumber_exact (cfg : Cfg) (hfix : cfg.fixF5 = true) (s : File) {t : Nat} (h0 : t ≠ 0) (h1 : t ≠ 1) (h108 : t ≠ 108) :
    (hnumber cfg s t).1 = (s.slots.filter (numMatch t)).length ∧ (hnumber cfg s t).2 = false := by
  refine ⟨htiCountDD_count cfg s h0 h1, ?_⟩
  cases hh : (hnumber cfg s t).2 with
  | false => rfl
  | true =>
    have := (htiCountDD_oob cfg s h0 h1 h108).mp hh
    rw [hfix] at this; simp at this

/-- **hnumber_exact (partial, every `Cfg`)**: the count is right whenever no read is out of bounds, and the read past
    the end of a block happens exactly when (F5 unfixed) a block has an odd number of descriptors and its first
    descriptor does not match — the unrolled loop then tests `ddlist[ndds]`. -/
theorem hnumber_exact_partial (cfg : Cfg) (s : File) {t : Nat} (h0 : t ≠ 0) (h1 : t ≠ 1) (h108 : t ≠ 108) :
    (hnumber cfg s t).1 = (s.slots.filter (numMatch t)).length ∧
    ((hnumber cfg s t).2 = true ↔ cfg.fixF5 = false ∧ mkSpecial t ≠ DFTAG_NULL ∧
      ∃ b ∈ s.blocks, b.dds.length % 2 = 1 ∧ ∃ d0 rest, b.dds = d0 :: rest ∧ numMatch t d0 = false) :=
  ⟨htiCountDD_count cfg s h0 h1, htiCountDD_oob cfg s h0 h1 h108⟩

/-- F5: `ndds = 5`, one element of tag 100 behind the version element: `Hnumber(100)` reads `ddlist[5]` -/
example : hnumber Cfg.asIs (run Cfg.asIs (hopenCreate Cfg.asIs 5) [.put 100 1 4]).2.get! 100 = (1, true) := by decide +kernel
example : hnumber Cfg.fixed (run Cfg.fixed (hopenCreate Cfg.fixed 5) [.put 100 1 4]).2.get! 100 = (1, false) := by decide +kernel

/-- **bv_find_next_zero_spec** over the generated `bv_first_zero` / `bv_bit_mask` tables -/
theorem bv_find_next_zero_spec {b : BV} (h : b.Inv) :
    b.bit b.findNextZero.1 = false ∧ (∀ k, k < b.findNextZero.1 → b.bit k = true) ∧
    b.findNextZero.2.Inv ∧ ∀ k, b.findNextZero.2.bit k = b.bit k := findNextZero_spec h

/-- `bv_set` / `bv_get` -/
theorem bv_set_get_spec {b : BV} (h : b.Inv) (k : Nat) (v : Bool) :
    (b.set k v).Inv ∧ (∀ j, (b.set k v).get j = if j = k then (if v then 1 else 0) else b.get j) := by
  refine ⟨set_inv h k v, fun j => ?_⟩
  rw [get_eq (set_inv h k v), set_bit h, get_eq h]
  by_cases hj : j = k <;> simp [hj]

example : (BV.new.set 0 true |>.set 1 true |>.set 2 true |>.set 9 true).findNextZero.1 = 3 := by decide

/-- **hnewref_fresh (partial, every `Cfg`)**: the same whenever `maxref` bounds the live refs or the counter has wrapped -/
theorem hnewref_fresh_partial {cfg : Cfg} {s : File} (h : Inv cfg s)
    (hm : s.maxref = MAX_REF ∨ ∀ d ∈ s.live, d.ref ≤ s.maxref) :
    ((hnewref s).1 ≠ 0 → ∀ d ∈ s.live, d.ref ≠ (hnewref s).1) ∧
    ((hnewref s).1 = 0 ↔ ∀ k, 1 ≤ k → k ≤ 65535 → ∃ d ∈ s.live, d.ref = k) := by
  have := hnewref_spec (s := s) (fun hlt => hm.resolve_left (Nat.ne_of_lt hlt))
  exact ⟨this.1, this.2.1⟩

/-- **hnewref_fresh (full)**: with the F6 fix, on every reachable state a non-zero `Hnewref` result is in use under NO
    tag, and 0 is returned only when all 65535 refs are in use — before and after the 16-bit counter wraps. -/
theorem hnewref_fresh {cfg : Cfg} (hfix : cfg.fixF6 = true) {s : File} (h : Inv cfg s) :
    ((hnewref s).1 ≠ 0 → ∀ d ∈ s.live, d.ref ≠ (hnewref s).1) ∧
    ((hnewref s).1 = 0 ↔ ∀ k, 1 ≤ k → k ≤ 65535 → ∃ d ∈ s.live, d.ref = k) :=
  hnewref_fresh_partial h (Or.inr (h.maxref hfix))

/-- F6: `Hdupdd` creates `(200, 3)` without raising `maxref`; `Hnewref` then hands out 3 -/
example : ¬ (let s := (run Cfg.asIs (hopenCreate Cfg.asIs 16) [.put 100 2 4, .dup 200 3 100 2]).2.get!
    (hnewref s).1 ≠ 0 → ∀ d ∈ s.live, d.ref ≠ (hnewref s).1) := by decide +kernel
example : (let s := (run Cfg.fixed (hopenCreate Cfg.fixed 16) [.put 100 2 4, .dup 200 3 100 2]).2.get!
    (hnewref s).1) = 4 := by decide +kernel

/-- the least ref `z ≤ 65536` of a tag that is not in use, handed out as `if z > 65535 then 0 else z`, is fresh, and 0 means "all in use" -/
theorem fresh_of_least {s : File} {t z v : Nat} (z1 : 1 ≤ z) (zfree : ∀ d ∈ s.live, keyOf d ≠ (baseTag t, z))
    (zbelow : ∀ k, 1 ≤ k → k < z → ∃ d ∈ s.live, keyOf d = (baseTag t, k)) (hv : v = if z > 65535 then 0 else z) :
    (v ≠ 0 → ∀ d ∈ s.live, keyOf d ≠ (baseTag t, v)) ∧ (v = 0 ↔ ∀ k, 1 ≤ k → k ≤ 65535 → ∃ d ∈ s.live, keyOf d = (baseTag t, k)) := by
  subst hv
  by_cases hz : z > 65535
  · rw [if_pos hz]
    exact ⟨fun h0 => absurd rfl h0, fun _ k hk1 hk2 => zbelow k hk1 (by omega), fun _ => rfl⟩
  · rw [if_neg hz]
    refine ⟨fun _ => zfree, fun h0 => by omega, fun hall => ?_⟩
    obtain ⟨d, hd, hk⟩ := hall z z1 (by omega)
    exact absurd hk (zfree d hd)

/-- **htagnewref_fresh (full)**: with the F7 fix a non-zero `Htagnewref(tag)` result is in use for neither the tag nor
    its special variant / base tag, it is the LOWEST such ref, and 0 is returned only when all 65535 are in use. -/
theorem htagnewref_fresh {cfg : Cfg} (hfix : cfg.fixF7 = true) {s : File} (h : Inv cfg s) (t : Nat) :
    ((htagnewref cfg s t).1 ≠ 0 → ∀ d ∈ s.live, keyOf d ≠ (baseTag t, (htagnewref cfg s t).1)) ∧
    ((htagnewref cfg s t).1 = 0 ↔ ∀ k, 1 ≤ k → k ≤ 65535 → ∃ d ∈ s.live, keyOf d = (baseTag t, k)) ∧
    (∀ k, 1 ≤ k → k < (htagnewref cfg s t).1 → ∃ d ∈ s.live, keyOf d = (baseTag t, k)) := by
  obtain ⟨_, _, _, z, z1, z2, zfree, zbelow, hv⟩ := htagnewref_spec cfg h.wf t
  have hval : (htagnewref cfg s t).1 = if z > 65535 then 0 else z := by
    rw [hv]; unfold tagnewrefValue; rw [hfix]; rfl
  obtain ⟨f1, f2⟩ := fresh_of_least z1 zfree zbelow hval
  refine ⟨f1, f2, fun k hk1 hk2 => zbelow k hk1 ?_⟩
  rw [hval] at hk2
  split at hk2 <;> omega

/-- **htagnewref_fresh (partial, every `Cfg`)**: as is, everything holds unless the lowest free ref of the tag is exactly
    65535 (`(uint16)65535 == (uint16)FAIL`) -/
theorem htagnewref_fresh_partial {cfg : Cfg} {s : File} (h : Inv cfg s) (t : Nat)
    (hx : (∀ d ∈ s.live, keyOf d ≠ (baseTag t, 65535)) → ∃ k, 1 ≤ k ∧ k < 65535 ∧ ∀ d ∈ s.live, keyOf d ≠ (baseTag t, k)) :
    ((htagnewref cfg s t).1 ≠ 0 → ∀ d ∈ s.live, keyOf d ≠ (baseTag t, (htagnewref cfg s t).1)) ∧
    ((htagnewref cfg s t).1 = 0 ↔ ∀ k, 1 ≤ k → k ≤ 65535 → ∃ d ∈ s.live, keyOf d = (baseTag t, k)) := by
  obtain ⟨_, _, _, z, z1, z2, zfree, zbelow, hv⟩ := htagnewref_spec cfg h.wf t
  have hz : z ≠ 65535 := by
    intro e; subst e
    obtain ⟨k, k1, k2, kfree⟩ := hx zfree
    obtain ⟨d, hd, hk⟩ := zbelow k k1 k2
    exact kfree d hd hk
  refine fresh_of_least z1 zfree zbelow ?_
  rw [hv]; unfold tagnewrefValue
  cases cfg.fixF7
  · simp only [Bool.false_eq_true, if_false]
    by_cases hgt : z > 65535
    · obtain rfl : z = 65536 := by omega
      rfl
    · rw [if_neg hgt, if_neg (by omega)]; omega
  · rfl

/-- F7, in general: on ANY well-formed state in which refs 1..65534 of a tag are in use and 65535 is free, the code as
    it is returns 0 ("no ref free"); the fixed code returns 65535 -/
theorem htagnewref_asIs_zero_while_free {cfg : Cfg} {s : File} (h : Inv cfg s) (t : Nat)
    (hused : ∀ k, 1 ≤ k → k ≤ 65534 → ∃ d ∈ s.live, keyOf d = (baseTag t, k))
    (hfree : ∀ d ∈ s.live, keyOf d ≠ (baseTag t, 65535)) :
    (htagnewref cfg s t).1 = if cfg.fixF7 then 65535 else 0 := by
  obtain ⟨_, _, _, z, z1, z2, zfree, zbelow, hv⟩ := htagnewref_spec cfg h.wf t
  have hz : z = 65535 := by
    rcases Nat.lt_trichotomy z 65535 with hlt | heq | hgt
    · obtain ⟨d, hd, hk⟩ := hused z z1 (by omega)
      exact absurd hk (zfree d hd)
    · exact heq
    · obtain ⟨d, hd, hk⟩ := zbelow 65535 (by omega) hgt
      exact absurd hk (hfree d hd)
  rw [hv, hz]
  unfold tagnewrefValue
  cases cfg.fixF7 <;> simp [MAX_REF]

/-- F7 at the bit-vector level: bits 0..65534 set, 65535 clear -/
example : (let bv : BV := ⟨65535, 8192, 0, List.replicate 8191 255 ++ [127]⟩
    (tagnewrefValue Cfg.asIs bv.findNextZero.1, tagnewrefValue Cfg.fixed bv.findNextZero.1)) = (0, 65535) := by
  -- the 8191 full bytes are skipped; the last byte, 127, has its first zero at bit 7
  have e : skipFull (List.replicate 8191 255 ++ [127]) 0 8191 = 8191 := by
    rw [skipFull_replicate _ _ 8191 0 (by omega)]; rfl
  have g : (List.replicate 8191 255 ++ [127]).getD 8191 0 = 127 := by
    rw [List.getD_eq_getElem?_getD, List.getElem?_append_right (by rw [List.length_replicate]; exact Nat.le_refl _),
      List.length_replicate]; rfl
  have z := findNextZero_slush (b := ⟨65535, 8192, 0, List.replicate 8191 255 ++ [127]⟩) e g (by decide) (by decide)
  show (tagnewrefValue Cfg.asIs (BV.findNextZero _).1, tagnewrefValue Cfg.fixed (BV.findNextZero _).1) = _
  rw [z]; decide

/-- a special variant and its base tag share one ref space: same key, same bit-vector -/
theorem special_shares_refspace {t : Nat} (h : mkSpecial t ≠ DFTAG_NULL) (r : Nat) :
    keyOf ⟨mkSpecial t, r, 0, 0⟩ = keyOf ⟨t, r, 0, 0⟩ := by
  simp [keyOf, baseTag_mkSpecial h]

theorem basetag_idempotent (t : Nat) : baseTag (baseTag t) = baseTag t := baseTag_idem t
theorem basetag_never_special (t : Nat) : isSpecial (baseTag t) = false := baseTag_not_special t
theorem mkspecial_is_special {t : Nat} (h : t < 16384) : isSpecial (mkSpecial t) = true ∧ baseTag (mkSpecial t) = t := by
  refine ⟨isSpecial_mkSpecial h, ?_⟩
  have : mkSpecial t ≠ DFTAG_NULL := by unfold mkSpecial; simp [h, DFTAG_NULL]
  rw [baseTag_mkSpecial this]
  exact baseTag_of_not_special (by unfold isSpecial; simp; omega)

/-- on a reachable state a tag/ref and the special variant of the tag with the same ref never coexist -/
theorem special_and_base_exclusive {cfg : Cfg} {s : File} (h : Inv cfg s) {d d' : DD} (hd : d ∈ s.live) (hd' : d' ∈ s.live)
    (ht : baseTag d.tag = baseTag d'.tag) (hr : d.ref = d'.ref) : d = d' :=
  nodup_map_inj h.wf.wfl.nodup hd hd' (by simp [keyOf, ht, hr])

/-- `DDDECODE (DDENCODE d) = d` for 16-bit tag/ref and 32-bit signed offset/length; 12 zero bytes are the zero descriptor -/
theorem dd_codec_roundtrip (d : DD) (h : DDRange d) : decodeDD (encodeDD d) = d ∧ (encodeDD d).length = 12 :=
  ⟨decode_encode_dd d h, encodeDD_length d⟩

theorem zero_bytes_decode : decodeDD (List.replicate 12 0) = zeroDD := by decide

example : decodeDD (encodeDD ⟨16484, 65535, -1, 2147483647⟩) = ⟨16484, 65535, -1, 2147483647⟩ := by decide

end H4.Props.C12
