import H4.Lemmas.SdPieces
/-! # C03 — the piecewise fill of the first write (`hdf_xdr_NCvdata`), property theorems

"Cells never written hold the fill value": on the first write to a new fixed-size data set the library itself writes the fill values
in front of and behind the first hyperslab, in pieces of at most `MAX_SIZE` bytes.  The theorems say that the pieces tile the two
regions exactly, for EVERY region length and EVERY positive piece size, that the first call therefore writes every byte of the variable
exactly once and in order with the data at its own offset, and that the bytes left outside the data are the fill value repeated.
The tie to the C: `T sd fw` lines of engine sd (kind E) - the `Hwrite` calls of the first SDwritedata of large data sets - are recomputed
with `firstWriteLog MAX_SIZE`; `MAX_SIZE` is `H4.Gen.SdBuf.MAX_SIZE` (Tie A). -/
namespace H4.Props.C03Pieces
open H4.Slab H4.SdPieces

/-- The shape of the pieces: `n / P` full pieces, then the remainder if there is one. -/
theorem pieces_shape (P n : Nat) (hP : 0 < P) (hn : 0 < n) :
    pieces P n = List.replicate (n / P) P ++ (if n % P = 0 then [] else [n % P]) := pieces_closed P n hP hn

/-- No piece is longer than the piece size, none is empty. -/
theorem pieces_bounds (P n : Nat) (hP : 0 < P) (hn : 0 < n) : ∀ x ∈ pieces P n, 0 < x ∧ x ≤ P := by
  intro x hx
  cases pieces_mem P n hP hn x hx with
  | inl h => omega
  | inr h => have := Nat.mod_lt n hP; omega

/-- **pieces_tile**: the `Hwrite`s of the fill loop, issued one behind the other from `base` on, cover the bytes `[base, base + n)`
    exactly once and in order - for every `n` and every piece size `P > 0`. -/
theorem pieces_tile (P n base : Nat) (hP : 0 < P) :
    expandRuns (place base (fillPieces P n)) = List.range' base n := by
  rw [place_expand, fillPieces_sum P n hP]

/-- The first `hdf_xdr_NCvdata` on an empty element, fill values wanted: the `Hwrite`s cover every byte `[0, len)` of the variable exactly
    once, in order ... -/
theorem first_write_tiles (P len wher bytes : Nat) (hP : 0 < P) (h : wher + bytes ≤ len) :
    expandRuns (vdataWrites P true true len wher bytes) = List.range len := by
  simp only [vdataWrites, Bool.and_self, if_true]
  rw [expandRuns_append, expandRuns_append, pieces_tile P wher 0 hP, pieces_tile P _ _ hP]
  simp only [expandRuns, List.flatMap_cons, List.flatMap_nil, List.append_nil]
  have h1 : List.range' 0 wher ++ List.range' wher bytes = List.range' 0 (wher + bytes) := by
    have := List.range'_append_1 (s := 0) (m := wher) (n := bytes)
    simpa using this
  have h2 : List.range' 0 (wher + bytes) ++ List.range' (wher + bytes) (len - (wher + bytes)) = List.range' 0 len := by
    have := List.range'_append_1 (s := 0) (m := wher + bytes) (n := len - (wher + bytes))
    rw [Nat.zero_add, Nat.add_sub_cancel' h] at this
    exact this
  rw [h1, h2, List.range_eq_range']

/-- ... with the request itself at its own offset, after exactly `wher` bytes of fill values. -/
theorem first_write_data_at (P len wher bytes : Nat) (hP : 0 < P) :
    ∃ front back, vdataWrites P true true len wher bytes = front ++ [(wher, bytes)] ++ back ∧
      expandRuns front = List.range wher ∧ expandRuns back = List.range' (wher + bytes) (len - (wher + bytes)) := by
  refine ⟨place 0 (fillPieces P wher), place (wher + bytes) (fillPieces P (len - (wher + bytes))), ?_, ?_, ?_⟩
  · simp [vdataWrites]
  · rw [pieces_tile P wher 0 hP, List.range_eq_range']
  · exact pieces_tile P _ _ hP

/-- A request that finds data in the element (every later run, every later call), or one without fill values, is one `Hwrite`. -/
theorem later_write_single (P len wher bytes : Nat) (fill : Bool) :
    vdataWrites P false fill len wher bytes = [(wher, bytes)] ∧ vdataWrites P true false len wher bytes = [(wher, bytes)] := by
  simp [vdataWrites]

/-- Every piece starts and ends on an element boundary when the element size divides the piece size (so that each piece, a prefix of the
    one fill buffer, continues the pattern of its predecessor). -/
theorem pieces_aligned (P n e base : Nat) (hP : 0 < P) (heP : e ∣ P) (hen : e ∣ n) (hb : e ∣ base) :
    ∀ r ∈ place base (fillPieces P n), e ∣ r.1 ∧ e ∣ r.2 :=
  place_dvd e _ base hb (fillPieces_dvd P n e hP heP hen)

/-- **first_image**: the bytes of the variable after the first write are the fill value repeated, the data, the fill value repeated. -/
theorem first_image (P : Nat) (pat data : List UInt8) (len wher : Nat) (hP : 0 < P)
    (heP : pat.length ∣ P) (hw : pat.length ∣ wher) (hd : pat.length ∣ data.length) (hl : pat.length ∣ len) :
    firstImage P pat data len wher = patBytes pat wher ++ data ++ patBytes pat (len - (wher + data.length)) := by
  unfold firstImage
  rw [flatMap_patBytes pat _ (fillPieces_dvd P wher _ hP heP hw), fillPieces_sum P wher hP,
    flatMap_patBytes pat _ (fillPieces_dvd P _ _ hP heP (Nat.dvd_sub hl (Nat.dvd_add hw hd))), fillPieces_sum P _ hP]

/-- ... byte by byte: a byte outside the request is the byte `p mod element size` of the fill value ("a cell never written holds the fill
    value"), a byte inside it is the caller's. -/
theorem first_image_getD (P : Nat) (pat data : List UInt8) (len wher p : Nat) (hP : 0 < P)
    (heP : pat.length ∣ P) (hw : pat.length ∣ wher) (hd : pat.length ∣ data.length) (hl : pat.length ∣ len) (h : wher + data.length ≤ len)
    (hp : p < len) :
    (firstImage P pat data len wher).getD p 0 =
      if wher ≤ p ∧ p < wher + data.length then data.getD (p - wher) 0 else pat.getD (p % pat.length) 0 := by
  rw [first_image P pat data len wher hP heP hw hd hl]
  by_cases h1 : p < wher
  · have : ¬ (wher ≤ p ∧ p < wher + data.length) := by omega
    rw [if_neg this, List.append_assoc, getD_append_lt _ _ _ _ (by rw [patBytes_length]; exact h1), patBytes_getD pat wher p h1]
  · by_cases h2 : p < wher + data.length
    · have : wher ≤ p ∧ p < wher + data.length := by omega
      rw [if_pos this, List.append_assoc, getD_append_ge _ _ _ _ (by rw [patBytes_length]; omega), patBytes_length,
        getD_append_lt _ _ _ _ (by omega)]
    · have : ¬ (wher ≤ p ∧ p < wher + data.length) := by omega
      rw [if_neg this, getD_append_ge _ _ _ _ (by rw [List.length_append, patBytes_length]; omega), List.length_append,
        patBytes_length, patBytes_getD pat _ _ (by omega)]
      obtain ⟨k, hk⟩ := Nat.dvd_add hw hd
      have hs : p = pat.length * k + (p - (wher + data.length)) := by omega
      conv => rhs; rw [hs, Nat.mul_add_mod]

/-- the constants the theorems are used with: the piece size is positive and a multiple of every element size (1, 2, 4, 8) -/
theorem consts : 0 < H4.Gen.SdBuf.MAX_SIZE ∧ 8 ∣ H4.Gen.SdBuf.MAX_SIZE := by decide

example : pieces 10 25 = [10, 10, 5] ∧ pieces 10 30 = [10, 10, 10] ∧ pieces 10 7 = [7] ∧ pieces 10 11 = [10, 1] := by decide
example : expandRuns (place 3 (fillPieces 4 10)) = List.range' 3 10 := pieces_tile 4 10 3 (by decide)
example : vdataWrites 10 true true 40 23 4 = [(0, 10), (10, 10), (20, 3), (23, 4), (27, 10), (37, 3)] := by decide
example : expandRuns (vdataWrites 10 true true 40 23 4) = List.range 40 := first_write_tiles 10 40 23 4 (by decide) (by decide)
/-- a 5 x 6 array of 2-byte elements, first write = rows 2..3, columns 1..3: the first run meets the empty element, the second one does not -/
example : firstWriteLog 8 2 true [5, 6] [2, 1] [1, 1] [2, 3] = [(0, 8), (8, 8), (16, 8), (24, 2), (26, 6), (32, 8), (40, 8), (48, 8), (56, 4), (38, 6)] := by decide
example : firstWriteLog 8 2 false [5, 6] [2, 1] [1, 1] [2, 3] = [(26, 6), (38, 6)] := by decide
example : firstImage 4 [1, 2] [9, 9] 12 6 = [1, 2, 1, 2, 1, 2, 9, 9, 1, 2, 1, 2] := by decide
example : (firstImage 4 [1, 2] [9, 9] 12 6).getD 9 0 = 2 :=
  (first_image_getD 4 [1, 2] [9, 9] 12 6 9 (by decide) (by decide) (by decide) (by decide) (by decide) (by decide) (by decide)).trans (by decide)

end H4.Props.C03Pieces
