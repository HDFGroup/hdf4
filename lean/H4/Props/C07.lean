import H4.Lemmas.VData
/-! # C07 — a Vdata behaves as a table of records (`VSwrite`/`VSread`/`VSseek`/`VSsetfields`/`VSfpack`) — property theorems

Conventions: `w : WList` is the write list built by `VSfdefine`+`VSsetfields` (`WList.WF`, established by
`vssetfields_wf`); `sel` is the read list (`rlist.item`: indices into `w`, any sublist/permutation, repetitions allowed for
multi-field vdatas); a caller buffer holding `n` records of the fields with sizes `szs` in buffer interlace `il`
has field `j` of record `r` at byte `layoutAddr (il = FULL_INTERLACE) szs n r j`. Bytes are compared in memory
representation: the per-element byte reversal of the big-endian file types cancels between write and read (`mirE`). -/
namespace H4.Props.C07
open H4.VData H4.Gen.Hdf

/-- `VSseek(k)` positions the access id at byte `k · ivsize`, and on a FULL_INTERLACE vdata field `j` of record `k`
    is stored from byte `k · ivsize + off j` on -/
theorem vsseek_addr (v v' : VS) (k : Nat) (h : v.seek k = some v') :
    v'.pos = k * v.w.ivsize ∧ v'.store = v.store ∧ v'.w = v.w ∧ v'.nvertices = v.nvertices ∧
    (v.w.WF → ∀ j < v.w.n, ∀ n, v'.pos + fileAddr true v.w n 0 j = fileAddr true v.w n k j) := by
  unfold VS.seek at h
  by_cases c1 : v.w.n = 0
  · simp [c1] at h
  · by_cases c2 : k * v.w.ivsize > v.store.size
    · simp [c1, c2] at h
    · simp only [c1, c2, if_false] at h
      cases h
      refine ⟨rfl, rfl, rfl, rfl, ?_⟩
      intro hw j hj n
      simp only [fileAddr_full hw hj]; omega

/-- example schema used by the non-vacuity checks: `a : int16[3]` (big-endian file type), `b : uint8`, `c : native int32` -/
def exFields : List Field :=
  [{ (default : Field) with name := "a", type := 22, tsz := 2, swap := true, order := 3, isize := 6, esize := 6 },
   { (default : Field) with name := "b", type := 21, tsz := 1, swap := false, order := 1, isize := 1, esize := 1, off := 6 },
   { (default : Field) with name := "c", type := 4120, tsz := 4, swap := false, order := 1, isize := 4, esize := 4, off := 7 }]
def exW : WList := { fields := exFields, ivsize := 11 }
def exVS : VS := { w := exW, store := Array.replicate 110 0 }

example : ((exVS.seek 7).map fun v => v.pos) = some 77 := by decide

/-- the example schema is well-formed (non-vacuity of every `w.WF` hypothesis below) -/
theorem exW_wf : exW.WF := by
  refine ⟨?_, ?_, by decide⟩
  · intro f hf
    simp only [exW, exFields, List.mem_cons, List.not_mem_nil, or_false] at hf
    rcases hf with rfl | rfl | rfl <;> exact ⟨by decide, by decide, by decide, by decide⟩
  · intro j hj
    have : j = 0 ∨ j = 1 ∨ j = 2 := by simp [WList.n, exW, exFields] at hj; omega
    rcases this with rfl | rfl | rfl <;> decide

/-- **Write then read, FULL_INTERLACE vdata.** For every well-formed schema, every batch of `n ≥ 1` records written at
    record `k` from a caller buffer in either buffer interlace, every read list `sel` and every record range
    `[k', k'+n') ⊆ [k, k+n)` read back in either buffer interlace (and whatever `Vtbufsize` is): both calls succeed,
    the position ends at record `k'+n'`, and every byte of every selected field of every record read is the byte that
    was written for that field of that record — i.e. the read buffer is the projection of the written records onto `sel`
    laid out in the requested interlace. -/
theorem vswrite_vsread {w : WList} (hw : w.WF) (hn : 0 < w.n) {sel : List Nat} (hsel : ∀ i ∈ sel, i < w.n)
    (hE : w.n = 1 → sel = [0]) {wil ril : Nat} (hwil : wil = FULL_INTERLACE ∨ wil = NO_INTERLACE)
    (hril : ril = FULL_INTERLACE ∨ ril = NO_INTERLACE) (store : Buf) (vtb k n k' n' : Nat) (wbuf rbuf : Buf)
    (hn1 : 1 ≤ n) (hn' : 1 ≤ n') (hk : k ≤ k') (hkn : k' + n' ≤ k + n) (hrsz : n' * (selSizes w sel).sum ≤ rbuf.size) :
    ∃ store' vtb' rbuf' vtb'',
      vswriteCore w FULL_INTERLACE store (w.ivsize * k) vtb wbuf n wil = some (store', w.ivsize * k + w.ivsize * n, vtb') ∧
      vsreadCore w FULL_INTERLACE sel store' (w.ivsize * k') vtb' rbuf n' ril = (vtb'', some (rbuf', w.ivsize * k' + w.ivsize * n')) ∧
      rbuf'.size = rbuf.size ∧
      ∀ r < n', ∀ jj, ∀ hj : jj < sel.length, ∀ e < (w.field sel[jj]).esize,
        getB rbuf' (layoutAddr (decide (ril = FULL_INTERLACE)) (selSizes w sel) n' r jj + e)
          = getB wbuf (layoutAddr (decide (wil = FULL_INTERLACE)) (esizes w) n (k' - k + r) sel[jj] + e) := by
  obtain ⟨store', vtb', w1, w2, h⟩ := vswrite_vsread_at hw ⟨hsel, hn, hE⟩ (Or.inl rfl) hwil hril store vtb (w.ivsize * k)
    (w.ivsize * k') (d := k' - k) wbuf rbuf hn1 hn' (by omega) hrsz (by
      intro r _ i hi
      simp only [decide_true, fileAddr_full hw (hsel i hi)]
      obtain ⟨d, rfl⟩ : ∃ d, k' = k + d := ⟨k' - k, by omega⟩
      rw [Nat.add_sub_cancel_left]; ring)
  have hsz : w.ivsize * k' + w.ivsize * n' ≤ store'.size := by
    rw [w2]
    have := Nat.mul_le_mul_left w.ivsize hkn
    rw [Nat.mul_add, Nat.mul_add] at this; omega
  obtain ⟨rbuf', vtb'', r1, r2, r3⟩ := h store' vtb' hsz (fun _ _ _ => rfl)
  exact ⟨store', vtb', rbuf', vtb'', w1, r1, r2, r3⟩

set_option maxRecDepth 8000 in
/-- non-vacuity of `vswrite_vsread`: 3 records written at record 1 from a NO_INTERLACE buffer, records 2..3 read back as
    fields `c, a` in a FULL_INTERLACE buffer -/
example :
    let wbuf : Buf := Array.ofFn (n := 33) fun i => UInt8.ofNat (100 + i.val)
    let res := (vswriteCore exW FULL_INTERLACE (Array.replicate 11 0) 11 0 wbuf 3 NO_INTERLACE).map fun x =>
      (vsreadCore exW FULL_INTERLACE [2, 0] x.1 22 x.2.2 (Array.replicate 20 0) 2 FULL_INTERLACE).2.map (·.1)
    -- a (6 bytes x 3 records) at 0.., b at 18.., c (4 bytes x 3) at 21..; records 1,2 of the batch
    res = some (some #[125,126,127,128, 106,107,108,109,110,111,  129,130,131,132, 112,113,114,115,116,117]) := by decide +kernel

/-- **Chunked transfer = one-shot transfer.** The `VDATA_BUFFER_MAX`-bounded loop of cases C/E moves `chunk` records per
    iteration, where `chunk` depends on the process-wide static `Vtbufsize`; the data element, the position and the
    delivered buffer do not depend on it (nor would they on any other value of `VDATA_BUFFER_MAX`). -/
theorem chunked_transfer_eq {w : WList} (hw : w.WF) (hn : 0 < w.n) {vil il : Nat}
    (store : Buf) (pos vtb1 vtb2 : Nat) (buf : Buf) {nelt : Nat} (hnelt : 1 ≤ nelt) :
    (vswriteCore w vil store pos vtb1 buf nelt il).map (fun x => (x.1, x.2.1))
      = (vswriteCore w vil store pos vtb2 buf nelt il).map (fun x => (x.1, x.2.1)) := by
  unfold vswriteCore
  simp only [if_neg (show ¬ nelt = 0 by omega), if_neg (show ¬ w.n = 0 by omega), intSizeOf_eq]
  by_cases hil : il ≠ NO_INTERLACE ∧ il ≠ FULL_INTERLACE
  · simp only [if_pos hil]
  · by_cases hCE : w.n = 1 ∨ (il = FULL_INTERLACE ∧ vil = FULL_INTERLACE)
    · simp only [if_neg hil, if_pos hCE, Option.map_some]
      rw [chunked_write_eq hw hn buf nelt pos store _ _
        (chunkInit_pos _ _ _ vtb1 hnelt) (chunkInit_pos _ _ _ vtb2 hnelt) ?_ ?_ hnelt] <;> simp
    · simp only [if_neg hil, if_neg hCE, Option.map_some]

/-- the same for VSread: the delivered buffer and position do not depend on `Vtbufsize` -/
theorem chunked_read_transfer_eq {w : WList} (hw : w.WF) {sel : List Nat} (hsel : ∀ i ∈ sel, i < w.n) (hn : 0 < w.n)
    (hE : w.n = 1 → sel = [0]) {vil il : Nat} (store : Buf) (pos vtb1 vtb2 : Nat) (buf : Buf) {nelt : Nat} (hnelt : 1 ≤ nelt)
    (hst : pos + w.ivsize * nelt ≤ store.size) (hsz : nelt * (selSizes w sel).sum ≤ buf.size) :
    (vsreadCore w vil sel store pos vtb1 buf nelt il).2 = (vsreadCore w vil sel store pos vtb2 buf nelt il).2 := by
  unfold vsreadCore
  simp only [if_neg (show ¬ w.n = 0 by omega), uvsizeOf_eq]
  by_cases hil : il ≠ FULL_INTERLACE ∧ il ≠ NO_INTERLACE
  · simp only [if_pos hil]
  · by_cases hCE : w.n = 1 ∨ (il = FULL_INTERLACE ∧ vil = FULL_INTERLACE)
    · simp only [if_neg hil, if_pos hCE]
      exact chunked_read_eq hw ⟨hsel, hn, hE⟩ store buf nelt pos hst hsz (chunkInit_pos _ _ _ vtb1 hnelt) (chunkInit_pos _ _ _ vtb2 hnelt)
    · have : ¬ pos + nelt * w.ivsize > store.size := by rw [Nat.mul_comm]; omega
      simp only [if_neg hil, if_neg hCE, if_neg this]

/-! NO_INTERLACE vdatas: `VSwrite` lays every *call's* batch out field-major (`off j · n + r · isize j` from the batch start) and `VSread`
decodes `n'` records from the current position with the same formula for *its* `n'`. So the stored image is not a
function of the table alone but of the write history, and only some reads are correct. -/

/-- **Write then read, NO_INTERLACE vdata: a read of exactly the written batch is correct** (any buffer interlaces, any
    field selection), also after later operations that leave the bytes of the batch alone (`store2`). -/
theorem vswrite_vsread_no {w : WList} (hw : w.WF) (hn : 0 < w.n) {sel : List Nat} (hsel : ∀ i ∈ sel, i < w.n)
    (hE : w.n = 1 → sel = [0]) {wil ril : Nat} (hwil : wil = FULL_INTERLACE ∨ wil = NO_INTERLACE)
    (hril : ril = FULL_INTERLACE ∨ ril = NO_INTERLACE) (store : Buf) (vtb vtb2 k n : Nat) (wbuf rbuf : Buf)
    (hn1 : 1 ≤ n) (hrsz : n * (selSizes w sel).sum ≤ rbuf.size) :
    ∃ store' vtb', vswriteCore w NO_INTERLACE store (w.ivsize * k) vtb wbuf n wil = some (store', w.ivsize * k + w.ivsize * n, vtb') ∧
      ∀ store2 : Buf, w.ivsize * k + w.ivsize * n ≤ store2.size →
        (∀ p, w.ivsize * k ≤ p → p < w.ivsize * k + w.ivsize * n → getB store2 p = getB store' p) →
      ∃ rbuf' vtb'', vsreadCore w NO_INTERLACE sel store2 (w.ivsize * k) vtb2 rbuf n ril = (vtb'', some (rbuf', w.ivsize * k + w.ivsize * n)) ∧
        rbuf'.size = rbuf.size ∧
        ∀ r < n, ∀ jj, ∀ hj : jj < sel.length, ∀ e < (w.field sel[jj]).esize,
          getB rbuf' (layoutAddr (decide (ril = FULL_INTERLACE)) (selSizes w sel) n r jj + e)
            = getB wbuf (layoutAddr (decide (wil = FULL_INTERLACE)) (esizes w) n r sel[jj] + e) := by
  obtain ⟨store', vtb', w1, _, h⟩ := vswrite_vsread_at hw ⟨hsel, hn, hE⟩ (Or.inr rfl) hwil hril store vtb (w.ivsize * k)
    (w.ivsize * k) (d := 0) wbuf rbuf hn1 hn1 (Nat.le_of_eq (Nat.zero_add n)) hrsz (fun r _ i _ => by rw [Nat.zero_add])
  refine ⟨store', vtb', w1, fun store2 hs2 hag => ?_⟩
  obtain ⟨rbuf', vtb'', r1, r2, r3⟩ := h store2 vtb2 hs2 hag
  refine ⟨rbuf', vtb'', r1, r2, fun r hr jj hj e he => ?_⟩
  rw [r3 r hr jj hj e he, Nat.zero_add]

/-- **Which reads of a NO_INTERLACE vdata are correct.** After a batch of `n` records written at record `k`, a read of
    `n'` records at record `k'` (`[k',k'+n') ⊆ [k,k+n)`) fetches field `i` of its `r`-th record from the stored address on
    the left, whereas that value was stored at the address on the right; the two coincide exactly when
    `(k'-k) · ivsize + off i · n' = off i · n + (k'-k) · isize i`. In particular (`vs_no_read_examples`): the batch itself
    always works; any prefix works for the field at offset 0 and any suffix for the last field; as soon as the selection
    contains the first field and another one, only the batch itself works. -/
theorem vs_no_read_correct_iff {w : WList} (hw : w.WF) {i : Nat} (hi : i < w.n) (k n k' n' r x : Nat) (hk : k ≤ k') :
    w.ivsize * k' + (fileAddr false w n' r i + x) = w.ivsize * k + (fileAddr false w n (k' - k + r) i + x) ↔
    (k' - k) * w.ivsize + (w.field i).off * n' = (w.field i).off * n + (k' - k) * (w.field i).isize := by
  rw [fileAddr_no hw hi, fileAddr_no hw hi]
  obtain ⟨d, rfl⟩ : ∃ d, k' = k + d := ⟨k' - k, by omega⟩
  simp only [Nat.add_sub_cancel_left]
  have e1 : w.ivsize * (k + d) = w.ivsize * k + d * w.ivsize := by ring
  have e2 : (d + r) * (w.field i).isize = d * (w.field i).isize + r * (w.field i).isize := by ring
  rw [e1, e2]
  omega

theorem vs_no_read_examples {w : WList} (hw : w.WF) {i : Nat} (hi : i < w.n) (k n : Nat) :
    -- the batch itself
    ((k - k) * w.ivsize + (w.field i).off * n = (w.field i).off * n + (k - k) * (w.field i).isize) ∧
    -- any prefix of the batch, for the field at offset 0
    ((w.field i).off = 0 → ∀ n', (k - k) * w.ivsize + (w.field i).off * n' = (w.field i).off * n + (k - k) * (w.field i).isize) ∧
    -- any suffix of the batch, for the last field
    ((w.field i).off + (w.field i).isize = w.ivsize → ∀ d ≤ n,
      (k + d - k) * w.ivsize + (w.field i).off * (n - d) = (w.field i).off * n + (k + d - k) * (w.field i).isize) ∧
    -- a selection containing the field at offset 0 of a multi-field record and a field at a positive offset: only the batch itself
    (∀ i0 < w.n, (w.field i0).off = 0 → (w.field i0).isize < w.ivsize → 0 < (w.field i).off → ∀ k' n', k ≤ k' →
      (k' - k) * w.ivsize + (w.field i0).off * n' = (w.field i0).off * n + (k' - k) * (w.field i0).isize →
      (k' - k) * w.ivsize + (w.field i).off * n' = (w.field i).off * n + (k' - k) * (w.field i).isize → k' = k ∧ n' = n) := by
  refine ⟨by simp, fun h n' => by simp [h], ?_, ?_⟩
  · intro h d hd
    simp only [Nat.add_sub_cancel_left]
    rw [← h]
    obtain ⟨m, rfl⟩ : ∃ m, n = d + m := ⟨n - d, by omega⟩
    simp only [Nat.add_sub_cancel_left]; ring
  · intro i0 _ h0 hlt hoff k' n' hk e0 e1
    obtain ⟨d, rfl⟩ : ∃ d, k' = k + d := ⟨k' - k, by omega⟩
    simp only [Nat.add_sub_cancel_left] at e0 e1
    rw [h0] at e0
    simp only [Nat.zero_mul, Nat.add_zero, Nat.zero_add] at e0
    have hd0 : d = 0 := by
      rcases Nat.eq_zero_or_pos d with z | z
      · exact z
      · have := Nat.mul_lt_mul_of_pos_left hlt z
        omega
    subst hd0
    simp only [Nat.zero_mul, Nat.zero_add, Nat.add_zero] at e1
    exact ⟨rfl, Nat.eq_of_mul_eq_mul_left hoff e1⟩

/-- the library misreads a misaligned range of a NO_INTERLACE vdata (confirmed on the real library by the `vs` engine):
    two 1-byte fields, batch of 2 records `(1,2),(3,4)` written, then 1 record read at record 0 gives `(1,3)` -/
example :
    let f1 : Field := { (default : Field) with name := "p", tsz := 1, order := 1, isize := 1, esize := 1 }
    let f2 : Field := { (default : Field) with name := "q", tsz := 1, order := 1, isize := 1, esize := 1, off := 1 }
    let w : WList := { fields := [f1, f2], ivsize := 2 }
    ((vswriteCore w NO_INTERLACE #[] 0 0 #[1, 2, 3, 4] 2 FULL_INTERLACE).map fun x =>
      (vsreadCore w NO_INTERLACE [0, 1] x.1 0 0 #[0, 0] 1 FULL_INTERLACE).2.map (·.1))
      = some (some #[1, 3]) := by decide +kernel

/-- memory-representation byte `e` of field `j` of record `r` as stored in a FULL_INTERLACE data element -/
def memByte (w : WList) (store : Buf) (r j e : Nat) : Byte :=
  getB store (w.ivsize * r + ((w.field j).off + mirE (w.field j) e))

/-- one `VSseek(k); VSwrite(buf, n, il)` -/
structure WOp where
  k : Nat
  n : Nat
  il : Nat
  buf : Buf

def WOp.ok (o : WOp) : Prop := 1 ≤ o.n ∧ (o.il = FULL_INTERLACE ∨ o.il = NO_INTERLACE)

/-- the abstract table (record → field → byte) after one write: records `[k, k+n)` are replaced by the caller's records -/
def tblWrite (w : WList) (T : Nat → Nat → Nat → Byte) (o : WOp) : Nat → Nat → Nat → Byte :=
  fun r j e => if o.k ≤ r ∧ r < o.k + o.n then
      getB o.buf (layoutAddr (decide (o.il = FULL_INTERLACE)) (esizes w) o.n (r - o.k) j + e)
    else T r j e

/-- the implementation: `(data element, Vtbufsize)` after one write -/
def runWrite (w : WList) (st : Buf × Nat) (o : WOp) : Buf × Nat :=
  match vswriteCore w FULL_INTERLACE st.1 (w.ivsize * o.k) st.2 o.buf o.n o.il with
  | some (s, _, v) => (s, v)
  | none => st

/-- one write step refines the table update, extends the element to `max size (ivsize·(k+n))`, and never fails -/
theorem vswrite_table {w : WList} (hw : w.WF) (hn : 0 < w.n) (st : Buf × Nat) {o : WOp} (ho : o.ok) :
    (∃ vtb', vswriteCore w FULL_INTERLACE st.1 (w.ivsize * o.k) st.2 o.buf o.n o.il
        = some ((runWrite w st o).1, w.ivsize * o.k + w.ivsize * o.n, vtb')) ∧
    (runWrite w st o).1.size = max st.1.size (w.ivsize * o.k + w.ivsize * o.n) ∧
    ∀ r, ∀ j < w.n, ∀ e < (w.field j).esize,
      memByte w (runWrite w st o).1 r j e = tblWrite w (memByte w st.1) o r j e := by
  obtain ⟨store', vtb', w1, w2, w3⟩ := vswriteCore_spec hw hn (Or.inl rfl) ho.2 st.1 (w.ivsize * o.k) st.2 o.buf ho.1
  have hrun : (runWrite w st o).1 = store' := by simp only [runWrite, w1]
  rw [hrun]
  refine ⟨⟨vtb', w1⟩, w2, ?_⟩
  intro r j hj e he
  have wf := hw.field hj
  have hm := mirE_lt wf he
  have hb := off_add_le_ivsize hw hj
  rw [wf.ie] at hb
  simp only [memByte, tblWrite]
  by_cases c : o.k ≤ r ∧ r < o.k + o.n
  · rw [if_pos c]
    have := w3.hit ⟨r - o.k, j, mirE (w.field j) e⟩ ⟨Nat.zero_le _, (by omega : r - o.k < o.n), hj, hm⟩
    simp only [recD, recV, mirE_mirE wf he] at this
    rw [← this]
    congr 1
    simp only [decide_true, fileAddr_full hw hj]
    obtain ⟨d, hd⟩ : ∃ d, r = o.k + d := ⟨r - o.k, by omega⟩
    subst hd
    simp only [Nat.add_sub_cancel_left]; ring
  · rw [if_neg c]
    apply w3.miss_range fun c hc => recD_range hw hc (Nat.le_refl _)
    by_cases c1 : r < o.k
    · left
      have : w.ivsize * (r + 1) ≤ w.ivsize * o.k := Nat.mul_le_mul_left _ c1
      rw [Nat.mul_add] at this; omega
    · right
      have : w.ivsize * (o.k + o.n) ≤ w.ivsize * r := Nat.mul_le_mul_left _ (by omega)
      rw [Nat.mul_add] at this; omega

/-- **Any sequence of writes.** After any list of (seek, write) operations — appends, overwrites, overlapping batches,
    either buffer interlace, any `Vtbufsize` history — every stored field byte equals the abstract table obtained by
    replaying the same operations on records, and the element length is the maximum extent written. -/
theorem vs_table_refinement {w : WList} (hw : w.WF) (hn : 0 < w.n) (ops : List WOp) (hops : ∀ o ∈ ops, o.ok) (st : Buf × Nat) :
    (∀ r, ∀ j < w.n, ∀ e < (w.field j).esize,
      memByte w (ops.foldl (runWrite w) st).1 r j e = (ops.foldl (tblWrite w) (memByte w st.1)) r j e) ∧
    (ops.foldl (runWrite w) st).1.size = ops.foldl (fun s o => max s (w.ivsize * o.k + w.ivsize * o.n)) st.1.size := by
  induction ops generalizing st with
  | nil => exact ⟨fun _ _ _ _ _ => rfl, rfl⟩
  | cons o t ih =>
    obtain ⟨_, h2, h3⟩ := vswrite_table hw hn st (hops o List.mem_cons_self)
    obtain ⟨i1, i2⟩ := ih (fun o' ho' => hops o' (List.mem_cons_of_mem _ ho')) (runWrite w st o)
    simp only [List.foldl_cons]
    refine ⟨?_, by rw [i2, h2]⟩
    intro r j hj e he
    rw [i1 r j hj e he]
    -- the two abstract folds start from tables that agree on all valid (j, e)
    have key : ∀ (l : List WOp) (T T' : Nat → Nat → Nat → Byte), (∀ r, T r j e = T' r j e) →
        ∀ r, (l.foldl (tblWrite w) T) r j e = (l.foldl (tblWrite w) T') r j e := by
      intro l
      induction l with
      | nil => intro T T' h r; exact h r
      | cons a l ihl =>
        intro T T' h r
        simp only [List.foldl_cons]
        apply ihl
        intro r'
        simp only [tblWrite]
        split
        · rfl
        · exact h r'
    exact key t _ _ (fun r' => h3 r' j hj e he) r

/-- **Reading the table.** A read of `n'` records at record `k'` of a FULL_INTERLACE data element that holds them returns,
    for any read list and buffer interlace, the stored table entries laid out in that interlace. Together with
    `vs_table_refinement`: reading after any sequence of writes yields the last written value of every field. -/
theorem vsread_table {w : WList} (hw : w.WF) (hn : 0 < w.n) {sel : List Nat} (hsel : ∀ i ∈ sel, i < w.n)
    (hE : w.n = 1 → sel = [0]) {ril : Nat} (hril : ril = FULL_INTERLACE ∨ ril = NO_INTERLACE)
    (store : Buf) (vtb k' n' : Nat) (rbuf : Buf) (hn' : 1 ≤ n') (hst : w.ivsize * k' + w.ivsize * n' ≤ store.size)
    (hrsz : n' * (selSizes w sel).sum ≤ rbuf.size) :
    ∃ rbuf' vtb', vsreadCore w FULL_INTERLACE sel store (w.ivsize * k') vtb rbuf n' ril = (vtb', some (rbuf', w.ivsize * k' + w.ivsize * n')) ∧
      rbuf'.size = rbuf.size ∧
      ∀ r < n', ∀ jj, ∀ hj : jj < sel.length, ∀ e < (w.field sel[jj]).esize,
        getB rbuf' (layoutAddr (decide (ril = FULL_INTERLACE)) (selSizes w sel) n' r jj + e) = memByte w store (k' + r) sel[jj] e := by
  obtain ⟨rbuf', vtb', r1, r2, r3⟩ := vsreadCore_spec hw ⟨hsel, hn, hE⟩ (Or.inl rfl) hril store (w.ivsize * k') vtb rbuf hn' hst hrsz
  refine ⟨rbuf', vtb', r1, r2, ?_⟩
  intro r hr jj hj e he
  have hi := hsel _ (List.getElem_mem hj)
  have := r3.hit ⟨r, jj, e⟩ ⟨Nat.zero_le _, hr, hj, by rw [getD_getElem hj]; exact he⟩
  simp only [selD, selV, getD_getElem hj] at this
  rw [this]
  simp only [memByte, decide_true, fileAddr_full hw hi]
  congr 1; ring

/-- **Pack then unpack = identity on the field buffers.** For fields occupying pairwise disjoint intervals of the buffer
    record (`SelDisj`: always the case for distinct fields, `seldisj_prefix`), `_HDF_VSPACK` of `nrec` records followed by
    `_HDF_VSUNPACK` returns, in every field buffer, exactly the `nrec` values that were packed. -/
theorem vsfpack_roundtrip {sel : List (Nat × Nat)} {recSize : Nat} (hd : SelDisj sel recSize) (nrec : Nat) (buf : Buf)
    (fbufs fb0 : List Buf) (hbuf : nrec * recSize ≤ buf.size) (hl1 : sel.length ≤ fbufs.length) (hl0 : sel.length ≤ fb0.length)
    (hs0 : ∀ j, ∀ hj : j < sel.length, nrec * sel[j].1 ≤ (fb0[j]'(by omega)).size) :
    let packed := fpackPack sel recSize nrec buf fbufs
    let out := fpackUnpack sel recSize nrec packed fb0
    packed.size = buf.size ∧ out.length = sel.length ∧
    ∀ j, ∀ hj : j < sel.length, ∀ i < nrec, ∀ x < sel[j].1,
      getB (out.getD j #[]) (i * sel[j].1 + x) = getB (fbufs[j]'(by omega)) (i * sel[j].1 + x) := by
  intro packed out
  have hp : packed = applyVals (packVals (sel.zip fbufs) recSize nrec) buf := fpackPack_eq ..
  have p2 := (fpackPack_spec (pdisj_zip hd fbufs) (nrec := nrec) buf hbuf).hit
  have p1 : packed.size = buf.size := by rw [hp, size_applyVals]
  rw [← hp] at p2
  have hlen : out.length = sel.length := by
    simp only [out, fpackUnpack_eq, List.length_map, List.length_zip]; omega
  refine ⟨p1, hlen, ?_⟩
  intro j hj i hi x hx
  have hjz : j < (sel.zip fb0).length := by simp; omega
  have hout : out.getD j #[] = unpackOne packed recSize nrec (sel[j], fb0[j]'(by omega)) := by
    rw [getD_getElem (by rw [hlen]; exact hj)]
    simp only [out, fpackUnpack_eq, List.getElem_map, List.getElem_zip]
  rw [hout, (unpackOne_spec packed recSize nrec (sel[j], fb0[j]'(by omega)) (hs0 j hj)).hit (i, x) ⟨hi, hx⟩]
  have hmem : (sel[j], fbufs[j]'(by omega)) ∈ sel.zip fbufs := by
    have : j < (sel.zip fbufs).length := by simp; omega
    have e := List.getElem_mem this
    simpa [List.getElem_zip] using e
  exact p2 (i, _, x) ⟨hi, hmem, hx⟩

/-- **Unpack then pack = identity on the packed buffer**: packing the values just unpacked changes nothing. -/
theorem vsfpack_unpack_pack {sel : List (Nat × Nat)} {recSize : Nat} (hd : SelDisj sel recSize) (nrec : Nat) (buf : Buf)
    (fb0 : List Buf) (hbuf : nrec * recSize ≤ buf.size) (hl0 : sel.length ≤ fb0.length)
    (hs0 : ∀ j, ∀ hj : j < sel.length, nrec * sel[j].1 ≤ (fb0[j]'(by omega)).size) :
    fpackPack sel recSize nrec buf (fpackUnpack sel recSize nrec buf fb0) = buf := by
  rw [fpackPack_eq]
  -- packing writes into every cell what unpacking took from it
  refine (fpackPack_spec (pdisj_zip hd (fpackUnpack sel recSize nrec buf fb0)) (nrec := nrec) buf hbuf).unique
    (Patched.self ?_) (size_applyVals ..)
  rintro ⟨i, e, x⟩ ⟨hi, he, hx⟩
  obtain ⟨j, hj, rfl⟩ := List.getElem_of_mem he
  have hjs : j < sel.length := by simp at hj; omega
  simp only [List.getElem_zip, fpackUnpack_eq, List.getElem_map] at hx ⊢
  exact ((unpackOne_spec buf recSize nrec (sel[j], fb0[j]'(by omega)) (hs0 j hjs)).hit (i, x) ⟨hi, hx⟩).symm

/-- buffer records `(c : 4 bytes, a : 6 bytes)`; unpack `a` then `c`, pack them back into a scrambled buffer -/
example :
    let sel : List (Nat × Nat) := [(6, 4), (4, 0)]
    let buf : Buf := #[1,2,3,4, 10,11,12,13,14,15, 21,22,23,24, 30,31,32,33,34,35]
    let out := fpackUnpack sel 10 2 buf [Array.replicate 12 0, Array.replicate 8 0]
    out = [#[10,11,12,13,14,15, 30,31,32,33,34,35], #[1,2,3,4, 21,22,23,24]] ∧
    fpackPack sel 10 2 (Array.replicate 20 9) out = buf := by decide +kernel

/-- **Schema consistency** (`VSfdefine`* ; `VSsetfields`): starting from an empty symbol table, any sequence of successful
    `VSfdefine` calls followed by a successful `VSsetfields` on the new vdata yields a well-formed write list — so every
    theorem above applies to it — whose record size is at most `MAX_FIELD_SIZE`. -/
theorem vssetfields_schema (defs : List (String × Nat × Nat)) (usym : List SymDef)
    (hdefs : defs.foldl (fun (u : Option (List SymDef)) d => u.bind fun u => vsfdefine u d.1 d.2.1 d.2.2) (some []) = some usym)
    (names : List String) (w : WList) (h : buildWList usym names = some w) :
    (w.WF ∧ w.ivsize ≤ MAX_FIELD_SIZE) ∨ w.fields = [] := by
  have hval : ∀ (ds : List (String × Nat × Nat)) (o : Option (List SymDef)), (∀ u0, o = some u0 → ∀ sd ∈ u0, sd.Valid) →
      ds.foldl (fun (u : Option (List SymDef)) d => u.bind fun u => vsfdefine u d.1 d.2.1 d.2.2) o = some usym →
      ∀ sd ∈ usym, sd.Valid := by
    intro ds
    induction ds with
    | nil => intro o h0 h1; exact h0 usym h1
    | cons d t ih =>
      intro o h0 h1
      refine ih _ (fun u' hu' => ?_) h1
      cases o with
      | none => cases hu'
      | some u0 => exact vsfdefine_valid u0 (h0 u0 rfl) _ _ _ u' hu'
  exact Or.inl (vssetfields_wf usym (hval defs _ (fun u0 h => by cases h; simp) hdefs) names w h)

/-- **Record count.** If the data element holds exactly `nvertices` records and the position is at record `k ≤ nvertices`,
    then after `VSwrite` of `n` records: `nvertices' = max nvertices (k+n)`, the element holds exactly `nvertices'` records,
    and the position is at record `k+n` — `VSelts`, the element length and `VSseek` stay mutually consistent. -/
theorem vswrite_nvertices {v v' : VS} {vtb vtb' : Nat} {buf : Buf} {n il k : Nat} (hw : v.w.WF) (hn : 0 < v.w.n)
    (hsize : v.store.size = v.w.ivsize * v.nvertices) (hpos : v.pos = v.w.ivsize * k) (hk : k ≤ v.nvertices)
    (hvil : v.interlace = FULL_INTERLACE ∨ v.interlace = NO_INTERLACE)
    (h : v.write vtb buf n il = some (v', vtb')) :
    v'.nvertices = max v.nvertices (k + n) ∧ v'.store.size = v.w.ivsize * v'.nvertices ∧ v'.pos = v.w.ivsize * (k + n) ∧ v'.w = v.w := by
  unfold VS.write at h
  split at h
  · cases h
  · by_cases hn0 : n = 0
    · subst hn0; simp [vswriteCore] at h
    · by_cases hil : il = FULL_INTERLACE ∨ il = NO_INTERLACE
      · obtain ⟨store', vtb2, w1, w2, _⟩ := vswriteCore_spec hw hn hvil hil v.store v.pos vtb buf (by omega : 1 ≤ n)
        rw [w1] at h
        simp only [Option.some.injEq, Prod.mk.injEq] at h
        obtain ⟨rfl, _⟩ := h
        have hiv := ivsize_pos hw hn
        have hdiv : v.pos / v.w.ivsize = k := by rw [hpos, Nat.mul_div_cancel_left _ hiv]
        simp only [hdiv]
        refine ⟨trivial, ?_, by rw [hpos]; ring, trivial⟩
        rw [w2, hsize, hpos, ← Nat.mul_add]
        rcases Nat.le_total v.nvertices (k + n) with c | c
        · rw [Nat.max_eq_right c, Nat.max_eq_right (Nat.mul_le_mul_left _ c)]
        · rw [Nat.max_eq_left c, Nat.max_eq_left (Nat.mul_le_mul_left _ c)]
      · have : vswriteCore v.w v.interlace v.store v.pos vtb buf n il = none := by
          unfold vswriteCore
          rw [if_neg hn0, if_neg (by omega)]
          rw [if_pos (by constructor <;> (intro e; exact hil (by simp [e])))]
        rw [this] at h; cases h

/-- the write list of `VSsetfields` may name the PREDEFINED fields `PX … NZ` (`rstab[]` of vsfld.c) next to user-defined ones:
    `vssetfields_schema` covers them (the record-size limit is applied to them too since commit fef3f30; before, the record size
    wrapped modulo 65536 and `VSwrite` overflowed its transfer buffer: known finding `limits-ivsize-wrap:reserved-field`).
    Here `A : uint8[65531]` and `PX` (4 bytes) fill a record of exactly `MAX_FIELD_SIZE` bytes, one more byte is refused. -/
theorem vssetfields_rstab_limit :
    ((vsfdefineTok [] "A" DFNT_UINT8 65531).bind fun usym => (buildWList usym ["A", "PX"]).map fun w =>
      (w.ivsize, w.fields.map (·.isize), w.fields.map (·.off))) = some (65535, [65531, 4], [0, 65531]) ∧
    ((vsfdefineTok [] "A" DFNT_UINT8 65532).bind fun usym => buildWList usym ["A", "PX"]).isNone = true := by decide

/-! `VSfdefine` of a name that is already defined replaces the definition at its index (hdf4 since commit b2ad584; the duplicate scan
before it compared with `rstab[j]`, the table of RESERVED symbols: DESIGN.md, C07): -/
theorem vsfdefine_redefine_replaces (usym : List SymDef) (name : String) (t o : Nat) (u' : List SymDef)
    (hmem : ∃ s ∈ usym, s.name = name) (h : vsfdefine usym name t o = some u') :
    u'.length = usym.length ∧ (u'.find? (·.name == name)).map (fun s => (s.type, s.order)) = some (t, o) := by
  unfold vsfdefine at h
  split at h; · cases h
  unfold vsfdefineTok at h
  split at h; · cases h
  split at h; · cases h
  rename_i nt hnt
  split at h; · cases h
  obtain ⟨s0, hs0, hn0⟩ := hmem
  have hex : ∃ j, usym.findIdx? (fun s => s.name == name) = some j := by
    cases hf : usym.findIdx? (fun s => s.name == name) with
    | some j => exact ⟨j, rfl⟩
    | none =>
      rw [List.findIdx?_eq_none_iff] at hf
      have := hf s0 hs0
      simp [hn0] at this
  obtain ⟨j, hj⟩ := hex
  rw [hj] at h
  simp only [Option.some.injEq] at h
  subst h
  rw [List.findIdx?_eq_some_iff_getElem] at hj
  obtain ⟨hlt, hjname, hbefore⟩ := hj
  refine ⟨by simp, ?_⟩
  -- the first entry named `name` in the updated list is the new definition at index j
  have : (usym.set j ⟨name, t, nt.tsz, o⟩).find? (·.name == name) = some ⟨name, t, nt.tsz, o⟩ := by
    rw [List.find?_eq_some_iff_getElem]
    refine ⟨by simp, j, by simpa using hlt, by simp, ?_⟩
    intro k hk
    have hk' : k < usym.length := by omega
    have := hbefore k hk
    rw [List.getElem_set_ne (by omega)]
    simpa using this
  rw [this]; rfl

end H4.Props.C07
