import H4.Lemmas.C07FldSetR
/-! C07 / C20, function-level Tie A: the Vdata schema functions `VSfdefine` and `VSsetfields` of `hdf/src/vsfld.c` and `DFKNTsize` of
    `hdf/src/dfconv.c`, as translated statement by statement from the CURRENT C text (`H4.Gen.Fn.Vsfld`, `H4.Gen.Fn.Dfconv`, written by
    gen/c2lean.py on every run), compute the hand-written models the C07 / C20 theorems are about:

    * `DFKNTsize`            = `ntsize`, i.e. the size table `H4.VData.ntInfo` (for every `int32` argument),
    * `VSfdefine`            = `H4.VData.vsfdefineTok` (the body of `vsfdefine` behind its `scanattrs` name test),
    * `VSsetfields`          = `H4.VData.VS.setFieldsTok` (the body of `VS.setFields` behind `scanattrs`): `buildWList` incl. the
                               predefined fields `rstab[]`, `buildRList`,
    * the limit predicates of `H4.Limits` (`fdefineOk`, `setfields`: C20) agree with these on their common ground.

    OUTSIDE the translated text (trusted base, stated in the generated doc comments): `scanattrs` (vparse.c: static token tables) — its
    answer `scan_ret`, the count `ac` and the rows `av[i]` = token, NUL, anything are ENTRY PARAMETERS, quantified over here; the
    atom lookups `HAatom_group` (answer = parameter `vkey_group`) and `HAatom_object` (the vdata `w->vs` = the members `vs_…`);
    `malloc` / `realloc` / `strdup` never fail.  `usym[]` (array of structs with a `char *name`) = one region per member, the names
    an array of rows; the five `uint16` arrays of the write list live inside the one block `bptr` (`VsImg`).
    A change of the C text changes the generated definitions; these theorems are re-checked against them. -/
namespace H4.Props.C07Fld
open H4 H4.VData H4.Gen.Hdf H4.Gen.Vs H4.Gen.Fn.Dfconv H4.Gen.Fn.Vsfld H4.VsfldEnc H4.Lemmas.C07Fld

/-- **`DFKNTsize` as translated from dfconv.c is the model's size table**, for every `int32` type code: no undefined behaviour,
    the result is `ntInfo t`'s `tsz`, `FAIL` (-1) for a code the table does not have (negative, `DFNT_CUSTOM`, ≥ 2·`DFNT_LITEND`, …). -/
theorem DFKNTsize_refines (fuel : Nat) (t : Int) (h1 : -2147483648 ≤ t) (h2 : t < 2147483648) :
    let s := DFKNTsize fuel t
    s.ub = false ∧ s.oof = false ∧ s.ret = (if t < 0 then -1 else match ntInfo t.toNat with | some nt => (nt.tsz : Int) | none => -1) := by
  intro s
  have : s = _ := DFKNTsize_spec fuel t h1 h2
  rw [this]
  exact ⟨rfl, rfl, rfl⟩

example : (DFKNTsize 0 24).ret = 4 ∧ (DFKNTsize 0 (24 + 4096 + 16384)).ret = 4 ∧ (DFKNTsize 0 6).ret = 8 ∧ (DFKNTsize 0 7).ret = -1
    ∧ (DFKNTsize 0 (-5)).ret = -1 ∧ (DFKNTsize 0 (8192 + 24)).ret = -1 ∧ (DFKNTsize 0 24).ub = false := by decide

/-- **`VSfdefine` as translated from vsfld.c computes `vsfdefineTok`.**  For EVERY symbol table `usym` (names C strings of single-byte
    characters, fewer than 32767 symbols — `nusym` is an `int16`), every token `tok` that `scanattrs` delivered (`av[0]` = the token, its
    NUL, anything behind; further rows arbitrary), every `int32` type and order:
    no undefined behaviour, the loop terminates, and
    * the model accepts ⇒ the C returns `SUCCEED` and `vs->usym[]` / `vs->nusym` are the model's new table (redefinition in place, else
      appended; `realloc` by one element);
    * the model refuses ⇒ the C returns `FAIL` and NOTHING of the vdata has changed. -/
theorem VSfdefine_refines (usym : List SymDef) (hn : ∀ sd ∈ usym, NameOK sd.name) (hlen : usym.length < 32767)
    (unull : Bool) (hnull : unull = true → usym = []) (tok : String) (htok : NameOK tok) (pad : List Int) (rest : List (List Int))
    (t order vkey scan_ret : Int) (h32 : -2147483648 ≤ t ∧ t < 2147483648) (hs : scan_ret ≠ -1) (fuel : Nat) (hf : usym.length ≤ fuel) :
    let s := VSfdefine fuel vkey t order 1 ((chars tok ++ 0 :: pad) :: rest) VSIDGROUP false false scan_ret usym.length (nameRows usym) unull
      (isizeCol usym) (typeCol usym) (orderCol usym)
    s.ub = false ∧ s.oof = false ∧
    match vsfdefineI usym tok t order with
    | some u' => s.ret = 0 ∧ s.vs_nusym = u'.length ∧ s.vs_usym_name = nameRows u' ∧ s.vs_usym_isize = isizeCol u' ∧
        s.vs_usym_type = typeCol u' ∧ s.vs_usym_order = orderCol u' ∧ s.vs_usym_null = false
    | none => s.ret = -1 ∧ s.vs_nusym = usym.length ∧ s.vs_usym_name = nameRows usym ∧ s.vs_usym_isize = isizeCol usym ∧
        s.vs_usym_type = typeCol usym ∧ s.vs_usym_order = orderCol usym ∧ s.vs_usym_null = unull := by
  intro s
  rw [vsfdefineI_eq]
  by_cases hl : FdLimits t order
  · rw [if_pos hl]
    exact VSfdefine_accept usym hn tok htok pad rest t order vkey scan_ret h32 hs unull hnull hlen fuel hf hl
  · rw [if_neg hl]
    exact VSfdefine_refuse fuel vkey t order 1 ((chars tok ++ 0 :: pad) :: rest) VSIDGROUP false false scan_ret usym.length (nameRows usym) unull
      (isizeCol usym) (typeCol usym) (orderCol usym) h32 fun h => hl h.2.2.2.2.2

/-- the hand-written `vsfdefine` of the C07 theorems is `vsfdefineTok` behind the name test that stands for `scanattrs(field)`
    delivering exactly one token (`ac != 1` is refused) -/
theorem vsfdefine_is_tok (usym : List SymDef) (name : String) (t o : Nat) :
    vsfdefine usym name t o = if name.isEmpty ∨ name.contains ',' then none else vsfdefineTok usym name t o := rfl

/-- **refused at the entry tests** (not a vdata key, no instance, no vdata, `scanattrs` failed or delivered ≠ 1 token, order or size out of
    range): `FAIL`, no undefined behaviour, the symbol table untouched — for ARBITRARY regions (whatever `av` holds) -/
theorem VSfdefine_refused_unchanged (fuel : Nat) (vkey t order ac : Int) (av : List (List Int)) (group : Int) (wnull vsnull : Bool)
    (scan_ret nusym : Int) (names : List (List Int)) (unull : Bool) (isz typ ord : List Int) (h32 : -2147483648 ≤ t ∧ t < 2147483648)
    (hbad : group ≠ VSIDGROUP ∨ wnull = true ∨ vsnull = true ∨ scan_ret = -1 ∨ ac ≠ 1 ∨ ¬ FdLimits t order) :
    let s := VSfdefine fuel vkey t order ac av group wnull vsnull scan_ret nusym names unull isz typ ord
    s.ub = false ∧ s.oof = false ∧ s.ret = -1 ∧ s.vs_nusym = nusym ∧ s.vs_usym_name = names ∧ s.vs_usym_isize = isz ∧
      s.vs_usym_type = typ ∧ s.vs_usym_order = ord ∧ s.vs_usym_null = unull := by
  refine VSfdefine_refuse fuel vkey t order ac av group wnull vsnull scan_ret nusym names unull isz typ ord h32 fun ⟨g1, g2, g3, g4, g5, g6⟩ => ?_
  rcases hbad with b | b | b | b | b | b
  · exact b g1
  · exact absurd (b.symm.trans g2) (by decide)
  · exact absurd (b.symm.trans g3) (by decide)
  · exact g4 b
  · exact b g5
  · exact b g6

/-- the hypotheses are satisfiable and the translated code runs (kernel evaluation): a new field, a redefinition, a refused order -/
example :
    let u : List SymDef := [⟨"ab", 24, 4, 2⟩]
    (∀ sd ∈ u, NameOK sd.name) ∧ NameOK "Temp" ∧
    (let s := runFdefine 3 u "Temp" 22 3
     s.ub = false ∧ s.oof = false ∧ s.ret = 0 ∧ s.vs_nusym = 2 ∧ s.vs_usym_name = nameRows (u ++ [⟨"Temp", 22, 2, 3⟩]) ∧ s.vs_usym_isize = [4, 2]) ∧
    (let s := runFdefine 3 u "ab" 6 1
     s.ret = 0 ∧ s.vs_nusym = 1 ∧ s.vs_usym_type = [6] ∧ s.vs_usym_isize = [8]) ∧
    (let s := runFdefine 3 u "x" 24 16384
     s.ub = false ∧ s.ret = -1 ∧ s.vs_nusym = 1 ∧ s.vs_usym_name = nameRows u) := by decide

/-- **`VSsetfields` as translated from vsfld.c computes `VS.setFieldsTok`.**  For EVERY model vdata `v` (user symbols valid as `VSfdefine`
    leaves them, names C strings of single-byte characters, `ivsize = 0` while there is no field) whose C image the arguments are
    (`VsImg`: any access mode, any record count, any write list with its five arrays inside `bptr`, any symbol table, any read list),
    every list of names `scanattrs` delivered (`ac = |names|` — also 0, also more than `VSFIELDMAX`; `av[i]` = name, NUL, anything):
    no undefined behaviour — also for the `VSFIELDMAX`-th field and for names of `FIELDNAMELENMAX` characters, every length is covered —,
    all eight loops terminate, the return value is `SUCCEED` exactly when the model accepts, and the vdata afterwards is the C image of
    the model's: on an empty writable vdata the write list `buildWList` (user symbols before the predefined ones `rstab[]`, `esize`,
    `isize`, offsets, `ivsize` with its `MAX_FIELD_SIZE` tests); on a vdata with records the read list `buildRList`.
    `marked` / `new_h_sz` are set exactly when a write list was built. -/
theorem VSsetfields_refines (v : VS) (names : List String) (pads : List (List Int)) (fuel : Nat)
    (hpl : pads.length = names.length) (hnames : ∀ nm ∈ names, NameOK nm) (hus : ∀ sd ∈ v.usym, sd.Valid ∧ NameOK sd.name)
    (hwf : ∀ f ∈ v.w.fields, NameOK f.name) (hw0 : v.w.n = 0 → v.w.ivsize = 0)
    (vkey scan_ret acc marked newhsz t1 t2 t3 t4 t5 : Int) (hs : scan_ret ≠ -1) (hacc : acc = 119 ↔ v.writable = true)
    (hcur : v.w.fields ≠ [] → t1 = 0 ∧ t2 = v.w.n ∧ t3 = 2 * v.w.n ∧ t4 = 3 * v.w.n ∧ t5 = 4 * v.w.n)
    (item : List Int) (hitem : ∀ j, j < v.rlist.length → item.getD j 0 = ((v.rlist.getD j 0 : Nat) : Int)) (inull : Bool)
    (hf : names.length + v.usym.length + v.w.fields.length + 9 ≤ fuel) :
    let s := VSsetfields fuel vkey false names.length (avRows names pads) VSIDGROUP false false scan_ret acc v.nvertices v.w.n v.w.ivsize
      (wBptr v.w) v.w.fields.isEmpty t1 t2 t3 t4 t5 (wNames v.w) v.w.fields.isEmpty v.usym.length (nameRows v.usym) (orderCol v.usym)
      (typeCol v.usym) (isizeCol v.usym) marked newhsz v.rlist.length item inull
    s.ub = false ∧ s.oof = false ∧ s.ret = (if (v.setFieldsTok names).2 = true then 0 else -1) ∧ VsImg (v.setFieldsTok names).1 s ∧
      (if (v.writable = true ∧ v.nvertices = 0 ∧ v.w.n = 0) ∧ (v.setFieldsTok names).2 = true
       then s.vs_marked = 1 ∧ s.vs_new_h_sz = 1 else s.vs_marked = marked ∧ s.vs_new_h_sz = newhsz) := by
  intro s
  have hs' : s = _ := VSsetfields_pieces ..
  rw [hs']
  exact sf_model v names pads fuel _ hus hwf hw0 ⟨rfl, rfl, rfl⟩ rfl rfl
    (.of_parts hacc rfl ⟨rfl, rfl, rfl, rfl, rfl, rfl, hcur⟩ ⟨rfl, rfl, rfl, rfl, rfl⟩ ⟨rfl, hitem⟩) ⟨rfl, rfl, rfl, rfl, hs⟩ ⟨hpl, hnames, rfl, rfl⟩ hf

/-- **atomicity on the C text**: a refused `VSsetfields` leaves the write list, the symbol table, the record count and the two
    `marked` / `new_h_sz` members exactly as they were, whatever was refused and wherever in the list -/
theorem VSsetfields_refused_unchanged (v : VS) (names : List String) (pads : List (List Int)) (fuel : Nat)
    (hpl : pads.length = names.length) (hnames : ∀ nm ∈ names, NameOK nm) (hus : ∀ sd ∈ v.usym, sd.Valid ∧ NameOK sd.name)
    (hwf : ∀ f ∈ v.w.fields, NameOK f.name) (hw0 : v.w.n = 0 → v.w.ivsize = 0)
    (vkey scan_ret acc marked newhsz t1 t2 t3 t4 t5 : Int) (hs : scan_ret ≠ -1) (hacc : acc = 119 ↔ v.writable = true)
    (hcur : v.w.fields ≠ [] → t1 = 0 ∧ t2 = v.w.n ∧ t3 = 2 * v.w.n ∧ t4 = 3 * v.w.n ∧ t5 = 4 * v.w.n)
    (item : List Int) (hitem : ∀ j, j < v.rlist.length → item.getD j 0 = ((v.rlist.getD j 0 : Nat) : Int)) (inull : Bool)
    (hf : names.length + v.usym.length + v.w.fields.length + 9 ≤ fuel) (href : (v.setFieldsTok names).2 = false) :
    let s := VSsetfields fuel vkey false names.length (avRows names pads) VSIDGROUP false false scan_ret acc v.nvertices v.w.n v.w.ivsize
      (wBptr v.w) v.w.fields.isEmpty t1 t2 t3 t4 t5 (wNames v.w) v.w.fields.isEmpty v.usym.length (nameRows v.usym) (orderCol v.usym)
      (typeCol v.usym) (isizeCol v.usym) marked newhsz v.rlist.length item inull
    s.ret = -1 ∧ s.vs_wlist_n = v.w.n ∧ s.vs_wlist_ivsize = v.w.ivsize ∧ s.vs_wlist_bptr = wBptr v.w ∧ s.vs_wlist_name = wNames v.w ∧
      s.vs_wlist_bptr_null = v.w.fields.isEmpty ∧ s.vs_wlist_name_null = v.w.fields.isEmpty ∧
      s.vs_nusym = v.usym.length ∧ s.vs_usym_name = nameRows v.usym ∧ s.vs_usym_type = typeCol v.usym ∧
      s.vs_usym_isize = isizeCol v.usym ∧ s.vs_usym_order = orderCol v.usym ∧ s.vs_nvertices = v.nvertices ∧
      s.vs_marked = marked ∧ s.vs_new_h_sz = newhsz := by
  intro s
  have hm := VSsetfields_refines v names pads fuel hpl hnames hus hwf hw0 vkey scan_ret acc marked newhsz t1 t2 t3 t4 t5 hs hacc hcur item hitem inull hf
  simp only at hm
  obtain ⟨_, _, g3, g4, g5⟩ := hm
  rw [href] at g3 g5
  simp only [Bool.false_eq_true, if_false, and_false] at g3 g5
  have hv : (v.setFieldsTok names).1.w = v.w ∧ (v.setFieldsTok names).1.usym = v.usym ∧ (v.setFieldsTok names).1.nvertices = v.nvertices := by
    rcases setFieldsTok_refused v names href with e | ⟨_, e⟩ <;> rw [e]
    exact ⟨rfl, rfl, rfl⟩
    exact ⟨rfl, rfl, rfl⟩
  obtain ⟨e1, e2, e3⟩ := hv
  exact ⟨g3, by rw [g4.wn, e1], by rw [g4.wiv, e1], by rw [g4.wb, e1], by rw [g4.wnm, e1], by rw [g4.wbn, e1], by rw [g4.wnn, e1],
    by rw [g4.un, e2], by rw [g4.u1, e2], by rw [g4.u2, e2], by rw [g4.u3, e2], by rw [g4.u4, e2], by rw [g4.nv, e3], g5.1, g5.2⟩

/-- **refused at the entry tests** (`fields == NULL`, not a vdata key, no instance, no vdata, `scanattrs` failed): `FAIL`, and the
    members listed keep their values (`sf_untouched`, by which this is proved, says it of the whole state), for ARBITRARY arguments
    (whatever `av`, `ac` and the vdata hold) -/
theorem VSsetfields_entry_refused (fuel : Nat) (vkey : Int) (fnull : Bool) (ac : Int) (av : List (List Int)) (group : Int) (wnull vsnull : Bool)
    (scan_ret acc nv n iv : Int) (b : List Int) (bn : Bool) (t1 t2 t3 t4 t5 : Int) (nmr : List (List Int)) (nn : Bool) (nusym : Int)
    (un : List (List Int)) (uo ut ui : List Int) (marked newhsz rn : Int) (item : List Int) (inull : Bool)
    (hbad : fnull = true ∨ group ≠ VSIDGROUP ∨ wnull = true ∨ vsnull = true ∨ scan_ret = -1 ∨ ac = 0 ∨ ac > 256) :
    let s := VSsetfields fuel vkey fnull ac av group wnull vsnull scan_ret acc nv n iv b bn t1 t2 t3 t4 t5 nmr nn nusym un uo ut ui marked newhsz rn item inull
    s.ub = false ∧ s.oof = false ∧ s.ret = -1 ∧ s.vs_wlist_n = n ∧ s.vs_wlist_ivsize = iv ∧ s.vs_wlist_bptr = b ∧ s.vs_wlist_name = nmr ∧
      s.vs_usym_name = un ∧ s.vs_nusym = nusym ∧ s.vs_rlist_n = rn ∧ s.vs_rlist_item = item ∧ s.vs_marked = marked ∧ s.vs_new_h_sz = newhsz := by
  intro s
  have hs' : s = _ := VSsetfields_pieces ..
  rw [hs', sf_untouched fuel _ ⟨rfl, rfl, rfl⟩ (Or.inl ((not_sfOk_iff _).mpr hbad))]
  exact ⟨rfl, rfl, rfl, rfl, rfl, rfl, rfl, rfl, rfl, rfl, rfl, rfl, rfl⟩

/-- the translated code runs (kernel evaluation of the generated definition): a write list of a user field, a predefined field and a
    second user field; a list refused at its last name leaves nothing behind; a read list in another order on a vdata with records -/
example :
    let v : VS := { usym := [⟨"A", 21, 1, 3⟩, ⟨"Bx", 24, 4, 1⟩] }
    (∀ sd ∈ v.usym, NameOK sd.name) ∧
    (let s := runSetfields 20 v ["Bx", "PX", "A"]
     s.ub = false ∧ s.oof = false ∧ s.ret = 0 ∧ sameVdata (v.setFieldsTok ["Bx", "PX", "A"]).1 s = true ∧ s.vs_wlist_ivsize = 11 ∧
       s.vs_wlist_bptr = [24, 5, 21, 0, 4, 8, 4, 4, 3, 1, 1, 3, 4, 4, 3] ∧ s.vs_marked = 1) ∧
    (let s := runSetfields 20 v ["Bx", "A", "nosuch"]
     s.ub = false ∧ s.oof = false ∧ s.ret = -1 ∧ sameVdata v s = true ∧ s.vs_wlist_n = 0 ∧ s.vs_wlist_bptr = [] ∧ s.vs_marked = 0) ∧
    (let v2 : VS := { (v.setFieldsTok ["Bx", "PX", "A"]).1 with nvertices := 5 }
     let s := runSetfields 20 v2 ["A", "Bx"]
     s.ub = false ∧ s.oof = false ∧ s.ret = 0 ∧ s.vs_rlist_n = 2 ∧ s.vs_rlist_item = [2, 0] ∧ sameVdata (v2.setFieldsTok ["A", "Bx"]).1 s = true) := by
  decide

end H4.Props.C07Fld
