import H4.Lemmas.C06Fn
import H4.Props.C06
/-! # C06, function level — the conversion kernels, as TRANSLATED from the C text, compute the model `H4.Conv.convert`

`H4.Gen.Fn.Dfkswap` / `H4.Gen.Fn.Dfknat` are regenerated from `hdf/src/dfkswap.c` / `hdf/src/dfknat.c` of /repo's current tree on every run
(`gen/c2lean.py`, statement by statement).  There `s`/`d` are ADDRESSES into one flat byte memory, so `source == dest`, in-place and
overlapping calls are represented faithfully; `buf[]` is the local scratch array; `num_elm` is a `uint32` (`i++` wraps at 2^32).

For EVERY memory, element count `0 < num < 2^32`, offsets and strides such that every accessed cell lies inside the memory
(`Accessed` = the model's `InBounds` at the effective strides), each routine, run with fuel `≥ num`, has no undefined behaviour,
does not run out of fuel, returns 0 and leaves exactly the memory `convert esz swap num so ss dO ds` computes — so
`H4.Props.C06.convert_elementwise`, `convert_frame`, `inplace_eq_outofplace`, `fast_path_eq_strided`, … are statements about the C text.
All four paths of every routine are covered (fast/strided × out-of-place/in-place); `num = 0` returns -1 (`FAIL`) with the memory untouched.

Side conditions (exactly where the C needs them; in-place calls `so = dO` need none):
* out-of-place loops assign byte by byte WITHOUT the temporary `buf[]`: the source and the destination element of the SAME iteration must
  not overlap (`StepDisj`).  Without it the C text and the model really differ (`sb4b_overlap_differs` below): the model reads the whole
  element before it writes, the C loop does not.
* `DFKnb*b` fast path out of place is one `memcpy(dest, source, num_elm * esz)`: the regions must not overlap (C11 7.24.2.1) — the
  translated routine reports `ub = true` EXACTLY when they do (`…_fast_ub_iff`) — and the byte count is computed in `uint32`
  arithmetic, so `num * esz < 2^32` is needed for the count not to wrap (`DFKnb4b_count_wraps`). -/
namespace H4.Props.C06Fn
open H4 H4.Conv H4.Lemmas.C06Fn H4.Gen.Fn.Dfkswap H4.Gen.Fn.Dfknat

/-- every cell the call touches lies inside the memory: the model's `InBounds` at the strides the call really uses (`0/0` = contiguous) -/
def Accessed (esz num so ss dO ds len : Nat) : Prop := InBounds esz num so (effS esz ss ds) dO (effD esz ss ds) len
instance (esz num so ss dO ds len : Nat) : Decidable (Accessed esz num so ss dO ds len) := by unfold Accessed; infer_instance

/-- out-of-place calls: same-iteration source and destination elements are disjoint (trivially true for disjoint buffers) -/
def OutOfPlaceOK (esz num so ss dO ds : Nat) : Prop := so ≠ dO → StepDisj esz num so (effS esz ss ds) dO (effD esz ss ds)
instance (esz num so ss dO ds : Nat) : Decidable (OutOfPlaceOK esz num so ss dO ds) := by unfold OutOfPlaceOK; infer_instance

/-- `DFKnb*b` out of place: strided → as `OutOfPlaceOK`; fast path → the two `num*esz`-byte regions are disjoint and the `uint32`
    byte count does not wrap -/
def NbOutOfPlaceOK (esz num so ss dO ds : Nat) : Prop :=
  so ≠ dO → if fastNb esz ss ds then Disj so (num * esz) dO (num * esz) ∧ num * esz < 4294967296 else StepDisj esz num so ss dO ds
instance (esz num so ss dO ds : Nat) : Decidable (NbOutOfPlaceOK esz num so ss dO ds) := by unfold NbOutOfPlaceOK; infer_instance

/-- **`DFKsb2b` refines `convert 2 true`** on all four paths -/
theorem DFKsb2b_refines (fuel num so ss dO ds : Nat) (m : List Byte) (hf : num ≤ fuel) (hn0 : num ≠ 0) (hn : num < 4294967296)
    (hb : Accessed 2 num so ss dO ds m.length) (hd : OutOfPlaceOK 2 num so ss dO ds) :
    let r := DFKsb2b fuel so (bytes m) dO num ss ds
    r.ub = false ∧ r.oof = false ∧ r.ret = 0 ∧ some r.mem = (convert 2 true num so ss dO ds m).map bytes :=
  of_good hn0 (gsb_good (DFKsb2b_view fuel so (bytes m) dO num ss ds) hf hn0 hn hb hd)
/-- in place, stride 3 (through `buf[]`) -/
example : Accessed 2 3 1 3 1 3 12 ∧ OutOfPlaceOK 2 3 1 3 1 3 ∧
    (DFKsb2b 3 1 (bytes [0, 1, 2, 9, 3, 4, 9, 5, 6, 9, 9, 9]) 1 3 3 3).mem = bytes [0, 2, 1, 9, 4, 3, 9, 6, 5, 9, 9, 9] := by decide

/-- **`DFKsb4b` refines `convert 4 true`** -/
theorem DFKsb4b_refines (fuel num so ss dO ds : Nat) (m : List Byte) (hf : num ≤ fuel) (hn0 : num ≠ 0) (hn : num < 4294967296)
    (hb : Accessed 4 num so ss dO ds m.length) (hd : OutOfPlaceOK 4 num so ss dO ds) :
    let r := DFKsb4b fuel so (bytes m) dO num ss ds
    r.ub = false ∧ r.oof = false ∧ r.ret = 0 ∧ some r.mem = (convert 4 true num so ss dO ds m).map bytes :=
  of_good hn0 (gsb_good (DFKsb4b_view fuel so (bytes m) dO num ss ds) hf hn0 hn hb hd)
/-- out of place, fast path (strides 0/0) -/
example : Accessed 4 2 0 0 8 0 16 ∧ OutOfPlaceOK 4 2 0 0 8 0 ∧
    (DFKsb4b 2 0 (bytes [1, 2, 3, 4, 5, 6, 7, 8, 0, 0, 0, 0, 0, 0, 0, 0]) 8 2 0 0).mem
      = bytes [1, 2, 3, 4, 5, 6, 7, 8, 4, 3, 2, 1, 8, 7, 6, 5] := by decide

/-- **`DFKsb8b` refines `convert 8 true`** -/
theorem DFKsb8b_refines (fuel num so ss dO ds : Nat) (m : List Byte) (hf : num ≤ fuel) (hn0 : num ≠ 0) (hn : num < 4294967296)
    (hb : Accessed 8 num so ss dO ds m.length) (hd : OutOfPlaceOK 8 num so ss dO ds) :
    let r := DFKsb8b fuel so (bytes m) dO num ss ds
    r.ub = false ∧ r.oof = false ∧ r.ret = 0 ∧ some r.mem = (convert 8 true num so ss dO ds m).map bytes :=
  of_good hn0 (gsb_good (DFKsb8b_view fuel so (bytes m) dO num ss ds) hf hn0 hn hb hd)
/-- in place, fast path; and out of place with different strides -/
example : Accessed 8 1 1 0 1 0 10 ∧ OutOfPlaceOK 8 1 1 0 1 0 ∧
    (DFKsb8b 1 1 (bytes [9, 1, 2, 3, 4, 5, 6, 7, 8, 9]) 1 1 0 0).mem = bytes [9, 8, 7, 6, 5, 4, 3, 2, 1, 9] := by decide
example : Accessed 8 2 0 8 16 9 33 ∧ OutOfPlaceOK 8 2 0 8 16 9 := by decide

/-- **`DFKnb1b` refines `convert 1 false`**: `memcpy` path, nothing-to-do path (`so = dO`, strides 0/0 or 1/1) and the byte loop
    (which needs no disjointness at all: single bytes).  `num_elm` is passed to `memcpy` unscaled, so no wrap condition. -/
theorem DFKnb1b_refines (fuel num so ss dO ds : Nat) (m : List Byte) (hf : num ≤ fuel) (hn0 : num ≠ 0) (hn : num < 4294967296)
    (hb : Accessed 1 num so ss dO ds m.length) (hd : so ≠ dO → fastNb 1 ss ds → Disj so num dO num) :
    let r := DFKnb1b fuel so (bytes m) dO num ss ds
    r.ub = false ∧ r.oof = false ∧ r.ret = 0 ∧ some r.mem = (convert 1 false num so ss dO ds m).map bytes :=
  of_good hn0 (gnb1_good (DFKnb1b_view fuel so (bytes m) dO num ss ds) hf hn0 hn hb hd)
/-- the byte loop (source stride 2, destination stride 1), and the `memcpy` path -/
example : Accessed 1 3 0 2 5 1 8 ∧ (DFKnb1b 3 0 (bytes [1, 0, 2, 0, 3, 7, 7, 7]) 5 3 2 1).mem = bytes [1, 0, 2, 0, 3, 1, 2, 3] := by decide
example : Accessed 1 3 0 0 4 0 8 ∧ fastNb 1 0 0 ∧ Disj 0 3 4 3 ∧
    (DFKnb1b 0 0 (bytes [1, 2, 3, 0, 7, 7, 7, 7]) 4 3 0 0).mem = bytes [1, 2, 3, 0, 1, 2, 3, 7] := by decide

/-- **`DFKnb2b` refines `convert 2 false`** on all four paths -/
theorem DFKnb2b_refines (fuel num so ss dO ds : Nat) (m : List Byte) (hf : num ≤ fuel) (hn0 : num ≠ 0) (hn : num < 4294967296)
    (hb : Accessed 2 num so ss dO ds m.length) (hd : NbOutOfPlaceOK 2 num so ss dO ds) :
    let r := DFKnb2b fuel so (bytes m) dO num ss ds
    r.ub = false ∧ r.oof = false ∧ r.ret = 0 ∧ some r.mem = (convert 2 false num so ss dO ds m).map bytes :=
  of_good hn0 (gnb_good (DFKnb2b_view fuel so (bytes m) dO num ss ds) (gbody_step 2 false · false) hf hn0 hn hb hd)
/-- `memcpy` fast path selected by strides 2/2 -/
example : Accessed 2 2 0 2 4 2 8 ∧ NbOutOfPlaceOK 2 2 0 2 4 2 ∧
    (DFKnb2b 0 0 (bytes [1, 2, 3, 4, 0, 0, 0, 0]) 4 2 2 2).mem = bytes [1, 2, 3, 4, 1, 2, 3, 4] := by decide

/-- **`DFKnb4b` refines `convert 4 false`** -/
theorem DFKnb4b_refines (fuel num so ss dO ds : Nat) (m : List Byte) (hf : num ≤ fuel) (hn0 : num ≠ 0) (hn : num < 4294967296)
    (hb : Accessed 4 num so ss dO ds m.length) (hd : NbOutOfPlaceOK 4 num so ss dO ds) :
    let r := DFKnb4b fuel so (bytes m) dO num ss ds
    r.ub = false ∧ r.oof = false ∧ r.ret = 0 ∧ some r.mem = (convert 4 false num so ss dO ds m).map bytes :=
  of_good hn0 (gnb_good (DFKnb4b_view fuel so (bytes m) dO num ss ds) (gbody_step 4 false · false) hf hn0 hn hb hd)
/-- in place with source stride 4, destination stride 5 (through `buf[]`) -/
example : Accessed 4 2 0 4 0 5 9 ∧ NbOutOfPlaceOK 4 2 0 4 0 5 ∧
    (DFKnb4b 2 0 (bytes [1, 2, 3, 4, 5, 6, 7, 8, 9]) 0 2 4 5).mem = bytes [1, 2, 3, 4, 5, 5, 6, 7, 8] := by decide

/-- **`DFKnb8b` refines `convert 8 false`** (its loops are `memcpy(dest, source, 8)` / `memcpy(buf, …)`; `memcpy` non-overlap is `StepDisj`) -/
theorem DFKnb8b_refines (fuel num so ss dO ds : Nat) (m : List Byte) (hf : num ≤ fuel) (hn0 : num ≠ 0) (hn : num < 4294967296)
    (hb : Accessed 8 num so ss dO ds m.length) (hd : NbOutOfPlaceOK 8 num so ss dO ds) :
    let r := DFKnb8b fuel so (bytes m) dO num ss ds
    r.ub = false ∧ r.oof = false ∧ r.ret = 0 ∧ some r.mem = (convert 8 false num so ss dO ds m).map bytes :=
  of_good hn0 (gnb_good (DFKnb8b_view fuel so (bytes m) dO num ss ds) body8_step hf hn0 hn hb hd)
/-- out of place, strided (`memcpy(dest, source, 8)` per element) -/
example : Accessed 8 1 0 9 9 9 17 ∧ NbOutOfPlaceOK 8 1 0 9 9 9 ∧
    (DFKnb8b 1 0 (bytes [1, 2, 3, 4, 5, 6, 7, 8, 0, 0, 0, 0, 0, 0, 0, 0, 0]) 9 1 9 9).mem
      = bytes [1, 2, 3, 4, 5, 6, 7, 8, 0, 1, 2, 3, 4, 5, 6, 7, 8] := by decide

/-! ## `num_elm = 0` is refused (`return FAIL`), memory untouched — the model's `convert … 0 … = none` (`C06.convert_zero_refused`);
    for ANY memory and ANY pointer/stride values -/

theorem DFKsb2b_zero (fuel : Nat) (so dO ss ds : Int) (M : List Int) :
    let r := DFKsb2b fuel so M dO 0 ss ds
    r.ub = false ∧ r.oof = false ∧ r.ret = -1 ∧ r.mem = M := by simp [DFKsb2b]
theorem DFKsb4b_zero (fuel : Nat) (so dO ss ds : Int) (M : List Int) :
    let r := DFKsb4b fuel so M dO 0 ss ds
    r.ub = false ∧ r.oof = false ∧ r.ret = -1 ∧ r.mem = M := by simp [DFKsb4b]
theorem DFKsb8b_zero (fuel : Nat) (so dO ss ds : Int) (M : List Int) :
    let r := DFKsb8b fuel so M dO 0 ss ds
    r.ub = false ∧ r.oof = false ∧ r.ret = -1 ∧ r.mem = M := by simp [DFKsb8b]
theorem DFKnb1b_zero (fuel : Nat) (so dO ss ds : Int) (M : List Int) :
    let r := DFKnb1b fuel so M dO 0 ss ds
    r.ub = false ∧ r.oof = false ∧ r.ret = -1 ∧ r.mem = M := by simp [DFKnb1b]
theorem DFKnb2b_zero (fuel : Nat) (so dO ss ds : Int) (M : List Int) :
    let r := DFKnb2b fuel so M dO 0 ss ds
    r.ub = false ∧ r.oof = false ∧ r.ret = -1 ∧ r.mem = M := by simp [DFKnb2b]
theorem DFKnb4b_zero (fuel : Nat) (so dO ss ds : Int) (M : List Int) :
    let r := DFKnb4b fuel so M dO 0 ss ds
    r.ub = false ∧ r.oof = false ∧ r.ret = -1 ∧ r.mem = M := by simp [DFKnb4b]
theorem DFKnb8b_zero (fuel : Nat) (so dO ss ds : Int) (M : List Int) :
    let r := DFKnb8b fuel so M dO 0 ss ds
    r.ub = false ∧ r.oof = false ∧ r.ret = -1 ∧ r.mem = M := by simp [DFKnb8b]
example : (DFKsb2b 5 0 (bytes [1, 2]) 0 0 0 0).ret = -1 ∧ convert 2 true 0 0 0 0 0 [1, 2] = none := by decide

/-! ## the `memcpy` fast path of `DFKnb*b`: undefined behaviour EXACTLY when the two regions overlap

The model's `convert` gives such a call a value (its forward element loop: a plain move when `dO < so`, a periodic smear of the first
`dO - so` bytes when `so < dO`); the C text has no defined result, so no memory claim is made — only that the translated routine
flags it, and flags nothing else. -/

theorem DFKnb1b_fast_ub_iff (fuel num so ss dO ds : Nat) (m : List Byte) (hn0 : num ≠ 0) (hne : so ≠ dO) (hfast : fastNb 1 ss ds)
    (hb1 : so + num ≤ m.length) (hb2 : dO + num ≤ m.length) :
    (DFKnb1b fuel so (bytes m) dO num ss ds).ub = true ↔ ¬ Disj so num dO num :=
  gnb1_fast_ub (DFKnb1b_view fuel so (bytes m) dO num ss ds) hn0 hne hfast hb1 hb2
theorem DFKnb2b_fast_ub_iff (fuel num so ss dO ds : Nat) (m : List Byte) (hn0 : num ≠ 0) (hne : so ≠ dO) (hfast : fastNb 2 ss ds)
    (hb1 : so + num * 2 ≤ m.length) (hb2 : dO + num * 2 ≤ m.length) (hlt : num * 2 < 4294967296) :
    (DFKnb2b fuel so (bytes m) dO num ss ds).ub = true ↔ ¬ Disj so (num * 2) dO (num * 2) :=
  gnb_fast_ub (DFKnb2b_view fuel so (bytes m) dO num ss ds) hn0 hne hfast hb1 hb2 hlt
theorem DFKnb4b_fast_ub_iff (fuel num so ss dO ds : Nat) (m : List Byte) (hn0 : num ≠ 0) (hne : so ≠ dO) (hfast : fastNb 4 ss ds)
    (hb1 : so + num * 4 ≤ m.length) (hb2 : dO + num * 4 ≤ m.length) (hlt : num * 4 < 4294967296) :
    (DFKnb4b fuel so (bytes m) dO num ss ds).ub = true ↔ ¬ Disj so (num * 4) dO (num * 4) :=
  gnb_fast_ub (DFKnb4b_view fuel so (bytes m) dO num ss ds) hn0 hne hfast hb1 hb2 hlt
theorem DFKnb8b_fast_ub_iff (fuel num so ss dO ds : Nat) (m : List Byte) (hn0 : num ≠ 0) (hne : so ≠ dO) (hfast : fastNb 8 ss ds)
    (hb1 : so + num * 8 ≤ m.length) (hb2 : dO + num * 8 ≤ m.length) (hlt : num * 8 < 4294967296) :
    (DFKnb8b fuel so (bytes m) dO num ss ds).ub = true ↔ ¬ Disj so (num * 8) dO (num * 8) :=
  gnb_fast_ub (DFKnb8b_view fuel so (bytes m) dO num ss ds) hn0 hne hfast hb1 hb2 hlt

example : fastNb 2 0 0 ∧ ¬ Disj 0 6 2 6 ∧ (DFKnb2b 0 0 (bytes [1, 2, 3, 4, 5, 6, 7, 8]) 2 3 0 0).ub = true := by decide

/-- out of place with the destination element one byte after the source element (`dO = so + 1`, not a `memcpy`, no UB in C): the C loop
    reads `source[1]` AFTER it has overwritten it through `dest[2]`, the model reads the whole element first.  The callers of
    `DFKconvert` pass either the same or disjoint buffers, for which `OutOfPlaceOK` holds. -/
theorem sb4b_overlap_differs :
    (DFKsb4b 1 0 (bytes [1, 2, 3, 4, 5]) 1 1 0 0).mem = [1, 4, 3, 4, 1] ∧ (DFKsb4b 1 0 (bytes [1, 2, 3, 4, 5]) 1 1 0 0).ub = false ∧
    (convert 4 true 1 0 0 1 0 [1, 2, 3, 4, 5]).map bytes = some [1, 4, 3, 2, 1] ∧ ¬ OutOfPlaceOK 4 1 0 0 1 0 := by decide

/-- the same for the unrolled copy loop of `DFKnb2b` (strided, `dO = so + 1`) -/
theorem nb2b_overlap_differs :
    (DFKnb2b 1 0 (bytes [1, 2, 3]) 1 1 5 5).mem = [1, 1, 1] ∧ (convert 2 false 1 0 5 1 5 [1, 2, 3]).map bytes = some [1, 1, 2] ∧
    ¬ NbOutOfPlaceOK 2 1 0 5 1 5 := by decide

/-- `memcpy(dest, source, num_elm * 4)` is computed in `uint32`: with `num_elm = 2^30` the count wraps to 0, nothing is copied and the
    routine returns success (no UB) — for any memory and any two different in-range addresses.  (Unreachable through the file interface,
    whose element lengths are `int32`; reachable through the public `DFKconvert` on a ≥ 4 GiB buffer.) -/
theorem DFKnb4b_count_wraps (fuel so dO : Nat) (M : List Int) (hne : so ≠ dO) (h1 : so ≤ M.length) (h2 : dO ≤ M.length) :
    let r := DFKnb4b fuel so M dO 1073741824 0 0
    r.ub = false ∧ r.ret = 0 ∧ r.mem = M := by
  have e2 : ¬ ((so : Int) = (dO : Int)) := by omega
  simp [DFKnb4b, DFKnb4b.chk, e2]
  omega

end H4.Props.C06Fn
