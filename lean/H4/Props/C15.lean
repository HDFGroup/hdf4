import H4.Lemmas.Codecs
import H4.Lemmas.CodecsSpread
/-! # C15 — data written through one interface is seen identically through every other interface (property theorems)

    What is proved here is the agreement of the *record codecs the interfaces share*, each as `decode_B (encode_A x) = x`:
    the 8-bit raster run-length coder of `dfrle.c`, the big-endian field macros, the DFTAG_SDD dimension record
    (DFSD / SD writers versus SD / DFSD readers) and the DFTAG_ID / DFTAG_LD image and palette dimension records
    (DFGR / DF24 / DFR8 / GR writers versus GR / DFGR / DFR8 readers).  The glue around them (group records, Vgroups,
    number conversion, nc* versus SD) is covered by the `xapi` engine only. -/
namespace H4.Props.C15
open H4.Codecs H4.Gen.Codecs

theorem unrleS_rle (stale tail row : List Byte) (first : Bool) (h : first = true ∨ stale = []) :
    DFCIunrleS stale (DFCIrle row ++ tail) row.length first = some ⟨row, (DFCIrle row).length, []⟩ := by
  obtain ⟨hv, he⟩ := rlePkts_ok row
  have hs : (if first = true then [] else stale) = [] := by rcases h with rfl | rfl <;> simp
  have hl := unrleLoop_ser tail (rlePkts row) hv ((DFCIrle row ++ tail).length + 1) (by rw [List.length_append]; exact Nat.le_succ_of_le (Nat.le_add_right _ _))
  rw [he] at hl
  simp only [DFCIunrleS, hs, List.length_nil, List.take_nil, List.nil_append, Nat.sub_zero, List.drop_nil]
  cases row with
  | nil => rfl
  | cons a l => rw [if_pos (show 0 < (a :: l).length from Nat.succ_pos _)]; exact congrArg _ hl

/-- the same call in full: whatever the static save area held before (`resetsave` discards it), exactly the compressed
    bytes are consumed (the return value) and nothing is left in the save area -/
theorem dfrle_roundtrip_full (stale : List Byte) (row : List Byte) :
    DFCIunrleS stale (DFCIrle row) row.length true = some ⟨row, (DFCIrle row).length, []⟩ := by
  simpa using unrleS_rle stale [] row true (Or.inl rfl)

/-- Every row of bytes, of any length and content, compressed by `DFCIrle` and handed to `DFCIunrle` with the row
    length and `resetsave = 1` comes back unchanged.
    C-side limits not visible in the model (lengths are `Nat` here): `len` is an `int32` and the scan condition
    `i + 120 > len` overflows for `len > INT32_MAX - 120`; the result needs up to `len + len/121 + 1` bytes. -/
theorem dfrle_roundtrip (row : List Byte) : DFCIunrle (DFCIrle row) row.length = some row := by
  rw [DFCIunrle, dfrle_roundtrip_full]; rfl

/-- the compressed row never exceeds `len + len/121 + 1` bytes, hence fits the `xdim * 121 / 120 + 1` bytes `DFputcomp`
    (dfcomp.c) allocates per row ("120 chars can compress to 121!") -/
theorem dfrle_size_bound (row : List Byte) :
    (DFCIrle row).length ≤ row.length + row.length / 121 + 1 ∧ (DFCIrle row).length ≤ row.length * 121 / 120 + 1 := by
  have := encLoop_len row.length [] row (Nat.le_refl _) (by simp)
  simp only [List.length_nil, Nat.zero_add] at this
  constructor
  · unfold DFCIrle rlePkts; omega
  · unfold DFCIrle rlePkts; omega

example : (DFCIrle ((List.range 121).map UInt8.ofNat ++ [200, 201, 201, 201, 202])).length = 128 := by decide +kernel

example : DFCIunrle (DFCIrle (List.replicate 121 7 ++ [1, 1, 2, 2, 2, 3] ++ (List.range 125).map UInt8.ofNat)) 252 =
    some (List.replicate 121 7 ++ [1, 1, 2, 2, 2, 3] ++ (List.range 125).map UInt8.ofNat) := by decide +kernel
example : DFCIrle ([5, 5, 5, 5, 9, 8, 8, 7, 7, 7] : List Byte) = [132, 5, 3, 9, 8, 8, 131, 7] := by decide +kernel

/-- a whole image as `DFputcomp` stores it (each row compressed on its own, results concatenated) decoded by the row
    loop of `DFgetcomp` (`resetsave` for the first row only, input advanced by each return value): every row comes back -/
theorem dfrle_image_roundtrip (rows : List (List Byte)) :
    unrleRows [] (rows.flatMap DFCIrle) true (rows.map List.length) = some rows := by
  suffices h : ∀ (first : Bool), unrleRows [] (rows.flatMap DFCIrle) first (rows.map List.length) = some rows from h true
  induction rows with
  | nil => intro _; simp [unrleRows]
  | cons row rows ih =>
    intro first
    have hS := unrleS_rle [] (rows.flatMap DFCIrle) row first (Or.inr rfl)
    simp only [List.flatMap_cons, List.map_cons, unrleRows, hS, List.drop_left, ih false, Option.map_some]

example : unrleRows [] ([[1, 1, 1, 2], [], [3, 4, 4, 4]].flatMap DFCIrle) true [4, 0, 4] = some [[1, 1, 1, 2], [], [3, 4, 4, 4]] := by
  decide

/-- "non-rowwise compression" (the reason for `DFCIunrle`'s static save area): ONE compressed stream decoded by
    successive calls asking for arbitrary piece lengths `ns` (`resetsave` for the first call only, input advanced by each
    return value) yields exactly the consecutive pieces of the original bytes - whatever the packet boundaries are.
    The save area never holds more than 120 bytes (`unrleLoop_take`), so `save[255]` cannot overflow. -/
theorem dfrle_split_roundtrip (row : List Byte) (ns : List Nat) (h : ns.sum ≤ row.length) :
    unrleRows [] (DFCIrle row) true ns = some (chop row ns) := by
  obtain ⟨hv, he⟩ := rlePkts_ok row
  have := unrleRows_chop [] ns [] (rlePkts row) true hv (fun _ => rfl) (by simpa [he] using h)
  simpa [DFCIrle, he] using this

example : unrleRows [] (DFCIrle [1, 1, 1, 1, 1, 2, 3, 4, 4, 4, 4]) true [2, 0, 5, 1, 3] =
    some [[1, 1], [], [1, 1, 1, 2, 3], [4], [4, 4, 4]] := by decide +kernel

/-- `UINT16DECODE ∘ UINT16ENCODE = id` on 16-bit values -/
theorem uint16_roundtrip (n : Nat) (h : n < 65536) : (match enc16 n with | [a, b] => dec16 a b | _ => 0) = n := by
  simp only [enc16]; exact dec16_enc16 n h

/-- `UINT32DECODE ∘ UINT32ENCODE = id` on 32-bit values -/
theorem uint32_roundtrip (n : Nat) (h : n < 4294967296) : (match enc32 n with | [a, b, c, d] => dec32 a b c d | _ => 0) = n := by
  simp only [enc32]; exact dec32_enc32 n h

/-- `INT16DECODE ∘ INT16ENCODE = id` on int16 values -/
theorem int16_roundtrip (i : Int) (h : I16 i) : (match encI16 i with | [a, b] => decI16 a b | _ => 0) = i := by
  simp only [encI16, enc16]; exact decI16_encI16 i h.1 h.2

/-- `INT32DECODE ∘ INT32ENCODE = id` on int32 values -/
theorem int32_roundtrip (i : Int) (h : I32 i) : (match encI32 i with | [a, b, c, d] => decI32 a b c d | _ => 0) = i := by
  simp only [encI32, enc32]; exact decI32_encI32 i h.1 h.2

example : encI32 (-2) = [255, 255, 255, 254] ∧ decI32 255 255 255 254 = -2 ∧ enc16 701 = [2, 189] ∧ dec16 2 189 = 701 := by decide +kernel

/-- what the reads common to both DFTAG_SDD readers return on a well-formed record: the rank, the sizes, the data NT, the scale NTs, nothing left over -/
theorem sdd_reads (dims : List Int) (nt : Nat × Nat) (snts : List (Nat × Nat)) (hr : dims.length < 32768) (hd : ∀ d ∈ dims, I32 d)
    (hn : U16 nt.1 ∧ U16 nt.2) (hs : snts.length = dims.length ∧ ∀ t ∈ snts, U16 t.1 ∧ U16 t.2) :
    decI16 (UInt8.ofNat ((dims.length >>> 8) &&& 0xff)) (UInt8.ofNat (dims.length &&& 0xff)) = (dims.length : Int) ∧
    readI32s dims.length (dims.flatMap encI32 ++ (encTagRef nt ++ snts.flatMap encTagRef)) = some (dims, encTagRef nt ++ snts.flatMap encTagRef) ∧
    readTagRefs 1 (encTagRef nt ++ snts.flatMap encTagRef) = some ([nt], snts.flatMap encTagRef) ∧
    readTagRefs dims.length (snts.flatMap encTagRef) = some (snts, []) := by
  have hrank := decI16_encI16 (dims.length : Int) (by omega) (by omega)
  rw [toU16_nat _ (by omega)] at hrank
  have h2 := readTagRefs_enc (snts.flatMap encTagRef) [nt] (by simpa using hn)
  have h3 := readTagRefs_enc [] snts hs.2
  simp only [List.flatMap_cons, List.flatMap_nil, List.append_nil, List.length_cons, List.length_nil, Nat.zero_add] at h2 h3
  exact ⟨hrank, readI32s_enc _ dims hd, h2, hs.1 ▸ h3⟩

/-- the record layout itself: any rank 1..32767 (the reader takes the rank as an `int16` and rejects ≤ 0), non-negative
    int32 sizes, 16-bit tags and refs, one NT pair for the data and one per dimension -/
theorem sdd_roundtrip (x : Sdd) (hr : 0 < x.dims.length ∧ x.dims.length < 32768)
    (hd : ∀ d ∈ x.dims, 0 ≤ d ∧ d < 2147483648) (hn : U16 x.dataNt.1 ∧ U16 x.dataNt.2)
    (hs : x.scaleNts.length = x.dims.length ∧ ∀ t ∈ x.scaleNts, U16 t.1 ∧ U16 t.2) :
    decode_hdfsds (encodeSddRaw x.dims.length x.dims (x.dataNt :: x.scaleNts)) = some x := by
  obtain ⟨dims, nt, snts⟩ := x
  simp only at hr hd hn hs
  obtain ⟨hrank, h1, h2, h3⟩ := sdd_reads dims nt snts hr.2 (fun d h => ⟨by have := hd d h; omega, (hd d h).2⟩) hn hs
  have hneg : dims.any (· < 0) = false := by
    simp only [List.any_eq_false, decide_eq_true_eq]; intro d h; have := hd d h; omega
  have hpos : ¬ ((dims.length : Int) ≤ 0) := by have := hr.1; omega
  simp only [encodeSddRaw, enc16, List.cons_append, List.nil_append, decode_hdfsds, hrank, List.flatMap_cons, hpos, ↓reduceIte,
    Int.toNat_natCast, h1, hneg, Bool.false_eq_true, h2, h3]

/-- DFSD → SD: the DFTAG_SDD record `DFSDIputndg` writes for dimension sizes `dims` (rank = `dims.length`) and NT element
    `ntRef` is parsed by `hdf_read_ndgs` into the same rank and sizes and the same NT for the data and every scale.
    Range: rank 1..32767 (written as uint16, read as int16, rank 0 rejected by the reader), sizes 0..2^31-1 (int32, a
    negative size is rejected by the reader), refs uint16. -/
theorem sdd_dfsd_to_sd (dims : List Int) (ntRef : Nat) (hr : 0 < dims.length ∧ dims.length < 32768)
    (hd : ∀ d ∈ dims, 0 ≤ d ∧ d < 2147483648) (hn : ntRef < 65536) :
    decode_hdfsds (encode_dfsd dims ntRef) = some ⟨dims, (DFTAG_NT, ntRef), List.replicate dims.length (DFTAG_NT, ntRef)⟩ := by
  have := sdd_roundtrip ⟨dims, (DFTAG_NT, ntRef), List.replicate dims.length (DFTAG_NT, ntRef)⟩ hr hd
    ⟨(by decide : DFTAG_NT < 65536), hn⟩ ⟨by simp, by intro t ht; rw [List.eq_of_mem_replicate ht]; exact ⟨(by decide : DFTAG_NT < 65536), hn⟩⟩
  simpa [encode_dfsd, List.replicate_succ] using this

example : decode_hdfsds (encode_dfsd [3, 0, 70000] 2) = some ⟨[3, 0, 70000], (106, 2), [(106, 2), (106, 2), (106, 2)]⟩ := by decide +kernel

/-- the DFSD reader on the record layout: any rank 0..32767, any int32 sizes (no range checks in `DFSDIgetndg`) -/
theorem sdd_roundtrip_dfsd (x : Sdd) (hr : x.dims.length < 32768)
    (hd : ∀ d ∈ x.dims, I32 d) (hn : U16 x.dataNt.1 ∧ U16 x.dataNt.2)
    (hs : x.scaleNts.length = x.dims.length ∧ ∀ t ∈ x.scaleNts, U16 t.1 ∧ U16 t.2) :
    decode_dfsd (encodeSddRaw x.dims.length x.dims (x.dataNt :: x.scaleNts)) = some x := by
  obtain ⟨dims, nt, snts⟩ := x
  simp only at hr hd hn hs
  obtain ⟨hrank, h1, h2, h3⟩ := sdd_reads dims nt snts hr hd hn hs
  simp only [encodeSddRaw, enc16, List.cons_append, List.nil_append, decode_dfsd, hrank, List.flatMap_cons,
    Int.toNat_natCast, h1, h2, h3]

/-- SD → DFSD: the DFTAG_SDD record `hdf_write_var` (mfhdf) writes is parsed by `DFSDIgetndg` into the same rank, sizes, NTs -/
theorem sdd_sd_to_dfsd (dims : List Int) (ntRef : Nat) (hr : dims.length < 32768)
    (hd : ∀ d ∈ dims, I32 d) (hn : ntRef < 65536) :
    decode_dfsd (encode_mfsd dims ntRef) = some ⟨dims, (DFTAG_NT, ntRef), List.replicate dims.length (DFTAG_NT, ntRef)⟩ := by
  have := sdd_roundtrip_dfsd ⟨dims, (DFTAG_NT, ntRef), List.replicate dims.length (DFTAG_NT, ntRef)⟩ hr hd
    ⟨(by decide : DFTAG_NT < 65536), hn⟩ ⟨by simp, by intro t ht; rw [List.eq_of_mem_replicate ht]; exact ⟨(by decide : DFTAG_NT < 65536), hn⟩⟩
  simpa [encode_mfsd, List.replicate_succ] using this

example : decode_dfsd (encode_mfsd [5, 4] 7) = some ⟨[5, 4], (106, 7), [(106, 7), (106, 7)]⟩ := by decide +kernel

/-- the 20-byte layout: `Decode_diminfo` (mfgr.c) / `DFGRgetrig` (dfgr.c) return every field `DFGRaddrig` stored -/
theorem dim_roundtrip (r : DimRec) (h : r.InRange) : decode_mfgr (encodeDim r) = some r := by
  obtain ⟨x, y, t, rf, n, i, ct, cr⟩ := r
  obtain ⟨hx, hy, ht, hrf, hn, hi, hct, hcr⟩ := h
  simp only [encodeDim, encI32, encI16, enc32, enc16, List.cons_append, List.nil_append, decode_mfgr,
    decI32_encI32 x hx.1 hx.2, decI32_encI32 y hy.1 hy.2, dec16_enc16 t ht, dec16_enc16 rf hrf,
    decI16_encI16 n hn.1 hn.2, decI16_encI16 i hi.1 hi.2, dec16_enc16 ct hct, dec16_enc16 cr hcr]

/-- DFGR / DF24 → GR and → DFGR: `Decode_diminfo` and the inline decoding of `DFGRgetrig` are one function in the model (`decode_dfgr := decode_mfgr`) -/
theorem dim_dfgr_to_mfgr (r : DimRec) (h : r.InRange) :
    decode_mfgr (encode_dfgr r) = some r ∧ decode_dfgr (encode_dfgr r) = some r :=
  ⟨dim_roundtrip r h, dim_roundtrip r h⟩

example : decode_mfgr (encode_dfgr ⟨300, 2, 106, 5, 3, 2, 0, 0⟩) = some ⟨300, 2, 106, 5, 3, 2, 0, 0⟩ := by decide +kernel

/-- DFR8 → GR: the DFTAG_ID record of an 8-bit image written by `DFR8putrig` is read by GR as one component, pixel
    interlace, the same sizes, NT and compression tag/ref -/
theorem dim_dfr8_to_mfgr (xdim ydim : Int) (ntRef compTag compRef : Nat) (hx : I32 xdim) (hy : I32 ydim)
    (hn : ntRef < 65536) (hc : compTag < 65536 ∧ compRef < 65536) :
    decode_mfgr (encode_dfr8 xdim ydim ntRef compTag compRef) = some ⟨xdim, ydim, DFTAG_NT, ntRef, 1, 0, compTag, compRef⟩ :=
  dim_roundtrip _ ⟨hx, hy, (by decide : DFTAG_NT < 65536), hn, (by decide : I16 1), (by decide : I16 0), hc.1, hc.2⟩

example : decode_mfgr (encode_dfr8 640 480 2 11 2) = some ⟨640, 480, 106, 2, 1, 0, 11, 2⟩ := by decide +kernel

/-- GR → DFR8 / DFGR: what `GRIupdateRIG` stores (interlace forced to pixel) is what the old readers get; `DFR8getrig`
    accepts it exactly when the image has one component -/
theorem dim_mfgr_to_old (r : DimRec) (h : r.InRange) :
    decode_dfgr (encode_mfgr r) = some { r with il := 0 } ∧
    decode_dfr8 (encode_mfgr r) = (if r.ncomps = 1 then some { r with il := 0 } else none) := by
  obtain ⟨hx, hy, ht, hrf, hn, hi, hct, hcr⟩ := h
  have hr : ({ r with il := (MFGR_INTERLACE_PIXEL : Int) } : DimRec).InRange := ⟨hx, hy, ht, hrf, hn, (by decide : I16 (MFGR_INTERLACE_PIXEL : Int)), hct, hcr⟩
  have := dim_roundtrip _ hr
  refine ⟨this, ?_⟩
  simp only [decode_dfr8, encode_mfgr, this]
  rfl

example : decode_dfr8 (encode_mfgr ⟨7, 9, 106, 3, 1, 2, 0, 0⟩) = some ⟨7, 9, 106, 3, 1, 0, 0, 0⟩ := by decide +kernel

/-- **`spread_pixel`**: for every image width `w ≤ xdim` (the caller's row stride), every height and every buffer that
    can hold the spread image, after the in-place row spreading of `DFR8getimage` pixel (r, c) of the image — read
    contiguously to the start of the buffer — is at `r * xdim + c`: what GR returns for (r, c) -/
theorem spread_pixel (w h xdim : Nat) (hw : w ≤ xdim) (buf : List Byte) (hlen : h = 0 ∨ (h - 1) * xdim + w ≤ buf.length)
    (r c : Nat) (hr : r < h) (hc : c < w) :
    (spreadRows w h xdim buf).getD (r * xdim + c) 0 = buf.getD (r * w + c) 0 := by
  unfold spreadRows
  split
  · exact (spreadRowsFrom_spec w xdim hw h buf hlen).1 r c hr hc
  · have : xdim = w := by omega
    subst this; rfl

/-- nothing at or beyond row `h` of the caller's buffer is written, and the buffer keeps its size (no byte beyond it) -/
theorem spread_frame (w h xdim : Nat) (hw : w ≤ xdim) (buf : List Byte) (hlen : h = 0 ∨ (h - 1) * xdim + w ≤ buf.length) :
    (spreadRows w h xdim buf).length = buf.length ∧
    ∀ i, h * xdim ≤ i → (spreadRows w h xdim buf).getD i 0 = buf.getD i 0 := by
  unfold spreadRows
  split
  · exact ⟨spreadRowsFrom_length w xdim h buf, (spreadRowsFrom_spec w xdim hw h buf hlen).2⟩
  · exact ⟨rfl, fun _ _ => rfl⟩

/-- a 3 x 2 image into a buffer of stride 4 (overlapping rows: 3 < 4 < 6) -/
example : spreadRows 3 2 4 [1, 2, 3, 4, 5, 6, 0xA5, 0xA5] = [1, 2, 3, 4, 4, 5, 6, 0xA5]
    ∧ imageArea 3 2 4 (spreadRows 3 2 4 [1, 2, 3, 4, 5, 6, 0xA5, 0xA5]) = [1, 2, 3, 4, 5, 6] := by decide +kernel

end H4.Props.C15
