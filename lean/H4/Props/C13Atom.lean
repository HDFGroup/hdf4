import H4.Lemmas.Atom
/-! # C13 (atom layer) — handles are safe: valid ones never alias, stale ones are always rejected

Model: `H4.Atom` (`hdf/src/atom.c`: hash tables, free list, 4-entry cache with the `SWAP_CACHE` promotions, all
`MAXGROUP` groups, the real id encoding taken from the generated macros).
Every theorem is about ALL histories `ops : List Op` run from the static initial state `State.init`; the
hypotheses are the executable predicates of `H4.Atom`:

* `adm State.init ops`  – every `HAinit_group` has `hash_size ≤ 2^28`, and no `HAregister_atom` is made once a group's
  28-bit counter `atom_next_id[grp]` is exhausted (fewer than `2^28` registrations per group in the process).
  Nothing else: `HAshutdown`, `HAdestroy_group` + `HAinit_group` cycles are all admissible.

"The registrations that are live after `ops`" is the finite map of the specification machine `H4.Atom.SState`
(`Live` below): entered by a successful `HAregister_atom`, deleted by a successful `HAremove_atom` of that id, by the
last `HAdestroy_group` of its group or by `HAshutdown`. -/
namespace H4.Props.C13
open H4.Atom H4.Gen.Macros H4.Gen.Atom

abbrev after (ops : List Op) : State := runS State.init ops

abbrev resultAfter (ops : List Op) (op : Op) : Res := (step (after ops) op).2

abbrev mapAfter (ops : List Op) : SState := srunS SState.init ops

/-- `(id, obj)` is a live registration after `ops` -/
def Live (ops : List Op) (id obj : Nat) : Prop := (⟨id, obj⟩ : Info) ∈ (mapAfter ops (ATOM_TO_GROUP id)).live

/-- `ATOM_TO_GROUP (MAKE_ATOM g i) = g` for every group that fits the 4 group bits, whatever the counter -/
theorem group_of_make_atom (g i : Nat) (hg : g < 16) : ATOM_TO_GROUP (MAKE_ATOM g i) = g :=
  group_MAKE_ATOM g i hg

/-- for a power-of-two table of at most `2^28` buckets the lookup bucket `ATOM_TO_LOC` of an id equals the
    insertion bucket `nextid % hash_size` used by `HAregister_atom` -/
theorem loc_of_make_atom (g i k : Nat) (hg : g < 16) (hk : k ≤ 28) : ATOM_TO_LOC (MAKE_ATOM g i) (2 ^ k) = i % 2 ^ k :=
  loc_MAKE_ATOM g i k hk

/-- ids of one group are injective in the counter below `2^28` … -/
theorem make_atom_injective (g i j : Nat) (hg : g < 16) (hi : i < 2 ^ 28) (hj : j < 2 ^ 28)
    (h : MAKE_ATOM g i = MAKE_ATOM g j) : i = j := MAKE_ATOM_inj g i j hi hj h

/-- … and repeat with period exactly `2^28`: the `2^28`-th registration after a given one gets the SAME id. This is
    why `adm` bounds the registrations per group life time. -/
theorem make_atom_wraps (g i : Nat) : MAKE_ATOM g (i + 2 ^ 28) = MAKE_ATOM g i := MAKE_ATOM_wrap g i

/-- `HAinit_group`'s test accepts exactly the powers of two -/
theorem hash_size_pow2 (n : Nat) (h0 : n ≠ 0) : n &&& (n - 1) = 0 ↔ ∃ k, n = 2 ^ k :=
  ⟨pow2_of_and n h0, fun ⟨k, hk⟩ => by rw [hk]; exact and_pred_pow2 k⟩

/-- why `adm` asks for `hash_size ≤ 2^28` (`HAinit_group` does not check it): with `2^29` buckets the lookup bucket of an
    id of an ODD group is `2^28` away from the bucket `HAregister_atom` put it in, so a freshly issued id is not found
    (C reproduction: repro/atom/bighash.c; no caller in the library uses more than 256 buckets). -/
theorem hash_size_bound_needed (g i : Nat) (hg : g < 16) (hodd : g % 2 = 1) (hi : i < 2 ^ 28) :
    ATOM_TO_LOC (MAKE_ATOM g i) (2 ^ 29) = i % 2 ^ 29 + 2 ^ 28 := by
  rw [ATOM_TO_LOC_pow2 _ _ (by decide), MAKE_ATOM_eq g i]; omega

/-- `run_refines_map`: on every admissible history the whole state machine (hash tables, chains, free list, cache with its
    promotions) returns, call by call, exactly what a plain finite map `id ⇀ obj` per group returns
    (`HAsearch_atom`: some live matching object, `NULL` iff none). -/
theorem run_refines_map (ops : List Op) (h : adm State.init ops = true) :
    SRun SState.init ops (runR State.init ops) :=
  (run_refines init_R ops h).2

example : adm State.init [.init 3 4, .register 3 7, .register 3 8, .object 805306369, .search 3 2 1, .remove 805306368,
    .destroy 3, .object 805306369] = true := by decide

/-- `register_lookup`: an id returned by `HAregister_atom g obj` resolves to `obj` after any continuation `post` in
    which the id is not removed and the group's init count does not return to 0 (`keeps`). -/
theorem register_lookup (pre post : List Op) (g : Int) (obj id : Nat)
    (hadm : adm State.init (pre ++ .register g obj :: post) = true)
    (hreg : resultAfter pre (.register g obj) = .atom id) (hid : id ≠ FAIL_ATOM)
    (hkeep : keeps id (after (pre ++ [.register g obj])) post = true) :
    resultAfter (pre ++ .register g obj :: post) (.object id) = .obj obj := by
  simp only [adm_append, adm, Bool.and_eq_true] at hadm
  simp only [after, runS_append, runS] at hkeep
  have hR0 := reach pre hadm.1
  have hst := step_refines hR0 (.register g obj) hadm.2.1
  -- the spec says what the id is, and that the registration is now in the map
  have hres : Res.atom id = sres (mapAfter pre) (.register g obj) := hreg ▸ hst.2
  simp only [sres] at hres
  split at hres
  · exact absurd (Res.atom.inj hres) hid
  · next hc =>
    simp only [Bool.or_eq_true, not_or, Bool.not_eq_true, beq_eq_false_iff_ne] at hc
    obtain ⟨g', rfl, hg', hgn⟩ := badGroup_false hc.1
    rw [hgn] at hres hc
    have hres := Res.atom.inj hres
    have hgrp : ATOM_TO_GROUP id = g' := hres ▸ group_MAKE_ATOM g' _ (Nat.lt_trans hg' (by decide))
    have hmem : (⟨id, obj⟩ : Info) ∈ (sstep (mapAfter pre) (.register (g' : Int) obj) (ATOM_TO_GROUP id)).live := by
      rw [hgrp]; simp [sstep, hc.1, hc.2, hgn, upd_same, hres]
    have hfin := keeps_live hst.1 post hadm.2.2 ⟨id, obj⟩ hmem hkeep
    have hRf := (run_refines hst.1 post hadm.2.2).1
    simp only [resultAfter, after, runS_append, runS]
    exact congrArg Res.obj ((step_object hRf id).2.trans (by rw [slookup_of_mem hRf ⟨id, obj⟩ hfin]; rfl))
example : keeps 805306368 (after ([.init 3 4] ++ [.register 3 7])) [.register 3 8, .object 805306369, .init 3 8, .destroy 3,
    .remove 805306369] = true := by decide

def allLive (ops : List Op) : List Info := (List.range MAXGROUP).flatMap (fun g => (mapAfter ops g).live)

/-- `live_ids_distinct`: after every admissible history the ids of the live registrations (of all groups together) are
    pairwise distinct. At the counter wrap this FAILS in C: `make_atom_wraps` shows that the `2^28`-th later registration
    of a group receives the id of an earlier one whether or not that one is still live – hence the bound in `adm`. -/
theorem live_ids_distinct (ops : List Op) (h : adm State.init ops = true) :
    (allLive ops).Pairwise (fun a b => a.id ≠ b.id) := by
  have hR := reach ops h
  unfold allLive
  rw [List.pairwise_flatMap]
  refine ⟨fun g hg => (hR.sinv g (List.mem_range.mp hg)).nodup, ?_⟩
  have hM : MAXGROUP = 9 := rfl
  have key : ∀ g1 g2, g1 < MAXGROUP → g2 < MAXGROUP → g1 ≠ g2 →
      ∀ x ∈ (mapAfter ops g1).live, ∀ y ∈ (mapAfter ops g2).live, x.id ≠ y.id := by
    intro g1 g2 h1 h2 hne x hx y hy heq
    obtain ⟨i, _, hi⟩ := (hR.sinv g1 h1).ids x hx
    obtain ⟨j, _, hj⟩ := (hR.sinv g2 h2).ids y hy
    have e1 := group_MAKE_ATOM g1 i (by omega)
    have e2 := group_MAKE_ATOM g2 j (by omega)
    rw [← hi, heq, hj, e2] at e1
    exact hne e1.symm
  have hlt : (List.range MAXGROUP).Pairwise (· < ·) := List.pairwise_lt_range
  refine List.Pairwise.imp_of_mem ?_ hlt
  intro a b ha hb hab
  exact key a b (List.mem_range.mp ha) (List.mem_range.mp hb) (by omega)

/-- what the counter wrap does in the model of the C code: after `HAinit_group(g, 1)`, a first registration of `a` (never
    removed) and `2^28 - 1` further registrations, the next `HAregister_atom(g, b)` returns the id of `a` again, and
    `HAatom_object` of that id now yields `b`: the handle of `a` silently designates another object. -/
theorem counter_wrap_aliases (g : Nat) (hg : g < MAXGROUP) (a b c : Nat) :
    let pre := [Op.init (g : Int) 1, .register (g : Int) a] ++ List.replicate (2 ^ 28 - 1) (.register (g : Int) c)
    (step (runS State.init [Op.init (g : Int) 1]) (.register (g : Int) a)).2 = .atom (MAKE_ATOM g 0) ∧
    (step (runS State.init pre) (.register (g : Int) b)).2 = .atom (MAKE_ATOM g 0) ∧
    (step (runS State.init (pre ++ [.register (g : Int) b])) (.object (MAKE_ATOM g 0))).2 = .obj b := by
  intro pre
  obtain ⟨r1, h2⟩ := (Single.init hg).register (by decide) a
  obtain ⟨top, h3⟩ := Single.registers c (2 ^ 28 - 1) h2 (by decide)
  have hpre : runS State.init pre = runS (step (runS State.init [Op.init (g : Int) 1]) (.register (g : Int) a)).1
      (List.replicate (2 ^ 28 - 1) (.register (g : Int) c)) := runS_append _ _ _
  rw [← hpre] at h3
  -- the counter stands at `2^28` now, and the id made from it is the one made from 0
  have hid : MAKE_ATOM g (0 + 1 + (2 ^ 28 - 1)) = MAKE_ATOM g 0 := MAKE_ATOM_wrap g 0
  obtain ⟨r3, h4⟩ := h3.register (by decide) b
  rw [hid] at r3 h4
  refine ⟨r1, r3, ?_⟩
  rw [runS_append]
  exact h4.lookup (group_MAKE_ATOM g 0 (Nat.lt_trans hg (by decide)))

/-- `cache_coherent`: after every admissible history each cache slot is either unused (`-1`, `NULL`) or holds a live id
    together with that id's own object (preserved by the `SWAP_CACHE` promotions, by `HAremove_atom`'s single-slot
    sweep and by `HAdestroy_group`'s group sweep – this is the invariant `R.cache`/`R.cdist` of the induction) -/
theorem cache_coherent (ops : List Op) (h : adm State.init ops = true) :
    ∀ c ∈ (after ops).cache.toList, c = emptySlot ∨ Live ops c.id c.obj := by
  intro c hc
  rcases (reach ops h).cache c hc with h1 | h1
  · exact Or.inl h1
  · exact Or.inr (mem_of_slookup h1)

/-- no live id sits in two cache slots (what `HAremove_atom`'s `break` after the first hit relies on) -/
theorem cache_slots_distinct (ops : List Op) (h : adm State.init ops = true) :
    (after ops).cache.toList.Pairwise (fun a b => a.id = b.id → a.id = FAIL_ATOM) := (reach ops h).cdist

/-- `lookup_is_registered_object`: whenever `HAatom_object id` returns a non-NULL object `o` – from a cache slot or
    from the hash table – `(id, o)` is a live registration: never another id's object, never a released one. -/
theorem lookup_is_registered_object (ops : List Op) (id o : Nat) (h : adm State.init ops = true)
    (hres : resultAfter ops (.object id) = .obj o) (ho : o ≠ NULL) : Live ops id o := by
  have hR := reach ops h
  have := (step_object hR id).2
  simp only [resultAfter, step] at hres
  injection hres with hres
  rw [this] at hres
  cases hl : slookup (mapAfter ops) id with
  | none => rw [hl] at hres; exact absurd hres.symm ho
  | some o' => rw [hl] at hres; simp at hres; subst hres; exact mem_of_slookup hl

/-- conversely every live registration is found, with its own object -/
theorem live_is_found (ops : List Op) (id o : Nat) (h : adm State.init ops = true) (hl : Live ops id o) :
    resultAfter ops (.object id) = .obj o := by
  have hR := reach ops h
  have := slookup_of_mem hR ⟨id, o⟩ hl
  simp only [resultAfter, step, (step_object hR id).2, this]; rfl

/-- `stale_rejected`: an id that was issued (`issued`) and is not live (`isLive = false`: it was removed, its group was
    destroyed, or the library was shut down) is rejected by `HAatom_object` and `HAremove_atom` after ANY admissible
    continuation – including `HAdestroy_group` + `HAinit_group` of its group and `HAshutdown` + re-creation. -/
theorem stale_rejected (pre post : List Op) (id : Nat)
    (hadm : adm State.init (pre ++ post) = true)
    (hiss : issued (after pre) id = true) (hdead : isLive (after pre) id = false) :
    resultAfter (pre ++ post) (.object id) = .obj NULL ∧ resultAfter (pre ++ post) (.remove id) = .obj NULL := by
  rw [adm_append, Bool.and_eq_true] at hadm
  have hR := reach pre hadm.1
  simp only [resultAfter, after, runS_append]
  exact sstale_rejected hR post hadm.2 id (sstale_of_model hR id hiss hdead)

/-- `removed_rejected`: after a successful `HAremove_atom id` the id stays rejected for ever (any admissible continuation) -/
theorem removed_rejected (pre post : List Op) (id o : Nat)
    (hadm : adm State.init (pre ++ .remove id :: post) = true)
    (hrem : resultAfter pre (.remove id) = .obj o) (ho : o ≠ NULL) :
    resultAfter (pre ++ .remove id :: post) (.object id) = .obj NULL ∧
    resultAfter (pre ++ .remove id :: post) (.remove id) = .obj NULL := by
  simp only [adm_append, adm, Bool.and_eq_true] at hadm
  have hR := reach pre hadm.1
  have hst := step_refines hR (.remove id) rfl
  have hres : Res.obj o = sres (mapAfter pre) (.remove id) := hrem ▸ hst.2
  cases hl : slookup (mapAfter pre) id with
  | none => simp [sres, hl] at hres; exact absurd hres ho
  | some o' =>
    -- it was live, hence issued; the removal leaves the counter alone and takes it out of the map
    have hstale : SStale (sstep (mapAfter pre) (.remove id)) id :=
      ⟨slookup_remove hR id, by simpa only [sstep, hl, upd_same] using live_issued hR hl⟩
    simp only [resultAfter, after, runS_append]
    exact sstale_rejected hst.1 post hadm.2.2 id hstale

/-- hypotheses of `removed_rejected` on a history with collisions in a 2-bucket table, a cached id being removed and
    nested inits afterwards -/
example : adm State.init ([.init 4 2, .register 4 11, .register 4 12, .register 4 13, .object 1073741826] ++
      .remove 1073741826 :: [.init 4 8, .register 4 14, .destroy 4, .object 1073741824]) = true ∧
    resultAfter [.init 4 2, .register 4 11, .register 4 12, .register 4 13, .object 1073741826] (.remove 1073741826) = .obj 13 := by
  decide

/-- `never_issued_rejected`: an id that no `HAregister_atom` has produced (invalid group bits, a group that was never
    initialised, or a counter at or beyond the group's `nextid`) is rejected. -/
theorem never_issued_rejected (ops : List Op) (id : Nat) (h : adm State.init ops = true)
    (hni : issued (after ops) id = false) :
    resultAfter ops (.object id) = .obj NULL ∧ resultAfter ops (.remove id) = .obj NULL := by
  have hR := reach ops h
  apply object_of_none hR
  cases hl : slookup (mapAfter ops) id with
  | none => rfl
  | some o =>
    have hg := slookup_some_group hR hl
    have := live_issued hR hl
    simp [issued, hg, hR.nx _ hg, show ATOM_BITS = 28 from rfl] at hni
    omega

/-- never issued: counter beyond `nextid`, a valid but uninitialised group, group bits 9..15, `FAIL` itself -/
example : let ops := [Op.init 4 2, .register 4 11, .register 4 12]
    issued (after ops) 1073741826 = false ∧ issued (after ops) 805306368 = false ∧
    issued (after ops) 2415919104 = false ∧ issued (after ops) FAIL_ATOM = false ∧ issued (after ops) 1073741825 = true := by
  decide

/-- `wrong_group_rejected`: an id whose group bits name no group (`>= MAXGROUP`; this includes `FAIL` = -1) gets
    `BADGROUP` from `HAatom_group` and `NULL` from lookup and removal; an id of a group whose init count is 0 (never
    initialised, or destroyed) gets `NULL`; and `HAregister_atom`/`HAdestroy_group` in such a group fail. -/
theorem wrong_group_rejected (ops : List Op) (id : Nat) (h : adm State.init ops = true) :
    (MAXGROUP ≤ ATOM_TO_GROUP id → resultAfter ops (.group id) = .grp BADGROUP) ∧
    (MAXGROUP ≤ ATOM_TO_GROUP id ∨ groupCount (after ops) (ATOM_TO_GROUP id) = 0 →
      resultAfter ops (.object id) = .obj NULL ∧ resultAfter ops (.remove id) = .obj NULL) ∧
    (∀ (g : Int) (obj : Nat), badGroup g = true ∨ groupCount (after ops) g.toNat = 0 →
      resultAfter ops (.register g obj) = .atom FAIL_ATOM ∧ resultAfter ops (.destroy g) = .status FAIL) := by
  have hR := reach ops h
  refine ⟨?_, ?_, ?_⟩
  · intro hg
    simp only [resultAfter, step, atomGroupOf, badGroup_atomGroup, hg, decide_true, if_true]
  · intro hg
    apply object_of_none hR
    apply slookup_empty
    rcases Nat.lt_or_ge (ATOM_TO_GROUP id) MAXGROUP with hlt | hge
    · exact hR.dead _ ((groupCount_eq hR _ hlt).symm.trans (hg.resolve_left (Nat.not_le_of_lt hlt)))
    · exact (hR.out _ hge).1
  · intro g obj hg
    -- read off the two functions: a rejected group or one whose count is 0 takes the first or the second failure exit
    simp only [resultAfter, step, registerAtom, destroyGroup]
    by_cases hb : badGroup g = true
    · simp [hb]
    · have hc := hg.resolve_left hb
      unfold groupCount at hc
      cases hget : getG (after ops) g.toNat with
      | none => simp [hb]
      | some gp => rw [hget] at hc; simp [hb, show gp.count = 0 from hc]

/-- the full-strength `destroy_then_init_clean`: after the last `HAdestroy_group g` followed by `HAinit_group g`, no id
    that group `g` issued before resolves, whatever happens afterwards. -/
def DestroyThenInitClean : Prop :=
  ∀ (pre post : List Op) (g : Int) (hs id : Nat),
    adm State.init (pre ++ .destroy g :: .init g hs :: post) = true →
    issued (after pre) id = true → atomGroup id = g →
    groupCount (after (pre ++ [.destroy g])) g.toNat = 0 →
    resultAfter (pre ++ .destroy g :: .init g hs :: post) (.object id) = .obj NULL

/-- `destroy_then_init_clean` holds: the id counter `atom_next_id[g]` is not part of the group record, so a re-created
    group continues where the destroyed one stopped and an old id is never handed out for a new object.
    (Before the repair of atom.c `nextid` restarted at 0 and the statement failed, on the library too, at the history of the
    next example; the engine oracle `atom-id-reissued` watches for it.) -/
theorem destroy_then_init_clean : DestroyThenInitClean := by
  intro pre post g hs id hadm hiss hgrp hcnt
  subst hgrp
  rw [atomGroup_toNat] at hcnt
  have e : pre ++ .destroy (atomGroup id) :: .init (atomGroup id) hs :: post =
      (pre ++ [.destroy (atomGroup id)]) ++ (.init (atomGroup id) hs :: post) := by simp
  rw [e] at hadm ⊢
  refine (stale_rejected _ _ id hadm ?_ (isLive_of_count_zero _ id hcnt)).1
  have hstate : after (pre ++ [.destroy (atomGroup id)]) = (destroyGroup (after pre) (atomGroup id)).1 := by
    simp [after, runS_append, runS, step]
  unfold issued nextId at hiss ⊢
  rw [hstate, destroy_keeps_nextIds]; exact hiss

/-- the history that refuted the statement before the repair (init; register → id; destroy; init; register → the SAME id; lookup
    of the stale id → the new object), on the repaired code: the second registration gets the next id, the stale id is
    rejected by lookup and removal, the new handle works -/
example : runR State.init [.init 6 8, .register 6 100, .remove 1610612736, .object 1610612736, .destroy 6, .init 6 8,
      .register 6 200, .object 1610612736, .remove 1610612736, .object 1610612737]
    = [.status 0, .atom 1610612736, .obj 100, .obj 0, .status 0, .status 0, .atom 1610612737, .obj 0, .obj 0, .obj 200] := by
  decide

/-- the hypotheses of `DestroyThenInitClean` / `stale_rejected` are satisfiable on a history that destroys the group
    completely, re-creates it with another table size and registers again -/
example : adm State.init ([.init 6 2, .register 6 100, .register 6 101, .object 1610612737] ++ .destroy 6 :: .init 6 4 ::
      [.register 6 102, .object 1610612737, .shutdown, .init 6 1, .register 6 103]) = true ∧
    issued (after [.init 6 2, .register 6 100, .register 6 101, .object 1610612737]) 1610612737 = true ∧
    groupCount (after ([.init 6 2, .register 6 100, .register 6 101, .object 1610612737] ++ [.destroy 6])) 6 = 0 := by
  decide

/-- after `HAshutdown` every group is gone … -/
theorem shutdown_clears_groups (s : State) (g : Nat) : getG (shutdown s) g = none := getG_shutdown s g

/-- … and every cache slot is empty (the repair `fix: HAshutdown empties the atom cache`) -/
theorem shutdown_clears_cache (s : State) : (shutdown s).cache.toList = [emptySlot, emptySlot, emptySlot, emptySlot] := rfl

/-- `shutdown_rejects_everything`: directly after `HAshutdown` no id whatsoever resolves or can be removed – in particular
    not one that sat in the cache. -/
theorem shutdown_rejects_everything (ops : List Op) (id : Nat) (h : adm State.init ops = true) :
    resultAfter (ops ++ [.shutdown]) (.object id) = .obj NULL ∧ resultAfter (ops ++ [.shutdown]) (.remove id) = .obj NULL := by
  have hadm : adm State.init (ops ++ [.shutdown]) = true := by
    rw [adm_append, h]; rfl
  refine (wrong_group_rejected _ id hadm).2.1 (Or.inr ?_)
  have hstate : after (ops ++ [.shutdown]) = shutdown (after ops) := by simp [after, runS_append, runS, step]
  unfold groupCount
  rw [hstate, shutdown_clears_groups]

/-- the history that showed the stale cache before the repair (lookup caches the id; shutdown; lookup still answered; init; register
    re-issued the id and the lookup returned the OLD object), on the repaired code -/
example : runR State.init [.init 6 8, .register 6 100, .object 1610612736, .shutdown, .object 1610612736, .init 6 8,
      .register 6 200, .object 1610612736, .object 1610612737]
    = [.status 0, .atom 1610612736, .obj 100, .status 0, .obj 0, .status 0, .atom 1610612737, .obj 0, .obj 200] := by
  decide

end H4.Props.C13
