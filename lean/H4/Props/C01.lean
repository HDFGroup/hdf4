import H4.Lemmas.ElemSafeB
/-! # C01 — every data element behaves as a growable byte array (property theorems)

Model: `H4/Elem.lean` (`hfile.c`, `hfiledd.c`, `hblocks.c`, branch by branch, including the POSIX file underneath).
Byte-array view and specification: `H4/ElemSpec.lean` (`abs`, `specStep`, `specWrite`, `specRead`, `readCount`).
The theorems below are unbounded: any block length, table size, number of elements, files and access ids, any history.

`StepOK w op` (Lemmas/ElemOps.lean) abbreviates the one-step simulation diagram

    WFW (step w op).1 ∧ ∃ v', specStep (abs w) op (step w op).2 = some v' ∧ v'.Eqv (abs (step w op).1)

i.e. the well-formedness invariant is kept, the result returned is one the byte-array specification allows in the
abstract view of the state before the call, and the abstract view afterwards is the one the specification prescribes
(`Eqv`: same files, same bytes of *every* user element — this is the frame property: only the element written
changes —, same element and position behind every access id).
The lemma modules prove each call in the form `StepSim w op`: the same diagram from EVERY view equivalent to `abs w`, which
is what lets the steps of a history chain (`trace_of_sim`); `StepOK` is its instance at `abs w`.

Scope. Proved for histories of Hopen/Hclose/Hstartaccess/Hstartwrite/Hsetlength/HLcreate/HLconvert/HLsetblockinfo/
Happendable/Hseek/Htell/Hinquire/Hread/Hwrite/Htrunc/Hendaccess/Hdeldd with DD caching on (the default), under the side
conditions `Safe` (`H4/ElemSpec.lean`, `OpSafe`), each of which is either plain API discipline (fresh access id, user
tag, non-empty write, `Hclose` with no id open) or excludes one of the open findings F19, F20 (reproductions
under `repro/`; witness examples in section 6 below; keys in known_findings.json).
F18 (Htrunc on a linked-block element cut its description record) and F23 (read beyond the end of an appendable element
failed) were repaired in /repo (1e2fd75: refused; 21b8ab5: 0 bytes) and need no side condition, nor does F24 (two ids on
an element without length: 7f7ac10, dc05857); F20 was repaired for the in-place growth path only (998a325) and stays a condition of
`Hopen` for the remaining paths (space beyond the recomputed `f_end_off` handed out again by `HPgetdiskblock`).
A failing call is always admitted by `specStep`: no liveness is claimed except `hlpread_ok`; the reads that fail
although a byte array would deliver (`Htrunc` refused on linked-block elements) are engine findings; F26 (reads of reserved,
never written space failed with DD caching on) was repaired by af826f2: `File.hpRead` delivers zeros there. Tied to the C by the engine only (modelled and
driven, no theorem): `Hcache(FALSE)` write-through mode, `Hdupdd`, `Hlength/Hgetelement/Hputelement`. Not modelled:
int32 ranges (the model is unbounded), allocation failure, the bytes inside block-table elements (the tables live in
`File.links`; the file holds zeros there, which no call on a user element can observe — only an F19-dangling id can),
external/compressed/chunked elements, Hnextread/Hfind, the byte encoding of DD blocks (extents only: C02/C12). -/
namespace H4.Props.C01
open H4.Elem H4.Gen.Hdf H4.Gen.Elem

/-- the values of the generated constants the proofs rely on (Tie A pins them to /repo's current headers) -/
theorem consts : SPECIAL_TAG_BIT = 16384 ∧ EXTENDED_TAG_BIT = 32768 ∧ DFTAG_NULL = 1 ∧ DFTAG_LINKED = 20 ∧
    HDF_APPENDABLE_BLOCK_LEN = 4096 ∧ HDF_APPENDABLE_BLOCK_NUM = 16 ∧ MKSPECIAL_100 = mkSpecial 100 ∧
    BASETAG_MKSPECIAL_100 = baseTag (mkSpecial 100) ∧ isSpecial (mkSpecial 100) = true ∧ isSpecial 100 = false := by
  decide

/-! ## 1. the linked-block position arithmetic -/

/-- **linked_partition**: for every first-block length, block length ≥ 1, table size ≥ 1, position and length ≥ 1, the
    blocks visited by the `HLPread`/`HLPwrite` loop (start search, `relative_posn`, `++block_idx >= number_blocks`
    table hops) tile the byte range `[p, p+len)` exactly once and in order: each piece lies inside one block, inside
    its table, is non-empty, and begins at the element position where the previous piece ended. -/
theorem linked_partition (first blk nb p len : Nat) (hblk : 1 ≤ blk) (hnb : 1 ≤ nb) (hlen : 1 ≤ len) :
    Tiles first blk nb p (walk first blk nb p len) (p + len) :=
  walk_tiles first blk nb p len hblk hnb hlen

/-- one step of the walk, backwards: position `blockStart b + rel` is found in block `b` at offset `rel` -/
theorem linked_locate (first blk b rel : Nat) (hblk : 1 ≤ blk) (hrel : rel < blockLenOf first blk b) :
    startBlock first blk (blockStart first blk b + rel) = (b, rel, blockLenOf first blk b) :=
  startBlock_block first blk b rel hblk hrel

/-- non-vacuity: first block of 3 bytes, blocks of 4, tables of 2; 11 bytes from position 2 span four blocks, two tables -/
example : walk 3 4 2 2 11 =
    [{ tbl := 0, idx := 0, rel := 2, n := 1, cur := 3 }, { tbl := 0, idx := 1, rel := 0, n := 4, cur := 4 },
     { tbl := 1, idx := 0, rel := 0, n := 4, cur := 4 }, { tbl := 1, idx := 1, rel := 0, n := 2, cur := 4 }] := by decide
example : Tiles 3 4 2 2 (walk 3 4 2 2 11) 13 := linked_partition 3 4 2 2 11 (by decide) (by decide) (by decide)

/-! ## 2. linked-block read and write against the byte string of the element -/

/-- **hlpread_spec** (`HLPread` as repaired by 9115bb2/4e6d0b8; before, the count was too large at a hole — F1 — and a
    read at the end overran the buffer — F2): on a well-formed descriptor a read that does not fail returns exactly
    `readCount` bytes (length 0 = to the end, clamped at the end) and they are the element's bytes at that position,
    holes (blocks never written) reading as zeros. -/
theorem hlpread_spec (f : File) (li : LinkInfo) (hw : WFL f li) (posn : Nat) (length : Int) (hl : 0 ≤ length) :
    hlpRead f li posn length = .fail ∨
    hlpRead f li posn length =
      .data (readCount li.length posn length.toNat : Nat)
        ((List.range (readCount li.length posn length.toNat)).map (fun j => f.lbyte li (posn + j))) :=
  hlpRead_spec f li hw posn length hl

/-- progress for the same call: if every block of the element is completely in the file, `HLPread` does not fail -/
theorem hlpread_ok (f : File) (li : LinkInfo) (hw : WFL f li) (hm : Materialised f li) (posn : Nat) (length : Int)
    (hl : 0 ≤ length) : hlpRead f li posn length ≠ .fail :=
  hlpRead_ok f li hw hm posn length hl

/-- **hlpwrite_spec** (`HLPwrite` with `HLInewlink`/`HLIgetlink`/`HLPnewblock`... folded in): for every geometry,
    position (inside, at, beyond the end) and non-empty data the call succeeds with count `|bs|`; `Written` says that
    byte `i` of the element afterwards is `bs[i-posn]` inside the written range and what it was before elsewhere
    (zeros in a gap), the length is `max old (posn+|bs|)`, the descriptor stays well-formed, no DD of the file is
    touched, and below the old end of file only this element's own blocks change (frame). -/
theorem hlpwrite_spec (f : File) (li : LinkInfo) (hw : WFF f) (hl : WFL f li) (hs posn : Nat) (bs : Bytes) (hbs : bs ≠ [])
    (hlive : f.live hs) (htag : baseTag (f.dd hs).tag ≠ DFTAG_LINKED) (ho hlen : Nat) (hext : (f.dd hs).ext = some (ho, hlen))
    (h6 : 6 ≤ hlen) :
    ∃ f' li', hlpWrite f li hs posn bs = (f', li', some bs.length) ∧ Written f li hs posn bs f' li' :=
  hlpWrite_spec f li hw hl hs posn bs hbs hlive htag ho hlen hext h6

/-! ## 3. promotion and reopening keep the bytes -/

/-- **promote_preserves** (`HLconvert`, called by the application or silently by `Hwrite`/`Hseek` on an appendable
    element that is not last in the file): the element in slot `s` becomes a linked-block element with exactly the
    bytes it had (`Promoted.bytes`; an element without data becomes the empty string), under the same tag/ref, the
    file stays well-formed, every other element keeps DD and bytes (`Promoted.others`). -/
theorem promote_preserves (f : File) (hw : WFE f) (s blen nblk : Nat) (hs : f.live s)
    (hsp : isSpecial (f.dd s).tag = false) (hlt : (f.dd s).tag < SPECIAL_TAG_BIT)
    (hut : (f.dd s).tag ≠ DFTAG_LINKED) (hb : 1 ≤ blen) (hn : 1 ≤ nblk) :
    Promoted f s (f.convert s blen nblk).1 (f.convert s blen nblk).2 :=
  convert_spec f hw s blen nblk hs hsp hlt hut hb hn

/-- **reopen_preserves** (`Hclose` → `HTPsync`, then `Hopen` → `HTPstart`): every element of the reopened file is the
    same byte string, provided nothing but zeros lies beyond the end of file `HTPstart` recomputes from the DDs.
    Full statement (without `hz`) is FALSE for /repo: after `Htrunc` of the last element the bytes cut off are still in
    the file and become the "zeros" of a later gap (finding F20, key `elem-gap-nonzero`). -/
theorem reopen_preserves_partial (f : File) (hw : WFE f) (hc : Coh f) (wr : Bool)
    (hz : ∀ k, endOffOf f.ndds f.blkOff f.mem ≤ k → rd f.disk k = 0) :
    ∃ g, f.sync.reopen wr = some g ∧ WFE g ∧ Coh g ∧ (∀ t r, g.elem t r = f.elem t r) ∧ g.present = f.present ∧
      g.isOpen = true :=
  reopen_preserves f hw hc wr hz

/-! ## 4. the element-level calls, one by one (frame included, see the header) -/

/-- **hread_spec**: `Hread` on any well-formed world, any access id (valid or not), any length: either FAIL with nothing
    changed, or count `readCount` and bytes `specRead` of the element's byte string, position advanced by the count
    (0 bytes at or beyond the end, also on a contiguous appendable element positioned past its end: 21b8ab5).
    No side condition. -/
theorem hread_spec (w : World) (hw : WFW w) (h : Nat) (n : Int) : StepOK w (.read h n) := (stepSim_read w hw h n).stepOK

/-- **hwrite_spec**: `Hwrite` is `specWrite` (overwrite / extend / zero gap fill) on the element behind the id, however
    the C carries it out (in place; extended in place at the end of the file; first write of a new element; linked
    blocks; silent promotion of an appendable element followed by a linked-block write), position advanced by `|bs|`,
    every other element untouched.
    Side conditions (`OpSafe`): `bs ≠ []`; if the write promotes the element, no second id is open on it (F19). Without the
    latter the statement is false for /repo (section 6). Several ids on one element, also on one that has no length yet,
    are covered (F24 repaired by 7f7ac10 and dc05857). -/
theorem hwrite_spec_partial (w : World) (hw : WFW w) (h : Nat) (bs : Bytes) (hs : OpSafe w (.write h bs)) :
    StepOK w (.write h bs) := (stepSim_write w hw h bs hs).stepOK

/-- **hseek_spec**: `Hseek` (all three origins; beyond the end only for appendable/linked elements, promoting the
    former when they are not last in the file). Side condition: no second id on an element the seek promotes (F19). -/
theorem hseek_spec_partial (w : World) (hw : WFW w) (h : Nat) (off : Int) (origin : Nat) (hs : OpSafe w (.seek h off origin)) :
    StepOK w (.seek h off origin) := (stepSim_seek w hw h off origin hs).stepOK

/-- **htrunc_spec**: `Htrunc` on any access id: either FAIL with nothing changed, or the byte string is cut (`take n`)
    and the position clamped. No side condition (before 1e2fd75 the call cut the description record of a linked-block
    element, F18). -/
theorem htrunc_spec (w : World) (hw : WFW w) (h n : Nat) : StepOK w (.trunc h n) := (stepSim_trunc w hw h n).stepOK

/-- F18 as it stands: truncating a linked-block element (created as such or silently promoted) is *refused*, loudly
    and without any change of state — the operation does not exist for that storage form (known finding
    `elem-trunc-linked`) -/
theorem htrunc_linked_refused (w : World) (h n : Nat) (a : Acc) (ha : w.acc h = some a) (hsp : a.special = true) :
    htrunc w h n = (w, .fail) := H4.Elem.htrunc_linked_refused w h n a ha hsp

/-- the gap fill of 998a325 does not depend on what the file held: every byte between the old end `o+l` of a
    contiguous element and the write position `o+p` is zero after it (proved from the write itself, not from the
    invariant "nothing but zeros beyond `f_end_off`") -/
theorem hwrite_gap_zero_filled (f : File) (o l p x : Nat) (h1 : o + l ≤ x) (h2 : x < o + p) :
    rd (f.pwrite (o + l) (zeros (p - l))).disk x = 0 := growth_gap_zero f o l p x h1 h2

/-- **hsetlength_spec**: `Hsetlength` through any id, with any other ids open on the element: either FAIL with nothing
    changed or the element becomes `len` reserved zero bytes. No side condition (7f7ac10; before, a second id on an
    element without length allocated it again and the first id's data was lost: F24). -/
theorem hsetlength_spec (w : World) (hw : WFW w) (h len : Nat) : StepOK w (.setlength h len) := (stepSim_setlength w hw h len).stepOK

theorem hstartaccess_spec (w : World) (hw : WFW w) (h fi tag ref : Nat) (wr app : Bool)
    (hs : OpSafe w (.startaccess h fi tag ref wr app)) : StepOK w (.startaccess h fi tag ref wr app) :=
  (stepSim_startaccess w hw h fi tag ref wr app hs).stepOK

theorem hopen_spec (w : World) (hw : WFW w) (fi mode ndds : Nat) (hs : OpSafe w (.open fi mode ndds)) :
    StepOK w (.open fi mode ndds) := (stepSim_open w hw fi mode ndds hs).stepOK

theorem hclose_spec (w : World) (hw : WFW w) (fi : Nat) (hs : OpSafe w (.close fi)) : StepOK w (.close fi) :=
  (stepSim_close w hw fi hs).stepOK

theorem hstartwrite_spec (w : World) (hw : WFW w) (h fi tag ref len : Nat) (hs : OpSafe w (.startwrite h fi tag ref len)) :
    StepOK w (.startwrite h fi tag ref len) := (stepSim_startwrite w hw h fi tag ref len hs).stepOK

theorem hdeldd_spec (w : World) (hw : WFW w) (fi tag ref : Nat) (hs : OpSafe w (.deldd fi tag ref)) :
    StepOK w (.deldd fi tag ref) := (stepSim_deldd w hw fi tag ref hs).stepOK

/-! ## 5. histories -/

theorem hlcreate_spec (w : World) (hw : WFW w) (h fi tag ref blen nblk : Nat) (hs : OpSafe w (.hlcreate h fi tag ref blen nblk)) :
    StepOK w (.hlcreate h fi tag ref blen nblk) := (stepSim_hlcreate w hw h fi tag ref blen nblk hs).stepOK

/-- **elem_refines_bytes** — full statement wanted:

      ∀ w ops, WFW w → ∃ vf, specRun (abs w) ops (run w ops).2 = some vf ∧ vf.Eqv (abs (run w ops).1)

    i.e. for every history of `Hopen/Hclose/Hstartaccess/Hstartwrite/Hsetlength/HLcreate/HLconvert/HLsetblockinfo/
    Happendable/Hseek/Htell/Hinquire/Hread/Hwrite/Htrunc/Hendaccess/Hdeldd` calls, with any number of files and of
    interleaved access ids, on contiguous, silently promoted and linked-block elements, the list of results the
    implementation returns is a list of results of growable byte arrays (`specRun`: every count, every byte read,
    every length and position), and the final state is the byte arrays' final state.
    That is FALSE for /repo (findings F19, F20: concrete histories in section 6). Proved is
    the statement under `Safe`, whose conjuncts name exactly those two situations (plus: access ids are fresh when opened,
    tag/refs are user tags, writes are not empty, `Hclose` is not called with ids still open on the file).
    The theorem also re-establishes the invariant `WFW` and gives the call-by-call simulation `Refines`. -/
theorem elem_refines_bytes_partial (w : World) (ops : List Op) (hw : WFW w) (hs : Safe w ops) :
    (∃ vf, specRun (abs w) ops (run w ops).2 = some vf ∧ vf.Eqv (abs (run w ops).1)) ∧
    WFW (run w ops).1 ∧ Refines w ops :=
  ⟨trace_of_sim ops w _ hw hs (Eqv.refl _), (refines_of_safe ops w hw hs).2, (refines_of_safe ops w hw hs).1⟩

/-- the same from nothing (no file yet), with the side conditions checked by evaluation (`safeB` is a Boolean,
    sufficient version of `Safe`) -/
theorem elem_refines_bytes_checked (ops : List Op) (hs : safeB {} ops = true) :
    (∃ vf, specRun (abs {}) ops (run {} ops).2 = some vf ∧ vf.Eqv (abs (run {} ops).1)) ∧
    WFW (run {} ops).1 ∧ Refines {} ops :=
  elem_refines_bytes_partial {} ops wfw_empty (safeB_sound ops {} hs)

/-- a concrete history: two elements, two access ids; 100/1 is appendable, stops being the last element of the file and
    is silently promoted by the third write; a write beyond the end leaves a gap; the file is closed and reopened; then
    101/7 (contiguous, with data) is re-registered as linked blocks by `HLcreate` and extended, and 100/1 is deleted -/
def demo : List Op :=
  [ .open 0 DFACC_CREATE 16,
    .startaccess 1 0 100 1 true true,
    .write 1 [1, 2, 3],
    .startaccess 2 0 101 7 true false,
    .write 2 [9, 9],
    .write 1 [4, 5],
    .seek 1 10 DF_START,
    .write 1 [6],
    .seek 1 0 DF_START,
    .read 1 0,
    .inquire 1,
    .endaccess 1, .endaccess 2, .close 0,
    .open 0 DFACC_READ 16,
    .startaccess 3 0 100 1 false false,
    .read 3 0,
    .endaccess 3, .close 0,
    .open 0 DFACC_RDWR 16,
    .hlcreate 4 0 101 7 4 2,
    .seek 4 0 DF_END,
    .write 4 [8, 8, 8, 8, 8, 8, 8],
    .endaccess 4,
    .deldd 0 100 1,
    .startaccess 5 0 101 7 false false,
    .read 5 0 ]

theorem demo_safe : safeB {} demo = true := by decide +kernel

/-- non-vacuity of `elem_refines_bytes_partial`: the hypotheses hold for `demo` … -/
example : (∃ vf, specRun (abs {}) demo (run {} demo).2 = some vf ∧ vf.Eqv (abs (run {} demo).1)) ∧
    WFW (run {} demo).1 ∧ Refines {} demo := elem_refines_bytes_checked demo demo_safe

/-- … which really is promoted (special code 1 in `Hinquire`), has its gap zero-filled, survives reopening, and whose
    second element grows across three linked blocks -/
example : (run {} demo).2 =
    [.ok, .ok, .num 3, .ok, .num 2, .num 2, .ok, .num 1, .ok, .data 11 [1, 2, 3, 4, 5, 0, 0, 0, 0, 0, 6], .info 11 0 11 1,
     .ok, .ok, .ok, .ok, .ok, .data 11 [1, 2, 3, 4, 5, 0, 0, 0, 0, 0, 6],
     .ok, .ok, .ok, .ok, .ok, .num 7, .ok, .ok, .ok, .data 9 [9, 9, 8, 8, 8, 8, 8, 8, 8]] := by decide +kernel

/-- non-vacuity of the linked-block theorems' hypotheses: the promoted element of `demo` (before the file is closed) has
    a well-formed descriptor of length 11 -/
example : ∃ s li, ((run {} (demo.take 11)).1.file 0).select 100 1 = some s ∧
    ((run {} (demo.take 11)).1.file 0).link (100, 1) = some li ∧ WFL ((run {} (demo.take 11)).1.file 0) li ∧ li.length = 11 := by
  -- one evaluation of the history for all the facts read off its final state
  have hev : safeB {} (demo.take 11) = true ∧ ((run {} (demo.take 11)).1.file 0).select 100 1 = some 1 ∧
      isSpecial (((run {} (demo.take 11)).1.file 0).dd 1).tag = true ∧ ((run {} (demo.take 11)).1.file 0).keyOf 1 = (100, 1) ∧
      (((run {} (demo.take 11)).1.file 0).link (100, 1)).map (·.length) = some 11 := by decide +kernel
  obtain ⟨hs, hsel, hsp, hkey, hlen⟩ := hev
  obtain ⟨_, hw, _⟩ := elem_refines_bytes_checked _ hs
  obtain ⟨li, _, _, hl, hwl, _, _⟩ := (hw.files 0).linked_ok 1 (select_some _ _ _ _ hsel).1 hsp
  rw [hkey] at hl
  refine ⟨1, li, hsel, hl, hwl, ?_⟩
  rw [hl] at hlen
  exact Option.some.inj hlen

/-! ## 6. what the side conditions exclude: the model follows the C as it is -/

/-- F18 (since 1e2fd75): `Htrunc` on a linked-block element fails; length, bytes and position stay -/
example : (run {} [.open 0 DFACC_CREATE 16, .hlcreate 1 0 100 1 4 2, .write 1 [1, 2, 3, 4, 5, 6, 7, 8, 9, 10], .trunc 1 3,
      .inquire 1, .seek 1 0 DF_START, .read 1 0]).2 =
    [.ok, .ok, .num 10, .fail, .info 10 0 10 1, .ok, .data 10 [1, 2, 3, 4, 5, 6, 7, 8, 9, 10]] := by decide +kernel

/-- F23 (since 21b8ab5): a read positioned beyond the end of an appendable element delivers 0 bytes -/
example : (run {} [.open 0 DFACC_CREATE 16, .startaccess 1 0 100 1 true true, .write 1 [1, 2, 3], .seek 1 5 DF_START,
      .read 1 1, .tell 1]).2 = [.ok, .ok, .num 3, .ok, .data 0 [], .num 5] := by decide +kernel

/-- F20, the path repaired by 998a325: 36 bytes `aa` cut off by `Htrunc` stay in the file beyond the `f_end_off`
    recomputed at `Hopen`; growing the element in place over them leaves zeros in the gap … -/
example : (run {} [.open 0 DFACC_CREATE 16, .startaccess 1 0 100 1 true false, .write 1 (List.replicate 40 170), .trunc 1 4,
      .endaccess 1, .close 0, .open 0 DFACC_RDWR 16, .startaccess 2 0 100 1 true true, .seek 2 6 DF_START, .write 2 [1, 2],
      .seek 2 0 DF_START, .read 2 0]).2 =
    [.ok, .ok, .num 40, .num 4, .ok, .ok, .ok, .ok, .ok, .num 2, .ok, .data 8 [170, 170, 170, 170, 0, 0, 1, 2]] := by
  decide +kernel

/-- … F20, a remaining path (excluded by `Safe` at the `Hopen`): the same stale bytes are handed out by
    `HPgetdiskblock` for the first block of a new linked-block element and show up in its never-written head -/
example : (run {} [.open 0 DFACC_CREATE 16, .startaccess 1 0 100 1 true false, .write 1 (List.replicate 40 170), .trunc 1 4,
      .endaccess 1, .close 0, .open 0 DFACC_RDWR 16, .hlcreate 2 0 101 1 8 2, .seek 2 6 DF_START, .write 2 [1, 2],
      .seek 2 0 DF_START, .read 2 0]).2 =
    [.ok, .ok, .num 40, .num 4, .ok, .ok, .ok, .ok, .ok, .num 2, .ok, .data 8 [170, 170, 170, 170, 170, 170, 1, 2]] := by
  decide +kernel

/-- F19: a second id open on an element that gets promoted keeps pointing at the DD slot, which now holds the
    16-byte description record: it reads that record instead of the data -/
example : (run {} [.open 0 DFACC_CREATE 16, .startaccess 1 0 100 1 true true, .write 1 [1, 2, 3],
      .startaccess 2 0 100 1 true false, .startaccess 3 0 101 1 true false, .write 3 [9], .write 1 [4, 5],
      .seek 2 0 DF_START, .read 2 0]).2 =
    [.ok, .ok, .num 3, .ok, .ok, .num 1, .num 2, .ok, .data 16 [0, 1, 0, 0, 0, 5, 0, 0, 16, 0, 0, 0, 0, 16, 0, 2]] := by
  decide +kernel

/-- F24 (since 7f7ac10): two ids on an element without length; the second id finds the length the first one gave it
    (`HIrefresh_new`) and overwrites in place — byte-array semantics. The history satisfies `Safe`. -/
def twoIds : List Op :=
  [.open 0 DFACC_CREATE 16, .startaccess 1 0 100 1 true false, .startaccess 2 0 100 1 true false,
   .write 1 [1, 2, 3], .write 2 [4], .seek 1 0 DF_START, .read 1 0, .inquire 2]
example : (run {} twoIds).2 = [.ok, .ok, .ok, .num 3, .num 1, .ok, .data 3 [4, 2, 3], .info 3 294 1 0] := by decide +kernel
theorem twoIds_safe : safeB {} twoIds = true := by decide +kernel
example : (∃ vf, specRun (abs {}) twoIds (run {} twoIds).2 = some vf ∧ vf.Eqv (abs (run {} twoIds).1)) ∧
    WFW (run {} twoIds).1 ∧ Refines {} twoIds := elem_refines_bytes_checked twoIds twoIds_safe

/-- F24 residue (since dc05857): an id whose "new" flag went stale and that is then converted to linked blocks reads the
    element, and `Hsetlength` through it is refused -/
example : (run {} [.open 0 DFACC_CREATE 16, .startaccess 1 0 100 1 true false, .startaccess 2 0 100 1 true false,
      .write 1 [1, 2, 3, 4], .endaccess 1, .hlconvert 2 8 2, .read 2 0, .setlength 2 5]).2 =
    [.ok, .ok, .ok, .num 4, .ok, .ok, .data 4 [1, 2, 3, 4], .fail] := by decide +kernel

end H4.Props.C01
