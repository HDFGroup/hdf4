import H4.Lemmas.Rle
/-! # C05 — the run-length coder of `crle.c` round-trips every byte stream (the bit-level I/O and the other coders: `Props/C05Bits`,
    `C05BitsFn`, `C05NBit`, `C05Skp`, `C05Rle`) -/
namespace H4.Props.C05
open H4.Rle

/-- RLE: every byte string, of any length and content, written sequentially through the `crle.c`
    encoder (any partition into write calls: the encoder is a per-byte fold) and flushed by
    `HCIcrle_term` decodes to exactly the bytes written. -/
theorem rle_roundtrip (bs : List Byte) : dec (compress bs) = some bs := by
  simpa [compress, encode] using (Consumed.init.run bs).term

/-- non-vacuity: a stream crossing the 130-byte run limit and containing a 2-byte pseudo-run -/
example : dec (compress (List.replicate 131 7 ++ [1, 1, 2, 2, 2, 3])) = some (List.replicate 131 7 ++ [1, 1, 2, 2, 2, 3]) := by
  decide +kernel

end H4.Props.C05
