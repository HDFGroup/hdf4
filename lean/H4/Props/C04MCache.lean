import H4.Lemmas.MCache

/-!
# C04 (part: chunk page cache) — `mcache.c` is transparent

"Storage layout and tuning knobs never change the data an application sees … not on cache sizes".
The chunk cache (`mcache_open/get/put/sync/close/set_maxcache`, model `H4.MCache`) refines a plain map `pgno ⇀ page`
for every cache size, every backing store, every failure pattern of the page-in/page-out callbacks and every sequence
of client operations.  All statements are about the executable model `H4.MCache`, which Tie B (`harness/e_mcache.c`)
compares call by call (results, callback sequence, LRU order, hash chains, list-element flags) with the real `mcache.c`.
-/
namespace H4.Props.C04MCache
open H4.MCache

/-- **Refinement.** For ALL `maxcache` (0 = default), `npages`, `flags`, backing stores, callback failure patterns and
ALL operation sequences over `get / modify+put-dirty / put-clean / sync / set_maxcache / close`:
every `get` that returns a page returns the page of the plain map (`Good … (.get pg) (.page d)`: the content last put
dirty, else the backing content the cache was opened over), and after every successful `sync` the backing store holds the
whole map (`Good … .sync .ok`).  The map itself is changed only by accepted put-dirty operations (`specStep`). -/
theorem mcache_refines_map (maxcache npages flags : Nat) (backing : Nat → Nat) (garbage : Nat)
    (inFail outFail : Nat → Bool) (ops : List Op) :
    Refines (mcacheOpen maxcache npages flags backing garbage inFail outFail) (specInit npages flags backing) ops :=
  refines_of_ok ops _ _ (Or.inr (rel_open _ _ _ _ _ _ _))

/-- maxcache = 1, working set of 3 pages: every get misses, dirty pages are written back on eviction, the client still
sees its own writes; after `sync` the store holds them. -/
example :
    (run (mcacheOpen 1 3 0 (fun pg => 10 * pg))
      [.get 1, .putDirty 1 11, .get 2, .putDirty 2 22, .get 3, .putClean 3, .get 1, .putClean 1, .get 2, .putDirty 2 23, .sync]).2
      = [.page 10, .ok, .page 20, .ok, .page 30, .ok, .page 11, .ok, .page 22, .ok, .ok] := by decide +kernel

/-- … and the callbacks it made, in order: page-in 0, write-back of chunk 0 (=page 1) before page-in 1, … -/
example :
    (run (mcacheOpen 1 3 0 (fun pg => 10 * pg))
      [.get 1, .putDirty 1 11, .get 2, .putDirty 2 22, .get 3, .putClean 3, .get 1, .putClean 1, .get 2, .putDirty 2 23, .sync]).1.log
      = [.pgin 0 true, .pgout 0 11 true, .pgin 1 true, .pgout 1 22 true, .pgin 2 true, .pgin 0 true, .pgin 1 true,
         .pgout 1 23 true] := by decide +kernel

/-- With the callbacks working, a `get` of an existing page never fails and a `sync` never fails. -/
theorem get_succeeds {s : State} (hi : Inv s) (hn : NoFail s) (hc : s.closed = false) {pg : Nat} (h1 : 1 ≤ pg) (h2 : pg ≤ s.npages) :
    ∃ d, (step s (.get pg)).2 = .page d := by
  rw [step_get_eq hc]
  have := (mcacheGet_out s pg).isSome hi hn.1 hn.2 h1 h2
  cases hd : (mcacheGet s pg).2 with
  | none => rw [hd] at this; cases this
  | some d => exact ⟨d, rfl⟩

theorem sync_succeeds {s : State} (hn : NoFail s) (hc : s.closed = false) : (step s .sync).2 = .ok := by
  rw [step_sync_eq hc]
  have : (mcacheSync s).2 = true := syncWalk_ok s.lru s hn.2
  rw [this]; rfl

/-- `sync` then `close` (what `HMCPcloseAID`/`HMCPendaccess` do) leaves the whole map in the backing store: `mcache_close`
itself does not touch the store. -/
theorem sync_close_durable {s : State} {m : Nat → Option Nat} (h : Rel s m) (hc : s.closed = false)
    (hok : (step s .sync).2 = .ok) : ∀ pg v, m pg = some v → (run s [.sync, .close]).1.backing pg = v := by
  intro pg v hv
  have hg := (step_ok (Or.inr h) .sync).2
  rw [hok] at hg
  have hb : (step s .sync).1.backing pg = v := hg pg v hv
  have hc' : (step s .sync).1.closed = false := by
    rw [step_sync_eq hc]; exact (syncWalk_frame s.lru s).closed.trans hc
  show (step (step s .sync).1 .close).1.backing pg = v
  rw [step_close_eq hc']
  exact hb

/-- … whereas `mcache_close` alone does NOT write dirty pages ("Does not sync the buffer pool"): the put is lost. -/
example : (run (mcacheOpen 2 3 0 (fun pg => 10 * pg)) [.get 1, .putDirty 1 11, .close]).1.backing 1 = 10 := by decide +kernel
example : (run (mcacheOpen 2 3 0 (fun pg => 10 * pg)) [.get 1, .putDirty 1 11, .sync, .close]).1.backing 1 = 11 := by decide +kernel

/-- **Invariant** in every reachable state (any operation sequence, any configuration, any callback failures). -/
theorem mcache_inv (maxcache npages flags : Nat) (backing : Nat → Nat) (garbage : Nat) (inFail outFail : Nat → Bool)
    (ops : List Op) : Inv (run (mcacheOpen maxcache npages flags backing garbage inFail outFail) ops).1 := by
  obtain ⟨m', h⟩ := run_ok ops _ _ (Or.inr (rel_open maxcache npages flags backing garbage inFail outFail))
  exact h.inv

/-- each cached page number appears exactly once in the LRU list … -/
theorem cached_once_lru {s : State} (h : Inv s) {pg : Nat} (hc : (s.pages pg).isSome = true) : s.lru.count pg = 1 := by
  rw [h.lru_nodup.count, if_pos ((h.lru_iff pg).2 hc)]

/-- … exactly once on the hash chain of its key and on no other chain … -/
theorem cached_once_hash {s : State} (h : Inv s) {pg : Nat} (hc : (s.pages pg).isSome = true) (k : Nat) :
    (s.hqh k).count pg = if hashKey pg = k then 1 else 0 := by
  split
  · rename_i e
    rw [(h.hqh_nodup k).count, if_pos ((h.hqh_iff k pg).2 ⟨hc, e⟩)]
  · rename_i e
    exact List.count_eq_zero.2 fun hin => e ((h.hqh_iff k pg).1 hin).2

/-- … and an uncached page number on neither. -/
theorem uncached_nowhere {s : State} (h : Inv s) {pg : Nat} (hc : s.pages pg = none) (k : Nat) :
    s.lru.count pg = 0 ∧ (s.hqh k).count pg = 0 := by
  constructor
  · exact List.count_eq_zero.2 fun hin => by have := (h.lru_iff pg).1 hin; rw [hc] at this; cases this
  · exact List.count_eq_zero.2 fun hin => by have := ((h.hqh_iff k pg).1 hin).1; rw [hc] at this; cases this

/-- the list-element chains built by `mcache_open` (closed form in the model) are those of the C loop -/
theorem open_list_chains_are_the_c_loop (npages ef : Nat) : lhInit npages ef = lhInitLoop npages ef :=
  lhInit_eq_loop npages ef

/-- pages 1, 129, 257 share hash bucket 0 -/
example : (run (mcacheOpen 2 300 0 (fun pg => pg)) [.get 1, .get 129, .putClean 1, .get 257, .putClean 129, .get 1]).1.lru
    = [257, 1] := by decide +kernel
example : ((run (mcacheOpen 2 300 0 (fun pg => pg)) [.get 1, .get 129, .putClean 1, .get 257, .putClean 129, .get 1]).1.hqh 0)
    = [1, 257] := by decide +kernel

/-- **Pinned pages are never evicted**: whatever page `mcache_get` is asked for, a page that is cached and pinned stays
cached and pinned, with the same content and dirtiness. -/
theorem pinned_not_evicted {s : State} (h : Inv s) {pg : Nat} {b : Bkt} (hb : s.pages pg = some b) (hp : b.pinned = true)
    (pgno : Nat) :
    ∃ b', (mcacheGet s pgno).1.pages pg = some b' ∧ b'.pinned = true ∧ b'.data = b.data ∧ b'.dirty = b.dirty := by
  rcases (mcacheGet_out s pgno).pages h hb with ⟨b', h1, h2, h3, h4⟩ | ⟨_, h2, _⟩
  · exact ⟨b', h1, h4 hp, h2, h3⟩
  · rw [hp] at h2; cases h2

/-- **Eviction never loses a dirty page**: if `mcache_get` makes a cached page disappear, that page was not pinned, and if
it was dirty its content is in the backing store afterwards (a clean page leaves the store untouched). -/
theorem evict_writes_back {s : State} (h : Inv s) {pg : Nat} {b : Bkt} (hb : s.pages pg = some b) (pgno : Nat)
    (hgone : (mcacheGet s pgno).1.pages pg = none) :
    b.pinned = false ∧ (b.dirty = true → (mcacheGet s pgno).1.backing pg = b.data) ∧
    (b.dirty = false → (mcacheGet s pgno).1.backing pg = s.backing pg) := by
  rcases (mcacheGet_out s pgno).pages h hb with ⟨b', h1, _⟩ | ⟨_, h2, h3, h4⟩
  · rw [hgone] at h1; cases h1
  · exact ⟨h2, h3, h4⟩

/-- **LRU order**: the page `mcache_bkt` evicts is the first unpinned one in LRU order (everything before it is pinned). -/
theorem victim_is_first_unpinned {s : State} {pg : Nat} {b : Bkt} (h : victim s = some (pg, b)) :
    ∃ l₁ l₂, s.lru = l₁ ++ pg :: l₂ ∧ s.pages pg = some b ∧ b.pinned = false ∧
      ∀ x ∈ l₁, ∀ bx, s.pages x = some bx → bx.pinned = true :=
  victim_split h

/-- Only `get` (eviction) and `close` ever remove a page from the cache. -/
theorem uncached_only_by_get_or_close {s : State} (hc : s.closed = false) {pg : Nat} {b : Bkt} (hb : s.pages pg = some b) (op : Op)
    (hgone : (step s op).1.pages pg = none) : (∃ pgno, op = .get pgno) ∨ op = .close := by
  have o := step_out s op
  generalize step s op = p at o hgone
  cases o with
  | closed _ hx => rw [hc] at hx; cases hx
  | get pgno _ => exact Or.inl ⟨pgno, rfl⟩
  | close _ => exact Or.inr rfl
  | @putDirty pg' b' v _ hp =>
    have := isSome_upd_some s.pages { data := v, pinned := false, dirty := true } (by rw [hp]; rfl) pg
    rw [show upd s.pages pg' _ pg = none from hgone, hb] at this; cases this
  | putDirtyRefused v _ _ => rw [show s.pages pg = none from hgone] at hb; cases hb
  | putClean pg' _ =>
    have := mcachePut_isSome s pg' 0 pg
    rw [show (mcachePut s pg' 0).1.pages pg = none from hgone, hb] at this; cases this
  | sync _ =>
    obtain ⟨b', h1, _⟩ := syncWalk_pages s.lru s pg b hb
    rw [show (syncWalk s s.lru).1.pages pg = none from hgone] at h1; cases h1
  | setMax n _ => rw [← (setMax_pages s n).1, show (mcacheSetMaxcache s n).pages pg = none from hgone] at hb; cases hb

/-- maxcache = 1: page 1 is held (pinned) while 2 and 3 come and go; page 1 is still there with the client's content. -/
example : (run (mcacheOpen 1 3 0 (fun pg => 10 * pg)) [.get 1, .get 2, .putClean 2, .get 3, .putClean 3, .putDirty 1 11, .get 1]).2
    = [.page 10, .page 20, .ok, .page 30, .ok, .ok, .page 11] := by decide +kernel

/-- a failing write-back during eviction (fixed behaviour, /repo 42dfaa3): the get fails, the dirty page stays cached and
dirty, nothing is lost; once the store works again the page is written. -/
example :
    let s := (run (mcacheOpen 1 3 0 (fun pg => 10 * pg) 0 (fun _ => false) (fun pg => pg == 1))
      [.get 1, .putDirty 1 11, .get 2])
    s.2 = [.page 10, .ok, .fail] ∧ s.1.pages 1 = some { data := 11, pinned := false, dirty := true } ∧ s.1.backing 1 = 10 := by
  decide +kernel

/-- **Bound on `curcache`.** `mcache_bkt` allocates beyond `maxcache` when every cached page is pinned ("we grow the cache
anyway"), so `curcache ≤ maxcache` is NOT an invariant.  What holds (page-in callback not failing): `curcache` is exactly the
number of cached pages, and if the client never has more than `K` pages pinned at once then `curcache ≤ max maxcache K`. -/
theorem curcache_bound (maxcache npages flags : Nat) (backing : Nat → Nat) (garbage : Nat) (outFail : Nat → Bool)
    (ops : List Op) (K : Nat)
    (hk : PinBound K (mcacheOpen maxcache npages flags backing garbage (fun _ => false) outFail) ops) :
    let s := (run (mcacheOpen maxcache npages flags backing garbage (fun _ => false) outFail) ops).1
    s.curcache = s.lru.length ∧ s.curcache ≤ max s.maxcache K :=
  run_bound ops _ _ (Or.inr (rel_open maxcache npages flags backing garbage (fun _ => false) outFail)) rfl (fun _ => rfl)
    (Nat.zero_le _) hk

/-- three pins at once with maxcache = 1: the cache grows to 3 buckets … -/
example : (run (mcacheOpen 1 3 0 (fun pg => pg)) [.get 1, .get 2, .get 3]).1.curcache = 3 := by decide +kernel
/-- … an hchunks-style client (every get immediately followed by its put, `K = 1`) stays within maxcache. -/
example : PinBound 1 (mcacheOpen 2 3 0 (fun pg => pg)) [.get 1, .putDirty 1 5, .get 2, .putClean 2, .get 3, .putClean 3, .get 1] := by
  decide +kernel
example : (run (mcacheOpen 2 3 0 (fun pg => pg)) [.get 1, .putDirty 1 5, .get 2, .putClean 2, .get 3, .putClean 3, .get 1]).1.curcache = 2 := by
  decide +kernel

/-- **Transparency.** For a client that respects the get/put protocol (puts only pages it holds: `absRun … = some rs`),
over an existing object (`flags = 0`) and callbacks that do not fail, the results of ALL operations are those of the
cache-less object `Abs` – a plain array of pages that knows nothing about `maxcache`, eviction or write-back. -/
theorem mcache_transparent (maxcache npages : Nat) (backing : Nat → Nat) (garbage : Nat) (ops : List Op) (rs : List Ret)
    (h : absRun npages { m := backing } ops = some rs) :
    (run (mcacheOpen maxcache npages 0 backing garbage) ops).2.map obs = rs :=
  sim_run ops _ _ rs (sim_open maxcache npages backing garbage) h

/-- **C04, "not on cache sizes".** Two caches of ANY two sizes over the same object give a protocol-respecting client the
same answers (page contents of every get, status of every put/sync/close), whatever the history. -/
theorem cache_size_irrelevant (maxcache₁ maxcache₂ npages : Nat) (backing : Nat → Nat) (garbage₁ garbage₂ : Nat) (ops : List Op)
    (h : (absRun npages { m := backing } ops).isSome = true) :
    (run (mcacheOpen maxcache₁ npages 0 backing garbage₁) ops).2.map obs =
    (run (mcacheOpen maxcache₂ npages 0 backing garbage₂) ops).2.map obs := by
  cases hr : absRun npages { m := backing } ops with
  | none => rw [hr] at h; cases h
  | some rs => rw [mcache_transparent _ _ _ _ _ _ hr, mcache_transparent _ _ _ _ _ _ hr]

/-- a protocol-respecting history with several pins, re-gets, an out-of-range get, a tuning-knob call and a close -/
example : absRun 3 { m := fun pg => 10 * pg }
    [.get 1, .get 2, .putDirty 1 11, .get 3, .putClean 3, .setMax 4, .get 1, .putClean 2, .get 4, .sync, .putDirty 1 12, .get 1, .close, .get 1]
    = some [.page 10, .page 20, .ok, .page 30, .ok, .val 0, .page 11, .ok, .fail, .ok, .ok, .page 12, .ok, .undef] := by decide +kernel
/-- the same history on real caches of size 1 and 3 -/
example : (run (mcacheOpen 1 3 0 (fun pg => 10 * pg))
    [.get 1, .get 2, .putDirty 1 11, .get 3, .putClean 3, .setMax 4, .get 1, .putClean 2, .get 4, .sync, .putDirty 1 12, .get 1, .close, .get 1]).2
    = [.page 10, .page 20, .ok, .page 30, .ok, .val 4, .page 11, .ok, .fail, .ok, .ok, .page 12, .ok, .undef] := by decide +kernel
example : (run (mcacheOpen 3 3 0 (fun pg => 10 * pg))
    [.get 1, .get 2, .putDirty 1 11, .get 3, .putClean 3, .setMax 4, .get 1, .putClean 2, .get 4, .sync, .putDirty 1 12, .get 1, .close, .get 1]).2
    = [.page 10, .page 20, .ok, .page 30, .ok, .val 4, .page 11, .ok, .fail, .ok, .ok, .page 12, .ok, .undef] := by decide +kernel

/-- a client that breaks the protocol (modifies a page, puts it back CLEAN) does see the cache size: with room for both
pages it keeps seeing its modification, with maxcache = 1 the page is dropped unwritten.  This is outside the contract. -/
example :
    (call (call (call (call (call (mcacheOpen 2 2 0 (fun pg => 10 * pg)) (.get 1)).1 (.write 1 99)).1 (.put 1 0)).1 (.get 2)).1 (.get 1)).2 = .page 99 ∧
    (call (call (call (call (call (mcacheOpen 1 2 0 (fun pg => 10 * pg)) (.get 1)).1 (.write 1 99)).1 (.put 1 0)).1 (.get 2)).1 (.get 1)).2 = .page 10 := by
  decide +kernel

end H4.Props.C04MCache
