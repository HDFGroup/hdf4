import H4.Props.C07Fld
import H4.Props.C20
/-! C20 on the C text: the limit theorems about Vdata fields (`H4.Props.C20`: `fdefine_accept_iff`, `fdefine_fits16`,
    `setfields_accept_iff`, `setfields_accepted`, `setfields_refused_clean`) are about `H4.Limits.fdefineOk` / `H4.Limits.setfields`, a
    size-only model.  Here that model is shown to agree with the C07 model (`vsfdefineI`, `buildWList`) the translated C text of
    `VSfdefine` / `VSsetfields` is proved to compute (`H4.Props.C07Fld`), so the limit theorems hold of the C text itself. -/
namespace H4.Props.C20Fld
open H4 H4.VData H4.Gen.Hdf H4.Gen.Vs H4.Gen.Fn.Dfconv H4.Gen.Fn.Vsfld H4.VsfldEnc H4.Lemmas.C07Fld H4.Props.C07Fld

open H4.Limits in
/-- the two models of `VSfdefine` agree: `vsfdefineI` accepts exactly when `fdefineOk (DFKNTsize type) order` -/
theorem vsfdefine_limits (usym : List SymDef) (tok : String) (t order : Int) :
    (vsfdefineI usym tok t order).isSome = fdefineOk (if ntsize t = -1 then none else some (ntsize t).toNat) order := by
  rw [vsfdefineI_eq]
  have hr := ntsize_range t
  have hc := H4.Limits.consts2
  have key : fdefineOk (if ntsize t = -1 then none else some (ntsize t).toNat) order = true ↔ FdLimits t order := by
    unfold fdefineOk FdLimits
    simp only [hc.2.1, hc.2.2.1]
    by_cases h1 : order < 1 ∨ order > 65535
    · have e : (decide (order < 1) || decide (order > ((65535 : Nat) : Int))) = true := by simp; omega
      rw [if_pos e]; constructor
      · intro h; cases h
      · intro h; omega
    · have e : ¬ ((decide (order < 1) || decide (order > ((65535 : Nat) : Int))) = true) := by simp; omega
      rw [if_neg e]
      by_cases h2 : ntsize t = -1
      · rw [if_pos h2]; simp only; constructor
        · intro h; cases h
        · intro h; exact absurd h2 h.2.2.1
      · rw [if_neg h2]
        simp only
        have e3 : (((ntsize t).toNat : Nat) : Int) = ntsize t := by omega
        rw [e3]
        simp only [Bool.not_eq_true', decide_eq_false_iff_not]
        constructor
        · intro h; exact ⟨by omega, by omega, h2, by push_cast at h; omega⟩
        · intro h; have := h.2.2.2; push_cast; omega
  by_cases hF : FdLimits t order
  · rw [if_pos hF, key.mpr hF]; rfl
  · rw [if_neg hF]
    cases hv : fdefineOk (if ntsize t = -1 then none else some (ntsize t).toNat) order with
    | true => exact absurd (key.mp hv) hF
    | false => rfl

/-- **`VSfdefine` on the C text accepts exactly the definitions C20's `fdefineOk` accepts** (`1 ≤ order ≤ MAX_ORDER`, a type
    `DFKNTsize` knows, `isize · order ≤ MAX_FIELD_SIZE`), and then order and field size fit their 16-bit members -/
theorem VSfdefine_accept_iff (usym : List SymDef) (hn : ∀ sd ∈ usym, NameOK sd.name) (hlen : usym.length < 32767)
    (unull : Bool) (hnull : unull = true → usym = []) (tok : String) (htok : NameOK tok) (pad : List Int) (rest : List (List Int))
    (t order vkey scan_ret : Int) (h32 : -2147483648 ≤ t ∧ t < 2147483648) (hs : scan_ret ≠ -1) (fuel : Nat) (hf : usym.length ≤ fuel) :
    let s := VSfdefine fuel vkey t order 1 ((chars tok ++ 0 :: pad) :: rest) VSIDGROUP false false scan_ret usym.length (nameRows usym) unull
      (isizeCol usym) (typeCol usym) (orderCol usym)
    (s.ret = 0 ↔ H4.Limits.fdefineOk (if ntsize t = -1 then none else some (ntsize t).toNat) order = true) ∧
    (s.ret = 0 → 0 ≤ order ∧ order < 65536 ∧ ntsize t * order < 65536) := by
  intro s
  have h := VSfdefine_refines usym hn hlen unull hnull tok htok pad rest t order vkey scan_ret h32 hs fuel hf
  simp only at h
  obtain ⟨_, _, h3⟩ := h
  have hl := vsfdefine_limits usym tok t order
  have hr := ntsize_range t
  constructor
  · cases hv : vsfdefineI usym tok t order with
    | some u =>
      rw [hv] at h3 hl
      have h0 : s.ret = 0 := h3.1
      simp only [Option.isSome_some] at hl
      rw [← hl]
      exact ⟨fun _ => rfl, fun _ => h0⟩
    | none =>
      rw [hv] at h3 hl
      have h0 : s.ret = -1 := h3.1
      simp only [Option.isSome_none] at hl
      rw [← hl]
      exact ⟨fun h => (by rw [h0] at h; cases h), fun h => (by cases h)⟩
  · intro h0
    cases hv : vsfdefineI usym tok t order with
    | none => rw [hv] at h3; rw [h3.1] at h0; cases h0
    | some u =>
      rw [vsfdefineI_eq] at hv
      by_cases hF : FdLimits t order
      · obtain ⟨a, b, c, d⟩ := hF; omega
      · rw [if_neg hF] at hv; cases hv

/-- the size a name contributes to the record: `order · isize` of the user symbol, else of the predefined symbol (as stored in its
    `uint16` cell) -/
def fieldSize (usym : List SymDef) (nm : String) : Nat :=
  match usym.find? (·.name == nm) with
  | some sd => sd.order * sd.isize
  | none => match rstab.find? (·.name == nm) with
    | some sd => sd.order * sd.isize % 65536
    | none => 0

/-- the name is a user-defined or a predefined field -/
def Known (usym : List SymDef) (nm : String) : Prop := (usym.find? (·.name == nm)).isSome = true ∨ (rstab.find? (·.name == nm)).isSome = true

open H4.Limits in
theorem go_setfieldsLoop (usym : List SymDef) (hus : ∀ sd ∈ usym, sd.Valid) :
    ∀ (names : List String) (acc : List Field) (iv : Nat), (∀ nm ∈ names, Known usym nm) →
    match buildWList.go usym names acc iv with
    | some (fs, iv') => setfieldsLoop (names.map (fieldSize usym)) iv acc.length = (true, fs.length, iv')
    | none => (setfieldsLoop (names.map (fieldSize usym)) iv acc.length).1 = false := by
  intro names
  induction names with
  | nil => intro acc iv _; simp [buildWList.go, setfieldsLoop]
  | cons nm rest ih =>
    intro acc iv hk
    have hk1 := hk nm List.mem_cons_self
    have hkr : ∀ x ∈ rest, Known usym x := fun x hx => hk x (List.mem_cons_of_mem _ hx)
    obtain ⟨sd, hsd, nt, hnt, hsz⟩ : ∃ sd, ((usym.find? (·.name == nm)).orElse fun _ => rstab.find? (·.name == nm)) = some sd ∧
        ∃ nt, ntInfo sd.type = some nt ∧ fieldSize usym nm = sd.order * sd.isize := by
      unfold fieldSize
      cases h1 : usym.find? (·.name == nm) with
      | some sd =>
        obtain ⟨_, nt, hnt, _⟩ := hus sd (List.mem_of_find?_eq_some h1)
        exact ⟨sd, rfl, nt, hnt, rfl⟩
      | none =>
        cases h3 : rstab.find? (·.name == nm) with
        | none => unfold Known at hk1; rw [h1, h3] at hk1; simp at hk1
        | some sd =>
          obtain ⟨⟨_, nt, hnt, _⟩, hlt⟩ := rstab_valid sd (List.mem_of_find?_eq_some h3)
          exact ⟨sd, by simp, nt, hnt, Nat.mod_eq_of_lt hlt⟩
    rw [go_cons, goStep_eq, hsd]
    simp only [List.map_cons, setfieldsLoop, hnt, hsz, max_field_size]
    by_cases c1 : sd.order * sd.isize > 65535
    · simp only [if_pos c1, if_pos (Or.inl c1 : _ ∨ iv + sd.order * sd.isize > 65535)]
    · by_cases c2 : iv + sd.order * sd.isize > 65535
      · simp only [if_neg c1, if_pos c2, if_pos (Or.inr c2 : sd.order * sd.isize > 65535 ∨ _)]
      · simp only [if_neg c1, if_neg c2, if_neg (not_or.mpr ⟨c1, c2⟩)]
        simpa using ih (symField sd nt :: acc) (iv + sd.order * sd.isize) hkr

open H4.Limits in
/-- the two models of `VSsetfields` on an empty writable vdata agree: for 1 .. `VSFIELDMAX` names, all user-defined or predefined,
    `buildWList` (C07) succeeds exactly when `setfields` (C20) does on the field sizes, with the same field count and record size -/
theorem buildWList_limits (usym : List SymDef) (hus : ∀ sd ∈ usym, sd.Valid) (names : List String) (hk : ∀ nm ∈ names, Known usym nm)
    (h1 : 1 ≤ names.length) (h2 : names.length ≤ 256) :
    (match buildWList usym names with | some w => (true, w.n, w.ivsize) | none => (false, 0, 0)) = setfields (names.map (fieldSize usym)) := by
  have hg := go_setfieldsLoop usym hus names [] 0 hk
  have hc := H4.Limits.consts2
  unfold setfields setfieldsV buildWList
  simp only [List.length_map, hc.2.2.2.1]
  have hcnd : ¬ ((decide (names.length = 0) || decide (names.length > 256)) = true) := by
    rw [Bool.or_eq_true]; simp only [decide_eq_true_eq]; omega
  rw [if_neg hcnd]
  cases hgo : buildWList.go usym names [] 0 with
  | none => rw [hgo] at hg; simp only [List.length_nil] at hg; simp [hg]
  | some p =>
    obtain ⟨fs, iv⟩ := p
    rw [hgo] at hg
    simp only [List.length_nil] at hg
    simp [hg, WList.n, assignOffs_eq, offsFrom_length]

/-- **the C20 limit theorems on the C text of `VSsetfields`**: on an empty writable vdata, for 1 .. `VSFIELDMAX` known names, the
    translated function answers what `H4.Limits.setfields` answers on the field sizes: accepted exactly when the record fits
    `MAX_FIELD_SIZE` (`setfields_accept_iff`), then every field is in the list and `ivsize` is the exact sum (`setfields_accepted`);
    refused ⇒ `wlist.n = 0`, `wlist.ivsize = 0` (`setfields_refused_clean`) — for user-defined and predefined fields alike -/
theorem VSsetfields_limits (v : VS) (names : List String) (pads : List (List Int)) (fuel : Nat)
    (hpl : pads.length = names.length) (hnames : ∀ nm ∈ names, NameOK nm) (hus : ∀ sd ∈ v.usym, sd.Valid ∧ NameOK sd.name)
    (hw : v.writable = true) (hnv : v.nvertices = 0) (hwe : v.w = {})
    (hk : ∀ nm ∈ names, Known v.usym nm) (h1 : 1 ≤ names.length) (h2 : names.length ≤ 256)
    (vkey scan_ret marked newhsz t1 t2 t3 t4 t5 : Int) (hs : scan_ret ≠ -1) (item : List Int)
    (hitem : ∀ j, j < v.rlist.length → item.getD j 0 = ((v.rlist.getD j 0 : Nat) : Int)) (inull : Bool)
    (hf : names.length + v.usym.length + 9 ≤ fuel) :
    let s := VSsetfields fuel vkey false names.length (avRows names pads) VSIDGROUP false false scan_ret 119 v.nvertices v.w.n v.w.ivsize
      (wBptr v.w) v.w.fields.isEmpty t1 t2 t3 t4 t5 (wNames v.w) v.w.fields.isEmpty v.usym.length (nameRows v.usym) (orderCol v.usym)
      (typeCol v.usym) (isizeCol v.usym) marked newhsz v.rlist.length item inull
    let m := H4.Limits.setfields (names.map (fieldSize v.usym))
    s.ub = false ∧ (s.ret = 0 ↔ m.1 = true) ∧ s.vs_wlist_n = m.2.1 ∧ s.vs_wlist_ivsize = m.2.2 ∧
    (s.ret = 0 ↔ (names.map (fieldSize v.usym)).sum ≤ 65535) ∧ s.vs_wlist_ivsize ≤ 65535 ∧
    (s.ret ≠ 0 → s.vs_wlist_n = 0 ∧ s.vs_wlist_ivsize = 0 ∧ s.vs_wlist_bptr = [] ∧ s.vs_wlist_name = []) := by
  intro s m
  have hm := VSsetfields_refines v names pads fuel hpl hnames hus (by rw [hwe]; simp) (by rw [hwe]; intro _; rfl) vkey scan_ret 119 marked newhsz
    t1 t2 t3 t4 t5 hs (by simp [hw]) (by rw [hwe]; intro h; exact absurd rfl h) item hitem inull (by rw [hwe]; simpa using hf)
  simp only at hm
  obtain ⟨g1, g2, g3, g4, _⟩ := hm
  have hlim := buildWList_limits v.usym (fun sd h => (hus sd h).1) names hk h1 h2
  have hsf : v.setFieldsTok names = match buildWList v.usym names with | none => (v, false) | some w => ({ v with w := w }, true) := by
    unfold VS.setFieldsTok
    rw [if_neg (by rw [vsfieldmax]; omega), if_pos ⟨hw, hnv, by rw [hwe]; rfl⟩]
    cases buildWList v.usym names <;> rfl
  have hacc := H4.Props.C20.setfields_accept_iff (names.map (fieldSize v.usym))
  have hcl := H4.Props.C20.setfields_refused_clean (names.map (fieldSize v.usym))
  have hac2 := H4.Props.C20.setfields_accepted (names.map (fieldSize v.usym))
  cases hbw : buildWList v.usym names with
  | none =>
    rw [hbw] at hlim hsf
    simp only at hlim hsf
    rw [hsf] at g3 g4
    simp only [Bool.false_eq_true, if_false] at g3
    have hm1 : m.1 = false := by show (H4.Limits.setfields _).1 = false; rw [← hlim]
    have hm2 := hcl hm1
    have e1 : s.vs_wlist_n = 0 := by rw [g4.wn, hwe]; rfl
    have e2 : s.vs_wlist_ivsize = 0 := by rw [g4.wiv, hwe]; rfl
    have e3 : s.vs_wlist_bptr = [] := by rw [g4.wb, hwe]; rfl
    have e4 : s.vs_wlist_name = [] := by rw [g4.wnm, hwe]; rfl
    have hsum : ¬ ((names.map (fieldSize v.usym)).sum ≤ 65535) := by
      intro h; have := hacc.mpr ⟨by simpa using h1, by simpa using h2, h⟩; rw [hm1] at this; cases this
    refine ⟨g1, by rw [g3, hm1]; simp, ?_, ?_, by rw [g3]; simp [hsum], by rw [e2]; omega, fun _ => ⟨e1, e2, e3, e4⟩⟩
    · rw [e1]; show (0 : Int) = ((H4.Limits.setfields _).2.1 : Int); rw [hm2]; rfl
    · rw [e2]; show (0 : Int) = ((H4.Limits.setfields _).2.2 : Int); rw [hm2]; rfl
  | some w =>
    rw [hbw] at hlim hsf
    simp only at hlim hsf
    rw [hsf] at g3 g4
    simp only [if_true] at g3
    have hm1 : m.1 = true := by show (H4.Limits.setfields _).1 = true; rw [← hlim]
    have hm2 : m.2.1 = w.n ∧ m.2.2 = w.ivsize := by
      constructor
      · show (H4.Limits.setfields _).2.1 = _; rw [← hlim]
      · show (H4.Limits.setfields _).2.2 = _; rw [← hlim]
    have hs2 := hac2 hm1
    have hsum := (hacc.mp hm1).2.2
    refine ⟨g1, by rw [g3, hm1]; simp, by rw [g4.wn, hm2.1], by rw [g4.wiv, hm2.2], by rw [g3]; simp [hsum], ?_, fun h => absurd g3 h⟩
    rw [g4.wiv]
    show ((w.ivsize : Nat) : Int) ≤ 65535
    have : w.ivsize = (names.map (fieldSize v.usym)).sum := by rw [← hm2.2]; exact hs2.2.1
    omega

/-- at and across the record-size limit on the translated C text, with a predefined field in the list (the case of known finding
    `limits-ivsize-wrap:reserved-field`, repaired by commit fef3f30): 65531 + 4 bytes fit, 65532 + 4 are refused and leave no field -/
example :
    (let v : VS := { usym := [⟨"A", 21, 1, 65531⟩] }
     let s := runSetfields 20 v ["A", "PX"]
     s.ub = false ∧ s.ret = 0 ∧ s.vs_wlist_n = 2 ∧ s.vs_wlist_ivsize = 65535 ∧ H4.Limits.setfields [65531, 4] = (true, 2, 65535)) ∧
    (let v : VS := { usym := [⟨"A", 21, 1, 65532⟩] }
     let s := runSetfields 20 v ["A", "PX"]
     s.ub = false ∧ s.ret = -1 ∧ s.vs_wlist_n = 0 ∧ s.vs_wlist_ivsize = 0 ∧ H4.Limits.setfields [65532, 4] = (false, 0, 0)) := by
  decide

end H4.Props.C20Fld
