import H4.Lemmas.C15Fn
import H4.Props.C15
/-! C15, function-level Tie A: `DFCIrle` and `DFCIunrle` of `hdf/src/dfrle.c` as translated statement by statement from the CURRENT C text
    (`H4.Gen.Fn.Dfrle`, written by gen/c2lean.py on every run) compute exactly the hand-written model `H4.Codecs` that the C15 theorems
    (`dfrle_roundtrip`, `dfrle_size_bound`, `dfrle_split_roundtrip`, …) are about - for every row / packet stream of any length - and,
    under the stated preconditions on the caller's buffers, never index outside a buffer (`ub = false`) and terminate (`oof = false`).
    `bytes` converts a model byte string (`List UInt8`) into the `uint8` array the translated code sees (`List Int`).
    A change of the C text changes the generated definitions; these theorems are re-checked against them. -/
namespace H4.Props.C15Fn
open H4.Codecs H4.Gen.Fn.Dfrle H4.Lemmas.C15Fn

/-- **`DFCIrle`** as translated from dfrle.c: for every row `bs` and every output buffer `out` that can hold the compressed row, the
    C code stays inside both buffers - in particular the read `*q` at `q = p + 1` one past the row is never executed, the guard
    `i && …` protects it -, terminates (fuel = row length), returns the length of the model's `DFCIrle bs`, has written exactly the
    model's bytes to the front of `bufto` and has not touched any byte behind them.
    `hlen` is the C-side range of `len` (`int32`, and `i + 120` must not overflow): the translation computes in unbounded integers,
    this hypothesis is what makes that faithful. -/
theorem DFCIrle_refines (bs : List Byte) (out : List Int) (fuel : Nat) (hf : bs.length ≤ fuel) (_hlen : bs.length + 120 < 2 ^ 31)
    (hout : (Codecs.DFCIrle bs).length ≤ out.length) :
    let s := Gen.Fn.Dfrle.DFCIrle fuel (bytes bs) out bs.length
    s.ub = false ∧ s.oof = false ∧ s.ret = ((Codecs.DFCIrle bs).length : Int) ∧
      s.bufto.take s.ret.toNat = bytes (Codecs.DFCIrle bs) ∧
      s.bufto.drop s.ret.toNat = out.drop s.ret.toNat ∧ s.bufto.length = out.length := by
  obtain ⟨h1, h2, h3, h4⟩ := rle_main bs bs.length fuel [] bs 0 0 0 0 0 0 out 0 rfl rfl (Nat.le_refl _) hf (Nat.zero_le _)
    (by rw [Nat.zero_add]; exact hout) rfl
  rw [← rle_unfold] at h1 h2 h3 h4
  simp only [Nat.zero_add, H4.C2L.storeAt, List.take_zero, List.nil_append, bytes_length] at h3 h4
  refine ⟨h1, h2, h3, ?_, ?_, ?_⟩
  · rw [h3, h4, Int.toNat_natCast]; exact List.take_left' (bytes_length _)
  · rw [h3, h4, Int.toNat_natCast]; exact List.drop_left' (bytes_length _)
  · rw [h4, List.length_append, List.length_drop, bytes_length]; exact Nat.add_sub_cancel' hout

/-- the same with the buffer `DFputcomp` (dfcomp.c) really allocates per row: `xdim * 121 / 120 + 1` bytes -/
theorem DFCIrle_refines_dfputcomp (bs : List Byte) (out : List Int) (hlen : bs.length + 120 < 2 ^ 31)
    (hout : bs.length * 121 / 120 + 1 ≤ out.length) :
    let s := Gen.Fn.Dfrle.DFCIrle bs.length (bytes bs) out bs.length
    s.ub = false ∧ s.oof = false ∧ s.ret = ((Codecs.DFCIrle bs).length : Int) ∧
      s.bufto.take s.ret.toNat = bytes (Codecs.DFCIrle bs) ∧
      s.bufto.drop s.ret.toNat = out.drop s.ret.toNat ∧ s.bufto.length = out.length :=
  DFCIrle_refines bs out bs.length (Nat.le_refl _) hlen (Nat.le_trans (H4.Props.C15.dfrle_size_bound bs).2 hout)

/-- the hypotheses are satisfiable and the translated code runs: a literal block, a run, a pseudo run; exact-size buffer + 2 guard bytes -/
example :
    (let s := Gen.Fn.Dfrle.DFCIrle 10 (bytes [5, 5, 5, 5, 9, 8, 8, 7, 7, 7]) (List.replicate 10 0xA5) 10
     s.ub = false ∧ s.oof = false ∧ s.ret = 8 ∧ s.bufto = [132, 5, 3, 9, 8, 8, 131, 7, 0xA5, 0xA5]) ∧
    bytes (Codecs.DFCIrle [5, 5, 5, 5, 9, 8, 8, 7, 7, 7]) = [132, 5, 3, 9, 8, 8, 131, 7] := by decide +kernel

/-- the static state of `DFCIunrle` between two calls (`static uint8 save[255], *savestart, *saveend`) holds the byte string `m`:
    `savestart ≤ saveend` are positions inside `save` and the cells between them are `m` -/
def SaveIs (save : List Int) (ss se : Int) (m : List Byte) : Prop :=
  save.length = 255 ∧ 0 ≤ ss ∧ ss ≤ se ∧ se ≤ 255 ∧ (save.drop ss.toNat).take (se - ss).toNat = bytes m

theorem SaveIs_natCast (save : List Int) (SS SE : Nat) (m : List Byte) :
    SaveIs save SS SE m ↔ save.length = 255 ∧ SS ≤ SE ∧ SE ≤ 255 ∧ (save.drop SS).take (SE - SS) = bytes m := by
  unfold SaveIs
  rw [Int.toNat_natCast, show ((SE : Int) - SS).toNat = SE - SS by omega]
  constructor
  · intro ⟨a, _, c, d, e⟩; exact ⟨a, by omega, by omega, e⟩
  · intro ⟨a, c, d, e⟩; exact ⟨a, by omega, by omega, by omega, e⟩

/-- the two calls below in one: after the `resetsave` statement, with the static state holding `m`, the translated code agrees with the model's
    `DFCIunrleS m buf outlen false` (`SaveIs` is `un_rest`'s conclusion for the 255 cells of the C array) -/
theorem unRest_refines (buf : List Byte) (out save : List Int) (outlen : Nat) (rs : Int) (SS SE : Nat) (m : List Byte) (fuel : Nat) (r : Unrle)
    (hout : outlen ≤ out.length) (hst : SaveIs save SS SE m) (hfuel : buf.length + 255 ≤ fuel)
    (hr : DFCIunrleS m buf outlen false = some r) (s : DFCIunrle.St) (hs : s = unRest fuel (unSt buf outlen rs 0 0 SS SE 0 save out 0)) :
    s.ub = false ∧ s.oof = false ∧ s.ret = (r.used : Int) ∧ s.bufto = bytes r.out ++ out.drop outlen ∧
      SaveIs s.save s.savestart s.saveend r.save := by
  obtain ⟨g1, g2, g3, g5⟩ := (SaveIs_natCast ..).mp hst
  obtain ⟨h1, h2, h3, h4, SS', SE', h5, h6, h7, h8, h9, h10⟩ :=
    un_rest buf outlen rs SS SE save out fuel m r g2 (by omega) g5 hout (by omega) (by omega) (by omega) hr s hs
  refine ⟨h1, h2, h3, h4, ?_⟩
  rw [h5, h6]
  exact (SaveIs_natCast ..).mpr ⟨h9.trans g1, h7, by omega, h10⟩

/-- **`DFCIunrle(buf, bufto, outlen, 1)`** (fresh image) as translated from dfrle.c: for EVERY input `buf` on which the model's
    `DFCIunrleS` is defined (i.e. the packets needed for `outlen` bytes end inside `buf` - the C function has no input bound) - in
    particular for every stream produced by `DFCIrle` -, whatever the static save area held before (`ss`, `se` may be any pointers,
    `stale` any content): no access outside `buf`, `bufto`, `save`, termination, the return value is the model's `used`, the first
    `outlen` bytes of `bufto` are the model's output, the bytes behind them are untouched and the static state holds the model's
    carry-over.  `_hlen`: `outlen` is an `int32`. -/
theorem DFCIunrle_refines_reset (buf : List Byte) (out save : List Int) (outlen : Nat) (ss se : Int) (stale : List Byte) (fuel : Nat)
    (r : Unrle) (hout : outlen ≤ out.length) (hsave : save.length = 255) (hfuel : buf.length + 255 ≤ fuel) (_hlen : outlen < 2 ^ 31)
    (hr : DFCIunrleS stale buf outlen true = some r) :
    let s := Gen.Fn.Dfrle.DFCIunrle fuel (bytes buf) out outlen 1 save ss se
    s.ub = false ∧ s.oof = false ∧ s.ret = (r.used : Int) ∧ s.bufto = bytes r.out ++ out.drop outlen ∧
      SaveIs s.save s.savestart s.saveend r.save :=
  unRest_refines buf out save outlen 1 0 0 [] fuel r hout ((SaveIs_natCast ..).mpr ⟨hsave, Nat.le_refl _, by omega, rfl⟩) hfuel hr _
    (un_unfold_reset fuel buf out save outlen ss se)

/-- **the continuation call `DFCIunrle(buf, bufto, outlen, 0)`**: started with the static state a previous call left (holding the
    model's carry-over `m`), the translated code again agrees with the model `DFCIunrleS m buf outlen false` in every output.  `_hlen`: as above. -/
theorem DFCIunrle_refines_cont (buf : List Byte) (out save : List Int) (outlen : Nat) (ss se : Int) (m : List Byte) (fuel : Nat)
    (r : Unrle) (hout : outlen ≤ out.length) (hst : SaveIs save ss se m) (hfuel : buf.length + 255 ≤ fuel) (_hlen : outlen < 2 ^ 31)
    (hr : DFCIunrleS m buf outlen false = some r) :
    let s := Gen.Fn.Dfrle.DFCIunrle fuel (bytes buf) out outlen 0 save ss se
    s.ub = false ∧ s.oof = false ∧ s.ret = (r.used : Int) ∧ s.bufto = bytes r.out ++ out.drop outlen ∧
      SaveIs s.save s.savestart s.saveend r.save := by
  obtain ⟨SS, rfl⟩ : ∃ n : Nat, ss = n := ⟨ss.toNat, by have := hst.2.1; omega⟩
  obtain ⟨SE, rfl⟩ : ∃ n : Nat, se = n := ⟨se.toNat, by have := hst.2.2.1; omega⟩
  exact unRest_refines buf out save outlen 0 SS SE m fuel r hout hst hfuel hr _ (un_unfold_cont fuel buf out save outlen SS SE)

/-- the hypotheses are satisfiable and the continuation call runs: the static state holds `[7, 7]`; 5 bytes are asked for: the two saved
    bytes, a literal block of two and one byte of a run of three, whose other two bytes are saved -/
example :
    SaveIs ([7, 7] ++ List.replicate 253 0) 0 2 [7, 7] ∧
    (let s := Gen.Fn.Dfrle.DFCIunrle 260 (bytes [2, 1, 2, 131, 9]) (List.replicate 6 0xA5) 5 0 ([7, 7] ++ List.replicate 253 0) 0 2
     s.ub = false ∧ s.oof = false ∧ s.ret = 5 ∧ s.bufto = [7, 7, 1, 2, 9, 0xA5] ∧ s.savestart = 0 ∧ s.saveend = 2 ∧ s.save.take 2 = [9, 9]) ∧
    DFCIunrleS [7, 7] [2, 1, 2, 131, 9] 5 false = some ⟨[7, 7, 1, 2, 9], 5, [9, 9]⟩ := by
  unfold SaveIs; decide +kernel

/-- the row loop of `DFgetcomp` (dfcomp.c) run on the TRANSLATED `DFCIunrle`: `n = DFCIunrle(in, out, xdim, !i); in += n; out += xdim;`
    for pieces of the given lengths, the static state handed from call to call.  `none` = some call reported ub / out of fuel. -/
def rowsC (fuel : Nat) : List Int → Int → Int → List Byte → Bool → List Nat → Option (List (List Int))
  | _, _, _, _, _, [] => some []
  | save, ss, se, buf, first, n :: ns =>
    let s := Gen.Fn.Dfrle.DFCIunrle fuel (bytes buf) (List.replicate n 0) n (if first then 1 else 0) save ss se
    if s.ub || s.oof then none
    else (rowsC fuel s.save s.savestart s.saveend (buf.drop s.ret.toNat) false ns).map (s.bufto :: ·)

/-- the whole `DFgetcomp` row loop on the translated code computes the model's `unrleRows` -/
theorem rowsC_refines (fuel : Nat) : ∀ (ns : List Nat) (save : List Int) (ss se : Int) (m buf : List Byte) (first : Bool)
    (rows : List (List Byte)), save.length = 255 → (first = false → SaveIs save ss se m) → buf.length + 255 ≤ fuel →
    (∀ n ∈ ns, n < 2 ^ 31) → unrleRows m buf first ns = some rows → rowsC fuel save ss se buf first ns = some (rows.map bytes) := by
  intro ns
  induction ns with
  | nil => intro save ss se m buf first rows _ _ _ _ h; simp [unrleRows] at h; subst h; simp [rowsC]
  | cons n ns ih =>
    intro save ss se m buf first rows hsave hst hfuel hns h
    simp only [unrleRows] at h
    cases hr : DFCIunrleS m buf n first with
    | none => rw [hr] at h; cases h
    | some r =>
      rw [hr] at h
      obtain ⟨rows', hrows', rfl⟩ := Option.map_eq_some_iff.mp h
      have hn : n < 2 ^ 31 := hns n (by simp)
      have key : let s := Gen.Fn.Dfrle.DFCIunrle fuel (bytes buf) (List.replicate n 0) n (if first then 1 else 0) save ss se
          s.ub = false ∧ s.oof = false ∧ s.ret = (r.used : Int) ∧ s.bufto = bytes r.out ++ (List.replicate n (0 : Int)).drop n ∧
            SaveIs s.save s.savestart s.saveend r.save := by
        cases first with
        | true => exact DFCIunrle_refines_reset buf _ save n ss se m fuel r (by simp) hsave hfuel hn hr
        | false => exact DFCIunrle_refines_cont buf _ save n ss se m fuel r (by simp) (hst rfl) hfuel hn hr
      obtain ⟨k1, k2, k3, k4, k5⟩ := key
      have hd : (List.replicate n (0 : Int)).drop n = [] := by simp
      rw [hd, List.append_nil] at k4
      have hnext := ih _ _ _ r.save (buf.drop r.used) false rows' k5.1 (fun _ => k5) (by simp only [List.length_drop]; omega)
        (fun x hx => hns x (by simp [hx])) hrows'
      simp only [rowsC, k1, k2, Bool.or_self, Bool.false_eq_true, if_false, k3, Int.toNat_natCast, hnext, k4, Option.map_some, List.map_cons]

/-- **`dfrle_split_roundtrip` transferred to the C text**: one stream compressed by `DFCIrle`, decoded by successive calls of the
    translated `DFCIunrle` asking for arbitrary piece lengths (`resetsave` for the first call only, input advanced by each return
    value, static state carried over) yields exactly the consecutive pieces of the original bytes; no call leaves its buffers -/
theorem dfrle_split_roundtrip_c (row : List Byte) (ns : List Nat) (h : ns.sum ≤ row.length) (hlen : row.length < 2 ^ 31)
    (save : List Int) (ss se : Int) (hsave : save.length = 255) (fuel : Nat) (hfuel : (Codecs.DFCIrle row).length + 255 ≤ fuel) :
    rowsC fuel save ss se (Codecs.DFCIrle row) true ns = some ((chop row ns).map bytes) := by
  apply rowsC_refines fuel ns save ss se [] (Codecs.DFCIrle row) true _ hsave (fun h => by cases h) hfuel
  · intro n hn
    have : n ≤ ns.sum := mem_le_sum ns n hn
    omega
  · exact H4.Props.C15.dfrle_split_roundtrip row ns h

/-- **`dfrle_roundtrip` on the C text, both directions translated**: a row compressed by the translated `DFCIrle` (into any buffer of
    DFputcomp's size) and decompressed by the translated `DFCIunrle` from exactly the bytes `DFCIrle` returned comes back unchanged,
    the decoder consumes exactly what the encoder produced, and neither function leaves its buffers -/
theorem dfrle_c_roundtrip (bs : List Byte) (out1 out2 save : List Int) (ss se : Int) (hlen : bs.length + 120 < 2 ^ 31)
    (hout1 : bs.length * 121 / 120 + 1 ≤ out1.length) (hout2 : bs.length ≤ out2.length) (hsave : save.length = 255) :
    let e := Gen.Fn.Dfrle.DFCIrle bs.length (bytes bs) out1 bs.length
    let d := Gen.Fn.Dfrle.DFCIunrle (out1.length + 255) (e.bufto.take e.ret.toNat) out2 bs.length 1 save ss se
    e.ub = false ∧ e.oof = false ∧ d.ub = false ∧ d.oof = false ∧ d.ret = e.ret ∧ d.bufto.take bs.length = bytes bs ∧
      d.bufto.drop bs.length = out2.drop bs.length := by
  intro e d
  obtain ⟨e1, e2, e3, e4, _, _⟩ := DFCIrle_refines_dfputcomp bs out1 hlen hout1
  have hb := (H4.Props.C15.dfrle_size_bound bs).2
  obtain ⟨d1, d2, d3, d4, _⟩ := DFCIunrle_refines_reset (Codecs.DFCIrle bs) out2 save bs.length ss se [] (out1.length + 255)
    ⟨bs, (Codecs.DFCIrle bs).length, []⟩ hout2 hsave (by omega) (by omega) (H4.Props.C15.dfrle_roundtrip_full [] bs)
  have hd : d = Gen.Fn.Dfrle.DFCIunrle (out1.length + 255) (bytes (Codecs.DFCIrle bs)) out2 bs.length 1 save ss se := by
    show Gen.Fn.Dfrle.DFCIunrle _ (e.bufto.take e.ret.toNat) _ _ _ _ _ _ = _
    rw [e4]
  rw [hd]
  refine ⟨e1, e2, d1, d2, by rw [d3, e3], ?_, ?_⟩
  · rw [d4]; simp
  · rw [d4]; simp

/-- the hypotheses are satisfiable and the translated decoder runs: whole row, then the same stream in pieces 2,0,5,1,3 through the
    save area (stale static state 7..9 ignored by `resetsave`) -/
example :
    (let s := Gen.Fn.Dfrle.DFCIunrle 263 (bytes [132, 5, 3, 9, 8, 8, 131, 7]) (List.replicate 12 0xA5) 10 1 (List.replicate 255 0) 7 9
     s.ub = false ∧ s.oof = false ∧ s.ret = 8 ∧ s.bufto = [5, 5, 5, 5, 9, 8, 8, 7, 7, 7, 0xA5, 0xA5] ∧ s.savestart = 0 ∧ s.saveend = 0) ∧
    DFCIunrleS [] [132, 5, 3, 9, 8, 8, 131, 7] 10 true = some ⟨[5, 5, 5, 5, 9, 8, 8, 7, 7, 7], 8, []⟩ ∧
    rowsC 270 (List.replicate 255 0) 0 0 (Codecs.DFCIrle [1, 1, 1, 1, 1, 2, 3, 4, 4, 4, 4]) true [2, 0, 5, 1, 3] =
      some [[1, 1], [], [1, 1, 1, 2, 3], [4], [4, 4, 4]] := by decide +kernel

end H4.Props.C15Fn
